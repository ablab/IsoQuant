/-
C13 — the count clause PER CHROMOSOME.  The row theorems of Props/C13.lean speak about a
history of counter events; the statement speaks about the chromosome: the row of feature f = the number of processed reads
that include / exclude f.  Between the two lie `AlignmentCollector.forward_alignments` (a read cluster cut into sub-regions,
an alignment bridging a cut handed to BOTH), the gene loading of every sub-region, and the resolver that must keep exactly
one of the records such an alignment gets.

Model: IsoVerif/Model/C13Chromosome.lean (`chromosomeEvents repaired genes P out rids`).  `repaired = true` is the code after
fix 48f2521 (genes are loaded for the extent of the alignments processed in a sub-region), `false` the code before it (genes
overlapping the sub-region itself).  Helper lemmas: IsoVerif/Lemmas/C13Chromosome.lean (`readItems_of` stands beside its user).
-/
import IsoVerif.Model.C13Chromosome
import IsoVerif.Lemmas.C13Chromosome
import IsoVerif.Props.C13

namespace IsoVerif.Props.C13Chromosome
open IsoVerif.Gen IsoVerif.Model IsoVerif.Model.Resolver IsoVerif.Model.C13 IsoVerif.Model.C13Chr
open IsoVerif.Lemmas.Resolver IsoVerif.Lemmas.C13 IsoVerif.Lemmas.C13Chr
open IsoVerif.Model.Regions (Aln)

/-- what an event says about feature key `k`, value `v` (+1 include, -1 exclude), group `g` -/
def evSays (ignore : Bool) (dflt : String) (v : Int) (k : CoordKey) (g : String) (ev : ReadEv) : Bool :=
  groupOf ignore dflt ev == g && marks coordKey v k ev

/-- THE READ-LEVEL MEANING used on the right-hand side: alignment `a` includes / excludes the feature, judged against the
    WHOLE annotation `genes` of the chromosome (what +1 / -1 mean position-wise is Props/C13Profiles.lean) -/
def alnSays (P : Proc) (genes : List GeneRec) (ignore : Bool) (dflt : String) (v : Int) (k : CoordKey) (g : String) (a : Aln) : Bool :=
  (P.ev genes a).any (evSays ignore dflt v k g)

/-- the assumption interface towards `process_genic` (assigner, profile constructors): what an alignment gets depends on the
    loaded genes only through the genes the alignment overlaps (a region that gives the alignment its full gene view gives it
    the answers of the whole annotation) - its isoform list (the `__eq__` field that is not a function
    of the alignment alone) and the +1 / -1 entries of its profile with their features and its read group; and the assigner
    never produces `suspended` (only the resolver does, C08 `suspended_only_by_resolver`).  Only the COUNTED values v = +1 / -1
    are asked to be local (a 0 or a polyA mask -2 of a feature of a gene that is not loaded has no counterpart).  INSTANCES:
    Props/C13Local.lean proves it for the real exon / intron profile construction (`exonProc_local`, `intronProc_local`, from the
    `…_partial` meaning theorems on `Hyp`) and for the table-driven processing of the driver (`tableProc_local`). -/
structure Local (P : Proc) (genes : List GeneRec) (all : List Aln) : Prop where
  isoforms : ∀ R, ∀ a ∈ all, view a (loadGenes genes R) = view a genes → P.isoforms (loadGenes genes R) a = P.isoforms genes a
  says : ∀ R, ∀ a ∈ all, view a (loadGenes genes R) = view a genes → ∀ ignore dflt v k g, (v = 1 ∨ v = -1) →
    (P.ev (loadGenes genes R) a).any (evSays ignore dflt v k g) = (P.ev genes a).any (evSays ignore dflt v k g)
  alive : ∀ G a, P.atype G a ≠ .suspended

theorem readItems_of (genes : List GeneRec) (P : Proc) (all : List Aln) (out : List (Iv × List Aln))
    (hrid : (all.map (·.rid)).Nodup) (hin : ∀ p ∈ out, ∀ a ∈ p.2, a ∈ all) (a : Aln) (ha : a ∈ all) (rep : Bool) :
    ∀ it ∈ readItems (chrItems rep genes P out) a.rid,
      ∃ p ∈ out, a ∈ p.2 ∧ it = mkItem P p.1 (loadGenes genes (loadRegion rep p)) a := by
  intro it hit
  obtain ⟨hmem, hr⟩ := List.mem_filter.mp hit
  obtain ⟨p, hp, hitp⟩ := List.mem_flatMap.mp hmem
  obtain ⟨a', ha', rfl⟩ := List.mem_map.mp hitp
  have hr' : a'.rid = a.rid := by simpa [mkItem, mkRec] using hr
  have : a' = a := Lemmas.eq_of_nodup_map (·.rid) hrid (hin p hp a' ha') ha hr'
  subst this
  exact ⟨p, hp, ha', rfl⟩

/-- **one_record_per_alignment** (repaired loading, any number of sub-regions, any cuts): of the records an alignment gets in
    the sub-regions it is handed to, the resolver keeps exactly one, and what that record says about any feature is what the
    alignment says against the whole annotation: the kept events of the read contribute 1 to a count iff the alignment
    includes / excludes the feature, never 2, never 0. -/
theorem one_record_per_alignment (genes : List GeneRec) (P : Proc) (all : List Aln) (hP : Local P genes all)
    (out : List (Iv × List Aln)) (hrid : (all.map (·.rid)).Nodup) (hin : ∀ p ∈ out, ∀ a ∈ p.2, a ∈ all)
    (hcov : ∀ a ∈ all, ∃ p ∈ out, a ∈ p.2) (a : Aln) (ha : a ∈ all) (ignore : Bool) (dflt : String) (v : Int) (hv1 : v = 1 ∨ v = -1)
    (k : CoordKey) (g : String) :
    ∃ es, keptEvents (chrItems true genes P out) a.rid = some es ∧
      es.countP (evSays ignore dflt v k g) = if alnSays P genes ignore dflt v k g a then 1 else 0 := by
  have hof := readItems_of genes P all out hrid hin a ha true
  obtain ⟨its, hits⟩ : ∃ its, its = readItems (chrItems true genes P out) a.rid := ⟨_, rfl⟩
  rw [← hits] at hof
  -- the records are twins
  have hview : ∀ it ∈ its, it.brec.isoforms = P.isoforms genes a ∧ it.brec.readId = a.rid ∧ it.brec.chr = 0 ∧
      it.brec.start = a.start ∧ it.brec.stop = a.stop ∧ it.brec.atype ≠ .suspended ∧
      it.ev.any (evSays ignore dflt v k g) = alnSays P genes ignore dflt v k g a := by
    intro it hit
    obtain ⟨p, hp, hap, rfl⟩ := hof it hit
    have hv := view_repaired genes p a hap
    refine ⟨by simpa [mkItem, mkRec] using hP.isoforms _ a ha hv, rfl, rfl, rfl, rfl, by simpa [mkItem, mkRec] using hP.alive _ a, ?_⟩
    simpa [mkItem, alnSays] using hP.says _ a ha hv ignore dflt v k g hv1
  have hne : its.map (·.brec) ≠ [] := by
    obtain ⟨p, hp, hap⟩ := hcov a ha
    have : mkItem P p.1 (loadGenes genes (loadRegion true p)) a ∈ its := by
      rw [hits]
      refine List.mem_filter.mpr ⟨List.mem_flatMap.mpr ⟨p, hp, List.mem_map.mpr ⟨a, hap, rfl⟩⟩, by simp [mkItem, mkRec]⟩
    intro h
    have h0 : its = [] := List.map_eq_nil_iff.mp h
    rw [h0] at this
    simp at this
  have hns : NoSuspendedInput (its.map (·.brec)) := by
    intro r hr
    obtain ⟨it, hit, rfl⟩ := List.mem_map.mp hr
    obtain ⟨_, _, _, _, _, halive, _⟩ := hview it hit
    exact halive
  have heq : ∀ x ∈ its.map (·.brec), ∀ y ∈ its.map (·.brec), recEq x y = true := by
    intro x hx y hy
    obtain ⟨i1, h1, rfl⟩ := List.mem_map.mp hx
    obtain ⟨i2, h2, rfl⟩ := List.mem_map.mp hy
    obtain ⟨a1, a2, a3, a4, a5, _⟩ := hview i1 h1
    obtain ⟨b1, b2, b3, b4, b5, _⟩ := hview i2 h2
    simp [recEq, a1, a2, a3, a4, a5, b1, b2, b3, b4, b5]
  obtain ⟨vs, hres, hlen, hret⟩ := resolve_twins _ hne hns heq
  refine ⟨(its.zip vs).filterMap (fun p => if p.2.atype == .suspended then none else p.1.ev),
    by simp only [keptEvents, ← hits, hres, Option.map_some], ?_⟩
  rw [IsoVerif.Lemmas.countP_filterMap_zip]
  -- every pair of the zip carries an item of the read: its event says what the alignment says
  have hcongr : (its.zip vs).countP (fun p => (if p.2.atype == .suspended then none else p.1.ev).any (evSays ignore dflt v k g)) =
      (its.zip vs).countP (fun p => !(p.2.atype == .suspended) && alnSays P genes ignore dflt v k g a) := by
    apply List.countP_congr
    intro p hp
    obtain ⟨_, _, _, _, _, _, this⟩ := hview p.1 (List.of_mem_zip hp).1
    cases hs : (p.2.atype == ReadAssignmentType.suspended) <;> simp [this]
  rw [hcongr]
  cases hm : alnSays P genes ignore dflt v k g a with
  | false => simp
  | true =>
    simp only [Bool.and_true, ↓reduceIte]
    rw [IsoVerif.Lemmas.countP_zip_snd (fun r => !(r.atype == .suspended)) its vs (by simpa using hlen)]
    have : vs.countP (fun r => !(r.atype == .suspended)) = (retained vs).length := by
      simp [retained, List.countP_eq_length_filter]
    rw [this, hret]

theorem collect_counts (genes : List GeneRec) (P : Proc) (all : List Aln) (hP : Local P genes all)
    (out : List (Iv × List Aln)) (hrid : (all.map (·.rid)).Nodup) (hin : ∀ p ∈ out, ∀ a ∈ p.2, a ∈ all)
    (hcov : ∀ a ∈ all, ∃ p ∈ out, a ∈ p.2) (ignore : Bool) (dflt : String) (v : Int) (hv1 : v = 1 ∨ v = -1) (k : CoordKey) (g : String) :
    ∀ l : List Aln, (∀ a ∈ l, a ∈ all) →
      ∃ evs, collectEvents (chrItems true genes P out) (l.map (·.rid)) = some evs ∧
        evs.countP (evSays ignore dflt v k g) = l.countP (alnSays P genes ignore dflt v k g) := by
  intro l
  induction l with
  | nil => intro _; exact ⟨[], rfl, rfl⟩
  | cons a rest ih =>
    intro hl
    obtain ⟨es, hes, hc⟩ := one_record_per_alignment genes P all hP out hrid hin hcov a (hl a (by simp)) ignore dflt v hv1 k g
    obtain ⟨evs, hevs, hcs⟩ := ih (fun b hb => hl b (by simp [hb]))
    refine ⟨es ++ evs, by simp only [List.map_cons, collectEvents, hes, hevs], ?_⟩
    rw [List.countP_append, hc, hcs, List.countP_cons, Nat.add_comm]

/-- **chromosome_events_defined**: under the repaired loading the resolver never raises on the records of a chromosome. -/
theorem chromosome_events_defined (genes : List GeneRec) (P : Proc) (all : List Aln) (hP : Local P genes all)
    (out : List (Iv × List Aln)) (hrid : (all.map (·.rid)).Nodup) (hin : ∀ p ∈ out, ∀ a ∈ p.2, a ∈ all)
    (hcov : ∀ a ∈ all, ∃ p ∈ out, a ∈ p.2) :
    ∃ evs, chromosomeEvents true genes P out (all.map (·.rid)) = some evs := by
  obtain ⟨evs, h, _⟩ := collect_counts genes P all hP out hrid hin hcov true "" 1 (Or.inl rfl) ("", 0, 0) "" all (fun _ h => h)
  exact ⟨evs, h⟩

/-- **chromosome_row_counts** (THE COUNT CLAUSE PER CHROMOSOME, repaired loading).  `all` = the alignment records of the
    chromosome, one per read id (which alignment of a multi-mapped read is processed is C08's subject); `out` = what the
    collector hands to `process_alignments_in_region` (C05: `every_alignment_forwarded` gives `hcov`, `forwarded_sublist`
    `hin`), with any number of clusters, sub-regions and cuts, an alignment possibly in several of them; `P` any
    per-alignment processing that is `Local`; `feed` the counter's input in ANY order (save-file order, worker order).  Then
    for every feature key and group the include count of the table is the NUMBER OF ALIGNMENTS of the chromosome that include
    the feature with respect to the whole annotation, and the exclude count the number that exclude it - no alignment is
    counted twice, none is lost, whatever genes its sub-regions overlap. -/
theorem chromosome_row_counts (genes : List GeneRec) (P : Proc) (all : List Aln) (hP : Local P genes all)
    (out : List (Iv × List Aln)) (hrid : (all.map (·.rid)).Nodup) (hin : ∀ p ∈ out, ∀ a ∈ p.2, a ∈ all)
    (hcov : ∀ a ∈ all, ∃ p ∈ out, a ∈ p.2)
    (evs feed : List ReadEv) (hev : chromosomeEvents true genes P out (all.map (·.rid)) = some evs) (hperm : feed.Perm evs)
    (hnd : ∀ ev ∈ feed, (ev.pmap.map coordKey).Nodup)
    (ignore : Bool) (dflt : String) (st : PCounter CoordKey)
    (h : countAll coordKey FeatureInfo.merge ignore dflt feed = some st) (k : CoordKey) (g : String) :
    st.inclOf k g = all.countP (alnSays P genes ignore dflt 1 k g) ∧
    st.exclOf k g = all.countP (alnSays P genes ignore dflt (-1) k g) := by
  have key : ∀ v, (v = 1 ∨ v = -1) → (feed.filter (fun ev => groupOf ignore dflt ev == g)).countP (marks coordKey v k) =
      all.countP (alnSays P genes ignore dflt v k g) := by
    intro v hv1
    obtain ⟨evs', h', hc⟩ := collect_counts genes P all hP out hrid hin hcov ignore dflt v hv1 k g all (fun _ h => h)
    have : evs' = evs := by
      unfold chromosomeEvents at hev; rw [h'] at hev; exact Option.some.inj hev
    subst this
    rw [List.countP_filter, ← hc]
    have := hperm.countP_eq (evSays ignore dflt v k g)
    rw [← this]
    apply List.countP_congr
    intro ev _
    simp [evSays, Bool.and_comm]
  exact ⟨by rw [IsoVerif.Props.C13.include_counts_reads coordKey ignore dflt feed st h hnd k g, key 1 (Or.inl rfl)],
         by rw [IsoVerif.Props.C13.exclude_counts_reads coordKey ignore dflt feed st h hnd k g, key (-1) (Or.inr rfl)]⟩

/-! ### the table-driven processing is `Local` (non-vacuity of the hypothesis; it is also what the driver runs):
    the hypothesis on its tables; the theorem is `tableProc_local` of Props/C13Local.lean -/

/-- answers that only name genes the alignment overlaps -/
def AnswersLocal (genes : List GeneRec) (all : List Aln) (ans : Answers) : Prop :=
  ∀ a ∈ all, (∀ m ∈ ans.hits a.rid, ∃ g ∈ genes, g.gid = m.2 ∧ overlaps (iv1 a) g.span = true) ∧
             (∀ m ∈ ans.marks a.rid, ∃ g ∈ genes, g.gid = m.1 ∧ overlaps (iv1 a) g.span = true)

/-! ### the code before the repair: both faces of the defect, on the model (replayed on the real code by the pipeline
    oracle: `split_dataset` variants `nested` and `readthrough`) -/

/-- gA = gene 0 spans the cut, gN = gene 1 lies right of the cut inside gA's long intron, gL = gene 2 left of the cut -/
def wGenes : List GeneRec := [⟨0, (1000, 60200)⟩, ⟨1, (40000, 41000)⟩, ⟨2, (900, 1700)⟩]
def wAln (s e : Int) (rid : Nat) : Aln :=
  { start := s, stop := e, secondary := false, supplementary := false, mapped := true, mapq := 60, rid := rid }
/-- the bridging read (id 0) and one short read per sub-region -/
def wAll : List Aln := [wAln 1000 60200 0, wAln 1000 22200 1, wAln 40000 41000 2]
/-- the cluster cut at 33024: left sub-region (1000, 33024), right (33025, 60199) -/
def wOut : List (Iv × List Aln) :=
  [((1000, 33024), [wAln 1000 60200 0, wAln 1000 22200 1]), ((33025, 60199), [wAln 1000 60200 0, wAln 40000 41000 2])]

/-- LOST COUNT: the bridging read matches isoform 7 of gA and skips gN's exon (40001, 40200) -/
def wLost : Answers :=
  { hits := fun r => if r = 0 then [(7, 0)] else if r = 1 then [(8, 0)] else [(9, 1)],
    marks := fun r => if r = 0 then [(0, (1001, 1200), 1), (1, (40001, 40200), -1)] else if r = 1 then [(0, (1001, 1200), 1)]
                      else [(1, (40001, 40200), 1)] }

/-- DOUBLE COUNT: the bridging read matches isoform 5 of gL (left of the cut) and isoform 7 of gN (right of it) -/
def wDouble : Answers :=
  { hits := fun r => if r = 0 then [(5, 2), (7, 1)] else if r = 1 then [(8, 0)] else [(9, 1)],
    marks := fun r => if r = 0 then [(0, (60001, 60200), 1)] else if r = 1 then [(0, (1001, 1200), 1)] else [(1, (40001, 40200), 1)] }

def wRows (rep : Bool) (ans : Answers) : Option (List (Int × Int × Nat × Nat)) :=
  ((chromosomeEvents rep wGenes (tableProc "chr1" ans) wOut [0, 1, 2]).bind
    (countAll coordKey FeatureInfo.merge true "NA")).map
    (fun st => (dumpRows st).map (fun r => (r.fi.start, r.fi.stop, r.incl, r.excl)))

/-- **bridging_read_lost_witness** (old loading): both records of the bridging read name isoform 7 only (gN has no isoform it
    matches), they are equal, the resolver keeps the FIRST - made in the left sub-region, which never loaded gN: the exclusion
    of gN's exon is lost (row 40001-40200: 1 / 0).  Repaired loading: 1 / 1. -/
theorem bridging_read_lost_witness :
    wRows false wLost = some [(1001, 1200, 2, 0), (40001, 40200, 1, 0)] ∧
    wRows true wLost = some [(1001, 1200, 2, 0), (40001, 40200, 1, 1)] := by
  constructor <;> decide +kernel

/-- **bridging_read_twice_witness** (old loading): the left record names isoform 5 only (gN is not loaded there), the right
    record isoform 7 only (gL is not loaded there): the records differ, both are uniquely assigned primaries, both are kept and
    the inclusion of gA's last exon is counted TWICE (row 60001-60200: 2 / 0).  Repaired loading: both records name 5 and 7, they
    are equal, one is kept: 1 / 0. -/
theorem bridging_read_twice_witness :
    wRows false wDouble = some [(60001, 60200, 2, 0), (1001, 1200, 1, 0), (40001, 40200, 1, 0)] ∧
    wRows true wDouble = some [(60001, 60200, 1, 0), (1001, 1200, 1, 0), (40001, 40200, 1, 0)] := by
  constructor <;> decide +kernel

/-- the full-strength count clause is FALSE of the old loading: the same statement with `repaired := false` fails on the
    witness (alignment 0 excludes (40001, 40200) against the whole annotation, the table says 0) -/
theorem chromosome_row_counts_old_loading_witness :
    ∃ st, ((chromosomeEvents false wGenes (tableProc "chr1" wLost) wOut (wAll.map (·.rid))).bind
            (countAll coordKey FeatureInfo.merge true "NA")) = some st ∧
      st.exclOf ("chr1", 40001, 40200) "NA" = 0 ∧
      wAll.countP (alnSays (tableProc "chr1" wLost) wGenes true "NA" (-1) ("chr1", 40001, 40200) "NA") = 1 := by
  exact ⟨_, rfl, by decide +kernel⟩

-- non-vacuity of `chromosome_row_counts`: the witness chromosome meets its hypotheses about `all` / `out`
example : (wAll.map (·.rid)).Nodup ∧ (∀ p ∈ wOut, ∀ a ∈ p.2, a ∈ wAll) ∧ (∀ a ∈ wAll, ∃ p ∈ wOut, a ∈ p.2) := by
  decide +kernel

end IsoVerif.Props.C13Chromosome
