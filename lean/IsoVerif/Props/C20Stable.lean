/-
C20 — the artefact a run took from the cache must stay the one it took.
Model in IsoVerif/Model/Cache.lean, lemmas in IsoVerif/Lemmas/CacheStable.lean.

`find_converted_db` / `find_stored_index|bed|alignment` hand back the *path* stored in the cache entry – a file inside
the output folder of the run that produced it – and the run re-opens that path for the rest of its life.
`no_foreign_conversion` / `results_correspond_to_own_input` (Props/C20.lean) speak about the moment of the lookup: the
`Result` records path @ mtime as taken.  The clause of the property

    "the per-user cache … never makes a run use a conversion that does not correspond to its own input"

needs more: the file at that path must still be that version whenever the run opens it, i.e. at every later moment:

    ResultsStable cd s0  :=  ∀ sched, every result of every process is stable in `run cd s0 sched`.

Full strength ("for every lawful codec and every system state whose cache entries are backed by productions and whose
results are stable now, `ResultsStable`") is FALSE of the model and of the real code (`shared_target_overwrite_witness`,
replayed on the real `isoquant.py` by the oracle of harness/props/C20.py, scenario `shared_target_overwrite`): "separate
output folders" of the *running* runs does not exclude that one of them re-uses the folder of a *finished* run whose
artefact is in the cache.  Known finding `cached_artefact_overwritten_in_place` (not repaired: design change).
What holds (`results_stable_partial`): for any number of processes, any programs and EVERY interleaving, under the
decidable hypothesis `PrivateTargets` that excludes exactly that class.
-/
import IsoVerif.Model.Cache
import IsoVerif.Lemmas.Cache
import IsoVerif.Lemmas.CacheStable

namespace IsoVerif.Props.C20Stable
open IsoVerif.Model.C20 IsoVerif.Lemmas.C20

variable {β : Type}

/-- in every reachable system state every result of every process is still the file version the process took -/
def ResultsStable (cd : Codec β) (s0 : Sys β) : Prop := ∀ sched : List Nat, ResultsStableAt (run cd s0 sched)

/-- the statement the property needs, for the hypotheses of the theorems of Props/C20.lean, taken at `toyCodec` (FALSE already
    there, see the witness; so false for "every lawful codec") -/
def ResultsStableFullStrength : Prop :=
  ∀ (s0 : Sys Nat), SInv toyCodec s0 → ResultsStableAt s0 → ResultsStable toyCodec s0

/-! ### the witness: a running run re-uses the output folder of a finished run whose database is in the cache

paths: 10 = d1/annot.gtf, 11 = d2/annot.gtf (another annotation, same base name), 20 = X/annot.db, 21 = Y/annot.db
  A0: isoquant -o X --genedb d1/annot.gtf     finishes; cache: d1/annot.gtf -> X/annot.db
  B : isoquant -o Y --genedb d1/annot.gtf     cache hit -> goes on to use X/annot.db
  A': isoquant -o X --genedb d2/annot.gtf     lookup misses (other key) -> converts into X/annot.db
schedule: A0 completely ; B up to and including its lookup ; A' completely ; (B goes on: nothing left to do in the
cache protocol – it now opens X/annot.db in every worker) -/

def clA0 : Client := { file := 0, key := 10, src := 10, aux := [], target := 20, tag := 1 }
def clB : Client := { file := 0, key := 10, src := 10, aux := [], target := 21, tag := 1 }
def clA' : Client := { file := 0, key := 11, src := 11, aux := [], target := 20, tag := 1 }

def sharedTargetSys : Sys Nat :=
  Sys.start (World.fresh (fun p => if p = 10 then some 5 else if p = 11 then some 6 else none) 100)
    [progFixed { db := some (clA0, false), stores := [] },
     progFixed { db := some (clB, false), stores := [] },
     progFixed { db := some (clA', false), stores := [] }]

/-- A0 from start to end (`set_configs_directory` 8 steps, load, lookup, produce, store), then B:
    `set_configs_directory` (4 steps: the files exist), load, lookup -/
def lookupSched : List Nat := List.replicate 12 0 ++ List.replicate 6 1
/-- `lookupSched`, then A' from start to end (4 + load, lookup, produce, store) -/
def overwriteSched : List Nat := lookupSched ++ List.replicate 8 2

/-- The full-strength statement is false: after B took `X/annot.db` from the cache – correctly, for its own input,
    everything stable at that moment – A' converts another annotation into the same path.  All three runs finish
    without a crash; B's result is no longer stable, and the file now at B's path is the output of a production for
    another source (key 11, not B's key 10).  `PrivateTargets` fails in the start state (two pending productions
    target path 20) and in the state in which A0 has finished (a pending production targets a logged production's
    path). -/
theorem shared_target_overwrite_witness :
    let s1 := run toyCodec sharedTargetSys lookupSched
    let s2 := run toyCodec sharedTargetSys overwriteSched
    (s1.procs.map (fun p => p.results)) =
      [[⟨clA0, 20, 5, 100, [], false⟩], [⟨clB, 20, 5, 100, [], true⟩], []] ∧
    ResultsStableAt s1 ∧
    (s2.procs.map (fun p => (p.crashed, p.todo.length))) = [(false, 0), (false, 0), (false, 0)] ∧
    (s2.procs.map (fun p => p.results.map (fun r => (r.client.key, r.target, r.tgtM, r.hit)))) =
      [[(10, 20, 100, false)], [(10, 20, 100, true)], [(11, 20, 101, false)]] ∧
    s2.world.mtime 20 = some 101 ∧
    ¬ ResultsStableAt s2 ∧
    (∃ cv ∈ s2.world.convs, cv.client.target = 20 ∧ s2.world.mtime 20 = some cv.tgtM) ∧
    (∀ cv ∈ s2.world.convs, cv.client.target = 20 → s2.world.mtime 20 = some cv.tgtM → cv.client.key = 11) ∧
    ¬ PrivateTargets sharedTargetSys ∧
    ¬ PrivateTargets (run toyCodec sharedTargetSys (List.replicate 12 0)) := by
  decide +kernel

/-- `ResultsStableFullStrength` does not hold: `shared_target_overwrite_witness` is a counterexample (its start state is
    fresh: `SInv` by `start_fresh_sinv`) -/
theorem results_stable_full_strength_witness : ¬ ResultsStableFullStrength := by
  intro h
  exact shared_target_overwrite_witness.2.2.2.2.2.1 (h sharedTargetSys
    (start_fresh_sinv toyCodec toyCodec_lawful _ _ _) (by decide +kernel) overwriteSched)

/-- the same exposure for the caches of src/read_mapper.py (here the index cache: `find_stored_index` … `store_index`):
    30 = ref/genome.fa, 31 = other/genome.fa, 40 = X/genome_k15_idx, 41 = Y/genome_k15_idx -/
def sharedIndexSys : Sys Nat :=
  Sys.start (World.fresh (fun p => if p = 30 then some 7 else if p = 31 then some 8 else none) 100)
    [progFixed { db := none, stores := [({ file := 1, key := 30, src := 30, aux := [], target := 40, tag := 15 }, true)] },
     progFixed { db := none, stores := [({ file := 1, key := 30, src := 30, aux := [], target := 41, tag := 15 }, true)] },
     progFixed { db := none, stores := [({ file := 1, key := 31, src := 31, aux := [], target := 40, tag := 15 }, true)] }]

theorem shared_index_overwrite_witness :
    let s2 := run toyCodec sharedIndexSys (List.replicate 13 0 ++ List.replicate 6 1 ++ List.replicate 9 2)
    (s2.procs.map (fun p => (p.crashed, p.todo.length))) = [(false, 0), (false, 0), (false, 0)] ∧
    (s2.procs.map (fun p => p.results.map (fun r => (r.client.key, r.target, r.tgtM, r.hit)))) =
      [[(30, 40, 100, false)], [(30, 40, 100, true)], [(31, 40, 101, false)]] ∧
    ¬ ResultsStableAt s2 ∧ ¬ PrivateTargets sharedIndexSys := by
  decide +kernel

/-- For every lawful codec, any number of processes running any programs, and EVERY interleaving: if in the start state
    every cache entry is backed by a logged production (`SInv`; true of every start from an empty cache directory and
    kept by every step), the targets of the pending productions are private (`PrivateTargets`: pairwise distinct, and
    none is a path a logged production wrote – hence none is the target of an entry of any cache – or an existing
    result refers to) and the existing results are stable, then in every reachable state every result of every
    process is still the file version the process took.
    Missing for the full statement: the case ¬`PrivateTargets` – false there (`shared_target_overwrite_witness`). -/
theorem results_stable_partial (cd : Codec β) (hl : cd.Lawful) (s0 : Sys β) (h0 : SInv cd s0)
    (hp : PrivateTargets s0) (hs : ResultsStableAt s0) : ResultsStable cd s0 :=
  fun sched => (run_stinv cd hl sched s0 ⟨h0, hp, hs⟩).stable

/-- `PrivateTargets` is itself kept by every step of every interleaving (chain of custody) -/
theorem private_targets_invariant (cd : Codec β) (hl : cd.Lawful) (s0 : Sys β) (h0 : SInv cd s0)
    (hp : PrivateTargets s0) (hs : ResultsStableAt s0) (sched : List Nat) : PrivateTargets (run cd s0 sched) :=
  (run_stinv cd hl sched s0 ⟨h0, hp, hs⟩).priv

/-- what `PrivateTargets` says about cache *entries* (the reading "no pending production targets a path that is the
    target of an entry of a cache"): under `SInv` no entry of any parseable config file content, of any loaded dict
    or any pending entry has a pending target -/
theorem private_targets_cover_entries (cd : Codec β) (s : Sys β) (h0 : SInv cd s) (hp : PrivateTargets s) :
    (∀ i d, cd.parse (s.world.inodes i) = some d → ∀ x ∈ d, x.2.target ∉ s.toProduce) ∧
    (∀ p ∈ s.procs, ∀ f, ∀ x ∈ p.dict f, x.2.target ∉ s.toProduce) ∧
    (∀ p ∈ s.procs, ∀ f x, p.pending f = some x → x.2.target ∉ s.toProduce) := by
  have key : ∀ x : Key × Entry, Backed s.world.convs x → x.2.target ∉ s.toProduce := by
    rintro x ⟨cv, hcv, _, he⟩ hx
    have : cv.client.target = x.2.target := by rw [← he]; rfl
    exact hp.2.1 _ hx cv hcv this
  exact ⟨fun i d hd x hx => key x (h0.1 i d hd x hx), fun p hpm f x hx => key x ((h0.2 p hpm).dict f x hx),
    fun p hpm f x hx => key x ((h0.2 p hpm).pending f x hx)⟩

/-- Hence, under `PrivateTargets`, at every later moment – in particular at the END of the run – the file at the path
    a run uses is still the output of a production for the run's own key and tag, recorded for exactly the source
    mtime the run saw (with `conversion_identity`: *the* production that wrote the version now at that path). -/
theorem stable_results_correspond_partial (cd : Codec β) (hl : cd.Lawful) (s0 : Sys β) (h0 : SInv cd s0)
    (hp : PrivateTargets s0) (hs : ResultsStableAt s0) (sched : List Nat) :
    ∀ p ∈ (run cd s0 sched).procs, ∀ r ∈ p.results,
      ∃ cv ∈ (run cd s0 sched).world.convs, cv.client.key = r.client.key ∧ cv.client.tag = r.client.tag ∧
        cv.client.target = r.target ∧ cv.srcM = r.srcM ∧ cv.auxM = r.auxM ∧
        (run cd s0 sched).world.mtime cv.client.target = some cv.tgtM := by
  intro p hpm r hr
  obtain ⟨hi, _, hst⟩ := run_stinv cd hl sched s0 ⟨h0, hp, hs⟩
  obtain ⟨cv, hcv, h1, h2, h3, h4, h5, h6⟩ := (hi.2 p hpm).results r hr
  refine ⟨cv, hcv, h1, h2, h3, h4, h6, ?_⟩
  rw [h3, h5]
  exact hst p hpm r hr

/-- `results_stable_partial` stated for the end of all runs: the interleaving, then every process runs on to the end of its
    program -/
theorem end_of_run_artefact_partial (cd : Codec β) (hl : cd.Lawful) (s0 : Sys β) (h0 : SInv cd s0)
    (hp : PrivateTargets s0) (hs : ResultsStableAt s0) (sched : List Nat) :
    ∀ p ∈ (drain cd (run cd s0 sched)).procs, ∀ r ∈ p.results,
      r.stable (drain cd (run cd s0 sched)).world ∧
      ∃ cv ∈ (drain cd (run cd s0 sched)).world.convs, cv.client.key = r.client.key ∧ cv.client.tag = r.client.tag ∧
        cv.client.target = r.target ∧ cv.srcM = r.srcM ∧ cv.auxM = r.auxM ∧
        (drain cd (run cd s0 sched)).world.mtime cv.client.target = some cv.tgtM := by
  obtain ⟨sch, hsch⟩ := drain_eq_run cd (run cd s0 sched)
  rw [hsch, ← run_append]
  intro p hpm r hr
  exact ⟨results_stable_partial cd hl s0 h0 hp hs _ p hpm r hr,
    stable_results_correspond_partial cd hl s0 h0 hp hs _ p hpm r hr⟩

/-- No hypothesis on the targets: for any programs and EVERY interleaving, a result that is no longer stable was
    overwritten by a LATER logged production into exactly its path, and the output of that production is what is at
    the path now.  So the config-file protocol itself (races of loads and stores, lost updates, tolerant reading of
    garbage) can never take an artefact away from a run – only a `produce` whose target is the artefact's path can;
    `PrivateTargets` excludes exactly those.  (`TimeInv`: the clock is ahead of every file time; `ConvInv`: the log of
    productions is consistent.  Both are kept by every step.  At a start without history `ConvInv` holds
    (`convInv_start_fresh`), and `TimeInv (World.fresh mt clock)` is, by definition, the condition that `clock` exceeds
    every initial file time `mt path`.) -/
theorem unstable_only_by_later_production (cd : Codec β) (s0 : Sys β) (ht : TimeInv s0.world) (hc : ConvInv s0.world)
    (h0 : ∀ p ∈ s0.procs, ∀ r ∈ p.results, r.tgtM < s0.world.clock ∧ r.stable s0.world) (sched : List Nat) :
    ∀ p ∈ (run cd s0 sched).procs, ∀ r ∈ p.results, ¬ r.stable (run cd s0 sched).world →
      ∃ cv ∈ (run cd s0 sched).world.convs, cv.client.target = r.target ∧ r.tgtM < cv.tgtM ∧
        (run cd s0 sched).world.mtime r.target = some cv.tgtM := by
  intro p hp r hr hns
  have h := run_trace cd sched s0 ⟨⟨ht, hc⟩, fun q hq x hx => ⟨(h0 q hq x hx).1, Or.inl (h0 q hq x hx).2⟩⟩
  rcases (h.2 p hp r hr).2 with hst | hov
  · exact absurd hst hns
  · exact hov

/-- the hypotheses of `unstable_only_by_later_production` hold for the witness system, and its conclusion is not
    vacuous there: B's result is unstable after `overwriteSched` -/
example : TimeInv sharedTargetSys.world ∧ ConvInv sharedTargetSys.world ∧
    (∀ p ∈ sharedTargetSys.procs, ∀ r ∈ p.results, r.tgtM < sharedTargetSys.world.clock ∧ r.stable sharedTargetSys.world) ∧
    ¬ ResultsStableAt (run toyCodec sharedTargetSys overwriteSched) := by
  refine ⟨?_, ?_, by decide +kernel, shared_target_overwrite_witness.2.2.2.2.2.1⟩
  · intro path m h
    simp only [sharedTargetSys, Sys.start, World.fresh] at h ⊢
    split at h
    · cases h; decide
    · split at h
      · cases h; decide
      · cases h
  · exact convInv_start_fresh _ _ _

theorem pendingOf_progFixed (r : RunCfg) :
    pendingOf (progFixed r) = (r.db.toList.map (·.1.target)) ++ r.stores.map (·.1.target) := by
  have hstore (x : Client × Bool) : (storeFixed x.1 x.2).filterMap Instr.produces = [x.1.target] := by
    rcases x with ⟨c, _ | _⟩ <;> rfl
  unfold pendingOf progFixed
  rw [List.filterMap_append, List.filterMap_append, List.filterMap_flatMap]
  simp only [hstore, ← List.map_eq_flatMap]
  rcases r.db with _ | ⟨c, _ | _⟩ <;> rfl

/-- the artefact paths of the clients of one run: `<output folder>/<annotation>.db`, `…_idx`, `….bed`, `….bam` -/
def RunCfg.targets (r : RunCfg) : List Path := (r.db.toList.map (·.1.target)) ++ r.stores.map (·.1.target)

/-- n runs of the code base (any n) started together on an empty cache directory: `PrivateTargets` is "the artefact
    paths of all clients of all runs are pairwise distinct" – what separate output folders give to runs that start
    together on an empty cache – and then every artefact any run takes stays the one it took, in every interleaving. -/
theorem fresh_runs_stable_partial (cd : Codec β) (hl : cd.Lawful) (mt : Path → Option Nat) (clock : Nat)
    (cfgs : List RunCfg) (hpriv : (cfgs.flatMap RunCfg.targets).Nodup) :
    ResultsStable cd (Sys.start (World.fresh mt clock) (cfgs.map progFixed)) := by
  have hprocs : (Sys.start (World.fresh (β := β) mt clock) (cfgs.map progFixed)).toProduce = cfgs.flatMap RunCfg.targets := by
    unfold Sys.toProduce Sys.start
    rw [List.flatMap_map, List.flatMap_map]
    exact congrArg (cfgs.flatMap ·) (funext pendingOf_progFixed)
  -- nothing has been produced or taken yet
  have hres : ∀ p ∈ (Sys.start (World.fresh (β := β) mt clock) (cfgs.map progFixed)).procs, ∀ r ∈ p.results, False :=
    List.forall_mem_map.2 fun _ _ _ h => (List.not_mem_nil h).elim
  exact results_stable_partial cd hl _ (start_fresh_sinv cd hl mt clock _)
    ⟨hprocs ▸ hpriv, fun _ _ _ h => (List.not_mem_nil h).elim, fun _ _ p hp r hr => (hres p hp r hr).elim⟩
    fun p hp r hr => (hres p hp r hr).elim

/-- three runs of the fixed program with separate output folders (targets 20, 21, 22), two with the same annotation; the
    same term as `fixedTriple` of Props/C20.lean -/
def privTriple : Sys Nat :=
  Sys.start (World.fresh (fun p => if p = 10 then some 5 else if p = 11 then some 6 else none) 100)
    [progFixed { db := some ({ file := 0, key := 10, src := 10, aux := [], target := 20, tag := 1 }, false), stores := [] },
     progFixed { db := some ({ file := 0, key := 11, src := 11, aux := [], target := 21, tag := 1 }, false), stores := [] },
     progFixed { db := some ({ file := 0, key := 10, src := 10, aux := [], target := 22, tag := 1 }, false), stores := [] }]

/-- the hypotheses of `results_stable_partial` are met by `privTriple` at the start -/
example : SInv toyCodec privTriple ∧ PrivateTargets privTriple ∧ ResultsStableAt privTriple :=
  ⟨start_fresh_sinv toyCodec toyCodec_lawful _ _ _, by decide +kernel, by decide +kernel⟩

/-- the hypotheses of `results_stable_partial` are met in a state with history as well: run 0 has finished (its database is in the cache, its production in the log), run 2
    has taken that database from the cache (a `hit` result on path 20), runs 1 and 2 still have their own productions
    pending – the conclusion is not vacuous (there are results, one of them a hit on another run's folder) -/
example :
    let s := run toyCodec privTriple (List.replicate 12 0 ++ List.replicate 6 2 ++ List.replicate 5 1)
    PrivateTargets s ∧ ResultsStableAt s ∧ s.world.convs.length = 1 ∧ s.toProduce = [21] ∧
    (s.procs.map (fun p => p.results.map (fun r => (r.target, r.hit)))) = [[(20, false)], [], [(20, true)]] := by
  decide +kernel

/-- the hypothesis of `fresh_runs_stable_partial` on two runs, the second with an index client besides its annotation -/
example : ([({ db := some ({ file := 0, key := 10, src := 10, aux := [], target := 20, tag := 1 }, false), stores := [] } : RunCfg),
            { db := some ({ file := 0, key := 11, src := 11, aux := [], target := 21, tag := 1 }, false),
              stores := [({ file := 1, key := 30, src := 30, aux := [], target := 23, tag := 15 }, true)] }].flatMap
              RunCfg.targets).Nodup := by
  decide +kernel

end IsoVerif.Props.C20Stable
