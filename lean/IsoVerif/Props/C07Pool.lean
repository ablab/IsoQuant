/-
C07 with a process pool (`--threads N`, N > 1) — resuming an interrupted run yields the outputs of an uninterrupted run,
for **every interleaving** of the per-chromosome tasks of both parallel stages, in the killed run and in the resumed run.

Model: `IsoVerif.Model.Resume` (Model/ResumePool.lean): `runPool` = the run of Model/Resume.lean whose two
per-chromosome loops are parallel stages (one task per chromosome, the global event list an arbitrary interleaving
of the tasks' event lists given by a schedule, stage barriers as in the code); a crash is a prefix of the interleaved
global event list — the events of each task in it form a prefix of the task's own list, tasks not yet started
contribute nothing.  Every tuple of per-task prefixes is reached by some schedule (`prefix_tuple_reachable`), so the
quantification over schedules and kill points covers every downward-closed set of per-task prefixes; the worker limit
of a real executor (at most N tasks in progress) only removes schedules.

Full-strength statement (`resume_correct_pool`): for every well-formed configuration, every pair of schedules of the
killed run, every kill point `k ≥ 4` of its global event list, every pair of schedules of the resumed run and every
directory order of either run's clean-up, the verdict is EQUAL.  The history clauses lift the same way
(`resume_correct_pool_dirty_folder`, `resume_correct_pool_read_assignments`).

Proof: the per-chromosome lock invariant `J` (Props/C07.lean `crash_state_invariant`) is lifted to products of per-task
states (`Lemmas/ResumePool.lean`: `J_product`, `allJ_weave`, `pool_good`), which gives the pool run the shape `Shaped`
(`run_shape_pool`); the theorems are then the instances for `runPool` of Lemmas/ResumeShape.lean; helper lemmas in
Lemmas/ResumePool*.lean.
-/
import IsoVerif.Lemmas.ResumePoolRun
import IsoVerif.Lemmas.ResumePoolSeq
import IsoVerif.Props.C07

namespace IsoVerif.Props.C07Pool
open IsoVerif.Model.Resume IsoVerif.Lemmas.Resume IsoVerif.Props.C07

/-- shape of every pool run of the repaired code, for every pair of schedules, from a state in which the locks vouch
    only for complete files: it completes, its events are the `.params` events followed by an interleaved event
    list along which the invariant `J` holds at **every prefix**, and all final files end up complete and correct -/
theorem run_shape_pool {cfg : Cfg} (wf : WF cfg) (ord : List Path) (hord : ord.Nodup) (s1 s2 : List Chr) :
    Shaped cfg (fun rs fs => runPool fixed cfg ord rs s1 s2 fs) := by
  rw [runPool_via]
  exact runVia_shaped wf ord hord (fun rs skc => collect_pool cfg rs skc s1) (fun rs => construct_pool cfg rs s2)

/-- **crash consistency under a process pool**: whichever way the tasks of the two parallel stages interleave, whenever
    the (first or a resumed) run is killed after its parameters were saved, every lock file that exists vouches only for
    complete, correct files, and `.params` is intact.  (`crash_state_invariant` lifted to products of per-task states.) -/
theorem crash_state_invariant_pool {cfg : Cfg} (wf : WF cfg) (ord : List Path) (hord : ord.Nodup) (rs : Bool)
    (s1 s2 : List Chr) {fs : FS}
    (h : J0 cfg fs) (hp : rs = true → fs.good .params = true) (hcl : rs = false → lockList cfg fs = [])
    (hsv : cfg.fromSaves = true → SavesOK cfg fs) (k : Nat) (hk : 4 ≤ k ∨ rs = true) :
    J cfg (applyAll fs ((runPool fixed cfg ord rs s1 s2 fs).evs.take k)) :=
  (run_shape_pool wf ord hord s1 s2).crash_invariant rs h hp hcl hsv k hk

/-- **history clause, process pool**: the run is started on *any* file system `fs0` (with `--read_assignments`: on
    complete save files plus arbitrary leftovers) with any schedules `s1 s2`, killed after any `k` events of the
    interleaved event list once its own parameters are saved, and resumed with any schedules `s1' s2'`: the resumed run
    completes and every final file equals that of the uninterrupted run on `fs0` -/
theorem resume_correct_pool_from {cfg : Cfg} (wf : WF cfg) (ord ord' : List Path) (hord : ord.Nodup) (hord' : ord'.Nodup)
    (s1 s2 s1' s2' : List Chr)
    (fs0 : FS) (hs : cfg.fromSaves = true → SavesConsistent cfg fs0) (hi : IndexSound cfg fs0) (k : Nat)
    (hk : (lockList cfg fs0).length + 4 ≤ k) : verdictPoolFrom fixed cfg ord ord' s1 s2 s1' s2' fs0 k = .equal := by
  have h := resume_equal (R' := fun rs fs => runPool fixed cfg ord' rs s1' s2' fs) cfg.highMemory false
    (run_shape_pool wf ord hord s1 s2) (runPool_fresh wf ord s1 s2)
    (by rw [resumeCfg_same]; exact run_shape_pool wf ord' hord' s1' s2') fs0 (J0_cleaned fs0 hs hi)
    (fun e => savesOK_cleaned (hs e).1) k hk
  exact verdict_equal h.1 h.2

/-- process pool, the output folder already holds the remains of an earlier (killed or finished) run: any leftovers -/
theorem resume_correct_pool_dirty_folder {cfg : Cfg} (wf : WF cfg) (hm : cfg.fromSaves = false) (ord ord' : List Path)
    (hord : ord.Nodup) (hord' : ord'.Nodup) (s1 s2 s1' s2' : List Chr) (fs0 : FS) (hi : IndexSound cfg fs0) (k : Nat)
    (hk : (lockList cfg fs0).length + 4 ≤ k) :
    verdictPoolFrom fixed cfg ord ord' s1 s2 s1' s2' fs0 k = .equal :=
  resume_correct_pool_from wf ord ord' hord hord' s1 s2 s1' s2' fs0 (fun e => by rw [hm] at e; exact absurd e (by simp)) hi k hk

/-- process pool, `--read_assignments`: run from kept save files (complete; any stale `_processed` locks, statistics
    files or other leftovers next to them), kill, resume -/
theorem resume_correct_pool_read_assignments {cfg : Cfg} (wf : WF cfg) (hm : cfg.fromSaves = true) (ord ord' : List Path)
    (hord : ord.Nodup) (hord' : ord'.Nodup) (s1 s2 s1' s2' : List Chr) (fs0 : FS) (hs : SavesConsistent cfg fs0)
    (hi : IndexSound cfg fs0) (k : Nat)
    (hk : (lockList cfg fs0).length + 4 ≤ k) : verdictPoolFrom fixed cfg ord ord' s1 s2 s1' s2' fs0 k = .equal :=
  resume_correct_pool_from wf ord ord' hord hord' s1 s2 s1' s2' fs0 (fun _ => hs) hi k hk

/-- **full-strength property under a process pool** (fresh output folder, BAM input): for every interleaving `s1 s2`
    of the killed run, every kill point `k ≥ 4` of its global event list and every interleaving `s1' s2'` of the resumed
    run, the resumed run completes and every final file equals that of the uninterrupted run -/
theorem resume_correct_pool {cfg : Cfg} (wf : WF cfg) (hm : cfg.fromSaves = false) (ord ord' : List Path) (hord : ord.Nodup)
    (hord' : ord'.Nodup) (s1 s2 s1' s2' : List Chr) (k : Nat) (hk : 4 ≤ k) :
    verdictPool fixed cfg ord ord' s1 s2 s1' s2' k = .equal :=
  resume_correct_pool_dirty_folder wf hm ord ord' hord hord' s1 s2 s1' s2' FS.empty (indexSound_empty cfg) k
    (by rw [lockList_empty]; simpa using hk)

/-- safety half: a resumed pool run never exits successfully with different, truncated or missing results -/
theorem resume_never_silently_wrong_pool {cfg : Cfg} (wf : WF cfg) (hm : cfg.fromSaves = false) (ord ord' : List Path)
    (hord : ord.Nodup) (hord' : ord'.Nodup) (s1 s2 s1' s2' : List Chr) (k : Nat) (hk : 4 ≤ k) :
    verdictPool fixed cfg ord ord' s1 s2 s1' s2' k ≠ .diff := by
  rw [resume_correct_pool wf hm ord ord' hord hord' s1 s2 s1' s2' k hk]; decide

/-- liveness half: the resumed pool run completes -/
theorem resume_completes_pool {cfg : Cfg} (wf : WF cfg) (hm : cfg.fromSaves = false) (ord ord' : List Path)
    (hord : ord.Nodup) (hord' : ord'.Nodup) (s1 s2 s1' s2' : List Chr) (k : Nat) (hk : 4 ≤ k) :
    verdictPool fixed cfg ord ord' s1 s2 s1' s2' k ≠ .fail := by
  rw [resume_correct_pool wf hm ord ord' hord hord' s1 s2 s1' s2' k hk]; decide

/-- the uninterrupted pool run completes with complete final files, whatever the schedules -/
theorem clean_run_pool_completes {cfg : Cfg} (wf : WF cfg) (hm : cfg.fromSaves = false) (ord : List Path) (hord : ord.Nodup)
    (s1 s2 : List Chr) :
    (runPool fixed cfg ord false s1 s2 FS.empty).ok = true ∧ FinOK cfg (runPool fixed cfg ord false s1 s2 FS.empty).fs := by
  obtain ⟨_, _, hok, _, hfin⟩ := run_shape_pool wf ord hord s1 s2 false _ (J0_empty cfg) (by simp) (fun _ => lockList_empty cfg)
    (fun e => by rw [hm] at e; exact absurd e (by simp))
  exact ⟨hok, hfin⟩

/-- the final files do not depend on the schedule: those of any pool run equal those of the `--threads 1` run -/
theorem pool_finals_schedule_independent {cfg : Cfg} (wf : WF cfg) (hm : cfg.fromSaves = false) (ord ord' : List Path)
    (hord : ord.Nodup) (hord' : ord'.Nodup) (s1 s2 : List Chr) :
    sameFinals cfg (runPool fixed cfg ord false s1 s2 FS.empty).fs (run fixed cfg ord' false FS.empty).fs = true :=
  sameFinals_of_finOK (clean_run_pool_completes wf hm ord hord s1 s2).2 (clean_run_completes wf hm ord' hord').2

/-- the file system after a chain of killed pool runs: the first run starts in an empty directory, every later one is a
    `--resume`; each has its own directory order, schedules and kill point -/
def afterCrashesPool (cfg : Cfg) : List (List Path × List Chr × List Chr × Nat) → Bool → FS → FS
  | [], _, fs => fs
  | (ord, s1, s2, k) :: rest, rs, fs =>
      afterCrashesPool cfg rest true (applyAll fs ((runPool fixed cfg ord rs s1 s2 fs).evs.take k))

theorem afterCrashesPool_eq (cfg : Cfg) (chain : List (List Path × List Chr × List Chr × Nat)) (rs : Bool) (fs : FS) :
    afterCrashesPool cfg chain rs fs =
      crashChain (chain.map fun x => (fun rs fs => runPool fixed cfg x.1 rs x.2.1 x.2.2.1 fs, x.2.2.2)) rs fs := by
  induction chain generalizing rs fs with
  | nil => rfl
  | cons x chain ih => exact ih _ _

theorem afterCrashesPool_J {cfg : Cfg} (wf : WF cfg) (hm : cfg.fromSaves = false)
    (chain : List (List Path × List Chr × List Chr × Nat))
    (hc : ∀ x ∈ chain, x.1.Nodup) (rs : Bool) (h0 : rs = false → ∀ x ∈ chain.head?, 4 ≤ x.2.2.2) {fs : FS} (h : J0 cfg fs)
    (hp : rs = true → fs.good .params = true) (hcl : rs = false → lockList cfg fs = []) (hne : chain ≠ []) :
    J cfg (afterCrashesPool cfg chain rs fs) := by
  rw [afterCrashesPool_eq]
  refine crashChain_J hm _ (fun x hx => ?_) rs (fun e x hx => ?_) h hp hcl (by simpa using hne)
  · obtain ⟨y, hy, rfl⟩ := List.mem_map.mp hx; exact run_shape_pool wf y.1 (hc y hy) _ _
  · cases chain with
    | nil => cases hx
    | cons y chain => cases hx; exact h0 e y rfl

/-- a pool run interrupted any number of times (the first run after its parameters were saved, every resumed run at any
    point, each run with its own interleaving) and finally resumed without interruption completes with all final files
    complete and correct -/
theorem resume_correct_pool_after_repeated_crashes {cfg : Cfg} (wf : WF cfg) (hm : cfg.fromSaves = false)
    (chain : List (List Path × List Chr × List Chr × Nat))
    (hc : ∀ x ∈ chain, x.1.Nodup) (h0 : ∀ x ∈ chain.head?, 4 ≤ x.2.2.2) (hne : chain ≠ []) (ord : List Path)
    (hord : ord.Nodup) (s1 s2 : List Chr) :
    (runPool fixed cfg ord true s1 s2 (afterCrashesPool cfg chain false FS.empty)).ok = true ∧
      FinOK cfg (runPool fixed cfg ord true s1 s2 (afterCrashesPool cfg chain false FS.empty)).fs := by
  have hJ := afterCrashesPool_J wf hm chain hc false (fun _ => h0) (J0_empty cfg) (by simp) (fun _ => lockList_empty cfg) hne
  obtain ⟨_, _, hok, _, hfin⟩ := run_shape_pool wf ord hord s1 s2 true _ hJ.2 (fun _ => hJ.1) (by simp)
    (fun e => by rw [hm] at e; exact absurd e (by simp))
  exact ⟨hok, hfin⟩

/-- two chromosomes, annotation, no read groups, unaligned reads present -/
def cfg2 : Cfg := { chrs := [0, 1], mchrs := [1, 0], bchrs := [0, 1], genedb := true, rg := .none, keepTmp := false,
                    unmapped := true, fromSaves := false }

def ord2 : List Path := [.info, .multimap 0, .multimap 1, .lock, .save 0, .save 1, .processed 0, .processed 1, .bamstat 0,
                         .bamstat 1, .readStat 0, .readStat 1, .collected 0, .collected 1, .groups 0, .groups 1, .trStat 0,
                         .trStat 1, .rgLock]

theorem cfg2_wf : WF cfg2 := .of_check rfl

/-! ### a task may be started at any moment of its parallel stage

The model lets every task look at the file system at the start of its stage; a real worker looks when it is handed the
task.  For every variant of the model (repaired or not) that is the same: -/

/-- read collection: after the tasks of *other* chromosomes have performed any events `es`, the task of chromosome `c`
    performs the same events with the same outcome as when it is started together with the stage -/
theorem collect_task_start_independent (v : Variant) (cfg : Cfg) (rs sk : Bool) (c : Chr) (fs : FS) (es : List Ev)
    (hes : ∀ e ∈ es, ∃ c', c' ≠ c ∧ Tcol c' e.path = true) :
    (runActs (collectChr v cfg rs sk c (applyAll fs es)) (applyAll fs es)).evs = (runActs (collectChr v cfg rs sk c fs) fs).evs ∧
    (runActs (collectChr v cfg rs sk c (applyAll fs es)) (applyAll fs es)).ok = (runActs (collectChr v cfg rs sk c fs) fs).ok :=
  collect_start_indep v cfg rs sk c fs es hes

/-- model construction: the same -/
theorem construct_task_start_independent (v : Variant) (cfg : Cfg) (rs : Bool) (c : Chr) (fs : FS) (es : List Ev)
    (hes : ∀ e ∈ es, ∃ c', c' ≠ c ∧ Tcon c' e.path = true) :
    (runActs (constructChr v cfg rs c (applyAll fs es)) (applyAll fs es)).evs = (runActs (constructChr v cfg rs c fs) fs).evs ∧
    (runActs (constructChr v cfg rs c (applyAll fs es)) (applyAll fs es)).ok = (runActs (constructChr v cfg rs c fs) fs).ok :=
  construct_start_indep v cfg rs c fs es hes

-- the hypothesis is met by a concrete non-trivial input: the task of chromosome 1 has opened its save file and
-- written its groups file before the task of chromosome 0 starts
example : (∀ e ∈ [Ev.create (.save 1), .create (.groups 1), .commit (.groups 1) .good], ∃ c', c' ≠ 0 ∧ Tcol c' e.path = true) ∧
    (runActs (collectChr fixed cfg2 false false 0
        (applyAll FS.empty [Ev.create (.save 1), .create (.groups 1), .commit (.groups 1) .good]))
        (applyAll FS.empty [Ev.create (.save 1), .create (.groups 1), .commit (.groups 1) .good])).evs.length = 8 := by
  refine ⟨?_, by decide +kernel⟩
  intro e he
  simp only [List.mem_cons, List.not_mem_nil, or_false] at he
  rcases he with rfl | rfl | rfl <;> exact ⟨1, by decide, rfl⟩

/-- the run of Model/Resume.lean (`--threads 1`: the tasks one after the other) **is** the pool run with the empty
    schedules — same events, same final file system — for every variant of the model, whenever the run completes.
    (A run in which a task raises differs by design: a lazy `map` stops there, a pool lets the other tasks finish.) -/
theorem threads1_is_empty_schedule (v : Variant) (cfg : Cfg) (nd : cfg.chrs.Nodup) (ord : List Path) (rs : Bool) (fs : FS)
    (hok : (run v cfg ord rs fs).ok = true) : runPool v cfg ord rs [] [] fs = run v cfg ord rs fs := by
  unfold runPool run at *
  have h := runPhases_eq_runStages (.seq (forceClean v cfg rs) :: phases v cfg ord rs (rs && fs.has .lock) [] [])
    (by simp only [SeqLike]; exact phases_seqLike v cfg nd ord rs _) fs
  simp only [flattenPhases, stages_flatten] at h
  exact h hok

/-- hence the crash states of the `--threads 1` run are crash states of a pool run: `resume_correct` and
    `crash_state_invariant` of Props/C07.lean follow from the theorems above at `s1 = s2 = []` (in the files they are proved on
    their own, through `run_via`) -/
theorem threads1_crash_states (v : Variant) (cfg : Cfg) (nd : cfg.chrs.Nodup) (ord : List Path) (fs0 : FS) (k : Nat)
    (hok : (run v cfg ord false fs0).ok = true) : crashFSPool v cfg ord [] [] fs0 k = crashFSFrom v cfg ord fs0 k := by
  simp only [crashFSPool, crashFSFrom, cleanEventsFrom, threads1_is_empty_schedule v cfg nd ord false fs0 hok]

/-- the schedule that lets task `c₁` perform `n c₁` events, then `c₂` perform `n c₂` events, … -/
def blockSchedule (cs : List Chr) (n : Chr → Nat) : List Chr := cs.flatMap (fun c => List.replicate (n c) c)

/-- **every downward-closed set of per-task prefixes is reachable**: for every choice of prefix lengths `n` the block
    schedule reaches, after `Σ min (n c) |task c|` events, the state in which exactly the first `n c` events of every task
    have been performed (distinct tasks; `rem` = the tasks' event lists).  Hence quantifying over all schedules and kill
    points is quantifying over all tuples of per-task prefixes. -/
theorem prefix_tuple_reachable (cs : List Chr) (nd : cs.Nodup) (n : Chr → Nat) (rest : List Chr) (rem : Chr → List Ev) :
    ∃ tail, weave (blockSchedule cs n ++ rest) rem = cs.flatMap (fun c => (rem c).take (n c)) ++ tail :=
  ⟨_, weave_blocks cs nd n rest rem⟩

/-! ### the old behaviours under a process pool: witnesses at kill points that no `--threads 1` run has -/

/-- the collection tasks of the two chromosomes strictly alternating -/
def alt2 : List Chr := [0, 1, 0, 1, 0, 1, 0, 1, 0, 1, 0, 1, 0, 1, 0, 1]

/-- `_collected` written before the save file is terminated (as pinned), two workers alternating: killed when *both*
    tasks have just written their lock (a state no sequential run passes through: both dumps unterminated), the resumed
    run raises -/
theorem resume_completes_pool_lock_before_flush_witness :
    ((runPool lockBeforeFlushBuggy cfg2 ord2 false alt2 [] FS.empty).evs.take 19).filter
        (fun e => e == .create (.collected 0) || e == .create (.collected 1) || e == .commit (.save 0) .good
                  || e == .commit (.save 1) .good)
      = [.create (.collected 0), .create (.collected 1)] ∧
    verdictPool lockBeforeFlushBuggy cfg2 ord2 ord2 alt2 [] [] [] 19 = .fail := by decide +kernel

/-- schedules for `cfg3` (three chromosomes): a round-robin over the three tasks, and blocks in reverse order -/
def rr3 : List Chr := (List.range 40).flatMap (fun _ => [2, 0, 1])
def rev3 : List Chr := (List.replicate 60 2) ++ (List.replicate 60 1) ++ (List.replicate 60 0)

-- the hypotheses of `resume_correct_pool` are met by a concrete non-trivial input: three chromosomes, round-robin
-- collection, model construction in reverse blocks, kill point 120 (inside the second parallel stage)
example : WF cfg3 ∧ ord3.Nodup ∧ 4 ≤ 120 ∧ verdictPool fixed cfg3 ord3 ord3 rr3 rev3 rev3 rr3 120 = .equal :=
  ⟨cfg3_wf, by decide, by omega, resume_correct_pool cfg3_wf rfl ord3 ord3 (by decide) (by decide) rr3 rev3 rev3 rr3 120 (by omega)⟩

-- the interleaved event list differs from the `--threads 1` one but has the same length
example : (runPool fixed cfg3 ord3 false rr3 rev3 FS.empty).evs.length = 304 ∧
    (runPool fixed cfg3 ord3 false rr3 rev3 FS.empty).evs ≠ (run fixed cfg3 ord3 false FS.empty).evs := by
  on_store; decide +kernel

-- `threads1_is_empty_schedule` on a concrete input: the 304 events of the `--threads 1` run of `cfg3`
example : (run fixed cfg3 ord3 false FS.empty).ok = true ∧
    runPool fixed cfg3 ord3 false [] [] FS.empty = run fixed cfg3 ord3 false FS.empty :=
  have h := (clean_run_completes cfg3_wf rfl ord3 (by decide)).1
  ⟨h, threads1_is_empty_schedule fixed cfg3 cfg3_wf.nd ord3 false FS.empty h⟩

-- its hypothesis is needed: when a task raises (old behaviour, the dump of chromosome 0 left unterminated under its
-- lock), the lazy `map` of `--threads 1` stops there (4 events), the pool lets the task of chromosome 1 finish (12 events)
example : (run lockBeforeFlushBuggy cfg2 ord2 true (crashFS lockBeforeFlushBuggy cfg2 ord2 12)).evs.length = 4 ∧
    (runPool lockBeforeFlushBuggy cfg2 ord2 true [] [] (crashFS lockBeforeFlushBuggy cfg2 ord2 12)).evs.length = 12 ∧
    (runPool lockBeforeFlushBuggy cfg2 ord2 true [] [] (crashFS lockBeforeFlushBuggy cfg2 ord2 12)).ok = false := by
  decide +kernel

end IsoVerif.Props.C07Pool
