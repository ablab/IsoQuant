/-
C19 — interval and profile primitives return exactly the set-theoretic result.
Property theorems only (helper lemmas live in IsoVerif/Lemmas).  The straight-line primitives are the
*generated* definitions (IsoVerif/Gen/Prims.lean, re-translated from /repo/src/common.py on every run).
-/
import IsoVerif.Gen.Prims
import IsoVerif.Model.Interval
import IsoVerif.Lemmas.Interval

namespace IsoVerif.Props.C19
open IsoVerif.Gen IsoVerif.Model IsoVerif.Lemmas

/-- position `p` lies in the closed interval `r` -/
def In (p : Int) (r : Iv) : Prop := r.1 ≤ p ∧ p ≤ r.2
def WF (r : Iv) : Prop := r.1 ≤ r.2

/-! ### straight-line primitives = their position-set definitions (∀ well-formed intervals) -/

theorem overlaps_iff (a b : Iv) (ha : WF a) (hb : WF b) :
    overlaps a b = true ↔ ∃ p, In p a ∧ In p b := by
  unfold WF at *; unfold In
  constructor
  · intro h
    simp [overlaps] at h
    refine ⟨max a.1 b.1, ?_⟩; omega
  · rintro ⟨p, h1, h2⟩
    simp [overlaps]; omega

theorem contains_iff (a b : Iv) (hb : WF b) :
    contains a b = true ↔ ∀ p, In p b → In p a := by
  unfold WF at *; unfold In
  constructor
  · intro h p hp; simp [contains] at h; omega
  · intro h
    have h1 := h b.1 (by omega)
    have h2 := h b.2 (by omega)
    simp [contains]; omega

theorem left_of_iff (a b : Iv) (ha : WF a) (hb : WF b) :
    left_of a b = true ↔ ∀ p q, In p a → In q b → p < q := by
  unfold WF at *; unfold In
  constructor
  · intro h p q hp hq; simp [left_of] at h; omega
  · intro h
    have := h a.2 b.1 (by omega) (by omega)
    simp [left_of]; omega

/-- `intersection_len` is the number of common positions: it equals `hi − lo + 1` of the common
    interval when there is one and 0 otherwise -/
theorem intersection_len_eq (a b : Iv) :
    intersection_len a b = if max a.1 b.1 ≤ min a.2 b.2 then min a.2 b.2 - max a.1 b.1 + 1 else 0 := by
  simp only [intersection_len]; split <;> omega

theorem intersection_len_pos_iff (a b : Iv) (ha : WF a) (hb : WF b) :
    0 < intersection_len a b ↔ overlaps a b = true := by
  unfold WF at *
  simp [intersection_len, overlaps]; omega

theorem overlap_intervals_spec (a b : Iv) (p : Int) :
    In p (overlap_intervals a b) ↔ In p a ∧ In p b := by
  unfold In; simp only [overlap_intervals]; omega

theorem max_range_spec (a b : Iv) (p : Int) :
    (In p a ∨ In p b) → In p (max_range a b) := by
  unfold In; simp only [max_range]; omega

theorem interval_len_eq (r : Iv) : interval_len r = r.2 - r.1 + 1 := by
  simp [interval_len]

theorem equal_ranges_iff (a b : Iv) (d : Int) :
    equal_ranges a b d = true ↔ (-d ≤ a.1 - b.1 ∧ a.1 - b.1 ≤ d) ∧ (-d ≤ a.2 - b.2 ∧ a.2 - b.2 ≤ d) :=
  Lemmas.equal_ranges_iff a b d

theorem equal_ranges_symm (a b : Iv) (d : Int) : equal_ranges a b d = equal_ranges b a d := by
  rw [Bool.eq_iff_iff, equal_ranges_iff, equal_ranges_iff]; omega

theorem contains_approx_iff (a b : Iv) (d : Int) :
    contains_approx a b d = true ↔ contains (a.1 - d, a.2 + d) b = true := by
  simp [contains_approx, contains] <;> omega

theorem contains_well_inside_iff (a b : Iv) (d : Int) :
    contains_well_inside a b d = true ↔ contains a (b.1 - d, b.2 + d) = true := by
  simp [contains_well_inside, contains] <;> omega

theorem covers_end_iff (a b : Iv) :
    covers_end a b = true ↔ (a.1 ≤ b.1 ∧ In a.2 b) := by
  unfold In; simp [covers_end] <;> omega

theorem covers_start_iff (a b : Iv) :
    covers_start a b = true ↔ (In a.1 b ∧ b.2 ≤ a.2) := by
  unfold In; simp [covers_start] <;> omega

/-- `overlaps_at_least a b d` (the intron absence test): the intervals intersect and either share at least
    `d` positions, or one of them contains the other.
    (Exact characterisation of the code since the fix "containment first", /repo 48e5811; before it `a` inside `b`
    counted only when it ended strictly before `b`'s end -- the tie `a.2 = b.2` fell into the partial-overlap test,
    see `overlaps_at_least_tie_regression` and Props/C11.lean `overlapsAtLeastBuggy_mirror_witness`.) -/
theorem overlaps_at_least_spec (a b : Iv) (d : Int) (ha : WF a) (hb : WF b) :
    overlaps_at_least a b d = true ↔
      (overlaps a b = true ∧ (intersection_len a b ≥ d ∨ contains b a = true ∨ contains a b = true)) := by
  unfold WF at *
  simp only [overlaps_at_least, overlaps, intersection_len, contains]
  have := ha; have := hb
  grind

/-- regression of the fixed tie: `a` inside `b` counts whichever end they share (pre-fix: sharing the *left* end
    counted, sharing the *right* end did not when `a` is shorter than the threshold; relevant to C11) -/
theorem overlaps_at_least_tie_regression :
    overlaps_at_least (1, 5) (1, 9) 10 = true ∧ overlaps_at_least (5, 9) (1, 9) 10 = true ∧
    overlaps_at_least (2, 4) (1, 9) 10 = true ∧ overlaps_at_least (5, 12) (1, 9) 10 = false := by
  decide

theorem overlaps_at_least_when_overlap_spec (a b : Iv) (d : Int) (ha : WF a) (hb : WF b)
    (hov : overlaps a b = true) :
    overlaps_at_least_when_overlap a b d = true ↔
      (intersection_len a b ≥ d ∨ contains b a = true ∨ contains a b = true) := by
  unfold WF at *
  simp only [overlaps_at_least_when_overlap, intersection_len, contains]
  simp [overlaps] at hov
  have := ha; have := hb
  grind

theorem cmp_spec (x y : Int) : (cmp x y = -1 ↔ x < y) ∧ (cmp x y = 0 ↔ x = y) ∧ (cmp x y = 1 ↔ x > y) := by
  simp only [cmp]; split
  · simp_all; omega
  · split <;> simp_all <;> omega

-- non-vacuity: the hypotheses are met by concrete intervals and the primitives compute
example : WF (3, 7) ∧ WF (7, 9) ∧ overlaps (3, 7) (7, 9) = true ∧ intersection_len (3, 7) (7, 9) = 1 := by
  unfold WF; decide

end IsoVerif.Props.C19
