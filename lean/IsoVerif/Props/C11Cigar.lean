/-
C11 — translation / reflection equivariance of the CIGAR walk (Model/Cigar.lean, property C16's model of
`get_read_blocks`, `correct_bam_coords`, `concat_gapless_blocks`, pysam's `get_blocks` / `reference_end`).

  translation : an alignment record whose `reference_start` is moved by k has its exons moved by k; the read-coordinate
                blocks and the CIGAR-index blocks do not change.
  reflection  : the reverse-complemented read aligned to the reverse-complemented chromosome of length L has the
                reversed CIGAR and starts at `L − s − refLen ops` (0-based); its exons are the mirror images of the
                exons (reversed order), its read blocks the mirror images in read coordinates (read length Q:
                `(a, b) ↦ (Q−1−b, Q−1−a)`, i.e. `mirrorL (Q − 2)`).

`get_read_blocks` tests `if current_ref_block_start:` by truthiness, so a block starting at reference coordinate 0 is
lost: the theorems about the loop need `0 ≤ reference_start` before and after the transformation (BAM positions are
≥ 0); `shift_truthiness_witness` shows the hypothesis is needed.  The specification (`exonsSpec`) is equivariant
without any hypothesis.
-/
import IsoVerif.Model.Cigar
import IsoVerif.Model.C11Symmetry
import IsoVerif.Lemmas.Cigar
import IsoVerif.Lemmas.C11Cigar
import IsoVerif.Props.C16

namespace IsoVerif.Props.C11Cigar
open IsoVerif.Gen IsoVerif.Model IsoVerif.Model.C11 IsoVerif.Model.C16 IsoVerif.Lemmas.C16 IsoVerif.Lemmas.C11
open IsoVerif.Props.C16

/-- the SAM-semantics exons move with the reference start (ALL CIGARs, all starts, all k) -/
theorem shift_equivariant_exonsSpec (s k : Int) (ops : List CigarOp) :
    exonsSpec (s + k) ops = shiftL k (exonsSpec s ops) := by
  rw [exonsSpec_eq_gen, exonsSpec_eq_gen]; exact genSpec_shift refLen s k ops

/-- **shift_equivariant_getReadBlocks** — `get_read_blocks(s + k, cigar)`: exons shifted by k, read blocks and
    CIGAR blocks unchanged, for every CIGAR with non-negative lengths and `0 ≤ s`, `0 ≤ s + k` -/
theorem shift_equivariant_getReadBlocks (s k : Int) (ops : List CigarOp) (hs : 0 ≤ s) (hsk : 0 ≤ s + k)
    (hn : NonNeg ops) :
    (getReadBlocks (s + k) ops).refBlocks = shiftL k (getReadBlocks s ops).refBlocks ∧
    (getReadBlocks (s + k) ops).readBlocks = (getReadBlocks s ops).readBlocks ∧
    (getReadBlocks (s + k) ops).cigarBlocks = (getReadBlocks s ops).cigarBlocks := by
  refine ⟨?_, ?_, ?_⟩
  · rw [read_blocks_spec _ _ hsk hn, read_blocks_spec _ _ hs hn]; exact shift_equivariant_exonsSpec s k ops
  · rw [read_blocks_query_spec _ _ hsk hn, read_blocks_query_spec _ _ hs hn]
  · rw [cigar_blocks_spec _ _ hsk hn, cigar_blocks_spec _ _ hs hn]

/-- non-vacuity: a spliced CIGAR with clips and indels, shifted by 256 -/
example : (getReadBlocks (99 + 256) [(.soft_clipping, 2), (.«match», 5), (.insertion, 2), (.skipped, 10), (.deletion, 1),
    (.seq_match, 3), (.soft_clipping, 4)]).refBlocks = shiftL 256 [(100, 104), (115, 118)] := by decide

/-- **shift_truthiness_witness** — without `0 ≤ s + k` the statement is false: shifting a record from
    `reference_start = 0` to `-1` loses every exon (the block start 0 is falsy) -/
theorem shift_truthiness_witness :
    (getReadBlocks 0 [(.«match», 5), (.skipped, 3), (.«match», 2)]).refBlocks = [(1, 5), (9, 10)] ∧
    (getReadBlocks (0 + (-1)) [(.«match», 5), (.skipped, 3), (.«match», 2)]).refBlocks = [] := by decide

theorem shift_equivariant_correctBamCoords (k : Int) (l : List Iv) :
    correctBamCoords (shiftL k l) = shiftL k (correctBamCoords l) := by
  simp only [correctBamCoords, shiftL, List.map_map]
  congr 1; funext x; simp only [Function.comp, shiftIv]; ext <;> simp <;> omega

/-- pysam's `get_blocks()` of the shifted record -/
theorem shift_equivariant_alignedBlocks (s k : Int) (ops : List CigarOp) :
    alignedBlocks (s + k) ops = shiftL k (alignedBlocks s ops) := by
  unfold alignedBlocks
  induction ops generalizing s with
  | nil => rfl
  | cons op rest ih =>
    simp only [alignedBlocksAux]
    split
    · have e : s + k + op.2 = (s + op.2) + k := by omega
      rw [e, ih, shiftL_cons]; simp only [shiftIv]
    · split
      · have e : s + k + op.2 = (s + op.2) + k := by omega
        rw [e, ih]
      · exact ih s

theorem shift_equivariant_referenceEnd (s k : Int) (ops : List CigarOp) :
    referenceEnd (s + k) ops = referenceEnd s ops + k := by
  simp only [referenceEnd]; split <;> omega

/-- `concat_gapless_blocks` on the shifted pysam blocks -/
theorem shift_equivariant_concatGaplessBlocks (k : Int) (blocks : List Iv) (ops : List CigarOp) :
    concatGaplessBlocks (shiftL k blocks) ops = shiftL k (concatGaplessBlocks blocks ops) := by
  have aux : ∀ (ops : List CigarOp) (cur : Option Iv) (d : Int) (res bs : List Iv),
      concatGaplessAux (cur.map (shiftIv k)) d (shiftL k res) ops (shiftL k bs) =
        ((concatGaplessAux cur d res ops bs).1 |> shiftL k, (concatGaplessAux cur d res ops bs).2.map (shiftIv k)) := by
    intro ops cur d res bs
    -- the new current block of the shifted run is the shifted new current block
    have e1 : ∀ (b : Iv) (d : Int), ((shiftIv k b).1 - d, (shiftIv k b).2) = shiftIv k (b.1 - d, b.2) := by
      intro b d; simp only [shiftIv]; congr 1; omega
    have e2 : ∀ (c : Iv) (x : Int), ((shiftIv k c).1, (shiftIv k c).2 + x) = shiftIv k (c.1, c.2 + x) := by
      intro c x; simp only [shiftIv]; congr 1; omega
    have e3 : ∀ c b : Iv, ((shiftIv k c).1, (shiftIv k b).2) = shiftIv k (c.1, b.2) := fun _ _ => rfl
    have hdel : CigarEvent.deletion.in_cigar_match_events = false := rfl
    -- one iteration of the shifted run is unfolded; the branch taken depends on the operation only
    fun_induction concatGaplessAux cur d res ops bs <;>
      simp only [shiftL_cons, shiftL_nil, shiftL_append, Option.map_some, Option.map_none] at * <;>
      rw [concatGaplessAux]
    case case3 => simp only [*, if_true]                                  -- no current block, match: a block starts
    case case4 => simp only [*, if_true, if_false, Bool.false_eq_true]  -- no current block, deletion: remembered
    case case5 => simp only [*, if_false, Bool.false_eq_true]           -- no current block, other operation: skipped
    case case6 => simp only [*, if_true]                                  -- skip: the current block is closed
    case case7 => simp only [*, if_true, if_false, reduceCtorEq]          -- deletion: the current block grows by it
    case case8 => simp only [*, if_true, if_false]                        -- match: the current block ends with `b`
    case case9 => simp only [*, if_false, Bool.false_eq_true]           -- other operation: skipped
  have h := aux ops none 0 [] blocks
  simp only [Option.map_none, shiftL_nil] at h
  unfold concatGaplessBlocks
  rw [h]
  cases h2 : concatGaplessAux none 0 [] ops blocks with
  | mk res cur =>
    cases cur with
    | none => simp
    | some c => simp [shiftL]

/-- the exons of the reversed CIGAR from the mirrored start are the mirrored exons (ALL CIGARs, no hypothesis) -/
theorem mirror_dual_exonsSpec (L s : Int) (ops : List CigarOp) :
    exonsSpec (L - s - refLen ops) ops.reverse = mirrorL L (exonsSpec s ops) := by
  rw [exonsSpec_eq_gen, exonsSpec_eq_gen]; exact genSpec_reverse refLen lenFn_refLen L s ops

/-- the read blocks of the reversed CIGAR are the read blocks mirrored within the read (length `queryLen ops`) -/
theorem mirror_dual_queryBlocksSpec (ops : List CigarOp) :
    queryBlocksSpec ops.reverse = mirrorL (queryLen ops - 2) (queryBlocksSpec ops) := by
  rw [queryBlocksSpec_eq_gen, queryBlocksSpec_eq_gen]
  have h := genSpec_reverse queryLen lenFn_queryLen (queryLen ops - 2) (-1) ops
  have e : queryLen ops - 2 - -1 - queryLen ops = -1 := by omega
  rw [e] at h; exact h

/-- **mirror_dual_getReadBlocks** — `get_read_blocks` of the reversed CIGAR from the mirrored start: mirrored exons in
    reversed order, read blocks mirrored within the read; for CIGARs with non-negative lengths and non-negative starts
    on both strands -/
theorem mirror_dual_getReadBlocks (L s : Int) (ops : List CigarOp) (hs : 0 ≤ s) (hm : 0 ≤ L - s - refLen ops)
    (hn : NonNeg ops) :
    (getReadBlocks (L - s - refLen ops) ops.reverse).refBlocks = mirrorL L (getReadBlocks s ops).refBlocks ∧
    (getReadBlocks (L - s - refLen ops) ops.reverse).readBlocks =
      mirrorL (queryLen ops - 2) (getReadBlocks s ops).readBlocks := by
  have hr := NonNeg_reverse hn
  refine ⟨?_, ?_⟩
  · rw [read_blocks_spec _ _ hm hr, read_blocks_spec _ _ hs hn]; exact mirror_dual_exonsSpec L s ops
  · rw [read_blocks_query_spec _ _ hm hr, read_blocks_query_spec _ _ hs hn]; exact mirror_dual_queryBlocksSpec ops

/-- non-vacuity: chromosome length 1000, read `2S 5M 2I 10N 1D 3= 4S` at 0-based start 99 (reference span 100–118) -/
example : (0 : Int) ≤ 99 ∧ (0 : Int) ≤ 1000 - 99 - refLen [(.soft_clipping, 2), (.«match», 5), (.insertion, 2), (.skipped, 10),
    (.deletion, 1), (.seq_match, 3), (.soft_clipping, 4)] := by decide

example : (getReadBlocks (1000 - 99 - 19) [(.soft_clipping, 4), (.seq_match, 3), (.deletion, 1), (.skipped, 10),
    (.insertion, 2), (.«match», 5), (.soft_clipping, 2)]).refBlocks = mirrorL 1000 [(100, 104), (115, 118)] := by decide

/-- **cigar_blocks_reverse_witness** — the CIGAR-index blocks are NOT mirror images: a block runs from the first
    `M/=/X/I/D` operation of its segment to the segment's LAST operation (a trailing `P`/`H` is included, a leading one is
    not).  `1M 1P 3N 1M` has blocks (0,1),(3,3); the reversed CIGAR has (0,0),(3,3), not the mirrored (0,0),(2,3). -/
theorem cigar_blocks_reverse_witness :
    (getReadBlocks 10 [(.«match», 1), (.padding, 1), (.skipped, 3), (.«match», 1)]).cigarBlocks = [(0, 1), (3, 3)] ∧
    (getReadBlocks 10 [(.«match», 1), (.skipped, 3), (.padding, 1), (.«match», 1)]).cigarBlocks = [(0, 0), (3, 3)] ∧
    mirrorL 2 [(0, 1), (3, 3)] = [(0, 0), (2, 3)] := by decide

end IsoVerif.Props.C11Cigar
