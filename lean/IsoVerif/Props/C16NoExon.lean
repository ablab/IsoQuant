/-
C16 — which records have no exon at all: exactly those whose CIGAR holds no aligned
operation (`M`, `=`, `X`).  `process_genic / process_intergenic` skip such a record with the warning "Read … has no
aligned exons" (the guard `if not alignment_info.read_exons`); `20I`, `30S`, `5S3D4I` are such records.
-/
import IsoVerif.Props.C16
import IsoVerif.Lemmas.Cigar

namespace IsoVerif.Props.C16NoExon
open IsoVerif.Gen IsoVerif.Model IsoVerif.Model.C16 IsoVerif.Lemmas.C16 IsoVerif.Props.C16

/-- **no_exon_iff**: for every CIGAR (all nine operation kinds, lengths ≥ 0) on a record with `reference_start ≥ 0`,
    `get_read_blocks` returns no exon ⇔ the CIGAR contains no aligned operation (`M`, `=`, `X`) – exactly the records
    the collector drops with "has no aligned exons"; every other record has at least one exon -/
theorem no_exon_iff (s : Int) (ops : List CigarOp) (hs : 0 ≤ s) (hn : NonNeg ops) :
    (getReadBlocks s ops).refBlocks = [] ↔ ∀ o, o ∈ ops → isAligned o.1 = false := by
  rw [read_blocks_spec s ops hs hn, exonsSpec, List.filterMap_eq_nil_iff]
  constructor
  · intro h o ho
    cases ha : isAligned o.1 with
    | false => rfl
    | true =>
      have hsep : isSep o.1 = false := by
        obtain ⟨k, n⟩ := o
        cases k <;> simp [isAligned] at ha <;> rfl
      obtain ⟨c, hc, hoc⟩ := cutsAux_covers ops [] [] o (by simpa using ho) hsep
      have hcn := h c hc
      simp only [exonOf] at hcn
      split at hcn
      · cases hcn
      · rename_i hna
        exfalso; apply hna
        simp only [hasAligned, List.any_eq_true]
        exact ⟨o, hoc, ha⟩
  · intro h c hc
    simp only [exonOf]
    split
    · rename_i ha
      simp only [hasAligned, List.any_eq_true] at ha
      obtain ⟨o, hoc, hoa⟩ := ha
      have := cutsAux_sub ops [] [] c hc o hoc
      rw [h o (by simpa using this)] at hoa
      cases hoa
    · rfl

/-- lengths ≥ 0 are allowed: a `0M` is an aligned operation and gives the degenerate exon `(1101, 1100)` -/
example : (getReadBlocks 1100 [(.soft_clipping, 5), (.deletion, 3), (.insertion, 4)]).refBlocks = [] ∧
    (getReadBlocks 1100 [(.«match», 0), (.skipped, 300), (.«match», 90)]).refBlocks = [(1101, 1100), (1401, 1490)] := by
  decide

end IsoVerif.Props.C16NoExon
