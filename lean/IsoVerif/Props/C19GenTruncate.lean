/-
C19 — `truncate_read_to_polya` as REGENERATED FROM THE SOURCE on every run (`Gen/Loops.lean`, written by `harness/translate.py`).
Part 1: refinement `Gen.f args = Model.f args` for ALL inputs (no sortedness / well-formedness; error cases included; the
emitted fuel bounds suffice).  Part 2: the C19 theorems about the hand model restated over the generated definitions.
An edit of the Python loop re-generates `Gen.f` and re-opens these proofs.  Overview: Props/C19Gen.lean.
-/
import IsoVerif.Props.C19Lists
import IsoVerif.Lemmas.GenTruncate

namespace IsoVerif.Props.C19Gen
open IsoVerif.Gen IsoVerif.Model IsoVerif.Lemmas IsoVerif.Lemmas.GenLoops

/-! ## Part 1 — refinement: generated definition = hand model, for all inputs -/

/-- `truncate_read_to_polya`: the two index scans (downward with `break`, upward with `break`), the slice and the three
    `IndexError` sites equal the hand model on every input, both tails included -/
theorem truncate_read_to_polya_refines (exons : List Iv) (polya polyt : Int) :
    Gen.truncate_read_to_polya exons polya polyt = truncateReadToPolya exons polya polyt := by
  unfold truncate_read_to_polya truncateReadToPolya
  rw [pyIdx_neg_one]
  obtain ⟨rfl, -⟩ | ⟨f, t, hh, hl, -⟩ := head?_getLast?_cases exons
  · rfl
  simp only [hh, hl, pyLen]
  by_cases hpa : polya = -1
  · subst hpa
    have e1 : ((-1 : Int) != -1) = false := by decide
    have e2 : decide ((-1 : Int) ≠ -1) = false := by decide
    simp only [e1, e2, Bool.false_eq_true, if_false]
    rw [truncate_after1 exons f t hh hl _ _ _ _ (by omega)]
    unfold C11.truncTail
    simp only [eq_self, and_true]
    rfl
  · have h1 : (polya != -1) = true := by simpa using hpa
    simp only [hpa, h1, ne_eq, not_false_eq_true, decide_true, if_true, truncate_read_to_polya.fuel3]
    have := truncate_loop3 exons polya polyt (exons.length + 1) exons.length polya (by omega) (by omega)
    simp only [List.take_length] at this
    rw [this]
    have hb := endIndexLoop_le polya exons.reverse
    simp only [List.length_reverse] at hb
    rw [truncate_after1 exons f t hh hl _ _ _ _ (by omega)]
    rfl

/-- the emitted fuel bounds (shown sufficient by the refinement theorem above) -/
theorem fuel_bounds_truncate (l : List Iv) (a t : Int) :
    truncate_read_to_polya.fuel3 l a t = l.length + 1 ∧ truncate_read_to_polya.fuel2 l a t = l.length + 1 := ⟨rfl, rfl⟩

/-! ## Part 2 — theorems over the generated definitions -/

/-- truncation at a polyA position `P` with `P − 1` a read position: exactly the read positions `≤ P` plus `P` -/
theorem truncate_polya_spec (exons : List Iv) (f t : Iv) (P : Int) (h : SD exons) (w : WFl exons)
    (hf : exons.head? = some f) (ht : exons.getLast? = some t) (hP : P ≠ -1) (hin : cov exons (P - 1)) :
    ∃ res, Gen.truncate_read_to_polya exons P (-1) = some res ∧ SD res ∧ WFl res ∧
      res.head?.map (·.1) = some f.1 ∧ res.getLast?.map (·.2) = some P ∧
      ∀ p, cov res p ↔ (p ≤ P ∧ cov exons p) ∨ p = P := by
  rw [truncate_read_to_polya_refines]; exact C19Lists.truncate_polya_spec exons f t P h w hf ht hP hin

theorem truncate_polyt_spec (exons : List Iv) (f t : Iv) (T : Int) (h : SD exons) (w : WFl exons)
    (hf : exons.head? = some f) (ht : exons.getLast? = some t) (hT : T ≠ -1) (hin : cov exons (T + 1)) :
    ∃ res, Gen.truncate_read_to_polya exons (-1) T = some res ∧ SD res ∧ WFl res ∧
      res.head?.map (·.1) = some T ∧ res.getLast?.map (·.2) = some t.2 ∧
      ∀ p, cov res p ↔ (T ≤ p ∧ cov exons p) ∨ p = T := by
  rw [truncate_read_to_polya_refines]; exact C19Lists.truncate_polyt_spec exons f t T h w hf ht hT hin

theorem truncate_identity (exons : List Iv) (hne : exons ≠ []) :
    Gen.truncate_read_to_polya exons (-1) (-1) = some exons := by
  rw [truncate_read_to_polya_refines]; exact C19Lists.truncate_identity exons hne

example : SD [(1, 5), (10, 12), (20, 30)] ∧ WFl [(1, 5), (10, 12), (20, 30)] ∧ cov [(1, 5), (10, 12), (20, 30)] (11 - 1) ∧
    Gen.truncate_read_to_polya [(1, 5), (10, 12), (20, 30)] 11 (-1) = some [(1, 5), (10, 11)] ∧
    cov [(1, 5), (10, 12), (20, 30)] (11 + 1) ∧
    Gen.truncate_read_to_polya [(1, 5), (10, 12), (20, 30)] (-1) 11 = some [(11, 12), (20, 30)] := by
  refine ⟨by decide, by decide, ⟨(10, 12), by simp, by decide, by decide⟩, by decide +kernel,
    ⟨(10, 12), by simp, by decide, by decide⟩, by decide +kernel⟩

end IsoVerif.Props.C19Gen
