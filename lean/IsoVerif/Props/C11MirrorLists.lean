/-
C11 — the reflection theorems of Model/Interval.lean + Model/Profiles.lean that need a specification of the function
and are not in Props/C11Mirror.lean / Props/C11Profiles.lean (relations `M.merge_ranges`, `M.split_exons`, `M.truncate_read_to_polya`,
`M.isoform_profile`), for ALL chromosome lengths `L : Int`:

  merge_ranges             self-dual on sorted disjoint well-formed lists (`SD`, `WFl`); via a complete specification
                           (`cov` + `lnk`: which neighbouring positions share a block) that determines the result
  GeneInfo.split_exons     self-dual (`SplitExonsMirror` of Props/C11Profiles.lean, proved as stated: well-formed exons,
                           no border on the sentinel −1); via C19's atom specification read symmetrically
  truncate_read_to_polya   polyA ↔ polyT swap, for ALL well-formed lists (sorted or not), one or both tails, as long as
                           each scan finds an exon and the two tails are not crossed; three witnesses show that each
                           hypothesis is needed (the start loop is bounded by end_index, the end loop is not; index −1 wraps)
  FeatureProfiles.set_profiles   profile reversed, range (n − e, n − s), for the two comparators the pipeline passes, in
                           the domain in which it calls them; witnesses for a transcript feature that is not a known feature
-/
import IsoVerif.Gen.Prims
import IsoVerif.Model.Interval
import IsoVerif.Model.Profiles
import IsoVerif.Model.C11Symmetry
import IsoVerif.Lemmas.C11MirrorMerge
import IsoVerif.Lemmas.C11MirrorSplit
import IsoVerif.Lemmas.C11MirrorTruncate
import IsoVerif.Lemmas.C11MirrorProfiles
import IsoVerif.Props.C19Split
import IsoVerif.Props.C11Profiles

namespace IsoVerif.Props.C11MirrorLists
open IsoVerif.Gen IsoVerif.Model IsoVerif.Model.C11 IsoVerif.Lemmas IsoVerif.Lemmas.C11 IsoVerif.Lemmas.C11.Lists

/-- complete specification of `merge_ranges` (sharpens C19's `merge_cov` + `merge_sorted`): the result is sorted,
    disjoint, well formed, covers the union, and two neighbouring positions `p`, `p + 1` lie in one result block iff they
    lie in one input block — touching blocks are NOT fused, overlapping ones are -/
theorem merge_ranges_complete_spec (l1 l2 : List Iv) (h1 : SD l1) (h2 : SD l2) (w1 : WFl l1) (w2 : WFl l2)
    (hne : l1 ≠ [] ∨ l2 ≠ []) :
    ∃ res, mergeRanges l1 l2 = some res ∧ SD res ∧ WFl res ∧
      (∀ p, cov res p ↔ cov l1 p ∨ cov l2 p) ∧ (∀ p, lnk res p ↔ lnk l1 p ∨ lnk l2 p) :=
  mergeRanges_spec l1 l2 h1 h2 w1 w2 hne

/-- the specification determines the list: sorted disjoint well-formed lists with the same covered positions and the
    same linked neighbours are equal -/
theorem sorted_disjoint_ext (l1 l2 : List Iv) (h1 : SD l1) (h2 : SD l2) (w1 : WFl l1) (w2 : WFl l2)
    (hc : ∀ p, cov l1 p ↔ cov l2 p) (hl : ∀ p, lnk l1 p ↔ lnk l2 p) : l1 = l2 :=
  SD_ext l1 l2 h1 h2 w1 w2 hc hl

/-- covering the same positions is not enough: touching blocks are kept apart by `lnk` -/
example : (∀ p, cov [(1, 2), (3, 4)] p ↔ cov [(1, 4)] p) ∧ lnk [(1, 4)] 2 ∧ ¬ lnk [(1, 2), (3, 4)] 2 := by
  refine ⟨fun p => ?_, ?_, ?_⟩
  · simp only [cov, List.mem_cons, List.not_mem_nil, or_false, exists_eq_or_imp, exists_eq_left]; omega
  · simp only [lnk, List.mem_cons, List.not_mem_nil, or_false, exists_eq_left]; omega
  · simp only [lnk, List.mem_cons, List.not_mem_nil, or_false, exists_eq_or_imp, exists_eq_left]; omega

/-- the union of the mirrored block lists is the mirrored union (the assertion error on two empty lists included) -/
theorem mirror_dual_mergeRanges (L : Int) (l1 l2 : List Iv) (h1 : SD l1) (h2 : SD l2) (w1 : WFl l1) (w2 : WFl l2) :
    mergeRanges (mirrorL L l1) (mirrorL L l2) = (mergeRanges l1 l2).map (mirrorL L) := by
  by_cases hne : l1 ≠ [] ∨ l2 ≠ []
  · obtain ⟨res, hres, hsd, hwf, hc, hl⟩ := mergeRanges_spec l1 l2 h1 h2 w1 w2 hne
    have hne' : mirrorL L l1 ≠ [] ∨ mirrorL L l2 ≠ [] := by
      rcases hne with h | h
      · left; intro e; apply h; have := congrArg List.length e; rw [mirrorL_length] at this; exact List.length_eq_zero_iff.mp this
      · right; intro e; apply h; have := congrArg List.length e; rw [mirrorL_length] at this; exact List.length_eq_zero_iff.mp this
    obtain ⟨res', hres', hsd', hwf', hc', hl'⟩ := mergeRanges_spec (mirrorL L l1) (mirrorL L l2)
      (SD_mirror L l1 h1) (SD_mirror L l2 h2) (WFl_mirror L l1 w1) (WFl_mirror L l2 w2) hne'
    rw [hres, hres', Option.map_some]
    congr 1
    apply SD_ext _ _ hsd' (SD_mirror L res hsd) hwf' (WFl_mirror L res hwf)
    · intro p; rw [hc' p, cov_mirrorL, cov_mirrorL, cov_mirrorL, hc]
    · intro p; rw [hl' p, lnk_mirrorL, lnk_mirrorL, lnk_mirrorL, hl]
  · have e1 : l1 = [] := Classical.byContradiction (fun h => hne (Or.inl h))
    have e2 : l2 = [] := Classical.byContradiction (fun h => hne (Or.inr h))
    subst e1; subst e2
    simp only [mirrorL_nil, mergeRanges_nil_nil, Option.map_none]

example : SD [(1, 5), (10, 12), (13, 14)] ∧ SD [(4, 11), (20, 21)] ∧ WFl [(1, 5), (10, 12), (13, 14)] ∧ WFl [(4, 11), (20, 21)] ∧
    ([((1 : Int), (5 : Int)), (10, 12), (13, 14)] ≠ [] ∨ [((4 : Int), (11 : Int)), (20, 21)] ≠ []) ∧
    mergeRanges (mirrorL 30 [(1, 5), (10, 12), (13, 14)]) (mirrorL 30 [(4, 11), (20, 21)])
      = some (mirrorL 30 [(1, 12), (13, 14), (20, 21)]) := by
  refine ⟨by decide, by decide, by decide, by decide, Or.inl (by simp), by decide +kernel⟩

/-- sortedness is needed: on an unsorted list the sweep meets the blocks in a different order from the other end -/
theorem merge_mirror_unsorted_witness :
    mergeRanges (mirrorL 20 [(5, 6), (1, 2)]) (mirrorL 20 [(3, 4)]) ≠ (mergeRanges [(5, 6), (1, 2)] [(3, 4)]).map (mirrorL 20) := by
  decide +kernel

/-- disjointness is needed: two overlapping blocks of ONE list are fused from one end only -/
theorem merge_mirror_overlapping_witness :
    mergeRanges (mirrorL 20 [(1, 5), (3, 8)]) (mirrorL 20 [(2, 4)]) ≠ (mergeRanges [(1, 5), (3, 8)] [(2, 4)]).map (mirrorL 20) := by
  decide +kernel

/-- reflection inside C19's domain (coordinates ≥ 0 on both sides) -/
theorem mirror_dual_splitExons_nonneg (L : Int) (exons : List Iv) (w : WFl exons)
    (hpos : ∀ e ∈ exons, 0 ≤ e.1) (hL : ∀ e ∈ exons, e.2 ≤ L + 1) :
    splitExons (mirrorL L exons) = (splitExons exons).map (mirrorL L) := by
  obtain ⟨blocks, hres, hsd, hwf, hc, hn, he⟩ := C19Split.split_exons_spec exons w hpos
  have hpos' : ∀ e ∈ mirrorL L exons, 0 ≤ e.1 := by
    intro e he'
    obtain ⟨x, hx, rfl⟩ := (mem_mirrorL' L exons e).mp he'
    have := hL x hx
    simp only [mirrorIv_fst]; omega
  obtain ⟨blocks', hres', hsd', hwf', hc', hn', he'⟩ :=
    C19Split.split_exons_spec (mirrorL L exons) (WFl_mirror L exons w) hpos'
  rw [hres, hres', Option.map_some,
    atoms_mirror_unique L exons blocks blocks' w ⟨hsd, hwf, hc, hn, he⟩ ⟨hsd', hwf', hc', hn', he'⟩]

/-- `SplitExonsMirror` (Props/C11Profiles.lean) holds as stated: the split exons of the mirrored exons are the
    mirrored split exons, for well-formed exons whose borders (and mirrored borders) avoid the sentinel −1; negative
    coordinates are reduced to C19's domain by the translation theorem -/
theorem mirror_dual_splitExons : C11Profiles.SplitExonsMirror := by
  intro L exons hw hs
  obtain ⟨k, hk0, hk⟩ := exists_shift_nonneg exons
  obtain ⟨j, hj0, hj⟩ := exists_shift_nonneg (mirrorL L exons)
  have hsE : ∀ e ∈ exons, e.1 ≠ -1 ∧ e.2 + 1 ≠ -1 := fun e he => hs e (List.mem_append_left _ he)
  have hsM : ∀ e ∈ mirrorL L exons, e.1 ≠ -1 ∧ e.2 + 1 ≠ -1 := fun e he => hs e (List.mem_append_right _ he)
  have hwM : ∀ e ∈ mirrorL L exons, e.1 ≤ e.2 := WFl_mirror L exons hw
  have hwk : WFl (shiftL k exons) := by
    intro e he
    obtain ⟨x, hx, rfl⟩ := (mem_shiftL k exons e).mp he
    have := hw x hx
    simp only [shiftIv_fst, shiftIv_snd]; omega
  have hposk : ∀ e ∈ shiftL k exons, 0 ≤ e.1 := by
    intro e he
    obtain ⟨x, hx, rfl⟩ := (mem_shiftL k exons e).mp he
    exact hk x hx
  have hLk : ∀ e ∈ shiftL k exons, e.2 ≤ L + k + j + 1 := by
    intro e he
    obtain ⟨x, hx, rfl⟩ := (mem_shiftL k exons e).mp he
    have := hj (mirrorIv L x) ((mem_mirrorL L x exons).mpr hx)
    simp only [mirrorIv_fst] at this
    simp only [shiftIv_snd]; omega
  have key := mirror_dual_splitExons_nonneg (L + k + j) (shiftL k exons) hwk hposk hLk
  rw [mirrorL_shiftL,
    C11Profiles.shift_equivariant_splitExons j (mirrorL L exons) hwM
      (fun e he => ⟨(hsM e he).1, by have := hj e he; omega, (hsM e he).2, by have := hj e he; have := hwM e he; omega⟩),
    C11Profiles.shift_equivariant_splitExons k exons hw
      (fun e he => ⟨(hsE e he).1, by have := hk e he; omega, (hsE e he).2, by have := hk e he; have := hw e he; omega⟩),
    Option.map_map] at key
  -- cancel the translation by j
  have key2 := congrArg (Option.map (shiftL (-j))) key
  rw [Option.map_map, Option.map_map] at key2
  have c1 : (shiftL (-j) ∘ shiftL j) = id := by
    funext x; simp only [Function.comp, shiftL_shiftL]
    have : j + -j = 0 := by omega
    rw [this, shiftL_zero]; rfl
  have c2 : (shiftL (-j) ∘ (mirrorL (L + k + j) ∘ shiftL k)) = mirrorL L := by
    funext x; simp only [Function.comp, mirrorL_shiftL, shiftL_shiftL]
    have : j + -j = 0 := by omega
    rw [this, shiftL_zero]
  rw [c1, c2, Option.map_id] at key2
  exact key2

example : (∀ e ∈ [((1 : Int), (3 : Int)), (2, 5)], e.1 ≤ e.2) ∧
    (∀ e ∈ [((1 : Int), (3 : Int)), (2, 5)], 0 ≤ e.1) ∧ (∀ e ∈ [((1 : Int), (3 : Int)), (2, 5)], e.2 ≤ 9 + 1) ∧
    (∀ e ∈ [((1 : Int), (3 : Int)), (2, 5)] ++ mirrorL 9 [(1, 3), (2, 5)], e.1 ≠ -1 ∧ e.2 + 1 ≠ -1) ∧
    splitExons (mirrorL 9 [(1, 3), (2, 5)]) = some (mirrorL 9 [(1, 1), (2, 3), (4, 5)]) := by
  refine ⟨by decide, by decide, by decide, by decide, by decide +kernel⟩

/-- negative coordinates on both sides (outside C19's domain, inside `SplitExonsMirror`) -/
example : (∀ e ∈ [((-30 : Int), (-20 : Int)), (-25, -10)] ++ mirrorL (-50) [(-30, -20), (-25, -10)], e.1 ≠ -1 ∧ e.2 + 1 ≠ -1) ∧
    splitExons (mirrorL (-50) [(-30, -20), (-25, -10)]) = some (mirrorL (-50) [(-30, -26), (-25, -20), (-19, -10)]) := by
  refine ⟨by decide, by decide +kernel⟩

/-- the sentinel hypothesis is needed: a mirrored exon start on −1 is taken for "border unset" and the block (−1, 1)
    is lost (a chromosome shorter than an exon end + 2: not a genome) -/
theorem split_exons_mirror_sentinel_witness :
    splitExons (mirrorL 4 [(1, 3), (2, 6)]) ≠ (splitExons [(1, 3), (2, 6)]).map (mirrorL 4) := by
  decide +kernel

/-- cutting the mirrored read at the mirrored tails (polyA and polyT swapped) gives the mirrored cut read, for every
    well-formed exon list (sorted or not) when
      * a polyA position lies behind the start of some exon, a polyT position before the end of some exon
        (for a sorted list: `first start < polyA`, `polyT < last end` — the tail is not outside the read),
      * a tail position is not mirrored onto the sentinel −1,
      * with both tails, polyT lies before polyA -/
theorem mirror_dual_truncateReadToPolya (L : Int) (exons : List Iv) (pa pt : Int) (w : WFl exons)
    (hA : pa ≠ -1 → (∃ e ∈ exons, e.1 < pa) ∧ L + 1 - pa ≠ -1)
    (hT : pt ≠ -1 → (∃ e ∈ exons, pt < e.2) ∧ L + 1 - pt ≠ -1)
    (hX : pa ≠ -1 → pt ≠ -1 → pt < pa) :
    truncateReadToPolya (mirrorL L exons) (mirrorPos L pt) (mirrorPos L pa)
      = (truncateReadToPolya exons pa pt).map (mirrorL L) :=
  truncateReadToPolya_mirror L exons pa pt w hA hT hX

example : WFl [(1, 5), (10, 12), (20, 30)] ∧ (∃ e ∈ [((1 : Int), (5 : Int)), (10, 12), (20, 30)], e.1 < 25) ∧
    (∃ e ∈ [((1 : Int), (5 : Int)), (10, 12), (20, 30)], 3 < e.2) ∧
    truncateReadToPolya (mirrorL 40 [(1, 5), (10, 12), (20, 30)]) (mirrorPos 40 3) (mirrorPos 40 25)
      = some (mirrorL 40 [(3, 5), (10, 12), (20, 25)]) := by
  refine ⟨by decide, ⟨(1, 5), by simp, by decide⟩, ⟨(1, 5), by simp, by decide⟩, by decide⟩

/-- the empty read raises on both sides -/
example : truncateReadToPolya (mirrorL 40 []) (mirrorPos 40 3) (mirrorPos 40 25) = none ∧
    (truncateReadToPolya [] 25 3).map (mirrorL 40) = none := by decide

/-- a polyA position at or before the first base: the code reads `read_exons[-1]` through Python's negative index and
    returns an unsorted list, while the mirrored call (polyT behind the last base: start index = len) raises IndexError -/
theorem truncate_mirror_tail_outside_witness :
    truncateReadToPolya (mirrorL 40 [(1, 5), (10, 12), (20, 30)]) (mirrorPos 40 (-1)) (mirrorPos 40 1) = none ∧
    (truncateReadToPolya [(1, 5), (10, 12), (20, 30)] 1 (-1)).map (mirrorL 40) = some [(40, 21), (29, 31), (36, 40)] := by
  decide

/-- crossed tails (polyA before polyT): the start loop is bounded by `end_index`, the end loop is not bounded by
    `start_index`, so the two calls pick different exons -/
theorem truncate_mirror_crossed_tails_witness :
    truncateReadToPolya (mirrorL 40 [(1, 5), (10, 12), (20, 30)]) (mirrorPos 40 12) (mirrorPos 40 10)
      ≠ (truncateReadToPolya [(1, 5), (10, 12), (20, 30)] 10 12).map (mirrorL 40) := by
  decide

/-- a tail position mirrored ONTO the sentinel is read as "no tail" -/
theorem truncate_mirror_sentinel_witness :
    truncateReadToPolya (mirrorL 10 [(1, 5), (8, 20)]) (mirrorPos 10 (-1)) (mirrorPos 10 12)
      ≠ (truncateReadToPolya [(1, 5), (8, 20)] 12 (-1)).map (mirrorL 10) := by
  decide

/-- well-formedness is needed (only to keep the two scans from crossing): an exon with start > end between the tails -/
theorem truncate_mirror_malformed_witness :
    truncateReadToPolya (mirrorL 40 [(1, 2), (10, 5), (20, 30)]) (mirrorPos 40 6) (mirrorPos 40 8)
      ≠ (truncateReadToPolya [(1, 2), (10, 5), (20, 30)] 8 6).map (mirrorL 40) := by
  decide

/-- declarative value of the sweep for the exact comparator: a known feature is marked iff it is a transcript feature
    (sharpens C19's `isoform_profile_sound` + `isoform_profile_complete`; needs only order compatibility) -/
theorem set_profiles_marks_equal (features tf : List Iv) (hsub : tf.Sublist features) (hnd : features.Nodup) :
    markLoop (fun a b => equal_ranges a b 0) tf features false = features.map (fun k => decide (k ∈ tf)) :=
  markLoop_eq_spec tf features false (by simpa using hsub) hnd (by simp)

/-- declarative value of the sweep for the containment comparator (split-exon profile): a block is marked iff some
    transcript exon contains it -/
theorem set_profiles_marks_contains (features tf : List Iv) (hK : SD features) (wK : WFl features) (hT : SD tf)
    (hM : ∀ g ∈ tf, ∃ k ∈ features, contains g k = true) :
    markLoop (fun a b => contains a b) tf features false = features.map (fun k => tf.any (fun f => contains f k)) := by
  have wT : WFl tf := by
    intro g hg
    obtain ⟨k, hk, hgk⟩ := hM g hg
    have := wK k hk
    simp only [contains, Bool.and_eq_true, decide_eq_true_eq] at hgk; omega
  exact markLoop_contains_spec tf features false hK wK hT wT (by simpa using hM) (by simp)

/-- intron / exon profiles (`equal_ranges · · 0`): the transcript's features are a sub-list (same order) of the
    duplicate-free known features — as `sorted(set(…))` of all transcripts' features yields them; nested known features
    are allowed.  The profile of the mirrored call is the reversed profile, the range `(s, e)` becomes `(n − e, n − s)` -/
theorem mirror_dual_setProfiles_equal (L : Int) (features tf : List Iv) (region : Iv)
    (hsub : tf.Sublist features) (hnd : features.Nodup) :
    setProfiles (mirrorL L features) (mirrorL L tf) (mirrorIv L region) (fun a b => equal_ranges a b 0) =
      let r := setProfiles features tf region (fun a b => equal_ranges a b 0)
      (r.1.reverse, ((r.1.length : Int) - r.2.2, (r.1.length : Int) - r.2.1)) := by
  apply setProfiles_mirror_of_marks
  have hsub' : (mirrorL L tf).Sublist (mirrorL L features) := by
    simp only [mirrorL]; exact (hsub.map _).reverse
  have hnd' : (mirrorL L features).Nodup := by
    simp only [mirrorL, List.Nodup, List.pairwise_reverse, List.pairwise_map]
    exact hnd.imp (fun {a b} hab e => hab (mirrorIv_injective L e).symm)
  rw [set_profiles_marks_equal _ _ hsub' hnd', set_profiles_marks_equal _ _ hsub hnd]
  simp only [mirrorL, List.map_reverse, List.map_map]
  congr 2; funext k
  simp only [Function.comp]
  have := mem_mirrorL L k tf
  simp only [mirrorL] at this
  exact decide_eq_decide.mpr this

/-- split-exon profile (`contains`): known features = sorted disjoint blocks, transcript exons sorted disjoint, every
    exon holds at least one block (true of `split_exons` blocks by C19's `split_exons_spec`) -/
theorem mirror_dual_setProfiles_contains (L : Int) (features tf : List Iv) (region : Iv)
    (hK : SD features) (wK : WFl features) (hT : SD tf) (hM : ∀ g ∈ tf, ∃ k ∈ features, contains g k = true) :
    setProfiles (mirrorL L features) (mirrorL L tf) (mirrorIv L region) (fun a b => contains a b) =
      let r := setProfiles features tf region (fun a b => contains a b)
      (r.1.reverse, ((r.1.length : Int) - r.2.2, (r.1.length : Int) - r.2.1)) := by
  apply setProfiles_mirror_of_marks
  have hc := IsoVerif.Props.C11.mirror_dual_contains L
  have hM' : ∀ g ∈ mirrorL L tf, ∃ k ∈ mirrorL L features, contains g k = true := by
    intro g hg
    obtain ⟨x, hx, rfl⟩ := (mem_mirrorL' L tf g).mp hg
    obtain ⟨k, hk, hxk⟩ := hM x hx
    exact ⟨mirrorIv L k, (mem_mirrorL L k features).mpr hk, by rw [hc]; exact hxk⟩
  rw [set_profiles_marks_contains _ _ (SD_mirror L features hK) (WFl_mirror L features wK) (SD_mirror L tf hT) hM',
    set_profiles_marks_contains _ _ hK wK hT hM]
  simp only [mirrorL, List.map_reverse, List.map_map, List.any_reverse, List.any_map]
  congr 2; funext k
  have e : ((fun f => contains f (mirrorIv L k)) ∘ mirrorIv L) = fun f => contains f k := by
    funext f; simp only [Function.comp, hc]
  simp only [Function.comp, e]

/-- the three isoform profiles the pipeline builds (`GeneInfo.set_junction_profiles`): introns and exons by equality,
    split exons by containment -/
theorem mirror_dual_isoform_profiles (L : Int) (introns tIntrons exons tExons blocks : List Iv) (region : Iv)
    (hi : tIntrons.Sublist introns) (ni : introns.Nodup) (he : tExons.Sublist exons) (ne : exons.Nodup)
    (hK : SD blocks) (wK : WFl blocks) (hT : SD tExons) (hM : ∀ g ∈ tExons, ∃ k ∈ blocks, contains g k = true) :
    (setProfiles (mirrorL L introns) (mirrorL L tIntrons) (mirrorIv L region) (fun a b => equal_ranges a b 0) =
      let r := setProfiles introns tIntrons region (fun a b => equal_ranges a b 0)
      (r.1.reverse, ((r.1.length : Int) - r.2.2, (r.1.length : Int) - r.2.1))) ∧
    (setProfiles (mirrorL L exons) (mirrorL L tExons) (mirrorIv L region) (fun a b => equal_ranges a b 0) =
      let r := setProfiles exons tExons region (fun a b => equal_ranges a b 0)
      (r.1.reverse, ((r.1.length : Int) - r.2.2, (r.1.length : Int) - r.2.1))) ∧
    (setProfiles (mirrorL L blocks) (mirrorL L tExons) (mirrorIv L region) (fun a b => contains a b) =
      let r := setProfiles blocks tExons region (fun a b => contains a b)
      (r.1.reverse, ((r.1.length : Int) - r.2.2, (r.1.length : Int) - r.2.1))) :=
  ⟨mirror_dual_setProfiles_equal L introns tIntrons region hi ni,
   mirror_dual_setProfiles_equal L exons tExons region he ne,
   mirror_dual_setProfiles_contains L blocks tExons region hK wK hT hM⟩

-- non-vacuity: nested known exons, a transcript using two of them; blocks of two exons
example : [((1 : Int), (2 : Int)), (4, 5)].Sublist [(1, 2), (1, 5), (4, 5), (7, 9)] ∧
    [((1 : Int), (2 : Int)), (1, 5), (4, 5), (7, 9)].Nodup ∧
    setProfiles (mirrorL 12 [(1, 2), (1, 5), (4, 5), (7, 9)]) (mirrorL 12 [(1, 2), (4, 5)]) (mirrorIv 12 (1, 5))
      (fun a b => equal_ranges a b 0) = ([-2, 1, -1, 1], (1, 4)) ∧
    setProfiles [(1, 2), (1, 5), (4, 5), (7, 9)] [(1, 2), (4, 5)] (1, 5) (fun a b => equal_ranges a b 0)
      = ([1, -1, 1, -2], (0, 3)) := by
  refine ⟨by decide, by decide, by decide +kernel, by decide +kernel⟩

example : SD [(1, 1), (2, 3), (4, 5), (8, 9)] ∧ SD [(2, 5), (8, 9)] ∧
    (∀ g ∈ [((2 : Int), (5 : Int)), (8, 9)], ∃ k ∈ [((1 : Int), (1 : Int)), (2, 3), (4, 5), (8, 9)], contains g k = true) ∧
    setProfiles (mirrorL 12 [(1, 1), (2, 3), (4, 5), (8, 9)]) (mirrorL 12 [(2, 5), (8, 9)]) (mirrorIv 12 (2, 9))
      (fun a b => contains a b) = ([1, 1, 1, -2], (0, 3)) := by
  refine ⟨by decide, by decide, by decide, by decide +kernel⟩

/-- the sub-list hypothesis is needed: a transcript feature that is not a known feature makes the sweep run to the
    end of the list, which hides the features behind it in one direction and those before it in the other -/
theorem set_profiles_mirror_missing_feature_witness :
    setProfiles (mirrorL 10 [(5, 6)]) (mirrorL 10 [(1, 2), (5, 6)]) (mirrorIv 10 (1, 6)) (fun a b => equal_ranges a b 0) ≠
      (let r := setProfiles [(5, 6)] [(1, 2), (5, 6)] (1, 6) (fun a b => equal_ranges a b 0)
       (r.1.reverse, ((r.1.length : Int) - r.2.2, (r.1.length : Int) - r.2.1))) := by
  decide +kernel

/-- duplicate-freeness is needed (for an unsorted feature list): the sweep marks the first copy only -/
theorem set_profiles_mirror_duplicate_witness :
    setProfiles (mirrorL 10 [(1, 2), (3, 4), (1, 2)]) (mirrorL 10 [(1, 2)]) (mirrorIv 10 (1, 2)) (fun a b => equal_ranges a b 0) ≠
      (let r := setProfiles [(1, 2), (3, 4), (1, 2)] [(1, 2)] (1, 2) (fun a b => equal_ranges a b 0)
       (r.1.reverse, ((r.1.length : Int) - r.2.2, (r.1.length : Int) - r.2.1))) := by
  decide +kernel

/-- containment comparator: an exon that holds no block hides the blocks of the later exons -/
theorem set_profiles_mirror_empty_exon_witness :
    setProfiles (mirrorL 10 [(5, 6)]) (mirrorL 10 [(1, 2), (5, 6)]) (mirrorIv 10 (1, 6)) (fun a b => contains a b) ≠
      (let r := setProfiles [(5, 6)] [(1, 2), (5, 6)] (1, 6) (fun a b => contains a b)
       (r.1.reverse, ((r.1.length : Int) - r.2.2, (r.1.length : Int) - r.2.1))) := by
  decide +kernel

end IsoVerif.Props.C11MirrorLists
