/-
C01 (converse and forward clauses) — what can be said, for ALL inputs, about reads that are far from every isoform and
about reads that pass the profile tests for an isoform T; the `_partial` theorems say exactly which step is carried by the
oracle, the `_witness` theorems replay concrete inputs (also replayed on the real code by the harness).
-/
import IsoVerif.Props.C01Path
import IsoVerif.Lemmas.C01Inconsistent
import IsoVerif.Lemmas.C01Forward

namespace IsoVerif.Props.C01Far
open IsoVerif.Gen IsoVerif.Model IsoVerif.Model.C01 IsoVerif.Lemmas IsoVerif.Lemmas.C01 IsoVerif.Props.C01
open IsoVerif.Props.C01Path

/-- a read that is structurally compatible with NO annotated isoform never gets its assignment from the consistent path:
    whatever type it gets is decided by `match_inconsistent` (or it is unassigned) -/
theorem incompatible_never_consistent_path (ms : List Isoform) (p : Params) (blocks : List Iv) (pa : PolyA)
    (cj : Nat → Option (List Event)) (g : Gene) (rp : ReadProf) (a : Assignment) (path : Path)
    (hwf : WellFormed ms) (hg : Gene.fromModels ms = some g) (hrp : constructProfiles g p blocks pa = some rp)
    (hpa : PolyAOutside blocks pa)
    (hnone : ∀ I ∈ g.isos, ¬ Compatible p blocks I)
    (h : assignToIsoform g p rp cj = some (a, path)) : path ≠ .consistent := by
  intro e
  subst e
  obtain ⟨_, hne, hall⟩ := assign_consistent_path_sound ms p blocks pa cj g rp a hwf hg hrp hpa h
  cases hm : a.isoMatches with
  | nil => exact hne hm
  | cons m _ =>
    obtain ⟨I, hI, _, hc⟩ := hall m (by rw [hm]; simp)
    exact hnone I hI hc

/-- a read intron with no annotated intron within δ (a novel / far splice junction) is never marked 1, so the read is
    sent straight to `match_inconsistent` (or is unassigned): neither the consistent path nor its fall-back is taken -/
theorem far_intron_goes_inconsistent (p : Params) (blocks : List Iv) (pa : PolyA)
    (cj : Nat → Option (List Event)) (g : Gene) (rp : ReadProf) (a : Assignment) (path : Path)
    (hrp : constructProfiles g p blocks pa = some rp)
    (r : Iv) (hr : r ∈ junctionsFromBlocks blocks) (hfar : ∀ k ∈ g.introns, equal_ranges r k p.delta = false)
    (h : assignToIsoform g p rp cj = some (a, path)) :
    path = .intergenic ∨ path = .noninformative ∨ (path = .inconsistent ∧ matchInconsistent g p rp cj = some a) := by
  have spec := (constructProfiles_of g p blocks pa rp hrp).intron
  have hcons : dispatch g rp ≠ .consistent := by
    intro hd
    have hones := dispatch_consistent_read_ones g rp hd spec.dom
    obtain ⟨j, hj⟩ := List.mem_iff_getElem?.mp hr
    have hjl : j < rp.intron.read.length := by rw [spec.rlen]; exact getElem?_lt hj
    have hv : rp.intron.read[j]? = some 1 := by
      have : rp.intron.read[j]? = some rp.intron.read[j] := by simp [hjl]
      rw [this, hones _ (List.getElem_mem hjl)]
    obtain ⟨_, k, hk, hcmp, _⟩ := spec.read_one j r hj hv
    rw [hfar k (List.mem_of_getElem? hk)] at hcmp; cases hcmp
  rcases path_of_dispatch g p rp cj a path h with ⟨hp, _⟩ | ⟨hp, _⟩ | ⟨hp, _, hm⟩ | ⟨_, hd, _⟩ | ⟨_, hd, _⟩
  · exact .inl hp
  · exact .inr (.inl hp)
  · exact .inr (.inr ⟨hp, hm⟩)
  · exact absurd hd hcons
  · exact absurd hd hcons

/-- `far_never_consistent_partial`.  FULL statement (not provable in this cone, and FALSE of the real code on the class
    `terminal_exon_misalignment_far`, see `far_consistent_witness`):
      a read with a splice junction far from every annotated junction is never reported unique / unique_minor_difference /
      ambiguous.
    PROVED part: such a read is classified by `match_inconsistent`; its type is `classify_assignment` of the events of the
    selected isoforms, so (by `classify_consistent_iff`) it is consistent ONLY IF none of those events — the comparator's events
    for the selected isoforms, plus elongation events, after polyA verification — is a major inconsistency.
    MISSING here (the comparator is an input): that `JunctionComparator.compare_junctions` emits a major-inconsistency
    event for every isoform whenever the read has a far junction.  With the comparator modelled this is
    `C01Converse.far_intron_major_event`, for junctions outside the tolerance classes (`far_never_consistent` there). -/
theorem far_never_consistent_partial (p : Params) (blocks : List Iv) (pa : PolyA)
    (cj : Nat → Option (List Event)) (g : Gene) (rp : ReadProf) (a : Assignment) (path : Path)
    (hrp : constructProfiles g p blocks pa = some rp)
    (r : Iv) (hr : r ∈ junctionsFromBlocks blocks) (hfar : ∀ k ∈ g.introns, equal_ranges r k p.delta = false)
    (h : assignToIsoform g p rp cj = some (a, path)) (hcons : a.ty.is_consistent = true) :
    path = .inconsistent ∧
    ∃ best : List (IsoInfo × List Event), best ≠ [] ∧ a.ty = classifyAssignment (best.map (·.2)) ∧
      (∀ Ie ∈ best, Ie.1 ∈ g.isos ∧ SelectedEvents g p rp cj Ie) ∧
      (∀ Ie ∈ best, ∀ e ∈ Ie.2, e.ty.is_major_inconsistency = false) := by
  have hty : ∀ {t : ReadAssignmentType}, a.ty = t → t.is_consistent = false → False := fun e ht => by
    rw [e, ht] at hcons; cases hcons
  rcases far_intron_goes_inconsistent p blocks pa cj g rp a path hrp r hr hfar h with hp | hp | ⟨hp, hmi⟩
  · rcases path_of_dispatch g p rp cj a path h with ⟨_, _, ht⟩ | ⟨hq, _⟩ | ⟨hq, _⟩ | ⟨hq, _⟩ | ⟨hq, _⟩
    · exact (hty ht (by decide)).elim
    all_goals rw [hp] at hq; cases hq
  · rcases path_of_dispatch g p rp cj a path h with ⟨hq, _⟩ | ⟨_, _, ht⟩ | ⟨hq, _⟩ | ⟨hq, _⟩ | ⟨hq, _⟩
    · rw [hp] at hq; cases hq
    · exact (hty ht (by decide)).elim
    all_goals rw [hp] at hq; cases hq
  · refine ⟨hp, ?_⟩
    rcases matchInconsistent_spec g p rp cj a hmi with hni | ⟨best, hne, hty, hsel⟩
    · rw [hni] at hcons; exact absurd hcons (by decide)
    · refine ⟨best, hne, hty, hsel, ?_⟩
      rw [hty] at hcons
      unfold classifyAssignment at hcons
      have := ((classify_consistent_iff _ _).mp hcons).1
      intro Ie hIe e he
      apply this
      simp only [List.mem_flatMap, List.mem_map]
      exact ⟨Ie.2, ⟨Ie, hIe, rfl⟩, e, he, rfl⟩

/-- `follow_exact_partial`.  FULL statement (DESIGN §7 `follow_exact`): a read that is a contiguous sub-chain of T with
    ends inside T's exons reaches `match_consistent`, gets a consistent type and T is reported.
    PROVED part (profile level, for all inputs): if the read is on the consistent branch and T passes the three tests of
    `match_consistent` (contains the read ± min_abs_exon_overlap, shares a split exon with it, intron profile equal in
    the read's range), then T is among the candidate isoforms, and the assignment is produced either by the consistent
    path or — only when `check_read_ends` / polyA verification raise a major event for a selected isoform — by its
    fall-back to `match_inconsistent`.
    MISSING here: the geometric-to-profile direction (a sub-chain read yields all-1 read profiles and a gene profile equal
    to T's in range), i.e. completeness of the two profile sweeps: Props/C01Follow.lean (`follow_exact_profiles`), which
    discharges `hdisp`, `h1`–`h3` from `FollowHyp` (`follow_exact_assigned_partial`). -/
theorem follow_exact_partial (g : Gene) (p : Params) (rp : ReadProf) (cj : Nat → Option (List Event)) (a : Assignment)
    (path : Path) (T : IsoInfo) (hT : T ∈ g.isos) (hdisp : dispatch g rp = .consistent)
    (h1 : contains_approx T.region rp.region p.min_abs_exon_overlap = true)
    (h2 : hasOverlappingFeatures T.splitProf rp.split.gene (overlap_intervals rp.split.range T.splitRange) = some true)
    (h3 : equalProfilesInRange T.intronProf rp.intron.gene rp.intron.range = some true)
    (h : assignToIsoform g p rp cj = some (a, path)) :
    (∃ cons, consistentIsoforms g p rp = some (some cons) ∧ T ∈ cons) ∧
    ((path = .consistent ∧ a.ty.is_consistent = true) ∨ path = .fallback) := by
  have h4 := path_of_consistent hdisp h
  have hcons_ex : ∃ r, consistentIsoforms g p rp = some r := by
    rcases h4 with ⟨_, hmc⟩ | ⟨_, hmc, _⟩ <;>
    · unfold matchConsistent at hmc
      cases hc : consistentIsoforms g p rp with
      | none => simp [hc] at hmc
      | some r => exact ⟨r, rfl⟩
  obtain ⟨r, hr⟩ := hcons_ex
  obtain ⟨l, hl, hTl⟩ := consistentIsoforms_complete g p rp r hr T hT h1 h2 h3
  subst hl
  refine ⟨⟨l, hr, hTl⟩, ?_⟩
  rcases h4 with ⟨hp, hmc⟩ | ⟨hp, _, _⟩
  · exact .inl ⟨hp, matchConsistent_ty g p rp a hmc⟩
  · right; exact hp

/-- forward direction, intron half (`exact_introns_marked`): a read all of whose introns ARE annotated introns (exact
    sub-chain case, any annotation, δ ≥ 0, read introns longer than δ) gets every read intron marked 1 — the read is never
    sent to `match_inconsistent` because of a "novel" intron.  (The split-exon half of the dispatch and the equality of
    the gene profile with T's: Props/C01Follow.lean.) -/
theorem exact_introns_marked (ms : List Isoform) (p : Params) (blocks : List Iv) (pa : PolyA) (g : Gene) (rp : ReadProf)
    (hg : Gene.fromModels ms = some g) (hrp : constructProfiles g p blocks pa = some rp)
    (hδ : 0 ≤ p.delta) (hsd : SD blocks) (hwf : WFl blocks)
    (hlong : ∀ r ∈ junctionsFromBlocks blocks, p.delta ≤ r.2 - r.1)
    (hex : ∀ r ∈ junctionsFromBlocks blocks, r ∈ g.introns) :
    rp.intron.read.length = (junctionsFromBlocks blocks).length ∧ ∀ v ∈ rp.intron.read, v = 1 := by
  obtain ⟨_, _, _, _, hprof, spec⟩ := constructProfiles_of g p blocks pa rp hrp
  refine ⟨spec.rlen, ?_⟩
  intro v hv
  obtain ⟨j, hj⟩ := List.mem_iff_getElem?.mp hv
  have hjl : j < (junctionsFromBlocks blocks).length := by rw [← spec.rlen]; exact getElem?_lt hj
  have hr : (junctionsFromBlocks blocks)[j]? = some (junctionsFromBlocks blocks)[j] := by simp [hjl]
  have hmem := List.getElem_mem hjl
  obtain ⟨hK, _, _⟩ := fromModels_spec ms g hg
  obtain ⟨hsdj, hwfj⟩ := junctions_SD_WFl blocks hsd hwf
  have h1 := constructOverlapping_exact_marked g.introns (g.start, g.stop)
    (fun a b => overlaps_at_least a b p.minimal_intron_absence_overlap) p.delta (junctionsFromBlocks blocks)
    rp.region pa.extA pa.extT hδ (by rw [hK]; exact LexSorted_sortDedupIv _) hsdj hwfj j _ hr (hex _ hmem)
  rw [← hprof, hj] at h1
  exact Option.some.inj h1

/-- `full_length_reported` (DESIGN `resolution_keeps_fl`): on the consistent path, a candidate T is REPORTED whenever it
    survives the two refinements of `match_consistent`: its split-exon profile equals the read's in range (needed only for
    spliced reads with several candidates), and its nucleotide score is at least 2/3 of every other candidate's and at
    least −1/2 (a full-length read of T has Jaccard ≥ 2/3 with T as soon as 3·|r∩T| ≥ 2·|r∪T|, and no flanking bases) -/
theorem full_length_reported (g : Gene) (p : Params) (rp : ReadProf) (a : Assignment) (cons : List IsoInfo)
    (T : IsoInfo) (sT : Rat)
    (hmc : matchConsistent g p rp = some (some a)) (hcons : consistentIsoforms g p rp = some (some cons)) (hT : T ∈ cons)
    (hsplit : rp.intron.read.isEmpty = false →
      equalProfilesInRange T.splitProf rp.split.gene rp.split.range = some true)
    (hs : jaccardScore p rp T = some sT)
    (hbest : ∀ I ∈ cons, ∀ s, jaccardScore p rp I = some s → s ≤ sT * topScoredFactor) (hmin : minimalScore ≤ sT) :
    ∃ m ∈ a.isoMatches, m.iso = some T.id := by
  obtain ⟨cons', matched, hcons', hsel, _, _, _, _, _, hrep⟩ := matchConsistent_spec g p rp a hmc
  rw [hcons] at hcons'
  have e : cons' = cons := by
    have := Option.some.inj hcons'; exact (Option.some.inj this).symm
  subst e
  apply hrep
  split at hsel
  · rename_i hsp
    have hne : rp.intron.read.isEmpty = false := by simpa using hsp
    exact selectSpliced_keeps p rp cons' matched T sT hsel hT (hsplit hne) hs hbest hmin
  · exact selectUnspliced_keeps p rp cons' matched T sT hsel hT hs hbest hmin

/-! ### concrete instances (non-vacuity; also replayed on the real code by the harness) -/

/-- the `default` preset; `C01Converse.exP`, `C01Polya.exP`, `C01Follow.fxParams` are the same record (`rfl`) -/
def exParams : Params :=
  { delta := 6, minor_exon_extension := 50, major_exon_extension := 300, min_abs_exon_overlap := 10, apa_delta := 50,
    minimal_exon_overlap := 5, minimal_intron_absence_overlap := 20, max_fake_terminal_exon_len := 40,
    max_missed_exon_len := 100, resolve_ambiguous := .monoexon_and_fsm }

def exAnnotation : List Isoform :=
  [⟨[(100, 200), (300, 400), (500, 600)], .plus⟩, ⟨[(100, 200), (500, 600)], .plus⟩]

def view (r : Option (Assignment × Path)) : Option (ReadAssignmentType × List (Option Nat) × Path) :=
  r.map (fun r => (r.1.ty, r.1.isoMatches.map (·.iso), r.2))

/-- a read following isoform 0 with ≤ δ jitter reaches the consistent path and is reported unique to isoform 0 (only
    isoform 0 has the middle exon); a read of isoform 1 likewise; a fragment of the shared first exon is ambiguous -/
example : view (assignRead exAnnotation exParams [(120, 203), (297, 400), (500, 580)] ⟨-1, -1, -1, -1⟩ (fun _ => none))
    = some (.unique, [some 0], .consistent) := by decide +kernel
example : view (assignRead exAnnotation exParams [(120, 200), (500, 580)] ⟨-1, -1, -1, -1⟩ (fun _ => none))
    = some (.unique, [some 1], .consistent) := by decide +kernel
example : view (assignRead exAnnotation exParams [(150, 200)] ⟨-1, -1, -1, -1⟩ (fun _ => none))
    = some (.ambiguous, [some 0, some 1], .consistent) := by decide +kernel
/-- polyA tail at the annotated 3' end -/
example : view (assignRead exAnnotation exParams [(120, 200), (300, 400), (500, 600)] ⟨601, -1, -1, -1⟩ (fun _ => none))
    = some (.unique, [some 0], .consistent) := by decide +kernel
/-- the hypotheses of `consistent_path_sound` are met by the first read -/
example : WellFormed exAnnotation ∧ PolyAOutside [(120, 203), (297, 400), (500, 580)] ⟨-1, -1, -1, -1⟩ := by
  refine ⟨?_, Or.inl rfl, Or.inl rfl⟩
  intro m hm
  simp [exAnnotation] at hm
  rcases hm with rfl | rfl <;> (constructor <;> simp [SD, WFl])
/-- a read with a novel junction goes to `match_inconsistent`; with the comparator's verdict `exon_skipping_novel` it
    is inconsistent (hypotheses of `far_never_consistent_partial`) -/
example : view (assignRead [⟨[(100, 200), (300, 400), (500, 600)], .plus⟩] exParams [(120, 200), (500, 580)]
      ⟨-1, -1, -1, -1⟩ (fun _ => some [{ ty := .exon_skipping_novel, isoRegion := (0, 1), readRegion := (0, 0) }]))
    = some (.inconsistent, [some 0], .inconsistent) := by decide +kernel

/-- the hypotheses of `exact_introns_marked` are met by the read of the first example with its splice sites made exact (the
    jittered read itself fails `hex`) -/
example : SD [(120, 200), (300, 400), (500, 580)] ∧ WFl [(120, 200), (300, 400), (500, 580)] ∧
    junctionsFromBlocks [(120, 200), (300, 400), (500, 580)] = [(201, 299), (401, 499)] := by
  refine ⟨by simp [SD], ?_, by decide⟩
  intro r hr; simp at hr; rcases hr with rfl | rfl | rfl <;> simp

/-- `far_consistent_witness` (known finding `terminal_exon_misalignment_far`): the annotation has the single isoform
    (1000-1200, 2000-2200, 3000-3300); the read's last exon lies 900 bp downstream (3900-4205).  The real comparator
    answers `terminal_exon_misalignment_right` (terminal exons of similar length); with that input the assigner reports
    unique_minor_difference — a consistent type for a read that is far from every isoform. -/
theorem far_consistent_witness :
    view (assignRead [⟨[(1000, 1200), (2000, 2200), (3000, 3300)], .plus⟩] exParams
      [(1000, 1200), (2000, 2200), (3900, 4205)] ⟨-1, -1, -1, -1⟩
      (fun _ => some [{ ty := .terminal_exon_misalignment_right, isoRegion := (1, 1), readRegion := (1, 1) }]))
    = some (.unique_minor_difference, [some 0], .inconsistent) ∧
    (∀ k ∈ junctionsFromBlocks [(1000, 1200), (2000, 2200), (3000, 3300)],
      equal_ranges (2201, 3899) k 100 = false) := by
  decide +kernel

end IsoVerif.Props.C01Far
