/-
C11 — translation equivariance of the intron collector / intron graph model (Model/IntronGraph.lean, C04), for ALL
inputs and ALL shifts `k : Int`; reflection where it is true.

Vertices are pairs.  Intron vertices `(start, end)` are shifted as intervals (`shiftIv k`); terminal vertices are
`(negative code, position)` and only their position is shifted (`shiftV k`, = `shiftIv k` on intron vertices).

* Everything that only sees introns — `collect_introns`, the similar-intron map, `cluster_introns`,
  `IntronCollector.process`, `simplify_correction_map`, `IntronGraph.construct`, `thread_introns` — commutes with
  `shiftIv k` with NO hypothesis (no sentinel, no coordinate-valued constant; `delta` / `min_count` are distances / counts).
* The graph operations that also see terminal vertices (`collapse`, `discard`, `attach…`, scoping by `isIntronVertex`) and
  `IntronPathStorage.fill` commute with `shiftV k` on states whose intron vertices stay intron vertices
  (`GoodV k v : 0 ≤ v.1 → 0 ≤ v.1 + k`; trivial for `0 ≤ k`, and in the pipeline intron starts are ≥ 1 before and after the
  shift).  `applyOp_kind_collision_witness` shows the hypothesis is needed: an intron `(0, 5)` shifted by −1 would be
  taken for the terminal vertex `(−1, 4)`.
* Reflection: the `add_edge` calls of a mirrored read are the mirrored calls in reverse order with the two ends swapped
  (outgoing ↔ incoming edges).  The collector itself is NOT mirror-dual: when an unannotated intron is similar to two
  clustered introns it is corrected to the maximum in `(start, end)` tuple order, whose mirror image is the `(end, start)`
  order — `collector_mirror_tie_witness`.
-/
import IsoVerif.Model.IntronGraph
import IsoVerif.Model.C11SymGraph
import IsoVerif.Lemmas.C11Graph

namespace IsoVerif.Props.C11Graph
open IsoVerif.Gen IsoVerif.Model IsoVerif.Model.C11 IsoVerif.Model.C04 IsoVerif.Lemmas.C11 IsoVerif.Lemmas.C11.GraphMap
open IsoVerif.Lemmas.MapComm

theorem shiftV_intron (k : Int) (v : Iv) (h : 0 ≤ v.1) : shiftV k v = shiftIv k v := by
  simp only [shiftV, h, if_true]

theorem shiftV_terminal (k : Int) (v : Iv) (h : v.1 < 0) : shiftV k v = (v.1, v.2 + k) := by
  have : ¬ 0 ≤ v.1 := by omega
  simp only [shiftV, this, if_false]

/-- insertion of bases (`0 ≤ k`) never changes the kind of a vertex -/
theorem goodV_of_insertion (k : Int) (hk : 0 ≤ k) (v : Iv) : GoodV k v := goodV_of_nonneg k hk v

theorem shiftV_inverse (k : Int) (v : Iv) (h : GoodV k v) : shiftV (-k) (shiftV k v) = v := shiftV_neg_shiftV k v h

example : GoodV (-255) (300, 420) ∧ shiftV (-255) (300, 420) = (45, 165) ∧
    shiftV (-255) (VERTEX_polya, 500) = (VERTEX_polya, 245) := by decide

/-! ## primitives on vertices -/

/-- tuple order of introns (`sorted`, `max`) -/
theorem shift_equivariant_ivLe (k : Int) (a b : Iv) : ivLe (shiftIv k a) (shiftIv k b) = ivLe a b :=
  shiftIv_lePres k a b

theorem shift_equivariant_sortIv (k : Int) (l : List Iv) : sortIv (shiftL k l) = shiftL k (sortIv l) :=
  sortIv_map (shiftIv k) (shiftIv_lePres k) l

theorem shift_equivariant_maxIv (k : Int) (l : List Iv) : maxIv? (shiftL k l) = (maxIv? l).map (shiftIv k) :=
  maxIv?_map (shiftIv k) (shiftIv_lePres k) l

/-- tuple order with terminal vertices: preserved by `shiftV k` for `0 ≤ k` (all vertices) … -/
theorem shift_equivariant_ivLe_vertices (k : Int) (hk : 0 ≤ k) (a b : Iv) : ivLe (shiftV k a) (shiftV k b) = ivLe a b :=
  shiftV_lePres k hk a b

example : (0 : Int) ≤ 255 := by decide

/-- … but not for `k < 0` when an intron vertex changes kind -/
theorem ivLe_kind_collision_witness : ¬ (∀ (k : Int) (a b : Iv), ivLe (shiftV k a) (shiftV k b) = ivLe a b) := by
  intro h
  exact absurd (h (-3) (-1, 7) (1, 5)) (by decide)

/-! ## IntronCollector (introns only: no hypothesis) -/

/-- `collect_introns`: same counts for the shifted introns -/
theorem shift_equivariant_collectIntrons (k : Int) (reads : List Read) :
    C04.collectIntrons (shiftReads k reads) = (C04.collectIntrons reads).map (mapKey (shiftIv k)) :=
  collectIntrons_map (shiftIv k) (shiftIv_injective k) k reads

theorem shift_equivariant_obsIntrons (k : Int) (reads : List Read) :
    obsIntrons (shiftReads k reads) = shiftL k (obsIntrons reads) :=
  obsIntrons_map (shiftIv k) k reads

/-- `construct_similar_intron_map`: the similar pairs are the shifted pairs (`delta` is a distance) -/
theorem shift_equivariant_simPairs (k : Int) (δ : Int) (l : List Iv) :
    simPairs δ (shiftL k l) = (simPairs δ l).map (mapPair (shiftIv k)) :=
  simPairs_map (shiftIv k) (shiftIv_diffPres k) δ l

theorem shift_equivariant_similarOf (k : Int) (pairs : List (Iv × Iv)) (x : Iv) :
    similarOf (pairs.map (mapPair (shiftIv k))) (shiftIv k x) = shiftL k (similarOf pairs x) :=
  similarOf_map (shiftIv k) (shiftIv_injective k) pairs x

/-- the processing order of `cluster_introns` (`sorted(..., reverse=True)` by (count, intron)) -/
theorem shift_equivariant_sortedByCount (k : Int) (all : List (Iv × Int)) :
    sortedByCount (all.map (mapKey (shiftIv k))) = (sortedByCount all).map (mapCI (shiftIv k)) :=
  sortedByCount_map (shiftIv k) (shiftIv_lePres k) all

/-- one iteration of `cluster_introns` -/
theorem shift_equivariant_clusterStep (k : Int) (pairs : List (Iv × Iv)) (minCount : Int) (c : Collector) (ci : Int × Iv) :
    clusterStep (pairs.map (mapPair (shiftIv k))) minCount (mapCollector (shiftIv k) c) (mapCI (shiftIv k) ci)
      = mapCollector (shiftIv k) (clusterStep pairs minCount c ci) :=
  clusterStep_map (shiftIv k) (shiftIv_injective k) (shiftIv_lePres k) pairs minCount c ci

/-- `cluster_introns` from any collector state -/
theorem shift_equivariant_clusterIntrons (k : Int) (c : Collector) (δ : Int) (all : List (Iv × Int)) (minCount : Int) :
    clusterIntrons (mapCollector (shiftIv k) c) δ (all.map (mapKey (shiftIv k))) minCount
      = mapCollector (shiftIv k) (clusterIntrons c δ all minCount) :=
  clusterIntrons_map (shiftIv k) (shiftIv_diffPres k) c δ all minCount

/-- `IntronCollector.process`: known, clustered (with counts), corrected and discarded introns are the shifted ones -/
theorem shift_equivariant_collectorProcess (k : Int) (known : List Iv) (δ : Int) (reads : List Read) (minCount : Int) :
    collectorProcess (shiftL k known) δ (shiftReads k reads) minCount
      = mapCollector (shiftIv k) (collectorProcess known δ reads minCount) :=
  collectorProcess_map (shiftIv k) (shiftIv_diffPres k) k known δ reads minCount

/-- a non-trivial instance: an unannotated intron similar to two annotated ones is corrected to the same one -/
example :
    (collectorProcess (shiftL 1000 [(10, 28), (12, 30)]) 2
        (shiftReads 1000 [⟨"r1", [(10, 28)], [], false, "+", false, false, ""⟩, ⟨"r2", [(12, 30)], [], false, "+", false, false, ""⟩,
                          ⟨"r3", [(11, 29)], [], false, "+", false, false, ""⟩]) 2).corr
      = [((1011, 1029), (1012, 1030))] := by decide

/-- `IntronCollector.substitute` -/
theorem shift_equivariant_substitute (k : Int) (c : Collector) (v : Iv) :
    (mapCollector (shiftIv k) c).substitute (shiftIv k v) = shiftIv k (c.substitute v) :=
  substitute_map (shiftIv k) (shiftIv_injective k) c v

/-- `simplify_correction_map` (chains followed, cycles = `none` ↦ `none`) -/
theorem shift_equivariant_simplifyCorrectionMap (k : Int) (c : Collector) :
    (mapCollector (shiftIv k) c).simplifyCorrectionMap = (c.simplifyCorrectionMap).map (mapCollector (shiftIv k)) :=
  simplifyCorrectionMap_map (shiftIv k) (shiftIv_injective k) (shiftIv_lePres k) c

/-! ## graph construction and path threading over introns (no hypothesis) -/

/-- the `add_edge` calls of `IntronGraph.construct` -/
theorem shift_equivariant_constructOps (k : Int) (col : Collector) (reads : List Read) :
    constructOps (mapCollector (shiftIv k) col) (shiftReads k reads) = (constructOps col reads).map (mapOp (shiftIv k)) :=
  constructOps_map (shiftIv k) (shiftIv_injective k) k col reads

/-- `IntronGraph.__init__` up to and including `construct()`: collector and both edge relations are the shifted ones -/
theorem shift_equivariant_constructed (k : Int) (known : List Iv) (δ : Int) (reads : List Read) (minCount : Int) :
    Graph.constructed (shiftL k known) δ (shiftReads k reads) minCount
      = (Graph.constructed known δ reads minCount).map (mapGraph (shiftIv k)) :=
  constructed_map (shiftIv k) (shiftIv_diffPres k) k known δ reads minCount

/-- `IntronPathProcessor.thread_introns` (`none` = a discarded intron ↦ `none`) -/
theorem shift_equivariant_threadIntrons (k : Int) (c : Collector) (l : List Iv) :
    threadIntrons (mapCollector (shiftIv k) c) (shiftL k l) = (threadIntrons c l).map (shiftL k) :=
  threadIntrons_map (shiftIv k) (shiftIv_injective k) c l

/-- every graph operation, on graphs whose vertices are all shifted as intervals (e.g. before terminal vertices are
    attached) -/
theorem shift_equivariant_applyOp_intervals (k : Int) (g : Graph) (op : Op) :
    applyOp (mapGraph (shiftIv k) g) (mapOp (shiftIv k) op) = (applyOp g op).map (mapGraph (shiftIv k)) :=
  applyOp_map (shiftIv k) (shiftIv_injective k) (shiftIv_lePres k) g op

/-! ## operations and histories with terminal vertices (`shiftV`) -/

/-- effect of one operation (`add_edge`, `collapse_vertex`, deletions, `discard`, `simplify_correction_map`,
    `attach_terminal_positions` …); `none` (the code raises) ↦ `none` -/
theorem shift_equivariant_applyOp (k : Int) (g : Graph) (op : Op) (hg : GoodG k g) (ho : GoodOp k op) :
    applyOp (mapGraph (shiftV k) g) (mapOp (shiftV k) op) = (applyOp g op).map (mapGraph (shiftV k)) :=
  commute_of_nonneg (X := Graph × Op) (Y := Graph)
    (fun k x => (mapGraph (shiftV k) x.1, mapOp (shiftV k) x.2)) (fun k => mapGraph (shiftV k))
    (fun x => applyOp x.1 x.2) (fun _ _ => True)
    (fun j hj x _ => applyOp_map (shiftV j) (shiftV_inj j hj) (shiftV_lePres j hj) x.1 x.2)
    (fun k hk y => mapGraph_shiftV_inv' k hk y) k (g, op) trivial (fun _ => trivial)
    (by simp only [mapGraph_shiftV_inv k g hg, mapOp_shiftV_inv k op ho])

/-- the hypotheses hold for a graph with a terminal vertex and a negative shift -/
example : GoodG (-255) ⟨⟨[(300, 400)], [((300, 400), 3)], [], []⟩, [((300, 400), (VERTEX_polya, 520))], []⟩ ∧
    GoodOp (-255) (.attachOut (300, 400) (VERTEX_read_end, 530)) := by decide

/-- without them the statement is false: the intron `(0, 5)` shifted by −1 collides with the terminal vertex `(−1, 5)`
    (both become `(−1, 4)`) -/
theorem applyOp_kind_collision_witness :
    ¬ (∀ (k : Int) (g : Graph) (op : Op),
        applyOp (mapGraph (shiftV k) g) (mapOp (shiftV k) op) = (applyOp g op).map (mapGraph (shiftV k))) := by
  intro h
  exact absurd (h (-1) ⟨⟨[], [], [], []⟩, [((0, 5), (3, 9)), ((-1, 5), (7, 7))], []⟩ (.delOut (0, 5))) (by decide)

/-- the scoping test of an operation (arguments are observed introns / vertices of the graph / terminal vertices) -/
theorem shift_equivariant_opScoped (k : Int) (obs : List Iv) (g : Graph) (op : Op)
    (hobs : ∀ v ∈ obs, GoodV k v) (hg : GoodG k g) (ho : GoodOp k op) :
    opScoped (obs.map (shiftV k)) (mapGraph (shiftV k) g) (mapOp (shiftV k) op) = opScoped obs g op := by
  have := commute_of_nonneg (X := List Iv × Graph × Op) (Y := Bool)
    (fun k x => (x.1.map (shiftV k), mapGraph (shiftV k) x.2.1, mapOp (shiftV k) x.2.2))
    (fun _ b => b)
    (fun x => some (opScoped x.1 x.2.1 x.2.2)) (fun _ _ => True)
    (fun j hj x _ => by
      simp only [Option.map_some, opScoped_map (shiftV j) (shiftV_inj j hj) (shiftV_kindPres j hj)])
    (fun _ _ _ => rfl) k (obs, g, op) trivial (fun _ => trivial)
    (by
      simp only [mapGraph_shiftV_inv k g hg, mapOp_shiftV_inv k op ho, List.map_map]
      rw [map_eq_self (shiftV (-k) ∘ shiftV k) obs (fun v hv => shiftV_neg_shiftV k v (hobs v hv))])
  simpa only [Option.map_some, Option.some.injEq] using this

example : (∀ v ∈ [((300, 400) : Iv)], GoodV (-255) v) ∧ GoodG (-255) ⟨⟨[], [((300, 400), 3)], [], []⟩, [], []⟩ ∧
    GoodOp (-255) (.attachInc (300, 400) (VERTEX_polyt, 280)) := by decide

/-- a history of operations (`simplify`, `attach_terminal_positions` are such histories) -/
theorem shift_equivariant_runOps (k : Int) (obs : List Iv) (g : Graph) (ops : List Op)
    (hobs : ∀ v ∈ obs, GoodV k v) (hg : GoodG k g) (ho : ∀ op ∈ ops, GoodOp k op) :
    runOps (obs.map (shiftV k)) (mapGraph (shiftV k) g) (ops.map (mapOp (shiftV k)))
      = (runOps obs g ops).map (mapGraph (shiftV k)) :=
  commute_of_nonneg (X := List Iv × Graph × List Op) (Y := Graph)
    (fun k x => (x.1.map (shiftV k), mapGraph (shiftV k) x.2.1, x.2.2.map (mapOp (shiftV k))))
    (fun k => mapGraph (shiftV k))
    (fun x => runOps x.1 x.2.1 x.2.2) (fun _ _ => True)
    (fun j hj x _ => runOps_map (shiftV j) (shiftV_inj j hj) (shiftV_lePres j hj) (shiftV_kindPres j hj) x.1 x.2.1 x.2.2)
    (fun k hk y => mapGraph_shiftV_inv' k hk y) k (obs, g, ops) trivial (fun _ => trivial)
    (by
      simp only [mapGraph_shiftV_inv k g hg, List.map_map]
      have h1 : obs.map (shiftV (-k) ∘ shiftV k) = obs := map_eq_self _ _ (fun v hv => shiftV_neg_shiftV k v (hobs v hv))
      have h2 : ops.map (mapOp (shiftV (-k)) ∘ mapOp (shiftV k)) = ops :=
        map_eq_self _ _ (fun op hop => mapOp_shiftV_inv k op (ho op hop))
      rw [h1, h2])

example : (∀ v ∈ [((300, 400) : Iv), (450, 500)], GoodV (-255) v) ∧
    (∀ op ∈ [Op.addEdge (300, 400) (450, 500), Op.attachOut (450, 500) (VERTEX_polya, 620)], GoodOp (-255) op) := by
  decide

/-! ## IntronPathStorage.fill

`thread_ends` / `thread_starts` are parameters of the model; the hypothesis says that the functions used on the shifted
graph (`p'`) answer, for the shifted intron and read end, with the shifted vertex (`ParamsRel`).  This is what the
real `thread_ends` / `thread_starts` do: they search the vertices attached to the intron within fixed distances of the
read end (checked on the real code by C11's oracle `thread_case`). -/

/-- the path of one read and its full-length flag (`none` = the read is skipped / `IndexError` ↦ `none`) — all `k` -/
theorem shift_equivariant_readPath (k : Int) (p p' : ThreadParams) (hp : ParamsRel (shiftV k) k p p')
    (hgp : GoodParams k p) (g : Graph) (a : Read) (hg : GoodG k g) (hr : ∀ v ∈ a.introns, GoodV k v) :
    readPath (mapGraph (shiftV k) g) p' (mapRead (shiftV k) k a) = (readPath g p a).map (mapPath (shiftV k)) :=
  -- the two thread functions change sides with the shift
  commute_of_nonneg (X := ThreadParams × ThreadParams × Graph × Read) (Y := List Iv × Bool)
    (fun k x => (x.2.1, x.1, mapGraph (shiftV k) x.2.2.1, mapRead (shiftV k) k x.2.2.2)) (fun k => mapPath (shiftV k))
    (fun x => readPath x.2.2.1 x.1 x.2.2.2) (fun j x => ParamsRel (shiftV j) j x.1 x.2.1)
    (fun j hj x hx => readPath_map (shiftV j) (shiftV_inj j hj) (shiftV_codePres j hj) j x.1 x.2.1 hx x.2.2.1 x.2.2.2)
    (fun k hk y => mapPath_inv' k hk y) k (p, p', g, a) hp (fun hk => paramsRel_inv k hk p p' hp hgp)
    (by simp only [mapGraph_shiftV_inv k g hg, mapRead_inv k a hr])

/-- `IntronPathStorage.fill`: paths with counts, full-length paths, reads per path — all `k` -/
theorem shift_equivariant_fillPaths (k : Int) (p p' : ThreadParams) (hp : ParamsRel (shiftV k) k p p')
    (hgp : GoodParams k p) (g : Graph) (reads : List Read) (hg : GoodG k g)
    (hr : ∀ r ∈ reads, ∀ v ∈ r.introns, GoodV k v) :
    fillPaths (mapGraph (shiftV k) g) p' (reads.map (mapRead (shiftV k) k))
      = mapStore (shiftV k) k (fillPaths g p reads) := by
  have := commute_of_nonneg (X := ThreadParams × ThreadParams × Graph × List Read) (Y := PathStore)
    (fun k x => (x.2.1, x.1, mapGraph (shiftV k) x.2.2.1, x.2.2.2.map (mapRead (shiftV k) k))) (fun k => mapStore (shiftV k) k)
    (fun x => some (fillPaths x.2.2.1 x.1 x.2.2.2)) (fun j x => ParamsRel (shiftV j) j x.1 x.2.1)
    (fun j hj x hx => congrArg some
      (fillPaths_map (shiftV j) (shiftV_inj j hj) (shiftV_codePres j hj) j x.1 x.2.1 hx x.2.2.1 x.2.2.2))
    (fun k hk y => mapStore_inv' k hk y) k (p, p', g, reads) hp (fun hk => paramsRel_inv k hk p p' hp hgp)
    (by simp only [mapGraph_shiftV_inv k g hg, List.map_map,
          map_eq_self (mapRead (shiftV (-k)) (-k) ∘ mapRead (shiftV k) k) reads (fun r hr' => mapRead_inv k r (hr r hr'))])
  exact Option.some.inj this

/-- the hypotheses on the thread functions are satisfiable for every `k`: a polyA vertex 5 bases behind the read end,
    a read-start vertex at the read start -/
example (k : Int) :
    let p : ThreadParams := ⟨fun _ e _ => some (VERTEX_polya, e + 5), fun _ s _ => some (VERTEX_read_start, s), true⟩
    ParamsRel (shiftV k) k p p ∧ GoodParams k p := by
  intro p
  refine ⟨⟨?_, ?_, rfl⟩, ?_, ?_⟩
  · intro i e t
    simp only [p, Option.map_some, Option.some.injEq]
    rw [shiftV_terminal k _ (show VERTEX_polya < 0 by decide)]
    ext <;> dsimp only <;> omega
  · intro i s t
    simp only [p, Option.map_some, Option.some.injEq]
    rw [shiftV_terminal k _ (show VERTEX_read_start < 0 by decide)]
  · intro i e t v h
    simp only [p, Option.some.injEq] at h
    subst h
    intro h0
    exact absurd h0 (show ¬ 0 ≤ VERTEX_polya by decide)
  · intro i s t v h
    simp only [p, Option.some.injEq] at h
    subst h
    intro h0
    exact absurd h0 (show ¬ 0 ≤ VERTEX_read_start by decide)

/-! ## reflection -/

/-- the `add_edge` calls of the mirrored read are the mirrored calls, in reverse order, ends swapped -/
theorem mirror_dual_readEdgeOps (L : Int) (l : List Iv) :
    readEdgeOps (mirrorL L l) = ((readEdgeOps l).map (mirrorOp L)).reverse := by
  induction l with
  | nil => rfl
  | cons x t ih =>
    rw [mirrorL_cons, readEdgeOps_snoc, ih, mirrorL_getLast?]
    cases t with
    | nil => rfl
    | cons y t' =>
      simp only [List.head?_cons, Option.map_some, readEdgeOps, List.map_cons, List.reverse_cons, mirrorOp]

/-- `add_edge` on the mirrored graph (outgoing ↔ incoming edge sets) -/
theorem mirror_dual_addEdge (L : Int) (g : Graph) (v1 v2 : Iv) :
    applyOp (mirrorGraph L g) (mirrorOp L (.addEdge v1 v2)) = (applyOp g (.addEdge v1 v2)).map (mirrorGraph L) := by
  simp only [mirrorOp, applyOp, addEdge_mirror, Option.map_some]

/-- `collect_introns` counts occurrences in the non-multimapper reads (declarative form used for the reflection) -/
theorem collectIntrons_counts (reads : List Read) (x : Iv) :
    cnt (C04.collectIntrons reads) x = ((obsIntrons reads).count x : Int) :=
  IsoVerif.Lemmas.C04.cnt_collectIntrons reads x

/-- reflection of `collect_introns`: every mirrored intron is counted as often as the intron (the dict is insertion
    ordered, so only the counts — not the list — are mirror images) -/
theorem mirror_dual_collectIntrons_counts (L : Int) (reads : List Read) (x : Iv) :
    cnt (C04.collectIntrons (reads.map (mirrorRead L))) (mirrorIv L x) = cnt (C04.collectIntrons reads) x := by
  rw [IsoVerif.Lemmas.C04.cnt_collectIntrons, IsoVerif.Lemmas.C04.cnt_collectIntrons, count_obsIntrons_mirror]

example : cnt (C04.collectIntrons ([⟨"r1", [(10, 28), (40, 60)], [], false, "+", false, false, ""⟩,
      ⟨"r2", [(40, 60)], [], false, "-", false, false, ""⟩].map (mirrorRead 100))) (mirrorIv 100 (40, 60)) = 2 := by decide

/-- `thread_introns` of the mirrored read on the mirrored collector: the mirrored path (`none` ↦ `none`) -/
theorem mirror_dual_threadIntrons (L : Int) (c : Collector) (l : List Iv) :
    threadIntrons (mapCollector (mirrorIv L) c) (mirrorL L l) = (threadIntrons c l).map (mirrorL L) := by
  unfold mirrorL
  rw [threadIntrons_reverse, threadIntrons_map (mirrorIv L) (mirrorIv_injective L), Option.map_map]
  rfl

/-- full-strength reflection statement of the collector: the correction of every intron is the mirrored correction -/
def CollectorMirror : Prop :=
  ∀ (L : Int) (known : List Iv) (δ : Int) (reads : List Read) (minCount : Int) (x : Iv),
    amGet? (collectorProcess (mirrorL L known) δ (reads.map (mirrorRead L)) minCount).corr (mirrorIv L x)
      = (amGet? (collectorProcess known δ reads minCount).corr x).map (mirrorIv L)

/-- it is false: `(11, 29)` is similar to the annotated `(10, 28)` and `(12, 30)`; the code corrects it to the maximum in
    `(start, end)` order — `(12, 30)` — and in the mirrored run to the mirror image of `(10, 28)` -/
theorem collector_mirror_tie_witness : ¬ CollectorMirror := by
  intro h
  exact absurd (h 100 [(10, 28), (12, 30)] 2
    [⟨"r1", [(10, 28)], [], false, "+", false, false, ""⟩, ⟨"r2", [(12, 30)], [], false, "+", false, false, ""⟩,
     ⟨"r3", [(11, 29)], [], false, "+", false, false, ""⟩] 2 (11, 29)) (by decide)

end IsoVerif.Props.C11Graph
