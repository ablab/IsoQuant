/-
C16 — what `PolyAFinder.find_polya_tail` / `find_polyt_head` (src/polya_finder.py) report; stated for the functions of
Model/PolyAFinder.lean, i.e. before the `P` repair of the projection and the repair of the head window (the current tree:
Props/C16FinderFix.lean, Props/C16FinderMirror.lean).

* `tail_scan_spec`: the query-level scan (window scan + "entire tail" fraction test) in terms of the first window of
  the checked sequence (soft-clipped + aligned end of the read) that reaches the A fraction;
* `find_polya_tail_spec` / `find_polyt_head_spec`: the reported reference position in terms of that query position and
  the base-by-base projection of Props/C16MoveRef.lean, with its range;
* `polya_position_in_range` / `polyt_position_in_range`: the position lies inside
  `[reference_start + 1, reference_end + clip]` (resp. `[reference_start − clip, reference_end − 1]`, clamped at 1),
  with the one corner (alignment ending in an insertion and no soft clip) kept visible as a witness;
* `polyt_polya_mirror_law`: on a tail both scans agree on, polyT(mirrored read) = mirror(polyA) − 2.
-/
import IsoVerif.Model.TailSpec
import IsoVerif.Lemmas.FinderWith
import IsoVerif.Props.C16MoveRef

namespace IsoVerif.Props.C16FinderSpec
open IsoVerif.Gen IsoVerif.Model IsoVerif.Model.C16 IsoVerif.Lemmas.C16

/-- **tail_scan_spec** — the query-level answer shared by both finders, for every checked sequence and every
    window `w ≥ 1`, threshold `c = ⌊w·num/den⌋`: a position `p` is reported iff there is a first window `[i, i+w)`
    ending strictly before the end of the checked sequence with at least `c` A's, `p` is `i` advanced to the first
    "AA" at or after `i`, and (internal finder, `check_entire_tail`) the whole rest of the checked sequence from `p`
    holds at least the fraction `num/den` of A's; otherwise nothing is reported. -/
theorem tail_scan_spec (w num den : Nat) (hw : 1 ≤ w) (chk : Bool) (region : List Bool) :
    match tailScan w num den chk region with
    | some p => ∃ i, FirstWindow region w (w * num / den) i ∧ p = i + (findAA (region.drop i)).getD 0 ∧
        p < region.length ∧
        (chk = true → (region.drop p).length * num ≤ countTrue (region.drop p) * den)
    | none => (∀ j, j + w < region.length → winCount region j w < w * num / den) ∨
        (chk = true ∧ ∃ i, FirstWindow region w (w * num / den) i ∧
          countTrue (region.drop (i + (findAA (region.drop i)).getD 0)) * den <
            (region.drop (i + (findAA (region.drop i)).getD 0)).length * num) :=
  tailScan_spec w num den chk region

/-- non-vacuity: 4 non-A bases, 20 A's: first window 0, advanced to the first "AA" at 4; the whole rest is A -/
example : tailScan 16 3 4 true ([false, false, false, false] ++ List.replicate 20 true) = some 4 := by decide
/-- the fraction test rejects a tail whose rest is A-poor: 14 A's followed by 20 non-A -/
example : tailScan 16 3 4 true (List.replicate 14 true ++ List.replicate 20 false) = none ∧
    tailScan 16 3 4 false (List.replicate 14 true ++ List.replicate 20 false) = some 0 := by decide

/-- **find_polya_tail_spec** — for every record (CIGAR over all nine kinds with lengths ≥ 0, non-empty sequence longer
    than the soft-clipped tail), every `from_pos`, `to_pos`, `check_entire_tail`:
    nothing found by the scan ⇒ −1; otherwise with `q` the query index of the first base of the tail:
    * `q` in the soft-clipped tail ⇒ `reference_end + (q − mapped end)` (extrapolated past the alignment);
    * `q` inside the aligned part ⇒ `reference_end − k` where `k` is the base-by-base projection, walking back from
      the alignment end, of the query base `mapped end − q` bases inside (that is the base just before the tail):
      the reported position is the 1-based reference coordinate of the base before the tail (of the nearest reference
      base to its right if that base is an insertion); it lies in `[reference_start + 1, reference_end + 1]`, and
      in `[reference_start + 1, reference_end]` unless the alignment ends (clips aside) with an insertion. -/
theorem find_polya_tail_spec (w num den : Nat) (s : Int) (cigar : List CigarOp) (seq : List Char)
    (fromPos toPos : Int) (chk : Bool) (hne : cigar ≠ []) (hseq : seq ≠ [])
    (hclip : softClipTail cigar < seq.length) (hnn : NonNeg cigar) :
    match tailScan w num den chk (regionA cigar seq fromPos toPos) with
    | none => findPolyaTail w num den s cigar seq fromPos toPos chk = some (-1)
    | some p =>
      startA cigar seq fromPos + p < seq.length ∧
      ((seq.length : Int) - softClipTail cigar ≤ startA cigar seq fromPos + p →
        findPolyaTail w num den s cigar seq fromPos toPos chk =
          some (referenceEnd s cigar + (startA cigar seq fromPos + p - ((seq.length : Int) - softClipTail cigar)))) ∧
      (startA cigar seq fromPos + p < (seq.length : Int) - softClipTail cigar →
        findPolyaTail w num den s cigar seq fromPos toPos chk =
          (moveRefCoord cigar (startA cigar seq fromPos + p - ((seq.length : Int) - softClipTail cigar))).map
            (referenceEnd s cigar - ·) ∧
        ∀ r, findPolyaTail w num den s cigar seq fromPos toPos chk = some r →
          ∃ k, ProjectsTo (expand (walkCore cigar false))
                ((seq.length : Int) - softClipTail cigar - (startA cigar seq fromPos + p)).toNat k ∧
            r = referenceEnd s cigar - k ∧ s + 1 ≤ r ∧ r ≤ referenceEnd s cigar + 1 ∧
            (WalkOnRef cigar false → r ≤ referenceEnd s cigar)) := by
  rw [findPolyaTail_eq_with, findPolyaTailWith_eq, scanThen_pass hne hseq hclip]
  cases hts : tailScan w num den chk (regionA cigar seq fromPos toPos) with
  | none => rfl
  | some p =>
    simp only
    refine ⟨(startA_add_lt w num den cigar seq fromPos toPos chk p hts).2, fun hge => ?_, fun hlt => ?_⟩
    · unfold tailPos; rw [if_pos hge]
    · have heq : tailPos moveRefCoord s cigar ((seq.length : Int) - softClipTail cigar) (startA cigar seq fromPos + p) =
          (moveRefCoord cigar (startA cigar seq fromPos + p - ((seq.length : Int) - softClipTail cigar))).map
            (referenceEnd s cigar - ·) := by
        unfold tailPos; rw [if_neg (by omega)]
      refine ⟨heq, fun r hr => ?_⟩
      obtain ⟨k, hk, rfl⟩ := Option.map_eq_some_iff.1 (heq ▸ hr)
      obtain ⟨h1, h2, h3, h4⟩ := moveRefCoord_some cigar _ k hnn (by omega) hk
      rw [decide_eq_false (by omega)] at h1 h4
      rw [show (startA cigar seq fromPos + p - ((seq.length : Int) - softClipTail cigar)).natAbs =
        ((seq.length : Int) - softClipTail cigar - (startA cigar seq fromPos + p)).toNat by omega] at h1
      obtain ⟨g1, g2⟩ := referenceEnd_ge s cigar hnn
      exact ⟨k, h1, rfl, by omega, by omega, fun hw' => by have := h4 hw'; omega⟩

/-- **find_polyt_head_spec** — mirror statement for the 5' side: nothing found ⇒ −1; otherwise with `q` the query
    index of the last base of the head (the scan runs on the reverse complement):
    * `q` in the soft-clipped head (or on the first aligned base) ⇒ `max 1 (reference_start − (mapped start − q))`;
    * `q` inside the aligned part ⇒ `max 1 (reference_start + k)` with `k` the base-by-base projection, walking from
      the alignment start, of the query base `q − mapped start` bases inside: the 0-based reference coordinate of the
      last base of the head (of the nearest reference base to its left if it is an insertion). -/
theorem find_polyt_head_spec (w num den : Nat) (s : Int) (cigar : List CigarOp) (seq : List Char)
    (fromPos toPos : Int) (chk : Bool) (hne : cigar ≠ []) (hseq : seq ≠ [])
    (hclip : softClipHead cigar < seq.length) (hnn : NonNeg cigar) :
    match tailScan w num den chk (regionT cigar seq fromPos toPos) with
    | none => findPolytHead w num den s cigar seq fromPos toPos chk = some (-1)
    | some p =>
      0 ≤ stopT cigar seq fromPos - p - 1 ∧
      (stopT cigar seq fromPos - p - 1 ≤ softClipHead cigar →
        findPolytHead w num den s cigar seq fromPos toPos chk =
          some (max 1 (s - (softClipHead cigar - (stopT cigar seq fromPos - p - 1))))) ∧
      (softClipHead cigar < stopT cigar seq fromPos - p - 1 →
        findPolytHead w num den s cigar seq fromPos toPos chk =
          (moveRefCoord cigar (stopT cigar seq fromPos - p - 1 - softClipHead cigar)).map (fun k => max 1 (s + k)) ∧
        ∀ r, findPolytHead w num den s cigar seq fromPos toPos chk = some r →
          ∃ k, ProjectsTo (expand (walkCore cigar true))
                (stopT cigar seq fromPos - p - 1 - softClipHead cigar).toNat k ∧
            r = max 1 (s + k) ∧ s - 1 ≤ s + k ∧ s + k ≤ referenceEnd s cigar - 1 ∧
            (WalkOnRef cigar true → s ≤ s + k)) := by
  rw [findPolytHead_eq_with, findPolytHeadWith_eq, scanThen_pass hne hseq hclip]
  cases hts : tailScan w num den chk (regionT cigar seq fromPos toPos) with
  | none => rfl
  | some p =>
    simp only
    refine ⟨stopT_sub_nonneg w num den cigar seq fromPos toPos chk p hts, fun hle => ?_, fun hlt => ?_⟩
    · unfold headPos; rw [if_pos hle]
    · have heq : headPos moveRefCoord s cigar (softClipHead cigar) (stopT cigar seq fromPos - p - 1) =
          (moveRefCoord cigar (stopT cigar seq fromPos - p - 1 - softClipHead cigar)).map (fun k => max 1 (s + k)) := by
        unfold headPos; rw [if_neg (by omega)]
      refine ⟨heq, fun r hr => ?_⟩
      obtain ⟨k, hk, rfl⟩ := Option.map_eq_some_iff.1 (heq ▸ hr)
      obtain ⟨h1, h2, h3, h4⟩ := moveRefCoord_some cigar _ k hnn (by omega) hk
      rw [decide_eq_true (by omega)] at h1 h4
      rw [show (stopT cigar seq fromPos - p - 1 - softClipHead cigar).natAbs =
        (stopT cigar seq fromPos - p - 1 - softClipHead cigar).toNat by omega] at h1
      obtain ⟨g1, g2⟩ := referenceEnd_ge s cigar hnn
      exact ⟨k, h1, rfl, by omega, by omega, fun hw' => by have := h4 hw'; omega⟩

/-- **polya_position_in_range** — whenever a tail is found, the reported reference position lies in
    `[reference_start + 1, reference_end + max 1 clip]`; in `[reference_start + 1, reference_end + clip]` as soon as
    the alignment does not end (clips aside) with an insertion (`clip` = length of the soft-clipped tail) -/
theorem polya_position_in_range (w num den : Nat) (s : Int) (cigar : List CigarOp) (seq : List Char)
    (fromPos toPos : Int) (chk : Bool) (hne : cigar ≠ []) (hseq : seq ≠ [])
    (hclip : softClipTail cigar < seq.length) (hnn : NonNeg cigar) (p : Nat)
    (hts : tailScan w num den chk (regionA cigar seq fromPos toPos) = some p) (r : Int)
    (hr : findPolyaTail w num den s cigar seq fromPos toPos chk = some r) :
    s + 1 ≤ r ∧ r ≤ referenceEnd s cigar + max 1 (softClipTail cigar) ∧
    (WalkOnRef cigar false → r ≤ referenceEnd s cigar + softClipTail cigar) :=
  findPolyaTailWith_range w num den s seq fromPos toPos chk (moveRefCoord_projects hnn) hne hseq hclip hnn p hts r hr

/-- **polyt_position_in_range** — the polyT position lies in `[max 1 (reference_start − max 1 clip), max 1
    (reference_end − 1)]`; at or after `max 1 (reference_start − clip)` as soon as the alignment does not start (clips
    aside) with an insertion -/
theorem polyt_position_in_range (w num den : Nat) (s : Int) (cigar : List CigarOp) (seq : List Char)
    (fromPos toPos : Int) (chk : Bool) (hne : cigar ≠ []) (hseq : seq ≠ [])
    (hclip : softClipHead cigar < seq.length) (hnn : NonNeg cigar) (p : Nat)
    (hts : tailScan w num den chk (regionT cigar seq fromPos toPos) = some p) (r : Int)
    (hr : findPolytHead w num den s cigar seq fromPos toPos chk = some r) :
    max 1 (s - max 1 (softClipHead cigar)) ≤ r ∧ r ≤ max 1 (referenceEnd s cigar - 1) ∧
    (WalkOnRef cigar true → max 1 (s - softClipHead cigar) ≤ r) :=
  findPolytHeadWith_range w num den s seq fromPos toPos chk (moveRefCoord_projects hnn) hne hseq hclip hnn p hts r hr

/-- **polya_beyond_reference_end_witness** — the corner the range theorem excludes is real (model = code): an
    alignment `4M3I` without soft clip whose tail starts inside the trailing insertion is reported at
    `reference_end + 1`, i.e. beyond `reference_end + clip` (window 2, fraction 1/2; `CCCCCAA` at position 100) -/
theorem polya_beyond_reference_end_witness :
    findPolyaTail 2 1 2 100 [(.«match», 4), (.insertion, 3)] "CCCCCAA".toList 8 2 true = some 105 ∧
    referenceEnd 100 [(.«match», 4), (.insertion, 3)] = 104 ∧
    softClipTail [(.«match», 4), (.insertion, 3)] = 0 := by
  rw [String.toList_ofList]
  decide

/-- non-vacuity of the two range theorems (default window 16, fraction 3/4): 30 aligned bases ending in `…CCCC`,
    a 20-base soft-clipped A tail; 20-base soft-clipped T head -/
example :
    findPolyaTail 16 3 4 1000 [(.«match», 30), (.soft_clipping, 20)]
      (List.replicate 30 'C' ++ List.replicate 20 'A') 2 32 false = some 1030 ∧
    findPolytHead 16 3 4 1000 [(.soft_clipping, 20), (.«match», 30)]
      (List.replicate 20 'T' ++ List.replicate 30 'C') 2 32 false = some 999 := by decide

/-- **polyt_polya_mirror_law** — the read `(s, cigar, seq)` and its mirror image `(L − reference_end,
    reversed cigar, reverse complement)` (1-based coordinate `x ↦ L + 1 − x`).  If the polyA scan on the read and the
    polyT scan on the mirror image settle on the same base, and the tail starts in the soft clip or inside the last
    match operation (with at least one base of that operation before it), then
    `find_polyt_head(mirror) = max 1 (L − 1 − find_polya_tail(read))`: the mirror image of the polyA position minus 2
    (polyA is reported as the 1-based coordinate of the base before the tail, polyT as the 0-based coordinate of the
    last base of the head).  Of `hrc` (T/t ↦ A/a and nothing else ↦ A/a) only `seq'.length = seq.length` is used: both scans are hypotheses. -/
theorem polyt_polya_mirror_law (w num den : Nat) (s L : Int) (cigar : List CigarOp)
    (seq seq' : List Char) (fromPos toPos : Int) (chk : Bool) (hne : cigar ≠ []) (hseq : seq ≠ [])
    (hclip : softClipTail cigar < seq.length)
    (hrc : seq'.map (fun c => upperChar c == 'T') = (seq.map (fun c => upperChar c == 'A')).reverse)
    (pA pT : Nat)
    (hA : tailScan w num den chk (regionA cigar seq fromPos toPos) = some pA)
    (hT : tailScan w num den chk (regionT cigar.reverse seq' fromPos toPos) = some pT)
    (hsame : stopT cigar.reverse seq' fromPos - pT - 1 = (seq.length : Int) - 1 - (startA cigar seq fromPos + pA))
    (hclean : (seq.length : Int) - softClipTail cigar ≤ startA cigar seq fromPos + pA ∨
      ∃ k0 l rest, walkCore cigar false = (k0, l) :: rest ∧ isAligned k0 = true ∧
        (seq.length : Int) - softClipTail cigar - (startA cigar seq fromPos + pA) < l) :
    ∃ ra, findPolyaTail w num den s cigar seq fromPos toPos chk = some ra ∧
      findPolytHead w num den (L - referenceEnd s cigar) cigar.reverse seq' fromPos toPos chk
        = some (max 1 (L - 1 - ra)) :=
  mirror_law w num den s L cigar seq seq' fromPos toPos fromPos toPos chk hne hseq hclip hrc pA pT hA hT hsame hclean

/-- **clean_tail_mirror_law** — the law without hypotheses about the scans, for every *clean tail*: a read that ends in
    `k` soft-clipped A's preceded by (at least) three non-A bases, external finder (`from_pos = 2`, `to_pos = 2w`),
    threshold leaving room for three non-A bases in a window (`3 + ⌊w·num/den⌋ ≤ w`; defaults: 3 + 12 ≤ 16) and
    `k ≥ w − 1`: polyA is reported at `reference_end`, polyT of the mirror image at `max 1 (L − 1 − reference_end)`
    — two less than the mirror image `L + 1 − reference_end`. -/
theorem clean_tail_mirror_law (w num den : Nat) (s L : Int) (cigar : List CigarOp) (seq seq' : List Char)
    (body : List Bool) (k : Nat) (hne : cigar ≠ []) (hnn : NonNeg cigar) (hk : softClipTail cigar = k)
    (hflags : seq.map (fun c => upperChar c == 'A') = body ++ [false, false, false] ++ List.replicate k true)
    (hrc : seq'.map (fun c => upperChar c == 'T') = (seq.map (fun c => upperChar c == 'A')).reverse)
    (hc : 3 + w * num / den ≤ w) (hkw : w ≤ k + 1) :
    findPolyaTail w num den s cigar seq 2 (2 * w) false = some (referenceEnd s cigar) ∧
    findPolytHead w num den (L - referenceEnd s cigar) cigar.reverse seq' 2 (2 * w) false
      = some (max 1 (L - 1 - referenceEnd s cigar)) := by
  have h0 := Nat.zero_le (w * num / den)
  have hw : 1 ≤ w := by omega
  have hn : seq.length = body.length + 3 + k := by
    have := congrArg List.length hflags
    simp at this; omega
  have hn' : seq'.length = body.length + 3 + k := by
    have := congrArg List.length hrc
    simp at this; omega
  have hseq : seq ≠ [] := by intro h; rw [h] at hn; simp at hn; omega
  have hclip : softClipTail cigar < seq.length := by rw [hk, hn]; omega
  have hRA : regionA cigar seq 2 (2 * w) = List.replicate 2 false ++ List.replicate (min k (2 * w + 1)) true := by
    unfold regionA
    rw [slice_map, hflags, hk, hn]
    exact sliceA_clean body k w
  have hRT : regionT cigar.reverse seq' 2 (2 * w) =
      List.replicate 3 false ++ List.replicate (min k (2 * w)) true := by
    unfold regionT
    rw [List.map_reverse, slice_map, hrc, hflags, softClipHead_reverse, hk, hn']
    exact sliceT_clean body k w
  have hA : tailScan w num den false (regionA cigar seq 2 (2 * w)) = some 2 := by
    rw [hRA]
    unfold tailScan
    rw [findPolya_clean w (w * num / den) 2 (min k (2 * w + 1)) (by omega) (by omega) (by omega)]
    rfl
  have hT : tailScan w num den false (regionT cigar.reverse seq' 2 (2 * w)) = some 3 := by
    rw [hRT]
    unfold tailScan
    rw [findPolya_clean w (w * num / den) 3 (min k (2 * w)) (by omega) (by omega) (by omega)]
    rfl
  have hstart : startA cigar seq 2 = body.length + 1 := by unfold startA; rw [hk, hn]; omega
  have hstop : stopT cigar.reverse seq' 2 = k + 3 := by
    unfold stopT; rw [softClipHead_reverse, hk, hn']; omega
  -- both scans settle on the first clipped base: depth 0 for polyA, −1 for polyT
  obtain ⟨h1, h2⟩ := mirror_pos moveRefCoord moveRefCoord w num den s L cigar seq seq' 2 (2 * w) 2 (2 * w) false hne hseq
    hclip (by rw [hn, hn']) 2 3 hA hT (by rw [hstart, hstop, hn]; omega) 0 (by rw [hstart, hk, hn]; omega)
  rw [findPolyaTail_eq_with, findPolytHead_eq_with, h1, h2]
  exact ⟨by simp [depthProj], by simp [depthProj]; congr 1; omega⟩

/-- non-vacuity of `clean_tail_mirror_law`: its hypotheses on the read `C^30 A^20`, `30M 20S`, default constants -/
example : softClipTail [(.«match», 30), (.soft_clipping, 20)] = ((20 : Nat) : Int) ∧
    (List.replicate 30 'C' ++ List.replicate 20 'A').map (fun c => upperChar c == 'A')
      = List.replicate 27 false ++ [false, false, false] ++ List.replicate 20 true ∧
    (List.replicate 20 'T' ++ List.replicate 30 'G').map (fun c => upperChar c == 'T')
      = ((List.replicate 30 'C' ++ List.replicate 20 'A').map (fun c => upperChar c == 'A')).reverse ∧
    3 + 16 * 3 / 4 ≤ 16 ∧ 16 ≤ 20 + 1 := by decide

/-- non-vacuity (the clean tail of the C11 finding): `…CCCC` + 20 soft-clipped A's at 1000, `L = 5000`; mirror image:
    20 soft-clipped T's + `GGGG…` at `5000 − 1030`; polyA 1030, polyT 3969 = 5000 − 1 − 1030 (exact mirror: 3971) -/
example :
    findPolyaTail 16 3 4 1000 [(.«match», 30), (.soft_clipping, 20)]
      (List.replicate 30 'C' ++ List.replicate 20 'A') 2 32 false = some 1030 ∧
    referenceEnd 1000 [(.«match», 30), (.soft_clipping, 20)] = 1030 ∧
    findPolytHead 16 3 4 (5000 - 1030) [(.soft_clipping, 20), (.«match», 30)]
      (List.replicate 20 'T' ++ List.replicate 30 'G') 2 32 false = some (5000 - 1 - 1030) ∧
    tailScan 16 3 4 false (regionA [(.«match», 30), (.soft_clipping, 20)]
      (List.replicate 30 'C' ++ List.replicate 20 'A') 2 32) = some 2 ∧
    tailScan 16 3 4 false (regionT [(.soft_clipping, 20), (.«match», 30)]
      (List.replicate 20 'T' ++ List.replicate 30 'G') 2 32) = some 3 := by decide

/-- the hypothesis "both scans settle on the same base" is needed: the two checked windows are shifted by one base,
    so on an A-rich end (three aligned A's before 20 clipped A's) the polyA scan starts two bases before the mapped
    end and misses the first A while the polyT scan of the mirror image sees it: 1028 vs 3972 ≠ 5000 − 1 − 1028 -/
example :
    findPolyaTail 16 3 4 1000 [(.«match», 30), (.soft_clipping, 20)]
      (List.replicate 27 'C' ++ List.replicate 23 'A') 2 32 false = some 1028 ∧
    findPolytHead 16 3 4 (5000 - 1030) [(.soft_clipping, 20), (.«match», 30)]
      (List.replicate 23 'T' ++ List.replicate 27 'G') 2 32 false = some 3972 := by
  decide

end IsoVerif.Props.C16FinderSpec
