/-
C15 (reuse clause) / C05 / C08 at the level of the printed lines — the read-level output printers
(`read_assignments.tsv`, `corrected_reads.bed`; Model/Printers.lean, Model/ReusePrint.lean).

  *   line-level specification: the lines printed for a record are a function of the record AS LOADED and of the gene
      info (`printers_pure`: whatever `gene_info.canonical_sites` held); exactly one TSV line per isoform match or
      exactly one `unmatched_line`; field by field; exactly one BED record per record that passes the checker and has
      exons; the TSV text is the tab-joined columns
  *   the printers do not read what the on-disk format truncates (`lines_ignore_quantisation`)
  *   the reuse clause with the printed files: `restart_prints_second_half`, `reuse_reproduces_printed`

MODEL: both printers, the composite printer, the event strings over GENERATED tables, the loader on full records, the
per-chromosome files and their merge.  PARAMETERS: `PrintEnv` (what `GeneInfo.deserialize` re-derives from the gene
database, the chromosome sequences, `--check_canonical`, `--cage`, the two command-line header lines) and the `Env` /
`Config` of Props/C15Reuse.lean.  OUTSIDE: model construction, SQANTI-like output, gzipped output.
-/
import IsoVerif.Lemmas.Printers
import IsoVerif.Props.C14
import IsoVerif.Props.C15Reuse
import IsoVerif.Lemmas.StringLit
import IsoVerif.Lemmas.MapComm

namespace IsoVerif.Props.C15Printers
open IsoVerif.Gen IsoVerif.Model IsoVerif.Model.Serial IsoVerif.Model.Resolver IsoVerif.Model.C12 IsoVerif.Model.C15
open IsoVerif.Model.Printers IsoVerif.Model.C18 IsoVerif.Props.C18
open IsoVerif.Lemmas.Printers IsoVerif.Lemmas.Serial IsoVerif.Lemmas.C15
open IsoVerif.Props.C15Objects IsoVerif.Props.C15Stream IsoVerif.Props.C15Reuse

/-- **printers_pure**: for the records of a gene region, in every memo state that can arise for its `gene_info`
    (fresh after `set_reference_sequence`, or after any history of reads and transcript models), the composite printer
    writes the concatenation of `recordLines`, a function of (printer configuration, gene info, record) alone. -/
theorem printers_pure (C : PrinterCfg) (gv : GeneView) (rs : List ReadAssignment) (σ : CanonMemo)
    (h : Reachable gv.ref σ) : printRecords C gv rs σ = specRecords C gv rs :=
  printRecords_pure C gv rs σ h

/-- the per-region start of `construct_models_in_parallel`: a fresh `gene_info`, empty memo -/
theorem printers_pure_fresh (C : PrinterCfg) (gv : GeneView) (rs : List ReadAssignment) :
    printRecords C gv rs [] = specRecords C gv rs := printRecords_pure C gv rs [] Reachable.fresh

theorem specRecords_of_all {C : PrinterCfg} {gv : GeneView} {rs : List ReadAssignment}
    {f : ReadAssignment → List C14.BedRecord × List TsvLine} (h : ∀ r ∈ rs, recordLines C gv r = some (f r)) :
    specRecords C gv rs = some { bed := rs.flatMap (fun r => (f r).1), tsv := rs.flatMap (fun r => (f r).2) } := by
  induction rs with
  | nil => rfl
  | cons r rs ih =>
    simp only [specRecords, h r (by simp), ih (fun x hx => h x (List.mem_cons_of_mem _ hx)), List.flatMap_cons]

theorem specRecords_some {C : PrinterCfg} {gv : GeneView} :
    ∀ {rs : List ReadAssignment} {L : Lines}, specRecords C gv rs = some L →
      ∃ f : ReadAssignment → List C14.BedRecord × List TsvLine, (∀ r ∈ rs, recordLines C gv r = some (f r)) ∧
        L.bed = rs.flatMap (fun r => (f r).1) ∧ L.tsv = rs.flatMap (fun r => (f r).2) := by
  intro rs L h
  rw [specRecords_eq_mapM] at h
  obtain ⟨xs, hxs, rfl⟩ := Option.map_eq_some_iff.mp h
  obtain ⟨rfl, hall⟩ := Lemmas.mapM_eq_some_map _ ([], []) rs xs hxs
  exact ⟨_, hall, by simp only [List.flatMap_map], by simp only [List.flatMap_map]⟩

/-- **tsv_line_count**: a record that passes the checker gets exactly one line per isoform match, or exactly one
    `unmatched_line` when it has no match; a record that fails the checker gets none. -/
theorem tsv_line_count (ck : Checker) (P : Params) (gv : GeneView) (r : ReadAssignment) (ls : List TsvLine)
    (h : specTsv ck P gv r = some ls) :
    (ck.check r = false → ls = []) ∧
    (ck.check r = true → r.isoformMatches = [] → ls = [unmatchedLine r []]) ∧
    (ck.check r = true → ls.length = max 1 r.isoformMatches.length) := by
  unfold specTsv at h
  refine ⟨?_, ?_, ?_⟩
  · intro hc
    simp only [hc, Bool.not_false, if_true, Option.some.injEq] at h
    exact h.symm
  · intro hc he
    simp only [hc, he, Bool.not_true, Bool.false_eq_true, if_false, List.isEmpty_nil, if_true,
      Option.some.injEq] at h
    exact h.symm
  · intro hc
    simp only [hc, Bool.not_true, Bool.false_eq_true, if_false] at h
    cases hm : r.isoformMatches with
    | nil =>
      simp only [hm, List.isEmpty_nil, if_true, Option.some.injEq] at h
      subst h
      rfl
    | cons m ms =>
      simp only [hm, List.isEmpty_cons, Bool.false_eq_true, if_false] at h
      rw [specMatchLines_length P gv r _ ls h]
      simp only [List.length_cons]
      omega

/-- every TSV line of a record carries its read id, chromosome, strand, assignment type and exon string -/
theorem tsv_lines_of_record (ck : Checker) (P : Params) (gv : GeneView) (r : ReadAssignment) (ls : List TsvLine)
    (h : specTsv ck P gv r = some ls) :
    ∀ l ∈ ls, l.readId = r.readId ∧ l.chr = r.chrId ∧ l.strand = r.strand ∧
      l.assignmentType = r.assignmentType.name ∧ l.exons = rangeListToStr r.exons := by
  unfold specTsv at h
  by_cases hc : ck.check r = true
  · simp only [hc, Bool.not_true, Bool.false_eq_true, if_false] at h
    by_cases he : r.isoformMatches.isEmpty = true
    · simp only [he, if_true, Option.some.injEq] at h
      subst h
      intro l hl
      simp only [List.mem_singleton] at hl
      subst hl
      exact ⟨rfl, rfl, rfl, rfl, rfl⟩
    · simp only [he, Bool.false_eq_true, if_false] at h
      exact specMatchLines_common P gv r _ ls h
  · have hc' : ck.check r = false := by simpa using hc
    simp only [hc', Bool.not_false, if_true, Option.some.injEq] at h
    subst h
    intro l hl
    cases hl

/-- **tsv_line_fields** (field by field): the line of an isoform match with a transcript id.  The nine columns are the
    read id, the record's chromosome, the reported strand, the transcript and gene of the match, the NAME of the
    assignment type, the event strings joined by commas (each = strand-dependent name from the generated table +
    the intron / offset suffix), the exon ranges, and the additional-info tokens joined by blanks in the order
    gene_assignment, PolyA, [CAGE], [Canonical], Classification, attributes.
    It exists iff the gene info knows the transcript and the match has a gene id (otherwise the real code raises). -/
theorem tsv_line_fields (P : Params) (gv : GeneView) (r : ReadAssignment) (m : IsoformMatch) (t : String)
    (ht : m.assignedTranscript = some t) :
    (∀ l, specMatchLine P gv r m = some l →
      ∃ ii g, gv.isoformIntrons.lookup t = some ii ∧ m.assignedGene = some g ∧
        l.fields = [r.readId, r.chrId, r.strand, t, g, r.assignmentType.name,
                    ",".intercalate (m.events.map (fun e => eventStr e r.strand (junctionsFromBlocks r.exons) ii)),
                    rangeListToStr r.exons,
                    infoColumn (["gene_assignment=" ++ r.geneAssignmentType.name ++ ";",
                                 "PolyA=" ++ boolStr r.polyAFound ++ ";"]
                                ++ (if P.cage then ["CAGE=" ++ boolStr r.cageFound ++ ";"] else [])
                                ++ (match canonField P gv r with
                                    | some c => ["Canonical=" ++ c ++ ";"]
                                    | none => [])
                                ++ ["Classification=" ++ m.matchClassification.name ++ ";"]
                                ++ attrTokens r.additionalAttributes)]) ∧
    (specMatchLine P gv r m = none ↔ gv.isoformIntrons.lookup t = none ∨ m.assignedGene = none) := by
  unfold specMatchLine
  simp only [ht]
  cases hk : gv.isoformIntrons.lookup t with
  | none => simp
  | some ii =>
    cases hg : m.assignedGene with
    | none => simp
    | some g =>
      refine ⟨?_, by simp⟩
      intro l hl
      simp only [Option.some.injEq] at hl
      subst hl
      exact ⟨ii, g, rfl, rfl, rfl⟩

/-- the line of a match WITHOUT a transcript id is the unmatched line with the classification as its only token -/
theorem tsv_line_unassigned_match (P : Params) (gv : GeneView) (r : ReadAssignment) (m : IsoformMatch)
    (ht : m.assignedTranscript = none) :
    specMatchLine P gv r m = some (unmatchedLine r ["Classification=" ++ m.matchClassification.name ++ ";"]) ∧
    (unmatchedLine r ["Classification=" ++ m.matchClassification.name ++ ";"]).fields =
      [r.readId, r.chrId, r.strand, ".", ".", r.assignmentType.name, ".", rangeListToStr r.exons,
       " ".intercalate (("Classification=" ++ m.matchClassification.name ++ ";") :: attrTokens r.additionalAttributes)] := by
  refine ⟨by simp [specMatchLine, ht], ?_⟩
  simp [unmatchedLine, TsvLine.fields, infoColumn]

/-- the line of a record without any match: all-dots, `*` when there is no attribute -/
theorem tsv_line_no_match (r : ReadAssignment) :
    (unmatchedLine r []).fields =
      [r.readId, r.chrId, r.strand, ".", ".", r.assignmentType.name, ".", rangeListToStr r.exons,
       if r.additionalAttributes = [] then "*" else " ".intercalate (attrTokens r.additionalAttributes)] := by
  cases h : r.additionalAttributes with
  | nil => simp [unmatchedLine, TsvLine.fields, infoColumn, attrTokens, h]
  | cons a t => simp [unmatchedLine, TsvLine.fields, infoColumn, attrTokens, h]

/-- the text of a line is `"\t".join(columns) + "\n"` -/
theorem render_eq_intercalate (l : TsvLine) : l.render = "\t".intercalate l.fields ++ "\n" := rfl

/-- the `Canonical=` token: absent without `--check_canonical` or without a reference window; `Unspliced` for a read
    without introns; otherwise True exactly when every intron of the read has a canonical dinucleotide pair on the
    read's reported strand in the reference (C18's declarative predicate); a read whose reported strand is `.` (hypothesis
    `hst` excludes it here) is True when its chain is canonical on one of the two strands: C18 `canonical_pure_declarative_dot` -/
theorem canonical_token (P : Params) (gv : GeneView) (r : ReadAssignment)
    (hst : strandOf r.strand ≠ .dot)
    (hin : ∀ it ∈ junctionsFromBlocks r.exons, gv.ref.start ≤ it.1 ∧ gv.ref.start < it.2) :
    (canonField P gv r = none ↔ ¬ (P.checkCanonical = true ∧ gv.ref.refRegion ≠ [])) ∧
    (P.checkCanonical = true → gv.ref.refRegion ≠ [] →
      (junctionsFromBlocks r.exons = [] → canonField P gv r = some "Unspliced") ∧
      (junctionsFromBlocks r.exons ≠ [] →
        (canonField P gv r = some "True" ↔ ∀ it ∈ junctionsFromBlocks r.exons, CanonicalOn gv.ref it (strandOf r.strand)) ∧
        (canonField P gv r = some "True" ∨ canonField P gv r = some "False"))) := by
  refine ⟨?_, ?_⟩
  · unfold canonField
    by_cases h : P.checkCanonical = true ∧ gv.ref.refRegion ≠ [] <;> simp [h]
  · intro h1 h2
    have hc : canonField P gv r = some (pureFlag gv.ref r.exons (strandOf r.strand)) := by
      simp [canonField, h1, h2]
    refine ⟨?_, ?_⟩
    · intro hj
      rw [hc]
      simp [pureFlag, hj]
    · intro hj
      rw [hc]
      simp only [pureFlag, hj, if_false, Option.some.injEq]
      have hall : pureAnswer gv.ref (junctionsFromBlocks r.exons) (strandOf r.strand) = true ↔
          ∀ it ∈ junctionsFromBlocks r.exons, CanonicalOn gv.ref it (strandOf r.strand) := by
        rw [pureAnswer_stranded _ _ _ hst, List.all_eq_true]
        constructor
        · intro hh it hit
          exact (canonCompute_iff gv.ref it _ (hin it hit).1 (hin it hit).2).mp (hh it hit)
        · intro hh it hit
          exact (canonCompute_iff gv.ref it _ (hin it hit).1 (hin it hit).2).mpr (hh it hit)
      cases hb : pureAnswer gv.ref (junctionsFromBlocks r.exons) (strandOf r.strand) with
      | true =>
        refine ⟨?_, Or.inl rfl⟩
        rw [← hall, hb]
        simp [boolStr]
      | false =>
        refine ⟨?_, Or.inr rfl⟩
        rw [← hall, hb]
        simp only [boolStr, Bool.false_eq_true, if_false, iff_false]
        decide

/-- **bed_line_spec**: a record that fails the checker gets no BED line; one that passes it and has blocks gets exactly
    one record – chromosome of the gene info, name = read id, strand = MAPPED strand, and the blocks a BED consumer
    reconstructs are the printed exon list (C14 `bed_blocks_roundtrip`); one that passes it without blocks makes the
    real printer raise. -/
theorem bed_line_spec (ck : Checker) (pc : Bool) (gv : GeneView) (r : ReadAssignment) :
    (ck.check r = false → bedOf ck pc gv r = some none) ∧
    (ck.check r = true → (if pc then r.correctedExons else r.exons) ≠ [] →
      ∃ b, bedOf ck pc gv r = some (some b) ∧ b.chrom = gv.chrId ∧ b.name = r.readId ∧ b.strand = r.mappedStrand ∧
        b.blocks = (if pc then r.correctedExons else r.exons)) ∧
    (ck.check r = true → (if pc then r.correctedExons else r.exons) = [] → bedOf ck pc gv r = none) := by
  refine ⟨?_, ?_, ?_⟩
  · intro hc
    simp [bedOf, hc]
  · intro hc hne
    obtain ⟨b, hb⟩ := (IsoVerif.Props.C14.bed_record_some_iff gv.chrId r.readId r.mappedStrand _).mpr hne
    refine ⟨b, by simp [bedOf, hc, hb], ?_, ?_, ?_, IsoVerif.Props.C14.bed_blocks_roundtrip _ _ _ _ b hb⟩
    all_goals
      revert hb
      generalize (if pc then r.correctedExons else r.exons) = ex
      intro hb
      unfold C14.bedRecord at hb
      split at hb
      · simp only [Option.some.injEq] at hb
        subst hb
        rfl
      · cases hb
  · intro hc he
    simp [bedOf, hc, he, C14.bedRecord]

/-- the glue is C14's `add_read_info` model given the loaded record: same lines -/
theorem bed_glue_is_C14 (ck : Checker) (pc : Bool) (gv : GeneView) (r : ReadAssignment) :
    C14.addReadInfo (bedInput ck pc gv r) = (bedOf ck pc gv r).map (fun o => o.map C14.BedRecord.render) := by
  rw [IsoVerif.Props.C14.add_read_info_spec]
  unfold bedInput bedOf
  cases hc : ck.check r <;> simp <;>
    cases C14.bedRecord gv.chrId r.readId r.mappedStrand (if pc then r.correctedExons else r.exons) <;> rfl

theorem check_quant (ck : Checker) (r : ReadAssignment) : ck.check (quantRA r) = ck.check r := by
  cases ck <;> rfl

theorem specMatchLines_quant (P : Params) (gv : GeneView) (r : ReadAssignment) (ms : List IsoformMatch) :
    specMatchLines P gv (quantRA r) (ms.map quantMatch) = specMatchLines P gv r ms := by
  induction ms with
  | nil => rfl
  | cons m ms ih =>
    simp only [List.map_cons, specMatchLines, ih]
    rfl

theorem specTsv_quant (ck : Checker) (P : Params) (gv : GeneView) (r : ReadAssignment) :
    specTsv ck P gv (quantRA r) = specTsv ck P gv r := by
  unfold specTsv
  rw [check_quant]
  have he : (quantRA r).isoformMatches.isEmpty = r.isoformMatches.isEmpty := by
    simp [quantRA]
  rw [he]
  have hm : specMatchLines P gv (quantRA r) (quantRA r).isoformMatches = specMatchLines P gv r r.isoformMatches :=
    specMatchLines_quant P gv r r.isoformMatches
  rw [hm]
  rfl

/-- **lines_ignore_quantisation**: the lines of both files are the same for a record and for the record as the dump
    holds it (penalties truncated to 2^-20): no printed column reads a penalty.  Together with `printers_pure` this is
    "the lines printed for a record are a function of the record as loaded": the saving run's in-memory records and
    the restart's loaded records print alike. -/
theorem lines_ignore_quantisation (C : PrinterCfg) (gv : GeneView) (r : ReadAssignment) :
    recordLines C gv (quantRA r) = recordLines C gv r := by
  have hb : bedOf C.bedChecker printer_bed_print_corrected gv (quantRA r) =
      bedOf C.bedChecker printer_bed_print_corrected gv r := by
    unfold bedOf
    rw [check_quant]
    rfl
  unfold recordLines
  rw [specTsv_quant, hb]

theorem specRecords_quant (C : PrinterCfg) (gv : GeneView) (rs : List ReadAssignment) :
    specRecords C gv (rs.map quantRA) = specRecords C gv rs := by
  induction rs with
  | nil => rfl
  | cons r rs ih => simp only [List.map_cons, specRecords, lines_ignore_quantisation, ih]

theorem fullOf_quant (E : Env) (r : ReadAssignment) : fullOf E (quantRA r) = fullOf E r := by
  simp [fullOf, toRec, basicOf, quantRA, quantMatch, List.map_map, Function.comp_def]

theorem loadGroupFull_quant (E : Env) (dict : List (Nat × List Rec)) (rs : List ReadAssignment) :
    loadGroupFull E dict (rs.map quantRA) = (loadGroupFull E dict rs).map quantRA := by
  induction rs with
  | nil => rfl
  | cons r rs ih =>
    simp only [loadGroupFull, List.map_cons, List.filterMap_cons, fullOf_quant] at ih ⊢
    cases loadOne dict (fullOf E r) with
    | none => simpa using ih
    | some f =>
      simp only [Option.map_some, List.map_cons]
      rw [ih]
      rfl

theorem spanStep_regionOver_quant (rs : List ReadAssignment) (se : Int × Int) :
    regionOver (rs.map quantRA) se = regionOver rs se := by
  induction rs generalizing se with
  | nil => rfl
  | cons r rs ih => simp only [List.map_cons, regionOver, List.foldl_cons] at ih ⊢; exact ih _

theorem viewOf_quant (X : PrintEnv) (chrName : String) (h : GeneHeader) (rs : List ReadAssignment) :
    viewOf X chrName h (rs.map quantRA) = viewOf X chrName h rs := by
  simp only [viewOf, refOf, spanStep_regionOver_quant, List.isEmpty_map]

theorem printGroups_quant (E : Env) (X : PrintEnv) (chrName : String) (dict : List (Nat × List Rec))
    (gs : List (Group ReadAssignment)) :
    printGroups E X chrName dict (quantGroups gs) = printGroups E X chrName dict gs := by
  induction gs with
  | nil => rfl
  | cons g gs ih =>
    have ih' : printGroups E X chrName dict (gs.map (fun g => (g.1, g.2.map quantRA))) =
        printGroups E X chrName dict gs := ih
    simp only [quantGroups, List.map_cons, printGroups, printers_pure_fresh, loadGroupFull_quant, specRecords_quant,
      viewOf_quant, ih']

theorem printChr_quant (E : Env) (X : PrintEnv) (chrName : String) (dict : List (Nat × List Rec))
    (gs : List (Group ReadAssignment)) :
    printChr E X chrName dict (quantGroups gs) = printChr E X chrName dict gs := by
  unfold printChr
  have hr : raisesAny E dict (quantGroups gs) = raisesAny E dict gs := by
    simp [raisesAny, quantGroups, List.any_map, Function.comp_def, fullOf_quant]
  rw [hr, printGroups_quant]

theorem savingRunP_eq (E : Env) (cfg : Config) (X : PrintEnv) (readGroups : List String) (unmapped : List Nat)
    (chroms : List ChrIn) :
    savingRunP E cfg X readGroups unmapped chroms =
      (savingRun E cfg readGroups unmapped chroms).bind fun x =>
        (processSavedP E cfg X (chroms.map (·.name)) x.1).map (fun p => (x.1, x.2, p)) := by
  unfold savingRunP
  cases savingRun E cfg readGroups unmapped chroms <;> rfl

/-- **restart_prints_second_half**: whatever the saving run computed AND PRINTED from the files it wrote, a run
    restarted from these files computes and prints again – `read_assignments.tsv` and `corrected_reads.bed` line for
    line (header lines: the two `common_header` lines are a parameter; the restart's own command line differs there).
    No hypothesis: holds for all inputs. -/
theorem restart_prints_second_half (E : Env) (cfg : Config) (X : PrintEnv) (readGroups : List String)
    (unmapped : List Nat) (chroms : List ChrIn) (files : Saved) (o : RunOut) (p : Printed)
    (h : savingRunP E cfg X readGroups unmapped chroms = some (files, o, p)) :
    restartRunP E cfg X (chroms.map (·.name)) files = some (o, p) := by
  rw [savingRunP_eq] at h
  obtain ⟨x, hs, h⟩ := Option.bind_eq_some_iff.mp h
  obtain ⟨p', hp, hx⟩ := Option.map_eq_some_iff.mp h
  cases hx
  unfold restartRunP
  rw [restart_is_second_half_files E cfg readGroups unmapped chroms x.1 x.2 hs, hp]

/-- the two files computed from the ORIGINAL in-memory records of the saving run: per chromosome the loader with the
    verdicts of the run's own resolver, the composite printer, then the merge -/
def printedFromRecords (E : Env) (X : PrintEnv) (order : List Nat) (resolved : List (Nat × List Rec))
    (chroms : List ChrIn) : Option Printed :=
  (chroms.mapM (fun c => printChr E X c.name (verdictsFor (E.intern c.name) resolved) c.groups)).map (printedOf X order)

/-- **files_reproduce_printed**: on the files written by the modelled `collect_reads` (either memory mode) the second
    half prints exactly what the printers give on the records the saving run had in memory, under the verdicts of the
    resolver run on the compact records.  Hypotheses as for `reuse_reproduces_outputs`. -/
theorem files_reproduce_printed (E : Env) (cfg : Config) (X : PrintEnv) (readGroups : List String)
    (chroms : List ChrIn) (files : Saved) (ua : Nat) (hE : InternOk E chroms)
    (hsave : collectReads E cfg.highMemory readGroups ua chroms = some files)
    (hdom : InDomain chroms) (hpen : MemoryModeOk cfg.highMemory chroms)
    (hlen : (streamOf E chroms).length < ser_TERMINATION_INT) :
    ∃ resolved, resolveStream cfg.highMemory (streamOf E chroms) = some resolved ∧
      processSavedP E cfg X (chroms.map (·.name)) files = printedFromRecords E X cfg.mergeOrder resolved chroms := by
  obtain ⟨resolved, info, sv, mm, hres, _, rfl, hchr⟩ :=
    saved_files_read_back E cfg.highMemory readGroups chroms files ua hE hsave hdom hpen hlen
  refine ⟨resolved, hres, ?_⟩
  unfold processSavedP printedFromRecords
  congr 1
  simp only
  rw [List.zip_map', mapM_map_opt]
  apply Lemmas.mapM_congr_mem
  intro c hc
  unfold constructChrP
  rw [(hchr c hc).1, (hchr c hc).2]
  exact printChr_quant E X c.name _ c.groups

/-- **reuse_reproduces_printed**: in the representable domain, both memory modes – the two read-level files of a run
    RESTARTED from the saved files and of the SAVING run itself are `printedFromRecords` of the records the saving run
    held in memory: the restart reproduces `read_assignments.tsv` and `corrected_reads.bed` exactly. -/
theorem reuse_reproduces_printed (E : Env) (cfg : Config) (X : PrintEnv) (readGroups : List String)
    (unmapped : List Nat) (chroms : List ChrIn) (files : Saved) (hE : InternOk E chroms)
    (hsave : collectReads E cfg.highMemory readGroups (countUnaligned unmapped) chroms = some files)
    (hdom : InDomain chroms) (hpen : MemoryModeOk cfg.highMemory chroms)
    (hlen : (streamOf E chroms).length < ser_TERMINATION_INT) :
    ∃ resolved, resolveStream cfg.highMemory (streamOf E chroms) = some resolved ∧
      (∀ o p, restartRunP E cfg X (chroms.map (·.name)) files = some (o, p) →
        printedFromRecords E X cfg.mergeOrder resolved chroms = some p) ∧
      (∀ f o p, savingRunP E cfg X readGroups unmapped chroms = some (f, o, p) →
        printedFromRecords E X cfg.mergeOrder resolved chroms = some p) := by
  obtain ⟨resolved, hres, hp⟩ := files_reproduce_printed E cfg X readGroups chroms files _ hE hsave hdom hpen hlen
  refine ⟨resolved, hres, ?_, ?_⟩
  · intro o p h
    unfold restartRunP at h
    split at h
    · rename_i o' p' _ hp'
      cases h
      rw [← hp, hp']
    · cases h
  · intro f o p h
    rw [savingRunP_eq] at h
    obtain ⟨x, hs, h⟩ := Option.bind_eq_some_iff.mp h
    cases hsave.symm.trans (savingRun_unpack hs).1
    obtain ⟨p', hp', hx⟩ := Option.map_eq_some_iff.mp h
    cases hx
    rw [← hp, hp']

/-- reference window 900..2100 with the read's intron 1201-1499 canonical on the minus strand (CT..AC), the acceptor
    soft-masked -/
def exWindow : C18.Seq :=
  List.replicate 301 'A' ++ ['C', 'T'] ++ List.replicate 295 'g' ++ ['a', 'c'] ++ List.replicate 601 'T'

def exView : GeneView :=
  { chrId := "chr1", isoformIntrons := [("T1", [(1201, 1499), (2101, 2500)]), ("T2", [(1201, 1499)])],
    ref := { refRegion := exWindow, start := 900 } }

def exCfgP : PrinterCfg := { bedChecker := .all, tsvChecker := .all, params := ⟨true, true⟩ }

-- `exRA` (Props/C15Objects.lean): strand '-', two isoform matches – one without transcript id, one of T2
example : (recordLines exCfgP exView exRA).map (fun x => (x.1.map C14.BedRecord.render, x.2.map TsvLine.fields)) = some
    (["chr1\t999\t2000\tread_é\t0\t+\t999\t999\t0\t3\t201,100,501\t0,201,500\n"],
     [["read_é", "chr1", "-", ".", ".", "ambiguous", ".", "1000-1200,1500-2000",
       "Classification=full_splice_match; CB=ACGT; pos=(-1, 3);"],
      ["read_é", "chr1", "-", "T2", "ENSG1", "ambiguous", "", "1000-1200,1500-2000",
       "gene_assignment=unique; PolyA=False; CAGE=True; Canonical=True; Classification=full_splice_match; CB=ACGT; pos=(-1, 3);"]]) := by
  -- the expected texts are compared as bytes read off the literals (Lemmas/StringLit.lean)
  apply Lemmas.opt_pair_inj (Lemmas.MapComm.listMap_injective Lemmas.bytesOf_inj) (Lemmas.MapComm.listMap_injective (Lemmas.MapComm.listMap_injective Lemmas.bytesOf_inj))
  simp only [Option.map_some, List.map_cons, List.map_nil]
  repeat rw [Lemmas.bytesOf_ofList]
  decide +kernel

-- hypotheses of `printers_pure`, `tsv_line_count`, `tsv_lines_of_record`, `canonical_token`, `bed_line_spec` on it
example : Reachable exView.ref (C18.checkSites exView.ref [(1201, 1499)] .plus []).2 ∧
    (specTsv .all exCfgP.params exView exRA).isSome = true ∧ Checker.all.check exRA = true ∧
    (∀ it ∈ junctionsFromBlocks exRA.exons, exView.ref.start ≤ it.1 ∧ exView.ref.start < it.2) ∧
    exCfgP.params.checkCanonical = true ∧ exView.ref.refRegion ≠ [] ∧ junctionsFromBlocks exRA.exons ≠ [] ∧
    exRA.correctedExons ≠ [] ∧ (Checker.only [.«unique»]).check exRA = false := by
  refine ⟨Reachable.query [] _ _ Reachable.fresh, by decide +kernel, rfl, by decide +kernel, rfl, by decide +kernel,
    by decide +kernel, by decide, by decide⟩

-- hypothesis `hst` of `canonical_token`: the example read has a definite strand
example : strandOf exRA.strand ≠ .dot := by decide

-- the memo does not matter: after a '+' query on the same intron (answer False) the '-' read still prints True
example : (printRecords exCfgP exView [exRA] (C18.checkSites exView.ref [(1201, 1499)] .plus []).2).map
      (fun L => L.tsv.map (·.info)) = (specRecords exCfgP exView [exRA]).map (fun L => L.tsv.map (·.info)) ∧
    (C18.checkSites exView.ref [(1201, 1499)] .plus []).1 = false :=
  ⟨congrArg _ (printers_pure exCfgP exView [exRA] _ (Reachable.query [] _ _ Reachable.fresh)), by decide +kernel⟩

-- event strings: strand-dependent names from the generated table, the three kinds of suffix
example :
    eventStr ⟨.ism_left, undefinedRegion, undefinedRegion, 0⟩ "-" [] [] = "ism_3" ∧
    eventStr ⟨.ism_left, undefinedRegion, undefinedRegion, 0⟩ "+" [] [] = "ism_5" ∧
    eventStr ⟨.ism_left, undefinedRegion, undefinedRegion, 0⟩ "." [] [] = "ism" ∧
    eventStr ⟨.exon_elongation_left, undefinedRegion, undefinedRegion, 17⟩ "+" [] [] = "exon_elongation_5:17" ∧
    eventStr ⟨.intron_retention, (0, 0), undefinedRegion, 0⟩ "+" [] [(1201, 1499), (2101, 2500)] = "intron_retention:1201-1499" ∧
    eventStr ⟨.extra_intron_novel, undefinedRegion, (0, 1), 0⟩ "+" [(5, 9), (20, 29), (40, 49)] [] = "extra_intron_novel:5-9,20-29" ∧
    eventStr ⟨.fsm, undefinedRegion, undefinedRegion, 0⟩ "+" [] [] = "fsm" := by
  decide +kernel

-- a match whose transcript the gene info does not know, or without gene id, makes the real printer raise
example : specMatchLine exCfgP.params exView exRA { exMatch with assignedTranscript := some "T9" } = none ∧
    specMatchLine exCfgP.params exView exRA { exMatch with assignedTranscript := some "T2", assignedGene := none } = none := by
  decide +kernel

/-- the externals of printing for the experiment `exChroms` of Props/C15Reuse.lean: T1 has the read's intron, the
    reference makes it canonical on the minus strand -/
def exX : PrintEnv :=
  { params := ⟨false, true⟩,
    isoformIntrons := fun h => if h.geneIds = ["G1"] then [("T1", [(1201, 1499)])] else [("T2", [])],
    chrSeq := fun _ => List.replicate 899 'N' ++ exWindow,
    commonHeader := ["# Command line: isoquant.py\n", "# IsoQuant version: 3.4.0\n"] }

-- hypotheses of `files_reproduce_printed` / `reuse_reproduces_printed` / `restart_prints_second_half`
example : ∃ files, collectReads exEnv false ["NA"] 0 exChroms = some files ∧
    ∃ resolved, resolveStream false (streamOf exEnv exChroms) = some resolved ∧
      processSavedP exEnv (exCfg false) exX (exChroms.map (·.name)) files =
        printedFromRecords exEnv exX (exCfg false).mergeOrder resolved exChroms := by
  obtain ⟨hI, hD, _, hMf, hlen, _, _, hsF⟩ := exChroms_hyps
  cases hc : collectReads exEnv false ["NA"] 0 exChroms with
  | none => rw [hc] at hsF; cases hsF
  | some files => exact ⟨files, rfl, files_reproduce_printed exEnv (exCfg false) exX ["NA"] exChroms files 0 hI hc hD hMf hlen⟩


/-- the concrete experiment printed: read `ra` keeps its primary alignment on c1 (one TSV line, one BED line), its
    secondary on c2 is `suspended` by the resolver and appears in neither file, `rb` on c2 is printed (the event of
    `exMatch` has the sentinel read region `extra_left .. extra_right`: an empty slice, printed as a bare `:`) -/
example :
    ((collectReads exEnv false ["NA"] 0 exChroms).bind (processSavedP exEnv (exCfg false) exX ["c1", "c2"])).map
        (fun p => (p.tsv.drop 3, p.bed.drop 1)) = some
      (["ra\tc1\t-\tT1\tG1\tunique\tintron_shift:\t1000-1200,1500-2000\tgene_assignment=unique; PolyA=False; Canonical=True; Classification=full_splice_match; CB=ACGT; pos=(-1, 3);\n",
        "rb\tc2\t-\tT2\tG2\tunique\tintron_shift:\t1000-1200,1500-2000\tgene_assignment=unique; PolyA=False; Canonical=True; Classification=full_splice_match; CB=ACGT; pos=(-1, 3);\n"],
       ["c1\t999\t2000\tra\t0\t+\t999\t999\t0\t3\t201,100,501\t0,201,500\n",
        "c2\t999\t2000\trb\t0\t+\t999\t999\t0\t3\t201,100,501\t0,201,500\n"]) := by
  -- by `files_reproduce_printed` the files need not be read back: the lines are evaluated from the records
  obtain ⟨hI, hD, _, hMf, hlen, _, _, hsF⟩ := exChroms_hyps
  obtain ⟨files, hc⟩ := Option.isSome_iff_exists.mp hsF
  obtain ⟨res, hres, hp⟩ := files_reproduce_printed exEnv (exCfg false) exX ["NA"] exChroms files 0 hI hc hD hMf hlen
  rw [hc, Option.bind_some, show (["c1", "c2"] : List String) = exChroms.map (·.name) from rfl, hp]
  show ((some res).bind fun r => printedFromRecords exEnv exX (exCfg false).mergeOrder r exChroms).map _ = _
  rw [← hres]
  apply Lemmas.opt_pair_inj (Lemmas.MapComm.listMap_injective Lemmas.bytesOf_inj) (Lemmas.MapComm.listMap_injective Lemmas.bytesOf_inj)
  simp only [Option.map_some, List.map_cons, List.map_nil]
  repeat rw [Lemmas.bytesOf_ofList]
  decide +kernel

-- hypothesis of `restart_prints_second_half`: the saving run of the concrete experiment succeeds, printers included
example : (savingRunP exEnv (exCfg false) exX ["NA"] [2, 3] exChroms).isSome = true := by
  obtain ⟨hI, hD, _, hMf, hlen, _, _, _⟩ := exChroms_hyps
  obtain ⟨⟨files, o⟩, hs, _⟩ := Option.map_eq_some_iff.mp restart_not_aligned_witness.1
  obtain ⟨res, hres, hp⟩ := files_reproduce_printed exEnv (exCfg false) exX ["NA"] exChroms files _ hI
    (savingRun_unpack hs).1 hD hMf hlen
  have key : ((resolveStream false (streamOf exEnv exChroms)).bind fun r =>
      printedFromRecords exEnv exX (exCfg false).mergeOrder r exChroms).isSome = true := by decide +kernel
  rw [show resolveStream false _ = _ from hres, Option.bind_some] at key
  rw [savingRunP_eq, hs, Option.bind_some, Option.isSome_map, hp]
  exact key

end IsoVerif.Props.C15Printers
