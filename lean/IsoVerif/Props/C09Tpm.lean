/-
C09 — the VALUES of a grouped TPM table (`convert_counts_to_tpm` of a grouped counter, Model/C09Tpm.lean).

For every count file whose rows all have `k` value columns (what `dump_grouped` / `merge_counts` write), for all
feature ids, counts and numbers of groups:

  * the conversion does not raise, the TPM table has the rows of the count table (up to the first statistics line;
    only the header, the first line of the file, is skipped: a feature id may start with `#`) in the same order, each with `k` values;
  * the cell of feature `f` in group column `j` is `count(f, j) · 10^6 / Σ_f' count(f', j)` (`· 10^6` when the column
    has no positive sum);
  * every column with a positive sum sums to exactly 10^6; a column without counts stays zero; within a column all
    ratios of the counts are preserved; a column depends on no other column;
  * the `--normalization_method` and the number of usable reads have no influence on a grouped table;
  * a row shorter than the longest one makes the conversion raise `IndexError` (never a silently shifted column).
Values are exact rationals (the file prints them with `%.6f`); the header is `Props/C09.lean` `tpm_header_labels`.
-/
import IsoVerif.Model.C09Tpm
import IsoVerif.Lemmas.C09Tpm

namespace IsoVerif.Props.C09Tpm
open IsoVerif.Model.C09 IsoVerif.Lemmas.C09Tpm

/-- the documented TPM value of a cell: the count times `10^6 / column sum` -/
def tpmValue (inp : List (String × List Int)) (j : Nat) (r : String × List Int) : Rat :=
  gScale (colTotal j inp) * pvAt r.2 j

/-- `k` value columns in every row the conversion looks at -/
def Rect (k : Nat) (rows : List (String × List Int)) : Prop := ∀ r ∈ tpmInputRowsG rows, r.2.length = k

/-- **grouped_tpm_values**: on a rectangular count table the grouped TPM table is, cell by cell, the documented value:
    same rows in the same order, `k` columns, cell (f, j) = count(f, j) · `gScale` (column sum j), where
    `gScale T = 10^6 / T` for `T > 0` (`gScale_spec`) -/
theorem grouped_tpm_values (un : Bool) (rt k : Nat) (rows : List (String × List Int)) (hrect : Rect k rows) :
    groupedTpm un rt rows = .ok ((tpmInputRowsG rows).map (fun r =>
      (r.1, (List.range k).map (fun j => tpmValue (tpmInputRowsG rows) j r)))) := by
  unfold groupedTpm
  simp only []
  unfold Rect at hrect
  generalize tpmInputRowsG rows = inp at hrect ⊢
  by_cases hne : inp = []
  · subst hne; rfl
  have hlen : ((gTotals inp).map gScale).length = k := by
    rw [List.length_map]; exact gTotals_length k inp hrect hne
  rw [tpmRows_ok _ inp (by intro r hr; rw [hlen, hrect r hr]; exact Nat.le_refl _)]
  congr 1
  apply List.map_congr_left
  intro r hr
  congr 1
  apply List.ext_getElem?
  intro j
  by_cases hj : j < k
  · have hrl := hrect r hr
    have hjr : j < r.2.length := by omega
    rw [List.getElem?_zipWith, List.getElem?_map, gTotals_getElem k inp hrect hne j hj,
      List.getElem?_eq_getElem hjr]
    simp only [Option.map_some, List.getElem?_map, List.getElem?_range hj, tpmValue, pvAt,
      List.getElem?_eq_getElem hjr]
  · have h1 : ((gTotals inp).map gScale)[j]? = none := by
      apply List.getElem?_eq_none; omega
    rw [List.getElem?_zipWith, h1]
    have h2 : ((List.range k).map (fun j => tpmValue inp j r))[j]? = none := by
      apply List.getElem?_eq_none; simp; omega
    rw [h2]

/-- the scale of a column with a positive sum is `10^6 / sum`; it is always positive -/
theorem gScale_spec (t : Rat) : (0 < t → gScale t = 1000000 / t) ∧ 0 < gScale t :=
  ⟨fun h => by simp [gScale, h], gScale_pos t⟩

/-- **grouped_tpm_column_sum**: every group column with a positive count sum sums to exactly 10^6 -/
theorem grouped_tpm_column_sum (inp : List (String × List Int)) (j : Nat) (hpos : 0 < colTotal j inp) :
    rsum (inp.map (fun r => tpmValue inp j r)) = 1000000 := by
  unfold tpmValue
  rw [rsum_map_map inp (fun r => pvAt r.2 j) (gScale (colTotal j inp))]
  exact gScale_mul _ hpos

/-- **grouped_tpm_zero_column**: a cell without count has TPM 0; in particular a column without any count is a zero
    column (it is not dropped and not filled by the normalisation) -/
theorem grouped_tpm_zero_column (inp : List (String × List Int)) (j : Nat) (r : String × List Int)
    (h : pvAt r.2 j = 0) : tpmValue inp j r = 0 := by
  simp [tpmValue, h, Rat.mul_zero]

/-- **grouped_tpm_ratio**: within a group column the TPM values are the counts times one positive factor, so the
    ratio (and order) of any two features is that of their counts -/
theorem grouped_tpm_ratio (inp : List (String × List Int)) (j : Nat) (r₁ r₂ : String × List Int) :
    tpmValue inp j r₁ * pvAt r₂.2 j = tpmValue inp j r₂ * pvAt r₁.2 j ∧
    (pvAt r₁.2 j ≤ pvAt r₂.2 j → tpmValue inp j r₁ ≤ tpmValue inp j r₂) := by
  refine ⟨by unfold tpmValue; grind, ?_⟩
  intro h
  unfold tpmValue
  exact Rat.mul_le_mul_of_nonneg_left h (Rat.le_of_lt (gScale_pos _))

/-- **grouped_tpm_column_independent**: the values of column `j` are a function of the counts of column `j` alone
    (two tables that agree on column `j` get the same TPM column, whatever the other groups hold) -/
theorem grouped_tpm_column_independent (inp inp' : List (String × List Int)) (j : Nat) (r r' : String × List Int)
    (hcol : inp.map (fun x => pvAt x.2 j) = inp'.map (fun x => pvAt x.2 j)) (hr : pvAt r.2 j = pvAt r'.2 j) :
    tpmValue inp j r = tpmValue inp' j r' := by
  unfold tpmValue colTotal
  rw [hcol, hr]

/-- **grouped_tpm_ignores_normalization**: `--normalization_method usable_reads` and the number of usable reads do
    not enter a grouped TPM table (the code applies them only when `ignore_read_groups`) -/
theorem grouped_tpm_ignores_normalization (un : Bool) (rt : Nat) (rows : List (String × List Int)) :
    groupedTpm un rt rows = groupedTpm false 0 rows := rfl

/-- **grouped_tpm_ragged_error**: a row with fewer values than another row of the table makes the conversion raise
    `IndexError`; values are never attributed to a shifted column -/
theorem grouped_tpm_ragged_error (un : Bool) (rt : Nat) (rows : List (String × List Int))
    (r r' : String × List Int) (hr : r ∈ tpmInputRowsG rows) (hr' : r' ∈ tpmInputRowsG rows)
    (hshort : r.2.length < r'.2.length) :
    groupedTpm un rt rows = .error .indexError := by
  unfold groupedTpm
  simp only []
  apply tpmRows_short _ _ r hr
  rw [List.length_map]
  have := (gTotals_length_le _ (tpmInputRowsG rows)).mp (Nat.le_refl _) r' hr'
  omega

/-- two groups, the second with counts of the feature `#c` only (an id may start with `#`: a row like any other since
    fix ffabc7a); the table ends at the statistics line -/
example : groupedTpm false 0 [("g1", [100, 0]), ("#c", [100, 5]), ("g2", [300, 0]), ("__ambiguous", [7, 7]), ("g3", [1, 1])] =
    .ok [("g1", [200000, 0]), ("#c", [200000, 1000000]), ("g2", [600000, 0])] := by decide +kernel

example : Rect 2 [("g1", [100, 0]), ("#c", [100, 5]), ("g2", [300, 0]), ("__ambiguous", [7, 7]), ("g3", [1])] := by
  intro r hr
  have : tpmInputRowsG [("g1", [100, 0]), ("#c", [100, 5]), ("g2", [300, 0]), ("__ambiguous", [7, 7]), ("g3", [1])] =
      [("g1", [100, 0]), ("#c", [100, 5]), ("g2", [300, 0])] := by decide +kernel
  rw [this] at hr
  simp at hr
  rcases hr with rfl | rfl | rfl <;> rfl

/-- **grouped_tpm_hash_witness**: the rows the unrepaired reader looked at lack the feature `#c` (its counts were in no
    column total and it had no TPM row) -/
theorem grouped_tpm_hash_witness :
    tpmInputRowsGOrig [("g1", [100, 0]), ("#c", [100, 5]), ("g2", [300, 0]), ("__ambiguous", [7, 7])]
      = [("g1", [100, 0]), ("g2", [300, 0])] ∧
    tpmInputRowsG [("g1", [100, 0]), ("#c", [100, 5]), ("g2", [300, 0]), ("__ambiguous", [7, 7])]
      = [("g1", [100, 0]), ("#c", [100, 5]), ("g2", [300, 0])] := by decide +kernel

example : 0 < colTotal 0 [("g1", [100, 0]), ("g2", [300, 0])] := by decide +kernel

/-- the ragged case is real: the second row lacks the value of the second group -/
example : groupedTpm true 5 [("g1", [100, 50]), ("g2", [300])] = .error .indexError := by decide +kernel

end IsoVerif.Props.C09Tpm
