/-
C08 — the set of retained alignments does not depend on the order of the records.
Full strength: for ALL permutations (`List.Perm`) of ALL record lists.  The statement is about the fixed tree
(`fix:` commit 2d978be: deterministic tie-break in `select_noninformative`); the behaviour before the fix is kept
as `selectBestAssignmentBuggy` with its witness.
-/
import IsoVerif.Model.Resolver
import IsoVerif.Lemmas.Resolver
import IsoVerif.Lemmas.ResolverSpec
import IsoVerif.Props.C08

namespace IsoVerif.Props.C08Order
open IsoVerif.Gen IsoVerif.Model.Resolver IsoVerif.Lemmas.Resolver IsoVerif.Lemmas.ResolverSpec IsoVerif.Props.C08

/-- the read is retained on alignment `k` (alignment = chromosome, start, end, isoforms: the `__eq__` fields, so exact
    duplicates count once) -/
def RetainedOn (out : List Rec) (k : Key) : Prop := ∃ r ∈ retained out, key r = k

/-- the retained alignments as a function of the *multiset* of records -/
theorem retained_on_iff (l : List Rec) (h2 : 2 ≤ l.length) (hin : NoSuspendedInput l) :
    ∃ out, resolve .take_best l = some out ∧ ∀ k, RetainedOn out k ↔ ∃ r ∈ l, Winner l r ∧ key r = k := by
  obtain ⟨out, hout, honly, hall, hone⟩ := priority l h2 hin
  refine ⟨out, hout, ?_⟩
  intro k
  constructor
  · rintro ⟨r', hr', rfl⟩
    obtain ⟨r, hr, hw, hsame⟩ := honly r' hr'
    exact ⟨r, hr, hw, (key_eq_of_sameAlignment hsame).symm⟩
  · rintro ⟨r, hr, hw, rfl⟩
    by_cases hassigned : Has Cons l ∨ Has Inc l
    · exact hall hassigned r hr hw
    · have hc : ¬ Has Cons l := fun h => hassigned (Or.inl h)
      have hi : ¬ Has Inc l := fun h => hassigned (Or.inr h)
      obtain ⟨r', hr'⟩ := hone hc hi
      have hmem : r' ∈ retained out := by rw [hr']; simp
      obtain ⟨r0, hr0, hw0, hsame⟩ := honly r' hmem
      refine ⟨r', hmem, ?_⟩
      rw [key_eq_of_sameAlignment hsame]
      exact best_uninformative_unique hr0 hr ((winner_iff_unassigned hc hi).mp hw0) ((winner_iff_unassigned hc hi).mp hw)

/-- **order_independent** (full strength): for every list of at least two records and every permutation of it, the
    resolver succeeds on both and retains the read on the same set of alignments -/
theorem order_independent (l l' : List Rec) (hp : l.Perm l') (h2 : 2 ≤ l.length) (hin : NoSuspendedInput l) :
    ∃ out out', resolve .take_best l = some out ∧ resolve .take_best l' = some out' ∧
      ∀ k, RetainedOn out k ↔ RetainedOn out' k := by
  have h2' : 2 ≤ l'.length := by rw [← hp.length_eq]; exact h2
  have hin' : NoSuspendedInput l' := fun r hr => hin r (hp.mem_iff.mpr hr)
  obtain ⟨out, hout, hk⟩ := retained_on_iff l h2 hin
  obtain ⟨out', hout', hk'⟩ := retained_on_iff l' h2' hin'
  refine ⟨out, out', hout, hout', ?_⟩
  intro k
  rw [hk, hk']
  constructor
  · rintro ⟨r, hr, hw, hkey⟩; exact ⟨r, hp.mem_iff.mp hr, (winner_perm hp r).mp hw, hkey⟩
  · rintro ⟨r, hr, hw, hkey⟩; exact ⟨r, hp.mem_iff.mpr hr, (winner_perm hp r).mpr hw, hkey⟩

/-- lists of fewer than two records are returned untouched, whatever the order -/
theorem order_independent_short (s : MultimapResolvingStrategy) (l : List Rec) (h : l.length ≤ 1) :
    resolve s l = some l := by simp [resolve, h]

def tieA : Rec :=
  { aid := 1, readId := 0, chr := 0, start := 100, stop := 140, region := (90, 200), multimapper := false, polyA := false,
    atype := .noninformative, gtype := .noninformative, penalty := 0, isoforms := [], genes := [] }
def tieB : Rec :=
  { aid := 2, readId := 0, chr := 1, start := 100, stop := 140, region := (90, 200), multimapper := true, polyA := false,
    atype := .noninformative, gtype := .noninformative, penalty := 0, isoforms := [], genes := [] }

/-- two uninformative records tied on (overlap, region start): the tree before the `fix:` commit kept whichever came
    first, so the retained alignment depended on the order (replayed on the real code by the oracle, which the
    current code must pass) -/
theorem order_witness :
    (selectBestAssignmentBuggy [tieA, tieB]).map (fun o => (retained o).map key) = some [key tieA] ∧
    (selectBestAssignmentBuggy [tieB, tieA]).map (fun o => (retained o).map key) = some [key tieB] ∧
    key tieA ≠ key tieB := by
  refine ⟨by decide +kernel, by decide +kernel, by decide +kernel⟩

-- the fixed resolver on the same two orders, and non-vacuity of `order_independent`
example : [tieA, tieB].Perm [tieB, tieA] ∧ 2 ≤ [tieA, tieB].length ∧ NoSuspendedInput [tieA, tieB] ∧
    (resolve .take_best [tieA, tieB]).map (fun o => (retained o).map key) = some [key tieA] ∧
    (resolve .take_best [tieB, tieA]).map (fun o => (retained o).map key) = some [key tieA] := by
  refine ⟨List.Perm.swap _ _ _, by decide +kernel, by decide +kernel, by decide +kernel, by decide +kernel⟩

end IsoVerif.Props.C08Order
