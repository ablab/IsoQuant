/-
C19 — `interval_bin_search`, `interval_bin_search_rev` as REGENERATED FROM THE SOURCE on every run (`Gen/Loops.lean`, written by `harness/translate.py`).
Part 1: refinement `Gen.f args = Model.f args` for ALL inputs (no sortedness / well-formedness; error cases included; the
emitted fuel bounds suffice).  Part 2: the C19 theorems about the hand model restated over the generated definitions.
An edit of the Python loop re-generates `Gen.f` and re-opens these proofs.  Overview: Props/C19Gen.lean.
-/
import IsoVerif.Props.C19Lists
import IsoVerif.Props.C19Compose
import IsoVerif.Lemmas.GenBinSearch

namespace IsoVerif.Props.C19Gen
open IsoVerif.Gen IsoVerif.Model IsoVerif.Lemmas IsoVerif.Lemmas.GenLoops

/-! ## Part 1 — refinement: generated definition = hand model, for all inputs -/

/-- `interval_bin_search`: the generated loop follows Python (short-circuit chained comparison, a negative index would
    wrap), the hand model reads both neighbours eagerly and flags a negative index — they are EQUAL on every input,
    sorted or not, because the index provably stays in `[0, len-2]` (invariant `rem step ≤ ind ∧ ind + rem step + 2 ≤ len`,
    which needs only the three early exits); same fuel `2·len + 2` on both sides -/
theorem interval_bin_search_refines (l : List Iv) (pos : Int) :
    Gen.interval_bin_search l pos = intervalBinSearch l pos := by
  unfold interval_bin_search intervalBinSearch
  simp only [pyIdx_neg_one, pyIdx_zero]
  obtain ⟨rfl, -⟩ | ⟨f, t, hh, hl, hf0, ht0, hne⟩ := head?_getLast?_cases l
  · rfl
  simp only [hh, hl, interval_bin_search.after1, interval_bin_search.after2, interval_bin_search.fuel3,
    pyIdx_neg_one, pyLen, decide_eq_true_eq]
  by_cases h1 : pos > t.2
  · simp [h1]
  by_cases h2 : pos < f.1
  · simp [h1, h2]
  by_cases h3 : pos ≥ t.1
  · have : ((l.length : Int) - 1) = ((l.length - 1 : Nat) : Int) := by omega
    simp [h1, h2, h3, this]
  simp only [h1, h2, h3, decide_false, Bool.false_eq_true, if_false, or_self]
  have hlen2 : 2 ≤ l.length := by
    refine Nat.le_of_not_lt (fun hlt => ?_)
    have h1' : l.length - 1 = 0 := by omega
    rw [h1'] at ht0
    cases hf0.symm.trans ht0
    omega
  have hs := mid_natCast l.length hne
  have hr := rem_le ((l.length - 1) / 2)
  rw [hs]
  exact bin_search_loop_eq l pos f t hf0 ht0 (by omega) (by omega) _ _ _ _ (by omega) (by omega)

/-- `interval_bin_search_rev` (index stays in `[0, len-1]`; the `l[-1]` wrap at index 0 is the same on both sides) -/
theorem interval_bin_search_rev_refines (l : List Iv) (pos : Int) :
    Gen.interval_bin_search_rev l pos = intervalBinSearchRev l pos := by
  unfold interval_bin_search_rev intervalBinSearchRev
  simp only [pyIdx_neg_one, pyIdx_zero]
  obtain ⟨rfl, -⟩ | ⟨f, t, hh, hl, hf0, ht0, hne⟩ := head?_getLast?_cases l
  · rfl
  simp only [hh, hl, interval_bin_search_rev.after1, interval_bin_search_rev.after2, interval_bin_search_rev.fuel3,
    pyIdx_zero, pyLen, decide_eq_true_eq]
  by_cases h1 : pos > t.2
  · simp [h1]
  by_cases h2 : pos < f.1
  · simp [h1, h2]
  by_cases h3 : pos ≤ f.2
  · simp [h1, h2, h3]
  simp only [h1, h2, h3, decide_false, Bool.false_eq_true, if_false, or_self]
  have hs := mid_natCast l.length hne
  have hr := rem_le ((l.length - 1) / 2)
  rw [hs]
  exact bin_search_rev_loop_eq l pos f t hf0 ht0 (by omega) (by omega) _ _ _ _ (by omega) (by omega)

/-- the emitted fuel bound is the one given in the translator's signature table (the hand model's `2·len + 2`) -/
theorem fuel_bounds_bin_search (l : List Iv) (p : Int) :
    interval_bin_search.fuel3 l p = 2 * l.length + 2 ∧ interval_bin_search_rev.fuel3 l p = 2 * l.length + 2 := ⟨rfl, rfl⟩

/-! ## Part 2 — theorems over the generated definitions -/

/-- binary search: for strictly increasing starts a position in `[l[t].1, l[t+1].1)` is found at index `t`: the
    generated loop terminates within the emitted fuel `2·len + 2` and raises no IndexError -/
theorem bin_search_spec (l : List Iv) (pos : Int) (hinc : StrictInc (l.map (·.1))) (hw : WFl l)
    (f tl : Iv) (hf : l.head? = some f) (ht : l.getLast? = some tl)
    (t : Nat) (a b : Iv) (hta : l[t]? = some a) (htb : l[t + 1]? = some b)
    (hpa : a.1 ≤ pos) (hpb : pos < b.1) (hin : pos ≤ tl.2) :
    Gen.interval_bin_search l pos = some (t : Int) := by
  rw [interval_bin_search_refines]
  exact C19Lists.bin_search_spec l pos hinc hw f tl hf ht t a b hta htb hpa hpb hin

theorem bin_search_rev_spec (l : List Iv) (pos : Int) (hinc : StrictInc (l.map (fun r => r.2 + 1)))
    (f tl : Iv) (hf : l.head? = some f) (ht : l.getLast? = some tl)
    (t : Nat) (a b : Iv) (hta : l[t]? = some a) (htb : l[t + 1]? = some b)
    (hpa : a.2 < pos) (hpb : pos ≤ b.2) (hin : f.1 ≤ pos) :
    Gen.interval_bin_search_rev l pos = some ((t : Int) + 1) := by
  rw [interval_bin_search_rev_refines]
  exact C19Lists.bin_search_rev_spec l pos hinc f tl hf ht t a b hta htb hpa hpb hin

example : StrictInc ([((1 : Int), (5 : Int)), (10, 12), (20, 30), (40, 41), (50, 60)].map (·.1)) ∧
    Gen.interval_bin_search [(1, 5), (10, 12), (20, 30), (40, 41), (50, 60)] 11 = some 1 ∧
    Gen.interval_bin_search_rev [(1, 5), (10, 12), (20, 30), (40, 41), (50, 60)] 35 = some 3 := by
  refine ⟨by simp [StrictInc], by decide +kernel, by decide +kernel⟩

/-- the composition the pipeline runs (`NonOverlappingFeaturesProfileConstructor` searches the split exons of the gene),
    over the GENERATED loops: on the split exons of a non-empty, well-formed exon list both searches return an index for
    EVERY position — no IndexError, no unnoticed negative index, the emitted fuel suffices -/
theorem searches_total_on_split_exons (exons : List Iv) (hne : exons ≠ []) (w : WFl exons)
    (hpos : ∀ e ∈ exons, 0 ≤ e.1) (pos : Int) :
    ∃ blocks i j, splitExons exons = some blocks ∧ Gen.interval_bin_search blocks pos = some i ∧
      Gen.interval_bin_search_rev blocks pos = some j := by
  obtain ⟨blocks, i, hb, hi⟩ := C19Compose.bin_search_on_split_exons_total exons hne w hpos pos
  obtain ⟨blocks', j, hb', hj⟩ := C19Compose.bin_search_rev_on_split_exons_total exons hne w hpos pos
  rw [hb] at hb'; cases hb'
  exact ⟨blocks, i, j, hb, by rw [interval_bin_search_refines]; exact hi, by rw [interval_bin_search_rev_refines]; exact hj⟩

example : ([(100, 200), (150, 300), (400, 500)] : List Iv) ≠ [] ∧ WFl [(100, 200), (150, 300), (400, 500)] ∧
    (∀ e ∈ ([(100, 200), (150, 300), (400, 500)] : List Iv), 0 ≤ e.1) := by
  refine ⟨by decide, by decide, by decide⟩

end IsoVerif.Props.C19Gen
