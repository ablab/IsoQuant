/-
C15 — "for every representable value": the value domain of each object writer, declaratively.
`(writeX x).isSome` (the real `serialize` does not raise) holds exactly when every int field is in [0, 2^32)
(sign-bit ints in (−2^31, 2^31), shorts in [0, 2^16)), every string has fewer than 2^16 UTF-8 bytes, every list is
shorter than 2^32, every penalty `q` satisfies 0 ≤ trunc(q·2^20) < 2^32 – the domain of DESIGN.md §6 "C15".
Together with the `…_decode_encode` theorems (Props/C15Objects.lean), whose only hypothesis besides `Dom` is that
the writer succeeded, this gives the round trip on the whole documented domain (`…_on_domain` below).
-/
import IsoVerif.Lemmas.SerialDomain
import IsoVerif.Props.C15Objects

namespace IsoVerif.Props.C15Domain
open IsoVerif.Gen IsoVerif.Model IsoVerif.Model.Serial IsoVerif.Lemmas.Serial IsoVerif.Props.C15Objects

def EventOk (e : MatchEvent) : Prop :=
  IsU32 e.isoformRegion.1 ∧ IsU32 e.isoformRegion.2 ∧ IsU32 e.readRegion.1 ∧ IsU32 e.readRegion.2 ∧ IsS31 e.eventInfo

theorem match_event_encodable_iff (e : MatchEvent) : (writeMatchEvent e).isSome ↔ EventOk e := by
  simp only [writeMatchEvent, seqW_isSome_cons, seqW_nil, Option.isSome_some, and_true, writeInt4_isSome,
    writeIntNeg_isSome_iff, writeInt2_isSome, isU16_of_lt (MatchEventSubtype.value_lt _), true_and, EventOk, IsS31]

def MatchOk (m : IsoformMatch) : Prop :=
  OptStrOk m.assignedGene ∧ OptStrOk m.assignedTranscript ∧ StrOk m.transcriptStrand ∧ PenaltyOk m.penaltyScore ∧
  ListOk EventOk m.events

theorem isoform_match_encodable_iff (m : IsoformMatch) : (writeIsoformMatch m).isSome ↔ MatchOk m := by
  simp only [writeIsoformMatch, seqW_isSome_cons, seqW_nil, Option.isSome_some, and_true, writeStringOrNone_isSome,
    writeString_isSome, writeShortInt_isSome, writePenalty_isSome, writeList_isSome _ _ _ match_event_encodable_iff,
    isU16_of_lt (MatchClassification.value_lt _), true_and, MatchOk]

/-- the documented value domain of a saved read assignment -/
def RAOk (r : ReadAssignment) : Prop :=
  IsU32 r.assignmentId ∧ StrOk r.readId ∧ IsU32 r.genomicRegion.1 ∧ IsU32 r.genomicRegion.2 ∧
  ListOk (fun v => IsU32 v.1 ∧ IsU32 v.2) r.exons ∧ ListOk (fun v => IsU32 v.1 ∧ IsU32 v.2) r.correctedExons ∧
  IsS31 r.polyaInfo.externalPolyaPos ∧ IsS31 r.polyaInfo.externalPolytPos ∧
  IsS31 r.polyaInfo.internalPolyaPos ∧ IsS31 r.polyaInfo.internalPolytPos ∧
  StrOk r.readGroup ∧ StrOk r.mappedStrand ∧ StrOk r.strand ∧ StrOk r.chrId ∧ IsU16 r.mappingQuality ∧
  ListOk MatchOk r.isoformMatches ∧ DictOk r.additionalInfo ∧ DictOk r.additionalAttributes ∧
  ListOk IsS31 r.exonGeneProfile ∧ ListOk IsS31 r.intronGeneProfile

theorem read_assignment_encodable_iff (r : ReadAssignment) : (writeReadAssignment r).isSome ↔ RAOk r := by
  have hb : IsU16 (if r.intronsMatch then 1 else 0) := by cases r.intronsMatch <;> simp [IsU16]
  simp only [writeReadAssignment, seqW_isSome_cons, seqW_nil, Option.isSome_some, and_true,
    writeInt4_isSome, writeString_isSome, writeListOfPairs_isSome, writeBoolArray3_isSome, writeIntNeg_isSome_iff,
    writeShortInt_isSome, writeList_isSome _ _ _ isoform_match_encodable_iff, writeDict_isSome,
    writeList_isSome _ _ _ writeIntNeg_isSome_iff, RAOk, true_and, hb,
    isU16_of_lt (ReadAssignmentType.value_lt _)]
  exact Iff.rfl

def BasicOk (b : BasicReadAssignment) : Prop :=
  IsU32 b.assignmentId ∧ StrOk b.readId ∧ StrOk b.chrId ∧ IsU32 b.start ∧ IsU32 b.end ∧
  IsU32 b.genomicRegion.1 ∧ IsU32 b.genomicRegion.2 ∧ PenaltyOk b.penaltyScore ∧
  ListOk StrOk b.genes ∧ ListOk StrOk b.isoforms

theorem basic_encodable_iff (b : BasicReadAssignment) : (writeBasic b).isSome ↔ BasicOk b := by
  simp only [writeBasic, seqW_isSome_cons, seqW_nil, Option.isSome_some, and_true,
    writeInt4_isSome, writeString_isSome, writeBoolArray2_isSome, writeShortInt_isSome, writePenalty_isSome,
    writeList_isSome _ _ _ writeString_isSome, BasicOk, true_and, isU16_of_lt (ReadAssignmentType.value_lt _)]

def HeaderOk (g : GeneHeader) : Prop :=
  IsU32 g.delta ∧ ListOk StrOk g.geneIds ∧ StrOk g.chrId ∧ IsU32 g.start ∧ IsU32 g.end

theorem gene_header_encodable_iff (g : GeneHeader) : (writeGeneHeader g).isSome ↔ HeaderOk g := by
  simp only [writeGeneHeader, seqW_isSome_cons, seqW_nil, Option.isSome_some, and_true,
    writeInt4_isSome, writeString_isSome, writeList_isSome _ _ _ writeString_isSome, HeaderOk]

theorem penaltyOk_of_multiple (n : Int) (h : IsU32 n) :
    PenaltyOk ((n : Rat) / ((ser_SHORT_FLOAT_MULTIPLIER : Nat) : Rat)) := by
  unfold PenaltyOk; rw [penaltyToInt_of_multiple]; exact h

/-- decode ∘ encode on the documented domain: every read assignment whose fields are in range can be written, and
    what is written is read back (penalties truncated to 20 fractional bits) by the full reader and projected by the
    abridged reader, both stopping at the same byte -/
theorem read_assignment_roundtrip_on_domain (r : ReadAssignment) (hok : RAOk r) (hdom : RADom r) :
    ∃ bs, writeReadAssignment r = some bs ∧ ∀ rest,
      readReadAssignment.run (bs ++ rest) = some (quantRA r, rest) ∧
      (r.exons ≠ [] → readBasicFromReadAssignment.run (bs ++ rest) = some (basicOf (quantRA r), rest)) := by
  obtain ⟨bs, hbs⟩ := Option.isSome_iff_exists.mp ((read_assignment_encodable_iff r).mpr hok)
  exact ⟨bs, hbs, fun rest => ⟨read_assignment_decode_encode r bs rest hbs hdom,
    fun hne => (quick_reader_aligned r bs rest hbs hdom hne).1⟩⟩

/-- the concrete record of Props/C15Objects.lean is in the domain -/
example : RAOk exRA ∧ RADom exRA :=
  ⟨(read_assignment_encodable_iff exRA).mp (by decide +kernel), by decide +kernel⟩

end IsoVerif.Props.C15Domain
