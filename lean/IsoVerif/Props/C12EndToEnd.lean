/-
C12, end to end — the same alignment records supplied as any partition into 1..n coordinate-sorted BAM files of one
experiment give the same multiset of retained assignment records and the same gene / transcript count and TPM tables.

The modelled pipeline (Model/BamPipeline.lean, `endToEnd`) composes the models of
  C12  k-way merge → region clusters → (sub-)regions → re-fetch per region            (Model/BamMerge.lean)
  C08  per-read lists (both memory modes) → `MultimapResolver.resolve` (take_best) → verdict files →
       `ReadAssignmentLoader.get_next` (suspended skipped)                              (Model/Resolver.lean)
  C02  ungrouped gene / transcript counters → `dump` → `merge_counts` → `convert_counts_to_tpm`  (Model/Counter.lean)
with the glue of `dataset_processor.py` (chromosome stamp, assignment ids, `count_unaligned_reads`).
PARAMETERS (arbitrary functions, nothing assumed beyond what is written in the hypotheses): `split_coverage_regions`
(`SplitFn`, C05) and the per-alignment function `assign c : region → bam index → alignment → Option PRec`
(filters, profiles, `LongReadAssigner`, exon correction ...), applied per alignment as in Props/C12.lean.

Uses C08's `priority_candidates` / `losers_never_loaded` / `memory_paths_agree` / `winner_perm` and, through
Lemmas/CounterPerm.lean, C02's `run_counts` / `run_confirmed` / `run_stats` / `get_zeroUnconfirmed`.
-/
import IsoVerif.Model.BamPipeline
import IsoVerif.Lemmas.C12Pipeline
import IsoVerif.Lemmas.C12Downstream
import IsoVerif.Lemmas.CounterPerm
import IsoVerif.Props.C12

namespace IsoVerif.Props.C12EndToEnd
open IsoVerif.Gen IsoVerif.Model.C12 IsoVerif.Model.Resolver IsoVerif.Model.C02
open IsoVerif.Lemmas.C12 IsoVerif.Lemmas.C02 IsoVerif.Lemmas.Resolver IsoVerif.Props.C12
open List

/-- the records of a chromosome are the concatenation of the blocks (one `process_alignments_in_region` call each) -/
theorem collect_is_flatten_of_blocks {R : Type} (split : SplitFn) (assign : Assign R) (files : List (List Aln)) :
    collect split assign files = (collectBlocks split assign files).flatten ∧
    collectMem split assign files = (collectBlocksMem split assign files).flatten :=
  ⟨collect_eq_blocks split assign files, collectMem_eq_blocks split assign files⟩

/-- the blocks are the per-alignment function mapped over what `forward_alignments` hands on (`forwarded` /
    `forwardedMem` of Model/BamMerge.lean, tied to the real `AlignmentCollector` by the `forwarded` correspondence) -/
theorem blocks_are_forwarded {R : Type} (split : SplitFn) (assign : Assign R) (files : List (List Aln)) :
    collectBlocks split assign files =
      (forwarded split files).map (fun se => se.2.filterMap (fun e => assign se.1 e.1 e.2)) ∧
    collectBlocksMem split assign files =
      (forwardedMem split files).map (fun se => se.2.filterMap (fun e => assign se.1 e.1 e.2)) := by
  constructor
  · simp only [collectBlocks, forwarded, List.map_flatMap, List.map_map, Function.comp_def]
    rfl
  · simp only [collectBlocksMem, forwardedMem, List.map_flatMap, List.map_map, Function.comp_def]

/-- **blocks_partition_invariant** (sharper than `records_multiset_invariant`): two ways of supplying the same
    alignments as coordinate-sorted files give the same SEQUENCE of blocks, corresponding blocks being permutations
    of each other — a different partition reorders records only inside one (sub-)region.  Both memory modes. -/
theorem blocks_partition_invariant {R : Type} (split : SplitFn) (assign : Assign R) (files1 files2 : List (List Aln))
    (s1 : ∀ f ∈ files1, SortedStart f) (s2 : ∀ f ∈ files2, SortedStart f)
    (wf : ∀ a ∈ files1.flatten, a.start < a.stop) (hp : files1.flatten.Perm files2.flatten)
    (hidx : ∀ r i j a, assign r i a = assign r j a) :
    Forall2 (fun b b' => b.Perm b') (collectBlocks split assign files1) (collectBlocks split assign files2) ∧
    Forall2 (fun b b' => b.Perm b') (collectBlocksMem split assign files1) (collectBlocksMem split assign files2) :=
  ⟨blocks_forall2 split assign files1 files2 s1 s2 wf hp hidx,
   blocksMem_forall2 split assign files1 files2 s1 s2 wf hp hidx⟩

/-- **counter_perm_invariant**: for every order of the calls on a counter (fresh or running), the run raises iff
    the other one does, and the dumped tables (rows in order, printed values, `__ambiguous`, `__no_feature`,
    `__not_aligned`, `__usable`) are equal.  `le` = a total order of the feature ids. -/
theorem counter_perm_invariant {F : Type} [DecidableEq F] (s : CountingStrategy) (lvl : Level) (le : F → F → Bool)
    (ho : TotalOrder le) (oz : Bool) (st0 : CState F) {es es' : List (Event F)} (hp : es.Perm es') :
    (IsoVerif.Model.C02.run s lvl st0 es).map (dump le oz) = (IsoVerif.Model.C02.run s lvl st0 es').map (dump le oz) :=
  counter_perm_invariant_aux s lvl le ho oz st0 hp

/-- the state itself, as far as `dump` can see it -/
theorem counter_state_perm_invariant {F : Type} [DecidableEq F] (s : CountingStrategy) (lvl : Level)
    (st0 : CState F) {es es' : List (Event F)} (hp : es.Perm es') :
    (IsoVerif.Model.C02.run s lvl st0 es = none ↔ IsoVerif.Model.C02.run s lvl st0 es' = none) ∧
    ∀ st st', IsoVerif.Model.C02.run s lvl st0 es = some st → IsoVerif.Model.C02.run s lvl st0 es' = some st' → StEq st st' :=
  IsoVerif.Lemmas.C02.run_perm s lvl st0 hp

/-- **loaded_records_spec**: on a stream of stamped records without `suspended` inputs whose
    (assignment id, chromosome) pairs are pairwise different, in BOTH memory modes: resolution never raises, the loader
    of no chromosome raises, and what the loader hands on for chromosome `c` is, as a multiset, `specRecords c`:
    read by read, a read with one record keeps it, a read with several keeps the first record of every
    `__eq__`-class of `Winner` records (C08's priority classes), re-flagged — no position, no assignment id involved. -/
theorem loaded_records_spec (highMemory : Bool) (S : List PRec)
    (hU : (S.map (·.basic)).Pairwise (fun a b => ¬ (a.aid = b.aid ∧ a.chr = b.chr)))
    (hNS : NoSuspendedInput (S.map (·.basic))) :
    ∃ resolved, resolveStream highMemory (S.map (·.basic)) = some resolved ∧
      ∀ c, ∃ loaded, loadChr (verdictsFor c resolved) (S.filter (onChr c)) = some loaded ∧
        loaded.Perm (specRecords c S) := by
  obtain ⟨resolved, hres, hload⟩ := loadChr_spec highMemory S hU hNS
  exact ⟨resolved, hres, fun c => ⟨_, hload c, loadSpec_perm S hU c⟩⟩

/-- the assignment ids are invisible in `specRecords` -/
theorem assignment_ids_invisible (c : Nat) (S : List PRec) :
    (specRecords c S).map PRec.eraseAid = specRecords c (S.map PRec.eraseAid) := specRecords_eraseAid c S

/-- **downstream_blockwise_invariant**: two record streams (per chromosome, cut into blocks) whose corresponding
    blocks are permutations of each other, numbered with ANY two injective assignment-id numberings, with the same
    total of unaligned reads: both runs raise or neither does, and then, chromosome by chromosome, the loaded records
    agree as multisets once the ids are forgotten, and the dumped gene and transcript tables, the merged tables
    (`__not_aligned` included) and the TPM tables are EQUAL.
    Hypotheses: `le` is a total order; no input record is `suspended`; `BlockDupOK`: inside one block two records
    that `BasicReadAssignment.__eq__` identifies (same read, chromosome, start, end, isoform set) are identical. -/
theorem downstream_blockwise_invariant (cfg : Config) (ho : TotalOrder cfg.le) (ids ids' : Nat → Nat → Nat)
    (hinj : ∀ c i j, ids c i = ids c j → i = j) (hinj' : ∀ c i j, ids' c i = ids' c j → i = j)
    (u u' : List Nat) (hu : countUnaligned u = countUnaligned u')
    (CB CB' : List (List (List PRec))) (hF : Forall2 (Forall2 (fun b b' => b.Perm b')) CB CB')
    (hNS : ∀ blocks ∈ CB, ∀ b ∈ blocks, ∀ p ∈ b, p.basic.atype ≠ .suspended)
    (hD : BlockDupOK (globalBlocks CB)) :
    OptRel OutEq (downstream cfg ids u (CB.map List.flatten)) (downstream cfg ids' u' (CB'.map List.flatten)) := by
  have hT := tagged_stamped ids (CB.map List.flatten)
  have hT' := tagged_stamped ids' (CB'.map List.flatten)
  have hdist : ∀ (ids : Nat → Nat → Nat), (∀ c i j, ids c i = ids c j → i = j) → ∀ (chroms : List (List PRec)),
      ∀ x ∈ stampedOf ids chroms,
        x.1.Pairwise (fun a b => ¬ (a.basic.aid = b.basic.aid ∧ a.basic.chr = b.basic.chr)) := by
    intro ids hinj chroms x hx
    obtain ⟨x0, _, rfl⟩ := List.mem_map.mp hx
    exact stampChr_distinct _ _ (hinj _) _
  have hU := stream_distinct hT (hdist ids hinj _)
  have hU' := stream_distinct hT' (hdist ids' hinj' _)
  have hns : ∀ (ids : Nat → Nat → Nat) (CB : List (List (List PRec))),
      (∀ blocks ∈ CB, ∀ b ∈ blocks, ∀ p ∈ b, p.basic.atype ≠ .suspended) →
      NoSuspendedInput ((((stampedOf ids (CB.map List.flatten)).map (·.1)).flatten).map (·.basic)) := by
    intro ids CB h r hr
    obtain ⟨p, hp, rfl⟩ := List.mem_map.mp hr
    obtain ⟨l, hl, hpl⟩ := List.mem_flatten.mp hp
    obtain ⟨x, hx, rfl⟩ := List.mem_map.mp hl
    obtain ⟨x0, hx0, rfl⟩ := List.mem_map.mp hx
    obtain ⟨y, hy, rfl⟩ := List.mem_map.mp hpl
    have hy1 : y.1 ∈ x0.1 := by
      have := List.mem_zipIdx_iff_getElem?.mp hy
      exact List.mem_of_getElem? this
    have hx1 : x0.1 ∈ CB.map List.flatten := by
      have := List.mem_zipIdx_iff_getElem?.mp hx0
      exact List.mem_of_getElem? this
    obtain ⟨blocks, hb, hbe⟩ := List.mem_map.mp hx1
    rw [← hbe] at hy1
    obtain ⟨b, hbb, hyb⟩ := List.mem_flatten.mp hy1
    exact h blocks hb b hbb y.1 hyb
  have hNS' : ∀ blocks ∈ CB', ∀ b ∈ blocks, ∀ p ∈ b, p.basic.atype ≠ .suspended := by
    -- the records of the second representation are those of the first
    intro blocks' hb' b' hbb' p hp
    obtain ⟨blocks, hb, hbl⟩ := forall2_mem_right hF hb'
    obtain ⟨b, hbb, hperm⟩ := forall2_mem_right hbl hbb'
    exact hNS blocks hb b hbb p (hperm.mem_iff.mpr hp)
  obtain ⟨resolved, hres, hload⟩ := loadChr_spec cfg.highMemory _ hU (hns ids CB hNS)
  obtain ⟨resolved', hres', hload'⟩ := loadChr_spec cfg.highMemory _ hU' (hns ids' CB' hNS')
  unfold downstream
  rw [hres, hres']
  simp only
  have hlen : Forall2 (fun x x' => x.2 = x'.2) (stampedOf ids (CB.map List.flatten))
      (stampedOf ids' (CB'.map List.flatten)) := by
    unfold stampedOf
    have h0 : Forall2 (fun (_ _ : List PRec) => True) (CB.map List.flatten) (CB'.map List.flatten) :=
      forall2_map _ _ hF (fun _ _ _ => True.intro)
    exact forall2_map _ _ (forall2_zipIdx h0 0) (fun a b hab => hab.2)
  have hblocks := globalBlocks_forall2 hF
  have hchr : Forall2 (fun x x' => OptRel ChrEq (processChr cfg resolved x.2 x.1) (processChr cfg resolved' x'.2 x'.1))
      (stampedOf ids (CB.map List.flatten)) (stampedOf ids' (CB'.map List.flatten)) := by
    refine forall2_imp_mem hlen ?_
    intro x x' hx hx' hc
    have e1 := flatten_filter_tagged hT x hx
    have e2 := flatten_filter_tagged hT' x' hx'
    unfold processChr
    rw [← e1, ← e2, hload x.2, hload' x'.2, ← hc]
    simp only
    apply chrOutOf_rel cfg ho
    -- both loaded lists are `specRecords` of their aid-free streams, and these are block-wise permutations of each other
    have p1 := (loadSpec_perm _ hU x.2).map PRec.eraseAid
    have p2 := (loadSpec_perm _ hU' x.2).map PRec.eraseAid
    rw [specRecords_eraseAid, stream_eraseAid] at p1 p2
    exact p1.trans ((specRecords_blocks x.2 hblocks hD).trans p2.symm)
  have hm := mapM_rel (R := ChrEq) (fun x : List PRec × Nat => processChr cfg resolved x.2 x.1)
    (fun x : List PRec × Nat => processChr cfg resolved' x.2 x.1) hchr
  rcases hm.cases with ⟨h1, h2⟩ | ⟨outs, outs', h1, h2, hm'⟩
  · rw [h1, h2]; exact True.intro
  · rw [h1, h2]
    obtain ⟨hg, ht⟩ := merged_parts_eq hm' cfg.mergeOrder
    show OutEq (assemble cfg u outs) (assemble cfg u' outs')
    unfold OutEq assemble
    simp only [hg, ht, hu, and_self, and_true]
    exact hm'

/-- the exact condition under which the end-to-end statement is proved: inside one forwarded (sub-)region, two
    records that `__eq__` identifies are identical (after the chromosome stamp, ids forgotten).
    Without it the statement is false of the model: `bam_clause_witness`. -/
def NoConflictingDuplicates (cfg : Config) (split : SplitFn) (assign : Nat → Assign PRec)
    (genome : List (List (List Aln))) : Prop :=
  BlockDupOK (globalBlocks (blocksOf cfg split assign genome))

/-- **end_to_end_partition_invariant**.  For every experiment `g1` (per chromosome, the per-file record streams) and
    every other way `g2` of supplying the same alignment records as coordinate-sorted files (any number of files, any
    assignment of the records to files, chromosome by chromosome the same multiset), for every
    `split_coverage_regions` function and every per-alignment function that does not look at the bam index and yields no
    `suspended` record, in both memory modes, under `NoConflictingDuplicates` (without it the statement is false:
    `bam_clause_witness`), with any injective assignment-id numberings and the same total of unaligned reads: the modelled
    pipeline raises on both or on neither, and otherwise yields, chromosome by chromosome, the same multiset of
    retained assignment records (ids forgotten) and EQUAL gene / transcript count tables and TPM tables. -/
theorem end_to_end_partition_invariant (cfg : Config) (ho : TotalOrder cfg.le) (split : SplitFn)
    (assign : Nat → Assign PRec) (ids1 ids2 : Nat → Nat → Nat)
    (hinj1 : ∀ c i j, ids1 c i = ids1 c j → i = j) (hinj2 : ∀ c i j, ids2 c i = ids2 c j → i = j)
    (u1 u2 : List Nat) (hu : countUnaligned u1 = countUnaligned u2)
    (g1 g2 : List (List (List Aln)))
    (hs1 : ∀ files ∈ g1, ∀ f ∈ files, SortedStart f) (hs2 : ∀ files ∈ g2, ∀ f ∈ files, SortedStart f)
    (wf : ∀ files ∈ g1, ∀ a ∈ files.flatten, a.start < a.stop)
    (hp : Forall2 (fun f1 f2 => f1.flatten.Perm f2.flatten) g1 g2)
    (hidx : ∀ c r i j a, assign c r i a = assign c r j a)
    (hNS : ∀ c r i a p, assign c r i a = some p → p.basic.atype ≠ .suspended)
    (hD : NoConflictingDuplicates cfg split assign g1) :
    OptRel OutEq (endToEnd cfg split assign ids1 u1 g1) (endToEnd cfg split assign ids2 u2 g2) := by
  rw [endToEnd_eq, endToEnd_eq]
  apply downstream_blockwise_invariant cfg ho ids1 ids2 hinj1 hinj2 u1 u2 hu _ _ ?_ ?_ hD
  · unfold blocksOf
    refine forall2_map _ _ (forall2_imp_mem (forall2_zipIdx hp 0) ?_) (fun a b hab => hab)
    rintro x x' hx hx' ⟨h1, h2⟩
    have hx1 : x.1 ∈ g1 := List.mem_of_getElem? (List.mem_zipIdx_iff_getElem?.mp hx)
    have hx2 : x'.1 ∈ g2 := List.mem_of_getElem? (List.mem_zipIdx_iff_getElem?.mp hx')
    rw [h2]
    split
    · exact blocksMem_forall2 split _ _ _ (hs1 _ hx1) (hs2 _ hx2) (wf _ hx1) h1 (hidx x'.2)
    · exact blocks_forall2 split _ _ _ (hs1 _ hx1) (hs2 _ hx2) (wf _ hx1) h1 (hidx x'.2)
  · intro blocks hb b hbb p hpb
    obtain ⟨c, hc⟩ := List.mem_iff_getElem?.mp hb
    obtain ⟨sub, h⟩ := mem_blocksOf hc hbb
    obtain ⟨i, a, ha⟩ := h p hpb
    exact hNS _ _ _ _ _ ha

/-- a condition on the per-alignment function alone (no reference to the files) that implies
    `NoConflictingDuplicates`: within one (sub-)region two alignments never yield `__eq__`-equal but different records -/
def AssignDupFree (assign : Nat → Assign PRec) : Prop :=
  ∀ c r i i' a a' p p', assign c r i a = some p → assign c r i' a' = some p' →
    eqP (p.stamp c 0) (p'.stamp c 0) = true → p.stamp c 0 = p'.stamp c 0

theorem noConflictingDuplicates_of_assign (cfg : Config) (split : SplitFn) (assign : Nat → Assign PRec)
    (genome : List (List (List Aln))) (h : AssignDupFree assign) : NoConflictingDuplicates cfg split assign genome := by
  intro b hb x hx y hy hxy
  simp only [globalBlocks, List.mem_flatMap, List.mem_map] at hb
  obtain ⟨z, hz, b0, hb0, rfl⟩ := hb
  obtain ⟨px, hpx, rfl⟩ := List.mem_map.mp hx
  obtain ⟨py, hpy, rfl⟩ := List.mem_map.mp hy
  obtain ⟨sub, hs⟩ := mem_blocksOf (List.mem_zipIdx_iff_getElem?.mp hz) hb0
  obtain ⟨i, a, ha⟩ := hs px hpx
  obtain ⟨i', a', ha'⟩ := hs py hpy
  exact h _ _ _ _ _ _ _ _ ha ha' hxy

/-- the tables of a one-chromosome experiment as a function of the chromosome's record list -/
def tablesPost (cfg : Config) (ids : Nat → Nat → Nat) (u : List Nat) (l : List PRec) :
    Option (Part Nat × Part Nat × TpmTable Nat × TpmTable Nat) :=
  (downstream cfg ids u [l]).map (fun o => (o.geneCounts, o.transcriptCounts, o.geneTpm, o.transcriptTpm))

/-- **downstream_perm_invariant_partial** — the hypothesis `hpost` of `outputs_invariant_partial` for the modelled
    downstream (tables), for ARBITRARY permutations of the record list, under the condition that in the WHOLE list
    records that `__eq__` identifies are identical.  (Unconditionally it is false: `perm_witness`; the end-to-end
    theorem therefore goes through blocks, where the condition is only needed inside one (sub-)region.) -/
theorem downstream_perm_invariant_partial (cfg : Config) (ho : TotalOrder cfg.le) (ids : Nat → Nat → Nat)
    (hinj : ∀ c i j, ids c i = ids c j → i = j) (u : List Nat) (l l' : List PRec) (hp : l.Perm l')
    (hNS : ∀ p ∈ l, p.basic.atype ≠ .suspended)
    (hD : ∀ x ∈ l, ∀ y ∈ l, eqP (x.stamp 0 0) (y.stamp 0 0) = true → x.stamp 0 0 = y.stamp 0 0) :
    tablesPost cfg ids u l = tablesPost cfg ids u l' := by
  have h := downstream_blockwise_invariant cfg ho ids ids hinj hinj u u rfl [[l]] [[l']]
    (Forall2.cons (Forall2.cons hp Forall2.nil) Forall2.nil)
    (by
      intro blocks hb b hbb p hpb
      simp only [List.mem_singleton] at hb; subst hb
      simp only [List.mem_singleton] at hbb; subst hbb
      exact hNS p hpb)
    (by
      intro b hb x hx y hy hxy
      simp only [globalBlocks, List.zipIdx_cons, List.zipIdx_nil, List.flatMap_cons, List.flatMap_nil,
        List.map_cons, List.map_nil, List.append_nil, List.mem_singleton] at hb
      subst hb
      obtain ⟨px, hpx, rfl⟩ := List.mem_map.mp hx
      obtain ⟨py, hpy, rfl⟩ := List.mem_map.mp hy
      exact hD px hpx py hpy hxy)
  simp only [List.map_cons, List.map_nil, List.flatten_cons, List.flatten_nil, List.append_nil] at h
  exact optRel_tables h

/-- **bam_clause_end_to_end_partial**: `BamClause` (the full-strength clause of Props/C12.lean, one chromosome) for
    the modelled downstream — resolver, loader, counters, merge, TPM — proved for every `split_coverage_regions`
    function and every per-alignment function that ignores the bam index, yields no `suspended` record and is
    `AssignDupFree`.  What is missing for the unconditional clause is exactly `AssignDupFree`: see `bam_clause_witness`. -/
theorem bam_clause_end_to_end_partial (cfg : Config) (hmode : cfg.highMemory = false) (ho : TotalOrder cfg.le)
    (ids : Nat → Nat → Nat) (hinj : ∀ c i j, ids c i = ids c j → i = j) (u : List Nat)
    (split : SplitFn) (assign : Assign PRec)
    (hidx : ∀ r i j a, assign r i a = assign r j a)
    (hNS : ∀ r i a p, assign r i a = some p → p.basic.atype ≠ .suspended)
    (hdup : AssignDupFree (fun _ => assign)) :
    BamClause (tablesPost cfg ids u) split assign := by
  intro files1 files2 s1 s2 wf hp
  have h := end_to_end_partition_invariant cfg ho split (fun _ => assign) ids ids hinj hinj u u rfl
    [files1] [files2] (by simpa using s1) (by simpa using s2) (by simpa using wf)
    (Forall2.cons hp Forall2.nil) (fun _ => hidx) (fun _ => hNS)
    (noConflictingDuplicates_of_assign cfg split _ _ hdup)
  have e : ∀ files, endToEnd cfg split (fun _ => assign) ids u [files] = downstream cfg ids u [collect split assign files] := by
    intro files
    simp [endToEnd, hmode]
  rw [e, e] at h
  exact optRel_tables h

/-- one chromosome, transcript 1 of gene 10 (two introns) listed -/
def cfgW : Config :=
  { highMemory := false, geneStrategy := .unique_only, transcriptStrategy := .unique_only, le := natLe,
    norm := .simple, isStatLike := fun _ => false, completeGenes := fun _ => [10], completeTranscripts := fun _ => [1],
    mergeOrder := [0] }

def idsW : Nat → Nat → Nat := fun _ i => i
def splitW : SplitFn := fun r _ _ => [r]

def recW (r : Iv) (a : Aln) (nce rest : Nat) : PRec :=
  { basic := { aid := 0, readId := 0, chr := 0, start := a.start, stop := a.stop, region := r, multimapper := true,
               polyA := false, atype := .unique, gtype := .unique, penalty := 0, isoforms := [1], genes := [10] },
    isoMatches := [⟨some 10, some 1⟩], nCorrectedExons := nce, isoformIntrons := [(1, 2)], rest := rest }

/-- two secondary alignments of ONE read with the same start and end, both uniquely consistent with transcript 1:
    the record of alignment 1 has a spliced corrected alignment (3 exons), the record of alignment 2 an unspliced one.
    `__eq__` identifies them (same read, chromosome, start, end, isoforms) although they differ. -/
def assignW : Assign PRec := fun r _ a => some (recW r a (if a.tag = 1 then 3 else 1) a.tag)

def filesW1 : List (List Aln) := [[⟨10, 50, 1⟩], [⟨10, 50, 2⟩]]
def filesW2 : List (List Aln) := [[⟨10, 50, 2⟩], [⟨10, 50, 1⟩]]

/-- **bam_clause_witness**: `BamClause` is FALSE of the modelled downstream without `AssignDupFree`.  The same two
    alignment records in two files, file order swapped: the merger yields them in the other order (tie on start and
    end, broken by the bam index), `find_duplicates` keeps the first, so the retained record is the spliced one in one
    representation (transcript 1 confirmed: `1.00`) and the unspliced one in the other (zeroed: `0.00`). -/
theorem bam_clause_witness :
    (∀ r i j a, assignW r i a = assignW r j a) ∧ (∀ r i a p, assignW r i a = some p → p.basic.atype ≠ .suspended) ∧
    (tablesPost cfgW idsW [] (collect splitW assignW filesW1)).map (fun t => t.2.1.rows) = some [(1, 100)] ∧
    (tablesPost cfgW idsW [] (collect splitW assignW filesW2)).map (fun t => t.2.1.rows) = some [(1, 0)] ∧
    ¬ BamClause (tablesPost cfgW idsW []) splitW assignW := by
  have h1 : (tablesPost cfgW idsW [] (collect splitW assignW filesW1)).map (fun t => t.2.1.rows) = some [(1, 100)] := by
    decide +kernel
  have h2 : (tablesPost cfgW idsW [] (collect splitW assignW filesW2)).map (fun t => t.2.1.rows) = some [(1, 0)] := by
    decide +kernel
  refine ⟨fun _ _ _ _ => rfl, ?_, h1, h2, ?_⟩
  · intro r i a p h
    simp only [assignW, Option.some.injEq] at h
    subst h; simp [recW]
  · intro hc
    have := hc filesW1 filesW2 (by decide +kernel) (by decide +kernel) (by decide +kernel) (by decide +kernel)
    rw [this] at h1
    rw [h1] at h2
    exact absurd h2 (by decide +kernel)

/-- the same at the level of `hpost` (the hypothesis of `outputs_invariant_partial`): the two orders of the two
    records are a permutation of each other and give different tables -/
theorem perm_witness :
    (collect splitW assignW filesW1).Perm (collect splitW assignW filesW2) ∧
    tablesPost cfgW idsW [] (collect splitW assignW filesW1) ≠ tablesPost cfgW idsW [] (collect splitW assignW filesW2) := by
  constructor
  · have e1 : collect splitW assignW filesW1 = [recW (10, 49) ⟨10, 50, 1⟩ 3 1, recW (10, 49) ⟨10, 50, 2⟩ 1 2] := by
      decide +kernel
    have e2 : collect splitW assignW filesW2 = [recW (10, 49) ⟨10, 50, 2⟩ 1 2, recW (10, 49) ⟨10, 50, 1⟩ 3 1] := by
      decide +kernel
    rw [e1, e2]
    exact Perm.swap _ _ _
  · intro h
    have h1 := bam_clause_witness.2.2.1
    have h2 := bam_clause_witness.2.2.2.1
    rw [h, h2] at h1
    exact absurd h1 (by decide +kernel)

/-- the record is a function of the alignment's coordinates (and the region) only -/
def assignOK : Assign PRec := fun r _ a => some (recW r a 3 0)

-- hypotheses of `bam_clause_end_to_end_partial` / `end_to_end_partition_invariant` are met ...
example : cfgW.highMemory = false ∧ TotalOrder cfgW.le ∧ (∀ c i j, idsW c i = idsW c j → i = j) ∧
    (∀ r i j a, assignOK r i a = assignOK r j a) ∧
    (∀ r i a p, assignOK r i a = some p → p.basic.atype ≠ .suspended) ∧ AssignDupFree (fun _ => assignOK) := by
  refine ⟨rfl, natLe_total, fun _ _ _ h => h, fun _ _ _ _ => rfl, ?_, ?_⟩
  · intro r i a p h
    simp only [assignOK, Option.some.injEq] at h
    subst h; simp [recW]
  · intro c r i i' a a' p p' h h' he
    simp only [assignOK, Option.some.injEq] at h h'
    subst h; subst h'
    simp only [eqP, recEq, PRec.stamp, recW, Bool.and_eq_true, beq_iff_eq] at he
    simp only [PRec.stamp, recW, he.1.1.2, he.1.2]

-- ... and both sides compute: the two representations give the same, non-trivial, tables (the duplicate is dropped,
-- the read counts once; `__not_aligned` is the total over the files) and the same retained record
example :
    (∀ f ∈ filesW1, SortedStart f) ∧ (∀ f ∈ filesW2, SortedStart f) ∧ (∀ a ∈ filesW1.flatten, a.start < a.stop) ∧
    filesW1.flatten.Perm filesW2.flatten ∧ countUnaligned [2, 1] = countUnaligned [3] ∧
    (endToEnd cfgW splitW (fun _ => assignOK) idsW [2, 1] [filesW1]).map
        (fun o => (o.transcriptCounts.rows, o.geneCounts.rows, o.geneCounts.notAligned))
      = some ([(1, 100)], [(10, 100)], 3) ∧
    (endToEnd cfgW splitW (fun _ => assignOK) idsW [3] [filesW2]).map
        (fun o => (o.transcriptCounts.rows, o.geneCounts.rows, o.geneCounts.notAligned))
      = some ([(1, 100)], [(10, 100)], 3) ∧
    (endToEnd cfgW splitW (fun _ => assignOK) idsW [2, 1] [filesW1]).map
        (fun o => o.chrs.map (fun c => c.records.map (fun p => (p.basic.atype, p.basic.aid)))) = some [[(.unique, 0)]] ∧
    (endToEnd cfgW splitW (fun _ => assignOK) idsW [3] [filesW2]).map
        (fun o => o.chrs.map (fun c => c.records.map (fun p => (p.basic.atype, p.basic.aid)))) = some [[(.unique, 0)]] := by
  refine ⟨by decide +kernel, by decide +kernel, by decide +kernel, by decide +kernel, by decide +kernel, by decide +kernel, by decide +kernel,
    by decide +kernel, by decide +kernel⟩

-- `counter_perm_invariant` on a concrete history and its reversal
example : (IsoVerif.Model.C02.run .with_ambiguous .transcript (CState.init [1, 2])
      [Event.read (some (recW (1, 9) ⟨1, 5, 0⟩ 3 0).toAssignment), Event.read none]).map (dump natLe true) =
    (IsoVerif.Model.C02.run .with_ambiguous .transcript (CState.init [1, 2])
      [Event.read none, Event.read (some (recW (1, 9) ⟨1, 5, 0⟩ 3 0).toAssignment)]).map (dump natLe true) :=
  counter_perm_invariant _ _ natLe natLe_total true _ (Perm.swap _ _ _)


/-- reads `tag / 10`; alignment 1 is a primary one, all others are secondary -/
def assignMM : Assign PRec := fun r _ a =>
  some { recW r a 3 0 with basic := { (recW r a 3 0).basic with multimapper := a.tag != 1, readId := a.tag / 10 } }

-- two chromosomes, two files on the second; read 0 has a secondary alignment on chromosome 0 and its primary one on
-- chromosome 1 (the resolver keeps the primary one, the loader drops the other), read 1 has two secondary alignments
-- on different chromosomes (both kept): resolver, verdict files, loader and counters are live, both memory modes agree
example :
    let g : List (List (List Aln)) := [[[⟨10, 50, 2⟩, ⟨60, 90, 11⟩]], [[⟨10, 50, 1⟩], [⟨10, 50, 12⟩]]]
    let cfg2 : Config := { cfgW with mergeOrder := [0, 1] }
    (endToEnd cfg2 splitW (fun _ => assignMM) idsW [] g).map
        (fun o => o.chrs.map (fun c => c.records.map (fun p => (p.basic.readId, p.basic.chr, p.basic.start)))) =
      some [[(1, 0, 60)], [(0, 1, 10), (1, 1, 10)]] ∧
    (endToEnd { cfg2 with highMemory := true } splitW (fun _ => assignMM) idsW [] g).map
        (fun o => (o.chrs.map (fun c => c.records.map (fun p => (p.basic.readId, p.basic.chr, p.basic.start))),
                   o.transcriptCounts.rows)) =
      some ([[(1, 0, 60)], [(0, 1, 10), (1, 1, 10)]], [(1, 100), (1, 200)]) := by
  decide +kernel

end IsoVerif.Props.C12EndToEnd
