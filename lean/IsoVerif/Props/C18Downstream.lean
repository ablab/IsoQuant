/-
C18 — the downstream-A window of the SQANTI-like table (`perc_A_downstream_TTS`, `seq_A_downstream_TTS`):
`IOSupport.check_downstream_polya` reads `upstream_region_len` (= 20) bases behind the 3' end of a transcript model out of
the reference window of the gene region.  It is the same window arithmetic as the second-pass window of the Canonical flag
(Props/C18Window.lean, fix f48e223): before the repair the window ended with the last read (so the bases behind a `+` model
were cut off: `''`, 0.00) and for a `-` model starting within 20 bases of the window start the slice start was negative —
Python counts it from the END of the window — which gave `''` again, or bases from the other end of the region.

Repaired code (modelled by `loadRegion … flank`, `downstreamSeq`): the loader keeps `flank = upstream_region_len` bases on
either side of the reads when `--sqanti_output` is on, and the slice start is clamped at 0.

`downstream_window_spec` (full strength): for EVERY header window, storage of well-formed reads, flank ≥ n ≥ 0 and every
model span inside the span of the region's reads, the window is exactly the n bases downstream of the 3' end on the
chromosome, clipped only at the ends of the contig.
-/
import IsoVerif.Props.C18Window
import IsoVerif.Lemmas.CharUpper

namespace IsoVerif.Props.C18Downstream
open IsoVerif.Gen IsoVerif.Model IsoVerif.Model.C18 IsoVerif.Lemmas.C18 IsoVerif.Props.C18 IsoVerif.Props.C18Window
open IsoVerif.Lemmas

/-- the bases of the chromosome at the 1-based positions `lo ≤ p ≤ hi` that exist (`1 ≤ p ≤ length`), in order -/
def chrWindow (chr : Seq) (lo hi : Int) : Seq :=
  (chr.drop (max lo 1 - 1).toNat).take (hi - max lo 1 + 1).toNat

theorem chrWindow_get (chr : Seq) (lo hi : Int) (j : Nat) :
    (chrWindow chr lo hi)[j]? = if max lo 1 + j ≤ hi then chr[(max lo 1 - 1).toNat + j]? else none := by
  unfold chrWindow
  rw [List.getElem?_take]
  split
  · rename_i hj
    have : max lo 1 + (j : Int) ≤ hi := by omega
    simp [this]
  · rename_i hj
    have : ¬ (max lo 1 + (j : Int) ≤ hi) := by omega
    simp [this]

/-- the slice of the region loaded by `set_reference_sequence(S, E, chr)` between the offsets of the positions
    `max lo 1` and `hi + 1` is `chrWindow chr lo hi` -/
theorem region_slice (chr : Seq) (S E lo hi a b : Int) (h1 : max 1 S ≤ max lo 1) (h2 : max lo 1 ≤ hi + 1) (h3 : hi ≤ E)
    (ha : a = max lo 1 - max 1 S) (hb : b = hi + 1 - max 1 S) :
    pySlice (setReferenceSequence chr S E).1.refRegion a b = chrWindow chr lo hi := by
  subst ha hb
  simp only [setReferenceSequence]
  rw [pySlice_pySlice chr _ _ _ _ (by omega) (by omega) (by omega) (by omega),
    pySlice_range_clamp chr _ _ (by omega) (by omega)]
  unfold chrWindow
  congr 2 <;> omega

/-- the two slices of `check_downstream_polya` on a window `[max 1 S, E]` that holds the span and `n` more bases behind
    it, and that either holds `n` bases before it or starts at base 1 -/
theorem downstream_of_window (chr : Seq) (S E : Int) (c : Iv) (n : Int) (hn : 0 ≤ n)
    (h1 : max 1 S ≤ c.1) (h2 : c.1 ≤ c.2) (h3 : c.2 + n ≤ E) (h4 : max 1 S ≤ c.1 - n ∨ max 1 S = 1) :
    downstreamSeq (setReferenceSequence chr S E).1 c .plus n = chrWindow chr (c.2 + 1) (c.2 + n) ∧
    downstreamSeq (setReferenceSequence chr S E).1 c .minus n = chrWindow chr (c.1 - n) (c.1 - 1) := by
  have hst : (setReferenceSequence chr S E).1.start = max 1 S := rfl
  constructor
  · simp only [downstreamSeq, if_true, hst]
    exact region_slice chr S E _ _ _ _ (by omega) (by omega) h3 (by omega) (by omega)
  · have hne : (Strand.minus = Strand.plus) = False := by simp
    simp only [downstreamSeq, hne, if_false, hst]
    exact region_slice chr S E _ _ _ _ (by omega) (by omega) (by omega) (by omega) (by omega)

/-- **downstream_window_spec** (full strength, the repaired code): the gene region loaded for a header `hdr` and kept
    reads `reads` with `flank ≥ n` answers, for every span `c` inside the span of the region (header window widened over
    the reads — where every transcript model built from these reads lies), with exactly the `n` bases behind the last base
    (`+`) resp. before the first base (`-`) on the CHROMOSOME — clipped only where the contig ends -/
theorem downstream_window_spec (chr : Seq) (hdr : Iv) (reads : List ReadSpan) (flank n : Int)
    (hne : reads ≠ []) (hok : ∀ r ∈ reads, ReadOk r) (hn : 0 ≤ n) (hfl : n ≤ flank) (c : Iv)
    (hc1 : (extendedWindow (max 1 hdr.1, hdr.2) reads).1 ≤ c.1) (hc : c.1 ≤ c.2)
    (hc2 : c.2 ≤ (extendedWindow (max 1 hdr.1, hdr.2) reads).2) :
    downstreamSeq (loadRegion chr hdr reads flank).1 c .plus n = chrWindow chr (c.2 + 1) (c.2 + n) ∧
    downstreamSeq (loadRegion chr hdr reads flank).1 c .minus n = chrWindow chr (c.1 - n) (c.1 - 1) := by
  have hbnd := extendedWindow_bounds reads (max 1 hdr.1, hdr.2) (by simp only; omega) hok
  obtain ⟨S, E, hld, hS, hE⟩ := loadRegion_window chr hdr reads flank hne
  rw [hld]
  exact downstream_of_window chr S E c n hn (by omega) hc (by omega) (by omega)

/-- the sequence column and the percentage column of the table are functions of that window alone: the count is the number
    of `A`/`a` (resp. `T`/`t`) among the `n` downstream bases of the chromosome -/
theorem sqanti_downstream_spec (chr : Seq) (hdr : Iv) (reads : List ReadSpan) (flank n : Int)
    (hne : reads ≠ []) (hok : ∀ r ∈ reads, ReadOk r) (hn : 0 ≤ n) (hfl : n ≤ flank) (c : Iv)
    (hc1 : (extendedWindow (max 1 hdr.1, hdr.2) reads).1 ≤ c.1) (hc : c.1 ≤ c.2)
    (hc2 : c.2 ≤ (extendedWindow (max 1 hdr.1, hdr.2) reads).2)
    (href : (loadRegion chr hdr reads flank).1.refRegion ≠ []) :
    sqantiDownstream (loadRegion chr hdr reads flank).1 c .plus n =
      some (chrWindow chr (c.2 + 1) (c.2 + n), ((chrWindow chr (c.2 + 1) (c.2 + n)).map Char.toUpper).count 'A') ∧
    sqantiDownstream (loadRegion chr hdr reads flank).1 c .minus n =
      some (chrWindow chr (c.1 - n) (c.1 - 1), ((chrWindow chr (c.1 - n) (c.1 - 1)).map Char.toUpper).count 'T') ∧
    sqantiDownstream (loadRegion chr hdr reads flank).1 c .dot n = none := by
  have he : (loadRegion chr hdr reads flank).1.refRegion.isEmpty = false := by
    cases hg : (loadRegion chr hdr reads flank).1.refRegion with
    | nil => exact absurd hg href
    | cons _ _ => rfl
  obtain ⟨hp, hm⟩ := downstream_window_spec chr hdr reads flank n hne hok hn hfl c hc1 hc hc2
  refine ⟨?_, ?_, ?_⟩
  · simp only [sqantiDownstream, he, Bool.false_eq_true, if_false, hp, downstreamCount]; simp
  · simp only [sqantiDownstream, he, Bool.false_eq_true, if_false, hm, downstreamCount]; simp
  · simp [sqantiDownstream, he]

/-- the counted letters, declaratively: a base counts iff it is `A`/`a` (for `+`; `T`/`t` for `-`) -/
theorem downstream_count_spec (s : Seq) :
    downstreamCount s .plus = s.countP (fun ch => ch = 'A' ∨ ch = 'a') ∧
    downstreamCount s .minus = s.countP (fun ch => ch = 'T' ∨ ch = 't') := by
  constructor
  · simp only [downstreamCount, if_true, List.count_eq_countP, List.countP_map]
    congr 1; funext ch
    rw [Bool.eq_iff_iff]; simp [toUpper_A]
  · have hne : (Strand.minus = Strand.plus) = False := by simp
    simp only [downstreamCount, hne, if_false, List.count_eq_countP, List.countP_map]
    congr 1; funext ch
    rw [Bool.eq_iff_iff]; simp [toUpper_T]

/-- a 60-base chromosome: `C…C` with `AAAAAAAAAATTTTTTTTTT` at 1..20 and `TTTTTTTTTTAAAAAAAAAA` at 41..60 -/
def dsChr : Seq := ("AAAAAAAAAATTTTTTTTTT" ++ "CCCCCCCCCCCCCCCCCCCC" ++ "TTTTTTTTTTAAAAAAAAAA").toList

def dsRead : ReadSpan := { exons := [(21, 40)], correctedExons := [(21, 40)] }

/-- `dsChr` as a list the kernel need not decode: it decodes a string literal anew in every declaration that evaluates it,
    at a cost that grows faster than the length; the witnesses below rewrite with this first -/
theorem dsChr_eq : dsChr = List.replicate 10 'A' ++ List.replicate 10 'T' ++ List.replicate 20 'C' ++
    List.replicate 10 'T' ++ List.replicate 10 'A' := by
  unfold dsChr
  rw [String.toList_append, String.toList_append]
  decide +kernel

/-- **downstream_window_orig_witness** (replayed on the real code by the oracle): gene region 25..36, one read
    21–40, transcript model 21–40.  Before the repair the window is 21..40: the `+` slice starts behind its end (`''`,
    0.00) and the `-` slice `[-20:0]` is empty too; the chromosome has 20 bases on either side (10 A of 20 downstream on `+`,
    10 T of 20 on `-`), which the repaired loader (flank 20) returns -/
theorem downstream_window_orig_witness :
    sqantiDownstreamOrig (loadRegion dsChr (25, 36) [dsRead] 0).1 (21, 40) .plus 20 = some ([], 0) ∧
    sqantiDownstreamOrig (loadRegion dsChr (25, 36) [dsRead] 0).1 (21, 40) .minus 20 = some ([], 0) ∧
    sqantiDownstream (loadRegion dsChr (25, 36) [dsRead] 20).1 (21, 40) .plus 20 = some ("TTTTTTTTTTAAAAAAAAAA".toList, 10) ∧
    sqantiDownstream (loadRegion dsChr (25, 36) [dsRead] 20).1 (21, 40) .minus 20 = some ("AAAAAAAAAATTTTTTTTTT".toList, 10) ∧
    chrWindow dsChr 41 60 = "TTTTTTTTTTAAAAAAAAAA".toList ∧ chrWindow dsChr 1 20 = "AAAAAAAAAATTTTTTTTTT".toList := by
  rw [dsChr_eq]; decide +kernel

/-- the wrap-around: a `-` model starting 5 bases behind the window start; the unclamped slice `[-15:5]` of the
    16-base window 25..40 is `[1:5]` — four bases from INSIDE the model (and with a longer window bases from its far end) —
    instead of the 5 window bases before the model; with the flank the 20 bases 10..29 of the chromosome are returned -/
theorem downstream_wrap_witness :
    downstreamSeqOrig (setReferenceSequence dsChr 25 40).1 (30, 40) .minus 20 = "CCCC".toList ∧
    downstreamSeq (setReferenceSequence dsChr 25 40).1 (30, 40) .minus 20 = "CCCCC".toList ∧
    downstreamSeq (loadRegion dsChr (25, 36) [{ exons := [(30, 40)], correctedExons := [(30, 40)] }] 20).1 (30, 40) .minus 20 =
      chrWindow dsChr 10 29 ∧
    chrWindow dsChr 10 29 = "ATTTTTTTTTTCCCCCCCCC".toList := by
  rw [dsChr_eq]; decide +kernel

/-- clipped only at the contig: a `-` model starting at base 6 has 5 bases before it, a `+` model ending at base 55 of 60
    has 5 behind it -/
example : sqantiDownstream (loadRegion dsChr (6, 55) [{ exons := [(6, 55)], correctedExons := [(6, 55)] }] 20).1 (6, 55) .minus 20 =
      some ("AAAAA".toList, 0) ∧
    sqantiDownstream (loadRegion dsChr (6, 55) [{ exons := [(6, 55)], correctedExons := [(6, 55)] }] 20).1 (6, 55) .plus 20 =
      some ("AAAAA".toList, 5) ∧
    chrWindow dsChr (6 - 20) 5 = "AAAAA".toList ∧ chrWindow dsChr 56 75 = "AAAAA".toList := by rw [dsChr_eq]; decide +kernel

-- non-vacuity of `downstream_window_spec` / `sqanti_downstream_spec`: the witness region meets every hypothesis
example : [dsRead] ≠ [] ∧ (0 : Int) ≤ 20 ∧ (20 : Int) ≤ 20 ∧
    (extendedWindow (max 1 ((25, 36) : Iv).1, ((25, 36) : Iv).2) [dsRead]).1 ≤ ((21, 40) : Iv).1 ∧
    ((21, 40) : Iv).2 ≤ (extendedWindow (max 1 ((25, 36) : Iv).1, ((25, 36) : Iv).2) [dsRead]).2 ∧
    (loadRegion dsChr (25, 36) [dsRead] 20).1.refRegion ≠ [] := by rw [dsChr_eq]; decide +kernel

example : ReadOk dsRead := by
  refine ⟨?_, ?_, ?_, ?_, ?_, ?_⟩
  · exact trivial
  · intro r hr; simp [dsRead] at hr; subst hr; decide
  · exact trivial
  · intro r hr; simp [dsRead] at hr; subst hr; decide
  · intro r hr; simp [dsRead] at hr; subst hr; decide
  · intro r hr; simp [dsRead] at hr; subst hr; decide

end IsoVerif.Props.C18Downstream
