/-
C12 (cache clause) — a cached database is used only if key, both mtimes and the `complete` flag match; and over
every history of file writes, removals and conversions the database handed to the pipeline holds exactly what a fresh
conversion of the GTF's current content would produce (cached = fresh), provided the file system is mtime-faithful
(every write stamps a fresh mtime - the model's clock).
-/
import IsoVerif.Model.GtfCache
import IsoVerif.Lemmas.GtfCache

namespace IsoVerif.Props.C12Cache
open IsoVerif.Model.C12 IsoVerif.Lemmas.C12

/-- `find_converted_db` returns a database only if the cache holds an entry for exactly this GTF path whose stored
    database is the returned one, the GTF and the database exist with exactly the stored mtimes, and the stored
    `complete_db` flag equals the requested one — and in that case it does return it -/
theorem lookup_sound (c : Cache) (mt : String → Option Int) (gtf : String) (complete : Bool) (db : String) :
    findConvertedDb c mt gtf complete = .hit db ↔
      ∃ e mg md, c.get gtf = some e ∧ e.genedb = some db ∧ mt gtf = some mg ∧ e.gtfMtime = some mg ∧
        mt db = some md ∧ e.dbMtime = some md ∧ e.complete = some complete := by
  constructor
  · -- the nested `split`s follow the conjuncts of `findConvertedDb`, which Python evaluates left to right
    intro h
    unfold findConvertedDb at h
    cases hc : c.get gtf with
    | none =>
      simp only [hc, Option.bind_none] at h
      cases hg : mt gtf <;> simp [hg] at h
    | some e =>
      simp only [hc, Option.bind_some] at h
      cases hg : mt gtf with
      | none => simp [hg] at h
      | some mg =>
        simp only [hg] at h
        split at h
        · cases h
        · rename_i h1
          split at h
          · cases h
          · rename_i d hd
            split at h
            · cases h
            · rename_i md hmd
              split at h
              · cases h
              · rename_i h2
                split at h
                · cases h
                · rename_i h3
                  cases h
                  refine ⟨e, mg, md, rfl, hd, rfl, ?_, hmd, ?_, ?_⟩
                  · exact (Decidable.not_not.mp h1).symm
                  · exact (Decidable.not_not.mp h2).symm
                  · exact (Decidable.not_not.mp h3).symm
  · rintro ⟨e, mg, md, hc, hd, hg, h1, hmd, h2, h3⟩
    unfold findConvertedDb
    simp [hc, hg, h1, hd, hmd, h2, h3]

example : findConvertedDb [("a.gtf", ⟨some "o/a.db", some 5, some 7, some true⟩)]
      (fun p => if p = "a.gtf" then some 5 else if p = "o/a.db" then some 7 else none) "a.gtf" true = .hit "o/a.db" ∧
    findConvertedDb [("a.gtf", ⟨some "o/a.db", some 5, some 7, some true⟩)]
      (fun p => if p = "a.gtf" then some 5 else if p = "o/a.db" then some 7 else none) "a.gtf" false = .miss := by
  decide +kernel

/-- `compare_stored_gtf` (database → GTF direction) answers yes only if both files exist with the mtimes stored
    under that GTF key.  (It does not look at the stored `genedb` path: see docs/C12.md, observation O1.) -/
theorem compare_sound (c : Cache) (mt : String → Option Int) (gtf db : String) :
    compareStoredGtf c mt gtf db = true ↔
      ∃ e mg md, c.get gtf = some e ∧ mt gtf = some mg ∧ e.gtfMtime = some mg ∧ mt db = some md ∧ e.dbMtime = some md := by
  constructor
  · intro h
    unfold compareStoredGtf at h
    cases hc : c.get gtf with
    | none =>
      simp only [hc, Option.bind_none] at h
      cases hg : mt gtf <;> simp [hg] at h
    | some e =>
      simp only [hc, Option.bind_some] at h
      cases hg : mt gtf with
      | none => simp [hg] at h
      | some mg =>
        simp only [hg] at h
        split at h
        · cases h
        · rename_i h1
          cases hd : mt db with
          | none => simp [hd] at h
          | some md =>
            simp only [hd, decide_eq_true_eq] at h
            exact ⟨e, mg, md, rfl, rfl, (Decidable.not_not.mp h1).symm, rfl, h.symm⟩
  · rintro ⟨e, mg, md, hc, hg, h1, hd, h2⟩
    unfold compareStoredGtf
    simp [hc, hg, h1, hd, h2]

/-- a conversion never writes the database over its own input (IsoQuant derives `<output>/<name>.db` from a
    path that does not end in `db`) -/
def ValidOp : Op → Prop
  | .convert g d _ _ => g ≠ d
  | _ => True

def emptyWorld : World := { fs := [], cache := [], clock := 0 }

/-- the invariant `Inv` (Lemmas/GtfCache.lean: files and remembered mtimes are older than the clock; an entry whose
    two files still carry the remembered mtimes points to the conversion of the GTF's current content with the
    remembered flag) holds after every history -/
theorem cache_coherent_all_histories (conv : Nat → Bool → Nat) (ops : List Op) (hv : ∀ o ∈ ops, ValidOp o) :
    Inv conv (runOps conv emptyWorld ops) := by
  have h0 : Inv conv emptyWorld := by
    refine ⟨?_, ?_, ?_⟩ <;> intros <;> simp_all [emptyWorld, Cache.get]
  have step : ∀ (w : World) (o : Op), ValidOp o → Inv conv w → Inv conv (applyOp conv w o) := by
    intro w o hvo hw
    cases o with
    | write p d => exact inv_write conv w p d hw
    | remove p => exact inv_remove conv w p hw
    | convert g d c cl =>
      simp only [applyOp]
      rcases convert_cases conv w g d c cl with ⟨d', h, _⟩ | ⟨gf, hg, h⟩ | h | h
      · rw [h]; exact hw
      · rw [h]; exact inv_converted conv w g d c gf hvo hg hw
      · rw [h]; exact hw
      · rw [h]; exact hw
  exact List.foldlRecOn (motive := Inv conv) ops (applyOp conv) h0 fun w hw o ho => step w o (hv o ho) hw

/-- **cached = fresh.**  After any history, whatever `convert_db` returns for `(gtf, complete)` — a cached database
    or a new one — holds exactly the conversion of the GTF's current content with the requested flag. -/
theorem cached_equals_fresh (conv : Nat → Bool → Nat) (ops : List Op) (hv : ∀ o ∈ ops, ValidOp o)
    (gtf db : String) (complete clean : Bool) (hne : gtf ≠ db) (w' : World) (g d : String)
    (h : convertGtf2Db conv (runOps conv emptyWorld ops) gtf db complete clean = .ok w' g d) :
    g = gtf ∧ ∃ fg fd, List.lookup gtf w'.fs = some fg ∧ List.lookup d w'.fs = some fd ∧
      fd.data = conv fg.data complete := by
  have hinv := cache_coherent_all_histories conv ops hv
  generalize runOps conv emptyWorld ops = w at h hinv
  rcases convert_cases conv w gtf db complete clean with ⟨d', h', hf⟩ | ⟨gf, hg, h'⟩ | h' | h'
  · rw [h'] at h; cases h
    obtain ⟨e, mg, md, hc, hdb, hmg, h1, hmd, h2, h3⟩ := (lookup_sound _ _ _ _ _).mp hf
    simp only [FS.mtime, Option.map_eq_some_iff] at hmg hmd
    obtain ⟨fg, hfg, rfl⟩ := hmg
    obtain ⟨fd, hfd, rfl⟩ := hmd
    exact ⟨rfl, fg, fd, hfg, hfd, hinv.coherent gtf e d complete fg fd hc hdb h3 hfg hfd h1 h2⟩
  · rw [h'] at h; cases h
    refine ⟨rfl, gf, ⟨w.clock, conv gf.data complete⟩, ?_, ?_, rfl⟩
    · simp only [converted]; rw [IsoVerif.Lemmas.lookup_cons_ite]; simp [hne, hg]
    · simp only [converted]; rw [IsoVerif.Lemmas.lookup_cons_ite]; simp
  · rw [h'] at h; cases h
  · rw [h'] at h; cases h

/-- the cache is effective: right after a conversion (`converted`, the world it leaves: Lemmas/GtfCache.lean) the same
    request is served from the cache -/
theorem stored_then_found (conv : Nat → Bool → Nat) (w : World) (gtf db : String) (complete : Bool) (g : File)
    (hne : gtf ≠ db) (hg : List.lookup gtf w.fs = some g) :
    findConvertedDb (converted conv w gtf db complete g).cache (converted conv w gtf db complete g).fs.mtime
      gtf complete = .hit db := by
  rw [lookup_sound]
  refine ⟨{ genedb := some db, gtfMtime := some g.mtime, dbMtime := some w.clock, complete := some complete },
    g.mtime, w.clock, ?_, rfl, ?_, rfl, ?_, rfl, rfl⟩ <;>
    simp [converted, get_set, FS.mtime, IsoVerif.Lemmas.lookup_cons_ite, hne, hg]

/-- a history in which the second request is a cache hit, the third (other flag) and the fourth (GTF rewritten)
    are not, and every returned database is the fresh conversion -/
example :
    let conv : Nat → Bool → Nat := fun g c => 2 * g + (if c then 1 else 0)
    let w1 := runOps conv emptyWorld [.write "a.gtf" 4, .convert "a.gtf" "o/a.db" true false]
    (∀ o ∈ [Op.write "a.gtf" 4, .convert "a.gtf" "o/a.db" true false], ValidOp o) ∧
    findConvertedDb w1.cache w1.fs.mtime "a.gtf" true = .hit "o/a.db" ∧
    findConvertedDb w1.cache w1.fs.mtime "a.gtf" false = .miss ∧
    findConvertedDb (applyOp conv w1 (.write "a.gtf" 5)).cache (applyOp conv w1 (.write "a.gtf" 5)).fs.mtime "a.gtf" true = .miss := by
  refine ⟨?_, by decide +kernel, by decide +kernel, by decide +kernel⟩
  intro o ho
  simp only [List.mem_cons, List.mem_nil_iff, or_false] at ho
  rcases ho with rfl | rfl <;> simp [ValidOp]

end IsoVerif.Props.C12Cache
