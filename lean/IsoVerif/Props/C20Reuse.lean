import IsoVerif.Model.CacheReuse

/-
C20 — "… never makes a run use a conversion that does not correspond to its own input".
`results_correspond_to_own_input` (Props/C20.lean) proves the clause for the programs of Model/Cache.lean, where
`index_reference` is `produce`: the index is always built.  The code before the repair returned any file it found under
the index's NAME and `store_index` then published it in index_config.json for another reference: the clause is false of
that code, sequentially.
-/
namespace IsoVerif.Props.C20Reuse
open IsoVerif.Model.C20

/-- 30 = d1/genome.fa (mtime 7), 31 = d2/genome.fa (mtime 8): two references with the same file name;
    40 = X/genome_k14_idx, 41 = Y/genome_k14_idx -/
def w0 : World Nat := World.fresh (fun p => if p = 30 then some 7 else if p = 31 then some 8 else none) 100
def cX30 : Client := { file := 1, key := 30, src := 30, aux := [], target := 40, tag := 14 }
def cX31 : Client := { file := 1, key := 31, src := 31, aux := [], target := 40, tag := 14 }
def cY31 : Client := { file := 1, key := 31, src := 31, aux := [], target := 41, tag := 14 }

/-- **`index_reference` before the repair** (`toyCodec`, three runs one after the other, nothing concurrent):
    1. `-o X --reference d1/genome.fa` builds `X/genome_k14_idx` (version 100) from d1;
    2. `-o X --reference d2/genome.fa` finds a file under that name, builds nothing, and `store_index` records
       `d2/genome.fa → X/genome_k14_idx @ 100` in index_config.json;
    3. `-o Y --reference d2/genome.fa` gets a cache HIT on it.
    The only production ever performed has key 30 (d1): the index run 3 (and run 2) goes on to use was not converted from
    its own input - the conclusion of `results_correspond_to_own_input` fails for both. -/
theorem index_reused_by_name_witness :
    let r1 := runReuseAlone toyCodec w0 cX30
    let r2 := runReuseAlone toyCodec r1.1 cX31
    let r3 := runFixedAlone toyCodec r2.1 cY31
    (r1.2.crashed, r2.2.crashed, r3.2.crashed, r3.2.todo.length) = (false, false, false, 0) ∧
    r2.2.results.map (fun r => (r.client.key, r.target, r.tgtM, r.hit)) = [(31, 40, 100, false)] ∧
    r3.2.results.map (fun r => (r.client.key, r.target, r.tgtM, r.hit)) = [(31, 40, 100, true)] ∧
    r3.1.convs.map (fun cv => (cv.client.key, cv.client.target, cv.tgtM)) = [(30, 40, 100)] ∧
    (∀ r ∈ r3.2.results, ¬ ∃ cv ∈ r3.1.convs, cv.client.key = r.client.key ∧ cv.client.target = r.target ∧ cv.tgtM = r.tgtM) ∧
    (∀ r ∈ r2.2.results, ¬ ∃ cv ∈ r3.1.convs, cv.client.key = r.client.key ∧ cv.client.target = r.target ∧ cv.tgtM = r.tgtM) := by
  decide +kernel

/-- the same three commands with the repaired `index_reference` (= the programs of Model/Cache.lean, for which
    `results_correspond_to_own_input` is proved): run 2 builds its own index over the old one, run 3's hit is a conversion
    of d2 -/
example :
    let r1 := runFixedAlone toyCodec w0 cX30
    let r2 := runFixedAlone toyCodec r1.1 cX31
    let r3 := runFixedAlone toyCodec r2.1 cY31
    r3.2.results.map (fun r => (r.client.key, r.target, r.tgtM, r.hit)) = [(31, 40, 101, true)] ∧
    r3.1.convs.map (fun cv => (cv.client.key, cv.client.target, cv.tgtM)) = [(31, 40, 101), (30, 40, 100)] ∧
    (∀ r ∈ r3.2.results, ∃ cv ∈ r3.1.convs, cv.client.key = r.client.key ∧ cv.client.target = r.target ∧ cv.tgtM = r.tgtM) := by
  decide +kernel

end IsoVerif.Props.C20Reuse
