/-
C04 — the non-redundancy clause PER CHROMOSOME.  Every other C04 theorem speaks about ONE
`GraphBasedModelConstructor` (one read cluster or one SUB-REGION of a cluster cut by `split_coverage_regions`); the statement
("the intron chain differs from that of every other reported novel transcript on the same strand") speaks about the chromosome.
Model: IsoVerif/Model/ChromosomeModels.lean (`runChromosome`: the constructors of one chromosome task in order, sharing
`detected_known_isoforms`, the id distributor and — since fix b2b4dd9 — `reported_novel_chains`; the current code: a dict chain → the
model reported first; a copy of every earlier model that overlaps the reads of a constructor joins its second
`assign_reads_to_models`, so the reads of an isoform reported earlier are listed and counted under that model whether or not the
constructor built the chain itself; fix 0c8e711 (local copy renamed) and fix b2b4dd9 (local copy deleted) are kept as variants).
Property theorems only (helper lemmas: IsoVerif/Lemmas/ChromosomeModels.lean).
-/
import IsoVerif.Model.ChromosomeModels
import IsoVerif.Lemmas.ChromosomeModels
import IsoVerif.Props.C04

namespace IsoVerif.Props.C04Chromosome
open IsoVerif.Gen IsoVerif.Model IsoVerif.Model.C04 IsoVerif.Lemmas.C04 IsoVerif.Props.C04

/-- the clause of the statement at full strength: over the whole chromosome no (strand, intron chain) is reported twice -/
def ChainsDistinctPerChromosome (reps : List Store) : Prop := (chrKeys reps).Nodup

/-- the clause for ONE constructor (what `chains_distinct_among_novel_partial` / `C04Similar` are about) -/
def ChainsDistinctPerConstructor (s : Store) : Prop := (reportKeys s.models).Nodup

/-- **chains_distinct_per_chromosome.** The current chromosome task (both class-level containers cleared, any id source, any
    number of (sub-)regions, any heuristic answers inside every constructor): if no constructor reports a chain twice BY
    ITSELF (the per-constructor clause; its only known failing class is `monointron_apa_duplicates`), then no (strand, intron
    chain) is reported twice on the chromosome — whatever alignments were handed to several sub-regions. -/
theorem chains_distinct_per_chromosome (next : Nat → Nat) (regs : List RegionIn) (cs' : ChrState) (reps : List Store)
    (h : runChromosomeFixed next regs ChrState.init [] = some (cs', reps))
    (hper : ∀ s ∈ reps, ChainsDistinctPerConstructor s) : ChainsDistinctPerChromosome reps :=
  (runChromosomeFixed_inv h).2.2 hper

/-- **chains_distinct_per_chromosome_iff.** … and conversely: the chromosome run adds NO duplicate of its own — the clause
    holds on the chromosome exactly when it holds inside every constructor. -/
theorem chains_distinct_per_chromosome_iff (next : Nat → Nat) (regs : List RegionIn) (cs' : ChrState) (reps : List Store)
    (h : runChromosomeFixed next regs ChrState.init [] = some (cs', reps)) :
    ChainsDistinctPerChromosome reps ↔ ∀ s ∈ reps, ChainsDistinctPerConstructor s := by
  refine ⟨fun hnd s hs => ?_, chains_distinct_per_chromosome next regs cs' reps h⟩
  unfold ChainsDistinctPerChromosome at hnd
  unfold ChainsDistinctPerConstructor
  obtain ⟨a, b, rfl⟩ := List.append_of_mem hs
  rw [chrKeys_append, List.nodup_append] at hnd
  have h2 := hnd.2.1
  have : chrKeys (s :: b) = reportKeys s.models ++ chrKeys b := by simp [chrKeys]
  rw [this, List.nodup_append] at h2
  exact h2.1

/-- **reported_set_is_reported_keys.** At every point of the chromosome task the keys of `reported_novel_chains` are exactly the
    (strand, chain) keys of the novel spliced models REPORTED so far: a model is only ever withheld in favour of a twin that
    is in the output (no chain is lost, see `no_chain_lost`), and nothing else enters the dict. -/
theorem reported_set_is_reported_keys (next : Nat → Nat) (regs : List RegionIn) (cs' : ChrState) (reps : List Store)
    (h : runChromosomeFixed next regs ChrState.init [] = some (cs', reps)) :
    ∀ k, k ∈ modelKeys cs'.reported ↔ k ∈ chrKeys reps :=
  (runChromosomeFixed_inv h).1

/-- **reported_ids_name_reported_models.** Every VALUE of the dict is a novel spliced model that IS in the output of the
    chromosome (same id, same exons, same strand; the joiner may have rewritten the gene id), stored under its own
    (strand, chain): the model a later constructor assigns its reads to — and lists and counts them under — is the model
    `transcript_models.gtf` shows for the chain. -/
theorem reported_ids_name_reported_models (next : Nat → Nat) (regs : List RegionIn) (cs' : ChrState) (reps : List Store)
    (h : runChromosomeFixed next regs ChrState.init [] = some (cs', reps)) :
    ∀ p ∈ cs'.reported, ∃ s ∈ reps, ∃ m ∈ s.models, isSplicedNovel m = true ∧ chainKey m = p.1 ∧ SameModel m p.2 :=
  (runChromosomeFixed_inv h).2.1

/-- **no_chain_lost.** A model is withheld only if its key is in the dict handed over by the earlier constructors;
    every other novel spliced model that passed `filter_transcripts` is reported by this constructor, with its chain. -/
theorem no_chain_lost (reported rep' : ModelMap) (r : RegionIn) (s5 s : Store)
    (h : regionTail .joinEarlier reported r s5 = some (s, rep')) :
    ∀ m ∈ s5.models, isSplicedNovel m = true → chainKey m ∈ modelKeys reported ∨ chainKey m ∈ reportKeys s.models := by
  intro m hm hsn
  rw [(regionTail_spec (by decide) h).1, reportKeys_map_gene]
  by_cases hin : chainKey m ∈ modelKeys reported
  · exact Or.inl hin
  · exact Or.inr (mem_reportKeys.2 ⟨m, List.mem_filter.2 ⟨hm, by simp [keepModel, hin]⟩, hsn, rfl⟩)

/-- **unsplit_region_unchanged.** Safety of the repairs: a constructor none of whose novel spliced models repeats a chain
    reported by an EARLIER constructor, and whose reads no earlier novel model overlaps, dumps exactly the storage the code
    before fix b2b4dd9 dumps (same models, same `transcript_model_reads` bookkeeping); only the class-level dict differs.
    Read clusters are disjoint intervals and every model lies inside its cluster, so this covers every cluster that is not cut. -/
theorem unsplit_region_unchanged (next : Nat → Nat) (cs : ChrState) (r : RegionIn) (st2 : FLState) (s5 : Store)
    (hh : regionHead next cs r = some (st2, s5))
    (hfresh : ∀ m ∈ s5.models, isSplicedNovel m = true → chainKey m ∉ modelKeys cs.reported)
    (hno : earlierModels cs.reported r.span = some []) :
    (processRegion .joinEarlier next cs r).map (·.2) = (processRegion .none next cs r).map (·.2) := by
  have hall : ∀ m ∈ s5.models, keepModel (modelKeys cs.reported) m = true := by
    intro m hm
    unfold keepModel
    cases hsn : isSplicedNovel m with
    | false => simp
    | true => simp [hfresh m hm hsn]
  have hd : s5.dropJoin cs.reported r.span = some (s5, s5.models, mapUpdateM cs.reported s5.models) := by
    unfold Store.dropJoin Store.dropReported
    rw [chainKeys_idMapOf, dropLoop_all_kept _ _ _ _ hall, hno]
    simp
  simp only [processRegion, hh, regionTail, hd, Option.map_some, assignReads_models]

/-- **first_region_unchanged.** In particular the first constructor of a chromosome (empty dict) is never affected. -/
theorem first_region_unchanged (next : Nat → Nat) (det : List String) (idv : Nat) (r : RegionIn) :
    (processRegion .joinEarlier next ⟨det, idv, []⟩ r).map (·.2) = (processRegion .none next ⟨det, idv, []⟩ r).map (·.2) := by
  cases hh : regionHead next ⟨det, idv, []⟩ r with
  | none => simp [processRegion, hh]
  | some p =>
    obtain ⟨st2, s5⟩ := p
    refine unsplit_region_unchanged next _ r st2 s5 hh (by intro m _ _; simp [modelKeys]) ?_
    cases r.span <;> rfl

/-- **same_models_as_b2b4dd9 / same_models_as_0c8e711.** The follow-up repairs change NO model and no dict entry: on every
    record on which they run through, the current code dumps the model list fix b2b4dd9 and fix 0c8e711 dump and hands on the
    same dict — what differs is `transcript_read_ids` / counters, i.e. `transcript_model_reads` and the counts. -/
theorem same_models_as_b2b4dd9 (next : Nat → Nat) (cs cs1 cs2 : ChrState) (r : RegionIn) (s1 s2 : Store)
    (h1 : processRegion .joinEarlier next cs r = some (cs1, s1)) (h2 : processRegion .dropOnly next cs r = some (cs2, s2)) :
    cs1 = cs2 ∧ s1.models = s2.models :=
  processRegion_same_models (by decide) (by decide) h1 h2

theorem same_models_as_0c8e711 (next : Nat → Nat) (cs cs1 cs2 : ChrState) (r : RegionIn) (s1 s2 : Store)
    (h1 : processRegion .joinEarlier next cs r = some (cs1, s1)) (h2 : processRegion .renameCopy next cs r = some (cs2, s2)) :
    cs1 = cs2 ∧ s1.models = s2.models :=
  processRegion_same_models (by decide) (by decide) h1 h2

/-- **repeated_chain_keeps_reads.**  Let `fm` be a model an
    earlier constructor reported (a value of the dict) that overlaps the span of the reads this constructor processes.  Then —
    for ANY storage that passed `filter_transcripts`, in particular the EMPTY one of a sub-region that holds fewer reads of the
    isoform than the novel cut-off — `fm` is in the storage of the second `assign_reads_to_models`, and every read that is
    not assigned at that point (its local copy was deleted, or no copy was ever built) and that the assigner finds consistent
    with `fm` is printed in `transcript_model_reads` under `fm`'s id, whatever the other assigner answers are.  Which reads
    are consistent is the assigner's verdict against the geometry of the model that IS in the output — exactly the comparison
    a cluster that is not cut makes (`reported_ids_name_reported_models`: `fm` is that model). -/
theorem repeated_chain_keeps_reads (s5 s6 : Store) (reported rep' : ModelMap) (span : Int × Int) (final : List TModel)
    (h : s5.dropJoin reported (some span) = some (s6, final, rep'))
    (k : ChainKey) (fm : TModel) (hmem : (k, fm) ∈ reported) (a b : Int) (ha : fm.startPos = some a) (hb : fm.endPos = some b)
    (hov : a ≤ span.2 ∧ span.1 ≤ b)
    (pre post : List AssignIn) (x : AssignIn) (hpre : ∀ y ∈ pre, y.read ≠ x.read)
    (hun : ¬ cnt s6.rcount x.read > 0) (hc : x.consistent = true) (ht : fm.tid ∈ x.matched) :
    fm ∈ s6.models ∧ (x.read, fm.tid) ∈ (s6.assignReads (pre ++ x :: post)).dumpR2T := by
  obtain ⟨_, _, em, s', he, hms, _⟩ := dropJoin_spec h
  have hin : fm ∈ em := (mem_overlapping he).2 ⟨k, a, b, hmem, ha, hb, hov.1, hov.2⟩
  have hfm : fm ∈ s6.models := hms ▸ List.mem_append_right _ hin
  exact ⟨hfm, assignReads_lists s6 pre post x fm.tid (List.ne_nil_of_mem hfm) hpre hun hc ht⟩

/-- **deleted_copy_frees_its_reads.** The storage handed to the second assignment has the bookkeeping
    (`read_assignment_counts`, `transcript_read_ids`, counters) of the deletion loop of fix b2b4dd9 (`dropReported`).  That this
    loop decrements `read_assignment_counts` of each read of a deleted model — so the reads of a withheld copy that were
    listed once ARE unassigned at that point — is `dropJoin_rcount` (`CountAfterDrop.less`), Lemmas/ChainAssigner.lean. -/
theorem deleted_copy_frees_its_reads (s5 s6 : Store) (reported rep' : ModelMap) (span : Option (Int × Int)) (final : List TModel)
    (h : s5.dropJoin reported span = some (s6, final, rep')) :
    ∃ s', s5.dropReported (modelKeys reported) = some (s', keyUnion (modelKeys reported) (reportKeys final)) ∧
      s6.rcount = s'.rcount ∧ s6.readIds = s'.readIds ∧ s6.counter = s'.counter := by
  obtain ⟨_, _, em, s', _, _, hd, _, h1, h2, h3⟩ := dropJoin_spec h
  exact ⟨s', hd, h3, h1, h2⟩

/-- **drop_keeps_bookkeeping.** The step deletes through `delete_from_storage`, so the invariants behind the
    `transcript_model_reads` clauses survive it: lines name models of the storage (`R2TInv`), counters stay below the read
    lists (`CounterLe`), the dumped models are a sub-list, and a dumped model keeps its counter and its reads. -/
theorem drop_keeps_bookkeeping (s5 s6 : Store) (reported rep' : ModelMap) (span : Option (Int × Int)) (final : List TModel)
    (h : s5.dropJoin reported span = some (s6, final, rep')) :
    final.Sublist s5.models ∧ (R2TInv s5 → R2TInv s6) ∧ (CounterLe s5 → CounterLe s6) ∧
    ((ids s5.models).Nodup → ∀ m ∈ final,
        cnt s6.counter m.tid = cnt s5.counter m.tid ∧ readsIn s6.readIds m.tid = readsIn s5.readIds m.tid) := by
  obtain ⟨hf, _, em, _, _, hms, _⟩ := dropJoin_spec h
  obtain ⟨D, hcov, hsh, hnD⟩ := dropJoin_shrunk h
  refine ⟨hf ▸ List.filter_sublist, fun hinv q hq hne => ?_, hsh.counterLe, fun hnd m hmem => ?_⟩
  · rcases hsh.entries q hq with e1 | ⟨e1, e2⟩
    · exact absurd e1 hne
    · obtain ⟨m, hmm, hmt⟩ := List.mem_map.1 (hinv q e1 hne)
      exact (hcov m hmm).elim (fun h3 => List.mem_map.2 ⟨m, hms ▸ List.mem_append_left _ h3, hmt⟩)
        fun h3 => absurd (hmt ▸ h3) e2
  · rw [hsh.counter, hsh.reads, if_neg (hnD hnd m hmem), if_neg (hnD hnd m hmem)]
    exact ⟨rfl, rfl⟩

/-- **supporting_read_after_drop.** The clause "≥ 1 read in `transcript_model_reads`" through the current tail of `process()`:
    a non-known model that is dumped had at least `min_novel_count ≥ 1` reads counted when `filter_transcripts` kept it, and
    neither the step nor the second `assign_reads_to_models` takes a read away from a dumped model. -/
theorem supporting_read_after_drop (s5 s6 : Store) (reported rep' : ModelMap) (span : Option (Int × Int)) (final : List TModel)
    (ins : List AssignIn) (minCount : Int) (hpos : 1 ≤ minCount) (hnd : (ids s5.models).Nodup) (hle : CounterLe s5)
    (hcount : ∀ m ∈ s5.models, m.ttype ≠ .known → minCount ≤ cnt s5.counter m.tid)
    (h : s5.dropJoin reported span = some (s6, final, rep')) :
    ∀ m ∈ final, m.ttype ≠ .known → ∃ r, (r, m.tid) ∈ (s6.assignReads ins).dumpR2T := by
  obtain ⟨hsub, _, hc, hkeep⟩ := drop_keeps_bookkeeping s5 s6 reported rep' span final h
  intro m hm hnovel
  have h1 := (hkeep hnd m hm).1
  have h2 := hcount m (hsub.subset hm) hnovel
  have hle2 := hc hle m.tid
  have hlen := ((assignReads_grow s6 ins).reads m.tid).length_le
  obtain ⟨r, hr⟩ := List.exists_mem_of_length_pos (l := readsIn (s6.assignReads ins).readIds m.tid) (by omega)
  exact ⟨r, mem_dump_of_reads hr⟩

/-! ### the step of fix 0c8e711 (variant `.renameCopy`, `Store.dropKeep`): what it achieved for constructors that build a copy -/

/-- **repeated_chain_takes_first_id.** The renaming step itself: the whole read list and the counter of the local copy move to
    the id of the model reported first, and `read_assignment_counts` is not touched (`delete_from_storage`, the step of fix
    b2b4dd9, empties the list and decrements the count of each of its reads: `reads_lost_b2b4dd9_witness`). -/
theorem repeated_chain_takes_first_id (s s' : Store) (old first : String) (h : s.renameTid old first = some s') :
    readsIn s'.readIds first = readsIn s.readIds old ∧ cnt s'.counter first = cnt s.counter old ∧ s'.rcount = s.rcount := by
  obtain ⟨_, h0, h1, h2⟩ := renameTid_spec h
  refine ⟨?_, ?_, h0⟩
  · rw [h2]; simp
  · rw [h1]; simp

/-- **repeated_chain_keeps_reads_0c8e711** (the step of fix 0c8e711, one constructor, all inputs).  A novel spliced model
    `m` that passed `filter_transcripts` and whose (strand, chain) the dict maps to `first` — the id of the model an earlier
    constructor reported: after the step `first` carries exactly `m`'s counter and `m`'s read list, and after the second
    `assign_reads_to_models` (ANY assigner answers) every one of those reads is printed in `transcript_model_reads` under `first`.
    Hypotheses: the per-constructor clause (no chain twice in this storage) and what the shared, monotone id distributor gives
    (C17): distinct ids in the storage, the ids in the dict are not among them, different chains of the dict have different ids. -/
theorem repeated_chain_keeps_reads_0c8e711 (s5 s6 : Store) (reported rep' : ChainMap) (final : List TModel)
    (hper : ChainsDistinctPerConstructor s5) (hnd : (ids s5.models).Nodup)
    (hfirst : ∀ p ∈ reported, p.2 ∉ ids s5.models)
    (hinj : ∀ p ∈ reported, ∀ q ∈ reported, p.2 = q.2 → p.1 = q.1)
    (h : s5.dropKeep reported = some (s6, final, rep'))
    (m : TModel) (first : String) (hm : m ∈ s5.models) (hsn : isSplicedNovel m = true)
    (hg : amGet? reported (chainKey m) = some first) (ins : List AssignIn) :
    cnt s6.counter first = cnt s5.counter m.tid ∧ readsIn s6.readIds first = readsIn s5.readIds m.tid ∧
    ∀ r ∈ readsIn s5.readIds m.tid, (r, first) ∈ (s6.assignReads ins).dumpR2T := by
  obtain ⟨_, _, s1, kept, hl, rfl⟩ := dropKeep_spec h
  have hmv := dropLoopR_moves_reads hinj hsn hg hl hm hnd hper (by simp) hfirst
  exact ⟨hmv.1, hmv.2, fun r hr => mem_dump_of_reads (((assignReads_grow _ ins).reads first).subset (hmv.2 ▸ hr))⟩

/-- **drop_keeps_read_counts_0c8e711.** Under the per-constructor clause (the constructor holds no (strand, chain) twice) the
    `drop_novel_chains_reported_elsewhere` of fix 0c8e711 leaves `read_assignment_counts` exactly as it found it — for ANY dict handed over:
    a read that was listed under a model that passed `filter_transcripts` is not turned into a `*` line
    (`dumpR2T` prints `*` for the reads whose count is 0) and is not offered to the assigner again. -/
theorem drop_keeps_read_counts_0c8e711 (s5 s6 : Store) (reported rep' : ChainMap) (final : List TModel)
    (hper : ChainsDistinctPerConstructor s5) (h : s5.dropKeep reported = some (s6, final, rep')) :
    s6.rcount = s5.rcount := by
  obtain ⟨_, _, s1, kept, hl, rfl⟩ := dropKeep_spec h
  exact show s1.rcount = _ from dropLoopR_rcount hl hper (by simp)

/-- one (sub-)region with the given full-length paths; every heuristic answers "nothing to do" -/
def exRegion (paths : List PathIn) : RegionIn :=
  { env := exEnv .only_stranded, sd := exSd, paths := paths, aops := [], fp := ⟨1, 30⟩, mapq := fun _ => 60,
    similar := fun _ => some [], post := fun _ m => some m, covTerm := fun _ => 0, ins1 := [],
    ins2 := [⟨"r4", false, []⟩, ⟨"r5", false, []⟩, ⟨"r6", false, []⟩], newGene := fun m => m.gene }

/-- the reads of one novel isoform that bridge the cut, as the second sub-region sees them: the same two introns, another
    5' end, the reads the multimap resolver kept there -/
def exPathB : PathIn :=
  { exPath with path := [(VERTEX_read_start, 30), (50, 90), (100, 200), (VERTEX_polya, 400)],
                reads := [("r4", "g"), ("r5", "g"), ("r6", "g")] }

def splitRegions : List RegionIn := [exRegion [exPath], exRegion [exPathB]]

/-- **chains_distinct_per_chromosome_orig_witness.** The code before the fix (`runChromosomeOrig`): two sub-regions of one
    cluster, each holding three reads of the novel isoform `(50,90),(100,200)` — every constructor is fine by itself, the
    chromosome reports the chain twice, under two transcript ids and in two `novel_gene_*` genes.  Reproduced on the real
    pipeline (docs/C04.md, `witness_dataset("split_region")`). -/
theorem chains_distinct_per_chromosome_orig_witness :
    (runChromosomeOrig (· + 1) splitRegions ChrState.init []).map (fun r =>
        (chrKeys r.2, r.2.map (fun s => s.models.map (fun m => (m.tid, m.gene))),
         r.2.map (fun s => (reportKeys s.models).length)))
      = some ([(.plus, [(50, 90), (100, 200)]), (.plus, [(50, 90), (100, 200)])],
              [[("transcript1.chr1.nnic", "novel_gene_chr1_2")], [("transcript3.chr1.nnic", "novel_gene_chr1_4")]],
              [1, 1]) := by
  decide +kernel

/-- hence the full-strength clause is false of the old code although the per-constructor clause holds in every region -/
theorem chains_distinct_per_chromosome_orig_false :
    ¬ (∀ reps cs', runChromosomeOrig (· + 1) splitRegions ChrState.init [] = some (cs', reps) →
        (∀ s ∈ reps, ChainsDistinctPerConstructor s) → ChainsDistinctPerChromosome reps) := by
  intro hall
  obtain ⟨hk, hrest⟩ := IsoVerif.Lemmas.map_pair_eq_some chains_distinct_per_chromosome_orig_witness
  cases hrun : runChromosomeOrig (· + 1) splitRegions ChrState.init [] with
  | none =>
    rw [hrun] at hk
    cases hk
  | some p =>
    rw [hrun] at hk hrest
    have hlen := Option.some.inj (IsoVerif.Lemmas.map_pair_eq_some hrest).2
    have := hall p.2 p.1 hrun fun s hs => by
      have : (reportKeys s.models).length ∈ [1, 1] := hlen ▸ List.mem_map_of_mem hs
      simp only [List.mem_cons, List.not_mem_nil, or_false, or_self] at this
      match hl : reportKeys s.models, this with
      | [_], _ => exact (congrArg List.Nodup hl).mpr (List.nodup_cons.2 ⟨List.not_mem_nil, List.nodup_nil⟩)
    have hk' : chrKeys p.2 = _ := Option.some.inj hk
    rw [ChainsDistinctPerChromosome, hk'] at this
    simp at this

/-- the second sub-region as the CURRENT code sees it: its reads span 30..400, and the assigner — asked about the copy of the model
    reported first — finds `r4 r5 r6` consistent with it -/
def exRegionB : RegionIn :=
  { exRegion [exPathB] with
    ins2 := [⟨"r4", true, ["transcript1.chr1.nnic"]⟩, ⟨"r5", true, ["transcript1.chr1.nnic"]⟩, ⟨"r6", true, ["transcript1.chr1.nnic"]⟩],
    span := some (30, 400) }

def splitRegions2 : List RegionIn := [exRegion [exPath], exRegionB]

/-- a second sub-region that holds only TWO reads of the isoform: below `min_novel_count`, no full-length path becomes a model -/
def exRegionFew : RegionIn :=
  { exRegion [] with
    ins2 := [⟨"r4", true, ["transcript1.chr1.nnic"]⟩, ⟨"r5", true, ["transcript1.chr1.nnic"]⟩], span := some (30, 400) }

def fewRegions : List RegionIn := [exRegion [exPath], exRegionFew]

/-- non-vacuity of `chains_distinct_per_chromosome` and regression of the fixes: the current code reports the chain once, the
    dict holds the first model, the second sub-region dumps no model and hands the id counter on -/
example : (runChromosomeFixed (· + 1) splitRegions2 ChrState.init []).map (fun r =>
        (chrKeys r.2, r.1.idv, r.2.map (fun s => (reportKeys s.models).length)))
      = some ([(Strand.plus, [(50, 90), (100, 200)])], 4, [1, 0]) ∧
    (runChromosomeFixed (· + 1) splitRegions2 ChrState.init []).map (fun r => r.1.reported.map (fun p => p.1))
      = some [(Strand.plus, [(50, 90), (100, 200)])] ∧
    (runChromosomeFixed (· + 1) splitRegions2 ChrState.init []).map (fun r => r.1.reported.map (fun p => (p.2.tid, p.2.exons)))
      = some [("transcript1.chr1.nnic", [(10, 49), (91, 99), (201, 400)])] := by
  decide +kernel

/-- … and the three reads of the second sub-region are listed under the id of the model reported first -/
example : (runChromosomeFixed (· + 1) splitRegions2 ChrState.init []).map (fun r =>
        r.2.map (fun s => (s.models.map (·.tid), s.dumpR2T)))
      = some [(["transcript1.chr1.nnic"], [("r1", "transcript1.chr1.nnic"), ("r2", "transcript1.chr1.nnic"), ("r3", "transcript1.chr1.nnic"),
                                         ("r4", "*"), ("r5", "*"), ("r6", "*")]),
              ([], [("r4", "transcript1.chr1.nnic"), ("r5", "transcript1.chr1.nnic"), ("r6", "transcript1.chr1.nnic")])] := by
  decide +kernel

/-- when the assigner finds the reads of the later sub-region INCONSISTENT with the model reported first (another polyA end)
    they are `*`, as in a cluster that is not cut — fix 0c8e711 counted them for the first model -/
example : ((runChromosomeFixed (· + 1) splitRegions ChrState.init []).map (fun r => r.2.map (fun s => s.dumpR2T)),
           (runChromosome0c8e (· + 1) splitRegions ChrState.init []).map (fun r => r.2.map (fun s => s.dumpR2T)))
      = (some [[("r1", "transcript1.chr1.nnic"), ("r2", "transcript1.chr1.nnic"), ("r3", "transcript1.chr1.nnic"),
                ("r4", "*"), ("r5", "*"), ("r6", "*")], [("r4", "*"), ("r5", "*"), ("r6", "*")]],
         some [[("r1", "transcript1.chr1.nnic"), ("r2", "transcript1.chr1.nnic"), ("r3", "transcript1.chr1.nnic"),
                ("r4", "*"), ("r5", "*"), ("r6", "*")],
               [("r4", "transcript1.chr1.nnic"), ("r5", "transcript1.chr1.nnic"), ("r6", "transcript1.chr1.nnic")]]) := by
  decide +kernel

/-- non-vacuity of `unsplit_region_unchanged`: a second region with ANOTHER chain is reported as before -/
example : (runChromosomeFixed (· + 1) [exRegion [exPath],
        exRegion [{ exPathB with path := [(VERTEX_read_start, 30), (50, 90), (VERTEX_polya, 400)] }]] ChrState.init []).map
      (fun r => chrKeys r.2)
    = (runChromosomeOrig (· + 1) [exRegion [exPath],
        exRegion [{ exPathB with path := [(VERTEX_read_start, 30), (50, 90), (VERTEX_polya, 400)] }]] ChrState.init []).map
      (fun r => chrKeys r.2) := by
  decide +kernel

-- cached for the `decide` of the witnesses (also those of Props/C04Chain.lean), as `instDecidableEqChainKeys` is in the model
instance : DecidableEq (String × ChainKey) := inferInstance
instance : DecidableEq (List (String × ChainKey)) := inferInstance
instance : DecidableEq (List (String × String)) := inferInstance
instance : DecidableEq (List (List (String × String))) := inferInstance

/-- (read, (strand, chain)) for every line of `transcript_model_reads` of the chromosome that names a novel spliced model of
    `transcript_models.gtf` (ids resolved over the whole chromosome: a line may name a model dumped by an earlier constructor) -/
def chrReadChains (reps : List Store) : List (String × ChainKey) :=
  let table := reps.flatMap (fun s => (s.models.filter isSplicedNovel).map (fun m => (m.tid, chainKey m)))
  reps.flatMap (fun s => s.dumpR2T.filterMap (fun p => (amGet? table p.2).map (fun k => (p.1, k))))

/-- the clause at full strength for one input: cutting the cluster (several records instead of one) changes ids, not which
    (strand, chain) a read is listed under — compared with the code before both fixes, which listed every read under the copy
    of its own constructor.  As an equality of lists it fails by line order alone
    (`C04Chain.reads_keep_their_chain_order_witness`); the relation that holds for all inputs is `C04Chain.KeepsChains`. -/
def ReadsKeepTheirChain (run : (Nat → Nat) → List RegionIn → ChrState → List Store → Option (ChrState × List Store))
    (next : Nat → Nat) (regs : List RegionIn) : Prop :=
  (run next regs ChrState.init []).map (fun r => chrReadChains r.2) =
    (runChromosomeOrig next regs ChrState.init []).map (fun r => chrReadChains r.2)

/-- **reads_lost_b2b4dd9_witness.** The code of fix b2b4dd9 on the two sub-regions of `splitRegions` (three reads of the
    isoform `(50,90),(100,200)` in each): the second constructor deletes its copy through `delete_from_storage`, the three reads
    `r4 r5 r6` that supported it are printed with `*` and reach no counter — although `transcript1.chr1.nnic`, reported by the
    first constructor, IS their isoform.  Reproduced on the real pipeline (`witness_dataset("split_region_reads")`: 3 + 12 reads,
    12 lines `*`, `__no_feature 12`). -/
theorem reads_lost_b2b4dd9_witness :
    (runChromosomeB2b4 (· + 1) splitRegions ChrState.init []).map (fun r => (r.2.map (fun s => s.dumpR2T), chrReadChains r.2))
      = some ([[("r1", "transcript1.chr1.nnic"), ("r2", "transcript1.chr1.nnic"), ("r3", "transcript1.chr1.nnic"),
                ("r4", "*"), ("r5", "*"), ("r6", "*")],
               [("r4", "*"), ("r5", "*"), ("r6", "*")]],
              [("r1", (Strand.plus, [(50, 90), (100, 200)])), ("r2", (Strand.plus, [(50, 90), (100, 200)])),
               ("r3", (Strand.plus, [(50, 90), (100, 200)]))]) := by
  decide +kernel

/-- hence the full-strength clause is FALSE of fix b2b4dd9 … -/
theorem reads_keep_their_chain_b2b4dd9_false : ¬ ReadsKeepTheirChain runChromosomeB2b4 (· + 1) splitRegions := by
  unfold ReadsKeepTheirChain
  rw [(IsoVerif.Lemmas.map_pair_eq_some reads_lost_b2b4dd9_witness).2]
  decide +kernel

/-- … and holds of the current code when the assigner accepts the reads for the model reported first: all six reads are
    listed under the chain, as before the fixes, but under ONE id -/
theorem reads_keep_their_chain_witness_input :
    ReadsKeepTheirChain runChromosomeFixed (· + 1) splitRegions2 ∧
    (runChromosomeFixed (· + 1) splitRegions2 ChrState.init []).map (fun r => (chrReadChains r.2).map (·.1))
      = some ["r1", "r2", "r3", "r4", "r5", "r6"] := by
  unfold ReadsKeepTheirChain
  decide +kernel

/-- **reads_lost_0c8e711_witness.**  Fix 0c8e711 on `fewRegions`: the second sub-region holds two reads of the
    isoform — fewer than the novel cut-off, so no local copy exists that could take the first model's id; its storage is EMPTY,
    `assign_reads_to_models` zeroes every read without consulting the assigner, and `r4 r5` are printed `*` although
    `transcript1.chr1.nnic` IS their isoform (real pipeline, `witness_dataset("split_region_few_reads")`: 10 + 2 reads, 2 lines
    `*`, `__no_feature 2`; the same 12 reads in a cluster that is not cut: 12.00). -/
theorem reads_lost_0c8e711_witness :
    (runChromosome0c8e (· + 1) fewRegions ChrState.init []).map (fun r => (r.2.map (fun s => s.dumpR2T), chrReadChains r.2))
      = some ([[("r1", "transcript1.chr1.nnic"), ("r2", "transcript1.chr1.nnic"), ("r3", "transcript1.chr1.nnic"),
                ("r4", "*"), ("r5", "*"), ("r6", "*")],
               [("r4", "*"), ("r5", "*")]],
              [("r1", (Strand.plus, [(50, 90), (100, 200)])), ("r2", (Strand.plus, [(50, 90), (100, 200)])),
               ("r3", (Strand.plus, [(50, 90), (100, 200)]))]) := by
  decide +kernel

/-- … the current code on the same input (non-vacuity of `repeated_chain_keeps_reads` for a constructor WITHOUT a local copy):
    the copy of the first model joins the empty storage, the assigner is consulted, both reads are listed under its id -/
theorem reads_kept_without_local_copy_witness :
    (runChromosomeFixed (· + 1) fewRegions ChrState.init []).map (fun r => (r.2.map (fun s => (s.models.map (·.tid), s.dumpR2T)), chrReadChains r.2))
      = some ([(["transcript1.chr1.nnic"], [("r1", "transcript1.chr1.nnic"), ("r2", "transcript1.chr1.nnic"), ("r3", "transcript1.chr1.nnic"),
                ("r4", "*"), ("r5", "*"), ("r6", "*")]),
               ([], [("r4", "transcript1.chr1.nnic"), ("r5", "transcript1.chr1.nnic")])],
              [("r1", (Strand.plus, [(50, 90), (100, 200)])), ("r2", (Strand.plus, [(50, 90), (100, 200)])),
               ("r3", (Strand.plus, [(50, 90), (100, 200)])), ("r4", (Strand.plus, [(50, 90), (100, 200)])),
               ("r5", (Strand.plus, [(50, 90), (100, 200)]))]) := by
  decide +kernel

/-- the hypotheses of `repeated_chain_keeps_reads` on that input: the dict entry, the overlap, an empty storage, an unassigned read -/
def exFirstModel : TModel :=
  ⟨"chr1", .plus, "transcript1.chr1.nnic", "novel_gene_chr1_2", [(10, 49), (91, 99), (201, 400)], .novel_not_in_catalog, [(50, 90), (100, 200)]⟩

example : (Store.empty.dropJoin [((Strand.plus, [(50, 90), (100, 200)]), exFirstModel)] (some (30, 400))).map
        (fun r => (r.1.models.map (·.tid), r.2.1.map (·.tid), cnt r.1.rcount "r4"))
      = some (["transcript1.chr1.nnic"], [], 0) ∧
    exFirstModel.startPos = some 10 ∧ exFirstModel.endPos = some 400 := by
  decide +kernel

/-- non-vacuity of `drop_keeps_read_counts_0c8e711` / `repeated_chain_keeps_reads_0c8e711` (the step of fix 0c8e711): a storage with the
    repeated chain (model `a`, reads r4 r5) and a fresh model (`b`, read r7); the dict names `transcript1.chr1.nnic` -/
def exModelA : TModel :=
  ⟨"chr1", .plus, "a", "g", [(1, 49), (91, 99), (201, 300)], .novel_not_in_catalog, [(50, 90), (100, 200)]⟩
def exModelB : TModel :=
  ⟨"chr1", .plus, "b", "g", [(1, 49), (91, 300)], .novel_not_in_catalog, [(50, 90)]⟩
def exStoreRep : Store := (Store.empty.addModel exModelA ["r4", "r5"]).addModel exModelB ["r7"]

example : ChainsDistinctPerConstructor exStoreRep := by
  unfold ChainsDistinctPerConstructor; decide +kernel

example : (ids exStoreRep.models).Nodup ∧ CounterLe exStoreRep ∧
    (∀ p ∈ [((Strand.plus, [(50, 90), (100, 200)]), "transcript1.chr1.nnic")], p.2 ∉ ids exStoreRep.models) := by
  exact ⟨by decide +kernel, addModel_counterLe (addModel_counterLe counterLe_empty _ _) _ _, by decide +kernel⟩

example : (exStoreRep.dropKeep [((Strand.plus, [(50, 90), (100, 200)]), "transcript1.chr1.nnic")]).map
        (fun r => (r.1.readIds, r.1.counter, r.1.rcount, r.2.1.map (·.tid)))
      = some ([("b", ["r7"]), ("transcript1.chr1.nnic", ["r4", "r5"])], [("b", 1), ("transcript1.chr1.nnic", 2)],
              [("r4", 1), ("r5", 1), ("r7", 1)], ["b"]) := by
  decide +kernel

example : (exStoreRep.dropKeep [((Strand.plus, [(50, 90), (100, 200)]), "transcript1.chr1.nnic")]).map (fun r => r.2.2)
      = some [((Strand.plus, [(50, 90), (100, 200)]), "transcript1.chr1.nnic"), ((Strand.plus, [(50, 90)]), "b")] := by
  decide +kernel

/-- non-vacuity of `repeated_chain_keeps_reads_0c8e711`: `exModelA` repeats the chain of `transcript1.chr1.nnic`; its reads r4 r5 are
    printed under that id -/
example : exModelA ∈ exStoreRep.models ∧ isSplicedNovel exModelA = true ∧
    amGet? [((Strand.plus, [(50, 90), (100, 200)]), "transcript1.chr1.nnic")] (chainKey exModelA) = some "transcript1.chr1.nnic" ∧
    readsIn exStoreRep.readIds exModelA.tid = ["r4", "r5"] := by
  decide +kernel

example : (exStoreRep.dropKeep [((Strand.plus, [(50, 90), (100, 200)]), "transcript1.chr1.nnic")]).map
        (fun r => (r.1.assignReads []).dumpR2T)
      = some [("r7", "b"), ("r4", "transcript1.chr1.nnic"), ("r5", "transcript1.chr1.nnic")] := by
  decide +kernel

/-- **chains_distinct_per_chromosome_full_witness.** Without the per-constructor hypothesis the clause is still false of the
    repaired code: the known finding `monointron_apa_duplicates` (two polyA clusters, one intron) lives INSIDE one
    constructor, and a constructor is never compared with itself. -/
theorem chains_distinct_per_chromosome_full_witness :
    (runChromosomeFixed (· + 1) [exRegion apaPaths] ChrState.init []).map (fun r => chrKeys r.2)
      = some [(.plus, [(50, 90)]), (.plus, [(50, 90)])] := by
  decide +kernel

end IsoVerif.Props.C04Chromosome
