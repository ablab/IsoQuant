/-
C19 — `junctions_from_blocks`, `get_exons`, `get_exon`, `get_preceding/following_exon_from_junctions` as REGENERATED FROM THE SOURCE on every run (`Gen/Loops.lean`, written by `harness/translate.py`).
Part 1: refinement `Gen.f args = Model.f args` for ALL inputs (no sortedness / well-formedness; error cases included; the
emitted fuel bounds suffice).  Part 2: the C19 theorems about the hand model restated over the generated definitions.
An edit of the Python loop re-generates `Gen.f` and re-opens these proofs.  Overview: Props/C19Gen.lean.
-/
import IsoVerif.Props.C19Lists
import IsoVerif.Lemmas.GenJunctions

namespace IsoVerif.Props.C19Gen
open IsoVerif.Gen IsoVerif.Model IsoVerif.Lemmas IsoVerif.Lemmas.GenLoops

/-! ## Part 1 — refinement: generated definition = hand model, for all inputs -/

/-- `junctions_from_blocks`: the loop over `range(0, len-1)` indexing `l[i]`, `l[i+1]` never raises and equals the model -/
theorem junctions_from_blocks_refines (l : List Iv) :
    Gen.junctions_from_blocks l = some (junctionsFromBlocks l) :=
  GenLoops.junctions_from_blocks_eq l

/-- `get_exons`: `math.inf` is translated as an ARBITRARY integer `inf`; the equality for every `inf` says the two
    sentinels are never read (the hand model puts 0 there) -/
theorem get_exons_refines (inf : Int) (region : Iv) (introns : List Iv) :
    Gen.get_exons inf region introns = some (getExons region introns) := by
  unfold get_exons getExons
  rw [junctions_from_blocks_eq]
  simp only [List.cons_append, List.nil_append]
  exact congrArg some ((junctionsFromBlocks_first (-inf) 0 _ _).trans
    (junctionsFromBlocks_last ((0, _) :: introns) (region.2 + 1) inf 0))

/-- straight-line functions with list indexing (`IndexError` / `assert` = `none`, negative indices wrap) -/
theorem get_following_exon_refines (region : Iv) (introns : List Iv) (i : Int) :
    Gen.get_following_exon_from_junctions region introns i = getFollowingExon region introns i := by
  -- the same decision tree on both sides (the model normalises the position first, the generated code branches on the
  -- sign): a case analysis on the tests and the list accesses settles it
  grind [get_following_exon_from_junctions, getFollowingExon, pyLen, pyIdx_eq_pyGet]

theorem get_preceding_exon_refines (region : Iv) (introns : List Iv) (i : Int) :
    Gen.get_preceding_exon_from_junctions region introns i = getPrecedingExon region introns i := by
  grind [get_preceding_exon_from_junctions, getPrecedingExon, pyLen, pyIdx_eq_pyGet]

theorem get_exon_refines (region : Iv) (junctions : List Iv) (i : Int) :
    Gen.get_exon region junctions i = getExon region junctions i := by
  grind [get_exon, getExon, pyLen, pyIdx_eq_pyGet]

/-! ## Part 2 — theorems over the generated definitions -/

/-- `get_exons ∘ junctions_from_blocks = id` on gapped exon lists — both functions generated, any sentinel value -/
theorem junctions_exons_inverse (inf : Int) (ex : List Iv) (f t : Iv) (h : Gapped ex)
    (hf : ex.head? = some f) (ht : ex.getLast? = some t) :
    (Gen.junctions_from_blocks ex).bind (Gen.get_exons inf (f.1, t.2)) = some ex := by
  rw [junctions_from_blocks_refines, Option.bind_some, get_exons_refines,
    C19Lists.junctions_exons_inverse ex f t h hf ht]

example : Gapped [(1, 5), (10, 12), (20, 30)] ∧
    Gen.junctions_from_blocks [(1, 5), (10, 12), (20, 30)] = some [(6, 9), (13, 19)] ∧
    Gen.get_exons 1000000 (1, 30) [(6, 9), (13, 19)] = some [(1, 5), (10, 12), (20, 30)] := by
  refine ⟨by simp [Gapped], by decide +kernel, by decide +kernel⟩

/-- single exons from the junction list of a gapped exon list (generated `junctions_from_blocks`, `get_exon`,
    `get_preceding/following_exon_from_junctions`) -/
theorem get_exon_spec (ex : List Iv) (f t : Iv) (h : Gapped ex) (hf : ex.head? = some f) (ht : ex.getLast? = some t)
    (h2 : 2 ≤ ex.length) (i : Nat) (hi : i < ex.length) :
    (Gen.junctions_from_blocks ex).bind (fun j => Gen.get_exon (f.1, t.2) j (i : Int)) = ex[i]? := by
  rw [junctions_from_blocks_refines, Option.bind_some, get_exon_refines]
  exact C19Lists.get_exon_spec ex f t h hf ht h2 i hi

theorem get_preceding_exon_spec (ex : List Iv) (f t : Iv) (h : Gapped ex) (hf : ex.head? = some f)
    (ht : ex.getLast? = some t) (i : Nat) (hi : i < ex.length) :
    (Gen.junctions_from_blocks ex).bind (fun j => Gen.get_preceding_exon_from_junctions (f.1, t.2) j (i : Int)) = ex[i]? := by
  rw [junctions_from_blocks_refines, Option.bind_some, get_preceding_exon_refines]
  exact C19Lists.get_preceding_exon_spec ex f t h hf ht i hi

theorem get_following_exon_spec (ex : List Iv) (f t : Iv) (h : Gapped ex) (hf : ex.head? = some f)
    (ht : ex.getLast? = some t) (i : Nat) (hi : i + 1 < ex.length) :
    (Gen.junctions_from_blocks ex).bind (fun j => Gen.get_following_exon_from_junctions (f.1, t.2) j (i : Int)) = ex[i + 1]? := by
  rw [junctions_from_blocks_refines, Option.bind_some, get_following_exon_refines]
  exact C19Lists.get_following_exon_spec ex f t h hf ht i hi

example : Gapped [(1, 5), (10, 12), (20, 30)] ∧
    Gen.get_exon (1, 30) [(6, 9), (13, 19)] 1 = some (10, 12) ∧
    Gen.get_exon (1, 30) [(6, 9), (13, 19)] (-1) = some (20, 30) ∧
    Gen.get_preceding_exon_from_junctions (1, 30) [(6, 9), (13, 19)] 2 = some (20, 30) ∧
    Gen.get_following_exon_from_junctions (1, 30) [(6, 9), (13, 19)] 0 = some (10, 12) := by
  refine ⟨by simp [Gapped], by decide +kernel, by decide +kernel, by decide +kernel, by decide +kernel⟩

end IsoVerif.Props.C19Gen
