/-
C01 — a fake terminal exon hid the overhang of the next exon: the defect and its repair (fix 3c6fc87).

`categorize_exon_elongation_subtype` measured the read's overhang over the isoform ends on the OUTERMOST read exon only.
When that exon is a short exon outside the isoform (which `JunctionComparator.add_extra_out_exon_events` excuses as
`fake_terminal_exon_left/right`, a minor event) no elongation event was produced, however far the NEXT exon runs past the
isoform end: a read whose second exon starts 500 bp upstream of the transcript was `unique_minor_difference`.
  * `elongationEventsOrig` (Model/Assign.lean) = the code before the repair, `elongationEventsOrig_witness` = the failing input;
  * `elongationEvents` = the repaired code: the overhang is measured on `measuredExon`;
  * `far_never_consistent` is stated here with tolerance class (d) tightened to what the repaired code tolerates
    (`toleratedFix`, `fakeTerminalWithin`); the statement with the coarse class (d) is `C01Converse.far_never_consistent`.
-/
import IsoVerif.Props.C01Converse

namespace IsoVerif.Props.C01FakeTerminal
open IsoVerif.Gen IsoVerif.Model IsoVerif.Model.C01 IsoVerif.Lemmas IsoVerif.Lemmas.C01 IsoVerif.Lemmas.C01Cmp
open IsoVerif.Props.C01 IsoVerif.Props.C01Compare IsoVerif.Props.C01Converse

def wIso : List Isoform := [⟨[(5000, 5400), (6000, 6400), (7000, 7400)], .plus⟩]
def wRead : List Iv := [(4000, 4020), (4500, 5400), (6000, 6400), (7000, 7400)]
def wReadR : List Iv := [(5000, 5400), (6000, 6400), (7000, 7900), (8400, 8420)]
def noPolyA : PolyA := ⟨-1, -1, -1, -1⟩

/-- event types of an elongation function on the witness annotation -/
def elongTypes (f : Gene → Params → ReadProf → IsoInfo → Option (List Event)) (blocks : List Iv) :
    Option (List (MatchEventSubtype × Int)) :=
  match Gene.fromModels wIso with
  | none => none
  | some g =>
    match constructProfiles g exP blocks noPolyA, g.isos[0]? with
    | some rp, some I => (f g exP rp I).map (fun l => l.map (fun e => (e.ty, e.info)))
    | _, _ => none

/-- the comparator's event types for the witness read -/
def cmpTypes (blocks : List Iv) : Option (List MatchEventSubtype) :=
  match Gene.fromModels wIso with
  | none => none
  | some g =>
    match constructProfiles g exP blocks noPolyA with
    | some rp => (cjModel g exP exQ rp 0).map (fun l => l.map (·.ty))
    | none => none

/-- **elongationEventsOrig_witness** (before fix 3c6fc87; `default` preset): isoform (5000-5400, 6000-6400, 7000-7400), read
    (4000-4020, 4500-5400, 6000-6400, 7000-7400).  The comparator's only event is `fake_terminal_exon_left`.  The code
    BEFORE the repair produces no event for the left end (the 21-bp exon does not overlap the isoform), so the event set
    classifies as `unique_minor_difference` although the read's second exon starts 500 bp before the transcript; the
    repaired code reports `major_exon_elongation_left 500` and the assignment is `inconsistent_non_intronic` — as both
    versions do for the same read without the 21-bp exon (6th conjunct).  Mirror image at the right end. -/
theorem elongationEventsOrig_witness :
    cmpTypes wRead = some [.fake_terminal_exon_left] ∧
    elongTypes elongationEventsOrig wRead = some [(.terminal_site_match_right_precise, 0)] ∧
    classifyEvents false [.fake_terminal_exon_left, .terminal_site_match_right_precise] = .unique_minor_difference ∧
    elongTypes elongationEvents wRead = some [(.major_exon_elongation_left, 500), (.terminal_site_match_right_precise, 0)] ∧
    viewA (assignReadM wIso exP exQ wRead noPolyA) = some (.inconsistent_non_intronic, [some 0], .inconsistent) ∧
    elongTypes elongationEventsOrig wRead.tail
      = some [(.major_exon_elongation_left, 500), (.terminal_site_match_right_precise, 0)] ∧
    cmpTypes wReadR = some [.fake_terminal_exon_right] ∧
    elongTypes elongationEventsOrig wReadR = some [(.terminal_site_match_left_precise, 0)] ∧
    elongTypes elongationEvents wReadR = some [(.terminal_site_match_left_precise, 0), (.major_exon_elongation_right, 500)] ∧
    viewA (assignReadM wIso exP exQ wReadR noPolyA) = some (.inconsistent_non_intronic, [some 0], .inconsistent) := by
  refine ⟨by decide +kernel, by decide +kernel, by decide +kernel, by decide +kernel, by decide +kernel, by decide +kernel,
    by decide +kernel, by decide +kernel, by decide +kernel, by decide +kernel⟩

/-- a TOLERATED fake terminal exon (next exon starts at the transcript start) stays `unique_minor_difference` after the
    repair and gains `terminal_site_match_left_precise` -/
example : viewA (assignReadM wIso exP exQ [(4000, 4020), (5000, 5400), (6000, 6400), (7000, 7400)] noPolyA)
      = some (.unique_minor_difference, [some 0], .inconsistent) ∧
    elongTypes elongationEvents [(4000, 4020), (5000, 5400), (6000, 6400), (7000, 7400)]
      = some [(.terminal_site_match_left_precise, 0), (.terminal_site_match_right_precise, 0)] := by
  refine ⟨by decide +kernel, by decide +kernel⟩

/-- where nothing changed: reads whose outermost exons are long, or overlap the common split exon -/
theorem measuredExon_eq_of_long (p : Params) (o : Iv) (nx : Option Iv) (s : Iv)
    (h : p.max_fake_terminal_exon_len < interval_len o ∨ overlaps o s = true) : measuredExon p o nx s = o := by
  cases nx with
  | none => rfl
  | some n =>
    simp only [measuredExon]
    rcases h with h | h
    · have : decide (interval_len o ≤ p.max_fake_terminal_exon_len) = false := by simp; omega
      simp [this]
    · simp [h]

/-- the repaired function agrees with the original one on every read whose first and last exon are longer than
    `max_fake_terminal_exon_len` (in particular on mono-exonic reads' only exon: `next = none`) -/
theorem elongationEvents_eq_orig_of_long (g : Gene) (p : Params) (rp : ReadProf) (I : IsoInfo)
    (h1 : ∀ fr, rp.blocks.head? = some fr → p.max_fake_terminal_exon_len < interval_len fr)
    (h2 : ∀ lr, rp.blocks.getLast? = some lr → p.max_fake_terminal_exon_len < interval_len lr) :
    elongationEvents g p rp I = elongationEventsOrig g p rp I := by
  fun_cases elongationEvents g p rp I <;> unfold elongationEventsOrig <;>
    simp +zetaDelta only [*, and_self, ite_self, ↓reduceIte]
  rename_i fr lr sf sl _ _ hlr hfr _ _
  rw [measuredExon_eq_of_long p fr _ sf (Or.inl (h1 fr hfr)), measuredExon_eq_of_long p lr _ sl (Or.inl (h2 lr hlr))]

theorem commonFirst_head (as bs : List Int) (i : Int) : commonFirst (1 :: as) (1 :: bs) i = i := by
  simp [commonFirst]

/-- **majorOverhang_left_of_marks**: what `majorOverhang … true` (class (d′)) means on the positions, given the marks of the
    split-exon profiles: the isoform's FIRST atom `a0` (index `k = splitRange.1`, marked 1 in the isoform's profile) is also
    marked 1 for the read, the read's first exon is short and outside `a0`, and the NEXT exon overlaps `a0` and starts more
    than `minor_exon_extension` before it ⇒ the repaired elongation test reports a major overhang at the left end -/
theorem majorOverhang_left_of_marks (g : Gene) (p : Params) (rp : ReadProf) (I : IsoInfo) (k : Nat) (fr nx a0 : Iv)
    (hk : I.splitRange.1 = (k : Int)) (hrange : rp.split.range.1 ≤ (k : Int))
    (hI : I.splitProf[k]? = some 1) (hR : rp.split.gene[k]? = some 1) (ha : g.splitExons[k]? = some a0)
    (hfr : rp.blocks.head? = some fr) (hnx : rp.blocks[1]? = some nx)
    (hout : overlaps fr a0 = false) (hshort : interval_len fr ≤ p.max_fake_terminal_exon_len)
    (hov : overlaps nx a0 = true) (hfar : p.minor_exon_extension < a0.1 - nx.1)
    (hsome : (elongationEvents g p rp I).isSome = true) :
    majorOverhang g p rp I true = true := by
  have hmax : max (k : Int) rp.split.range.1 = (k : Int) := by omega
  have hcf : commonFirst (I.splitProf.drop k) (rp.split.gene.drop k) (k : Int) = (k : Int) := by
    rw [drop_eq_cons_of_getElem _ _ _ hI, drop_eq_cons_of_getElem _ _ _ hR]; exact commonFirst_head _ _ _
  have hpg : pyGet? g.splitExons (k : Int) = some a0 := by rw [pyGet?_nat]; exact ha
  obtain ⟨el, hel⟩ := Option.isSome_iff_exists.mp hsome
  have hmo : majorOverhang g p rp I true = el.any (fun e => decide (e.ty = MatchEventSubtype.major_exon_elongation_left)) := by
    simp [majorOverhang, hel]
  rw [hmo]
  revert hel
  fun_cases elongationEvents g p rp I <;> intro hel <;> cases hel
  rename_i cl _ fr' lr sf sl _ hsf _ hfr' left right
  simp +zetaDelta only [hk, hmax, Int.toNat_natCast, hcf] at hsf
  rw [hpg] at hsf; cases hsf
  rw [hfr] at hfr'; cases hfr'
  have hm : measuredExon p fr (some nx) a0 = nx := by simp [measuredExon, hout, hshort]
  have hgt : a0.1 - nx.1 > p.minor_exon_extension := hfar
  rw [List.any_append, Bool.or_eq_true]
  refine Or.inl (List.any_eq_true.mpr
    ⟨{ ty := MatchEventSubtype.major_exon_elongation_left, info := a0.1 - nx.1 }, ?_, by simp⟩)
  simp +zetaDelta only [hnx, hm, hov, hk, hmax, Int.toNat_natCast, hcf, if_true, endEvents, decide_true]
  exact List.mem_append_right _ (by simp [hgt])

/-- **majorOverhang_right_of_marks**: mirror image — the isoform's LAST atom is shared, the last read exon is short and outside
    it, the exon before it overlaps the atom and ends more than `minor_exon_extension` after it -/
theorem majorOverhang_right_of_marks (g : Gene) (p : Params) (rp : ReadProf) (I : IsoInfo) (k : Nat) (lr nx a0 : Iv)
    (hk : I.splitRange.2 - 1 = (k : Int)) (hrange : (k : Int) ≤ rp.split.range.2 - 1)
    (hI : I.splitProf[k]? = some 1) (hR : rp.split.gene[k]? = some 1) (ha : g.splitExons[k]? = some a0)
    (hlr : rp.blocks.getLast? = some lr) (hnx : rp.blocks.reverse[1]? = some nx)
    (hout : overlaps lr a0 = false) (hshort : interval_len lr ≤ p.max_fake_terminal_exon_len)
    (hov : overlaps nx a0 = true) (hfar : p.minor_exon_extension < nx.2 - a0.2)
    (hsome : (elongationEvents g p rp I).isSome = true) :
    majorOverhang g p rp I false = true := by
  have hmin : min (k : Int) (rp.split.range.2 - 1) = (k : Int) := by omega
  have hpgI : pyGet? I.splitProf (k : Int) = some 1 := by rw [pyGet?_nat]; exact hI
  have hpgR : pyGet? rp.split.gene (k : Int) = some 1 := by rw [pyGet?_nat]; exact hR
  have hcl : commonLast I.splitProf rp.split.gene ((k : Int) + 1).toNat (k : Int) = some (k : Int) := by
    have : ((k : Int) + 1).toNat = k + 1 := by omega
    rw [this]
    simp [commonLast, hpgI, hpgR]
  have hpg : pyGet? g.splitExons (k : Int) = some a0 := by rw [pyGet?_nat]; exact ha
  obtain ⟨el, hel⟩ := Option.isSome_iff_exists.mp hsome
  have hmo : majorOverhang g p rp I false = el.any (fun e => decide (e.ty = MatchEventSubtype.major_exon_elongation_right)) := by
    simp [majorOverhang, hel]
  rw [hmo]
  revert hel
  fun_cases elongationEvents g p rp I <;> intro hel <;> cases hel
  rename_i cl hcl' fr lr' sf sl hsl hsf hlr' hfr left right
  simp +zetaDelta only [hk, hmin, hcl, Option.some.injEq] at hcl'
  subst hcl'
  rw [hpg] at hsl; cases hsl
  rw [hlr] at hlr'; cases hlr'
  have hm : measuredExon p lr (some nx) a0 = nx := by simp [measuredExon, hout, hshort]
  have hgt : nx.2 - a0.2 > p.minor_exon_extension := hfar
  rw [List.any_append, Bool.or_eq_true]
  refine Or.inr (List.any_eq_true.mpr
    ⟨{ ty := MatchEventSubtype.major_exon_elongation_right, info := nx.2 - a0.2 }, ?_, by simp⟩)
  simp +zetaDelta only [hnx, hm, hov, hk, if_true, endEvents, decide_true]
  exact List.mem_append_right _ (by simp [hgt])

/-- the hypotheses of the two characterisation lemmas evaluated on the witness reads (non-vacuity) -/
def marksHyp (blocks : List Iv) (left : Bool) : Option Bool :=
  match Gene.fromModels wIso with
  | none => none
  | some g =>
    match constructProfiles g exP blocks noPolyA, g.isos[0]? with
    | some rp, some I =>
      if left then
        match rp.blocks.head?, rp.blocks[1]?, g.splitExons[0]? with
        | some fr, some nx, some a0 =>
          some (decide (I.splitRange.1 = 0) && decide (rp.split.range.1 ≤ 0) && decide (I.splitProf[0]? = some 1) &&
            decide (rp.split.gene[0]? = some 1) && !overlaps fr a0 && decide (interval_len fr ≤ exP.max_fake_terminal_exon_len) &&
            overlaps nx a0 && decide (exP.minor_exon_extension < a0.1 - nx.1) && (elongationEvents g exP rp I).isSome)
        | _, _, _ => none
      else
        match rp.blocks.getLast?, rp.blocks.reverse[1]?, g.splitExons[2]? with
        | some lr, some nx, some a0 =>
          some (decide (I.splitRange.2 - 1 = 2) && decide ((2 : Int) ≤ rp.split.range.2 - 1) && decide (I.splitProf[2]? = some 1) &&
            decide (rp.split.gene[2]? = some 1) && !overlaps lr a0 && decide (interval_len lr ≤ exP.max_fake_terminal_exon_len) &&
            overlaps nx a0 && decide (exP.minor_exon_extension < nx.2 - a0.2) && (elongationEvents g exP rp I).isSome)
        | _, _, _ => none
    | _, _ => none

example : marksHyp wRead true = some true ∧ marksHyp wReadR false = some true := by
  refine ⟨by decide +kernel, by decide +kernel⟩

/-- without any polyA / polyT position `verify_read_ends` deletes nothing -/
theorem verifyReadEnds_noTail {p : Params} {rp : ReadProf} {I : IsoInfo} {evs r : List Event}
    (ht : hasTail rp.polya = false) (h : verifyReadEnds p rp I evs = some r) : ∀ e ∈ evs, e ∈ r := by
  simp only [hasTail, Bool.not_eq_false', Bool.and_eq_true, decide_eq_true_eq] at ht
  obtain ⟨⟨⟨h1, h2⟩, h3⟩, h4⟩ := ht
  intro e he
  have hne : evs ≠ [] := by intro c; rw [c] at he; cases he
  unfold verifyReadEnds at h
  simp only [checkInternal, h1, h2, h3, h4] at h
  cases hs : I.strand <;> simp [hs, hne] at h <;> (subst h; exact he)

theorem majorOverhang_event {g : Gene} {p : Params} {rp : ReadProf} {I : IsoInfo} {left : Bool} {el : List Event}
    (hel : elongationEvents g p rp I = some el) (h : majorOverhang g p rp I left = true) :
    ∃ e ∈ el, e.ty.is_major_inconsistency = true := by
  simp only [majorOverhang, hel, List.any_eq_true, decide_eq_true_eq] at h
  obtain ⟨e, he, hty⟩ := h
  refine ⟨e, he, ?_⟩
  rw [hty]
  cases left <;> decide

/-- **far_never_consistent** (tolerance (d) tightened to the class the REPAIRED code tolerates): the assigner with the
    modelled comparator never reports unique / unique_minor_difference / ambiguous for a read that has an intron `r` which
    equals no annotated intron within δ and is, w.r.t. every isoform of the gene, in none of the classes
    (a) suspicious-short intron, (b) intron shift, (c) missed short exon,
    (d′) `fakeTerminalWithin`: first / last intron behind a first / last read exon of at most `max_fake_terminal_exon_len`
         AND the next exon within the ordinary elongation tolerance (the code's elongation test, applied to the next exon,
         reports no major overhang at that end; reads carrying a polyA / polyT position are not covered),
    (e) the known-finding class `terminalMisalignmentClass`.
    Compared with `C01Converse.far_never_consistent` the theorem also speaks about every read with a short outermost
    exon whose NEXT exon overhangs the isoform by more than `minor_exon_extension` — the class on which the statement was
    false before the repair (`elongationEventsOrig_witness`). -/
theorem far_never_consistent (ms : List Isoform) (p : Params) (q : CParams) (blocks : List Iv) (pa : PolyA) (g : Gene)
    (rp : ReadProf) (a : Assignment) (path : Path)
    (hg : Gene.fromModels ms = some g) (hrp : constructProfiles g p blocks pa = some rp)
    (i : Nat) (r : Iv) (hr : (junctionsFromBlocks blocks)[i]? = some r)
    (hfar : ∀ k ∈ g.introns, equal_ranges r k p.delta = false)
    (hall : ∀ I ∈ g.isos, ChainsWF p.delta (junctionsFromBlocks blocks) rp.region I.introns I.region ∧
      toleratedFix g p q rp I i r = false)
    (h : assignToIsoformM g p q rp = some (a, path)) : a.ty.is_consistent = false := by
  have hintr := (constructProfiles_of g p blocks pa rp hrp).hintrons
  by_cases hc : ∀ I ∈ g.isos,
      tolerated (cmpCtxOf g p q) (junctionsFromBlocks blocks) rp.region I.introns I.region i r = false
  · exact C01Converse.far_never_consistent ms p q blocks pa g rp a path hg hrp i r hr hfar
      (fun I hI => ⟨(hall I hI).1, hc I hI⟩) h
  · -- some isoform is excused by the COARSE class only: the read has a short outermost exon at the side of intron i
    have hfake : fakeTerminalTolerated (cmpCtxOf g p q) rp.introns rp.region i = true := by
      apply Classical.byContradiction
      intro hne
      apply hc
      intro I hI
      have hf := (hall I hI).2
      simp only [toleratedFix, Bool.or_eq_false_iff] at hf
      obtain ⟨⟨⟨⟨f1, f2⟩, f3⟩, _⟩, f5⟩ := hf
      rw [hintr] at f5 hne
      simp only [tolerated, f1, f2, f3, f5, Bool.or_false, Bool.false_or]
      simpa using hne
    cases hcons : a.ty.is_consistent with
    | false => rfl
    | true =>
      exfalso
      obtain ⟨_, best, hne, _, hsel, hnomaj⟩ :=
        C01Far.far_never_consistent_partial p blocks pa (cjModel g p q rp) g rp a path hrp r (List.mem_of_getElem? hr) hfar h
          hcons
      cases best with
      | nil => exact hne rfl
      | cons Ie rest =>
        obtain ⟨hIe, ev0, el, _, _, hel, hver⟩ := hsel Ie (by simp)
        have hf := (hall Ie.1 hIe).2
        simp only [toleratedFix, Bool.or_eq_false_iff] at hf
        obtain ⟨⟨_, f4⟩, _⟩ := hf
        -- the side on which the outermost exon is short carries a major overhang, and the read has no tail
        have hside : ∃ left, majorOverhang g p rp Ie.1 left = true ∧ hasTail rp.polya = false := by
          simp only [fakeTerminalWithin, Bool.or_eq_false_iff, Bool.and_eq_false_iff, Bool.not_eq_false',
            Bool.or_eq_false_iff] at f4
          simp only [fakeTerminalTolerated, cmpCtxOf, Bool.or_eq_true, Bool.and_eq_true] at hfake
          obtain ⟨fl, fr⟩ := f4
          rcases hfake with ⟨a1, a2⟩ | ⟨a1, a2⟩
          · rcases fl with (fl | fl) | fl
            · rw [a1] at fl; cases fl
            · simp only [decide_eq_false_iff_not] at fl; exact absurd (of_decide_eq_true a2) fl
            · exact ⟨true, by simpa using fl.1, fl.2⟩
          · rcases fr with (fr | fr) | fr
            · rw [a1] at fr; cases fr
            · simp only [decide_eq_false_iff_not] at fr; exact absurd (of_decide_eq_true a2) fr
            · exact ⟨false, by simpa using fr.1, fr.2⟩
        obtain ⟨left, hmo, hnt⟩ := hside
        obtain ⟨e, he, hmaj⟩ := majorOverhang_event hel hmo
        have hmem : e ∈ Ie.2 := verifyReadEnds_noTail hnt hver e (List.mem_append_right _ he)
        have := hnomaj Ie (by simp) e hmem
        rw [hmaj] at this; cases this

/-- **far_never_consistent_wf** with the tightened class: well-formedness stated on the annotation and the alignment only -/
theorem far_never_consistent_wf (ms : List Isoform) (p : Params) (q : CParams) (blocks : List Iv) (pa : PolyA) (g : Gene)
    (rp : ReadProf) (a : Assignment) (path : Path)
    (hg : Gene.fromModels ms = some g) (hrp : constructProfiles g p blocks pa = some rp)
    (hwf : WellFormed ms) (hsd : SD blocks) (hwfl : WFl blocks) (hδ : 0 ≤ p.delta)
    (hlongR : ∀ r ∈ junctionsFromBlocks blocks, 2 * p.delta ≤ r.2 - r.1)
    (hlongI : ∀ m ∈ ms, ∀ k ∈ junctionsFromBlocks m.exons, 2 * p.delta ≤ k.2 - k.1)
    (i : Nat) (r : Iv) (hr : (junctionsFromBlocks blocks)[i]? = some r)
    (hfar : ∀ k ∈ g.introns, equal_ranges r k p.delta = false)
    (htol : ∀ I ∈ g.isos, toleratedFix g p q rp I i r = false)
    (h : assignToIsoformM g p q rp = some (a, path)) : a.ty.is_consistent = false := by
  exact far_never_consistent ms p q blocks pa g rp a path hg hrp i r hr hfar
    (fun I hI => ⟨chainsWF_of_wf ms p blocks pa g rp hg hrp hwf hsd hwfl hδ hlongR hlongI I hI, htol I hI⟩) h

/-- the hypotheses of `far_never_consistent`, as a Boolean, for read intron `i` of `blocks` against the witness annotation;
    `coarse` = the intron is excused by the class tolerated BEFORE the repair w.r.t. some isoform -/
def hypsMet (blocks : List Iv) (i : Nat) : Option (Bool × Bool) :=
  match Gene.fromModels wIso with
  | none => none
  | some g =>
    match constructProfiles g exP blocks noPolyA, (junctionsFromBlocks blocks)[i]? with
    | some rp, some r =>
      some (g.introns.all (fun k => !equal_ranges r k exP.delta) &&
            g.isos.all (fun I => chainsWFb exP.delta (junctionsFromBlocks blocks) rp.region I.introns I.region &&
              !toleratedFix g exP exQ rp I i r),
            g.isos.any (fun I => tolerated (cmpCtxOf g exP exQ) (junctionsFromBlocks blocks) rp.region I.introns I.region i r))
    | _, _ => none

/-- non-vacuity, and the gain over the coarse class: the first intron of the witness read (and the last one of its mirror
    image) meets every hypothesis of the tightened `far_never_consistent` while the coarse class excused it; a read whose
    next exon starts at the transcript start is still excused (hypotheses NOT met) -/
example : hypsMet wRead 0 = some (true, true) ∧ hypsMet wReadR 2 = some (true, true) ∧
    hypsMet [(4000, 4020), (5000, 5400), (6000, 6400), (7000, 7400)] 0 = some (false, true) := by
  refine ⟨by decide +kernel, by decide +kernel, by decide +kernel⟩

end IsoVerif.Props.C01FakeTerminal
