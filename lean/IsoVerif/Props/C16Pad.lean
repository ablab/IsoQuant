/-
C16 — a `P` (padding) operation inside the walked polyA/polyT tail.
Model of the repaired code: Model/FinderPad.lean (`moveRefLoopFix`, `moveRefCoordFix`, `findPolyaTailFix`, …); the
definitions of Model/PolyAFinder.lean (`moveRefCoord`, …; the names `…Orig` are abbreviations of them, equal by `rfl`)
keep the tree before `fix: padding inside the walked tail`, where the "Unexpected event" branch raised `TypeError` and the
whole run was aborted.  See docs/C16.md §9.
-/
import IsoVerif.Model.FinderPad
import IsoVerif.Lemmas.MoveRef
import IsoVerif.Lemmas.FinderWith

namespace IsoVerif.Props.C16Pad
open IsoVerif.Gen IsoVerif.Model IsoVerif.Model.C16 IsoVerif.Lemmas.C16

/-- **pad_transparent**: the repaired walk over any operation list is the walk of the old code over the list with
    its `P` operations removed – a `P` moves neither the read nor the reference position and costs no iteration budget -/
theorem pad_transparent (T read ref : Int) (ops : List CigarOp) :
    moveRefLoopOrig T read ref (ops.filter notPad) = some (moveRefLoopFix T read ref ops) :=
  moveRefLoopFix_eq_filter T ops read ref

/-- **move_ref_fix_total**: the repaired function raises on the `assert` only (non-zero shift on an empty CIGAR); no
    CIGAR over the nine SAM operation kinds makes it raise -/
theorem move_ref_fix_total (cigar : List CigarOp) (shift : Int) :
    (moveRefCoordFix cigar shift = none ↔ shift ≠ 0 ∧ cigar = []) := by
  unfold moveRefCoordFix
  by_cases h0 : shift = 0
  · simp [h0]
  · by_cases hne : cigar = [] <;> simp [h0, hne]

/-- **move_ref_fix_extends**: the repair is conservative – whenever the old code returned a value the repaired code
    returns the same value (only inputs that raised `TypeError` change) -/
theorem move_ref_fix_extends (cigar : List CigarOp) (shift r : Int)
    (h : moveRefCoordOrig cigar shift = some r) : moveRefCoordFix cigar shift = some r := by
  unfold moveRefCoordOrig moveRefCoord at h
  unfold moveRefCoordFix
  by_cases h0 : shift = 0
  · simpa [h0] using h
  · by_cases hne : cigar = []
    · simp [h0, hne] at h
    · simp only [h0, hne, if_false] at h ⊢
      cases hl : moveRefLoop ((if shift > 0 then shift else -shift) + 1) 0 0
          ((if shift > 0 then cigar else cigar.reverse).drop (leadingClips (if shift > 0 then cigar else cigar.reverse))) with
      | none => rw [hl] at h; cases h
      | some v =>
        rw [hl] at h
        rw [moveRefLoop_some_fix _ _ _ _ _ hl]
        exact h

/-- **move_ref_coord_fix_eq_spec**: the repaired walk = the base-by-base SAM projection, on EVERY CIGAR with
    non-negative lengths, `P` included (`moveRefCoordSpecFix` is the function the driver evaluates
    against the real code under the op `move_ref_coord_spec`) -/
theorem move_ref_coord_fix_eq_spec (cigar : List CigarOp) (shift : Int) (hnn : NonNeg cigar) :
    moveRefCoordFix cigar shift = moveRefCoordSpecFix cigar shift := by
  by_cases h0 : shift = 0
  · simp [moveRefCoordFix, moveRefCoordSpecFix, h0]
  by_cases hne : cigar = []
  · simp [moveRefCoordFix, moveRefCoordSpecFix, h0, hne]
  rw [moveRefCoordFix_eq cigar shift hnn h0 hne]
  simp only [moveRefCoordSpecFix, h0, hne, if_false]

/-- **move_ref_coord_fix_spec** (the declarative form): non-zero shift, non-empty CIGAR with lengths ≥ 0 – the
    repaired code returns `r` with `ProjectsTo (expand core) |shift| r`, `core` = the operations the walk sees.
    The first clause of `move_ref_coord_spec` ("a `P` before the target base: the code raises") is gone. -/
theorem move_ref_coord_fix_spec (cigar : List CigarOp) (shift : Int) (h0 : shift ≠ 0) (hne : cigar ≠ [])
    (hnn : NonNeg cigar) :
    ∃ r, moveRefCoordFix cigar shift = some r ∧
      ProjectsTo (expand (walkCore cigar (decide (shift > 0)))) shift.natAbs r := by
  refine ⟨_, ?_, projectsTo_refColsUpTo _ shift.natAbs⟩
  rw [move_ref_coord_fix_eq_spec cigar shift hnn]
  simp [moveRefCoordSpecFix, h0, hne]

/-- the finders are the old finders with the projection exchanged -/
theorem finder_with_orig :
    findPolyaTailWith moveRefCoord = findPolyaTail ∧ findPolytHeadWith moveRefCoord = findPolytHead ∧
    detectPolyaWith moveRefCoord = detectPolya ∧
    findPolyaTailSpecWith moveRefCoordSpec = findPolyaTailSpec ∧ findPolytHeadSpecWith moveRefCoordSpec = findPolytHeadSpec :=
  ⟨rfl, rfl, rfl, rfl, rfl⟩

/-- **find_tail_fix_extends**: whatever `find_polya_tail` / `find_polyt_head` returned before the
    repair they return after it (every theorem about a record on which the old finder did not raise carries over) -/
theorem find_tail_fix_extends (w num den : Nat) (s : Int) (cigar : List CigarOp) (seq : List Char)
    (fromPos toPos : Int) (chk : Bool) (r : Int) :
    (findPolyaTailOrig w num den s cigar seq fromPos toPos chk = some r →
      findPolyaTailFix w num den s cigar seq fromPos toPos chk = some r) ∧
    (findPolytHeadOrig w num den s cigar seq fromPos toPos chk = some r →
      findPolytHeadFix w num den s cigar seq fromPos toPos chk = some r) := by
  change (findPolyaTailWith moveRefCoord _ _ _ _ _ _ _ _ _ = _ → findPolyaTailWith moveRefCoordFix _ _ _ _ _ _ _ _ _ = _) ∧
    (findPolytHeadWith moveRefCoord _ _ _ _ _ _ _ _ _ = _ → findPolytHeadWith moveRefCoordFix _ _ _ _ _ _ _ _ _ = _)
  simp only [findPolyaTailWith_eq, findPolytHeadWith_eq]
  exact ⟨scanThen_mono fun _ _ => ite_some_map_mono (move_ref_fix_extends cigar _),
    scanThen_mono fun _ _ => ite_some_map_mono (move_ref_fix_extends cigar _)⟩

/-- **find_tail_fix_raises_iff**: every way the repaired finders raise – an empty CIGAR (`IndexError`) or a non-empty
    sequence not longer than the soft clip (`assert`); a `P` anywhere does not matter
    (before: `find_polya_tail_raises_iff` lists a third way, the `TypeError`) -/
theorem find_tail_fix_raises_iff (w num den : Nat) (s : Int) (cigar : List CigarOp) (seq : List Char)
    (fromPos toPos : Int) (chk : Bool) :
    (findPolyaTailFix w num den s cigar seq fromPos toPos chk = none ↔
      cigar = [] ∨ (seq ≠ [] ∧ ¬ softClipTail cigar < seq.length)) ∧
    (findPolytHeadFix w num den s cigar seq fromPos toPos chk = none ↔
      cigar = [] ∨ (seq ≠ [] ∧ ¬ softClipHead cigar < seq.length)) := by
  unfold findPolyaTailFix findPolytHeadFix
  rw [findPolyaTailWith_eq, findPolytHeadWith_eq, scanThen_none_iff, scanThen_none_iff]
  exact ⟨or_congr_right ⟨fun h => h.elim id fun ⟨hne, _, _, p, _, hm⟩ =>
      absurd ((move_ref_fix_total cigar _).1 (tailPos_eq_none_iff.1 hm).2).2 hne, Or.inl⟩,
    or_congr_right ⟨fun h => h.elim id fun ⟨hne, _, _, p, _, hm⟩ =>
      absurd ((move_ref_fix_total cigar _).1 (headPos_eq_none_iff.1 hm).2).2 hne, Or.inl⟩⟩

/-- the failing run in small: `3M 1P 2M 2S`, read `CCA AA AA` – the tail starts inside the aligned part,
    the backward walk meets the `P` -/
def padCigar : List CigarOp := [(.«match», 3), (.padding, 1), (.«match», 2), (.soft_clipping, 2)]

/-- **pad_in_tail_witness**: before the repair the projection (and with it `find_polya_tail`, `detect_polya` and the
    whole run) raises; the repaired code answers the base-by-base projection (3 reference bases from the alignment end) -/
theorem pad_in_tail_witness :
    moveRefCoordOrig padCigar (-3) = none ∧ moveRefCoordFix padCigar (-3) = some 3 ∧
    moveRefCoordSpecFix padCigar (-3) = some 3 ∧
    findPolyaTailOrig 2 1 1 10 padCigar "CCAAAAA".toList 6 2 false = none ∧
    findPolyaTailFix 2 1 1 10 padCigar "CCAAAAA".toList 6 2 false = some 12 := by
  -- the literal is read off first: the kernel would decode its UTF-8 bytes at every occurrence otherwise
  rw [String.toList_ofList]
  refine ⟨by decide, by decide, by decide, by decide +kernel, by decide +kernel⟩

theorem padCigar_nonNeg : NonNeg padCigar := by
  intro o ho
  simp [padCigar] at ho
  rcases ho with rfl | rfl | rfl | rfl <;> decide

example : NonNeg padCigar ∧ padCigar ≠ [] := ⟨padCigar_nonNeg, by decide⟩

end IsoVerif.Props.C16Pad
