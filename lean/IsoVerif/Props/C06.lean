/-
C06 — outputs do not depend on threads, hash seed, memory mode or repetition.
Property theorems only (helper lemmas: IsoVerif/Lemmas/Schedule.lean, C06RefGene.lean).  Model: IsoVerif/Model/Schedule.lean,
handled tables: IsoVerif/Model/C06Inventory.lean, regenerated inventories: IsoVerif/Gen/SharedState.lean, SetSites.lean.
-/
import IsoVerif.Model.Schedule
import IsoVerif.Lemmas.Schedule
import IsoVerif.Lemmas.C06RefGene

namespace IsoVerif.Props.C06
open IsoVerif.Model.C06 IsoVerif.Lemmas.C06

/-- Whatever the assignment of tasks to workers and the order of execution, `pool.map` yields at position `i`
    the output of `f` on task `i` in *some* worker state: results come back in submission order, none is lost
    or duplicated, and the only influence of the schedule is through the state the worker happened to be in. -/
theorem pool_map_submission_order {σ χ ω : Type} (f : σ → χ → ω × σ) (chrs : List χ) (st : Nat → σ)
    (s : List Event) (hs : ValidSchedule chrs.length s) (i : Nat) (c : χ) (hc : chrs[i]? = some c) :
    ∃ σ₀, (poolMap f chrs st s)[i]? = some (some (f σ₀ c).1) :=
  poolMap_getElem? f chrs st s hs i c hc

/-- **schedule independence** (generic): if the per-chromosome output of a task does not depend on the state
    of the worker that runs it, the list returned by the pool is the same for all schedules and all initial
    worker states (forks of any parent state; `--threads 1` is the schedule `seqSchedule`). -/
theorem schedule_independent {σ χ ω : Type} (f : σ → χ → ω × σ) (chrs : List χ)
    (H : ∀ σ₁ σ₂ c, (f σ₁ c).1 = (f σ₂ c).1)
    (st st' : Nat → σ) (s s' : List Event)
    (hs : ValidSchedule chrs.length s) (hs' : ValidSchedule chrs.length s') :
    poolMap f chrs st s = poolMap f chrs st' s' :=
  (poolMap_eq_map f chrs (st 0) H st s hs).trans (poolMap_eq_map f chrs (st 0) H st' s' hs').symm

/-- non-vacuity: a state-dependent state update with a state-independent output meets the hypothesis, and the
    two schedules below (one worker / two workers, reversed completion) are valid -/
example : (∀ σ₁ σ₂ c, ((fun (σ : Nat) (c : Nat) => (c * 2, σ + c)) σ₁ c).1 = ((fun (σ : Nat) (c : Nat) => (c * 2, σ + c)) σ₂ c).1)
    ∧ ValidSchedule 3 [(0, 0), (0, 1), (0, 2)] ∧ ValidSchedule 3 [(1, 2), (0, 0), (1, 1)] := by
  refine ⟨fun _ _ _ => rfl, by decide +kernel, by decide +kernel⟩

/-- the same up to an equivalence of intermediate outputs: if outputs in two worker states are `R`-related, the
    lists returned under two schedules are pointwise `R`-related (the case of the save files, whose assignment
    ids depend on the worker's counter) -/
theorem schedule_independent_rel {σ χ ω : Type} (f : σ → χ → ω × σ) (chrs : List χ) (R : ω → ω → Prop)
    (H : ∀ σ₁ σ₂ c, R (f σ₁ c).1 (f σ₂ c).1)
    (st st' : Nat → σ) (s s' : List Event)
    (hs : ValidSchedule chrs.length s) (hs' : ValidSchedule chrs.length s') (i : Nat) (hi : i < chrs.length) :
    ∃ o o', (poolMap f chrs st s)[i]? = some (some o) ∧ (poolMap f chrs st' s')[i]? = some (some o') ∧ R o o' := by
  have hc : chrs[i]? = some chrs[i] := List.getElem?_eq_getElem hi
  obtain ⟨σ₁, h₁⟩ := poolMap_getElem? f chrs st s hs i _ hc
  obtain ⟨σ₂, h₂⟩ := poolMap_getElem? f chrs st' s' hs' i _ hc
  exact ⟨_, _, h₁, h₂, H σ₁ σ₂ _⟩

/-- the schedule does matter when the hypothesis fails: a task that prints its worker's counter -/
theorem schedule_dependent_witness :
    poolMap (fun (σ : Nat) (_ : Unit) => (σ, σ + 1)) [(), ()] (fun _ => 0) [(0, 0), (0, 1)]
      ≠ poolMap (fun (σ : Nat) (_ : Unit) => (σ, σ + 1)) [(), ()] (fun _ => 0) [(0, 0), (1, 1)] := by
  decide +kernel

/-! ### set-iteration sites: the argument is the order in which the set happens to be iterated -/

/-- `gene_ids` column of the exon / intron tables (after /repo fc708be): any two iteration orders of the same set
    of gene ids print the same string -/
theorem hash_independent_gene_ids {l l' : List String} (h : l.Perm l') : geneIdsColumn l = geneIdsColumn l' := by
  unfold geneIdsColumn; rw [sortStr_eq_of_perm h]

/-- before the fix the column followed the iteration order -/
theorem gene_ids_buggy_witness :
    ["Gc1_alpha", "Gc1_Bx"].Perm ["Gc1_Bx", "Gc1_alpha"] ∧
    geneIdsColumnBuggy ["Gc1_alpha", "Gc1_Bx"] ≠ geneIdsColumnBuggy ["Gc1_Bx", "Gc1_alpha"] := by
  refine ⟨List.Perm.swap _ _ _, by decide +kernel⟩

/-- `BasicReadAssignment.isoforms` / `.genes` (after /repo 3186289), used by `__eq__` and by the tie-break key of
    `select_noninformative` -/
theorem hash_independent_isoforms_key {l l' : List String} (h : l.Perm l') : isoformsKey l = isoformsKey l' :=
  sortStr_eq_of_perm h

/-- before: with isoform sets {Tb} and {Ta,Tc} the comparison `key(b) < key(a)` flips with the iteration order -/
theorem isoforms_key_buggy_witness :
    ["Ta", "Tc"].Perm ["Tc", "Ta"] ∧
    (decide (isoformsKeyBuggy ["Ta", "Tc"] < isoformsKeyBuggy ["Tb"]) ≠ decide (isoformsKeyBuggy ["Tc", "Ta"] < isoformsKeyBuggy ["Tb"])) := by
  refine ⟨List.Perm.swap _ _ _, by decide +kernel⟩

/-- numeric group ids of `AssignedFeatureCounter` (after /repo b707b14) -/
theorem hash_independent_group_numbering {l l' : List String} (h : l.Perm l') : groupNumbering l = groupNumbering l' := by
  unfold groupNumbering; rw [sortStr_eq_of_perm h]

theorem group_numbering_buggy_witness :
    linearLabel (groupNumberingBuggy ["liver", "brain"]) (sortStr ["liver", "brain"]) "liver" = some "brain" := by decide +kernel

/-- header of every grouped table: per-chromosome sets dumped in any order, united, dumped again in any order
    (`perm`, `perm'`: what `list(set)` does to the union), read back into a set, sorted.  The result depends only on
    *which* groups occur on some chromosome. -/
theorem hash_independent_groups_header (A B : List (List String)) (perm perm' : List String → List String)
    (hp : ∀ l, (perm l).Perm l) (hp' : ∀ l, (perm' l).Perm l)
    (h : ∀ x, x ∈ A.flatten ↔ x ∈ B.flatten) :
    groupsHeader A perm = groupsHeader B perm' := by
  unfold groupsHeader
  apply sortStr_dedup_eq_of_mem_iff
  intro x
  rw [(hp _).mem_iff, (hp' _).mem_iff, mem_dedup, mem_dedup]
  exact h x

/-- non-vacuity: two different dump orders and chromosome-to-worker splits of the same groups -/
example : groupsHeader [["b", "a"], ["c", "a"]] id = ["a", "b", "c"] ∧
    groupsHeader [["a", "c"], [], ["b"]] List.reverse = ["a", "b", "c"] := by decide +kernel

/-- `select_reference_gene`: the count dict is filled while iterating sets of gene ids (its insertion order follows
    the hash order), then sorted by `(count, gene id)` descending — a total order on the items.  Whatever the
    iteration order of every `intron_genes[intron]` (any permutation of the visited ids), the same gene is chosen. -/
theorem hash_independent_reference_gene (iter iter' : List (List String)) (strandOk : String → Bool)
    (h : iter.flatten.Perm iter'.flatten) :
    selectReferenceGene iter strandOk = selectReferenceGene iter' strandOk := by
  unfold selectReferenceGene
  rw [isort_eq_of_perm refGeneBefore refGeneBefore_trans refGeneBefore_total
    (fun a b _ _ => refGeneBefore_antisymm a b) (geneCounts_perm h)]

/-- non-vacuity: two iteration orders of the same sets -/
example : [["Gb", "Ga"], ["Ga", "Gb"], ["Gc"]].flatten.Perm [["Ga", "Gb"], ["Gb", "Ga"], ["Gc"]].flatten ∧
    selectReferenceGene [["Gb", "Ga"], ["Ga", "Gb"], ["Gc"]] (fun _ => true) = some "Gb" := by decide +kernel

/-- with the gene id dropped from the sort key (count only, stable sort) a tie is settled by the dict order, i.e. by
    the iteration order of the set -/
theorem reference_gene_buggy_witness :
    [["Ga", "Gb"]].flatten.Perm [["Gb", "Ga"]].flatten ∧
    selectReferenceGeneBuggy [["Ga", "Gb"]] (fun _ => true) ≠ selectReferenceGeneBuggy [["Gb", "Ga"]] (fun _ => true) := by
  decide +kernel

end IsoVerif.Props.C06
