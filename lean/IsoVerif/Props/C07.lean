/-
C07 — resuming an interrupted run yields the outputs of an uninterrupted run.

Property theorems over the executable model `IsoVerif.Model.Resume` (file-system protocol of one run; see the header
of Model/Resume.lean and docs/C07.md).  `fixed` is the current /repo, `pinned` the tree before the fixes (DESIGN.md §14).
Helper lemmas live in IsoVerif/Lemmas/Resume*.lean; crash consistency and the kill → resume theorems are the instances for
`run` of `Shaped.crash_invariant` / `resume_equal` (Lemmas/ResumeShape.lean), which hold of any run with the shape `run_shape`.

Full-strength statement (`resume_correct`): for every well-formed configuration (any number of chromosomes, any
processing / merge / BAM-header order, with or without annotation, read groups, --keep_tmp, unaligned reads), every
directory order seen by the clean-up globs of either run, and every truncation point `k ≥ 4` of the first run's event
list (`.params` is saved by the first four events), the resumed run completes and every final file equals that of the
uninterrupted run.
-/
import IsoVerif.Lemmas.ResumeVia
import IsoVerif.Lemmas.ResumePoolSeq
import IsoVerif.Lemmas.ResumeStore

namespace IsoVerif.Props.C07
open IsoVerif.Model.Resume IsoVerif.Lemmas.Resume

/-- the lock/data part of the invariant (what holds of an empty directory as well) -/
def J0 (cfg : Cfg) (fs : FS) : Prop := ∀ l, fs.has l = true → ∀ d ∈ guarded cfg l, fs.good d = true

theorem J0_empty (cfg : Cfg) : J0 cfg FS.empty := by intro l hl; simp at hl

theorem J_J0 {cfg : Cfg} {fs : FS} (h : J cfg fs) : J0 cfg fs := h.2

/-- shape of every run of the repaired code from a state in which the locks vouch only for complete files
    (a fresh run: after its lock-removal step; a resumed run: `.params` intact; with `--read_assignments`: the save
    files complete): it completes, its events are the `.params` events followed by events along which the
    invariant `J` holds at every prefix, and all final files end up complete and correct -/
theorem run_shape {cfg : Cfg} (wf : WF cfg) (ord : List Path) (hord : ord.Nodup) : Shaped cfg (run fixed cfg ord) := by
  rw [run_via]; exact runVia_shaped wf ord hord (collect_seq_spec wf.nd) (construct_seq_spec wf.nd)

/-- **crash consistency**: whenever the (first or a resumed) run is killed after its parameters were saved, every lock
    file that exists vouches only for complete, correct files, and `.params` is intact -/
theorem crash_state_invariant {cfg : Cfg} (wf : WF cfg) (ord : List Path) (hord : ord.Nodup) (rs : Bool) {fs : FS}
    (h : J0 cfg fs) (hp : rs = true → fs.good .params = true) (hcl : rs = false → lockList cfg fs = [])
    (hsv : cfg.fromSaves = true → SavesOK cfg fs) (k : Nat) (hk : 4 ≤ k ∨ rs = true) :
    J cfg (applyAll fs ((run fixed cfg ord rs fs).evs.take k)) :=
  (run_shape wf ord hord).crash_invariant rs h hp hcl hsv k hk

/-- `--read_assignments`: the save files are complete, and a `_collected` lock found next to them vouches for complete
    files (they were written by a run that finished read collection) -/
def SavesConsistent (cfg : Cfg) (fs : FS) : Prop :=
  SavesOK cfg fs ∧ ∀ c ∈ cfg.chrs, fs.has (.collected c) = true → fs.good (.groups c) = true ∧ fs.good (.bamstat c) = true

/-- an index of the reference that the run finds inside the output folder and will read as it is (`idxTrusted`: not the index
    of the always-rewritten copy of a plain-gzip reference) is complete — it was supplied by the user or written by the
    repaired code, which only ever renames a complete file into place -/
def IndexSound (cfg : Cfg) (fs : FS) : Prop :=
  idxTrusted cfg = true → fs.has .refFai = true → fs.good .refFaiData = true

theorem indexSound_empty (cfg : Cfg) : IndexSound cfg FS.empty := by intro _ h; simp at h

theorem indexSound_of_not_trusted {cfg : Cfg} (h : idxTrusted cfg = false) (fs : FS) : IndexSound cfg fs := by
  intro e; rw [h] at e; exact absurd e (by simp)

/-- case split over the kinds of lock (`guarded_lock_cases`): after the lock removal only `refFai` — by `IndexSound` — and, with
    `--read_assignments`, `_lock` / `_collected c` — by `SavesConsistent` — can still exist -/
theorem J0_cleaned {cfg : Cfg} (fs : FS) (hs : cfg.fromSaves = true → SavesConsistent cfg fs) (hi : IndexSound cfg fs) :
    J0 cfg (cleaned cfg fs) := by
  intro l hl d hd
  rcases guarded_lock_cases hd with rfl | rfl | ⟨c, hc, rfl⟩ | ⟨c, hc, rfl⟩ | ⟨rfl, rfl, ht⟩
  rotate_right
  · have hnl : Path.refFai ∉ lockList cfg fs := by
      intro hm
      simp only [lockList, List.mem_append, List.mem_map, List.mem_filter] at hm
      rcases hm with (⟨hm, _⟩ | ⟨c, _, e⟩) | ⟨c, _, e⟩
      · split at hm <;> simp at hm
      · cases e
      · cases e
    rw [FS.has, cleaned_val, if_neg hnl] at hl
    rw [FS.good, cleaned_other cfg fs rfl]
    exact hi ht hl
  · cases hm : cfg.fromSaves with
    | false => rw [(cleaned_bam_locks hm fs).1] at hl; exact absurd hl (by simp)
    | true =>
      have hsv := (hs hm).1
      have hdl := guarded_not_lock hd
      rw [FS.good, cleaned_other cfg fs hdl]
      simp only [guarded, List.mem_cons, List.mem_flatMap, List.not_mem_nil, or_false] at hd
      rcases hd with rfl | ⟨c, hc, rfl | rfl⟩
      · exact hsv.1
      · exact (hsv.2 c hc).1
      · exact (hsv.2 c hc).2
  · rw [cleaned_rgLock] at hl; exact absurd hl (by simp)
  · cases hm : cfg.fromSaves with
    | false => rw [(cleaned_bam_locks hm fs).2 c hc] at hl; exact absurd hl (by simp)
    | true =>
      have hcons := hs hm
      have hdl := guarded_not_lock hd
      rw [FS.good, cleaned_other cfg fs hdl]
      have hcol := cleaned_has_le cfg fs _ hl
      simp only [guarded, hc, if_true, List.mem_cons, List.not_mem_nil, or_false] at hd
      rcases hd with rfl | rfl | rfl
      · exact (hcons.1.2 c hc).2
      · exact (hcons.2 c hc hcol).1
      · exact (hcons.2 c hc hcol).2
  · rw [cleaned_processed fs hc] at hl; exact absurd hl (by simp)

/-- **history clause**: the run is started on *any* file system `fs0` — whatever an earlier run with other options or
    inputs left in the output folder, killed at any point — (with `--read_assignments`: on complete save files plus
    arbitrary leftovers), killed after any `k` events once its own parameters are saved (the lock-removal step comes
    first: `k ≥ |locks found| + 4`), and resumed: the resumed run completes and every final file equals that of the
    uninterrupted run on `fs0` -/
theorem resume_correct_from {cfg : Cfg} (wf : WF cfg) (ord ord' : List Path) (hord : ord.Nodup) (hord' : ord'.Nodup)
    (fs0 : FS) (hs : cfg.fromSaves = true → SavesConsistent cfg fs0) (hi : IndexSound cfg fs0) (k : Nat)
    (hk : (lockList cfg fs0).length + 4 ≤ k) : verdictFrom fixed cfg ord ord' fs0 k = .equal := by
  have h := resume_equal (R' := run fixed cfg ord') cfg.highMemory false (run_shape wf ord hord) (run_fresh wf ord)
    (by rw [resumeCfg_same]; exact run_shape wf ord' hord') fs0 (J0_cleaned fs0 hs hi)
    (fun e => savesOK_cleaned (hs e).1) k hk
  exact verdict_equal h.1 h.2

/-- the output folder already holds the remains of an earlier (killed or finished) run with other options: any leftovers -/
theorem resume_correct_dirty_folder {cfg : Cfg} (wf : WF cfg) (hm : cfg.fromSaves = false) (ord ord' : List Path)
    (hord : ord.Nodup) (hord' : ord'.Nodup) (fs0 : FS) (hi : IndexSound cfg fs0) (k : Nat)
    (hk : (lockList cfg fs0).length + 4 ≤ k) :
    verdictFrom fixed cfg ord ord' fs0 k = .equal :=
  resume_correct_from wf ord ord' hord hord' fs0 (fun e => by rw [hm] at e; exact absurd e (by simp)) hi k hk

/-- `--read_assignments`: run from kept save files (complete; any stale `_processed` locks, statistics files or other
    leftovers next to them), kill, resume -/
theorem resume_correct_read_assignments {cfg : Cfg} (wf : WF cfg) (hm : cfg.fromSaves = true) (ord ord' : List Path)
    (hord : ord.Nodup) (hord' : ord'.Nodup) (fs0 : FS) (hs : SavesConsistent cfg fs0) (hi : IndexSound cfg fs0) (k : Nat)
    (hk : (lockList cfg fs0).length + 4 ≤ k) : verdictFrom fixed cfg ord ord' fs0 k = .equal :=
  resume_correct_from wf ord ord' hord hord' fs0 (fun _ => hs) hi k hk

/-- **full-strength property** (fresh output folder, BAM input): kill the first run after any `k ≥ 4` events, resume:
    the resumed run completes and every final file equals that of the uninterrupted run -/
theorem resume_correct {cfg : Cfg} (wf : WF cfg) (hm : cfg.fromSaves = false) (ord ord' : List Path) (hord : ord.Nodup)
    (hord' : ord'.Nodup) (k : Nat) (hk : 4 ≤ k) : verdict fixed cfg ord ord' k = .equal := by
  have := resume_correct_dirty_folder wf hm ord ord' hord hord' FS.empty (indexSound_empty cfg) k (by rw [lockList_empty]; simpa using hk)
  exact this

/-- safety half: a resumed run never exits successfully with different, truncated or missing results -/
theorem resume_never_silently_wrong {cfg : Cfg} (wf : WF cfg) (hm : cfg.fromSaves = false) (ord ord' : List Path)
    (hord : ord.Nodup) (hord' : ord'.Nodup) (k : Nat) (hk : 4 ≤ k) : verdict fixed cfg ord ord' k ≠ .diff := by
  rw [resume_correct wf hm ord ord' hord hord' k hk]; decide

/-- liveness half: the resumed run completes -/
theorem resume_completes {cfg : Cfg} (wf : WF cfg) (hm : cfg.fromSaves = false) (ord ord' : List Path)
    (hord : ord.Nodup) (hord' : ord'.Nodup) (k : Nat) (hk : 4 ≤ k) : verdict fixed cfg ord ord' k ≠ .fail := by
  rw [resume_correct wf hm ord ord' hord hord' k hk]; decide

/-- the uninterrupted run itself completes with complete final files -/
theorem clean_run_completes {cfg : Cfg} (wf : WF cfg) (hm : cfg.fromSaves = false) (ord : List Path) (hord : ord.Nodup) :
    (run fixed cfg ord false FS.empty).ok = true ∧ FinOK cfg (run fixed cfg ord false FS.empty).fs := by
  obtain ⟨_, _, hok, _, hfin⟩ := run_shape wf ord hord false _ (J0_empty cfg) (by simp) (fun _ => lockList_empty cfg)
    (fun e => by rw [hm] at e; exact absurd e (by simp))
  exact ⟨hok, hfin⟩

/-- the file system after a chain of killed runs: the first run starts in an empty directory, every later one is a
    `--resume`; each is killed after `k` events (its own directory order `ord`) -/
def afterCrashes (cfg : Cfg) : List (List Path × Nat) → Bool → FS → FS
  | [], _, fs => fs
  | (ord, k) :: rest, rs, fs => afterCrashes cfg rest true (applyAll fs ((run fixed cfg ord rs fs).evs.take k))

theorem afterCrashes_eq (cfg : Cfg) (chain : List (List Path × Nat)) (rs : Bool) (fs : FS) :
    afterCrashes cfg chain rs fs = crashChain (chain.map fun x => (run fixed cfg x.1, x.2)) rs fs := by
  induction chain generalizing rs fs with
  | nil => rfl
  | cons x chain ih => exact ih _ _

theorem afterCrashes_J {cfg : Cfg} (wf : WF cfg) (hm : cfg.fromSaves = false) (chain : List (List Path × Nat))
    (hc : ∀ x ∈ chain, x.1.Nodup) (rs : Bool) (h0 : rs = false → ∀ x ∈ chain.head?, 4 ≤ x.2) {fs : FS} (h : J0 cfg fs)
    (hp : rs = true → fs.good .params = true) (hcl : rs = false → lockList cfg fs = []) (hne : chain ≠ []) :
    J cfg (afterCrashes cfg chain rs fs) := by
  rw [afterCrashes_eq]
  refine crashChain_J hm _ (fun x hx => ?_) rs (fun e x hx => ?_) h hp hcl (by simpa using hne)
  · obtain ⟨y, hy, rfl⟩ := List.mem_map.mp hx; exact run_shape wf y.1 (hc y hy)
  · cases chain with
    | nil => cases hx
    | cons y chain => cases hx; exact h0 e y rfl

/-- **any number of interruptions, full strength**: the first run is killed at any point after its parameters were saved
    (`4 ≤ k₁`: `.params.tmp` written, closed and renamed), every resumed run at **any** point — also inside its own
    `save_params`, whose rename leaves the parameters of the interrupted run in place until the new file is complete —;
    the final `--resume` completes with all final files complete and correct -/
theorem resume_correct_after_repeated_crashes {cfg : Cfg} (wf : WF cfg) (hm : cfg.fromSaves = false) (chain : List (List Path × Nat))
    (hc : ∀ x ∈ chain, x.1.Nodup) (h0 : ∀ x ∈ chain.head?, 4 ≤ x.2) (hne : chain ≠ []) (ord : List Path) (hord : ord.Nodup) :
    (run fixed cfg ord true (afterCrashes cfg chain false FS.empty)).ok = true ∧
      FinOK cfg (run fixed cfg ord true (afterCrashes cfg chain false FS.empty)).fs := by
  have hJ := afterCrashes_J wf hm chain hc false (fun _ => h0) (J0_empty cfg) (by simp) (fun _ => lockList_empty cfg) hne
  obtain ⟨_, _, hok, _, hfin⟩ := run_shape wf ord hord true _ hJ.2 (fun _ => hJ.1) (by simp)
    (fun e => by rw [hm] at e; exact absurd e (by simp))
  exact ⟨hok, hfin⟩

/-! ### the pinned behaviours (before the `fix:` commits) violate the property: witnesses

`cfg1` / `ord1` are the toy run (one chromosome, annotation, no read groups; the clean-up order is the directory order
observed on the pinned tree).  Each variant switches exactly one repair off. -/

/-- one chromosome, annotation, no read groups, unaligned reads present -/
def cfg1 : Cfg := { chrs := [0], mchrs := [0], bchrs := [0], genedb := true, rg := .none, keepTmp := false, unmapped := true,
                    fromSaves := false }

def ord1 : List Path := [.info, .multimap 0, .lock, .save 0, .processed 0, .bamstat 0, .readStat 0, .collected 0, .groups 0,
                         .trStat 0, .rgLock]

/-- `_collected` / `_processed` written before the guarded files are flushed (as pinned) -/
def lockBeforeFlushBuggy : Variant := { fixed with flushBeforeLock := false }
/-- `_processed` locks kept while the per-chromosome files are merged and deleted (as pinned) -/
def mergeKeepsLocksBuggy : Variant := { fixed with dropProcessed := false }
/-- clean-up in directory order, locks not first (as pinned) -/
def cleanupAnyOrderBuggy : Variant := { fixed with locksFirst := false }
/-- unaligned reads not recounted when collection is skipped (as pinned) -/
def unalignedForgottenBuggy : Variant := { fixed with countUnaligned := false }

/-- safety fails: killed right after the `_processed` lock appeared (event 51 = `create processed 0`, the printers'
    buffers not yet flushed), the resumed run exits successfully with truncated results -/
theorem resume_never_silently_wrong_lock_before_flush_witness :
    (cleanEvents lockBeforeFlushBuggy cfg1 ord1)[50]? = some (.create (.processed 0)) ∧
    verdict lockBeforeFlushBuggy cfg1 ord1 ord1 51 = .diff := by decide +kernel

/-- liveness fails: killed right after the `_collected` lock appeared (the dump not yet terminated), the resumed run raises -/
theorem resume_completes_lock_before_flush_witness :
    (cleanEvents lockBeforeFlushBuggy cfg1 ord1)[11]? = some (.create (.collected 0)) ∧
    verdict lockBeforeFlushBuggy cfg1 ord1 ord1 12 = .fail := by decide +kernel

/-- liveness fails (class merge-in-progress): killed after the first removal of a per-chromosome file while the
    `_processed` lock still exists, the resumed run raises (FileNotFoundError in merge_files) -/
theorem resume_completes_merge_in_progress_witness :
    (cleanEvents mergeKeepsLocksBuggy cfg1 ord1)[56]? = some (.remove (.part .gtf 0)) ∧
    verdict mergeKeepsLocksBuggy cfg1 ord1 ord1 57 = .fail := by decide +kernel

/-- liveness fails (class cleanup-before-lock-removal): killed after the clean-up removed the info file while the stage
    lock still exists, the resumed run raises -/
theorem resume_completes_cleanup_before_lock_removal_witness :
    (cleanEvents cleanupAnyOrderBuggy cfg1 ord1)[85]? = some (.remove .info) ∧
    verdict cleanupAnyOrderBuggy cfg1 ord1 ord1 86 = .fail := by decide +kernel

/-- safety fails: killed once read collection has finished (event 18 = stage lock written), the resumed run skips the
    collection, reports `__not_aligned 0` and exits successfully -/
theorem resume_never_silently_wrong_unaligned_witness :
    (cleanEvents unalignedForgottenBuggy cfg1 ord1)[17]? = some (.create .lock) ∧
    verdict unalignedForgottenBuggy cfg1 ord1 ord1 18 = .diff := by decide +kernel

/-- the pinned tree (every repair off): silently wrong at 16, failing at 10 and 55 -/
theorem pinned_witness :
    verdict pinned cfg1 ord1 ord1 16 = .diff ∧ verdict pinned cfg1 ord1 ord1 10 = .fail ∧
    verdict pinned cfg1 ord1 ord1 55 = .fail := by decide +kernel

def fsOf (l : List (Path × Tok)) : FS := l.foldl (fun fs x => fs.set x.1 (some x.2)) FS.empty

theorem fsOf_den (l : List (Path × Tok)) : fsOf l = den (storeOf l) := den_storeOf l

/-- turns `run`, `runPool`, `crashFS(From)`, `cleanEvents(From)`, `verdict`, `verdictFrom`, `verdictFromOpts` of a goal about a
    concrete configuration into their evaluation on stores (Lemmas/ResumeStore.lean) before `decide +kernel` evaluates them; pays
    from two chromosomes on.  NOT covered: `crashFSPool`, `crashFSTwice` and the verdicts built on them (`verdictPool*`,
    `verdictTwice`) have no `_den` bridge; goals about them are evaluated on the closure chain -/
macro "on_store" : tactic =>
  `(tactic| simp only [verdict, verdictFrom, verdictFromOpts, cleanEvents, crashFS, ← den_zero, fsOf_den, ← den_put, crashFSFrom_den,
      cleanEventsFrom_den, run_den, runPool_den, SRes.res, ← den_applyAll])

/-- what an earlier run with other options left when it was killed during read collection (after chromosome 0 got its
    `_collected` lock): complete files with other content -/
def leftover1 : FS := fsOf [(.params, .stale), (.rgLock, .stale), (.save 0, .stale), (.groups 0, .stale),
                            (.bamstat 0, .stale), (.collected 0, .stale)]

/-- the tree before `fix:` 428ba30: stale locks are dropped only inside collect_reads, after `.params` was saved -/
def staleLocksKeptBuggy : Variant := { fixed with cleanBeforeParams := false }

/-- a fresh run over `leftover1` killed right after it saved its parameters: the resumed run trusts the earlier run's
    `_collected` lock and exits successfully with results computed from the earlier run's data -/
theorem resume_never_silently_wrong_dirty_folder_witness :
    (cleanEventsFrom staleLocksKeptBuggy cfg1 ord1 leftover1)[3]? = some (.commit .params .good) ∧
    verdictFrom staleLocksKeptBuggy cfg1 ord1 ord1 leftover1 4 = .diff := by decide +kernel

/-- `--read_assignments` on the toy configuration -/
def cfgS : Cfg := { cfg1 with fromSaves := true, unmapped := false }

/-- complete save files of a run that finished read collection -/
def saves1 : FS := fsOf [(.info, .good), (.multimap 0, .good), (.save 0, .good), (.lock, .good), (.collected 0, .good),
                         (.groups 0, .good), (.bamstat 0, .good)]

/-- the same with the `_processed` lock and statistics files of an earlier killed run next to them -/
def saves1Stale : FS := fsOf [(.info, .good), (.multimap 0, .good), (.save 0, .good), (.lock, .good), (.collected 0, .good),
                              (.groups 0, .good), (.bamstat 0, .good), (.processed 0, .stale), (.readStat 0, .stale),
                              (.trStat 0, .stale)]

/-- the `_processed` locks looked for under the sample's own prefix instead of next to the save files (seeded change C07_b) -/
def dropWrongPrefixBuggy : Variant := { fixed with dropAtDumpPrefix := false }

/-- `--read_assignments`, killed after the first per-chromosome file was merged away: the `_processed` lock is still
    there, the resumed run raises — it can never complete -/
theorem resume_completes_read_assignments_witness :
    (cleanEventsFrom dropWrongPrefixBuggy cfgS ord1 saves1)[43]? = some (.remove (.part .gtf 0)) ∧
    verdictFrom dropWrongPrefixBuggy cfgS ord1 ord1 saves1 44 = .fail := by decide +kernel

/-- `--read_assignments` on save files carrying a stale `_processed` lock, before 428ba30: killed during model
    construction, the resumed run skips the chromosome and exits successfully with truncated results (k = 33), or
    raises (k = 4) -/
theorem resume_never_silently_wrong_stale_processed_witness :
    verdictFrom staleLocksKeptBuggy cfgS ord1 ord1 saves1Stale 33 = .diff ∧
    verdictFrom staleLocksKeptBuggy cfgS ord1 ord1 saves1Stale 4 = .fail := by decide +kernel

/-- the toy configuration with `--sqanti_output` -/
def cfgQ : Cfg := { cfg1 with sqanti := true }

/-- the rows of the per-chromosome SQANTI-like table reach the disk only when their printer dies, after the `_processed`
    lock (seeded change C07_a2: the aggregator's own header-only printer is flushed instead of the task's) -/
def sqantiNotFlushedBuggy : Variant := { fixed with flushSqanti := false }

/-- killed right after the `_processed` lock appeared (event 59 = `create processed 0`): the resumed run skips the
    chromosome and exits successfully with a truncated SQANTI-like table -/
theorem resume_never_silently_wrong_sqanti_witness :
    (cleanEvents sqantiNotFlushedBuggy cfgQ ord1)[58]? = some (.create (.processed 0)) ∧
    verdict sqantiNotFlushedBuggy cfgQ ord1 ord1 59 = .diff := by decide +kernel

/-- the toy configuration as a second experiment of an invocation whose first experiment has unaligned reads -/
def cfgB : Cfg := { cfg1 with carried := true }

/-- the alignment counter reset only where reads are collected (seeded changes C07_a3, C07_b2: the reset moved from process_sample into
    collect_reads, after the early return of a resumed run that finds the stage lock) -/
def counterNotResetBuggy : Variant := { fixed with resetCounter := false }

/-- killed once the read collection of the later experiment has finished (event 18 = stage lock written): the resumed run
    skips the collection, adds this experiment's unaligned reads to those of the earlier experiments and exits
    successfully with a wrong `__not_aligned` line -/
theorem resume_never_silently_wrong_carried_counter_witness :
    (cleanEvents counterNotResetBuggy cfgB ord1)[17]? = some (.create .lock) ∧
    verdict counterNotResetBuggy cfgB ord1 ord1 18 = .diff := by decide +kernel

-- `resume_correct` covers both dimensions: the same kill points on the repaired code
example : verdict fixed cfgQ ord1 ord1 59 = .equal ∧ verdict fixed cfgB ord1 ord1 18 = .equal :=
  ⟨resume_correct (cfg := cfgQ) (.of_check rfl) rfl ord1 ord1
      (by decide) (by decide) 59 (by omega),
   resume_correct (cfg := cfgB) (.of_check rfl) rfl ord1 ord1
      (by decide) (by decide) 18 (by omega)⟩

/-- three chromosomes whose processing, merge and BAM orders differ; annotation, `file:` read groups, unaligned reads -/
def cfg3 : Cfg := { chrs := [0, 1, 2], mchrs := [2, 0, 1], bchrs := [1, 2, 0], genedb := true, rg := .file, keepTmp := false,
                    unmapped := true, fromSaves := false }

def ord3 : List Path := [.bamstat 1, .save 2, .groups 0, .processed 2, .trStat 0, .collected 0, .info, .lock, .multimap 1,
                         .rgSplit 2, .rgLock, .rgSplit 0]

theorem cfg3_wf : WF cfg3 := .of_check rfl

-- the hypotheses of `resume_correct` are met by a concrete non-trivial input: 304 events, kill point 200
example : WF cfg3 ∧ ord3.Nodup ∧ (cleanEvents fixed cfg3 ord3).length = 304 ∧ 4 ≤ 200 ∧
    verdict fixed cfg3 ord3 ord3 200 = .equal :=
  ⟨cfg3_wf, by decide, by on_store; decide +kernel, by omega,
   resume_correct cfg3_wf rfl ord3 ord3 (by decide) (by decide) 200 (by omega)⟩

-- and before `.params` is saved the resumed run does fail (the hypothesis `4 ≤ k` is needed)
example : verdict fixed cfg3 ord3 ord3 3 = .fail := by decide +kernel

-- the history clauses are met by concrete inputs: a dirty folder with two locks to remove (kill point 6 = right after
-- `.params`), and save files with a stale `_processed` lock (one lock to remove, kill point 5)
example : (lockList cfg1 leftover1).length + 4 ≤ 6 ∧ verdictFrom fixed cfg1 ord1 ord1 leftover1 6 = .equal :=
  ⟨by decide, resume_correct_dirty_folder (cfg := cfg1) (.of_check rfl) rfl
      ord1 ord1 (by decide) (by decide) leftover1 (indexSound_of_not_trusted rfl _) 6 (by decide)⟩

theorem saves1Stale_consistent : SavesConsistent cfgS saves1Stale := by
  refine ⟨⟨by decide, ?_⟩, ?_⟩
  · intro c hc; simp only [cfgS, cfg1, List.mem_cons, List.not_mem_nil, or_false] at hc; subst hc; exact ⟨by decide, by decide⟩
  · intro c hc _; simp only [cfgS, cfg1, List.mem_cons, List.not_mem_nil, or_false] at hc; subst hc; exact ⟨by decide, by decide⟩

example : (lockList cfgS saves1Stale).length + 4 ≤ 5 ∧ verdictFrom fixed cfgS ord1 ord1 saves1Stale 5 = .equal :=
  ⟨by decide, resume_correct_read_assignments (cfg := cfgS) (.of_check rfl) rfl
      ord1 ord1 (by decide) (by decide) saves1Stale saves1Stale_consistent (indexSound_of_not_trusted rfl _) 5 (by decide)⟩

end IsoVerif.Props.C07
