/-
C07 — a reference that is gzip- but not bgzip-compressed (`Cfg.gzRef`): `DatasetProcessor.__init__` unpacks it into the
output folder (`Path.refFa`, stage `refStage` of Model/Resume.lean: the first file-system mutation after `.params`).

The code before the repair unpacked `if not os.path.exists(copy) or not args.resume`: a resumed run worked with whatever
carried the name of the copy — the empty file left by a kill right after the `open` (`FastaIndexingError`, every later
`--resume` as well), the first pieces of a copy in progress (exit 0, the chromosomes missing from the copy silently
dropped from every output), the copy of *another* reference left in the folder by an earlier run (a `--force` run killed
between `.params` and the unpacking).  The repaired code (`Variant.refRewrite`, `fixed`) unpacks in every run.

`resume_correct`, `resume_correct_from`, `resume_correct_from_opts`, `crash_state_invariant`, `run_shape`,
`resume_correct_pool(_from)(_opts)` (Props/C07*.lean) quantify over `Cfg` and therefore over `gzRef`: their event
lists contain the reference stage.  This file has the statements that speak about the reference itself,
the non-vacuity examples on a configuration with `gzRef`, and the witness for the old behaviour.

It also holds, each under its own heading: the FASTA index inside the output folder (`resume_correct_index_in_folder`); the
options `--resume` restores from `.params` (`resume_alone_same_options`, `resume_options_only_switch_on`); BAM headers with
contigs the reference does not have (`WF.b_sub`); TWO INTERRUPTIONS at full strength (`ResumeTwiceCorrect`,
`resume_twice_correct`: a resumed run that is killed and resumed again); the dead lock cleaning of seeded change C07_a
(`in_stage_lock_cleaning_is_dead`).
-/
import IsoVerif.Props.C07Opts

namespace IsoVerif.Props.C07Ref
open IsoVerif.Model.Resume IsoVerif.Lemmas.Resume IsoVerif.Props.C07

/-- **the unpacked reference is never trusted, an index is read only when it is complete**: whatever the run finds under
    the name of the unpacked copy (`t`: nothing, a partial copy `bad`, a complete copy of this or of another reference
    `good` / `stale`), first or resumed run, from any state satisfying the invariant: the reference stage completes,
    performs `refEvents` (Lemmas/ResumeRun.lean: `copyEvents ++ indexEvents`; instances in the examples below), keeps the invariant at every prefix, leaves the reference the run
    reads in order (`refOK`: complete correct copy, complete correct index) and touches nothing but its own files -/
theorem reference_prepared_by_every_run {cfg : Cfg} (rs : Bool) {fs : FS} (h : J cfg fs) (t : Option Tok) :
    let r := runActs (refStage fixed cfg rs (fs.set .refFa t)) (fs.set .refFa t)
    r.ok = true ∧ r.evs = refEvents cfg (fs.set .refFa t) ∧ AllP (J cfg) (fs.set .refFa t) r.evs ∧
      refOK cfg r.fs = true ∧ ∀ p, isRefAux p = false → r.fs p = fs p := by
  have hJ : J cfg (fs.set .refFa t) := by
    apply J_set h (by simp)
    · intro _ l hm; exact absurd hm (not_mem_guarded rfl)
    · intro _ d hd; simp [guarded] at hd
  obtain ⟨g, hev, hf, hgood⟩ := ref_stage (cfg := cfg) rs hJ
  refine ⟨g.1, hev, ?_, hgood, fun p hp => ?_⟩
  · rw [hev]; have := g.2; rwa [hev] at this
  · rw [hf p hp, set_other _ _ (by intro e; subst e; simp [isRefAux] at hp)]

/-- without a compressed reference and without an index inside the folder the stage does nothing -/
theorem no_reference_stage_without_gzip {cfg : Cfg} (hg : cfg.gzRef = false) (hi : cfg.idx = false) (v : Variant) (rs : Bool)
    (fs : FS) : refStage v cfg rs fs = [] := by simp [refStage, refCopyActs, refIndexActs, hg, hi]

example : cfg1.gzRef = false ∧ cfg1.idx = false ∧ refStage pinned cfg1 true (fsOf [(.refFa, .bad)]) = [] :=
  ⟨rfl, rfl, no_reference_stage_without_gzip rfl rfl _ _ _⟩

/-- **the property with a plain-gzip reference, any leftovers in the output folder** (instance of `resume_correct_from_opts`;
    `t` = what the folder holds under the name of the unpacked copy before the run under test starts — in particular the
    `stale` copy of another reference of the same name —, `hm kt` = the options of the resume command line): killed at any
    point after `.params` was saved — before the unpacking, right after the `open` (empty copy), inside the copy, after
    it —, the resumed run completes and every final file equals that of the uninterrupted run -/
theorem resume_correct_gzip_reference {cfg : Cfg} (wf : WF cfg) (hg : cfg.gzRef = true) (hs : cfg.fromSaves = false)
    (ord ord' : List Path) (hord : ord.Nodup) (hord' : ord'.Nodup) (hm kt : Bool) (fs0 : FS) (t : Option Tok) (k : Nat)
    (hk : (lockList cfg (fs0.set .refFa t)).length + 4 ≤ k) :
    IsoVerif.Model.Resume.verdictFromOpts fixed cfg ord ord' hm kt (fs0.set .refFa t) k = .equal :=
  C07Opts.resume_correct_from_opts wf ord ord' hord hord' hm kt _ (fun e => by rw [hs] at e; exact absurd e (by simp))
    (indexSound_of_not_trusted (by simp [idxTrusted, hg]) _) k hk

/-- two chromosomes (merge order ≠ processing order), annotation, `file:` read groups, unaligned reads, a plain-gzip reference -/
def cfgR : Cfg := { chrs := [0, 1], mchrs := [1, 0], bchrs := [1, 0], genedb := true, rg := .file, keepTmp := false,
                    unmapped := true, fromSaves := false, gzRef := true }

def ordR : List Path := [.bamstat 1, .save 0, .groups 0, .processed 1, .trStat 0, .collected 0, .info, .lock, .multimap 1,
                         .rgSplit 1, .rgLock, .rgSplit 0]

theorem cfgR_wf : WF cfgR := .of_check rfl

/-- what an earlier, finished run on another reference of the same name left in the folder -/
def leftoverR : FS := fsOf [(.params, .stale), (.refFa, .stale), (.final .bed, .stale), (.final .gene, .stale)]

-- the unpacking is the first mutation after `.params` (events 4, 5, 6); killed at 5 the folder holds an empty copy, at 6
-- a partial one; the hypotheses of `resume_correct` / `resume_correct_gzip_reference` are met at these kill points
example : WF cfgR ∧ ordR.Nodup ∧ cfgR.gzRef = true ∧
    (cleanEvents fixed cfgR ordR).take 7 =
      [.create .paramsTmp, .commit .paramsTmp .good, .remove .paramsTmp, .commit .params .good, .create .refFa, .commit .refFa .stale,
       .commit .refFa .good] ∧
    (crashFS fixed cfgR ordR 4) .refFa = none ∧ (crashFS fixed cfgR ordR 5) .refFa = some .bad ∧
    (crashFS fixed cfgR ordR 6) .refFa = some .stale ∧
    lockList cfgR (leftoverR.set .refFa (some .stale)) = [] ∧
    (crashFSFrom fixed cfgR ordR (leftoverR.set .refFa (some .stale)) 4) .refFa = some .stale := by
  exact ⟨cfgR_wf, by decide, rfl, by rw [leftoverR]; on_store; decide +kernel⟩

-- the resumed run after a kill inside the unpacking writes the copy again (its events 4, 5, 6)
example : ((run fixed cfgR ordR true (crashFS fixed cfgR ordR 6)).evs.take 7 =
    [.create .paramsTmp, .commit .paramsTmp .good, .remove .paramsTmp, .commit .params .good, .create .refFa, .commit .refFa .stale,
     .commit .refFa .good]) := by
  on_store; decide +kernel

example : verdict fixed cfgR ordR ordR 6 = .equal :=
  resume_correct cfgR_wf rfl ordR ordR (by decide) (by decide) 6 (by decide)

example : verdict fixed cfgR ordR ordR 5 = .equal :=
  resume_correct cfgR_wf rfl ordR ordR (by decide) (by decide) 5 (by decide)

example : IsoVerif.Model.Resume.verdictFromOpts fixed cfgR ordR ordR false true (leftoverR.set .refFa (some .stale)) 4 = .equal :=
  resume_correct_gzip_reference cfgR_wf rfl rfl ordR ordR (by decide) (by decide) false true leftoverR (some .stale) 4
    (by decide +kernel)

example : ∃ fs : FS, J cfgR fs ∧ fs.good .params = true :=
  ⟨afterParams FS.empty, J_afterParams (J0_empty cfgR), (J_afterParams (J0_empty cfgR)).1⟩

/-- `if not os.path.exists(unpacked copy) or not args.resume:` — a resumed run trusts the file it finds (the tree before the repair) -/
def refTrustedBuggy : Variant := { fixed with refRewrite := false }

/-- liveness fails, for ever: killed right after the unpacked copy was opened for writing (event 4 = `create refFa`; the
    file is empty), the resumed run trusts the file and raises (`pyfaidx.FastaIndexingError`); it leaves the file as it
    is, so every further `--resume` raises as well.  Killed before the `open` or after the copy was closed the same code
    resumes correctly: the failing window is the write session of the copy. -/
theorem resume_completes_gzip_reference_witness :
    (cleanEvents refTrustedBuggy cfgR ordR)[4]? = some (.create .refFa) ∧
    verdict refTrustedBuggy cfgR ordR ordR 5 = .fail ∧
    (run refTrustedBuggy cfgR ordR true (run refTrustedBuggy cfgR ordR true (crashFS refTrustedBuggy cfgR ordR 5)).fs).ok = false ∧
    verdict refTrustedBuggy cfgR ordR ordR 4 = .equal ∧ verdict refTrustedBuggy cfgR ordR ordR 7 = .equal := by
  on_store; decide +kernel

/-- safety fails: killed inside the copy (event 5: the first pieces are in the file — a readable FASTA that lacks the
    later chromosomes), the resumed run trusts the file, computes everything from it and exits successfully with
    different results -/
theorem resume_never_silently_wrong_gzip_reference_witness :
    (cleanEvents refTrustedBuggy cfgR ordR)[5]? = some (.commit .refFa .stale) ∧
    (crashFS refTrustedBuggy cfgR ordR 6) .refFa = some .stale ∧
    verdict refTrustedBuggy cfgR ordR ordR 6 = .diff := by
  on_store; decide +kernel

/-- safety fails in a used folder (history clause): the folder holds the unpacked copy of **another** reference of the same
    name (left by an earlier run); the run under test (`--force`) is killed right after its parameters were saved, before
    it unpacked its own reference — the resumed run works with the old genome and exits successfully with different
    results.  (Writing the copy under a temporary name and renaming it would not help here: the trusted file is complete.) -/
theorem resume_never_silently_wrong_stale_reference_witness :
    lockList cfgR leftoverR = [] ∧ (crashFSFrom refTrustedBuggy cfgR ordR leftoverR 4) .refFa = some .stale ∧
    verdictFrom refTrustedBuggy cfgR ordR ordR leftoverR 4 = .diff ∧
    verdictFrom fixed cfgR ordR ordR leftoverR 4 = .equal := by
  rw [resume_correct_dirty_folder cfgR_wf rfl ordR ordR (by decide) (by decide) leftoverR (indexSound_of_not_trusted rfl _) 4
    (by decide +kernel)]
  rw [leftoverR]; on_store; decide +kernel

/-! ### the FASTA index inside the output folder (eab0ef3: built under a temporary name and renamed; the index of the
unpacked copy lies next to the copy) -/

/-- `cfgR` on the current tree: the index of the unpacked copy is private to the run (`<output>/<name>.fai`) -/
def cfgRI : Cfg := { cfgR with idx := true }
/-- a reference without index that lies inside the output folder (the harness's `FaiSession`) -/
def cfgF : Cfg := { cfgR with gzRef := false, idx := true }

theorem cfgRI_wf : WF cfgRI := .of_check rfl
theorem cfgF_wf : WF cfgF := .of_check rfl

/-- **the property with the index inside the folder** (instance of `resume_correct_from_opts`): ∀ leftovers in which an index
    that will be read as it is is complete (`IndexSound`; vacuous for the index of an unpacked copy: that one is always
    rebuilt), killed anywhere — before the temporary index is opened, while it is written, between its close and the
    rename, after the rename — the resumed run completes with equal final files -/
theorem resume_correct_index_in_folder {cfg : Cfg} (wf : WF cfg) (_hx : cfg.idx = true) (hs : cfg.fromSaves = false)
    (ord ord' : List Path) (hord : ord.Nodup) (hord' : ord'.Nodup) (hm kt : Bool) (fs0 : FS) (hi : IndexSound cfg fs0) (k : Nat)
    (hk : (lockList cfg fs0).length + 4 ≤ k) :
    IsoVerif.Model.Resume.verdictFromOpts fixed cfg ord ord' hm kt fs0 k = .equal :=
  C07Opts.resume_correct_from_opts wf ord ord' hord hord' hm kt _ (fun e => by rw [hs] at e; exact absurd e (by simp)) hi k hk

-- non-vacuity: the events of both configurations; the crash states around the index; the theorem at those kill points
example : (cleanEvents fixed cfgF ordR).take 9 =
      [.create .paramsTmp, .commit .paramsTmp .good, .remove .paramsTmp, .commit .params .good, .create .refFaiTmp, .commit .refFaiTmp .good, .remove .refFaiTmp,
       .commit .refFaiData .good, .commit .refFai .good] ∧
    (cleanEvents fixed cfgRI ordR).take 12 =
      [.create .paramsTmp, .commit .paramsTmp .good, .remove .paramsTmp, .commit .params .good, .create .refFa, .commit .refFa .stale, .commit .refFa .good,
       .create .refFaiTmp, .commit .refFaiTmp .good, .remove .refFaiTmp, .commit .refFaiData .good, .commit .refFai .good] ∧
    (crashFS fixed cfgF ordR 5) .refFaiTmp = some .bad ∧ (crashFS fixed cfgF ordR 5) .refFai = none ∧
    (crashFS fixed cfgF ordR 6) .refFaiTmp = some .good ∧ (crashFS fixed cfgF ordR 9) .refFai = some .good ∧
    -- killed with the complete index in place, the resumed run reads it and builds nothing
    (run fixed cfgF ordR true (crashFS fixed cfgF ordR 9)).evs.take 4 = paramsEvs fixed ∧
    -- the index of the copy is rebuilt by the resumed run although it exists
    (run fixed cfgRI ordR true (crashFS fixed cfgRI ordR 14)).evs.take 8 =
      [.create .paramsTmp, .commit .paramsTmp .good, .remove .paramsTmp, .commit .params .good, .create .refFa, .commit .refFa .stale,
       .commit .refFa .good, .create .refFaiTmp] := by
  on_store; decide +kernel

example : ((run fixed cfgF ordR true (crashFS fixed cfgF ordR 9)).evs.map Ev.path).filter (fun p => p == .refFaiTmp) = [] := by
  on_store; decide +kernel

example : IsoVerif.Model.Resume.verdictFromOpts fixed cfgF ordR ordR false false FS.empty 5 = .equal ∧
    IsoVerif.Model.Resume.verdictFromOpts fixed cfgRI ordR ordR false false leftoverR 8 = .equal :=
  ⟨resume_correct_index_in_folder cfgF_wf rfl rfl ordR ordR (by decide) (by decide) false false _ (indexSound_empty _) 5
      (by decide +kernel),
   resume_correct_index_in_folder cfgRI_wf rfl rfl ordR ordR (by decide) (by decide) false false _
      (indexSound_of_not_trusted rfl _) 8 (by decide +kernel)⟩

/-- pyfaidx writing the index in place (the tree before eab0ef3) -/
def faiInPlaceBuggy : Variant := { fixed with faiAtomic := false }

/-- safety fails: killed right after the index was opened for writing (event 4 = `create refFai`: the file exists, is empty
    and is newer than the FASTA), the resumed run reads it as it is — a reference without sequences — and exits
    successfully with different results; so does every later run.  Killed before the `open` or after the close the same
    code resumes correctly. -/
theorem resume_never_silently_wrong_fai_index_witness :
    (cleanEvents faiInPlaceBuggy cfgF ordR)[4]? = some (.create .refFai) ∧
    (crashFS faiInPlaceBuggy cfgF ordR 5) .refFai = some .bad ∧ (crashFS faiInPlaceBuggy cfgF ordR 5) .refFaiData = none ∧
    verdict faiInPlaceBuggy cfgF ordR ordR 5 = .diff ∧
    verdict faiInPlaceBuggy cfgF ordR ordR 4 = .equal ∧ verdict faiInPlaceBuggy cfgF ordR ordR 6 = .equal ∧
    verdict fixed cfgF ordR ordR 5 = .equal := by
  rw [resume_correct cfgF_wf rfl ordR ordR (by decide) (by decide) 5 (by decide)]
  on_store; decide +kernel

/-- `IndexSound` is needed: an incomplete index found in the folder (left by the old code, or supplied by the user) is read
    as it is by the repaired code as well — already by the uninterrupted run, whose results are then wrong -/
theorem index_sound_needed_witness :
    ¬ IndexSound cfgF (fsOf [(.refFai, .bad)]) ∧
    (run fixed cfgF ordR false (fsOf [(.refFai, .bad)])).ok = true ∧
    (run fixed cfgF ordR false (fsOf [(.refFai, .bad)])).fs (.final .bed) = some .stale := by
  refine ⟨fun h => ?_, by on_store; decide +kernel⟩
  have := h rfl (by decide)
  revert this; decide

/-! ### the options of the resume command line: `--high_memory` is restored from `.params`

`resume_correct_from_opts` (Props/C07Opts.lean) holds for every `hm kt`; what the repair of the resume parser changes is the
configuration the resumed run works with (`resumeCfg`; before: `resumeCfgOrig`). -/

/-- `--resume` alone continues with exactly the options of the killed run -/
theorem resume_alone_same_options (cfg : Cfg) : resumeCfg cfg false false = cfg := by
  cases cfg; simp [resumeCfg]

/-- a resumed run is a `--high_memory` (`--keep_tmp`) run iff the killed run was one or the flag is given on the resume
    command line: the two options can be switched on, never off, and no other option changes -/
theorem resume_options_only_switch_on (cfg : Cfg) (hm kt : Bool) :
    ((resumeCfg cfg hm kt).highMemory = true ↔ cfg.highMemory = true ∨ hm = true) ∧
    ((resumeCfg cfg hm kt).keepTmp = true ↔ cfg.keepTmp = true ∨ kt = true) ∧
    { resumeCfg cfg hm kt with highMemory := cfg.highMemory, keepTmp := cfg.keepTmp } = cfg := by
  cases cfg; simp [resumeCfg]

/-- the memory mode of the resumed run shows in what it reads: a run that is not a `--high_memory` run reads every save
    file back after the collection (`prepare_multimapper_dict`) -/
theorem resumed_run_reads_saves_back_iff (cfg : Cfg) (hm kt : Bool) (fs : FS) :
    (collectPost (resumeCfg cfg hm kt) false fs).length =
      (if cfg.highMemory || hm then 0 else cfg.chrs.length) + (2 * cfg.chrs.length + 3) := by
  cases h : (cfg.highMemory || hm) <;>
    simp [collectPost, resumeCfg, evs, h] <;> omega

-- non-vacuity: `cfgE` (Props/C07Opts.lean) is a `--high_memory` configuration with two chromosomes
example : C07Opts.cfgE.highMemory = true ∧ resumeCfg C07Opts.cfgE false false = C07Opts.cfgE ∧
    (collectPost (resumeCfg C07Opts.cfgE false false) false FS.empty).length = 7 :=
  ⟨rfl, resume_alone_same_options _, by decide⟩

/-- the resume parser before the repair (`--high_memory` with `default=False`): `--resume` alone is **not** the run with the
    options of the killed run — a `--high_memory` run is continued in the low-memory mode and reads the save files back
    (two more read passes for `cfgE`) -/
theorem resume_alone_same_options_witness :
    resumeCfgOrig C07Opts.cfgE false false ≠ C07Opts.cfgE ∧
    (resumeCfgOrig C07Opts.cfgE false false).highMemory = false ∧
    (collectPost (resumeCfgOrig C07Opts.cfgE false false) false FS.empty).length =
      (collectPost C07Opts.cfgE false FS.empty).length + 2 := by
  refine ⟨fun h => ?_, rfl, by decide⟩
  have := congrArg Cfg.highMemory h
  simp [resumeCfgOrig, C07Opts.cfgE] at this

/-! ### the BAM header may list contigs the reference does not have (`WF.b_sub`)

`split_read_group_table` writes one table per contig of the BAM header (`bchrs`), `create_read_grouper` opens one per contig
of the reference (`chrs`): what the run needs is `chrs ⊆ bchrs`.  (The other inclusion failing — a reference contig the
header lacks — makes the *uninterrupted* run abort: `KeyError` / `FileNotFoundError read_group_<chr>`; outside the property.) -/

/-- contig 2 is in the BAM header only: its table is written and removed, nothing else of it exists -/
def cfgH : Cfg := { chrs := [0, 1], mchrs := [1, 0], bchrs := [1, 2, 0], genedb := true, rg := .file, keepTmp := false,
                    unmapped := true, fromSaves := false }

theorem cfgH_wf : WF cfgH := .of_check rfl

example : WF cfgH ∧ ¬ (∀ c, c ∈ cfgH.bchrs → c ∈ cfgH.chrs) ∧
    Ev.create (.rgSplit 2) ∈ cleanEvents fixed cfgH (.rgSplit 2 :: ordR) ∧
    Ev.remove (.rgSplit 2) ∈ cleanEvents fixed cfgH (.rgSplit 2 :: ordR) ∧
    verdict fixed cfgH (.rgSplit 2 :: ordR) ordR 7 = .equal :=
  ⟨cfgH_wf, by decide, by on_store; decide +kernel, by on_store; decide +kernel,
   resume_correct cfgH_wf rfl _ _ (by decide) (by decide) 7 (by decide)⟩

/-! ### two interruptions: "a resumed run that is killed is again a run killed after its parameters were saved"

Since /repo ffd90d3 `save_params` pickles into `.params.tmp` and renames it over `.params`: the parameters of the interrupted run
stay in place until the new file is complete, so a resumed run may be killed **anywhere**: there is no bound on `k₂`.  (`4 ≤ k₁`: the first run has saved its parameters once `.params.tmp` was written, closed and renamed.) -/

def ResumeTwiceCorrect (v : Variant) (cfg : Cfg) (ord ord2 ord3 : List Path) : Prop :=
  ∀ k1 k2, 4 ≤ k1 → verdictTwice v cfg ord ord2 ord3 FS.empty k1 k2 = .equal

/-- **two interruptions, full strength**: ∀ well-formed configuration, ∀ directory orders of the three runs, the first run
    killed at any point after its parameters were saved, the resumed run killed at **any** point `k₂` (also before,
    inside and right after its own `save_params`), the second `--resume` completes and every final file equals that of
    the uninterrupted run -/
theorem resume_twice_correct {cfg : Cfg} (wf : WF cfg) (hm : cfg.fromSaves = false) (ord ord2 ord3 : List Path)
    (hord : ord.Nodup) (hord2 : ord2.Nodup) (hord3 : ord3.Nodup) : ResumeTwiceCorrect fixed cfg ord ord2 ord3 := by
  intro k1 k2 h1
  have h3 := resume_correct_after_repeated_crashes wf hm [(ord, k1), (ord2, k2)]
    (by intro x hx; simp only [List.mem_cons, List.not_mem_nil, or_false] at hx; rcases hx with rfl | rfl
        · exact hord
        · exact hord2)
    (by intro x hx; simp only [List.head?_cons, Option.mem_def, Option.some.injEq] at hx; subst hx; exact h1)
    (by simp) ord3 hord3
  have hst : afterCrashes cfg [(ord, k1), (ord2, k2)] false FS.empty = crashFSTwice fixed cfg ord ord2 FS.empty k1 k2 := by
    simp [afterCrashes, crashFSTwice, crashFSFrom, cleanEventsFrom]
  rw [hst] at h3
  obtain ⟨hok, hfin⟩ := h3
  obtain ⟨_, hfin1⟩ := clean_run_completes wf hm ord hord
  exact verdict_equal hok (sameFinals_of_finOK hfin hfin1)

/-- `save_params` rewriting `.params` in place (the tree before ffd90d3) -/
def paramsInPlaceBuggy : Variant := { fixed with paramsAtomic := false }

/-- the old behaviour violates the statement: the resumed run killed right after it opened `.params` for writing (its event
    0; the file is empty): every later `--resume` fails (`EOFError` in `load_previous_run`); killed before that open, or
    after the close (two events), the third run completes with equal results.  The repaired code at the corresponding
    points — inside the write of `.params.tmp`, between its close and the rename, inside the (model's) rename — `EQUAL`. -/
theorem resume_twice_params_rewrite_witness :
    ¬ ResumeTwiceCorrect paramsInPlaceBuggy cfg1 ord1 ord1 ord1 ∧
    (run paramsInPlaceBuggy cfg1 ord1 true (crashFS paramsInPlaceBuggy cfg1 ord1 20)).evs.take 2 =
      [.create .params, .commit .params .good] ∧
    verdictTwice paramsInPlaceBuggy cfg1 ord1 ord1 ord1 FS.empty 20 1 = .fail ∧
    verdictTwice paramsInPlaceBuggy cfg1 ord1 ord1 ord1 FS.empty 20 0 = .equal ∧
    verdictTwice paramsInPlaceBuggy cfg1 ord1 ord1 ord1 FS.empty 20 2 = .equal ∧
    verdictTwice fixed cfg1 ord1 ord1 ord1 FS.empty 22 1 = .equal ∧
    verdictTwice fixed cfg1 ord1 ord1 ord1 FS.empty 22 2 = .equal ∧
    verdictTwice fixed cfg1 ord1 ord1 ord1 FS.empty 22 3 = .equal := by
  have hf := resume_twice_correct (cfg := cfg1) (.of_check rfl) rfl
    ord1 ord1 ord1 (by decide) (by decide) (by decide) 22
  refine (fun h => ⟨fun hc => ?neg, h⟩) ?rest
  case neg =>
    have := hc 20 1 (by decide)
    rw [h.2.1] at this; exact absurd this (by decide)
  case rest =>
    rw [hf 1 (by decide), hf 2 (by decide), hf 3 (by decide)]
    decide +kernel

example : WF cfg1 ∧ cfg1.fromSaves = false ∧ ord1.Nodup ∧ 4 ≤ 22 ∧
    verdictTwice fixed cfg1 ord1 ord1 ord1 FS.empty 22 1 = .equal :=
  ⟨(.of_check rfl), rfl, by decide, by decide,
   resume_twice_correct (.of_check rfl) rfl ord1 ord1 ord1
     (by decide) (by decide) (by decide) 22 1 (by decide)⟩

/-! ### seeded change C07_a: the lock cleaning inside `collect_reads` is dead code since fix 428ba30 -/

/-- once the locks of the folder were removed before `.params` was saved (`forceClean`: `lockList = []`), the stale-lock
    removal at the start of the read collection has nothing left to remove — whatever condition the code puts on it
    (seed C07_a: only when the stage lock existed) changes no event of a fresh run.  The seed matters exactly where the
    removal before `.params` does not work (an experiment name with glob metacharacters). -/
theorem in_stage_lock_cleaning_is_dead {cfg : Cfg} (hm : cfg.fromSaves = false) {fs : FS} (h : lockList cfg fs = []) :
    collectPre cfg false false fs = [] := by
  simp only [lockList, hm, Bool.not_false, Bool.true_and, List.append_eq_nil_iff, List.map_eq_nil_iff,
    Bool.false_eq_true, if_false] at h
  obtain ⟨⟨h1, h2⟩, h3⟩ := h
  have hl : fs.has .lock = false := by
    cases hq : fs.has .lock with
    | false => rfl
    | true => simp [List.filter, hq] at h1
  simp [collectPre, hl, h2, h3, rmAll]

example : lockList cfg1 (cleaned cfg1 leftover1) = [] ∧ collectPre cfg1 false false (cleaned cfg1 leftover1) = [] :=
  ⟨lockList_cleaned _ _, in_stage_lock_cleaning_is_dead rfl (lockList_cleaned _ _)⟩

end IsoVerif.Props.C07Ref
