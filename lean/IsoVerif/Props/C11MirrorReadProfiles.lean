/-
C11 — reflection of the read-profile constructor `OverlappingFeaturesProfileConstructor.construct_profile_for_features`
(Model/Profiles.lean `constructOverlapping`; intron and exon profiles of a read), for ALL chromosome lengths `L : Int`.

What is proved (`mirror_dual_constructOverlapping_gene_partial`): under C13's hypotheses `Hyp δ K R` (known features
ordered by start and longer than δ, read features well formed and more than δ apart), δ ≥ 0, known features ordered by
END as well (no feature strictly inside another: the mirror image is sorted again), an absence test that gives the same
answer on the mirrored pair, and tail positions not mirrored onto the sentinel: the GENE profile of the mirrored call
(polyA ↔ polyT swapped) is the reversed gene profile and the profile range `(s, e)` becomes `(n − e, n − s)`.
The proof goes through the complete declarative meaning of the four values (+1 best match, −1 excluded, −2 masked, 0),
every predicate of which is mirror-symmetric.

`_partial`: the full-strength statement `ConstructOverlappingMirror` also demands the reversed READ marks; it is FALSE —
`overlapping_read_marks_direction_witness`: a read feature that overlaps a known feature without matching it is marked
−1 from one end and 0 from the other (not observable: both lead to the same classification, see docs/C11.md §2).
-/
import IsoVerif.Gen.Prims
import IsoVerif.Model.Profiles
import IsoVerif.Model.C11Symmetry
import IsoVerif.Lemmas.C11MirrorOverlap
import IsoVerif.Props.C13Profiles
import IsoVerif.Props.C11

namespace IsoVerif.Props.C11MirrorReadProfiles
open IsoVerif.Gen IsoVerif.Model IsoVerif.Model.C11 IsoVerif.Lemmas IsoVerif.Lemmas.C11 IsoVerif.Lemmas.C11.Lists IsoVerif.Lemmas.C13
open IsoVerif.Props.C13Profiles (Hyp Best include_iff_best_partial exclude_iff_partial)

/-- index-free reading of C13's `Best` -/
theorem best_iff (δ : Int) (K R : List Iv) (k : Iv) :
    Best δ K R k ↔ ∃ r ∈ R, equal_ranges r k δ = true ∧
      ∀ k' ∈ K, equal_ranges r k' δ = true → matchDelta r k ≤ matchDelta r k' := by
  constructor
  · rintro ⟨j, r, hr, hc, hb⟩
    refine ⟨r, List.mem_of_getElem? hr, hc, fun k' hk' hc' => ?_⟩
    obtain ⟨i', hi'⟩ := List.mem_iff_getElem?.mp hk'
    exact hb i' k' hi' hc'
  · rintro ⟨r, hr, hc, hb⟩
    obtain ⟨j, hj⟩ := List.mem_iff_getElem?.mp hr
    exact ⟨j, r, hj, hc, fun i' k' hk' hc' => hb k' (List.mem_of_getElem? hk') hc'⟩

theorem mirror_dual_best (L δ : Int) (K R : List Iv) (k : Iv) :
    Best δ (mirrorL L K) (mirrorL L R) (mirrorIv L k) ↔ Best δ K R k := by
  have imp : ∀ (K R : List Iv) (k : Iv), Best δ K R k → Best δ (mirrorL L K) (mirrorL L R) (mirrorIv L k) := by
    intro K R k h
    rw [best_iff] at h ⊢
    obtain ⟨r, hr, hc, hb⟩ := h
    refine ⟨mirrorIv L r, (mem_mirrorL L r R).mpr hr, by rw [IsoVerif.Props.C11.mirror_dual_equal_ranges]; exact hc, fun k' hk' hc' => ?_⟩
    obtain ⟨x, hx, rfl⟩ := (mem_mirrorL' L K k').mp hk'
    rw [IsoVerif.Props.C11.mirror_dual_equal_ranges] at hc'
    rw [matchDelta_mirrorIv, matchDelta_mirrorIv]
    exact hb x hx hc'
  constructor
  · intro h
    have := imp (mirrorL L K) (mirrorL L R) (mirrorIv L k) h
    rwa [mirrorL_mirrorL, mirrorL_mirrorL, mirrorIv_mirrorIv] at this
  · exact imp K R k

theorem mirror_preserves_hyp (L δ : Int) (K R : List Iv) (hyp : Hyp δ K R) (hE : SortedEnds K) :
    Hyp δ (mirrorL L K) (mirrorL L R) ∧ SortedEnds (mirrorL L K) :=
  ⟨⟨sortedStarts_mirror L K hE, longerThan_mirror L δ K hyp.long, sepBy_mirror L δ R hyp.sep, WFl_mirror L R hyp.wf⟩,
   sortedEnds_mirror L K hyp.sorted⟩

/-- complete declarative meaning of the gene profile (sharpens C13's `include_iff_best_partial` / `exclude_iff_partial`
    by the two remaining values): every entry is −2, 0, +1 or −1;  −2 ⇔ masked by a polyA / polyT position;
    +1 ⇔ best match, not masked;  −1 ⇔ not a best match and (tie loser ∨ absence test ∨ inside a read gap), not masked -/
theorem overlapping_gene_profile_meaning (K : List Iv) (gr : Iv) (absent : Iv → Iv → Bool) (δ : Int) (R : List Iv) (M : Iv)
    (pa pt : Int) (hδ : 0 ≤ δ) (hyp : Hyp δ K R) (i : Nat) (k : Iv) (hk : K[i]? = some k) :
    ∃ v, (constructOverlapping K gr (fun a b => equal_ranges a b δ) absent δ R M pa pt).gene[i]? = some v ∧
      (v = -2 ∨ v = 0 ∨ v = 1 ∨ v = -1) ∧
      (v = -2 ↔ C01.Masked δ pa pt k) ∧
      (v = 1 ↔ (Best δ K R k ∧ ¬ C01.Masked δ pa pt k)) ∧
      (v = -1 ↔ (¬ Best δ K R k ∧
        (TieLoser (fun a b => equal_ranges a b δ) K R k ∨ absent M k = true ∨ InGap R k) ∧ ¬ C01.Masked δ pa pt k)) := by
  have hinc := include_iff_best_partial K gr absent δ R M pa pt hyp i k hk
  have hexc := exclude_iff_partial K gr absent δ R M pa pt hδ hyp i k hk
  have hnm : ¬ C01.Masked δ pa pt k ↔ (¬ (pa ≠ -1 ∧ k.1 > pa + δ) ∧ ¬ (pt ≠ -1 ∧ k.2 < pt - δ)) := by
    simp only [C01.Masked, not_or]
  by_cases hm : C01.Masked δ pa pt k
  · have hv := constructOverlapping_gene_masked K gr (fun a b => equal_ranges a b δ) absent δ R M pa pt i k hk hm
    refine ⟨-2, hv, Or.inl rfl, ⟨fun _ => hm, fun _ => rfl⟩, ⟨fun h => by omega, fun h => absurd hm h.2⟩,
      ⟨fun h => by omega, fun h => absurd hm h.2.2⟩⟩
  · obtain ⟨v, hv, hrange⟩ :=
      constructOverlapping_gene_unmasked K gr (fun a b => equal_ranges a b δ) absent δ R M pa pt i k hk hm
    rw [hv] at hinc hexc
    refine ⟨v, hv, by omega, ⟨fun h => by omega, fun h => absurd h hm⟩, ?_, ?_⟩
    · rw [hnm, ← hinc]
      constructor
      · intro h; rw [h]
      · intro h; injection h
    · rw [hnm, ← hexc]
      constructor
      · intro h; rw [h]
      · intro h; injection h

theorem mirror_dual_constructOverlapping_gene_partial (L δ : Int) (K R : List Iv) (gr M : Iv) (absent : Iv → Iv → Bool)
    (pa pt : Int) (hδ : 0 ≤ δ) (hyp : Hyp δ K R) (hE : SortedEnds K)
    (hab : ∀ k ∈ K, absent (mirrorIv L M) (mirrorIv L k) = absent M k)
    (hA : pa ≠ -1 → L + 1 - pa ≠ -1) (hT : pt ≠ -1 → L + 1 - pt ≠ -1) :
    (constructOverlapping (mirrorL L K) (mirrorIv L gr) (fun a b => equal_ranges a b δ) absent δ (mirrorL L R)
        (mirrorIv L M) (mirrorPos L pt) (mirrorPos L pa)).gene
      = (constructOverlapping K gr (fun a b => equal_ranges a b δ) absent δ R M pa pt).gene.reverse ∧
    (constructOverlapping (mirrorL L K) (mirrorIv L gr) (fun a b => equal_ranges a b δ) absent δ (mirrorL L R)
        (mirrorIv L M) (mirrorPos L pt) (mirrorPos L pa)).range
      = ((K.length : Int) - (constructOverlapping K gr (fun a b => equal_ranges a b δ) absent δ R M pa pt).range.2,
         (K.length : Int) - (constructOverlapping K gr (fun a b => equal_ranges a b δ) absent δ R M pa pt).range.1) := by
  have hyp' := (mirror_preserves_hyp L δ K R hyp hE).1
  have hlen := constructOverlapping_gene_length K gr (fun a b => equal_ranges a b δ) absent δ R M pa pt
  have hlen' := constructOverlapping_gene_length (mirrorL L K) (mirrorIv L gr) (fun a b => equal_ranges a b δ) absent δ
    (mirrorL L R) (mirrorIv L M) (mirrorPos L pt) (mirrorPos L pa)
  rw [mirrorL_length] at hlen'
  have hgene : (constructOverlapping (mirrorL L K) (mirrorIv L gr) (fun a b => equal_ranges a b δ) absent δ (mirrorL L R)
        (mirrorIv L M) (mirrorPos L pt) (mirrorPos L pa)).gene
      = (constructOverlapping K gr (fun a b => equal_ranges a b δ) absent δ R M pa pt).gene.reverse := by
    apply List.ext_getElem?
    intro i
    by_cases hi : i < K.length
    · obtain ⟨k, hk⟩ := exists_getElem? K (k := K.length - 1 - i) (by omega)
      have hk' : (mirrorL L K)[i]? = some (mirrorIv L k) := by
        rw [mirrorL_getElem? L K i hi, hk]; rfl
      have hkm : k ∈ K := List.mem_of_getElem? hk
      obtain ⟨v, hv, hr, h2, h1, hm1⟩ := overlapping_gene_profile_meaning K gr absent δ R M pa pt hδ hyp _ k hk
      obtain ⟨v', hv', hr', h2', h1', hm1'⟩ := overlapping_gene_profile_meaning (mirrorL L K) (mirrorIv L gr) absent δ
        (mirrorL L R) (mirrorIv L M) (mirrorPos L pt) (mirrorPos L pa) hδ hyp' i (mirrorIv L k) hk'
      rw [masked_mirror L δ pa pt k hA hT] at h2' h1' hm1'
      rw [mirror_dual_best] at h1' hm1'
      rw [tieLoser_mirror, inGap_mirror, hab k hkm] at hm1'
      have e2 : v' = -2 ↔ v = -2 := h2'.trans h2.symm
      have e1 : v' = 1 ↔ v = 1 := h1'.trans h1.symm
      have em : v' = -1 ↔ v = -1 := hm1'.trans hm1.symm
      rw [hv', List.getElem?_reverse (by omega), hlen, hv]
      congr 1; omega
    · rw [List.getElem?_eq_none_iff.mpr (by omega), List.getElem?_eq_none_iff.mpr (by simp; omega)]
  refine ⟨hgene, ?_⟩
  have hr : ∀ (K : List Iv) (gr : Iv) (R : List Iv) (M : Iv) (pa pt : Int),
      (constructOverlapping K gr (fun a b => equal_ranges a b δ) absent δ R M pa pt).range
        = profileRange (constructOverlapping K gr (fun a b => equal_ranges a b δ) absent δ R M pa pt).gene := by
    intros; rfl
  rw [hr, hr, hgene, profileRange_reverse, hlen]

-- non-vacuity: two variants of the first exon (a tie), a skipped exon, a polyA position masking the last one
example : Hyp 4 [(100, 200), (102, 200), (300, 400), (500, 600), (700, 800)] [(101, 200), (500, 603)] ∧
    SortedEnds [(100, 200), (102, 200), (300, 400), (500, 600), (700, 800)] ∧
    (constructOverlapping [(100, 200), (102, 200), (300, 400), (500, 600), (700, 800)] (100, 800)
      (fun a b => equal_ranges a b 4) (fun a b => contains a b) 4 [(101, 200), (500, 603)] (204, 496) 610 (-1)).gene
        = [1, 1, -1, 1, -2] ∧
    (constructOverlapping (mirrorL 1000 [(100, 200), (102, 200), (300, 400), (500, 600), (700, 800)]) (mirrorIv 1000 (100, 800))
      (fun a b => equal_ranges a b 4) (fun a b => contains a b) 4 (mirrorL 1000 [(101, 200), (500, 603)])
      (mirrorIv 1000 (204, 496)) (mirrorPos 1000 (-1)) (mirrorPos 1000 610)).gene = [-2, 1, -1, 1, 1] := by
  refine ⟨⟨by simp [SortedStarts], by simp [LongerThan], by simp [SepBy], by simp [WFR]⟩, by simp [SortedEnds],
    by decide +kernel, by decide +kernel⟩

/-- the absence tests the pipeline passes: `contains` (exon profile) is mirror-invariant on every pair -/
theorem contains_mirror_invariant (L : Int) (a b : Iv) : contains (mirrorIv L a) (mirrorIv L b) = contains a b :=
  IsoVerif.Props.C11.mirror_dual_contains L a b

/-- the exon profile of a read (`absence_condition = contains`): no condition on the absence test is left -/
theorem mirror_dual_exon_read_profile_gene_partial (L δ : Int) (K R : List Iv) (gr M : Iv) (pa pt : Int)
    (hδ : 0 ≤ δ) (hyp : Hyp δ K R) (hE : SortedEnds K)
    (hA : pa ≠ -1 → L + 1 - pa ≠ -1) (hT : pt ≠ -1 → L + 1 - pt ≠ -1) :
    (constructOverlapping (mirrorL L K) (mirrorIv L gr) (fun a b => equal_ranges a b δ) (fun a b => contains a b) δ
        (mirrorL L R) (mirrorIv L M) (mirrorPos L pt) (mirrorPos L pa)).gene
      = (constructOverlapping K gr (fun a b => equal_ranges a b δ) (fun a b => contains a b) δ R M pa pt).gene.reverse :=
  (mirror_dual_constructOverlapping_gene_partial L δ K R gr M (fun a b => contains a b) pa pt hδ hyp hE
    (fun k _ => contains_mirror_invariant L M k) hA hT).1

/-- the intron profile of a read (`absence_condition = overlaps_at_least · · absδ` of the mapped span): like the exon
    profile, no condition on the absence test is left since fix 48e5811 (`mirror_dual_overlaps_at_least`
    holds for all intervals; before it the mapped span must not be in an `EndTie` with a known intron, see the
    `…buggy_witness` below) -/
theorem mirror_dual_intron_read_profile_gene_partial (L δ absδ : Int) (K R : List Iv) (gr M : Iv) (pa pt : Int)
    (hδ : 0 ≤ δ) (hyp : Hyp δ K R) (hE : SortedEnds K)
    (hA : pa ≠ -1 → L + 1 - pa ≠ -1) (hT : pt ≠ -1 → L + 1 - pt ≠ -1) :
    (constructOverlapping (mirrorL L K) (mirrorIv L gr) (fun a b => equal_ranges a b δ)
        (fun a b => overlaps_at_least a b absδ) δ (mirrorL L R) (mirrorIv L M) (mirrorPos L pt) (mirrorPos L pa)).gene
      = (constructOverlapping K gr (fun a b => equal_ranges a b δ) (fun a b => overlaps_at_least a b absδ) δ R M pa pt).gene.reverse :=
  (mirror_dual_constructOverlapping_gene_partial L δ K R gr M (fun a b => overlaps_at_least a b absδ) pa pt hδ hyp hE
    (fun k _ => IsoVerif.Props.C11.mirror_dual_overlaps_at_least L M k absδ) hA hT).1

example : Hyp 4 [(201, 299), (401, 499)] [(201, 299), (401, 499)] ∧ SortedEnds [(201, 299), (401, 499)] ∧
    (constructOverlapping (mirrorL 1000 [(201, 299), (401, 499)]) (mirrorIv 1000 (100, 600)) (fun a b => equal_ranges a b 4)
        (fun a b => overlaps_at_least a b 20) 4 (mirrorL 1000 [(201, 299), (401, 499)]) (mirrorIv 1000 (100, 600))
        (mirrorPos 1000 (-1)) (mirrorPos 1000 (-1))).gene = [1, 1] := by
  refine ⟨⟨by simp [SortedStarts], by simp [LongerThan], by simp [SepBy], by simp [WFR]⟩, by simp [SortedEnds],
    by decide +kernel⟩

/-- regression of the fixed end tie: a mapped span (1,5) sharing the LEFT end of the known intron (1,9) marks it absent
    (−1), and so does its mirror image (5,9) sharing the RIGHT end -/
theorem intron_read_profile_end_tie_regression :
    (constructOverlapping (mirrorL 9 [(1, 9)]) (mirrorIv 9 (1, 9)) (fun a b => equal_ranges a b 0)
        (fun a b => overlaps_at_least a b 10) 0 (mirrorL 9 []) (mirrorIv 9 (1, 5)) (mirrorPos 9 (-1)) (mirrorPos 9 (-1))).gene = [-1] ∧
    (constructOverlapping [(1, 9)] (1, 9) (fun a b => equal_ranges a b 0) (fun a b => overlaps_at_least a b 10) 0
          [] (1, 5) (-1) (-1)).gene.reverse = [-1] := by
  decide +kernel

/-- with the PRE-FIX absence test the statement was false on end ties: the mapped span (1,5) marks the intron (1,9) absent
    (−1), its mirror image does not (0) -/
theorem intron_read_profile_end_tie_buggy_witness :
    (constructOverlapping (mirrorL 9 [(1, 9)]) (mirrorIv 9 (1, 9)) (fun a b => equal_ranges a b 0)
        (fun a b => overlapsAtLeastBuggy a b 10) 0 (mirrorL 9 []) (mirrorIv 9 (1, 5)) (mirrorPos 9 (-1)) (mirrorPos 9 (-1))).gene
      ≠ (constructOverlapping [(1, 9)] (1, 9) (fun a b => equal_ranges a b 0) (fun a b => overlapsAtLeastBuggy a b 10) 0
          [] (1, 5) (-1) (-1)).gene.reverse := by
  decide +kernel

/-- ordering by END is needed: the known feature (20,30) lies strictly inside (10,60); in the mirror image the inner
    one comes first, the sweep passes the read feature that overlaps the outer one while looking at the inner one, and
    the outer one is then taken to lie in a read gap (−1 instead of 0).  (The mirrored PIPELINE re-sorts its features,
    so this is a statement about the function, not about a run: docs/C11.md §5 "false alarms".) -/
theorem overlapping_nested_features_witness :
    Hyp 0 [(10, 60), (20, 30)] [(2, 6), (51, 56)] ∧ ¬ SortedEnds [(10, 60), (20, 30)] ∧
    (constructOverlapping (mirrorL 100 [(10, 60), (20, 30)]) (mirrorIv 100 (10, 60)) (fun a b => equal_ranges a b 0)
        (fun a b => contains a b) 0 (mirrorL 100 [(2, 6), (51, 56)]) (mirrorIv 100 (35, 36)) (mirrorPos 100 (-1)) (mirrorPos 100 (-1))).gene
      ≠ (constructOverlapping [(10, 60), (20, 30)] (10, 60) (fun a b => equal_ranges a b 0) (fun a b => contains a b) 0
          [(2, 6), (51, 56)] (35, 36) (-1) (-1)).gene.reverse := by
  refine ⟨⟨by simp [SortedStarts], by simp [LongerThan], by simp [SepBy], by simp [WFR]⟩, by simp [SortedEnds],
    by decide +kernel⟩

/-- what the full-strength statement (the whole result of the mirrored call is the mirrored result) adds to the gene
    marks and the range proved above: the reversed READ marks.  FALSE (next theorem). -/
def ConstructOverlappingMirror : Prop :=
  ∀ (L δ : Int) (K R : List Iv) (gr M : Iv) (pa pt : Int), 0 ≤ δ → Hyp δ K R → SortedEnds K →
    (pa ≠ -1 → L + 1 - pa ≠ -1) → (pt ≠ -1 → L + 1 - pt ≠ -1) →
    (constructOverlapping (mirrorL L K) (mirrorIv L gr) (fun a b => equal_ranges a b δ) (fun a b => contains a b) δ
        (mirrorL L R) (mirrorIv L M) (mirrorPos L pt) (mirrorPos L pa)).read
      = (constructOverlapping K gr (fun a b => equal_ranges a b δ) (fun a b => contains a b) δ R M pa pt).read.reverse

/-- the read marks depend on the sweep direction: the read feature (30,40) overlaps the known feature (35,60) without
    matching it; from the left no known feature follows it (mark 0), from the right the known feature (10,20) does
    (mark −1).  The gene profiles agree ([0, 0] on both sides), as proved. -/
theorem overlapping_read_marks_direction_witness : ¬ ConstructOverlappingMirror := by
  intro h
  have := h 100 0 [(10, 20), (35, 60)] [(30, 40)] (35, 36) (30, 40) (-1) (-1) (by omega)
    ⟨by simp [SortedStarts], by simp [LongerThan], by simp [SepBy], by simp [WFR]⟩ (by simp [SortedEnds])
    (by simp) (by simp)
  revert this
  decide +kernel

end IsoVerif.Props.C11MirrorReadProfiles
