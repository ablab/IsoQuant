/-
C04 — bookkeeping behind `transcript_model_reads.tsv`: every surviving novel model keeps a read, and the
file names only stored models.
Property theorems only (helper lemmas: IsoVerif/Lemmas/ModelConstruction.lean).
Model: `Store`, `filterLoopG`, `preFilterDec`, `filterDec1/2`, `assignReads`, `dumpR2T` in
IsoVerif/Model/ModelConstruction.lean.  `detect_similar_isoforms`, component coverage, per-read mapq and the
assigner's answers are universally quantified inputs.
-/
import IsoVerif.Gen.Strategies
import IsoVerif.Model.ModelConstruction
import IsoVerif.Lemmas.ModelConstruction

namespace IsoVerif.Props.C04Store
open IsoVerif.Gen IsoVerif.Model IsoVerif.Model.C04 IsoVerif.Lemmas.C04

/-- **min_novel_count_pos.** Every construction preset demands at least one read for a novel model
    (closed by evaluation over the whole regenerated table). -/
theorem min_novel_count_pos : ∀ p ∈ construction_presets, 1 ≤ p.2.min_novel_count := by decide

/-- the steps of `process` keep `internal_counter[t] ≤ |reads[t]|`, from any storage that has it (the empty one does) -/
theorem counter_le_reads (ops : List SOp) (s s' : Store) (hs : CounterLe s) (h : RunSOps s ops s') : CounterLe s' := by
  induction h with
  | nil s => exact hs
  | @cons s0 s1 s2 op t hsc happ hrun ih =>
    apply ih
    cases op with
    | addModel m reads => cases happ; exact addModel_counterLe hs m reads
    | assign ins => cases happ; exact (assignReads_grow s0 ins).counterLe hs
    | preFilter p mapq =>
      obtain ⟨D, _, _, hsh⟩ := preFilter_spec happ
      exact hsh.counterLe hs
    | filter p mapq similar covTerm =>
      obtain ⟨D, _, _, hsh, _⟩ := filterTranscripts_spec happ
      exact hsh.counterLe hs

/-- **has_supporting_read.** After `filter_transcripts` — whatever `detect_similar_isoforms`, the coverage functions
    and the mapping qualities say — and after the final `assign_reads_to_models`, every model of the storage that is
    not `known` has at least one line in `transcript_model_reads`.  Hypotheses: `min_novel_count ≥ 1`
    (`min_novel_count_pos`: true of every preset), the counter invariant (`counter_le_reads`: true of every reachable
    storage) and pairwise distinct transcript ids in the storage (id allocation, property C17). -/
theorem has_supporting_read (s s' : Store) (p : FilterParams) (mapq : String → Int)
    (similar : List TModel → List String) (covTerm : TModel → Int) (ins : List AssignIn)
    (hpos : 1 ≤ p.minNovelCount) (hnd : (ids s.models).Nodup) (hle : CounterLe s)
    (h : s.filterTranscripts p mapq similar covTerm = some s') :
    ∀ m ∈ (s'.assignReads ins).models, m.ttype ≠ .known → ∃ r, (r, m.tid) ∈ (s'.assignReads ins).dumpR2T := by
  obtain ⟨D, _, _, hsh, hB⟩ := filterTranscripts_spec h
  have hg := assignReads_grow s' ins
  intro m hm hnovel
  rw [hg.models] at hm
  obtain ⟨hmD, hq⟩ := hB hnd m hm
  have hc : p.minNovelCount ≤ cnt s'.counter m.tid := by
    rw [hsh.counter, if_neg hmD]; exact hq hnovel
  have hle2 : CounterLe s' := hsh.counterLe hle
  have hlen : 1 ≤ ((readsIn s'.readIds m.tid).length : Int) := by have := hle2 m.tid; omega
  have hlen' : 1 ≤ (readsIn (s'.assignReads ins).readIds m.tid).length := by
    have := (hg.reads m.tid).length_le
    omega
  cases hr : readsIn (s'.assignReads ins).readIds m.tid with
  | nil => rw [hr] at hlen'; simp at hlen'
  | cons r t => exact ⟨r, mem_dump_of_reads (by rw [hr]; simp)⟩

/-- a novel three-exon model on chr1 -/
def exModel (tid : String) : TModel :=
  ⟨"chr1", .plus, tid, "novel_gene_chr1_9", [(1, 10), (20, 30), (40, 50)], .novel_not_in_catalog, [(11, 19), (31, 39)]⟩

/-- non-vacuity: a storage with a 3-read novel model and a 1-read novel model under `min_novel_count = 2`:
    the first survives with its reads listed, the second is deleted together with its lines -/
def exStore : Store :=
  (Store.empty.addModel (exModel "transcript1.chr1.nnic") ["r1", "r2", "r3"]).addModel (exModel "transcript2.chr1.nnic") ["r4"]

example : (exStore.filterTranscripts ⟨2, 30⟩ (fun _ => 60) (fun _ => []) (fun _ => 0)).map
    (fun s => (ids s.models, s.dumpR2T))
    = some (["transcript1.chr1.nnic"],
            [("r1", "transcript1.chr1.nnic"), ("r2", "transcript1.chr1.nnic"), ("r3", "transcript1.chr1.nnic"), ("r4", "*")]) := by
  decide +kernel

example : (ids exStore.models).Nodup ∧ CounterLe exStore :=
  ⟨by decide +kernel, addModel_counterLe (addModel_counterLe counterLe_empty _ _) _ _⟩

/-- **r2t_refers_to_storage.** For every history of the storage-changing steps of `process` (models added with their
    reads, `pre_filter_transcripts`, `assign_reads_to_models` naming stored models, `filter_transcripts`; any number, any
    order, any heuristic answers), every line of `transcript_model_reads` names a transcript that is in
    `transcript_model_storage` at that moment, or `*`. -/
theorem r2t_refers_to_storage (ops : List SOp) (s' : Store) (h : RunSOps Store.empty ops s') :
    ∀ l ∈ s'.dumpR2T, l.2 = "*" ∨ l.2 ∈ ids s'.models := by
  have hinv : R2TInv s' := by
    have h0 : R2TInv Store.empty := by intro p hp; simp [Store.empty] at hp
    generalize Store.empty = s0 at h h0
    induction h with
    | nil s => exact h0
    | @cons s0 s1 s2 op t hsc happ hrun ih =>
      apply ih
      cases op with
      | addModel m reads => cases happ; exact r2tInv_addModel h0 m reads
      | assign ins => cases happ; exact r2tInv_assignReads h0 hsc
      | preFilter p mapq =>
        obtain ⟨D, _, hcov, hsh⟩ := preFilter_spec happ
        exact hsh.r2tInv hcov h0
      | filter p mapq similar covTerm =>
        obtain ⟨D, _, hcov, hsh, _⟩ := filterTranscripts_spec happ
        exact hsh.r2tInv hcov h0
  intro l hl
  unfold Store.dumpR2T at hl
  simp only [List.mem_append, List.mem_flatMap, List.mem_map, List.mem_filter] at hl
  rcases hl with ⟨p, hp, r, hr, rfl⟩ | ⟨p, _, rfl⟩
  · refine Or.inr (hinv p hp ?_)
    intro hc; rw [hc] at hr; simp at hr
  · exact Or.inl rfl

/-- non-vacuity: a history with an add and an assignment runs -/
example : RunSOps Store.empty
    [.addModel (exModel "t1") ["r1", "r2"], .assign [⟨"r9", true, ["t1"]⟩]]
    ((Store.empty.addModel (exModel "t1") ["r1", "r2"]).assignReads [⟨"r9", true, ["t1"]⟩]) :=
  .cons trivial rfl (.cons (by intro a ha t ht; simp at ha; subst ha; simp at ht; subst ht; decide +kernel) rfl (.nil _))

end IsoVerif.Props.C04Store
