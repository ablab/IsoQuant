/-
C11 — reflection of `construct_monoexon_novel` (Model/C11MonoNovel.lean).

  levelModels_order_independent  one support level reports the same models whatever the order of the clusters
  mirror_dual_candidateOf       one cluster against mirrored models = the mirrored answer (polyA ↔ polyT)
  mirror_dual_constructMonoNovel  MAIN: mirrored storage, polyT' = mirrored polyA clusters, polyA' = mirrored polyT
                                clusters (in ANY order) ⇒ the storage after the call is the mirrored storage, up to
                                the order in which models of one support level are appended
  constructMonoNovelBuggy_mirror_witness   the pre-fix code (polyA clusters first) is not: 3 '+' reads 5000-5600 and
                                9 '−' reads 5100-5750
-/
import IsoVerif.Model.C11MonoNovel
import IsoVerif.Lemmas.C11Mirror

namespace IsoVerif.Props.C11MonoNovel
open IsoVerif.Gen IsoVerif.Model IsoVerif.Model.C03 IsoVerif.Model.C11 IsoVerif.Lemmas.C11

theorem coveredBy_iff (rep : List MModel) (c : Iv) :
    coveredBy rep c = true ↔ ∃ m ∈ rep, ∃ e ∈ m.exons, 2 * intersection_len e c > interval_len c := by
  simp [coveredBy]

theorem coveredBy_congr {r1 r2 : List MModel} (h : ∀ m, m ∈ r1 ↔ m ∈ r2) (c : Iv) : coveredBy r1 c = coveredBy r2 c := by
  rw [Bool.eq_iff_iff, coveredBy_iff, coveredBy_iff]
  constructor
  · rintro ⟨m, hm, e, he, hc⟩; exact ⟨m, (h m).mp hm, e, he, hc⟩
  · rintro ⟨m, hm, e, he, hc⟩; exact ⟨m, (h m).mpr hm, e, he, hc⟩

theorem coveredBy_mirror (L : Int) (rep : List MModel) (c : Iv) :
    coveredBy (rep.map (mirrorModel L)) (mirrorIv L c) = coveredBy rep c := by
  rw [Bool.eq_iff_iff, coveredBy_iff, coveredBy_iff]
  constructor
  · rintro ⟨m, hm, e, he, hc⟩
    obtain ⟨m0, hm0, rfl⟩ := List.mem_map.mp hm
    obtain ⟨e0, he0, rfl⟩ := (mem_mirrorL' L m0.exons e).mp he
    rw [intersection_len_mirror, IsoVerif.Props.C11.mirror_dual_interval_len] at hc
    exact ⟨m0, hm0, e0, he0, hc⟩
  · rintro ⟨m, hm, e, he, hc⟩
    refine ⟨mirrorModel L m, List.mem_map.mpr ⟨m, hm, rfl⟩, mirrorIv L e, (mem_mirrorL' L m.exons _).mpr ⟨e, he, rfl⟩, ?_⟩
    rw [intersection_len_mirror, IsoVerif.Props.C11.mirror_dual_interval_len]; exact hc

theorem listMin_map_neg (L : Int) (l : List Int) :
    listMin (l.map (fun x => L + 1 - x)) = (listMax l).map (fun x => L + 1 - x) := by
  induction l with
  | nil => rfl
  | cons x xs ih =>
    simp only [List.map_cons, listMin, listMax, ih]
    cases listMax xs with
    | none => simp
    | some m => simp; omega

theorem listMax_map_neg (L : Int) (l : List Int) :
    listMax (l.map (fun x => L + 1 - x)) = (listMin l).map (fun x => L + 1 - x) := by
  induction l with
  | nil => rfl
  | cons x xs ih =>
    simp only [List.map_cons, listMin, listMax, ih]
    cases listMin xs with
    | none => simp
    | some m => simp; omega

theorem listMin_perm {l1 l2 : List Int} (h : l1.Perm l2) : listMin l1 = listMin l2 := by
  induction h with
  | nil => rfl
  | cons x _ ih => simp only [listMin, ih]
  | swap x y l =>
    simp only [listMin]
    cases listMin l with
    | none => exact congrArg some (Int.min_comm y x)
    | some m => exact congrArg some (by ac_rfl)
  | trans _ _ ih1 ih2 => exact ih1.trans ih2

theorem listMax_perm {l1 l2 : List Int} (h : l1.Perm l2) : listMax l1 = listMax l2 := by
  induction h with
  | nil => rfl
  | cons x _ ih => simp only [listMax, ih]
  | swap x y l =>
    simp only [listMax]
    cases listMax l with
    | none => exact congrArg some (Int.max_comm y x)
    | some m => exact congrArg some (by ac_rfl)
  | trans _ _ ih1 ih2 => exact ih1.trans ih2

theorem monoExonFromCluster_mirror (L : Int) (cutoff : Nat) (c : Cluster) :
    monoExonFromCluster cutoff (!c.forward) (mirrorL L c.reads) (mirrorP L c.three)
      = (monoExonFromCluster cutoff c.forward c.reads c.three).map (mirrorL L) := by
  have e1 : (mirrorL L c.reads).map (·.1) = ((c.reads.map (·.2)).map (fun x => L + 1 - x)).reverse := by
    simp [mirrorL, mirrorIv, List.map_reverse, Function.comp_def]
  have e2 : (mirrorL L c.reads).map (·.2) = ((c.reads.map (·.1)).map (fun x => L + 1 - x)).reverse := by
    simp [mirrorL, mirrorIv, List.map_reverse, Function.comp_def]
  have hlen : (mirrorL L c.reads).length = c.reads.length := by simp [mirrorL]
  unfold monoExonFromCluster
  rw [hlen]
  by_cases hc : c.reads.length < cutoff
  · simp [hc, mirrorL]
  · simp only [hc, if_false]
    cases hf : c.forward with
    | true =>
      simp only [Bool.not_true, Bool.false_eq_true, if_false, if_true]
      rw [e2, listMax_perm (List.reverse_perm _), listMax_map_neg]
      cases listMin (c.reads.map (·.1)) with
      | none => rfl
      | some m => simp [mirrorL, mirrorIv, mirrorP]
    | false =>
      simp only [Bool.not_false, if_true, Bool.false_eq_true, if_false]
      rw [e1, listMin_perm (List.reverse_perm _), listMin_map_neg]
      cases listMax (c.reads.map (·.2)) with
      | none => rfl
      | some m => simp [mirrorL, mirrorIv, mirrorP]

theorem monoExonFromCluster_tail {cutoff : Nat} {fw : Bool} {reads : List Iv} {three : Int} {x : Iv} {xs : List Iv}
    (h : monoExonFromCluster cutoff fw reads three = some (x :: xs)) : xs = [] := by
  unfold monoExonFromCluster at h
  split at h
  · cases h
  · split at h
    · cases hm : listMin (reads.map (·.1)) with
      | none => rw [hm] at h; cases h
      | some m => rw [hm] at h; simp at h; exact h.2
    · cases hm : listMax (reads.map (·.2)) with
      | none => rw [hm] at h; cases h
      | some m => rw [hm] at h; simp at h; exact h.2

theorem mirror_dual_candidateOf (L : Int) (cutoff : Nat) (rep rep' : List MModel) (c : Cluster)
    (hrep : ∀ m, m ∈ rep' ↔ m ∈ rep.map (mirrorModel L)) :
    candidateOf cutoff rep' (mirrorCluster L c) = (candidateOf cutoff rep c).map (Option.map (mirrorModel L)) := by
  unfold candidateOf
  simp only [mirrorCluster]
  rw [monoExonFromCluster_mirror]
  cases h : monoExonFromCluster cutoff c.forward c.reads c.three with
  | none => rfl
  | some l =>
    cases l with
    | nil => simp [mirrorL]
    | cons x xs =>
      have hxs : xs = [] := monoExonFromCluster_tail h
      subst hxs
      simp only [Option.map_some, mirrorL, List.map_cons, List.map_nil, List.reverse_cons, List.reverse_nil, List.nil_append]
      rw [coveredBy_congr hrep, coveredBy_mirror]
      cases coveredBy rep x <;> simp [mirrorModel, mirrorL]


theorem consOpt_some {r : Option (Option MModel)} {acc : Option (List MModel)} {l : List MModel}
    (h : consOpt r acc = some l) : ∃ r0 l0, r = some r0 ∧ acc = some l0 ∧ l = r0.toList ++ l0 := by
  cases r with
  | none => simp [consOpt] at h
  | some r0 =>
    cases acc with
    | none => simp [consOpt] at h
    | some l0 => simp [consOpt] at h; exact ⟨r0, l0, rfl, rfl, h.symm⟩

theorem consOpt_none {r : Option (Option MModel)} {acc : Option (List MModel)} :
    consOpt r acc = none ↔ r = none ∨ acc = none := by
  cases r <;> cases acc <;> simp [consOpt]

theorem levelModels_some {cutoff : Nat} {rep : List MModel} {cs : List Cluster} {s : Nat} {l : List MModel}
    (h : levelModels cutoff rep cs s = some l) (m : MModel) :
    m ∈ l ↔ ∃ c ∈ cs, c.support = s ∧ candidateOf cutoff rep c = some (some m) := by
  induction cs generalizing l with
  | nil => simp [levelModels] at h; subst h; simp
  | cons c cs ih =>
    by_cases hs : c.support = s
    · simp only [levelModels, hs, if_true] at h
      obtain ⟨r0, l0, hr, hl, rfl⟩ := consOpt_some h
      have := ih hl
      simp only [List.mem_append, this, List.mem_cons, exists_eq_or_imp, hs, true_and, hr]
      cases r0 with
      | none => simp
      | some m0 =>
        simp only [Option.toList_some, List.mem_singleton, Option.some.injEq]
        constructor
        · rintro (h | h)
          · left; exact h.symm
          · right; exact h
        · rintro (h | h)
          · left; exact h.symm
          · right; exact h
    · simp only [levelModels, hs, if_false] at h
      have := ih h
      simp only [this, List.mem_cons, exists_eq_or_imp, hs, false_and, false_or]

theorem levelModels_none {cutoff : Nat} {rep : List MModel} {cs : List Cluster} {s : Nat} :
    levelModels cutoff rep cs s = none ↔ ∃ c ∈ cs, c.support = s ∧ candidateOf cutoff rep c = none := by
  induction cs with
  | nil => simp [levelModels]
  | cons c cs ih =>
    by_cases hs : c.support = s
    · simp only [levelModels, hs, if_true, consOpt_none, ih, List.mem_cons, exists_eq_or_imp, true_and]
    · simp only [levelModels, hs, if_false, ih, List.mem_cons, exists_eq_or_imp, false_and, false_or]

theorem support_mirror (L : Int) (c : Cluster) : (mirrorCluster L c).support = c.support := by
  simp [Cluster.support, mirrorCluster, mirrorL]

/-- what the two runs are compared by: the same failure (`min([])`), or model lists with the same members -/
def SameModels (L : Int) (r' r : Option (List MModel)) : Prop :=
  (r' = none ↔ r = none) ∧ ∀ l' l, r' = some l' → r = some l → ∀ m, m ∈ l' ↔ m ∈ l.map (mirrorModel L)

theorem levelModels_mirror (L : Int) (cutoff : Nat) (rep rep' : List MModel) (cs cs' : List Cluster) (s : Nat)
    (hrep : ∀ m, m ∈ rep' ↔ m ∈ rep.map (mirrorModel L))
    (hcs : ∀ c, c ∈ cs' ↔ c ∈ cs.map (mirrorCluster L)) :
    SameModels L (levelModels cutoff rep' cs' s) (levelModels cutoff rep cs s) := by
  constructor
  · rw [levelModels_none, levelModels_none]
    constructor
    · rintro ⟨c', hc', hs, hn⟩
      obtain ⟨c, hc, rfl⟩ := List.mem_map.mp ((hcs c').mp hc')
      rw [mirror_dual_candidateOf L cutoff rep rep' c hrep] at hn
      refine ⟨c, hc, by rw [← hs, support_mirror], ?_⟩
      cases h : candidateOf cutoff rep c with
      | none => rfl
      | some r => rw [h] at hn; simp at hn
    · rintro ⟨c, hc, hs, hn⟩
      refine ⟨mirrorCluster L c, (hcs _).mpr (List.mem_map.mpr ⟨c, hc, rfl⟩), by rw [support_mirror, hs], ?_⟩
      rw [mirror_dual_candidateOf L cutoff rep rep' c hrep, hn]; rfl
  · intro l' l h' h m
    rw [levelModels_some h' m, List.mem_map]
    constructor
    · rintro ⟨c', hc', hs, hn⟩
      obtain ⟨c, hc, rfl⟩ := List.mem_map.mp ((hcs c').mp hc')
      rw [mirror_dual_candidateOf L cutoff rep rep' c hrep] at hn
      cases hcand : candidateOf cutoff rep c with
      | none => rw [hcand] at hn; simp at hn
      | some r =>
        rw [hcand] at hn
        cases r with
        | none => simp at hn
        | some m0 =>
          simp at hn
          exact ⟨m0, (levelModels_some h m0).mpr ⟨c, hc, by rw [← hs, support_mirror], hcand⟩, hn⟩
    · rintro ⟨m0, hm0, rfl⟩
      obtain ⟨c, hc, hs, hcand⟩ := (levelModels_some h m0).mp hm0
      refine ⟨mirrorCluster L c, (hcs _).mpr (List.mem_map.mpr ⟨c, hc, rfl⟩), by rw [support_mirror, hs], ?_⟩
      rw [mirror_dual_candidateOf L cutoff rep rep' c hrep, hcand]; rfl

theorem runLevels_mirror (L : Int) (cutoff : Nat) (cs cs' : List Cluster)
    (hcs : ∀ c, c ∈ cs' ↔ c ∈ cs.map (mirrorCluster L)) (n : Nat) (st st' : List MModel)
    (hst : ∀ m, m ∈ st' ↔ m ∈ st.map (mirrorModel L)) :
    SameModels L (runLevels cutoff cs' n st') (runLevels cutoff cs n st) := by
  induction n generalizing st st' with
  | zero =>
    obtain ⟨hn, hs⟩ := levelModels_mirror L cutoff st st' cs cs' 0 hst hcs
    simp only [runLevels]
    constructor
    · simp only [Option.map_eq_none_iff]; exact hn
    · intro r' r h' h m
      cases hl' : levelModels cutoff st' cs' 0 with
      | none => rw [hl'] at h'; simp at h'
      | some l' =>
        cases hl : levelModels cutoff st cs 0 with
        | none => rw [hl] at h; simp at h
        | some l =>
          rw [hl'] at h'; rw [hl] at h
          simp at h' h; subst h'; subst h
          simp only [List.mem_append, List.map_append, hst m, hs l' l hl' hl m]
  | succ n ih =>
    obtain ⟨hn, hs⟩ := levelModels_mirror L cutoff st st' cs cs' (n + 1) hst hcs
    simp only [runLevels]
    cases hl' : levelModels cutoff st' cs' (n + 1) with
    | none =>
      have := hn.mp hl'
      rw [this]; exact ⟨by simp, by intro _ _ h; cases h⟩
    | some l' =>
      cases hl : levelModels cutoff st cs (n + 1) with
      | none => rw [hn.mpr hl] at hl'; cases hl'
      | some l =>
        simp only
        apply ih
        intro m
        simp only [List.mem_append, List.map_append, hst m, hs l' l hl' hl m]

theorem maxSupport_le (cs : List Cluster) (n : Nat) : maxSupport cs ≤ n ↔ ∀ c ∈ cs, c.support ≤ n := by
  unfold maxSupport
  induction cs with
  | nil => simp
  | cons c cs ih => simp only [List.map_cons, List.foldr_cons, List.mem_cons, forall_eq_or_imp, ← ih]; omega

theorem maxSupport_mirror (L : Int) (cs cs' : List Cluster) (hcs : ∀ c, c ∈ cs' ↔ c ∈ cs.map (mirrorCluster L)) :
    maxSupport cs' = maxSupport cs := by
  apply Nat.le_antisymm
  · rw [maxSupport_le]
    intro c' hc'
    obtain ⟨c, hc, rfl⟩ := List.mem_map.mp ((hcs c').mp hc')
    rw [support_mirror]
    exact (maxSupport_le cs _).mp (Nat.le_refl _) c hc
  · rw [maxSupport_le]
    intro c hc
    have := (maxSupport_le cs' _).mp (Nat.le_refl _) (mirrorCluster L c) ((hcs _).mpr (List.mem_map.mpr ⟨c, hc, rfl⟩))
    rwa [support_mirror] at this

/-- MAIN: the mirrored run -- reported models mirrored (as a set), the polyT clusters the mirrored
    polyA clusters and vice versa, each in ANY order -- reports exactly the mirrored models, and raises iff the original
    does.  No hypothesis on supports, lengths or overlaps: ties included (clusters with equal support do not compete). -/
theorem mirror_dual_constructMonoNovel (L : Int) (cutoff : Nat) (st st' : List MModel) (polyA polyT polyA' polyT' : List Cluster)
    (hst : ∀ m, m ∈ st' ↔ m ∈ st.map (mirrorModel L))
    (hA : ∀ c, c ∈ polyA' ↔ c ∈ polyT.map (mirrorCluster L))
    (hT : ∀ c, c ∈ polyT' ↔ c ∈ polyA.map (mirrorCluster L)) :
    SameModels L (constructMonoNovel cutoff st' polyA' polyT') (constructMonoNovel cutoff st polyA polyT) := by
  have hcs : ∀ c, c ∈ polyA' ++ polyT' ↔ c ∈ (polyA ++ polyT).map (mirrorCluster L) := by
    intro c; simp only [List.mem_append, List.map_append, hA c, hT c]; exact Or.comm
  unfold constructMonoNovel
  rw [maxSupport_mirror L _ _ hcs]
  exact runLevels_mirror L cutoff _ _ hcs _ st st' hst

/-- one support level does not depend on the order (or multiplicity) of the clusters: same members ⇒ same models -/
theorem levelModels_order_independent (cutoff : Nat) (st : List MModel) (cs cs' : List Cluster) (n : Nat)
    (hcs : ∀ c, c ∈ cs' ↔ c ∈ cs) (l l' : List MModel)
    (h' : levelModels cutoff st cs' n = some l') (h : levelModels cutoff st cs n = some l) (m : MModel) :
    m ∈ l' ↔ m ∈ l := by
  rw [levelModels_some h' m, levelModels_some h m]
  constructor
  · rintro ⟨c, hc, r⟩; exact ⟨c, (hcs c).mp hc, r⟩
  · rintro ⟨c, hc, r⟩; exact ⟨c, (hcs c).mpr hc, r⟩

/-! ### witness input: 3 '+' reads 5000-5600 (polyA 5600), 9 '−' reads 5100-5750 (polyT 5100), cutoff 2 -/

def plus3 : Cluster := { forward := true, three := 5600, reads := List.replicate 3 (5000, 5600) }
def minus9 : Cluster := { forward := false, three := 5100, reads := List.replicate 9 (5100, 5750) }

-- non-vacuity / non-degeneracy of the main theorem: the repaired code keeps the 9-read model in both orientations
example : constructMonoNovel 2 [] [plus3] [minus9] = some [{ forward := false, exons := [(5100, 5750)] }] ∧
    constructMonoNovel 2 [] [mirrorCluster 20000 minus9] [mirrorCluster 20000 plus3]
      = some [mirrorModel 20000 { forward := false, exons := [(5100, 5750)] }] := by
  decide +kernel

/-- the full-strength statement for an arbitrary constructor `f` (what the pre-fix code violates) -/
def MonoNovelMirror (f : Nat → List MModel → List Cluster → List Cluster → Option (List MModel)) : Prop :=
  ∀ (L : Int) (cutoff : Nat) (polyA polyT : List Cluster),
    SameModels L (f cutoff [] (polyT.map (mirrorCluster L)) (polyA.map (mirrorCluster L))) (f cutoff [] polyA polyT)

theorem constructMonoNovel_mirror : MonoNovelMirror constructMonoNovel :=
  fun L cutoff polyA polyT => mirror_dual_constructMonoNovel L cutoff [] [] polyA polyT _ _ (by simp) (by simp) (by simp)

/-- pre-fix: polyA clusters first.  Original: the 3-read '+' model is reported and removes the 9-read '−' candidate;
    mirror image: the image of the 9-read cluster is a polyA cluster, goes first and removes the other one -/
theorem constructMonoNovelBuggy_mirror_witness : ¬ MonoNovelMirror constructMonoNovelBuggy := by
  intro h
  have := (h 20000 2 [plus3] [minus9]).2 _ _ rfl rfl (mirrorModel 20000 { forward := true, exons := [(5000, 5600)] })
  revert this
  decide +kernel

/-! ### which reads enter the clusters: follow-up of 7594462 (reads carrying both tails) -/

/-- mirrored read: polyA evidence becomes polyT evidence (no tail position mirrored onto the sentinel) -/
theorem mirror_dual_strandVote (L : Int) (r : MRead)
    (hA : r.polyA ≠ -1 → L + 1 - r.polyA ≠ -1) (hT : r.polyT ≠ -1 → L + 1 - r.polyT ≠ -1) :
    strandVote (mirrorMRead L r) = (strandVote r).map (!·) := by
  simp only [strandVote, mirrorMRead, mirrorPos]
  by_cases h1 : r.polyA = -1
  · by_cases h2 : r.polyT = -1
    · simp [h1, h2]
    · have := hT h2; simp [h1, h2]; omega
  · by_cases h2 : r.polyT = -1
    · have := hA h1; simp [h1, h2]; omega
    · have ha := hA h1; have ht := hT h2; simp [h1, h2, ha, ht]

/-- a read is in a cluster of at most one strand -/
theorem voters_exclusive (rs : List MRead) (r : MRead) : ¬ (r ∈ votersOf true rs ∧ r ∈ votersOf false rs) := by
  simp only [votersOf, List.mem_filter, beq_iff_eq]
  rintro ⟨⟨_, h1⟩, ⟨_, h2⟩⟩
  rw [h1] at h2; cases h2

/-- the voters of the mirrored run for one strand are the mirrored voters of the other strand, in the same order -/
theorem mirror_dual_votersOf (L : Int) (fw : Bool) (rs : List MRead)
    (hA : ∀ r ∈ rs, r.polyA ≠ -1 → L + 1 - r.polyA ≠ -1) (hT : ∀ r ∈ rs, r.polyT ≠ -1 → L + 1 - r.polyT ≠ -1) :
    votersOf fw (rs.map (mirrorMRead L)) = (votersOf (!fw) rs).map (mirrorMRead L) := by
  induction rs with
  | nil => rfl
  | cons r rs ih =>
    have ih' := ih (fun x hx => hA x (List.mem_cons_of_mem _ hx)) (fun x hx => hT x (List.mem_cons_of_mem _ hx))
    have hv := mirror_dual_strandVote L r (hA r List.mem_cons_self) (hT r List.mem_cons_self)
    simp only [votersOf, List.map_cons, List.filter_cons] at ih' ⊢
    rw [hv, ih']
    cases strandVote r with
    | none => simp
    | some b => cases b <;> cases fw <;> simp

/-- the input of the follow-up: six reads 5000..5600 carrying BOTH tails (ids 0..5) -/
def bothTails : List MRead :=
  (List.range 6).map (fun k => { id := k, iv := (5000 + (k : Int), 5600), polyA := 5600, polyT := 4998 })

/-- 7594462 (clusters by support, equal support does not compete) fed with the clusters of `strandVotesShared`: the SAME six
    reads form a polyA and a polyT cluster and TWO models are reported from them -/
theorem sharedReads_two_models_witness :
    votersOfShared true bothTails = bothTails ∧ votersOfShared false bothTails = bothTails ∧
    constructMonoNovel 2 [] [clusterAt true 5600 (votersOfShared true bothTails)]
        [clusterAt false 4998 (votersOfShared false bothTails)]
      = some [{ forward := true, exons := [(5000, 5600)] }, { forward := false, exons := [(4998, 5600)] }] := by
  decide +kernel

/-- after the follow-up the same reads are in no cluster and no model is built from them (in either orientation: the
    mirrored reads carry both tails again) -/
theorem bothTails_no_cluster :
    votersOf true bothTails = [] ∧ votersOf false bothTails = [] ∧
    votersOf true (bothTails.map (mirrorMRead 20000)) = [] ∧ votersOf false (bothTails.map (mirrorMRead 20000)) = [] := by
  decide +kernel

-- non-vacuity of the exclusive vote: reads with one tail still vote
example : strandVote { id := 0, iv := (5000, 5600), polyA := 5600, polyT := -1 } = some true ∧
    strandVote { id := 1, iv := (5100, 5750), polyA := -1, polyT := 5098 } = some false ∧
    strandVote (mirrorMRead 20000 { id := 0, iv := (5000, 5600), polyA := 5600, polyT := -1 }) = some false := by decide

end IsoVerif.Props.C11MonoNovel
