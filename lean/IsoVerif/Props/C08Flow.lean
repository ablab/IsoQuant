/-
C08 — the flow around the resolver: the two ways the per-read lists are built (`--high_memory` / default), the order of
the record stream (chromosomes, files, records), the verdict re-applied by `ReadAssignmentLoader.get_next`
(suspended records reach no consumer), and model construction ignoring multimappers.
-/
import IsoVerif.Model.Resolver
import IsoVerif.Lemmas.Resolver
import IsoVerif.Lemmas.ResolverFlow
import IsoVerif.Props.C08
import IsoVerif.Props.C08Order

namespace IsoVerif.Props.C08Flow
open IsoVerif.Gen IsoVerif.Model.Resolver IsoVerif.Lemmas.Resolver IsoVerif.Lemmas.ResolverFlow
open IsoVerif.Props.C08 IsoVerif.Props.C08Order

/-- **memory_paths_agree**: `--high_memory` (all records grouped in memory, lists of one skipped at resolution) and the
    default path (`prepare_multimapper_dict`: second pass over the dump files, read ids seen once skipped) hand the
    same lists, in the same order, to the resolver and so write the same verdicts - for every record stream -/
theorem memory_paths_agree (s : MultimapResolvingStrategy) (records : List Rec) :
    resolveAll s (groupMulti records) = resolveAll s (groupAll records) := by
  have hfilter : groupMulti records =
      (groupAll records).filter (fun kv => !(countOf records kv.1 == 1)) := by
    have := foldl_dictAppend_filter (fun k => !(countOf records k == 1)) records []
    simpa [groupMulti, groupAll] using this.symm
  unfold resolveAll
  rw [hfilter, List.filter_filter]
  congr 1
  apply List.filter_congr
  intro kv hkv
  have hlen : kv.2.length = countOf records kv.1 := by
    rw [groupAll_vals records kv hkv]; rfl
  rw [hlen]
  cases h : decide (1 < countOf records kv.1) with
  | false => simp
  | true =>
    have : 1 < countOf records kv.1 := by simpa using h
    have hne : (countOf records kv.1 == 1) = false := by rw [beq_eq_false_iff_ne]; omega
    simp [hne]

/-- what is resolved for a read is exactly its records, in stream order -/
theorem resolved_list_is_filter (records : List Rec) :
    ∀ kv ∈ groupAll records, kv.2 = records.filter (fun r => r.readId == kv.1) := groupAll_vals records

/-- **stream_order_independent**: reorder the record stream in any way (chromosomes, input files, records within a
    file): every read with at least two records is still resolved, and is retained on the same set of alignments -/
theorem stream_order_independent (records records' : List Rec) (hp : records.Perm records')
    (hin : NoSuspendedInput records) :
    ∀ kv ∈ groupAll records, 2 ≤ kv.2.length →
      ∃ kv' ∈ groupAll records', kv'.1 = kv.1 ∧ kv.2.Perm kv'.2 ∧
        ∃ out out', resolve .take_best kv.2 = some out ∧ resolve .take_best kv'.2 = some out' ∧
          ∀ k, RetainedOn out k ↔ RetainedOn out' k := by
  intro kv hkv h2
  have hv := groupAll_vals records kv hkv
  -- some record of that read exists, so the read is a key of the other dict as well
  have hne : kv.2 ≠ [] := by intro h; simp [h] at h2
  obtain ⟨x, hx⟩ := List.exists_mem_of_ne_nil _ hne
  have hx' : x ∈ records ∧ x.readId = kv.1 := by
    rw [hv] at hx; simpa using hx
  obtain ⟨kv', hkv', hk'⟩ := groupAll_cover records' x (hp.mem_iff.mp hx'.1)
  have hv' := groupAll_vals records' kv' hkv'
  have hkey : kv'.1 = kv.1 := hk'.trans hx'.2
  have hperm : kv.2.Perm kv'.2 := by
    rw [hv, hv', hkey]; exact hp.filter _
  have hin' : NoSuspendedInput kv.2 := by
    intro r hr; rw [hv] at hr; exact hin r (List.mem_filter.mp hr).1
  obtain ⟨out, out', h1, h2', h3⟩ := order_independent kv.2 kv'.2 hperm h2 hin'
  exact ⟨kv', hkv', hkey, hperm, out, out', h1, h2', h3⟩

/-- the verdict of the record with `ra`'s (assignment id, chromosome) is `suspended` (and the look-up does not raise) -/
def SuspendedFor (dict : List (Nat × List Rec)) (ra : Full) : Bool :=
  !raisesFor dict ra &&
  match dict.lookup ra.readId with
  | none => false
  | some vs =>
    match lookupVerdict vs ra with
    | none => false
    | some a => a.atype == .suspended

theorem loadOne_none_of_suspended (dict : List (Nat × List Rec)) (ra : Full) (h : SuspendedFor dict ra = true) :
    loadOne dict ra = none := by
  unfold SuspendedFor at h
  simp only [Bool.and_eq_true] at h
  have h := h.2
  unfold loadOne
  cases hd : dict.lookup ra.readId with
  | none => simp [hd] at h
  | some vs =>
    simp only [hd] at h ⊢
    cases hv : lookupVerdict vs ra with
    | none => simp [hv] at h
    | some a => simp only [hv] at h ⊢; simp [h]

/-- **suspended_everywhere**: the storage the loader hands on is the same as if the suspended alignment records had
    never been in the file - so whatever is computed from it (counts, read_assignments.tsv and BED lines, introns,
    intron-graph edges and paths, transcript_model_reads) cannot depend on them; and no record in the storage is
    `suspended` -/
theorem suspended_everywhere (dict : List (Nat × List Rec)) (ras : List Full) :
    load dict ras = load dict (ras.filter (fun ra => !SuspendedFor dict ra)) ∧
    (∀ {β : Type} (consumer : Option (List Full) → β),
        consumer (load dict ras) = consumer (load dict (ras.filter (fun ra => !SuspendedFor dict ra)))) ∧
    ((∀ ra ∈ ras, ra.atype ≠ .suspended) → ∀ storage, load dict ras = some storage → ∀ f ∈ storage, f.atype ≠ .suspended) := by
  have hcore : loadCore dict ras = loadCore dict (ras.filter (fun ra => !SuspendedFor dict ra)) := by
    unfold loadCore
    rw [List.filterMap_filter]
    congr 1
    funext ra
    cases hs : SuspendedFor dict ra
    · rfl
    · exact loadOne_none_of_suspended dict ra hs
  have hany : ras.any (raisesFor dict) = (ras.filter (fun ra => !SuspendedFor dict ra)).any (raisesFor dict) := by
    rw [Bool.eq_iff_iff, List.any_eq_true, List.any_eq_true]
    constructor
    · rintro ⟨ra, hra, hr⟩
      refine ⟨ra, List.mem_filter.mpr ⟨hra, ?_⟩, hr⟩
      simp [SuspendedFor, hr]
    · rintro ⟨ra, hra, hr⟩
      exact ⟨ra, (List.mem_filter.mp hra).1, hr⟩
  have h1 : load dict ras = load dict (ras.filter (fun ra => !SuspendedFor dict ra)) := by
    unfold load; rw [← hany, ← hcore]
  refine ⟨h1, fun consumer => congrArg consumer h1, ?_⟩
  intro hns storage hst f hf
  unfold load at hst
  split at hst
  · cases hst
  · obtain rfl := Option.some.inj hst
    obtain ⟨ra, hra, hload⟩ := List.mem_filterMap.mp hf
    unfold loadOne at hload
    split at hload
    · obtain rfl := Option.some.inj hload
      exact hns ra hra
    · split at hload
      · cases hload
      · split at hload
        · cases hload
        · rename_i hs
          obtain rfl := Option.some.inj hload
          simpa using hs

/-- a record the resolver suspended is dropped by the loader; a retained one is loaded with the resolver's types and
    multimapper flag -/
theorem loader_applies_verdict (dict : List (Nat × List Rec)) (ra : Full) (vs : List Rec) (a : Rec)
    (hd : dict.lookup ra.readId = some vs) (ha : a ∈ vs) (hm : a.aid = ra.aid ∧ a.chr = ra.chr)
    (huniq : ∀ b ∈ vs, b.aid = ra.aid ∧ b.chr = ra.chr → b = a) :
    (a.atype = .suspended → loadOne dict ra = none) ∧
    (a.atype ≠ .suspended →
      loadOne dict ra = some { ra with atype := a.atype, gtype := a.gtype, multimapper := a.multimapper }) := by
  have hv := lookupVerdict_unique vs ra a ha hm huniq
  constructor
  · intro hs; simp [loadOne, hd, hv, hs]
  · intro hs
    have hs' : (a.atype == ReadAssignmentType.suspended) = false := by rw [beq_eq_false_iff_ne]; exact hs
    simp [loadOne, hd, hv, hs']

/-- **end to end**: resolver → verdict file of chromosome `c` → loader.  For a read whose records carry pairwise
    different (assignment id, chromosome), the full record that stands for the read's `i`-th alignment is dropped by
    the loader exactly when the resolver did not retain it, and is loaded with the resolver's types and flag when it
    did.  (`hdict`: `construct_models_in_parallel` rebuilds `dict[read_id]` from the records of that read in the file of
    chromosome `c`, see `verdictsFor`.) -/
theorem losers_never_loaded (l : List Rec) (h2 : 2 ≤ l.length) (hin : NoSuspendedInput l)
    (huniq : l.Pairwise (fun a b => ¬ (a.aid = b.aid ∧ a.chr = b.chr)))
    (out : List Rec) (hout : resolve .take_best l = some out)
    (c : Nat) (dict : List (Nat × List Rec)) (ra : Full)
    (hdict : dict.lookup ra.readId = some (out.filter (fun r => r.chr == c)))
    (i : Nat) (r r' : Rec) (hr : l[i]? = some r) (hr' : out[i]? = some r') (hc : r.chr = c)
    (hra : ra.aid = r.aid ∧ ra.chr = r.chr) :
    (r' ∉ retained out → loadOne dict ra = none) ∧
    (r' ∈ retained out →
      loadOne dict ra = some { ra with atype := r'.atype, gtype := r'.gtype, multimapper := r'.multimapper }) := by
  obtain ⟨_, hsame, hlost⟩ := losers_suspended l h2 hin out hout
  have hr'out : r' ∈ out := List.mem_of_getElem? hr'
  obtain ⟨r'', hr'', hsa⟩ := hsame i r hr
  have : r'' = r' := Option.some.inj (hr''.symm.trans hr')
  subst this
  have haid : r''.aid = r.aid := hsa.1
  have hchr : r''.chr = r.chr := hsa.2.2.1
  have hmem : r'' ∈ out.filter (fun x => x.chr == c) := by
    refine List.mem_filter.mpr ⟨hr'out, ?_⟩
    simp [hchr, hc]
  have hm : r''.aid = ra.aid ∧ r''.chr = ra.chr := ⟨haid.trans hra.1.symm, hchr.trans hra.2.symm⟩
  -- position by position `out` carries the (assignment id, chromosome) of `l`: they stay pairwise different
  have hnd : (out.map fun x => (x.aid, x.chr)).Nodup := by
    obtain ⟨cand, rfl, _⟩ := take_best_shape l h2 out hout
    rw [applyKeep_ids]; exact List.pairwise_map.mpr (huniq.imp fun hab e => hab (Prod.mk.inj e))
  have hunique : ∀ b ∈ out.filter (fun x => x.chr == c), b.aid = ra.aid ∧ b.chr = ra.chr → b = r'' := by
    intro b hb hbm
    obtain ⟨j, hbj⟩ := List.mem_iff_getElem?.mp (List.mem_filter.mp hb).1
    have hji : j = i := (List.getElem?_inj (by simpa using (List.getElem?_eq_some_iff.mp hbj).1) hnd).mp
      (by simp only [List.getElem?_map, hbj, hr'', Option.map_some, hbm.1, hbm.2, hm.1, hm.2])
    exact Option.some.inj ((hji ▸ hbj).symm.trans hr'')
  obtain ⟨h1, h2'⟩ := loader_applies_verdict dict ra _ r'' hdict hmem hm hunique
  constructor
  · intro hnr; exact h1 (hlost r'' hr'out hnr).1
  · intro hret; exact h2' (mem_retained.mp hret).2

/-- **a single winner is loaded as it was saved** (docs/C08.md §9, end to end): when the read is retained on exactly
    one record, the loader hands the full record of that alignment to the consumers unchanged - exactly what
    `loader_keeps_unique_reads` gives for a read that has no other alignment at all.  (`hagree`: the full record and its
    compact copy carry the same types and flag - `BasicReadAssignment.__init__` copies them.) -/
theorem single_winner_loaded_as_is (l : List Rec) (h2 : 2 ≤ l.length) (hin : NoSuspendedInput l)
    (huniq : l.Pairwise (fun a b => ¬ (a.aid = b.aid ∧ a.chr = b.chr)))
    (out : List Rec) (hout : resolve .take_best l = some out)
    (c : Nat) (dict : List (Nat × List Rec)) (ra : Full)
    (hdict : dict.lookup ra.readId = some (out.filter (fun r => r.chr == c)))
    (r' : Rec) (h1 : retained out = [r']) (hc : r'.chr = c) (hra : ra.aid = r'.aid ∧ ra.chr = r'.chr)
    (hagree : ra.atype = r'.atype ∧ ra.gtype = r'.gtype ∧ ra.multimapper = r'.multimapper) :
    loadOne dict ra = some ra := by
  obtain ⟨i, hi, hi'⟩ := single_winner_untouched l h2 hin out hout r' h1
  have hmem : r' ∈ retained out := by rw [h1]; simp
  have := (losers_never_loaded l h2 hin huniq out hout c dict ra hdict i r' r' hi hi' hc hra).2 hmem
  rw [this, ← hagree.1, ← hagree.2.1, ← hagree.2.2]

/-- what the pre-fix flag rule did to the same read: the only retained record is loaded as a multimapper and contributes
    no intron and no edge - with the loser absent (`loader_keeps_unique_reads`) the same record contributes its introns -/
theorem single_winner_flow_witness :
    let ra : Full := { aid := 1, readId := 0, chr := 0, atype := .inconsistent_ambiguous, gtype := .inconsistent,
                       multimapper := false, introns := [(321, 340)], isoforms := [0, 1] }
    (match selectBestAssignmentBuggyFlag witnessSingle with
     | none => false
     | some out =>
       let loaded := (loadOne [(0, out.filter (fun r => r.chr == 0))] ra).toList
       (loaded.map (·.multimapper) == [true]) && (collectIntrons loaded == [])) = true ∧
    (match resolve .take_best witnessSingle with
     | none => false
     | some out =>
       let loaded := (loadOne [(0, out.filter (fun r => r.chr == 0))] ra).toList
       (loaded == [ra]) && (collectIntrons loaded == [(321, 340)])) = true ∧
    collectIntrons (loadOne [] ra).toList = [(321, 340)] := by
  decide +kernel

/-- a read that is not in the verdict dict (a single alignment record) is loaded as it is -/
theorem loader_keeps_unique_reads (dict : List (Nat × List Rec)) (ra : Full) (h : dict.lookup ra.readId = none) :
    loadOne dict ra = some ra := by simp [loadOne, h]

/-- `IntronCollector.collect_introns` and `IntronGraph.construct` see only non-multimapper records -/
theorem graph_ignores_multimappers (discarded : List Iv) (storage : List Full) :
    collectIntrons storage = collectIntrons (storage.filter (fun a => !a.multimapper)) ∧
    graphEdges discarded storage = graphEdges discarded (storage.filter (fun a => !a.multimapper)) := by
  constructor
  · unfold collectIntrons
    rw [List.filter_filter]
    congr 1
    apply List.filter_congr
    intro a _
    cases a.multimapper <;> simp
  · unfold graphEdges
    rw [List.filter_filter]
    congr 1
    apply List.filter_congr
    intro a _
    cases a.multimapper <;> simp

/-- so a read that stays on several records whose isoforms or genes differ (every retained record is then flagged
    `multimapper`: `ties_flagged`, `ties_flagged_genes`) contributes no intron and no edge at any of them -/
theorem tie_records_build_nothing (discarded : List Iv) (storage : List Full)
    (h : ∀ a ∈ storage, a.multimapper = true) :
    collectIntrons storage = [] ∧ graphEdges discarded storage = [] := by
  have hf : storage.filter (fun a => !a.multimapper) = [] := by
    rw [List.filter_eq_nil_iff]; intro a ha; simp [h a ha]
  obtain ⟨h1, h2⟩ := graph_ignores_multimappers discarded storage
  rw [h1, h2, hf]
  exact ⟨rfl, rfl⟩

def recA : Rec :=
  { aid := 7, readId := 3, chr := 0, start := 10, stop := 50, region := (1, 90), multimapper := false, polyA := false,
    atype := .unique, gtype := .unique, penalty := 0, isoforms := [1], genes := [0] }
def recB : Rec :=
  { aid := 9, readId := 3, chr := 1, start := 10, stop := 50, region := (1, 90), multimapper := true, polyA := false,
    atype := .suspended, gtype := .suspended, penalty := 0, isoforms := [2], genes := [1] }
def fullA : Full :=
  { aid := 7, readId := 3, chr := 0, atype := .unique, gtype := .unique, multimapper := false, introns := [(51, 99)], isoforms := [1] }
def fullB : Full :=
  { aid := 9, readId := 3, chr := 1, atype := .unique, gtype := .unique, multimapper := true, introns := [(51, 99)], isoforms := [2] }

-- the loader drops the suspended record, keeps the retained one, and the suspended one is what `SuspendedFor` names
example : load [(3, [recA, recB])] [fullA, fullB] = some [fullA] ∧ SuspendedFor [(3, [recA, recB])] fullB = true ∧
    SuspendedFor [(3, [recA, recB])] fullA = false := by decide +kernel

-- both paths on a stream with a two-record read, a three-record read and a singleton
example : let recs := [recA, { recA with readId := 4, aid := 1 }, { recB with atype := .unique, gtype := .unique },
                        { recA with readId := 5, aid := 2 }, { recA with readId := 5, aid := 3, chr := 2 },
                        { recA with readId := 5, aid := 4, chr := 3 }]
    (resolveAll .take_best (groupMulti recs)).map (·.1) = [3, 5] ∧
    resolveAll .take_best (groupMulti recs) = resolveAll .take_best (groupAll recs) := by decide +kernel

-- `losers_never_loaded` is live: the tie witness of C08.lean, verdict file of chromosome 0 - the inconsistent primary
-- (id 1) is dropped, the retained secondary (id 2) is loaded as an `ambiguous` multimapper
example : 2 ≤ witnessTie.length ∧ NoSuspendedInput witnessTie ∧
    (match resolve .take_best witnessTie with
     | none => false
     | some out =>
       let dict := [(0, out.filter (fun r => r.chr == 0))]
       let ra1 : Full := { aid := 1, readId := 0, chr := 0, atype := .inconsistent, gtype := .inconsistent,
                           multimapper := false, introns := [], isoforms := [4] }
       let ra2 : Full := { aid := 2, readId := 0, chr := 0, atype := .unique, gtype := .unique,
                           multimapper := true, introns := [], isoforms := [0] }
       (loadOne dict ra1 == none) &&
       ((loadOne dict ra2).map (fun f => (f.atype, f.multimapper)) == some (.ambiguous, true))) = true := by
  decide +kernel

-- `single_winner_loaded_as_is` is live: the read of `witnessSingle`, verdict file of chromosome 0
example : 2 ≤ witnessSingle.length ∧ NoSuspendedInput witnessSingle ∧
    witnessSingle.Pairwise (fun a b => ¬ (a.aid = b.aid ∧ a.chr = b.chr)) ∧
    (resolve .take_best witnessSingle).map retained = some [witnessSingle[0]] := by
  decide +kernel

end IsoVerif.Props.C08Flow
