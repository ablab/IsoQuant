/-
C19 — the sorted-disjoint hypothesis (`SD`, `WFl`) of the list theorems AT THE CALL SITES that hand DERIVED
lists to the list functions.  DESIGN §6 restricts C19 to sorted, pairwise disjoint, well-formed lists "what every caller passes
(monitored on the real calls)".  The all-callers monitor (`harness/mon_wrap.py` `listfns`) found two call sites where that is
false on a legal annotation with 1–3 bp exons, 1-bp introns and touching exons:

  (1) src/exon_corrector.py  `junctions_from_blocks(new_introns)` in `correct_assigned_read`: `process_events` takes the two sites
      of a corrected intron from different sources, so an intron shorter than delta can come out EMPTY (7577, 7576), and two
      corrected introns can overlap.  Before the repair only the resulting exon chain was tested (`exon.end < next exon.start`),
      which accepts the closed intron (touching exons) and does not see the exon `junctions_from_blocks` dropped:
      `corrector_guard_orig_witness`.  Repaired (fix_corrector_closed_intron): the intron list is tested first
      (`is_valid_intron_chain`); then `junctions_from_blocks` only ever sees lists in the domain of its theorems
      (`corrector_guard_sd`) and an accepted correction realises exactly the new introns (`corrector_guard_exact`).
  (2) src/graph_based_model_construction.py  `get_exons(transcript_range, intron_path)` in `construct_fl_isoforms`: after intron
      substitution a path can repeat an intron.  The site tests `len(novel_exons) != len(intron_path) + 1` right after the call;
      `get_exons_length_guard` proves that for well-formed introns this test passes EXACTLY when the path is strictly gapped
      inside the range — so behind the guard the list is in the domain and `get_exons` returns the set-theoretic result.
      The monitor therefore requires only well-formedness at this site.

  (3) `constructNonOverlapping` on an EMPTY known list with a polyA / polyT position is `none` (the code raises IndexError in
`interval_bin_search([])`): `nonoverlapping_empty_known_witness`; with the guard of fix_nonoverlapping_empty_known the
constructor is total on the empty list (`nonoverlapping_guarded_empty`) and unchanged elsewhere (`nonoverlapping_guarded_nonempty`).
-/
import IsoVerif.Model.C19Callers
import IsoVerif.Lemmas.Corrector
import IsoVerif.Lemmas.ModelConstruction
import IsoVerif.Props.C14Corrector
import IsoVerif.Props.C19Lists

namespace IsoVerif.Props.C19Callers
open IsoVerif.Gen IsoVerif.Model IsoVerif.Model.C14 IsoVerif.Model.C19Callers IsoVerif.Lemmas IsoVerif.Lemmas.C14
open IsoVerif.Props.C14Corrector

/-! ### (1) the corrector's intron-chain guard -/

/-- `is_valid_intron_chain` is exactly `Spaced`: every intron non-empty, at least one exon base between consecutive ones -/
theorem valid_intron_chain_iff (ni : List Iv) : validIntronChain ni = true ↔ Spaced ni := by
  induction ni with
  | nil => simp [validIntronChain, intronsSpaced, Spaced]
  | cons a t ih =>
    cases t with
    | nil => simp [validIntronChain, intronsSpaced, Spaced]
    | cons b t' =>
      simp only [validIntronChain, intronsSpaced, Spaced, List.all_cons, Bool.and_eq_true, decide_eq_true_eq] at ih ⊢
      constructor
      · rintro ⟨⟨ha, hall⟩, hg, hs⟩; exact ⟨ha, hg, ih.mp ⟨hall, hs⟩⟩
      · rintro ⟨ha, hg, hsp⟩
        obtain ⟨hall, hs⟩ := ih.mpr hsp
        exact ⟨⟨ha, hall⟩, hg, hs⟩

/-- **corrector_guard_sd** — behind the guard the argument of `junctions_from_blocks` satisfies the hypotheses of every C19 list
    theorem (`junctions_are_gaps`, `junctions_exons_inverse`, …): discharge of `SD` / `WFl` at exon_corrector.py -/
theorem corrector_guard_sd (ni : List Iv) (h : validIntronChain ni = true) : SD ni ∧ WFl ni :=
  ⟨Spaced_SD ((valid_intron_chain_iff ni).mp h), Spaced_WFl ((valid_intron_chain_iff ni).mp h)⟩

example : validIntronChain [(7510, 7513), (7518, 7571), (7577, 7577), (7608, 7608), (7639, 7639)] = true := by decide

/-- **corrector_guard_exact** — whatever `process_events` returns, the tail of `correct_assigned_read` gives back either the
    read's own exons or a sorted, disjoint, well-formed exon chain whose introns are EXACTLY the new introns (no intron closed,
    no exon dropped) -/
theorem corrector_guard_exact (reg : Iv) (ni exons : List Iv) :
    guardedExons reg ni exons = exons ∨
    (guardedExons reg ni exons = buildExons reg ni ∧ SD (buildExons reg ni) ∧ WFl (buildExons reg ni) ∧
      junctionsFromBlocks (buildExons reg ni) = ni) := by
  unfold guardedExons
  by_cases hi : validIntronChain ni = true
  · by_cases hc : validChain (buildExons reg ni) = true
    · right
      simp only [hi, hc, if_true, true_and]
      obtain ⟨hw, hsd⟩ := (validChain_iff _).mp hc
      have hsp := (valid_intron_chain_iff ni).mp hi
      have hfit : IntronsFit reg ni := by
        refine ⟨hsp, ?_, ?_, ?_⟩
        · intro f hf
          cases ni with
          | nil => simp at hf
          | cons a rest =>
            simp at hf; subst hf
            obtain ⟨t, ht⟩ := getLast?_cons_some a rest
            rw [buildExons_cons reg a rest t ht] at hw
            have := hw (reg.1, a.1 - 1) (by simp [chain]); simp at this; omega
        · intro l hl
          cases ni with
          | nil => simp at hl
          | cons a rest =>
            rw [buildExons_cons reg a rest l hl] at hw
            have := hw (l.2 + 1, reg.2) (by simp [chain]); simp at this; omega
        · intro e; subst e
          rw [buildExons_nil] at hw
          exact hw reg (by simp)
      exact (corrected_valid_iff reg ni).mpr hfit
    · left; simp [hi, hc]
  · left; simp [hi]

/-- the repair removes nothing that was a proper correction: new introns that fit the region are still realised -/
theorem corrector_guard_keeps_proper (reg : Iv) (ni exons : List Iv) (h : IntronsFit reg ni) :
    guardedExons reg ni exons = buildExons reg ni := by
  obtain ⟨hsd, hw, _⟩ := (corrected_valid_iff reg ni).mpr h
  have hi := (valid_intron_chain_iff ni).mpr h.1
  have hc := (validChain_iff _).mpr ⟨hw, hsd⟩
  simp [guardedExons, hi, hc]

example : IntronsFit (7479, 7940) [(7510, 7513), (7518, 7571), (7577, 7577), (7608, 7608), (7639, 7639)] := by
  refine ⟨by decide, ?_, ?_, by intro h; cases h⟩
  · intro f hf; simp at hf; subst hf; decide
  · intro l hl; simp at hl; subst hl; decide

/-- **corrector_guard_orig_witness** — the code before the repair on the failing input of the pipeline run (read r_T3_c_5,
    isoform T3_c with the 1-bp introns 7577 and 7608; `process_events` returned the empty introns (7577,7576), (7608,7607)):
    the exon-chain test alone accepts, the result has touching exons and only three of the five introns; the repaired tail
    returns the read's own exons -/
theorem corrector_guard_orig_witness :
    let reg : Iv := (7479, 7940)
    let ni : List Iv := [(7510, 7513), (7518, 7571), (7577, 7576), (7608, 7607), (7639, 7639)]
    let exons : List Iv := [(7479, 7509), (7514, 7517), (7573, 7575), (7577, 7606), (7608, 7637), (7640, 7940)]
    guardedExonsOrig reg ni exons = [(7479, 7509), (7514, 7517), (7572, 7576), (7577, 7607), (7608, 7638), (7640, 7940)] ∧
    junctionsFromBlocks (guardedExonsOrig reg ni exons) = [(7510, 7513), (7518, 7571), (7639, 7639)] ∧
    ¬ (SD ni ∧ WFl ni) ∧
    guardedExons reg ni exons = exons := by
  refine ⟨by decide, by decide, ?_, by decide⟩
  rintro ⟨_, hw⟩
  have := hw (7577, 7576) (by simp)
  simp at this

/-- second shape of the same hole (read r_T4_a_1): two corrected introns overlap, `junctions_from_blocks` drops the 2-bp exon
    between them and the exon-chain test accepts a chain that lost the intron (11178, 11179) of the read as well -/
theorem corrector_guard_orig_witness_overlap :
    let reg : Iv := (10150, 11223)
    let ni : List Iv := [(10152, 11050), (11172, 11172), (11181, 11185), (11182, 11185), (11188, 11192)]
    let exons : List Iv := [(10150, 10151), (11051, 11171), (11173, 11177), (11180, 11181), (11186, 11187), (11193, 11223)]
    guardedExonsOrig reg ni exons = [(10150, 10151), (11051, 11171), (11173, 11180), (11186, 11187), (11193, 11223)] ∧
    ¬ SD ni ∧ guardedExons reg ni exons = exons := by
  refine ⟨by decide, by decide, by decide⟩

/-! ### (2) the length guard behind `get_exons` in `construct_fl_isoforms` -/

theorem pathGapped_sd : ∀ (s : Int) (ip : List Iv) (e : Int), C04.PathGapped s ip e →
    SD ip ∧ WFl ip ∧ (∀ i ∈ ip, s < i.1 ∧ i.2 < e)
  | s, [], e, _ => by simp [SD, WFl]
  | s, [a], e, h => by
    simp only [C04.PathGapped] at h
    refine ⟨trivial, fun r hr => ?_, fun i hi => ?_⟩
    · simp at hr; subst hr; exact h.2.1
    · simp at hi; subst hi; exact ⟨h.1, by omega⟩
  | s, a :: b :: t, e, h => by
    have h' := h
    simp only [C04.PathGapped] at h
    obtain ⟨h1, h2, h3, h4, h5⟩ := h
    have hrest : C04.PathGapped (a.2 + 1) (b :: t) e := by simp only [C04.PathGapped]; exact ⟨h3, h4, h5⟩
    obtain ⟨ihsd, ihw, ihb⟩ := pathGapped_sd (a.2 + 1) (b :: t) e hrest
    refine ⟨⟨by omega, ihsd⟩, fun r hr => ?_, fun i hi => ?_⟩
    · rcases List.mem_cons.mp hr with e1 | e1
      · subst e1; exact h2
      · exact ihw r e1
    · rcases List.mem_cons.mp hi with e1 | e1
      · subst e1
        have := (ihb b (by simp)).2
        exact ⟨h1, by omega⟩
      · have := ihb i e1
        exact ⟨by omega, this.2⟩

/-- **get_exons_length_guard** — for well-formed introns, ANY order, repetitions and overlaps allowed: if `get_exons` returns
    one exon more than there are introns (the test of `construct_fl_isoforms`), then the intron list is sorted, pairwise
    disjoint, strictly inside the range — the domain of the list theorems — and the exons returned have exactly these introns.
    A path that repeats an intron, or whose introns touch or overlap, fails the test (`get_exons_guard_rejects_repeat`). -/
theorem get_exons_length_guard (s e : Int) (ip : List Iv) (hwf : ∀ i ∈ ip, i.1 ≤ i.2)
    (hlen : (getExons (s, e) ip).length = ip.length + 1) :
    SD ip ∧ WFl ip ∧ (∀ i ∈ ip, s < i.1 ∧ i.2 < e) ∧ junctionsFromBlocks (getExons (s, e) ip) = ip := by
  have hg := IsoVerif.Lemmas.C04.pathGapped_of_getExons_length s e ip hwf hlen
  obtain ⟨h1, h2, h3⟩ := pathGapped_sd s ip e hg
  exact ⟨h1, h2, h3, IsoVerif.Lemmas.C04.junctions_getExons s e ip hg⟩

example : (getExons (1000, 2300) [(1436, 1561), (1567, 1866), (2267, 2296)]).length = 3 + 1 := by decide

/-- the path the monitor saw at graph_based_model_construction.py:431 (adversarial data, seed 3): a repeated intron; the
    exon between the two copies is empty, `get_exons` drops it and the length test rejects the path -/
theorem get_exons_guard_rejects_repeat :
    let ip : List Iv := [(1005, 1435), (1562, 1566), (1562, 1566), (1867, 2266), (2297, 2298)]
    ¬ SD ip ∧ (getExons (1000, 2400) ip).length ≠ ip.length + 1 := by
  refine ⟨by decide, by decide⟩

/-! ### (3) the split-exon read profile on an empty known list -/

/-- **nonoverlapping_empty_known_witness**: with a polyA (or polyT) position the unguarded constructor raises on an empty
    known list (`interval_bin_search([])`, IndexError) — latent: none of the five callers builds the constructor on an empty
    gene info AND passes a tail position (docs/C19.md) -/
theorem nonoverlapping_empty_known_witness (cmp : Iv → Iv → Bool) (delta : Int) (R : List Iv) (pa pt : Int)
    (h : pa ≠ -1 ∨ pt ≠ -1) : constructNonOverlapping [] cmp delta R pa pt = none := by
  unfold constructNonOverlapping
  by_cases ha : pa = -1
  · have ht : pt ≠ -1 := by rcases h with h | h; exact absurd ha h; exact h
    simp [ha, ht, intervalBinSearchRev]
  · simp [ha, intervalBinSearch]

example : constructNonOverlapping [] (fun a b => overlaps_at_least_when_overlap a b 5) 6 [(1000, 1500), (2000, 3000)] 3000 (-1)
    = none := by decide +kernel

/-- with the guard (`and self.known_exons`) the constructor is total on the empty list: empty gene profile, untouched read profile -/
theorem nonoverlapping_guarded_empty (cmp : Iv → Iv → Bool) (delta : Int) (R : List Iv) (pa pt : Int) :
    ∃ res, constructNonOverlappingG [] cmp delta R pa pt = some res ∧ res.gene = [] ∧ res.read = R.map (fun _ => 0) := by
  simp [constructNonOverlappingG, constructNonOverlapping, noSweep]

/-- … and nothing changes where the list is not empty -/
theorem nonoverlapping_guarded_nonempty (K : List Iv) (hK : K ≠ []) (cmp : Iv → Iv → Bool) (delta : Int) (R : List Iv)
    (pa pt : Int) : constructNonOverlappingG K cmp delta R pa pt = constructNonOverlapping K cmp delta R pa pt := by
  cases K with
  | nil => exact absurd rfl hK
  | cons a t => simp [constructNonOverlappingG]

end IsoVerif.Props.C19Callers
