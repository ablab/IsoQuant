/-
C11 — reflection of the read-strand decision: `AlignmentCollector.get_assignment_strand` and `StrandDetector.get_strand`
(Model/Canonical.lean, property C18's model).

  mirror_dual_getAssignmentStrand : the strand reported for the mirrored read (matched transcripts flipped, polyA ↔ polyT,
      introns mirrored, detector memo mirrored) is the FLIPPED strand — for every read, every assignment type, every exon
      count, every memo, every reference pair.
Hypotheses: (a) the splice sites of each intron are read as the opposite strand on the other reference (`SiteVotesMirrored`:
a hypothesis, derived nowhere in Lean for C18's `getIntronStrand`; Props/C11Canonical.lean proves the analogous fact,
`mirror_dual_sitesOfIntron` + `mirror_dual_intronStrandOfSites`, for the string-valued model of Model/C11Canonical.lean and
a reverse-complemented upper-case reference; evaluated on the real `get_intron_strand` with real reverse complements on
every run), (b) no
tail position is mirrored onto the sentinel −1.  `assignment_strand_sentinel_witness` shows (b) is needed.
The decision layer itself (unique match → transcript strand; mono-exonic → tails, both tails → '.'; otherwise the
detector's vote with the tails as tie-break) needs no hypothesis: `mirror_dual_voteOf`, `mirror_dual_tailStrand`.
-/
import IsoVerif.Model.Canonical
import IsoVerif.Model.C11SymStrand
import IsoVerif.Lemmas.C11Mirror
import IsoVerif.Lemmas.Canonical

namespace IsoVerif.Props.C11Strand
open IsoVerif.Gen IsoVerif.Model IsoVerif.Model.C11 IsoVerif.Model.C18 IsoVerif.Lemmas IsoVerif.Lemmas.C11 IsoVerif.Lemmas.C18

/-- each intron votes for the opposite strand on the other reference -/
def SiteVotesMirrored (L : Int) (seq seq' : Seq) (introns : List Iv) : Prop :=
  ∀ it ∈ introns, getIntronStrand (mirrorIv L it) seq' = flipStrandC (getIntronStrand it seq)

/-- a real position is not mirrored onto the sentinel −1 (the same body as `NoCollM` of Lemmas/C11PolyA16.lean, which this
    file does not import, and as `PosOK` of Model/C11SymAssignMirror.lean) -/
def NoCollM (L p : Int) : Prop := p ≠ -1 → L + 1 - p ≠ -1

theorem flipStrandC_involutive (s : Strand) : flipStrandC (flipStrandC s) = s := by cases s <;> rfl

/-- the vote of `StrandDetector.get_strand`: counts swapped and tail flags swapped ⇒ strand flipped -/
theorem mirror_dual_voteOf (f r : Nat) (a t : Bool) : voteOf r f t a = flipStrandC (voteOf f r a t) := by
  simp only [voteOf]
  by_cases h : f = r
  · subst h; cases a <;> cases t <;> simp [flipStrandC]
  · have h' : ¬ (r = f) := fun e => h e.symm
    simp only [h, h', if_false]
    by_cases h2 : r < f
    · have : ¬ (f < r) := by omega
      simp [h2, this, flipStrandC]
    · have : f < r := by omega
      simp [h2, this, flipStrandC]

/-- `get_clean_strand` -/
theorem mirror_dual_cleanOf (f r : Nat) : cleanOf r f = flipStrandC (cleanOf f r) := by
  simp only [cleanOf]
  by_cases h1 : f = 0 <;> by_cases h2 : r = 0
  · simp [h1, h2, flipStrandC]
  · have : r > 0 := by omega
    simp [h1, h2, this, flipStrandC]
  · have : f > 0 := by omega
    simp [h1, h2, this, flipStrandC]
  · have a : f > 0 := by omega
    have b : r > 0 := by omega
    simp [h1, h2, flipStrandC]

/-- the mono-exonic branch: tails only, both tails (or none) ⇒ '.' -/
theorem mirror_dual_tailStrand (a t : Bool) :
    (if t && !a then Strand.plus else if a && !t then Strand.minus else Strand.dot) =
      flipStrandC (if a && !t then Strand.plus else if t && !a then Strand.minus else Strand.dot) := by
  cases a <;> cases t <;> rfl

theorem mirrorPos_ne (L p : Int) (h : NoCollM L p) : (mirrorPos L p != -1) = (p != -1) := by
  unfold mirrorPos
  by_cases hp : p = -1
  · simp [hp]
  · have := h hp
    simp only [hp, if_false]
    have e1 : (L + 1 - p != -1) = true := by simpa using this
    have e2 : (p != -1) = true := by simpa using hp
    rw [e1, e2]

theorem lookup_mirrorStrandDict (L : Int) (σ : StrandDict) (it : Iv) :
    (mirrorStrandDict L σ).lookup (mirrorIv L it) = (σ.lookup it).map flipStrandC :=
  lookup_map (mirrorIv L) (mirrorIv_injective L) flipStrandC σ it

theorem eff_mirror (L : Int) (seq seq' : Seq) (σ : StrandDict) (it : Iv)
    (h : getIntronStrand (mirrorIv L it) seq' = flipStrandC (getIntronStrand it seq)) :
    eff (mirrorStrandDict L σ) seq' (mirrorIv L it) = flipStrandC (eff σ seq it) := by
  simp only [eff, lookup_mirrorStrandDict, h]
  cases σ.lookup it <;> rfl

/-- **mirror_dual_countCanonicalSites** — the two counters swap (the counters are those of `count_spec`: the introns
    by effective strand, whatever the memo holds) -/
theorem mirror_dual_countCanonicalSites (L : Int) (seq seq' : Seq) (introns : List Iv) (σ : StrandDict)
    (hs : SiteVotesMirrored L seq seq' introns) :
    (countCanonicalSites seq' (mirrorL L introns) (mirrorStrandDict L σ)).1 =
      ((countCanonicalSites seq introns σ).1.2, (countCanonicalSites seq introns σ).1.1) := by
  rw [(count_spec seq' _ _).1, (count_spec seq introns σ).1]
  have key : ∀ s : Strand, (mirrorL L introns).countP (fun it => decide (eff (mirrorStrandDict L σ) seq' it = s)) =
      introns.countP (fun it => decide (eff σ seq it = flipStrandC s)) := by
    intro s
    simp only [mirrorL, List.countP_reverse, List.countP_map]
    apply List.countP_congr
    intro it hit
    simp only [Function.comp, eff_mirror L seq seq' σ it (hs it hit)]
    cases eff σ seq it <;> cases s <;> simp [flipStrandC]
  simp only [nPlus, nMinus, key]
  rfl

/-- **mirror_dual_detGetStrand** — `StrandDetector.get_strand` on the mirrored introns with the tail flags swapped -/
theorem mirror_dual_detGetStrand (L : Int) (seq seq' : Seq) (introns : List Iv) (a t : Bool) (σ : StrandDict)
    (hs : SiteVotesMirrored L seq seq' introns) :
    (detGetStrand seq' (mirrorL L introns) t a (mirrorStrandDict L σ)).1 = flipStrandC (detGetStrand seq introns a t σ).1 := by
  simp only [detGetStrand, mirror_dual_countCanonicalSites L seq seq' introns σ hs]
  exact mirror_dual_voteOf _ _ a t

theorem mirror_dual_getCleanStrand (L : Int) (seq seq' : Seq) (introns : List Iv) (σ : StrandDict)
    (hs : SiteVotesMirrored L seq seq' introns) :
    (getCleanStrand seq' (mirrorL L introns) (mirrorStrandDict L σ)).1 = flipStrandC (getCleanStrand seq introns σ).1 := by
  simp only [getCleanStrand, mirror_dual_countCanonicalSites L seq seq' introns σ hs]
  exact mirror_dual_cleanOf _ _

/-- **mirror_dual_getAssignmentStrand** — `get_assignment_strand` of the mirrored read is the flipped strand -/
theorem mirror_dual_getAssignmentStrand (L : Int) (seq seq' : Seq) (ra : ReadStrandInfo) (σ : StrandDict)
    (hs : SiteVotesMirrored L seq seq' ra.correctedIntrons)
    (h1 : NoCollM L ra.extPolyA) (h2 : NoCollM L ra.intPolyA) (h3 : NoCollM L ra.extPolyT) (h4 : NoCollM L ra.intPolyT) :
    (getAssignmentStrand seq' (mirrorStrandInfo L ra) (mirrorStrandDict L σ)).1 =
      flipStrandC (getAssignmentStrand seq ra σ).1 := by
  have hA : (mirrorStrandInfo L ra).hasPolyA = ra.hasPolyT := by
    simp only [ReadStrandInfo.hasPolyA, ReadStrandInfo.hasPolyT, mirrorStrandInfo, mirrorPos_ne L _ h3, mirrorPos_ne L _ h4]
  have hT : (mirrorStrandInfo L ra).hasPolyT = ra.hasPolyA := by
    simp only [ReadStrandInfo.hasPolyA, ReadStrandInfo.hasPolyT, mirrorStrandInfo, mirrorPos_ne L _ h1, mirrorPos_ne L _ h2]
  have hU : (mirrorStrandInfo L ra).uniqueMatchStrand = ra.uniqueMatchStrand.map flipStrandC := by
    simp only [ReadStrandInfo.uniqueMatchStrand, mirrorStrandInfo]
    cases ra.matchStrands with
    | nil => rfl
    | cons ms rest =>
      simp only [List.map_cons]
      split <;> simp [*]
  simp only [getAssignmentStrand, hU]
  cases ra.uniqueMatchStrand with
  | some ms => rfl
  | none =>
    simp only [Option.map_none, strandViaSites, hA, hT]
    have hn : (mirrorStrandInfo L ra).nExons = ra.nExons := rfl
    have hi : (mirrorStrandInfo L ra).correctedIntrons = mirrorL L ra.correctedIntrons := rfl
    rw [hn, hi]
    split
    · exact mirror_dual_tailStrand ra.hasPolyA ra.hasPolyT
    · exact mirror_dual_detGetStrand L seq seq' ra.correctedIntrons ra.hasPolyA ra.hasPolyT σ hs

/-- non-vacuity: an unspliced, not uniquely assigned read with BOTH a polyT head and a polyA tail is '.' in both
    orientations; with the polyA tail only it is '+', its mirror image '-' -/
example :
    (getAssignmentStrand [] ⟨[.plus], "ambiguous", 500, -1, 100, -1, 1, []⟩ []).1 = .dot ∧
    (getAssignmentStrand [] (mirrorStrandInfo 1000 ⟨[.plus], "ambiguous", 500, -1, 100, -1, 1, []⟩) []).1 = .dot ∧
    (getAssignmentStrand [] ⟨[.plus], "ambiguous", 500, -1, -1, -1, 1, []⟩ []).1 = .plus ∧
    (getAssignmentStrand [] (mirrorStrandInfo 1000 ⟨[.plus], "ambiguous", 500, -1, -1, -1, 1, []⟩) []).1 = .minus := by
  decide

/-- **assignment_strand_sentinel_witness** — hypothesis (b) is needed: a polyA tail at L + 2 is mirrored onto −1, the
    mirrored read has no tail and is '.' instead of '-' -/
theorem assignment_strand_sentinel_witness :
    (getAssignmentStrand [] ⟨[], "intergenic", 1002, -1, -1, -1, 1, []⟩ []).1 = .plus ∧
    (getAssignmentStrand [] (mirrorStrandInfo 1000 ⟨[], "intergenic", 1002, -1, -1, -1, 1, []⟩) []).1 = .dot := by decide

end IsoVerif.Props.C11Strand
