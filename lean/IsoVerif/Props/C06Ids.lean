/-
C06 — the components of the generated shared-state inventory: per-chromosome outputs do not depend on them.
Property theorems only; lemmas in IsoVerif/Lemmas/C06Ids.lean, C06Pipeline.lean.
-/
import IsoVerif.Model.Schedule
import IsoVerif.Lemmas.Schedule
import IsoVerif.Lemmas.C06Ids
import IsoVerif.Lemmas.C06Pipeline
import IsoVerif.Props.C06

namespace IsoVerif.Props.C06
open IsoVerif.Model.C06 IsoVerif.Lemmas.C06

/-! ### `ReadAssignment.assignment_id_generator` -/

/-- the loader compares assignment ids for equality only (with ids of the same chromosome): replacing every id
    `i` by `g i` for an injective `g`, in the save file and in the multimapper table alike, keeps and drops
    exactly the same reads with the same verdicts -/
theorem assignment_id_renumbering_invariant (g : Nat → Nat) (hg : ∀ a b, g a = g b → a = b)
    (chr : String) (mm : List MMRec) (ids : List (Nat × ReadRec)) :
    loadBlock chr (mm.map (renumMM g)) (renumIds g ids) = loadBlock chr mm ids :=
  loadBlock_renumber g hg chr mm ids

/-- non-vacuity: a table in which the id decides (two alignments of one read on the chromosome, one suspended) -/
example : loadBlock "c" [⟨"r", "c", 4, none⟩, ⟨"r", "c", 5, some 9⟩] [(4, ⟨"r", 1⟩), (5, ⟨"r", 2⟩), (6, ⟨"u", 3⟩)]
    = [⟨"r", 9⟩, ⟨"u", 3⟩] := by decide +kernel

/-- the ids do matter when the renumbering is not injective -/
theorem assignment_id_collision_witness :
    loadBlock "c" ([⟨"r", "c", 4, none⟩, ⟨"r", "c", 5, some 9⟩].map (renumMM (fun _ => 0)))
        (renumIds (fun _ => 0) [(4, ⟨"r", 1⟩), (5, ⟨"r", 2⟩)])
      ≠ loadBlock "c" [⟨"r", "c", 4, none⟩, ⟨"r", "c", 5, some 9⟩] [(4, ⟨"r", 1⟩), (5, ⟨"r", 2⟩)] := by decide +kernel

/-- a worker whose counter stands at `σ.assignCtr` writes the save file of a fresh worker with every id shifted by
    that amount: an injective renumbering, and nothing else of the worker state shows -/
theorem collect_ids_shift (σ : WState) (c : Chr) :
    (collectTask σ c).1 = shiftSave σ.assignCtr (collectTask {} c).1 :=
  collectTask_shift σ c

/-- ids handed out inside one task are pairwise different (the counter only grows) -/
theorem collect_ids_increasing (ctr : Nat) (rs : List ReadRec) :
    (numberReads ctr rs).map Prod.fst = (List.range rs.length).map (fun i => ctr + 1 + i) := by
  induction rs generalizing ctr with
  | nil => rfl
  | cons r rs ih =>
    simp only [numberReads, List.map_cons, List.length_cons, List.range_succ_eq_map, List.map_map, ih]
    simp only [List.cons.injEq, Nat.add_zero, true_and]
    apply List.map_congr_left
    intro i _
    simp only [Function.comp]
    omega

/-! ### `FeatureInfo.feature_id_counter`, `MultimapResolver.duplicate_counter` -/

/-- no task's output depends on the FeatureInfo counter or on the duplicate counter (the latter lives in the parent:
    only the log depends on it) -/
theorem feature_id_counter_unread (σ : WState) (n : Nat) (c : Chr) (t : Task2) :
    (collectTask { σ with featCtr := n } c).1 = (collectTask σ c).1 ∧
    (constructTask { σ with featCtr := n } t).1 = (constructTask σ t).1 :=
  ⟨collectBlocks_ctr_only _ _ _ rfl, constructBlocks_detected_only _ _ _ _ _ rfl⟩

theorem duplicate_counter_log_only (σ : WState) (n : Nat) (c : Chr) (t : Task2) :
    (collectTask { σ with dupCtr := n } c).1 = (collectTask σ c).1 ∧
    (constructTask { σ with dupCtr := n } t).1 = (constructTask σ t).1 :=
  ⟨collectBlocks_ctr_only _ _ _ rfl, constructBlocks_detected_only _ _ _ _ _ rfl⟩

/-! ### `GraphBasedModelConstructor.detected_known_isoforms` -/

/-- after /repo 42b6bc8 (set cleared at task start) the output of `construct_models_in_parallel` for a chromosome
    is the same in every worker state -/
theorem construct_state_independent (σ σ' : WState) (t : Task2) :
    (constructTask σ t).1 = (constructTask σ' t).1 :=
  constructBlocks_detected_only _ _ _ _ _ rfl

/-- hence the second pool returns the same list under every schedule -/
theorem construct_schedule_independent (tasks : List Task2) (st st' : Nat → WState) (s s' : List Event)
    (hs : ValidSchedule tasks.length s) (hs' : ValidSchedule tasks.length s') :
    poolMap constructTask tasks st s = poolMap constructTask tasks st' s' :=
  schedule_independent constructTask tasks (fun σ₁ σ₂ c => construct_state_independent σ₁ σ₂ c) st st' s s' hs hs'

/-- full statement for the code *without* the reset: `∀ σ σ' t, (constructTaskNoReset σ t).1 = (constructTaskNoReset σ' t).1`.
    It is false (witness below).  What holds: ids a worker has already reported do not matter as long as none of them
    is a candidate of this chromosome (a reference transcript id lives on one chromosome) -/
theorem detected_known_independent_partial (σ : WState) (t : Task2)
    (disjoint : ∀ p, p ∈ t.save → ∀ x, x ∈ p.1.known → x ∉ σ.detected) :
    (constructTaskNoReset σ t).1 = (constructTaskNoReset { σ with detected := [] } t).1 := by
  unfold constructTaskNoReset
  have := constructBlocks_append t.name t.mm σ.detected t.save { σ with detected := [] } disjoint
  simpa using this

example : ∀ p, p ∈ ([(⟨0, [], ["T1"], 0⟩, [])] : SaveFile) → ∀ x, x ∈ p.1.known → x ∉ ({ detected := ["T2"] } : WState).detected := by
  decide +kernel

/-- without the reset, two chromosomes that both carry a candidate `T1` are reported differently when one worker
    handles both than when two workers share them -/
theorem detected_known_witness :
    let t : Task2 := { name := "c", save := [(⟨0, [], ["T1"], 0⟩, [])], mm := [] }
    poolMap constructTaskNoReset [t, t] (fun _ => {}) [(0, 0), (0, 1)]
      ≠ poolMap constructTaskNoReset [t, t] (fun _ => {}) [(0, 0), (1, 1)] := by
  decide +kernel

/-- **reference semantics.**  For every pair of valid schedules, every number of workers and every initial worker
    state (forked from any parent state; `--threads 1` = one worker that carries its state from the first pool
    into the second), the outputs of `pipeline` are those of the sequential run in which *every* task is executed by
    a fresh worker: assignment ids are shifted per chromosome by the schedule-dependent counter value, the shift
    passes through the multimapper table of the parent and cancels in the loader's equality test; the other
    components of the worker state are reset or never read. -/
theorem pipeline_eq_reference (resolve : List (String × Nat) → List (Option Nat)) (chrs : List Chr)
    (hn : (chrs.map (·.name)).Nodup)
    (st1 st2 : Nat → WState) (s1 s2 : List Event)
    (h1 : ValidSchedule chrs.length s1) (h2 : ValidSchedule chrs.length s2) (order : List Nat) :
    pipeline resolve chrs st1 s1 st2 s2 order
      = order.mapM (fun i => (outsOf resolve chrs (chrs.map (fun c => (collectTask {} c).1)))[i]?) := by
  obtain ⟨K, hK⟩ := pool1_shape chrs hn st1 s1 h1
  unfold pipeline
  rw [hK, IsoVerif.Lemmas.mapM_id_map_some]
  simp only []
  have hlen : (((chrs.map (·.name)).zip (chrs.map (fun c => (collectTask {} c).1))).map
      (fun p => shiftSave (K p.1) p.2)).length = chrs.length := by simp
  have h2' : ValidSchedule (tasks2 resolve chrs (((chrs.map (·.name)).zip (chrs.map (fun c => (collectTask {} c).1))).map
      (fun p => shiftSave (K p.1) p.2))).length s2 := by
    rw [tasks2_length resolve chrs _ hlen]; exact h2
  rw [poolMap_eq_map constructTask _ {} (fun σ₁ σ₂ c => construct_state_independent σ₁ σ₂ c) st2 s2 h2',
      IsoVerif.Lemmas.mapM_id_map_some]
  simp only []
  have := outsOf_shift resolve chrs (chrs.map (fun c => (collectTask {} c).1)) K
  unfold outsOf at this
  rw [this]
  rfl

/-- **C06 for the model**: the merged per-chromosome outputs of a sample are the same for all schedules of both
    pools, all worker counts and all initial worker states -/
theorem pipeline_schedule_independent (resolve : List (String × Nat) → List (Option Nat)) (chrs : List Chr)
    (hn : (chrs.map (·.name)).Nodup)
    (st1 st1' st2 st2' : Nat → WState) (s1 s1' s2 s2' : List Event)
    (h1 : ValidSchedule chrs.length s1) (h1' : ValidSchedule chrs.length s1')
    (h2 : ValidSchedule chrs.length s2) (h2' : ValidSchedule chrs.length s2') (order : List Nat) :
    pipeline resolve chrs st1 s1 st2 s2 order = pipeline resolve chrs st1' s1' st2' s2' order := by
  rw [pipeline_eq_reference resolve chrs hn st1 st2 s1 s2 h1 h2,
      pipeline_eq_reference resolve chrs hn st1' st2' s1' s2' h1' h2']

/-- non-vacuity: two chromosomes sharing a multimapped read, two schedule pairs (sequential with carried state;
    two workers with reversed completion), outputs present and equal -/
example :
    let chrs : List Chr := [{ name := "chr1", blocks := [⟨2, [⟨"r", 1⟩, ⟨"u", 2⟩], ["T1"], 1⟩] },
                            { name := "chr2", blocks := [⟨3, [⟨"r", 4⟩], ["T2"], 0⟩] }]
    let res : List (String × Nat) → List (Option Nat) := fun l => l.map (fun x => if x.2 == 4 then none else some 7)
    (chrs.map (·.name)).Nodup ∧
    pipeline res chrs (fun _ => {}) [(0, 0), (0, 1)] (fun _ => { assignCtr := 3, featCtr := 5 }) [(0, 0), (0, 1)] [0, 1]
      = some [⟨[⟨"r", 7⟩, ⟨"u", 2⟩], ["T1"]⟩, ⟨[], ["T2"]⟩] ∧
    pipeline res chrs (fun _ => {}) [(1, 1), (0, 0)] (fun _ => {}) [(0, 1), (1, 0)] [0, 1]
      = some [⟨[⟨"r", 7⟩, ⟨"u", 2⟩], ["T1"]⟩, ⟨[], ["T2"]⟩] := by
  decide +kernel

end IsoVerif.Props.C06
