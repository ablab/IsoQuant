/-
C03, text level — ORDER of the records of one `GFFPrinter.dump` call and consistency of the ids inside a block
(Model/GtfText.lean).

What the code does (Model/GtfText.lean): gene blocks follow the stable sort of the genes by their range; the transcript blocks
of a gene follow the ORDER OF THE STORAGE (no sort key at all); feature lines are sorted by `(start, end, type)`, descending
exactly when the strand is `-`, and numbered 1, 2, … over exons AND other features.  Proved here: the groups of the first loop
are in storage order (`collect_groups_in_storage_order`), the shape of a gene's part of the output (`gene_block_shape`), the ids
inside a block (`gene_attr_consistent`); the two sorts only as permutations and on `decide` witnesses.  So the printing order
is a function of the storage as a LIST, not as a set (`order_total_witness`, `order_gene_tie_witness`); what is a function of
the set is stated in `order_total_partial`.
-/
import IsoVerif.Model.GtfText
import IsoVerif.Lemmas.C03Text
import IsoVerif.Props.C03Text

namespace IsoVerif.Props.C03TextOrder
open IsoVerif.Gen IsoVerif.Model.C17 IsoVerif.Model.C03T IsoVerif.Lemmas.C17 IsoVerif.Lemmas.C03T IsoVerif.Props.C03Text

/-- a model as the second loop sees it: `none` when the exon list is empty (the call aborts) -/
def placed? (m : AModel) : Option PlacedT :=
  match m.exons.head?, m.exons.getLast? with
  | some f, some l => some (m, (f.1, l.2))
  | _, _ => none

def modelsOf (ms : List AModel) (g : Str) : List PlacedT :=
  (ms.filter (fun m => validateExons m.exons && decide (m.gid = g))).filterMap placed?

/-- **collect_groups_in_storage_order.**  After the first loop of a call that does not abort, the entry of gene `g`
    holds what it held before followed by exactly the valid models of the storage whose `gene_id` is `g`, in the order of
    the storage; a gene without a valid model has no entry. -/
theorem collect_groups_in_storage_order (gi : GInfo) : ∀ (ms : List AModel) (acc acc' : List (Str × GRecT)),
    collectT gi ms acc = some acc' → ∀ g,
      (assocGet g acc').map (·.models) =
        match assocGet g acc with
        | some r => some (r.models ++ modelsOf ms g)
        | none => if modelsOf ms g = [] then none else some (modelsOf ms g)
  | [], acc, acc', h, g => by
      simp only [collectT, Option.some.injEq] at h
      subst h
      cases assocGet g acc <;> simp [modelsOf]
  | m :: ms, acc, acc', h, g => by
      simp only [collectT] at h
      by_cases hv : validateExons m.exons = true
      · simp only [hv, if_true] at h
        split at h
        · next f l hf hl =>
          have hp : placed? m = some (m, (f.1, l.2)) := by simp [placed?, hf, hl]
          have hcons : modelsOf (m :: ms) g = if m.gid = g then (m, (f.1, l.2)) :: modelsOf ms g else modelsOf ms g := by
            by_cases e : m.gid = g <;> simp [modelsOf, hv, e, hp]
          split at h
          · next hnone =>
            split at h
            · have ih := collect_groups_in_storage_order gi ms _ acc' h g
              rw [ih, hcons]
              by_cases e : m.gid = g
              · subst e
                simp [assocGet_set_same, hnone]
              · have e' : g ≠ m.gid := fun x => e x.symm
                simp [assocGet_set_other _ _ _ e', e]
            · cases h
          · next rec hsome =>
            split at h
            · have ih := collect_groups_in_storage_order gi ms _ acc' h g
              rw [ih, hcons]
              by_cases e : m.gid = g
              · subst e
                simp [assocGet_set_same, hsome]
              · have e' : g ≠ m.gid := fun x => e x.symm
                simp [assocGet_set_other _ _ _ e', e]
            · cases h
        · cases h
      · have hv' : validateExons m.exons = false := by simpa using hv
        simp only [hv', Bool.false_eq_true, if_false] at h
        have hcons : modelsOf (m :: ms) g = modelsOf ms g := by simp [modelsOf, hv']
        rw [hcons]
        exact collect_groups_in_storage_order gi ms acc acc' h g

/-- non-vacuity: a storage whose two genes interleave -/
example : ∃ acc', collectT { chr := "c".toList }
    [ { chr := "c".toList, strand := "+".toList, tid := "T1".toList, gid := "G".toList, source := [], exons := [(1, 2)], other := [], additional := [] },
      { chr := "c".toList, strand := "+".toList, tid := "T2".toList, gid := "H".toList, source := [], exons := [(5, 6)], other := [], additional := [] },
      { chr := "c".toList, strand := "+".toList, tid := "T3".toList, gid := "G".toList, source := [], exons := [(1, 9)], other := [], additional := [] } ] []
    = some acc' ∧ ((assocGet "G".toList acc').map (fun r => r.models.map (·.1.tid))) = some ["T1".toList, "T3".toList] := by
  refine ⟨_, rfl, ?_⟩
  decide +kernel

/-- **gene_attr_consistent** (block level).  The lines of one transcript are its transcript line — seqname, source,
    strand, `gene_id`, `transcript_id` of the model, the transcript region, `additional_info` with the `exons` count —
    followed by feature lines that all carry the SAME seqname, source, strand, `gene_id` and `transcript_id`. -/
theorem gene_attr_consistent (gi : GInfo) (p : PlacedT) (ls : List SLine) (h : modelBlock gi p = some ls) :
    ∃ extra fl, ls = SLine.transcript p.1.chr p.1.source p.2.1 p.2.2 p.1.strand p.1.gid p.1.tid (withExons p.1) extra :: fl ∧
      ∀ l ∈ fl, SLine.chr l = p.1.chr ∧ SLine.source l = p.1.source ∧ SLine.strand l = p.1.strand ∧
        SLine.gid l = p.1.gid ∧ SLine.tid? l = some p.1.tid ∧ (SLine.key? l).isSome := by
  unfold modelBlock at h
  simp only at h
  split at h
  · cases h
  · next fl hfl =>
    simp only [Option.some.injEq] at h
    refine ⟨_, fl, h.symm, ?_⟩
    intro l hl
    obtain ⟨ie, _, hie⟩ := IsoVerif.Lemmas.mapM_option_mem _ _ _ hfl l hl
    unfold featureLine at hie
    split at hie
    · cases hie
    · simp only [Option.some.injEq] at hie
      subst hie
      simp [SLine.chr, SLine.source, SLine.strand, SLine.gid, SLine.tid?, SLine.key?]

/-- the models stored under gene `g` by the first loop carry `gene_id = g` (the `assert model.gene_id == gene_id` of the
    second loop can never fail) -/
theorem group_gene_ids (ms : List AModel) (g : Str) : ∀ p ∈ modelsOf ms g, p.1.gid = g := by
  intro p hp
  simp only [modelsOf, List.mem_filterMap, List.mem_filter, Bool.and_eq_true, decide_eq_true_eq] at hp
  obtain ⟨m, ⟨_, _, hg⟩, hpm⟩ := hp
  unfold placed? at hpm
  split at hpm
  · simp only [Option.some.injEq] at hpm; subst hpm; exact hg
  · cases hpm

/-- **gene_block_shape** (gene level): the part of the output of a call that belongs to `g` is its gene line — unless the printer
    has written gene `g` before — followed by the blocks of its models (storage order); by the two theorems above every
    transcript and feature line of these blocks carries `gene_id = g`. -/
theorem gene_block_shape (gi : GInfo) (g : Str) (rec : GRecT) (gs : List (Str × GRecT)) (printed : List Str)
    (out : List SLine) (printed' : List Str) (h : emitGenesT gi ((g, rec) :: gs) printed = some (out, printed')) :
    ∃ blocks rest, rec.models.mapM (modelBlock gi) = some blocks ∧
      out = (if g ∈ printed then [] else [geneLine gi g rec]) ++ blocks.flatten ++ rest ∧
      ∃ pr, emitGenesT gi gs (if g ∈ printed then printed else printed ++ [g]) = some (rest, pr) := by
  simp only [emitGenesT] at h
  cases hb : rec.models.mapM (modelBlock gi) with
  | none => simp [hb] at h
  | some blocks =>
    simp only [hb] at h
    by_cases hp : g ∈ printed
    · simp only [hp, if_true] at h ⊢
      cases hr : emitGenesT gi gs printed with
      | none => simp [hr] at h
      | some r =>
        simp only [hr, Option.some.injEq, Prod.mk.injEq] at h
        exact ⟨blocks, r.1, rfl, by simp [← h.1], r.2, rfl⟩
    · simp only [hp, if_false] at h ⊢
      cases hr : emitGenesT gi gs (printed ++ [g]) with
      | none => simp [hr] at h
      | some r =>
        simp only [hr, Option.some.injEq, Prod.mk.injEq] at h
        exact ⟨blocks, r.1, rfl, by simp [← h.1], r.2, rfl⟩

theorem numberFrom_fst {α} : ∀ (l : List α) (i : Nat), (numberFrom i l).map (·.1) = List.range' i l.length
  | [], _ => rfl
  | _ :: xs, i => by simp [numberFrom, numberFrom_fst xs (i + 1), List.range'_succ]

theorem numberFrom_snd {α} : ∀ (l : List α) (i : Nat), (numberFrom i l).map (·.2) = l
  | [], _ => rfl
  | _ :: xs, i => by simp [numberFrom, numberFrom_snd xs (i + 1)]

/-- **feature_lines_are_the_features.**  The features printed for a model are a permutation of its other features and its
    exons (tagged `exon`): nothing added, nothing dropped; `exon_number` runs 1, 2, …, n over ALL of them. -/
theorem feature_lines_are_the_features (m : AModel) :
    (featsToPrint m).Perm (m.other ++ m.exons.map (fun e => (e.1, e.2, gtf_exon_feature.toList))) ∧
    (numberFrom 1 (featsToPrint m)).map (·.1) = List.range' 1 (m.other.length + m.exons.length) := by
  have hp : (featsToPrint m).Perm (m.other ++ m.exons.map (fun e => (e.1, e.2, gtf_exon_feature.toList))) := by
    unfold featsToPrint
    simp only
    split <;> exact pySorted_perm _ _
  refine ⟨hp, ?_⟩
  rw [numberFrom_fst]
  congr 1
  simpa using hp.length_eq

/-- **order_exon_lines_witness**: the direction depends on the strand — ascending on `+` and on `.`, descending on `-`;
    other features are interleaved with the exons and take part in the numbering (`exon_number "2"` is a CDS). -/
theorem order_exon_lines_witness :
    let m (s : String) : AModel := { chr := "c".toList, strand := s.toList, tid := "T".toList, gid := "G".toList, source := [],
                                     exons := [(10, 20), (30, 40)], other := [(10, 20, "CDS".toList)], additional := [] }
    (numberFrom 1 (featsToPrint (m "+"))).map (fun p => (p.1, p.2.1, String.ofList p.2.2.2))
        = [(1, 10, "CDS"), (2, 10, "exon"), (3, 30, "exon")] ∧
    (numberFrom 1 (featsToPrint (m "."))).map (fun p => (p.1, p.2.1, String.ofList p.2.2.2))
        = [(1, 10, "CDS"), (2, 10, "exon"), (3, 30, "exon")] ∧
    (numberFrom 1 (featsToPrint (m "-"))).map (fun p => (p.1, p.2.1, String.ofList p.2.2.2))
        = [(1, 30, "exon"), (2, 10, "exon"), (3, 10, "CDS")] := by
  decide +kernel

def wModel (tid gid : String) (exons : List (Int × Int)) : AModel :=
  { chr := "c1".toList, strand := "+".toList, tid := tid.toList, gid := gid.toList, source := "IsoQuant".toList,
    exons := exons, other := [], additional := [] }

def wGi : GInfo := { chr := "c1".toList }
def wSt : FeatureIdStorage := FeatureIdStorage.init SimpleIDDistributor.init none "c1".toList

def textOf (ms : List AModel) : Option (List String) :=
  (dumpText wSt [] wGi ms).map (fun r => r.1.map String.ofList)

theorem textOf_eq (ms : List AModel) : textOf ms = (textLines wSt [] wGi ms).map (List.map String.ofList) := by
  simp [textOf, ← dumpText_fst, Function.comp_def]

/-- **order_total_witness.**  `OrderTotal` (the text of a call is the same for any two storages that are permutations of
    one another) is FALSE: two transcripts of one gene are printed in the order of the storage.  (Here even the `exon_id`s
    differ: they are drawn in printing order.) -/
theorem order_total_witness :
    let a := wModel "T1" "G1" [(10, 20), (30, 40)]
    let b := wModel "T2" "G1" [(10, 20), (50, 60)]
    [a, b].Perm [b, a] ∧ textOf [a, b] ≠ textOf [b, a] ∧ (textOf [a, b]).isSome ∧
    ((dumpPlanT [] wGi [a, b]).map (fun r => r.1.filterMap (fun l => match l with | SLine.transcript _ _ _ _ _ _ t _ _ => some (String.ofList t) | _ => none)))
      = some ["T1", "T2"] ∧
    ((dumpPlanT [] wGi [b, a]).map (fun r => r.1.filterMap (fun l => match l with | SLine.transcript _ _ _ _ _ _ t _ _ => some (String.ofList t) | _ => none)))
      = some ["T2", "T1"] := by
  intro a b
  refine ⟨List.Perm.swap _ _ _, ?_, ?_, by decide +kernel, by decide +kernel⟩
  · rw [textOf_eq, textOf_eq]
    exact fun h => absurd (map_ofList_injective h) (by decide +kernel)
  · rw [textOf_eq, Option.isSome_map]
    decide +kernel

/-- **order_gene_tie_witness.**  Two genes with the same range: the sort is stable, the block order is the order of first
    appearance in the storage. -/
theorem order_gene_tie_witness :
    let c := wModel "T3" "G2" [(100, 200)]
    let d := wModel "T4" "G3" [(100, 200)]
    ((dumpPlanT [] wGi [c, d]).map (fun r => r.1.filterMap (fun l => match l with | SLine.gene _ _ _ _ _ g _ _ => some (String.ofList g) | _ => none)))
      = some ["G2", "G3"] ∧
    ((dumpPlanT [] wGi [d, c]).map (fun r => r.1.filterMap (fun l => match l with | SLine.gene _ _ _ _ _ g _ _ => some (String.ofList g) | _ => none)))
      = some ["G3", "G2"] := by
  decide +kernel

/-- the full-strength statement (FALSE, see the two witnesses): the lines of a call do not depend on the order of the storage -/
def OrderTotal : Prop :=
  ∀ (st : FeatureIdStorage) (printed : List Str) (gi : GInfo) (ms ms' : List AModel), ms.Perm ms' →
    dumpText st printed gi ms = dumpText st printed gi ms'

theorem order_total_false : ¬ OrderTotal := by
  intro h
  have e := h wSt [] wGi [wModel "T1" "G1" [(10, 20), (30, 40)], wModel "T2" "G1" [(10, 20), (50, 60)]]
    [wModel "T2" "G1" [(10, 20), (50, 60)], wModel "T1" "G1" [(10, 20), (30, 40)]] (List.Perm.swap _ _ _)
  exact order_total_witness.2.1 (by rw [textOf, textOf, e])

/-- **order_total_partial.**  What IS independent of the storage order: if two storages list the valid models of every gene
    in the same relative order (any interleaving of different genes), the first loop of `dump` builds the same group for
    every gene.  Missing for full strength: (1) the order inside a gene is the storage order (`order_total_witness`) — the
    storage is filled by deterministic list appends, so this is C06's determinism of the construction, not a set iteration;
    (2) gene blocks with EQUAL ranges follow first appearance in the storage (`order_gene_tie_witness`); (3) fresh `exon_id`
    numbers are drawn in printing order. -/
theorem order_total_partial (gi : GInfo) (ms ms' : List AModel) (acc acc' : List (Str × GRecT))
    (h : collectT gi ms [] = some acc) (h' : collectT gi ms' [] = some acc')
    (hsame : ∀ g, modelsOf ms g = modelsOf ms' g) :
    ∀ g, (assocGet g acc).map (·.models) = (assocGet g acc').map (·.models) := by
  intro g
  rw [collect_groups_in_storage_order gi ms [] acc h g, collect_groups_in_storage_order gi ms' [] acc' h' g, hsame g]

def oA : AModel := ⟨['c'], ['+'], ['T', '1'], ['G', '1'], [], [(1, 2)], [], []⟩
def oB : AModel := ⟨['c'], ['+'], ['T', '2'], ['G', '2'], [], [(5, 6)], [], []⟩
def oC : AModel := ⟨['c'], ['+'], ['T', '3'], ['G', '1'], [], [(1, 9)], [], []⟩

/-- non-vacuity: two different storages (genes interleaved differently) meet the hypothesis -/
example : ∃ acc acc', collectT ⟨['c'], [], [], []⟩ [oA, oB, oC] [] = some acc ∧
    collectT ⟨['c'], [], [], []⟩ [oB, oA, oC] [] = some acc' ∧ [oA, oB, oC] ≠ [oB, oA, oC] ∧
    (∀ g, modelsOf [oA, oB, oC] g = modelsOf [oB, oA, oC] g) := by
  refine ⟨_, _, rfl, rfl, by decide +kernel, ?_⟩
  intro g
  by_cases h1 : g = ['G', '1']
  · subst h1; decide +kernel
  · by_cases h2 : g = ['G', '2']
    · subst h2; decide +kernel
    · have e1 : ¬ (['G', '1'] = g) := fun e => h1 e.symm
      have e2 : ¬ (['G', '2'] = g) := fun e => h2 e.symm
      simp [modelsOf, oA, oB, oC, e1, e2]

end IsoVerif.Props.C03TextOrder
