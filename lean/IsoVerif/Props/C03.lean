/-
C03 — the gate `validate_exons` and what reaches the file: everything printed passed the gate; what the gate
guarantees (sorted, 1 <= start <= end, and - because an empty list aborts the call - at least one exon); what it does
NOT guarantee (non-overlap: witness), and why the transcript record spans its exons.
-/
import IsoVerif.Model.Gtf
import IsoVerif.Lemmas.Interval
import IsoVerif.Lemmas.C03GtfDump
import IsoVerif.Props.C03Hist

namespace IsoVerif.Props.C03
open IsoVerif.Gen IsoVerif.Model IsoVerif.Lemmas IsoVerif.Props.C03Hist IsoVerif.Model.C03 IsoVerif.Lemmas.C03

/-- **validate_exons_iff**: the gate accepts exactly the lists that are sorted in Python's tuple order and whose
    every exon satisfies `0 < start <= end` (the empty list included) -/
theorem validate_exons_iff (l : List Iv) :
    validateExons l = true ↔ l.Pairwise ivLe ∧ ∀ x ∈ l, 0 < x.1 ∧ x.1 ≤ x.2 := by
  unfold validateExons
  simp only [Bool.and_eq_true, beq_iff_eq, List.all_eq_true, decide_eq_true_eq]
  have hp : l.Pairwise ivLe ↔ l.Pairwise (fun a b => ivLt b a = false) := by
    constructor <;> intro h <;> exact h.imp (fun {a b} hab => by first | exact (ivLt_false_iff a b).mpr hab | exact (ivLt_false_iff a b).mp hab)
  constructor
  · rintro ⟨h1, h2⟩
    refine ⟨hp.mpr ?_, h2⟩
    rw [h1]; exact isortBy_sorted ivLt_strict l
  · rintro ⟨h1, h2⟩
    exact ⟨(isortBy_eq_self ivLt l (hp.mp h1)).symm, h2⟩

/-- sorted disjoint well-formed positive exon lists (what the constructors produce) pass the gate -/
theorem sd_passes_gate (l : List Iv) (hsd : SD l) (hw : WFl l) (hpos : ∀ x ∈ l, 0 < x.1) :
    validateExons l = true := by
  rw [validate_exons_iff]
  exact ⟨(SD_pairwise l hsd hw).imp_of_mem fun ha _ h => by have := hw _ ha; left; omega,
    fun x hx => ⟨hpos x hx, hw x hx⟩⟩

/-- **printed_passes_gate** (every call history, any printer state): a transcript record is written only for a model
    whose exon list passed `validate_exons` and is non-empty (an empty list passes the gate and then aborts the call:
    `dump = none`); its coordinates are `(first exon start, last exon end)`, all exons satisfy `1 <= start <= end`
    and are sorted.  (The exon records: `exon_records_are_model_exons`.) -/
theorem printed_passes_gate (calls : List Call) (printed p' : List Id) (out : List Line)
    (h : runCalls printed calls = some (p', out)) :
    (∀ c s e st g t, Line.tx c s e st g t ∈ out →
      ∃ m, InHistory calls m ∧ m.tid = t ∧ m.gid = g ∧ m.chr = c ∧ m.strand = st ∧
        validateExons m.exons = true ∧
        (∃ f l, m.exons.head? = some f ∧ m.exons.getLast? = some l ∧ s = f.1 ∧ e = l.2) ∧
        m.exons.Pairwise ivLe ∧ ∀ x ∈ m.exons, 1 ≤ x.1 ∧ x.1 ≤ x.2) := by
  intro c s e st g t hl
  obtain ⟨m, hin, hreg, hc, hst, hg, ht⟩ := (transcript_records_are_gated_models calls printed p' out h c s e st g t).mp hl
  have hv : validateExons m.exons = true := by obtain ⟨_, _, _, hv⟩ := hin; exact hv
  have hgate := (validate_exons_iff m.exons).mp hv
  refine ⟨m, hin, ht, hg, hc, hst, hv, ?_, hgate.1, fun x hx => by have := hgate.2 x hx; omega⟩
  obtain ⟨f, l, hf, hl', hse⟩ := regionOf?_eq_some.mp hreg
  exact ⟨f, l, hf, hl', (Prod.mk.inj hse).1, (Prod.mk.inj hse).2⟩

/-- **exon_records_are_model_exons**: the exon / feature records of a history are exactly the features of the gated
    models: nothing is added, nothing is dropped, coordinates are copied unchanged. -/
theorem exon_records_are_model_exons :
    ∀ (calls : List Call) (printed p' : List Id) (out : List Line), runCalls printed calls = some (p', out) →
    (∀ c k s e st g t num, Line.feat c k s e st g t num ∈ out →
      ∃ m, InHistory calls m ∧ c = m.chr ∧ st = m.strand ∧ g = m.gid ∧ t = m.tid ∧
        ((s, e, k) ∈ m.other ∨ (k = 0 ∧ (s, e) ∈ m.exons))) ∧
    (∀ m, InHistory calls m → ∀ x ∈ m.exons, ∃ num, Line.feat m.chr 0 x.1 x.2 m.strand m.gid m.tid num ∈ out) := by
  intro calls printed p' out h
  obtain ⟨hfrom, hran⟩ := runCalls_calls calls printed p' out h
  constructor
  · intro c k s e st g t num hl
    obtain ⟨cl, hcl, _, _, _, hd, hl⟩ := hfrom _ hl
    obtain ⟨m, hm, hv, hin⟩ := (dump_feat_line hd c k s e st g t num).mp hl
    obtain ⟨h1, h2, h3, h4, h5⟩ := mem_featLines m c k s e st g t num hin
    exact ⟨m, ⟨cl, hcl, hm, hv⟩, h1, h2, h3, h4, mem_featsOf.mp h5⟩
  · rintro m ⟨cl, hcl, hm, hv⟩ x hx
    obtain ⟨_, _, _, hd, hsub⟩ := hran cl hcl
    have hf : (x.1, x.2, (0 : Int)) ∈ featsOf m := mem_featsOf.mpr (Or.inr ⟨rfl, hx⟩)
    obtain ⟨num, hn⟩ := featLines_complete m _ hf
    exact ⟨num, hsub _ ((dump_feat_line hd _ _ _ _ _ _ _ _).mpr ⟨m, hm, hv, hn⟩)⟩

/-- **exon_records_of_block**: the exon records written for one model are, up to order (reverse order on the
    minus strand), exactly its exon list (`other_features` never has kind 'exon': `GeneInfo.OTHER_FEATURES`) -/
theorem exon_records_of_block (m : TModel) (ho : ∀ f ∈ m.other, f.2.2 ≠ 0) :
    (exonRecs (featLines m)).Perm m.exons := by
  rw [featLines_eq]
  unfold exonRecs
  rw [List.filterMap_map]
  have hcomp : (exonOf? ∘ fun p : Feat × Nat => Line.feat m.chr p.1.2.2 p.1.1 p.1.2.1 m.strand m.gid m.tid (p.2 + 1)) =
      ((fun f : Feat => if f.2.2 = 0 then some (f.1, f.2.1) else none) ∘ Prod.fst) := by
    funext p; rfl
  rw [hcomp, ← List.filterMap_map, List.zipIdx_map_fst]
  refine ((sortedFeats_perm m).filterMap _).trans ?_
  unfold featsOf
  rw [List.filterMap_append]
  have h1 : List.filterMap (fun f : Feat => if f.2.2 = 0 then some (f.1, f.2.1) else none) m.other = [] := by
    rw [List.filterMap_eq_nil_iff]
    intro f hf
    simp [ho f hf]
  have h2 : List.filterMap (fun f : Feat => if f.2.2 = 0 then some (f.1, f.2.1) else none)
      (m.exons.map (fun e => (e.1, e.2, (0 : Int)))) = m.exons := by
    rw [List.filterMap_map]
    induction m.exons with
    | nil => rfl
    | cons a t ih => simp [ih]
  rw [h1, h2]
  exact List.Perm.refl _

/-- **transcript_record_spans**: for a list that passed the gate, `first.start` is the minimum exon start (always);
    `last.end` is the maximum exon end when the exons do not overlap (`SD`), so the transcript record spans exactly
    its exons; both bounds are attained. -/
theorem transcript_record_spans (l : List Iv) (f t : Iv) (hv : validateExons l = true)
    (hf : l.head? = some f) (ht : l.getLast? = some t) :
    f ∈ l ∧ t ∈ l ∧ (∀ x ∈ l, f.1 ≤ x.1) ∧ (SD l → ∀ x ∈ l, x.2 ≤ t.2) := by
  have hgate := (validate_exons_iff l).mp hv
  have hfm : f ∈ l := by
    obtain ⟨ys, hys⟩ := List.head?_eq_some_iff.mp hf
    rw [hys]; simp
  refine ⟨hfm, List.mem_of_getLast? ht, ?_, ?_⟩
  · obtain ⟨ys, hys⟩ := List.head?_eq_some_iff.mp hf
    subst hys
    intro x hx
    rcases List.mem_cons.mp hx with hx | hx
    · rw [hx]; exact Int.le_refl _
    · have := (List.pairwise_cons.mp hgate.1).1 x hx
      unfold ivLe at this; omega
  · intro hsd x hx
    obtain ⟨ys, hys⟩ := List.getLast?_eq_some_iff.mp ht
    subst hys
    have hw : WFl (ys ++ [t]) := fun r hr => (hgate.2 r hr).2
    clear hgate hv hf hfm ht
    induction ys with
    | nil => simp at hx; rw [hx]; exact Int.le_refl _
    | cons a ys ih =>
      rcases List.mem_cons.mp hx with hx | hx
      · have := SD_all_right hsd hw t (by simp)
        have := WFl_head hw
        have hwt : t.1 ≤ t.2 := hw t (by simp)
        rw [hx]; omega
      · exact ih (SD_tail hsd) hx (WFl_tail hw)

/-- **gate_overlap_witness**: the gate does not check overlap: a nested pair passes, and then the transcript record's
    end (`last.end` = 5) is not the maximum exon end (10).  Non-overlap of printed exons therefore rests on the
    constructors (`get_exons_wellformed`, `end_correction_preserves_wf`, `reference_verbatim`) and on the monitored
    assumption interface of the intron graph. -/
theorem gate_overlap_witness :
    validateExons [(1, 10), (2, 5)] = true ∧ ¬ SD [(1, 10), (2, 5)] ∧
    (dump [] { chr := 0 } [{ chr := 0, strand := 0, tid := 1, gid := 1, exons := [(1, 10), (2, 5)], known := false }]).map (·.2)
      = some [Line.gene 0 1 5 0 1 1, Line.tx 0 1 5 0 1 1, Line.feat 0 0 1 10 0 1 1 1, Line.feat 0 0 2 5 0 1 1 2] := by
  decide +kernel

/-- **gate_plus_disjoint_is_SD**: a list that passed the gate and whose exons share no position pairwise is sorted,
    pairwise disjoint (`SD`: each exon ends strictly before the next starts), well-formed and 1-based. -/
theorem gate_plus_disjoint_is_SD (l : List Iv) (hv : validateExons l = true)
    (hdis : l.Pairwise (fun a b => ¬ (max a.1 b.1 ≤ min a.2 b.2))) :
    SD l ∧ WFl l ∧ ∀ x ∈ l, 1 ≤ x.1 := by
  have hgate := (validate_exons_iff l).mp hv
  refine ⟨?_, fun x hx => (hgate.2 x hx).2, fun x hx => by have := (hgate.2 x hx).1; omega⟩
  obtain ⟨hs, hw⟩ := hgate
  clear hv
  induction l with
  | nil => trivial
  | cons a t ih =>
    have hs' := List.pairwise_cons.mp hs
    have hd' := List.pairwise_cons.mp hdis
    have iht := ih hd'.2 hs'.2 (fun x hx => hw x (List.mem_cons_of_mem _ hx))
    cases t with
    | nil => trivial
    | cons b t' =>
      refine ⟨?_, iht⟩
      have h1 := hs'.1 b (by simp)
      have h2 := hd'.1 b (by simp)
      have h3 := hw a (by simp)
      have h4 := hw b (by simp)
      unfold ivLe at h1
      omega

-- non-vacuity: a three-exon list passes the gate, is SD, and the record spans it
example : validateExons [(3, 5), (8, 9), (12, 20)] = true ∧ SD [(3, 5), (8, 9), (12, 20)] ∧
    [(3, 5), (8, 9), (12, 20)].head? = some ((3, 5) : Iv) ∧ [(3, 5), (8, 9), (12, 20)].getLast? = some ((12, 20) : Iv) := by
  decide +kernel

/-- the empty exon list passes `validate_exons` and aborts the call (IndexError in the code) -/
theorem empty_exons_abort (printed : List Id) (ctx : GeneCtx) (m : TModel) (h : m.exons = []) :
    validateExons m.exons = true ∧ dump printed ctx [m] = none := by
  have hv : validateExons m.exons = true := by rw [h]; decide +kernel
  refine ⟨hv, Option.not_isSome_iff_eq_none.mp fun hs => ?_⟩
  exact ((dump_isSome_iff printed ctx [m]).mp hs m (by simp) hv).2 h

end IsoVerif.Props.C03
