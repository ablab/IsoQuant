/-
C11 — translation equivariance of `truncate_read_to_polya` and of the profile code (Model/Profiles.lean):
`FeatureProfiles.set_profiles`, both read-profile constructors.  Profiles are lists of marks, so they are INVARIANT;
for ALL feature lists (sorted or not), ALL reads, ALL shifts `k : Int`.

Hypotheses that appear, and why:
  * `ShiftInv k cmp` — the comparator passed in only looks at relative positions; proved for every comparator the
    pipeline passes (`equal_ranges · · d`, `contains`, `overlaps_at_least · · d`, `overlaps_at_least_when_overlap · · d`);
  * `p ≠ −1 → p + k ≠ −1` for polyA / polyT positions — the code's sentinel −1 ("not found") must not be hit by a
    shifted real position; `truncate_sentinel_collision_witness` shows the hypothesis is needed (never an issue for
    k ≥ 0 and genomic coordinates ≥ 0).
Reflection: `split_exons` (`SplitExonsMirror`, stated at the end of this file) and `set_profiles` in
Props/C11MirrorLists.lean, the gene part of `constructOverlapping` in Props/C11MirrorReadProfiles.lean;
`constructNonOverlapping` under reflection is not proved (searched by the correspondence / oracle only).
-/
import IsoVerif.Gen.Prims
import IsoVerif.Model.Interval
import IsoVerif.Model.Profiles
import IsoVerif.Model.C11Symmetry
import IsoVerif.Lemmas.C11ShiftProfiles

namespace IsoVerif.Props.C11Profiles
open IsoVerif.Gen IsoVerif.Model IsoVerif.Model.C11 IsoVerif.Lemmas.C11

theorem shift_equivariant_truncateReadToPolya (k : Int) (exons : List Iv) (polya polyt : Int)
    (hA : polya ≠ -1 → polya + k ≠ -1) (hT : polyt ≠ -1 → polyt + k ≠ -1) :
    truncateReadToPolya (shiftL k exons) (shiftPos k polya) (shiftPos k polyt)
      = (truncateReadToPolya exons polya polyt).map (shiftL k) := by
  cases hf : exons.head? with
  | none => simp [truncateReadToPolya, shiftL_head?, hf]
  | some f =>
    cases ht : exons.getLast? with
    | none => simp [truncateReadToPolya, shiftL_getLast?, ht]
    | some t =>
      rw [truncate_eq exons polya polyt f t hf ht,
        truncate_eq (shiftL k exons) _ _ (shiftIv k f) (shiftIv k t) (by rw [shiftL_head?, hf]; rfl) (by rw [shiftL_getLast?, ht]; rfl),
        ← truncTail_shift]
      simp only [shiftL_length, ← shiftL_reverse]
      by_cases ca : polya = -1 <;> by_cases ct : polyt = -1
      · subst ca; subst ct; simp [shiftPos]
      · subst ca
        have := hT ct
        simp [shiftPos, ct, this, startIndexLoop_shift]
      · subst ct
        have := hA ca
        simp [shiftPos, ca, this, endIndexLoop_shift]
      · have h1 := hA ca
        have h2 := hT ct
        simp [shiftPos, ca, ct, h1, h2, startIndexLoop_shift, endIndexLoop_shift]

/-- a real polyA position that is shifted ONTO the sentinel is read as "no polyA": nothing is truncated -/
theorem truncate_sentinel_collision_witness :
    truncateReadToPolya (shiftL (-5) [(1, 10)]) (shiftPos (-5) 4) (shiftPos (-5) (-1))
      ≠ (truncateReadToPolya [(1, 10)] 4 (-1)).map (shiftL (-5)) := by decide

example : truncateReadToPolya (shiftL 255 [(1, 10), (20, 30)]) (shiftPos 255 25) (shiftPos 255 (-1))
    = some (shiftL 255 [(1, 10), (20, 25)]) := by decide

theorem shiftInv_equal_ranges (k d : Int) : ShiftInv k (fun a b => equal_ranges a b d) := by
  intro a b; simp only [equal_ranges, shiftIv, iabs]; grind
theorem shiftInv_contains (k : Int) : ShiftInv k (fun a b => contains a b) := by
  intro a b; simp only [contains, shiftIv]; grind
theorem shiftInv_overlaps_at_least (k d : Int) : ShiftInv k (fun a b => overlaps_at_least a b d) := by
  intro a b; simp only [overlaps_at_least, shiftIv]; grind
theorem shiftInv_overlaps_at_least_when_overlap (k d : Int) :
    ShiftInv k (fun a b => overlaps_at_least_when_overlap a b d) := by
  intro a b; simp only [overlaps_at_least_when_overlap, shiftIv]; grind

theorem shift_equivariant_setProfiles (k : Int) (c : Iv → Iv → Bool) (hc : ShiftInv k c)
    (features tf : List Iv) (region : Iv) :
    setProfiles (shiftL k features) (shiftL k tf) (shiftIv k region) c = setProfiles features tf region c := by
  simp only [setProfiles, markLoop_shift k c hc]
  have : (shiftL k features).map (fun f => if overlaps f (shiftIv k region) then (-1 : Int) else -2)
       = features.map (fun f => if overlaps f region then (-1 : Int) else -2) := by
    simp only [shiftL, List.map_map]
    congr 1; funext f; simp only [Function.comp, overlaps_shift]
  rw [this]

/-- the three isoform profiles of `GeneInfo` (introns and exons by exact equality, split exons by containment) -/
theorem shift_equivariant_isoform_profiles (k : Int) (features tf : List Iv) (region : Iv) :
    setProfiles (shiftL k features) (shiftL k tf) (shiftIv k region) (fun a b => equal_ranges a b 0)
        = setProfiles features tf region (fun a b => equal_ranges a b 0) ∧
    setProfiles (shiftL k features) (shiftL k tf) (shiftIv k region) (fun a b => contains a b)
        = setProfiles features tf region (fun a b => contains a b) :=
  ⟨shift_equivariant_setProfiles k _ (shiftInv_equal_ranges k 0) features tf region,
   shift_equivariant_setProfiles k _ (shiftInv_contains k) features tf region⟩

theorem shift_equivariant_constructNonOverlapping (k : Int) (c : Iv → Iv → Bool) (hc : ShiftInv k c)
    (known : List Iv) (delta : Int) (read : List Iv) (polya polyt : Int)
    (hA : polya ≠ -1 → polya + k ≠ -1) (hT : polyt ≠ -1 → polyt + k ≠ -1) :
    constructNonOverlapping (shiftL k known) c delta (shiftL k read) (shiftPos k polya) (shiftPos k polyt)
      = constructNonOverlapping known c delta read polya polyt := by
  simp only [constructNonOverlapping, noSweep_shift k c hc]
  have m1 : (shiftL k known).map (fun _ => (0 : Int)) = known.map (fun _ => (0 : Int)) := by simp [shiftL]
  have m2 : (shiftL k read).map (fun _ => (0 : Int)) = read.map (fun _ => (0 : Int)) := by simp [shiftL]
  rw [m1, m2]
  by_cases ca : polya = -1 <;> by_cases ct : polyt = -1
  · subst ca; subst ct; simp [shiftPos]
  · subst ca
    have := hT ct
    simp [shiftPos, ct, this, intervalBinSearchRev_shift']
  · subst ct
    have := hA ca
    simp [shiftPos, ca, this, intervalBinSearch_shift']
  · have h1 := hA ca
    have h2 := hT ct
    simp [shiftPos, ca, ct, h1, h2, intervalBinSearch_shift', intervalBinSearchRev_shift']

theorem shift_equivariant_constructOverlapping (k : Int) (c ab : Iv → Iv → Bool) (hc : ShiftInv k c) (hab : ShiftInv k ab)
    (known : List Iv) (geneRegion : Iv) (delta : Int) (read : List Iv) (mapped : Iv) (polya polyt : Int)
    (hA : polya ≠ -1 → polya + k ≠ -1) (hT : polyt ≠ -1 → polyt + k ≠ -1) :
    constructOverlapping (shiftL k known) (shiftIv k geneRegion) c ab delta (shiftL k read) (shiftIv k mapped)
        (shiftPos k polya) (shiftPos k polyt)
      = constructOverlapping known geneRegion c ab delta read mapped polya polyt := by
  -- stage by stage: the initial marks (`m1`, `m2`), the sweep (`ovSweep_shift`), the tie elimination (`ovEliminate_shift`; the
  -- matched pairs are positions in the two lists, `hr`), the polyA / polyT masks (`z1`, `z2`) by cases on which position is absent
  simp only [constructOverlapping]
  have m1 : (shiftL k known).map (fun x => if ab (shiftIv k mapped) x then (-1 : Int) else 0)
      = known.map (fun x => if ab mapped x then (-1 : Int) else 0) := by
    simp only [shiftL, List.map_map]; congr 1; funext x; simp only [Function.comp, hab mapped x]
  have m2 : (shiftL k read).map (fun x => if ab (shiftIv k geneRegion) x then (-1 : Int) else 0)
      = read.map (fun x => if ab geneRegion x then (-1 : Int) else 0) := by
    simp only [shiftL, List.map_map]; congr 1; funext x; simp only [Function.comp, hab geneRegion x]
  rw [m1, m2, ovSweep_shift k c ab hc hab]
  have hr : MatchedInRange known read
      (ovSweep c ab mapped known 0 read 0
        { gene := known.map (fun x => if ab mapped x then (-1 : Int) else 0),
          read := read.map (fun x => if ab geneRegion x then (-1 : Int) else 0), matched := [] }).matched := by
    intro p hp
    rcases ovSweep_matched_range c ab mapped known 0 read 0 _ p hp with h | h
    · simp at h
    · omega
  rw [ovEliminate_shift k known read _ _ hr]
  have z1 : ∀ (g : List Int) (pa : Int), List.zipWith (fun (x : Iv) (v : Int) => if x.1 > pa + k + delta then -2 else v) (shiftL k known) g
      = List.zipWith (fun (x : Iv) (v : Int) => if x.1 > pa + delta then -2 else v) known g := by
    intro g pa
    simp only [shiftL, List.zipWith_map_left]
    congr 1; funext x v; simp only [shiftIv_fst]
    have : (x.1 + k > pa + k + delta) ↔ (x.1 > pa + delta) := by omega
    simp only [this]
  have z2 : ∀ (g : List Int) (pt : Int), List.zipWith (fun (x : Iv) (v : Int) => if x.2 < pt + k - delta then -2 else v) (shiftL k known) g
      = List.zipWith (fun (x : Iv) (v : Int) => if x.2 < pt - delta then -2 else v) known g := by
    intro g pt
    simp only [shiftL, List.zipWith_map_left]
    congr 1; funext x v; simp only [shiftIv_snd]
    have : (x.2 + k < pt + k - delta) ↔ (x.2 < pt - delta) := by omega
    simp only [this]
  by_cases ca : polya = -1 <;> by_cases ct : polyt = -1
  · subst ca; subst ct; simp [shiftPos]
  · subst ca
    have := hT ct
    simp [shiftPos, ct, this, z2]
  · subst ct
    have := hA ca
    simp [shiftPos, ca, this, z1]
  · have h1 := hA ca
    have h2 := hT ct
    simp [shiftPos, ca, ct, h1, h2, z1, z2]

/-- the read profiles the pipeline builds (CombinedProfileConstructor): introns (absence = `overlaps_at_least`),
    exons (absence = `contains`), split exons (`overlaps_at_least_when_overlap`) -/
theorem shift_equivariant_read_profiles (k d absd minov : Int) (known : List Iv) (geneRegion : Iv) (read : List Iv)
    (mapped : Iv) (polya polyt : Int) (hA : polya ≠ -1 → polya + k ≠ -1) (hT : polyt ≠ -1 → polyt + k ≠ -1) :
    constructOverlapping (shiftL k known) (shiftIv k geneRegion) (fun a b => equal_ranges a b d)
        (fun a b => overlaps_at_least a b absd) d (shiftL k read) (shiftIv k mapped) (shiftPos k polya) (shiftPos k polyt)
      = constructOverlapping known geneRegion (fun a b => equal_ranges a b d) (fun a b => overlaps_at_least a b absd) d
          read mapped polya polyt ∧
    constructOverlapping (shiftL k known) (shiftIv k geneRegion) (fun a b => equal_ranges a b d)
        (fun a b => contains a b) d (shiftL k read) (shiftIv k mapped) (shiftPos k polya) (shiftPos k polyt)
      = constructOverlapping known geneRegion (fun a b => equal_ranges a b d) (fun a b => contains a b) d
          read mapped polya polyt ∧
    constructNonOverlapping (shiftL k known) (fun a b => overlaps_at_least_when_overlap a b minov) d (shiftL k read)
        (shiftPos k polya) (shiftPos k polyt)
      = constructNonOverlapping known (fun a b => overlaps_at_least_when_overlap a b minov) d read polya polyt :=
  ⟨shift_equivariant_constructOverlapping k _ _ (shiftInv_equal_ranges k d) (shiftInv_overlaps_at_least k absd) known
      geneRegion d read mapped polya polyt hA hT,
   shift_equivariant_constructOverlapping k _ _ (shiftInv_equal_ranges k d) (shiftInv_contains k) known
      geneRegion d read mapped polya polyt hA hT,
   shift_equivariant_constructNonOverlapping k _ (shiftInv_overlaps_at_least_when_overlap k minov) known d read polya polyt
      hA hT⟩

-- non-vacuity: a shifted read against shifted known introns gives the profile of the original
example : (constructOverlapping (shiftL 255 [(6, 9), (13, 19)]) (shiftIv 255 (1, 30)) (fun a b => equal_ranges a b 1)
      (fun a b => overlaps_at_least a b 3) 1 (shiftL 255 [(6, 9), (13, 20)]) (shiftIv 255 (1, 30)) (shiftPos 255 (-1)) (shiftPos 255 (-1))).gene
    = [1, 1] := by decide +kernel

/-- `GeneInfo.split_exons` is translation equivariant for well-formed exons as long as no block border lands on the
    code's sentinel (`last_border = -1`): neither an exon start nor an exon end + 1, before or after the shift -/
theorem shift_equivariant_splitExons (k : Int) (exons : List Iv)
    (hw : ∀ e ∈ exons, e.1 ≤ e.2)
    (hs : ∀ e ∈ exons, e.1 ≠ -1 ∧ e.1 + k ≠ -1 ∧ e.2 + 1 ≠ -1 ∧ e.2 + 1 + k ≠ -1) :
    splitExons (shiftL k exons) = (splitExons exons).map (shiftL k) := by
  -- the sorted starts and ends are shifted (`sortInts_shift`); the main loop is `splitMain_shift` under its invariant
  -- `BorderInv` (Lemmas/C11ShiftProfiles.lean), met at the start: last border −1, first start ≤ first end; empty lists apart
  simp only [splitExons]
  have m1 : (shiftL k exons).map (·.1) = (exons.map (·.1)).map (· + k) := by simp [shiftL, shiftIv]
  have m2 : (shiftL k exons).map (·.2) = (exons.map (·.2)).map (· + k) := by simp [shiftL, shiftIv]
  rw [m1, m2, sortInts_shift, sortInts_shift]
  have h1 : ∀ s ∈ sortInts (exons.map (·.1)), s ≠ -1 ∧ s + k ≠ -1 := by
    intro s hs'
    obtain ⟨e, he, rfl⟩ := List.mem_map.mp ((Lemmas.mem_sortInts s _).mp hs')
    exact ⟨(hs e he).1, (hs e he).2.1⟩
  have h2 : ∀ x ∈ sortInts (exons.map (·.2)), x + 1 ≠ -1 ∧ x + 1 + k ≠ -1 := by
    intro x hx
    obtain ⟨e, he, rfl⟩ := List.mem_map.mp ((Lemmas.mem_sortInts x _).mp hx)
    exact ⟨(hs e he).2.2.1, (hs e he).2.2.2⟩
  cases hss : sortInts (exons.map (·.1)) with
  | nil =>
    have : exons = [] := by
      cases exons with
      | nil => rfl
      | cons a t =>
        have : a.1 ∈ sortInts ((a :: t).map (·.1)) := (Lemmas.mem_sortInts _ _).mpr (by simp)
        rw [hss] at this; simp at this
    subst this; simp [sortInts, splitMain, splitTail, shiftL]
  | cons s0 ss =>
    cases hee : sortInts (exons.map (·.2)) with
    | nil =>
      have : exons = [] := by
        cases exons with
        | nil => rfl
        | cons a t =>
          have : a.2 ∈ sortInts ((a :: t).map (·.2)) := (Lemmas.mem_sortInts _ _).mpr (by simp)
          rw [hee] at this; simp at this
      subst this; simp [sortInts] at hss
    | cons e0 es =>
      have hle : s0 ≤ e0 := by
        have he0 : e0 ∈ exons.map (·.2) := (Lemmas.mem_sortInts _ _).mp (by rw [hee]; simp)
        obtain ⟨x, hx, hx2⟩ := List.mem_map.mp he0
        have := sortInts_head_le (exons.map (·.1)) s0 ss hss x.1 (List.mem_map.mpr ⟨x, hx, rfl⟩)
        have := hw x hx
        omega
      have := splitMain_shift k (s0 :: ss) (e0 :: es) none none 0 (-1) (by rw [← hss]; exact h1) (by rw [← hee]; exact h2)
        (by intro h; exact absurd rfl h) (Or.inr ⟨rfl, s0, ss, e0, es, rfl, rfl, hle⟩)
      simpa [shiftPos] using this

/-- the sentinel hypothesis is needed: shifting an exon start onto −1 makes the code treat the border as unset and
    the block (−1, 0) is lost (coordinates < 1 do not occur in a genome) -/
theorem split_exons_sentinel_collision_witness :
    splitExons (shiftL (-2) [(1, 6), (3, 6)]) ≠ (splitExons [(1, 6), (3, 6)]).map (shiftL (-2)) := by
  simp [splitExons, shiftL, shiftIv, sortInts, insertSorted, splitMain_cons_cons, isNew, splitMain, splitTail]

example : splitExons (shiftL 255 [(1, 3), (2, 5)]) = some (shiftL 255 [(1, 1), (2, 3), (4, 5)]) := by
  simp [splitExons, shiftL, shiftIv, sortInts, insertSorted, splitMain_cons_cons, isNew, splitMain, splitTail]

/-- the split exons of the mirrored exons are the mirrored split exons (relation `M.split_exons`) -/
def SplitExonsMirror : Prop :=
  ∀ (L : Int) (exons : List Iv), (∀ e ∈ exons, e.1 ≤ e.2) →
    (∀ e ∈ exons ++ mirrorL L exons, e.1 ≠ -1 ∧ e.2 + 1 ≠ -1) →
    splitExons (mirrorL L exons) = (splitExons exons).map (mirrorL L)

end IsoVerif.Props.C11Profiles
