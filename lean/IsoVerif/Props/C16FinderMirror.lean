/-
C16 / C11 — the polyT head finder after the window repair (Model/FinderMirror.lean) is the mirror image of
the polyA tail finder at the level of the SCAN: on the mirror image of a read (reversed CIGAR, reverse complement,
`reference_start' = L − reference_end`) `find_polyt_head` reads exactly the bases `find_polya_tail` reads on the read, in
the same order, so both settle on the same base and "found / not found" is symmetric (`mirror_region`,
`mirror_scan`, the `none` case of `mirror_law_win`).  What remains of the asymmetry is the position convention alone
(`mirror_law_win`: polyT(mirror) = max 1 (mirror(polyA) − 2) whenever the tail starts in the soft clip or inside the
last match operation): polyA = 1-based coordinate of the base before the tail, polyT = 0-based coordinate of the last
head base; fixed by tests/test_polya_cage_finder.py (`test_find_t_head`: 51043), hence not repaired.

The repaired window is the old window at `from_pos − 1`, `to_pos + 1` (`find_polyt_head_win_eq`): every theorem of
Props/C16FinderSpec.lean / C16FinderChar.lean / C16Pad.lean about `find_polyt_head`, all stated for arbitrary
`from_pos` / `to_pos`, is a theorem about the repaired function at the shifted arguments (`…_win` corollaries below).
-/
import IsoVerif.Model.FinderMirror
import IsoVerif.Props.C16FinderSpec
import IsoVerif.Props.C16FinderChar
import IsoVerif.Props.C16Pad
import IsoVerif.Props.C16TailExons

namespace IsoVerif.Props.C16FinderMirror
open IsoVerif.Gen IsoVerif.Model IsoVerif.Model.C16 IsoVerif.Lemmas.C16

/-- **find_polyt_head_win_eq** — for every projection, record and argument list: the repaired function is the one before the window repair
    called with `from_pos − 1`, `to_pos + 1` -/
theorem find_polyt_head_win_eq (move : List CigarOp → Int → Option Int) (w num den : Nat) (s : Int)
    (cigar : List CigarOp) (seq : List Char) (f t : Int) (chk : Bool) :
    findPolytHeadWinWith move w num den s cigar seq f t chk =
      findPolytHeadWith move w num den s cigar seq (f - 1) (t + 1) chk :=
  findPolytHeadWinWith_eq move w num den s cigar seq chk f t

theorem region_t_win_eq (cigar : List CigarOp) (seq : List Char) (f t : Int) :
    regionTWin cigar seq f t = regionT cigar seq (f - 1) (t + 1) ∧ stopTWin cigar seq f = stopT cigar seq (f - 1) := by
  unfold regionTWin regionT stopTWin stopT
  have e1 : softClipHead cigar - (t + 1) = softClipHead cigar - t - 1 := by omega
  have e2 : softClipHead cigar + (f - 1) + 1 = softClipHead cigar + f := by omega
  simp only [e1, e2, and_self]

theorem find_polyt_head_spec_win_eq (w num den : Nat) (s : Int) (cigar : List CigarOp) (seq : List Char) (f t : Int)
    (chk : Bool) :
    findPolytHeadSpecWin w num den s cigar seq f t chk = findPolytHeadSpecFix w num den s cigar seq (f - 1) (t + 1) chk := by
  unfold findPolytHeadSpecWin findPolytHeadSpecFix findPolytHeadSpecWith
  rw [(region_t_win_eq cigar seq f t).1, (region_t_win_eq cigar seq f t).2]
  rfl

theorem slice_reverse {α} (l : List α) (a b : Int) (ha : 0 ≤ a) (hb : b ≤ l.length) :
    (slice l a b).reverse = slice l.reverse ((l.length : Int) - b) ((l.length : Int) - a) := by
  apply List.ext_getElem?
  intro j
  rw [slice_reverse_getElem? l a b hb, slice_getElem?]
  by_cases hj : j < b.toNat - a.toNat
  · rw [if_pos hj, if_pos (by omega), List.getElem?_reverse (by omega)]
    congr 1; omega
  · rw [if_neg hj, if_neg (by omega)]

/-- **mirror_region** — on the mirror image of a read the repaired `find_polyt_head` scans exactly the flags
    `find_polya_tail` scans on the read (same bases, same order): `from_pos` aligned bases and `to_pos + 1` clipped ones.
    `hrc`: the reverse complement maps T/t to A/a and nothing else to A/a. -/
theorem mirror_region (cigar : List CigarOp) (seq seq' : List Char) (f t : Int) (hnn : NonNeg cigar)
    (hrc : seq'.map (fun c => upperChar c == 'T') = (seq.map (fun c => upperChar c == 'A')).reverse) :
    regionTWin cigar.reverse seq' f t = regionA cigar seq f t := by
  have hlen : seq'.length = seq.length := by
    have := congrArg List.length hrc
    simpa using this
  have hc0 := softClipTail_nonneg hnn
  unfold regionTWin regionA
  rw [softClipHead_reverse, List.map_reverse, slice_map, hrc, slice_reverse _ _ _ (by omega) (by simp; omega),
    List.reverse_reverse, slice_map, List.length_reverse, List.length_map, hlen]
  congr 1 <;> omega

/-- the two scans settle on the same base -/
theorem mirror_scan (w num den : Nat) (chk : Bool) (cigar : List CigarOp) (seq seq' : List Char) (f t : Int)
    (hnn : NonNeg cigar)
    (hrc : seq'.map (fun c => upperChar c == 'T') = (seq.map (fun c => upperChar c == 'A')).reverse) :
    tailScan w num den chk (regionTWin cigar.reverse seq' f t) = tailScan w num den chk (regionA cigar seq f t) := by
  rw [mirror_region cigar seq seq' f t hnn hrc]

/-- non-vacuity: a toy read (`…GAGAAAAAAAA|TCC`, 3 clipped bases) and its reverse complement -/
example :
    let cig : List CigarOp := [(.«match», 20), (.soft_clipping, 3)]
    let seq := "CCGTCCGTCGAGAAAAAAAATCC".toList
    let seq' := "GGATTTTTTTTCTCGACGGACGG".toList
    regionTWin cig.reverse seq' 64 2 = regionA cig seq 64 2 ∧ (regionA cig seq 64 2).length = 23 ∧
    regionT cig.reverse seq' 64 2 ≠ regionA cig seq 64 2 := by decide

/-- **mirror_law_win** — the read `(s, cigar, seq)` and its mirror image `(L − reference_end, reversed cigar, reverse
    complement)`, any window, fraction, `from_pos`, `to_pos`, `check_entire`; the repaired head window.
    * the polyA scan finds nothing ⇒ both functions answer −1 (found / not found is symmetric);
    * it finds a tail that starts in the soft clip or inside the last match operation ⇒
      `find_polyt_head(mirror) = max 1 (L − 1 − find_polya_tail(read))`: the mirror image `L + 1 − x` minus 2, the
      position convention (no hypothesis on the polyT scan: it is the polyA scan, `mirror_scan`). -/
theorem mirror_law_win (w num den : Nat) (s L : Int) (cigar : List CigarOp)
    (seq seq' : List Char) (f t : Int) (chk : Bool) (hne : cigar ≠ []) (hseq : seq ≠ [])
    (hclip : softClipTail cigar < seq.length) (hnn : NonNeg cigar)
    (hrc : seq'.map (fun c => upperChar c == 'T') = (seq.map (fun c => upperChar c == 'A')).reverse) :
    match tailScan w num den chk (regionA cigar seq f t) with
    | none => findPolyaTail w num den s cigar seq f t chk = some (-1) ∧
        findPolytHeadWinWith moveRefCoord w num den (L - referenceEnd s cigar) cigar.reverse seq' f t chk = some (-1)
    | some pA =>
      ((seq.length : Int) - softClipTail cigar ≤ startA cigar seq f + pA ∨
        ∃ k0 l rest, walkCore cigar false = (k0, l) :: rest ∧ isAligned k0 = true ∧
          (seq.length : Int) - softClipTail cigar - (startA cigar seq f + pA) < l) →
      ∃ ra, findPolyaTail w num den s cigar seq f t chk = some ra ∧
        findPolytHeadWinWith moveRefCoord w num den (L - referenceEnd s cigar) cigar.reverse seq' f t chk
          = some (max 1 (L - 1 - ra)) := by
  have hlen : seq'.length = seq.length := by simpa using congrArg List.length hrc
  have hscan := mirror_scan w num den chk cigar seq seq' f t hnn hrc
  rw [(region_t_win_eq cigar.reverse seq' f t).1] at hscan
  rw [find_polyt_head_win_eq]
  cases hA : tailScan w num den chk (regionA cigar seq f t) with
  | none =>
    rw [hA] at hscan
    have hseq' : seq' ≠ [] := fun h => by rw [h] at hlen; exact hseq (List.length_eq_zero_iff.1 hlen.symm)
    rw [findPolyaTail_eq_with, findPolyaTailWith_eq, scanThen_pass hne hseq hclip, hA, findPolytHeadWith_eq,
      scanThen_pass (by simpa using hne) hseq' (by rw [softClipHead_reverse, hlen]; exact hclip), hscan]
    exact ⟨rfl, rfl⟩
  | some pA =>
    rw [hA] at hscan
    intro hclean
    refine mirror_law w num den s L cigar seq seq' f t (f - 1) (t + 1) chk hne hseq hclip hrc pA pA hA hscan
      ?_ hclean
    unfold stopT startA
    rw [softClipHead_reverse, hlen]
    have hc0 := softClipTail_nonneg hnn
    omega

/-- non-vacuity: `20M 20S`, 20 C + 20 A at 99 on a chromosome of length 1000: polyA 119, polyT of the mirror image
    880 = 1001 − 119 − 2 -/
example :
    findPolyaTail 16 3 4 99 [(.«match», 20), (.soft_clipping, 20)] (List.replicate 20 'C' ++ List.replicate 20 'A') 2 32 false
      = some 119 ∧
    findPolytHeadWinWith moveRefCoord 16 3 4 (1000 - 119) [(.soft_clipping, 20), (.«match», 20)]
      (List.replicate 20 'T' ++ List.replicate 20 'G') 2 32 false = some 880 := by decide +kernel

/-- the same law for the functions with the `P` repair of the projection (the code of /repo) -/
theorem mirror_law_win_fix (w num den : Nat) (s L : Int) (cigar : List CigarOp)
    (seq seq' : List Char) (f t : Int) (chk : Bool) (hne : cigar ≠ []) (hseq : seq ≠ [])
    (hclip : softClipTail cigar < seq.length) (hnn : NonNeg cigar)
    (hrc : seq'.map (fun c => upperChar c == 'T') = (seq.map (fun c => upperChar c == 'A')).reverse) :
    match tailScan w num den chk (regionA cigar seq f t) with
    | none => findPolyaTailFix w num den s cigar seq f t chk = some (-1) ∧
        findPolytHeadWin w num den (L - referenceEnd s cigar) cigar.reverse seq' f t chk = some (-1)
    | some pA =>
      ((seq.length : Int) - softClipTail cigar ≤ startA cigar seq f + pA ∨
        ∃ k0 l rest, walkCore cigar false = (k0, l) :: rest ∧ isAligned k0 = true ∧
          (seq.length : Int) - softClipTail cigar - (startA cigar seq f + pA) < l) →
      ∃ ra, findPolyaTailFix w num den s cigar seq f t chk = some ra ∧
        findPolytHeadWin w num den (L - referenceEnd s cigar) cigar.reverse seq' f t chk
          = some (max 1 (L - 1 - ra)) := by
  have h := mirror_law_win w num den s L cigar seq seq' f t chk hne hseq hclip hnn hrc
  have hT : ∀ r, findPolytHeadWinWith moveRefCoord w num den (L - referenceEnd s cigar) cigar.reverse seq' f t chk = some r →
      findPolytHeadWin w num den (L - referenceEnd s cigar) cigar.reverse seq' f t chk = some r := by
    intro r hr
    rw [find_polyt_head_win_eq] at hr
    unfold findPolytHeadWin
    rw [find_polyt_head_win_eq]
    exact (C16Pad.find_tail_fix_extends w num den _ _ _ _ _ chk r).2 hr
  cases hA : tailScan w num den chk (regionA cigar seq f t) with
  | none =>
    rw [hA] at h
    exact ⟨(C16Pad.find_tail_fix_extends w num den s cigar seq f t chk (-1)).1 h.1, hT _ h.2⟩
  | some pA =>
    rw [hA] at h
    intro hclean
    obtain ⟨ra, h1, h2⟩ := h hclean
    exact ⟨ra, (C16Pad.find_tail_fix_extends w num den s cigar seq f t chk ra).1 h1, hT _ h2⟩

/-- **window_mirror_witness** — the window before the repair fails the symmetry even for found / not found: read
    `AAAAAACACCCAAAAAAACA`, `17M 3S` at 100, internal finder (`from 64, to 2`, entire tail checked): polyA found at 101;
    on its mirror image (`L = 1000`) the old `find_polyt_head` — one clipped base less, one aligned base more in the
    window — finds nothing, the repaired one answers 899 (the whole read is tail, so both positions are held at the far
    end of the alignment and the offset is −1 here, not −2: the hypothesis of `mirror_law_win` "at least one base of the last
    match operation before the tail" is needed); model = code, replayed each run. -/
theorem window_mirror_witness :
    findPolyaTailFix 16 3 4 100 [(.«match», 17), (.soft_clipping, 3)] "AAAAAACACCCAAAAAAACA".toList 64 2 true = some 101 ∧
    findPolytHeadFix 16 3 4 (1000 - 117) [(.soft_clipping, 3), (.«match», 17)] "TGTTTTTTTGGGTGTTTTTT".toList 64 2 true
      = some (-1) ∧
    findPolytHeadWin 16 3 4 (1000 - 117) [(.soft_clipping, 3), (.«match», 17)] "TGTTTTTTTGGGTGTTTTTT".toList 64 2 true
      = some 899 := by
  repeat rw [String.toList_ofList]
  decide +kernel

/-- **polyt_win_position_in_range** — a found position of the repaired function lies in
    `[max 1 (reference_start − max 1 clip₅), max 1 (reference_end − 1)]` (unchanged convention) -/
theorem polyt_win_position_in_range (w num den : Nat) (hw : 1 ≤ w) (s : Int) (cigar : List CigarOp) (seq : List Char)
    (f t : Int) (chk : Bool) (hne : cigar ≠ []) (hseq : seq ≠ [])
    (hclip : softClipHead cigar < seq.length) (hnn : NonNeg cigar) (p : Nat)
    (hts : tailScan w num den chk (regionTWin cigar seq f t) = some p) (r : Int)
    (hr : findPolytHeadWinWith moveRefCoord w num den s cigar seq f t chk = some r) :
    max 1 (s - max 1 (softClipHead cigar)) ≤ r ∧ r ≤ max 1 (referenceEnd s cigar - 1) ∧
    (WalkOnRef cigar true → max 1 (s - softClipHead cigar) ≤ r) := by
  rw [(region_t_win_eq cigar seq f t).1] at hts
  rw [find_polyt_head_win_eq] at hr
  exact C16FinderSpec.polyt_position_in_range w num den s cigar seq (f - 1) (t + 1) chk hne hseq hclip hnn p hts r hr

/-- **find_polyt_head_win_char** — the complete `↔` of `find_polyt_head_char` for the repaired window -/
theorem find_polyt_head_win_char (w num den : Nat) (s : Int) (cigar : List CigarOp) (seq : List Char)
    (f t : Int) (chk : Bool) (hne : cigar ≠ []) (hseq : seq ≠ [])
    (hclip : softClipHead cigar < seq.length) (hnn : NonNeg cigar) (r : Int) :
    findPolytHeadWinWith moveRefCoord w num den s cigar seq f t chk = some r ↔
      ((∀ p, ¬ TailStart w num den chk (regionTWin cigar seq f t) p) ∧ r = -1) ∨
      (∃ p, TailStart w num den chk (regionTWin cigar seq f t) p ∧
        ((stopTWin cigar seq f - p - 1 ≤ softClipHead cigar ∧
            r = max 1 (s - (softClipHead cigar - (stopTWin cigar seq f - p - 1)))) ∨
         (softClipHead cigar < stopTWin cigar seq f - p - 1 ∧
            padReached (walkCore cigar true) (stopTWin cigar seq f - p - 1 - softClipHead cigar).toNat = false ∧
            ∃ k, ProjectsTo (expand (walkCore cigar true)) (stopTWin cigar seq f - p - 1 - softClipHead cigar).toNat k ∧
              r = max 1 (s + k)))) := by
  rw [find_polyt_head_win_eq, (region_t_win_eq cigar seq f t).1, (region_t_win_eq cigar seq f t).2]
  exact C16FinderChar.find_polyt_head_char w num den s cigar seq (f - 1) (t + 1) chk hne hseq hclip hnn r

/-- **find_polyt_head_win_found_iff** — found ⇔ the specification `TailStart` holds somewhere in the scanned region -/
theorem find_polyt_head_win_found_iff (w num den : Nat) (hw : 1 ≤ w) (s : Int) (cigar : List CigarOp) (seq : List Char)
    (f t : Int) (chk : Bool) (hne : cigar ≠ []) (hseq : seq ≠ [])
    (hclip : softClipHead cigar < seq.length) (hnn : NonNeg cigar) :
    findPolytHeadWinWith moveRefCoord w num den s cigar seq f t chk = some (-1) ↔
      ∀ p, ¬ TailStart w num den chk (regionTWin cigar seq f t) p := by
  rw [find_polyt_head_win_eq, (region_t_win_eq cigar seq f t).1]
  exact C16FinderChar.find_polyt_head_found_iff w num den s cigar seq (f - 1) (t + 1) chk hne hseq hclip hnn

/-- **find_polyt_head_win_raises_iff** — the repaired function (window + `P` repair) raises on the two `assert`-like
    conditions only -/
theorem find_polyt_head_win_raises_iff (w num den : Nat) (s : Int) (cigar : List CigarOp) (seq : List Char)
    (f t : Int) (chk : Bool) :
    findPolytHeadWin w num den s cigar seq f t chk = none ↔
      cigar = [] ∨ (seq ≠ [] ∧ ¬ softClipHead cigar < seq.length) := by
  unfold findPolytHeadWin
  rw [find_polyt_head_win_eq]
  exact (C16Pad.find_tail_fix_raises_iff w num den s cigar seq (f - 1) (t + 1) chk).2

/-- **region_t_win_spec** — what the repaired function scans: scan index `j` ↦ read base `to_check_end − 1 − j`; for
    `0 ≤ clip ≤ len`, `from ≥ 1`, `to ≥ 0` these are the last `min(to + 1, clip)` bases of the soft-clipped head and the
    first `min(from, len − clip)` bases after it — the mirror image of `region_a_spec` -/
theorem region_t_win_spec (cigar : List CigarOp) (seq : List Char) (f t : Int) :
    (∀ j, (regionTWin cigar seq f t)[j]? =
      if j < (stopTWin cigar seq f).toNat - (max 0 (softClipHead cigar - t - 1)).toNat
      then (seq[(stopTWin cigar seq f).toNat - 1 - j]?).map (fun ch => upperChar ch == 'T') else none) ∧
    (0 ≤ softClipHead cigar → softClipHead cigar ≤ seq.length → 1 ≤ f → 0 ≤ t →
      ((regionTWin cigar seq f t).length : Int) =
        min (t + 1) (softClipHead cigar) + min f ((seq.length : Int) - softClipHead cigar)) := by
  obtain ⟨h1, h2⟩ := C16FinderChar.region_t_spec cigar seq (f - 1) (t + 1)
  rw [(region_t_win_eq cigar seq f t).1, (region_t_win_eq cigar seq f t).2]
  constructor
  · intro j
    have := h1 j
    unfold startT at this
    have e : softClipHead cigar - (t + 1) = softClipHead cigar - t - 1 := by omega
    rw [e] at this
    exact this
  · intro a b c d
    have := h2 a b (by omega) (by omega)
    rw [this]; omega

example :
    let gic : List CigarOp := [(.soft_clipping, 20), (.«match», 80)]
    let seq := List.replicate 100 'C'
    (regionTWin gic seq 2 32).length = 22 ∧ (regionTWin gic seq 64 2).length = 67 := by decide

/-- **detected_positions_in_range_win** — the ranges of `detected_positions_in_range` for the repaired `detect_polya`
    (they do not depend on the window) -/
theorem detected_positions_in_range_win (w num den : Nat) (s : Int) (cigar : List CigarOp)
    (seq : List Char) (hnn : NonNeg cigar) (info : PolyAInfo)
    (h : detectPolyaWinWith moveRefCoord w num den s cigar seq = some info) :
    (∀ x, (x = info.internalPolyA ∨ x = info.externalPolyA) → x ≠ -1 →
      s + 1 ≤ x ∧ x ≤ referenceEnd s cigar + max 1 (softClipTail cigar)) ∧
    (∀ x, (x = info.internalPolyT ∨ x = info.externalPolyT) → x ≠ -1 →
      max 1 (s - max 1 (softClipHead cigar)) ≤ x ∧ x ≤ max 1 (referenceEnd s cigar - 1)) :=
  detectPolyaWinWith_ranges w num den s seq (moveRefCoord_projects hnn) hnn info h

/-- **record_tail_on_retained_exon_win** — `record_tail_on_retained_exon` (Props/C16TailRecord.lean) with the tail
    positions of the REPAIRED finder -/
theorem record_tail_on_retained_exon_win (w num den : Nat) (hw : 1 ≤ w) (s : Int) (ops : List CigarOp)
    (seq : List Char) (mf : Int) (info : PolyAInfo) (hs : 0 ≤ s) (hp : Pos ops)
    (hdet : detectPolyaWinWith moveRefCoord w num den s ops seq = some info)
    (hne : (getReadBlocks s ops).refBlocks ≠ []) :
    ∃ (r : AInfo) (a t : Int),
      addPolyaInfo mf (getReadBlocks s ops).refBlocks (getReadBlocks s ops).readBlocks
        (getReadBlocks s ops).cigarBlocks info = some r ∧
      correctReadInfo mf (getReadBlocks s ops).refBlocks info = some (a, t) ∧
      (0 < a → ∃ lastKept firstRemoved : Iv, r.exons.getLast? = some lastKept ∧
        (getReadBlocks s ops).refBlocks[(getReadBlocks s ops).refBlocks.length - a.toNat]? = some firstRemoved ∧
        lastKept.2 < firstRemoved.1 ∧ firstRemoved.2 ≤ referenceEnd s ops ∧
        (info.internalPolyA = -1 → r.info.internalPolyA = -1) ∧
        (info.internalPolyA ≠ -1 → lastKept.2 ≤ r.info.internalPolyA ∧
          r.info.internalPolyA ≤ lastKept.2 + max 0 (firstRemoved.2 - firstRemoved.1 - 1)) ∧
        (info.externalPolyA = -1 → r.info.externalPolyA = -1) ∧
        (info.externalPolyA ≠ -1 → lastKept.2 ≤ r.info.externalPolyA ∧
          r.info.externalPolyA ≤ r.info.internalPolyA)) ∧
      (countPolyaExons mf (getReadBlocks s ops).refBlocks info.internalPolyA = 0 → info.internalPolyA ≠ -1 →
        ∃ last : Iv, (getReadBlocks s ops).refBlocks.getLast? = some last ∧
          r.info.internalPolyA = info.internalPolyA ∧ last.1 ≤ r.info.internalPolyA ∧
          r.info.internalPolyA ≤ referenceEnd s ops + max 1 (softClipTail ops)) ∧
      (0 < t → ∃ firstKept lastRemoved : Iv, r.exons.head? = some firstKept ∧
        (getReadBlocks s ops).refBlocks[t.toNat - 1]? = some lastRemoved ∧
        lastRemoved.2 < firstKept.1 ∧ s + 1 ≤ lastRemoved.1 ∧
        (∀ old new, (old = info.internalPolyT ∧ new = r.info.internalPolyT) ∨
            (old = info.externalPolyT ∧ new = r.info.externalPolyT) →
          (old = -1 → new = -1) ∧
          (old ≠ -1 → new ≤ firstKept.1 ∧
            firstKept.1 - (lastRemoved.2 - max 1 (s - max 1 (softClipHead ops))) ≤ new)) ∧
        (info.externalPolyT ≠ -1 → r.info.internalPolyT ≤ r.info.externalPolyT)) ∧
      (countPolytExons mf (getReadBlocks s ops).refBlocks info.internalPolyT = 0 → info.internalPolyT ≠ -1 →
        ∃ first : Iv, (getReadBlocks s ops).refBlocks.head? = some first ∧
          r.info.internalPolyT = info.internalPolyT ∧ r.info.internalPolyT ≤ first.2 ∧
          max 1 (s - max 1 (softClipHead ops)) ≤ r.info.internalPolyT) := by
  obtain ⟨hrA, hrT⟩ := detected_positions_in_range_win w num den s ops seq hp.nonneg info hdet
  exact C16TailRecord.record_tail_on_retained_exon_of_ranges s ops mf info hs hp hrA hrT hne

/-- non-vacuity: the record of `record_tail_on_retained_exon` -/
example :
    let ops : List CigarOp := [(.«match», 60), (.skipped, 100), (.«match», 20), (.soft_clipping, 20)]
    let seq : List Char := List.replicate 62 'C' ++ List.replicate 38 'A'
    Pos ops ∧ detectPolyaWinWith moveRefCoord 16 3 4 1000 ops seq = some ⟨1178, -1, 1162, -1⟩ ∧
    (getReadBlocks 1000 ops).refBlocks = [(1001, 1060), (1161, 1180)] := by
  refine ⟨?_, by decide, by decide⟩
  intro o ho; simp at ho; rcases ho with h | h | h | h <;> subst h <;> decide

/-- **record_removed_exons_are_tail_win** — `record_removed_exons_are_tail` (Props/C16TailExons.lean) with the tail
    positions of the REPAIRED finder (the 5' clause speaks about the repaired window `regionTWin`) -/
theorem record_removed_exons_are_tail_win (w num den : Nat) (s : Int) (ops : List CigarOp)
    (seq : List Char) (mf : Int) (info : PolyAInfo) (hs : 0 ≤ s) (hp : Pos ops)
    (hdet : detectPolyaWinWith moveRefCoord w num den s ops seq = some info)
    (hne : (getReadBlocks s ops).refBlocks ≠ []) :
    ∃ (r : AInfo) (a t : Int),
      addPolyaInfo mf (getReadBlocks s ops).refBlocks (getReadBlocks s ops).readBlocks
        (getReadBlocks s ops).cigarBlocks info = some r ∧
      correctReadInfo mf (getReadBlocks s ops).refBlocks info = some (a, t) ∧
      r.exons = ((getReadBlocks s ops).refBlocks.take ((getReadBlocks s ops).refBlocks.length - a.toNat)).drop t.toNat ∧
      (∀ e ∈ (getReadBlocks s ops).refBlocks.drop ((getReadBlocks s ops).refBlocks.length - a.toNat),
        info.internalPolyA ≠ -1 ∧
        findPolyaTail w num den s ops seq (4 * (w : Int)) 2 true = some info.internalPolyA ∧
        (∃ p, TailStart w num den true (regionA ops seq (4 * (w : Int)) 2) p) ∧
        info.internalPolyA < e.2 ∧
        (info.internalPolyA ≤ e.1 ∨
          (info.internalPolyA - e.1 ≤ mf ∧ 2 * (info.internalPolyA - e.1) < e.2 - info.internalPolyA))) ∧
      (∀ e ∈ (getReadBlocks s ops).refBlocks.take t.toNat,
        info.internalPolyT ≠ -1 ∧
        findPolytHeadWinWith moveRefCoord w num den s ops seq (4 * (w : Int)) 2 true = some info.internalPolyT ∧
        (∃ p, TailStart w num den true (regionTWin ops seq (4 * (w : Int)) 2) p) ∧
        e.1 < info.internalPolyT ∧
        (e.2 ≤ info.internalPolyT ∨
          (e.2 - info.internalPolyT ≤ mf ∧ 2 * (e.2 - info.internalPolyT) < info.internalPolyT - e.1))) := by
  have hsw := C16.exons_sorted_wf s ops hs hp
  have hsd : SD (getReadBlocks s ops).refBlocks := ⟨fun e he => (hsw.1 e he).2, hsw.2⟩
  obtain ⟨r, a, t, hr, hcri, _, hre, hA, hT, _⟩ :=
    C16TailExons.trimmed_exons_are_tail_exons mf _ (getReadBlocks s ops).readBlocks (getReadBlocks s ops).cigarBlocks info hsd hne
  unfold detectPolyaWinWith at hdet
  simp only [Option.bind_eq_bind, Option.bind_eq_some_iff, Option.some.injEq] at hdet
  obtain ⟨ea, hea, et, het, ia, hia, it, hit, rfl⟩ := hdet
  refine ⟨r, a, t, hr, hcri, hre, ?_, ?_⟩
  · intro e he
    obtain ⟨hx, hc⟩ := hA e he
    exact ⟨hx, hia, polya_found_tailStart _ w num den s ops seq _ _ _ _ hia hx,
      (C16TailExons.polya_counted_iff mf ia e).1 hc⟩
  · intro e he
    obtain ⟨hx, hc⟩ := hT e he
    have hts := polyt_found_tailStart _ w num den s ops seq _ _ _ _ (find_polyt_head_win_eq .. ▸ hit) hx
    rw [← (region_t_win_eq ops seq _ _).1] at hts
    exact ⟨hx, hit, hts, (C16TailExons.polyt_counted_iff mf it e).1 hc⟩


end IsoVerif.Props.C16FinderMirror
