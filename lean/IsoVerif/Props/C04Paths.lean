/-
C04 — the edge relation of the intron graph and the paths enumerated from it.

* Every intron-to-intron edge, after ANY history of graph operations, is the image of two consecutive introns of a
  non-multimapper read under the merges performed so far (`edges_witnessed`); hence any labelling that merges
  respect and read adjacencies increase is strictly increasing along every edge and every threaded path.
* The raw order invariants are FALSE of model and code (`edge_order_witness`, `edge_selfloop_witness`): cluster
  substitution alone makes consecutive vertices overlap or coincide.
* What the code does guarantee: full-length paths start at a polyT / read-start vertex attached to their first intron
  and end at a polyA / read-end vertex attached to their last one (`fl_paths_attached`), and every path that survives
  the length guard of `construct_fl_isoforms` is strictly increasing with a non-empty exon between consecutive
  introns and at both ends (`paths_monotone`).
Property theorems only; helper lemmas: IsoVerif/Lemmas/IntronEdges.lean.
-/
import IsoVerif.Model.IntronGraph
import IsoVerif.Model.ModelConstruction
import IsoVerif.Lemmas.IntronGraph
import IsoVerif.Lemmas.IntronEdges
import IsoVerif.Lemmas.ModelConstruction
import IsoVerif.Props.C04Graph
import IsoVerif.Props.C04

namespace IsoVerif.Props.C04Paths
open IsoVerif.Gen IsoVerif.Model IsoVerif.Model.C04 IsoVerif.Lemmas.C04 IsoVerif.Props.C04Graph IsoVerif.Props.C04

/-- **edges_witnessed.** Let `M` be any "may be merged into" relation that contains what `cluster_introns` does
    (both splice sites within `delta`).  After `intron_collector.process`, `construct()` and ANY history of graph
    operations in which `add_edge` is called on consecutive introns of a non-multimapper read and `collapse_vertex(c, s)`
    only for `M c s` (deletions, discards, defaultdict reads, `simplify_correction_map`, terminal attachments are
    unrestricted), every intron-to-intron edge `(u, v)` of `outgoing_edges` and of `incoming_edges` comes from a read
    adjacency `(a, b)` with `a` merged into `u` and `b` merged into `v` (`Rep M` = chains of `M` steps), and every entry of
    the correction map is such a chain. -/
theorem edges_witnessed (known : List Iv) (δ minCount : Int) (reads : List Read) (ops : List Op) (g0 g : Graph)
    (M : Iv → Iv → Prop) (hpos : ∀ v, Observed reads v → 0 ≤ v.1)
    (hδ : ∀ k s, Near δ k s → M k s) (hops : ∀ op ∈ ops, OpOk reads M op)
    (h0 : Graph.constructed known δ reads minCount = some g0)
    (h : runOps (obsIntrons reads) g0 ops = some g) :
    (∀ u v, (u, v) ∈ g.out → isIntronVertex v = true → Wit reads M u v) ∧
    (∀ w v, (w, v) ∈ g.inc → isIntronVertex v = true → Wit reads M v w) ∧
    (∀ k s, amGet? g.col.corr k = some s → Rep M k s) := by
  have h2 := edgeInv_of_history_obs (fun v hv => hpos v (mem_obsIntrons.1 hv)) (fun k s _ _ => hδ k s) hops h0 h
  exact ⟨fun u v huv hv => h2.out (u, v) huv hv, fun w v hwv hv => h2.inc (w, v) hwv hv,
    fun k s hks => h2.corr (k, s) (amGet?_mem hks)⟩

/-- **edges_label_monotone.** For any labelling `w` of introns (e.g. the index of the splice window an intron lies in)
    that the merges respect — introns within `delta` of each other and collapsed pairs carry the same label — and that
    strictly increases from an intron of a read to the next one, `w` strictly increases along every intron-to-intron
    edge, whatever the history: the graph is acyclic and ordered exactly as far as the merge heuristics are local. -/
theorem edges_label_monotone (known : List Iv) (δ minCount : Int) (reads : List Read) (ops : List Op) (g0 g : Graph)
    (w : Iv → Int) (hpos : ∀ v, Observed reads v → 0 ≤ v.1)
    (hδ : ∀ k s, Near δ k s → w k = w s) (hops : ∀ op ∈ ops, OpOk reads (fun c s => w c = w s) op)
    (hadj : ∀ a b, Adj reads a b → w a < w b)
    (h0 : Graph.constructed known δ reads minCount = some g0)
    (h : runOps (obsIntrons reads) g0 ops = some g) :
    (∀ u v, (u, v) ∈ g.out → isIntronVertex v = true → w u < w v) ∧
    (∀ x v, (x, v) ∈ g.inc → isIntronVertex v = true → w v < w x) := by
  obtain ⟨ho, hi, _⟩ := edges_witnessed known δ minCount reads ops g0 g (fun c s => w c = w s) hpos hδ hops h0 h
  exact ⟨fun u v huv hv => wit_label_lt hadj (ho u v huv hv), fun x v hxv hv => wit_label_lt hadj (hi x v hxv hv)⟩

/-- **thread_path_label_monotone.** Under the same hypotheses the path `thread_introns` builds for any intron list
    (a read's, or a reference isoform's) is strictly increasing in `w` wherever the list itself is: consecutive path
    vertices carry the labels of the consecutive introns they stand for.  In particular no vertex repeats. -/
theorem thread_path_label_monotone (known : List Iv) (δ minCount : Int) (reads : List Read) (ops : List Op) (g0 g : Graph)
    (w : Iv → Int) (hpos : ∀ v, Observed reads v → 0 ≤ v.1)
    (hδ : ∀ k s, Near δ k s → w k = w s) (hops : ∀ op ∈ ops, OpOk reads (fun c s => w c = w s) op)
    (h0 : Graph.constructed known δ reads minCount = some g0)
    (h : runOps (obsIntrons reads) g0 ops = some g)
    (introns path : List Iv) (hl : ∀ a b, AdjIn introns a b → w a < w b)
    (ht : threadIntrons g.col introns = some path) :
    ∀ u v, AdjIn path u v → w u < w v := by
  -- the invariant speaks of every entry of the correction map, also those a later entry of the same key shadows
  have hinv := edgeInv_of_history_obs (M := fun c s => w c = w s) (fun v hv => hpos v (mem_obsIntrons.1 hv))
    (fun k s _ _ => hδ k s) hops h0 h
  exact fun u v => threadIntrons_label_lt hinv.corr hl ht

/-- **edges_monotone_without_merging.** With `delta = 0` and no effective collapse (`collapse_vertex(c, c)` at most)
    every intron-to-intron edge IS a read adjacency, so it has the exon the read has between the two introns: the raw
    order invariant `u.end + 1 < v.start` fails only through cluster substitution and `collapse_vertex`. -/
theorem edges_monotone_without_merging (known : List Iv) (minCount : Int) (reads : List Read) (ops : List Op) (g0 g : Graph)
    (hpos : ∀ v, Observed reads v → 0 ≤ v.1)
    (hops : ∀ op ∈ ops, OpOk reads (fun c s => c = s) op)
    (hgap : ∀ a b, Adj reads a b → a.2 + 1 < b.1)
    (h0 : Graph.constructed known 0 reads minCount = some g0)
    (h : runOps (obsIntrons reads) g0 ops = some g) :
    ∀ u v, (u, v) ∈ g.out → isIntronVertex v = true → Adj reads u v ∧ u.2 + 1 < v.1 := by
  obtain ⟨ho, _, _⟩ := edges_witnessed known 0 minCount reads ops g0 g (fun c s => c = s) hpos
    (fun _ _ hn => Near.eq_of_zero hn) hops h0 h
  intro u v huv hv
  obtain ⟨a, b, hab, ha, hb⟩ := ho u v huv hv
  rw [← Rep.eq_of_eq ha, ← Rep.eq_of_eq hb]
  exact ⟨hab, hgap a b hab⟩

/-! non-vacuity: the read set of `C04Graph`, a history with a collapse inside a window of width 25 -/

def exLabel (i : Iv) : Int := i.1 / 25

example : (∀ op ∈ [Op.collapse (30, 42) (30, 40), .delVertex (30, 42), .simplifyMap, .attachOut (30, 40) (VERTEX_polya, 50)],
      OpOk exReads (fun c s => exLabel c = exLabel s) op) ∧
    (∀ k s, Near 0 k s → exLabel k = exLabel s) := by
  constructor
  · intro op hop
    simp only [List.mem_cons, List.not_mem_nil, or_false] at hop
    rcases hop with rfl | rfl | rfl | rfl <;> simp [OpOk, exLabel]
  · intro k s hn; rw [Near.eq_of_zero hn]

/-- the adjacencies of `exReads` increase the label, and the final graph has the (merged) edge -/
example : (∀ r ∈ exReads, r.multimapper = false → ∀ a b, AdjIn r.introns a b → exLabel a < exLabel b) ∧
    ((Graph.constructed [] 0 exReads 1).bind (fun g0 =>
      runOps (obsIntrons exReads) g0 [.collapse (30, 42) (30, 40), .delVertex (30, 42), .simplifyMap,
        .attachOut (30, 40) (VERTEX_polya, 50)])).map (fun g => g.out)
      = some [((10, 20), (30, 40)), ((30, 40), (VERTEX_polya, 50))] := by
  constructor
  · simp only [exReads, List.forall_mem_cons, adjIn_cons, not_adjIn_nil, List.head?_cons, List.head?_nil]
    simp [exLabel]
  · decide +kernel

/-- three reads support the intron (10,23); one read has (10,20) followed, after the 1-bp exon (21,21), by (22,40) -/
def overlapReads : List Read :=
  [⟨"a", [(10, 20), (22, 40)], [(5, 9), (21, 21), (41, 50)], false, "+", true, false, "g"⟩,
   ⟨"b", [(10, 23)], [(5, 9), (24, 50)], false, "+", true, false, "g"⟩,
   ⟨"c", [(10, 23)], [(5, 9), (24, 50)], false, "+", true, false, "g"⟩,
   ⟨"d", [(10, 23)], [(5, 9), (24, 50)], false, "+", true, false, "g"⟩]

/-- **edge_order_witness.** FALSE in model and code: "every edge `(u, v)` between intron vertices has
    `u.end < v.start`".  With `delta = 4`, `cluster_introns` substitutes (10,20) by the better supported (10,23) and
    `construct()` adds the edge (10,23) → (22,40) between overlapping introns; the read's path is
    `[(10,23), (22,40)]`.  Replayed on the real `IntronGraph` by the correspondence on every run. -/
theorem edge_order_witness :
    (Graph.constructed [] 4 overlapReads 1).map (fun g => (g.out, threadIntrons g.col [(10, 20), (22, 40)]))
      = some ([((10, 23), (22, 40))], some [(10, 23), (22, 40)]) := by decide +kernel

/-- both introns of read "a" are within `delta = 4` of the better supported (12,14) -/
def selfloopReads : List Read :=
  [⟨"a", [(10, 12), (14, 16)], [(5, 9), (13, 13), (17, 30)], false, "+", true, false, "g"⟩,
   ⟨"b", [(12, 14)], [(5, 11), (15, 30)], false, "+", true, false, "g"⟩,
   ⟨"c", [(12, 14)], [(5, 11), (15, 30)], false, "+", true, false, "g"⟩,
   ⟨"d", [(12, 14)], [(5, 11), (15, 30)], false, "+", true, false, "g"⟩]

/-- **edge_selfloop_witness.** FALSE in model and code: "intron starts strictly increase along every edge".  Two
    consecutive introns of one read are both substituted by (12,14): the graph gets the self-loop (12,14) → (12,14) and
    the read's path repeats the vertex.  (Such a path never becomes a transcript: `paths_monotone`.) -/
theorem edge_selfloop_witness :
    (Graph.constructed [] 4 selfloopReads 1).map (fun g => (g.out, threadIntrons g.col [(10, 12), (14, 16)]))
      = some ([((12, 14), (12, 14))], some [(12, 14), (12, 14)]) := by decide +kernel

/-- **fl_paths_attached.** Every full-length path that `IntronPathStorage.fill` registers with the code's own
    `thread_ends` / `thread_starts` is `[s] + thread_introns(read) + [e]` for a non-multimapper read, where `s` is a polyT or
    read-start vertex in `incoming_edges` of the path's first intron, `e` a polyA or read-end vertex in `outgoing_edges` of its
    last intron, and — when polyA evidence is required for construction — `e` is a polyA vertex or `s` a polyT vertex. -/
theorem fl_paths_attached (g : Graph) (delta apa : Int) (req : Bool) (reads : List Read) :
    ∀ path ∈ (fillGraphPaths g delta apa req reads).fl, ∃ r ∈ reads, r.multimapper = false ∧
      ∃ ip s e first last, threadIntrons g.col r.introns = some ip ∧ ip.head? = some first ∧ ip.getLast? = some last ∧
        path = s :: ip ++ [e] ∧
        (first, s) ∈ g.inc ∧ s.1 ∈ starting_vertex_codes ∧ (last, e) ∈ g.out ∧ e.1 ∈ terminal_vertex_codes ∧
        (req = true → e.1 = VERTEX_polya ∨ s.1 = VERTEX_polyt) := by
  intro path hp
  obtain ⟨a, ha, hrp⟩ := (fillPaths_spec g (graphThreadParams g delta apa req) reads).1 path hp
  obtain ⟨hmm, ip, s, e, first, last, ht, hf, hl, hpath, hs1, hs2, he1, he2, hreq⟩ := readPath_graph_spec hrp
  refine ⟨a, ha, hmm, ip, s, e, first, last, ht, hf, hl, hpath, hs1, ?_, he1, ?_, hreq⟩
  · simp only [starting_vertex_codes, List.mem_cons, List.not_mem_nil, or_false]; exact hs2
  · simp only [terminal_vertex_codes, List.mem_cons, List.not_mem_nil, or_false]; exact he2

/-- **paths_monotone_step.** Whatever path the loop body of `construct_fl_isoforms` is given: if it emits a novel
    model, the model's intron chain — the inner vertices of the path — is strictly increasing inside the range spanned by
    the terminal positions, with a non-empty exon before, between and after the introns.  The length guard
    `len(novel_exons) == len(intron_path) + 1` is what enforces it (`hwf`: path vertices are non-empty intervals, which holds
    for every vertex of the graph since vertices are read introns: `vertices_observed`). -/
theorem paths_monotone_step (env : FLEnv) (sd : Iv → Strand) (next : Nat → Nat) (st st' : FLState) (pi : PathIn) (m : TModel)
    (hstep : flStep env sd next st pi = some (st', .novelAdded m))
    (hwf : ∀ i ∈ pi.path.tail.dropLast, i.1 ≤ i.2) :
    ∃ first last, pi.path.head? = some first ∧ pi.path.getLast? = some last ∧
      m.intronPath = pi.path.tail.dropLast ∧ m.exons = getExons (first.2, last.2) m.intronPath ∧
      m.exons.length = m.intronPath.length + 1 ∧ ChainMonotone first.2 m.intronPath last.2 := by
  obtain ⟨first, last, _, _, hf⟩ := flStep_novel_inv hstep
  obtain rfl := hf.model
  exact ⟨first, last, hf.first_eq, hf.last_eq, rfl, rfl, hf.len rfl,
    (chainMonotone_of_pathGapped _ _ _ (pathGapped_of_getExons_length _ _ _ hwf (hf.len rfl))).1⟩

/-- **paths_monotone.** From the reads to the models, with the code's own path enumeration: build the graph (collector,
    `construct()`, ANY history of graph operations), enumerate the full-length paths with `thread_ends` / `thread_starts`,
    run `construct_fl_isoforms` with any assigner verdicts, canonical-site table and id source.  Every novel model emitted
    has a strictly increasing intron chain of observed introns, strictly between the position of a polyT / read-start vertex
    attached to its first intron and the position of a polyA / read-end vertex attached to its last one, with a non-empty
    exon everywhere in between — although the graph's edges themselves are not ordered (`edge_order_witness`). -/
theorem paths_monotone (known : List Iv) (δ minCount : Int) (reads : List Read) (ops : List Op)
    (g0 g : Graph) (hwf : ∀ r ∈ reads, ∀ i ∈ r.introns, i.1 ≤ i.2)
    (h0 : Graph.constructed known δ reads minCount = some g0)
    (h : runOps (obsIntrons reads) g0 ops = some g)
    (delta apa : Int) (req : Bool) (verdict : List Iv → Bool × String)
    (env : FLEnv) (sd : Iv → Strand) (next : Nat → Nat) (st st' : FLState) (ds : List Decision)
    (hrun : constructFL env sd next st (pathInsOf (fillGraphPaths g delta apa req reads) verdict) = some (st', ds)) :
    ∀ d ∈ ds, ∀ m, d = .novelAdded m →
      ∃ s e : Iv, s.1 ∈ starting_vertex_codes ∧ e.1 ∈ terminal_vertex_codes ∧
        (∃ first, m.intronPath.head? = some first ∧ (first, s) ∈ g.inc) ∧
        (∃ last, m.intronPath.getLast? = some last ∧ (last, e) ∈ g.out) ∧
        m.exons = getExons (s.2, e.2) m.intronPath ∧ m.exons.length = m.intronPath.length + 1 ∧
        ChainMonotone s.2 m.intronPath e.2 ∧ (∀ i ∈ m.intronPath, Observed reads i) := by
  intro d hd m hm
  subst hm
  unfold constructFL at hrun
  rcases flLoop_origin env sd next _ st [] st' ds hrun _ hd with h' | ⟨pi, hpi, s1, s2, hstep⟩
  · simp at h'
  · rw [mem_insSort] at hpi
    simp only [pathInsOf, List.mem_map] at hpi
    obtain ⟨path, hpath, rfl⟩ := hpi
    obtain ⟨r, hr, hmm, ip, s, e, first, last, ht, hfirst, hlast, rfl, hsin, hs, hein, he, _⟩ :=
      fl_paths_attached g delta apa req reads path hpath
    have hinner : (s :: ip ++ [e]).tail.dropLast = ip := by simp
    have hobs := thread_path_observed known δ minCount reads ops g0 g h0 h r hr hmm ip ht
    have hwf' : ∀ i ∈ (s :: ip ++ [e]).tail.dropLast, i.1 ≤ i.2 := by
      intro i hi
      rw [hinner] at hi
      obtain ⟨r', hr', _, hi'⟩ := hobs i hi
      exact hwf r' hr' i hi'
    obtain ⟨f', l', hf', hl', hip, hex, hcnt, hmono⟩ := paths_monotone_step env sd next s1 s2 _ m hstep hwf'
    -- the terminal positions of the step are those of the attached vertices
    cases hf'
    rw [show ({ path := s :: ip ++ [e], count := _, reads := _, matching := _, ref := _ } : PathIn).path = (s :: ip) ++ [e]
      from rfl, List.getLast?_concat] at hl'
    cases hl'
    rw [show m.intronPath = ip from hip.trans hinner] at hex hcnt hmono ⊢
    exact ⟨s, e, hs, he, ⟨first, hfirst, hsin⟩, ⟨last, hlast, hein⟩, hex, hcnt, hmono, hobs⟩

/-- non-vacuity of `paths_monotone`: the end-to-end example of `Props/C04.lean`, here with the modelled `thread_ends` /
    `thread_starts` (polyA vertex within `apa_delta` of the trusted read ends; an untrusted read-start vertex) -/
example : ((Graph.constructed [] 0 e2eReads 1).bind (fun g0 =>
      (runOps (obsIntrons e2eReads) g0 [.attachOut (100, 200) (VERTEX_polya, 400),
          .attachInc (50, 90) (VERTEX_read_start, 10)]).bind (fun g =>
        (constructFL (exEnv .only_stranded) exSd (· + 1) ⟨[], 0, Store.empty⟩
          (pathInsOf (fillGraphPaths g 0 10 true e2eReads) (fun _ => (false, "")))).map (fun r =>
            r.2.map (fun d => match d with | .novelAdded m => (m.intronPath, m.exons) | _ => ([], []))))))
    = some [([(50, 90), (100, 200)], [(10, 49), (91, 99), (201, 400)])] := by decide +kernel

/-- ... and the overlapping path of `edge_order_witness` is enumerated as a full-length path but yields no model -/
example : ((Graph.constructed [] 4 overlapReads 1).bind (fun g0 =>
      (runOps (obsIntrons overlapReads) g0 [.attachOut (22, 40) (VERTEX_polya, 50),
          .attachInc (10, 23) (VERTEX_read_start, 5)]).bind (fun g =>
        (constructFL (exEnv .only_stranded) exSd (· + 1) ⟨[], 0, Store.empty⟩
          (pathInsOf (fillGraphPaths g 4 10 false overlapReads) (fun _ => (false, "")))).map (fun r =>
            ((fillGraphPaths g 4 10 false overlapReads).fl, r.2)))))
    = some ([[(VERTEX_read_start, 5), (10, 23), (22, 40), (VERTEX_polya, 50)]], [.skipped]) := by decide +kernel

end IsoVerif.Props.C04Paths
