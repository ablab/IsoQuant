/-
C02, part 6 — grouped tables (`--read_group`): every (feature, group) cell is the sum of the documented weights of
the records of that group.

The grouped counter is C09's model (`IsoVerif.Model.C09`: `initCounter`, `run`, `dump`) and the theorems used are
C09's `group_of_read`, `partition` (Props/C09.lean) and the dump lemmas of Lemmas/C09.lean – imported, not repeated.
The C02 side is the bridge `toCall` (Model/CounterGrouped.lean): which answers the C02 extractor model gives the
counter for a record, and `callVal_toCall`: the value C09 adds for a call is C02's documented `contribution`.
So `table_is_sum` (ungrouped) is lifted, cell by cell, to the grouped tables.
-/
import IsoVerif.Model.CounterGrouped
import IsoVerif.Lemmas.CounterGrouped
import IsoVerif.Props.C02
import IsoVerif.Props.C09

namespace IsoVerif.Props.C02Grouped
open IsoVerif.Gen IsoVerif.Model.C02 IsoVerif.Lemmas.C02
open IsoVerif.Model.C09 (Counter Call cell initCounter sortStr NA)
open IsoVerif.Lemmas.C09 (idOf sumOver callVal)

/-- **grouped_table_is_sum** (cells): for every iteration order `π` of the group universe, every strategy, level and
    history of tagged calls the grouped counter accepts, every feature `f` and every group `g` of the universe:
    the column of the table labelled `g` holds, for `f`, exactly the sum of the documented contributions
    (`contribution`: `docWeight` of the record's type and number of features) of the calls whose read group is `g`. -/
theorem grouped_table_is_sum {π : List String} (hne : π ≠ []) (hnd : π.Nodup) (s : CountingStrategy) (lvl : Level)
    (complete : List String) (oz : Bool) (fmt : GroupedOutputFormat) (tes : List Tagged) (c : Counter)
    (h : groupedRun π s lvl complete oz fmt tes = .ok c) (f g : String) (hg : g ∈ π) :
    c.ordered[idOf c.ids g]? = some g ∧ cell c.fc f (idOf c.ids g) = groupSum s lvl tes g f := by
  obtain ⟨h1, h2⟩ := IsoVerif.Props.C09.group_of_read hne hnd s complete oz fmt (toCalls lvl tes) c h f g hg
  refine ⟨h1, ?_⟩
  rw [h2, sumOver_toCalls_contribution s lvl tes f (· = some g)]
  simp only [groupSum, Option.some.injEq]

/-- the grouped run implies the run of an ungrouped C09 counter on the same calls (it raises no more) -/
theorem ungrouped_accepts {π : List String} (hne : π ≠ []) (s : CountingStrategy) (complete : List String)
    (oz ozU : Bool) (fmt fmtU : GroupedOutputFormat) (calls : List Call) (cG : Counter)
    (hG : IsoVerif.Model.C09.run (initCounter false (some π) s complete oz fmt) calls = .ok cG) :
    ∃ cU, IsoVerif.Model.C09.run (initCounter false none s complete ozU fmtU) calls = .ok cU := by
  have hs := (IsoVerif.Lemmas.C09.init_grouped hne s complete oz fmt).strategy
  obtain ⟨hig, _, hids, _, hsU, _, _, _⟩ := IsoVerif.Lemmas.C09.init_ungrouped s complete ozU fmtU
  apply (IsoVerif.Lemmas.C09.run_ok_iff _ calls).mpr
  intro x hx
  obtain ⟨e, he, _⟩ := (IsoVerif.Lemmas.C09.run_ok_iff _ calls).mp ⟨cG, hG⟩ x hx
  rw [hs] at he
  refine ⟨e, by rw [hsU]; exact he, ?_⟩
  intro _
  rw [hids]
  simp only [IsoVerif.Lemmas.C09.gnameOf, hig, if_true]
  exact ⟨0, by simp [List.lookup]⟩

/-- **grouped_partitions_table** (through C09's `partition`): for every feature the cells of all groups sum to the
    documented total over ALL calls – which is the value of the ungrouped C02 counter fed with the same calls
    (`table_is_sum`): the grouped table is a partition of the ungrouped one by read group. -/
theorem grouped_partitions_table {π : List String} (hne : π ≠ []) (hnd : π.Nodup) (s : CountingStrategy) (lvl : Level)
    (complete : List String) (oz : Bool) (fmt : GroupedOutputFormat) (tes : List Tagged) (c : Counter)
    (h : groupedRun π s lvl complete oz fmt tes = .ok c) (f : String) :
    sumOver c.ordered (fun g => cell c.fc f (idOf c.ids g))
      = ratSum (tes.map (fun te => contribution s lvl te.1 f)) ∧
    ∀ st, run s lvl (CState.init complete) (tes.map Prod.fst) = some st →
      sumOver c.ordered (fun g => cell c.fc f (idOf c.ids g)) = cget st.counts f := by
  obtain ⟨cU, hU⟩ := ungrouped_accepts hne s complete oz oz fmt fmt (toCalls lvl tes) c h
  have hp := IsoVerif.Props.C09.partition hne hnd s complete oz oz fmt fmt (toCalls lvl tes) c cU h hU f
  have hu := IsoVerif.Props.C09.ungrouped_cell s complete oz fmt (toCalls lvl tes) cU hU f
  have hsum : sumOver (toCalls lvl tes) (fun x => callVal s x f) = ratSum (tes.map (fun te => contribution s lvl te.1 f)) := by
    simpa using sumOver_toCalls_contribution s lvl tes f (fun _ => True)
  refine ⟨by rw [hp, hu, hsum], ?_⟩
  intro st hst
  rw [hp, hu, hsum]
  have := run_counts s lvl (tes.map Prod.fst) _ st hst f
  simp only [CState.init, cget, Rat.zero_add, List.map_map] at this
  rw [this]
  rfl

/-- **grouped_dump_is_sum** (the written matrix): `dump()` of the grouped counter succeeds; its header is the sorted
    group universe; every row `(f, values)` of the matrix has one value per group, and the value under group `g` is
    `groupSum … g f` – the documented contributions of the records of group `g` – when some call confirmed `f`
    (`confirmsFeature`, the same condition as for the ungrouped table), and 0 in every column otherwise. -/
theorem grouped_dump_is_sum {π : List String} (hne : π ≠ []) (hnd : π.Nodup) (s : CountingStrategy) (lvl : Level)
    (complete : List String) (oz : Bool) (fmt : GroupedOutputFormat) (tes : List Tagged) (c : Counter)
    (h : groupedRun π s lvl complete oz fmt tes = .ok c) :
    ∃ d, IsoVerif.Model.C09.dump c = .ok d ∧ d.header = sortStr π ∧
      ∀ rows, d.matrix = some rows → ∀ f row, (f, row) ∈ rows →
        ((∃ te ∈ tes, confirmsFeature lvl te.1 f) → row = (sortStr π).map (fun g => groupSum s lvl tes g f)) ∧
        ((¬ ∃ te ∈ tes, confirmsFeature lvl te.1 f) → row = (sortStr π).map (fun _ => (0 : Rat))) := by
  obtain ⟨hinv, hig, hord, _, hs, _⟩ := IsoVerif.Lemmas.C09.run_grouped hne hnd h
  -- the confirmed set of the C09 counter, in C02 terms
  have hconf : ∀ f, f ∈ c.confirmed ↔ ∃ te ∈ tes, confirmsFeature lvl te.1 f := by
    intro f
    rw [run_confirmed09 h f, (IsoVerif.Lemmas.C09.init_grouped hne s complete oz fmt).confirmed,
      (IsoVerif.Lemmas.C09.init_grouped hne s complete oz fmt).strategy]
    simp only [List.not_mem_nil, false_or]
    constructor
    · rintro ⟨x, hx, hcx⟩
      obtain ⟨te, hte, htc⟩ := List.mem_filterMap.mp hx
      exact ⟨te, hte, (callConfirms_toCall s lvl te x htc f).mp hcx⟩
    · rintro ⟨te, hte, hcf⟩
      cases htc : toCall lvl te with
      | none =>
        exfalso
        obtain ⟨e, g⟩ := te
        cases e with
        | unassigned n => exact hcf
        | unaligned n => exact hcf
        | confirm fs => simp [toCall] at htc
        | raw noId fs => simp [toCall] at htc
        | read ra => cases ra <;> simp [toCall] at htc
      | some x =>
        exact ⟨x, List.mem_filterMap.mpr ⟨te, hte, htc⟩, (callConfirms_toCall s lvl te x htc f).mpr hcf⟩
  obtain ⟨rows, lins, hd, _, hm⟩ := IsoVerif.Lemmas.C09.dump_grouped_spec c hinv hig
  refine ⟨_, hd, hord, fun rows' hrows' f row hfr => ?_⟩
  simp only at hrows'
  split at hrows'
  · obtain rfl := Option.some.inj hrows'
    obtain ⟨_, rfl, _⟩ := (hm f row).mp hfr
    rw [hord]
    constructor
    · intro hex
      refine List.map_congr_left fun g hg => ?_
      rw [IsoVerif.Lemmas.C09.zcell, if_pos ((hconf f).mpr hex)]
      exact (grouped_table_is_sum hne hnd s lvl complete oz fmt tes c h f g (IsoVerif.Lemmas.C09.mem_sortStr.mp hg)).2
    · intro hnex
      refine List.map_congr_left fun g _ => ?_
      rw [IsoVerif.Lemmas.C09.zcell, if_neg fun hmem => hnex ((hconf f).mp hmem)]
  · cases hrows'

def gA : Assignment String :=
  { atype := .unique, gtype := .unique, isoMatches := [⟨some "G1", some "T1"⟩], nCorrectedExons := 3,
    isoformIntrons := [("T1", 2), ("T2", 2)] }
def gB : Assignment String :=
  { atype := .ambiguous, gtype := .unique, isoMatches := [⟨some "G1", some "T1"⟩, ⟨some "G1", some "T2"⟩],
    nCorrectedExons := 2, isoformIntrons := [("T1", 2), ("T2", 2)] }
def demoTagged : List Tagged :=
  [(.read (some gA), "b"), (.read (some gB), "a"), (.read (some gB), "b"), (.read none, "NA"), (.unassigned 2, "NA"),
   (.read (some gA), "a")]

-- the hypothesis of the three theorems holds for this history, and the cells are what `groupSum` says
example : (match groupedRun ["b", "NA", "a"] .with_ambiguous .transcript ["T1", "T2", "T3"] true .both demoTagged with
    | .ok c => decide (c.ordered = ["NA", "a", "b"] ∧ cell c.fc "T1" (idOf c.ids "a") = 3 / 2 ∧
                       cell c.fc "T2" (idOf c.ids "b") = 1 / 2 ∧ cell c.fc "T1" (idOf c.ids "NA") = 0)
    | .error _ => false) = true := by decide +kernel

example : groupSum .with_ambiguous .transcript demoTagged "a" "T1" = 3 / 2 ∧
    groupSum .with_ambiguous .transcript demoTagged "b" "T2" = 1 / 2 := by decide +kernel

-- the written matrix: T1 confirmed (spliced unique reads), T2 not confirmed ⇒ zeroed in every column
example : (match groupedRun ["b", "NA", "a"] .with_ambiguous .transcript ["T1", "T2", "T3"] true .both demoTagged with
    | .ok c => (match IsoVerif.Model.C09.dump c with
                | .ok d => decide (d.header = ["NA", "a", "b"] ∧
                                   d.matrix = some [("T1", [0, 3 / 2, 3 / 2]), ("T2", [0, 0, 0]), ("T3", [0, 0, 0])])
                | .error _ => false)
    | .error _ => false) = true := by decide +kernel

end IsoVerif.Props.C02Grouped
