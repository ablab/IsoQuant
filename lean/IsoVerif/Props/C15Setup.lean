/-
C15, reuse clause — the RUN SET-UP of a restart.

"A run restarted from saved assignments reproduces the outputs of the run that saved them", with the restart given the
options of the saving run (input option aside), for EVERY set-up of the saving run: number of input files of the
experiment, `--read_group` option (none / `file_name` / `tag:..` / `read_id:..` / `file:TABLE`), other experiments of the
invocation with several files, several prefixes on the restart's command line.

  MODEL      `_info` layout with the two set-up fields (Model/Serial.lean `writeInfoFileSetup`, `readSetup`);
             `set_data_dependent_options` (`effectiveReadGroup`), the first lines of `process_sample` of a BAM run
             (`savingSetup`) and of a restart (`restartSetup`; before the repair `restartSetupOrig`), one experiment per
             prefix from its own files (`restartAllS`); the two consumers of the set-up outside `downstream`:
             `groupedTablesWritten` (ReadAssignmentAggregator) and `replicaCheckPasses` (GraphBasedModelConstructor)
  PARAMETER  everything else of model construction and of the grouped counters: any function of (set-up, saved files) -
             `restart_is_second_half` gives equal set-ups and the restart reads the very files, so it is equal too
-/
import IsoVerif.Props.C15Reuse

namespace IsoVerif.Props.C15Setup
open IsoVerif.Gen IsoVerif.Model IsoVerif.Model.Serial IsoVerif.Model.Resolver IsoVerif.Model.C12 IsoVerif.Model.C15
open IsoVerif.Lemmas.Serial IsoVerif.Lemmas.C15
open IsoVerif.Props.C15Stream IsoVerif.Props.C15Reuse

/-- the six statements of `collect_reads` are the older file followed by the two new fields -/
theorem info_file_setup_layout (i : SaveInfo) (u : Int) (s : SavedSetup) :
    writeInfoFileSetup i u s = (writeInfoFile i u).bind (fun a => (writeSetup s).map (fun b => a ++ b)) := by
  unfold writeInfoFile writeSaveInfo writeSetup
  rw [seqW_seqW_cons, ← seqW_append]
  rfl

/-- `load_unaligned_reads` on a file that goes on after the count: the stored number, and what follows is left -/
theorem info_file_unaligned_rest (i : SaveInfo) (u : Int) (bs rest : Bytes) (henc : writeInfoFile i u = some bs) :
    readUnaligned.run (bs ++ rest) = some (u, rest) := by
  obtain ⟨hb, ub, h1, h3, rfl, _⟩ := info_file_head i u bs [] henc
  unfold readUnaligned
  rw [List.append_assoc, StateT.run_bind, save_info_decode_encode i hb (ub ++ rest) h1]
  have := RT_writeInt ser_LONG_INT_BYTES u ub rest trivial h3
  simpa using this

/-- a grouping mode that `write_string_or_none` does not confuse with `None` (a string of exactly 65535 UTF-8 bytes
    would be: `string_or_none_collision_witness`, Props/C15.lean) -/
def SetupDom (s : SavedSetup) : Prop := ∀ g, s.readGroup = some g → (utf8 g).length ≠ ser_NONE_STR_LEN

instance (s : SavedSetup) : Decidable (SetupDom s) :=
  inferInstanceAs (Decidable (∀ g ∈ s.readGroup, (utf8 g).length ≠ ser_NONE_STR_LEN))

/-- **setup_file_roundtrip**: `load_run_setup` (before its `if read_group else None`) gives back the file count and the
    grouping mode `collect_reads` appended, and stops at the end of the file -/
theorem setup_file_roundtrip (i : SaveInfo) (u : Int) (s : SavedSetup) (bs sb : Bytes)
    (henc : writeInfoFile i u = some bs) (hs : writeSetup s = some sb) (hdom : SetupDom s) :
    readSetup.run (bs ++ sb) = some (s, []) := by
  unfold writeSetup at hs
  obtain ⟨nb, y, h1, h2, rfl⟩ := seqW_cons_eq_some_iff.mp hs
  obtain ⟨gb, z, h3, h4, rfl⟩ := seqW_cons_eq_some_iff.mp h2
  cases seqW_nil_eq_some_iff.mp h4
  have e1 := info_file_unaligned_rest i u bs (nb ++ (gb ++ [])) henc
  have e2 := RT_writeInt ser_LONG_INT_BYTES s.fileCount nb gb trivial h1
  have e3 := RT_writeStringOrNone s.readGroup gb [] hdom h3
  simp only [List.append_nil] at e1 e3 ⊢
  simp [readSetup, StateT.run_bind, e1, e2, e3]

/-- an `_info` file written before the set-up was stored (four fields, since fix cc73ffc): 0 files, the empty string -/
theorem old_info_file_setup (i : SaveInfo) (u : Int) (bs : Bytes) (henc : writeInfoFile i u = some bs) :
    readSetup.run bs = some ({ fileCount := 0, readGroup := some "" }, []) := by
  unfold readSetup
  rw [StateT.run_bind, info_file_unaligned i u bs henc]
  rfl

/-- ... and one of the oldest format (three fields) -/
theorem oldest_info_file_setup (i : SaveInfo) (bs : Bytes) (henc : writeSaveInfo i = some bs) :
    readSetup.run bs = some ({ fileCount := 0, readGroup := some "" }, []) := by
  unfold readSetup
  rw [StateT.run_bind, old_info_file_unaligned i bs henc]
  rfl

theorem truthyStr_effective_none (r : Bool) : truthyStr (effectiveReadGroup none r) = effectiveReadGroup none r := by
  cases r <;> simp [effectiveReadGroup, truthyStr]

/-- **restart_setup_eq_saving**: for every `--read_group` option, every number of files of the experiment and whatever
    the other experiments of the saving invocation looked like, the restart that is given the same option - or none, when
    the saving run's option was not the empty string - works under the set-up the saving run worked under: same
    `args.read_group` (the implicit `file_name` included), same `args.use_technical_replicas`. -/
theorem restart_setup_eq_saving (cmdSaving cmdRestart : Option String) (otherReplicas : Bool) (fileCount : Nat)
    (hcmd : cmdRestart = cmdSaving ∨ (cmdRestart = none ∧ cmdSaving ≠ some "")) :
    restartSetup cmdRestart (savedSetupOf cmdSaving otherReplicas fileCount) =
      savingSetup cmdSaving otherReplicas fileCount := by
  have hcount : ∀ rg, mkSetup rg (if 0 < (fileCount : Int) then ((fileCount : Int)).toNat else 1) = mkSetup rg fileCount := by
    intro rg
    by_cases h0 : fileCount = 0
    · subst h0; simp [mkSetup]
    · have : 0 < fileCount := by omega
      simp [this]
  unfold restartSetup savedSetupOf savingSetup
  simp only
  rw [hcount]
  congr 1
  rcases hcmd with rfl | ⟨rfl, hne⟩
  · cases hc : cmdRestart with
    | none => simp [truthyStr_effective_none]
    | some c => simp [effectiveReadGroup]
  · cases hc : cmdSaving with
    | none => simp [truthyStr_effective_none]
    | some c =>
      have : c ≠ "" := fun h => hne (by rw [hc, h])
      simp [effectiveReadGroup, truthyStr, this]

/-- the two consumers of the set-up, declaratively: grouped tables exist iff a non-empty grouping mode is in force ... -/
theorem grouped_tables_iff (s : Setup) : groupedTablesWritten s = true ↔ ∃ g, s.readGroup = some g ∧ g ≠ "" := by
  unfold groupedTablesWritten truthyStr
  cases s.readGroup with
  | none => simp
  | some g => by_cases h : g = "" <;> simp [h]

/-- ... and a candidate novel chain survives the technical-replicas check iff the check is off or two of its reads carry
    different read groups -/
theorem replica_check_spec (s : Setup) (groups : List String) :
    replicaCheckPasses s groups = true ↔ s.useTechnicalReplicas = false ∨ ∃ a ∈ groups, ∃ b ∈ groups, a ≠ b := by
  have key : (groups.eraseDups.length ≤ 1) ↔ ¬ ∃ a ∈ groups, ∃ b ∈ groups, a ≠ b := by
    constructor
    · intro hlen ⟨a, ha, b, hb, hab⟩
      have ha' : a ∈ groups.eraseDups := List.mem_eraseDups.mpr ha
      have hb' : b ∈ groups.eraseDups := List.mem_eraseDups.mpr hb
      match hl : groups.eraseDups, hlen, ha', hb' with
      | [], _, ha', _ => cases ha'
      | [x], _, ha', hb' =>
        simp only [List.mem_cons, List.not_mem_nil, or_false] at ha' hb'
        exact hab (ha'.trans hb'.symm)
      | _ :: _ :: _, hlen, _, _ => simp at hlen
    · intro hno
      match groups with
      | [] => simp
      | a :: as =>
        have hf : as.filter (fun b => !b == a) = [] := by
          rw [List.filter_eq_nil_iff]
          intro b hb hne
          apply hno
          refine ⟨b, List.mem_cons_of_mem _ hb, a, List.mem_cons_self, ?_⟩
          intro h
          subst h
          simp at hne
        rw [List.eraseDups_cons, hf]
        simp
  unfold replicaCheckPasses
  cases hu : s.useTechnicalReplicas with
  | false => simp
  | true =>
    simp only [Bool.true_and, Bool.not_eq_true', decide_eq_false_iff_not, Bool.true_eq_false, false_or]
    rw [key]
    exact Classical.not_not

/-- the second half does not look beyond the three fields `load_read_info` reads -/
theorem processSaved_info_suffix (E : Env) (cfg : Config) (un : List Nat) (names : List String) (f : Saved)
    (i : SaveInfo) (u : Int) (sb : Bytes) (hinfo : writeInfoFile i u = some f.info) :
    processSaved E cfg un names { f with info := f.info ++ sb } = processSaved E cfg un names f := by
  obtain ⟨hb, ub, h1, _, hbs, _⟩ := info_file_head i u f.info [] hinfo
  unfold processSaved
  simp only
  have e1 : readSaveInfo.run (f.info ++ sb) = some (i, ub ++ sb) := by
    rw [hbs, List.append_assoc]; exact save_info_decode_encode i hb (ub ++ sb) h1
  have e2 : readSaveInfo.run f.info = some (i, ub) := by
    rw [hbs]; exact save_info_decode_encode i hb ub h1
  rw [e1, e2]
  cases (names.zip f.chrs).zipIdx.mapM (fun x => constructChr E cfg x.2 x.1.1 x.1.2) <;> rfl

theorem restartRun_info_suffix (E : Env) (cfg : Config) (names : List String) (f : Saved)
    (i : SaveInfo) (u : Int) (sb : Bytes) (hinfo : writeInfoFile i u = some f.info) :
    restartRun E cfg names { f with info := f.info ++ sb } = restartRun E cfg names f := by
  unfold restartRun
  simp only
  rw [info_file_unaligned_rest i u f.info sb hinfo, info_file_unaligned i u f.info hinfo]
  exact processSaved_info_suffix E cfg _ names f i u sb hinfo

/-- the `_info` file of `collectReadsS` is, byte for byte, the six statements of `collect_reads` -/
theorem collectReadsS_info {E : Env} {hm : Bool} {readGroups : List String} {ua : Nat} {s : SavedSetup}
    {chroms : List ChrIn} {files : Saved} (h : collectReadsS E hm readGroups ua s chroms = some files) :
    ∃ i, writeInfoFileSetup i (ua : Int) s = some files.info := by
  unfold collectReadsS at h
  split at h
  · rename_i f sb hc hs
    cases h
    obtain ⟨i, hi⟩ := collectReads_info hc
    exact ⟨i, by rw [info_file_setup_layout, hi, hs]; rfl⟩
  · cases h

theorem savingRunS_eq (E : Env) (cfg : Config) (cmd : Option String) (other : Bool) (readGroups : List String)
    (unmapped : List Nat) (chroms : List ChrIn) :
    savingRunS E cfg cmd other readGroups unmapped chroms =
      (collectReads E cfg.highMemory readGroups (countUnaligned unmapped) chroms).bind fun f =>
      (writeSetup (savedSetupOf cmd other unmapped.length)).bind fun sb =>
      (processSaved E cfg unmapped (chroms.map (·.name)) f).map
        (fun o => ({ f with info := f.info ++ sb }, savingSetup cmd other unmapped.length, o)) := by
  unfold savingRunS collectReadsS
  cases hc : collectReads E cfg.highMemory readGroups (countUnaligned unmapped) chroms with
  | none => rfl
  | some f =>
    cases writeSetup (savedSetupOf cmd other unmapped.length) with
    | none => rfl
    | some sb =>
      obtain ⟨i, hi⟩ := collectReads_info hc
      simp only [Option.bind_some]
      rw [processSaved_info_suffix E cfg unmapped _ f i _ sb hi]

/-- the files of a saving run with the set-up fields, read back: `load_run_setup` finds what was stored, and the older
    readers are not disturbed by the two new fields -/
theorem savingRunS_read_back {E : Env} {cfg : Config} {cmd : Option String} {other : Bool} {readGroups : List String}
    {unmapped : List Nat} {chroms : List ChrIn} {files : Saved} {s : Setup} {o : RunOut}
    (h : savingRunS E cfg cmd other readGroups unmapped chroms = some (files, s, o)) :
    s = savingSetup cmd other unmapped.length ∧ restartRun E cfg (chroms.map (·.name)) files = some o ∧
    (SetupDom (savedSetupOf cmd other unmapped.length) →
      readSetup.run files.info = some (savedSetupOf cmd other unmapped.length, [])) := by
  rw [savingRunS_eq] at h
  obtain ⟨f, hc, h⟩ := Option.bind_eq_some_iff.mp h
  obtain ⟨sb, hs, h⟩ := Option.bind_eq_some_iff.mp h
  obtain ⟨o', ho', hx⟩ := Option.map_eq_some_iff.mp h
  cases hx
  obtain ⟨i, hi⟩ := collectReads_info hc
  refine ⟨rfl, ?_, fun hdom => setup_file_roundtrip i _ _ f.info sb hi hs hdom⟩
  rw [restartRun_info_suffix E cfg _ f i _ sb hi]
  exact restart_is_second_half_files E cfg readGroups unmapped chroms f o
    (by rw [savingRun_eq, hc, Option.bind_some, ho', Option.map_some])

/-- **restart_is_second_half** (full strength over the run set-up): for every experiment - any number of input files,
    any `--read_group` option, whatever else the saving invocation held -, if the saving run wrote `files` and computed
    `o` under the set-up `s`, then the run restarted from `files` with the options of the saving run works under the SAME
    set-up (`args.read_group`, `args.use_technical_replicas`) and computes the same `o` (loaded `_info`, records, count
    and TPM tables, `__not_aligned`).  Hypothesis: the grouping mode is not a string of exactly 65535 bytes. -/
theorem restart_is_second_half (E : Env) (cfg : Config) (cmd cmdRestart : Option String) (other : Bool)
    (readGroups : List String) (unmapped : List Nat) (chroms : List ChrIn) (files : Saved) (s : Setup) (o : RunOut)
    (h : savingRunS E cfg cmd other readGroups unmapped chroms = some (files, s, o))
    (hcmd : cmdRestart = cmd ∨ (cmdRestart = none ∧ cmd ≠ some ""))
    (hdom : SetupDom (savedSetupOf cmd other unmapped.length)) :
    restartRunS E cfg cmdRestart (chroms.map (·.name)) files = some (s, o) := by
  obtain ⟨rfl, hr, hset⟩ := savingRunS_read_back h
  unfold restartRunS
  rw [hset hdom, hr]
  simp only [Option.map_some, restart_setup_eq_saving cmd cmdRestart other unmapped.length hcmd]

/-- everything of the second half that is outside `downstream` (transcript model construction with its
    technical-replicas check, grouped counters and which tables are written) is some function of the set-up and of the
    saved files: the restart evaluates it on the saving run's arguments -/
theorem restart_same_arguments {α : Type} (F : Setup → Saved → α) (E : Env) (cfg : Config) (cmd : Option String)
    (other : Bool) (readGroups : List String) (unmapped : List Nat) (chroms : List ChrIn) (files : Saved) (s : Setup)
    (o : RunOut) (h : savingRunS E cfg cmd other readGroups unmapped chroms = some (files, s, o))
    (hdom : SetupDom (savedSetupOf cmd other unmapped.length)) :
    (restartRunS E cfg cmd (chroms.map (·.name)) files).map (fun x => F x.1 files) = some (F s files) := by
  rw [restart_is_second_half E cfg cmd cmd other readGroups unmapped chroms files s o h (Or.inl rfl) hdom]
  rfl

/-- one experiment of a BAM invocation, as the restart will meet it -/
structure SavedExperiment where
  cmd : Option String
  other : Bool
  readGroups : List String
  unmapped : List Nat
  chroms : List ChrIn

/-- **restart_all_prefixes**: `--read_assignments P0 P1 ...` without `--read_group` - prefixes saved by any BAM
    invocations (different numbers of files, different grouping modes): every experiment of the restart reproduces the
    set-up and the outputs of the run that saved ITS prefix; nothing carries over from one prefix to the next. -/
theorem restart_all_prefixes (E : Env) (cfg : Config) (exps : List (SavedExperiment × Saved × Setup × RunOut))
    (h : ∀ x ∈ exps, savingRunS E cfg x.1.cmd x.1.other x.1.readGroups x.1.unmapped x.1.chroms = some x.2 ∧
      x.1.cmd ≠ some "" ∧ SetupDom (savedSetupOf x.1.cmd x.1.other x.1.unmapped.length)) :
    restartAllS E cfg none (exps.map (fun x => (x.1.chroms.map (·.name), x.2.1))) = exps.map (fun x => some x.2.2) := by
  unfold restartAllS
  rw [List.map_map]
  apply List.map_congr_left
  intro x hx
  obtain ⟨hs, hne, hd⟩ := h x hx
  exact restart_is_second_half E cfg x.1.cmd none x.1.other x.1.readGroups x.1.unmapped x.1.chroms x.2.1 x.2.2.1 x.2.2.2
    hs (Or.inr ⟨rfl, hne⟩) hd

theorem restartRunS_without_setup (E : Env) (cfg : Config) (cmd : Option String) (names : List String) (files : Saved)
    (h : readSetup.run files.info = some ({ fileCount := 0, readGroup := some "" }, [])) :
    restartRunS E cfg cmd names files = restartRunOrigS E cfg cmd names files := by
  have : restartSetup cmd { fileCount := 0, readGroup := some "" } = restartSetupOrig cmd := by
    cases cmd <;> simp [restartSetup, restartSetupOrig, truthyStr]
  unfold restartRunS restartRunOrigS
  rw [h, ← this]

/-- a save folder of an older format is still accepted and the restart behaves as it did before the repair:
    its own command line, one "file" -/
theorem restart_on_old_info_file_setup (E : Env) (cfg : Config) (cmd : Option String) (names : List String)
    (files : Saved) (i : SaveInfo) (u : Int) (hold : writeInfoFile i u = some files.info) :
    restartRunS E cfg cmd names files = restartRunOrigS E cfg cmd names files :=
  restartRunS_without_setup E cfg cmd names files (old_info_file_setup i u files.info hold)

theorem restart_on_oldest_info_file_setup (E : Env) (cfg : Config) (cmd : Option String) (names : List String)
    (files : Saved) (i : SaveInfo) (hold : writeSaveInfo i = some files.info) :
    restartRunS E cfg cmd names files = restartRunOrigS E cfg cmd names files :=
  restartRunS_without_setup E cfg cmd names files (oldest_info_file_setup i files.info hold)

/-- a second experiment: one file, one read on c2 -/
def exChroms2 : List ChrIn :=
  [{ name := "c1", groups := [] },
   { name := "c2", groups := [({ exHeader with chrId := "c2", geneIds := ["G2"] }, [mkRA 7 "rb" "c2" "G2" "T2" false 0])] }]

/-- the two saving runs and the prefixes handed to `--read_assignments` -/
def exSavedA : Option (Saved × Setup × RunOut) :=
  savingRunS exEnv (exCfg false) none false ["rep1", "rep2"] [2, 3] exChroms
def exSavedB : Option (Saved × Setup × RunOut) := savingRunS exEnv (exCfg false) none false ["NA"] [0] exChroms2
def exPrefixes : Option (List (List String × Saved)) :=
  exSavedA.bind (fun a => exSavedB.map (fun b => [(["c1", "c2"], a.1), (["c1", "c2"], b.1)]))

theorem exChroms2_hyps : InternOk exEnv exChroms2 ∧ InDomain exChroms2 ∧
    (streamOf exEnv exChroms2).length < ser_TERMINATION_INT ∧ ChrStamped exEnv exChroms2 := by
  have hS : ∀ x ∈ exChroms2.zipIdx, exEnv.intern x.1.name = x.2 ∧ ∀ g ∈ x.1.groups, ∀ r ∈ g.2, r.chrId = x.1.name := by
    decide +kernel
  exact ⟨by unfold InternOk; decide +kernel, by unfold InDomain; decide +kernel, by decide +kernel,
    fun i c hi => hS (c, i) (List.mem_zipIdx_iff_getElem?.mpr hi)⟩

/-- the two saving runs, evaluated once on their records (`collectReads_eq`, `processSaved_on_saved`): what the
    statements below observe of them (set-up, `__not_aligned`, transcript counts); everything they say about a restart
    from these files then follows from `savingRunS_read_back` and `restart_is_second_half` -/
theorem exSaved_spec :
    (∃ f o, exSavedA = some (f, ⟨some "file_name", true⟩, o) ∧ o.out.geneCounts.notAligned = 5 ∧
      o.out.transcriptCounts.rows = [(6, 100), (7, 100)]) ∧
    (∃ f o, exSavedB = some (f, ⟨none, false⟩, o) ∧ o.out.transcriptCounts.rows = [(6, 0), (7, 100)]) := by
  obtain ⟨hI, hD, _, _, hlen, hS, _, _⟩ := exChroms_hyps
  obtain ⟨hI2, hD2, hlen2, hS2⟩ := exChroms2_hyps
  have hMf : ∀ c, MemoryModeOk (exCfg false).highMemory c := fun _ h => by cases h
  obtain ⟨fA, hcA⟩ : ∃ f, collectReads exEnv (exCfg false).highMemory ["rep1", "rep2"] (countUnaligned [2, 3]) exChroms = some f := by
    rw [collectReads_eq exEnv _ _ _ exChroms hD (hMf _), ← Option.isSome_iff_exists]
    decide +kernel
  obtain ⟨fB, hcB⟩ : ∃ f, collectReads exEnv (exCfg false).highMemory ["NA"] (countUnaligned [0]) exChroms2 = some f := by
    rw [collectReads_eq exEnv _ _ _ exChroms2 hD2 (hMf _), ← Option.isSome_iff_exists]
    decide +kernel
  obtain ⟨sA, hsA⟩ : ∃ sb, writeSetup (savedSetupOf none false [2, 3].length) = some sb :=
    Option.isSome_iff_exists.mp (by decide +kernel)
  obtain ⟨sB, hsB⟩ : ∃ sb, writeSetup (savedSetupOf none false [0].length) = some sb :=
    Option.isSome_iff_exists.mp (by decide +kernel)
  -- the second halves are `secondHalf` of the records
  have hev : (secondHalf exEnv (exCfg false) ["rep1", "rep2"] [2, 3] exChroms).map
        (fun o => (o.out.geneCounts.notAligned, o.out.transcriptCounts.rows)) = some (5, [(6, 100), (7, 100)]) ∧
      (secondHalf exEnv (exCfg false) ["NA"] [0] exChroms2).map (fun o => o.out.transcriptCounts.rows) =
        some [(6, 0), (7, 100)] := by decide +kernel
  rw [← processSaved_on_saved exEnv (exCfg false) _ exChroms fA [2, 3] _ hI hcA hD (hMf _) hlen hS,
    ← processSaved_on_saved exEnv (exCfg false) _ exChroms2 fB [0] _ hI2 hcB hD2 (hMf _) hlen2 hS2] at hev
  obtain ⟨oA, hoA, hvA⟩ := Option.map_eq_some_iff.mp hev.1
  obtain ⟨oB, hoB, hvB⟩ := Option.map_eq_some_iff.mp hev.2
  obtain ⟨hnA, hrA⟩ := Prod.mk.inj hvA
  refine ⟨⟨{ fA with info := fA.info ++ sA }, oA, ?_, hnA, hrA⟩, { fB with info := fB.info ++ sB }, oB, ?_, hvB⟩
  · rw [exSavedA, savingRunS_eq, hcA, Option.bind_some, hsA, Option.bind_some, hoA]
    rfl
  · rw [exSavedB, savingRunS_eq, hcB, Option.bind_some, hsB, Option.bind_some, hoB]
    rfl

-- the hypotheses of `restart_is_second_half` are met by the concrete experiment of Props/C15Reuse.lean saved from TWO
-- files without --read_group, and everything computes: set-up (file_name, replicas on), `_info` ends with 2, "file_name"
example : SetupDom (savedSetupOf none false 2) ∧ SetupDom (savedSetupOf (some "file:/data/groups.tsv") true 1) := by
  decide +kernel

example :
    (savingRunS exEnv (exCfg false) none false ["rep1", "rep2"] [2, 3] exChroms).map (fun x => x.2.1) =
      some { readGroup := some "file_name", useTechnicalReplicas := true } ∧
    ((savingRunS exEnv (exCfg false) none false ["rep1", "rep2"] [2, 3] exChroms).bind (fun x =>
        (restartRunS exEnv (exCfg false) none ["c1", "c2"] x.1).map (fun y =>
          (y.1, y.2.out.geneCounts.notAligned, decide (y.2.info = x.2.2.info),
           decide (y.2.out.transcriptCounts.rows = x.2.2.out.transcriptCounts.rows))))) =
      some ({ readGroup := some "file_name", useTechnicalReplicas := true }, 5, true, true) ∧
    ((savingRunS exEnv (exCfg false) none false ["rep1", "rep2"] [2, 3] exChroms).bind (fun x =>
        (readSetup.run x.1.info).map (·.1))) = some { fileCount := 2, readGroup := some "file_name" } := by
  obtain ⟨⟨f, o, hA, hna, _⟩, _⟩ := exSaved_spec
  have hd : SetupDom (savedSetupOf none false [2, 3].length) := by decide +kernel
  have hr := restart_is_second_half _ _ _ none _ _ _ _ _ _ _ hA (Or.inl rfl) hd
  rw [show savingRunS exEnv (exCfg false) none false ["rep1", "rep2"] [2, 3] exChroms = _ from hA,
    show (["c1", "c2"] : List String) = exChroms.map (·.name) from rfl]
  simp only [Option.map_some, Option.bind_some, hr, (savingRunS_read_back hA).2.2 hd, hna, decide_true]
  exact ⟨trivial, trivial, rfl⟩

-- the `_info` bytes: the new fields come back, the older readers are undisturbed, older files read as (0, "")
example :
    ((writeInfoFile ⟨17, 5, ["NA", "g1"]⟩ 7).bind fun bs => (writeSetup ⟨2, some "file_name"⟩).bind fun sb =>
        readSetup.run (bs ++ sb)) = some (⟨2, some "file_name"⟩, []) ∧
    ((writeInfoFileSetup ⟨17, 5, ["NA", "g1"]⟩ 7 ⟨2, none⟩).bind fun bs => readSetup.run bs) = some (⟨2, none⟩, []) ∧
    ((writeInfoFileSetup ⟨17, 5, ["NA", "g1"]⟩ 7 ⟨2, none⟩).bind fun bs => readUnaligned.run bs) =
      some (7, [0, 0, 0, 2, 255, 255]) ∧
    ((writeInfoFile ⟨17, 5, ["NA", "g1"]⟩ 7).bind fun bs => readSetup.run bs) = some (⟨0, some ""⟩, []) ∧
    ((writeSaveInfo ⟨17, 5, ["NA", "g1"]⟩).bind fun bs => readSetup.run bs) = some (⟨0, some ""⟩, []) := by
  decide +kernel

-- both disjuncts of `restart_setup_eq_saving`'s hypothesis are inhabited, and the set-ups they talk about are not trivial
example : restartSetup (some "tag:CB") (savedSetupOf (some "tag:CB") true 3) = ⟨some "tag:CB", false⟩ ∧
    restartSetup none (savedSetupOf (some "file_name") false 3) = ⟨some "file_name", true⟩ ∧
    restartSetup none (savedSetupOf none true 1) = ⟨some "file_name", false⟩ ∧
    restartSetup none (savedSetupOf none false 1) = ⟨none, false⟩ := by
  decide +kernel

-- the hypotheses of `restart_all_prefixes` on the two saved experiments of `restart_prefixes_witness` below
example : SetupDom (savedSetupOf none false [2, 3].length) ∧ SetupDom (savedSetupOf none false [0].length) ∧
    (none : Option String) ≠ some "" := by
  decide +kernel

/-- **restart_setup_lost_witness** (the defect, against `restartSetupOrig` / `restartRunOrigS`): two files, eight reads
    of a novel chain all from `rep1`.
    (1) `--read_group file_name` in both runs: the saving run has the replicas check on and drops the chain, the old
        restart (one "file": the prefix) has it off and reports the chain - 5 models vs 6;
    (2) no `--read_group`: the saving run groups by file name implicitly and writes the grouped tables, the old restart
        writes none;
    (3) end to end on the concrete experiment: the old restart from the saving run's own files works under another
        set-up, the repaired one under the saving run's. -/
theorem restart_setup_lost_witness :
    (replicaCheckPasses (savingSetup (some "file_name") false 2) (List.replicate 8 "rep1") = false ∧
     replicaCheckPasses (restartSetupOrig (some "file_name")) (List.replicate 8 "rep1") = true ∧
     replicaCheckPasses (restartSetup (some "file_name") (savedSetupOf (some "file_name") false 2))
       (List.replicate 8 "rep1") = false) ∧
    (groupedTablesWritten (savingSetup none false 2) = true ∧ groupedTablesWritten (restartSetupOrig none) = false ∧
     groupedTablesWritten (restartSetup none (savedSetupOf none false 2)) = true) ∧
    ((savingRunS exEnv (exCfg false) none false ["rep1", "rep2"] [2, 3] exChroms).bind (fun x =>
        (restartRunOrigS exEnv (exCfg false) none ["c1", "c2"] x.1).map (fun y => (y.1, decide (y.1 = x.2.1))))) =
      some ({ readGroup := none, useTechnicalReplicas := false }, false) := by
  refine ⟨by decide +kernel, by decide +kernel, ?_⟩
  obtain ⟨⟨f, o, hA, _, _⟩, _⟩ := exSaved_spec
  rw [show savingRunS exEnv (exCfg false) none false ["rep1", "rep2"] [2, 3] exChroms = _ from hA,
    show (["c1", "c2"] : List String) = exChroms.map (·.name) from rfl]
  simp only [Option.bind_some, restartRunOrigS, (savingRunS_read_back hA).2.1, Option.map_some]
  rfl

/-- **restart_prefixes_witness**: `--read_assignments P0 P1` before the repair. The command line was refused
    (IndexError) - and with only that line repaired every experiment was computed from the files of the FIRST prefix:
    the second experiment of the restart shows the first one's tables; the repaired restart reproduces both runs. -/
theorem restart_prefixes_witness :
    (exPrefixes.map (fun exps => (restartAllOrig exEnv (exCfg false) none exps).isNone)) = some true ∧
    (exPrefixes.map (fun exps => (restartAllFirstPrefix exEnv (exCfg false) none exps).map
        (fun r => r.map (fun y => y.2.out.transcriptCounts.rows)))) =
      some [some [(6, 100), (7, 100)], some [(6, 100), (7, 100)]] ∧
    (exSavedA.map (fun a => (a.2.1, a.2.2.out.transcriptCounts.rows)),
     exSavedB.map (fun b => (b.2.1, b.2.2.out.transcriptCounts.rows))) =
      (some ({ readGroup := some "file_name", useTechnicalReplicas := true }, [(6, 100), (7, 100)]),
       some ({ readGroup := none, useTechnicalReplicas := false }, [(6, 0), (7, 100)])) ∧
    (exPrefixes.map (fun exps => (restartAllS exEnv (exCfg false) none exps).map
        (fun r => r.map (fun y => (y.1, y.2.out.transcriptCounts.rows))))) =
      some [some ({ readGroup := some "file_name", useTechnicalReplicas := true }, [(6, 100), (7, 100)]),
            some ({ readGroup := none, useTechnicalReplicas := false }, [(6, 0), (7, 100)])] := by
  obtain ⟨⟨fA, oA, hA, _, hrA⟩, ⟨fB, oB, hB, hrB⟩⟩ := exSaved_spec
  have hdA : SetupDom (savedSetupOf none false [2, 3].length) := by decide +kernel
  have hdB : SetupDom (savedSetupOf none false [0].length) := by decide +kernel
  have rA := restart_is_second_half _ _ _ none _ _ _ _ _ _ _ hA (Or.inl rfl) hdA
  have rB := restart_is_second_half _ _ _ none _ _ _ _ _ _ _ hB (Or.inl rfl) hdB
  have oA := (savingRunS_read_back hA).2.1
  rw [show exChroms.map (·.name) = ["c1", "c2"] from rfl] at rA oA
  rw [show exChroms2.map (·.name) = ["c1", "c2"] from rfl] at rB
  simp only [exPrefixes, hA, hB, Option.bind_some, Option.map_some, restartAllOrig, restartAllFirstPrefix, restartAllS,
    restartRunOrigS, List.map_cons, List.map_nil, List.head?_cons, rA, rB, oA, hrA, hrB]
  exact ⟨rfl, trivial, trivial, trivial⟩

end IsoVerif.Props.C15Setup
