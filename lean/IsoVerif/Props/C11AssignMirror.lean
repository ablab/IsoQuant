/-
C11 — reflection duals inside the assigner model (Model/Assign.lean, property C01).

Under the reflection `x ↦ L + 1 − x` (Model/C11SymAssignMirror.lean: `mirrorEvent`, `mirrorPolyA`, `mirrorIsoInfo`,
`mirrorGene`, `mirrorReadProf`) the assignment TYPE and the isoform set are kept, strands and left/right events swap:

  * the tables behind `classify_assignment`, `get_inconsistency_classification`, `get_mono_exon_classification`, the event
    cost and the penalty sum do not see the swap (and the type / the exact penalty do not depend on the event order);
  * `categorize_exon_elongation_subtype`: the events of the left end become the right end's and vice versa
    (`left ++ right ↦ mirror right ++ mirror left`), under well-formed profile data and a common split exon
    (`elongation_no_common_witness`: without one the code indexes `split_exons[-1]` at BOTH ends);
    `check_read_ends` is self-dual, the assignment type it computes is invariant;
  * `verify_polya ↔ verify_polyt` with all helpers (`shift_polya ↔ shift_polyt`, the `while` loops of
    `detect_reference_exons_beyond_polya ↔ before_polyt`, `check_if_close`, `check_internal_polya ↔ polyt`) and
    `verify_read_ends` (strand + ↔ −), for ALL exon lists and event lists; hypotheses only about collisions with the
    sentinel −1 (`PolyaMirrorOK`; `detectBeyondPolyaBuggy_mirror_witness`: before fix a2ae069 the code took
    `abs(x − pos)` of an ABSENT position);
  * candidate selection: `find_containing_isoforms`, `is_fsm`, `detect_ism_subtype` (ism_left ↔ ism_right),
    `categorize_correct_splice_match`, the `extra_left / extra_right` flags of `select_similar_isoforms`, the two
    nucleotide scores (sorted disjoint lists).

All statements are for ALL inputs and all `L : Int`.
-/
import IsoVerif.Model.C11SymAssignMirror
import IsoVerif.Lemmas.C11AssignMirror
import IsoVerif.Props.C11
import IsoVerif.Props.C11Mirror

namespace IsoVerif.Props.C11AssignMirror
open IsoVerif.Gen IsoVerif.Model IsoVerif.Model.C01 IsoVerif.Model.C11 IsoVerif.Lemmas IsoVerif.Lemmas.C11
open IsoVerif.Props.C11

theorem mirrorEvent_involutive (L : Int) (n : Nat) (e : Event) : mirrorEvent L n (mirrorEvent L n e) = e := by
  rcases e with ⟨ty, ⟨a, b⟩, rr, info⟩
  simp only [mirrorEvent, swapLR_involutive, isTermMisTy_swapLR, isPolyaSiteTy_swapLR]
  cases isTermMisTy ty <;> cases isPolyaSiteTy ty <;> simp [mirrorP] <;> omega

/-- the three kinds of event: only renamed; polyA-site position mirrored; intron index seen from the other end -/
example : mirrorEvent 1000 4 { ty := .exon_elongation_left, info := 17 } = { ty := .exon_elongation_right, info := 17 } ∧
    mirrorEvent 1000 4 { ty := .correct_polya_site_right, info := 900 } = { ty := .correct_polya_site_left, info := 101 } ∧
    mirrorEvent 1000 4 { ty := .terminal_exon_misalignment_right, isoRegion := (2, 2) }
      = { ty := .terminal_exon_misalignment_left, isoRegion := (0, 0) } := by decide

/-- `classify_assignment` on event types: the left/right swap and the order of the events are invisible -/
theorem mirror_dual_classifyEvents (amb : Bool) (tys : List MatchEventSubtype) :
    classifyEvents amb (tys.map swapLR).reverse = classifyEvents amb tys := by
  simp only [classifyEvents, List.all_reverse, List.any_reverse, List.all_map, List.any_map, Function.comp_def,
    mirror_dual_is_consistent, mirror_dual_is_major_inconsistency, mirror_dual_is_intronic_inconsistency,
    mirror_dual_is_minor_error]

theorem perm_invariant_classifyEvents (amb : Bool) (t1 t2 : List MatchEventSubtype) (h : t1.Perm t2) :
    classifyEvents amb t1 = classifyEvents amb t2 := by
  simp only [classifyEvents, h.all_eq, h.any_eq]

example : [MatchEventSubtype.exon_elongation_left, .fsm].Perm [.fsm, .exon_elongation_left] ∧
    classifyEvents false [.exon_elongation_left, .fsm] = .unique_minor_difference := by
  refine ⟨List.Perm.swap _ _ _, by decide⟩

/-- `classify_assignment(best_isoforms, read_matches)`: isoforms in the reverse order, each event list mirrored
    (isoform `m` has `m.1` exons) and reversed — same assignment type -/
theorem mirror_dual_classifyAssignment (L : Int) (ms : List (Nat × List Event)) :
    classifyAssignment ((ms.map (fun m => (m.2.map (mirrorEvent L m.1)).reverse)).reverse)
      = classifyAssignment (ms.map (·.2)) := by
  simp only [classifyAssignment, classifyEvents, List.length_reverse, List.length_map, List.all_flatMap, List.any_flatMap,
    List.all_reverse, List.any_reverse, List.all_map, List.any_map, Function.comp_def, mirrorEvent,
    mirror_dual_is_consistent, mirror_dual_is_major_inconsistency, mirror_dual_is_intronic_inconsistency,
    mirror_dual_is_minor_error]

/-- `get_inconsistency_classification`: the nic / nnic tables are closed under the swap -/
theorem mirror_dual_inconsistencyClassification (L : Int) (n : Nat) (evs : List Event) :
    inconsistencyClassification (evs.map (mirrorEvent L n)).reverse = inconsistencyClassification evs := by
  have h := Lemmas.forall_events (P := fun t =>
    nnic_event_types.contains (swapLR t) = nnic_event_types.contains t ∧
    nic_event_types.contains (swapLR t) = nic_event_types.contains t) (by decide +kernel)
  simp only [inconsistencyClassification, List.any_reverse, List.any_map, Function.comp_def, mirrorEvent, (h _).1, (h _).2]

/-- `get_mono_exon_classification` (looks at the FIRST event when none of the sets applies): invariant under the
    swap, event order kept -/
theorem mirror_dual_monoExonClassification (L : Int) (n : Nat) (evs : List Event) :
    monoExonClassification (evs.map (mirrorEvent L n)) = monoExonClassification evs := by
  cases evs with
  | nil => rfl
  | cons e es =>
    simp only [monoExonClassification, List.map_cons, List.any_cons, List.any_map, Function.comp_def, am_mirrorEvent_ty,
      swapLR_eq_iff]
    simp only [swapLR]
    simp only [or_comm, or_left_comm] <;> rfl

/-- … but it is NOT invariant under a reversal of the event list (the code reads `events[0]`) -/
theorem monoExonClassification_order_witness :
    monoExonClassification [{ ty := .mono_exon_match }, { ty := .mono_exonic }]
      ≠ monoExonClassification ([{ ty := .mono_exon_match }, { ty := .mono_exonic }] : List Event).reverse := by
  decide

/-- the cost of an event does not see the reflection (both sides of a pair cost the same, `elongation_cost` reads
    the unchanged `event_info`, the event count reads index ranges that are not touched) -/
theorem mirror_dual_eventCost (L : Int) (n : Nat) (p : Params) (e : Event) :
    eventCost p (mirrorEvent L n e) = eventCost p e := by
  have h := Lemmas.forall_events (P := fun t =>
    ((swapLR t = .major_exon_elongation_left ∨ swapLR t = .major_exon_elongation_right ∨
        swapLR t = .exon_elongation_right ∨ swapLR t = .exon_elongation_left) ↔
      (t = .major_exon_elongation_left ∨ t = .major_exon_elongation_right ∨
        t = .exon_elongation_right ∨ t = .exon_elongation_left)) ∧
    ((t = .major_exon_elongation_left ∨ t = .major_exon_elongation_right ∨
        t = .exon_elongation_right ∨ t = .exon_elongation_left) → isPolyaSiteTy t = false)) (by decide +kernel) e.ty
  simp only [eventCost, am_eventCount_mirror, am_mirrorEvent_ty, mirror_dual_event_cost, h.1]
  split
  · rfl
  · split
    · rename_i c; simp only [mirrorEvent, h.2 c, Bool.false_eq_true, if_false]
    · rfl

/-- the exact penalty does not depend on the event order at all (the float sum of the code does: fix e3a7729) -/
theorem perm_invariant_penaltyOf (p : Params) (l1 l2 : List Event) (h : l1.Perm l2) :
    penaltyOf p l1 = penaltyOf p l2 := by
  induction h with
  | nil => rfl
  | cons x _ ih => simp only [penaltyOf, ih]
  | swap x y l =>
    simp only [penaltyOf]
    cases eventCost p x <;> cases eventCost p y <;> cases penaltyOf p l <;> simp [Rat.add_left_comm]
  | trans _ _ ih1 ih2 => exact ih1.trans ih2

theorem mirror_dual_penaltyOf (L : Int) (n : Nat) (p : Params) (evs : List Event) :
    penaltyOf p (evs.map (mirrorEvent L n)).reverse = penaltyOf p evs :=
  -- a reversal is a permutation; the relabelled events cost what the events cost
  (perm_invariant_penaltyOf p _ _ (List.reverse_perm _)).trans (penaltyOf_map p _ (mirror_dual_eventCost L n p) evs)

example : penaltyOf nanoporeParams [{ ty := .exon_elongation_left, info := 20 }, { ty := .intron_retention }]
    = penaltyOf nanoporeParams [{ ty := .intron_retention }, { ty := .exon_elongation_right, info := 20 }] ∧
    (penaltyOf nanoporeParams [{ ty := .exon_elongation_left, info := 20 }, { ty := .intron_retention }]).isSome := by
  decide +kernel

/-! ## `categorize_exon_elongation_subtype`, `check_read_ends` -/

/-- events of one read end: the left call with the left names is the right call with the right names -/
theorem mirror_dual_endEvents (p : Params) (L : Int) (n : Nat) (terminal : Bool) (extra : Int) :
    (endEvents p terminal extra .terminal_site_match_left_precise .terminal_site_match_left
        .major_exon_elongation_left .exon_elongation_left).map (mirrorEvent L n)
      = endEvents p terminal extra .terminal_site_match_right_precise .terminal_site_match_right
        .major_exon_elongation_right .exon_elongation_right ∧
    (endEvents p terminal extra .terminal_site_match_right_precise .terminal_site_match_right
        .major_exon_elongation_right .exon_elongation_right).map (mirrorEvent L n)
      = endEvents p terminal extra .terminal_site_match_left_precise .terminal_site_match_left
        .major_exon_elongation_left .exon_elongation_left :=
  ⟨endEvents_map_mirror p L n terminal extra _ _ _ _ (by decide),
   endEvents_map_mirror p L n terminal extra _ _ _ _ (by decide)⟩

example : endEvents nanoporeParams true 20
    .terminal_site_match_left_precise .terminal_site_match_left .major_exon_elongation_left .exon_elongation_left
    = [{ ty := .terminal_site_match_left, info := 20 }, { ty := .exon_elongation_left, info := 20 }] := by decide

/-- the decomposition into the two sides (`elongationEvents_sides`, Lemmas/C11AssignCommon.lean) is the model's function -/
theorem elongationEvents_eq_sides (g : Gene) (p : Params) (rp : ReadProf) (I : IsoInfo) :
    elongationEvents g p rp I = (elongSides g p rp I).map (fun s => s.1 ++ s.2) :=
  elongationEvents_sides g p rp I

/-- the two index loops: `common_first_exon` of the mirror image is `common_last_exon` of the original seen from the
    other end and vice versa ("none found" = −1 kept), including the error behaviour -/
theorem mirror_dual_commonEnds (L : Int) (g : Gene) (rp : ReadProf) (I : IsoInfo) (ni : Nat) (wf : ElongWF g rp I) :
    commonEnds (mirrorReadProf L g rp) (mirrorIsoInfo L ni g.splitExons.length I) =
      (commonEnds rp I).map (fun c => (dualIdx g.splitExons.length c.2, dualIdx g.splitExons.length c.1)) := by
  obtain ⟨cf, cl, e1, e2, _, _⟩ := am_commonEnds_mirror L g rp I ni wf
  rw [e1, e2]; rfl

/-- `categorize_exon_elongation_subtype` of the mirrored gene, isoform and read: the left-end events are the mirrored
    right-end events of the original and vice versa -/
theorem mirror_dual_elongSides (L : Int) (g : Gene) (p : Params) (rp : ReadProf) (I : IsoInfo) (ni nEx : Nat)
    (wf : ElongWF g rp I) (hc : HasCommon rp I) :
    elongSides (mirrorGene L g) p (mirrorReadProf L g rp) (mirrorIsoInfo L ni g.splitExons.length I)
      = (elongSides g p rp I).map (fun s => (s.2.map (mirrorEvent L nEx), s.1.map (mirrorEvent L nEx))) := by
  obtain ⟨cf1, cl1, e1, e2, hf, hl⟩ := am_commonEnds_mirror L g rp I ni wf
  obtain ⟨cf, cl, h0, hcf, hcl⟩ := hc
  obtain ⟨rfl, rfl⟩ : cf = cf1 ∧ cl = cl1 := by simpa [e1, eq_comm] using h0
  obtain ⟨hA, hB, ha, hb, hc', hd⟩ := wf
  have hf' := hf.resolve_left hcf
  have hl' := hl.resolve_left hcl
  have d1 : dualIdx g.splitExons.length cl = (g.splitExons.length : Int) - 1 - cl := by simp only [dualIdx, hcl, if_false]
  have d2 : dualIdx g.splitExons.length cf = (g.splitExons.length : Int) - 1 - cf := by simp only [dualIdx, hcf, if_false]
  rw [elongSides_eq, elongSides_eq, e1, e2, Option.bind_some, Option.bind_some, endFrame_mirror L g p rp cf cl hf' hl']
  have g1 : ¬ (max I.splitRange.1 rp.split.range.1 < 0) := by omega
  have g2 : ¬ (max (mirrorIsoInfo L ni g.splitExons.length I).splitRange.1 (mirrorReadProf L g rp).split.range.1 < 0) := by
    simp only [mirrorIsoInfo, mirrorReadProf, mirrorProfRes, mirrorRange]; omega
  have g3 : ¬ ((I.splitProf.length < g.splitExons.length ∨ rp.split.gene.length < g.splitExons.length) ∧ cf = -1) :=
    fun h => hcf h.2
  have g4 : ¬ (((mirrorIsoInfo L ni g.splitExons.length I).splitProf.length < (mirrorGene L g).splitExons.length ∨
      (mirrorReadProf L g rp).split.gene.length < (mirrorGene L g).splitExons.length) ∧
      dualIdx g.splitExons.length cl = -1) := by rw [d1]; omega
  rw [if_neg g1, if_neg g2, if_neg g3, if_neg g4, Option.map_map, Option.map_map]
  congr 1; funext F
  have a1 := am_elongLeftOf_mirror p L g.splitExons.length nEx (I.splitRange.2 - 1) cl F.2.1 F.2.2
  have a2 := am_elongRightOf_mirror p L g.splitExons.length nEx I.splitRange.1 cf F.1.1 F.1.2
  simp only [Function.comp, mirrorIsoInfo, mirrorRange, d1, d2, ← a1, ← a2]
  congr 3 <;> omega

/-- … as event lists: `left ++ right` becomes `mirror right ++ mirror left` (error ↦ error) -/
theorem mirror_dual_elongationEvents (L : Int) (g : Gene) (p : Params) (rp : ReadProf) (I : IsoInfo) (ni nEx : Nat)
    (wf : ElongWF g rp I) (hc : HasCommon rp I) :
    elongationEvents (mirrorGene L g) p (mirrorReadProf L g rp) (mirrorIsoInfo L ni g.splitExons.length I)
      = (elongSides g p rp I).map (fun s => s.2.map (mirrorEvent L nEx) ++ s.1.map (mirrorEvent L nEx)) := by
  rw [elongationEvents_sides, mirror_dual_elongSides L g p rp I ni nEx wf hc]
  cases elongSides g p rp I <;> rfl

/-- full-strength statement without `HasCommon` (FALSE: see the witness) -/
def ElongationMirror : Prop :=
  ∀ (L : Int) (g : Gene) (p : Params) (rp : ReadProf) (I : IsoInfo) (ni nEx : Nat), ElongWF g rp I →
    elongationEvents (mirrorGene L g) p (mirrorReadProf L g rp) (mirrorIsoInfo L ni g.splitExons.length I)
      = (elongSides g p rp I).map (fun s => s.2.map (mirrorEvent L nEx) ++ s.1.map (mirrorEvent L nEx))

/-- without a common split exon the code uses `split_exons[-1]` for BOTH ends, which is the LAST split exon in either
    orientation: the read [(20,38)] gets `exon_elongation_left 10` against the split exon (30,40), its mirror image
    gets `exon_elongation_left 18` against the mirror image of (10,20) instead of `exon_elongation_right 10` -/
theorem elongation_no_common_witness : ¬ ElongationMirror := by
  intro h
  have := h 50 oddGene nanoporeParams oddRead oddIso 1 1 (by decide)
  revert this; decide

-- non-vacuity: well-formed data with a common exon, all three kinds of events, both ends
example : ElongWF exGene exRead exIso ∧ HasCommon exRead exIso ∧
    elongSides exGene nanoporeParams exRead exIso =
      some ([{ ty := .terminal_site_match_left, info := 20 }, { ty := .exon_elongation_left, info := 20 }],
            [{ ty := .exon_elongation_right, info := 30 }]) ∧
    elongationEvents (mirrorGene 1000 exGene) nanoporeParams (mirrorReadProf 1000 exGene exRead)
        (mirrorIsoInfo 1000 2 3 exIso) =
      some [{ ty := .exon_elongation_left, info := 30 }, { ty := .terminal_site_match_right, info := 20 },
            { ty := .exon_elongation_right, info := 20 }] := by decide

/-- `check_read_ends` of the mirrored gene / read / matches is the mirror image of `check_read_ends` (written out on
    the original data as `checkReadEndsMirrored`: same isoforms, events mirrored, per match the right end's events
    before the left end's) -/
theorem mirror_dual_checkReadEnds (L : Int) (g : Gene) (p : Params) (rp : ReadProf) (ms : List (IsoInfo × IsoMatch))
    (ty : ReadAssignmentType) (h : ∀ Im ∈ ms, ElongWF g rp Im.1 ∧ HasCommon rp Im.1) :
    checkReadEnds (mirrorGene L g) p (mirrorReadProf L g rp) (ms.map (mirrorPair L g)) ty
      = checkReadEndsMirrored L g p rp ms ty := by
  induction ms generalizing ty with
  | nil => rfl
  | cons Im rest ih =>
    obtain ⟨I, m⟩ := Im
    have hI := h (I, m) (by simp)
    have e : (mirrorGene L g).introns.length = g.introns.length ∧ (mirrorGene L g).splitExons.length = g.splitExons.length := by
      simp [mirrorGene, mirrorL_length]
    simp only [List.map_cons, mirrorPair, checkReadEnds_step, checkReadEndsMirrored, elongationEvents_sides,
      mirror_dual_elongSides L g p rp I g.introns.length I.exons.length hI.1 hI.2]
    cases elongSides g p rp I with
    | none => rfl
    | some s =>
      dsimp only [Option.map]
      rw [am_elongTypeStep_mirror]
      have ih' := ih (elongTypeStep (s.1 ++ s.2) ty) (fun Im hIm => h Im (by simp [hIm]))
      rw [ih']
      cases checkReadEndsMirrored L g p rp rest (elongTypeStep (s.1 ++ s.2) ty) with
      | none => rfl
      | some rt => simp [mirrorMatch]

/-- … in particular the assignment type computed by `check_read_ends` and the isoform list are invariant
    (`is_major_elongation` / `is_minor_elongation` do not see the swap), error ↦ error -/
theorem mirror_dual_checkReadEnds_type (L : Int) (g : Gene) (p : Params) (rp : ReadProf)
    (ms : List (IsoInfo × IsoMatch)) (ty : ReadAssignmentType) (h : ∀ Im ∈ ms, ElongWF g rp Im.1 ∧ HasCommon rp Im.1) :
    (checkReadEnds (mirrorGene L g) p (mirrorReadProf L g rp) (ms.map (mirrorPair L g)) ty).map
        (fun r => (r.1.map (fun Im => Im.1.id), r.2))
      = (checkReadEnds g p rp ms ty).map (fun r => (r.1.map (fun Im => Im.1.id), r.2)) := by
  rw [mirror_dual_checkReadEnds L g p rp ms ty h, am_checkReadEndsMirrored_type]

example : (∀ Im ∈ [(exIso, ({ iso := some 0, cls := .full_splice_match, events := [{ ty := .fsm }] } : IsoMatch))],
      ElongWF exGene exRead Im.1 ∧ HasCommon exRead Im.1) ∧
    (checkReadEnds exGene nanoporeParams exRead
      [(exIso, { iso := some 0, cls := .full_splice_match, events := [{ ty := .fsm }] })] .unique).map (·.2)
      = some .unique_minor_difference := by decide

/-! ## the polyA / polyT pair of src/polya_verification.py (the C01 copies in Model/Assign.lean) -/

/-- `shift_polya ↔ shift_polyt` (exon list mirrored, position mirrored, result mirrored; IndexError ↦ IndexError) -/
theorem mirror_dual_shiftPolya (L : Int) (exons : List Iv) (cnt : Nat) (pos : Int) (hp : pos ≠ -1) (h : L + 1 - pos ≠ -1) :
    C01.shiftPolyt (mirrorL L exons) cnt (L + 1 - pos) = (C01.shiftPolya exons cnt pos).map (mirrorP L) := by
  simp only [C01.shiftPolyt, C01.shiftPolya, mirrorL_length, hp, h, or_false]
  by_cases c : cnt = 0 ∨ cnt = exons.length
  · simp [c, mirrorP]
  · simp only [c, if_false]
    by_cases c2 : cnt > exons.length
    · simp [c2]
    · simp only [c2, if_false]
      rw [← pyGet?_reverse_nat, pyGet?_nat]
      rw [mirrorL_eq_map_reverse, ← List.map_take, am_shiftPolytLoop_mirror]
      simp only [List.getElem?_map]
      cases exons.reverse[cnt]? <;> simp [mirrorP, mirrorIv]; omega

theorem mirror_dual_shiftPolyt (L : Int) (exons : List Iv) (cnt : Nat) (pos : Int) (hp : pos ≠ -1) (h : L + 1 - pos ≠ -1) :
    C01.shiftPolya (mirrorL L exons) cnt (L + 1 - pos) = (C01.shiftPolyt exons cnt pos).map (mirrorP L) := by
  have := mirror_dual_shiftPolya L (mirrorL L exons) cnt (L + 1 - pos) h (by omega)
  rw [mirrorL_mirrorL, Int.sub_sub_self] at this
  rw [this, Option.map_map]
  cases C01.shiftPolya (mirrorL L exons) cnt (L + 1 - pos) <;> simp [mirrorP]; omega

/-- the sentinel is a fixed point of both -/
theorem shiftPoly_sentinel_fixed (exons : List Iv) (cnt : Nat) :
    C01.shiftPolya exons cnt (-1) = some (-1) ∧ C01.shiftPolyt exons cnt (-1) = some (-1) :=
  shiftPoly_absent exons cnt

example : C01.shiftPolya [(100, 200), (300, 330)] 1 305 = some 205 ∧
    C01.shiftPolyt (mirrorL 1000 [(100, 200), (300, 330)]) 1 (1000 + 1 - 305) = some (mirrorP 1000 205) := by decide

/-- … of a possibly absent position -/
theorem shiftPolya_mirrorPos (L : Int) (ex : List Iv) (cnt : Nat) (x : Int) (hx : PosOK L x) :
    C01.shiftPolyt (mirrorL L ex) cnt (mirrorPos L x)
      = (C01.shiftPolya ex cnt x).map (fun r => if x = -1 then -1 else L + 1 - r) := by
  by_cases c : x = -1
  · subst c
    simp [mirrorPos, (shiftPoly_sentinel_fixed _ cnt).1, (shiftPoly_sentinel_fixed _ cnt).2]
  · have h1 : mirrorPos L x = L + 1 - x := by simp [mirrorPos, c]
    rw [h1, mirror_dual_shiftPolya L ex cnt x c (hx c)]
    simp only [c, if_false]
    rfl

theorem shiftPolyt_mirrorPos (L : Int) (ex : List Iv) (cnt : Nat) (x : Int) (hx : PosOK L x) :
    C01.shiftPolya (mirrorL L ex) cnt (mirrorPos L x)
      = (C01.shiftPolyt ex cnt x).map (fun r => if x = -1 then -1 else L + 1 - r) := by
  by_cases c : x = -1
  · subst c
    simp [mirrorPos, (shiftPoly_sentinel_fixed _ cnt).1, (shiftPoly_sentinel_fixed _ cnt).2]
  · have h1 : mirrorPos L x = L + 1 - x := by simp [mirrorPos, c]
    rw [h1, mirror_dual_shiftPolyt L ex cnt x c (hx c)]
    simp only [c, if_false]
    rfl

/-- the `while` loops of `detect_reference_exons_beyond_polya` / `before_polyt` -/
theorem mirror_dual_countBeyond (L pos : Int) (iso : List Iv) :
    countBefore (L + 1 - pos) (mirrorL L iso) = countBeyond pos iso.reverse := by
  rw [mirrorL_eq_map_reverse, am_countBefore_mirror]

theorem mirror_dual_countBefore (L pos : Int) (iso : List Iv) :
    countBeyond (L + 1 - pos) (mirrorL L iso).reverse = countBefore pos iso := by
  rw [mirrorL_reverse, am_countBeyond_mirror]

theorem mirror_dual_countTy (L : Int) (n : Nat) (evs : List Event) (t : MatchEventSubtype) :
    countTy (evs.map (mirrorEvent L n)) (swapLR t) = countTy evs t :=
  countTy_map _ swapLR (am_mirrorEvent_ty_iff L n) evs t

theorem mirror_dual_eraseLastOf (L : Int) (n : Nat) (evs : List Event) (t1 t2 : MatchEventSubtype) :
    eraseLastOf (evs.map (mirrorEvent L n)) (swapLR t1) (swapLR t2) = (eraseLastOf evs t1 t2).map (mirrorEvent L n) :=
  eraseLastOf_map _ swapLR (am_mirrorEvent_ty_iff L n) evs t1 t2

/-- `check_if_close` is self-dual: isoform end and both positions mirrored (−1 kept), event type swapped -/
theorem mirror_dual_checkIfClose (L : Int) (n : Nat) (p : Params) (stop ext int : Int) (evs : List Event)
    (ty : MatchEventSubtype) (hty : isPolyaSiteTy ty = true) (he : PosOK L ext) (hi : PosOK L int) :
    checkIfClose p (L + 1 - stop) (mirrorPos L ext) (mirrorPos L int) (evs.map (mirrorEvent L n)) (swapLR ty)
      = (checkIfClose p stop ext int evs ty).map (List.map (mirrorEvent L n)) :=
  (mirrorSym L n).checkIfClose_sym p stop ext int evs ty ((isPolyaSiteTy_eq ty).symm.trans hty) he hi

/-- the sentinel hypothesis of `check_if_close` is needed: the position 1001 is mirrored onto −1 = "absent" -/
theorem checkIfClose_sentinel_witness :
    checkIfClose nanoporeParams (999 + 1 - 990) (mirrorPos 999 1001) (mirrorPos 999 (-1)) [] .correct_polya_site_left
      ≠ (checkIfClose nanoporeParams 990 1001 (-1) [] .correct_polya_site_right).map (List.map (mirrorEvent 999 2)) := by
  decide

example : isPolyaSiteTy .correct_polya_site_right = true ∧ PosOK 2000 1001 ∧ PosOK 2000 (-1) ∧
    checkIfClose nanoporeParams 990 1001 (-1) [] .correct_polya_site_right
      = some [{ ty := .correct_polya_site_right, info := 1001 }] := by decide

/-- the distance the two functions test is invariant (absent = infinitely far) -/
theorem mirror_dual_tailDist (L a ext int : Int) (he : PosOK L ext) (hi : PosOK L int) :
    minInf (distOrInf (L + 1 - a) (mirrorPos L ext)) (distOrInf (L + 1 - a) (mirrorPos L int)) = minInf (distOrInf a ext) (distOrInf a int) :=
  (mirrorSym L 0).tailDist_sym a ext int he hi

/-- `detect_reference_exons_beyond_polya ↔ detect_reference_exons_before_polyt`: events mirrored (the added
    `terminal_exon_misalignment_right` with intron index n−2−i become `…_left` with index i), both returned positions
    mirrored.  Since fix a2ae069 (an absent position is infinitely far: `minInf (distOrInf ..)`) the only hypotheses are the sentinel
    collisions. -/
theorem mirror_dual_detectBeyondPolya (L : Int) (p : Params) (iso : List Iv) (ext int : Int) (evs : List Event)
    (he : PosOK L ext) (hi : PosOK L int) (hend : ∀ e, iso.getLast? = some e → e.2 ≠ -1) :
    detectBeforePolyt p (mirrorL L iso) (mirrorPos L ext) (mirrorPos L int) (evs.map (mirrorEvent L iso.length))
      = (detectBeyondPolya p iso ext int evs).map
          (fun r => (r.1.map (mirrorEvent L iso.length), mirrorPos L r.2.1, mirrorPos L r.2.2)) := by
  by_cases hpos : ext ≠ -1 ∨ int ≠ -1
  case neg =>
    obtain ⟨rfl, rfl⟩ : ext = -1 ∧ int = -1 := by omega
    simp [mirrorPos, detectBeyondPolya_absent, detectBeforePolyt_absent]
  have hp' : (if mirrorPos L int ≠ -1 then mirrorPos L int else mirrorPos L ext) = L + 1 - (if int ≠ -1 then int else ext) :=
    (mirrorSym L 0).pickPresent_sym ext int hi hpos
  simp only [detectBeforePolyt, detectBeyondPolya, hp', mirrorL_length]
  rw [mirrorL_eq_map_reverse, am_countBefore_mirror]
  generalize hc : countBeyond (if int ≠ -1 then int else ext) iso.reverse = c
  by_cases c1 : c = iso.length ∨ c = 0
  · have c1' : c = 0 ∨ c = iso.length := by omega
    simp [c1, c1']
  · have c1' : ¬ (c = 0 ∨ c = iso.length) := by omega
    simp only [c1, c1', if_false]
    have hle : c ≤ iso.length := by
      rw [← hc]
      simpa using C01.countBeyond_le _ iso.reverse
    rw [← pyGet?_reverse_nat, pyGet?_nat]
    simp only [List.getElem?_map, List.head?_map, List.head?_reverse]
    cases hb : iso.reverse[c]? with
    | none => simp
    | some b =>
      cases hl : iso.getLast? with
      | none => simp
      | some lastE =>
        have e1 : intervalsTotalLength (List.take c (List.map (mirrorIv L) iso.reverse))
            = intervalsTotalLength (iso.drop (iso.length - c)) := by
          rw [← mirrorL_eq_map_reverse, am_mirrorL_take, intervalsTotalLength_mirror]
        have e2 := mirror_dual_tailDist L b.2 ext int he hi
        have e3 : mirrorPos L lastE.2 = L + 1 - lastE.2 := by
          simp only [mirrorPos, hend lastE hl, if_false]
        simp only [Option.map_some, e1, mirrorIv_fst, e2]
        split
        · simp only [Option.map_some, List.map_append, am_termMis_events_left L iso.length c, e3]
        · rfl

theorem mirror_dual_detectBeforePolyt (L : Int) (p : Params) (iso : List Iv) (ext int : Int) (evs : List Event)
    (he : PosOK L ext) (hi : PosOK L int) (hstart : ∀ e, iso.head? = some e → e.1 ≠ -1) :
    detectBeyondPolya p (mirrorL L iso) (mirrorPos L ext) (mirrorPos L int) (evs.map (mirrorEvent L iso.length))
      = (detectBeforePolyt p iso ext int evs).map
          (fun r => (r.1.map (mirrorEvent L iso.length), mirrorPos L r.2.1, mirrorPos L r.2.2)) := by
  by_cases hpos : ext ≠ -1 ∨ int ≠ -1
  case neg =>
    obtain ⟨rfl, rfl⟩ : ext = -1 ∧ int = -1 := by omega
    simp [mirrorPos, detectBeyondPolya_absent, detectBeforePolyt_absent]
  have hp' : (if mirrorPos L int ≠ -1 then mirrorPos L int else mirrorPos L ext) = L + 1 - (if int ≠ -1 then int else ext) :=
    (mirrorSym L 0).pickPresent_sym ext int hi hpos
  simp only [detectBeforePolyt, detectBeyondPolya, hp', mirrorL_length]
  rw [mirrorL_reverse, am_countBeyond_mirror]
  generalize hc : countBefore (if int ≠ -1 then int else ext) iso = c
  by_cases c1 : c = 0 ∨ c = iso.length
  · have c1' : c = iso.length ∨ c = 0 := by omega
    simp [c1, c1']
  · have c1' : ¬ (c = iso.length ∨ c = 0) := by omega
    simp only [c1, c1', if_false]
    have hle : c ≤ iso.length := by rw [← hc]; exact C01.countBefore_le _ _
    rw [← pyGet?_reverse_nat, pyGet?_nat, mirrorL_reverse, mirrorL_getLast?]
    simp only [List.getElem?_map]
    cases hb : iso[c]? with
    | none => simp
    | some b =>
      cases hl : iso.head? with
      | none => simp
      | some firstE =>
        have e1 : intervalsTotalLength (List.drop (iso.length - c) (mirrorL L iso)) = intervalsTotalLength (iso.take c) := by
          rw [am_mirrorL_drop L iso c hle, intervalsTotalLength_mirror]
        have e2 := mirror_dual_tailDist L b.1 ext int he hi
        have e3 : mirrorPos L firstE.1 = L + 1 - firstE.1 := by
          simp only [mirrorPos, hstart firstE hl, if_false]
        simp only [Option.map_some, e1, mirrorIv_snd, e2]
        split
        · simp only [Option.map_some, List.map_append, am_termMis_events_right L iso.length c, e3]
        · rfl

-- non-vacuity: a short last exon beyond the polyA site is recognised as missed in both orientations
example : PosOK 5000 1230 ∧ PosOK 5000 (-1) ∧
    detectBeyondPolya nanoporeParams [(1000, 1200), (1300, 1320)] 1230 (-1) []
      = some ([{ ty := .terminal_exon_misalignment_right, isoRegion := (0, 0) }], 1320, 1320) ∧
    detectBeforePolyt nanoporeParams (mirrorL 5000 [(1000, 1200), (1300, 1320)]) (mirrorPos 5000 1230) (-1) []
      = some ([{ ty := .terminal_exon_misalignment_left, isoRegion := (0, 0) }], 3681, 3681) := by decide

/-- regression witness of fix a2ae069: the code before the fix took `abs(exon_end − pos)` of the ABSENT internal
    position −1 as well; for a gene at the chromosome start the sentinel was the nearer one
    (|30 − (−1)| = 31 ≤ 40 < |30 − 135|) and the last exon counted as "missed", while in the mirror image (and after any
    large translation) it did not: the two old functions are NOT each other's mirror image on this input
    (all coordinates positive, no real position is −1) … -/
theorem detectBeyondPolyaBuggy_mirror_witness :
    detectBeforePolytBuggy nanoporeParams (mirrorL 1000 sentIso) (mirrorPos 1000 sentInfo.extA) (mirrorPos 1000 sentInfo.intA) []
      ≠ (detectBeyondPolyaBuggy nanoporeParams sentIso sentInfo.extA sentInfo.intA []).map
          (fun r => (r.1.map (mirrorEvent 1000 sentIso.length), mirrorPos 1000 r.2.1, mirrorPos 1000 r.2.2)) := by
  decide

-- … while the fixed functions (and `verify_polya ↔ verify_polyt` on top of them) are dual on the same input
example : PolyaMirrorOK 1000 sentIso sentRead sentInfo.extA sentInfo.intA 0 ∧
    detectBeyondPolya nanoporeParams sentIso sentInfo.extA sentInfo.intA [] = some ([], 135, -1) ∧
    detectBeforePolyt nanoporeParams (mirrorL 1000 sentIso) (mirrorPos 1000 sentInfo.extA) (mirrorPos 1000 sentInfo.intA) []
      = some ([], 866, -1) ∧
    verifyPolya nanoporeParams sentIso sentRead sentInfo [] = some [{ ty := .alternative_polya_site_right, info := 135 }] ∧
    verifyPolyt nanoporeParams (mirrorL 1000 sentIso) (mirrorL 1000 sentRead) (mirrorPolyA 1000 sentInfo) []
      = some [{ ty := .alternative_polya_site_left, info := 866 }] := by decide

/-- `verify_polya` of an isoform / read / polyA info / event list = `verify_polyt` of their mirror images
    (error ↦ error), under the sentinel hypotheses `PolyaMirrorOK` -/
theorem mirror_dual_verifyPolya (L : Int) (p : Params) (iso read : List Iv) (pa : PolyA) (evs0 : List Event)
    (h : PolyaMirrorOK L iso read pa.extA pa.intA (countTy evs0 .fake_terminal_exon_right)) :
    verifyPolyt p (mirrorL L iso) (mirrorL L read) (mirrorPolyA L pa) (evs0.map (mirrorEvent L iso.length))
      = (verifyPolya p iso read pa evs0).map (List.map (mirrorEvent L iso.length)) := by
  rw [verifyPolyt_step_eq, verifyPolya_step_eq, mirrorL_head?]
  cases hl : iso.getLast? with
  | none => rfl
  | some lastE =>
    obtain ⟨hpos, he, hi, hend, hsh⟩ := h
    simp only [hl] at hend
    exact (mirrorSym L iso.length).verifyTail_sym p lastE.2 pa.extA pa.intA evs0 .major_exon_elongation_right
      .exon_elongation_right .correct_polya_site_right .alternative_polya_site_right _ _ rfl rfl he hi
      ((mirrorSym L iso.length).endStep_sym read.length _ (mirrorL_length L read) (C01.shiftPolya read) _
        (detectBeyondPolya p iso) _ pa.extA pa.intA evs0 .fake_terminal_exon_right .terminal_exon_misalignment_right
        .major_exon_elongation_right .exon_elongation_right lastE.2 he hi hpos hend
        (shiftPolya_mirrorPos L read) (fun c => (shiftPoly_sentinel_fixed read c).1)
        (fun e1 i1 h1 h2 => by simp only [h1, h2] at hsh; exact hsh)
        (fun e1 i1 evs pe pi => mirror_dual_detectBeyondPolya L p iso e1 i1 evs pe pi
          (fun e he' => by rw [hl] at he'; cases he'; exact hend.1))
        (detectBeyondPolya_out p iso lastE hl))

theorem mirror_dual_verifyPolyt (L : Int) (p : Params) (iso read : List Iv) (pa : PolyA) (evs0 : List Event)
    (h : PolytMirrorOK L iso read pa.extT pa.intT (countTy evs0 .fake_terminal_exon_left)) :
    verifyPolya p (mirrorL L iso) (mirrorL L read) (mirrorPolyA L pa) (evs0.map (mirrorEvent L iso.length))
      = (verifyPolyt p iso read pa evs0).map (List.map (mirrorEvent L iso.length)) := by
  rw [verifyPolya_step_eq, verifyPolyt_step_eq, mirrorL_getLast?]
  cases hl : iso.head? with
  | none => rfl
  | some firstE =>
    obtain ⟨hpos, he, hi, hend, hsh⟩ := h
    simp only [hl] at hend
    exact (mirrorSym L iso.length).verifyTail_sym p firstE.1 pa.extT pa.intT evs0 .major_exon_elongation_left
      .exon_elongation_left .correct_polya_site_left .alternative_polya_site_left _ _ rfl rfl he hi
      ((mirrorSym L iso.length).endStep_sym read.length _ (mirrorL_length L read) (C01.shiftPolyt read) _
        (detectBeforePolyt p iso) _ pa.extT pa.intT evs0 .fake_terminal_exon_left .terminal_exon_misalignment_left
        .major_exon_elongation_left .exon_elongation_left firstE.1 he hi hpos hend
        (shiftPolyt_mirrorPos L read) (fun c => (shiftPoly_sentinel_fixed read c).2)
        (fun e1 i1 h1 h2 => by simp only [h1, h2] at hsh; exact hsh)
        (fun e1 i1 evs pe pi => mirror_dual_detectBeforePolyt L p iso e1 i1 evs pe pi
          (fun e he' => by rw [hl] at he'; cases he'; exact hend.1))
        (detectBeforePolyt_out p iso firstE hl))

example : PolyaMirrorOK 1000 paIso paRead paInfo.extA paInfo.intA 0 ∧
    verifyPolya nanoporeParams paIso paRead paInfo [] = some [{ ty := .correct_polya_site_right, info := 381 }] ∧
    verifyPolyt nanoporeParams (mirrorL 1000 paIso) (mirrorL 1000 paRead) (mirrorPolyA 1000 paInfo) []
      = some [{ ty := .correct_polya_site_left, info := 620 }] := by decide

/-- `check_internal_polya ↔ check_internal_polyt` -/
theorem mirror_dual_checkInternal (L : Int) (n : Nat) (pos : Int) (evs : List Event) (hp : PosOK L pos) :
    checkInternal (mirrorPos L pos) (evs.map (mirrorEvent L n)) .incomplete_intron_retention_left .internal_polya_left
      = ((checkInternal pos evs .incomplete_intron_retention_right .internal_polya_right).1.map (mirrorEvent L n),
         (checkInternal pos evs .incomplete_intron_retention_right .internal_polya_right).2) ∧
    checkInternal (mirrorPos L pos) (evs.map (mirrorEvent L n)) .incomplete_intron_retention_right .internal_polya_right
      = ((checkInternal pos evs .incomplete_intron_retention_left .internal_polya_left).1.map (mirrorEvent L n),
         (checkInternal pos evs .incomplete_intron_retention_left .internal_polya_left).2) :=
  ⟨(mirrorSym L n).checkInternal_sym pos evs .incomplete_intron_retention_right .internal_polya_right rfl hp
     (fun e he => by simp only [mirrorSym, mirrorEvent, he, isTermMisTy, Bool.false_eq_true, if_false]),
   (mirrorSym L n).checkInternal_sym pos evs .incomplete_intron_retention_left .internal_polya_left rfl hp
     (fun e he => by simp only [mirrorSym, mirrorEvent, he, isTermMisTy, Bool.false_eq_true, if_false])⟩

/-- `PolyAVerifier.verify_read_ends`: strand + ↔ −, polyA ↔ polyT, events mirrored (error ↦ error) -/
theorem mirror_dual_verifyReadEnds (L : Int) (g : Gene) (p : Params) (rp : ReadProf) (I : IsoInfo) (evs : List Event)
    (ni ns : Nat) (h : ReadEndsMirrorOK L rp I evs) :
    verifyReadEnds p (mirrorReadProf L g rp) (mirrorIsoInfo L ni ns I) (evs.map (mirrorEvent L I.exons.length))
      = (verifyReadEnds p rp I evs).map (List.map (mirrorEvent L I.exons.length)) := by
  rw [verifyReadEnds_eq, verifyReadEnds_eq]
  refine Eq.trans (congrArg _ ?_) ((mirrorSym L I.exons.length).map_none_default rfl (verifyReadEndsCore p rp I evs))
  unfold ReadEndsMirrorOK at h
  simp only [verifyReadEndsCore, mirrorIsoInfo, mirrorReadProf, mirrorPolyA]
  cases hs : I.strand with
  | other => rfl
  | plus =>
    rw [hs] at h
    exact (mirrorSym L I.exons.length).verifySide_sym rp.polya.extA rp.polya.intA evs .incomplete_intron_retention_right
      .internal_polya_right _ _ _ h (fun h => ⟨h.2.1, h.2.2.1⟩) rfl
      (fun e he => by simp only [mirrorSym, mirrorEvent, he, isTermMisTy, Bool.false_eq_true, if_false])
      (fun h _ => mirror_dual_verifyPolya L p I.exons rp.blocks rp.polya evs h)
  | minus =>
    rw [hs] at h
    exact (mirrorSym L I.exons.length).verifySide_sym rp.polya.extT rp.polya.intT evs .incomplete_intron_retention_left
      .internal_polya_left _ _ _ h (fun h => ⟨h.2.1, h.2.2.1⟩) rfl
      (fun e he => by simp only [mirrorSym, mirrorEvent, he, isTermMisTy, Bool.false_eq_true, if_false])
      (fun h _ => mirror_dual_verifyPolyt L p I.exons rp.blocks rp.polya evs h)

example : ReadEndsMirrorOK 1000 (exReadOf paRead [1, 1] [1, 1] (0, 2) paInfo) (exIsoOf paIso .plus [1, 1] (0, 2))
      [{ ty := .exon_elongation_right, info := 7 }] ∧
    verifyReadEnds nanoporeParams (exReadOf paRead [1, 1] [1, 1] (0, 2) paInfo) (exIsoOf paIso .plus [1, 1] (0, 2))
      [{ ty := .exon_elongation_right, info := 7 }] = some [{ ty := .correct_polya_site_right, info := 381 }] := by decide

/-- `find_containing_isoforms`: the same isoforms (`contains_approx` is self-dual) -/
theorem mirror_dual_findContaining (L : Int) (g : Gene) (p : Params) (rp : ReadProf) (ni ns : Nat) (hint : List IsoInfo) :
    findContaining p (mirrorReadProf L g rp) (hint.map (mirrorIsoInfo L ni ns))
      = (findContaining p rp hint).map (mirrorIsoInfo L ni ns) := by
  simp only [findContaining, List.filter_map]
  congr 1
  apply List.filter_congr
  intro I _
  simp only [Function.comp, mirrorIsoInfo, mirrorReadProf, mirror_dual_contains_approx]

/-- `is_fsm` -/
theorem mirror_dual_isFsm (L : Int) (g : Gene) (rp : ReadProf) (ni ns : Nat) (I : IsoInfo) :
    isFsm (mirrorReadProf L g rp) (mirrorIsoInfo L ni ns I) = isFsm rp I := by
  simp only [isFsm, mirrorIsoInfo, mirrorReadProf, am_regionOf_mirror, Option.map_map]
  congr 1
  funext r
  simp only [Function.comp, mirror_dual_contains]

/-- `detect_ism_subtype`: `ism_left ↔ ism_right`, `ism_internal` and `none` fixed -/
theorem mirror_dual_detectIsmSubtype (L : Int) (g : Gene) (rp : ReadProf) (ni ns : Nat) (I : IsoInfo) :
    detectIsmSubtype (mirrorReadProf L g rp) (mirrorIsoInfo L ni ns I) = (detectIsmSubtype rp I).map swapLR := by
  simp only [detectIsmSubtype, mirrorIsoInfo, mirrorReadProf, am_regionOf_mirror, Option.map_map]
  congr 1
  funext r
  simp only [Function.comp, mirrorIv]
  by_cases h1 : r.1 < rp.region.1 <;> by_cases h2 : r.2 > rp.region.2 <;>
    simp [h1, h2, swapLR] <;> omega

-- non-vacuity: a read inside a three-exon isoform: ISM truncated on the right, its mirror image on the left
example : detectIsmSubtype exRead exIso = some .ism_right ∧
    detectIsmSubtype (mirrorReadProf 1000 exGene exRead) (mirrorIsoInfo 1000 2 3 exIso) = some .ism_left ∧
    isFsm exRead exIso = some false := by decide

/-- `categorize_correct_splice_match`: same classification, the event mirrored -/
theorem mirror_dual_categorizeSplice (L : Int) (g : Gene) (rp : ReadProf) (ni ns nEx : Nat) (I : IsoInfo) :
    categorizeSplice (mirrorReadProf L g rp) (mirrorIsoInfo L ni ns I)
      = (categorizeSplice rp I).map (fun ce => (ce.1, mirrorEvent L nEx ce.2)) := by
  have h1 : (mirrorReadProf L g rp).intron.read.length = rp.intron.read.length := by
    simp [mirrorReadProf, mirrorProfRes]
  have h2 : (mirrorIsoInfo L ni ns I).introns.length = I.introns.length := by simp [mirrorIsoInfo, mirrorL_length]
  simp only [categorizeSplice, h1, h2, mirror_dual_isFsm, mirror_dual_detectIsmSubtype]
  split
  · rfl
  · cases isFsm rp I with
    | none => rfl
    | some b =>
      cases b
      · simp only [detectIsmSubtype]
        cases regionOf I.introns with
        | none => rfl
        | some r =>
          by_cases a1 : r.1 < rp.region.1 <;> by_cases a2 : r.2 > rp.region.2 <;> simp [a1, a2] <;> rfl
      · rfl

/-- the two nucleotide scores (exact rationals) of sorted disjoint well-formed block / exon lists -/
theorem mirror_dual_nucleotideScores (L : Int) (g : Gene) (p : Params) (rp : ReadProf) (ni ns : Nat) (I : IsoInfo)
    (h1 : SD rp.blocks) (h2 : SD I.exons) (w1 : WFl rp.blocks) (w2 : WFl I.exons) :
    jaccardScore p (mirrorReadProf L g rp) (mirrorIsoInfo L ni ns I) = jaccardScore p rp I ∧
    coverageScore p (mirrorReadProf L g rp) (mirrorIsoInfo L ni ns I) = coverageScore p rp I := by
  have he : extendedRegion p (mirrorIsoInfo L ni ns I) = (extendedRegion p I).map (mirrorIv L) := by
    simp only [extendedRegion, mirrorIsoInfo, am_regionOf_mirror, Option.map_map]
    congr 1; funext r; simp only [Function.comp, mirrorIv]; ext <;> simp <;> omega
  have hb : (mirrorReadProf L g rp).blocks = mirrorL L rp.blocks := rfl
  have hx : (mirrorIsoInfo L ni ns I).exons = mirrorL L I.exons := rfl
  simp only [jaccardScore, coverageScore, he, hb, hx, IsoVerif.Props.C11Mirror.mirror_dual_jaccardSweep L _ _ h1 h2 w1 w2,
    IsoVerif.Props.C11Mirror.mirror_dual_readCoverageFraction L _ _ h1 h2 w1 w2]
  cases extendedRegion p I with
  | none => simp
  | some r =>
    simp only [Option.map_some]
    constructor
    · cases jaccardSweep rp.blocks I.exons with
      | none => rfl
      | some js => simp only [IsoVerif.Props.C11Mirror.mirror_dual_extraExonPercentage]
    · cases readCoverageFraction rp.blocks I.exons with
      | none => rfl
      | some js => simp only [IsoVerif.Props.C11Mirror.mirror_dual_extraExonPercentage]

/-- the two "extra terminal bases" flags of `select_similar_isoforms` swap (the fixed `extra_right` typo lived here:
    160863b) -/
theorem mirror_dual_extraFlags (L : Int) (g : Gene) (p : Params) (rp : ReadProf) (ni ns : Nat) (I : IsoInfo) :
    (decide ((mirrorReadProf L g rp).region.1 + p.delta < (mirrorIsoInfo L ni ns I).region.1)
        = decide (rp.region.2 - p.delta > I.region.2)) ∧
    (decide ((mirrorReadProf L g rp).region.2 - p.delta > (mirrorIsoInfo L ni ns I).region.2)
        = decide (rp.region.1 + p.delta < I.region.1)) := by
  simp only [mirrorReadProf, mirrorIsoInfo, mirrorIv]
  constructor <;> (apply decide_eq_decide.mpr; omega)

example : SD exRead.blocks ∧ SD exIso.exons ∧ WFl exRead.blocks ∧ WFl exIso.exons ∧
    (jaccardScore nanoporeParams exRead exIso).isSome := by
  refine ⟨by decide, by decide, by decide, by decide, by decide +kernel⟩

/-- `has_overlapping_features` on reversed profiles over the mirrored index range (profiles of equal length `n`, range
    inside `[0, n]`: no position raises, so the early exit of the loop is invisible) -/
theorem mirror_dual_hasOverlappingFeatures (p1 p2 : List Int) (n : Nat) (h1 : p1.length = n) (h2 : p2.length = n)
    (rng : Int × Int) (ha : 0 ≤ rng.1) (hb : rng.2 ≤ n) :
    hasOverlappingFeatures p1.reverse p2.reverse (mirrorRange n rng) = hasOverlappingFeatures p1 p2 rng := by
  simp only [hasOverlappingFeatures, List.length_reverse, mirrorRange, h1, h2, ne_eq, not_true_eq_false, if_false]
  refine am_rangeLoop_mirror (p1.zip p2) n (by simp [List.length_zip, h1, h2]) (anyRange _) (anyRange _)
    (fun l => some (l.any (fun ab => ab.1 == 1 && ab.2 == 1))) (fun s m h => ?_) (fun s m h => ?_)
    (fun l => by rw [List.any_reverse]) (fun _ _ => rfl) rng ha hb
  · exact am_anyRange_slice _ (p1.zip p2) _ s m (by simp [List.length_zip, h1, h2]; omega) (fun i hi => by
      obtain ⟨g1, g2⟩ := am_profile_pair_get p1 p2 i hi
      simp only [g1, g2])
  · rw [List.zip, List.reverse_zipWith (by omega)]
    exact am_anyRange_slice _ (p1.reverse.zip p2.reverse) _ s m (by simp [List.length_zip, h1, h2]; omega) (fun i hi => by
      obtain ⟨g1, g2⟩ := am_profile_pair_get p1.reverse p2.reverse i hi
      simp only [g1, g2])

/-- `difference_in_present_features` (a sum over the range: the order is immaterial) -/
theorem mirror_dual_differenceInPresentFeatures (p1 p2 : List Int) (n : Nat) (h1 : p1.length = n) (h2 : p2.length = n)
    (rng : Int × Int) (ha : 0 ≤ rng.1) (hb : rng.2 ≤ n) :
    differenceInPresentFeatures p1.reverse p2.reverse (mirrorRange n rng) = differenceInPresentFeatures p1 p2 rng := by
  simp only [differenceInPresentFeatures, List.length_reverse, mirrorRange, h1, h2, ne_eq, not_true_eq_false, if_false]
  refine am_rangeLoop_mirror (p1.zip p2) n (by simp [List.length_zip, h1, h2]) (diffLoop p1 p2)
    (diffLoop p1.reverse p2.reverse) (fun l => some (l.map diffWeight).sum) (fun s m h => ?_) (fun s m h => ?_)
    (fun l => by rw [List.map_reverse, List.sum_reverse]) (fun _ _ => rfl) rng ha hb
  · exact am_diffLoop_slice p1 p2 s m (by simp [List.length_zip, h1, h2]; omega)
  · rw [List.zip, List.reverse_zipWith (by omega)]
    exact am_diffLoop_slice _ _ s m (by simp [List.length_zip, h1, h2]; omega)

/-- outside the range hypothesis the two orientations differ in their error behaviour: the original loop finds a
    common feature at index 0 and returns True before it reaches the out-of-range indices, the mirrored loop starts at
    index −3 and raises -/
theorem hasOverlappingFeatures_range_witness :
    hasOverlappingFeatures ([1, 0] : List Int).reverse ([1, 1] : List Int).reverse (mirrorRange 2 (0, 5))
      ≠ hasOverlappingFeatures [1, 0] [1, 1] (0, 5) := by decide

example : hasOverlappingFeatures [1, -1, 1] [0, 0, 1] (1, 3) = some true ∧
    differenceInPresentFeatures [1, -1, 1] [1, 1, 0] (0, 3) = some 1 := by decide

/-- `find_overlapping_isoforms` -/
theorem mirror_dual_findOverlapping (L : Int) (g : Gene) (rp : ReadProf) (hint : List IsoInfo)
    (wf : ∀ I ∈ hint, ElongWF g rp I) :
    findOverlapping (mirrorReadProf L g rp) (hint.map (mirrorIsoInfo L g.introns.length g.splitExons.length))
      = (findOverlapping rp hint).map (List.map (mirrorIsoInfo L g.introns.length g.splitExons.length)) := by
  apply filterOpt_map_of_mem
  intro I hI
  obtain ⟨hA, hB, ha, hb, hc, hd⟩ := wf I hI
  simp only [mirrorIsoInfo, mirrorReadProf, mirrorProfRes, am_overlap_intervals_mirrorRange]
  exact mirror_dual_hasOverlappingFeatures _ _ _ hA hB _ (by simp only [overlap_intervals]; omega)
    (by simp only [overlap_intervals]; omega)

/-- `select_similar_isoforms` of the mirrored gene and read selects the same isoforms -/
theorem mirror_dual_selectSimilar (L : Int) (g : Gene) (p : Params) (rp : ReadProf)
    (wf : ∀ I ∈ g.isos, ElongWF g rp I ∧ I.intronProf.length = g.introns.length ∧ SD I.exons ∧ WFl I.exons)
    (hr : rp.intron.gene.length = g.introns.length ∧ 0 ≤ rp.intron.range.1 ∧ rp.intron.range.2 ≤ g.introns.length)
    (hb : SD rp.blocks ∧ WFl rp.blocks) :
    selectSimilar (mirrorGene L g) p (mirrorReadProf L g rp)
      = (selectSimilar g p rp).map (List.map (mirrorIsoInfo L g.introns.length g.splitExons.length)) := by
  refine selectSimilar_map (mirrorIsoInfo L g.introns.length g.splitExons.length) g (mirrorGene L g) p rp
    (mirrorReadProf L g rp) rfl (mirror_dual_findOverlapping L g rp g.isos (fun I hI => (wf I hI).1))
    (fun I hI => ?_) (fun I hI => ?_) (fun I d => ?_)
  · obtain ⟨_, _, s1, s2⟩ := wf I hI
    exact (mirror_dual_nucleotideScores L g p rp _ _ I hb.1 s1 hb.2 s2).2
  · exact mirror_dual_differenceInPresentFeatures I.intronProf rp.intron.gene g.introns.length (wf I hI).2.1 hr.1
      rp.intron.range hr.2.1 hr.2.2
  · -- the two flags swap
    have c1 : (L + 1 - rp.region.1 - p.delta > L + 1 - I.region.1) ↔ (rp.region.1 + p.delta < I.region.1) := by omega
    have c2 : (L + 1 - rp.region.2 + p.delta < L + 1 - I.region.2) ↔ (rp.region.2 - p.delta > I.region.2) := by omega
    simp only [mirrorReadProf, mirrorIsoInfo, mirrorIv, c1, c2]
    exact Int.add_right_comm _ _ _

-- non-vacuity: a gene built by `from_models`, a read through `construct_profiles`; both isoforms are selected
example : (∀ I ∈ selGene.isos, ElongWF selGene selRead I ∧ I.intronProf.length = selGene.introns.length ∧
      SD I.exons ∧ WFl I.exons) ∧
    (selRead.intron.gene.length = selGene.introns.length ∧ 0 ≤ selRead.intron.range.1 ∧
      selRead.intron.range.2 ≤ selGene.introns.length) ∧ (SD selRead.blocks ∧ WFl selRead.blocks) ∧
    (selectSimilar selGene nanoporeParams selRead).map (fun l => l.map (·.id)) = some [0, 1] := by
  decide +kernel

end IsoVerif.Props.C11AssignMirror
