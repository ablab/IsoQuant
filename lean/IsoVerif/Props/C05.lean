/-
C05 — every aligned read is accounted for; region splitting loses or duplicates none.
Helper lemmas: IsoVerif/Lemmas/Regions.lean, Lemmas/RegionsDuplicates.lean.  The model (IsoVerif/Model/Regions.lean)
describes /repo after the two `fix:` commits that this model sees (18af3e5: `get_alignments` of `--high_memory`; 4a83800:
`split_coverage_regions`; the other three of C05: 9dc24a3, 52023dd in Model/RegionsEdge, 3cddb34 in Model/ChromHeaders);
the `…Buggy` definitions keep the old behaviour and the `…_witness` theorems show what it lost.  See docs/C05.md.
-/
import IsoVerif.Model.Regions
import IsoVerif.Lemmas.Regions
import IsoVerif.Lemmas.RegionsDuplicates

namespace IsoVerif.Props.C05
open IsoVerif.Gen IsoVerif.Model.Regions IsoVerif.Lemmas.Regions

/-- the coverage dictionary belongs to the region: its smallest / largest key are the bins of the region's ends
    (true of every storage built by `add_alignment`, theorem `store_dict_for`) -/
def DictFor (d : CovDict) (R : Iv) : Prop := minKey d = some (bin R.1) ∧ maxKey d = some (bin R.2)

/-- `regs` tile `R`: non-empty, first starts at `R.1`, consecutive ones abut, last ends at `R.2` -/
def Tiles (R : Iv) (regs : List Iv) : Prop := regs ≠ [] ∧ TilesFrom R.1 regs R.2

/-- **split_tiles** (termination included): for every region, read count and coverage dictionary of that region,
    the nested `while` loops terminate within the fuel and the sub-regions tile the region exactly –
    whatever the coverage values are (valleys anywhere, final-bin valley, a single bin, thresholds). -/
theorem split_tiles (R : Iv) (count : Nat) (d : CovDict) (hR : R.1 ≤ R.2) (hd : DictFor d R) :
    ∃ regs, splitCoverageRegions R count d = some regs ∧ Tiles R regs := by
  unfold splitCoverageRegions
  split
  · exact ⟨[R], rfl, by simp, rfl, hR, rfl⟩
  · obtain ⟨hmin, hmax⟩ := hd
    have hcov : ∀ k, bin R.2 < k → covGet d k = 0 := fun k hk => covGet_gt_maxKey hmax hk
    have hfl : bin R.1 ≤ bin R.2 := bin_mono hR
    obtain ⟨regs, h1, h2, h3⟩ := splitOuter_spec d R (bin R.1) (bin R.2) (bin R.2 + 2 - bin R.1).toNat hcov hR
      (bin_spec R.1) (bin_spec R.2) (Nat.le_refl _) (bin R.2 + 2 - bin R.1).toNat (bin R.1) (bin R.1 + 1) (covGet d (bin R.1)) (Int.le_refl _)
      (fun _ => by omega) (by omega) (by omega)
    simp only [splitLoop, hmin, hmax, h1]
    refine ⟨_, rfl, ?_⟩
    cases regs with
    | nil => exact ⟨by simp [retile], rfl, hR, rfl⟩
    | cons r rs =>
      have hle : bin R.1 + 1 ≤ bin R.2 := by
        by_cases h : bin R.1 + 1 ≤ bin R.2
        · exact h
        · exact absurd (h2 (by omega)) (by simp)
      obtain ⟨_, e, ht, he1, he2⟩ := h3 hle
      have hr2 : R.1 ≤ r.2 := by
        obtain ⟨ha, hw, _⟩ := ht
        omega
      have ht' := tilesFrom_setFirstStart (x := R.1) ht hr2
      refine ⟨?_, ?_⟩
      · simp only [retile]
        exact setLastEnd_ne_nil (by simp [setFirstStart])
      · simp only [retile]
        exact tilesFrom_setLastEnd ht' (by simp [setFirstStart]) he1

/-- no alignment of the cluster falls between sub-regions: every interval inside `R` (1 bp or longer, anywhere)
    overlaps at least one sub-region, and every position of `R` lies in exactly one -/
theorem split_covers (R : Iv) (count : Nat) (d : CovDict) (hR : R.1 ≤ R.2) (hd : DictFor d R) (a : Iv)
    (h1 : R.1 ≤ a.1) (h2 : a.1 ≤ a.2) (h3 : a.2 ≤ R.2) :
    ∃ regs, splitCoverageRegions R count d = some regs ∧ (∃ r, r ∈ regs ∧ overlaps r a = true) ∧
      regs.Pairwise (fun r r' => r.2 < r'.1) := by
  obtain ⟨regs, hs, _, ht⟩ := split_tiles R count d hR hd
  obtain ⟨r, hr, hr1, hr2⟩ := tilesFrom_cover ht a.1 h1 (by omega)
  refine ⟨regs, hs, ⟨r, hr, ?_⟩, tilesFrom_disjoint ht⟩
  simp [overlaps]; omega

-- non-vacuity: a dictionary of three bins belongs to its region; 2000 reads force the loop
example : DictFor [(3, 5), (4, 2000), (5, 1)] (800, 1500) ∧ (800 : Int) ≤ 1500 ∧
    splitCoverageRegions (800, 1500) 2000 [(3, 5), (4, 2000), (5, 1)] = some [(800, 1500)] := by
  unfold DictFor; decide +kernel

/-! ### clusters (`AlignmentCollector.process`) -/

/-- the records of one chromosome as a coordinate-sorted BAM yields them: ordered by start, each with at least one
    reference base -/
def ValidInput (l : List Aln) : Prop := SortedByStart l ∧ ∀ x, x ∈ l → WFA x

/-- **clusters_partition**: the clusters forwarded one after the other are non-empty, their concatenation is the
    input (nothing lost, nothing repeated, order kept), every forwarded storage is exactly the storage built from
    its cluster, and alignments of different clusters never overlap (each cluster ends before the next starts),
    so a cluster is a maximal chain of overlapping alignments. -/
theorem clusters_partition (l : List Aln) (h : ValidInput l) :
    (clusters l).flatten = l ∧ (∀ c, c ∈ clusters l → c ≠ []) ∧
    processStores l = (clusters l).map buildStore ∧
    (clusters l).Pairwise (fun c1 c2 => ∀ x, x ∈ c1 → ∀ b, b ∈ c2 → x.stop - 1 < b.start) := by
  obtain ⟨h1, h2, h3⟩ := processStores_spec l h.1 h.2
  refine ⟨h2, ?_, ?_, ?_⟩
  · intro c hc
    obtain ⟨s, hs, rfl⟩ := List.mem_map.1 hc
    exact (h1 s hs).2
  · unfold clusters
    rw [List.map_map]
    conv => lhs; rw [← List.map_id (processStores l)]
    apply List.map_congr_left
    intro s hs
    exact (h1 s hs).1
  · unfold clusters
    rw [List.pairwise_map]
    exact h3

/-- the region of a storage is the hull of its alignments (`add_alignment`): every stored alignment lies inside the
    region and both ends of the region are attained (no gap inside a forwarded cluster: `cluster_connected`) -/
theorem cluster_region_is_hull (c : List Aln) (R : Iv) (h : (buildStore c).region = some R) :
    c ≠ [] ∧ (∀ x, x ∈ c → R.1 ≤ x.start ∧ x.stop - 1 ≤ R.2) ∧
      (∃ x, x ∈ c ∧ x.start = R.1) ∧ (∃ x, x ∈ c ∧ x.stop - 1 = R.2) :=
  buildStore_region_spec h

/-- **cluster_connected**: inside every forwarded cluster each position of its region is covered by one of its
    alignments – a cluster has no gap, it is one chain of overlapping alignments (with `clusters_partition`:
    a maximal one).  The proof does not use `h` -/
theorem cluster_connected (l : List Aln) (h : ∀ x, x ∈ l → WFA x) (s : Store) (hs : s ∈ processStores l) (R : Iv)
    (hR : s.region = some R) (p : Int) (h1 : R.1 ≤ p) (h2 : p ≤ R.2) :
    ∃ x, x ∈ s.alns ∧ x.start ≤ p ∧ p ≤ x.stop - 1 :=
  processStores_conn l s hs R hR p h1 h2

/-- **coverage_counts**: `coverage_dict[b]` of a storage is the number of its alignments whose bin range
    `[start // BIN, (end - 1) // BIN]` contains `b` (0 for bins nobody touches) -/
theorem coverage_counts (c : List Aln) (b : Int) :
    covGet (buildStore c).cov b = ((c.filter (fun a => decide (a.binS ≤ b) && decide (b ≤ a.binE))).length : Int) :=
  covGet_buildStore c b

/-- the coverage dictionary of a built storage belongs to its region (hypothesis of `split_tiles`) -/
theorem store_dict_for (c : List Aln) (hw : ∀ x, x ∈ c → WFA x) (R : Iv) (h : (buildStore c).region = some R) :
    DictFor (buildStore c).cov R :=
  buildStore_cov_spec hw h

/-- **memory_mode_exact** (full strength, current tree): for every coordinate-sorted cluster and every sub-region
    of its region, `InMemoryAlignmentStorage.get_alignments(region)` is exactly the overlap filter of the stored
    alignments, in storage order (no `KeyError`, nothing lost in the last bin, nothing extra); without a region it
    returns the whole storage. -/
theorem memory_mode_exact (c : List Aln) (h : ValidInput c) (R : Iv) (hreg : (buildStore c).region = some R) :
    (buildStore c).memGet none = some c ∧
    ∀ r : Iv, R.1 ≤ r.1 → r.1 ≤ r.2 → r.2 ≤ R.2 →
      (buildStore c).memGet (some r) = some (c.filter (fun a => overlaps r a.iv)) := by
  refine ⟨?_, fun r h1 h2 h3 => memGet_exact c h.1 h.2 R hreg r h1 h2 h3⟩
  simp [Store.memGet, Store.memGetOff, buildStore_alns]

/-- **bam_mode_no_loss**: re-fetching a sub-region of a cluster from the file (`fetch` = overlap filter over the
    whole chromosome) returns exactly the cluster's alignments overlapping it – records of other clusters cannot
    interfere – so every alignment of the cluster is returned for each sub-region it overlaps. -/
theorem bam_mode_no_loss (pre c post : List Aln) (R r : Iv) (hreg : (buildStore c).region = some R)
    (hpre : ∀ x, x ∈ pre → ∀ b, b ∈ c → x.stop - 1 < b.start)
    (hpost : ∀ x, x ∈ c → ∀ b, b ∈ post → x.stop - 1 < b.start) (h1 : R.1 ≤ r.1) (h2 : r.2 ≤ R.2) :
    bamGet (pre ++ c ++ post) r = c.filter (fun a => overlaps r a.iv) := by
  obtain ⟨_, _, hlo, hhi⟩ := buildStore_region_spec hreg
  exact bamGet_cluster hpre hpost hlo hhi h1 h2

/-- what a forwarded storage yields, independent of the memory mode -/
def expectedOf (s : Store) : List (Iv × List Aln) :=
  match s.region with
  | none => []
  | some R => match splitCoverageRegions R s.alns.length s.cov with
    | none => []
    | some regs => expectedForward s.alns R regs

/-- what `forward_alignments` does with a storage that `process` hands it, in either memory mode: it yields
    `expectedOf s` — one `(cluster region, all alignments)` pair when `split_coverage_regions` returns a single
    sub-region, else per sub-region the stored alignments overlapping it — and the sub-regions tile the cluster's
    region, inside which every stored alignment lies.  Every theorem about `collect` below rests on this. -/
theorem forward_eq (m : Mode) (all : List Aln) (h : ValidInput all) (s : Store) (hs : s ∈ processStores all) :
    forward m all s = some (expectedOf s) ∧
    ∃ R regs, s.region = some R ∧ splitCoverageRegions R s.alns.length s.cov = some regs ∧ Tiles R regs ∧
      (∀ x, x ∈ s.alns → R.1 ≤ x.start ∧ x.start ≤ x.stop - 1 ∧ x.stop - 1 ≤ R.2) := by
  obtain ⟨hbuilt, hne, hcs, hcw, pre, post, hall, hpre, hpost⟩ := processStores_mem h.1 h.2 hs
  obtain ⟨R, hR⟩ := buildStore_region_of_ne hne
  have hreg : s.region = some R := by rw [hbuilt]; exact hR
  obtain ⟨_, hc, hlo, hhi⟩ := buildStore_region_spec hR
  have hRwf := region_wf hR hcw
  have hdict : DictFor s.cov R := by rw [hbuilt]; exact buildStore_cov_spec hcw hR
  obtain ⟨regs, hsplit, htiles⟩ := split_tiles R s.alns.length s.cov hRwf hdict
  have hexp : expectedOf s = expectedForward s.alns R regs := by
    simp only [expectedOf, hreg, hsplit]
  have hfilterAll : s.alns.filter (fun a => overlaps R a.iv) = s.alns := by
    rw [List.filter_eq_self]
    exact overlaps_hull hR hcw
  refine ⟨?_, R, regs, hreg, hsplit, htiles, ?_⟩
  · rw [hexp]
    unfold forward
    apply forwardWith_of hreg hsplit
    · cases m with
      | memory => simp [getAlignments, Store.memGet, Store.memGetOff]
      | bam =>
        simp only [getAlignments, hreg]
        rw [hall, bamGet_cluster hpre hpost hlo hhi (Int.le_refl _) (Int.le_refl _), hfilterAll]
    · intro r hr
      obtain ⟨hr1, hr2, hr3⟩ := tilesFrom_sub htiles.2 r hr
      cases m with
      | memory =>
        simp only [getAlignments]
        have hm := memGet_exact s.alns hcs hcw R hR r hr1 hr2 hr3
        rw [← hbuilt] at hm
        exact hm
      | bam =>
        simp only [getAlignments]
        rw [hall, bamGet_cluster hpre hpost hlo hhi hr1 hr3]
  · intro x hx
    have := hc x hx
    have := hcw x hx
    unfold WFA at this
    omega

/-- **every_alignment_forwarded** (the collector loses nothing, in either memory mode): on every valid input the
    collector terminates without error, and every input record is handed to `process_alignments_in_region` for at
    least one region that it overlaps – whatever the coverage profile (pile-ups, long loci, valleys anywhere,
    single-bin pile-ups, 1-bp reads, reads in the last bin). -/
theorem every_alignment_forwarded (m : Mode) (all : List Aln) (h : ValidInput all) :
    ∃ out, collect m all = some out ∧
      ∀ a, a ∈ all → ∃ p, p ∈ out ∧ a ∈ p.2 ∧ overlaps p.1 a.iv = true := by
  have hf : ∀ s, s ∈ processStores all → forward m all s = some (expectedOf s) :=
    fun s hs => (forward_eq m all h s hs).1
  refine ⟨_, collectStores_of_forall _ hf, ?_⟩
  intro a ha
  obtain ⟨_, hflat, _⟩ := processStores_spec all h.1 h.2
  rw [← hflat] at ha
  obtain ⟨c, hc, hac⟩ := List.mem_flatten.1 ha
  obtain ⟨s, hs, rfl⟩ := List.mem_map.1 hc
  obtain ⟨_, R, regs, hreg, hsplit, htiles, hin⟩ := forward_eq m all h s hs
  have hexp : expectedOf s = expectedForward s.alns R regs := by
    simp only [expectedOf, hreg, hsplit]
  obtain ⟨hx1, hx2, hx3⟩ := hin a hac
  have hgoal : ∃ p, p ∈ expectedForward s.alns R regs ∧ a ∈ p.2 ∧ overlaps p.1 a.iv = true := by
    have hcase : (∃ r0, regs = [r0]) ∨ expectedForward s.alns R regs =
        regs.map (fun r => (r, s.alns.filter (fun a => overlaps r a.iv))) := by
      match regs with
      | [] => exact Or.inr rfl
      | [r0] => exact Or.inl ⟨r0, rfl⟩
      | _ :: _ :: _ => exact Or.inr rfl
    rcases hcase with ⟨r0, hr0⟩ | hmap
    · subst hr0
      refine ⟨(R, s.alns), by simp [expectedForward], hac, ?_⟩
      rw [Lemmas.overlaps_true_iff]; simp only [Aln.iv]; omega
    · obtain ⟨r, hr, hr1, hr2⟩ := tilesFrom_cover htiles.2 a.start hx1 (by omega)
      have hov : overlaps r a.iv = true := by rw [Lemmas.overlaps_true_iff]; simp only [Aln.iv]; omega
      refine ⟨(r, s.alns.filter (fun a => overlaps r a.iv)), ?_, ?_, hov⟩
      · rw [hmap]; exact List.mem_map.2 ⟨r, hr, rfl⟩
      · exact List.mem_filter.2 ⟨hac, by simpa using hov⟩
  obtain ⟨p, hp, hp2, hp3⟩ := hgoal
  refine ⟨p, ?_, hp2, hp3⟩
  rw [List.mem_flatMap]
  exact ⟨s, hs, by rw [hexp]; exact hp⟩

/-- **memory_mode_equal**: default mode and `--high_memory` hand exactly the same `(region, alignments)` sequence
    to the assigner (used by C06) -/
theorem memory_mode_equal (all : List Aln) (h : ValidInput all) : collect .memory all = collect .bam all := by
  unfold collect
  rw [collectStores_of_forall (g := expectedOf) _ (fun s hs => (forward_eq .memory all h s hs).1),
      collectStores_of_forall (g := expectedOf) _ (fun s hs => (forward_eq .bam all h s hs).1)]

/-- nothing is invented and nothing is repeated inside one region: each forwarded list is a sub-list (in input order)
    of one cluster of the input -/
theorem forwarded_sublist (m : Mode) (all : List Aln) (h : ValidInput all) (out : List (Iv × List Aln))
    (hout : collect m all = some out) : ∀ p, p ∈ out → ∃ c, c ∈ clusters all ∧ p.2.Sublist c := by
  have hf : ∀ s, s ∈ processStores all → forward m all s = some (expectedOf s) :=
    fun s hs => (forward_eq m all h s hs).1
  have := collectStores_of_forall _ hf
  unfold collect at hout
  rw [this] at hout
  injection hout with hout
  subst hout
  intro p hp
  obtain ⟨s, hs, hps⟩ := List.mem_flatMap.1 hp
  refine ⟨s.alns, List.mem_map.2 ⟨s, hs, rfl⟩, ?_⟩
  obtain ⟨_, R, regs, hreg, hsplit, _, _⟩ := forward_eq m all h s hs
  simp only [expectedOf, hreg, hsplit] at hps
  unfold expectedForward at hps
  split at hps
  · simp at hps; subst hps; exact List.Sublist.refl _
  · obtain ⟨r, _, rfl⟩ := List.mem_map.1 hps
    exact List.filter_sublist

theorem mem_of_forwarded {m : Mode} {all : List Aln} (h : ValidInput all) {out : List (Iv × List Aln)}
    (hout : collect m all = some out) {p : Iv × List Aln} (hp : p ∈ out) {a : Aln} (ha : a ∈ p.2) : a ∈ all := by
  obtain ⟨c, hc, hsub⟩ := forwarded_sublist m all h out hout p hp
  rw [← (clusters_partition all h).1]
  exact List.mem_flatten.2 ⟨c, hc, hsub.subset ha⟩

/-- **stats_equal_categories**: the counters of the log are incremented once per input record in the outer
    iteration – never per region – and equal the per-category record counts of the input: `secondary` = records
    flagged secondary, `supplementary` = non-secondary supplementary ones, `primary` = the remaining mapped ones;
    `unaligned` is not touched here (it is taken from the BAM index afterwards). -/
theorem stats_equal_categories (l : List Aln) :
    processStats l AlignmentType.secondary = (l.filter (fun a => a.secondary)).length ∧
    processStats l AlignmentType.supplementary = (l.filter (fun a => !a.secondary && a.supplementary)).length ∧
    processStats l AlignmentType.primary = (l.filter (fun a => !a.secondary && !a.supplementary && a.mapped)).length ∧
    processStats l AlignmentType.unaligned = 0 := by
  have key : ∀ t, processStats l t = (l.filter (fun a => decide (statKey a = some t))).length := by
    intro t
    unfold processStats
    rw [stats_foldl, statStep_foldl]
    simp [PState.init]
  -- `statKey` in terms of the three flags, all eight cases at once
  have cat : ∀ a : Aln, decide (statKey a = some .secondary) = a.secondary ∧
      decide (statKey a = some .supplementary) = (!a.secondary && a.supplementary) ∧
      decide (statKey a = some .primary) = (!a.secondary && !a.supplementary && a.mapped) ∧
      decide (statKey a = some .unaligned) = false := by
    intro a
    unfold statKey
    cases a.secondary <;> cases a.supplementary <;> cases a.mapped <;> decide +kernel
  simp only [key]
  refine ⟨congrArg _ (List.filter_congr fun a _ => (cat a).1), congrArg _ (List.filter_congr fun a _ => (cat a).2.1),
    congrArg _ (List.filter_congr fun a _ => (cat a).2.2.1), ?_⟩
  rw [List.filter_congr fun a _ => (cat a).2.2.2]
  simp

/-! ### de-duplication of an alignment seen in several regions -/

/-- **no_identical_twins** (the de-duplication itself): `find_duplicates` keeps a sub-list of the given indices in
    which no two records are equal under `__eq__`, every discarded record has an equal kept one, and a non-empty
    selection stays non-empty – for every record list, every index list and every equality test. -/
theorem no_identical_twins {α : Type} [DecidableEq α] (eq : α → α → Bool) (idxs : List α) :
    (findDuplicates eq idxs).Sublist idxs ∧
    (findDuplicates eq idxs).Pairwise (fun a b => eq a b = false) ∧
    (∀ y, y ∈ idxs → ∃ x, x ∈ findDuplicates eq idxs ∧ (x = y ∨ eq x y = true)) ∧
    (idxs ≠ [] → findDuplicates eq idxs ≠ []) :=
  findDuplicates_spec eq idxs

/-- two records made from the same alignment (same read, chromosome, start, end) in two regions are either equal
    under `BasicReadAssignment.__eq__` or differ in their isoform lists -/
theorem twin_records (x y : Rec) (h1 : x.rid = y.rid) (h2 : x.chr = y.chr) (h3 : x.start = y.start)
    (h4 : x.stop = y.stop) : x.eqv y = true ∨ x.isoforms ≠ y.isoforms := by
  by_cases h : x.isoforms = y.isoforms
  · left; simp [Rec.eqv, h1, h2, h3, h4, h]
  · right; exact h

/-- after `MultimapResolver.resolve` (`take_best`) at most one record per `(read, chr, start, end, isoforms)` stays
    non-suspended: the retained records of a read are pairwise different under `__eq__` -/
theorem resolved_no_twins (recs : List Rec) (kept : List Nat) (h : ResolveKept recs kept) :
    kept.Pairwise (fun i j => recEqAt recs i j = false) := by
  unfold ResolveKept at h
  split at h
  · rename_i hl
    subst h
    match recs, hl with
    | [], _ => simp
    | [r], _ => simp [List.range_succ]
    | _ :: _ :: _, hl => simp at hl
  · split at h
    · subst h; exact (findDuplicates_spec _ _).2.1
    · obtain ⟨b, _, rfl⟩ := h; simp

/-- **distinct_reads_preserved** (resolution never drops a read): a read with at least one record keeps at least one
    non-suspended record after resolution, and every kept index is a record of that read; moreover the resolver
    always has something to keep (`select_noninformative`'s assertion cannot fail). -/
theorem distinct_reads_preserved (recs : List Rec) (hne : recs ≠ []) :
    (∃ kept, ResolveKept recs kept) ∧
    ∀ kept, ResolveKept recs kept → kept ≠ [] ∧ ∀ i, i ∈ kept → i < recs.length := by
  have hpos := List.length_pos_iff.2 hne
  unfold ResolveKept
  by_cases hl : recs.length ≤ 1
  · simp only [if_pos hl]
    refine ⟨⟨_, rfl⟩, fun kept h => ?_⟩
    subst h
    exact ⟨fun e => by have := List.range_eq_nil.1 e; omega, fun i hi => List.mem_range.1 hi⟩
  · simp only [if_neg hl]
    have hs := selectBest_ok recs hne
    cases hc : selectBest recs with
    | exact idxs =>
      rw [hc] at hs
      obtain ⟨hsub, _, _, hne'⟩ := findDuplicates_spec (recEqAt recs) idxs
      exact ⟨⟨_, rfl⟩, fun kept h => h ▸ ⟨hne' hs.1, fun i hi => hs.2 i (hsub.subset hi)⟩⟩
    | oneOf cands =>
      rw [hc] at hs
      obtain ⟨b, hb⟩ := List.exists_mem_of_ne_nil _ hs.1
      refine ⟨⟨[b], b, hb, rfl⟩, ?_⟩
      rintro kept ⟨b', hb', rfl⟩
      exact ⟨by simp, fun i hi => by rw [List.mem_singleton.1 hi]; exact hs.2 b' hb'⟩

theorem mem_recordsOf {p : Params} {keep : Iv → Aln → Bool} {out : List (Iv × List Aln)} {rec : Iv × Aln} :
    rec ∈ recordsOf p keep out ↔
      ∃ pr, pr ∈ out ∧ rec.1 = pr.1 ∧ rec.2 ∈ pr.2 ∧ passes p rec.2 = true ∧ keep pr.1 rec.2 = true := by
  simp only [recordsOf, List.mem_flatMap, List.mem_map, List.mem_filter, Bool.and_eq_true]
  constructor
  · rintro ⟨pr, hpr, a, ⟨ha, h1, h2⟩, rfl⟩; exact ⟨pr, hpr, rfl, ha, h1, h2⟩
  · rintro ⟨pr, hpr, h0, ha, h1, h2⟩; exact ⟨pr, hpr, rec.2, ⟨ha, h1, h2⟩, by rw [← h0]⟩

/-- the records under remaining filters `keep` that may depend on the (sub-)region, with a class `strong` of alignments
    kept in every region: a `strong` alignment that passes the documented filters has a record however the chromosome is
    cut, and every record comes from an input alignment that passes the filters and is kept in the region that made it -/
theorem records_of_filters (m : Mode) (all : List Aln) (h : ValidInput all) (p : Params)
    (keep : Iv → Aln → Bool) (strong : Aln → Bool) (hs : ∀ r a, strong a = true → keep r a = true) :
    ∃ out, collect m all = some out ∧
      (∀ a, a ∈ all → passes p a = true → strong a = true → ∃ rec, rec ∈ recordsOf p keep out ∧ rec.2 = a) ∧
      (∀ rec, rec ∈ recordsOf p keep out → rec.2 ∈ all ∧ passes p rec.2 = true ∧ keep rec.1 rec.2 = true) := by
  obtain ⟨out, hout, hfw⟩ := every_alignment_forwarded m all h
  refine ⟨out, hout, fun a ha hp hst => ?_, fun rec hrec => ?_⟩
  · obtain ⟨pr, hpr, hapr, _⟩ := hfw a ha
    exact ⟨(pr.1, a), mem_recordsOf.2 ⟨pr, hpr, rfl, hapr, hp, hs pr.1 a hst⟩, rfl⟩
  · obtain ⟨pr, hpr, h0, ha, h1, h2⟩ := mem_recordsOf.1 hrec
    exact ⟨mem_of_forwarded h hout hpr ha, h1, h0 ▸ h2⟩

/-- records exist exactly for the reads that pass the filters: with region-independent remaining filters `keepA`,
    a read id has at least one record (in either memory mode) iff one of its input alignments passes the documented
    filters and `keepA` – region splitting neither drops nor invents a read -/
theorem reads_with_records (m : Mode) (all : List Aln) (h : ValidInput all) (p : Params) (keepA : Aln → Bool) :
    ∃ out, collect m all = some out ∧
      ∀ rid, (∃ rec, rec ∈ recordsOf p (fun _ a => keepA a) out ∧ rec.2.rid = rid) ↔
             (∃ a, a ∈ all ∧ a.rid = rid ∧ passes p a = true ∧ keepA a = true) := by
  obtain ⟨out, hout, h1, h2⟩ := records_of_filters m all h p (fun _ a => keepA a) keepA fun _ _ hk => hk
  refine ⟨out, hout, fun rid => ⟨?_, ?_⟩⟩
  · rintro ⟨rec, hrec, hrid⟩
    obtain ⟨ha, hp, hk⟩ := h2 rec hrec
    exact ⟨rec.2, ha, hrid, hp, hk⟩
  · rintro ⟨a, ha, hrid, hp, hk⟩
    obtain ⟨rec, hrec, rfl⟩ := h1 a ha hp hk
    exact ⟨rec, hrec, hrid⟩

/-! ### the tree before the fixes: witnesses (replayed on the real code by the oracle as regression inputs) -/

/-- 270 bins, valleys at bin 130 and at the final bin 269 -/
def valleyDict : CovDict :=
  (List.range 270).map (fun (i : Nat) => (Int.ofNat i, if i = 130 ∨ i = 269 then 1 else 200))

/-- **split_last_bin_witness**: before the fix the loop closed the last sub-region at `269·256` and emitted nothing
    for the final bin (a valley): a read at `68884..68923` overlaps no sub-region and was lost in both memory modes;
    also position 0 (the region start on a bin boundary) was in no sub-region. -/
theorem split_last_bin_witness :
    splitCoverageRegionsBuggy (0, 68964) 2000 valleyDict = some [(1, 33280), (33281, 68864)] ∧
    splitCoverageRegions (0, 68964) 2000 valleyDict = some [(0, 33280), (33281, 68964)] := by
  have hk : minKey valleyDict = some 0 ∧ maxKey valleyDict = some 269 := by decide +kernel
  have hb : splitCoverageRegionsBuggy (0, 68964) 2000 valleyDict = some [(1, 33280), (33281, 68864)] := by
    -- the loops are run on the closed form of the lookups: walking the 270 entries at every step is slow to check
    simp only [splitCoverageRegionsBuggy, splitLoop, hk.1, hk.2, splitOuter_eq_on]
    simp only [valleyDict, covGet_range]
    decide +kernel
  exact ⟨hb, by rw [splitCoverageRegions_eq, hb]; rfl⟩

/-- **split_single_bin_witness**: before the fix a pile-up of ≥ 1024 reads inside one 256-bp bin produced NO
    sub-region at all, so none of its reads was processed -/
theorem split_single_bin_witness :
    splitCoverageRegionsBuggy (1030, 1105) 1100 [(4, 1100)] = some [] ∧
    splitCoverageRegions (1030, 1105) 1100 [(4, 1100)] = some [(1030, 1105)] := by
  decide +kernel

/-- **split_first_base_witness**: when the region starts on a multiple of 256 the first sub-region used to start one
    base later: a 1-bp alignment on that base overlapped no sub-region (reachable from a BAM: lost end-to-end
    when the cluster has ≥ 2 sub-regions) -/
theorem split_first_base_witness :
    (splitCoverageRegionsBuggy (1024, 1105) 1100 [(4, 1100), (5, 3)]).map (fun regs => regs.map (·.1)) = some [1025] ∧
    (splitCoverageRegions (1024, 1105) 1100 [(4, 1100), (5, 3)]).map (fun regs => regs.map (·.1)) = some [1024] := by
  decide +kernel

def tailCluster : List Aln :=
  [⟨0, 300, false, false, true, 60, 0⟩, ⟨10, 600, false, false, true, 60, 1⟩, ⟨520, 560, false, false, true, 60, 2⟩]

/-- **memory_tail_witness**: with `alignment_start_index[end_bin]` (before the fix) the alignment starting in the
    last bin of a sub-region (`520..559`, region `300..599`) was not returned by the in-memory storage -/
theorem memory_tail_witness :
    ((buildStore tailCluster).memGetBuggy (some (300, 599))).map (fun l => l.map (·.rid)) = some [1] ∧
    ((buildStore tailCluster).memGet (some (300, 599))).map (fun l => l.map (·.rid)) = some [1, 2] ∧
    (tailCluster.filter (fun a => overlaps (300, 599) a.iv)).map (·.rid) = [1, 2] := by
  decide +kernel

/-! ### non-vacuity -/

example : ValidInput tailCluster ∧ (buildStore tailCluster).region = some (0, 599) ∧ clusters tailCluster = [tailCluster] := by
  refine ⟨⟨by unfold SortedByStart tailCluster; decide +kernel, by unfold WFA tailCluster; decide +kernel⟩, by decide +kernel, by decide +kernel⟩

-- hypotheses of `bam_mode_no_loss`: a record before and a record after the cluster `tailCluster`, separated from it
example : (buildStore tailCluster).region = some (0, 599) ∧
    (∀ x, x ∈ ([] : List Aln) → ∀ b, b ∈ tailCluster → x.stop - 1 < b.start) ∧
    (∀ x, x ∈ tailCluster → ∀ b, b ∈ [(⟨600, 700, false, false, true, 60, 3⟩ : Aln)] → x.stop - 1 < b.start) ∧
    (bamGet ([] ++ tailCluster ++ [⟨600, 700, false, false, true, 60, 3⟩]) (300, 599)).map (·.rid) = [1, 2] := by
  refine ⟨by decide +kernel, by simp, ?_, by decide +kernel⟩
  intro x hx b hb
  simp at hb; subst hb
  simp [tailCluster] at hx
  rcases hx with rfl | rfl | rfl <;> decide +kernel

-- two clusters; statistics of a mixed input
example : clusters [⟨0, 10, false, false, true, 60, 0⟩, ⟨10, 20, true, false, true, 0, 1⟩] =
    [[⟨0, 10, false, false, true, 60, 0⟩], [⟨10, 20, true, false, true, 0, 1⟩]] ∧
    processStats [⟨0, 10, false, false, true, 60, 0⟩, ⟨10, 20, true, false, true, 0, 1⟩] AlignmentType.secondary = 1 := by
  decide +kernel

-- a read seen in two sub-regions with the same isoform set: one record survives
example : ResolveKept
    [⟨7, 0, 100, 200, [1], (1, 150), .unique, false, 0⟩, ⟨7, 0, 100, 200, [1], (151, 300), .unique, false, 0⟩] [0] := by
  have hs : selectBest [⟨7, 0, 100, 200, [1], (1, 150), .unique, false, 0⟩, ⟨7, 0, 100, 200, [1], (151, 300), .unique, false, 0⟩]
      = .exact [0, 1] := by decide +kernel
  unfold ResolveKept
  rw [if_neg (by decide +kernel), hs]
  decide +kernel

end IsoVerif.Props.C05
