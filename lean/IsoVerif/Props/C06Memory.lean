/-
C06 — default vs `--high_memory`: the multimapper bookkeeping of `DatasetProcessor.collect_reads`
(`prepare_multimapper_dict` + `resolve_multimappers`) yields the same multimapper tables and the same totals.
Property theorems only; lemmas in IsoVerif/Lemmas/C06Memory.lean.
-/
import IsoVerif.Model.Schedule
import IsoVerif.Lemmas.C06Memory

namespace IsoVerif.Props.C06
open IsoVerif.Model.C06 IsoVerif.Lemmas.C06

/-- **memory_mode_equal** (bookkeeping part).  Keeping every `BasicReadAssignment` in memory and grouping all of
    them (`--high_memory`), or keeping read ids only, counting reads with one record directly and re-reading and
    grouping the others (default), gives the same resolved multimapper table (same order), the same number of
    assignments and the same number of polyA assignments — for every resolver and every list of records in which
    no record is `suspended` before resolution (only the resolver sets that type).
    The other half of the design's `memory_mode_equal` (both alignment storages return the same alignments) is C05. -/
theorem memory_mode_equal (resolve : List BRec → List BRec) (recs : List BRec)
    (h : ∀ x, x ∈ recs → x.suspended = false) :
    bookkeepingHigh resolve recs = bookkeepingLow resolve recs := by
  unfold bookkeepingHigh bookkeepingLow
  -- the groups that only count are those of the reads with one record; `multi` selects the others by read id, so its
  -- groups are the remaining groups, and the groups left out hold exactly `uniq`
  have hlen : ∀ g ∈ groupByRead recs, g.2.length = countId recs g.1 := fun g hg => by rw [mem_groupByRead hg]; rfl
  rw [resolveAll_split resolve (fun g => countId recs g.1 == 1) _ fun g hg h1 =>
      Nat.le_of_eq ((hlen g hg).trans (eq_of_beq h1)),
    ← groupByRead_filter (fun k => !(countId recs k == 1)) recs, ← groupByRead_filter (fun k => countId recs k == 1) recs]
  have hp := groupByRead_flatten_perm (recs.filter fun r => countId recs r.readId == 1)
  have hk : ((groupByRead (recs.filter fun r => countId recs r.readId == 1)).flatMap (·.2)).filter (fun a => !a.suspended)
      = (groupByRead (recs.filter fun r => countId recs r.readId == 1)).flatMap (·.2) :=
    List.filter_eq_self.2 fun x hx => by rw [h x (List.mem_filter.1 (hp.mem_iff.1 hx)).1]; rfl
  simp only [keptCount, keptPolyA, hk, hp.length_eq, (hp.filter _).length_eq]

/-- non-vacuity: a multimapper with three records between two unique reads meets the hypothesis -/
example : ∀ x, x ∈ ([⟨"a", "c1", true, false, 1⟩, ⟨"m", "c1", false, false, 2⟩, ⟨"m", "c2", true, false, 3⟩,
    ⟨"b", "c2", false, false, 4⟩, ⟨"m", "c2", true, false, 5⟩] : List BRec) → x.suspended = false := by decide +kernel

/-- the hypothesis is needed: a single record that is already `suspended` is skipped by the in-memory path but
    counted by the default path -/
theorem memory_mode_presuspended_witness :
    bookkeepingHigh id [⟨"a", "c1", true, true, 0⟩] ≠ bookkeepingLow id [⟨"a", "c1", true, true, 0⟩] := by
  -- `groupByRead` is defined by well-founded recursion, which the kernel does not evaluate: unfolded by its equations
  simp [bookkeepingHigh, bookkeepingLow, groupByRead_cons, groupByRead, resolveAll, keptCount, keptPolyA, countId]

end IsoVerif.Props.C06
