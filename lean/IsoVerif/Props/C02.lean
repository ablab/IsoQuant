/-
C02 — expression tables equal the documented weighting of reported read assignments.
Property theorems about the executable model IsoVerif/Model/Counter.lean (tied to /repo by the correspondence
check of harness/props/C02.py); the strategy flags are the *generated* lists of IsoVerif/Gen/Strategies.lean.
The declarative right-hand sides (`docWeight`, `contribution`, `confirmsFeature`, the statistics classes) are in
IsoVerif/Model/CounterSpec.lean; helper lemmas in IsoVerif/Lemmas/Counter*.lean.

Part 1 (this file): weights, accumulation, confirmation / zeroing, statistics lines.
Part 2 (C02Merge.lean): per-chromosome merge, TPM.  Part 3 (C02Forward.lean): forward_counts.
Part 4 (C02MergeOrder.lean): order of the part files.  Part 5 (C02Combine.lean): the `combined_*` tables.
Part 6 (C02Grouped.lean): the grouped counter (C09) against the same weighting.
-/
import IsoVerif.Model.Counter
import IsoVerif.Model.CounterSpec
import IsoVerif.Lemmas.Counter
import IsoVerif.Lemmas.CounterSteps
import IsoVerif.Gen.Weights

namespace IsoVerif.Props.C02
open IsoVerif.Gen IsoVerif.Model.C02 IsoVerif.Lemmas.C02

/-- **weight_table**: for every strategy × assignment type × feature count k ≥ 1 the counter applies exactly the
    documented weight `docWeight` to each of the k features (flags: generated lists; k by cases 1 / ≥ 2) -/
theorem weight_table (s : CountingStrategy) (t : ReadAssignmentType) (k : Nat) (hk : 0 < k) :
    codeWeight s t k = some (docWeight s t k) := weight_table_aux s t k hk

/-- a record without any feature: the call raises exactly in the rows of `raisesRow`; otherwise there is no
    feature to add the computed weight to -/
theorem weight_table_zero (s : CountingStrategy) (t : ReadAssignmentType) :
    (codeWeight s t 0 = none ↔ raisesRow s t = true) := by
  cases t <;>
  simp [codeWeight, raisesRow, processAmbiguous, processInconsistent,
    ReadAssignmentType.is_inconsistent, ReadAssignmentType.is_unique, rat_is_inconsistent_list,
    rat_is_unique_list, flag_ambiguous, flag_inconsistent, flag_inconsistent_minor] <;>
  cases s <;> simp

/-- **weights_generated**: the two weight functions of the model ARE the source: `Gen/Weights.lean` is re-translated
    from `ReadWeightCounter.process_ambiguous / process_inconsistent` on every run and agrees with the model's
    `processAmbiguous / processInconsistent` for every strategy, assignment type and feature count (incl. the
    ZeroDivisionError row) – so `weight_table` speaks about the code as written today -/
theorem weights_generated (s : CountingStrategy) (t : ReadAssignmentType) (k : Nat) :
    process_ambiguous s k = some (processAmbiguous s k) ∧ process_inconsistent s t k = processInconsistent s t k := by
  -- both pairs branch alike on the flags of the strategy, which stay opaque
  constructor
  · simp only [process_ambiguous, processAmbiguous, rat_zero_div_one, rat_one_div_one, decide_eq_true_eq]
    repeat' split
    all_goals first | rfl | omega
  · simp only [process_inconsistent, processInconsistent, rat_zero_div_one, rat_one_div_one, Bool.or_eq_true,
      beq_iff_eq, decide_eq_true_eq, Bool.and_eq_true]
    repeat' split
    all_goals first | rfl | omega

variable {F : Type} [DecidableEq F]

/-! ## every table value is the sum of the documented weights of the records reported for the feature -/

/-- **table_is_sum** (exact values).  After any history of calls on a fresh counter, every row `(f, v)` of the
    dumped table satisfies: `v` is the sum over all calls of the documented contribution to `f` if some call
    confirmed `f`, and 0 otherwise. -/
theorem table_is_sum (s : CountingStrategy) (lvl : Level) (complete : List F) (es : List (Event F))
    (st : CState F) (h : run s lvl (CState.init complete) es = some st)
    (le : F → F → Bool) (oz : Bool) (f : F) (v : Rat) (hrow : (f, v) ∈ dumpRowsExact le oz st) :
    (∃ e ∈ es, confirmsFeature lvl e f) ∧ v = ratSum (es.map (fun e => contribution s lvl e f))
    ∨ (¬ ∃ e ∈ es, confirmsFeature lvl e f) ∧ v = 0 := by
  obtain ⟨_, hv, _⟩ := (dump_row le oz st f v).mp hrow
  have hc := run_confirmed s lvl es _ st h f
  have hs := run_counts s lvl es _ st h f
  simp only [CState.init, List.not_mem_nil, false_or] at hc
  simp only [CState.init, cget, Rat.zero_add] at hs
  by_cases hcf : f ∈ st.confirmed
  · left
    exact ⟨hc.mp hcf, by rw [hv, if_pos hcf, hs]⟩
  · right
    exact ⟨fun hex => hcf (hc.mpr hex), by rw [hv, if_neg hcf]⟩

/-- the printed table: the row is the `%.2f` rendering of that value -/
theorem table_is_sum_printed (s : CountingStrategy) (lvl : Level) (complete : List F) (es : List (Event F))
    (st : CState F) (h : run s lvl (CState.init complete) es = some st)
    (le : F → F → Bool) (oz : Bool) (f : F) (p : Int) (hrow : (f, p) ∈ (dump le oz st).rows) :
    (∃ e ∈ es, confirmsFeature lvl e f) ∧ p = hundredths (ratSum (es.map (fun e => contribution s lvl e f)))
    ∨ (¬ ∃ e ∈ es, confirmsFeature lvl e f) ∧ p = hundredths 0 := by
  simp only [dump, List.mem_map, Prod.mk.injEq] at hrow
  obtain ⟨⟨g, v⟩, hmem, rfl, rfl⟩ := hrow
  rcases table_is_sum s lvl complete es st h le oz g v hmem with ⟨hc, hv⟩ | ⟨hc, hv⟩
  · exact Or.inl ⟨hc, by rw [hv]⟩
  · exact Or.inr ⟨hc, by rw [hv]⟩

/-- no counted weight is lost: a listed feature (annotation, or some call contributes to it) has its row -/
theorem table_complete (s : CountingStrategy) (lvl : Level) (complete : List F) (es : List (Event F))
    (st : CState F) (h : run s lvl (CState.init complete) es = some st)
    (le : F → F → Bool) (oz : Bool) (f : F)
    (hlisted : f ∈ complete ∨ ∃ e ∈ es, contribution s lvl e f ≠ 0) :
    let v := if f ∈ st.confirmed then cget st.counts f else 0
    (oz = true ∨ v ≠ 0) → (f, v) ∈ dumpRowsExact le oz st := by
  intro v hz
  have hl := run_listed s lvl es _ st h f (by simpa [CState.init] using hlisted)
  exact (dump_row le oz st f v).mpr ⟨hl, rfl, hz⟩

/-- **printed_close**: the printed count (hundredths) is within half a quantum of the exact value -/
theorem printed_close (q : Rat) :
    (hundredths q : Rat) / 100 - 1/200 ≤ q ∧ q ≤ (hundredths q : Rat) / 100 + 1/200 := by
  have := roundHalfEven_close (q * 100)
  unfold hundredths
  constructor <;> grind

/-! ## no record contributes a total weight above 1 -/

/-- **record_total_le_one**: the documented contributions of one call (= one reported record), summed over any
    set of distinct features, never exceed 1.  (The read-level claim – over all records of one read – is false
    for multi-locus ties: see `read_total_witness` and known finding `multilocus_tie_weight`.) -/
theorem record_total_le_one (s : CountingStrategy) (lvl : Level) (e : Event F) (L : List F) (hL : L.Nodup) :
    ratSum (L.map (contribution s lvl e)) ≤ 1 := by
  have zero_case : ∀ g : F → Rat, (∀ f, g f = 0) → ratSum (L.map g) ≤ 1 := by
    intro g hg
    rw [ratSum_map_zero L g (fun x _ => hg x)]; decide +kernel
  cases e with
  | read ra =>
    cases ra with
    | none => exact zero_case _ (fun f => by simp [contribution])
    | some a =>
      by_cases hsk : skipped a = true
      · exact zero_case _ (fun f => by rw [contribution_read, if_pos hsk])
      · rw [List.map_congr_left (g := fun f => cnt (targets (typeOf lvl a) (features lvl a)) f *
            docWeight s (typeOf lvl a) (features lvl a).length) fun f _ => by rw [contribution_read, if_neg hsk]]
        exact weighted_cnt_sum_le L hL _ _ (docWeight_nonneg _ _ _) (docWeight_targets_le_one s _ _)
  | raw noId fs =>
    cases noId with
    | true => exact zero_case _ (fun f => by simp [contribution])
    | false =>
      have : L.map (contribution s lvl (Event.raw false fs))
          = L.map (fun f => cnt fs f * docWeight s .ambiguous fs.length) := by
        apply List.map_congr_left
        intro f _
        simp [contribution]
      rw [this]
      exact weighted_cnt_sum_le L hL _ _ (docWeight_nonneg _ _ _) (docWeight_mul_le_one s _ _ (by decide))
  | unassigned n => exact zero_case _ (fun f => by simp [contribution])
  | unaligned n => exact zero_case _ (fun f => by simp [contribution])
  | confirm fs => exact zero_case _ (fun f => by simp [contribution])

/-- the same on the counter itself: one successful call raises the total of the dictionary values of any set of
    distinct features by at most 1 -/
theorem step_total_le_one (s : CountingStrategy) (lvl : Level) (st st' : CState F) (e : Event F)
    (h : step s lvl st e = some st') (L : List F) (hL : L.Nodup) :
    ratSum (L.map (cget st'.counts)) ≤ ratSum (L.map (cget st.counts)) + 1 := by
  have : L.map (cget st'.counts) = L.map (fun f => cget st.counts f + contribution s lvl e f) := by
    apply List.map_congr_left
    intro f _
    exact step_counts s lvl st st' e h f
  rw [this, ratSum_map_add]
  have := record_total_le_one s lvl e L hL
  grind

/-- Full-strength read-level statement of the property ("no read contributes a total weight above 1 to any
    table"), over the records `recs` that the multimapper resolver retained for ONE read. -/
def ReadTotalLeOne (s : CountingStrategy) (lvl : Level) (recs : List (Assignment F)) (L : List F) : Prop :=
  ratSum (recs.map (fun a => ratSum (L.map (contribution s lvl (Event.read (some a)))))) ≤ 1

/-- the two records kept for a read whose secondaries match isoform 2 (gene 20) and isoform 3 (gene 30): the
    resolver re-flags both as `ambiguous` (prototypes/multimap_tie_probe.py; property C08) -/
def tieRecords : List (Assignment Nat) :=
  [ { atype := .ambiguous, gtype := .ambiguous, isoMatches := [⟨some 20, some 2⟩], nCorrectedExons := 3,
      isoformIntrons := [(2, 2)] },
    { atype := .ambiguous, gtype := .ambiguous, isoMatches := [⟨some 30, some 3⟩], nCorrectedExons := 3,
      isoformIntrons := [(3, 2)] } ]

/-- **read_total_witness**: the read-level statement is false of the model (and of the code: replayed by the
    oracle through the real pipeline): under `unique_only` the read of `tieRecords` weighs 2. -/
theorem read_total_witness :
    ¬ ReadTotalLeOne CountingStrategy.unique_only Level.transcript tieRecords [2, 3] := by
  unfold ReadTotalLeOne
  decide +kernel

/-- **read_total_partial**: the read-level statement under the exact hypothesis that excludes the failing class:
    at most one retained record for the read. -/
theorem read_total_partial (s : CountingStrategy) (lvl : Level) (recs : List (Assignment F)) (L : List F)
    (hL : L.Nodup) (hone : recs.length ≤ 1) : ReadTotalLeOne s lvl recs L := by
  unfold ReadTotalLeOne
  rcases recs with _ | ⟨a, _ | ⟨b, t⟩⟩
  · show (0 : Rat) ≤ 1; decide +kernel
  · rw [List.map_cons, List.map_nil, ratSum_cons, ratSum_nil, Rat.add_zero]
    exact record_total_le_one s lvl (Event.read (some a)) L hL
  · simp at hone

/-! ## a feature supported by a uniquely assigned spliced read is never zeroed -/

/-- the statement's sufficient condition on one record `a` for feature `f` at the table's level: counted, typed
    unique, reported for `f`, and – transcript tables – the corrected alignment is spliced (more than one exon)
    or the isoform itself is mono-exonic; gene tables need no further condition -/
def SupportsUniquely (lvl : Level) (a : Assignment F) (f : F) : Prop :=
  skipped a = false ∧ (typeOf lvl a).is_unique = true ∧ (features lvl a).head? = some f ∧
  (lvl = Level.gene ∨ a.nCorrectedExons > 1 ∨
    ∃ m rest tid, a.isoMatches = m :: rest ∧ m.transcript = some tid ∧ lookupNat a.isoformIntrons tid = some 0)

theorem confirms_of_supports (lvl : Level) (a : Assignment F) (f : F) (h : SupportsUniquely lvl a f)
    (c : Bool) (hc : confirms lvl a = some c) : c = true := by
  obtain ⟨_, hu, _, hcond⟩ := h
  cases lvl with
  | gene =>
    simp only [confirms, Option.some.injEq] at hc
    simp only [typeOf] at hu
    rw [← hc, hu]
  | transcript =>
    simp only [typeOf] at hu
    simp only [confirms] at hc
    cases hm : a.isoMatches with
    | nil => simp [hm] at hc
    | cons m rest =>
      simp only [hm, hu, if_true] at hc
      cases ht : m.transcript with
      | none => simp [ht] at hc
      | some tid =>
        simp only [ht] at hc
        cases hl : lookupNat a.isoformIntrons tid with
        | none => simp [hl] at hc
        | some n =>
          simp only [hl, Option.some.injEq] at hc
          rcases hcond with hg | hn | ⟨m', rest', tid', hm', ht', hl'⟩
          · cases hg
          · rw [← hc]; simp [hn]
          · rw [hm] at hm'
            simp only [List.cons.injEq] at hm'
            obtain ⟨rfl, rfl⟩ := hm'
            rw [ht] at ht'
            simp only [Option.some.injEq] at ht'
            subst ht'
            rw [hl] at hl'
            simp only [Option.some.injEq] at hl'
            subst hl'
            rw [← hc]; simp

/-- **confirmed_not_zeroed**: if the history contains a record that supports `f` uniquely (spliced corrected
    alignment or mono-exonic isoform; any unique record for a gene table), then the dumped table has a row for `f`,
    its value is the full sum of the documented contributions (not zeroed), at least 1, printed `≥ 1.00`. -/
theorem confirmed_not_zeroed (s : CountingStrategy) (lvl : Level) (complete : List F) (es : List (Event F))
    (st : CState F) (h : run s lvl (CState.init complete) es = some st)
    (a : Assignment F) (ha : Event.read (some a) ∈ es) (f : F) (hsup : SupportsUniquely lvl a f)
    (le : F → F → Bool) (oz : Bool) :
    ∃ v, (f, v) ∈ dumpRowsExact le oz st ∧ v = ratSum (es.map (fun e => contribution s lvl e f)) ∧ 1 ≤ v ∧
      (f, hundredths v) ∈ (dump le oz st).rows ∧ 100 ≤ hundredths v := by
  have hsup' := hsup
  obtain ⟨hsk, hu, hhead, _⟩ := hsup
  -- the history ran, so the call did not raise: `confirms` returned a value, hence `true`
  obtain ⟨c, hc⟩ : ∃ c, confirms lvl a = some c := by
    have hr : ¬ raises s lvl (Event.read (some a)) = true := fun hr =>
      absurd ((run_none_iff s lvl es _).mpr ⟨_, ha, hr⟩) (by rw [h]; exact Option.some_ne_none _)
    cases hc : confirms lvl a with
    | none => simp [raises, hsk, hu, hc] at hr
    | some c => exact ⟨c, rfl⟩
  have hct : c = true := confirms_of_supports lvl a f hsup' c hc
  subst hct
  have hamb := (unique_not_other _ hu).1
  have hconf : f ∈ st.confirmed :=
    (run_confirmed s lvl es _ st h f).mpr (Or.inr ⟨_, ha, ⟨hsk, hamb, hu, hhead, hc⟩⟩)
  have hcon : contribution s lvl (Event.read (some a)) f = 1 := by
    simp [contribution, hsk, hu, hhead]
  have hsum := run_counts s lvl es _ st h f
  simp only [CState.init, cget, Rat.zero_add] at hsum
  have hge : (1 : Rat) ≤ ratSum (es.map (fun e => contribution s lvl e f)) := by
    have := le_ratSum_of_mem es (fun e => contribution s lvl e f)
      (fun e _ => contribution_nonneg s lvl e f) _ ha
    simp only [hcon] at this
    exact this
  have hne : (if f ∈ st.confirmed then cget st.counts f else 0) ≠ 0 := by
    rw [if_pos hconf, hsum]
    intro h0
    rw [h0] at hge
    exact absurd hge (by decide +kernel)
  have hrow := table_complete s lvl complete es st h le oz f
    (Or.inr ⟨_, ha, by rw [hcon]; decide +kernel⟩) (Or.inr hne)
  simp only [if_pos hconf, hsum] at hrow
  refine ⟨_, hrow, rfl, hge, ?_, hundredths_ge _ hge⟩
  simp only [dump, List.mem_map]
  exact ⟨_, hrow, rfl⟩

/-- **stats_lines**: after any history on a fresh counter the four numbers written by `dump`
    (`__ambiguous`, `__no_feature`, `__not_aligned`, `__usable`) are the numbers of calls in the corresponding
    classes (`ambiguousClass` – type `ambiguous` at the table's level, not `inconsistent_ambiguous`;
    `noFeatureClass`; `notAlignedClass`; `usableClass`): records, one per retained alignment (DESIGN §6). -/
theorem stats_lines (s : CountingStrategy) (lvl : Level) (complete : List F) (es : List (Event F))
    (st : CState F) (h : run s lvl (CState.init complete) es = some st) (le : F → F → Bool) (oz : Bool) :
    (dump le oz st).ambiguous = natSum (es.map (ambiguousClass lvl)) ∧
    (dump le oz st).noFeature = natSum (es.map noFeatureClass) ∧
    (dump le oz st).notAligned = natSum (es.map notAlignedClass) ∧
    (dump le oz st).usable = natSum (es.map usableClass) := by
  have := run_stats s lvl es _ st h
  simpa [dump, CState.init] using this

omit [DecidableEq F] in
/-- every `add_read_info` call lands in exactly one of not-aligned / no-feature / usable -/
theorem read_accounted (a : Option (Assignment F)) :
    notAlignedClass (Event.read a) + noFeatureClass (Event.read a) + usableClass (Event.read a) = 1 := by
  cases a with
  | none => simp [notAlignedClass, noFeatureClass, usableClass]
  | some a => by_cases h : skipped a = true <;> simp [notAlignedClass, noFeatureClass, usableClass, h]

/-- gene 10 = {isoforms 1, 2 (2 introns each)}, gene 20 = {isoform 3 (mono-exonic)} -/
def demoIntrons : List (Nat × Nat) := [(1, 2), (2, 2), (3, 0)]
def uniqueSpliced : Assignment Nat :=
  { atype := .unique, gtype := .unique, isoMatches := [⟨some 10, some 1⟩], nCorrectedExons := 3,
    isoformIntrons := demoIntrons }
def ambiguousTwo : Assignment Nat :=
  { atype := .ambiguous, gtype := .unique, isoMatches := [⟨some 10, some 1⟩, ⟨some 10, some 2⟩],
    nCorrectedExons := 2, isoformIntrons := demoIntrons }
def inconsistentOne : Assignment Nat :=
  { atype := .inconsistent, gtype := .inconsistent, isoMatches := [⟨some 10, some 2⟩], nCorrectedExons := 2,
    isoformIntrons := demoIntrons }
def uniqueMonoUnspliced : Assignment Nat :=
  { atype := .unique_minor_difference, gtype := .unique_minor_difference, isoMatches := [⟨some 20, some 3⟩],
    nCorrectedExons := 1, isoformIntrons := demoIntrons }
def uniqueUnsplicedOfSpliced : Assignment Nat :=
  { atype := .unique, gtype := .unique, isoMatches := [⟨some 10, some 2⟩], nCorrectedExons := 1,
    isoformIntrons := demoIntrons }
def intergenicRec : Assignment Nat :=
  { atype := .intergenic, gtype := .intergenic, isoMatches := [], nCorrectedExons := 1, isoformIntrons := [] }
def demoEvents : List (Event Nat) :=
  [.read (some uniqueSpliced), .read (some ambiguousTwo), .read (some inconsistentOne),
   .read (some uniqueMonoUnspliced), .read (some uniqueUnsplicedOfSpliced), .read (some intergenicRec), .read none]
def natLe (a b : Nat) : Bool := decide (a ≤ b)

-- the history runs (hypothesis of table_is_sum / stats_lines / confirmed_not_zeroed); isoform 1 gets 1 + 1/2,
-- isoform 2 (unique but unspliced read of a spliced isoform: not confirmed) is zeroed, mono-exonic isoform 3 keeps 1
example : (run .with_ambiguous .transcript (CState.init [1, 2, 3, 4]) demoEvents).map
      (fun st => dumpRowsExact natLe true st) = some [(1, 3/2), (2, 0), (3, 1), (4, 0)] := by decide +kernel
example : (run .with_ambiguous .transcript (CState.init [1, 2, 3, 4]) demoEvents).map
      (fun st => (dump natLe true st).rows) = some [(1, 150), (2, 0), (3, 100), (4, 0)] := by decide +kernel
example : (run .with_ambiguous .transcript (CState.init [1, 2, 3, 4]) demoEvents).map
      (fun st => ((dump natLe true st).ambiguous, (dump natLe true st).noFeature, (dump natLe true st).notAligned,
                  (dump natLe true st).usable)) = some (1, 1, 1, 5) := by decide +kernel
-- the same history on the gene table under `all`: gene 10 = 1 + 1 (ambiguous within one gene is gene-unique)
-- + 1 (inconsistent) + 1, gene 20 = 1
example : (run .all .gene (CState.init [10, 20]) demoEvents).map
      (fun st => dumpRowsExact natLe true st) = some [(10, 4), (20, 1)] := by decide +kernel
-- right-hand side of table_is_sum on this history
example : ratSum (demoEvents.map (fun e => contribution .with_ambiguous .transcript e 1)) = 3/2 := by decide +kernel
example : confirmsFeature .transcript (Event.read (some uniqueSpliced)) 1 := by
  simp [confirmsFeature, skipped, firstTranscriptNone, uniqueSpliced, typeOf, features, dedup, Match.sel, confirms,
    demoIntrons, lookupNat, ReadAssignmentType.is_unique, rat_is_unique_list, ReadAssignmentType.is_unassigned,
    rat_is_unassigned_list]
-- hypotheses of confirmed_not_zeroed: spliced corrected alignment / mono-exonic isoform
example : SupportsUniquely .transcript uniqueSpliced 1 := by
  refine ⟨by decide, by decide, by decide, Or.inr (Or.inl (by decide))⟩
example : SupportsUniquely .transcript uniqueMonoUnspliced 3 := by
  refine ⟨by decide, by decide, by decide, Or.inr (Or.inr ⟨⟨some 20, some 3⟩, [], 3, rfl, rfl, by decide⟩)⟩
-- record_total_le_one is tight: the ambiguous record distributes exactly 1 when ambiguous reads are enabled
example : ratSum ([1, 2, 3].map (contribution .with_ambiguous .transcript (Event.read (some ambiguousTwo)))) = 1 := by
  decide +kernel
-- raisesRow is inhabited and the model raises there
example : raisesRow .all .inconsistent_ambiguous = true ∧ codeWeight .all .inconsistent_ambiguous 0 = none := by
  decide +kernel

end IsoVerif.Props.C02
