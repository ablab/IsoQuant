/-
C13 — the interface hypothesis `Local` of Props/C13Chromosome.lean DISCHARGED, and the chromosome-level
count clause stated on the BAM records.

  1. `constructOverlapping_local`: the ±1 entries of `construct_profile_for_features` depend on the known features only
     through those the read touches (under `Hyp`, from the `…_partial` meaning theorems); instances `exonProc_local`,
     `intronProc_local` for the real exon / intron profile construction over the genes a (sub-)region loads
     (`GeneInfo(gene_list)`: `Model.C13.mkGene` of the loaded genes, `construct_exon_profile` / `construct_intron_profile`,
     `set_feature_properties`).  No residual hypothesis: the gene query is 1-based since fix fbe2056
     (`loadGenes`); `last_base_gene_witness` shows what the query before it (`loadGenesOrig`: the 0-based region compared with the
     1-based gene records as it is) did to a read whose last aligned base is a gene's first base.
  2. `collector_interface`: C05's `every_alignment_forwarded` / `forwarded_sublist` / `clusters_partition` give `hin`, `hcov`;
     `chromosome_row_counts_bam`, `chromosome_exon_rows`, `chromosome_intron_rows` take the BAM records of the chromosome; the
     records that are never assigned (`Regions.passes`) get no record and do not stretch the gene region (`procOut`; fix
     b7a9fc0; `stretch_over_unassigned_witness`: what stretching over them did to OTHER reads).
  3. `tableProc_local`: the table-driven processing the driver runs is `Local` when its answers name only genes the alignment
     overlaps (`AnswersLocal`).
Helper lemmas and the hypothesis structures `ExonHyp` / `IntronHyp`: IsoVerif/Lemmas/C13Local.lean, C13LocalInst.lean.
Property theorems only.
-/
import IsoVerif.Props.C13Chromosome
import IsoVerif.Lemmas.C13Local
import IsoVerif.Lemmas.C13LocalInst
import IsoVerif.Props.C05

namespace IsoVerif.Props.C13Local
open IsoVerif.Gen IsoVerif.Model IsoVerif.Model.Resolver IsoVerif.Model.C13 IsoVerif.Model.C13Chr
open IsoVerif.Lemmas.C13 IsoVerif.Lemmas.C13Chr IsoVerif.Lemmas.C13Local IsoVerif.Lemmas.C13LocalInst
open IsoVerif.Props.C13Chromosome IsoVerif.Props.C13Profiles
open IsoVerif.Model.Regions (Aln)

/-- the abstract theorem of item 1; the proof is `constructOverlapping_local_of_touches` of Lemmas/C13Local.lean -/
theorem constructOverlapping_local (K1 K2 : List Iv) (gr1 gr2 : Iv) (absent : Iv → Iv → Bool) (δ : Int) (R : List Iv) (M : Iv)
    (pa pt : Int) (hδ : 0 ≤ δ) (h1 : Hyp δ K1 R) (h2 : Hyp δ K2 R) (hsub : ∀ x ∈ K1, x ∈ K2)
    (hvis : ∀ x ∈ K2, Touches δ absent R M x → x ∈ K1) (v : Int) (hv : v = 1 ∨ v = -1) (x : Iv) :
    (∃ i : Nat, K1[i]? = some x ∧ (constructOverlapping K1 gr1 (fun a b => equal_ranges a b δ) absent δ R M pa pt).gene[i]? = some v) ↔
    (∃ i : Nat, K2[i]? = some x ∧ (constructOverlapping K2 gr2 (fun a b => equal_ranges a b δ) absent δ R M pa pt).gene[i]? = some v) :=
  constructOverlapping_local_of_touches K1 K2 gr1 gr2 absent δ R M pa pt hδ h1 h2 hsub hvis v hv x

-- non-vacuity: a second gene far right of the read changes neither verdict of the first gene's exons
example : Hyp 4 [(100, 200), (300, 400), (500, 600)] [(100, 200), (500, 600)] ∧
    Hyp 4 [(100, 200), (300, 400), (500, 600), (5000, 5100)] [(100, 200), (500, 600)] ∧
    (∀ x ∈ [(100, 200), (300, 400), (500, 600), (5000, 5100)],
      Touches 4 (fun a b => contains a b) [(100, 200), (500, 600)] (204, 496) x → x ∈ [(100, 200), (300, 400), (500, 600)]) := by
  refine ⟨⟨by simp [SortedStarts], by simp [LongerThan], by simp [SepBy], by simp [WFR]⟩,
    ⟨by simp [SortedStarts], by simp [LongerThan], by simp [SepBy], by simp [WFR]⟩, ?_⟩
  intro x hx ht
  simp only [List.mem_cons, List.not_mem_nil, or_false] at hx
  rcases hx with rfl | rfl | rfl | rfl
  · simp
  · simp
  · simp
  · exfalso
    rcases ht with ⟨r, hr, he⟩ | he | ⟨j, r, r', hr, hr', h1, h2⟩
    · simp only [List.mem_cons, List.not_mem_nil, or_false] at hr
      rcases hr with rfl | rfl <;> simp [equal_ranges, iabs] at he
    · simp [contains] at he
    · have := List.mem_of_getElem? hr'
      simp only [List.mem_cons, List.not_mem_nil, or_false] at this
      rcases this with rfl | rfl <;> simp at h2 <;> omega

/-- **tableProc_local** (item 3): the processing the driver op `chromosome` runs meets the interface, whenever its tables name,
    for every alignment, only genes the alignment overlaps (what the case generator builds; the real assigner / profile
    constructors name only isoforms and features of loaded genes). -/
theorem tableProc_local (chr : String) (genes : List GeneRec) (all : List Aln) (ans : Answers) (h : AnswersLocal genes all ans) :
    Local (tableProc chr ans) genes all := by
  have hhits := fun R a (ha : a ∈ all) hv => filter_vis_local genes R a hv (fun m : Nat × Nat => m.2) _ (h a ha).1
  have hmarks := fun R a (ha : a ∈ all) hv => filter_vis_local genes R a hv (fun m : Nat × Iv × Int => m.1) _ (h a ha).2
  refine ⟨?_, ?_, ?_⟩
  · intro R a ha hv
    simp only [tableProc]
    rw [(hhits R a ha hv).1, (hhits R a ha hv).2]
  · intro R a ha hv ignore dflt v k g _
    simp only [tableProc]
    rw [(hmarks R a ha hv).1, (hmarks R a ha hv).2]
    by_cases h1 : (loadGenes genes R).isEmpty = true
    · -- nothing loaded: the alignment has no mark at all
      have hnil : ans.marks a.rid = [] := by
        cases hm : ans.marks a.rid with
        | nil => rfl
        | cons m ms =>
          exfalso
          obtain ⟨g, hg, _, ho⟩ := (h a ha).2 m (by rw [hm]; simp)
          have := mem_load_of_view genes R a hv g hg ho
          rw [List.isEmpty_iff.mp h1] at this
          simp at this
      simp only [h1, ↓reduceIte, Option.any_none, hnil]
      by_cases h2 : genes.isEmpty = true
      · simp [h2]
      · simp [h2, evSays, marks]
    · have h2 : ¬ genes.isEmpty = true := by
        intro h2
        apply h1
        rw [List.isEmpty_iff] at h2 ⊢
        simp [loadGenes, h2]
      simp only [h1, h2]
  · intro G a
    simp only [tableProc]
    split
    · split <;> simp
    · simp
    · simp

-- non-vacuity: the witness tables of Props/C13Chromosome.lean name only overlapped genes
example : AnswersLocal wGenes wAll wLost := by
  intro a ha
  simp only [wAll, List.mem_cons, List.not_mem_nil, or_false] at ha
  rcases ha with rfl | rfl | rfl <;> decide

/-- **exonProc_local** (item 1, exon table): the real exon profile construction against the GeneInfo of the loaded genes meets
    the interface `Local` - a region that gives an alignment its full gene view gives every annotated exon the ±1 verdict of the
    whole annotation.  (The assigner fields are the table-driven ones of `tableProc`.) -/
theorem exonProc_local (A : Ann) (genes : List GeneRec) (all : List Aln) (ans : Answers) (hans : AnswersLocal genes all ans)
    (H : ExonHyp A genes all) : Local (exonProc A ans) genes all := by
  have hT := tableProc_local A.chr genes all ans hans
  refine ⟨hT.isoforms, ?_, hT.alive⟩
  intro R a ha hv ignore dflt v k g hv1
  show (exonEv A (loadGenes genes R) a).any (evSays ignore dflt v k g) = (exonEv A genes a).any (evSays ignore dflt v k g)
  rw [Bool.eq_iff_iff, exonEv_says_iff, exonEv_says_iff]
  -- the two sides differ only in the known features and the gene region: same blocks, group and chromosome
  refine exists_congr fun f => exists_congr fun l => and_congr_right fun hf => and_congr_right fun hl =>
    and_congr_right fun _ => and_congr_right fun _ => ?_
  apply constructOverlapping_local _ _ _ _ _ _ _ _ _ _ H.delta_nonneg
    (exon_hyp A genes all H _ (loadGenes_sub genes R) a ha) (exon_hyp A genes all H genes (fun _ h => h) a ha) ?_ ?_ v hv1
  · intro x hx
    obtain ⟨g', hg', t, ht, hxt⟩ := (mem_exonsOf A _ x).mp hx
    exact (mem_exonsOf A genes x).mpr ⟨g', loadGenes_sub genes R g' hg', t, ht, hxt⟩
  · intro x hx htouch
    obtain ⟨g', hg', t, ht, hxt⟩ := (mem_exonsOf A genes x).mp hx
    have ho := exon_touch_overlaps A genes all H a ha f l hf hl g' hg' t ht x hxt htouch
    exact (mem_exonsOf A _ x).mpr ⟨g', mem_load_of_view genes R a hv g' hg' ho, t, ht, hxt⟩

/-- **intronProc_local** (item 1, intron table): the real intron profile construction against the GeneInfo of the loaded genes
    meets the interface `Local`; no residual hypothesis (an intron lies strictly inside its gene, so a touched intron's gene
    always overlaps the 0-based extent of the alignment). -/
theorem intronProc_local (A : Ann) (genes : List GeneRec) (all : List Aln) (ans : Answers) (hans : AnswersLocal genes all ans)
    (H : IntronHyp A genes all) : Local (intronProc A ans) genes all := by
  have hT := tableProc_local A.chr genes all ans hans
  refine ⟨hT.isoforms, ?_, hT.alive⟩
  intro R a ha hv ignore dflt v k g hv1
  show (intronEv A (loadGenes genes R) a).any (evSays ignore dflt v k g) = (intronEv A genes a).any (evSays ignore dflt v k g)
  rw [Bool.eq_iff_iff, intronEv_says_iff, intronEv_says_iff]
  -- the two sides differ only in the known features and the gene region: same blocks, group and chromosome
  refine exists_congr fun f => exists_congr fun l => and_congr_right fun hf => and_congr_right fun hl =>
    and_congr_right fun _ => and_congr_right fun _ => ?_
  apply constructOverlapping_local _ _ _ _ _ _ _ _ _ _ H.delta_nonneg
    (intron_hyp A genes all H _ (loadGenes_sub genes R) a ha) (intron_hyp A genes all H genes (fun _ h => h) a ha) ?_ ?_ v hv1
  · intro x hx
    obtain ⟨g', hg', t, ht, hxt⟩ := (mem_intronsOf A _ x).mp hx
    exact (mem_intronsOf A genes x).mpr ⟨g', loadGenes_sub genes R g' hg', t, ht, hxt⟩
  · intro x hx htouch
    obtain ⟨g', hg', t, ht, hxt⟩ := (mem_intronsOf A genes x).mp hx
    have ho := intron_touch_overlaps A genes all H a ha f l hf hl g' hg' t ht x hxt htouch
    exact (mem_intronsOf A _ x).mpr ⟨g', mem_load_of_view genes R a hv g' hg' ho, t, ht, hxt⟩

/-- **collector_interface**: on the coordinate-sorted records of a chromosome (`C05.ValidInput`) the collector answers; the lists
    the sub-regions work on (`procOut`: the forwarded lists without the records that are never assigned) hold only processed
    input records (`forwarded_sublist` + `clusters_partition`) and every processed input record (`every_alignment_forwarded`),
    in either memory mode -/
theorem collector_interface (m : Regions.Mode) (p : Regions.Params) (all : List Aln) (h : IsoVerif.Props.C05.ValidInput all) :
    ∃ out, Regions.collect m all = some out ∧
      (∀ q ∈ procOut p out, ∀ a ∈ q.2, a ∈ all.filter (Regions.passes p)) ∧
      (∀ a ∈ all.filter (Regions.passes p), ∃ q ∈ procOut p out, a ∈ q.2) := by
  obtain ⟨out, hout, hcov⟩ := IsoVerif.Props.C05.every_alignment_forwarded m all h
  refine ⟨out, hout, ?_, ?_⟩
  · intro q hq a ha
    obtain ⟨ra, hra, rfl⟩ := List.mem_map.mp hq
    obtain ⟨ha1, ha2⟩ := List.mem_filter.mp ha
    obtain ⟨c, hc, hsub⟩ := IsoVerif.Props.C05.forwarded_sublist m all h out hout ra hra
    refine List.mem_filter.mpr ⟨?_, ha2⟩
    rw [← (IsoVerif.Props.C05.clusters_partition all h).1]
    exact List.mem_flatten.mpr ⟨c, hc, hsub.subset ha1⟩
  · intro a ha
    obtain ⟨ha1, ha2⟩ := List.mem_filter.mp ha
    obtain ⟨ra, hra, hap, _⟩ := hcov a ha1
    exact ⟨(ra.1, ra.2.filter (Regions.passes p)), List.mem_map.mpr ⟨ra, hra, rfl⟩, List.mem_filter.mpr ⟨hap, ha2⟩⟩

/-- **chromosome_row_counts_bam** (THE COUNT CLAUSE PER CHROMOSOME ON THE BAM RECORDS): `all` = the records of the chromosome
    as the coordinate-sorted BAM yields them (ordered by start, each with a reference base); the processed ones (`passes p`:
    mapped, not supplementary, `--no_secondary`, `--min_mapq`) one per read id; the collector (either memory mode) cuts ALL
    records into clusters and sub-regions; every sub-region loads its genes for the extent of its PROCESSED alignments (1-based
    query) and processes them with a `Local` processing; the resolver keeps one record per alignment; the counter is fed in any
    order.  Then the run is defined and every row is the number of processed alignments that include / exclude the feature
    against the WHOLE annotation: records that are never assigned contribute nothing and change nothing. -/
theorem chromosome_row_counts_bam (genes : List GeneRec) (P : Proc) (all : List Aln) (p : Regions.Params)
    (hP : Local P genes (all.filter (Regions.passes p)))
    (m : Regions.Mode) (hvalid : IsoVerif.Props.C05.ValidInput all) (hrid : ((all.filter (Regions.passes p)).map (·.rid)).Nodup) :
    ∃ out evs, Regions.collect m all = some out ∧
      chromosomeEvents true genes P (procOut p out) ((all.filter (Regions.passes p)).map (·.rid)) = some evs ∧
      ∀ feed : List ReadEv, feed.Perm evs → (∀ ev ∈ feed, (ev.pmap.map coordKey).Nodup) →
        ∀ (ignore : Bool) (dflt : String) (st : PCounter CoordKey),
          countAll coordKey FeatureInfo.merge ignore dflt feed = some st → ∀ (k : CoordKey) (g : String),
            st.inclOf k g = (all.filter (Regions.passes p)).countP (alnSays P genes ignore dflt 1 k g) ∧
            st.exclOf k g = (all.filter (Regions.passes p)).countP (alnSays P genes ignore dflt (-1) k g) := by
  obtain ⟨out, hout, hin, hcov⟩ := collector_interface m p all hvalid
  obtain ⟨evs, hevs⟩ := chromosome_events_defined genes P _ hP (procOut p out) hrid hin hcov
  refine ⟨out, evs, hout, hevs, ?_⟩
  intro feed hperm hnd ignore dflt st hst k g
  exact chromosome_row_counts genes P _ hP (procOut p out) hrid hin hcov evs feed hevs hperm hnd ignore dflt st hst k g

/-- the same for a processing whose events have one property-map entry per row key: the hypothesis on the feed is met -/
theorem chromosome_rows_of_local (genes : List GeneRec) (P : Proc) (all : List Aln) (p : Regions.Params)
    (hP : Local P genes (all.filter (Regions.passes p)))
    (hkeys : ∀ G a ev, P.ev G a = some ev → (ev.pmap.map coordKey).Nodup)
    (m : Regions.Mode) (hvalid : IsoVerif.Props.C05.ValidInput all) (hrid : ((all.filter (Regions.passes p)).map (·.rid)).Nodup) :
    ∃ out evs, Regions.collect m all = some out ∧
      chromosomeEvents true genes P (procOut p out) ((all.filter (Regions.passes p)).map (·.rid)) = some evs ∧
      ∀ feed : List ReadEv, feed.Perm evs → ∀ (ignore : Bool) (dflt : String) (st : PCounter CoordKey),
        countAll coordKey FeatureInfo.merge ignore dflt feed = some st → ∀ (k : CoordKey) (g : String),
          st.inclOf k g = (all.filter (Regions.passes p)).countP (alnSays P genes ignore dflt 1 k g) ∧
          st.exclOf k g = (all.filter (Regions.passes p)).countP (alnSays P genes ignore dflt (-1) k g) := by
  obtain ⟨out, evs, hout, hevs, hrows⟩ := chromosome_row_counts_bam genes P all p hP m hvalid hrid
  refine ⟨out, evs, hout, hevs, fun feed hperm ignore dflt st hst k g => hrows feed hperm (fun ev hev => ?_) ignore dflt st hst k g⟩
  obtain ⟨G, a, he⟩ := chromosomeEvents_origin true genes P (procOut p out) _ evs hevs ev (hperm.subset hev)
  exact hkeys G a ev he

/-- what "alignment `a` includes (v = 1) / excludes (v = -1) the exon `k` against the whole annotation" means, declaratively:
    the alignment has blocks, its group is `g`, `k` is an annotated exon of the chromosome, and
    +1: some block equals it within δ and no annotated exon is strictly closer to that block (`Best`);
    -1: it is not a best match and it loses a tie, or lies in the inner region `[first block end + δ, last block start - δ]`, or
        strictly inside a read intron; both only when not masked by a polyA / polyT position. -/
theorem exon_alnSays_meaning (A : Ann) (genes : List GeneRec) (all : List Aln) (ans : Answers) (H : ExonHyp A genes all)
    (a : Aln) (ha : a ∈ all) (ignore : Bool) (dflt : String) (k : CoordKey) (g : String) :
    let rd := A.reads a.rid
    let K := exonsOf A genes
    let x : Iv := (k.2.1, k.2.2)
    let unmasked := ¬ (rd.polya ≠ -1 ∧ x.1 > rd.polya + A.delta) ∧ ¬ (rd.polyt ≠ -1 ∧ x.2 < rd.polyt - A.delta)
    (alnSays (exonProc A ans) genes ignore dflt 1 k g a = true ↔
      ∃ f l, rd.blocks.head? = some f ∧ rd.blocks.getLast? = some l ∧ (if ignore then dflt else rd.group) = g ∧ k.1 = A.chr ∧
        x ∈ K ∧ Best A.delta K rd.blocks x ∧ unmasked) ∧
    (alnSays (exonProc A ans) genes ignore dflt (-1) k g a = true ↔
      ∃ f l, rd.blocks.head? = some f ∧ rd.blocks.getLast? = some l ∧ (if ignore then dflt else rd.group) = g ∧ k.1 = A.chr ∧
        x ∈ K ∧ ¬ Best A.delta K rd.blocks x ∧
        (TieLoser (fun p q => equal_ranges p q A.delta) K rd.blocks x ∨ (f.2 + A.delta ≤ x.1 ∧ x.2 ≤ l.1 - A.delta) ∨ InGap rd.blocks x) ∧
        unmasked) := by
  intro rd K x unmasked
  have hyp := exon_hyp A genes all H genes (fun _ h => h) a ha
  have hsays : ∀ v, alnSays (exonProc A ans) genes ignore dflt v k g a = (exonEv A genes a).any (evSays ignore dflt v k g) := fun _ => rfl
  have hmean : ∀ f l, rd.blocks.head? = some f → rd.blocks.getLast? = some l → ∀ i : Nat, K[i]? = some x →
      ((constructOverlapping K (hull genes) (fun p q => equal_ranges p q A.delta) (fun p q => contains p q) A.delta rd.blocks
          (f.2 + A.delta, l.1 - A.delta) rd.polya rd.polyt).gene[i]? = some 1 ↔ (Best A.delta K rd.blocks x ∧ unmasked)) ∧
      ((constructOverlapping K (hull genes) (fun p q => equal_ranges p q A.delta) (fun p q => contains p q) A.delta rd.blocks
          (f.2 + A.delta, l.1 - A.delta) rd.polya rd.polyt).gene[i]? = some (-1) ↔
        (¬ Best A.delta K rd.blocks x ∧
          (TieLoser (fun p q => equal_ranges p q A.delta) K rd.blocks x ∨ (f.2 + A.delta ≤ x.1 ∧ x.2 ≤ l.1 - A.delta) ∨ InGap rd.blocks x) ∧
          unmasked)) := by
    intro f l hf hl i hk
    have hp : constructExonProfile K (hull genes) A.delta rd.blocks rd.polya rd.polyt = some
        (constructOverlapping K (hull genes) (fun p q => equal_ranges p q A.delta) (fun p q => contains p q) A.delta rd.blocks
          (f.2 + A.delta, l.1 - A.delta) rd.polya rd.polyt) := by
      simp only [constructExonProfile, hf, hl]
    obtain ⟨f', l', hf', hl', h1, h2⟩ := exon_profile_meaning_partial K (hull genes) A.delta rd.blocks rd.polya rd.polyt _
      H.delta_nonneg hyp hp i x hk
    rw [hf] at hf'; cases hf'
    rw [hl] at hl'; cases hl'
    exact ⟨h1, h2⟩
  constructor
  · rw [hsays, exonEv_says_iff]
    constructor
    · rintro ⟨f, l, hf, hl, hg, hc, i, hk, hv⟩
      exact ⟨f, l, hf, hl, hg, hc, List.mem_of_getElem? hk, ((hmean f l hf hl i hk).1).mp hv⟩
    · rintro ⟨f, l, hf, hl, hg, hc, hx, hb⟩
      obtain ⟨i, hk⟩ := List.getElem?_of_mem hx
      exact ⟨f, l, hf, hl, hg, hc, i, hk, ((hmean f l hf hl i hk).1).mpr hb⟩
  · rw [hsays, exonEv_says_iff]
    constructor
    · rintro ⟨f, l, hf, hl, hg, hc, i, hk, hv⟩
      obtain ⟨h1, h2, h3⟩ := ((hmean f l hf hl i hk).2).mp hv
      exact ⟨f, l, hf, hl, hg, hc, List.mem_of_getElem? hk, h1, h2, h3⟩
    · rintro ⟨f, l, hf, hl, hg, hc, hx, h1, h2, h3⟩
      obtain ⟨i, hk⟩ := List.getElem?_of_mem hx
      exact ⟨f, l, hf, hl, hg, hc, i, hk, ((hmean f l hf hl i hk).2).mpr ⟨h1, h2, h3⟩⟩

/-- **chromosome_exon_rows** (everything composed for the EXON table): BAM records of a chromosome, collector, repaired gene
    loading, REAL exon profile construction against the GeneInfo of the loaded genes, resolver, counter in any feed order: the
    run is defined and every row of the table is the number of alignments that include / exclude the exon judged against the
    whole annotation (what that means per alignment: `exon_alnSays_meaning`).  No `Local`, `hin`, `hcov`, `hnd` hypothesis is
    left; what is assumed: `ExonHyp` (the `Hyp` of the meaning theorems, coordinate conventions), the assigner answers naming
    only overlapped genes, one processed record per read id. -/
theorem chromosome_exon_rows (A : Ann) (genes : List GeneRec) (all : List Aln) (ans : Answers) (p : Regions.Params)
    (hans : AnswersLocal genes (all.filter (Regions.passes p)) ans) (H : ExonHyp A genes (all.filter (Regions.passes p)))
    (m : Regions.Mode) (hvalid : IsoVerif.Props.C05.ValidInput all) (hrid : ((all.filter (Regions.passes p)).map (·.rid)).Nodup) :
    ∃ out evs, Regions.collect m all = some out ∧
      chromosomeEvents true genes (exonProc A ans) (procOut p out) ((all.filter (Regions.passes p)).map (·.rid)) = some evs ∧
      ∀ feed : List ReadEv, feed.Perm evs → ∀ (ignore : Bool) (dflt : String) (st : PCounter CoordKey),
        countAll coordKey FeatureInfo.merge ignore dflt feed = some st → ∀ (k : CoordKey) (g : String),
          st.inclOf k g = (all.filter (Regions.passes p)).countP (alnSays (exonProc A ans) genes ignore dflt 1 k g) ∧
          st.exclOf k g = (all.filter (Regions.passes p)).countP (alnSays (exonProc A ans) genes ignore dflt (-1) k g) :=
  chromosome_rows_of_local genes (exonProc A ans) all p (exonProc_local A genes _ ans hans H)
    (fun G a ev => exonEv_keys_nodup A G a ev) m hvalid hrid

/-! ### the gene query before fix fbe2056: a gene that starts at the last aligned base -/

/-- gA = gene 0 (1001-1900), gB = gene 1 starts at 2000 = the 1-based last base of the alignment (0-based 1000..2000) -/
def lbGenes : List GeneRec := [⟨0, (1001, 1900)⟩, ⟨1, (2000, 3000)⟩]
def lbAln : Aln := { start := 1000, stop := 2000, secondary := false, supplementary := false, mapped := true, mapq := 60, rid := 0 }
def lbAnn : Ann :=
  { chr := "chr1", delta := 4, absDelta := 20,
    isoforms := fun g => if g = 0 then [⟨"A.t1", "+", "gA", [(1001, 1200), (1801, 1900)]⟩]
                         else [⟨"B.t1", "+", "gB", [(2000, 2004), (2500, 3000)]⟩],
    reads := fun _ => { blocks := [(1001, 1200), (1801, 1900), (1996, 2000)], polya := -1, polyt := -1, group := "NA" } }
def lbAns : Answers := { hits := fun _ => [(7, 0)], marks := fun _ => [] }

/-- **last_base_gene_witness** (the query BEFORE the fix, `loadGenesOrig`): the extent of the alignment,
    `(reference_start, reference_end - 1)` = (1000, 1999), is what a cluster of this one read (or a stretched sub-region) asks
    the annotation for; compared as it is with the 1-based gene records it misses gB, which starts at base 2000 - the read's LAST
    aligned base: the read's gene view is incomplete, and although its last block 1996-2000 equals gB's first exon 2000-2004
    within δ = 4 (against the whole annotation the exon is counted as included) the row 2000-2004 does not get the read - unless
    a neighbour in the cluster reaches further right.  The 1-based query `loadGenes` loads gB and the read says what it says
    against the whole annotation. -/
theorem last_base_gene_witness :
    loadGenesOrig lbGenes (1000, 1999) = [⟨0, (1001, 1900)⟩] ∧
    loadGenes lbGenes (1000, 1999) = lbGenes ∧
    view lbAln (loadGenesOrig lbGenes (1000, 1999)) ≠ view lbAln lbGenes ∧
    (exonEv lbAnn (loadGenesOrig lbGenes (1000, 1999)) lbAln).any (evSays true "NA" 1 ("chr1", 2000, 2004) "NA") = false ∧
    (exonEv lbAnn lbGenes lbAln).any (evSays true "NA" 1 ("chr1", 2000, 2004) "NA") = true ∧
    (exonEv lbAnn (loadGenes lbGenes (1000, 1999)) lbAln).any (evSays true "NA" 1 ("chr1", 2000, 2004) "NA") = true := by
  decide +kernel

-- non-vacuity of `exonProc_local` / `chromosome_exon_rows`: the last-base chromosome itself meets every hypothesis
example : ExonHyp lbAnn lbGenes ([lbAln].filter (Regions.passes ⟨false, 0⟩)) ∧
    AnswersLocal lbGenes ([lbAln].filter (Regions.passes ⟨false, 0⟩)) lbAns ∧
    IsoVerif.Props.C05.ValidInput [lbAln] ∧ ((([lbAln] : List Aln).filter (Regions.passes ⟨false, 0⟩)).map (·.rid)).Nodup := by
  have hf : ([lbAln] : List Aln).filter (Regions.passes ⟨false, 0⟩) = [lbAln] := by decide +kernel
  rw [hf]
  refine ⟨⟨by decide +kernel, by decide +kernel, by decide +kernel, ?_, ?_, ?_⟩, ?_, ⟨by simp [IsoVerif.Lemmas.Regions.SortedByStart], ?_⟩, by simp⟩
  · intro a ha; simp at ha; subst ha; simp [SepBy, lbAnn]
  · intro a ha; simp at ha; subst ha; simp [WFR, lbAnn]
  · intro a ha; simp at ha; subst ha; decide +kernel
  · intro a ha; simp at ha; subst ha; decide +kernel
  · intro x hx; simp at hx; subst hx; simp [IsoVerif.Lemmas.Regions.WFA, lbAln]

/-! ### the stretch loop before fix b7a9fc0: an unassigned record changes what OTHER reads get -/

/-- a sub-region (1000, 5000) with a processed read 1200..1800 that matches nothing, and a supplementary record of another read
    1500..2400000; g0 lies 2 Mb further right -/
def suGenes : List GeneRec := [⟨0, (2000000, 2001000)⟩]
def suRead : Aln := { start := 1200, stop := 1800, secondary := false, supplementary := false, mapped := true, mapq := 60, rid := 0 }
def suSupp : Aln := { start := 1500, stop := 2400000, secondary := false, supplementary := true, mapped := true, mapq := 60, rid := 1 }
def suRa : Iv × List Aln := ((1000, 5000), [suRead, suSupp])
def suAns : Answers := { hits := fun _ => [], marks := fun _ => [] }

/-- **stretch_over_unassigned_witness**: the supplementary record is never assigned (`passes` = false: it gets no record, no
    row), yet the loop of fix 48f2521 stretched the gene region of the sub-region over it (`loadRegionAll`): the sub-region
    loads a gene 2 Mb away and the OTHER read, which overlaps no gene, is labelled `noninformative` instead of `intergenic`
    (and every sub-region below such a record loads every gene below it).  Stretching over the processed alignments only
    (`loadRegion true` of `procOut`) loads nothing here.  The row counts are the same under both (a larger region keeps
    every gene view complete), which is why no count oracle saw it. -/
theorem stretch_over_unassigned_witness :
    Regions.passes ⟨false, 0⟩ suSupp = false ∧
    loadGenes suGenes (loadRegionAll suRa) = suGenes ∧
    (procOut ⟨false, 0⟩ [suRa]).map (fun ra => loadGenes suGenes (loadRegion true ra)) = [[]] ∧
    (tableProc "chr1" suAns).atype (loadGenes suGenes (loadRegionAll suRa)) suRead = .noninformative ∧
    (tableProc "chr1" suAns).atype [] suRead = .intergenic := by
  decide +kernel

/-- **chromosome_intron_rows**: the same composition for the INTRON table -/
theorem chromosome_intron_rows (A : Ann) (genes : List GeneRec) (all : List Aln) (ans : Answers) (p : Regions.Params)
    (hans : AnswersLocal genes (all.filter (Regions.passes p)) ans) (H : IntronHyp A genes (all.filter (Regions.passes p)))
    (m : Regions.Mode) (hvalid : IsoVerif.Props.C05.ValidInput all) (hrid : ((all.filter (Regions.passes p)).map (·.rid)).Nodup) :
    ∃ out evs, Regions.collect m all = some out ∧
      chromosomeEvents true genes (intronProc A ans) (procOut p out) ((all.filter (Regions.passes p)).map (·.rid)) = some evs ∧
      ∀ feed : List ReadEv, feed.Perm evs → ∀ (ignore : Bool) (dflt : String) (st : PCounter CoordKey),
        countAll coordKey FeatureInfo.merge ignore dflt feed = some st → ∀ (k : CoordKey) (g : String),
          st.inclOf k g = (all.filter (Regions.passes p)).countP (alnSays (intronProc A ans) genes ignore dflt 1 k g) ∧
          st.exclOf k g = (all.filter (Regions.passes p)).countP (alnSays (intronProc A ans) genes ignore dflt (-1) k g) :=
  chromosome_rows_of_local genes (intronProc A ans) all p (intronProc_local A genes _ ans hans H)
    (fun G a ev => intronEv_keys_nodup A G a ev) m hvalid hrid

-- non-vacuity of `intronProc_local` / `chromosome_intron_rows`
example : IntronHyp lbAnn lbGenes [lbAln] ∧ AnswersLocal lbGenes [lbAln] lbAns := by
  refine ⟨⟨by decide +kernel, by decide +kernel, by decide +kernel, ?_, ?_, ?_⟩, ?_⟩
  · intro a ha; simp at ha; subst ha; simp [SepBy, lbAnn, junctionsFromBlocks]
  · intro a ha; simp at ha; subst ha; simp [WFR, lbAnn]
  · intro a ha; simp at ha; subst ha; decide +kernel
  · intro a ha; simp at ha; subst ha; decide +kernel

end IsoVerif.Props.C13Local
