/-
C03 — the printer as a state machine over `dump` calls (`GFFPrinter.printed_gene_ids`): gene records appear once
for every history, transcript records appear once, the gene record contains the transcripts of its own call;
containment over the whole history needs a hypothesis (`…_partial`, `…_witness`).
-/
import IsoVerif.Model.Gtf
import IsoVerif.Lemmas.C03GtfDump

namespace IsoVerif.Props.C03Hist
open IsoVerif.Gen IsoVerif.Model IsoVerif.Lemmas IsoVerif.Model.C03 IsoVerif.Lemmas.C03

/-- `m` is handed to the printer in some call of the history and passes the gate -/
def InHistory (calls : List Call) (m : TModel) : Prop := ∃ cl ∈ calls, m ∈ cl.models ∧ validM m = true

theorem inHistory_cons {cl : Call} {cs : List Call} {P : TModel → Prop} :
    (∃ m, InHistory (cl :: cs) m ∧ P m) ↔ (∃ m ∈ cl.models, validM m = true ∧ P m) ∨ ∃ m, InHistory cs m ∧ P m := by
  simp only [InHistory, List.mem_cons, or_and_right, exists_or, exists_eq_left, and_assoc]

def validModels (calls : List Call) : List TModel := calls.flatMap (fun cl => cl.models.filter validM)

theorem inHistory_iff_mem (calls : List Call) (m : TModel) : InHistory calls m ↔ m ∈ validModels calls := by
  unfold InHistory validModels
  simp only [List.mem_flatMap, List.mem_filter]

/-- **transcript records = gated models** (every call history, any initial printer state): a transcript record is
    written exactly for the models that pass `validate_exons`, with the model's chromosome, strand, gene, id and
    `(exon_blocks[0][0], exon_blocks[-1][1])`. -/
theorem transcript_records_are_gated_models (calls : List Call) (printed p' : List Id) (out : List Line)
    (h : runCalls printed calls = some (p', out)) (c : Id) (s e : Int) (st : Strand) (g t : Id) :
    Line.tx c s e st g t ∈ out ↔
      ∃ m, InHistory calls m ∧ regionOf? m = some (s, e) ∧ m.chr = c ∧ m.strand = st ∧ m.gid = g ∧ m.tid = t := by
  obtain ⟨h1, h2⟩ := runCalls_calls calls printed p' out h
  constructor
  · intro hl
    obtain ⟨cl, hcl, _, _, _, hd, hl⟩ := h1 _ hl
    obtain ⟨m, hm, hv, rest⟩ := (dump_tx_line hd c s e st g t).mp hl
    exact ⟨m, ⟨cl, hcl, hm, hv⟩, rest⟩
  · rintro ⟨m, ⟨cl, hcl, hm, hv⟩, rest⟩
    obtain ⟨_, _, _, hd, hsub⟩ := h2 cl hcl
    exact hsub _ ((dump_tx_line hd c s e st g t).mpr ⟨m, hm, hv, rest⟩)

theorem region_of_history {calls : List Call} {printed p' : List Id} {out : List Line}
    (h : runCalls printed calls = some (p', out)) {m : TModel} (hin : InHistory calls m) : ∃ tr, regionOf? m = some tr := by
  obtain ⟨cl, hcl, hm, hv⟩ := hin
  obtain ⟨_, _, _, hd, _⟩ := (runCalls_calls calls printed p' out h).2 cl hcl
  exact region_of_dump (by rw [hd]; rfl) hm hv

/-- history invariant behind `gene_line_once` (any initial `printed_gene_ids`) -/
theorem gene_ids_invariant :
    ∀ (calls : List Call) (printed p' : List Id) (out : List Line),
    runCalls printed calls = some (p', out) →
    (geneIds out).Nodup ∧ (∀ g ∈ geneIds out, g ∉ printed) ∧
    (∀ g, g ∈ p' ↔ g ∈ printed ∨ ∃ m, InHistory calls m ∧ m.gid = g) ∧
    (∀ g, g ∈ geneIds out ↔ g ∉ printed ∧ ∃ m, InHistory calls m ∧ m.gid = g) := by
  intro calls
  induction calls with
  | nil =>
    intro printed p' out h
    simp only [runCalls, Option.some.injEq, Prod.mk.injEq] at h
    simp [← h.1, ← h.2, geneIds, InHistory]
  | cons cl cs ih =>
    intro printed p' out h
    obtain ⟨p1, l1, l2, hd, hr, rfl⟩ := runCalls_cons h
    obtain ⟨n1, f1, _⟩ := dump_ids hd
    obtain ⟨n2, f2, pr2, m2⟩ := ih p1 p' l2 hr
    have hp1 := dump_printed hd
    have hmem1 : ∀ g, g ∈ geneIds l1 ↔ g ∉ printed ∧ ∃ m ∈ cl.models, validM m = true ∧ m.gid = g := by
      intro g
      constructor
      · intro hg
        obtain ⟨c, s, e, st, n, hl⟩ := (mem_geneIds l1 g).mp hg
        have := dump_gene_line hd hl
        exact ⟨this.fresh, this.nonempty⟩
      · rintro ⟨hf, hm⟩
        exact (mem_geneIds l1 g).mpr (dump_gene_line_exists hd g hf hm)
    have happ : geneIds (l1 ++ l2) = geneIds l1 ++ geneIds l2 := by simp [geneIds, List.filterMap_append]
    have hhist : ∀ g, (∃ m, InHistory (cl :: cs) m ∧ m.gid = g) ↔
        ((∃ m ∈ cl.models, validM m = true ∧ m.gid = g) ∨ ∃ m, InHistory cs m ∧ m.gid = g) := fun _ => inHistory_cons
    refine ⟨?_, ?_, ?_, ?_⟩
    · rw [happ, List.nodup_append]
      refine ⟨n1, n2, ?_⟩
      intro a ha b hb hab
      subst hab
      have : a ∈ p1 := (hp1 a).mpr (Or.inr ((hmem1 a).mp ha).2)
      exact f2 a hb this
    · intro g hg
      rw [happ, List.mem_append] at hg
      rcases hg with hg | hg
      · exact f1 g hg
      · intro hgp
        exact f2 g hg ((hp1 g).mpr (Or.inl hgp))
    · intro g
      rw [pr2 g, hp1 g, hhist g, or_assoc]
    · intro g
      rw [happ, List.mem_append, hmem1 g, m2 g, hp1 g, hhist g]
      constructor
      · rintro (⟨hf, hm⟩ | ⟨hf, hm⟩)
        · exact ⟨hf, Or.inl hm⟩
        · exact ⟨fun hg => hf (Or.inl hg), Or.inr hm⟩
      · rintro ⟨hf, hm | hm⟩
        · exact Or.inl ⟨hf, hm⟩
        · by_cases h1 : ∃ m ∈ cl.models, validM m = true ∧ m.gid = g
          · exact Or.inl ⟨hf, h1⟩
          · exact Or.inr ⟨fun hg => hg.elim hf h1, hm⟩

/-- **gene_line_once**: for every history of dump calls on a fresh printer that does not abort, the gene records
    carry pairwise different gene ids (each gene record appears exactly once), and a gene has a record iff some
    model attributed to it passes the gate somewhere in the history (so every transcript record has its gene record). -/
theorem gene_line_once (calls : List Call) (p' : List Id) (out : List Line)
    (h : runCalls [] calls = some (p', out)) :
    (geneIds out).Nodup ∧ ∀ g, g ∈ geneIds out ↔ ∃ m, InHistory calls m ∧ m.gid = g := by
  obtain ⟨h1, _, _, h4⟩ := gene_ids_invariant calls [] p' out h
  exact ⟨h1, fun g => by simpa using h4 g⟩

/-- **transcript_once**: the transcript ids of the transcript records are, up to order, the ids of the models that
    pass the gate — each gated model gets exactly one transcript record (so if the ids handed to the printer are
    pairwise distinct, every transcript id appears once). -/
theorem transcript_once :
    ∀ (calls : List Call) (printed p' : List Id) (out : List Line),
    runCalls printed calls = some (p', out) →
    (txIds out).Perm ((validModels calls).map (·.tid)) := by
  intro calls
  induction calls with
  | nil =>
    intro printed p' out h
    simp only [runCalls, Option.some.injEq, Prod.mk.injEq] at h
    simp [← h.2, txIds, validModels]
  | cons cl cs ih =>
    intro printed p' out h
    obtain ⟨p1, l1, l2, hd, hr, rfl⟩ := runCalls_cons h
    have happ : txIds (l1 ++ l2) = txIds l1 ++ txIds l2 := by simp [txIds, List.filterMap_append]
    rw [happ]
    simp only [validModels, List.flatMap_cons, List.map_append]
    exact (dump_ids hd).2.2.append (ih p1 p' l2 hr)

theorem transcript_ids_distinct (calls : List Call) (printed p' : List Id) (out : List Line)
    (h : runCalls printed calls = some (p', out)) (hd : ((validModels calls).map (·.tid)).Nodup) :
    (txIds out).Nodup :=
  (transcript_once calls printed p' out h).nodup_iff.mpr hd

/-- **gene_contains_transcripts_same_call**: in the call that writes the gene record, the record lies on the call's
    chromosome, contains the annotated gene region (if any) and every transcript of the gene written by that call,
    and is tight (both ends are attained by the annotated region or by one of those transcripts). -/
theorem gene_contains_transcripts_same_call {printed p' : List Id} {ctx : GeneCtx} {models : List TModel}
    {lines : List Line} (h : dump printed ctx models = some (p', lines))
    {c : Id} {s e : Int} {st : Strand} {g : Id} {n : Nat} (hg : Line.gene c s e st g n ∈ lines) :
    (∀ c' s' e' st' t, Line.tx c' s' e' st' g t ∈ lines → c' = c ∧ s ≤ s' ∧ e' ≤ e) ∧
    (∀ rr, ctx.regions.lookup g = some rr → s ≤ rr.1 ∧ rr.2 ≤ e) ∧
    ((∃ rr, ctx.regions.lookup g = some rr ∧ rr.1 = s) ∨ ∃ c' e' st' t, Line.tx c' s e' st' g t ∈ lines) ∧
    ((∃ rr, ctx.regions.lookup g = some rr ∧ rr.2 = e) ∨ ∃ c' s' st' t, Line.tx c' s' e st' g t ∈ lines) ∧
    n = ((models.filter validM).filter (fun m => decide (m.gid = g))).length := by
  have f := dump_gene_line h hg
  refine ⟨?_, f.contains_ref, ?_, ?_, f.count⟩
  · intro c' s' e' st' t ht
    obtain ⟨m, hm, hv, hr, hc, _, hgm, _⟩ := (dump_tx_line h c' s' e' st' g t).mp ht
    have := f.contains m hm hv hgm (s', e') hr
    exact ⟨by rw [← hc, f.models_chr m hm hv hgm, f.chr], this⟩
  · rcases f.tight_start with h1 | ⟨m, hm, hv, hgm, tr, hr, hs⟩
    · exact Or.inl h1
    · right
      refine ⟨m.chr, tr.2, m.strand, m.tid, (dump_tx_line h _ _ _ _ _ _).mpr ⟨m, hm, hv, ?_, rfl, rfl, hgm, rfl⟩⟩
      rw [hr, ← hs]
  · rcases f.tight_end with h1 | ⟨m, hm, hv, hgm, tr, hr, hs⟩
    · exact Or.inl h1
    · right
      refine ⟨m.chr, tr.1, m.strand, m.tid, (dump_tx_line h _ _ _ _ _ _).mpr ⟨m, hm, hv, ?_, rfl, rfl, hgm, rfl⟩⟩
      rw [hr, ← hs]

/-- a gene is dumped in one call: no gene id has gated models in two different calls of the history -/
def OneCallPerGene (calls : List Call) : Prop :=
  calls.Pairwise (fun c1 c2 => ∀ m1 ∈ c1.models, ∀ m2 ∈ c2.models, validM m1 = true → validM m2 = true → m1.gid ≠ m2.gid)

/-- full-strength statement (FALSE for the code, see `gene_contains_all_transcripts_witness`):
    for every history, every gene record contains every transcript record attributed to the gene. -/
def GeneContainsAllTranscripts (calls : List Call) : Prop :=
  ∀ p' out, runCalls [] calls = some (p', out) →
    ∀ c s e st g n c' s' e' st' t, Line.gene c s e st g n ∈ out → Line.tx c' s' e' st' g t ∈ out → s ≤ s' ∧ e' ≤ e

theorem gene_line_origin :
    ∀ (calls : List Call) (printed p' : List Id) (out : List Line),
    runCalls printed calls = some (p', out) →
    ∀ c s e st g n, Line.gene c s e st g n ∈ out → g ∉ printed ∧ ∃ m, InHistory calls m ∧ m.gid = g := by
  intro calls printed p' out h c s e st g n hl
  have := (gene_ids_invariant calls printed p' out h).2.2.2 g
  exact this.mp ((mem_geneIds out g).mpr ⟨c, s, e, st, n, hl⟩)

/-- **gene_contains_all_transcripts_partial** (hypothesis: a gene is dumped in one call).  What is missing for the
    full statement: a gene whose models are spread over several calls gets its record in the first of them, with
    the range known then. -/
theorem gene_contains_all_transcripts_partial :
    ∀ (calls : List Call), OneCallPerGene calls → ∀ (printed p' : List Id) (out : List Line),
    runCalls printed calls = some (p', out) →
    ∀ c s e st g n c' s' e' st' t, Line.gene c s e st g n ∈ out → Line.tx c' s' e' st' g t ∈ out →
      c' = c ∧ s ≤ s' ∧ e' ≤ e := by
  intro calls
  induction calls with
  | nil =>
    intro _ printed p' out h c s e st g n c' s' e' st' t hg _
    simp only [runCalls, Option.some.injEq, Prod.mk.injEq] at h
    rw [← h.2] at hg; cases hg
  | cons cl cs ih =>
    intro hone printed p' out h c s e st g n c' s' e' st' t hg ht
    have hone' := List.pairwise_cons.mp hone
    obtain ⟨p1, l1, l2, hd, hr, rfl⟩ := runCalls_cons h
    rw [List.mem_append] at hg ht
    rcases hg with hg | hg <;> rcases ht with ht | ht
    · exact (gene_contains_transcripts_same_call hd hg).1 c' s' e' st' t ht
    · exfalso
      obtain ⟨m1, hm1, hv1, hg1⟩ := (dump_gene_line hd hg).nonempty
      obtain ⟨m2, ⟨cl2, hcl2, hm2, hv2⟩, _, _, _, hg2, _⟩ :=
        (transcript_records_are_gated_models cs p1 p' l2 hr c' s' e' st' g t).mp ht
      exact hone'.1 cl2 hcl2 m1 hm1 m2 hm2 hv1 hv2 (hg1.trans hg2.symm)
    · exfalso
      obtain ⟨_, m2, ⟨cl2, hcl2, hm2, hv2⟩, hg2⟩ := gene_line_origin cs p1 p' l2 hr c s e st g n hg
      obtain ⟨m1, hm1, hv1, _, _, _, hg1, _⟩ := (dump_tx_line hd c' s' e' st' g t).mp ht
      exact hone'.1 cl2 hcl2 m1 hm1 m2 hm2 hv1 hv2 (hg1.trans hg2.symm)
    · exact ih hone'.2 p1 p' l2 hr c s e st g n c' s' e' st' t hg ht

/-- **gene_contains_transcripts_inside_reference** (every history, no one-call hypothesis): if every call that
    hands over a model of gene `g` knows the same annotated region `rr` of `g`, then the gene record contains every
    transcript record of `g` that lies inside `rr` — in particular every reference transcript of a well-formed
    annotation.  Only transcripts reaching beyond the annotated gene can fall outside the record. -/
theorem gene_contains_transcripts_inside_reference :
    ∀ (calls : List Call) (g : Id) (rr : Iv),
    (∀ cl ∈ calls, (∃ m ∈ cl.models, validM m = true ∧ m.gid = g) → cl.ctx.regions.lookup g = some rr) →
    ∀ (printed p' : List Id) (out : List Line), runCalls printed calls = some (p', out) →
    ∀ c s e st n c' s' e' st' t, Line.gene c s e st g n ∈ out → Line.tx c' s' e' st' g t ∈ out →
      rr.1 ≤ s' → e' ≤ rr.2 → s ≤ s' ∧ e' ≤ e := by
  intro calls g rr href printed p' out h c s e st n c' s' e' st' t hg _ h1 h2
  -- whichever call wrote the gene record, it knew the annotated region
  obtain ⟨cl, hcl, _, _, _, hd, hg⟩ := (runCalls_calls calls printed p' out h).1 _ hg
  have f := dump_gene_line hd hg
  have := f.contains_ref rr (href cl hcl f.nonempty)
  omega

/-- the two-call history of the witness: gene 7 (annotated region 10..50) is dumped with a model inside the region,
    then - in a later call - with a model reaching to 80 -/
def witnessCalls : List Call :=
  [ { ctx := { chr := 0, regions := [(7, (10, 50))] },
      models := [{ chr := 0, strand := 0, tid := 1, gid := 7, exons := [(10, 20), (30, 40)], known := true }] },
    { ctx := { chr := 0, regions := [(7, (10, 50))] },
      models := [{ chr := 0, strand := 0, tid := 2, gid := 7, exons := [(30, 40), (45, 50), (70, 80)], known := false }] } ]

/-- **gene_contains_all_transcripts_witness**: the full-strength statement is false of the model (and of the code:
    the same history is replayed on the real `GFFPrinter` by the oracle, and through the pipeline by a locus that is
    processed in two read regions). -/
theorem gene_contains_all_transcripts_witness : ¬ GeneContainsAllTranscripts witnessCalls := by
  intro h
  have := h [7] ((runCalls [] witnessCalls).elim [] (·.2)) (by decide +kernel) 0 10 50 0 7 1 0 30 80 0 2 (by decide +kernel) (by decide +kernel)
  omega

-- non-vacuity of the hypotheses: a two-call history with two genes, one call each, runs and prints both genes
example : OneCallPerGene
    [ { ctx := { chr := 0 }, models := [{ chr := 0, strand := 0, tid := 1, gid := 7, exons := [(10, 20)], known := false }] },
      { ctx := { chr := 0 }, models := [{ chr := 0, strand := 1, tid := 2, gid := 8, exons := [(5, 6), (9, 12)], known := false }] } ]
    ∧ (runCalls [] [ { ctx := { chr := 0 }, models := [{ chr := 0, strand := 0, tid := 1, gid := 7, exons := [(10, 20)], known := false }] },
      { ctx := { chr := 0 }, models := [{ chr := 0, strand := 1, tid := 2, gid := 8, exons := [(5, 6), (9, 12)], known := false }] } ]).isSome := by
  unfold OneCallPerGene
  decide +kernel

/-- **gene_chromosome**: if all calls of the history are for one chromosome (one printer per chromosome), every gene
    record and every transcript record is on that chromosome (the `assert`s of `dump` abort the call otherwise). -/
theorem gene_chromosome (calls : List Call) (chr0 : Id) (hc : ∀ cl ∈ calls, cl.ctx.chr = chr0) :
    ∀ (printed p' : List Id) (out : List Line), runCalls printed calls = some (p', out) →
    (∀ c s e st g n, Line.gene c s e st g n ∈ out → c = chr0) ∧
    (∀ c s e st g t, Line.tx c s e st g t ∈ out → c = chr0) := by
  intro printed p' out h
  have hfrom := (runCalls_calls calls printed p' out h).1
  constructor
  · intro c s e st g n hl
    obtain ⟨cl, hcl, _, _, _, hd, hl⟩ := hfrom _ hl
    rw [(dump_gene_line hd hl).chr, hc cl hcl]
  · intro c s e st g t hl
    obtain ⟨cl, hcl, pr, _, _, hd, hl⟩ := hfrom _ hl
    obtain ⟨m, hm, hv, _, hmc, _⟩ := (dump_tx_line hd c s e st g t).mp hl
    -- the `assert`s of `dump` abort the call on a gated model of another chromosome
    rw [← hmc, ((dump_isSome_iff pr cl.ctx cl.models).mp (by rw [hd]; rfl) m hm hv).1, hc cl hcl]

/-- all gated models attributed to one gene carry one strand (assumption interface: `select_reference_gene`
    gives a novel transcript the strand of the reference gene, `TranscriptToGeneJoiner` only merges equal strands) -/
def UniformStrands (calls : List Call) : Prop :=
  ∀ m1 m2, InHistory calls m1 → InHistory calls m2 → m1.gid = m2.gid → m1.strand = m2.strand

/-- **gene_strand_matches_partial** (hypothesis `UniformStrands`): the strand of a gene record is the strand of every
    transcript record of the gene.  Without the hypothesis the gene record takes the strand of the *last* gated model
    of its call (`gene_strand_witness`). -/
theorem gene_strand_matches_partial (calls : List Call) (hu : UniformStrands calls) :
    ∀ (p' : List Id) (out : List Line), runCalls [] calls = some (p', out) →
    ∀ c s e st g n c' s' e' st' t, Line.gene c s e st g n ∈ out → Line.tx c' s' e' st' g t ∈ out → st' = st := by
  intro p' out h c s e st g n c' s' e' st' t hg ht
  obtain ⟨m2, hin2, _, _, hst2, hg2, _⟩ := (transcript_records_are_gated_models calls [] p' out h c' s' e' st' g t).mp ht
  -- the gene record's strand is the strand of the last gated model of the gene in the call that wrote it
  obtain ⟨cl, hcl, _, _, _, hd, hg⟩ := (runCalls_calls calls [] p' out h).1 _ hg
  obtain ⟨m1, hm1, hst1⟩ := (dump_gene_line hd hg).strand_last
  obtain ⟨hm, hv, hg1⟩ := mem_validOfGene.mp (List.mem_of_getLast? hm1)
  have hin1 : InHistory calls m1 := ⟨cl, hcl, hm, hv⟩
  rw [hst1, ← hst2]
  exact (hu m1 m2 hin1 hin2 (hg1.trans hg2.symm)).symm

def strandWitnessCalls : List Call :=
  [{ ctx := { chr := 0 },
     models := [{ chr := 0, strand := 0, tid := 1, gid := 7, exons := [(10, 20)], known := false },
                { chr := 0, strand := 1, tid := 2, gid := 7, exons := [(30, 40)], known := false }] }]

/-- **gene_strand_witness**: two models of one gene with different strands in one call: the gene record takes the
    strand of the last one, the first transcript record disagrees with it (the code logs a warning) -/
theorem gene_strand_witness :
    ∃ calls p' out, runCalls [] calls = some (p', out) ∧
      Line.gene 0 10 40 1 7 2 ∈ out ∧ Line.tx 0 10 20 0 7 1 ∈ out := by
  refine ⟨strandWitnessCalls, [7], (runCalls [] strandWitnessCalls).elim [] (·.2), by decide +kernel, by decide +kernel, by decide +kernel⟩

end IsoVerif.Props.C03Hist
