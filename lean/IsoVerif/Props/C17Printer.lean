/-
C17 — identifiers at the printing stage: `GFFPrinter.dump` (both printers of a chromosome share one
`FeatureIdStorage`; every printer keeps its `printed_gene_ids`).
All statements are over arbitrary sequences of `dump` calls with arbitrary model lists (valid or not).
-/
import IsoVerif.Model.IdsPrinter
import IsoVerif.Lemmas.Ids
import IsoVerif.Lemmas.IdsPrinter
import IsoVerif.Props.C17

namespace IsoVerif.Props.C17Printer
open IsoVerif.Gen IsoVerif.Model.C17 IsoVerif.Lemmas.C17 IsoVerif.Props.C17

/-- one `dump` call is one `get_id` history: the feature lines that carry an id (`outKeyIds`), in printing order, carry
    the ids of that history; gene lines are written exactly for the genes not yet in `printed_gene_ids` -/
theorem dump_is_history (st st' : FeatureIdStorage) (printed printed' : List Str) (giChr : Str)
    (regions : List (Str × (Int × Int))) (models : List TModel) (out : List OutLine)
    (h : dump st printed giChr regions models = some (out, printed', st')) :
    ∃ ks ids, st.getIds ks = some (ids, st') ∧ ids.length = ks.length ∧ outKeyIds out = ks.zip ids ∧
      (printed.Nodup → printed' = printed ++ outGeneIds out ∧ printed'.Nodup) := by
  rcases dump_cases h with ⟨_, rfl, rfl, rfl⟩ | ⟨plan, ids, hp, hg, rfl⟩
  · exact ⟨[], [], rfl, rfl, rfl, fun hn => ⟨by simp [outGeneIds, planGeneIds], hn⟩⟩
  · obtain ⟨hl, _⟩ := getIds_spec _ _ _ _ hg
    refine ⟨planKeys plan, ids, hg, hl, fill_keyIds plan ids hl, fun hn => ?_⟩
    unfold dumpPlan at hp
    cases hc : dumpCollect giChr regions models ⟨[], []⟩ with
    | none => simp [hc] at hp
    | some c =>
      simp only [hc, Option.some.injEq] at hp
      have := dumpGenes_printed c.geneModels
        (pySorted (fun a b => ivLexLe a.2.region b.2.region) c.geneInfo) printed hn
      rw [hp] at this
      simpa [outGeneIds, fill_plan] using this

/-- gene ids written by the printer `b` (false: transcript_models, true: extended_annotation) over a sequence -/
def printerGeneIds (b : Bool) : List DumpCall → List (List OutLine) → List Str
  | c :: cs, o :: os => (if c.extended = b then outGeneIds o else []) ++ printerGeneIds b cs os
  | _, _ => []

def printedOf (b : Bool) (s : PrintersState) : List Str := if b then s.printedExtended else s.printedModels

/-- a whole sequence of dump calls on the two printers is one `get_id` history on the shared storage, and
    each printer's `printed_gene_ids` grows exactly by the gene lines it wrote -/
theorem runDumps_is_history : ∀ (calls : List DumpCall) (s s' : PrintersState) (outs : List (List OutLine)),
    runDumps s calls = some (outs, s') →
    (∃ ks ids, s.st.getIds ks = some (ids, s'.st) ∧ ids.length = ks.length ∧
      outKeyIds outs.flatten = ks.zip ids) ∧
    ∀ b, (printedOf b s).Nodup →
      printedOf b s' = printedOf b s ++ printerGeneIds b calls outs ∧ (printedOf b s').Nodup
  | [], s, s', outs, h => by
      simp only [runDumps, Option.some.injEq, Prod.mk.injEq] at h
      obtain ⟨rfl, rfl⟩ := h
      exact ⟨⟨[], [], rfl, rfl, rfl⟩, fun b hn => ⟨by simp [printerGeneIds], hn⟩⟩
  | c :: cs, s, s', outs, h => by
      simp only [runDumps] at h
      cases hd : dump s.st (if c.extended then s.printedExtended else s.printedModels) c.giChr c.regions c.models with
      | none => simp [hd] at h
      | some r =>
        obtain ⟨out, printed', st1⟩ := r
        simp only [hd] at h
        generalize hs1 : (if c.extended then (⟨st1, s.printedModels, printed'⟩ : PrintersState)
            else ⟨st1, printed', s.printedExtended⟩) = s1 at h
        cases hr : runDumps s1 cs with
        | none => simp [hr] at h
        | some r2 =>
          obtain ⟨outs2, s2⟩ := r2
          simp only [hr, Option.some.injEq, Prod.mk.injEq] at h
          obtain ⟨rfl, rfl⟩ := h
          obtain ⟨ks1, ids1, g1, l1, z1, pr1⟩ := dump_is_history _ _ _ _ _ _ _ _ hd
          obtain ⟨⟨ks2, ids2, g2, l2, z2⟩, pr2⟩ := runDumps_is_history cs s1 s2 outs2 hr
          have hst : s1.st = st1 := by rw [← hs1]; split <;> rfl
          rw [hst] at g2
          constructor
          · refine ⟨ks1 ++ ks2, ids1 ++ ids2, ?_, by simp [l1, l2], ?_⟩
            · rw [getIds_append, g1]; simp only [g2]
            · simp only [List.flatten_cons, outKeyIds, List.filterMap_append] at z1 z2 ⊢
              rw [z1, z2, List.zip_append (by omega)]
          · intro b hn
            by_cases hb : c.extended = b
            · -- this call was made on printer b
              have hp1 : printedOf b s1 = printed' := by
                rw [← hs1, ← hb]; cases c.extended <;> simp [printedOf]
              have hp0 : printedOf b s = (if c.extended then s.printedExtended else s.printedModels) := by
                rw [← hb]; cases c.extended <;> simp [printedOf]
              obtain ⟨e1, n1⟩ := pr1 (hp0 ▸ hn)
              obtain ⟨e2, n2⟩ := pr2 b (hp1 ▸ n1)
              refine ⟨?_, n2⟩
              rw [e2, hp1, e1, ← hp0]
              simp [printerGeneIds, hb]
            · have hp1 : printedOf b s1 = printedOf b s := by
                subst hs1
                cases hce : c.extended <;> cases b <;> simp_all [printedOf]
              obtain ⟨e2, n2⟩ := pr2 b (hp1 ▸ hn)
              refine ⟨?_, n2⟩
              rw [e2, hp1]
              simp [printerGeneIds, hb]

/-- **exon_id column is functional and injective over everything both printers write**: for any storage
    satisfying the invariant (e.g. the one built from an injective reference, `init_inv`) and any sequence of
    dump calls, two written feature lines carry the same `exon_id` iff they have the same
    (chromosome, start, end, strand) -/
theorem dump_exon_ids_functional (s s' : PrintersState) (hinv : StInv s.st) (calls : List DumpCall)
    (outs : List (List OutLine)) (h : runDumps s calls = some (outs, s')) :
    ∀ p ∈ outKeyIds outs.flatten, ∀ q ∈ outKeyIds outs.flatten, (p.1 = q.1 ↔ p.2 = q.2) := by
  obtain ⟨⟨ks, ids, g, _, z⟩, _⟩ := runDumps_is_history calls s s' outs h
  obtain ⟨_, _, f⟩ := exon_id_functional_of_inv s.st s'.st hinv ks ids g
  rw [z]
  exact f

/-- **reference exon ids survive printing**: with the storage of the pipeline (reference records of every feature
    type), a written feature line whose interval has the (functional) reference exon id `id` carries `id` -/
theorem dump_reference_exon_ids_preserved (dist : IdDistributor) (recs : List RefRecord) (chr : Str)
    (hchr : chr.isEmpty = false) (f : RefRecord) (hf : f ∈ recs) (hft : f.ofType = true) (id : Str)
    (hid : recId f = some id)
    (hfun : RecFunctionalAt chr recs f) (pm pe : List Str) (calls : List DumpCall) (outs : List (List OutLine))
    (s' : PrintersState)
    (h : runDumps ⟨FeatureIdStorage.initRecords dist (some recs) chr, pm, pe⟩ calls = some (outs, s')) :
    ∀ p ∈ outKeyIds outs.flatten, p.1 = recKey chr f → p.2 = id := by
  obtain ⟨⟨ks, ids, g, _, z⟩, _⟩ := runDumps_is_history calls _ s' outs h
  rw [z]
  exact exon_id_reference_preserved dist recs chr hchr f hf hft id hid hfun ks ids s'.st g

/-- **no written line reuses a reference id for another interval**: whatever both printers write (exon lines and the
    CDS / codon / UTR lines of `other_features`), a line whose interval owns no reference id (no `exon` record with an
    `exon_id` there) carries an id that occurs on NO reference record of the chromosome, of any feature type -/
theorem dump_no_reference_exon_id_collision (dist : IdDistributor) (recs : List RefRecord) (chr : Str)
    (hchr : chr.isEmpty = false) (pm pe : List Str) (calls : List DumpCall) (outs : List (List OutLine))
    (s' : PrintersState)
    (h : runDumps ⟨FeatureIdStorage.initRecords dist (some recs) chr, pm, pe⟩ calls = some (outs, s')) :
    ∀ p ∈ outKeyIds outs.flatten, p.1 ∉ refExonKeys chr recs → p.2 ∉ allRefIds recs := by
  obtain ⟨⟨ks, ids, g, _, z⟩, _⟩ := runDumps_is_history calls _ s' outs h
  rw [z]
  exact fresh_exon_id_avoids_reference dist recs chr hchr ks ids s'.st g

/-- **a gene line is written at most once per printer**, over any sequence of dump calls on two fresh printers (the
    printers are made per chromosome worker, src/dataset_processor.py): the gene ids of the gene lines of each printer are
    pairwise distinct -/
theorem dump_gene_lines_unique (st : FeatureIdStorage) (calls : List DumpCall) (outs : List (List OutLine))
    (s' : PrintersState) (h : runDumps ⟨st, [], []⟩ calls = some (outs, s')) (b : Bool) :
    (printerGeneIds b calls outs).Nodup := by
  obtain ⟨_, pr⟩ := runDumps_is_history calls _ s' outs h
  obtain ⟨e, n⟩ := pr b (by cases b <;> simp [printedOf])
  rw [e] at n
  cases b <;> simpa [printedOf] using n

-- non-vacuity: two dumps on the same printer with a shared gene and a shared exon, one on the other printer
example :
    (runDumps ⟨FeatureIdStorage.initRecords SimpleIDDistributor.init
        (some [⟨true, 10, 20, ['+'], some ["E1".toList]⟩, ⟨false, 12, 18, ['+'], some ["c.1".toList]⟩]) ['c'], [], []⟩
      [⟨false, ['c'], [], [⟨['c'], ['+'], ['t', '1'], ['g'], [(10, 20), (30, 40)], []⟩]⟩,
       ⟨false, ['c'], [], [⟨['c'], ['+'], ['t', '2'], ['g'], [(30, 40)], [(30, 40, "CDS".toList)]⟩]⟩,
       ⟨true, ['c'], [], [⟨['c'], ['-'], ['t', '3'], ['g'], [(30, 40)], []⟩]⟩]).map
      (fun r => (r.1.map (fun o => (outGeneIds o).map String.ofList),
                 (outKeyIds r.1.flatten).map (fun p => String.ofList p.2)))
    = some ([["g"], [], ["g"]], ["E1", "c.2", "c.2", "c.2", "c.3"]) := by decide +kernel

/-- **transcript lines = valid models, each exactly once**: one dump call writes a transcript line for every
    model that passes `validate_exons` and for nothing else (a permutation: genes are reordered by region) -/
theorem dump_transcript_lines (st st' : FeatureIdStorage) (printed printed' : List Str) (giChr : Str)
    (regions : List (Str × (Int × Int))) (models : List TModel) (out : List OutLine)
    (h : dump st printed giChr regions models = some (out, printed', st')) :
    (outTranscriptIds out).Perm (validTids models) := by
  rcases dump_cases h with ⟨rfl, rfl, _, _⟩ | ⟨plan, ids, hp, _, rfl⟩
  · exact List.Perm.refl _
  · simpa [outTranscriptIds, fill_plan] using dumpPlan_transcripts _ _ _ _ _ _ hp

/-- hence: if the valid models handed to a dump call have pairwise distinct transcript ids (novel ids:
    `novel_ids_unique_per_chr`; reference + novel: `extended_annotation_transcript_ids_nodup`), so have the
    transcript lines it writes -/
theorem dump_transcript_ids_unique (st st' : FeatureIdStorage) (printed printed' : List Str) (giChr : Str)
    (regions : List (Str × (Int × Int))) (models : List TModel) (out : List OutLine)
    (h : dump st printed giChr regions models = some (out, printed', st'))
    (hu : (validTids models).Nodup) : (outTranscriptIds out).Nodup :=
  (dump_transcript_lines st st' printed printed' giChr regions models out h).nodup_iff.mpr hu

-- non-vacuity: an invalid model (unsorted exons) is dropped, two genes are reordered by region
example :
    (dump ⟨SimpleIDDistributor.init, [], []⟩ [] ['c'] [] 
      [⟨['c'], ['+'], ['t', '1'], ['g', '2'], [(50, 60)], []⟩, ⟨['c'], ['+'], ['t', '2'], ['g', '1'], [(30, 40), (10, 20)], []⟩,
       ⟨['c'], ['+'], ['t', '3'], ['g', '1'], [(10, 20)], []⟩]).map (fun r => (outTranscriptIds r.1).map String.ofList)
    = some ["t3", "t1"] := by decide +kernel

end IsoVerif.Props.C17Printer
