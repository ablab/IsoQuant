/-
C09 — the `--read_group` option string, REPAIRED code (`fix:` commits adc7d91,
0f55828 / fa8aeb9, 8622658); `--counts_format`: Props/C09Format.lean; the pinned tree is kept as `…Orig` with `…_witness` / `…_partial` theorems.
Last section: the table grouper (`file:TABLE`) is built for EVERY reference sequence, listed in a BAM header or not.

docs/cmd.md: "`file:FILE:READ_COL:GROUP_COL:DELIM`, where FILE is the file name, READ_COL is column with read ids (0 if not
set), GROUP_COL is column with group ids (1 if not set), DELIM is separator symbol (tab if not set)";
"`read_id:DELIM` where DELIM is the symbol/string by which the read id will be split";
`--counts_format`: matrix / linear / both (Props/C09Format.lean).
-/
import IsoVerif.Model.C09Options
import IsoVerif.Lemmas.C09Options
import IsoVerif.Props.C09Files
import IsoVerif.Props.C09TablesChrom

namespace IsoVerif.Props.C09Options
open IsoVerif.Gen IsoVerif.Model.C09 IsoVerif.Lemmas.C09 IsoVerif.Lemmas.C09Split IsoVerif.Lemmas.C09Options
open IsoVerif.Props.C09Files IsoVerif.Props.C09TablesChrom

/-! ### `file:FILE:READ_COL:GROUP_COL:DELIM` — the documented meaning, field by field -/

/-- a column field: not set (empty) → its documented default; otherwise the number the text spells (`int`) -/
def colField (s : List Char) (dflt : Int) : Except OErr Int := if s = [] then .ok dflt else pyInt s

/-- the delimiter field: not set (empty) → tab; otherwise the text itself -/
def delimField (d : List Char) : List Char := if d = [] then ['\t'] else d

/-- the documented reading of the four fields: every component is a function of ITS OWN field only -/
def fileSpec (F a b d : List Char) : Except OErr (Option FileProps) :=
  match colField a 0 with
  | .error e => .error e
  | .ok rc =>
    match colField b 1 with
    | .error e => .error e
    | .ok gc => .ok (some ⟨F, rc, gc, delimField d⟩)

/-- the option string `file:<field>:<field>:…` -/
def fileOption (fields : List (List Char)) : List Char := joinWith [':'] (kwFile :: fields)

theorem kwFile_noColon : NoColon kwFile := by decide

/-- `option.split(':')` of `file:F:a:b:d` for colon-free `F`, `a`, `b`: the fields, the last one split again -/
theorem pieces4 (F a b d : List Char) (hF : NoColon F) (ha : NoColon a) (hb : NoColon b) :
    colonPieces (fileOption [F, a, b, d]) = kwFile :: F :: a :: b :: colonPieces d := by
  rw [fileOption, joinWith_cons_cons, joinWith_cons_cons, joinWith_cons_cons, joinWith_cons_cons,
    colonPieces_cons _ _ kwFile_noColon, colonPieces_cons _ _ hF, colonPieces_cons _ _ ha, colonPieces_cons _ _ hb]
  rfl

theorem pieces1 (F : List Char) (hF : NoColon F) : colonPieces (fileOption [F]) = [kwFile, F] := by
  rw [fileOption, joinWith_cons_cons, colonPieces_cons _ _ kwFile_noColon]
  exact congrArg _ (colonPieces_noColon _ hF)

theorem pieces2 (F a : List Char) (hF : NoColon F) (ha : NoColon a) :
    colonPieces (fileOption [F, a]) = [kwFile, F, a] := by
  rw [fileOption, joinWith_cons_cons, joinWith_cons_cons, colonPieces_cons _ _ kwFile_noColon, colonPieces_cons _ _ hF]
  exact congrArg _ (congrArg _ (colonPieces_noColon _ ha))

theorem pieces3 (F a b : List Char) (hF : NoColon F) (ha : NoColon a) (hb : NoColon b) :
    colonPieces (fileOption [F, a, b]) = [kwFile, F, a, b] := by
  rw [fileOption, joinWith_cons_cons, joinWith_cons_cons, joinWith_cons_cons, colonPieces_cons _ _ kwFile_noColon,
    colonPieces_cons _ _ hF, colonPieces_cons _ _ ha]
  exact congrArg _ (congrArg _ (congrArg _ (colonPieces_noColon _ hb)))

theorem fieldInt_some (s : List Char) (dflt : Int) : fieldInt (some s) dflt = colField s dflt := rfl

/-- **file_option_fields**: the option with all four fields.  `FILE`, `READ_COL`, `GROUP_COL` are any texts
    without a colon, `DELIM` is ANY text (it may be or contain a colon): the properties handed to
    `split_read_group_table` are the file, `int(READ_COL)` or 0 when the field is empty, `int(GROUP_COL)` or 1 when it is
    empty, `DELIM` or a tab when it is empty — each component read from its own field, whatever the others hold -/
theorem file_option_fields (F a b d : List Char) (hF : NoColon F) (ha : NoColon a) (hb : NoColon b) :
    prepareReadGroups false (some (fileOption [F, a, b, d])) = fileSpec F a b d := by
  simp only [prepareReadGroups, pieces4 F a b d hF ha hb, List.head?_cons, if_true, Bool.false_eq_true, if_false,
    fileGroupingProperties, fileSpec]
  simp only [List.getElem?_cons_zero, List.getElem?_cons_succ, fieldInt_some, List.drop_succ_cons, List.drop_zero,
    delimOf, join_colonPieces, delimField]
  cases colField a 0 <;> simp only []
  cases colField b 1 <;> simp only []

/-- **file_option_omitted_fields**: leaving trailing fields out is the same as leaving them empty — `file:F`
    = `file:F:::`, `file:F:a` = `file:F:a::`, `file:F:a:b` = `file:F:a:b:`.  With `file_option_fields`: every omitted field
    takes its documented default (0, 1, tab) independently of which other fields are given -/
theorem file_option_omitted_fields (F a b : List Char) (hF : NoColon F) (ha : NoColon a) (hb : NoColon b) :
    prepareReadGroups false (some (fileOption [F])) = fileSpec F [] [] [] ∧
    prepareReadGroups false (some (fileOption [F, a])) = fileSpec F a [] [] ∧
    prepareReadGroups false (some (fileOption [F, a, b])) = fileSpec F a b [] := by
  have p1 := pieces1 F hF
  have p2 := pieces2 F a hF ha
  have p3 := pieces3 F a b hF ha hb
  refine ⟨?_, ?_, ?_⟩
  · simp [prepareReadGroups, p1, fileGroupingProperties, fileSpec, fieldInt, colField, delimOf, delimField, joinWith]
  · simp only [prepareReadGroups, p2, List.head?_cons, if_true, Bool.false_eq_true, if_false, fileGroupingProperties, fileSpec]
    simp only [List.getElem?_cons_zero, List.getElem?_cons_succ, List.getElem?_nil, fieldInt_some, List.drop_succ_cons,
      List.drop_nil, delimOf, joinWith, delimField]
    cases colField a 0 <;> simp [fieldInt, colField]
  · simp only [prepareReadGroups, p3, List.head?_cons, if_true, Bool.false_eq_true, if_false, fileGroupingProperties, fileSpec]
    simp only [List.getElem?_cons_zero, List.getElem?_cons_succ, fieldInt_some, List.drop_succ_cons, List.drop_zero,
      delimOf, joinWith, delimField]
    cases colField a 0 <;> simp only []
    cases colField b 1 <;> simp

/-- **file_fields_independent**: two option strings that agree on a field agree on the property read from it (whatever
    their other fields are) — no field is looked at through another one -/
theorem file_fields_independent (F F' a a' b b' d d' : List Char) (p p' : FileProps)
    (h : fileSpec F a b d = .ok (some p)) (h' : fileSpec F' a' b' d' = .ok (some p')) :
    (a = a' → p.readCol = p'.readCol) ∧ (b = b' → p.groupCol = p'.groupCol) ∧ (d = d' → p.delim = p'.delim) ∧
    (F = F' → p.file = p'.file) := by
  unfold fileSpec at h h'
  cases ha : colField a 0 with
  | error e => rw [ha] at h; cases h
  | ok rc =>
    cases hb : colField b 1 with
    | error e => rw [ha, hb] at h; cases h
    | ok gc =>
      cases ha' : colField a' 0 with
      | error e => rw [ha'] at h'; cases h'
      | ok rc' =>
        cases hb' : colField b' 1 with
        | error e => rw [ha', hb'] at h'; cases h'
        | ok gc' =>
          rw [ha, hb] at h; rw [ha', hb'] at h'
          simp only [Except.ok.injEq, Option.some.injEq] at h h'
          subst h; subst h'
          refine ⟨?_, ?_, ?_, ?_⟩
          · intro e; subst e; rw [ha] at ha'; cases ha'; rfl
          · intro e; subst e; rw [hb] at hb'; cases hb'; rfl
          · intro e; subst e; rfl
          · intro e; subst e; rfl

/-- what `int` reads from a column field: plain digits, outer blanks, a sign, single underscores; anything else is a
    `ValueError` (the run refuses the option) -/
theorem colField_examples :
    colField "2".toList 0 = .ok 2 ∧ colField [] 0 = .ok 0 ∧ colField [] 1 = .ok 1 ∧ colField " 12 ".toList 0 = .ok 12 ∧
    colField "+3".toList 0 = .ok 3 ∧ colField "1_0".toList 0 = .ok 10 ∧ colField "007".toList 0 = .ok 7 ∧
    colField "-1".toList 0 = .ok (-1) ∧ colField "x".toList 0 = .error .valueError ∧
    colField "1__0".toList 0 = .error .valueError ∧ colField "_1".toList 0 = .error .valueError ∧
    colField "1_".toList 0 = .error .valueError ∧ colField "1 2".toList 0 = .error .valueError ∧
    colField " ".toList 0 = .error .valueError ∧ colField "-".toList 0 = .error .valueError := by
  decide +kernel

/-- **file_option_orig_witness** (pinned tree): `file:T:2` — READ_COL 2, the other two fields not set — was read
    as (T, 0, 1, tab): READ_COL silently ignored (every read then misses the table and is counted under NA, exit 0); an
    empty READ_COL (`file:T::2`) was a `ValueError`; the delimiter `:` (`file:T:0:1::`) came out empty.  The repaired code
    gives the documented reading of all three -/
theorem file_option_orig_witness :
    prepareReadGroups true (some "file:T:2".toList) = .ok (some ⟨['T'], 0, 1, ['\t']⟩) ∧
    prepareReadGroups false (some "file:T:2".toList) = .ok (some ⟨['T'], 2, 1, ['\t']⟩) ∧
    fileSpec ['T'] ['2'] [] [] = .ok (some ⟨['T'], 2, 1, ['\t']⟩) ∧
    prepareReadGroups true (some "file:T::2".toList) = .error .valueError ∧
    prepareReadGroups false (some "file:T::2".toList) = .ok (some ⟨['T'], 0, 2, ['\t']⟩) ∧
    prepareReadGroups true (some "file:T:0:1::".toList) = .ok (some ⟨['T'], 0, 1, []⟩) ∧
    prepareReadGroups false (some "file:T:0:1::".toList) = .ok (some ⟨['T'], 0, 1, [':']⟩) := by
  decide +kernel

/-- **file_option_orig_partial**: the pinned tree read the option as documented exactly when (i) no field after FILE is
    given, or (ii) both column fields are given and non-empty and the delimiter is omitted, or given, non-empty and
    colon-free.  Missing from the full statement: a given READ_COL with GROUP_COL omitted, empty column fields, an empty
    delimiter field, a delimiter containing a colon -/
theorem file_option_orig_partial (F a b d : List Char) (hF : NoColon F) (ha : NoColon a) (hb : NoColon b)
    (ha0 : a ≠ []) (hb0 : b ≠ []) (hd : NoColon d) (hd0 : d ≠ []) :
    prepareReadGroups true (some (fileOption [F])) = fileSpec F [] [] [] ∧
    prepareReadGroups true (some (fileOption [F, a, b])) = fileSpec F a b [] ∧
    prepareReadGroups true (some (fileOption [F, a, b, d])) = fileSpec F a b d := by
  have p1 := pieces1 F hF
  have p3 := pieces3 F a b hF ha hb
  have p4 : colonPieces (fileOption [F, a, b, d]) = [kwFile, F, a, b, d] := by
    rw [pieces4 F a b d hF ha hb, colonPieces_noColon _ hd]
  have ca : colField a 0 = pyInt a := by simp [colField, ha0]
  have cb : colField b 1 = pyInt b := by simp [colField, hb0]
  refine ⟨?_, ?_, ?_⟩
  · simp [prepareReadGroups, p1, fileGroupingPropertiesOrig, fileSpec, colField, delimField]
  · simp only [prepareReadGroups, p3, List.head?_cons, if_true, fileGroupingPropertiesOrig, fileSpec, ca, cb]
    cases pyInt a <;> simp only []
    cases pyInt b <;> simp [delimField]
  · simp only [prepareReadGroups, p4, List.head?_cons, if_true, fileGroupingPropertiesOrig, fileSpec, ca, cb]
    cases pyInt a <;> simp only []
    cases pyInt b <;> simp [delimField, hd0]

-- non-vacuity of `file_option_fields` / `file_option_omitted_fields` / `file_option_orig_partial`: colon-free fields
-- exist, and the option strings are the ones a user types
example : NoColon "reads.tsv".toList ∧ NoColon "2".toList ∧ NoColon [] ∧ "2".toList ≠ [] ∧
    fileOption ["t.tsv".toList, "2".toList] = "file:t.tsv:2".toList ∧
    fileOption ["t.tsv".toList, [], "2".toList, "::".toList] = "file:t.tsv::2:::".toList ∧
    prepareReadGroups false (some "file:t.tsv::2:::".toList) = .ok (some ⟨"t.tsv".toList, 0, 2, "::".toList⟩) ∧
    prepareReadGroups false (some "tag:CB".toList) = .ok none ∧ prepareReadGroups false none = .ok none ∧
    prepareReadGroups false (some "file".toList) = .error .assertionError := by
  decide +kernel

-- non-vacuity of `file_fields_independent`
example : fileSpec ['T'] ['2'] [] [','] = .ok (some ⟨['T'], 2, 1, [',']⟩) ∧
    fileSpec ['U'] ['2'] ['5'] [] = .ok (some ⟨['U'], 2, 5, ['\t']⟩) := by decide +kernel

/-! ### `read_id:DELIM` — the delimiter is the text after the first colon -/

/-- `option.split(':')` of `read_id:` ++ `d`: the keyword, then the pieces of `d` -/
theorem readId_pieces (d : List Char) :
    pySplit [':'] (kwReadIdColon ++ d) = .ok (['r', 'e', 'a', 'd', '_', 'i', 'd'] :: colonPieces d) := by
  rw [pySplit_colon, show kwReadIdColon ++ d = ['r', 'e', 'a', 'd', '_', 'i', 'd'] ++ ':' :: d from rfl,
    colonPieces_cons _ _ (by decide)]

/-- the first piece is the keyword `read_id`, which is neither of the keywords tested before it -/
theorem readId_keyword : String.ofList ['r', 'e', 'a', 'd', '_', 'i', 'd'] = "read_id" ∧
    ("read_id" = "file_name") = False ∧ ("read_id" = "tag") = False :=
  ⟨by decide +kernel, by decide, by decide⟩

/-- **read_id_option_delimiter**: for EVERY text `d` the option `read_id:` ++ `d` selects the read-id grouper with the
    delimiter `d` — also when `d` is or contains a colon -/
theorem read_id_option_delimiter (d : List Char) :
    parseReadGroupL false (kwReadIdColon ++ d) = .ok (.readId (String.ofList d)) := by
  simp only [parseReadGroupL, readId_pieces, List.map_cons, readId_keyword.1]
  simp only [readId_keyword.2.1, readId_keyword.2.2, if_false, if_true, Bool.false_eq_true]
  have hdrop : (kwReadIdColon ++ d).drop kwReadIdColon.length = d := by simp
  rw [hdrop]

/-- **read_id_option_orig_witness** (pinned tree, `values[1]`): `read_id::` selected the EMPTY delimiter (the first read
    then raised `ValueError: empty separator`, exit code 255) and `read_id:__:x` the delimiter `__`; a bare `read_id` was
    an IndexError.  Repaired: `:`, `__:x`, and the empty delimiter for the bare keyword -/
theorem read_id_option_orig_witness :
    parseReadGroupOrig (some "read_id::") = .ok (.readId "") ∧ parseReadGroup (some "read_id::") = .ok (.readId ":") ∧
    parseReadGroupOrig (some "read_id:__:x") = .ok (.readId "__") ∧ parseReadGroup (some "read_id:__:x") = .ok (.readId "__:x") ∧
    parseReadGroupOrig (some "read_id") = .error .indexError ∧ parseReadGroup (some "read_id") = .ok (.readId "") ∧
    getGroupId (.readId "") ⟨"m1:NEU", [], none⟩ = .error .valueError ∧
    getGroupId (.readId ":") ⟨"m1:NEU", [], none⟩ = .ok (GRes.both "NEU") := by
  decide +kernel

/-- **read_id_option_orig_partial**: the pinned tree selected the documented delimiter exactly for colon-free ones -/
theorem read_id_option_orig_partial (d : List Char) (hd : NoColon d) :
    parseReadGroupL true (kwReadIdColon ++ d) = .ok (.readId (String.ofList d)) := by
  simp only [parseReadGroupL, readId_pieces, colonPieces_noColon _ hd, List.map_cons, List.map_nil, readId_keyword.1]
  simp only [readId_keyword.2.1, readId_keyword.2.2, if_false, if_true]

-- non-vacuity: the keyword constant is the documented keyword; a colon-free delimiter exists
example : kwReadIdColon = "read_id:".toList ∧ kwFile = "file".toList ∧ NoColon "_".toList := by decide +kernel

/-! ### `file:TABLE` on a sequence that no BAM header lists (the table grouper of Props/C09TablesChrom.lean) -/

/-- **table_grouper_on_every_reference_sequence**: `chr` is ANY sequence name — one of the reference FASTA, listed in the
    header of a BAM file or not.  The grouper of its collector is built without an exception and every read with a BAM
    record on `chr` gets the group of the whole table (`NA` without a row).  `hwf` is the BAM format: the reference of a
    record is a sequence of the header of its file.  (A sequence no header lists has no records: the empty table is
    never consulted.) -/
theorem table_grouper_on_every_reference_sequence (headers : List (List String)) (m : List (String × String))
    (alns : List (String × Option String))
    (hids : ∀ rid c, (rid, c) ∈ alns → '\t' ∉ rid.toList ∧ '\n' ∉ rid.toList)
    (hgrp : ∀ rid g, m.lookup rid = some g → '\n' ∉ g.toList)
    (hwf : ∀ rid c, (rid, some c) ∈ alns → ∃ h ∈ headers, c ∈ h)
    (chr : String) :
    ∃ m', loadSplitFile false (splitFileOf headers m chr alns) = .ok m' ∧
      ∀ a : Aln, (a.name, some chr) ∈ alns → getGroupId (.table m') a = .ok (GRes.both (tableGroup m a.name)) := by
  by_cases hc : headers.any (fun h => h.contains chr) = true
  · obtain ⟨m', hm', hl⟩ := table_roundtrip m chr alns hids hgrp
    refine ⟨m', by unfold splitFileOf; rw [if_pos hc]; simp [loadSplitFile, hm'], ?_⟩
    intro a ha
    simp only [getGroupId, hl a.name ha, tableGroup]
    cases m.lookup a.name <;> rfl
  · refine ⟨[], by unfold splitFileOf; rw [if_neg hc]; simp [loadSplitFile], ?_⟩
    intro a ha
    exfalso
    obtain ⟨h, hh, hch⟩ := hwf a.name chr ha
    apply hc
    rw [List.any_eq_true]
    exact ⟨h, hh, by simpa using hch⟩

/-- **table_grouper_orig_witness** (pinned tree + fix 3cddb34): reference FASTA {chr1, chr2}, BAM header {chr1}: the
    collector of chr2 dies with `FileNotFoundError` (exit code 255) although chr2 has no read at all; repaired: the
    empty table -/
theorem table_grouper_orig_witness :
    loadSplitFile true (splitFileOf [["chr1"]] [("r", "g")] "chr2" [("r", some "chr1")]) = .error .fileNotFound ∧
    loadSplitFile false (splitFileOf [["chr1"]] [("r", "g")] "chr2" [("r", some "chr1")]) = .ok [] ∧
    loadSplitFile true (splitFileOf [["chr1"]] [("r", "g")] "chr1" [("r", some "chr1")]) = .ok [("r", "g")] := by
  decide +kernel

/-- **table_grouper_orig_partial**: the pinned tree built the grouper for every sequence that some BAM header lists -/
theorem table_grouper_orig_partial (headers : List (List String)) (m : List (String × String))
    (alns : List (String × Option String)) (chr : String) (hc : ∃ h ∈ headers, chr ∈ h) :
    loadSplitFile true (splitFileOf headers m chr alns) = loadSplitFile false (splitFileOf headers m chr alns) := by
  have : headers.any (fun h => h.contains chr) = true := by
    rw [List.any_eq_true]
    obtain ⟨h, hh, hch⟩ := hc
    exact ⟨h, hh, by simpa using hch⟩
  unfold splitFileOf; rw [if_pos this]; simp [loadSplitFile]

-- non-vacuity of `table_grouper_on_every_reference_sequence`: two BAM files with different headers, a read on each, a
-- third reference sequence nobody lists
example : (∀ rid c, (rid, some c) ∈ [("#r1", some "chr1"), ("r2", some "chr2"), ("u", (none : Option String))] →
      ∃ h ∈ [["chr1"], ["chr1", "chr2"]], c ∈ h) ∧
    loadSplitFile false (splitFileOf [["chr1"], ["chr1", "chr2"]] [("#r1", "A "), ("r2", "")] "chr3"
      [("#r1", some "chr1"), ("r2", some "chr2"), ("u", none)]) = .ok [] ∧
    loadSplitFile false (splitFileOf [["chr1"], ["chr1", "chr2"]] [("#r1", "A "), ("r2", "")] "chr2"
      [("#r1", some "chr1"), ("r2", some "chr2"), ("u", none)]) = .ok [("r2", "")] := by
  refine ⟨?_, by decide +kernel, by decide +kernel⟩
  intro rid c h
  simp at h
  rcases h with ⟨_, rfl⟩ | ⟨_, rfl⟩ <;> simp

end IsoVerif.Props.C09Options
