/-
C11 — translation equivariance of the multimapper resolver (Model/Resolver.lean, C08), for ALL record lists, ALL
strategies and ALL shifts `k : Int` (no hypotheses: the resolver has no sentinel and no coordinate-valued constant):

  resolve s (shift k l) = shift k (resolve s l)          (errors ↦ errors)

where `shiftRec k` adds `k` to `start`, `end` and both ends of `genomic_region` of a record and keeps the ids, the
chromosome, the types, the flags, the penalty, the isoform and gene lists.  Hence the retained set is the shifted
retained set (same indices, assignment ids, types), the lexicographic tie-break of `select_noninformative`
(region start, chromosome, start, end, isoforms) is preserved, and the loader / graph-input functions see the
shifted introns of the same reads.
-/
import IsoVerif.Model.Resolver
import IsoVerif.Model.C11SymGraph
import IsoVerif.Lemmas.C11Resolver

namespace IsoVerif.Props.C11Resolver
open IsoVerif.Gen IsoVerif.Model IsoVerif.Model.C11 IsoVerif.Model.Resolver IsoVerif.Lemmas.C11 IsoVerif.Lemmas.C11.ResolverShift

theorem shiftRec_zero (r : Rec) : shiftRec 0 r = r := IsoVerif.Lemmas.C11.ResolverShift.shiftRec_zero r

theorem shiftRec_add (j k : Int) (r : Rec) : shiftRec j (shiftRec k r) = shiftRec (k + j) r :=
  IsoVerif.Lemmas.C11.ResolverShift.shiftRec_add j k r

theorem shiftRec_injective (k : Int) (a b : Rec) : shiftRec k a = shiftRec k b → a = b :=
  fun h => by
  have := congrArg (shiftRec (-k)) h
  simpa only [shiftRec_add, Int.add_right_neg, shiftRec_zero] using this

example : shiftRec 255 (shiftRec (-255) { (default : Rec) with start := 7 }) = { (default : Rec) with start := 7 } := by
  decide

/-- `BasicReadAssignment.__eq__` does not see a common shift -/
theorem shift_equivariant_recEq (k : Int) (a b : Rec) : recEq (shiftRec k a) (shiftRec k b) = recEq a b :=
  recEq_shift k a b

/-- `find_duplicates`: the same indices survive -/
theorem shift_equivariant_findDuplicates (k : Int) (keep : List IRec) :
    findDuplicates (keep.map (shiftIRec k)) = (findDuplicates keep).map (shiftIRec k) :=
  findDuplicates_shift k keep

/-- `filter_assignments`: same records flagged / suspended -/
theorem shift_equivariant_filterAssignments (k : Int) (l : List Rec) (keep : List IRec) :
    filterAssignments (shiftRecs k l) (keep.map (shiftIRec k)) = shiftRecs k (filterAssignments l keep) :=
  filterAssignments_shift k l keep

/-- `intersection_len(genomic_region, (start, end))` is invariant -/
theorem shift_equivariant_overlapLen (k : Int) (r : Rec) : overlapLen (shiftRec k r) = overlapLen r :=
  overlapLen_shift k r

theorem shift_equivariant_maxOverlap (k : Int) (non : List IRec) :
    maxOverlap (non.map (shiftIRec k)) = maxOverlap non :=
  maxOverlap_shift k non

/-- the tie-break of `select_noninformative` — lexicographic order of (region start, chromosome, start, end,
    isoforms) — is preserved (three of the components are shifted, the chromosome and the isoforms are not) -/
theorem shift_equivariant_tieKey_lt (k : Int) (x y : Rec) :
    tieKey (shiftRec k x) < tieKey (shiftRec k y) ↔ tieKey x < tieKey y :=
  tieKey_lt_shift k x y

theorem shift_equivariant_tieKey_le (k : Int) (x y : Rec) :
    tieKey (shiftRec k x) ≤ tieKey (shiftRec k y) ↔ tieKey x ≤ tieKey y := by
  rw [← List.not_lt, ← List.not_lt, tieKey_lt_shift]

/-- the region-start-only tie-break of the tree before the `fix:` commit is preserved as well -/
theorem shift_equivariant_regionStart_lt (k : Int) (x y : Rec) :
    (shiftRec k x).region.1 < (shiftRec k y).region.1 ↔ x.region.1 < y.region.1 := by
  simp only [shiftRec_region, shiftIv_fst]; omega

/-- second loop of `select_noninformative`, from any intermediate state -/
theorem shift_equivariant_pickBest (k : Int) (m : Int) (b : Option IRec) (non : List IRec) :
    pickBest m (b.map (shiftIRec k)) (non.map (shiftIRec k)) = (pickBest m b non).map (shiftIRec k) :=
  pickBest_shift k m b non

theorem shift_equivariant_pickBestBuggy (k : Int) (m : Int) (b : Option IRec) (non : List IRec) :
    pickBestBuggy m (b.map (shiftIRec k)) (non.map (shiftIRec k)) = (pickBestBuggy m b non).map (shiftIRec k) :=
  pickBestBuggy_shift k m b non

theorem shift_equivariant_bestNoninformative (k : Int) (non : List IRec) :
    bestNoninformative (non.map (shiftIRec k)) = (bestNoninformative non).map (shiftIRec k) :=
  bestNoninformative_shift k non

theorem shift_equivariant_bestInconsistent (k : Int) (inc : List IRec) :
    bestInconsistent (inc.map (shiftIRec k)) = (bestInconsistent inc).map (shiftIRec k) :=
  bestInconsistent_shift k inc

/-- the candidate set (before `find_duplicates`) -/
theorem shift_equivariant_candidates (k : Int) (l : List Rec) :
    candidates (shiftRecs k l) = (candidates l).map (List.map (shiftIRec k)) :=
  candidates_shift k l

theorem shift_equivariant_selectBestAssignment (k : Int) (l : List Rec) :
    selectBestAssignment (shiftRecs k l) = (selectBestAssignment l).map (shiftRecs k) :=
  selectBestAssignment_shift k l

/-- the tree before the `fix:` commit was order dependent, but translation equivariant -/
theorem shift_equivariant_selectBestAssignmentBuggy (k : Int) (l : List Rec) :
    selectBestAssignmentBuggy (shiftRecs k l) = (selectBestAssignmentBuggy l).map (shiftRecs k) :=
  selectBestAssignmentBuggy_shift k l

theorem shift_equivariant_mergeAssignments (k : Int) (l : List Rec) :
    mergeAssignments (shiftRecs k l) = (mergeAssignments l).map (shiftRecs k) :=
  mergeAssignments_shift k l

/-- `MultimapResolver.resolve`: all strategies, all lists, all `k`; `none` (the code raises) ↦ `none` -/
theorem shift_equivariant_resolve (s : MultimapResolvingStrategy) (k : Int) (l : List Rec) :
    resolve s (shiftRecs k l) = (resolve s l).map (shiftRecs k) :=
  resolve_shift k s l

/-- the retained records of the shifted read are the shifted retained records … -/
theorem shift_equivariant_retained (s : MultimapResolvingStrategy) (k : Int) (l : List Rec) :
    (resolve s (shiftRecs k l)).map retained = (resolve s l).map (fun out => shiftRecs k (retained out)) := by
  unfold shiftRecs
  rw [resolve_shift]
  cases resolve s l with
  | none => rfl
  | some out => simp only [Option.map_some, retained_shift]

/-- … in particular the same alignments (assignment ids), with the same types, flags and isoforms, are retained -/
theorem shift_equivariant_retained_ids (s : MultimapResolvingStrategy) (k : Int) (l : List Rec) :
    (resolve s (shiftRecs k l)).map (fun out => (retained out).map (fun r => (r.aid, r.atype, r.gtype, r.multimapper, r.isoforms)))
      = (resolve s l).map (fun out => (retained out).map (fun r => (r.aid, r.atype, r.gtype, r.multimapper, r.isoforms))) := by
  unfold shiftRecs
  rw [resolve_shift]
  cases resolve s l with
  | none => rfl
  | some out => simp only [Option.map_some, retained_shift, List.map_map]; rfl

/-- a non-trivial instance: two uninformative records tie on the overlap; the tie-break (smaller region start) picks
    the second one, before and after the shift -/
example :
    resolve .take_best (shiftRecs 1000
      [{ (default : Rec) with aid := 1, start := 100, stop := 140, region := (90, 200), atype := .noninformative },
       { (default : Rec) with aid := 2, start := 100, stop := 140, region := (80, 200), atype := .noninformative }])
    = some [{ (default : Rec) with aid := 1, start := 1100, stop := 1140, region := (1090, 1200), atype := .suspended, gtype := .suspended },
            { (default : Rec) with aid := 2, start := 1100, stop := 1140, region := (1080, 1200), atype := .noninformative }] := by
  decide

/-! ## section: Model/Resolver.lean — loader and graph input (`Full` carries the corrected introns) -/

/-- `ReadAssignmentLoader.get_next`: the verdicts carry no coordinates the loader looks at -/
theorem shift_equivariant_load (k : Int) (dict : List (Nat × List Rec)) (ras : List Full) :
    load (shiftDict k dict) (ras.map (shiftFull k)) = (load dict ras).map (List.map (shiftFull k)) := by
  simp only [load, List.any_map, Function.comp_def, raisesFor_shift, loadCore_shift]
  split <;> rfl

/-- `IntronCollector.collect_introns`: the counted introns are the shifted ones -/
theorem shift_equivariant_collectIntrons (k : Int) (storage : List Full) :
    collectIntrons (storage.map (shiftFull k)) = shiftL k (collectIntrons storage) := by
  simp only [collectIntrons, shiftL, List.filter_map, List.flatMap_map, List.map_flatMap, Function.comp_def,
    shiftFull_introns, List.isEmpty_map]
  rfl

/-- `IntronGraph.construct`: the edges are the shifted edges -/
theorem shift_equivariant_graphEdges (k : Int) (discarded : List Iv) (storage : List Full) :
    graphEdges (shiftL k discarded) (storage.map (shiftFull k))
      = (graphEdges discarded storage).map (mapPair (shiftIv k)) := by
  simp only [graphEdges, List.filter_map, List.flatMap_map, List.map_flatMap, Function.comp_def, shiftFull_introns,
    any_discarded_shift, zip_tail_shift]
  rfl

end IsoVerif.Props.C11Resolver
