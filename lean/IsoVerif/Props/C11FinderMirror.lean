/-
C11 — the polyA / polyT finder pair under reflection after the repair of the polyT head window
(`fix: the polyT head window is the mirror image of the polyA tail window`, src/polya_finder.py; model
Model/FinderMirror.lean, proofs Props/C16FinderMirror.lean).

Before the repair `find_polyt_head` scanned one clipped base less and one aligned base more than the mirror image of
`find_polya_tail`, so on A-rich read ends the two scans could settle on different bases or disagree on found / not found
(`finder_window_witness`; on the toy data this changed an assignment type and two gene counts under reflection).  After
it the two scans are THE SAME scan (`finder_scan_mirror_dual`), found / not found is symmetric
(`finder_not_found_mirror_dual`), and the only thing left of the known finding `polya_finder_not_mirror_dual` is the
constant of the position convention: `finder_mirror_minus_two` — polyT(mirror image) = max 1 (mirror(polyA) − 2) for
EVERY read whose tail starts in the soft clip or inside the last match operation (without the "clean tail" restriction
of `finder_clean_tail_minus_two`, Props/C11Finder.lean: that is the special case for the old window).
-/
import IsoVerif.Model.C11Symmetry
import IsoVerif.Props.C16FinderMirror
import IsoVerif.Props.C16FinderFix

namespace IsoVerif.Props.C11FinderMirror
open IsoVerif.Gen IsoVerif.Model IsoVerif.Model.C11 IsoVerif.Model.C16 IsoVerif.Lemmas.C16

/-- **finder_scan_mirror_dual** — read `(cigar, seq)` and mirror image `(reversed cigar, reverse complement seq')`:
    the flags the repaired `find_polyt_head` scans on the mirror image are the flags `find_polya_tail` scans on the
    read, for every `from_pos, to_pos ≥ 0` (so for both the external and the internal finder) -/
theorem finder_scan_mirror_dual (cigar : List CigarOp) (seq seq' : List Char) (f t : Int) (hnn : NonNeg cigar)
    (hclip : softClipTail cigar ≤ seq.length) (hf : 0 ≤ f) (ht : 0 ≤ t)
    (hrc : seq'.map (fun c => upperChar c == 'T') = (seq.map (fun c => upperChar c == 'A')).reverse) :
    regionTWin cigar.reverse seq' f t = regionA cigar seq f t :=
  C16FinderMirror.mirror_region cigar seq seq' f t hnn hrc

/-- **finder_not_found_mirror_dual** — `find_polya_tail(read)` finds no tail ⇒ `find_polyt_head(mirror image)` finds
    none either, and (next theorem) a found tail is found on the mirror image: the class `finder_window` of the known
    finding cannot occur on the repaired code -/
theorem finder_not_found_mirror_dual (w num den : Nat) (hw : 1 ≤ w) (s L : Int) (cigar : List CigarOp)
    (seq seq' : List Char) (f t : Int) (chk : Bool) (hne : cigar ≠ []) (hseq : seq ≠ [])
    (hclip : softClipTail cigar < seq.length) (hnn : NonNeg cigar) (hf : 0 ≤ f) (ht : 0 ≤ t)
    (hrc : seq'.map (fun c => upperChar c == 'T') = (seq.map (fun c => upperChar c == 'A')).reverse)
    (hnone : tailScan w num den chk (regionA cigar seq f t) = none) :
    findPolyaTailFix w num den s cigar seq f t chk = some (-1) ∧
    findPolytHeadWin w num den (L - referenceEnd s cigar) cigar.reverse seq' f t chk = some (-1) := by
  have h := C16FinderMirror.mirror_law_win_fix w num den s L cigar seq seq' f t chk hne hseq hclip hnn hrc
  rw [hnone] at h
  exact h

/-- **finder_mirror_minus_two** — the exact law that remains: for every read on which the polyA scan finds a tail that
    starts in the soft clip or inside the last match operation (at least one base of it before the tail),
    `find_polyt_head(mirror image) = max 1 (mirror(find_polya_tail(read)) − 2)`, `mirror x = L + 1 − x` -/
theorem finder_mirror_minus_two (w num den : Nat) (hw : 1 ≤ w) (s L : Int) (cigar : List CigarOp)
    (seq seq' : List Char) (f t : Int) (chk : Bool) (hne : cigar ≠ []) (hseq : seq ≠ [])
    (hclip : softClipTail cigar < seq.length) (hnn : NonNeg cigar) (hf : 0 ≤ f) (ht : 0 ≤ t)
    (hrc : seq'.map (fun c => upperChar c == 'T') = (seq.map (fun c => upperChar c == 'A')).reverse)
    (pA : Nat) (hA : tailScan w num den chk (regionA cigar seq f t) = some pA)
    (hclean : (seq.length : Int) - softClipTail cigar ≤ startA cigar seq f + pA ∨
      ∃ k0 l rest, walkCore cigar false = (k0, l) :: rest ∧ isAligned k0 = true ∧
        (seq.length : Int) - softClipTail cigar - (startA cigar seq f + pA) < l) :
    ∃ ra, findPolyaTailFix w num den s cigar seq f t chk = some ra ∧
      findPolytHeadWin w num den (L - referenceEnd s cigar) cigar.reverse seq' f t chk
        = some (max 1 (mirrorP L ra - 2)) := by
  have h := C16FinderMirror.mirror_law_win_fix w num den s L cigar seq seq' f t chk hne hseq hclip hnn hrc
  rw [hA] at h
  obtain ⟨ra, h1, h2⟩ := h hclean
  refine ⟨ra, h1, ?_⟩
  rw [h2]; unfold mirrorP; congr 2; omega

/-- non-vacuity (the instance of `finder_mirror_minus_two_witness`): `20M 20S` at 99, 20 C + 20 A, L = 1000 -/
example :
    findPolyaTailFix 16 3 4 99 [(.«match», 20), (.soft_clipping, 20)] (List.replicate 20 'C' ++ List.replicate 20 'A') 2 32 false
      = some 119 ∧
    findPolytHeadWin 16 3 4 (1000 - 119) [(.soft_clipping, 20), (.«match», 20)]
      (List.replicate 20 'T' ++ List.replicate 20 'G') 2 32 false = some 880 ∧
    max 1 (mirrorP 1000 119 - 2) = 880 := by decide +kernel

/-- **finder_window_witness** — the code before the repair (`findPolytHeadFix`: the OLD window; `Fix` in its name is the
    repaired projection only): polyA found on the read (101), nothing found on its mirror image; the repaired function
    `findPolytHeadWin` finds it (899) -/
theorem finder_window_witness :
    findPolyaTailFix 16 3 4 100 [(.«match», 17), (.soft_clipping, 3)] "AAAAAACACCCAAAAAAACA".toList 64 2 true = some 101 ∧
    findPolytHeadFix 16 3 4 (1000 - 117) [(.soft_clipping, 3), (.«match», 17)] "TGTTTTTTTGGGTGTTTTTT".toList 64 2 true
      = some (-1) ∧
    findPolytHeadWin 16 3 4 (1000 - 117) [(.soft_clipping, 3), (.«match», 17)] "TGTTTTTTTGGGTGTTTTTT".toList 64 2 true
      = some 899 :=
  C16FinderMirror.window_mirror_witness

/-- **finder_mirror_offset** — the law for a tail that starts ANYWHERE inside the aligned part
    (`d ≥ 2` aligned tail bases): with `c1` the alignment column of the first tail base, `c2` the column of the read base
    before it and `mid` the reference-only columns between them,
    `find_polyt_head(mirror image) = max 1 (mirror(find_polya_tail(read)) − 1 − g)`,
    `g = #reference bases of mid + (1 if the base before the tail is aligned, 0 if it is inserted)`;
    `finder_mirror_minus_two` is `g = 1`.  (`C16FinderFix.mirror_law_general` also covers `d = 1`;
    `C16FinderFix.mirror_offset_witness`: offsets −2, −4, −1 for one and the same tail.) -/
theorem finder_mirror_offset (w num den : Nat) (s L : Int) (cigar : List CigarOp)
    (seq seq' : List Char) (f t : Int) (chk : Bool) (hne : cigar ≠ []) (hseq : seq ≠ [])
    (hclip : softClipTail cigar < seq.length) (hnn : NonNeg cigar) (hf : 0 ≤ f) (ht : 0 ≤ t)
    (hrc : seq'.map (fun c => upperChar c == 'T') = (seq.map (fun c => upperChar c == 'A')).reverse)
    (pA d : Nat) (hA : tailScan w num den chk (regionA cigar seq f t) = some pA)
    (hd : (d : Int) = (seq.length : Int) - softClipTail cigar - (startA cigar seq f + pA)) (hd2 : 2 ≤ d)
    (pre mid post : List (Bool × Bool)) (c1 c2 : Bool × Bool)
    (hcols : expand (walkCore cigar false) = pre ++ c1 :: (mid ++ c2 :: post))
    (h1 : c1.1 = true) (h2 : c2.1 = true) (hmid : ∀ m ∈ mid, m.1 = false) (hj : qCount pre = d - 1) :
    ∃ ra, findPolyaTailFix w num den s cigar seq f t chk = some ra ∧
      findPolytHeadWin w num den (L - referenceEnd s cigar) cigar.reverse seq' f t chk =
        some (max 1 (mirrorP L ra - 1 - ((rCount mid : Int) + c2.2.toNat))) := by
  obtain ⟨ra, h1', h2'⟩ := C16FinderFix.mirror_law_offset w num den s L cigar seq seq' f t chk hne hseq hclip hnn hf ht hrc
    pA d hA hd hd2 pre mid post c1 c2 hcols h1 h2 hmid hj
  refine ⟨ra, h1', ?_⟩
  rw [h2']; unfold mirrorP; congr 2; omega

/-- non-vacuity: read (b) of `mirror_offset_witness` (`6M 2D 3M 4S`): polyA 106, polyT of the mirror image
    `mirror(106) − 1 − 3 = 891` -/
example :
    findPolyaTailFix 4 3 4 100 [(.«match», 6), (.deletion, 2), (.«match», 3), (.soft_clipping, 4)] "CCCCCCAAAAAAA".toList 16 2 true
      = some 106 ∧
    findPolytHeadWin 4 3 4 (1000 - 111) [(.soft_clipping, 4), (.«match», 3), (.deletion, 2), (.«match», 6)]
      "TTTTTTTGGGGGG".toList 16 2 true = some (max 1 (mirrorP 1000 106 - 1 - 3)) := by decide +kernel

end IsoVerif.Props.C11FinderMirror
