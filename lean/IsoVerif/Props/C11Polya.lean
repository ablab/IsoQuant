/-
C11 — the mirrored code pairs of src/polya_verification.py (Model/C11Polya.lean):

  count_polya_exons ↔ count_polyt_exons   and   shift_polya ↔ shift_polyt   are each other's mirror image
  (exon list reversed and mirrored, position mirrored, result position mirrored), and each of the four is
  translation equivariant — for ALL exon lists (sorted or not), ALL counts, ALL `k`, `L : Int`.

The only hypothesis is about the sentinel −1 ("no polyA/polyT found"): a real position must not be mapped onto it.
-/
import IsoVerif.Model.C11Polya
import IsoVerif.Lemmas.C11PolyA16

namespace IsoVerif.Props.C11Polya
open IsoVerif.Gen IsoVerif.Model IsoVerif.Model.C11 IsoVerif.Lemmas IsoVerif.Lemmas.C11

theorem mirror_dual_countPolyaExons (L mf : Int) (exons : List Iv) (pos : Int) (h : pos ≠ -1 → L + 1 - pos ≠ -1) :
    countPolytExons mf (mirrorL L exons) (mirrorPos L pos) = countPolyaExons mf exons pos := by
  simp only [countPolytExons, countPolyaExons, mirrorPos]
  by_cases c : pos = -1
  · simp [c]
  · simp only [c, if_false, h c, mirrorL_eq_map_reverse, countPolytLoop_mirror]

theorem mirror_dual_countPolytExons (L mf : Int) (exons : List Iv) (pos : Int) (h : pos ≠ -1 → L + 1 - pos ≠ -1) :
    countPolyaExons mf (mirrorL L exons) (mirrorPos L pos) = countPolytExons mf exons pos := by
  simp only [countPolytExons, countPolyaExons, mirrorPos]
  by_cases c : pos = -1
  · simp [c]
  · simp only [c, if_false, h c, mirrorL_reverse, countPolyaLoop_mirror]

theorem mirror_dual_shiftPolya (L : Int) (exons : List Iv) (cnt : Nat) (pos : Int) (hp : pos ≠ -1) (h : L + 1 - pos ≠ -1) :
    shiftPolyt (mirrorL L exons) cnt (L + 1 - pos) = (shiftPolya exons cnt pos).map (mirrorP L) := by
  simp only [shiftPolyt, shiftPolya, mirrorL_length, hp, h, or_false]
  by_cases c : cnt = 0 ∨ cnt = exons.length
  · simp [c, mirrorP]
  · simp only [c, if_false]
    rw [mirrorL_eq_map_reverse, ← List.map_take, shiftPolytLoop_mirror]
    simp only [List.getElem?_map]
    cases exons.reverse[cnt]? <;> simp [mirrorP, mirrorIv]; omega

theorem mirror_dual_shiftPolyt (L : Int) (exons : List Iv) (cnt : Nat) (pos : Int) (hp : pos ≠ -1) (h : L + 1 - pos ≠ -1) :
    shiftPolya (mirrorL L exons) cnt (L + 1 - pos) = (shiftPolyt exons cnt pos).map (mirrorP L) := by
  simp only [shiftPolyt, shiftPolya, mirrorL_length, hp, h, or_false]
  by_cases c : cnt = 0 ∨ cnt = exons.length
  · simp [c, mirrorP]
  · simp only [c, if_false]
    rw [mirrorL_reverse, ← List.map_take, shiftPolyaLoop_mirror]
    simp only [List.getElem?_map]
    cases exons[cnt]? <;> simp [mirrorP, mirrorIv]; omega

theorem shift_equivariant_countPolyExons (k mf : Int) (exons : List Iv) (pos : Int) (h : pos ≠ -1 → pos + k ≠ -1) :
    countPolyaExons mf (shiftL k exons) (shiftPos k pos) = countPolyaExons mf exons pos ∧
    countPolytExons mf (shiftL k exons) (shiftPos k pos) = countPolytExons mf exons pos := by
  simp only [countPolytExons, countPolyaExons, shiftPos]
  by_cases c : pos = -1
  · simp [c]
  · simp only [c, if_false, h c, ← shiftL_reverse, countPolyaLoop_shift, countPolytLoop_shift, and_self]

theorem shift_equivariant_shiftPolya (k : Int) (exons : List Iv) (cnt : Nat) (pos : Int) (hp : pos ≠ -1) (h : pos + k ≠ -1) :
    shiftPolya (shiftL k exons) cnt (pos + k) = (shiftPolya exons cnt pos).map (· + k) ∧
    shiftPolyt (shiftL k exons) cnt (pos + k) = (shiftPolyt exons cnt pos).map (· + k) := by
  simp only [shiftPolyt, shiftPolya, shiftL_length, hp, h, or_false]
  by_cases c : cnt = 0 ∨ cnt = exons.length
  · simp [c]
  · simp only [c, if_false, ← shiftL_reverse, ← shiftL_take, shiftPolyaLoop_shift, shiftPolytLoop_shift, shiftL_getElem?]
    constructor
    · cases exons.reverse[cnt]? <;> simp; omega
    · cases exons[cnt]? <;> simp; omega

/-- the sentinel is kept by both members of each pair (nothing to shift or mirror) -/
theorem polya_sentinel_fixed (mf : Int) (exons : List Iv) (cnt : Nat) :
    countPolyaExons mf exons (-1) = 0 ∧ countPolytExons mf exons (-1) = 0 ∧
    shiftPolya exons cnt (-1) = some (-1) ∧ shiftPolyt exons cnt (-1) = some (-1) := by
  simp [countPolyaExons, countPolytExons, shiftPolya, shiftPolyt]

-- non-vacuity: a read whose last exon is mostly polyA: one fake exon, the site moves to the previous exon
example : countPolyaExons 40 [(100, 200), (300, 330)] 305 = 1 ∧ shiftPolya [(100, 200), (300, 330)] 1 305 = some 205 ∧
    countPolytExons 40 (mirrorL 1000 [(100, 200), (300, 330)]) (mirrorPos 1000 305) = 1 ∧
    shiftPolyt (mirrorL 1000 [(100, 200), (300, 330)]) 1 (1000 + 1 - 305) = some (mirrorP 1000 205) := by decide

end IsoVerif.Props.C11Polya
