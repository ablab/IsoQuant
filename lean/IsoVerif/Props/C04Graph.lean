/-
C04 — the intron graph never invents an intron.
Property theorems only; helper lemmas live in IsoVerif/Lemmas/IntronGraph.lean.
Model: IsoVerif/Model/IntronGraph.lean (IntronCollector, IntronGraph as operations, thread_introns).
-/
import IsoVerif.Model.IntronGraph
import IsoVerif.Lemmas.IntronGraph

namespace IsoVerif.Props.C04Graph
open IsoVerif.Gen IsoVerif.Model IsoVerif.Model.C04 IsoVerif.Lemmas.C04

/-- `v` is an intron of the corrected alignment of some non-multimapper read -/
def Observed (reads : List Read) (v : Iv) : Prop := ∃ r ∈ reads, r.multimapper = false ∧ v ∈ r.introns

/-- `IntronGraph.construct()` never raises: every `add_edge` call has observed arguments -/
theorem construct_never_fails (known : List Iv) (δ minCount : Int) (reads : List Read) :
    ∃ g, Graph.constructed known δ reads minCount = some g := by
  unfold Graph.constructed
  exact runOps_addEdges_isSome _ _ (constructOps_scoped _ reads)

/-- **vertices_observed.** After `intron_collector.process`, `construct()` and ANY history of graph operations
    (collapse, deletions, discards, defaultdict reads, `simplify_correction_map`, attaching terminal vertices — in any
    order and number, as long as each takes its arguments from the graph itself), every intron vertex the graph
    mentions — keys of `clustered_introns`, keys and images of the correction map, discarded introns, endpoints of
    edges — is an intron of the corrected alignment of some non-multimapper read. -/
theorem vertices_observed (known : List Iv) (δ minCount : Int) (reads : List Read) (ops : List Op) (g0 g : Graph)
    (h0 : Graph.constructed known δ reads minCount = some g0)
    (h : runOps (obsIntrons reads) g0 ops = some g) :
    ∀ v ∈ g.verts, Observed reads v := by
  have h2 := runOps_gsub _ (runOps_gsub _ (init_gsub known δ reads minCount) h0) h
  exact fun v hv => mem_obsIntrons.1 ((gsub_iff g _).1 h2 v hv)

/-- the images of the correction map in particular -/
theorem correction_images_observed (known : List Iv) (δ minCount : Int) (reads : List Read) (ops : List Op) (g0 g : Graph)
    (h0 : Graph.constructed known δ reads minCount = some g0)
    (h : runOps (obsIntrons reads) g0 ops = some g) (k s : Iv) (hk : amGet? g.col.corr k = some s) :
    Observed reads s :=
  (((gsub_iff g _).2 (vertices_observed known δ minCount reads ops g0 g h0 h)).col.co _ (amGet?_mem hk)).2

/-- three reads over two introns (read `b` with a shifted acceptor) and a multimapper -/
def exReads : List Read :=
  [⟨"a", [(10, 20), (30, 40)], [(1, 9), (21, 29), (41, 50)], false, "+", true, false, "g"⟩,
   ⟨"b", [(10, 20), (30, 42)], [(1, 9), (21, 29), (43, 50)], false, "+", true, false, "g"⟩,
   ⟨"c", [(10, 20), (30, 40)], [(1, 9), (21, 29), (41, 50)], false, "+", true, false, "g"⟩,
   ⟨"m", [(11, 19)], [(1, 10), (20, 50)], true, "+", false, false, "g"⟩]

/-- non-vacuity: a history with a collapse and a map simplification runs to completion and leaves a non-empty graph -/
example : ((Graph.constructed [] 0 exReads 1).bind (fun g0 =>
      runOps (obsIntrons exReads) g0 [.collapse (30, 42) (30, 40), .delVertex (30, 42), .simplifyMap,
        .attachOut (30, 40) (VERTEX_polya, 50)])).map (fun g => (g.col.corr, g.out.length))
    = some ([((30, 42), (30, 40))], 2) := by
  decide +kernel

/-- the multimapper's intron never becomes a vertex -/
example : (Graph.constructed [] 0 exReads 1).map (fun g0 => decide ((11, 19) ∈ g0.verts)) = some false := by
  decide +kernel

/-- **thread_path_observed.** The intron path `thread_introns` produces for a non-multimapper read consists of
    observed introns (each is the read's own intron or an image of the correction map). -/
theorem thread_path_observed (known : List Iv) (δ minCount : Int) (reads : List Read) (ops : List Op) (g0 g : Graph)
    (h0 : Graph.constructed known δ reads minCount = some g0)
    (h : runOps (obsIntrons reads) g0 ops = some g)
    (r : Read) (hr : r ∈ reads) (hm : r.multimapper = false) (path : List Iv)
    (ht : threadIntrons g.col r.introns = some path) :
    ∀ p ∈ path, Observed reads p := by
  have h2 := runOps_gsub _ (runOps_gsub _ (init_gsub known δ reads minCount) h0) h
  exact fun p hp => mem_obsIntrons.1
    (threadIntrons_sub h2.col r.introns (fun i hi => mem_obsIntrons.2 ⟨r, hr, hm, hi⟩) ht p hp)

/-- operations that leave the correction map and the discarded set alone (what follows `simplify_correction_map`
    in `IntronGraph.__init__`: `attach_terminal_positions`) -/
def colNeutral : Op → Bool
  | .touch _ => true
  | .attachOut _ _ => true
  | .attachInc _ _ => true
  | .delOut _ => true
  | .delInc _ => true
  | .delVertex _ => true
  | _ => false

/-- **correction_map_clean.** Once `simplify_correction_map` has run (whatever happened before it), and only
    terminal-vertex attachments / defaultdict reads / key deletions follow, no image of the correction map is itself
    a key of the map or a discarded intron: `substitute` is idempotent and never yields a discarded intron. -/
theorem correction_map_clean (obs : List Iv) (g g1 g2 : Graph) (pre post : List Op)
    (h1 : runOps obs g (pre ++ [Op.simplifyMap]) = some g1)
    (hpost : ∀ op ∈ post, colNeutral op = true)
    (h2 : runOps obs g1 post = some g2) : MapClean g2.col := by
  rw [runOps_append] at h1
  obtain ⟨gp, _, h1⟩ := Option.bind_eq_some_iff.1 h1
  have hc1 : MapClean g1.col := by
    rw [runOps, opScoped, if_pos rfl, applyOp] at h1
    cases hs : gp.col.simplifyCorrectionMap with
    | none => rw [hs] at h1; cases h1
    | some c' => rw [hs] at h1; cases h1; exact simplifyCorrectionMap_clean hs
  refine runOps_inv (I := fun g => MapClean g.col) post hc1 (fun x op y hop hx _ hy => ?_) h2
  have hn := hpost op hop
  cases op with
  | touch v => cases hy; unfold MapClean; rw [(touch_corr _ v).1, (touch_corr _ v).2]; exact hx
  | attachOut _ _ | attachInc _ _ | delOut _ | delInc _ | delVertex _ => cases hy; exact hx
  | _ => cases hn

end IsoVerif.Props.C04Graph
