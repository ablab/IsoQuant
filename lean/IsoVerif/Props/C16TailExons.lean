/-
C16 — which exons `PolyAFixer` / `AlignmentInfo.add_polya_info` remove, in terms of the finder's
specification (src/polya_verification.py `count_polya_exons`, `count_polyt_exons`, `correct_read_info`;
src/alignment_info.py `add_polya_info`; src/polya_finder.py).

* `polya_counted_iff` / `polyt_counted_iff`: the per-exon test, in plain arithmetic: an exon "consists of the tail"
  when it ends after the internal polyA position `x` and either starts at or after `x` or has at most
  `max_fake_terminal_exon_len` bases before `x` and more than twice as many after (mirror for polyT);
* `count_polya_exons_spec` / `count_polyt_exons_spec`: on a sorted disjoint exon list the loop counts exactly the
  exons with that test, and these are the LAST (FIRST) exons of the list — no recursion on the right-hand side;
* `trimmed_exons_are_tail_exons`: for every sorted exon list and every position quadruple, every exon removed by
  `add_polya_info` passes the test of its side (soundness: an exon is removed ONLY IF the internal position lies
  before its end / after its start as stated), and when the two sides do not compete for the exons every exon
  passing the test is removed (completeness);
* `record_removed_exons_are_tail`: the same for one alignment record with the positions coming from the modelled
  finder: a removed exon implies that the internal finder's specification `TailStart` holds on the scanned region and
  the position is the projection `find_polya_tail_char` describes.
Never all exons / positions moved onto the retained exon: `trim_nonempty_sorted`, `tail_moved_onto_retained`,
`record_tail_on_retained_exon` (Props/C16PolyA.lean, Props/C16TailRecord.lean) — reused, not restated.
-/
import IsoVerif.Lemmas.TailExons
import IsoVerif.Props.C16TailRecord
import IsoVerif.Props.C16FinderChar

namespace IsoVerif.Props.C16TailExons
open IsoVerif.Gen IsoVerif.Model IsoVerif.Model.C16 IsoVerif.Lemmas.C16

/-- **polya_counted_iff** — the test `count_polya_exons` applies to one exon `e` for the internal polyA position `x`
    (1-based coordinate of the base before the tail): `e` ends after `x`, and either `e` starts at or after `x` (it lies
    wholly beyond the tail start) or at most `max_fake` bases of `e` precede `x` and more than twice as many follow -/
theorem polya_counted_iff (mf x : Int) (e : Iv) :
    polyaCounted mf x e = true ↔ x < e.2 ∧ (x ≤ e.1 ∨ (x - e.1 ≤ mf ∧ 2 * (x - e.1) < e.2 - x)) := by
  simp only [polyaCounted, isPolyaExon, Bool.and_eq_true, Bool.or_eq_true, decide_eq_true_eq]
  constructor
  · rintro ⟨h1, h2 | ⟨h2, h3⟩⟩
    · exact ⟨by omega, Or.inl (by omega)⟩
    · exact ⟨by omega, Or.inr ⟨h2, by omega⟩⟩
  · rintro ⟨h1, h2 | ⟨h2, h3⟩⟩
    · exact ⟨by omega, Or.inl (by omega)⟩
    · exact ⟨by omega, Or.inr ⟨h2, by omega⟩⟩

/-- **polyt_counted_iff** — mirror image for the internal polyT position `x` (0-based coordinate of the last head base) -/
theorem polyt_counted_iff (mf x : Int) (e : Iv) :
    polytCounted mf x e = true ↔ e.1 < x ∧ (e.2 ≤ x ∨ (e.2 - x ≤ mf ∧ 2 * (e.2 - x) < x - e.1)) := by
  rw [polytCounted_flip, polya_counted_iff]
  simp only [flipIv]
  constructor <;> intro h <;> omega

/-- **count_polya_exons_spec** — for every sorted disjoint exon list and every position `x ≠ −1`:
    `count_polya_exons` = the number of exons that pass the per-exon test, and an exon passes the test iff it is one of
    the last `count` exons of the list -/
theorem count_polya_exons_spec (mf : Int) (exons : List Iv) (x : Int) (hsd : SD exons) (hx : x ≠ -1) :
    countPolyaExons mf exons x = (exons.countP (polyaCounted mf x) : Nat) ∧
    ∀ e ∈ exons, polyaCounted mf x e = true ↔ e ∈ exons.drop (exons.length - exons.countP (polyaCounted mf x)) := by
  have hcount : countPolyaExons mf exons x = (exons.countP (polyaCounted mf x) : Nat) := by
    unfold countPolyaExons
    rw [if_neg hx, countPolyaLoop_eq_countP mf x _ 0 hsd.desc_reverse, List.countP_reverse]
    simp
  have hall : ∀ e ∈ exons.drop (exons.length - exons.countP (polyaCounted mf x)), polyaCounted mf x e = true := by
    intro e he
    apply counted_take_polya mf x exons.reverse 0 (exons.countP (polyaCounted mf x)) hsd.desc_reverse
    · have := hcount; unfold countPolyaExons at this; rw [if_neg hx] at this; rw [this]; simp
    · rw [List.take_reverse, List.mem_reverse]; exact he
  refine ⟨hcount, fun e he => ⟨fun hp => ?_, fun hd => hall e hd⟩⟩
  exact IsoVerif.Lemmas.mem_drop_of_countP _ exons _ List.countP_le_length hall rfl e he hp

/-- **count_polyt_exons_spec** — mirror image: the counted exons are the first `count` exons of the list -/
theorem count_polyt_exons_spec (mf : Int) (exons : List Iv) (x : Int) (hsd : SD exons) (hx : x ≠ -1) :
    countPolytExons mf exons x = (exons.countP (polytCounted mf x) : Nat) ∧
    ∀ e ∈ exons, polytCounted mf x e = true ↔ e ∈ exons.take (exons.countP (polytCounted mf x)) := by
  have hcount : countPolytExons mf exons x = (exons.countP (polytCounted mf x) : Nat) := by
    unfold countPolytExons
    rw [if_neg hx, countPolytLoop_eq_countP mf x _ 0 hsd]
    simp
  have hall : ∀ e ∈ exons.take (exons.countP (polytCounted mf x)), polytCounted mf x e = true := by
    intro e he
    apply counted_take_polyt mf x exons 0 (exons.countP (polytCounted mf x)) hsd
    · have := hcount; unfold countPolytExons at this; rw [if_neg hx] at this; rw [this]; simp
    · exact he
  refine ⟨hcount, fun e he => ⟨fun hp => ?_, fun hd => hall e hd⟩⟩
  exact IsoVerif.Lemmas.mem_take_of_countP _ exons _ hall List.countP_le_length rfl e he hp

/-- non-vacuity: three exons, internal polyA at 302 (two bases into the second exon): the last two are counted -/
example : countPolyaExons 40 [(100, 200), (300, 310), (400, 420)] 302 = 2 ∧
    ([(100, 200), (300, 310), (400, 420)] : List Iv).countP (polyaCounted 40 302) = 2 := by decide

/-- **trimmed_exons_are_tail_exons** — for every sorted disjoint non-empty exon list, every position quadruple and
    every `max_fake_terminal_exon_len`: `add_polya_info` keeps `exons[t : len − a]`, and
    * (only if) every exon removed at the 3' end passes the polyA test for the internal polyA position, which is then
      present (≠ −1); every exon removed at the 5' end passes the polyT test for the internal polyT position;
    * (if) when the two counts leave at least one exon (`count_A + count_T < len`, no competition), every exon that
      passes a test is removed on that side. -/
theorem trimmed_exons_are_tail_exons (mf : Int) (exons rb cb : List Iv) (info : PolyAInfo) (hsd : SD exons)
    (hne : exons ≠ []) :
    ∃ (r : AInfo) (a t : Int), addPolyaInfo mf exons rb cb info = some r ∧
      correctReadInfo mf exons info = some (a, t) ∧ a.toNat + t.toNat < exons.length ∧
      r.exons = (exons.take (exons.length - a.toNat)).drop t.toNat ∧
      (∀ e ∈ exons.drop (exons.length - a.toNat),
        info.internalPolyA ≠ -1 ∧ polyaCounted mf info.internalPolyA e = true) ∧
      (∀ e ∈ exons.take t.toNat, info.internalPolyT ≠ -1 ∧ polytCounted mf info.internalPolyT e = true) ∧
      (countPolyaExons mf exons info.internalPolyA + countPolytExons mf exons info.internalPolyT < exons.length →
        (∀ e ∈ exons, info.internalPolyA ≠ -1 → polyaCounted mf info.internalPolyA e = true →
          e ∈ exons.drop (exons.length - a.toNat)) ∧
        (∀ e ∈ exons, info.internalPolyT ≠ -1 → polytCounted mf info.internalPolyT e = true →
          e ∈ exons.take t.toNat)) := by
  obtain ⟨r, a, t, run⟩ := addPolyaInfo_run mf exons rb cb info hne
  refine ⟨r, a, t, run.res, run.cri, run.lt, run.exons_eq, fun e he => ?_, fun e he => ?_, ?_⟩
  · have ha0 : 0 < a.toNat := Nat.pos_of_ne_zero fun h0 => by
      rw [h0, Nat.sub_zero, List.drop_length] at he; cases he
    obtain ⟨hx, hall⟩ := counted_last mf (pos := info.internalPolyA) hsd (by have := run.le_countA; omega) ha0
    exact ⟨hx, hall e he⟩
  · have ht0 : 0 < t.toNat := Nat.pos_of_ne_zero fun h0 => by
      rw [h0, List.take_zero] at he; cases he
    obtain ⟨hx, hall⟩ := counted_first mf (pos := info.internalPolyT) hsd (by have := run.le_countT; omega) ht0
    exact ⟨hx, hall e he⟩
  · intro hfree
    obtain ⟨ha, ht⟩ := run.eq_counts hfree
    constructor
    · intro e he hx hp
      obtain ⟨h1, h2⟩ := count_polya_exons_spec mf exons _ hsd hx
      have : a.toNat = exons.countP (polyaCounted mf info.internalPolyA) := by omega
      rw [this]
      exact (h2 e he).1 hp
    · intro e he hx hp
      obtain ⟨h1, h2⟩ := count_polyt_exons_spec mf exons _ hsd hx
      have : t.toNat = exons.countP (polytCounted mf info.internalPolyT) := by omega
      rw [this]
      exact (h2 e he).1 hp

/-- non-vacuity: the example of `tail_moved_onto_retained` — both fake exons pass the test and are removed -/
example : SD [(100, 200), (300, 310), (400, 420)] ∧
    correctReadInfo 40 [(100, 200), (300, 310), (400, 420)] ⟨425, -1, 302, -1⟩ = some (2, 0) ∧
    polyaCounted 40 302 (300, 310) = true ∧ polyaCounted 40 302 (400, 420) = true ∧
    polyaCounted 40 302 (100, 200) = false := by decide

/-- **tail_offset_bounded** — the offset `d` of `tail_on_retained_exon` (Props/C16PolyA.lean): the recorded internal
    position lies `d = max 0 (internal − start of the first removed exon)` past the end of the retained exon; the first
    removed exon passes the polyA test, so `d ≤ max 0 max_fake_terminal_exon_len` and `2·d` is less than the number of
    bases of that exon after the position (fewer than a third of the exon lies before the tail).  Mirror at the 5' end. -/
theorem tail_offset_bounded (mf : Int) (exons rb cb : List Iv) (info : PolyAInfo) (hsd : SD exons)
    (hne : exons ≠ []) :
    ∃ (r : AInfo) (a t : Int), addPolyaInfo mf exons rb cb info = some r ∧
      correctReadInfo mf exons info = some (a, t) ∧
      (0 < a → ∃ firstRemoved : Iv, exons[exons.length - a.toNat]? = some firstRemoved ∧
        max 0 (info.internalPolyA - firstRemoved.1) ≤ max 0 mf ∧
        2 * max 0 (info.internalPolyA - firstRemoved.1) < firstRemoved.2 - info.internalPolyA) ∧
      (0 < t → ∃ lastRemoved : Iv, exons[t.toNat - 1]? = some lastRemoved ∧
        max 0 (lastRemoved.2 - info.internalPolyT) ≤ max 0 mf ∧
        2 * max 0 (lastRemoved.2 - info.internalPolyT) < info.internalPolyT - lastRemoved.1) := by
  obtain ⟨r, a, t, run⟩ := addPolyaInfo_run mf exons rb cb info hne
  refine ⟨r, a, t, run.res, run.cri, fun ha => ?_, fun ht => ?_⟩
  · have hm := run.firstRemoved_lt ha
    obtain ⟨_, hall⟩ := counted_last mf (pos := info.internalPolyA) (k := a.toNat) hsd
      (by have := run.le_countA; omega) (by omega)
    have hc := (polya_counted_iff _ _ _).1
      (hall _ (by rw [List.drop_eq_getElem_cons hm]; exact List.mem_cons_self))
    exact ⟨_, List.getElem?_eq_getElem hm, by omega⟩
  · obtain ⟨_, hall⟩ := counted_first mf (pos := info.internalPolyT) (k := t.toNat) hsd
      (by have := run.le_countT; omega) (by omega)
    have hc := (polyt_counted_iff _ _ _).1
      (hall _ (List.mem_take_iff_getElem.2 ⟨t.toNat - 1, by have := run.lt; omega, rfl⟩))
    exact ⟨_, List.getElem?_eq_getElem run.lastRemoved_lt, by omega⟩

example : SD [(100, 200), (300, 310), (400, 420)] ∧
    correctReadInfo 40 [(100, 200), (300, 310), (400, 420)] ⟨425, -1, 302, -1⟩ = some (2, 0) := by decide

/-- **record_removed_exons_are_tail** — one alignment record (`reference_start ≥ 0`, SAM-valid CIGAR over all nine kinds,
    any sequence, any window), tail positions from the modelled finder, at least one exon: `add_polya_info` returns
    the exons `exons[t : len − a]`, and for every exon `e` removed at the 3' end
    * the internal finder found a tail: its specification `TailStart` holds at some position `p` of the region it scans
      (the last `4·window` bases before the soft clip and the first 3 clipped bases, entire-tail test on), the call
      returned the recorded internal position `x ≠ −1` (so `x` is what `find_polya_tail_char` says: the 1-based
      reference coordinate of the base before the tail, projected base by base), and
    * `e` passes the polyA test for `x`: `x < e.end` and (`x ≤ e.start` or `x − e.start ≤ max_fake` and
      `2·(x − e.start) < e.end − x`);
    mirror statement for every exon removed at the 5' end with the internal polyT position. -/
theorem record_removed_exons_are_tail (w num den : Nat) (s : Int) (ops : List CigarOp)
    (seq : List Char) (mf : Int) (info : PolyAInfo) (hs : 0 ≤ s) (hp : Pos ops)
    (hdet : detectPolya w num den s ops seq = some info)
    (hne : (getReadBlocks s ops).refBlocks ≠ []) :
    ∃ (r : AInfo) (a t : Int),
      addPolyaInfo mf (getReadBlocks s ops).refBlocks (getReadBlocks s ops).readBlocks
        (getReadBlocks s ops).cigarBlocks info = some r ∧
      correctReadInfo mf (getReadBlocks s ops).refBlocks info = some (a, t) ∧
      r.exons = ((getReadBlocks s ops).refBlocks.take ((getReadBlocks s ops).refBlocks.length - a.toNat)).drop t.toNat ∧
      (∀ e ∈ (getReadBlocks s ops).refBlocks.drop ((getReadBlocks s ops).refBlocks.length - a.toNat),
        info.internalPolyA ≠ -1 ∧
        findPolyaTail w num den s ops seq (4 * (w : Int)) 2 true = some info.internalPolyA ∧
        (∃ p, TailStart w num den true (regionA ops seq (4 * (w : Int)) 2) p) ∧
        info.internalPolyA < e.2 ∧
        (info.internalPolyA ≤ e.1 ∨
          (info.internalPolyA - e.1 ≤ mf ∧ 2 * (info.internalPolyA - e.1) < e.2 - info.internalPolyA))) ∧
      (∀ e ∈ (getReadBlocks s ops).refBlocks.take t.toNat,
        info.internalPolyT ≠ -1 ∧
        findPolytHead w num den s ops seq (4 * (w : Int)) 2 true = some info.internalPolyT ∧
        (∃ p, TailStart w num den true (regionT ops seq (4 * (w : Int)) 2) p) ∧
        e.1 < info.internalPolyT ∧
        (e.2 ≤ info.internalPolyT ∨
          (e.2 - info.internalPolyT ≤ mf ∧ 2 * (e.2 - info.internalPolyT) < info.internalPolyT - e.1))) := by
  have hsw := C16.exons_sorted_wf s ops hs hp
  have hsd : SD (getReadBlocks s ops).refBlocks := ⟨fun e he => (hsw.1 e he).2, hsw.2⟩
  obtain ⟨r, a, t, hr, hcri, _, hre, hA, hT, _⟩ :=
    trimmed_exons_are_tail_exons mf _ (getReadBlocks s ops).readBlocks (getReadBlocks s ops).cigarBlocks info hsd hne
  unfold detectPolya at hdet
  simp only [Option.bind_eq_bind, Option.bind_eq_some_iff, Option.some.injEq] at hdet
  obtain ⟨ea, hea, et, het, ia, hia, it, hit, rfl⟩ := hdet
  refine ⟨r, a, t, hr, hcri, hre, ?_, ?_⟩
  · intro e he
    obtain ⟨hx, hc⟩ := hA e he
    exact ⟨hx, hia, polya_found_tailStart _ w num den s ops seq _ _ _ _ hia hx, (polya_counted_iff mf ia e).1 hc⟩
  · intro e he
    obtain ⟨hx, hc⟩ := hT e he
    exact ⟨hx, hit, polyt_found_tailStart _ w num den s ops seq _ _ _ _ hit hx, (polyt_counted_iff mf it e).1 hc⟩

/-- non-vacuity (the record of `record_tail_on_retained_exon`): `60M 100N 20M 20S` at 1000, 62 C + 38 A: internal polyA
    1162, the second exon (1161, 1180) passes the test (1 base before, 18 after) and is the one removed -/
example :
    let ops : List CigarOp := [(.«match», 60), (.skipped, 100), (.«match», 20), (.soft_clipping, 20)]
    let seq : List Char := List.replicate 62 'C' ++ List.replicate 38 'A'
    detectPolya 16 3 4 1000 ops seq = some ⟨1178, -1, 1162, -1⟩ ∧
    (getReadBlocks 1000 ops).refBlocks = [(1001, 1060), (1161, 1180)] ∧
    correctReadInfo 40 (getReadBlocks 1000 ops).refBlocks ⟨1178, -1, 1162, -1⟩ = some (1, 0) ∧
    polyaCounted 40 1162 (1161, 1180) = true ∧ polyaCounted 40 1162 (1001, 1060) = false := by decide

end IsoVerif.Props.C16TailExons
