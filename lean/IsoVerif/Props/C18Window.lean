/-
C18 — "the Canonical flag ... is True exactly when every intron has a canonical dinucleotide pair on the reported strand
IN THE REFERENCE FASTA": the window of the chromosome a gene region loads in the second pass must contain every intron
it is asked about.  `flag_independent_of_region` (Props/C18.lean) needs exactly that as a hypothesis (`hin`); this file
discharges it for the window the loader computes (`loadRegion`, Model/Canonical.lean) and keeps the original behaviour
(header window = gene span) as a witness: a read that reaches beyond the annotated gene span got the flag of bases taken
from wrapped-around positions (found on the toy data of /repo: read ONT.785827.1_… of tests/simple_data, Canonical=False for
two GT-AG introns).
-/
import IsoVerif.Props.C18
import IsoVerif.Lemmas.Interval

namespace IsoVerif.Props.C18Window
open IsoVerif.Gen IsoVerif.Model IsoVerif.Model.C18 IsoVerif.Lemmas.C18 IsoVerif.Props.C18
open IsoVerif.Lemmas

theorem widenBy_mono (w : Iv) (ex : List Iv) : (widenBy w ex).1 ≤ w.1 ∧ w.2 ≤ (widenBy w ex).2 := by
  unfold widenBy
  split
  · simp only; omega
  · omega

theorem widenBy_covers (w : Iv) (ex : List Iv) (f l : Iv) (hf : ex.head? = some f) (hl : ex.getLast? = some l) :
    (widenBy w ex).1 ≤ f.1 ∧ l.2 ≤ (widenBy w ex).2 := by
  unfold widenBy
  rw [hf, hl]
  simp only; omega

theorem extendedWindow_mono (reads : List ReadSpan) : ∀ w : Iv,
    (extendedWindow w reads).1 ≤ w.1 ∧ w.2 ≤ (extendedWindow w reads).2 := by
  induction reads with
  | nil => intro w; simp [extendedWindow]
  | cons r t ih =>
    intro w
    have h1 := widenBy_mono w r.exons
    have h2 := widenBy_mono (widenBy w r.exons) r.correctedExons
    have h3 := ih (widenBy (widenBy w r.exons) r.correctedExons)
    simp only [extendedWindow, List.foldl_cons] at h3 ⊢
    omega

/-- **extended_window_covers**: the window computed by `extend_reference_region` contains the first start and the
    last end of the exon list and of the corrected exon list of every read of the storage -/
theorem extended_window_covers (reads : List ReadSpan) : ∀ (w : Iv) (r : ReadSpan), r ∈ reads →
    ∀ ex, (ex = r.exons ∨ ex = r.correctedExons) → ∀ f l, ex.head? = some f → ex.getLast? = some l →
      (extendedWindow w reads).1 ≤ f.1 ∧ l.2 ≤ (extendedWindow w reads).2 := by
  induction reads with
  | nil => intro w r hr; cases hr
  | cons r0 t ih =>
    intro w r hr ex hex f l hf hl
    rcases List.mem_cons.mp hr with rfl | hr
    · have hm := extendedWindow_mono t (widenBy (widenBy w r.exons) r.correctedExons)
      simp only [extendedWindow, List.foldl_cons] at hm ⊢
      rcases hex with rfl | rfl
      · have h1 := widenBy_covers w r.exons f l hf hl
        have h2 := widenBy_mono (widenBy w r.exons) r.correctedExons
        omega
      · have h2 := widenBy_covers (widenBy w r.exons) r.correctedExons f l hf hl
        omega
    · have := ih (widenBy (widenBy w r0.exons) r0.correctedExons) r hr ex hex f l hf hl
      simpa [extendedWindow] using this

theorem junctions_inside : ∀ (ex : List Iv), SD ex → WFl ex → ∀ f l, ex.head? = some f → ex.getLast? = some l →
    ∀ it ∈ junctionsFromBlocks ex, f.1 < it.1 ∧ it.1 ≤ it.2 ∧ it.2 < l.2 := by
  intro ex
  induction ex with
  | nil => intro _ _ f l hf; cases hf
  | cons a t ih =>
    cases t with
    | nil => intro _ _ f l _ _ it hit; simp [junctionsFromBlocks] at hit
    | cons b t' =>
      intro hsd hwf f l hf hl it hit
      simp only [List.head?_cons, Option.some.injEq] at hf
      subst hf
      have hwa : a.1 ≤ a.2 := hwf a (by simp)
      have hwb : b.1 ≤ b.2 := hwf b (by simp)
      have hsd' : SD (b :: t') := hsd.2
      have hab : a.2 < b.1 := hsd.1
      have hl' : (b :: t').getLast? = some l := by
        simpa [List.getLast?_cons_cons] using hl
      have hwf' : WFl (b :: t') := fun r hr => hwf r (List.mem_cons_of_mem _ hr)
      have hbl : b.2 ≤ l.2 := by
        -- the last element of an SD, WF list ends at or after every element's end
        have : ∀ (l0 : List Iv) (x : Iv), SD (x :: l0) → WFl (x :: l0) → ∀ z, (x :: l0).getLast? = some z → x.2 ≤ z.2 := by
          intro l0
          induction l0 with
          | nil => intro x _ _ z hz; simp at hz; subst hz; omega
          | cons y l1 ih2 =>
            intro x hs hw z hz
            have hxy : x.2 < y.1 := hs.1
            have hwy : y.1 ≤ y.2 := hw y (by simp)
            have := ih2 y hs.2 (fun r hr => hw r (List.mem_cons_of_mem _ hr)) z (by simpa [List.getLast?_cons_cons] using hz)
            omega
        exact this t' b hsd' hwf' l hl'
      simp only [junctionsFromBlocks] at hit
      split at hit
      · rename_i hgap
        rcases List.mem_cons.mp hit with rfl | hit
        · simp only; omega
        · have := ih hsd' hwf' b l rfl hl' it hit
          omega
      · have := ih hsd' hwf' b l rfl hl' it hit
        omega

/-- a read as the loader sees it, with the hypotheses the pipeline guarantees: both exon lists sorted, disjoint, well
    formed (C16 / C14) and starting at a base ≥ 1.  (Nothing about the END of the chromosome: a window or a read reaching
    beyond the last base is clamped by the slice; the run-time monitor of the C18 pipeline oracle nevertheless checks
    `end ≤ chromosome length` too.) -/
def ReadOk (r : ReadSpan) : Prop :=
  SD r.exons ∧ WFl r.exons ∧ SD r.correctedExons ∧ WFl r.correctedExons ∧
  (∀ e ∈ r.exons, 1 ≤ e.1) ∧ (∀ e ∈ r.correctedExons, 1 ≤ e.1)

theorem extendedWindow_bounds (reads : List ReadSpan) : ∀ (w : Iv), 1 ≤ w.1 →
    (∀ r ∈ reads, ReadOk r) → 1 ≤ (extendedWindow w reads).1 := by
  induction reads with
  | nil => intro w h1 _; simpa [extendedWindow] using h1
  | cons r t ih =>
    intro w h1 hok
    have hr := hok r (by simp)
    have step : ∀ (w : Iv) (ex : List Iv), 1 ≤ w.1 → (∀ e ∈ ex, 1 ≤ e.1) → 1 ≤ (widenBy w ex).1 := by
      intro w ex h1 hb
      unfold widenBy
      split
      · rename_i f l hf hl
        have := hb f (List.mem_of_mem_head? hf)
        simp only; omega
      · exact h1
    have a1 := step w r.exons h1 hr.2.2.2.2.1
    have b1 := step _ r.correctedExons a1 hr.2.2.2.2.2
    have := ih _ b1 (fun r' hr' => hok r' (List.mem_cons_of_mem _ hr'))
    simpa [extendedWindow] using this

/-- **loaded_flag_for_observed_introns** (after the fix, full strength): for EVERY header window (also one that ends
    beyond the contig: a GTF gene end larger than the FASTA record), every storage of well-formed reads and every list of
    introns each of which occurs in the raw or corrected alignment of SOME kept read — the intron chain of one read, or
    the chain of a novel transcript model, whose introns are corrected introns of the region's reads (C04
    `novel_introns_observed`: `Observed reads i`) possibly taken from different reads — the gene info the loader hands on
    answers the canonical test exactly as a look-up on the whole chromosome does, on either strand. -/
theorem loaded_flag_for_observed_introns (chr : Seq) (hdr : Iv) (reads : List ReadSpan) (st : Strand)
    (hok : ∀ r ∈ reads, ReadOk r) (introns : List Iv)
    (hobs : ∀ it ∈ introns, ∃ r ∈ reads, ∃ ex, (ex = r.exons ∨ ex = r.correctedExons) ∧ it ∈ junctionsFromBlocks ex)
    (flank : Int := 0) (hfl : 0 ≤ flank := by decide) :
    pureAnswer (loadRegion chr hdr reads flank).1 introns st = pureAnswer ⟨chr, 1⟩ introns st := by
  cases hintr : introns with
  | nil => simp [pureAnswer, pureAll]
  | cons i0 rest =>
    rw [← hintr]
    -- some intron is observed, so the storage has a read
    have hne : reads ≠ [] := by
      obtain ⟨r, hr, _⟩ := hobs i0 (by simp [hintr])
      exact List.ne_nil_of_mem hr
    have hbnd := extendedWindow_bounds reads (max 1 hdr.1, hdr.2) (by simp only; omega) hok
    obtain ⟨S, E, hld, hS, hE⟩ := loadRegion_window chr hdr reads flank hne
    rw [hld]
    refine flag_of_window chr S E introns st fun it hit0 => ?_
    -- every observed intron is inside the extended window
    obtain ⟨r, hr, ex, hex, hit⟩ := hobs it hit0
    have hrok := hok r hr
    have hsdwf : SD ex ∧ WFl ex := by
      rcases hex with rfl | rfl
      · exact ⟨hrok.1, hrok.2.1⟩
      · exact ⟨hrok.2.2.1, hrok.2.2.2.1⟩
    cases hex' : ex with
    | nil => rw [hex'] at hit; simp [junctionsFromBlocks] at hit
    | cons a t =>
      have hf : ex.head? = some a := by rw [hex']; rfl
      obtain ⟨l, hl⟩ : ∃ l, ex.getLast? = some l := by
        rw [hex']; exact ⟨(a :: t).getLast (by simp), List.getLast?_eq_some_getLast (by simp)⟩
      have hcov := extended_window_covers reads (max 1 hdr.1, hdr.2) r hr ex hex a l hf hl
      have hj := junctions_inside ex hsdwf.1 hsdwf.2 a l hf hl it hit
      omega

/-- **loaded_flag_is_chromosome_flag**: the case "the introns of one kept read" (raw or corrected alignment) — the
    `Canonical=` field of every read line of the second pass; no hypothesis on the header window -/
theorem loaded_flag_is_chromosome_flag (chr : Seq) (hdr : Iv) (reads : List ReadSpan) (st : Strand)
    (hok : ∀ r ∈ reads, ReadOk r) (flank : Int := 0) (hfl : 0 ≤ flank := by decide) :
    ∀ r ∈ reads, ∀ ex, (ex = r.exons ∨ ex = r.correctedExons) →
      pureAnswer (loadRegion chr hdr reads flank).1 (junctionsFromBlocks ex) st =
        pureAnswer ⟨chr, 1⟩ (junctionsFromBlocks ex) st :=
  fun r hr ex hex => loaded_flag_for_observed_introns chr hdr reads st hok _ (fun _ hit => ⟨r, hr, ex, hex, hit⟩) flank hfl

/-- the witness chromosome of Props/C18.lean (`AAAAGTCCCCCCAGTTTT`, intron (5,14) is GT..AG), a "gene" annotated at
    12..18 and a read 1-4,15-18 that starts before it -/
def exRead : ReadSpan := { exons := [(1, 4), (15, 18)], correctedExons := [(1, 4), (15, 18)] }

/-- **gene_span_window_witness** (the defect repaired by the `fix:` commit f48e223 of /repo; replayed on the real loader by the oracle):
    with the header window the intron (5,14) starts before the window, `intron[0] - all_read_region_start` is negative,
    Python counts it from the END of the region and the GT-AG intron is reported non-canonical; the widened window gives
    the chromosome's answer -/
theorem gene_span_window_witness :
    pureAnswer (loadRegionOrig witnessSeq (12, 18) [exRead]).1 (junctionsFromBlocks exRead.exons) .plus = false ∧
    pureAnswer (loadRegion witnessSeq (12, 18) [exRead]).1 (junctionsFromBlocks exRead.exons) .plus = true ∧
    pureAnswer ⟨witnessSeq, 1⟩ (junctionsFromBlocks exRead.exons) .plus = true := by
  rw [witnessSeq_eq]; decide +kernel

-- non-vacuity of `loaded_flag_is_chromosome_flag`: the concrete read meets `ReadOk`
example : ReadOk exRead := by
  refine ⟨?_, ?_, ?_, ?_, ?_, ?_⟩
  · exact ⟨by decide, trivial⟩
  · intro r hr; simp [exRead] at hr; rcases hr with rfl | rfl <;> decide
  · exact ⟨by decide, trivial⟩
  · intro r hr; simp [exRead] at hr; rcases hr with rfl | rfl <;> decide
  · intro r hr; simp [exRead] at hr; rcases hr with rfl | rfl <;> decide
  · intro r hr; simp [exRead] at hr; rcases hr with rfl | rfl <;> decide

-- `loaded_flag_for_observed_introns`: a chain whose introns come from two different reads of the region
example : ∀ it ∈ [((5, 14) : Iv)], ∃ r ∈ [exRead, { exons := [(16, 18)], correctedExons := [(16, 18)] }],
    ∃ ex, (ex = r.exons ∨ ex = r.correctedExons) ∧ it ∈ junctionsFromBlocks ex := by
  intro it hit
  simp only [List.mem_singleton] at hit
  subst hit
  exact ⟨exRead, by simp, exRead.exons, Or.inl rfl, by decide +kernel⟩

-- a header window that ends far beyond the 18-base contig
example : ((12, 1000) : Iv).2 > witnessSeq.length ∧
    pureAnswer (loadRegion witnessSeq (12, 1000) [exRead]).1 (junctionsFromBlocks exRead.exons) .plus = true ∧
    (loadRegion witnessSeq (12, 1000) [exRead]).1.refRegion = witnessSeq := by rw [witnessSeq_eq]; decide +kernel

-- with `--sqanti_output` (flank 20) the same region is reloaded 20 bases wider on either side (start clamped at base 1)
example : (loadRegion witnessSeq (12, 18) [exRead] 20).1.start = 1 ∧
    (loadRegion witnessSeq (12, 18) [exRead] 20).1.refRegion = witnessSeq ∧
    pureAnswer (loadRegion witnessSeq (12, 18) [exRead] 20).1 (junctionsFromBlocks exRead.exons) .plus = true := by
  rw [witnessSeq_eq]; decide +kernel

-- a region whose reads stay inside the header window keeps that window (no reload)
example : (loadRegion witnessSeq (3, 16) [{ exons := [(4, 4), (15, 16)], correctedExons := [] }]).1.start = 3 := by
  rw [witnessSeq_eq]; decide +kernel

end IsoVerif.Props.C18Window
