/-
C16 — `cutsN` (Model/TailSpec.lean: the CIGAR cut at `N` only, the skeleton of the specification of
`concat_gapless_blocks`) without recursion: it lists exactly the maximal `N`-free runs of the CIGAR, each once, in
CIGAR order; with it `concat_gapless_spec` becomes a membership statement free of any recursive definition
(`concat_gapless_iff`), the counterpart of `exon_iff` for `get_read_blocks`.
-/
import IsoVerif.Model.TailSpec
import IsoVerif.Lemmas.CutsN
import IsoVerif.Props.C16Concat

namespace IsoVerif.Props.C16CutsN
open IsoVerif.Gen IsoVerif.Model IsoVerif.Model.C16 IsoVerif.Lemmas.C16

/-- **cutsN_are_maximal_runs** — `(pre, run)` is listed by `cutsN ops` iff `run` is an `N`-free run of the CIGAR that is
    preceded by `pre` and cannot be extended on either side (delimited by an `N` or by an end of the CIGAR) -/
theorem cutsN_are_maximal_runs (ops pre run : List CigarOp) :
    (pre, run) ∈ cutsN ops ↔
      ∃ post, ops = pre ++ run ++ post ∧ FreeOf isN run ∧ EndsWith isN pre ∧ StartsWith isN post := by
  unfold cutsN
  rw [cutsNAux_eq]
  exact cutsAuxP_maximal_runs isN ops pre run

/-- **cutsN_listed_once_in_order** — one run per `N` operation plus one, and the runs appear in CIGAR order (the
    prefixes grow strictly, so no run is listed twice): together with `cutsN_are_maximal_runs` this determines the list -/
theorem cutsN_listed_once_in_order (ops : List CigarOp) :
    (cutsN ops).length = ops.countP (fun o => isN o.1) + 1 ∧
    (cutsN ops).Pairwise (fun a b => a.1.length < b.1.length) := by
  unfold cutsN
  rw [cutsNAux_eq]
  exact ⟨cutsAuxP_length isN ops [] [], cutsAuxP_ordered isN ops [] []⟩

/-- non-vacuity: the middle run of `2S 5M 10N 1I 3M 4S 7N 2M` — soft clips do not end a run here -/
example : ∃ post, ([(CigarEvent.soft_clipping, 2), (.«match», 5), (.skipped, 10), (.insertion, 1), (.«match», 3),
      (.soft_clipping, 4), (.skipped, 7), (.«match», 2)] : List CigarOp) =
      [(.soft_clipping, 2), (.«match», 5), (.skipped, 10)] ++ [(.insertion, 1), (.«match», 3), (.soft_clipping, 4)] ++ post ∧
      FreeOf isN [(CigarEvent.insertion, (1 : Int)), (.«match», 3), (.soft_clipping, 4)] ∧
      EndsWith isN [(CigarEvent.soft_clipping, (2 : Int)), (.«match», 5), (.skipped, 10)] ∧ StartsWith isN post :=
  ⟨[(.skipped, 7), (.«match», 2)], rfl,
    by intro o ho; simp at ho; rcases ho with h | h | h <;> subst h <;> rfl,
    by intro o ho; simp at ho; subst ho; rfl, by intro o ho; simp at ho; subst ho; rfl⟩

example : (cutsN [(CigarEvent.soft_clipping, (2 : Int)), (.«match», 5), (.skipped, 10), (.insertion, 1), (.«match», 3),
      (.soft_clipping, 4), (.skipped, 7), (.«match», 2)]).map (fun c => (c.1.length, c.2.length)) = [(0, 2), (3, 3), (7, 1)] := by
  decide

/-- **concat_gapless_iff** — `concat_gapless_blocks(get_blocks(), cigartuples)` without any recursive definition on the
    right-hand side: an interval is returned iff it belongs to a maximal `N`-free run, holding an aligned operation, of
    the CIGAR cut after its last aligned operation; it starts at the first aligned base of the run minus the pending
    deletion and ends after the last reference base of the run (0-based, half-open) -/
theorem concat_gapless_iff (s : Int) (ops : List CigarOp) (b : Iv) :
    b ∈ concatGaplessBlocks (alignedBlocks s ops) ops ↔
      ∃ pre run post, truncAligned ops = pre ++ run ++ post ∧ FreeOf isN run ∧ EndsWith isN pre ∧
        StartsWith isN post ∧ hasAligned run = true ∧
        b = (s + refLen pre + refLen (leadOf run) - pendingDel (pre ++ leadOf run), s + refLen pre + refLen run) := by
  rw [C16Concat.concat_gapless_spec, concatGaplessSpec, List.mem_filterMap]
  constructor
  · rintro ⟨⟨pre, run⟩, hm, hb⟩
    obtain ⟨post, h1, h2, h3, h4⟩ := (cutsN_are_maximal_runs _ pre run).1 hm
    simp only [gaplessOf] at hb
    split at hb
    · rename_i ha
      exact ⟨pre, run, post, h1, h2, h3, h4, ha, (Option.some.inj hb).symm⟩
    · cases hb
  · rintro ⟨pre, run, post, h1, h2, h3, h4, ha, hb⟩
    exact ⟨(pre, run), (cutsN_are_maximal_runs _ pre run).2 ⟨post, h1, h2, h3, h4⟩, by simp [gaplessOf, ha, hb]⟩

/-- non-vacuity: `50M 2D 30M 100N 40M 3D` at 1000 — the trailing `D` is cut off, two blocks -/
example : concatGaplessBlocks (alignedBlocks 1000 [(.«match», 50), (.deletion, 2), (.«match», 30), (.skipped, 100),
      (.«match», 40), (.deletion, 3)]) [(.«match», 50), (.deletion, 2), (.«match», 30), (.skipped, 100),
      (.«match», 40), (.deletion, 3)] = [(1000, 1082), (1182, 1222)] := by decide

end IsoVerif.Props.C16CutsN
