/-
C11 — translation equivariance of the list functions of the interval model (Model/Interval.lean), for ALL
lists (sorted or not, well formed or not), ALL positions and ALL shifts `k : Int`:

  lengths, fractions, sums, indices :  X (shift k args) = X args
  interval lists / intervals        :  X (shift k args) = shift k (X args)        (errors map to errors)

No hypotheses: none of these functions reads the code's sentinel −1 (`truncate_read_to_polya`, which does, is in
Props/C11Profiles.lean).
-/
import IsoVerif.Gen.Prims
import IsoVerif.Model.Interval
import IsoVerif.Model.C11Symmetry
import IsoVerif.Lemmas.C11Shift
import IsoVerif.Lemmas.Junctions

namespace IsoVerif.Props.C11Lists
open IsoVerif.Gen IsoVerif.Model IsoVerif.Model.C11 IsoVerif.Lemmas.C11

theorem shift_equivariant_intervalsTotalLength (k : Int) (l : List Iv) :
    intervalsTotalLength (shiftL k l) = intervalsTotalLength l :=
  intervalsTotalLength_shift k l

theorem shift_equivariant_sumIntervalsToPoint (k : Int) (l : List Iv) (p : Int) :
    sumIntervalsToPoint (shiftL k l) (p + k) = sumIntervalsToPoint l p := by
  simp only [sumIntervalsToPoint, shiftL_head?, shiftL_getLast?]
  cases l.head? <;> cases l.getLast? <;> simp only [Option.map_none, Option.map_some]
  simp only [shiftIv_fst, shiftIv_snd, sumToLoop_shift, intervalsTotalLength_shift]
  grind

theorem shift_equivariant_sumIntervalsFromPoint (k : Int) (l : List Iv) (p : Int) :
    sumIntervalsFromPoint (shiftL k l) (p + k) = sumIntervalsFromPoint l p := by
  simp only [sumIntervalsFromPoint, shiftL_head?, shiftL_getLast?]
  cases l.head? <;> cases l.getLast? <;> simp only [Option.map_none, Option.map_some]
  simp only [shiftIv_fst, shiftIv_snd, ← shiftL_reverse, sumFromLoop_shift, intervalsTotalLength_shift]
  grind

theorem shift_equivariant_readCoverageSweep (k : Int) (l1 l2 : List Iv) :
    readCoverageSweep (shiftL k l1) (shiftL k l2) = readCoverageSweep l1 l2 :=
  readCoverageSweep_shift k l1 l2

theorem shift_equivariant_readCoverageFraction (k : Int) (read iso : List Iv) :
    readCoverageFraction (shiftL k read) (shiftL k iso) = readCoverageFraction read iso := by
  simp only [readCoverageFraction, intervalsTotalLength_shift, readCoverageSweep_shift]

theorem shift_equivariant_jaccardSweep (k : Int) (l1 l2 : List Iv) :
    jaccardSweep (shiftL k l1) (shiftL k l2) = jaccardSweep l1 l2 := by
  simp only [jaccardSweep, jaccardLoop_shift]

theorem shift_equivariant_mergeRanges (k : Int) (l1 l2 : List Iv) :
    mergeRanges (shiftL k l1) (shiftL k l2) = (mergeRanges l1 l2).map (shiftL k) := by
  have h := mergeLoop_shift k l1 false l2 false []
  simp only [shiftL_nil] at h
  simp only [mergeRanges, h]
  cases mergeLoop l1 false l2 false [] with
  | none => rfl
  | some acc =>
    simp only [Option.map_some]
    cases acc with
    | nil => rfl
    | cons a t => simp [shiftL]

theorem shift_equivariant_extraExonPercentage (k : Int) (reg : Iv) (exons : List Iv) :
    extraExonPercentage (shiftIv k reg) (shiftL k exons) = extraExonPercentage reg exons := by
  simp only [extraExonPercentage, extraExonLoop_shift]

theorem shift_equivariant_junctionsFromBlocks (k : Int) (l : List Iv) :
    junctionsFromBlocks (shiftL k l) = shiftL k (junctionsFromBlocks l) :=
  junctionsFromBlocks_shift k l

theorem shift_equivariant_getExons (k : Int) (region : Iv) (introns : List Iv) :
    getExons (shiftIv k region) (shiftL k introns) = shiftL k (getExons region introns) := by
  simp only [getExons, ← junctionsFromBlocks_shift, shiftL_cons, shiftL_append, shiftL_nil, shiftIv]
  have e1 : region.1 + k - 1 = region.1 - 1 + k := by omega
  have e2 : region.2 + k + 1 = region.2 + 1 + k := by omega
  simp only [e1, e2]
  exact (Lemmas.junctionsFromBlocks_first 0 (0 + k) _ _).trans
    (Lemmas.junctionsFromBlocks_last ((0 + k, region.1 - 1 + k) :: shiftL k introns) (region.2 + 1 + k) 0 (0 + k))

theorem shift_equivariant_getExon (k : Int) (region : Iv) (junctions : List Iv) (i : Int) :
    getExon (shiftIv k region) (shiftL k junctions) i = (getExon region junctions i).map (shiftIv k) := by
  simp only [getExon, shiftL_length, pyGet?_shiftL]
  generalize (if i < 0 then (junctions.length : Int) + i + 1 else i) = p
  split
  · rfl
  split
  · cases pyGet? junctions 0 <;> simp [shiftIv]; omega
  split
  · cases pyGet? junctions (-1) <;> simp [shiftIv]; omega
  · cases pyGet? junctions (p - 1) <;> cases pyGet? junctions p <;> simp [shiftIv]; omega

theorem shift_equivariant_getFollowingExon (k : Int) (region : Iv) (introns : List Iv) (pos : Int) :
    getFollowingExon (shiftIv k region) (shiftL k introns) pos
      = (getFollowingExon region introns pos).map (shiftIv k) := by
  simp only [getFollowingExon, shiftL_length, pyGet?_shiftL]
  generalize pyGet? introns (pos + 1) = g0
  generalize pyGet? introns pos = g1
  by_cases h : pos = (introns.length : Int) - 1 ∨ pos = -1
  · simp only [h, if_true]; cases g1 <;> simp [shiftIv]; omega
  · simp only [h, if_false]; cases g0 <;> cases g1 <;> simp [shiftIv] <;> omega

theorem shift_equivariant_getPrecedingExon (k : Int) (region : Iv) (introns : List Iv) (pos : Int) :
    getPrecedingExon (shiftIv k region) (shiftL k introns) pos
      = (getPrecedingExon region introns pos).map (shiftIv k) := by
  simp only [getPrecedingExon, shiftL_length, pyGet?_shiftL]
  generalize pyGet? introns (pos - 1) = g0
  generalize pyGet? introns pos = g1
  by_cases h0 : pos > (introns.length : Int)
  · simp only [h0, if_true, Option.map_none]
  · simp only [h0, if_false]
    by_cases h1 : pos = 0
    · simp only [h1, if_true]
      by_cases h2 : (0 : Int) = (introns.length : Int)
      · simp [h2, shiftIv]
      · cases g1 <;> simp [h2, shiftIv]; omega
    · simp only [h1, if_false]
      cases g0 with
      | none => simp
      | some x =>
        simp only [Option.map_some]
        by_cases h2 : pos = (introns.length : Int)
        · simp [h2, shiftIv]; omega
        · cases g1 <;> simp [h2, shiftIv]; omega

theorem shift_equivariant_intervalBinSearch (k : Int) (l : List Iv) (p : Int) :
    intervalBinSearch (shiftL k l) (p + k) = intervalBinSearch l p := by
  simp only [intervalBinSearch, shiftL_head?, shiftL_getLast?]
  cases l.head? <;> cases l.getLast? <;> simp only [Option.map_none, Option.map_some]
  simp only [shiftIv_fst, shiftIv_snd, binSearchLoop_shift, shiftL_length]
  grind

theorem shift_equivariant_intervalBinSearchRev (k : Int) (l : List Iv) (p : Int) :
    intervalBinSearchRev (shiftL k l) (p + k) = intervalBinSearchRev l p := by
  simp only [intervalBinSearchRev, shiftL_head?, shiftL_getLast?]
  cases l.head? <;> cases l.getLast? <;> simp only [Option.map_none, Option.map_some]
  simp only [shiftIv_fst, shiftIv_snd, binSearchRevLoop_shift, shiftL_length]
  grind

-- non-vacuity: the functions compute non-trivial values on a shifted instance
example : sumIntervalsToPoint (shiftL 255 [(1, 5), (10, 12)]) (11 + 255) = some 6 ∧
    intervalBinSearch (shiftL 255 [(1, 5), (10, 12), (20, 30)]) (11 + 255) = some 1 ∧
    getExons (shiftIv 7 (1, 30)) (shiftL 7 [(6, 9), (13, 19)]) = [(8, 12), (17, 19), (27, 37)] := by
  decide

end IsoVerif.Props.C11Lists
