/-
C01 (paths) — the consistent path of the assigner reports structurally compatible isoforms only, with a consistent
type; a read that is compatible with no isoform never gets its type from the consistent path; what the inconsistent
path returns is `classify_assignment` of the selected isoforms' events (proved sound in Props/C01.lean).

Everything is stated over the executable model of Model/Assign.lean (gene model from `GeneInfo.from_models`, read
profiles of Model/Profiles.lean, `LongReadAssigner`), for ALL annotations, parameter sets, alignments and polyA
positions.  `JunctionComparator.compare_junctions` is an input (`cj`) wherever it is consulted.
-/
import IsoVerif.Props.C01
import IsoVerif.Props.C19
import IsoVerif.Model.Assign
import IsoVerif.Lemmas.C01Sweep
import IsoVerif.Lemmas.C01Assign
import IsoVerif.Lemmas.C01Inconsistent

namespace IsoVerif.Props.C01Path
open IsoVerif.Gen IsoVerif.Model IsoVerif.Model.C01 IsoVerif.Lemmas IsoVerif.Lemmas.C01 IsoVerif.Props.C01

/-- A read (alignment blocks) is structurally compatible with isoform `I`:
    * every read intron equals an intron of `I` within δ (both splice sites, `equal_ranges`, grounded in positions by
      `C19.equal_ranges_iff`);
    * no intron of `I` that the read's span overlaps by at least `minimal_intron_absence_overlap` positions (or
      contains, or lies inside — `C19.overlaps_at_least_spec`) is missed: each is matched by a read intron within δ;
    * the read's span lies inside the isoform's span ± `min_abs_exon_overlap`. -/
structure Compatible (p : Params) (blocks : List Iv) (I : IsoInfo) : Prop where
  introns_known : ∀ r ∈ junctionsFromBlocks blocks, ∃ k ∈ I.introns, equal_ranges r k p.delta = true
  none_missed : ∀ reg, regionOf blocks = some reg → ∀ k ∈ I.introns,
      overlaps_at_least reg k p.minimal_intron_absence_overlap = true →
      ∃ r ∈ junctionsFromBlocks blocks, equal_ranges r k p.delta = true
  inside : ∀ reg, regionOf blocks = some reg → contains_approx I.region reg p.min_abs_exon_overlap = true

/-- the polyA / polyT positions handed to the profile constructor do not cut into the read's own introns (the
    external positions are at or beyond the aligned ends: `find_polya_tail` returns `reference_end + shift`) -/
def PolyAOutside (blocks : List Iv) (pa : PolyA) : Prop :=
  (pa.extA = -1 ∨ ∀ r ∈ junctionsFromBlocks blocks, r.1 ≤ pa.extA) ∧
  (pa.extT = -1 ∨ ∀ r ∈ junctionsFromBlocks blocks, pa.extT ≤ r.2)

/-- on the consistent branch of `assign_to_isoform` every read intron is marked 1 -/
theorem dispatch_consistent_read_ones (g : Gene) (rp : ReadProf) (h : dispatch g rp = .consistent)
    (hdom : ∀ v ∈ rp.intron.read, v = -1 ∨ v = 0 ∨ v = 1) : ∀ v ∈ rp.intron.read, v = 1 := by
  unfold dispatch at h
  split at h
  · simp at h
  · split at h
    · simp at h
    · split at h
      · simp at h
      · split at h
        · simp at h
        · rename_i hneg hzero
          intro v hv
          rcases hdom v hv with h1 | h1 | h1
          · exfalso; apply hneg; left
            exact List.any_eq_true.mpr ⟨v, hv, by simp [h1]⟩
          · exfalso; apply hzero; left
            exact List.any_eq_true.mpr ⟨v, hv, by simp [h1]⟩
          · exact h1

/-- an isoform that passes the first and the third test of `match_consistent` (contains the read, intron profile equal
    in the read's range) is structurally compatible, provided every read intron was marked 1 -/
theorem candidate_compatible (ms : List Isoform) (p : Params) (blocks : List Iv) (pa : PolyA) (g : Gene) (rp : ReadProf)
    (hwf : WellFormed ms) (hg : Gene.fromModels ms = some g) (hrp : constructProfiles g p blocks pa = some rp)
    (hpa : PolyAOutside blocks pa)
    (hones : ∀ v ∈ rp.intron.read, v = 1)
    (I : IsoInfo) (hI : I ∈ g.isos)
    (hcont : contains_approx I.region rp.region p.min_abs_exon_overlap = true)
    (heq : equalProfilesInRange I.intronProf rp.intron.gene rp.intron.range = some true) :
    Compatible p blocks I := by
  obtain ⟨_, hreg, _, _, _, spec⟩ := constructProfiles_of g p blocks pa rp hrp
  -- a non-zero mark of the read's gene profile is copied by the isoform's profile
  have copy : ∀ (i : Nat) (v : Int), rp.intron.gene[i]? = some v → v ≠ 0 → I.intronProf[i]? = some v := by
    intro i v hv hv0
    obtain ⟨h1, h2⟩ := spec.range_ok i v hv hv0
    exact equalProfilesInRange_true _ _ _ heq i h1 h2 v hv hv0
  refine ⟨?_, ?_, ?_⟩
  · -- every read intron is an intron of I within δ
    intro r hr
    obtain ⟨j, hj⟩ := List.mem_iff_getElem?.mp hr
    have hjl : j < rp.intron.read.length := by rw [spec.rlen]; exact getElem?_lt hj
    have hv : rp.intron.read[j]? = some 1 := by
      have : rp.intron.read[j]? = some rp.intron.read[j] := by simp [hjl]
      rw [this, hones _ (List.getElem_mem hjl)]
    obtain ⟨gi, k, hk, hcmp, hmark⟩ := spec.read_one j r hj hv
    have hk1 : rp.intron.gene[gi]? = some 1 := by
      rcases hmark with h1 | ⟨_, hmask⟩
      · exact h1
      · exfalso
        have hc := (IsoVerif.Props.C19.equal_ranges_iff r k p.delta).mp hcmp
        rcases hmask with ⟨hp, hgt⟩ | ⟨hp, hlt⟩
        · rcases hpa.1 with h | h
          · exact hp h
          · have := h r hr; omega
        · rcases hpa.2 with h | h
          · exact hp h
          · have := h r hr; omega
    have hI1 := copy gi 1 hk1 (by omega)
    exact ⟨k, (intronProf_one_iff ms g hg hwf I hI gi k hk).mp hI1, hcmp⟩
  · -- no intron of I inside the read span is missed
    intro reg hreg' k hk habs
    rw [hreg] at hreg'; injection hreg' with hreg'; subst hreg'
    obtain ⟨gi, hgi⟩ := intron_mem_gene ms g hg I hI k hk
    obtain ⟨v, hv, hv0⟩ := spec.absent_nonzero gi k hgi habs
    have hIv := copy gi v hv hv0
    have hI1 := (intronProf_one_iff ms g hg hwf I hI gi k hgi).mpr hk
    rw [hI1] at hIv; injection hIv with hIv; subst hIv
    obtain ⟨j, r, hr, hcmp⟩ := spec.gene_one gi k hgi hv
    exact ⟨r, List.mem_of_getElem? hr, hcmp⟩
  · intro reg hreg'
    rw [hreg] at hreg'; injection hreg' with hreg'; subst hreg'
    exact hcont

/-! ### C01, clause "every reported isoform is structurally compatible … the type is consistent" -/

/-- on the consistent branch every candidate of `match_consistent` is structurally compatible with the read -/
theorem candidates_compatible (ms : List Isoform) (p : Params) (blocks : List Iv) (pa : PolyA) (g : Gene) (rp : ReadProf)
    (hwf : WellFormed ms) (hg : Gene.fromModels ms = some g) (hrp : constructProfiles g p blocks pa = some rp)
    (hpa : PolyAOutside blocks pa) (hdisp : dispatch g rp = .consistent) (cons : List IsoInfo)
    (hcons : consistentIsoforms g p rp = some (some cons)) : ∀ I ∈ cons, I ∈ g.isos ∧ Compatible p blocks I := by
  have spec := (constructProfiles_of g p blocks pa rp hrp).intron
  have hones := dispatch_consistent_read_ones g rp hdisp spec.dom
  intro I hI
  obtain ⟨hIg, hcont, _, heq⟩ := consistentIsoforms_mem g p rp cons hcons I hI
  exact ⟨hIg, candidate_compatible ms p blocks pa g rp hwf hg hrp hpa hones I hIg hcont heq⟩

/-- what `match_consistent` answers has a consistent type: its events are all of classes `classify_assignment` knows,
    and an inconsistent type makes it give up -/
theorem matchConsistent_ty (g : Gene) (p : Params) (rp : ReadProf) (a : Assignment)
    (hmc : matchConsistent g p rp = some (some a)) : a.ty.is_consistent = true := by
  obtain ⟨_, _, _, _, _, _, hmem, hty, hninc, _⟩ := matchConsistent_spec g p rp a hmc
  have hk : ∀ e ∈ (a.isoMatches.map (·.events)).flatMap (fun evs => evs.map (·.ty)),
      e.is_consistent = true ∨ e.is_minor_error = true ∨ e.is_major_inconsistency = true := by
    intro e he
    simp only [List.mem_flatMap, List.mem_map] at he
    obtain ⟨evs, ⟨m, hm, rfl⟩, ev, hev, rfl⟩ := he
    obtain ⟨_, _, _, hkn⟩ := hmem m hm
    simpa [knownTy, or_assoc] using hkn ev hev
  rw [hty] at hninc ⊢
  exact (classify_known _ _ hk).resolve_right fun h => by
    rw [show (classifyAssignment _).is_inconsistent = true from h] at hninc; cases hninc

/-- `consistent_path_sound`: whenever `assign_to_isoform` takes its result from `match_consistent`, the reported type
    is unique / unique_minor_difference / ambiguous and EVERY reported isoform is structurally compatible with the
    read.  For all annotations, parameters, alignments, polyA positions (outside the read's introns). -/
theorem consistent_path_sound (ms : List Isoform) (p : Params) (blocks : List Iv) (pa : PolyA) (g : Gene) (rp : ReadProf)
    (a : Assignment)
    (hwf : WellFormed ms) (hg : Gene.fromModels ms = some g) (hrp : constructProfiles g p blocks pa = some rp)
    (hpa : PolyAOutside blocks pa) (hdisp : dispatch g rp = .consistent)
    (hmc : matchConsistent g p rp = some (some a)) :
    a.ty.is_consistent = true ∧ a.isoMatches ≠ [] ∧
    ∀ m ∈ a.isoMatches, ∃ I ∈ g.isos, m.iso = some I.id ∧ Compatible p blocks I := by
  obtain ⟨cons, matched, hcons, hsel, hne, hlen, hmem, hty, hninc, _⟩ := matchConsistent_spec g p rp a hmc
  have hsub := select_sub p rp cons matched hsel
  refine ⟨?_, ?_, ?_⟩
  · exact matchConsistent_ty g p rp a hmc
  · intro e
    rw [e] at hlen
    exact hne (List.eq_nil_of_length_eq_zero hlen.symm)
  · intro m hm
    obtain ⟨I, hI, hiso, _⟩ := hmem m hm
    obtain ⟨hIg, hc⟩ := candidates_compatible ms p blocks pa g rp hwf hg hrp hpa hdisp cons hcons I (hsub I hI)
    exact ⟨I, hIg, hiso, hc⟩

/-- the same at the top level: an assignment produced on the `consistent` path -/
theorem assign_consistent_path_sound (ms : List Isoform) (p : Params) (blocks : List Iv) (pa : PolyA)
    (cj : Nat → Option (List Event)) (g : Gene) (rp : ReadProf) (a : Assignment)
    (hwf : WellFormed ms) (hg : Gene.fromModels ms = some g) (hrp : constructProfiles g p blocks pa = some rp)
    (hpa : PolyAOutside blocks pa) (h : assignToIsoform g p rp cj = some (a, .consistent)) :
    a.ty.is_consistent = true ∧ a.isoMatches ≠ [] ∧
    ∀ m ∈ a.isoMatches, ∃ I ∈ g.isos, m.iso = some I.id ∧ Compatible p blocks I := by
  rcases path_of_dispatch g p rp cj a _ h with ⟨hp, _⟩ | ⟨hp, _⟩ | ⟨hp, _⟩ | ⟨_, hd, hmc⟩ | ⟨hp, _⟩
  · cases hp
  · cases hp
  · cases hp
  · exact consistent_path_sound ms p blocks pa g rp a hwf hg hrp hpa hd hmc
  · cases hp

/-! ### C01, clause "unique to T when T is the only compatible isoform" -/

/-- `unique_when_only`: if T is the only structurally compatible isoform, an assignment produced by the consistent
    path reports exactly T with type unique or unique_minor_difference -/
theorem unique_when_only (ms : List Isoform) (p : Params) (blocks : List Iv) (pa : PolyA) (g : Gene) (rp : ReadProf)
    (a : Assignment) (T : IsoInfo)
    (hwf : WellFormed ms) (hg : Gene.fromModels ms = some g) (hrp : constructProfiles g p blocks pa = some rp)
    (hpa : PolyAOutside blocks pa) (hdisp : dispatch g rp = .consistent)
    (hmc : matchConsistent g p rp = some (some a))
    (honly : ∀ I ∈ g.isos, Compatible p blocks I → I = T) :
    (a.ty = .unique ∨ a.ty = .unique_minor_difference) ∧
    ∃ m, a.isoMatches = [m] ∧ m.iso = some T.id := by
  obtain ⟨hcons_ty, _, hall⟩ := consistent_path_sound ms p blocks pa g rp a hwf hg hrp hpa hdisp hmc
  obtain ⟨cons, matched, hcons, hsel, hne, hlen, hmem, hty, _, _⟩ := matchConsistent_spec g p rp a hmc
  have hT : ∀ I ∈ cons, I = T := fun I hI =>
    have ⟨hIg, hc⟩ := candidates_compatible ms p blocks pa g rp hwf hg hrp hpa hdisp cons hcons I hI
    honly I hIg hc
  -- the candidate list is a sublist of the isoform list, whose ids are pairwise distinct: here it suffices that
  -- the selection functions keep a list of copies of T as it is when it has at most one element; otherwise they
  -- return a sub-collection, all of whose members are T
  have hsub := select_sub p rp cons matched hsel
  have hids : ∀ m ∈ a.isoMatches, m.iso = some T.id := by
    intro m hm
    obtain ⟨I, hI, hiso, _⟩ := hmem m hm
    rw [hT I (hsub I hI)] at hiso; exact hiso
  -- type: consistent, and ambiguous only with more than one match
  have hcls := classify_ambiguity (decide ((a.isoMatches.map (·.events)).length > 1))
    ((a.isoMatches.map (·.events)).flatMap (fun evs => evs.map (·.ty)))
  by_cases hone : a.isoMatches.length = 1
  · have hamb : decide ((a.isoMatches.map (·.events)).length > 1) = false := by simp [hone]
    rw [hamb] at hcls
    have h5 := hcls.2 rfl
    have htyeq : a.ty = classifyEvents false ((a.isoMatches.map (·.events)).flatMap (fun evs => evs.map (·.ty))) := by
      rw [hty]; unfold classifyAssignment; rw [hamb]
    rw [← htyeq] at h5
    constructor
    · rcases h5 with h | h | h | h | h
      · exact Or.inl h
      · exact Or.inr h
      · rw [h] at hcons_ty; exact absurd hcons_ty (by decide)
      · rw [h] at hcons_ty; exact absurd hcons_ty (by decide)
      · rw [h] at hcons_ty; exact absurd hcons_ty (by decide)
    · match hm : a.isoMatches, hone with
      | [m], _ => exact ⟨m, rfl, hids m (by rw [hm]; simp)⟩
  · -- more than one match would need more than one candidate isoform; the candidates are a sublist of the isoform
    -- list (pairwise distinct ids) and all of them are T
    exfalso
    apply hone
    have hcl : cons.length ≤ 1 := cons_length_le_one ms g hg p rp cons hcons T hT
    have hmc' : matched = cons := by
      split at hsel
      · exact selectSpliced_small p rp cons matched hsel hcl
      · exact selectUnspliced_small p rp cons matched hsel hcl
    have hpos : 0 < matched.length := List.length_pos_iff.mpr hne
    rw [hmc'] at hlen hpos
    omega

end IsoVerif.Props.C01Path
