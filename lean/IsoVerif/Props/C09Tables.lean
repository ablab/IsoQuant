/-
C09 — `--read_group file:...`: `load_table` (src/read_groups.py) keeps, for every read id, the group of the *last*
valid row; `create_read_grouper` dispatches on the documented option keywords.
-/
import IsoVerif.Model.C09
import IsoVerif.Lemmas.C09
import IsoVerif.Lemmas.C09Split

namespace IsoVerif.Props.C09Tables
open IsoVerif.Gen IsoVerif.Model.C09 IsoVerif.Lemmas.C09 IsoVerif.Lemmas.C09Split

/-- **table entry of a read**: with a non-empty column delimiter `load_table` succeeds and maps every read id to the
    group of the *last* valid row that names it (`none` = the read has no row: it will be grouped under NA) -/
theorem loadTable_last_row_wins (rc gc : Nat) (delim : List Char) (hd : delim ≠ []) (lines : List (List Char)) :
    ∃ m, loadTable rc gc delim lines [] = .ok m ∧
      ∀ r, m.lookup r = ((lines.filterMap (rowEntry rc gc delim)).reverse).lookup r :=
  ⟨_, loadTable_eq_dictOf rc gc delim hd lines [], fun r => by
    rw [lookup_dictOf]; cases ((lines.filterMap (rowEntry rc gc delim)).reverse).lookup r <;> rfl⟩

/-- **per-chromosome table = whole table, pinned tree** (`split_read_group_table` + `ReadTableGrouper(file_chr, 0, 1, '\\t')`
    = the user-table parser applied to the internal file): the file written for chromosome `chr` is re-read without error
    and gives, for every read that has an alignment on `chr`, the entry of the whole table — provided the read ids and groups
    of the table are *clean* (non-empty, no tab, no white space at the outer ends, read id not starting with `#`).  The
    repaired code reads the file with `load_split_table`: `C09Files.table_roundtrip` has no such side condition;
    `C09Files.table_roundtrip_orig_witness` shows what this reader did to unclean fields. -/
theorem table_roundtrip_orig_partial (m : List (String × String)) (chr : String) (alns : List (String × Option String))
    (hclean : ∀ rid c g, (rid, c) ∈ alns → m.lookup rid = some g → CleanRead rid ∧ CleanField g) :
    ∃ m', loadTable 0 1 ['\t'] (splitTableLines m chr alns []) [] = .ok m' ∧
      ∀ rid, (rid, some chr) ∈ alns → m'.lookup rid = m.lookup rid := by
  obtain ⟨m', hm', hl⟩ := loadTable_last_row_wins 0 1 ['\t'] (by simp) (splitTableLines m chr alns [])
  exact ⟨m', hm', fun rid hrid => by
    rw [hl rid, splitTable_entries m chr alns hclean, lookup_splitEntries m chr alns rid hrid]⟩

/-- the documented option keywords select the documented grouper; and the two generated constants the dispatcher rests
    on: the list of modes and the default group id `NA` -/
theorem parseReadGroup_spec :
    parseReadGroup none = .ok .default ∧
    parseReadGroup (some "file_name") = .ok .fileName ∧
    parseReadGroup (some "tag") = .ok (.tag rg_default_tag) ∧
    parseReadGroup (some "tag:CB") = .ok (.tag "CB") ∧
    parseReadGroup (some "read_id:_") = .ok (.readId "_") ∧
    parseReadGroup (some "file:table.tsv") = .ok .tableFile ∧
    rg_modes = ["file_name", "tag", "read_id", "file"] ∧ rg_default_group_id = "NA" := by
  decide +kernel

-- non-vacuity of `table_roundtrip_orig_partial`: a clean table entry exists and the round trip is computed on a concrete input
example : CleanRead "r1" ∧ CleanField "cell A" := by
  refine ⟨⟨⟨by decide, by decide, ?_, ?_⟩, by decide⟩, ⟨by decide, by decide, ?_, ?_⟩⟩ <;>
    (intro c hc; simp at hc; subst hc; decide)
example : loadTable 0 1 ['\t'] (splitTableLines [("r1", "cell A"), ("r2", "g2"), ("r3", "g3")] "chr1"
    [("r2", some "chr2"), ("r1", some "chr1"), ("r3", some "chr1"), ("r1", some "chr1"), ("x", none)] []) [] =
    .ok [("r1", "cell A"), ("r3", "g3")] := by decide +kernel

-- non-vacuity of `loadTable_last_row_wins`: comment, short row, padded row and a duplicate read id
example : loadTable 0 1 ['\t'] ["# c".toList, "r1\tg1\tx".toList, " r2\tg2 ".toList, "bad".toList, "r1\tg3".toList] [] =
    .ok [("r1", "g3"), ("r2", "g2")] := by decide +kernel

end IsoVerif.Props.C09Tables
