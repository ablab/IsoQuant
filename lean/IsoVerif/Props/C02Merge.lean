/-
C02, part 2 — per-chromosome merge of count tables and statistics, TPM conversion.
(Part 1: IsoVerif/Props/C02.lean.)
-/
import IsoVerif.Model.Counter
import IsoVerif.Model.CounterSpec
import IsoVerif.Lemmas.Counter
import IsoVerif.Lemmas.CounterSteps
import IsoVerif.Props.C02
import IsoVerif.Gen.CounterTables

namespace IsoVerif.Props.C02Merge
open IsoVerif.Gen IsoVerif.Model.C02 IsoVerif.Lemmas.C02 IsoVerif.Props.C02

variable {F : Type} [DecidableEq F]

/-- one counter per chromosome (complete feature list, history of calls), each dumped: `none` if a call raises -/
def runChromosomes (s : CountingStrategy) (lvl : Level) (le : F → F → Bool) (oz : Bool) :
    List (List F × List (Event F)) → Option (List (Part F))
  | [] => some []
  | c :: cs =>
    match run s lvl (CState.init c.1) c.2 with
    | none => none
    | some st =>
      match runChromosomes s lvl le oz cs with
      | none => none
      | some ps => some (dump le oz st :: ps)

def allEvents (chrs : List (List F × List (Event F))) : List (Event F) := chrs.flatMap (·.2)

theorem runChromosomes_cons {s : CountingStrategy} {lvl : Level} {le : F → F → Bool} {oz : Bool}
    {c : List F × List (Event F)} {cs : List (List F × List (Event F))} {parts : List (Part F)} :
    runChromosomes s lvl le oz (c :: cs) = some parts ↔
      ∃ st ps, run s lvl (CState.init c.1) c.2 = some st ∧ runChromosomes s lvl le oz cs = some ps ∧
        parts = dump le oz st :: ps := by
  simp only [runChromosomes]
  cases run s lvl (CState.init c.1) c.2 <;> cases runChromosomes s lvl le oz cs <;> simp [eq_comm]

theorem runChromosomes_length (s : CountingStrategy) (lvl : Level) (le : F → F → Bool) (oz : Bool) :
    ∀ (chrs : List (List F × List (Event F))) (parts : List (Part F)),
      runChromosomes s lvl le oz chrs = some parts → parts.length = chrs.length
  | [], parts, h => by
    simp only [runChromosomes, Option.some.injEq] at h
    subst h; rfl
  | c :: cs, parts, h => by
    obtain ⟨st, ps, _, hrest, rfl⟩ := runChromosomes_cons.mp h
    simp [runChromosomes_length s lvl le oz cs ps hrest]

/-- **merge_sums**: the merged table is the concatenation of the per-chromosome tables, and the merged
    statistics lines are the class counts over ALL calls of the run (`__not_aligned` is replaced by the number of
    unmapped reads of the BAM when that is positive, as `merge_counts` does) -/
theorem merge_sums (s : CountingStrategy) (lvl : Level) (le : F → F → Bool) (oz : Bool)
    (chrs : List (List F × List (Event F))) (parts : List (Part F))
    (h : runChromosomes s lvl le oz chrs = some parts) (unaligned : Nat) :
    (mergeCounts parts unaligned).rows = parts.flatMap (·.rows) ∧
    (mergeCounts parts unaligned).ambiguous = natSum ((allEvents chrs).map (ambiguousClass lvl)) ∧
    (mergeCounts parts unaligned).noFeature = natSum ((allEvents chrs).map noFeatureClass) ∧
    (mergeCounts parts unaligned).notAligned =
      (if unaligned > 0 then unaligned else natSum ((allEvents chrs).map notAlignedClass)) ∧
    (mergeCounts parts unaligned).usable = natSum ((allEvents chrs).map usableClass) := by
  have key : natSum (parts.map (·.ambiguous)) = natSum ((allEvents chrs).map (ambiguousClass lvl)) ∧
      natSum (parts.map (·.noFeature)) = natSum ((allEvents chrs).map noFeatureClass) ∧
      natSum (parts.map (·.notAligned)) = natSum ((allEvents chrs).map notAlignedClass) ∧
      natSum (parts.map (·.usable)) = natSum ((allEvents chrs).map usableClass) := by
    induction chrs generalizing parts with
    | nil =>
      simp only [runChromosomes, Option.some.injEq] at h
      subst h; simp [allEvents]
    | cons c cs ih =>
      obtain ⟨st, ps, hr, hrest, rfl⟩ := runChromosomes_cons.mp h
      have hst := stats_lines s lvl c.1 c.2 st hr le oz
      have := ih ps hrest
      simp only [allEvents, List.flatMap_cons, List.map_append, natSum_append, List.map_cons, natSum_cons] at this ⊢
      omega
  refine ⟨rfl, key.1, key.2.1, ?_, key.2.2.2⟩
  simp only [mergeCounts]
  rw [key.2.2.1]

/-- **merge_table_is_sum**: every row of the merged table comes from one chromosome and carries, rendered by
    `%.2f`, the sum of the documented contributions of that chromosome's calls (or 0 if nothing there confirmed
    the feature) -/
theorem merge_table_is_sum (s : CountingStrategy) (lvl : Level) (le : F → F → Bool) (oz : Bool)
    (chrs : List (List F × List (Event F))) (parts : List (Part F))
    (h : runChromosomes s lvl le oz chrs = some parts) (unaligned : Nat) (f : F) (p : Int)
    (hrow : (f, p) ∈ (mergeCounts parts unaligned).rows) :
    ∃ c ∈ chrs,
      ((∃ e ∈ c.2, confirmsFeature lvl e f) ∧
          p = hundredths (ratSum (c.2.map (fun e => contribution s lvl e f))))
      ∨ ((¬ ∃ e ∈ c.2, confirmsFeature lvl e f) ∧ p = hundredths 0) := by
  simp only [mergeCounts, List.mem_flatMap] at hrow
  obtain ⟨part, hpart, hmem⟩ := hrow
  induction chrs generalizing parts with
  | nil =>
    simp only [runChromosomes, Option.some.injEq] at h
    subst h; simp at hpart
  | cons c cs ih =>
    obtain ⟨st, ps, hr, hrest, rfl⟩ := runChromosomes_cons.mp h
    simp only [List.mem_cons] at hpart
    rcases hpart with rfl | hpart
    · exact ⟨c, by simp, table_is_sum_printed s lvl c.1 c.2 st hr le oz f p hmem⟩
    · obtain ⟨c', hc', hres⟩ := ih ps hrest hpart
      exact ⟨c', by simp [hc'], hres⟩

/-- features are chromosome-local: when no call on another chromosome contributes to `f`, the sum over one
    chromosome's calls is the sum over ALL calls of the run -/
theorem local_sum_eq_total (s : CountingStrategy) (lvl : Level) (chrs : List (List F × List (Event F)))
    (c : List F × List (Event F)) (hc : c ∈ chrs) (hnd : chrs.Nodup) (f : F)
    (hlocal : ∀ c' ∈ chrs, c' ≠ c → ∀ e ∈ c'.2, contribution s lvl e f = 0) :
    ratSum (c.2.map (fun e => contribution s lvl e f))
      = ratSum ((allEvents chrs).map (fun e => contribution s lvl e f)) := by
  unfold allEvents
  rw [ratSum_flatMap_map]
  induction chrs with
  | nil => simp at hc
  | cons x xs ih =>
    simp only [List.nodup_cons] at hnd
    simp only [List.map_cons, ratSum_cons]
    simp only [List.mem_cons] at hc
    rcases hc with rfl | hc
    · have : ratSum (xs.map (fun c' => ratSum (c'.2.map (fun e => contribution s lvl e f)))) = 0 := by
        apply ratSum_map_zero
        intro c' hc'
        apply ratSum_map_zero
        intro e he
        exact hlocal c' (by simp [hc']) (fun heq => hnd.1 (heq ▸ hc')) e he
      rw [this, Rat.add_zero]
    · have hx : ratSum (x.2.map (fun e => contribution s lvl e f)) = 0 := by
        apply ratSum_map_zero
        intro e he
        exact hlocal x (by simp) (fun heq => hnd.1 (heq ▸ hc)) e he
      rw [hx, Rat.zero_add]
      exact ih hc hnd.2 (fun c' hc' hne => hlocal c' (by simp [hc']) hne)

omit [DecidableEq F] in
/-- rows of the TPM table: exactly the feature rows of the counts file (up to the first id starting with `_`),
    each printed count multiplied by ONE scale factor; zero values are dropped when `output_zeroes` is off -/
theorem tpm_rows (norm : NormalizationMethod) (oz : Bool) (isStatLike : F → Bool) (rows : List (F × Int))
    (usable : Nat) (f : F) (v : Rat) :
    (f, v) ∈ (countsToTpm norm oz isStatLike rows usable).rows ↔
      ∃ h, (f, h) ∈ tpmInputRows isStatLike rows ∧ v = tpmScale norm isStatLike rows usable * printedValue h ∧
        (oz = true ∨ v ≠ 0) := by
  simp only [countsToTpm, tpmScale, List.mem_filterMap]
  constructor
  · rintro ⟨⟨g, h⟩, hmem, hrow⟩
    cases oz with
    | true =>
      simp only [Bool.not_true, Bool.false_and, Bool.false_eq_true, if_false, Option.some.injEq,
        Prod.mk.injEq] at hrow
      obtain ⟨rfl, rfl⟩ := hrow
      exact ⟨h, hmem, rfl, Or.inl rfl⟩
    | false =>
      simp only [Bool.not_false, Bool.true_and, beq_iff_eq] at hrow
      split at hrow
      · simp at hrow
      · rename_i hne
        simp only [Option.some.injEq, Prod.mk.injEq] at hrow
        obtain ⟨rfl, rfl⟩ := hrow
        exact ⟨h, hmem, rfl, Or.inr hne⟩
  · rintro ⟨h, hmem, rfl, hz⟩
    refine ⟨(f, h), hmem, ?_⟩
    rcases hz with hz | hz
    · simp [hz]
    · simp [hz]

omit [DecidableEq F] in
/-- **tpm_ratio**: all TPM values are the printed counts times one positive factor, hence every ratio (and the
    order) of counts is preserved: `tpm f · count g = tpm g · count f` -/
theorem tpm_ratio (norm : NormalizationMethod) (oz : Bool) (isStatLike : F → Bool) (rows : List (F × Int))
    (usable : Nat) (f g : F) (v w : Rat)
    (hf : (f, v) ∈ (countsToTpm norm oz isStatLike rows usable).rows)
    (hg : (g, w) ∈ (countsToTpm norm oz isStatLike rows usable).rows) :
    0 < tpmScale norm isStatLike rows usable ∧
    ∃ cf cg, (f, cf) ∈ tpmInputRows isStatLike rows ∧ (g, cg) ∈ tpmInputRows isStatLike rows ∧
      v * printedValue cg = w * printedValue cf := by
  obtain ⟨cf, hcf, rfl, _⟩ := (tpm_rows norm oz isStatLike rows usable f v).mp hf
  obtain ⟨cg, hcg, rfl, _⟩ := (tpm_rows norm oz isStatLike rows usable g w).mp hg
  exact ⟨scaleFactor_pos _ _ _, cf, cg, hcf, hcg, by grind⟩

omit [DecidableEq F] in
/-- **tpm_sum** (simple normalisation): when the printed counts have a positive total, the TPM values sum to
    exactly 10^6 (before the `%.6f` rendering) – with or without `output_zeroes` -/
theorem tpm_sum (oz : Bool) (isStatLike : F → Bool) (rows : List (F × Int)) (usable : Nat)
    (hpos : 0 < totalCounts (tpmInputRows isStatLike rows)) :
    ratSum ((countsToTpm NormalizationMethod.simple oz isStatLike rows usable).rows.map Prod.snd) = 1000000 := by
  simp only [countsToTpm]
  rw [ratSum_tpm_rows]
  have hsf : scaleFactor NormalizationMethod.simple usable (totalCounts (tpmInputRows isStatLike rows))
      = 1000000 / totalCounts (tpmInputRows isStatLike rows) := by
    simp [scaleFactor, hpos]
  rw [hsf]
  have hne : totalCounts (tpmInputRows isStatLike rows) ≠ 0 := by grind
  exact Rat.div_mul_cancel hne

omit [DecidableEq F] in
/-- **tpm_usable** (`usable_reads` normalisation, some usable read): each value is `count · 10^6 / usable`, the
    `__unassigned` line is `10^6 · (1 − Σ counts / usable)`, together they sum to 10^6 -/
theorem tpm_usable (oz : Bool) (isStatLike : F → Bool) (rows : List (F × Int)) (usable : Nat)
    (hu : usable ≠ 0) (hne : tpmInputRows isStatLike rows ≠ []) :
    tpmScale NormalizationMethod.usable_reads isStatLike rows usable = 1000000 / (usable : Rat) ∧
    (countsToTpm NormalizationMethod.usable_reads oz isStatLike rows usable).unassigned
      = 1000000 * (1 - totalCounts (tpmInputRows isStatLike rows) / (usable : Rat)) ∧
    ratSum ((countsToTpm NormalizationMethod.usable_reads oz isStatLike rows usable).rows.map Prod.snd)
      + (countsToTpm NormalizationMethod.usable_reads oz isStatLike rows usable).unassigned = 1000000 := by
  have hsf : scaleFactor NormalizationMethod.usable_reads usable (totalCounts (tpmInputRows isStatLike rows))
      = 1000000 / (usable : Rat) := by
    simp [scaleFactor, hu]
  refine ⟨hsf, by simp [countsToTpm, unassignedTpm, hu, hne], ?_⟩
  simp only [countsToTpm]
  rw [ratSum_tpm_rows, hsf]
  simp only [unassignedTpm, hu, hne, ne_eq, not_false_eq_true, and_self, if_true]
  have hun : (usable : Rat) ≠ 0 := by
    have := Rat.natCast_pos.mpr (Nat.pos_of_ne_zero hu)
    grind
  simp only [totalCounts]
  grind

omit [DecidableEq F] in
/-- no feature id looks like a statistics line ⇒ the conversion sees every row of the counts file -/
theorem tpm_complete (isStatLike : F → Bool) (rows : List (F × Int))
    (h : ∀ r ∈ rows, isStatLike r.1 = false) : tpmInputRows isStatLike rows = rows := by
  unfold tpmInputRows
  induction rows with
  | nil => simp
  | cons r rs ih =>
    have hr := h r (by simp)
    simp only [List.takeWhile_cons, hr, Bool.not_false, if_true]
    rw [ih (fun x hx => h x (by simp [hx]))]

/-- **stat_protocol** (generated from `dump_ungrouped`, `merge_counts`, `convert_counts_to_tpm` on every run):
    the TPM reader ends the feature rows only at exact statistics-line names, and these are exactly the names
    the writers emit – so with `tpm_complete` every feature row of the counts file is converted whatever its id.
    (False of the pinned tree before the `fix:` commit: the reader stopped at any line starting with `_`;
    see `tpm_underscore_witness`.) -/
theorem stat_protocol :
    tpm_stop_exact = true ∧ (∀ n ∈ merge_stat_names, n ∈ tpm_stop_names) ∧
    (∀ n ∈ dump_stat_names, n ∈ tpm_stop_names) ∧ (∀ n ∈ tpm_stop_names, n ∈ dump_stat_names) := by decide +kernel

/-- the model's renderings (`hundredths`, `millionths`) are the formats the code prints with -/
theorem print_formats : count_decimals = 2 ∧ tpm_decimals = 6 := by decide

/-- the reader of the unfixed tree (`line.startswith('_')`), on ids 0 = an id starting with `_`, others normal -/
def underscoreStopBuggy (f : Nat) : Bool := f == 0

/-- **tpm_underscore_witness**: with the old stop rule a feature whose id starts with `_` cuts the TPM table:
    the rows after it are lost and the remaining values are rescaled as if they were the whole table
    (replayed on the real code by the oracle: gene ids `A, _B, C`). -/
theorem tpm_underscore_witness :
    (countsToTpm NormalizationMethod.simple true underscoreStopBuggy [(1, 100), (0, 100), (2, 200)] 4).rows
      = [(1, 1000000)] := by decide +kernel

/-! ## a feature id that starts with `#` (repairs `fix_merge_header`, `fix_tpm_header`)

`mergeCounts` / `countsToTpm` describe the repaired code: the header of a counts file is its first line, every later
line is a row whatever its id (`merge_sums`, `tpm_rows`, `tpm_complete` carry no hypothesis on the ids).  The
behaviour of the tree before the repairs is kept as `mergeCountsOrig` / `countsToTpmOrig`. -/

/-- `line.startswith('#')` on a feature id -/
def isHashId (f : String) : Bool := f.toList.head? == some '#'

def hashPart1 : Part String := { rows := [("A1", 300), ("B1", 200)], ambiguous := 0, noFeature := 0, notAligned := 0, usable := 5 }
def hashPart2 : Part String := { rows := [("#G2", 400), ("C2", 100)], ambiguous := 0, noFeature := 0, notAligned := 0, usable := 5 }

/-- **merge_hash_witness**: with the header test by content of the unrepaired tree the gene `#G2` - first row of the
    second per-chromosome file, 4 uniquely assigned reads - has no row in the merged table; the repaired merge keeps
    all four rows (replayed on the real code: fixed cases 100003/100004 of the merge correspondence, pipeline run
    `hash_id`) -/
theorem merge_hash_witness :
    (mergeCountsOrig isHashId [hashPart1, hashPart2] 0).rows = [("A1", 300), ("B1", 200), ("C2", 100)] ∧
    (mergeCounts [hashPart1, hashPart2] 0).rows = [("A1", 300), ("B1", 200), ("#G2", 400), ("C2", 100)] := by
  decide +kernel

/-- **tpm_hash_witness**: on the first per-chromosome file the row `#count7` survived the old merge, but both loops of
    the old `convert_counts_to_tpm` skipped it: it had no TPM row and the other values were rescaled as if they were the
    whole table (750000 / 250000); the repaired reader converts every row (500000 / 375000 / 125000) -/
theorem tpm_hash_witness :
    (countsToTpmOrig NormalizationMethod.simple true (fun _ => false) isHashId
        [("#count7", 400), ("A1", 300), ("C2", 100)] 8).rows = [("A1", 750000), ("C2", 250000)] ∧
    (countsToTpm NormalizationMethod.simple true (fun _ => false)
        [("#count7", 400), ("A1", 300), ("C2", 100)] 8).rows = [("#count7", 500000), ("A1", 375000), ("C2", 125000)] := by
  decide +kernel

/-- what the old behaviour was, for all inputs: the two coincide when no row of any part has a `#`-like id (then the
    old code skips nothing) -/
theorem merge_orig_eq_of_no_hash (isHashLike : F → Bool) (parts : List (Part F)) (u : Nat)
    (h : ∀ p ∈ parts, ∀ r ∈ p.rows, isHashLike r.1 = false) :
    mergeCountsOrig isHashLike parts u = mergeCounts parts u := by
  unfold mergeCountsOrig mergeCounts
  cases parts with
  | nil => rfl
  | cons p ps =>
    have e : ps.map (fun q => q.rows.dropWhile (fun r => isHashLike r.1)) = ps.map (·.rows) := by
      apply List.map_congr_left
      intro q hq
      have hq' := h q (by simp [hq])
      cases hr : q.rows with
      | nil => rfl
      | cons r rs =>
        have : isHashLike r.1 = false := hq' r (by simp [hr])
        simp [this]
    simp only [List.flatMap_def, e, List.map_cons, List.flatten_cons]

example : ∀ p ∈ [hashPart1], ∀ r ∈ p.rows, isHashId r.1 = false := by decide +kernel

-- non-vacuity of tpm_sum / tpm_ratio / tpm_usable / tpm_complete on a concrete counts file
example : 0 < totalCounts (tpmInputRows (fun _ => false) [((1 : Nat), (150 : Int)), (2, 50), (3, 0)]) := by
  decide +kernel
example : (countsToTpm NormalizationMethod.simple true (fun _ => false) [((1 : Nat), (150 : Int)), (2, 50), (3, 0)] 4).rows
    = [(1, 750000), (2, 250000), (3, 0)] := by decide +kernel
example : (countsToTpm NormalizationMethod.usable_reads false (fun _ => false) [((1 : Nat), (150 : Int)), (2, 50), (3, 0)] 4).rows
    = [(1, 375000), (2, 125000)] ∧
    (countsToTpm NormalizationMethod.usable_reads false (fun _ => false) [((1 : Nat), (150 : Int)), (2, 50), (3, 0)] 4).unassigned
    = 500000 := by decide +kernel

end IsoVerif.Props.C02Merge
