/-
C15 — stream framing: the `<prefix>.save_<chr>` files written by TmpFileAssignmentPrinter and read by the two
loaders (full: NormalTmpFileAssignmentLoader under ReadAssignmentLoader; abridged: QuickTmpFileAssignmentLoader under
BasicReadAssignmentLoader), the `<prefix>.save_multimappers_<chr>` files and the `<prefix>.save_info` file.
All theorems quantify over every sequence of groups / lists (no bound on their number or size) and over
whatever bytes follow the stream.
-/
import IsoVerif.Lemmas.SerialStream
import IsoVerif.Props.C15Objects

namespace IsoVerif.Props.C15Stream
open IsoVerif.Gen IsoVerif.Model IsoVerif.Model.Serial IsoVerif.Lemmas.Serial IsoVerif.Props.C15Objects

/-- **stream_roundtrip**: any sequence of gene-info records each followed by any number of read records, written by
    the printer (terminator included) and read by the full loader, comes back group by group, record by record -/
theorem stream_roundtrip (gs : List (Group ReadAssignment)) (bs rest : Bytes)
    (henc : writeStream (ungroup gs) = some bs) (hdom : ∀ g ∈ gs, ∀ r ∈ g.2, RADom r) :
    loadStreamFull.run (bs ++ rest) = some (gs.map (fun g => (g.1, g.2.map quantRA)), rest) :=
  loadStream_writes (fun r bs rest hr h => read_assignment_decode_encode r bs rest h hr) gs bs rest hdom henc

theorem stream_roundtrip_exact (gs : List (Group ReadAssignment)) (bs rest : Bytes)
    (henc : writeStream (ungroup gs) = some bs) (hdom : ∀ g ∈ gs, ∀ r ∈ g.2, RADom r)
    (hpen : ∀ g ∈ gs, ∀ r ∈ g.2, ∀ m ∈ r.isoformMatches, PenaltyExact m.penaltyScore) :
    loadStreamFull.run (bs ++ rest) = some (gs, rest) := by
  rw [stream_roundtrip gs bs rest henc hdom]
  congr 2
  have : ∀ g ∈ gs, (fun g : Group ReadAssignment => (g.1, g.2.map quantRA)) g = id g := by
    intro g hg
    have : g.2.map quantRA = g.2.map id := List.map_congr_left (fun r hr => quantRA_exact (hpen g hg r hr))
    simp [this]
  rw [List.map_congr_left this]
  simp

/-- `quick_reader_aligned` for a whole file: the abridged loader walks the same file in step with the full loader –
    same groups, same number of records per group, each record the projection of the full one, same end – for every
    file whose read records have at least one exon -/
theorem quick_stream_aligned (gs : List (Group ReadAssignment)) (bs rest : Bytes)
    (henc : writeStream (ungroup gs) = some bs) (hdom : ∀ g ∈ gs, ∀ r ∈ g.2, RADom r ∧ r.exons ≠ []) :
    loadStreamQuick.run (bs ++ rest) = some (gs.map (fun g => (g.1, g.2.map (fun r => basicOf (quantRA r)))), rest) ∧
    loadStreamFull.run (bs ++ rest) = some (gs.map (fun g => (g.1, g.2.map quantRA)), rest) :=
  ⟨loadStream_writes (P := fun r => RADom r ∧ r.exons ≠ [])
      (fun r bs rest hr h => (quick_reader_aligned r bs rest h hr.1 hr.2).1) gs bs rest hdom henc,
   stream_roundtrip gs bs rest henc (fun g hg r hr => (hdom g hg r hr).1)⟩

/-- a stream whose first record is a read record is refused (the `assert self.unpickler.is_gene_info()`), it is not
    silently attributed to some gene -/
theorem stream_read_before_gene_rejected (r : ReadAssignment) (items : List Item) (bs rest : Bytes)
    (henc : writeStream (Item.read r :: items) = some bs) : loadStreamFull.run (bs ++ rest) = none := by
  simp only [writeStream, List.map_cons, List.cons_append, seqW_cons_eq_some_iff] at henc
  obtain ⟨b1, b2, h1, _, rfl⟩ := henc
  simp only [writeItem, seqW_cons_eq_some_iff] at h1
  obtain ⟨bm, b3, hm, _, rfl⟩ := h1
  obtain ⟨rfl, hlt⟩ := writeShortInt_marker hm
  have h1 : tmp_READ_ASSIGNMENT ≠ ser_SHORT_TERMINATION_INT := by decide
  have h2 : tmp_READ_ASSIGNMENT ≠ tmp_GENE_INFO := by decide
  simp [loadStreamFull, loadStream, StateT.run_bind, List.append_assoc, readNat_toBE _ _ _ hlt, loadGroups, h1, h2]

/-- a list length can be mistaken for the terminator only if it is 2^32 − 1 -/
theorem multimap_terminator_unambiguous {α} (l : List α) (w : α → Option Bytes) (bs rest : Bytes)
    (h : writeList l w = some bs) (hlen : l.length ≠ ser_TERMINATION_INT) :
    ∃ tl, (readNat ser_LONG_INT_BYTES).run (bs ++ rest) = some (l.length, tl) ∧ l.length ≠ ser_TERMINATION_INT := by
  simp only [writeList, seqW_cons_eq_some_iff] at h
  obtain ⟨b1, b2, h1, _, rfl⟩ := h
  exact ⟨b2 ++ rest, by rw [List.append_assoc]; exact readNat_write _ h1, hlen⟩

/-- **multimapper files**: any sequence of resolved lists (none of length 2^32 − 1) followed by TERMINATION_INT is
    read back list by list; penalties come back truncated (they are exact for records produced by either reader:
    `basicOf_penalty_exact`) -/
theorem multimap_roundtrip (ls : List (List BasicReadAssignment)) (bs rest : Bytes)
    (henc : writeMultimap ls = some bs) (hlen : ∀ l ∈ ls, l.length ≠ ser_TERMINATION_INT) :
    loadMultimap.run (bs ++ rest) = some (ls.map (List.map quantBasic), rest) := by
  -- every list starts with its four length bytes, so the fuel (file length + 1) does not run out
  have hfuel : ∀ l b, writeList l writeBasic = some b → 0 < b.length := fun l b h => by
    obtain ⟨bn, bl, hn, _, rfl⟩ := seqW_cons_eq_some_iff.mp h
    rw [List.length_append, intToBytes_length hn]
    exact Nat.lt_add_right _ (by decide)
  obtain ⟨b, t, hb, _, rfl⟩ := seqW_append_eq_some_iff.mp henc
  have := seqW_map_length_le hfuel ls b hb
  exact loadMultimapLoop_writes basic_rt ls _ (by simp only [List.length_append]; omega) hlen _ rest henc

theorem save_info_decode_encode (i : SaveInfo) (bs rest : Bytes) (henc : writeSaveInfo i = some bs) :
    readSaveInfo.run (bs ++ rest) = some (i, rest) := by
  revert henc
  apply Reads.cons (RT_writeInt _) trivial
  apply Reads.cons (RT_writeInt _) trivial
  apply Reads.cons (RT_writeList RT_writeString) (fun _ _ => trivial)
  exact Reads.nil rfl

/-- the file `collect_reads` writes since fix cc73ffc, seen by `load_read_info`: the three fields come back and the
    reader stops right before the unaligned count (`ub` = its four bytes) -/
theorem info_file_head (i : SaveInfo) (u : Int) (bs rest : Bytes) (henc : writeInfoFile i u = some bs) :
    ∃ hb ub, writeSaveInfo i = some hb ∧ writeInt u = some ub ∧ bs = hb ++ ub ∧
      readSaveInfo.run (bs ++ rest) = some (i, ub ++ rest) := by
  unfold writeInfoFile at henc
  obtain ⟨hb, y, h1, h2, rfl⟩ := seqW_cons_eq_some_iff.mp henc
  obtain ⟨ub, z, h3, h4, rfl⟩ := seqW_cons_eq_some_iff.mp h2
  cases seqW_nil_eq_some_iff.mp h4
  refine ⟨hb, ub, h1, h3, by simp, ?_⟩
  have := save_info_decode_encode i hb (ub ++ rest) h1
  simpa using this

/-- ... and by `load_unaligned_reads`: exactly the number that was stored, nothing left -/
theorem info_file_unaligned (i : SaveInfo) (u : Int) (bs : Bytes) (henc : writeInfoFile i u = some bs) :
    readUnaligned.run bs = some (u, []) := by
  obtain ⟨hb, ub, h1, h3, rfl, _⟩ := info_file_head i u bs [] henc
  unfold readUnaligned
  rw [StateT.run_bind, save_info_decode_encode i hb ub h1]
  have := RT_writeInt ser_LONG_INT_BYTES u ub [] trivial h3
  simpa using this

/-- an `_info` file of the older format (three fields only) gives 0 unaligned reads, no exception -/
theorem old_info_file_unaligned (i : SaveInfo) (bs : Bytes) (henc : writeSaveInfo i = some bs) :
    readUnaligned.run bs = some (0, []) := by
  unfold readUnaligned
  have := save_info_decode_encode i bs [] henc
  simp only [List.append_nil] at this
  rw [StateT.run_bind, this]
  rfl

def exHeader : GeneHeader := { delta := 6, geneIds := ["ENSG1", "ENSG2"], chrId := "chr1", start := 900, «end» := 2100 }
def exGroups : List (Group ReadAssignment) := [(exHeader, [exRA, exRA]), ({ exHeader with geneIds := [] }, [])]

example : (writeStream (ungroup exGroups)).isSome = true ∧
    ((writeStream (ungroup exGroups)).bind fun bs => loadStreamFull.run (bs ++ [9])) =
      some (exGroups.map (fun g => (g.1, g.2.map quantRA)), [9]) ∧
    ((writeStream (ungroup exGroups)).bind fun bs => loadStreamQuick.run (bs ++ [9])) =
      some (exGroups.map (fun g => (g.1, g.2.map basicOf)), [9]) := by
  have hw : (writeStream (ungroup exGroups)).isSome = true := by decide +kernel
  have hd : ∀ g ∈ exGroups, ∀ r ∈ g.2, RADom r ∧ r.exons ≠ [] := by decide +kernel
  have hq : exGroups.map (fun g => (g.1, g.2.map (fun r => basicOf (quantRA r)))) =
      exGroups.map (fun g => (g.1, g.2.map basicOf)) := by decide +kernel
  obtain ⟨bs, hbs⟩ := Option.isSome_iff_exists.mp hw
  obtain ⟨h1, h2⟩ := quick_stream_aligned exGroups bs [9] hbs hd
  rw [hbs, Option.bind_some, Option.bind_some, h1, h2, hq]
  exact ⟨rfl, rfl, rfl⟩

def exBasic : BasicReadAssignment := basicOf exRA

example : (writeMultimap [[exBasic, exBasic], [exBasic]]).isSome = true ∧
    ((writeMultimap [[exBasic, exBasic], [exBasic]]).bind fun bs => loadMultimap.run (bs ++ [9])) =
      some ([[exBasic, exBasic], [exBasic]], [9]) ∧
    (∀ l ∈ [[exBasic, exBasic], [exBasic]], l.length ≠ ser_TERMINATION_INT) := by
  decide +kernel

example : ((writeSaveInfo ⟨17, 5, ["NA", "g1"]⟩).bind fun bs => readSaveInfo.run bs) = some (⟨17, 5, ["NA", "g1"]⟩, []) := by
  decide +kernel

example : ((writeInfoFile ⟨17, 5, ["NA", "g1"]⟩ 7).bind fun bs => readUnaligned.run bs) = some (7, []) ∧
    ((writeInfoFile ⟨17, 5, ["NA", "g1"]⟩ 7).bind fun bs => readSaveInfo.run bs) = some (⟨17, 5, ["NA", "g1"]⟩, [0, 0, 0, 7]) := by
  decide +kernel

end IsoVerif.Props.C15Stream
