/-
C15 — object formats: MatchEvent, IsoformMatch, ReadAssignment, BasicReadAssignment, the gene-info header,
and the abridged reader of a full ReadAssignment record.

Shape of every round-trip theorem (`…_decode_encode`):
    writeX x = some bs  →  Dom x  →  readX.run (bs ++ rest) = some (x', rest)      for ALL x, bs, rest
* `writeX x = some bs` – the real `serialize` did not raise; by `…_encodable_iff` this is exactly the documented value
  domain (ints in [0,2^32) / (−2^31,2^31) for sign-bit ints / [0,2^16) for shorts, strings of < 2^16 UTF-8 bytes,
  lists shorter than 2^32, penalties in (−2^-20, 2^12));
* `rest` is arbitrary: the reader consumes exactly the bytes the writer produced (byte alignment);
* `x' = x` except that a penalty comes back truncated to 20 fractional bits (`quantPenalty`); the `…_exact`
  corollaries give `x' = x` when the penalties are multiples of 2^-20, and `quant…_idem` says that a second
  round trip changes nothing.
* `Dom` lists the encodable values that would NOT come back unchanged: an id of exactly 65535 UTF-8 bytes
  (`string_or_none_collision_witness`, Props/C15.lean), a dict with a repeated key (no Python dict has one),
  `corrected_introns` other than the junctions of `corrected_exons` (the reader re-derives them, it does not read them).
Each object's round trip is composed field by field: one `Reads.cons` (Lemmas/Serial.lean) with the field's codec per
statement of `serialize`.
-/
import IsoVerif.Lemmas.Serial

namespace IsoVerif.Props.C15Objects
open IsoVerif.Gen IsoVerif.Model IsoVerif.Model.Serial IsoVerif.Lemmas.Serial

/-- an optional id is `None` or a string whose UTF-8 length is not the None marker 65535 -/
def IdOk (o : Option String) : Prop := ∀ s, o = some s → s.utf8ByteSize ≠ ser_NONE_STR_LEN

def MatchDom (m : IsoformMatch) : Prop := IdOk m.assignedGene ∧ IdOk m.assignedTranscript

/-- a penalty that is stored exactly: a multiple of 2^-20 -/
def PenaltyExact (q : Rat) : Prop := ∃ n : Int, q = (n : Rat) / ((ser_SHORT_FLOAT_MULTIPLIER : Nat) : Rat)

/-- encodable values of a ReadAssignment that would not be read back unchanged are excluded:
    ids colliding with the None marker, a dict with a repeated key (impossible for a Python dict), and
    `corrected_introns` not being the junctions of `corrected_exons` (the pipeline always sets them so) -/
def RADom (r : ReadAssignment) : Prop :=
  (∀ m ∈ r.isoformMatches, MatchDom m) ∧
  (r.additionalInfo.map (·.1)).Nodup ∧ (r.additionalAttributes.map (·.1)).Nodup ∧
  r.correctedIntrons = junctionsFromBlocks r.correctedExons

/-- on a concrete record the domain is checked by evaluation -/
instance (o : Option String) : Decidable (IdOk o) :=
  inferInstanceAs (Decidable (∀ s ∈ o, s.utf8ByteSize ≠ ser_NONE_STR_LEN))
instance (m : IsoformMatch) : Decidable (MatchDom m) := inferInstanceAs (Decidable (_ ∧ _))
instance (r : ReadAssignment) : Decidable (RADom r) := inferInstanceAs (Decidable (_ ∧ _ ∧ _ ∧ _))

def quantMatch (m : IsoformMatch) : IsoformMatch := { m with penaltyScore := quantPenalty m.penaltyScore }
def quantRA (r : ReadAssignment) : ReadAssignment := { r with isoformMatches := r.isoformMatches.map quantMatch }
def quantBasic (b : BasicReadAssignment) : BasicReadAssignment := { b with penaltyScore := quantPenalty b.penaltyScore }

theorem quantPenalty_exact {q : Rat} (h : PenaltyExact q) : quantPenalty q = q := by
  obtain ⟨n, rfl⟩ := h; exact quantPenalty_of_multiple n

theorem quantPenalty_idem (q : Rat) : quantPenalty (quantPenalty q) = quantPenalty q :=
  quantPenalty_of_multiple _

theorem quantMatch_exact {m : IsoformMatch} (h : PenaltyExact m.penaltyScore) : quantMatch m = m := by
  cases m; simp only [quantMatch] at *; rw [quantPenalty_exact h]

theorem quantMatch_idem (m : IsoformMatch) : quantMatch (quantMatch m) = quantMatch m := by
  simp [quantMatch, quantPenalty_idem]

theorem quantRA_exact {r : ReadAssignment} (h : ∀ m ∈ r.isoformMatches, PenaltyExact m.penaltyScore) :
    quantRA r = r := by
  cases r
  simp only [quantRA] at *
  congr 1
  rw [List.map_congr_left (fun m hm => quantMatch_exact (h m hm))]; simp

theorem quantRA_idem (r : ReadAssignment) : quantRA (quantRA r) = quantRA r := by
  simp [quantRA, quantMatch_idem]

theorem idOk_utf8 {o : Option String} (h : IdOk o) :
    ∀ s, o = some s → (utf8 s).length ≠ ser_NONE_STR_LEN := by
  intro s hs; rw [utf8_length]; exact h s hs

theorem match_event_rt : RT writeMatchEvent readMatchEvent (fun _ => True) := by
  intro e bs rest _
  apply Reads.cons (RT_enum MatchEventSubtype.value MatchEventSubtype.ofValue? _ MatchEventSubtype.ofValue_value) trivial
  apply Reads.cons (RT_writeInt _) trivial
  apply Reads.cons (RT_writeInt _) trivial
  apply Reads.cons (RT_writeInt _) trivial
  apply Reads.cons (RT_writeInt _) trivial
  apply Reads.cons RT_writeIntNeg trivial
  exact Reads.nil rfl

/-- every event the real `MatchEvent.serialize` accepts is read back unchanged, whatever follows it -/
theorem match_event_decode_encode (e : MatchEvent) (bs rest : Bytes) (henc : writeMatchEvent e = some bs) :
    readMatchEvent.run (bs ++ rest) = some (e, rest) :=
  match_event_rt e bs rest trivial henc

theorem isoform_match_rt : RTn writeIsoformMatch readIsoformMatch quantMatch MatchDom := by
  intro m bs rest hP
  apply Reads.cons RT_writeStringOrNone (idOk_utf8 hP.1)
  apply Reads.cons RT_writeStringOrNone (idOk_utf8 hP.2)
  apply Reads.cons RT_writeString trivial
  apply Reads.cons (RT_enum MatchClassification.value MatchClassification.ofValue? _ MatchClassification.ofValue_value) trivial
  apply Reads.consN RTn_writePenalty trivial
  apply Reads.cons (RT_writeList match_event_rt) (fun _ _ => trivial)
  exact Reads.nil rfl

theorem isoform_match_decode_encode (m : IsoformMatch) (bs rest : Bytes) (henc : writeIsoformMatch m = some bs)
    (hdom : MatchDom m) : readIsoformMatch.run (bs ++ rest) = some (quantMatch m, rest) :=
  isoform_match_rt m bs rest hdom henc

theorem isoform_match_decode_encode_exact (m : IsoformMatch) (bs rest : Bytes)
    (henc : writeIsoformMatch m = some bs) (hdom : MatchDom m) (hpen : PenaltyExact m.penaltyScore) :
    readIsoformMatch.run (bs ++ rest) = some (m, rest) := by
  rw [isoform_match_decode_encode m bs rest henc hdom, quantMatch_exact hpen]

theorem read_assignment_rt : RTn writeReadAssignment readReadAssignment quantRA RADom := by
  intro r bs rest ⟨hm, hd1, hd2, hci⟩
  apply Reads.cons (RT_writeInt _) trivial
  apply Reads.cons RT_writeString trivial
  apply Reads.cons (RT_writeInt _) trivial
  apply Reads.cons (RT_writeInt _) trivial
  apply Reads.cons (RT_writeListOfPairs (RT_writeInt ser_LONG_INT_BYTES)) (fun _ _ => ⟨trivial, trivial⟩)
  apply Reads.cons (RT_writeListOfPairs (RT_writeInt ser_LONG_INT_BYTES)) (fun _ _ => ⟨trivial, trivial⟩)
  apply Reads.cons (RT_writeBoolArray 3) rfl
  apply Reads.skip (boolAt_run (i := 0) rfl)
  apply Reads.skip (boolAt_run (i := 1) rfl)
  apply Reads.skip (boolAt_run (i := 2) rfl)
  apply Reads.cons RT_writeIntNeg trivial
  apply Reads.cons RT_writeIntNeg trivial
  apply Reads.cons RT_writeIntNeg trivial
  apply Reads.cons RT_writeIntNeg trivial
  apply Reads.cons RT_writeString trivial
  apply Reads.cons RT_writeString trivial
  apply Reads.cons RT_writeString trivial
  apply Reads.cons RT_writeString trivial
  apply Reads.cons RT_writeShortInt trivial
  apply Reads.cons (RT_enumRAT _) trivial
  apply Reads.cons (RT_enumRAT _) trivial
  apply Reads.consN (RTn_writeList isoform_match_rt) hm
  apply Reads.cons RT_writeDict hd1
  apply Reads.cons RT_writeDict hd2
  apply Reads.cons RT_writeShortInt trivial
  apply Reads.cons (RT_writeList RT_writeIntNeg) (fun _ _ => trivial)
  apply Reads.cons (RT_writeList RT_writeIntNeg) (fun _ _ => trivial)
  refine Reads.nil ?_
  have hbool : ∀ b : Bool, ((if b then (1 : Int) else 0) != 0) = b := by intro b; cases b <;> rfl
  simp only [quantRA, hbool, ← hci]

/-- everything a read assignment carries is unchanged by `serialize` → `deserialize`, for every value the writer
    accepts, up to the truncation of penalties to 20 fractional bits -/
theorem read_assignment_decode_encode (r : ReadAssignment) (bs rest : Bytes)
    (henc : writeReadAssignment r = some bs) (hdom : RADom r) :
    readReadAssignment.run (bs ++ rest) = some (quantRA r, rest) :=
  read_assignment_rt r bs rest hdom henc

theorem read_assignment_decode_encode_exact (r : ReadAssignment) (bs rest : Bytes)
    (henc : writeReadAssignment r = some bs) (hdom : RADom r)
    (hpen : ∀ m ∈ r.isoformMatches, PenaltyExact m.penaltyScore) :
    readReadAssignment.run (bs ++ rest) = some (r, rest) := by
  rw [read_assignment_decode_encode r bs rest henc hdom, quantRA_exact hpen]

/-- `BasicReadAssignment.deserialize_from_read_assignment` on a full record: it stops exactly where the full reader
    stops (same `rest`) and returns the projection `BasicReadAssignment(read_assignment)` of what the full reader
    returns (`quantRA r`), for every record with at least one exon -/
theorem quick_reader_aligned (r : ReadAssignment) (bs rest : Bytes) (henc : writeReadAssignment r = some bs)
    (hdom : RADom r) (hne : r.exons ≠ []) :
    readBasicFromReadAssignment.run (bs ++ rest) = some (basicOf (quantRA r), rest) ∧
    readReadAssignment.run (bs ++ rest) = some (quantRA r, rest) := by
  refine ⟨?_, read_assignment_decode_encode r bs rest henc hdom⟩
  obtain ⟨hm, hd1, hd2, hci⟩ := hdom
  revert henc
  -- the statements of `read_assignment_rt`, except: start / end are taken from `exons` right after the exon list (two
  -- `Reads.skip`), and `bool_arr[2]` (cage_found) is not looked at
  apply Reads.cons (RT_writeInt _) trivial
  apply Reads.cons RT_writeString trivial
  apply Reads.cons (RT_writeInt _) trivial
  apply Reads.cons (RT_writeInt _) trivial
  apply Reads.cons (RT_writeListOfPairs (RT_writeInt ser_LONG_INT_BYTES)) (fun _ _ => ⟨trivial, trivial⟩)
  obtain ⟨e0, hhead⟩ : ∃ e, r.exons.head? = some e := by
    cases hex : r.exons with
    | nil => exact absurd hex hne
    | cons a t => exact ⟨a, rfl⟩
  obtain ⟨e1, hlast⟩ : ∃ e, r.exons.getLast? = some e := by
    cases hex : r.exons.getLast? with
    | none => exact absurd (List.getLast?_eq_none_iff.mp hex) hne
    | some a => exact ⟨a, rfl⟩
  apply Reads.skip (x := e0.1) (fun _ => by rw [hhead]; rfl)
  apply Reads.skip (x := e1.2) (fun _ => by rw [hlast]; rfl)
  apply Reads.cons (RT_writeListOfPairs (RT_writeInt ser_LONG_INT_BYTES)) (fun _ _ => ⟨trivial, trivial⟩)
  apply Reads.cons (RT_writeBoolArray 3) rfl
  apply Reads.skip (boolAt_run (i := 0) rfl)
  apply Reads.skip (boolAt_run (i := 1) rfl)
  apply Reads.cons RT_writeIntNeg trivial
  apply Reads.cons RT_writeIntNeg trivial
  apply Reads.cons RT_writeIntNeg trivial
  apply Reads.cons RT_writeIntNeg trivial
  apply Reads.cons RT_writeString trivial
  apply Reads.cons RT_writeString trivial
  apply Reads.cons RT_writeString trivial
  apply Reads.cons RT_writeString trivial
  apply Reads.cons RT_writeShortInt trivial
  apply Reads.cons (RT_enumRAT _) trivial
  apply Reads.cons (RT_enumRAT _) trivial
  apply Reads.consN (RTn_writeList isoform_match_rt) hm
  apply Reads.cons RT_writeDict hd1
  apply Reads.cons RT_writeDict hd2
  apply Reads.cons RT_writeShortInt trivial
  apply Reads.cons (RT_writeList RT_writeIntNeg) (fun _ _ => trivial)
  apply Reads.cons (RT_writeList RT_writeIntNeg) (fun _ _ => trivial)
  refine Reads.nil ?_
  simp only [basicOf, quantRA, hhead, hlast]

/-- the projection does not see the penalty truncation when the first match's penalty is not negative
    (penalties are sums of non-negative event costs): then the abridged reader returns exactly
    `BasicReadAssignment(read_assignment)` of the record that was written -/
theorem basicOf_quantRA (r : ReadAssignment)
    (hpos : ∀ m, r.isoformMatches.head? = some m → 0 ≤ m.penaltyScore) :
    basicOf (quantRA r) = basicOf r := by
  have hids : ∀ l : List IsoformMatch, (l.map quantMatch).map (·.assignedGene) = l.map (·.assignedGene) ∧
      (l.map quantMatch).map (·.assignedTranscript) = l.map (·.assignedTranscript) := by
    intro l; simp [quantMatch]
  have hpen : basicPenalty (r.isoformMatches.map quantMatch) = basicPenalty r.isoformMatches := by
    cases hl : r.isoformMatches with
    | nil => rfl
    | cons m t =>
      have := hpos m (by rw [hl]; rfl)
      simp [basicPenalty, quantMatch, Rat.not_lt.mpr this, quantPenalty_nonneg _ this]
  simp only [basicOf, quantRA, hids, hpen]

/-- an empty exon list is outside the domain of the abridged reader: it raises (IndexError in the real code)
    instead of returning the start = end = 0 that `BasicReadAssignment(read_assignment)` would carry -/
theorem quick_reader_empty_exons_witness :
    ∃ r bs, writeReadAssignment r = some bs ∧ r.exons = [] ∧
      readBasicFromReadAssignment.run bs = none ∧ (readReadAssignment.run bs).isSome = true := by
  refine ⟨{ assignmentId := 1, readId := "r", genomicRegion := (0, 0), exons := [], correctedExons := [],
            correctedIntrons := [], multimapper := false, polyAFound := false, cageFound := false,
            polyaInfo := ⟨-1, -1, -1, -1⟩, readGroup := "NA", mappedStrand := ".", strand := ".", chrId := "c",
            mappingQuality := 0, assignmentType := .noninformative, geneAssignmentType := .noninformative,
            isoformMatches := [], additionalInfo := [], additionalAttributes := [], intronsMatch := false,
            exonGeneProfile := [], intronGeneProfile := [] }, _, rfl, rfl, ?_, ?_⟩ <;> decide +kernel

theorem basic_rt : RTn writeBasic readBasic quantBasic (fun _ => True) := by
  intro x bs rest _
  apply Reads.cons (RT_writeInt _) trivial
  apply Reads.cons RT_writeString trivial
  apply Reads.cons RT_writeString trivial
  apply Reads.cons (RT_writeInt _) trivial
  apply Reads.cons (RT_writeInt _) trivial
  apply Reads.cons (RT_writeInt _) trivial
  apply Reads.cons (RT_writeInt _) trivial
  apply Reads.cons (RT_writeBoolArray 2) rfl
  apply Reads.skip (boolAt_run (i := 0) rfl)
  apply Reads.skip (boolAt_run (i := 1) rfl)
  apply Reads.cons (RT_enumRAT _) trivial
  apply Reads.cons (RT_enumRAT _) trivial
  apply Reads.consN RTn_writePenalty trivial
  apply Reads.cons (RT_writeList RT_writeString) (fun _ _ => trivial)
  apply Reads.cons (RT_writeList RT_writeString) (fun _ _ => trivial)
  exact Reads.nil rfl

theorem basic_decode_encode (b : BasicReadAssignment) (bs rest : Bytes) (henc : writeBasic b = some bs) :
    readBasic.run (bs ++ rest) = some (quantBasic b, rest) :=
  basic_rt b bs rest trivial henc

theorem basic_decode_encode_exact (b : BasicReadAssignment) (bs rest : Bytes) (henc : writeBasic b = some bs)
    (hpen : PenaltyExact b.penaltyScore) : readBasic.run (bs ++ rest) = some (b, rest) := by
  rw [basic_decode_encode b bs rest henc]
  cases b; simp only [quantBasic] at *; rw [quantPenalty_exact hpen]

/-- what the multimapper resolver works on is stored exactly: a record produced by either reader has a penalty
    that is already a multiple of 2^-20 (in fact 0) -/
theorem basicOf_penalty_exact (r : ReadAssignment) : PenaltyExact (basicOf (quantRA r)).penaltyScore := by
  simp only [basicOf, quantRA]
  cases r.isoformMatches with
  | nil => exact ⟨0, by simp [basicPenalty, Rat.div_def]⟩
  | cons m t =>
    simp only [List.map_cons, basicPenalty, quantMatch]
    split
    · exact ⟨penaltyToInt m.penaltyScore, rfl⟩
    · exact ⟨0, by simp [Rat.div_def]⟩

theorem gene_header_decode_encode (g : GeneHeader) (bs rest : Bytes) (henc : writeGeneHeader g = some bs) :
    readGeneHeader.run (bs ++ rest) = some (g, rest) :=
  RT_writeGeneHeader g bs rest trivial henc

/-! non-vacuity: a concrete record meets every hypothesis used above and the functions compute on it -/

def exEvent : MatchEvent :=
  { eventType := .intron_shift, isoformRegion := (2 ^ 31, 2 ^ 31), readRegion := (2 ^ 30 - 1, 2 ^ 30 + 1), eventInfo := -7 }

def exMatch : IsoformMatch :=
  { assignedGene := some "ENSG1", assignedTranscript := none, transcriptStrand := "+",
    matchClassification := .full_splice_match, penaltyScore := mkRat 3 4, events := [exEvent] }

/-- a record with a None id, sentinel positions, a negative event offset, non-ASCII text, a penalty that is not a
    multiple of 2^-20 (second match), both dicts non-empty, touching corrected exons -/
def exRA : ReadAssignment :=
  { assignmentId := 4294967295, readId := "read_é", genomicRegion := (1000, 2000),
    exons := [(1000, 1200), (1500, 2000)], correctedExons := [(1000, 1200), (1201, 1300), (1500, 2000)],
    correctedIntrons := [(1301, 1499)], multimapper := true, polyAFound := false, cageFound := true,
    polyaInfo := ⟨-1, 2001, -1, -1⟩, readGroup := "NA", mappedStrand := "+", strand := "-", chrId := "chr1",
    mappingQuality := 60, assignmentType := .ambiguous, geneAssignmentType := .«unique»,
    isoformMatches := [exMatch, { exMatch with assignedTranscript := some "T2", penaltyScore := mkRat 1 10, events := [] }],
    additionalInfo := [("FSM_class", .str "NA"), ("indel_count", .int (-5))],
    additionalAttributes := [("CB", .str "ACGT"), ("pos", .pair (-1) 3)],
    intronsMatch := true, exonGeneProfile := [1, -1, -2, 0], intronGeneProfile := [] }

example : (writeMatchEvent exEvent).isSome = true := by decide +kernel
example : (writeIsoformMatch exMatch).isSome = true ∧ MatchDom exMatch ∧ PenaltyExact exMatch.penaltyScore :=
  ⟨by decide +kernel, by decide +kernel, 786432, by decide +kernel⟩
example : (writeReadAssignment exRA).isSome = true ∧ RADom exRA ∧ exRA.exons ≠ [] := by decide +kernel
/-- the round trip on the concrete record: the second match's penalty 0.1 comes back as 104857/2^20,
    everything else is unchanged, and the abridged reader returns the projection -/
example :
    ((writeReadAssignment exRA).bind fun bs => readReadAssignment.run (bs ++ [1, 2, 3])) = some (quantRA exRA, [1, 2, 3]) ∧
    ((writeReadAssignment exRA).bind fun bs => readBasicFromReadAssignment.run (bs ++ [1, 2, 3])) =
      some (basicOf exRA, [1, 2, 3]) ∧
    quantRA exRA ≠ exRA ∧ (basicOf exRA).genes = ["ENSG1"] ∧ (basicOf exRA).isoforms = ["T2"] ∧
    (basicOf exRA).start = 1000 ∧ (basicOf exRA).end = 2000 := by
  have hw : (writeReadAssignment exRA).isSome = true ∧ RADom exRA ∧ exRA.exons ≠ [] ∧
      basicOf (quantRA exRA) = basicOf exRA := by decide +kernel
  obtain ⟨bs, hbs⟩ := Option.isSome_iff_exists.mp hw.1
  obtain ⟨h1, h2⟩ := quick_reader_aligned exRA bs [1, 2, 3] hbs hw.2.1 hw.2.2.1
  rw [hbs, Option.bind_some, Option.bind_some, h1, h2, hw.2.2.2]
  exact ⟨rfl, rfl, by decide +kernel⟩

end IsoVerif.Props.C15Objects
