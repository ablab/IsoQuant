/-
C02, part 4 — the order of the per-chromosome part files does not matter; the `usable_reads` normalisation.

`merge_counts` receives the chromosomes in the order of `chr_ids`; `merge_files` sorts the part-file NAMES with the
natural key.  That key is the C06 model (`IsoVerif.Model.C06.keyLe` / `mergeOrder`, Model/Schedule.lean) and its
order properties are the C06 theorems `natural_merge_order_total` / `natural_merge_order_trans`
(Props/C06Merge.lean): nothing about the sort is proved or computed here (the driver sorts the real file names with
`orderParts`).
-/
import IsoVerif.Model.CounterCombine
import IsoVerif.Lemmas.CounterCombine
import IsoVerif.Props.C02Merge
import IsoVerif.Props.C06Merge

namespace IsoVerif.Props.C02MergeOrder
open IsoVerif.Gen IsoVerif.Model.C02 IsoVerif.Lemmas.C02 IsoVerif.Props.C02 IsoVerif.Props.C02Merge
open List

variable {F : Type} [DecidableEq F]

/-- the names, in visiting order, are C06's `mergeOrder` of the names: sorted by the natural key (a total preorder:
    C06 `natural_merge_order_total`, `natural_merge_order_trans`), every part exactly once -/
theorem merge_visits_in_natural_order {α : Type} (named : List (String × α)) :
    (orderParts named).map Prod.fst = IsoVerif.Model.C06.mergeOrder (named.map Prod.fst) ∧
    (orderParts named).Pairwise (fun a b => IsoVerif.Model.C06.keyLe a.1 b.1 = true) ∧
    (orderParts named) ~ named :=
  ⟨orderParts_names named,
   IsoVerif.Lemmas.C06.isort_pairwise (fun a b : String × α => IsoVerif.Model.C06.keyLe a.1 b.1)
     (fun a b c => IsoVerif.Props.C06.natural_merge_order_trans a.1 b.1 c.1)
     (fun a b => IsoVerif.Props.C06.natural_merge_order_total a.1 b.1) named,
   orderParts_perm named⟩

omit [DecidableEq F] in
/-- `mergeCountsNamed` is `mergeCounts` (the object of `merge_sums`, `merge_table_is_sum`) applied to the parts in
    visiting order: the `.stats` files are summed in `chr_ids` order, which gives the same numbers -/
theorem merge_named_eq_sorted (named : List (String × Part F)) (unaligned : Nat) :
    mergeCountsNamed named unaligned = mergeCounts ((orderParts named).map Prod.snd) unaligned := by
  have hp : (orderParts named).map Prod.snd ~ named.map Prod.snd := (orderParts_perm named).map _
  simp only [mergeCountsNamed, mergeCounts]
  rw [natSum_map_perm hp (·.ambiguous), natSum_map_perm hp (·.noFeature), natSum_map_perm hp (·.notAligned),
    natSum_map_perm hp (·.usable)]

omit [DecidableEq F] in
/-- **merge_counts_order_irrelevant**: for ANY two orders of the same part files (any order of `chr_ids`, any
    schedule that produced them) the merged count tables have the same rows up to row order, and the statistics
    lines `__ambiguous`, `__no_feature`, `__not_aligned` and `reads_for_tpm` are exactly equal -/
theorem merge_counts_order_irrelevant {named named' : List (String × Part F)} (h : named ~ named')
    (unaligned : Nat) :
    (mergeCountsNamed named unaligned).rows ~ (mergeCountsNamed named' unaligned).rows ∧
    (mergeCountsNamed named unaligned).ambiguous = (mergeCountsNamed named' unaligned).ambiguous ∧
    (mergeCountsNamed named unaligned).noFeature = (mergeCountsNamed named' unaligned).noFeature ∧
    (mergeCountsNamed named unaligned).notAligned = (mergeCountsNamed named' unaligned).notAligned ∧
    (mergeCountsNamed named unaligned).usable = (mergeCountsNamed named' unaligned).usable := by
  have hp : named.map Prod.snd ~ named'.map Prod.snd := h.map _
  have hs : (orderParts named).map Prod.snd ~ (orderParts named').map Prod.snd :=
    ((orderParts_perm named).trans (h.trans (orderParts_perm named').symm)).map _
  refine ⟨?_, ?_, ?_, ?_, ?_⟩
  · simp only [mergeCountsNamed]
    exact List.Perm.flatMap_right _ hs
  · simp only [mergeCountsNamed]; exact natSum_map_perm hp _
  · simp only [mergeCountsNamed]; exact natSum_map_perm hp _
  · simp only [mergeCountsNamed]; rw [natSum_map_perm hp (·.notAligned)]
  · simp only [mergeCountsNamed]; exact natSum_map_perm hp _

/-- … and when no two part-file names have equal keys (names that differ by more than letter case / leading zeros
    of a digit run – true for the part files of distinct chromosome ids unless two ids differ only in that way),
    the merged table is the same file, row for row -/
theorem merge_counts_order_canonical {named named' : List (String × Part F)} (h : named ~ named')
    (distinct : ∀ a b, a ∈ named → b ∈ named →
      IsoVerif.Model.C06.keyLe a.1 b.1 = true → IsoVerif.Model.C06.keyLe b.1 a.1 = true → a = b)
    (unaligned : Nat) :
    mergeCountsNamed named unaligned = mergeCountsNamed named' unaligned := by
  have hord : orderParts named = orderParts named' := by
    apply List.Perm.eq_of_pairwise (le := fun a b => IsoVerif.Model.C06.keyLe a.1 b.1 = true)
    · intro a b ha hb
      exact distinct a b ((orderParts_perm named).mem_iff.1 ha)
        (h.mem_iff.2 ((orderParts_perm named').mem_iff.1 hb))
    · exact (merge_visits_in_natural_order named).2.1
    · exact (merge_visits_in_natural_order named').2.1
    · exact (orderParts_perm named).trans (h.trans (orderParts_perm named').symm)
  obtain ⟨_, h2, h3, h4, h5⟩ := merge_counts_order_irrelevant h unaligned
  have hrows : (mergeCountsNamed named unaligned).rows = (mergeCountsNamed named' unaligned).rows := by
    simp only [mergeCountsNamed, hord]
  cases hm : mergeCountsNamed named unaligned
  cases hm' : mergeCountsNamed named' unaligned
  simp only [hm, hm'] at hrows h2 h3 h4 h5
  simp [hrows, h2, h3, h4, h5]

/-- equal keys do occur and then the row order follows the order of `chr_ids` (stable sort): the hypothesis of
    `merge_counts_order_canonical` is needed – but only the ROW ORDER differs (`merge_counts_order_irrelevant`) -/
theorem merge_counts_order_tie_witness :
    let a : Part Nat := { rows := [(1, 100)], ambiguous := 0, noFeature := 0, notAligned := 0, usable := 1 }
    let b : Part Nat := { rows := [(2, 300)], ambiguous := 1, noFeature := 0, notAligned := 0, usable := 3 }
    (mergeCountsNamed [("Q_chr1.gene_counts.tsv", a), ("Q_Chr1.gene_counts.tsv", b)] 0).rows = [(1, 100), (2, 300)] ∧
    (mergeCountsNamed [("Q_Chr1.gene_counts.tsv", b), ("Q_chr1.gene_counts.tsv", a)] 0).rows = [(2, 300), (1, 100)] := by
  -- the names differ in letter case only: one key
  simp only [mergeCountsNamed, orderParts_eq]
  decide +kernel

/-- the whole run, chromosomes listed in any order with any part-file names: the merged statistics lines are the
    class counts over ALL calls of the run and every merged row is the `%.2f` of one chromosome's documented sum -/
theorem merge_named_sums (s : CountingStrategy) (lvl : Level) (le : F → F → Bool) (oz : Bool)
    (chrs : List (List F × List (Event F))) (parts : List (Part F))
    (h : runChromosomes s lvl le oz chrs = some parts)
    (named : List (String × Part F)) (hn : named.map Prod.snd = parts) (unaligned : Nat) :
    (mergeCountsNamed named unaligned).ambiguous = natSum ((allEvents chrs).map (ambiguousClass lvl)) ∧
    (mergeCountsNamed named unaligned).noFeature = natSum ((allEvents chrs).map noFeatureClass) ∧
    (mergeCountsNamed named unaligned).notAligned =
      (if unaligned > 0 then unaligned else natSum ((allEvents chrs).map notAlignedClass)) ∧
    (mergeCountsNamed named unaligned).usable = natSum ((allEvents chrs).map usableClass) ∧
    ∀ f p, (f, p) ∈ (mergeCountsNamed named unaligned).rows →
      ∃ c ∈ chrs,
        ((∃ e ∈ c.2, confirmsFeature lvl e f) ∧
            p = hundredths (ratSum (c.2.map (fun e => contribution s lvl e f))))
        ∨ ((¬ ∃ e ∈ c.2, confirmsFeature lvl e f) ∧ p = hundredths 0) := by
  obtain ⟨_, ha, hnf, hna, hu⟩ := merge_sums s lvl le oz chrs parts h unaligned
  refine ⟨?_, ?_, ?_, ?_, ?_⟩
  · rw [← ha]; simp [mergeCountsNamed, mergeCounts, hn]
  · rw [← hnf]; simp [mergeCountsNamed, mergeCounts, hn]
  · rw [← hna]; simp [mergeCountsNamed, mergeCounts, hn]
  · rw [← hu]; simp [mergeCountsNamed, mergeCounts, hn]
  · intro f p hrow
    apply merge_table_is_sum s lvl le oz chrs parts h unaligned f p
    have hperm : (orderParts named).map Prod.snd ~ parts := by
      rw [← hn]; exact (orderParts_perm named).map _
    simp only [mergeCountsNamed, mergeCounts, List.mem_flatMap] at hrow ⊢
    obtain ⟨part, hp, hmem⟩ := hrow
    exact ⟨part, hperm.mem_iff.1 hp, hmem⟩

-- non-vacuity: three chromosomes listed out of order; the natural order puts chr2 before chr10
example :
    let p (f : Nat) (v : Int) (u : Nat) : Part Nat :=
      { rows := [(f, v)], ambiguous := 0, noFeature := 1, notAligned := 0, usable := u }
    let m := mergeCountsNamed [("S_chr10.transcript_counts.tsv", p 10 100 1), ("S_chrX.transcript_counts.tsv", p 23 50 2),
                               ("S_chr2.transcript_counts.tsv", p 2 250 3)] 7
    (m.rows, m.ambiguous, m.noFeature, m.notAligned, m.usable) = ([(2, 250), (10, 100), (23, 50)], 0, 3, 7, 6) := by
  simp only [mergeCountsNamed, orderParts_eq]
  decide +kernel

/-- **tpm_usable_exact**: run any histories on the chromosomes, dump, merge (any `unaligned_reads`), convert with
    `--normalization_method usable_reads`.  Let `U` be the number of calls in `usableClass` over ALL calls of the run
    (the `__usable` lines of the `.stats` files summed: `merge_sums`; counted records + `add_unassigned`).  Then
    * `U ≠ 0` and a table with at least one feature row: every TPM row `(f, v)` comes from a counts row `(f, h)` with
      `v · U = count · 10^6` (`count` = the printed `%.2f` value), the `__unassigned` line satisfies
      `__unassigned · U = 10^6 · (U − Σ counts)`, and rows + `__unassigned` = 10^6;
    * `U ≠ 0` and no feature row: no TPM row, `__unassigned` = 0 (the code never enters its scale-factor loop);
    * `U = 0`: the code falls back to the `simple` normalisation (`and self.reads_for_tpm` is falsy). -/
theorem tpm_usable_exact (s : CountingStrategy) (lvl : Level) (le : F → F → Bool) (oz : Bool)
    (chrs : List (List F × List (Event F))) (parts : List (Part F))
    (h : runChromosomes s lvl le oz chrs = some parts) (unaligned : Nat) (isStatLike : F → Bool)
    (hids : ∀ r ∈ (mergeCounts parts unaligned).rows, isStatLike r.1 = false) :
    let merged := mergeCounts parts unaligned
    let U := natSum ((allEvents chrs).map usableClass)
    let t := countsToTpm NormalizationMethod.usable_reads oz isStatLike merged.rows merged.usable
    merged.usable = U ∧
    (U ≠ 0 → merged.rows ≠ [] →
      (∀ f v, (f, v) ∈ t.rows → ∃ c, (f, c) ∈ merged.rows ∧ v * (U : Rat) = printedValue c * 1000000) ∧
      t.unassigned * (U : Rat) = 1000000 * ((U : Rat) - totalCounts merged.rows) ∧
      ratSum (t.rows.map Prod.snd) + t.unassigned = 1000000) ∧
    (U ≠ 0 → merged.rows = [] → t.rows = [] ∧ t.unassigned = 0) ∧
    (U = 0 → t = countsToTpm NormalizationMethod.simple oz isStatLike merged.rows merged.usable) := by
  intro merged U t
  have hU : merged.usable = U := (merge_sums s lvl le oz chrs parts h unaligned).2.2.2.2
  have hinp : tpmInputRows isStatLike merged.rows = merged.rows := tpm_complete isStatLike merged.rows hids
  refine ⟨hU, ?_, ?_, ?_⟩
  · intro hne hrows
    have hu : merged.usable ≠ 0 := by rw [hU]; exact hne
    have hne' : tpmInputRows isStatLike merged.rows ≠ [] := by rw [hinp]; exact hrows
    obtain ⟨hsf, hun, hsum⟩ := tpm_usable oz isStatLike merged.rows merged.usable hu hne'
    have hUpos : (U : Rat) ≠ 0 := by
      have := Rat.natCast_pos.mpr (Nat.pos_of_ne_zero hne)
      grind
    refine ⟨?_, ?_, hsum⟩
    · intro f v hfv
      obtain ⟨c, hc, hv, _⟩ := (tpm_rows NormalizationMethod.usable_reads oz isStatLike merged.rows merged.usable f v).mp hfv
      rw [hinp] at hc
      refine ⟨c, hc, ?_⟩
      rw [hv, hsf, hU]
      rw [Rat.div_def]
      have : (U : Rat)⁻¹ * (U : Rat) = 1 := Rat.inv_mul_cancel _ hUpos
      grind
    · show t.unassigned * (U : Rat) = _
      have ht : t.unassigned = 1000000 * (1 - totalCounts (tpmInputRows isStatLike merged.rows) / (merged.usable : Rat)) := hun
      rw [ht, hinp, hU, Rat.div_def]
      have : (U : Rat)⁻¹ * (U : Rat) = 1 := Rat.inv_mul_cancel _ hUpos
      grind
  · intro _ hrows
    have : tpmInputRows isStatLike merged.rows = [] := by rw [hinp]; exact hrows
    simp [t, countsToTpm, unassignedTpm, this]
  · intro h0
    have hu : merged.usable = 0 := by rw [hU]; exact h0
    simp [t, countsToTpm, scaleFactor, unassignedTpm, hu]

/-- the `__unassigned` value can be NEGATIVE: it is computed from the printed (`%.2f`) counts, and three features
    with 2/3 each (two reads, each ambiguous between the three) print as 0.67 + 0.67 + 0.67 = 2.01 > 2 usable reads
    (an observation about the rounding, not a clause of C02; replayed on the real code by the correspondence) -/
theorem tpm_unassigned_negative_witness :
    (countsToTpm NormalizationMethod.usable_reads true (fun _ => false) [((1 : Nat), (67 : Int)), (2, 67), (3, 67)] 2).unassigned
      = -5000 := by decide +kernel

/-- the TPM table does not depend on the order of the part files either: same scale factor, same `__unassigned`
    value, the rows are those of the other order up to row order (no feature id equal to a stop name) -/
theorem tpm_order_irrelevant {named named' : List (String × Part F)} (h : named ~ named') (unaligned : Nat)
    (norm : NormalizationMethod) (oz : Bool) (isStatLike : F → Bool)
    (hids : ∀ r ∈ (mergeCountsNamed named unaligned).rows, isStatLike r.1 = false) :
    let m := mergeCountsNamed named unaligned
    let m' := mergeCountsNamed named' unaligned
    tpmScale norm isStatLike m.rows m.usable = tpmScale norm isStatLike m'.rows m'.usable ∧
    (countsToTpm norm oz isStatLike m.rows m.usable).unassigned
      = (countsToTpm norm oz isStatLike m'.rows m'.usable).unassigned ∧
    (countsToTpm norm oz isStatLike m.rows m.usable).rows ~ (countsToTpm norm oz isStatLike m'.rows m'.usable).rows := by
  intro m m'
  obtain ⟨hrows, _, _, _, husable⟩ := merge_counts_order_irrelevant h unaligned
  have hids' : ∀ r ∈ m'.rows, isStatLike r.1 = false := fun r hr => hids r (hrows.mem_iff.2 hr)
  have hi : tpmInputRows isStatLike m.rows = m.rows := tpm_complete isStatLike m.rows hids
  have hi' : tpmInputRows isStatLike m'.rows = m'.rows := tpm_complete isStatLike m'.rows hids'
  have htot : totalCounts m.rows = totalCounts m'.rows := by
    unfold totalCounts
    exact ratSum_perm (hrows.map _)
  have husable' : m.usable = m'.usable := husable
  have hempty : m.rows = [] ↔ m'.rows = [] := by
    constructor
    · intro e; rw [e] at hrows; exact hrows.symm.eq_nil
    · intro e; rw [e] at hrows; exact hrows.eq_nil
  have hne : (m.rows ≠ []) ↔ (m'.rows ≠ []) := not_congr hempty
  refine ⟨?_, ?_, ?_⟩
  · simp only [tpmScale, hi, hi', htot, husable']
  · simp only [countsToTpm, unassignedTpm, hi, hi', htot, husable', hne]
  · simp only [countsToTpm, hi, hi', htot, husable']
    exact hrows.filterMap _

end IsoVerif.Props.C02MergeOrder
