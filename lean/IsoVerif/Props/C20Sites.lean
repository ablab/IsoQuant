/-
C20 — tie of the cache-protocol model to the source: obligations over the tables regenerated from /repo on every run
(IsoVerif/Gen/CacheProtocol.lean).  Kept apart from Props/C20.lean so that a change of the code base re-opens exactly
these obligations and the protocol theorems stay audited.
-/
import IsoVerif.Model.Cache
import IsoVerif.Gen.CacheProtocol

namespace IsoVerif.Props.C20Sites
open IsoVerif.Model.C20

/-- every place of the current code base that touches a config file is represented by a model instruction, and
    every represented place still exists (a new cache, a raw `open(..,'w')`, a removed lookup re-open this obligation) -/
theorem access_sites_modelled :
    IsoVerif.Gen.cache_access_sites.all (fun s => modelledSites.any (·.1 == s)) = true ∧
    modelledSites.all (fun m => IsoVerif.Gen.cache_access_sites.contains m.1) = true := by
  -- each site is found where the same literal stands in the other table (`x == x`); no string is evaluated
  simp only [IsoVerif.Gen.cache_access_sites, modelledSites, List.all_cons, List.all_nil, List.any_cons,
    List.contains_cons, beq_self_eq_true, Bool.true_or, Bool.or_true, Bool.and_self, and_self]

/-- the regenerated entry layout of each of the four caches has exactly one target, one source mtime and one
    target mtime, and the four config files are the four the model knows -/
theorem entry_layout_modelled :
    IsoVerif.Gen.cache_entry_fields.length = 4 ∧
    IsoVerif.Gen.cache_entry_fields.all (fun fs =>
      ["target", "src_mtime", "tgt_mtime"].all (fun role => (fs.filter (·.2 == role)).length == 1)) = true ∧
    IsoVerif.Gen.cache_config_files.map (·.2) =
      ["db_config.json", "index_config.json", "bed_config.json", "alignment_config.json"] ∧
    IsoVerif.Gen.cache_config_files.length = configFiles.length := by
  decide +kernel

end IsoVerif.Props.C20Sites
