/-
C09 — file mode (`--read_group file_name`, and the implicit default with several input files): every read of file i is
counted under exactly the documented label of file i; two files share a group exactly when their labels are equal.

Documented label of a file (docs/cmd.md, docs/input.md, docs/examples.md of /repo):
  * the label given for it (`--labels`, `labels:` of a YAML entry, `path:label` in a list file) — "Files having
    identical labels will be treated as a single replica (and thus the counts will be combined)";
  * otherwise its file name: `os.path.splitext(os.path.basename(f))[0]` ("Input file names are used as labels if not
    set").  Two files in different directories with the same base name therefore share a label and a group
    (`same_stem_share_group`): this follows from the two documented rules and is recorded as an observation, not a defect.

Model: Model/C09Labels.lean (+ C10's `addFiles`, `labelled`, `parseOwnYaml`, `ownBlock` of Model/Samples.lean, whose
whole-file loops are tied to these per-experiment functions by `Props/C10.lean` `parsed_sample_depends_on_own_entry`,
`parsed_list_sample_depends_on_own_entry`).

Not full strength for YAML: a label that is not a YAML string (`labels: [1, 2]`) is stored and returned unchanged and
the run aborted in `write_string` on the pinned tree — `YamlLabelsAreGroupsOrig` is false (`yaml_labels_are_groups_orig_witness`,
replayed on the real code); the repaired parser stores `str(label)`: `yaml_labels_are_groups` holds at full strength.
-/
import IsoVerif.Model.C09Labels
import IsoVerif.Lemmas.C09
import IsoVerif.Lemmas.C09Labels

namespace IsoVerif.Props.C09Labels
open IsoVerif.Model.C09 IsoVerif.Lemmas.C09 IsoVerif.Lemmas.C09Split IsoVerif.Lemmas.C09Labels
open IsoVerif.Model.C10 (addFiles blockOwn ownBlock parseOwnYaml labelled ListLine lineLabel InFile YamlEntry ParsedSample)

/-- `os.path.basename`: the path is `dir ++ base`, the base name contains no `/`, `dir` is empty or ends with `/` -/
theorem basename_spec (p : List Char) :
    ∃ dir, p = dir ++ pyBasename p ∧ '/' ∉ pyBasename p ∧ (dir = [] ∨ dir.getLast? = some '/') := by
  induction p with
  | nil => exact ⟨[], rfl, by simp [pyBasename], Or.inl rfl⟩
  | cons c t ih =>
    obtain ⟨dir, hd, hn, hdir⟩ := ih
    by_cases ht : '/' ∈ t
    · have hc : t.contains '/' = true := by simpa using ht
      have hdne : dir ≠ [] := by
        intro e; subst e
        rw [List.nil_append] at hd
        rw [← hd] at hn; exact hn ht
      refine ⟨c :: dir, ?_, ?_, Or.inr ?_⟩
      · simp only [pyBasename, hc, if_true, List.cons_append]; rw [← hd]
      · simp only [pyBasename, hc, if_true]; exact hn
      · rcases hdir with h | h
        · exact absurd h hdne
        · rw [List.getLast?_cons_of_ne_nil hdne]; exact h
    · have hc : t.contains '/' = false := by simpa using ht
      by_cases hcs : c = '/'
      · subst hcs
        exact ⟨['/'], by simp [pyBasename, ht], by simp [pyBasename, ht], Or.inr rfl⟩
      · refine ⟨[], by simp [pyBasename, ht, hcs], ?_, Or.inl rfl⟩
        simp only [pyBasename, hc, hcs, if_false, Bool.false_eq_true, List.mem_cons, not_or]
        exact ⟨fun e => hcs e.symm, ht⟩

/-- `os.path.splitext(b)[0]` of a base name: a name without a dot is kept; a name `pre ++ "." ++ e` (`e` without dot,
    i.e. cut at its LAST dot) loses `"." ++ e` unless `pre` consists of dots only (hidden files keep their name) -/
theorem splitext_spec (b : List Char) :
    ('.' ∉ b → pySplitextRoot b = b) ∧
    (∀ pre e, b = pre ++ '.' :: e → '.' ∉ e →
      pySplitextRoot b = if pre.all (fun c => c == '.') then b else pre) := by
  constructor
  · intro h
    have : b.reverse.dropWhile (fun c => c != '.') = [] := by
      have := List.dropWhile_append_of_pos (p := fun c => c != '.') (l₁ := b.reverse) (l₂ := []) (by
        intro x hx
        have : x ≠ '.' := fun e => h (by rw [← e]; exact List.mem_reverse.mp hx)
        simpa using this)
      simpa using this
    simp [pySplitextRoot, this]
  · intro pre e hb he
    have hrev : b.reverse = e.reverse ++ '.' :: pre.reverse := by rw [hb]; simp
    have : b.reverse.dropWhile (fun c => c != '.') = '.' :: pre.reverse := by
      rw [hrev, List.dropWhile_append_of_pos (p := fun c => c != '.') (l₁ := e.reverse) (by
        intro x hx
        have : x ≠ '.' := fun e' => he (by rw [← e']; exact List.mem_reverse.mp hx)
        simpa using this)]
      simp
    simp only [pySplitextRoot, this, List.all_reverse, List.reverse_reverse]

example : fileStem "/data/run.1/sample.A.bam" = "sample.A" ∧ fileStem "x.fq.gz" = "x.fq" ∧ fileStem "/d/.hidden" = ".hidden" ∧
    fileStem "noext" = "noext" ∧ fileStem "/d/" = "" := by decide +kernel

/-- **cmd_labels**: the dictionary of `--bam f₁ … fₙ [--labels l₁ … lₘ]` — the run ends with `exit(-1)` when labels
    are given and m ≠ n, with `exit(-2)` when a file is named twice; otherwise file i ↦ label i when labels are given
    and file i ↦ its name without directory and last extension when they are not (an empty `--labels` counts as absent) -/
theorem cmd_labels (files : List String) (labels : Option (List String)) :
    readableNamesCmd files labels =
      match truthyLabels labels with
      | some ls =>
        if ls.length ≠ files.length then .error (.exit (-1))
        else if files.Nodup then .ok (files.zip ls) else .error (.exit (-2))
      | none => if files.Nodup then .ok (files.map (fun f => (f, fileStem f))) else .error (.exit (-2)) := by
  unfold readableNamesCmd
  cases ht : truthyLabels labels with
  | none =>
    simp only []
    rw [cmdLoop_eq none files 0 [] (by intro ls h; cases h), addFiles_nil]
    have : (pairsFrom none 0 files).map Prod.fst = files := by simp [pairsFrom, Function.comp_def]
    rw [this]
    by_cases hn : files.Nodup <;> simp [hn, pairsFrom]
  | some ls =>
    simp only []
    by_cases hl : ls.length ≠ files.length
    · simp [hl]
    · have hl' : ls.length = files.length := by simpa using hl
      simp only [hl, if_false]
      rw [cmdLoop_eq (some ls) files 0 [] (by intro ls' h; cases h; omega), addFiles_nil]
      have : (pairsFrom (some ls) 0 files).map Prod.fst = files := by
        simp only [pairsFrom, List.drop_zero]; exact List.map_fst_zip (Nat.le_of_eq hl'.symm)
      rw [this]
      by_cases hn : files.Nodup <;> simp [hn, pairsFrom]

/-- **file_mode_group_of_read**: with a (non-empty) label dictionary whose files are distinct, a read that comes from
    file `f` gets exactly the label registered for `f` — returned as a string and added to `read_groups` -/
theorem file_mode_group_of_read (d : List (String × String)) (libs : List (List String)) (hne : d ≠ [])
    (hnd : (d.map Prod.fst).Nodup) (f label : String) (hmem : (f, label) ∈ d) (a : Aln) (ha : a.file = some f) :
    fileModeGroup d libs a = .ok (.ok (GRes.both label)) := by
  simp only [fileModeGroup, fileNameGrouperInit, hne, ne_eq, not_false_eq_true, if_true, getGroupId, ha,
    (Lemmas.lookup_iff_mem_of_nodup hnd f label).mpr hmem]

/-- **cmd_group_of_read**: `--bam`/`--fastq` input accepted by `InputDataStorage`: every read of file i is grouped
    under `labels[i]` when labels are given, under the file's name (no directory, no last extension) otherwise -/
theorem cmd_group_of_read (files : List String) (labels : Option (List String)) (d : List (String × String))
    (h : readableNamesCmd files labels = .ok d) (libs : List (List String)) (i : Nat) (hi : i < files.length)
    (a : Aln) (ha : a.file = some files[i]) :
    ∃ label, fileModeGroup d libs a = .ok (.ok (GRes.both label)) ∧
      (truthyLabels labels = none → label = fileStem files[i]) ∧
      (∀ ls, truthyLabels labels = some ls → ls[i]? = some label) := by
  rw [cmd_labels] at h
  cases ht : truthyLabels labels with
  | none =>
    simp only [ht] at h
    split at h
    · rename_i hn
      injection h with h
      subst h
      refine ⟨fileStem files[i], ?_, fun _ => rfl, by intro ls hls; cases hls⟩
      apply file_mode_group_of_read _ libs _ _ files[i] _ _ a ha
      · intro e
        have : files = [] := by simpa using e
        subst this; simp at hi
      · simpa [Function.comp_def] using hn
      · exact List.mem_map.mpr ⟨files[i], List.getElem_mem hi, rfl⟩
    · cases h
  | some ls =>
    simp only [ht] at h
    split at h
    · cases h
    · rename_i hl
      have hl' : ls.length = files.length := by simpa using hl
      split at h
      · rename_i hn
        injection h with h
        subst h
        have hi' : i < ls.length := by omega
        refine ⟨ls[i], ?_, (by intro e; cases e), (by intro ls' hls; cases hls; exact List.getElem?_eq_getElem hi')⟩
        apply file_mode_group_of_read _ libs _ _ files[i] _ _ a ha
        · intro e
          have hz : (files.zip ls).length = 0 := by rw [e]; rfl
          rw [List.length_zip] at hz
          omega
        · rw [List.map_fst_zip (Nat.le_of_eq hl'.symm)]; exact hn
        · have hz : i < (files.zip ls).length := by rw [List.length_zip]; omega
          have := List.getElem_mem hz
          rwa [List.getElem_zip] at this
      · cases h

/-- **groups_shared_iff_labels_equal**: reads of two files of one experiment are counted in the same group exactly
    when the two files carry the same label (explicitly, or because their file names coincide) — never otherwise -/
theorem groups_shared_iff_labels_equal (d : List (String × String)) (libs : List (List String)) (hne : d ≠ [])
    (hnd : (d.map Prod.fst).Nodup) (f₁ l₁ f₂ l₂ : String) (h₁ : (f₁, l₁) ∈ d) (h₂ : (f₂, l₂) ∈ d)
    (a₁ a₂ : Aln) (ha₁ : a₁.file = some f₁) (ha₂ : a₂.file = some f₂) :
    fileModeGroup d libs a₁ = fileModeGroup d libs a₂ ↔ l₁ = l₂ := by
  rw [file_mode_group_of_read d libs hne hnd f₁ l₁ h₁ a₁ ha₁, file_mode_group_of_read d libs hne hnd f₂ l₂ h₂ a₂ ha₂]
  constructor
  · intro h
    injection h with h
    injection h with h
    simp only [GRes.both, GRes.mk.injEq, Option.some.injEq, and_self] at h
    exact h
  · intro h; rw [h]

/-- observation (documented behaviour, see the header): two files with the same base name in different directories get
    the same default label, hence one group and one column -/
theorem same_stem_share_group :
    readableNamesCmd ["/runA/x.bam", "/runB/x.bam"] none = .ok [("/runA/x.bam", "x"), ("/runB/x.bam", "x")] ∧
    readableNamesCmd ["/runA/x.bam", "/runB/x.bam"] (some ["A", "B"]) = .ok [("/runA/x.bam", "A"), ("/runB/x.bam", "B")] := by
  decide +kernel

/-! ### `FileNameGrouper.__init__` without a dictionary (fall-back branch) -/

/-- **fallback_group_of_read**: when the sample carries no dictionary, the grouper rebuilds one from the libraries of all
    samples: a file is labelled by the name of the FIRST file of the last library that lists it -/
theorem fallback_group_of_read (libs : List (List String)) (d : List (String × String))
    (h : fileNameGrouperInit [] libs = .ok d) (a : Aln) (f l : String) (ha : a.file = some f)
    (hl : fallbackLabel libs f = some l) :
    getGroupId (.fileName d) a = .ok (GRes.both l) := by
  simp only [fileNameGrouperInit, ne_eq, not_true_eq_false, if_false] at h
  have := initLibs_lookup libs [] d h f
  rw [hl] at this
  simp only [getGroupId, ha, this]

/-- one BAM file per library (what `--bam` / YAML input produce), distinct files: the fall-back label is the file's own name -/
theorem fallback_singletons (files : List String) (hnd : files.Nodup) (f : String) (hf : f ∈ files) :
    fallbackLabel (files.map (fun x => [x])) f = some (fileStem f) := by
  induction files with
  | nil => simp at hf
  | cons x xs ih =>
    simp only [List.map_cons, fallbackLabel]
    rcases List.mem_cons.mp hf with h | h
    · subst h
      have hx : f ∉ xs := (List.nodup_cons.mp hnd).1
      have hnone : fallbackLabel (xs.map (fun x => [x])) f = none := by
        clear ih hnd hf
        induction xs with
        | nil => rfl
        | cons y ys ihy =>
          have hy : f ≠ y := fun e => hx (by simp [e])
          have : ([y].contains f) = false := by simp [hy]
          simp only [List.map_cons, fallbackLabel, ihy (fun hm => hx (by simp [hm])), this]
          rfl
      simp [hnone]
    · rw [ih (List.nodup_cons.mp hnd).2 h]

/-- **yaml_entry_labels**: an accepted YAML experiment: its files are distinct, file i ↦ `labels[i]` when the entry has
    `labels` (as many as files), file i ↦ its file name otherwise -/
theorem yaml_entry_labels (e : YamlEntry) (n : String) (s : ParsedSample) (h : parseOwnYaml e n = some (some s)) :
    ∃ fs, e.files = some fs ∧ (fs.map InFile.path).Nodup ∧
      (e.labels = none → s.readable = fs.map (fun f => (f.path, f.stem))) ∧
      (∀ ls, e.labels = some ls → ls.length = fs.length ∧ s.readable = (fs.map InFile.path).zip ls) := by
  unfold parseOwnYaml at h
  cases hf : e.files with
  | none => simp [hf] at h
  | some fs =>
    simp only [hf] at h
    cases hl : labelled fs e.labels with
    | none => simp [hl] at h
    | some pairs =>
      simp only [hl, addFiles_nil] at h
      by_cases hn : (pairs.map Prod.fst).Nodup
      · simp only [hn, if_true] at h
        split at h
        · cases h
        · injection h with h
          injection h with h
          subst h
          refine ⟨fs, rfl, ?_, ?_, ?_⟩
          · cases hlab : e.labels with
            | none =>
              simp only [hlab, labelled, Option.some.injEq] at hl
              subst hl
              simpa [Function.comp_def] using hn
            | some ls =>
              simp only [hlab, labelled] at hl
              split at hl
              · cases hl
              · rename_i hlen
                injection hl with hl
                subst hl
                have : ls.length = fs.length := by simpa using hlen
                rwa [List.map_fst_zip (Nat.le_of_eq (by simpa using this.symm))] at hn
          · intro hlab
            simp only [hlab, labelled, Option.some.injEq] at hl
            exact hl.symm
          · intro ls hlab
            simp only [hlab, labelled] at hl
            split at hl
            · cases hl
            · rename_i hlen
              injection hl with hl
              exact ⟨by simpa using hlen, hl.symm⟩
      · simp [hn] at h

/-- full-strength statement for YAML labels: whatever scalar the user wrote as a label is usable as a group -/
def YamlLabelsAreGroups : Prop := ∀ v : TagVal, ∃ s, yamlLabelGroup v = .ok s

/-- **yaml_labels_are_groups** (repaired code): every YAML label is a group; a string label is the group itself, any other
    scalar is grouped under its printed value (`labels: [1, 2]` → groups `"1"`, `"2"`) -/
theorem yaml_labels_are_groups : YamlLabelsAreGroups ∧ (∀ v, yamlLabelGroup v = .ok v.render) ∧
    (∀ s, yamlLabelGroup (.str s) = .ok s) ∧ (∀ i : Int, yamlLabelGroup (.int i) = .ok (toString i)) :=
  ⟨fun v => ⟨v.render, rfl⟩, fun _ => rfl, fun _ => rfl, fun _ => rfl⟩

/-- distinct integer labels stay distinct groups (`str` of an integer is injective), so two files share a group iff
    their labels print alike -/
example : yamlLabelGroup (.int 1) = .ok "1" ∧ yamlLabelGroup (.int 10) = .ok "10" ∧ yamlLabelGroup (.str "rep") = .ok "rep" := by
  decide +kernel

/-- the statement for the pinned tree (labels stored unchanged) -/
def YamlLabelsAreGroupsOrig : Prop := ∀ v : TagVal, ∃ s, yamlLabelGroupOrig v = .ok s

/-- false of the pinned tree (model and code): an integer label (`labels: [1, 2]`) is not a string; the run aborts with
    `TypeError` in `write_string` (replayed on the real parser and on the real pipeline by the oracle) -/
theorem yaml_labels_are_groups_orig_witness : ¬ YamlLabelsAreGroupsOrig := by
  intro h
  obtain ⟨s, hs⟩ := h (.int 1)
  cases hs

/-- … where it held exactly for the entries whose labels are YAML strings; on those the repair changes nothing -/
theorem yaml_labels_are_groups_orig_partial (ls : List TagVal) (strs : List String) (h : yamlLabelsStr ls = some strs) :
    ls = strs.map TagVal.str ∧ ∀ v ∈ ls, ∃ s ∈ strs, yamlLabelGroupOrig v = .ok s ∧ yamlLabelGroup v = .ok s := by
  induction ls generalizing strs with
  | nil =>
    simp only [yamlLabelsStr, Option.some.injEq] at h
    subst h
    simp
  | cons v vs ih =>
    cases v with
    | int i => simp [yamlLabelsStr] at h
    | str s =>
      simp only [yamlLabelsStr] at h
      cases hr : yamlLabelsStr vs with
      | none => simp [hr] at h
      | some t =>
        simp only [hr, Option.map_some, Option.some.injEq] at h
        subst h
        obtain ⟨h1, h2⟩ := ih t hr
        refine ⟨by rw [h1]; simp, ?_⟩
        intro w hw
        rcases List.mem_cons.mp hw with rfl | hw
        · exact ⟨s, by simp, rfl, rfl⟩
        · obtain ⟨s', hs', he⟩ := h2 w hw
          exact ⟨s', by simp [hs'], he⟩

example : yamlLabelsStr [.str "rep1", .str "1"] = some ["rep1", "1"] ∧ yamlLabelsStr [.str "a", .int 2] = none := by decide +kernel

/-- **list_block_labels**: an accepted block of a list file: no file is named twice, and every file of a line
    `f₁ f₂ …[:label]` is labelled with the line's label — the text after the last colon, or the name of the line's first file -/
theorem list_block_labels (n : String) (lines : List ListLine) (s : ParsedSample)
    (h : ownBlock n lines = some (some s)) :
    (s.readable.map Prod.fst).Nodup ∧
    ∀ fs label, ListLine.files fs label ∈ lines → ∀ f ∈ fs, s.readable.lookup f.path = some (lineLabel fs label) := by
  unfold ownBlock at h
  cases hb : blockOwn [] [] lines with
  | none => simp [hb] at h
  | some r =>
    obtain ⟨d, c⟩ := r
    simp only [hb] at h
    split at h
    · cases h
    · injection h with h
      injection h with h
      subst h
      obtain ⟨hd, hnd⟩ := blockOwn_spec lines [] [] d c hb (by simp)
      refine ⟨hnd, ?_⟩
      intro fs label hl f hf
      apply (Lemmas.lookup_iff_mem_of_nodup hnd _ _).mpr
      rw [hd, List.nil_append]
      exact List.mem_flatMap.mpr ⟨_, hl, by simp only [linePairs]; exact List.mem_map.mpr ⟨f, hf, rfl⟩⟩

/-- tokens of `str.split()`: non-empty, free of white space -/
theorem splitWs_tokens (s : List Char) : ∀ t ∈ pySplitWs s, t ≠ [] ∧ ∀ c ∈ t, isPySpace c = false := by
  have h : ∀ (s cur : List Char), (∀ c ∈ cur, isPySpace c = false) →
      ∀ t ∈ splitWsGo s cur, t ≠ [] ∧ ∀ c ∈ t, isPySpace c = false := by
    intro s
    induction s with
    | nil =>
      intro cur hcur t ht
      simp only [splitWsGo] at ht
      split at ht
      · simp at ht
      · rename_i hne
        simp only [List.mem_singleton] at ht
        subst ht
        exact ⟨by simpa using hne, fun c hc => hcur c (List.mem_reverse.mp hc)⟩
    | cons c rest ih =>
      intro cur hcur t ht
      simp only [splitWsGo] at ht
      by_cases hsp : isPySpace c = true
      · simp only [hsp, if_true] at ht
        split at ht
        · exact ih [] (by simp) t ht
        · rename_i hne
          rcases List.mem_cons.mp ht with rfl | ht
          · exact ⟨by simpa using hne, fun c hc => hcur c (List.mem_reverse.mp hc)⟩
          · exact ih [] (by simp) t ht
      · have hsp' : isPySpace c = false := by simpa using hsp
        simp only [hsp', Bool.false_eq_true, if_false] at ht
        exact ih (c :: cur) (by
          intro x hx
          rcases List.mem_cons.mp hx with rfl | hx
          · exact hsp'
          · exact hcur x hx) t ht
  exact h s [] (by simp)

/-- **list_line_spec**: how a raw line of a list file is read.  A blank line or a line whose first character is `#` is an
    experiment header.  Any other line lists files: the label is absent when the stripped line has no colon (the files
    are then labelled by the name of the first file, `lineLabel`), and otherwise it is the text after the LAST colon.  (The listed paths are the `pySplitWs` tokens of the text before
    that colon: `splitWs_tokens`.) -/
theorem list_line_spec (l : List Char) :
    ((pyStrip l = [] ∨ l.head? = some '#') → parseListLine l = .header (String.ofList (pyStrip l).tail)) ∧
    (pyStrip l ≠ [] → l.head? ≠ some '#' →
      ∃ fs label, parseListLine l = .files fs label ∧
        (∀ f ∈ fs, f.stem = fileStem f.path) ∧
        (¬ [':'] <:+: pyStrip l → label = none) ∧
        ([':'] <:+: pyStrip l → ∃ g p, label = some (String.ofList g) ∧ pyStrip l = p ++ [':'] ++ g ∧ ¬ [':'] <:+: g)) := by
  constructor
  · intro h
    simp only [parseListLine, h, if_true]
  · intro h1 h2
    obtain ⟨ps, hps, hne, _, hone, hlast⟩ := pySplit_spec [':'] (pyStrip l) (by simp)
    have hcond : ¬ (pyStrip l = [] ∨ l.head? = some '#') := by
      rintro (h | h)
      · exact h1 h
      · exact h2 h
    cases ps with
    | nil => exact absurd rfl hne
    | cons v0 rest =>
      refine ⟨(pySplitWs v0).map (fun f => mkInFile (String.ofList f)), rest.getLast?.map String.ofList, ?_, ?_, ?_, ?_⟩
      · simp only [parseListLine, hcond, if_false, hps]
      · intro f hf
        obtain ⟨t, _, rfl⟩ := List.mem_map.mp hf
        rfl
      · intro hno
        have : (v0 :: rest).length = 1 := hone.mpr hno
        have : rest = [] := by simpa using this
        subst this
        rfl
      · intro hin
        have hlen : ¬ (v0 :: rest).length = 1 := fun e => (hone.mp e) hin
        have hrne : rest ≠ [] := by
          intro e; subst e; exact hlen rfl
        obtain ⟨g, hg⟩ : ∃ g, rest.getLast? = some g := ⟨rest.getLast hrne, List.getLast?_eq_some_getLast hrne⟩
        have hg' : (v0 :: rest).getLast? = some g := by
          rw [List.getLast?_cons_of_ne_nil hrne]; exact hg
        obtain ⟨hnog, hp⟩ := hlast g hg'
        obtain ⟨p, hp⟩ := hp hin
        exact ⟨g, p, by rw [hg]; rfl, hp, hnog⟩

example : parseListLine "  /d/a.bam  /e/b.bam :rep 1 \n".toList =
    .files [⟨"/d/a.bam", "a"⟩, ⟨"/e/b.bam", "b"⟩] (some "rep 1") ∧
    parseListLine "/d/a.sorted.bam\n".toList = .files [⟨"/d/a.sorted.bam", "a.sorted"⟩] none ∧
    parseListLine "#Exp 1 \n".toList = .header "Exp 1" ∧ parseListLine " \t\n".toList = .header "" := by decide +kernel

example : ownBlock "E" [.files [⟨"/d/a.bam", "a"⟩, ⟨"/e/b.bam", "b"⟩] (some "rep"), .files [⟨"/d/c.bam", "c"⟩] none] =
    some (some ⟨"E", [["/d/a.bam", "/e/b.bam"], ["/d/c.bam"]],
      [("/d/a.bam", "rep"), ("/e/b.bam", "rep"), ("/d/c.bam", "c")], none⟩) := by decide +kernel

example : readableNamesCmd ["/d/a.bam", "/d/b.bam"] (some ["L1"]) = .error (.exit (-1)) ∧
    readableNamesCmd ["/d/a.bam", "/d/a.bam"] none = .error (.exit (-2)) ∧
    readableNamesCmd ["/d/a.bam", "/d/b.x.bam"] (some []) = .ok [("/d/a.bam", "a"), ("/d/b.x.bam", "b.x")] := by decide +kernel

end IsoVerif.Props.C09Labels
