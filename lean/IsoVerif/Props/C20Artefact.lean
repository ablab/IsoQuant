import IsoVerif.Model.Artefact

/-
C20 — "the per-user cache … is never observed half-written", for the ARTEFACTS the caches hand out and for the index next to
a shared reference.  Model: IsoVerif/Model/Artefact.lean.

Full-strength statement (`NoPartialArtefact`): in every interleaving of any number of runs, whatever a run finds when it
opens an artefact path is the COMPLETE image of one of the builds of the system, or what the file held when the runs
started - never a proper part of an image, never an empty file that a build has just truncated / re-created.
  * true of the repaired code (every build writes a private temporary file and moves it into place):
    `no_partial_artefact_observed`, all programs, all interleavings, any number of processes, any chunking;
  * false of the code that builds in place (pyfaidx `open(fai,'w')`; `gffutils.create_db(db, force=True)`):
    `in_place_index_partial_witness`, `in_place_db_rebuild_partial_witness`.
-/
namespace IsoVerif.Props.C20Artefact
open IsoVerif.Model.C20A

/-- what a reader may find at an artefact path, given the start state `w0` and the programs `progs` of the runs:
    no file; the complete image of one of the builds; or the content some public path had at the start -/
def Whole (w0 : FS) (progs : List (List Instr)) (found : Option (List Rec)) : Prop :=
  ∀ c, found = some c → c ∈ imagesOf progs ∨ ∃ q i, w0.names q = some i ∧ w0.inodes i = c

/-- the property, for a start state and a set of programs: every observation made in any interleaving is `Whole` -/
def NoPartialArtefact (w0 : FS) (progs : List (List Instr)) : Prop :=
  ∀ sched : List Nat, ∀ o ∈ (run (Sys.start w0 progs) sched).fs.obs, o ∈ w0.obs ∨ Whole w0 progs o.2

/-- the directory is well formed: inode numbers in use are below the allocation counter -/
def WFdir (w : FS) : Prop := ∀ q i, w.names q = some i → i < w.next

/-- per-instruction invariant (independent of the file system): builds are atomic and their image is one of `imgs`; a
    temporary file holds exactly the part of its image that is not still to come; nothing is being built in place -/
def OKI (imgs : List (List Rec)) : Instr → Prop
  | .build _ a ch => a = true ∧ ch.flatten ∈ imgs
  | .buildingTmp _ whole wr rest => wr ++ rest.flatten = whole ∧ whole ∈ imgs
  | .buildingInPlace .. => False
  | _ => True

structure FSInv (imgs : List (List Rec)) (w0 w : FS) : Prop where
  lt : ∀ q i, w.names q = some i → i < w.next
  good : ∀ q i, w.names q = some i → w.inodes i ∈ imgs ∨ ∃ q0 i0, w0.names q0 = some i0 ∧ w0.inodes i0 = w.inodes i
  obs : ∀ o ∈ w.obs, o ∈ w0.obs ∨ ∀ c, o.2 = some c → c ∈ imgs ∨ ∃ q0 i0, w0.names q0 = some i0 ∧ w0.inodes i0 = c

theorem stepProc_inv (imgs : List (List Rec)) (w0 w : FS) (p : Proc) (hw : FSInv imgs w0 w)
    (hp : ∀ ins ∈ p.todo, OKI imgs ins) :
    FSInv imgs w0 (stepProc w p).1 ∧ ∀ ins ∈ (stepProc w p).2.todo, OKI imgs ins := by
  fun_cases stepProc w p with
  | case1 => exact ⟨hw, hp⟩
  | case2 q k t ht =>                       -- ifMissing
    refine ⟨hw, fun ins hins => hp ins (ht ▸ List.mem_cons_of_mem _ ?_)⟩
    split at hins
    · exact List.mem_of_mem_drop hins
    · exact hins
  | case3 q ch t ht =>                      -- build, atomic: nothing written yet
    obtain ⟨h0, h⟩ := List.forall_mem_cons.1 (ht ▸ hp)
    exact ⟨hw, List.forall_mem_cons.2 ⟨⟨List.nil_append _, h0.2⟩, h⟩⟩
  | case4 q ch t ht | case5 q ch t ht =>    -- build in place: excluded
    cases (hp (.build q false ch) (ht ▸ List.mem_cons_self)).1
  | case6 q whole wr c rest t ht =>         -- buildingTmp, a further chunk
    obtain ⟨h0, h⟩ := List.forall_mem_cons.1 (ht ▸ hp)
    exact ⟨hw, List.forall_mem_cons.2 ⟨⟨by rw [List.append_assoc, ← List.flatten_cons]; exact h0.1, h0.2⟩, h⟩⟩
  | case7 q whole wr t ht =>                -- buildingTmp, os.replace: the name points to the whole image
    obtain ⟨h0, h⟩ := List.forall_mem_cons.1 (ht ▸ hp)
    have hwr : wr = whole := by simpa using h0.1
    refine ⟨⟨fun q' i hq => ?_, fun q' i hq => ?_, hw.obs⟩, h⟩
    · revert hq; show upd w.names q (some w.next) q' = some i → i < w.next + 1
      unfold upd; split
      · rintro ⟨⟩; exact Nat.lt_succ_self _
      · exact fun hq => Nat.lt_succ_of_lt (hw.lt q' i hq)
    · revert hq; show upd w.names q (some w.next) q' = some i → upd w.inodes w.next wr i ∈ imgs ∨ ∃ q0 i0, _ ∧ w0.inodes i0 = upd w.inodes w.next wr i
      unfold upd; split
      · rintro ⟨⟩; rw [if_pos rfl, hwr]; exact Or.inl h0.2
      · intro hq; rw [if_neg (Nat.ne_of_lt (hw.lt q' i hq))]; exact hw.good q' i hq
  | case8 q i c rest t ht => exact (hp (.buildingInPlace q i (c :: rest)) (ht ▸ List.mem_cons_self)).elim
  | case9 q i t ht => exact (hp (.buildingInPlace q i []) (ht ▸ List.mem_cons_self)).elim
  | case10 q t ht =>                        -- use: what the name points to is whole
    refine ⟨⟨hw.lt, hw.good, List.forall_mem_cons.2 ⟨Or.inr fun c hc => ?_, hw.obs⟩⟩,
      fun ins hins => hp ins (ht ▸ List.mem_cons_of_mem _ hins)⟩
    cases hn : w.names q with
    | none => rw [show (q, (w.names q).map w.inodes).2 = (w.names q).map w.inodes from rfl, hn] at hc; cases hc
    | some i =>
      rw [show (q, (w.names q).map w.inodes).2 = (w.names q).map w.inodes from rfl, hn] at hc
      cases hc
      exact hw.good q i hn

structure SysInv (imgs : List (List Rec)) (w0 : FS) (s : Sys) : Prop where
  fs : FSInv imgs w0 s.fs
  instrs : ∀ p ∈ s.procs, ∀ ins ∈ p.todo, OKI imgs ins

theorem stepSys_inv (imgs : List (List Rec)) (w0 : FS) (s : Sys) (pid : Nat) (h : SysInv imgs w0 s) :
    SysInv imgs w0 (stepSys s pid) := by
  unfold stepSys
  cases hp : s.procs[pid]? with
  | none => exact h
  | some p =>
    have hs := stepProc_inv imgs w0 s.fs p h.fs (h.instrs p (List.mem_of_getElem? hp))
    refine ⟨hs.1, fun p' hp' => ?_⟩
    rcases List.mem_or_eq_of_mem_set hp' with h1 | rfl
    · exact h.instrs p' h1
    · exact hs.2

theorem run_inv (imgs : List (List Rec)) (w0 : FS) (sched : List Nat) (s : Sys) (h : SysInv imgs w0 s) :
    SysInv imgs w0 (run s sched) :=
  List.foldlRecOn sched stepSys h fun s hs pid _ => stepSys_inv imgs w0 s pid hs

theorem image_mem_imagesOf (progs : List (List Instr)) (l : List Instr) (hl : l ∈ progs) (q : Path) (a : Bool)
    (ch : List (List Rec)) (h : Instr.build q a ch ∈ l) : ch.flatten ∈ imagesOf progs := by
  unfold imagesOf
  exact List.mem_flatMap.mpr ⟨l, hl, List.mem_filterMap.mpr ⟨_, h, rfl⟩⟩

/-- **C20, artefacts, repaired protocol.**  Any number of runs, any programs whose builds are atomic (temporary file +
    `os.replace`: `load_indexed_reference`, `gtf2db` after the repairs), any chunking of the images, any start directory,
    EVERY interleaving: whatever a run finds when it opens an artefact path is absent, the complete image of one of the
    builds, or a content the directory held at the start - "no reader observes a partial index / database". -/
theorem no_partial_artefact_observed (w0 : FS) (hw0 : WFdir w0) (progs : List (List Instr))
    (hat : ∀ l ∈ progs, ∀ ins ∈ l, ins.atomicFresh = true) : NoPartialArtefact w0 progs := by
  intro sched o ho
  have h0 : SysInv (imagesOf progs) w0 (Sys.start w0 progs) := by
    refine ⟨⟨hw0, fun q i hq => Or.inr ⟨q, i, hq, rfl⟩, fun o ho => Or.inl ho⟩, ?_⟩
    intro p hp ins hins
    simp only [Sys.start, List.mem_map] at hp
    obtain ⟨l, hl, rfl⟩ := hp
    have ha := hat l hl ins hins
    cases ins with
    | build q a ch =>
      simp only [Instr.atomicFresh] at ha
      exact ⟨ha, image_mem_imagesOf progs l hl q a ch hins⟩
    | buildingTmp q whole wr rest => simp [Instr.atomicFresh] at ha
    | buildingInPlace q i rest => simp [Instr.atomicFresh] at ha
    | ifMissing q k => trivial
    | use q => trivial
  exact (run_inv (imagesOf progs) w0 sched _ h0).fs.obs o ho

/-- the programs of the code base meet the hypothesis: `load_indexed_reference` + re-openings, a conversion + openings, a
    cache hit + openings (repaired variants) -/
theorem loadIndexed_atomicFresh (fai : Path) (ch : List (List Rec)) (n : Nat) :
    ∀ ins ∈ loadIndexed fai true ch n, ins.atomicFresh = true := by
  intro ins h
  simp only [loadIndexed, List.cons_append, List.nil_append, List.mem_cons, List.mem_replicate] at h
  rcases h with h | h | h
  · subst h; rfl
  · subst h; rfl
  · rw [h.2]; rfl

theorem convertThenUse_atomicFresh (db : Path) (ch : List (List Rec)) (n : Nat) :
    ∀ ins ∈ convertThenUse db true ch n, ins.atomicFresh = true := by
  intro ins h
  simp only [convertThenUse, List.cons_append, List.nil_append, List.mem_cons, List.mem_replicate] at h
  rcases h with h | h
  · subst h; rfl
  · rw [h.2]; rfl

theorem useOnly_atomicFresh (db : Path) (n : Nat) : ∀ ins ∈ useOnly db n, ins.atomicFresh = true := by
  intro ins h
  simp only [useOnly, List.mem_replicate] at h
  rw [h.2]; rfl

/-- **The repaired `load_indexed_reference`**: n runs (any n) that start on a reference whose index does not exist
    (or exists, complete: `w0` arbitrary), each with its own idea of the chunking and any number of re-openings by its
    workers: every opening of the index finds no file, the complete index, or what was there at the start. -/
theorem shared_index_never_partial (w0 : FS) (hw0 : WFdir w0) (fai : Path) (index : List (List Rec))
    (runs : List (List (List Rec) × Nat)) (hsame : ∀ r ∈ runs, r.1.flatten = index.flatten) :
    ∀ sched, ∀ o ∈ (run (Sys.start w0 (runs.map (fun r => loadIndexed fai true r.1 r.2))) sched).fs.obs,
      o ∈ w0.obs ∨ ∀ c, o.2 = some c → c = index.flatten ∨ ∃ q i, w0.names q = some i ∧ w0.inodes i = c := by
  intro sched o ho
  have hat : ∀ l ∈ runs.map (fun r => loadIndexed fai true r.1 r.2), ∀ ins ∈ l, ins.atomicFresh = true := by
    intro l hl
    obtain ⟨r, _, rfl⟩ := List.mem_map.mp hl
    exact loadIndexed_atomicFresh fai r.1 r.2
  rcases no_partial_artefact_observed w0 hw0 _ hat sched o ho with h | h
  · exact Or.inl h
  · right
    intro c hc
    rcases h c hc with h1 | h1
    · left
      unfold imagesOf at h1
      obtain ⟨l, hl, hc1⟩ := List.mem_flatMap.mp h1
      obtain ⟨r, hr, rfl⟩ := List.mem_map.mp hl
      obtain ⟨ins, hins, himg⟩ := List.mem_filterMap.mp hc1
      simp only [loadIndexed, List.cons_append, List.nil_append, List.mem_cons, List.mem_replicate] at hins
      rcases hins with h2 | h2 | h2
      · subst h2; simp [Instr.image] at himg
      · subst h2
        simp only [Instr.image, Option.some.injEq] at himg
        rw [← himg]; exact hsame r hr
      · rw [h2.2] at himg; simp [Instr.image] at himg
    · exact Or.inr h1

/-- three runs start on an un-indexed reference (index = records 1, 2, 3), each with its own chunking; in the interleaving
    below run 1 tests for the index while run 0 is in the middle of its build, and run 2 after run 0's `os.replace`: the
    hypotheses hold and all three openings find the complete index; an opening before the first `os.replace` finds no
    file (last example) -/
def triple : List (List Instr) :=
  [loadIndexed 7 true [[1], [2], [3]] 2, loadIndexed 7 true [[1, 2], [3]] 1, loadIndexed 7 true [[1], [2, 3]] 1]

example : WFdir FS.empty ∧ (∀ l ∈ triple, ∀ ins ∈ l, ins.atomicFresh = true) := by
  refine ⟨by intro q i h; simp [FS.empty] at h, ?_⟩
  intro l hl
  simp only [triple, List.mem_cons, List.not_mem_nil, or_false] at hl
  rcases hl with rfl | rfl | rfl <;> exact loadIndexed_atomicFresh _ _ _

example : ((run (Sys.start FS.empty triple) [0, 0, 0, 1, 1, 0, 0, 0, 2, 2, 0, 1, 1, 1, 1, 1]).fs.obs.map (·.2))
    = [some [1, 2, 3], some [1, 2, 3], some [1, 2, 3]] := by decide +kernel

example : ((run (Sys.start FS.empty [useOnly 7 1, loadIndexed 7 true [[1], [2]] 1]) [0, 1, 1, 1, 0]).fs.obs.map (·.2))
    = [none] := by decide +kernel

/-! ### the in-place protocol (before the repairs): witnesses -/

/-- **Before eab0ef3** (`Fasta(reference, indexname=fai)`: pyfaidx opens the index with `open(fai,'w')` and fills
    it): two first users of an un-indexed reference.  Run 0 finds no index and starts to build it in place (the file
    exists, one of two records written); run 1 finds the file, skips its build, opens the index: it reads `[1]`, which is
    neither the complete index `[1, 2]` nor anything that was there at the start - `NoPartialArtefact` fails; one after
    the other both read the complete index. -/
theorem in_place_index_partial_witness :
    let progs := [loadIndexed 7 false [[1], [2]] 1, loadIndexed 7 false [[1], [2]] 1]
    let s := run (Sys.start FS.empty progs) [0, 0, 0, 1, 1]
    s.fs.obs = [(7, some [1])] ∧ ¬ Whole FS.empty progs (some [1]) ∧ ¬ NoPartialArtefact FS.empty progs ∧
    (run (Sys.start FS.empty progs) [0, 0, 0, 0, 0, 0, 1, 1]).fs.obs = [(7, some [1, 2]), (7, some [1, 2])] := by
  intro progs s
  have hobs : s.fs.obs = [(7, some [1])] := by decide +kernel
  have hnw : ¬ Whole FS.empty progs (some [1]) := by
    intro h
    rcases h [1] rfl with h1 | ⟨q, i, h1, _⟩
    · revert h1; decide +kernel
    · cases h1
  refine ⟨hobs, hnw, fun h => ?_, by decide +kernel⟩
  rcases h [0, 0, 0, 1, 1] (7, some [1]) (by rw [hobs]; exact List.mem_singleton.2 rfl) with h1 | h1
  · cases h1
  · exact hnw h1

/-- **Before the repair of `gtf2db`** (`gffutils.create_db(gtf, db, force=True)`): the database `[5, 6]` of a finished
    run is in the directory; run 0 holds it from the cache and opens it twice; run 1 (the owner of the folder, same input,
    `--clean_start`) rebuilds it in place.  Between run 1's first step (the file is removed / truncated) and its last
    write run 0 finds `[]`, then `[5]`: neither the old nor the new complete database, although both are `[5, 6]`. -/
theorem in_place_db_rebuild_partial_witness :
    let progs := [useOnly 3 2, convertThenUse 3 false [[5], [6]] 1]
    let s := run (Sys.start (FS.single 3 [5, 6]) progs) [1, 0, 1, 0, 1, 1, 1]
    s.fs.obs.map (·.2) = [some [5, 6], some [5], some []] ∧
    ¬ Whole (FS.single 3 [5, 6]) progs (some [5]) ∧ ¬ NoPartialArtefact (FS.single 3 [5, 6]) progs := by
  intro progs s
  have hobs : s.fs.obs = [(3, some [5, 6]), (3, some [5]), (3, some [])] := by decide +kernel
  have hnw : ¬ Whole (FS.single 3 [5, 6]) progs (some [5]) := by
    intro h
    rcases h [5] rfl with h1 | ⟨q, i, h1, h2⟩
    · revert h1; decide +kernel
    · simp only [FS.single] at h1 h2
      split at h1
      · cases h1; cases h2
      · cases h1
  refine ⟨by rw [hobs]; rfl, hnw, fun h => ?_⟩
  rcases h [1, 0, 1, 0, 1, 1, 1] (3, some [5]) (by rw [hobs]; exact List.mem_cons_of_mem _ List.mem_cons_self) with h1 | h1
  · cases h1
  · exact hnw h1

/-- the same history with the repaired (atomic) conversion: run 0 finds the complete database both times -/
example : ((run (Sys.start (FS.single 3 [5, 6]) [useOnly 3 2, convertThenUse 3 true [[5], [6]] 1])
    [1, 0, 1, 0, 1, 1, 1]).fs.obs.map (·.2)) = [some [5, 6], some [5, 6], some [5, 6]] := by decide +kernel

end IsoVerif.Props.C20Artefact
