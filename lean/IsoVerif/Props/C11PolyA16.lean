/-
C11 — translation / reflection equivariance of the polyA / polyT exon trimming (Model/PolyA.lean, property C16's model of
`PolyAFixer.count_polya_exons / count_polyt_exons / correct_read_info`, `shift_polya / shift_polyt` and
`AlignmentInfo.add_polya_info`).

ALL exon lists (sorted or not), all read / CIGAR block lists, all position quadruples, all `max_fake_terminal_exon_len`,
all k / L.  The only hypothesis is the sentinel one: a real tail position is not moved onto −1 (`NoColl k p` /
`NoCollM L p`); `sentinel_collision_witness` shows it is needed.  Images of output records are taken relative to the
ORIGINAL positions (`shiftAInfoBy info`, `mirrorAInfoBy info`, Model/C11SymPolyA.lean): the code keeps a −1 and recomputes
every other position, whatever the recomputed value is.
Reflection swaps polyA ↔ polyT: `count_polya_exons ↔ count_polyt_exons`, `shift_polya ↔ shift_polyt`, the two counts of
`correct_read_info`, and in `add_polya_info` the 3' trim and the 5' trim — which the code performs in a fixed order (3'
first); `trims_commute` shows the order is immaterial when at least one exon is kept, which `correct_read_info` guarantees.
-/
import IsoVerif.Model.PolyA
import IsoVerif.Model.C11SymPolyA
import IsoVerif.Lemmas.C11PolyA16

namespace IsoVerif.Props.C11PolyA16
open IsoVerif.Gen IsoVerif.Model IsoVerif.Model.C11 IsoVerif.Lemmas.C11

theorem shift_equivariant_countPolyaExons (mf k : Int) (exons : List Iv) (pos : Int) (h : NoColl k pos) :
    C16.countPolyaExons mf (shiftL k exons) (shiftPos k pos) = C16.countPolyaExons mf exons pos :=
  pa16_countPolyaExons_shift mf k exons pos h

theorem shift_equivariant_countPolytExons (mf k : Int) (exons : List Iv) (pos : Int) (h : NoColl k pos) :
    C16.countPolytExons mf (shiftL k exons) (shiftPos k pos) = C16.countPolytExons mf exons pos :=
  pa16_countPolytExons_shift mf k exons pos h

/-- `shift_polya` (for every `exon_count : Int`, also the ones for which the code raises): result moved by k unless the
    position is the sentinel -/
theorem shift_equivariant_shiftPolya (k : Int) (exons : List Iv) (c pos : Int) (h : NoColl k pos) :
    C16.shiftPolya (shiftL k exons) c (shiftPos k pos) = (C16.shiftPolya exons c pos).map (shiftPosBy pos k) :=
  pa16_shiftPolya_shift k exons c pos h

theorem shift_equivariant_shiftPolyt (k : Int) (exons : List Iv) (c pos : Int) (h : NoColl k pos) :
    C16.shiftPolyt (shiftL k exons) c (shiftPos k pos) = (C16.shiftPolyt exons c pos).map (shiftPosBy pos k) :=
  pa16_shiftPolyt_shift k exons c pos h

/-- `correct_read_info`: the two exon counts do not depend on the position of the read on the chromosome -/
theorem shift_equivariant_correctReadInfo (mf k : Int) (exons : List Iv) (i : C16.PolyAInfo)
    (ha : NoColl k i.internalPolyA) (ht : NoColl k i.internalPolyT) :
    C16.correctReadInfo mf (shiftL k exons) (shiftInfo k i) = C16.correctReadInfo mf exons i :=
  pa16_correctReadInfo_shift mf k exons i ha ht

/-- **shift_equivariant_addPolyaInfo** — `add_polya_info` on the shifted alignment: same exons removed, the retained
    exons / read_start / read_end / recomputed tail positions shifted by k, read and CIGAR blocks trimmed identically,
    an IndexError stays an IndexError -/
theorem shift_equivariant_addPolyaInfo (mf k : Int) (exons rb cb : List Iv) (i : C16.PolyAInfo)
    (h1 : NoColl k i.internalPolyA) (h2 : NoColl k i.externalPolyA)
    (h3 : NoColl k i.internalPolyT) (h4 : NoColl k i.externalPolyT) :
    C16.addPolyaInfo mf (shiftL k exons) rb cb (shiftInfo k i) =
      (C16.addPolyaInfo mf exons rb cb i).map (shiftAInfoBy i k) := by
  unfold C16.addPolyaInfo C16.addPolyaInfoWith
  rw [pa16_ainfoInit_shift, pa16_correctReadInfo_shift mf k exons i h1 h3]
  cases h0 : C16.ainfoInit exons rb cb i with
  | none => rfl
  | some st0 =>
    obtain ⟨hi, _, _, _⟩ := pa16_ainfoInit_info exons rb cb i st0 h0
    cases C16.correctReadInfo mf exons i with
    | none => rfl
    | some at_ =>
      obtain ⟨a, t⟩ := at_
      simp only [Option.map_some, Option.bind_eq_bind, Option.bind_some]
      rw [pa16_trimPolyA_shift i k st0 a (by rw [hi]) (by rw [hi]) h1 h2]
      cases hA : C16.trimPolyA st0 a with
      | none => rfl
      | some st1 =>
        obtain ⟨k1, k2⟩ := pa16_trimPolyA_keepsT st0 st1 a hA
        simp only [Option.map_some, Option.bind_some]
        rw [pa16_trimPolyT_shift i k st1 t (by rw [k1, hi]) (by rw [k2, hi]) h3 h4]
        cases C16.trimPolyT st1 t with
        | none => rfl
        | some st2 =>
          simp only [Option.map_some, Option.bind_some]
          exact pa16_refreshEnds_shift i k st2

/-- non-vacuity: the last exon is mostly polyA and is trimmed; k = 256 -/
example : NoColl 256 305 ∧ NoColl 256 (-1) ∧
    (C16.addPolyaInfo 40 [(100, 200), (300, 330)] [(0, 100), (101, 131)] [(0, 0), (2, 2)] ⟨305, -1, 305, -1⟩).map
      (fun r => (r.exons, r.info.internalPolyA, r.readEnd)) = some ([(100, 200)], 205, 200) ∧
    (C16.addPolyaInfo 40 (shiftL 256 [(100, 200), (300, 330)]) [(0, 100), (101, 131)] [(0, 0), (2, 2)]
      (shiftInfo 256 ⟨305, -1, 305, -1⟩)).map (fun r => (r.exons, r.info.internalPolyA, r.readEnd))
      = some ([(356, 456)], 461, 456) := by
  refine ⟨by unfold NoColl; omega, by unfold NoColl; omega, by decide, by decide⟩

/-- **sentinel_collision_witness** — the hypothesis is needed: shifting the tail position 305 by −306 puts it on the
    sentinel, the fake terminal exon is no longer recognised and nothing is trimmed -/
theorem sentinel_collision_witness :
    C16.countPolyaExons 40 [(100, 200), (300, 330)] 305 = 1 ∧
    C16.countPolyaExons 40 (shiftL (-306) [(100, 200), (300, 330)]) (305 + -306) = 0 := by decide

theorem mirror_dual_countPolyaExons (mf L : Int) (exons : List Iv) (pos : Int) (h : NoCollM L pos) :
    C16.countPolytExons mf (mirrorL L exons) (mirrorPos L pos) = C16.countPolyaExons mf exons pos :=
  pa16_countPolytExons_mirror mf L exons pos h

theorem mirror_dual_countPolytExons (mf L : Int) (exons : List Iv) (pos : Int) (h : NoCollM L pos) :
    C16.countPolyaExons mf (mirrorL L exons) (mirrorPos L pos) = C16.countPolytExons mf exons pos :=
  pa16_countPolyaExons_mirror mf L exons pos h

/-- `shift_polyt` on the mirrored read is the mirror image of `shift_polya` (every `exon_count : Int`: the negative
    index `read_exons[-i-1]` of one is the index `read_exons[i]` of the other seen from the other end) -/
theorem mirror_dual_shiftPolya (L : Int) (exons : List Iv) (c pos : Int) (h : NoCollM L pos) :
    C16.shiftPolyt (mirrorL L exons) c (mirrorPos L pos) = (C16.shiftPolya exons c pos).map (mirrorPosBy pos L) :=
  pa16_shiftPolyt_mirror L exons c pos h

theorem mirror_dual_shiftPolyt (L : Int) (exons : List Iv) (c pos : Int) (h : NoCollM L pos) :
    C16.shiftPolya (mirrorL L exons) c (mirrorPos L pos) = (C16.shiftPolyt exons c pos).map (mirrorPosBy pos L) :=
  pa16_shiftPolya_mirror L exons c pos h

/-- `correct_read_info` of the mirrored read returns the two counts swapped (incl. the "keep one exon" clamp) -/
theorem mirror_dual_correctReadInfo (mf L : Int) (exons : List Iv) (i : C16.PolyAInfo)
    (ha : NoCollM L i.internalPolyA) (ht : NoCollM L i.internalPolyT) :
    C16.correctReadInfo mf (mirrorL L exons) (mirrorInfo L i) = (C16.correctReadInfo mf exons i).map swapCounts :=
  pa16_correctReadInfo_mirror mf L exons i ha ht

/-- the 3' trim and the 5' trim of `add_polya_info` commute whenever at least one exon is kept -/
theorem trims_commute (st : C16.AInfo) (a t : Int) (hlt : a.toNat + t.toNat < st.exons.length) :
    (C16.trimPolyA st a).bind (fun s => C16.trimPolyT s t) = (C16.trimPolyT st t).bind (fun s => C16.trimPolyA s a) :=
  pa16_trims_commute st a t hlt

/-- **mirror_dual_addPolyaInfo** — `add_polya_info` on the mirrored alignment (exons mirrored, block lists reversed,
    polyA ↔ polyT positions mirrored) gives the mirror image of the result: the same exons are removed (3' ↔ 5'),
    read_start ↔ read_end, recomputed positions mirrored -/
theorem mirror_dual_addPolyaInfo (mf L : Int) (exons rb cb : List Iv) (i : C16.PolyAInfo)
    (h1 : NoCollM L i.internalPolyA) (h2 : NoCollM L i.externalPolyA)
    (h3 : NoCollM L i.internalPolyT) (h4 : NoCollM L i.externalPolyT) :
    C16.addPolyaInfo mf (mirrorL L exons) rb.reverse cb.reverse (mirrorInfo L i) =
      (C16.addPolyaInfo mf exons rb cb i).map (mirrorAInfoBy i L) := by
  unfold C16.addPolyaInfo C16.addPolyaInfoWith
  rw [pa16_ainfoInit_mirror, pa16_correctReadInfo_mirror mf L exons i h1 h3]
  cases h0 : C16.ainfoInit exons rb cb i with
  | none => rfl
  | some st0 =>
    obtain ⟨hi, hex, _, _⟩ := pa16_ainfoInit_info exons rb cb i st0 h0
    have hne : exons ≠ [] := by
      intro e; subst e; simp [C16.ainfoInit] at h0
    obtain ⟨a, t, hcri, hlt, _⟩ := IsoVerif.Lemmas.C16.correctReadInfo_spec mf exons i hne
    rw [hcri]
    simp only [Option.map_some, Option.bind_eq_bind, Option.bind_some, swapCounts]
    have hcomm := pa16_trims_commute st0 a t (by rw [hex]; exact hlt)
    rw [pa16_trimPolyA_mirror i L st0 t (by rw [hi]) (by rw [hi]) h3 h4]
    -- right-hand side: reorder the two trims
    have rhs : ((C16.trimPolyA st0 a).bind fun st1 => (C16.trimPolyT st1 t).bind fun st2 => C16.refreshEnds st2) =
        ((C16.trimPolyT st0 t).bind fun s => C16.trimPolyA s a).bind C16.refreshEnds := by
      rw [← hcomm]
      cases C16.trimPolyA st0 a <;> simp
    rw [rhs]
    cases hT : C16.trimPolyT st0 t with
    | none => rfl
    | some s1 =>
      obtain ⟨k1, k2⟩ := pa16_trimPolyT_keepsA st0 s1 t hT
      simp only [Option.map_some, Option.bind_some]
      rw [pa16_trimPolyT_mirror i L s1 a (by rw [k1, hi]) (by rw [k2, hi]) h1 h2]
      cases C16.trimPolyA s1 a with
      | none => rfl
      | some s2 =>
        simp only [Option.map_some, Option.bind_some]
        exact pa16_refreshEnds_mirror i L s2

/-- non-vacuity: the polyA read of the example above on a chromosome of length 1000, seen from the other strand: a
    polyT head at 696, the first exon is trimmed, the polyT position moves to 796 = mirror of 205 -/
example : NoCollM 1000 305 ∧ NoCollM 1000 (-1) ∧
    (C16.addPolyaInfo 40 (mirrorL 1000 [(100, 200), (300, 330)]) [(101, 131), (0, 100)] [(2, 2), (0, 0)]
      (mirrorInfo 1000 ⟨305, -1, 305, -1⟩)).map (fun r => (r.exons, r.info.internalPolyT, r.readStart))
      = some ([(801, 901)], 796, 801) := by
  refine ⟨by unfold NoCollM; omega, by unfold NoCollM; omega, by decide⟩

end IsoVerif.Props.C11PolyA16
