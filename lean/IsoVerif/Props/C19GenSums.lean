/-
C19 — `intervals_total_length`, `sum_intervals_to_point`, `sum_intervals_from_point`, `extra_exon_percentage` as REGENERATED FROM THE SOURCE on every run (`Gen/Loops.lean`, written by `harness/translate.py`).
Part 1: refinement `Gen.f args = Model.f args` for ALL inputs (no sortedness / well-formedness; error cases included; the
emitted fuel bounds suffice).  Part 2: the C19 theorems about the hand model restated over the generated definitions.
An edit of the Python loop re-generates `Gen.f` and re-opens these proofs.  Overview: Props/C19Gen.lean.
-/
import IsoVerif.Props.C19Lists
import IsoVerif.Lemmas.GenSums

namespace IsoVerif.Props.C19Gen
open IsoVerif.Gen IsoVerif.Model IsoVerif.Lemmas IsoVerif.Lemmas.GenLoops

/-! ## Part 1 — refinement: generated definition = hand model, for all inputs -/

/-- `intervals_total_length` (a `for` loop: no fuel, total) -/
theorem intervals_total_length_refines (l : List Iv) :
    Gen.intervals_total_length l = intervalsTotalLength l :=
  GenLoops.intervals_total_length_eq l

/-- `sum_intervals_to_point`: the upward index loop with fuel `len + 1` = the model's recursion on the list; both raise
    exactly on `[]` -/
theorem sum_intervals_to_point_refines (l : List Iv) (pos : Int) :
    Gen.sum_intervals_to_point l pos = sumIntervalsToPoint l pos := by
  unfold sum_intervals_to_point sumIntervalsToPoint
  rw [pyIdx_zero, pyIdx_neg_one]
  obtain ⟨rfl, -⟩ | ⟨f, t, hh, hl, -⟩ := head?_getLast?_cases l
  · rfl
  have := sum_to_loop l pos (l.length + 1) 0 0 (by simp)
  simp only [Int.natCast_zero, List.drop_zero, Int.zero_add] at this
  simp only [hh, hl, sum_intervals_to_point.after1, sum_intervals_to_point.fuel2, intervals_total_length_eq, this,
    decide_eq_true_eq]

/-- `sum_intervals_from_point`: the downward index loop (`i = len-1 … 0`, stops at `i = -1`) = the model's recursion on
    the reversed list -/
theorem sum_intervals_from_point_refines (l : List Iv) (pos : Int) :
    Gen.sum_intervals_from_point l pos = sumIntervalsFromPoint l pos := by
  unfold sum_intervals_from_point sumIntervalsFromPoint
  rw [pyIdx_zero, pyIdx_neg_one]
  obtain ⟨rfl, -⟩ | ⟨f, t, hh, hl, -⟩ := head?_getLast?_cases l
  · rfl
  have := sum_from_loop l pos (l.length + 1) l.length 0 (by omega) (by omega)
  simp only [List.take_length, Int.zero_add] at this
  simp only [hh, hl, sum_intervals_from_point.after1, sum_intervals_from_point.fuel2, intervals_total_length_eq, pyLen,
    this, decide_eq_true_eq]

/-- `extra_exon_percentage`: a `for` loop with two accumulators and two guarded updates; exact fraction (outside, total),
    `none` = ZeroDivisionError -/
theorem extra_exon_percentage_refines (region : Iv) (exons : List Iv) :
    Gen.extra_exon_percentage region exons = extraExonPercentage region exons := by
  unfold extra_exon_percentage extraExonPercentage
  rw [extra_exon_loop]
  simp only [Int.zero_add, pyDivF]

/-- the emitted fuel bounds (shown sufficient by the refinement theorems above) -/
theorem fuel_bounds_sums (l : List Iv) (p : Int) :
    sum_intervals_to_point.fuel2 l p = l.length + 1 ∧ sum_intervals_from_point.fuel2 l p = l.length + 1 := ⟨rfl, rfl⟩

/-! ## Part 2 — theorems over the generated definitions -/

/-- total length = number of covered positions (inside any window containing the list) -/
theorem total_length_counts (l : List Iv) (lo : Int) (n : Nat) (h : SD l) (w : WFl l)
    (hwin : ∀ r ∈ l, lo ≤ r.1 ∧ r.2 < lo + n) :
    Gen.intervals_total_length l = (countWin (covb l) lo n : Int) := by
  rw [intervals_total_length_refines]; exact C19Lists.total_length_counts_positions l lo n h w hwin

example : SD [(2, 4), (7, 7)] ∧ WFl [(2, 4), (7, 7)] ∧ (∀ r ∈ [((2 : Int), (4 : Int)), (7, 7)], (0 : Int) ≤ r.1 ∧ r.2 < 0 + (10 : Nat)) ∧
    Gen.intervals_total_length [(2, 4), (7, 7)] = 4 := by
  refine ⟨by decide, by decide, by decide, by decide⟩

theorem total_length_eq_sum (l : List Iv) :
    Gen.intervals_total_length l = (l.map (fun r => r.2 - r.1 + 1)).sum := by
  rw [intervals_total_length_refines]; exact C19Lists.total_length_eq_sum l

/-- prefix / suffix sums = Σ per-interval counts of positions `< p` / `> p` -/
theorem sum_to_point_spec (l : List Iv) (p : Int) (h : SD l) (w : WFl l) (hne : l ≠ []) :
    Gen.sum_intervals_to_point l p = some ((l.map (lenBelow · p)).sum) := by
  rw [sum_intervals_to_point_refines]; exact C19Lists.sum_to_point_spec l p h w hne

theorem sum_from_point_spec (l : List Iv) (p : Int) (h : SD l) (w : WFl l) (hne : l ≠ []) :
    Gen.sum_intervals_from_point l p = some ((l.map (lenAbove · p)).sum) := by
  rw [sum_intervals_from_point_refines]; exact C19Lists.sum_from_point_spec l p h w hne

example : SD [(1, 5), (10, 12)] ∧ WFl [(1, 5), (10, 12)] ∧
    Gen.sum_intervals_to_point [(1, 5), (10, 12)] 11 = some 6 ∧ Gen.sum_intervals_from_point [(1, 5), (10, 12)] 3 = some 5 := by
  refine ⟨by decide, by decide, by decide +kernel, by decide +kernel⟩

theorem sum_to_point_empty (p : Int) : Gen.sum_intervals_to_point [] p = none := by
  rw [sum_intervals_to_point_refines]; rfl

/-- `extra_exon_percentage` = (read positions outside the isoform region) / (read length); raises iff the length is 0 -/
theorem extra_exon_percentage_spec (reg : Iv) (exons : List Iv) (w : WFl exons) :
    Gen.extra_exon_percentage reg exons =
      if Gen.intervals_total_length exons = 0 then none
      else some ((exons.map (fun e => lenBelow e reg.1 + lenAbove e reg.2)).sum, Gen.intervals_total_length exons) := by
  rw [extra_exon_percentage_refines, intervals_total_length_refines]
  exact C19Lists.extra_exon_percentage_spec reg exons w

example : WFl [(1, 5), (10, 12), (20, 30)] ∧
    Gen.extra_exon_percentage (4, 24) [(1, 5), (10, 12), (20, 30)] = some (9, 19) := by
  refine ⟨by decide, by decide +kernel⟩

end IsoVerif.Props.C19Gen
