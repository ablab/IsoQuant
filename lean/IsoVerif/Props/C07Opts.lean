/-
C07 — more run configurations inside the file-system protocol model.

`Cfg` (Model/Resume.lean) carries `countExons` (`--count_exons`: the exon / intron count files and their grouped
variants, per chromosome, merged by `MStep.profile`), `noModel` (`--no_model_construction`: no GTF / model-count streams, no
`_transcript_stat`), `gzip` (the default without `--no_gzip`: three final files are gzip streams, path class `finalGz`) and
`highMemory` (`--high_memory`: collect_reads does not read the save files back).  `resume_correct`, `resume_correct_pool`,
`resume_correct_multi` and all their relatives quantify over `Cfg`, hence over these options (Props/C07*.lean).

This file has what is specific to these options:
* a resumed run need not run with the options of the killed run: `--high_memory` and `--keep_tmp` can be switched on by the
  resume command line (`resumeCfg`, Model/Resume.lean; before fix e28d44f `--high_memory` was always taken from the resume
  command line: `resumeCfgOrig` of Model/Resume.lean, witness `resume_alone_same_options_witness` in Props/C07Ref.lean).  `resume_correct_from_opts` / `resume_correct_pool_from_opts`: the
  property holds for every choice of the two on the resume command line;
* `--high_memory` changes no file-system event of any run (`high_memory_changes_no_event`);
* non-vacuity: concrete configurations with these options on, kill points inside their stages.
-/
import IsoVerif.Lemmas.ResumeHistory
import IsoVerif.Props.C07Pool
import IsoVerif.Props.C07Multi

namespace IsoVerif.Props.C07Opts
open IsoVerif.Model.Resume IsoVerif.Lemmas.Resume IsoVerif.Props.C07 IsoVerif.Props.C07Pool IsoVerif.Props.C07Multi

/-- `verdictFrom` is the instance "the resume command line repeats `--high_memory` iff the killed run had it" -/
theorem verdictFromOpts_same (v : Variant) (cfg : Cfg) (ord ord' : List Path) (fs0 : FS) (k : Nat) :
    verdictFromOpts v cfg ord ord' cfg.highMemory false fs0 k = verdictFrom v cfg ord ord' fs0 k := by
  simp only [verdictFromOpts, verdictFrom, resumeCfg_same]

/-- **the property with the options of the resume command line**: the run is started on any file system `fs0` (history
    clauses as in `resume_correct_from`), killed after any `k` events once its parameters are saved, and resumed with
    *any* choice of `--high_memory` (`hm`) and `--keep_tmp` (`kt`) on the resume command line:
    the resumed run completes and every final file equals that of the uninterrupted run with the options of the killed run -/
theorem resume_correct_from_opts {cfg : Cfg} (wf : WF cfg) (ord ord' : List Path) (hord : ord.Nodup) (hord' : ord'.Nodup)
    (hm kt : Bool) (fs0 : FS) (hs : cfg.fromSaves = true → SavesConsistent cfg fs0) (hi : IndexSound cfg fs0) (k : Nat)
    (hk : (lockList cfg fs0).length + 4 ≤ k) : verdictFromOpts fixed cfg ord ord' hm kt fs0 k = .equal := by
  have h := resume_equal hm kt (run_shape wf ord hord) (run_fresh wf ord) (run_shape (WF_resumeCfg hm kt wf) ord' hord') fs0
    (J0_cleaned fs0 hs hi) (fun e => savesOK_cleaned (hs e).1) k hk
  exact verdict_equal h.1 h.2

/-- fresh output folder, BAM input, any options on the resume command line -/
theorem resume_correct_opts {cfg : Cfg} (wf : WF cfg) (hfs : cfg.fromSaves = false) (ord ord' : List Path) (hord : ord.Nodup)
    (hord' : ord'.Nodup) (hm kt : Bool) (k : Nat) (hk : 4 ≤ k) :
    verdictFromOpts fixed cfg ord ord' hm kt FS.empty k = .equal :=
  resume_correct_from_opts wf ord ord' hord hord' hm kt FS.empty (fun e => by rw [hfs] at e; exact absurd e (by simp))
    (indexSound_empty cfg) k
    (by rw [lockList_empty]; simpa using hk)

/-- the same under a process pool: any schedules of the killed and of the resumed run -/
theorem resume_correct_pool_from_opts {cfg : Cfg} (wf : WF cfg) (ord ord' : List Path) (hord : ord.Nodup) (hord' : ord'.Nodup)
    (hm kt : Bool) (s1 s2 s1' s2' : List Chr) (fs0 : FS) (hs : cfg.fromSaves = true → SavesConsistent cfg fs0)
    (hi : IndexSound cfg fs0) (k : Nat)
    (hk : (lockList cfg fs0).length + 4 ≤ k) :
    verdictPoolFromOpts fixed cfg ord ord' hm kt s1 s2 s1' s2' fs0 k = .equal := by
  have h := resume_equal hm kt (run_shape_pool wf ord hord s1 s2) (runPool_fresh wf ord s1 s2)
    (run_shape_pool (WF_resumeCfg hm kt wf) ord' hord' s1' s2') fs0 (J0_cleaned fs0 hs hi) (fun e => savesOK_cleaned (hs e).1) k hk
  exact verdict_equal h.1 h.2

/-- `--high_memory` changes no file-system event of the only stage that looks at it (it removes the read-back of the save
    files, a check); no other stage mentions the option -/
theorem high_memory_changes_no_event (cfg : Cfg) (b sk : Bool) (fs : FS) :
    eventsOf (collectPost { cfg with highMemory := b } sk fs) = eventsOf (collectPost cfg sk fs) := by
  unfold collectPost
  cases sk with
  | true => rfl
  | false =>
    simp only [Bool.false_eq_true, if_false, eventsOf_append, eventsOf_evs]
    have hl : ∀ (x : Bool) (l : List Chr), eventsOf (if x = true then [] else l.map (fun c => Act.load (Path.save c))) = [] := by
      intro x l; split
      · rfl
      · have := eventsOf_loads_nil (l.map Path.save); rwa [List.map_map] at this
    rw [hl, hl]

/-- two chromosomes (processing order ≠ merge order), annotation, inline read groups, `--count_exons`, gzipped outputs,
    `--high_memory` -/
def cfgE : Cfg := { chrs := [0, 1], mchrs := [1, 0], bchrs := [0, 1], genedb := true, rg := .inline, keepTmp := false,
                    unmapped := true, fromSaves := false, countExons := true, gzip := true, highMemory := true }

def ordE : List Path := [.bamstat 1, .save 0, .groups 0, .processed 1, .trStat 0, .collected 0, .info, .lock, .multimap 1,
                         .rgLock, .readStat 1]

theorem cfgE_wf : WF cfgE := .of_check rfl

/-- one chromosome, annotation, `--no_model_construction`, `--high_memory`, plain outputs -/
def cfgN : Cfg := { chrs := [0], mchrs := [0], bchrs := [0], genedb := true, rg := .none, keepTmp := false, unmapped := true,
                    fromSaves := false, noModel := true, highMemory := true }

-- what the options do to the run of the model (all by evaluation):
-- `--count_exons` + gzip: the three printers' final files are gzip streams, the counters' are not; the exon counter of a
-- chromosome is created by the aggregator, created again by `dump`, merged by an append to the final file
example : (Ev.create (.finalGz .bed)) ∈ cleanEvents fixed cfgE ordE ∧ (Ev.create (.finalGz .assign)) ∈ cleanEvents fixed cfgE ordE ∧
    (Ev.create (.finalGz .r2t)) ∈ cleanEvents fixed cfgE ordE ∧ (Ev.create (.final .bed)) ∉ cleanEvents fixed cfgE ordE ∧
    (Ev.create (.final .gtf)) ∈ cleanEvents fixed cfgE ordE ∧
    ((cleanEvents fixed cfgE ordE).filter (fun e => e == .create (.part .exon 0))).length = 2 ∧
    (Ev.append (.final .exonG)) ∈ cleanEvents fixed cfgE ordE ∧ (Ev.create (.tpm .exon)) ∉ cleanEvents fixed cfgE ordE ∧
    (cleanEvents fixed cfgE ordE).length = 264 := by on_store; decide +kernel

-- `--no_model_construction`: no GTF / model-count / `_transcript_stat` file is ever touched
example : (cleanEvents fixed cfgN ord1).all (fun e => e.path != .trStat 0 && e.path != .final .gtf && e.path != .part .model 0
    && e.path != .final .r2t && e.path != .final .ext) = true ∧ (cleanEvents fixed cfgN ord1).length = 65 := by decide +kernel

-- `resume_correct` on these configurations: the hypotheses are met, the kill points lie inside the stages of these options
-- (214 = the exon counts of the first merged chromosome have just been removed; 32 = inside the model-construction stage of cfgN)
example : WF cfgE ∧ ordE.Nodup ∧ (cleanEvents fixed cfgE ordE)[213]? = some (.remove (.part .exon 1)) ∧ 4 ≤ 214 ∧
    verdict fixed cfgE ordE ordE 214 = .equal :=
  ⟨cfgE_wf, by decide, by on_store; decide +kernel, by omega,
   resume_correct cfgE_wf rfl ordE ordE (by decide) (by decide) 214 (by omega)⟩

-- `resume_correct_opts`: the killed run had `--high_memory`, the resume command line does not repeat it (and adds `--keep_tmp`)
example : verdictFromOpts fixed cfgE ordE ordE false true FS.empty 214 = .equal ∧
    verdictFromOpts fixed cfgN ord1 ord1 false false FS.empty 32 = .equal :=
  ⟨resume_correct_opts cfgE_wf rfl ordE ordE (by decide) (by decide) false true 214 (by omega),
   resume_correct_opts (cfg := cfgN) (.of_check rfl) rfl ord1 ord1
     (by decide) (by decide) false false 32 (by omega)⟩

-- … and the resumed run with `--keep_tmp` really differs from the one without (it keeps the auxiliary files)
example : (run fixed (resumeCfg cfgE false true) ordE true (crashFS fixed cfgE ordE 214)).evs ≠
    (run fixed cfgE ordE true (crashFS fixed cfgE ordE 214)).evs := by on_store; decide +kernel

-- process pool, these options, the options of the resume command line
example : verdictPoolFromOpts fixed cfgE ordE ordE false false [0, 1, 0, 1, 1, 0] [1, 1, 0] [1, 0] [0, 1, 1, 0] FS.empty 152 = .equal :=
  resume_correct_pool_from_opts cfgE_wf ordE ordE (by decide) (by decide) false false _ _ _ _ FS.empty
    (fun e => by simp [cfgE] at e) (indexSound_empty _) 152 (by rw [lockList_empty]; decide)

/-- two experiments in one invocation: `cfgN` (`--no_model_construction`, `--high_memory`), then `cfgE` (`--count_exons`, gzipped
    outputs); both alignment files have unaligned reads, `mkExps` marks the second one `carried` -/
def expsO : List Exp := mkExps [cfgN, cfgE] [ord1, ordE]

theorem expsO_wf : MWF expsO := mwf_of_check rfl

-- `resume_correct_multi` over the extended configuration space: 4 + 61 + 260 events, killed inside the merge of the exon
-- counts of the second experiment
example : MWF expsO ∧ (runMulti fixed expsO false MFS.empty).evs.length = 325 ∧
    (runMulti fixed expsO false MFS.empty).evs[274]? = some (1, .remove (.part .exon 1)) ∧ 4 ≤ 275 ∧
    verdictMulti fixed expsO expsO MFS.empty 275 = .equal := by
  rw [resume_correct_multi expsO_wf expsO_wf rfl (by decide) 275 (by omega)]
  exact ⟨expsO_wf, by decide +kernel⟩

end IsoVerif.Props.C07Opts
