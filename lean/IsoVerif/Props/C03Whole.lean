/-
C03 — capstone: for every history of dump calls inside the assumption interface, the file written by the printer
satisfies every structural clause of the property statement at the level of GTF records.
-/
import IsoVerif.Model.Gtf
import IsoVerif.Lemmas.C03GtfDump
import IsoVerif.Props.C03Hist
import IsoVerif.Props.C03

namespace IsoVerif.Props.C03Whole
open IsoVerif.Gen IsoVerif.Model IsoVerif.Lemmas IsoVerif.Model.C03 IsoVerif.Lemmas.C03
open IsoVerif.Props.C03Hist IsoVerif.Props.C03

/-- the assumption interface for one printer (one chromosome `chr0` of length `L`): what the constructor theorems
    (`novel_spliced_model_wellformed`, `reference_verbatim` + a well-formed annotation) and the id distributor
    deliver, and what the oracle monitors on pipeline outputs -/
structure GoodHistory (calls : List Call) (chr0 : Id) (L : Int) : Prop where
  one_chr : ∀ cl ∈ calls, cl.ctx.chr = chr0
  ids_distinct : ((validModels calls).map (·.tid)).Nodup
  strands : UniformStrands calls
  exons_ok : ∀ m, InHistory calls m → SD m.exons ∧ ∀ x ∈ m.exons, x.2 ≤ L
  other_not_exon : ∀ m, InHistory calls m → ∀ f ∈ m.other, f.2.2 ≠ 0

/-- every structural clause of the statement, on the records of one file (one chromosome) -/
structure WellFormedFile (out : List Line) (chr0 : Id) (L : Int) : Prop where
  /-- each gene record appears exactly once -/
  gene_once : (geneIds out).Nodup
  /-- each transcript record appears exactly once -/
  tx_once : (txIds out).Nodup
  /-- every transcript has its gene record, on the same chromosome and strand -/
  tx_gene : ∀ c s e st g t, Line.tx c s e st g t ∈ out →
    c = chr0 ∧ ∃ s' e' n, Line.gene chr0 s' e' st g n ∈ out
  /-- a gene record and every transcript record of that gene agree in chromosome and strand -/
  gene_tx_strand : ∀ c s e st g n c' s' e' st' t, Line.gene c s e st g n ∈ out → Line.tx c' s' e' st' g t ∈ out →
    c' = c ∧ st' = st
  /-- every exon record belongs to a transcript record with the same chromosome, strand and gene, lies inside it
      and inside the chromosome, and is well-formed -/
  exon_in_tx : ∀ c s' e' st g t num, Line.feat c 0 s' e' st g t num ∈ out →
    1 ≤ s' ∧ s' ≤ e' ∧ e' ≤ L ∧ ∃ s e, Line.tx c s e st g t ∈ out ∧ s ≤ s' ∧ e' ≤ e
  /-- the transcript record spans exactly its exons: some exon starts at its start, some exon ends at its end
      (in particular there is at least one exon) -/
  tx_spans : ∀ c s e st g t, Line.tx c s e st g t ∈ out →
    (∃ e1 num, Line.feat c 0 s e1 st g t num ∈ out) ∧ (∃ s1 num, Line.feat c 0 s1 e st g t num ∈ out)
  /-- the exons of one transcript do not overlap -/
  exons_disjoint : ∀ c1 s1 e1 st1 g1 n1 c2 s2 e2 st2 g2 n2 t,
    Line.feat c1 0 s1 e1 st1 g1 t n1 ∈ out → Line.feat c2 0 s2 e2 st2 g2 t n2 ∈ out →
    (s1 = s2 ∧ e1 = e2) ∨ e1 < s2 ∨ e2 < s1

/-- **history_output_wellformed**: ∀ call histories on a fresh printer inside the assumption interface, the output is
    a well-formed file.  (The remaining clause - the gene record contains *all* its transcripts - is
    `gene_contains_all_transcripts_partial` / `gene_contains_transcripts_inside_reference`; it is false in general.) -/
theorem history_output_wellformed (calls : List Call) (chr0 : Id) (L : Int) (hgood : GoodHistory calls chr0 L)
    (p' : List Id) (out : List Line) (h : runCalls [] calls = some (p', out)) : WellFormedFile out chr0 L := by
  have hchr := gene_chromosome calls chr0 hgood.one_chr [] p' out h
  have hgene := gene_line_once calls p' out h
  have htx := transcript_records_are_gated_models calls [] p' out h
  have hex := exon_records_are_model_exons calls [] p' out h
  have exon_model : ∀ c s' e' st g t num, Line.feat c 0 s' e' st g t num ∈ out →
      ∃ m, InHistory calls m ∧ c = m.chr ∧ st = m.strand ∧ g = m.gid ∧ t = m.tid ∧ (s', e') ∈ m.exons := by
    intro c s' e' st g t num hl
    obtain ⟨m, hin, h1, h2, h3, h4, h5⟩ := hex.1 c 0 s' e' st g t num hl
    refine ⟨m, hin, h1, h2, h3, h4, ?_⟩
    rcases h5 with h5 | h5
    · exact absurd rfl (hgood.other_not_exon m hin _ h5)
    · exact h5.2
  have model_facts : ∀ m, InHistory calls m →
      ∃ f l, m.exons.head? = some f ∧ m.exons.getLast? = some l ∧
        Line.tx m.chr f.1 l.2 m.strand m.gid m.tid ∈ out ∧ validateExons m.exons = true := by
    intro m hin
    obtain ⟨tr, htr⟩ := region_of_history h hin
    obtain ⟨f, l, hf, hl, rfl⟩ := regionOf?_eq_some.mp htr
    exact ⟨f, l, hf, hl, (htx _ _ _ _ _ _).mpr ⟨m, hin, htr, rfl, rfl, rfl, rfl⟩, let ⟨_, _, _, hv⟩ := hin; hv⟩
  constructor
  · exact hgene.1
  · exact transcript_ids_distinct calls [] p' out h hgood.ids_distinct
  · intro c s e st g t hl
    have hc := hchr.2 c s e st g t hl
    refine ⟨hc, ?_⟩
    obtain ⟨m, hin, _, _, hst, hg, _⟩ := (htx c s e st g t).mp hl
    obtain ⟨c', s', e', st', n, hgl⟩ := (mem_geneIds out g).mp ((hgene.2 g).mpr ⟨m, hin, hg⟩)
    have h1 := hchr.1 c' s' e' st' g n hgl
    have h2 := gene_strand_matches_partial calls hgood.strands p' out h c' s' e' st' g n c s e st t hgl hl
    subst h1; subst h2
    exact ⟨s', e', n, hgl⟩
  · intro c s e st g n c' s' e' st' t hgl hl
    have h1 := hchr.1 c s e st g n hgl
    have h2 := hchr.2 c' s' e' st' g t hl
    exact ⟨by rw [h1, h2], gene_strand_matches_partial calls hgood.strands p' out h c s e st g n c' s' e' st' t hgl hl⟩
  · intro c s' e' st g t num hl
    obtain ⟨m, hin, h1, h2, h3, h4, h5⟩ := exon_model c s' e' st g t num hl
    obtain ⟨f, l, hf, hlast, htxl, hv⟩ := model_facts m hin
    have hgate := (validate_exons_iff m.exons).mp hv
    have hspan := transcript_record_spans m.exons f l hv hf hlast
    have hok := hgood.exons_ok m hin
    have hb := hgate.2 _ h5
    have := hspan.2.2.1 _ h5
    have := hspan.2.2.2 hok.1 _ h5
    have := hok.2 _ h5
    simp only at *
    refine ⟨by omega, by omega, by omega, f.1, l.2, ?_, by omega, by omega⟩
    rw [h1, h2, h3, h4]; exact htxl
  · intro c s e st g t hl
    obtain ⟨m, hin, hreg, hc, hst, hg, ht⟩ := (htx c s e st g t).mp hl
    obtain ⟨f, l, hf, hlast, _, hv⟩ := model_facts m hin
    have hspan := transcript_record_spans m.exons f l hv hf hlast
    have hse : s = f.1 ∧ e = l.2 := by
      obtain ⟨f', l', hf', hl', hse⟩ := regionOf?_eq_some.mp hreg
      rw [hf] at hf'; rw [hlast] at hl'
      cases hf'; cases hl'
      exact Prod.mk.inj hse
    obtain ⟨n1, hn1⟩ := hex.2 m hin f hspan.1
    obtain ⟨n2, hn2⟩ := hex.2 m hin l hspan.2.1
    rw [← hc, ← hst, ← hg, ← ht, hse.1, hse.2]
    exact ⟨⟨f.2, n1, hn1⟩, ⟨l.1, n2, hn2⟩⟩
  · intro c1 s1 e1 st1 g1 n1 c2 s2 e2 st2 g2 n2 t hl1 hl2
    obtain ⟨m1, hin1, _, _, _, ht1, hx1⟩ := exon_model c1 s1 e1 st1 g1 t n1 hl1
    obtain ⟨m2, hin2, _, _, _, ht2, hx2⟩ := exon_model c2 s2 e2 st2 g2 t n2 hl2
    have hm : m1 = m2 := eq_of_nodup_map (·.tid) hgood.ids_distinct
      ((inHistory_iff_mem calls m1).mp hin1) ((inHistory_iff_mem calls m2).mp hin2) (ht1.symm.trans ht2)
    subst hm
    obtain ⟨_, _, _, _, _, hv⟩ := model_facts m1 hin1
    have hw : WFl m1.exons := fun x hx => ((validate_exons_iff m1.exons).mp hv).2 x hx |>.2
    rcases SD_mem_disjoint m1.exons (hgood.exons_ok m1 hin1).1 hw _ hx1 _ hx2 with h3 | h3 | h3
    · left; simpa using h3
    · right; left; exact h3
    · right; right; exact h3

/-- a two-call history (two genes, both strands, a reference region) that meets the interface -/
def goodCalls : List Call :=
  [ { ctx := { chr := 3, regions := [(7, (10, 60))] },
      models := [{ chr := 3, strand := 0, tid := 1, gid := 7, exons := [(10, 20), (30, 40)], known := true },
                 { chr := 3, strand := 0, tid := 2, gid := 7, exons := [(12, 20), (30, 40), (50, 66)], known := false }] },
    { ctx := { chr := 3 },
      models := [{ chr := 3, strand := 1, tid := 5, gid := 9, exons := [(100, 140)], known := false }] } ]

-- non-vacuity: the run succeeds and prints 2 gene, 3 transcript and 6 exon records
example : (runCalls [] goodCalls).map (fun r => (r.1, r.2.length)) = some ([9, 7], 11) := by decide +kernel

example : GoodHistory goodCalls 3 1000 := by
  have hm : ∀ m, InHistory goodCalls m → m ∈ validModels goodCalls := fun m h => (inHistory_iff_mem goodCalls m).mp h
  have hv : validModels goodCalls =
      [{ chr := 3, strand := 0, tid := 1, gid := 7, exons := [(10, 20), (30, 40)], known := true },
       { chr := 3, strand := 0, tid := 2, gid := 7, exons := [(12, 20), (30, 40), (50, 66)], known := false },
       { chr := 3, strand := 1, tid := 5, gid := 9, exons := [(100, 140)], known := false }] := by decide +kernel
  constructor
  · decide +kernel
  · rw [hv]; decide +kernel
  · intro m1 m2 h1 h2
    have a := hm m1 h1; have b := hm m2 h2
    rw [hv] at a b
    simp only [List.mem_cons, List.not_mem_nil, or_false] at a b
    rcases a with a | a | a <;> rcases b with b | b | b <;> subst a <;> subst b <;> decide +kernel
  · intro m h
    have a := hm m h
    rw [hv] at a
    simp only [List.mem_cons, List.not_mem_nil, or_false] at a
    rcases a with a | a | a <;> subst a <;> decide +kernel
  · intro m h
    have a := hm m h
    rw [hv] at a
    simp only [List.mem_cons, List.not_mem_nil, or_false] at a
    rcases a with a | a | a <;> subst a <;> decide +kernel

end IsoVerif.Props.C03Whole
