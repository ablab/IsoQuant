/-
C05 — which alignments of a gene-free region get a read assignment (`Model/IntergenicFilter.lean`): the documented
filter "alignments with 1 or 2 exons and MAPQ below --simple_alignments_mapq_cutoff are ignored" concerns the exons of the
ALIGNMENT; trimming a fake terminal polyA / polyT exon afterwards never removes a read.
-/
import IsoVerif.Model.IntergenicFilter

namespace IsoVerif.Props.C05Intergenic
open IsoVerif.Model IsoVerif.Model.Regions

/-- **spliced_alignment_is_reported**: an alignment with at least three exons that passes the region-independent filters
    (mapped, not supplementary, --no_secondary, --min_mapq) gets a record whatever its MAPQ, whether it is secondary, and
    however many of its exons the polyA trimming removes. -/
theorem spliced_alignment_is_reported (p : Params) (cutoff : Int) (a : IgAln) (h3 : 3 ≤ a.exons)
    (hp : passes p a.aln = true) : intergenicRecord p cutoff a = true := by
  have h0 : (a.exons != 0) = true := by simp; omega
  have h2 : decide (a.exons ≤ 2) = false := by simp; omega
  simp [intergenicRecord, keepIntergenic, hp, h0, h2]

/-- **simple_alignment_filter_exact**: for an alignment with one or two exons the record exists exactly when it passes the
    region-independent filters, is not secondary and has MAPQ >= the cut-off. -/
theorem simple_alignment_filter_exact (p : Params) (cutoff : Int) (a : IgAln) (h1 : 1 ≤ a.exons) (h2 : a.exons ≤ 2) :
    intergenicRecord p cutoff a = true ↔ (passes p a.aln = true ∧ a.aln.secondary = false ∧ cutoff ≤ a.aln.mapq) := by
  have h0 : (a.exons != 0) = true := by simp; omega
  have hd : decide (a.exons ≤ 2) = true := by simp; omega
  simp only [intergenicRecord, keepIntergenic, h0, hd, Bool.true_and, Bool.and_eq_true, Bool.not_eq_true',
    Bool.or_eq_false_iff, decide_eq_false_iff_not]
  constructor
  · rintro ⟨hp, hs, hm⟩; exact ⟨hp, hs, by omega⟩
  · rintro ⟨hp, hs, hm⟩; exact ⟨hp, hs, by omega⟩

/-- **trimming_irrelevant**: the record does not depend on what the polyA trimming leaves -/
theorem trimming_irrelevant (p : Params) (cutoff : Int) (a : IgAln) (t : Nat) :
    intergenicRecord p cutoff { a with trimmed := t } = intergenicRecord p cutoff a := rfl

/-- **intergenic_records_spec**: `process_intergenic` returns exactly the alignments of the storage with a record, each as
    often as the storage holds it, in storage order (a sub-list) -/
theorem intergenic_records_spec (p : Params) (cutoff : Int) (l : List IgAln) :
    (intergenicRecords p cutoff l).Sublist l ∧
    ∀ a, (intergenicRecords p cutoff l).count a = if intergenicRecord p cutoff a then l.count a else 0 := by
  refine ⟨List.filter_sublist, ?_⟩
  intro a
  unfold intergenicRecords
  by_cases h : intergenicRecord p cutoff a = true
  · rw [if_pos h, List.count_filter h]
  · rw [if_neg h, List.count_eq_zero]
    exact fun hm => h (List.mem_filter.1 hm).2

/-- **filter_after_trimming_witness**: if the simple-alignment filter looked at the trimmed exon list, a primary MAPQ-0
    alignment with three exons whose last exon is an aligned polyA tail would get no record -/
theorem filter_after_trimming_witness :
    ∃ a : IgAln, 3 ≤ a.exons ∧ passes ⟨false, 0⟩ a.aln = true ∧ intergenicRecord ⟨false, 0⟩ 1 a = true ∧
      (passes ⟨false, 0⟩ a.aln && keepIntergenicAfterTrim 1 a) = false :=
  ⟨⟨⟨2000, 3530, false, false, true, 0, 7⟩, 3, 2⟩, by decide +kernel, by decide +kernel, by decide +kernel, by decide +kernel⟩

/-! ### non-vacuity -/

example : (3 : Nat) ≤ (⟨⟨2000, 3530, false, false, true, 0, 7⟩, 3, 2⟩ : IgAln).exons ∧
    passes ⟨true, 0⟩ (⟨2000, 3530, false, false, true, 0, 7⟩ : Aln) = true := by decide +kernel

example : (1 : Nat) ≤ (⟨⟨10, 600, false, false, true, 1, 3⟩, 2, 2⟩ : IgAln).exons ∧
    (⟨⟨10, 600, false, false, true, 1, 3⟩, 2, 2⟩ : IgAln).exons ≤ 2 ∧
    intergenicRecord ⟨false, 0⟩ 1 ⟨⟨10, 600, false, false, true, 1, 3⟩, 2, 2⟩ = true ∧
    intergenicRecord ⟨false, 0⟩ 1 ⟨⟨10, 600, false, false, true, 0, 3⟩, 2, 2⟩ = false := by decide +kernel

end IsoVerif.Props.C05Intergenic
