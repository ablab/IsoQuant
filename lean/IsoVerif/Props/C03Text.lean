/-
C03, text level — the lines `GFFPrinter.dump` writes (Model/GtfText.lean): grammar of a line, what the reference
attributes become (the ids inside a block: Props/C03TextOrder.lean).

The format literals are the GENERATED ones (Gen/GtfFormat.lean): the `*_fmt_segs` lemmas are kernel evaluations of the
current literals, so an edited format string in /repo re-opens exactly the theorems below.
-/
import IsoVerif.Model.GtfText
import IsoVerif.Lemmas.C03Text
import IsoVerif.Lemmas.IdsPrinter

namespace IsoVerif.Props.C03Text
open IsoVerif.Gen IsoVerif.Model.C17 IsoVerif.Model.C03T IsoVerif.Lemmas.C17 IsoVerif.Lemmas.C03T

def SLine.gid : SLine → Str
  | .gene _ _ _ _ _ gid _ _ => gid
  | .transcript _ _ _ _ _ gid _ _ _ => gid
  | .feature _ _ _ _ _ _ gid _ _ _ => gid

def SLine.tid? : SLine → Option Str
  | .gene .. => none
  | .transcript _ _ _ _ _ _ tid _ _ => some tid
  | .feature _ _ _ _ _ _ _ tid _ _ => some tid

def SLine.chr : SLine → Str
  | .gene chr .. => chr
  | .transcript chr .. => chr
  | .feature chr .. => chr

def SLine.source : SLine → Str
  | .gene _ source .. => source
  | .transcript _ source .. => source
  | .feature _ source .. => source

def SLine.strand : SLine → Str
  | .gene _ _ _ _ strand _ _ _ => strand
  | .transcript _ _ _ _ strand _ _ _ _ => strand
  | .feature _ _ _ _ _ strand _ _ _ _ => strand

def SLine.additional : SLine → Attrs
  | .transcript _ _ _ _ _ _ _ a _ => a
  | _ => []

def SLine.extra : SLine → Str
  | .gene _ _ _ _ _ _ _ x => x
  | .transcript _ _ _ _ _ _ _ _ x => x
  | .feature _ _ _ _ _ _ _ _ _ x => x

/-- the first eight columns: seqname, source, feature, start, end, score, strand, frame -/
def fixedCols : SLine → List Str
  | .gene chr source s e strand _ _ _ => [chr, source, wGene, pyStrInt s, pyStrInt e, ['.'], strand, ['.']]
  | .transcript chr source s e strand _ _ _ _ => [chr, source, wTranscript, pyStrInt s, pyStrInt e, ['.'], strand, ['.']]
  | .feature chr source ftype s e strand _ _ _ _ => [chr, source, ftype, pyStrInt s, pyStrInt e, ['.'], strand, ['.']]

/-- the attribute column as `key "value";` pairs, `ps` being the pairs of the text copied from `feature_attributes` -/
def attrPairs : SLine → Option Str → Attrs → Attrs
  | .gene _ _ _ _ _ gid ntx _, _, ps => (kGeneId, gid) :: (kTranscripts, pyStrNat ntx) :: ps
  | .transcript _ _ _ _ _ gid tid additional _, _, ps => (kGeneId, gid) :: (kTranscriptId, tid) :: (additional ++ ps)
  | .feature _ _ _ _ _ _ gid tid num _, some id, ps =>
      (kGeneId, gid) :: (kTranscriptId, tid) :: (kExonNumber, pyStrNat num) :: (kExonId, id) :: ps
  | .feature .., none, _ => []

/-- the domain of the grammar theorem: no tab in any field, no quote in an attribute value, clean keys, and the text
    taken from `gene_info.feature_attributes` reads as the pairs `ps` (`attr_loop_text` shows that it does) -/
structure CleanLine (l : SLine) (id : Option Str) (ps : Attrs) : Prop where
  cols : ∀ c ∈ fixedCols l, NoTab c
  gid : NoTab (SLine.gid l) ∧ CleanVal (SLine.gid l)
  tid : ∀ t, SLine.tid? l = some t → NoTab t ∧ CleanVal t
  additional : CleanAttrs (SLine.additional l) ∧ ∀ kv ∈ SLine.additional l, NoTab kv.1 ∧ NoTab kv.2
  extra : ReadsAs (SLine.extra l) ps ∧ NoTab (SLine.extra l)
  id : ∀ i, id = some i → NoTab i ∧ CleanVal i

theorem noTab_join_items : ∀ (a : Attrs), (∀ kv ∈ a, NoTab kv.1 ∧ NoTab kv.2) →
    NoTab (pyJoin [' '] (a.map (fun kv => item kv.1 kv.2)))
  | [], _ => by simp [NoTab, pyJoin]
  | [kv], h => by simpa [pyJoin] using noTab_item (h kv (by simp)).1 (h kv (by simp)).2
  | kv :: kv2 :: r, h => by
      have ih := noTab_join_items (kv2 :: r) (fun x hx => h x (by simp at hx ⊢; exact Or.inr hx))
      have h1 := noTab_item (h kv (by simp)).1 (h kv (by simp)).2
      have : pyJoin [' '] ((kv :: kv2 :: r).map (fun kv => item kv.1 kv.2))
          = item kv.1 kv.2 ++ ' ' :: pyJoin [' '] ((kv2 :: r).map (fun kv => item kv.1 kv.2)) := by simp [pyJoin]
      rw [this]
      simp only [NoTab, List.mem_append, List.mem_cons, not_or] at *
      exact ⟨h1, by decide, ih⟩

theorem noTab_key (k : Str) (h : ∀ c ∈ k, c ≠ '\t') : NoTab k := fun hm => h _ hm rfl

theorem noTab_kGeneId : NoTab kGeneId := by simp [NoTab, kGeneId]
theorem noTab_kTranscripts : NoTab kTranscripts := by simp [NoTab, kTranscripts]
theorem noTab_kTranscriptId : NoTab kTranscriptId := by simp [NoTab, kTranscriptId]
theorem noTab_kExonNumber : NoTab kExonNumber := by simp [NoTab, kExonNumber]
theorem noTab_kExonId : NoTab kExonId := by simp [NoTab, kExonId]

theorem noTab_sp {a b : Str} (ha : NoTab a) (hb : NoTab b) : NoTab (a ++ ' ' :: b) := by
  simp only [NoTab, List.mem_append, List.mem_cons, not_or] at *
  exact ⟨ha, by decide, hb⟩

theorem noTab_app {a b : Str} (ha : NoTab a) (hb : NoTab b) : NoTab (a ++ b) := by
  simp only [NoTab, List.mem_append, not_or] at *
  exact ⟨ha, hb⟩

/-- **dump_line_grammar.**  Every line the printer writes for a structured line with clean fields is the nine columns
    `seqname, source, feature, start, end, ".", strand, ".", attributes` joined by tabs and closed by a newline; the start
    and end columns are the decimal renderings of the model's coordinates; splitting the text at tabs gives back exactly
    these nine columns; and the attribute column reads back (`parseAttrs`: `key "value";` items separated by blanks) as
    `gene_id`, (`transcripts` | `transcript_id` [, `exon_number`, `exon_id`]), the additional attributes, the reference
    attributes — nothing else, in that order. -/
theorem dump_line_grammar (l : SLine) (id : Option Str) (ps : Attrs) (hid : (SLine.key? l).isSome → id.isSome)
    (hc : CleanLine l id ps) :
    ∃ col, renderLine (l, id) = some (pyJoin ['\t'] (fixedCols l ++ [col]) ++ ['\n']) ∧
      pySplit '\t' (pyJoin ['\t'] (fixedCols l ++ [col])) = fixedCols l ++ [col] ∧
      (fixedCols l ++ [col]).length = 9 ∧
      parseAttrs col = some (attrPairs l id ps) := by
  obtain ⟨hcols, hgid, htid, hadd, hextra, hidc⟩ := hc
  have split : ∀ col, NoTab col → pySplit '\t' (pyJoin ['\t'] (fixedCols l ++ [col])) = fixedCols l ++ [col] := by
    intro col hcol
    apply pySplit_join_tabs
    · simp
    · intro c hm
      rcases List.mem_append.mp hm with h | h
      · exact hcols c h
      · simp only [List.mem_cons, List.not_mem_nil, or_false] at h; subst h; exact hcol
  cases l with
  | gene chr source s e strand gid ntx extra =>
    refine ⟨_, congrFun renderLine_eq _, split _ ?_, rfl, ?_⟩
    · exact noTab_sp (noTab_item noTab_kGeneId hgid.1)
        (noTab_sp (noTab_item noTab_kTranscripts (tab_not_mem_pyStrNat ntx)) hextra.2)
    · exact readsAs_parse (readsAs_append_blank cleanKey_geneId hgid.2
        (readsAs_append_blank cleanKey_transcripts (quote_not_mem_pyStrNat ntx) hextra.1))
  | transcript chr source s e strand gid tid additional extra =>
    have ht := htid tid rfl
    refine ⟨_, congrFun renderLine_eq _, split _ ?_, rfl, ?_⟩
    · exact noTab_sp (noTab_item noTab_kGeneId hgid.1)
        (noTab_sp (noTab_item noTab_kTranscriptId ht.1) (noTab_app (noTab_join_items additional hadd.2) hextra.2))
    · exact readsAs_parse (readsAs_append_blank cleanKey_geneId hgid.2
        (readsAs_append_blank cleanKey_transcriptId ht.2 (readsAs_join additional hadd.1 hextra.1)))
  | feature chr source ftype s e strand gid tid num extra =>
    have ht := htid tid rfl
    cases id with
    | none => simp [SLine.key?] at hid
    | some eid =>
      have hi := hidc eid rfl
      refine ⟨_, congrFun renderLine_eq _, split _ ?_, rfl, ?_⟩
      · exact noTab_sp (noTab_item noTab_kGeneId hgid.1) (noTab_sp (noTab_item noTab_kTranscriptId ht.1)
          (noTab_sp (noTab_item noTab_kExonNumber (tab_not_mem_pyStrNat num)) (noTab_sp (noTab_item noTab_kExonId hi.1) hextra.2)))
      · exact readsAs_parse (readsAs_append_blank cleanKey_geneId hgid.2
          (readsAs_append_blank cleanKey_transcriptId ht.2
            (readsAs_append_blank cleanKey_exonNumber (quote_not_mem_pyStrNat num)
              (readsAs_append_blank cleanKey_exonId hi.2 hextra.1))))

/-- non-vacuity: a feature line with a reference attribute text meets `CleanLine`, and the theorem's reading is the expected one -/
example : ∃ ps, CleanLine (SLine.feature "c1".toList "HAVANA".toList "CDS".toList 10 20 "-".toList "G1".toList "T1".toList 2
      (' ' :: giText [("tag".toList, "basic".toList)])) (some "c1.7".toList) ps ∧
    attrPairs (SLine.feature "c1".toList "HAVANA".toList "CDS".toList 10 20 "-".toList "G1".toList "T1".toList 2
      (' ' :: giText [("tag".toList, "basic".toList)])) (some "c1.7".toList) ps
      = [(kGeneId, "G1".toList), (kTranscriptId, "T1".toList), (kExonNumber, "2".toList), (kExonId, "c1.7".toList),
         ("tag".toList, "basic".toList)] := by
  refine ⟨[("tag".toList, "basic".toList)], ⟨?_, ?_, ?_, ?_, ?_, ?_⟩, by decide +kernel⟩
  · simp only [fixedCols]; decide +kernel
  · simp only [SLine.gid]; decide +kernel
  · intro t h; simp only [SLine.tid?, Option.some.injEq] at h; subst h; decide +kernel
  · simp [SLine.additional, CleanAttrs]
  · refine ⟨readsAs_blank (readsAs_giText _ ?_), by simp only [SLine.extra]; decide +kernel⟩
    intro kv h
    simp only [List.mem_cons, List.not_mem_nil, or_false] at h
    subst h
    exact ⟨⟨⟨_, _, rfl, by decide⟩, by decide +kernel⟩, by decide +kernel⟩
  · intro i h; simp only [Option.some.injEq] at h; subst h; decide +kernel

/-- every line renders: none of the current format literals can raise a TypeError -/
theorem render_total (l : SLine) (id : Option Str) (hid : (SLine.key? l).isSome → id.isSome) :
    ∃ body, renderLine (l, id) = some (body ++ ['\n']) := by
  cases l with
  | gene chr source s e strand gid ntx extra => exact ⟨_, congrFun renderLine_eq _⟩
  | transcript chr source s e strand gid tid additional extra => exact ⟨_, congrFun renderLine_eq _⟩
  | feature chr source ftype s e strand gid tid num extra =>
    cases id with
    | none => simp [SLine.key?] at hid
    | some eid => exact ⟨_, congrFun renderLine_eq _⟩

/-- **grammar witness** (outside `CleanLine`): a quote inside a value breaks the attribute column — the printer does not
    escape; `gene_id "a"b";` is not of the form `key "value";` -/
theorem dump_line_grammar_witness :
    ∃ col, renderLine (SLine.gene "c1".toList "IsoQuant".toList 1 2 "+".toList ['a', '"', 'b'] 1 [], none)
        = some (pyJoin ['\t'] (fixedCols (SLine.gene "c1".toList "IsoQuant".toList 1 2 "+".toList ['a', '"', 'b'] 1 []) ++ [col]) ++ ['\n'])
      ∧ parseAttrs col = none := by
  refine ⟨_, congrFun renderLine_eq _, ?_⟩
  decide +kernel


/-- the attributes `set_gene_attributes` keeps of a feature: keys outside the skip list, with a non-empty value list,
    each with its FIRST value only -/
def kept (skip : List String) (attrs : List (Str × List Str)) : Attrs :=
  attrs.filterMap (fun av => if inSkip skip av.1 then none else av.2.head?.map (fun v => (av.1, v)))

/-- **attr_loop_spec**, **attr_loop_text** (the text `set_gene_attributes` builds).  One attribute loop of `set_gene_attributes` appends to the entry `key` exactly the text
    `k "v"; ` for every kept attribute, in the order of the feature's attribute dict — for each of the three generated
    (format, skip list) pairs. -/
theorem attr_loop_spec (fmt : String) (skip : List String) (key : Str)
    (hf : ∀ k v, pyFormat fmt [FArg.s k, FArg.s v] = some (item k v ++ [' '])) :
    ∀ (attrs : List (Str × List Str)) (d : List (Str × Str)),
      attrLoop fmt skip key attrs d =
        some ((kept skip attrs).foldl (fun d kv => dictAppend key (item kv.1 kv.2 ++ [' ']) d) d)
  | [], d => rfl
  | (a, vs) :: r, d => by
      simp only [attrLoop]
      by_cases hs : inSkip skip a = true
      · simp [hs, kept, attr_loop_spec fmt skip key hf r d]
      · have hs' : inSkip skip a = false := by simpa using hs
        cases vs with
        | nil =>
          simp only [hs', Bool.false_eq_true, if_false]
          rw [attr_loop_spec fmt skip key hf r d]
          simp [kept, hs']
        | cons v vs' =>
          simp only [hs', Bool.false_eq_true, if_false, hf a v]
          rw [attr_loop_spec fmt skip key hf r _]
          simp [kept, hs']

theorem dictAppend_get_same (k t : Str) (d : List (Str × Str)) :
    assocGet k (dictAppend k t d) = some ((match assocGet k d with | some o => o | none => []) ++ t) := by
  unfold dictAppend
  cases h : assocGet k d with
  | none => simp [assocGet_set_same]
  | some o => simp [assocGet_set_same]

/-- the text an attribute loop leaves under its key, when the key was absent before: `giText` of the kept pairs (so it
    reads back as these pairs, `readsAs_giText`), and NO entry at all when nothing is kept -/
theorem attr_loop_text (fmt : String) (skip : List String) (key : Str)
    (hf : ∀ k v, pyFormat fmt [FArg.s k, FArg.s v] = some (item k v ++ [' ']))
    (attrs : List (Str × List Str)) (d d' : List (Str × Str)) (hnew : assocGet key d = none)
    (h : attrLoop fmt skip key attrs d = some d') :
    assocGet key d' = if kept skip attrs = [] then none else some (giText (kept skip attrs)) := by
  rw [attr_loop_spec fmt skip key hf] at h
  simp only [Option.some.injEq] at h
  subst h
  have gen : ∀ (ps : Attrs) (d : List (Str × Str)) (pre : Str), assocGet key d = some pre →
      assocGet key (ps.foldl (fun d kv => dictAppend key (item kv.1 kv.2 ++ [' ']) d) d) = some (pre ++ giText ps) := by
    intro ps
    induction ps with
    | nil => intro d pre hd; simpa [giText] using hd
    | cons kv r ih =>
      intro d pre hd
      simp only [List.foldl_cons]
      rw [ih _ (pre ++ (item kv.1 kv.2 ++ [' '])) (by rw [dictAppend_get_same, hd])]
      simp [giText]
  cases hk : kept skip attrs with
  | nil => simp [hnew]
  | cons kv r =>
    simp only [List.foldl_cons, reduceCtorEq, if_false]
    rw [gen r _ (item kv.1 kv.2 ++ [' ']) (by rw [dictAppend_get_same, hnew]; simp)]
    simp [giText]

/-- **reference_attrs_dropped** — the skip lists of the CURRENT source (generated): of a reference gene `gene_id`,
    `ID`, `level`, `Parent` are not copied; of a transcript additionally `transcript_id`, `exons` and (since fix 9e1d6f2, C18)
    `Canonical`; the exon list is used
    only to decide whether a feature line gets the transcript's text.  `gene_id` / `transcript_id` are re-emitted by the
    line formats; `level` and `ID`/`Parent` are lost; `exons` is recomputed. -/
theorem reference_attrs_dropped :
    gi_gene_attr_skip = ["gene_id", "ID", "level", "Parent"] ∧
    gi_transcript_attr_skip = ["transcript_id", "gene_id", "ID", "level", "exons", "Canonical", "Parent"] ∧
    gi_exon_attr_skip = ["transcript_id", "gene_id", "ID", "Parent", "level", "exon_id", "exon", "exon_number"] ∧
    gtf_default_source = "IsoQuant" ∧ tm_default_source = "IsoQuant" ∧ gtf_exons_key = "exons" ∧
    gtf_additional_keys = ["Canonical", "alternatives", "exons", "similar_reference_id"] := by decide +kernel

/-- **reference_verbatim** (structured part, with the source column): `from_reference_transcript` copies seqname, strand,
    gene, exon list, SOURCE and other features of the annotation; `additional_info` starts empty. -/
theorem reference_verbatim_fields (ri : RefInfo) (tid : Str) (m : AModel) (h : fromReferenceT ri tid = some m) :
    m.chr = ri.chr ∧ m.tid = tid ∧ assocGet tid ri.strands = some m.strand ∧ assocGet tid ri.geneOf = some m.gid ∧
    assocGet tid ri.isoforms = some m.exons ∧ assocGet tid ri.sources = some m.source ∧ m.additional = [] ∧
    m.other = (match assocGet tid ri.other with | some o => o | none => []) := by
  unfold fromReferenceT at h
  split at h
  · next strand gid exons source h1 h2 h3 h4 =>
    simp only [Option.some.injEq] at h
    subst h
    exact ⟨rfl, rfl, h1, h2, h3, h4, rfl, rfl⟩
  · cases h

def wTx : DbTx := ⟨"RT1".toList, "HAVANA".toList, ['-'],
  [("gene_id".toList, ["RG1".toList]), ("transcript_id".toList, ["RT1".toList]), ("level".toList, ["2".toList]),
   ("tag".toList, ["basic".toList, "CCDS".toList]), ("exons".toList, ["2".toList]), ("note".toList, [])],
  [(10, 20, "exon".toList), (30, 40, "exon".toList), (30, 35, "CDS".toList)],
  [(10, 20), (30, 40)]⟩
def wGeneDb : DbGene := ⟨"RG1".toList, "ENSEMBL".toList,
  [("gene_id".toList, ["RG1".toList]), ("gene_name".toList, ["A1".toList]), ("transcripts".toList, ["1".toList]),
   ("level".toList, ["2".toList])],
  [wTx], ["RT1".toList], [(10, 20, ['-']), (30, 40, ['-'])]⟩
def wRefFeats : List RefFeature := [⟨30, 40, ['-'], some ["ENSE7".toList]⟩]

def wText : Option (List String) :=
  match extendedStorageT (refInfoOf "c1".toList [wGeneDb]) [], ginfoOf "c1".toList [wGeneDb] [("RG1".toList, (5, 50))] with
  | some storage, some gi =>
    (dumpText (FeatureIdStorage.init SimpleIDDistributor.init (some wRefFeats) "c1".toList) [] gi storage).map
      (fun r => r.1.map String.ofList)
  | _, _ => none

/-- **reference_verbatim_attrs_witness** — what the extended annotation says about a reference gene with one transcript
    (`-` strand, two exons, one CDS; `tag "basic"; tag "CCDS"`, `level`, `exons`, an empty-valued `note`; the gene carries a
    `transcripts` attribute as IsoQuant's own output does).  PRESERVED: seqname, both source columns, coordinates, strand,
    gene_id, transcript_id, the reference `exon_id` (ENSE7), `gene_name`, the first `tag`.  DROPPED / CHANGED: the second value
    of `tag`; `level`; valueless `note`; `exons` is recomputed; the gene line carries `transcripts` TWICE (the printer's count
    and the copied reference attribute); `exon_number` is renumbered in printing order over exons AND the CDS (the second exon
    of the `-` transcript is number 1, the CDS number 2); exon lines carry the TRANSCRIPT's attributes (not the exon's own),
    after two blanks; the CDS line carries none. -/
theorem reference_verbatim_attrs_witness : wText = some
    ["c1\tENSEMBL\tgene\t5\t50\t.\t-\t.\tgene_id \"RG1\"; transcripts \"1\"; gene_name \"A1\"; transcripts \"1\"; \n",
     "c1\tHAVANA\ttranscript\t10\t40\t.\t-\t.\tgene_id \"RG1\"; transcript_id \"RT1\"; exons \"2\"; tag \"basic\"; \n",
     "c1\tHAVANA\texon\t30\t40\t.\t-\t.\tgene_id \"RG1\"; transcript_id \"RT1\"; exon_number \"1\"; exon_id \"ENSE7\";  tag \"basic\"; \n",
     "c1\tHAVANA\tCDS\t30\t35\t.\t-\t.\tgene_id \"RG1\"; transcript_id \"RT1\"; exon_number \"2\"; exon_id \"c1.1\"; \n",
     "c1\tHAVANA\texon\t10\t20\t.\t-\t.\tgene_id \"RG1\"; transcript_id \"RT1\"; exon_number \"3\"; exon_id \"c1.2\";  tag \"basic\"; \n"] := by
  -- the lines are compared as character lists (`map_ofList_eq`), on the form `textLines` of the call
  have key : wText = Option.map (List.map String.ofList)
      (match extendedStorageT (refInfoOf "c1".toList [wGeneDb]) [], ginfoOf "c1".toList [wGeneDb] [("RG1".toList, (5, 50))] with
       | some storage, some gi =>
         textLines (FeatureIdStorage.init SimpleIDDistributor.init (some wRefFeats) "c1".toList) [] gi storage
       | _, _ => none) := by
    unfold wText
    cases extendedStorageT (refInfoOf "c1".toList [wGeneDb]) [] <;>
      cases ginfoOf "c1".toList [wGeneDb] [("RG1".toList, (5, 50))] <;>
      simp only [← dumpText_fst, Option.map_map, Option.map_none] <;> rfl
  rw [key]
  exact map_ofList_eq (ls := [_, _, _, _, _]) (by decide +kernel)

/-- non-vacuity of `attr_loop_text` / `kept` on the witness transcript -/
example : kept gi_transcript_attr_skip wTx.attrs = [("tag".toList, "basic".toList)] := by decide +kernel

end IsoVerif.Props.C03Text
