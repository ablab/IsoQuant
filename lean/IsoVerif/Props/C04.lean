/-
C04 — every novel transcript model emitted by `construct_fl_isoforms` is evidence-backed, correctly
labelled, stranded and different from the reference.
Property theorems and two small facts that serve them (`nic_nnic_disjoint` about the generated suffixes, `novel_not_known`);
helper lemmas: IsoVerif/Lemmas/ModelConstruction.lean, IsoVerif/Lemmas/IntronGraph.lean.
Model: IsoVerif/Model/ModelConstruction.lean.  Heuristic inputs of the decision block (the assigner's verdict for a
path, the per-intron canonical strand, ids) are universally quantified.
-/
import IsoVerif.Gen.Strategies
import IsoVerif.Model.ModelConstruction
import IsoVerif.Lemmas.ModelConstruction
import IsoVerif.Props.C04Graph

namespace IsoVerif.Props.C04
open IsoVerif.Gen IsoVerif.Model IsoVerif.Model.C04 IsoVerif.Lemmas.C04 IsoVerif.Props.C04Graph

/-- **novel_model_chain.** The introns of an emitted novel model, as they will appear in the GTF (junctions of its
    exon lines), are exactly the inner vertices of its graph path (well-formed introns; the loop skips a path when
    `get_exons` had to drop an empty exon, so `get_exons` is inverted by `junctions_from_blocks`). -/
theorem novel_model_chain (env : FLEnv) (sd : Iv → Strand) (next : Nat → Nat) (st st' : FLState) (pi : PathIn) (m : TModel)
    (hstep : flStep env sd next st pi = some (st', .novelAdded m))
    (hwf : ∀ i ∈ pi.path.tail.dropLast, i.1 ≤ i.2) :
    m.introns = pi.path.tail.dropLast ∧ m.intronPath = pi.path.tail.dropLast := by
  obtain ⟨_, _, _, _, hf⟩ := flStep_novel_inv hstep
  obtain rfl := hf.model
  exact ⟨junctions_getExons _ _ _ (pathGapped_of_getExons_length _ _ _ hwf (hf.len rfl)), rfl⟩

/-- **novel_model_printable.** An emitted novel model passes `validate_exons` (sorted exons with `0 < start ≤ end`), so
    `GFFPrinter.dump` writes it to transcript_models.gtf and the lines `transcript_model_reads` has for it refer to a
    printed transcript.  (`hpos`: the starting vertex of the path is a read start, a 1-based coordinate.) -/
theorem novel_model_printable (env : FLEnv) (sd : Iv → Strand) (next : Nat → Nat) (st st' : FLState) (pi : PathIn) (m : TModel)
    (hstep : flStep env sd next st pi = some (st', .novelAdded m))
    (hwf : ∀ i ∈ pi.path.tail.dropLast, i.1 ≤ i.2)
    (hpos : ∀ first, pi.path.head? = some first → 0 < first.2) :
    validateExons m.exons = true := by
  obtain ⟨first, _, _, _, hf⟩ := flStep_novel_inv hstep
  obtain rfl := hf.model
  exact validate_getExons _ _ _ (hpos first hf.first_eq) (pathGapped_of_getExons_length _ _ _ hwf (hf.len rfl))

/-- **ends_correction_keeps_introns.** `correct_novel_transcript_ends` only rewrites the start of the first exon and the end
    of the last one (`setStart`, `setEnd`, for any new coordinates): the intron chain printed in the GTF does not change. -/
theorem ends_correction_keeps_introns (ex : List Iv) (s e : Int) :
    junctionsFromBlocks (setEnd (setStart ex s) e) = junctionsFromBlocks ex := by
  have h1 : ∀ (l : List Iv) (x : Int), junctionsFromBlocks (setEnd l x) = junctionsFromBlocks l := by
    intro l x
    induction l with
    | nil => rfl
    | cons a t ih =>
      cases t with
      | nil => simp [setEnd, junctionsFromBlocks]
      | cons b u =>
        cases u with
        | nil => simp [setEnd, junctionsFromBlocks]
        | cons c v =>
          simp only [setEnd, junctionsFromBlocks] at ih ⊢
          rw [ih]
  rw [h1]
  cases ex with
  | nil => rfl
  | cons a t =>
    cases t with
    | nil => simp [setStart, junctionsFromBlocks]
    | cons b u => simp [setStart, junctionsFromBlocks]

/-- **novel_introns_observed.** Whatever history of graph operations led to the graph, if a full-length path was
    threaded from a non-multimapper read and `construct_fl_isoforms` emits a novel model for it, then every intron of
    that model (GTF introns) occurs in the corrected alignment of some non-multimapper read.
    (`hwf`: corrected introns are non-empty intervals — the domain of C14.) -/
theorem novel_introns_observed (known : List Iv) (δ minCount : Int) (reads : List Read) (ops : List Op) (g0 g : Graph)
    (hwf : ∀ r ∈ reads, ∀ i ∈ r.introns, i.1 ≤ i.2)
    (h0 : Graph.constructed known δ reads minCount = some g0)
    (h : runOps (obsIntrons reads) g0 ops = some g)
    (r : Read) (hr : r ∈ reads) (hm : r.multimapper = false) (ip : List Iv)
    (ht : threadIntrons g.col r.introns = some ip)
    (env : FLEnv) (sd : Iv → Strand) (next : Nat → Nat) (st st' : FLState) (pi : PathIn) (m : TModel)
    (hpath : pi.path.tail.dropLast = ip)
    (hstep : flStep env sd next st pi = some (st', .novelAdded m)) :
    ∀ i ∈ m.introns, Observed reads i := by
  have hobs := thread_path_observed known δ minCount reads ops g0 g h0 h r hr hm ip ht
  have hwf' : ∀ i ∈ pi.path.tail.dropLast, i.1 ≤ i.2 := by
    intro i hi
    rw [hpath] at hi
    obtain ⟨r', hr', _, hi'⟩ := hobs i hi
    exact hwf r' hr' i hi'
  intro i hi
  rw [(novel_model_chain env sd next st st' pi m hstep hwf').1, hpath] at hi
  exact hobs i hi

/-- the inputs of `construct_fl_isoforms` as `IntronPathStorage.fill` leaves them; `verdict` is the assigner's answer
    for a path (universally quantified) -/
def pathInsOf (ps : PathStore) (verdict : List Iv → Bool × String) : List PathIn :=
  ps.fl.map (fun p => { path := p, count := cnt ps.paths p,
                        reads := ((amGet? ps.toReads p).getD []).map (fun r => (r.id, r.group)),
                        matching := (verdict p).1, ref := (verdict p).2 })

/-- **fl_paths_from_reads.** Every full-length path `IntronPathStorage.fill` registers is
    `[starting vertex] + thread_introns(read) + [terminal vertex]` for some non-multimapper read, whatever
    `thread_ends` / `thread_starts` (parameters of `ThreadParams`) answer. -/
theorem fl_paths_from_reads (g : Graph) (tp : ThreadParams) (reads : List Read) :
    ∀ path ∈ (fillPaths g tp reads).fl, ∃ r ∈ reads, r.multimapper = false ∧
      ∃ ip, threadIntrons g.col r.introns = some ip ∧ ip ≠ [] ∧ path.tail.dropLast = ip := by
  intro path hp
  obtain ⟨a, ha, hrp⟩ := (fillPaths_spec g tp reads).1 path hp
  obtain ⟨hmm, ip, _, _, ht, hf, _, hfl⟩ := readPath_spec hrp
  obtain ⟨_, _, e, s, _, _, rfl, _⟩ := hfl rfl
  exact ⟨a, ha, hmm, ip, ht, (by rintro rfl; cases hf), by simp⟩

/-- **novel_introns_observed_end_to_end.** From the reads to the GTF: build the graph (collector, `construct()`, any
    history of graph operations), fill the path storage, run `construct_fl_isoforms` with any assigner verdicts, any
    canonical-site table, any id source: every intron of every novel model emitted occurs in the corrected alignment of a
    non-multimapper read. -/
theorem novel_introns_observed_end_to_end (known : List Iv) (δ minCount : Int) (reads : List Read) (ops : List Op)
    (g0 g : Graph) (hwf : ∀ r ∈ reads, ∀ i ∈ r.introns, i.1 ≤ i.2)
    (h0 : Graph.constructed known δ reads minCount = some g0)
    (h : runOps (obsIntrons reads) g0 ops = some g)
    (tp : ThreadParams) (verdict : List Iv → Bool × String)
    (env : FLEnv) (sd : Iv → Strand) (next : Nat → Nat) (st st' : FLState) (ds : List Decision)
    (hrun : constructFL env sd next st (pathInsOf (fillPaths g tp reads) verdict) = some (st', ds)) :
    ∀ d ∈ ds, ∀ m, d = .novelAdded m → ∀ i ∈ m.introns, Observed reads i := by
  intro d hd m hm
  subst hm
  unfold constructFL at hrun
  rcases flLoop_origin env sd next _ st [] st' ds hrun _ hd with h' | ⟨pi, hpi, s1, s2, hstep⟩
  · simp at h'
  · rw [mem_insSort] at hpi
    simp only [pathInsOf, List.mem_map] at hpi
    obtain ⟨path, hpath, rfl⟩ := hpi
    obtain ⟨r, hr, hmm, ip, ht, _, hip⟩ := fl_paths_from_reads g tp reads path hpath
    exact novel_introns_observed known δ minCount reads ops g0 g hwf h0 h r hr hmm ip ht env sd next s1 s2 _ m hip hstep

/-- a permissive environment used by the concrete examples -/
def exEnv (level : StrandnessReportingLevel) : FLEnv :=
  { chr := "chr1", geneEmpty := true, knownIntrons := [], knownPaths := [], intronGenes := [], geneStrands := [],
    refModels := [], minKnownCount := 1, minNovelCount := 1, requireMonointronicPolya := false, level := level,
    useTechnicalReplicas := false }

def exSd : Iv → Strand := fun i => if i.1 < 1000 then .plus else .dot

def exPath : PathIn :=
  { path := [(VERTEX_read_start, 10), (50, 90), (100, 200), (VERTEX_polya, 400)], count := 3,
    reads := [("r1", "g"), ("r2", "g"), ("r3", "g")], matching := false, ref := "" }

/-- three polyA reads with the same two introns -/
def e2eReads : List Read :=
  [⟨"a", [(50, 90), (100, 200)], [(10, 49), (91, 99), (201, 400)], false, "+", true, false, "g"⟩,
   ⟨"b", [(50, 90), (100, 200)], [(12, 49), (91, 99), (201, 400)], false, "+", true, false, "g"⟩,
   ⟨"c", [(50, 90), (100, 200)], [(10, 49), (91, 99), (201, 398)], false, "+", true, false, "g"⟩]

/-- non-vacuity of the end-to-end theorem: graph, attached terminal vertices, path storage and decision block run to a
    novel model whose GTF introns are the reads' introns -/
example : ((Graph.constructed [] 0 e2eReads 1).bind (fun g0 =>
      (runOps (obsIntrons e2eReads) g0 [.attachOut (100, 200) (VERTEX_polya, 400),
          .attachInc (50, 90) (VERTEX_read_start, 10)]).bind (fun g =>
        (constructFL (exEnv .only_stranded) exSd (· + 1) ⟨[], 0, Store.empty⟩
          (pathInsOf (fillPaths g ⟨fun _ _ _ => some (VERTEX_polya, 400), fun _ _ _ => some (VERTEX_read_start, 10), false⟩ e2eReads)
            (fun _ => (false, "")))).map (fun r =>
            r.2.map (fun d => match d with | .novelAdded m => (m.introns, m.tid) | _ => ([], ""))))))
    = some [([(50, 90), (100, 200)], "transcript1.chr1.nnic")] := by decide +kernel

/-- `hstep` of the theorems above and below is satisfiable: a concrete path yields a novel model with two introns -/
example : (flStep (exEnv .only_stranded) exSd (· + 1) ⟨[], 0, Store.empty⟩ exPath).map
    (fun r => match r.2 with | .novelAdded m => (m.introns, m.strand) | _ => ([], Strand.dot))
    = some ([(50, 90), (100, 200)], .plus) := by decide +kernel

def overlapPath : PathIn :=
  { exPath with path := [(VERTEX_read_start, 10), (50, 90), (100, 215), (210, 300), (VERTEX_polya, 400)] }

/-- **novel_intron_unobserved_witness.** The code before the fix (`flStepBuggy`, no length check): when a substitution
    makes two consecutive path introns overlap ((100,215) followed by (210,300)), `get_exons` silently drops the empty
    exon and the emitted model carries the intron (100,300), which is not a vertex of its path — reproduced end to end
    on the real pipeline (docs/C04.md) and fixed in /repo. -/
theorem novel_intron_unobserved_witness :
    (flStepBuggy (exEnv .only_stranded) exSd (· + 1) ⟨[], 0, Store.empty⟩ overlapPath).map
      (fun r => match r.2 with | .novelAdded m => (m.introns, m.intronPath) | _ => ([], []))
    = some ([(50, 90), (100, 300)], [(50, 90), (100, 215), (210, 300)]) := by decide +kernel

/-- the current code skips that path (and does not consume an id) -/
example : flStep (exEnv .only_stranded) exSd (· + 1) ⟨[], 0, Store.empty⟩ overlapPath
    = some (⟨[], 0, Store.empty⟩, .skipped) := by decide +kernel

theorem nic_nnic_disjoint : ¬ (tn_nic_transcript_suffix.toList <:+ tn_nnic_transcript_suffix.toList) ∧
    ¬ (tn_nnic_transcript_suffix.toList <:+ tn_nic_transcript_suffix.toList) := by decide

/-- **nic_iff_all_known.** For every emitted novel model: the id ends in `.nic` exactly when every intron of its path
    is an annotated intron (`known_introns`), it ends in `.nnic` exactly otherwise, and the transcript type agrees. -/
theorem nic_iff_all_known (env : FLEnv) (sd : Iv → Strand) (next : Nat → Nat) (st st' : FLState) (pi : PathIn) (m : TModel)
    (hstep : flStep env sd next st pi = some (st', .novelAdded m)) :
    (tn_nic_transcript_suffix.toList <:+ m.tid.toList ↔ ∀ i ∈ m.intronPath, i ∈ env.knownIntrons) ∧
    (tn_nnic_transcript_suffix.toList <:+ m.tid.toList ↔ ¬ ∀ i ∈ m.intronPath, i ∈ env.knownIntrons) ∧
    (m.ttype = .novel_in_catalog ↔ ∀ i ∈ m.intronPath, i ∈ env.knownIntrons) ∧
    (m.ttype = .novel_not_in_catalog ↔ ¬ ∀ i ∈ m.intronPath, i ∈ env.knownIntrons) := by
  obtain ⟨_, _, _, _, hf⟩ := flStep_novel_inv hstep
  obtain rfl := hf.model
  have hall : (∀ i ∈ pi.path.tail.dropLast, i ∈ env.knownIntrons) ↔
      (pi.path.tail.dropLast.all fun i => decide (i ∈ env.knownIntrons)) = true := by simp
  simp only [hall]
  cases pi.path.tail.dropLast.all fun i => decide (i ∈ env.knownIntrons) <;>
    simp [suffix_novelTid, not_suffix_novelTid nic_nnic_disjoint.1 nic_nnic_disjoint.2,
      not_suffix_novelTid nic_nnic_disjoint.2 nic_nnic_disjoint.1]

theorem novel_not_known (env : FLEnv) (sd : Iv → Strand) (next : Nat → Nat) (st st' : FLState) (pi : PathIn) (m : TModel)
    (hstep : flStep env sd next st pi = some (st', .novelAdded m)) : m.ttype ≠ .known := by
  have h := nic_iff_all_known env sd next st st' pi m hstep
  by_cases hall : ∀ i ∈ m.intronPath, i ∈ env.knownIntrons
  · rw [h.2.2.1.2 hall]; decide
  · rw [h.2.2.2.2 hall]; decide

/-- non-vacuity: with both introns annotated the same path gives a `.nic` id, with none a `.nnic` id -/
example : (flStep { exEnv .only_stranded with knownIntrons := [(50, 90), (100, 200)] } exSd (· + 1) ⟨[], 0, Store.empty⟩ exPath).map
    (fun r => match r.2 with | .novelAdded m => m.tid | _ => "") = some "transcript1.chr1.nic" := by decide +kernel
example : (flStep (exEnv .only_stranded) exSd (· + 1) ⟨[], 0, Store.empty⟩ exPath).map
    (fun r => match r.2 with | .novelAdded m => m.tid | _ => "") = some "transcript1.chr1.nnic" := by decide +kernel

/-- **definite_strand.** Under the reporting levels `only_canonical` and `only_stranded` (the latter is the command-line
    default) every emitted novel model has strand `+` or `-`. -/
theorem definite_strand (env : FLEnv) (sd : Iv → Strand) (next : Nat → Nat) (st st' : FLState) (pi : PathIn) (m : TModel)
    (hlevel : env.level = .only_canonical ∨ env.level = .only_stranded)
    (hstep : flStep env sd next st pi = some (st', .novelAdded m)) : m.strand = .plus ∨ m.strand = .minus := by
  obtain ⟨first, last, s, _, hf⟩ := flStep_novel_inv hstep
  obtain rfl := hf.model
  have hlv := (novelGate_eq_false hf.gate).2.2
  have hdot : getStrand sd pi.path.tail.dropLast (decide (last.1 = VERTEX_polya)) (decide (first.1 = VERTEX_polyt)) ≠ .dot := by
    rcases hlevel with hl | hl
    · exact getStrand_ne_dot_of_clean _ _ _ _ fun hc => hlv (Or.inl ⟨hl, hc⟩)
    · exact fun hc => hlv (Or.inr ⟨hl, hc⟩)
  rw [show s = _ from hf.strand hdot]
  generalize getStrand sd _ _ _ = g at hdot
  cases g with
  | plus => exact Or.inl rfl
  | minus => exact Or.inr rfl
  | dot => exact absurd rfl hdot

/-- the default level of the command line is one of the two levels of `definite_strand` -/
theorem default_level_covered : report_canonical_cli_default = .only_canonical ∨ report_canonical_cli_default = .only_stranded := by
  decide

/-- over the configurations the statement quantifies (every construction strategy, `--report_canonical` left at its
    command-line default) the effective level is `only_stranded`: `definite_strand` applies to all of them -/
theorem quantified_configurations_level : ∀ p ∈ construction_report_level,
    effective_report_level report_canonical_cli_default p.2 = .only_stranded := by decide

/-- every preset except `all` implies one of the two levels of `definite_strand` -/
theorem preset_levels : ∀ p ∈ construction_report_level,
    p.1 ≠ "all" → (p.2 = .only_canonical ∨ p.2 = .only_stranded) := by decide

/-- **definite_strand_level_all_witness.** Under the level `all` ("report all transcript models regardless of their
    splice sites") the model emits a `.` strand: two non-canonical introns, read ends without polyA, no annotation. -/
theorem definite_strand_level_all_witness :
    (flStep (exEnv .all) (fun _ => .dot) (· + 1) ⟨[], 0, Store.empty⟩
      { exPath with path := [(VERTEX_read_start, 10), (50, 90), (100, 200), (VERTEX_read_end, 400)] }).map
      (fun r => match r.2 with | .novelAdded m => some m.strand | _ => none) = some (some .dot) := by decide +kernel

/-- ... and the same input is dropped under the other two levels -/
example : (flStep (exEnv .only_stranded) (fun _ => .dot) (· + 1) ⟨[], 0, Store.empty⟩
      { exPath with path := [(VERTEX_read_start, 10), (50, 90), (100, 200), (VERTEX_read_end, 400)] }).map (·.2)
    = some .skipped := by decide +kernel

/-- keys of `known_isoforms_in_graph` as `get_known_spliced_isoforms` computes them -/
def knownPathsOf (col : Collector) (isoforms : List (List Iv)) : List (List Iv) :=
  (isoforms.filterMap (threadIntrons col)).filter (fun p => !p.isEmpty)

/-- **chains_distinct_from_reference.** With a clean correction map (`correction_map_clean`: what
    `simplify_correction_map` leaves), a novel model emitted for a path threaded from a read has an intron chain different
    from the intron chain of every reference isoform of the gene — also of isoforms whose introns were substituted or
    never seen.  (`hassign`: an assignment that `is_matching_assignment` accepts names its isoform.) -/
theorem chains_distinct_from_reference (col : Collector) (hclean : MapClean col) (isoforms : List (List Iv))
    (env : FLEnv) (henv : env.knownPaths = knownPathsOf col isoforms)
    (sd : Iv → Strand) (next : Nat → Nat) (st st' : FLState) (pi : PathIn) (m : TModel)
    (readIntrons : List Iv) (ht : threadIntrons col readIntrons = some pi.path.tail.dropLast)
    (hassign : pi.matching = true → pi.ref ≠ "")
    (hstep : flStep env sd next st pi = some (st', .novelAdded m)) :
    ∀ iso ∈ isoforms, m.intronPath ≠ iso := by
  obtain ⟨_, _, _, _, hf⟩ := flStep_novel_inv hstep
  obtain rfl := hf.model
  have hnk : pi.path.tail.dropLast ∉ env.knownPaths := hf.notKnownPath <| by
    cases hm : pi.matching with
    | false => rfl
    | true => exact absurd (hf.noRef hm) (hassign hm)
  intro iso hiso heq
  change pi.path.tail.dropLast = iso at heq
  -- every element of the threaded path is neither a key of the map nor discarded
  obtain ⟨hmap, hnd⟩ := threadIntrons_eq_map _ ht
  have hkeys : ∀ x ∈ pi.path.tail.dropLast, amGet? col.corr x = none ∧ x ∉ col.discarded := by
    intro x hx
    rw [hmap] at hx
    simp only [List.mem_map] at hx
    obtain ⟨i, hi, rfl⟩ := hx
    unfold Collector.substitute
    cases hg : amGet? col.corr i with
    | some s => exact hclean i s hg
    | none => exact ⟨hg, hnd i hi⟩
  have hthread : threadIntrons col iso = some iso := by
    rw [← heq]
    exact threadIntrons_of_clean _ (fun x hx => (hkeys x hx).2) (fun x hx => (hkeys x hx).1)
  apply hnk
  rw [henv]
  unfold knownPathsOf
  simp only [List.mem_filter, List.mem_filterMap]
  refine ⟨⟨iso, hiso, by rw [hthread, heq]⟩, ?_⟩
  have := hf.nonempty
  cases hp : pi.path.tail.dropLast with
  | nil => exact absurd hp this
  | cons a t => simp

/-- `hclean` is satisfiable: a map with the one substitution (30,42) ↦ (30,40), whose image is neither a key nor
    discarded (a reference isoform through (30,42) is then threaded to (30,40), which is what `knownPathsOf` holds) -/
example : MapClean ⟨[], [((10, 20), 5), ((30, 40), 4)], [((30, 42), (30, 40))], []⟩ := by
  intro k v h
  simp only [amGet?] at h
  split at h
  · simp at h; subst h; simp [amGet?]
  · simp at h

/-- **annotation_free_all_novel.** With an empty annotation (`gene_info.empty()`, the assigner has no isoform to match)
    `construct_fl_isoforms` adds no known model, and every model it adds is novel and belongs to a gene whose id starts
    with `novel_gene_`. -/
theorem annotation_free_all_novel (env : FLEnv) (hempty : env.geneEmpty = true)
    (sd : Iv → Strand) (next : Nat → Nat) (st st' : FLState) (pi : PathIn) (d : Decision)
    (hnoiso : pi.matching = false)
    (hstep : flStep env sd next st pi = some (st', d)) :
    d = .skipped ∨ ∃ m, d = .novelAdded m ∧ m.ttype ≠ .known ∧ tn_novel_gene_prefix.toList <+: m.gene.toList := by
  cases d with
  | skipped => exact Or.inl rfl
  | knownAdded m => exact absurd (flStepG_inv hstep).1 (by simp [hnoiso])
  | novelAdded m =>
    refine Or.inr ⟨m, rfl, novel_not_known env sd next st st' pi m hstep, ?_⟩
    obtain ⟨_, _, _, _, hf⟩ := flStep_novel_inv hstep
    obtain rfl := hf.model
    rw [show _ = novelGeneId _ _ from hf.gene (by simp [selectReferenceGene, hempty])]
    exact prefix_novelGeneId _ _

/-- non-vacuity: the annotation-free example environment emits a model in `novel_gene_chr1_2` -/
example : (flStep (exEnv .only_stranded) exSd (· + 1) ⟨[], 0, Store.empty⟩ exPath).map
    (fun r => match r.2 with | .novelAdded m => m.gene | _ => "") = some "novel_gene_chr1_2" := by decide +kernel

/-- **monoexon_novel_model.** A model added by `generate_monoexon_from_clustered` (whatever `cluster_monoexons` grouped):
    strand `+` or `-`, a `novel_gene_…` gene, not typed `known`, one exon (no intron to support), and at least
    `min_novel_count` reads saved for it. -/
theorem monoexon_novel_model (chr : String) (minNovelCount : Int) (next : Nat → Nat) (forward : Bool)
    (st st' : MonoState) (c : MonoCluster) (m : TModel)
    (h : monoStep chr minNovelCount next forward st c = some (st', some m)) :
    (m.strand = .plus ∨ m.strand = .minus) ∧ tn_novel_gene_prefix.toList <+: m.gene.toList ∧ m.ttype ≠ .known ∧
    m.introns = [] ∧ minNovelCount ≤ (c.reads.length : Int) ∧ st'.store = st.store.addModel m (c.reads.map (·.1)) := by
  simp only [monoStep] at h
  obtain ⟨hcount, h⟩ := IsoVerif.Lemmas.of_ite_ne (by simp) h
  split at h
  · cases h
  obtain ⟨_, h⟩ := IsoVerif.Lemmas.of_ite_ne (by simp) h
  cases h
  exact ⟨by cases forward <;> simp [monoStrand], prefix_novelGeneId _ _, by simp, rfl, by omega, rfl⟩

/-- non-vacuity: a polyA cluster of three mono-exonic reads becomes a `+` model in a novel gene -/
example : (monoStep "chr1" 2 (· + 1) true ⟨0, Store.empty⟩ ⟨900, [("a", 100, 900), ("b", 120, 899), ("c", 90, 901)]⟩).map
    (fun r => r.2.map (fun m => (m.strand, m.gene, m.exons))) = some (some (.plus, "novel_gene_chr1_2", [(90, 900)])) := by
  decide +kernel

def apaPaths : List PathIn :=
  [{ exPath with path := [(VERTEX_read_start, 10), (50, 90), (VERTEX_polya, 400)] },
   { exPath with path := [(VERTEX_read_start, 10), (50, 90), (VERTEX_polya, 1100)],
                 reads := [("r4", "g"), ("r5", "g"), ("r6", "g")] }]

/-- **chains_distinct_among_novel_witness.** FALSE in the model (and in the code: known finding
    `monointron_apa_duplicates`, reproduced end to end on the real pipeline): two full-length paths with the one intron
    (50,90) and two polyA vertices 700 bp apart give two novel models with the same intron chain; both pass
    `filter_transcripts` (for storages of 2-exon models `detect_similar_isoforms` returns nothing: it skips them) and both
    are listed with their reads in `transcript_model_reads`. -/
theorem chains_distinct_among_novel_witness :
    ((constructFL (exEnv .only_stranded) exSd (· + 1) ⟨[], 0, Store.empty⟩ apaPaths).bind (fun r =>
        (r.1.store.filterTranscripts ⟨1, 30⟩ (fun _ => 60) (fun _ => []) (fun _ => 0)).map (fun s =>
          (novelChains r.2, s.models.map (·.tid), s.dumpR2T.length))))
      = some ([[(50, 90)], [(50, 90)]], ["transcript1.chr1.nnic", "transcript3.chr1.nnic"], 6) := by decide +kernel

/-- **chains_distinct_among_novel_partial.** Proved under the exact hypothesis that excludes the failing class: no two
    full-length paths share their inner intron chain (they differ only in terminal vertices).  Then the novel models
    emitted by one call of `construct_fl_isoforms` have pairwise distinct intron chains.
    Full-strength statement (false, see the witness): the same conclusion without `hchains`. -/
theorem chains_distinct_among_novel_partial (env : FLEnv) (sd : Iv → Strand) (next : Nat → Nat) (st st' : FLState)
    (paths : List PathIn) (ds : List Decision)
    (hchains : (paths.map (fun p => p.path.tail.dropLast)).Nodup)
    (h : constructFL env sd next st paths = some (st', ds)) : (novelChains ds).Nodup := by
  unfold constructFL at h
  obtain ⟨new, hnew, hsub⟩ := flLoop_chains env sd next _ st [] st' ds h
  simp only [novelChains, List.filterMap_nil, List.nil_append] at hnew
  unfold novelChains
  rw [hnew]
  apply hsub.nodup
  exact ((insSort_perm _ paths).map _).nodup_iff.2 hchains

/-- non-vacuity of the partial theorem: two paths with different chains, both emitted -/
example : (constructFL (exEnv .only_stranded) exSd (· + 1) ⟨[], 0, Store.empty⟩
      [exPath, { exPath with path := [(VERTEX_read_start, 10), (50, 90), (VERTEX_polya, 400)] }]).map
      (fun r => novelChains r.2) = some [[(50, 90), (100, 200)], [(50, 90)]] := by decide +kernel

end IsoVerif.Props.C04
