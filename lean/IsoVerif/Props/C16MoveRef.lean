/-
C16 — the reference projection of the tail finder: `move_ref_coord_alogn_alignment`
(src/polya_finder.py; model `moveRefCoord` in Model/PolyAFinder.lean) returns exactly what a base-by-base SAM
projection gives, for every CIGAR over all nine operation kinds, both directions and every shift.

The specification (Model/TailSpec.lean) has none of the loop's locals: the CIGAR is read from the chosen end, the
clip operations at that end are skipped, and the operations up to the next clip are expanded into one column per base
(`expand`); `ProjectsTo cols q r` says that `r` is the number of reference bases at or before the query base number
`q`, minus one.
-/
import IsoVerif.Model.TailSpec
import IsoVerif.Lemmas.MoveRef

namespace IsoVerif.Props.C16MoveRef
open IsoVerif.Gen IsoVerif.Model IsoVerif.Model.C16 IsoVerif.Lemmas.C16

/-- **move_ref_coord_spec** — for every CIGAR (all nine operation kinds, lengths ≥ 0), every direction and every
    non-zero shift: let `core` be the operations the walk sees (CIGAR read from the start for a positive shift, from
    the end for a negative one; leading clips skipped; up to the next clip).
    * If a `P` operation lies in `core` before `|shift| + 1` query bases are consumed, the code raises (`TypeError`).
    * Otherwise it returns `r` with `ProjectsTo (expand core) |shift| r`: the 0-based reference offset (from the end
      the walk started at) of the query base `|shift|` bases inside the alignment — the reference base it is aligned
      to, the nearest reference base before it for an inserted base, the last reference base of `core` when the
      alignment holds no more than `|shift|` query bases. -/
theorem move_ref_coord_spec (cigar : List CigarOp) (shift : Int) (h0 : shift ≠ 0) (hne : cigar ≠ [])
    (hnn : NonNeg cigar) :
    ((∃ pre l post, walkCore cigar (decide (shift > 0)) = pre ++ (CigarEvent.padding, l) :: post ∧
        queryLen pre ≤ shift.natAbs) → moveRefCoord cigar shift = none) ∧
    ((∀ pre l post, walkCore cigar (decide (shift > 0)) = pre ++ (CigarEvent.padding, l) :: post →
        (shift.natAbs : Int) < queryLen pre) →
      ∃ r, moveRefCoord cigar shift = some r ∧
        ProjectsTo (expand (walkCore cigar (decide (shift > 0)))) shift.natAbs r) := by
  rw [moveRefCoord_eq_guard cigar shift hnn h0 hne]
  constructor
  · intro h
    rw [(padReached_iff _ _).2 h]
    rfl
  · intro hp
    rw [(padReached_false_iff _ _ (by omega)).2 hp, moveRefCoordFix_eq cigar shift hnn h0 hne]
    exact ⟨_, rfl, projectsTo_refColsUpTo _ _⟩

/-- the two remaining inputs: a zero shift is answered 0 without looking at the CIGAR; an empty CIGAR with a
    non-zero shift fails the `assert` -/
theorem move_ref_coord_edge (cigar : List CigarOp) (shift : Int) :
    moveRefCoord cigar 0 = some 0 ∧ (shift ≠ 0 → moveRefCoord [] shift = none) := by
  constructor
  · simp [moveRefCoord]
  · intro h; simp [moveRefCoord, h]

/-- the same statement as one equation (the driver evaluates the repaired twin `moveRefCoordSpecFix` against the real
    code, Props/C16Pad.lean): the modelled walk equals the base-by-base specification on every CIGAR with non-negative lengths -/
theorem move_ref_coord_eq_spec (cigar : List CigarOp) (shift : Int) (hnn : NonNeg cigar) :
    moveRefCoord cigar shift = moveRefCoordSpec cigar shift := by
  by_cases h0 : shift = 0
  · simp [moveRefCoord, moveRefCoordSpec, h0]
  by_cases hne : cigar = []
  · simp [moveRefCoord, moveRefCoordSpec, h0, hne]
  rw [moveRefCoord_eq_guard cigar shift hnn h0 hne, moveRefCoordFix_eq cigar shift hnn h0 hne]
  simp only [moveRefCoordSpec, h0, hne, if_false]

/-- **leading_clips_sam** — "clips skipped": when the clipping at the walked end is SAM-valid (nothing, `S`, `H`, or
    `H S` seen from that end — i.e. a trailing `S H` for a backward walk) the code's index arithmetic
    (`current_pos = 2 / 1 / 0`, `-3 / -2 / -1`) skips exactly the clip operations -/
theorem leading_clips_sam (walk : List CigarOp) (h : ClipsValid walk) :
    walk.drop (leadingClips walk) = walk.dropWhile (fun o => isClipOp o.1) := by
  have tw_nil : ∀ l : List CigarOp, (l.takeWhile (fun o => isClipOp o.1)) = [] →
      l.dropWhile (fun o => isClipOp o.1) = l := by
    intro l hl
    have := List.takeWhile_append_dropWhile (p := fun o : CigarOp => isClipOp o.1) (l := l)
    rw [hl] at this; simpa using this
  unfold ClipsValid at h
  match walk, h with
  | [], _ => rfl
  | [(k, n)], _ => cases k <;> simp [leadingClips, isClipOp]
  | (k1, n1) :: (k2, n2) :: rest, h =>
    -- only after a leading `H` does the second operation matter
    cases k1
    case hard_clipping =>
      cases k2 <;> simp [leadingClips, isClipOp] at h ⊢
      exact (tw_nil rest (by simpa [isClipOp] using h)).symm
    case soft_clipping =>
      simp [leadingClips, isClipOp] at h ⊢
      exact (tw_nil _ h).symm
    all_goals simp [leadingClips, isClipOp]

/-- non-vacuity, on the shape where a slip in the clip handling shows: a trailing `S H` is skipped as a whole by the
    backward walk (`30M 6S 9H`, shift −2: the base two bases before the end is one reference base further in) -/
example : ClipsValid ([(CigarEvent.«match», 30), (CigarEvent.soft_clipping, 6), (CigarEvent.hard_clipping, 9)] : List CigarOp).reverse ∧
    moveRefCoord [(.«match», 30), (.soft_clipping, 6), (.hard_clipping, 9)] (-2) = some 2 ∧
    moveRefCoord [(.hard_clipping, 9), (.soft_clipping, 6), (.«match», 30)] 2 = some 2 ∧
    moveRefCoord [(.«match», 30)] (-2) = some 2 := by decide

/-- non-vacuity of the `P` clause and of the projection through an insertion / a deletion / an intron:
    `3M 2D 2I 3M`, base 3 (first inserted base) projects to offset 4 (the last deleted base);
    `3M 5N 3M`, base 3 projects to offset 8 -/
example : moveRefCoord [(.«match», 3), (.padding, 1), (.«match», 3)] 3 = none ∧
    moveRefCoord [(.«match», 3), (.padding, 1), (.«match», 3)] 2 = some 2 ∧
    moveRefCoord [(.«match», 3), (.deletion, 2), (.insertion, 2), (.«match», 3)] 3 = some 4 ∧
    moveRefCoord [(.«match», 3), (.skipped, 5), (.«match», 3)] 3 = some 8 := by decide

end IsoVerif.Props.C16MoveRef
