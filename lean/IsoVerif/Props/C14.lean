/-
C14 (part 1) — every record written by `BEDPrinter.add_read_info` is valid BED12 exactly when the exon list it is
given is a sorted, disjoint, well-formed block list inside the chromosome; the strategy presets.
Property theorems only.
-/
import IsoVerif.Gen.Prims
import IsoVerif.Gen.Strategies
import IsoVerif.Gen.Corrector
import IsoVerif.Model.Bed
import IsoVerif.Lemmas.Interval
import IsoVerif.Lemmas.CorrectorLoop

namespace IsoVerif.Props.C14
open IsoVerif.Gen IsoVerif.Model IsoVerif.Model.C14 IsoVerif.Lemmas IsoVerif.Lemmas.C14

/-- BED12 well-formedness of one record on a chromosome of length `chromLen` (0-based half-open coordinates):
    coordinates inside the chromosome, thick range inside the feature, `blockCount` entries in both lists, positive
    block sizes, first block at offset 0, ascending non-overlapping blocks, last block ends at `chromEnd` -/
structure ValidBed (r : BedRecord) (chromLen : Int) : Prop where
  start_nonneg : 0 ≤ r.chromStart
  end_le : r.chromEnd ≤ chromLen
  thick : r.chromStart ≤ r.thickStart ∧ r.thickStart ≤ r.thickEnd ∧ r.thickEnd ≤ r.chromEnd
  count_pos : 1 ≤ r.blockCount
  count_sizes : r.blockSizes.length = r.blockCount
  count_starts : r.blockStarts.length = r.blockCount
  sizes_pos : ∀ s ∈ r.blockSizes, 0 < s
  first_zero : r.blockStarts.head? = some 0
  ascending : BlocksAscending (r.blockStarts.zip r.blockSizes)
  last_end : ∃ q, (r.blockStarts.zip r.blockSizes).getLast? = some q ∧ q.1 + q.2 = r.chromEnd - r.chromStart

/-- the exon list handed to the printer is a block list of a chromosome of length `chromLen` -/
def ExonsFit (exons : List Iv) (chromLen : Int) : Prop :=
  SD exons ∧ WFl exons ∧ (∀ f, exons.head? = some f → 1 ≤ f.1) ∧ (∀ l, exons.getLast? = some l → l.2 ≤ chromLen)

/-- a record is written for every non-empty exon list (the only exception of `add_read_info` is the empty list) -/
theorem bed_record_some_iff (chrom name strand : String) (exons : List Iv) :
    (∃ r, bedRecord chrom name strand exons = some r) ↔ exons ≠ [] := by
  cases exons with
  | nil => simp [bedRecord]
  | cons a t =>
    simp only [bedRecord, List.head?_cons, ne_eq, reduceCtorEq, not_false_eq_true, iff_true]
    cases h : (a :: t).getLast? with
    | none => simp at h
    | some l => exact ⟨_, rfl⟩

/-- **bed_valid** (both directions): the record written for a non-empty exon list is valid BED12 iff the exon list is
    sorted, pairwise disjoint, well formed, starts at a position ≥ 1 and ends inside the chromosome -/
theorem bed_valid_iff (chrom name strand : String) (exons : List Iv) (chromLen : Int) (r : BedRecord)
    (h : bedRecord chrom name strand exons = some r) :
    ValidBed r chromLen ↔ ExonsFit exons chromLen := by
  cases exons with
  | nil => simp [bedRecord] at h
  | cons a t =>
    obtain ⟨l, hl⟩ := getLast?_cons_some a t
    simp only [bedRecord, List.head?_cons, hl, Option.some.injEq] at h
    subst h
    have hz : List.zip ((a :: t).map (fun e => e.1 - a.1)) ((a :: t).map (fun e => e.2 - e.1 + 1))
        = (a :: t).map (blk a.1) := zip_maps_blk a.1 (a :: t)
    have hlast : ((a :: t).map (blk a.1)).getLast? = some (blk a.1 l) := by
      rw [List.getLast?_map, hl]; rfl
    constructor
    · intro v
      have hsz := v.sizes_pos
      have hasc := v.ascending
      have hle := v.last_end
      simp only [hz] at hasc hle
      have hsd : SD (a :: t) := (ascending_blk_iff a.1 (a :: t)).mp hasc
      have hw : WFl (a :: t) := (sizes_pos_iff (a :: t)).mp hsz
      refine ⟨hsd, hw, ?_, ?_⟩
      · intro f hf; simp at hf; subst hf; have := v.start_nonneg; simp at this; omega
      · intro l' hl'; rw [hl] at hl'; cases hl'; have := v.end_le; simpa using this
    · rintro ⟨hsd, hw, h1, h2⟩
      have h1' := h1 a (by simp)
      have h2' := h2 l hl
      have hfl : a.1 ≤ l.2 := first_le_last hsd hw (by simp) hl
      refine ⟨by simp; omega, by simpa using h2', by simp; omega, by simp, by simp, by simp, ?_, by simp, ?_, ?_⟩
      · exact (sizes_pos_iff (a :: t)).mpr hw
      · simp only [hz]; exact (ascending_blk_iff a.1 (a :: t)).mpr hsd
      · simp only [hz]; exact ⟨_, hlast, by simp [blk]; omega⟩

/-- **bed_valid** in the direction used downstream: valid exon lists give valid records -/
theorem bed_valid (chrom name strand : String) (exons : List Iv) (chromLen : Int) (hne : exons ≠ [])
    (hfit : ExonsFit exons chromLen) :
    ∃ r, bedRecord chrom name strand exons = some r ∧ ValidBed r chromLen := by
  obtain ⟨r, hr⟩ := (bed_record_some_iff chrom name strand exons).mpr hne
  exact ⟨r, hr, (bed_valid_iff chrom name strand exons chromLen r hr).mpr hfit⟩

/-- what a BED consumer reconstructs from the record is the exon list that was printed (for *every* exon list) -/
theorem bed_blocks_roundtrip (chrom name strand : String) (exons : List Iv) (r : BedRecord)
    (h : bedRecord chrom name strand exons = some r) : r.blocks = exons := by
  cases exons with
  | nil => simp [bedRecord] at h
  | cons a t =>
    cases hl : (a :: t).getLast? with
    | none => simp at hl
    | some l =>
      simp only [bedRecord, List.head?_cons, hl, Option.some.injEq] at h
      subst h
      simp only [BedRecord.blocks]
      rw [zip_maps_blk a.1 (a :: t), List.map_map]
      conv => rhs; rw [← List.map_id (a :: t)]
      apply List.map_congr_left
      intro e _
      simp only [Function.comp, blk, id]
      ext <;> simp <;> omega

/-- the printer writes nothing unless all guards pass, and then exactly the rendering of the record of the selected
    exon list -/
theorem add_read_info_spec (i : PrinterInput) :
    addReadInfo i =
      if i.assignmentPresent ∧ i.typePresent ∧ i.geneInfoPresent ∧ i.checkerPresent ∧ i.checkerAccepts then
        (bedRecord i.chrom i.name i.strand (if i.printCorrected then i.correctedExons else i.exons)).map
          (fun r => some r.render)
      else some none := by
  unfold addReadInfo
  cases i.assignmentPresent <;> cases i.typePresent <;> cases i.geneInfoPresent <;> cases i.checkerPresent <;>
    cases i.checkerAccepts <;> simp <;>
    cases bedRecord i.chrom i.name i.strand (if i.printCorrected then i.correctedExons else i.exons) <;> rfl

-- non-vacuity: a concrete three-exon read on a chromosome of length 1000
example : ExonsFit [(11, 20), (31, 45), (60, 99)] 1000 := by
  refine ⟨by decide, by decide, ?_, ?_⟩ <;> intro x hx <;> simp at hx <;> subst hx <;> decide
example : (bedRecord "chr1" "r" "+" [(11, 20), (31, 45), (60, 99)]).map (·.render)
    = some "chr1\t10\t99\tr\t0\t+\t10\t10\t0\t3\t10,15,40\t0,20,49\n" := by decide +kernel

/-! ### strategy presets (generated from `set_splice_correction_options`) -/

/-- `--splice_correction_strategy none` switches every correction off -/
theorem none_all_off : correction_presets.lookup "none" = some allOff := by decide

/-- the six documented strategy names, in the order of the table -/
theorem preset_names : correction_presets.map (·.1) =
    ["none", "default_pacbio", "conservative_ont", "default_ont", "all", "assembly"] := by decide +kernel

/-- the hand model reads `fl.<field>` where the code reads `params.correct_<field>`: the wiring of
    `set_splice_correction_options`, the flags tested by `process_events` / `correct_misalignments` and the shape of
    the event chain are the ones the model (Model/Corrector.lean) was written against -/
theorem corrector_tables_as_modelled :
    correction_flag_binding =
      [("correct_fuzzy_junctions", "fuzzy_junctions"), ("correct_intron_shifts", "intron_shifts"),
       ("correct_skipped_exons", "skipped_exons"), ("correct_terminal_exons", "terminal_exons"),
       ("correct_fake_terminal_exons", "fake_terminal_exons"),
       ("correct_microintron_retention", "microintron_retention")] ∧
    corrector_misalignment_events =
      [("correct_intron_shifts", MatchEventSubtype.intron_shift),
       ("correct_skipped_exons", MatchEventSubtype.exon_misalignment)] ∧
    corrector_terminal_branches =
      [(MatchEventSubtype.fake_terminal_exon_left, "correct_fake_terminal_exons"),
       (MatchEventSubtype.fake_terminal_exon_right, "correct_fake_terminal_exons"),
       (MatchEventSubtype.terminal_exon_misalignment_left, "correct_terminal_exons"),
       (MatchEventSubtype.terminal_exon_misalignment_right, "correct_terminal_exons")] ∧
    corrector_branch_shape = ["eq", "eq", "eq", "eq", "misalignment", "known"] ∧
    corrector_micro_intron_test = (MatchEventSubtype.fake_micro_intron_retention, "correct_microintron_retention") ∧
    corrector_params_used =
      ["correct_fake_terminal_exons", "correct_fuzzy_junctions", "correct_intron_shifts",
       "correct_microintron_retention", "correct_skipped_exons", "correct_terminal_exons", "delta"] := by
  decide +kernel

/-- every default strategy chosen per data type is a row of the preset table -/
theorem default_strategies_defined :
    ∀ q ∈ correction_default_strategy, (correction_presets.lookup q.2).isSome = true := by decide +kernel

/-- none of the event types that trigger a region change or an isoform-intron insertion is in the
    "replace by corrected read introns" set (the chain tests them first only when their flag is on) -/
theorem known_set_disjoint_from_artifacts :
    ∀ t ∈ [MatchEventSubtype.fake_terminal_exon_left, MatchEventSubtype.fake_terminal_exon_right,
           MatchEventSubtype.terminal_exon_misalignment_left, MatchEventSubtype.terminal_exon_misalignment_right,
           MatchEventSubtype.intron_shift, MatchEventSubtype.exon_misalignment,
           MatchEventSubtype.fake_micro_intron_retention],
      corrector_known_event_types.contains t = false := by decide

end IsoVerif.Props.C14
