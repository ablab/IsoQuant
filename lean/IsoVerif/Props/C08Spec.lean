/-
C08 — the vocabulary of the property statements: the priority classes of the statement, written declaratively over
the record fields and the generated `is_consistent` / `is_inconsistent` tables.  Definitions only (no theorems).
-/
import IsoVerif.Model.Resolver

namespace IsoVerif.Props.C08
open IsoVerif.Gen IsoVerif.Model.Resolver

/-- consistently assigned (`ReadAssignmentType.is_consistent`, generated table) -/
def Cons (r : Rec) : Prop := r.atype.is_consistent = true
/-- inconsistently assigned (`is_inconsistent`, generated table) -/
def Inc (r : Rec) : Prop := r.atype.is_inconsistent = true
/-- a primary alignment that is uniquely and consistently assigned (on input `multimapper` is pysam's `is_secondary`,
    src/alignment_processor.py: `false` = primary or supplementary) -/
def PU (r : Rec) : Prop := Cons r ∧ r.multimapper = false ∧ r.atype ≠ .ambiguous
/-- a primary alignment that is inconsistently assigned -/
def PInc (r : Rec) : Prop := Inc r ∧ r.multimapper = false

instance (r : Rec) : Decidable (Cons r) := by unfold Cons; infer_instance
instance (r : Rec) : Decidable (Inc r) := by unfold Inc; infer_instance

def Has (P : Rec → Prop) (l : List Rec) : Prop := ∃ q ∈ l, P q
def MinPenaltyAmong (P : Rec → Prop) (l : List Rec) (r : Rec) : Prop := ∀ q ∈ l, P q → r.penalty ≤ q.penalty

/-- among uninformative records: best overlap with its gene region, then the least
    (region start, chromosome, start, end, isoforms) -/
def BestUninformative (l : List Rec) (r : Rec) : Prop :=
  (∀ q ∈ l, overlapLen q ≤ overlapLen r) ∧ (∀ q ∈ l, overlapLen q = overlapLen r → tieKey r ≤ tieKey q)

/-- the records the statement says win: primary unique-consistent ones if any, else all consistent ones, else the
    primary inconsistent ones of least penalty, else the inconsistent ones of least penalty, else the best
    uninformative one -/
def Winner (l : List Rec) (r : Rec) : Prop :=
  (Has PU l → PU r) ∧
  (¬ Has PU l → Has Cons l → Cons r) ∧
  (¬ Has Cons l → Has PInc l → PInc r ∧ MinPenaltyAmong PInc l r) ∧
  (¬ Has Cons l → ¬ Has PInc l → Has Inc l → Inc r ∧ MinPenaltyAmong Inc l r) ∧
  (¬ Has Cons l → ¬ Has Inc l → BestUninformative l r)

end IsoVerif.Props.C08
