/-
C16 — `concat_gapless_blocks` (src/common.py) on the blocks pysam's `get_blocks()` yields.
The function is used only by the stand-alone script `src/10x_profiles.py` (not by the IsoQuant pipeline); it is
characterised here for every CIGAR, and the ways in which it differs from the exons of `get_read_blocks` are kept
as witnesses.
-/
import IsoVerif.Model.TailSpec
import IsoVerif.Lemmas.ConcatSpec

namespace IsoVerif.Props.C16Concat
open IsoVerif.Gen IsoVerif.Model IsoVerif.Model.C16 IsoVerif.Lemmas.C16

/-- **concat_gapless_spec** — for every CIGAR (all nine kinds, any lengths) and every `reference_start`:
    `concat_gapless_blocks(get_blocks(), cigartuples)` is, for the CIGAR cut after its last aligned operation and
    split at `N` only, one interval per run that holds an aligned operation:
    `[first aligned base − pending deletion, reference_start + reference bases up to the end of the run)` (0-based,
    half-open), where the pending deletion is the length of the last `D` seen since the previous block was closed. -/
theorem concat_gapless_spec (s : Int) (ops : List CigarOp) :
    concatGaplessBlocks (alignedBlocks s ops) ops = concatGaplessSpec s ops := by
  have h := concat_fold s ops [] [] [] (by
    simp only [List.append_nil]
    exact ⟨fun _ => rfl, fun _ => Or.inl rfl⟩)
  have h0 : gaplessOf s (([] : List CigarOp), ([] : List CigarOp)) = none := rfl
  have hd : absDel [] [] = 0 := by decide
  rw [h0, hd] at h
  simp only [refLen_nil, Int.add_zero, List.nil_append] at h
  unfold concatGaplessBlocks alignedBlocks concatGaplessSpec cutsN
  rw [← h]
  unfold flush
  cases concatGaplessAux none 0 [] ops (alignedBlocksAux s ops) with
  | mk res cur => cases cur <;> simp

/-- `truncAligned` without recursion: the CIGAR splits into `truncAligned ops` and a rest without aligned
    operation, and `truncAligned ops` is empty or ends with an aligned operation -/
theorem truncAligned_spec (ops : List CigarOp) :
    ∃ post, ops = truncAligned ops ++ post ∧ hasAligned post = false ∧
      (truncAligned ops = [] ∨ ∃ init o, truncAligned ops = init ++ [o] ∧ isAligned o.1 = true) := by
  induction ops with
  | nil => exact ⟨[], rfl, rfl, Or.inl rfl⟩
  | cons op rest ih =>
    cases hA : hasAligned (op :: rest) with
    | false => exact ⟨op :: rest, by simp [truncAligned, hA], hA, Or.inl (by simp [truncAligned, hA])⟩
    | true =>
      obtain ⟨post, h1, h2, h3⟩ := ih
      refine ⟨post, ?_, h2, Or.inr ?_⟩
      · simp only [truncAligned, hA, if_true, List.cons_append]; rw [← h1]
      · simp only [truncAligned, hA, if_true]
        rcases h3 with h3 | ⟨init, o, h3, h4⟩
        · refine ⟨[], op, by rw [h3]; rfl, ?_⟩
          have hr : hasAligned rest = false := by
            rw [h1, h3, List.nil_append]; exact h2
          rw [hasAligned_cons, hr, Bool.or_false] at hA
          exact hA
        · exact ⟨op :: init, o, by rw [h3]; rfl, h4⟩

/-- agreement with the exons on an aligner-style CIGAR (`10S 50M 2D 30M 100N 40M 5S` at 1000):
    the blocks are the exons `(1001,1082), (1183,1222)` in 0-based half-open form -/
example :
    let ops : List CigarOp := [(.soft_clipping, 10), (.«match», 50), (.deletion, 2), (.«match», 30), (.skipped, 100),
      (.«match», 40), (.soft_clipping, 5)]
    concatGaplessBlocks (alignedBlocks 1000 ops) ops = [(1000, 1082), (1182, 1222)] ∧
    (getReadBlocks 1000 ops).refBlocks = [(1001, 1082), (1183, 1222)] := by decide

/-- **concat_gapless_not_exons_witness** — the deviations from the exons, model = code:
    (a) only the last of several leading `D` is kept (`2D 3D 5M`: block starts 3 before the match, exon 5 before);
    (b) a trailing `D` of the last run is dropped (`5M 2D`), and a `D` of an indel-only run leaks into the next block
        (`5M 3N 2D 4N 6M`: second block starts inside the intron);
    (c) a soft clip does not end a run (`5M 2S 3M` is one block, two exons) -/
theorem concat_gapless_not_exons_witness :
    (concatGaplessBlocks (alignedBlocks 100 [(.deletion, 2), (.deletion, 3), (.«match», 5)])
        [(.deletion, 2), (.deletion, 3), (.«match», 5)] = [(102, 110)] ∧
      (getReadBlocks 100 [(.deletion, 2), (.deletion, 3), (.«match», 5)]).refBlocks = [(101, 110)]) ∧
    (concatGaplessBlocks (alignedBlocks 100 [(.«match», 5), (.deletion, 2)]) [(.«match», 5), (.deletion, 2)] = [(100, 105)] ∧
      (getReadBlocks 100 [(.«match», 5), (.deletion, 2)]).refBlocks = [(101, 107)]) ∧
    (concatGaplessBlocks (alignedBlocks 100 [(.«match», 5), (.skipped, 3), (.deletion, 2), (.skipped, 4), (.«match», 6)])
        [(.«match», 5), (.skipped, 3), (.deletion, 2), (.skipped, 4), (.«match», 6)] = [(100, 105), (112, 120)] ∧
      (getReadBlocks 100 [(.«match», 5), (.skipped, 3), (.deletion, 2), (.skipped, 4), (.«match», 6)]).refBlocks
        = [(101, 105), (115, 120)]) ∧
    (concatGaplessBlocks (alignedBlocks 100 [(.«match», 5), (.soft_clipping, 2), (.«match», 3)])
        [(.«match», 5), (.soft_clipping, 2), (.«match», 3)] = [(100, 108)] ∧
      (getReadBlocks 100 [(.«match», 5), (.soft_clipping, 2), (.«match», 3)]).refBlocks = [(101, 105), (106, 108)]) := by
  decide

end IsoVerif.Props.C16Concat
