/-
C09 — `--read_group file:TABLE`: the table is split into one file per chromosome (`split_read_group_table`), and the
collector of chromosome `c` groups its reads with `ReadTableGrouper(<file of c>, 0, 1, '\t', internal=True)`, i.e. with the
dictionary `load_split_table` reads from that file (repaired code: `fix:` commit ce9c77f; Model/C09Files.lean).

`alns` is the sequence of BAM records the function iterates over: the records of the first BAM file of the sample in file
order, then those of the second, … (one `processed_reads[chr]` set per chromosome is shared by all files), each as
(read id, reference name or none).

A read with BAM records on several chromosomes (supplementary / secondary alignments, or the same read id in several
files) keeps its table group on EVERY chromosome it has a record on.  The variant that de-duplicates with one set for all
chromosomes (`splitTableLinesGlobal`) loses the group on all but the first chromosome.
-/
import IsoVerif.Model.C09Labels
import IsoVerif.Props.C09Files

namespace IsoVerif.Props.C09TablesChrom
open IsoVerif.Model.C09 IsoVerif.Lemmas.C09 IsoVerif.Lemmas.C09Split IsoVerif.Props.C09Files

/-- the group the table assigns to a read (`NA` without a row) -/
def tableGroup (m : List (String × String)) (rid : String) : String :=
  match m.lookup rid with
  | some g => g
  | none => NA

/-- **read_keeps_group_on_every_chromosome**: for every chromosome `chr` and every read that has a BAM record on `chr`,
    the grouper built from the per-chromosome file of `chr` returns exactly the group of the whole table (`NA` when the
    table has no row for the read) — whatever other chromosomes the read also has records on, before or after, in the
    same or another BAM file of the sample.  Domain as in `table_roundtrip`: read ids without tab / newline, groups without
    newline (no cleanliness condition: `#` ids, empty and blank-padded groups included) -/
theorem read_keeps_group_on_every_chromosome (m : List (String × String)) (alns : List (String × Option String))
    (hids : ∀ rid c, (rid, c) ∈ alns → '\t' ∉ rid.toList ∧ '\n' ∉ rid.toList)
    (hgrp : ∀ rid g, m.lookup rid = some g → '\n' ∉ g.toList)
    (chr : String) (a : Aln) (h : (a.name, some chr) ∈ alns) :
    ∃ m', loadSplitTable (splitFileText m chr alns) = .ok m' ∧
      getGroupId (.table m') a = .ok (GRes.both (tableGroup m a.name)) := by
  obtain ⟨m', hm', hl⟩ := table_roundtrip m chr alns hids hgrp
  refine ⟨m', hm', ?_⟩
  simp only [getGroupId, hl a.name h, tableGroup]
  cases m.lookup a.name <;> rfl

/-- **multi_chromosome_read_same_group**: a read with records on two chromosomes is counted under the same group by the
    collectors of both -/
theorem multi_chromosome_read_same_group (m : List (String × String)) (alns : List (String × Option String))
    (hids : ∀ rid c, (rid, c) ∈ alns → '\t' ∉ rid.toList ∧ '\n' ∉ rid.toList)
    (hgrp : ∀ rid g, m.lookup rid = some g → '\n' ∉ g.toList)
    (c₁ c₂ : String) (a : Aln) (h₁ : (a.name, some c₁) ∈ alns) (h₂ : (a.name, some c₂) ∈ alns) :
    ∃ m₁ m₂, loadSplitTable (splitFileText m c₁ alns) = .ok m₁ ∧
      loadSplitTable (splitFileText m c₂ alns) = .ok m₂ ∧
      getGroupId (.table m₁) a = getGroupId (.table m₂) a := by
  obtain ⟨m₁, h1, g1⟩ := read_keeps_group_on_every_chromosome m alns hids hgrp c₁ a h₁
  obtain ⟨m₂, h2, g2⟩ := read_keeps_group_on_every_chromosome m alns hids hgrp c₂ a h₂
  exact ⟨m₁, m₂, h1, h2, by rw [g1, g2]⟩

/-- the variant with one `processed_reads` set for all chromosomes: the read
    `r` (group `g`) with records on chr1 and chr2 is written to the chr1 file only; on chr2 it falls back to `NA` -/
theorem global_dedup_loses_group_witness :
    splitTableLinesGlobal [("r", "g")] "chr2" [("r", some "chr1"), ("r", some "chr2")] [] = [] ∧
    splitTableLines [("r", "g")] "chr2" [("r", some "chr1"), ("r", some "chr2")] [] = ["r\tg".toList] ∧
    getGroupId (.table []) ⟨"r", [], none⟩ = .ok (GRes.both NA) := by decide +kernel

-- non-vacuity: a table with a `#` read id and a blank-padded group, a read on two chromosomes of two BAM files, an
-- unmapped record
example : (("#r1", some "chr2") ∈ [("#r1", some "chr1"), ("x", none), ("r2", some "chr2"), ("#r1", some "chr2")]) ∧
    loadSplitTable (splitFileText [("#r1", "cell A "), ("r2", "g2")] "chr2"
      [("#r1", some "chr1"), ("x", none), ("r2", some "chr2"), ("#r1", some "chr2")]) =
      .ok [("r2", "g2"), ("#r1", "cell A ")] := by decide +kernel

end IsoVerif.Props.C09TablesChrom
