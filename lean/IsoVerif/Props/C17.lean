/-
C17 — identifiers in the outputs are unique, collision-free and functional.

The model (IsoVerif/Model/Ids.lean) is the
code of src/id_policy.py after fixes 16b4425, 7ff682e and d57cf4d (`FeatureIdStorage.__init__`
reserves the `exon_id` values of the reference records of every feature type), plus the id formatting of
src/graph_based_model_construction.py over the regenerated `TranscriptNaming` constants.

Every statement quantifies over *all* reference id lists, all event / call histories, all chromosome names
(arbitrary strings, dots and underscores included) – no bounds.
-/
import IsoVerif.Model.Ids
import IsoVerif.Lemmas.Ids

namespace IsoVerif.Props.C17
open IsoVerif.Gen IsoVerif.Model.C17 IsoVerif.Lemmas.C17

/-- `increment()` always returns: the `while value in forbidden_ids` loop ends within `|forbidden| + 1` steps -/
theorem increment_terminates (d : IdDistributor) : ∃ v d', d.increment = some (v, d') :=
  increment_total d

/-- `increment()` returns the least number above the current value that is not forbidden; the state moves
    to that number and the forbidden set is untouched -/
theorem increment_fresh (d d' : IdDistributor) (v : Nat) (h : d.increment = some (v, d')) :
    d.value < v ∧ Int.ofNat v ∉ d.forbidden ∧ (∀ u, d.value < u → u < v → Int.ofNat u ∈ d.forbidden) ∧
    d'.value = v ∧ d'.forbidden = d.forbidden := by
  obtain ⟨a, b, c, e, f⟩ := increment_spec h
  exact ⟨c, e, f, a, b⟩

example : (IdDistributor.mk 0 [1, 2, 5, -3]).increment = some (3, ⟨3, [1, 2, 5, -3]⟩) := by decide +kernel

/-- the forbidden-number parser recovers the number from every id the formatter can produce with it, for
    every chromosome name: the parse is conservative (`int(id.split(".")[0][len(prefix):])`,
    `int(id.split("_")[-1])`) -/
theorem parse_recovers_number (n : Nat) (chr : Str) (nic : Bool) :
    transcriptNumber (novelTranscriptId n chr nic) = some (Int.ofNat n) ∧
    geneNumber (novelGeneId chr n) = some (Int.ofNat n) :=
  ⟨transcriptNumber_novel n chr nic, geneNumber_novel chr n⟩

/-- the three id formats are injective in (number, chromosome, suffix), whatever characters the
    chromosome name contains -/
theorem id_formats_injective :
    (∀ n n' c c' s s', novelTranscriptId n c s = novelTranscriptId n' c' s' → n = n' ∧ c = c' ∧ s = s') ∧
    (∀ n n' c c', novelGeneId c n = novelGeneId c' n' → c = c' ∧ n = n') ∧
    (∀ n n' c c', exonIdStr c n = exonIdStr c' n' → c = c' ∧ n = n') :=
  ⟨fun _ _ _ _ _ _ h => novelTranscriptId_injective h, fun _ _ _ _ h => novelGeneId_injective h,
   fun _ _ _ _ h => exonIdStr_injective h⟩

example : String.ofList (novelTranscriptId 12 "chr1.a".toList true) = "transcript12.chr1.a.nic" := by decide +kernel
example : String.ofList (novelGeneId "chr_1".toList 7) = "novel_gene_chr_1_7" := by decide +kernel
example : String.ofList (exonIdStr "chr9".toList 3) = "chr9.3" := by decide +kernel

def transcriptIds (chr : Str) (ms : List NovelModel) : List Str := ms.map (·.transcriptId chr)

/-- ids of the genes created for novel transcripts outside every reference gene -/
def novelGeneIds (chr : Str) (ms : List NovelModel) : List Str :=
  ms.filterMap (fun m => match m.gene with | .novel g => some (novelGeneId chr g) | .ref _ => none)

theorem novelGene_eq_some {chr : Str} {m : NovelModel} {x : Str} :
    (match m.gene with | .novel g => some (novelGeneId chr g) | .ref _ => none) = some x ↔
      ∃ g, m.gene = .novel g ∧ novelGeneId chr g = x := by
  cases m.gene <;> simp

theorem mem_novelGeneIds {chr : Str} {ms : List NovelModel} {x : Str} :
    x ∈ novelGeneIds chr ms ↔ ∃ m ∈ ms, ∃ g, m.gene = .novel g ∧ novelGeneId chr g = x := by
  simp only [novelGeneIds, List.mem_filterMap, novelGene_eq_some]

/-- **unique per chromosome**: whatever the construction heuristics do (any event sequence, any starting
    state of the chromosome's distributor) the run never aborts, the transcript ids of the novel models
    are pairwise distinct and so are the ids of the newly created genes -/
theorem novel_ids_unique_per_chr (chr : Str) (d : IdDistributor) (evs : List IdEvent) :
    ∃ ms d', runEvents d evs = some (ms, d') ∧
      (transcriptIds chr ms).Nodup ∧ (novelGeneIds chr ms).Nodup := by
  obtain ⟨ms, d', h⟩ := runEvents_total evs d
  have ok := runEvents_spec evs d d' ms h
  refine ⟨ms, d', h, ?_, ?_⟩
  · unfold transcriptIds
    rw [List.Nodup, List.pairwise_map]
    refine (tnums_pairwise ok.sorted).imp ?_
    intro a b hab e
    exact hab (novelTranscriptId_injective e).1
  · unfold novelGeneIds List.Nodup
    rw [List.pairwise_filterMap]
    refine (gnums_pairwise ok.sorted).imp ?_
    intro a b hab x hx y hy e
    obtain ⟨g, ha, rfl⟩ := novelGene_eq_some.1 hx
    obtain ⟨g', hb, rfl⟩ := novelGene_eq_some.1 hy
    exact hab g g' ha hb (novelGeneId_injective e).2

-- non-vacuity: a history with all event kinds against a distributor that must skip reference numbers
example : (runEvents ⟨0, [1, 3]⟩ [.flNovel none true, .flDiscard, .monoexon true, .flNovel (some ['G']) false]).map
      (fun r => (transcriptIds ['c'] r.1).map String.ofList ++ (novelGeneIds ['c'] r.1).map String.ofList)
    = some ["transcript2.c.nic", "transcript6.c.nnic", "transcript8.c.nnic", "novel_gene_c_4", "novel_gene_c_7"] := by
  decide +kernel

/-- **unique across chromosomes**: every chromosome has its own distributor (all start at 0), the
    chromosome name inside the id keeps the ids apart – for arbitrary models of two different chromosomes -/
theorem novel_ids_unique_across_chr (c c' : Str) (hc : c ≠ c') (ms ms' : List NovelModel) :
    (∀ x ∈ transcriptIds c ms, x ∉ transcriptIds c' ms') ∧
    (∀ x ∈ novelGeneIds c ms, x ∉ novelGeneIds c' ms') := by
  constructor
  · intro x hx hx'
    simp only [transcriptIds, List.mem_map] at hx hx'
    obtain ⟨m, _, rfl⟩ := hx
    obtain ⟨m', _, e⟩ := hx'
    exact hc (novelTranscriptId_injective e).2.1.symm
  · intro x hx hx'
    obtain ⟨m, _, g, _, rfl⟩ := mem_novelGeneIds.1 hx
    obtain ⟨m', _, g', _, e⟩ := mem_novelGeneIds.1 hx'
    exact hc (novelGeneId_injective e).1.symm

/-- every novel id carries the name of the chromosome it was created on (used by the reading rule for
    references generated by an earlier IsoQuant run) -/
theorem novel_id_embeds_chr (c c' : Str) (n n' : Nat) (s s' : Bool) :
    (novelTranscriptId n c s = novelTranscriptId n' c' s' → c = c') ∧
    (novelGeneId c n = novelGeneId c' n' → c = c') :=
  ⟨fun h => (novelTranscriptId_injective h).2.1, fun h => (novelGeneId_injective h).1⟩

/-- **no reference collision**: the distributor of a chromosome is initialised from *arbitrary* lists of
    reference gene ids and transcript ids of that chromosome; then over any event history no novel
    transcript id equals a reference transcript id and no new gene id equals a reference gene id -/
theorem no_reference_collision (chr : Str) (genes transcripts : List Str) (evs : List IdEvent)
    (ms : List NovelModel) (d' : IdDistributor)
    (h : runEvents (ExcludingIdDistributor.init (some (genes, transcripts))) evs = some (ms, d')) :
    (∀ x ∈ transcriptIds chr ms, x ∉ transcripts) ∧ (∀ x ∈ novelGeneIds chr ms, x ∉ genes) := by
  have ok := runEvents_spec evs _ d' ms h
  constructor
  · intro x hx hmem
    simp only [transcriptIds, List.mem_map] at hx
    obtain ⟨m, hm, rfl⟩ := hx
    have hr := (ok.range m.tnum (tnum_mem_allNums hm)).2.2
    apply hr
    simp only [ExcludingIdDistributor.init, List.mem_append, List.mem_filterMap]
    exact Or.inr ⟨_, hmem, transcriptNumber_novel m.tnum chr m.nic⟩
  · intro x hx hmem
    obtain ⟨m, hm, g, hg, rfl⟩ := mem_novelGeneIds.1 hx
    apply (ok.range g (gnum_mem_allNums hm hg)).2.2
    simp only [ExcludingIdDistributor.init, List.mem_append, List.mem_filterMap]
    exact Or.inl ⟨_, hmem, geneNumber_novel chr g⟩

-- non-vacuity: a reference that already holds IsoQuant-style ids (numbers 1, 2 and 4 are taken)
example : (runEvents (ExcludingIdDistributor.init (some (["novel_gene_c_2".toList, "G1".toList],
        ["transcript1.c.nnic".toList, "transcript4.c.nic".toList, "ENST01".toList])))
      [.flNovel none false, .flNovel none true]).map
      (fun r => (transcriptIds ['c'] r.1).map String.ofList ++ (novelGeneIds ['c'] r.1).map String.ofList)
    = some ["transcript3.c.nnic", "transcript6.c.nic", "novel_gene_c_5", "novel_gene_c_7"] := by
  -- not needed for the proof: decoding the `"…".toList` literals is a third of the kernel's work here (Lemmas/StringLit.lean)
  repeat rw [String.toList_ofList]
  decide +kernel

/-- **… including a reference previously generated by IsoQuant**: if the reference contains the ids of
    the models `prev` of an earlier run on this chromosome (any numbers), the new ids avoid all of them -/
theorem no_collision_with_previous_run (chr : Str) (genes transcripts : List Str) (prev : List NovelModel)
    (hT : ∀ x ∈ transcriptIds chr prev, x ∈ transcripts) (hG : ∀ x ∈ novelGeneIds chr prev, x ∈ genes)
    (evs : List IdEvent) (ms : List NovelModel) (d' : IdDistributor)
    (h : runEvents (ExcludingIdDistributor.init (some (genes, transcripts))) evs = some (ms, d')) :
    (∀ x ∈ transcriptIds chr ms, x ∉ transcriptIds chr prev) ∧
    (∀ x ∈ novelGeneIds chr ms, x ∉ novelGeneIds chr prev) := by
  obtain ⟨a, b⟩ := no_reference_collision chr genes transcripts evs ms d' h
  exact ⟨fun x hx hp => a x hx (hT x hp), fun x hx hp => b x hx (hG x hp)⟩

-- non-vacuity: the reference of the second run contains what the first run produced on this chromosome
example : ∃ prev : List NovelModel, prev ≠ [] ∧
    (∀ x ∈ transcriptIds ['c'] prev, x ∈ ["transcript1.c.nnic".toList, "T9".toList]) ∧
    (∀ x ∈ novelGeneIds ['c'] prev, x ∈ ["novel_gene_c_2".toList]) :=
  ⟨[⟨1, false, .novel 2⟩], by simp, by decide +kernel, by decide +kernel⟩

/-- the transcript ids of one chromosome of `extended_annotation.gtf` – all reference transcripts followed by
    the novel models – are pairwise distinct as soon as the reference ids are -/
theorem extended_annotation_transcript_ids_nodup (chr : Str) (genes transcripts : List Str)
    (href : transcripts.Nodup) (evs : List IdEvent) :
    ∃ ms d', runEvents (ExcludingIdDistributor.init (some (genes, transcripts))) evs = some (ms, d') ∧
      (transcripts ++ transcriptIds chr ms).Nodup ∧ (∀ x ∈ novelGeneIds chr ms, x ∉ genes) := by
  obtain ⟨ms, d', h, n1, _⟩ := novel_ids_unique_per_chr chr (ExcludingIdDistributor.init (some (genes, transcripts))) evs
  obtain ⟨a, b⟩ := no_reference_collision chr genes transcripts evs ms d' h
  refine ⟨ms, d', h, ?_, b⟩
  rw [List.nodup_append]
  exact ⟨href, n1, fun x hx y hy e => a y hy (e ▸ hx)⟩

/-! ### reference ids located on *another* chromosome (known finding `reference_id_on_other_chromosome`)

Full-strength statement (FALSE of model and code): for every reference, a novel id of chromosome `c` equals
no reference id of any chromosome.  `ExcludingIdDistributor` only reads the features of its own
chromosome, so a reference that carries the id `transcript1.chrA.nnic` on chromosome `chrB` is not seen
by the distributor of `chrA`. -/

/-- a reference id located on chromosome `loc` is *honest* when, if it has the shape of a novel id at all,
    the chromosome embedded in it is `loc` (true of everything IsoQuant itself writes: `novel_id_embeds_chr`) -/
def HonestTranscriptId (loc : Str) (t : Str) : Prop := ∀ n c s, t = novelTranscriptId n c s → c = loc
def HonestGeneId (loc : Str) (t : Str) : Prop := ∀ n c, t = novelGeneId c n → c = loc

theorem no_reference_collision_other_chr_partial (c loc : Str) (hne : c ≠ loc) (ms : List NovelModel)
    (otherTranscripts otherGenes : List Str)
    (hT : ∀ t ∈ otherTranscripts, HonestTranscriptId loc t) (hG : ∀ t ∈ otherGenes, HonestGeneId loc t) :
    (∀ x ∈ transcriptIds c ms, x ∉ otherTranscripts) ∧ (∀ x ∈ novelGeneIds c ms, x ∉ otherGenes) := by
  constructor
  · intro x hx hmem
    simp only [transcriptIds, List.mem_map] at hx
    obtain ⟨m, _, rfl⟩ := hx
    exact hne (hT _ hmem m.tnum c m.nic rfl)
  · intro x hx hmem
    obtain ⟨m, _, g, _, rfl⟩ := mem_novelGeneIds.1 hx
    exact hne (hG _ hmem g c rfl)

example : HonestTranscriptId "chrB".toList "transcript1.chrB.nnic".toList := by
  intro n c s h
  have : "transcript1.chrB.nnic".toList = novelTranscriptId 1 "chrB".toList false := by decide +kernel
  rw [this] at h
  exact (novelTranscriptId_injective h).2.1.symm

/-- witness: chromosome `chrA` has no reference features, chromosome `chrB` carries a transcript named
    `transcript1.chrA.nnic`; the first novel model of `chrA` gets exactly that id -/
theorem reference_id_on_other_chromosome_witness :
    ∃ ms d', runEvents (ExcludingIdDistributor.init (some ([], []))) [.flNovel (some ['G']) false] = some (ms, d') ∧
      "transcript1.chrA.nnic".toList ∈ transcriptIds "chrA".toList ms :=
  ⟨_, _, rfl, by decide +kernel⟩

/-! ## `exon_id` is a function of (chromosome, start, end, strand)

The reference is the list of the chromosome's records of **every** feature type (`RefRecord`): GENCODE and every
`extended_annotation.gtf` written by IsoQuant carry `exon_id` on CDS / start_codon / stop_codon / UTR lines too.
`FeatureIdStorage.initRecords` is the repaired `__init__` (all values into `used_ids`, the `exon` records into
`id_dict`); `FeatureIdStorage.initOrig` is the code before the repair (only `exon` records are read).

Reading rule (docs/C17.md §3): `exon_id` names the *exon*; "reference exon ids are preserved" and "distinct exons
carry distinct ids" are statements about the `exon` records.  An `exon_id` value on a record of another type is an id
*present in the reference*: it must never be issued to a new interval (`no_reference_exon_id_collision`). -/

/-- the reference is *injective* on its `exon` records: an `exon_id` value names one exon (otherwise "preserve the
    reference ids" and "distinct exons carry distinct ids" contradict each other).  Records of other types are free
    to repeat the id of the exon they lie in (GENCODE does). -/
def RecInjective (chr : Str) (recs : List RefRecord) : Prop :=
  ∀ f ∈ recs, ∀ g ∈ recs, f.ofType = true → g.ofType = true →
    ∀ id, recId f = some id → recId g = some id → recKey chr f = recKey chr g

/-- the reference is *functional* at the exon record `f`: all `exon` records of that exon carry the same `exon_id` -/
def RecFunctionalAt (chr : Str) (recs : List RefRecord) (f : RefRecord) : Prop :=
  ∀ g ∈ recs, g.ofType = true → recKey chr g = recKey chr f → (recId g).isSome → recId g = recId f

/-- every `exon_id` value of the reference, whatever the type of the record that carries it -/
def allRefIds (recs : List RefRecord) : List Str := recs.filterMap recId

/-- the keys that own a reference id: the `exon` records that carry an `exon_id` -/
def refExonKeys (chr : Str) (recs : List RefRecord) : List ExonKey :=
  (recs.filter (fun r => r.ofType && (recId r).isSome)).map (recKey chr)

theorem init_inv (dist : IdDistributor) (genedb : Option (List RefRecord)) (chr : Str)
    (hinj : ∀ recs, genedb = some recs → RecInjective chr recs) :
    StInv (FeatureIdStorage.initRecords dist genedb chr) := by
  unfold FeatureIdStorage.initRecords
  cases genedb with
  | none => exact ⟨by simp [dictGet], by simp [dictGet]⟩
  | some recs =>
    by_cases hc : chr.isEmpty
    · simp only [hc, if_true]; exact ⟨by simp [dictGet], by simp [dictGet]⟩
    · obtain ⟨s2, s3, _⟩ := initRecords_spec dist recs (by simpa using hc : chr.isEmpty = false)
      simp only [FeatureIdStorage.initRecords] at s2 s3
      constructor
      · intro k id h
        obtain ⟨f, f1, _, f2, _⟩ := s2 k id h
        exact Or.inl ((s3 id).mpr ⟨f, f1, f2⟩)
      · intro k1 k2 id h1 h2
        obtain ⟨f, f1, ft, f2, f3⟩ := s2 k1 id h1
        obtain ⟨g, g1, gt, g2, g3⟩ := s2 k2 id h2
        rw [f3, g3]
        exact hinj recs rfl f f1 g g1 ft gt id f2 g2

/-- `get_id` always returns (the `while feature_id in used_ids` loop ends within `|used_ids| + 1` draws),
    over whole histories -/
theorem get_id_terminates (st : FeatureIdStorage) (ks : List ExonKey) :
    ∃ ids st', st.getIds ks = some (ids, st') := getIds_total ks st

/-- **functional and injective over any call history** (general form: any storage satisfying the invariant,
    e.g. the state left by earlier histories – both GTF printers of a chromosome share one storage):
    two calls of the history return the same id **iff** they were made for the same
    (chromosome, start, end, strand) -/
theorem exon_id_functional_of_inv (st st' : FeatureIdStorage) (hinv : StInv st) (ks : List ExonKey)
    (ids : List Str) (h : st.getIds ks = some (ids, st')) :
    ids.length = ks.length ∧ StInv st' ∧
    ∀ p ∈ ks.zip ids, ∀ q ∈ ks.zip ids, (p.1 = q.1 ↔ p.2 = q.2) := by
  obtain ⟨a0, a1, _, _, a4⟩ := getIds_spec ks st st' ids h
  have inv' := a4 hinv
  refine ⟨a0, inv', fun p hp q hq => ⟨fun e => ?_, fun e => ?_⟩⟩
  · have h1 := a1 p hp
    have h2 := a1 q hq
    rw [e, h2] at h1
    exact (Option.some.inj h1).symm
  · have h1 := a1 p hp
    have h2 := a1 q hq
    rw [e] at h1
    exact inv'.inj _ _ _ h1 h2

/-- **exon_id_functional** for the storage the pipeline builds: any distributor, any reference record list (records
    of every type, with or without `exon_id` attributes, injective on its `exon` records), any call history – the
    calls made for CDS / codon / UTR intervals (`other_features` of the printer) included -/
theorem exon_id_functional (dist : IdDistributor) (genedb : Option (List RefRecord)) (chr : Str)
    (hinj : ∀ recs, genedb = some recs → RecInjective chr recs) (ks : List ExonKey) :
    ∃ ids st', (FeatureIdStorage.initRecords dist genedb chr).getIds ks = some (ids, st') ∧
      ids.length = ks.length ∧
      ∀ p ∈ ks.zip ids, ∀ q ∈ ks.zip ids, (p.1 = q.1 ↔ p.2 = q.2) := by
  obtain ⟨ids, st', h⟩ := getIds_total ks (FeatureIdStorage.initRecords dist genedb chr)
  obtain ⟨a, _, c⟩ := exon_id_functional_of_inv _ st' (init_inv dist genedb chr hinj) ks ids h
  exact ⟨ids, st', h, a, c⟩

-- non-vacuity: an annotation written by an earlier IsoQuant run on a GENCODE-like reference: exon 10–20 `c.1`, its CDS
-- 12–18 with an id of its own (`c.2`), a GENCODE-style CDS record repeating the id `E7` of its exon; the history asks
-- for reference exons, the CDS intervals and new exons
example :
    ((FeatureIdStorage.initRecords SimpleIDDistributor.init
        (some [⟨true, 10, 20, ['+'], some ["c.1".toList]⟩, ⟨false, 12, 18, ['+'], some ["c.2".toList]⟩,
               ⟨true, 30, 40, ['+'], none⟩, ⟨true, 50, 60, ['-'], some ["E7".toList]⟩,
               ⟨false, 50, 55, ['-'], some ["E7".toList]⟩]) ['c']).getIds
      [(['c'], 30, 40, ['+']), (['c'], 10, 20, ['+']), (['c'], 70, 80, ['+']), (['c'], 30, 40, ['+']),
       (['c'], 50, 60, ['-']), (['c'], 12, 18, ['+']), (['c'], 50, 55, ['-']), (['c'], 30, 40, ['-'])]).map
        (fun r => r.1.map String.ofList)
    = some ["c.3", "c.1", "c.4", "c.3", "E7", "c.5", "c.6", "c.7"] := by decide +kernel

example : RecInjective ['c'] [⟨true, 10, 20, ['+'], some ["c.1".toList]⟩, ⟨false, 12, 18, ['+'], some ["c.2".toList]⟩,
    ⟨true, 50, 60, ['-'], some ["E7".toList]⟩, ⟨false, 50, 55, ['-'], some ["E7".toList]⟩] := by
  intro f hf g hg ft gt id h1 h2
  simp only [List.mem_cons, List.not_mem_nil, or_false] at hf hg
  rcases hf with rfl | rfl | rfl | rfl <;> rcases hg with rfl | rfl | rfl | rfl <;>
    simp_all [recId, refId, recKey, refKey] <;> (subst h1; simp at h2)

/-- **reference exon ids are preserved**: an exon whose reference `exon` records all carry the id `id` gets `id`
    at every call of every history (whatever ids the records of other types carry) -/
theorem exon_id_reference_preserved (dist : IdDistributor) (recs : List RefRecord) (chr : Str)
    (hchr : chr.isEmpty = false) (f : RefRecord) (hf : f ∈ recs) (hft : f.ofType = true) (id : Str)
    (hid : recId f = some id) (hfun : RecFunctionalAt chr recs f) (ks : List ExonKey) (ids : List Str)
    (st' : FeatureIdStorage)
    (h : (FeatureIdStorage.initRecords dist (some recs) chr).getIds ks = some (ids, st')) :
    ∀ p ∈ ks.zip ids, p.1 = recKey chr f → p.2 = id := by
  obtain ⟨_, a1, a2, _, _⟩ := getIds_spec ks _ st' ids h
  have h0 : dictGet (recKey chr f) (FeatureIdStorage.initRecords dist (some recs) chr).dict = some id := by
    obtain ⟨s2, _, s5⟩ := initRecords_spec dist recs hchr
    obtain ⟨id', hg⟩ := Option.isSome_iff_exists.1 (s5 f hf hft (by simp [hid]))
    obtain ⟨g, g1, gt, g2, g3⟩ := s2 _ _ hg
    have := hfun g g1 gt g3.symm (by simp [g2])
    rw [g2, hid] at this
    rw [hg, this]
  intro p hp e
  have h1 := a1 p hp
  rw [e, a2 _ _ h0] at h1
  exact (Option.some.inj h1).symm

-- non-vacuity: two `exon` records of the same exon with the same id, a CDS record of the same interval with another one
example : RecFunctionalAt ['c'] [⟨true, 10, 20, ['+'], some ["E1".toList]⟩,
    ⟨true, 10, 20, ['+'], some ["E1".toList, "x".toList]⟩, ⟨false, 10, 20, ['+'], some ["c.9".toList]⟩,
    ⟨true, 30, 40, ['+'], none⟩] ⟨true, 10, 20, ['+'], some ["E1".toList]⟩ := by
  intro g hg gt hk hs
  simp only [List.mem_cons, List.not_mem_nil, or_false] at hg
  rcases hg with rfl | rfl | rfl | rfl <;> simp_all [recId, refId, recKey, refKey]

/-- **no collision with any `exon_id` of the reference** (the clause of C17 "novel IDs never collide with IDs present
    in the reference annotation, including one previously generated by IsoQuant" for exon ids): over any history on the
    storage of the repaired code, if a returned id is the `exon_id` value of ANY reference record `r` of the
    chromosome – an `exon`, CDS, start/stop codon, UTR or any other record – then the call was made for the interval
    of a reference `exon` record that carries exactly this id.  No hypothesis on the reference. -/
theorem no_reference_exon_id_collision (dist : IdDistributor) (recs : List RefRecord) (chr : Str)
    (hchr : chr.isEmpty = false) (ks : List ExonKey) (ids : List Str) (st' : FeatureIdStorage)
    (h : (FeatureIdStorage.initRecords dist (some recs) chr).getIds ks = some (ids, st')) :
    ∀ p ∈ ks.zip ids, ∀ r ∈ recs, recId r = some p.2 →
      ∃ f ∈ recs, f.ofType = true ∧ recId f = some p.2 ∧ p.1 = recKey chr f := by
  intro p hp r hr hrid
  obtain ⟨_, a1, _, _, _⟩ := getIds_spec ks _ st' ids h
  have hb := a1 p hp
  obtain ⟨s2, s3, _⟩ := initRecords_spec dist recs hchr
  rcases getIds_origin ks _ st' ids h p.1 p.2 hb with x | ⟨y, _⟩
  · exact s2 _ _ x
  · exact absurd ((s3 p.2).mpr ⟨r, hr, hrid⟩) y

/-- the same as a statement about new intervals: a call made for an interval that owns no reference id (no `exon`
    record with an `exon_id` at this key) returns an id that occurs nowhere in the reference -/
theorem fresh_exon_id_avoids_reference (dist : IdDistributor) (recs : List RefRecord) (chr : Str)
    (hchr : chr.isEmpty = false) (ks : List ExonKey) (ids : List Str) (st' : FeatureIdStorage)
    (h : (FeatureIdStorage.initRecords dist (some recs) chr).getIds ks = some (ids, st')) :
    ∀ p ∈ ks.zip ids, p.1 ∉ refExonKeys chr recs → p.2 ∉ allRefIds recs := by
  intro p hp hk hmem
  simp only [allRefIds, List.mem_filterMap] at hmem
  obtain ⟨r, hr, hrid⟩ := hmem
  obtain ⟨f, f1, ft, f2, f3⟩ := no_reference_exon_id_collision dist recs chr hchr ks ids st' h p hp r hr hrid
  apply hk
  simp only [refExonKeys, List.mem_map, List.mem_filter]
  exact ⟨f, ⟨f1, by simp [ft, f2]⟩, f3.symm⟩

-- non-vacuity (the minimal failing input of the unrepaired code): reference exon 100–200 `c.1`, CDS 120–180 `c.2`;
-- the new exon 300–400 gets `c.3`, the CDS interval is renumbered `c.4`
example :
    ((FeatureIdStorage.initRecords SimpleIDDistributor.init
        (some [⟨true, 100, 200, ['+'], some ["c.1".toList]⟩, ⟨false, 120, 180, ['+'], some ["c.2".toList]⟩]) ['c']).getIds
      [(['c'], 300, 400, ['+']), (['c'], 100, 200, ['+']), (['c'], 120, 180, ['+'])]).map
        (fun r => r.1.map String.ofList) = some ["c.3", "c.1", "c.4"] ∧
    (['c'], (300 : Int), (400 : Int), ['+']) ∉ refExonKeys ['c']
        [⟨true, 100, 200, ['+'], some ["c.1".toList]⟩, ⟨false, 120, 180, ['+'], some ["c.2".toList]⟩] ∧
    "c.2".toList ∈ allRefIds [⟨true, 100, 200, ['+'], some ["c.1".toList]⟩, ⟨false, 120, 180, ['+'], some ["c.2".toList]⟩] := by
  decide +kernel

/-! ### the code before the repair (`initOrig`: `region(..., featuretype="exon")`) -/

/-- **witness** (replayed on the real class through a real gffutils database by the oracle): the reference – an
    `extended_annotation.gtf` of an earlier run – carries `exon_id "c.1"` on the exon 100–200 and `exon_id "c.2"` on the
    CDS 120–180.  The unrepaired code gives the NEW exon 300–400 the id `c.2`: `fresh_exon_id_avoids_reference` is
    false of `initOrig`. -/
theorem exon_id_collision_orig_witness :
    let recs : List RefRecord := [⟨true, 100, 200, ['+'], some ["c.1".toList]⟩, ⟨false, 120, 180, ['+'], some ["c.2".toList]⟩]
    ((FeatureIdStorage.initOrig SimpleIDDistributor.init (some recs) ['c']).getIds [(['c'], 300, 400, ['+'])]).map
        (fun r => r.1.map String.ofList) = some ["c.2"] ∧
    (['c'], (300 : Int), (400 : Int), ['+']) ∉ refExonKeys ['c'] recs ∧ "c.2".toList ∈ allRefIds recs := by
  decide +kernel

/-- on a reference whose `exon_id` attributes sit on `exon` records only, the code before the repair built the same
    storage as the repaired code -/
theorem init_orig_eq_of_ids_on_exon_records (dist : IdDistributor) (genedb : Option (List RefRecord)) (chr : Str)
    (hex : ∀ recs, genedb = some recs → ∀ r ∈ recs, (recId r).isSome → r.ofType = true) :
    FeatureIdStorage.initOrig dist genedb chr = FeatureIdStorage.initRecords dist genedb chr := by
  cases genedb with
  | none => rfl
  | some recs =>
    simp only [FeatureIdStorage.initOrig, Option.map_some, FeatureIdStorage.init, FeatureIdStorage.initRecords]
    split
    · rfl
    · have aux : ∀ (l : List RefRecord) (st : FeatureIdStorage), (∀ r ∈ l, (recId r).isSome → r.ofType = true) →
          ((l.filter (·.ofType)).map (·.feat)).foldl (FeatureIdStorage.load chr) st =
            l.foldl (FeatureIdStorage.loadRecord chr) st := by
        intro l
        induction l with
        | nil => intro st _; rfl
        | cons r t ih =>
          intro st hl
          have ht := ih (st := FeatureIdStorage.loadRecord chr st r) (fun x hx => hl x (by simp [hx]))
          cases hty : r.ofType with
          | true =>
            have e : r = ⟨true, r.feat⟩ := by cases r; simp_all
            simp only [List.filter_cons, hty, if_true, List.map_cons, List.foldl_cons]
            rw [← loadRecord_ofType, ← e]
            exact ht
          | false =>
            have hn : recId r = none := by
              cases hr : recId r with
              | none => rfl
              | some id =>
                have := hl r (by simp) (by simp [hr])
                rw [hty] at this; cases this
            have e : FeatureIdStorage.loadRecord chr st r = st := by rw [loadRecord_eq, hn]
            simp only [List.filter_cons, hty, Bool.false_eq_true, if_false, List.foldl_cons]
            rw [e] at ht ⊢
            exact ht
      exact aux recs ⟨dist, [], []⟩ (hex recs rfl)

/-- **partial** statement for the code before the repair: it avoids every reference id on the class of references
    that `exon_id_collision_orig_witness` is not in – `exon_id` attributes on `exon` records only.  (Missing for the
    full statement: the `exon_id` values of the other record types; GENCODE and IsoQuant's own output have them.) -/
theorem no_reference_exon_id_collision_orig_partial (dist : IdDistributor) (recs : List RefRecord) (chr : Str)
    (hchr : chr.isEmpty = false) (hex : ∀ r ∈ recs, (recId r).isSome → r.ofType = true)
    (ks : List ExonKey) (ids : List Str) (st' : FeatureIdStorage)
    (h : (FeatureIdStorage.initOrig dist (some recs) chr).getIds ks = some (ids, st')) :
    ∀ p ∈ ks.zip ids, p.1 ∉ refExonKeys chr recs → p.2 ∉ allRefIds recs := by
  rw [init_orig_eq_of_ids_on_exon_records dist (some recs) chr
    (fun l hl => by cases hl; exact hex)] at h
  exact fresh_exon_id_avoids_reference dist recs chr hchr ks ids st' h

example : ∀ r ∈ ([⟨true, 10, 20, ['+'], some ["c.1".toList]⟩, ⟨false, 12, 18, ['+'], none⟩] : List RefRecord),
    (recId r).isSome → r.ofType = true := by decide +kernel

/-! ### across chromosomes

Every chromosome is processed with its own storage and its own `SimpleIDDistributor` (numbers restart at 1).
Full-strength statement (FALSE of model and code for an adversarial reference, same cause as
`reference_id_on_other_chromosome`): ids returned by the storages of two different chromosomes never coincide. -/

theorem history_id_origin (st st' : FeatureIdStorage) (hinv : StInv st) (ks : List ExonKey) (ids : List Str)
    (h : st.getIds ks = some (ids, st')) :
    ∀ p ∈ ks.zip ids, p.2 ∈ st.used ∨ ∃ n, p.2 = exonIdStr p.1.1 n := by
  obtain ⟨_, a1, _, a3, a4⟩ := getIds_spec ks st st' ids h
  intro p hp
  rcases (a4 hinv).origin _ _ (a1 p hp) with x | ⟨n, _, e, _⟩
  · exact Or.inl (a3 ▸ x)
  · exact Or.inr ⟨n, e⟩

/-- every answer of a history belongs to one of its keys -/
theorem getIds_key_of_mem {st st' : FeatureIdStorage} {ks : List ExonKey} {ids : List Str}
    (h : st.getIds ks = some (ids, st')) {x : Str} (hx : x ∈ ids) : ∃ k ∈ ks, (k, x) ∈ ks.zip ids := by
  obtain ⟨hl, _⟩ := getIds_spec ks st st' ids h
  obtain ⟨i, hi, rfl⟩ := List.getElem_of_mem hx
  refine ⟨ks[i]'(by omega), List.getElem_mem _, ?_⟩
  have : (ks.zip ids)[i]'(by simp; omega) = (ks[i]'(by omega), ids[i]) := by simp
  rw [← this]; exact List.getElem_mem _

/-- **distinct across chromosomes** under the reading-rule hypotheses on the reference: the reference
    `exon_id`s of the two chromosomes are disjoint (`hdisj`, reference injectivity across chromosomes) and no
    reference id located on one chromosome has the shape `<other chromosome>.N` (`honA`, `honB`, honesty) -/
theorem exon_ids_distinct_across_chr_partial (a b : Str) (hab : a ≠ b)
    (sa sa' sb sb' : FeatureIdStorage) (ia : StInv sa) (ib : StInv sb)
    (ka kb : List ExonKey) (idsA idsB : List Str)
    (hka : ∀ k ∈ ka, k.1 = a) (hkb : ∀ k ∈ kb, k.1 = b)
    (hA : sa.getIds ka = some (idsA, sa')) (hB : sb.getIds kb = some (idsB, sb'))
    (hdisj : ∀ x ∈ sa.used, x ∉ sb.used)
    (honA : ∀ x ∈ sa.used, ∀ n, x ≠ exonIdStr b n) (honB : ∀ x ∈ sb.used, ∀ n, x ≠ exonIdStr a n) :
    ∀ x ∈ idsA, x ∉ idsB := by
  intro x hxa hxb
  -- `x` answers a key of chromosome `a` and a key of chromosome `b`; where can it come from?
  obtain ⟨k, hk, pa⟩ := getIds_key_of_mem hA hxa
  obtain ⟨k', hk', pb⟩ := getIds_key_of_mem hB hxb
  have oa := history_id_origin sa sa' ia ka idsA hA _ pa
  have ob := history_id_origin sb sb' ib kb idsB hB _ pb
  simp only [hka k hk] at oa
  simp only [hkb k' hk'] at ob
  rcases oa with ua | ⟨n, en⟩ <;> rcases ob with ub | ⟨m, em⟩
  · exact hdisj _ ua ub
  · exact honA _ ua m em
  · exact honB _ ub n en
  · rw [en] at em; exact hab (exonIdStr_injective em).1

/-- the case of a reference without `exon_id` attributes (or no reference): unconditional -/
theorem exon_ids_distinct_across_chr_no_reference_ids (a b : Str) (hab : a ≠ b) (da db : IdDistributor)
    (ka kb : List ExonKey) (hka : ∀ k ∈ ka, k.1 = a) (hkb : ∀ k ∈ kb, k.1 = b) :
    ∃ idsA idsB sa' sb', (FeatureIdStorage.mk da [] []).getIds ka = some (idsA, sa') ∧
      (FeatureIdStorage.mk db [] []).getIds kb = some (idsB, sb') ∧ ∀ x ∈ idsA, x ∉ idsB := by
  obtain ⟨idsA, sa', hA⟩ := getIds_total ka ⟨da, [], []⟩
  obtain ⟨idsB, sb', hB⟩ := getIds_total kb ⟨db, [], []⟩
  have inv0 : ∀ d, StInv ⟨d, [], []⟩ := fun d => ⟨by simp [dictGet], by simp [dictGet]⟩
  exact ⟨idsA, idsB, sa', sb', hA, hB,
    exon_ids_distinct_across_chr_partial a b hab _ sa' _ sb' (inv0 da) (inv0 db) ka kb idsA idsB hka hkb hA hB
      (by simp) (by simp) (by simp)⟩

/-- witness for the missing hypothesis: chromosome `b` carries the reference `exon_id "a.1"`; the first new
    exon of chromosome `a` gets `a.1` as well -/
theorem exon_id_on_other_chromosome_witness :
    ((FeatureIdStorage.init SimpleIDDistributor.init (some []) ['a']).getIds [(['a'], 5, 9, ['+'])]).map (·.1)
      = some [['a', '.', '1']] ∧
    ((FeatureIdStorage.init SimpleIDDistributor.init (some [⟨1, 2, ['+'], some [['a', '.', '1']]⟩]) ['b']).getIds
      [(['b'], 1, 2, ['+'])]).map (·.1) = some [['a', '.', '1']] := by
  constructor <;> decide +kernel

/-! ## the two defects of the tree before its `fix:` commits, kept as regression witnesses -/

/-- unrepaired `get_id`: the same exon got `"1"` at its first and `"chr9.1"` at its second occurrence -/
theorem get_id_buggy_not_functional_witness :
    (getIdsWith FeatureIdStorage.getIdBuggy ⟨SimpleIDDistributor.init, [], []⟩
      [("chr9".toList, 100, 200, ['+']), ("chr9".toList, 100, 200, ['+'])]).map (fun r => r.1.map String.ofList)
      = some ["1", "chr9.1"] := by decide +kernel

/-- unrepaired `get_id`, first sight: different chromosomes handed out the same bare number -/
theorem get_id_buggy_cross_chr_witness :
    (FeatureIdStorage.getIdBuggy ⟨SimpleIDDistributor.init, [], []⟩ ("chr1".toList, 1, 2, ['+'])).map (·.1)
      = (FeatureIdStorage.getIdBuggy ⟨SimpleIDDistributor.init, [], []⟩ ("chr2".toList, 7, 9, ['-'])).map (·.1) := by
  decide +kernel

/-- `get_id` without `used_ids`: with a reference produced by an earlier IsoQuant run (`exon_id "c.1"` on the
    exon 10–20) the first *new* exon 70–80 received `c.1` too -/
theorem get_id_no_exclude_collision_witness :
    (getIdsWith FeatureIdStorage.getIdNoExclude
      (FeatureIdStorage.init SimpleIDDistributor.init (some [⟨10, 20, ['+'], some ["c.1".toList]⟩]) ['c'])
      [(['c'], 10, 20, ['+']), (['c'], 70, 80, ['+'])]).map (fun r => r.1.map String.ofList)
      = some ["c.1", "c.1"] := by decide +kernel

end IsoVerif.Props.C17
