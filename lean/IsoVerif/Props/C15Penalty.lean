/-
C15 (serialisation round trip / reuse), interface hypothesis `MemoryModeOk` / `NonNegFirst`:
`memory_modes_same_saved_files` and the other `--high_memory` clauses of Props/C15Reuse.lean need that the penalty of
the FIRST isoform match of every record is not negative (`BasicReadAssignment.__init__` computes
`min(0.0, isoform_matches[0].penalty_score)`, and a negative value is truncated towards zero by the 20-bit
quantisation of the dump, so the compact record built in memory and the one re-read from the dump would differ).

This file discharges it for the modelled assigner (Model/Assign.lean, tied to `LongReadAssigner` by C01's
correspondence), where `penalty_score` is produced: `select_best_among_inconsistent` → `match_inconsistent`.

* over the cost table REGENERATED from `event_subtype_cost` (Gen/EventClasses.lean): every cost is ≥ 0
  (`event_cost_table_nonneg`, `decide` over the whole table) and the two costs `elongation_cost` interpolates between
  are ordered (`elongation_costs_ordered`, `decide`);
* `elongationCost_nonneg`, `eventCost_nonneg`, `penaltyOf_nonneg`: the penalty of an event list is ≥ 0 provided every
  event counts a non-negative number of features (`eventCount`; `eventCount_nonneg`: true whenever the index ranges
  the comparator puts into the event are ordered — the same interface hypothesis as C14 `WellFormedRegions`, watched at
  run time by harness/mon_wrap.py);
* `select_best_penalty_nonneg`, `match_inconsistent_penalty_nonneg`: every isoform match `match_inconsistent` returns
  has `0 ≤ penalty_score`;
* `assigner_record_nonneg_first`: a saved record whose matches carry the penalties of such matches satisfies
  `NonNegFirst`;
* `penalty_negative_count_witness`: without the hypothesis on the counts the statement is false of the model (an
  `exon_gain_novel` event with the reversed read range (3, 1) has count −2 and penalty −2).
-/
import IsoVerif.Model.Assign
import IsoVerif.Lemmas.C01Inconsistent
import IsoVerif.Lemmas.Reuse

namespace IsoVerif.Props.C15Penalty
open IsoVerif.Gen IsoVerif.Model IsoVerif.Model.C01 IsoVerif.Lemmas.C01

/-- **event_cost_table_nonneg**: every entry of the table extracted from `event_subtype_cost` is ≥ 0 (the translator
    renders the costs as hundredths and fails loudly on anything that is not a non-negative literal; this is the
    `decide` over what it produced) -/
theorem event_cost_table_nonneg : event_cost_table.all (fun p => decide ((0 : Int) ≤ (p.2 : Int))) = true := by decide

/-- the cost of the subtype as the code's float, exactly -/
def costOf (t : MatchEventSubtype) : Option Rat := (event_cost_hundredths t).map (fun c => (c : Rat) / 100)

theorem hundredths_nonneg (c : Nat) : (0 : Rat) ≤ (c : Rat) / 100 := by
  rw [Rat.div_def]
  exact Rat.mul_nonneg (Rat.natCast_nonneg) (Rat.le_of_lt (Rat.inv_pos.mpr (by decide +kernel)))

/-- **event_subtype_cost_nonneg**: `event_subtype_cost[t] ≥ 0` for every subtype that has a cost -/
theorem event_subtype_cost_nonneg (t : MatchEventSubtype) (c : Rat) (h : costOf t = some c) : 0 ≤ c := by
  unfold costOf at h
  cases hc : event_cost_hundredths t with
  | none => simp [hc] at h
  | some n => simp [hc] at h; subst h; exact hundredths_nonneg n

-- non-vacuity: the table has an entry with a positive cost, and the theorem applies to it
example : ∃ c, costOf .intron_retention = some c ∧ 0 < c := ⟨(60 : Rat) / 100, by decide +kernel, by decide +kernel⟩

/-- the two costs `elongation_cost` interpolates between are ordered in the regenerated table -/
def elongOrdered : Bool :=
  match event_cost_hundredths .exon_elongation_left, event_cost_hundredths .major_exon_elongation_left with
  | some mn, some mx => decide (mn ≤ mx)
  | _, _ => true

/-- **elongation_costs_ordered** (`decide` over the regenerated table) -/
theorem elongation_costs_ordered : elongOrdered = true := by decide

/-- **elongationCost_nonneg**: `elongation_cost(params, len) ≥ 0` for every length and all thresholds -/
theorem elongationCost_nonneg (p : Params) (len : Int) (c : Rat) (h : elongationCost p len = some c) : 0 ≤ c := by
  unfold elongationCost at h
  have hord := elongation_costs_ordered
  unfold elongOrdered at hord
  split at h
  · rename_i mn mx h1 h2
    rw [h1, h2] at hord
    have hle : mn ≤ mx := by simpa using hord
    simp only at h
    split at h
    · have := Option.some.inj h; subst this; exact hundredths_nonneg mn
    · split at h
      · have := Option.some.inj h; subst this; exact hundredths_nonneg mx
      · split at h
        · exact absurd h (by simp)
        · rename_i h3 h4 h5
          have := Option.some.inj h; subst this
          have hA : (0 : Rat) ≤ ((len - p.minor_exon_extension : Int) : Rat) :=
            Rat.intCast_nonneg.mpr (by omega)
          have hB : (0 : Rat) < ((p.major_exon_extension - p.minor_exon_extension : Int) : Rat) :=
            Rat.intCast_pos.mpr (by omega)
          have hD : (0 : Rat) ≤ (mx : Rat) / 100 - (mn : Rat) / 100 := by
            apply (Rat.le_iff_sub_nonneg _ _).mp
            rw [Rat.div_def, Rat.div_def]
            exact Rat.mul_le_mul_of_nonneg_right (Rat.natCast_le_natCast.mpr hle)
              (Rat.le_of_lt (Rat.inv_pos.mpr (by decide +kernel)))
          apply Rat.add_nonneg (hundredths_nonneg mn)
          rw [Rat.div_def]
          exact Rat.mul_nonneg (Rat.mul_nonneg hD hA) (Rat.le_of_lt (Rat.inv_pos.mpr hB))
  · exact absurd h (by simp)

/-- the thresholds of the nanopore preset (used by the examples only) -/
def exP : Params :=
  { delta := 6, minor_exon_extension := 50, major_exon_extension := 300, min_abs_exon_overlap := 10, apa_delta := 50,
    minimal_exon_overlap := 5, minimal_intron_absence_overlap := 20, max_fake_terminal_exon_len := 40,
    max_missed_exon_len := 100, resolve_ambiguous := .monoexon_and_fsm }

-- non-vacuity: an interpolated length (minor 50 < 100 < major 300) has a cost, strictly between the two table values
example : ∃ c, elongationCost exP 100 = some c ∧ (10 : Rat) / 100 < c ∧ c < (60 : Rat) / 100 :=
  ⟨(20 : Rat) / 100, by decide +kernel, by decide +kernel, by decide +kernel⟩

/-- the index ranges an event carries are ordered (what the comparator emits: a contradictory region `(i, j)` of the
    read's / the isoform's introns with `i ≤ j`), or carry the `absent` sentinel (which `get_event_count` tests before
    it subtracts) -/
def RegionsOrdered (e : Event) : Prop :=
  (e.isoRegion.1 = absentPos ∨ e.isoRegion.2 = absentPos ∨ e.isoRegion.1 ≤ e.isoRegion.2 + 1) ∧
  (e.readRegion.1 = absentPos ∨ e.readRegion.2 = absentPos ∨ e.readRegion.1 ≤ e.readRegion.2)

instance (e : Event) : Decidable (RegionsOrdered e) := by unfold RegionsOrdered; infer_instance

/-- **eventCount_nonneg**: `get_event_count` is ≥ 0 on events with ordered index ranges -/
theorem eventCount_nonneg (e : Event) (h : RegionsOrdered e) : 0 ≤ eventCount e := by
  obtain ⟨h1, h2⟩ := h
  unfold eventCount
  split
  · omega
  · split
    · split
      · omega
      · split <;> omega
    · omega

example : RegionsOrdered { ty := .exon_skipping_known, isoRegion := (2, 4), readRegion := (1, 1) } ∧
    eventCount { ty := .exon_skipping_known, isoRegion := (2, 4), readRegion := (1, 1) } = 3 := by decide

theorem eventCost_nonneg (p : Params) (e : Event) (c : Rat) (hc : 0 ≤ eventCount e) (h : eventCost p e = some c) :
    0 ≤ c := by
  have hcnt : (0 : Rat) ≤ (eventCount e : Rat) := by exact_mod_cast hc
  unfold eventCost at h
  split at h
  · simp at h
  · rename_i c0 _
    split at h
    · cases hel : elongationCost p e.info with
      | none => simp [hel] at h
      | some c' =>
        simp [hel] at h; subst h
        exact Rat.mul_nonneg (elongationCost_nonneg p e.info c' hel) hcnt
    · simp at h; subst h
      exact Rat.mul_nonneg (hundredths_nonneg c0) hcnt

/-- **penaltyOf_nonneg**: the penalty of an event list (the sum `select_best_among_inconsistent` computes per isoform)
    is ≥ 0 when every event counts a non-negative number of features -/
theorem penaltyOf_nonneg (p : Params) : ∀ (evs : List Event) (s : Rat), (∀ e ∈ evs, 0 ≤ eventCount e) →
    penaltyOf p evs = some s → 0 ≤ s := by
  intro evs
  induction evs with
  | nil => intro s _ h; simp [penaltyOf] at h; subst h; exact Rat.le_refl
  | cons e es ih =>
    intro s hc h
    simp only [penaltyOf] at h
    cases h1 : eventCost p e with
    | none => simp [h1] at h
    | some a =>
      cases h2 : penaltyOf p es with
      | none => simp [h1, h2] at h
      | some b =>
        simp [h1, h2] at h; subst h
        exact Rat.add_nonneg (eventCost_nonneg p e a (hc e (by simp)) h1)
          (ih b (fun e' he' => hc e' (List.mem_cons_of_mem _ he')) h2)

theorem minRat_mem : ∀ (l : List Rat) (m : Rat), minRat l = some m → m ∈ l := by
  intro l
  induction l with
  | nil => intro m h; simp [minRat] at h
  | cons x xs ih =>
    intro m h
    simp only [minRat] at h
    cases hm : minRat xs with
    | none => simp [hm] at h; subst h; simp
    | some m' =>
      simp [hm] at h
      split at h
      · subst h; simp
      · subst h; exact List.mem_cons_of_mem _ (ih m' hm)

def CountsNonneg (rm : List (IsoInfo × List Event)) : Prop := ∀ Ie ∈ rm, ∀ e ∈ Ie.2, 0 ≤ eventCount e

/-- **select_best_penalty_nonneg**: the minimal penalty `select_best_among_inconsistent` returns is ≥ 0 -/
theorem select_best_penalty_nonneg (p : Params) (rp : ReadProf) (rm : List (IsoInfo × List Event))
    (best : List (IsoInfo × List Event)) (pen : Rat) (hc : CountsNonneg rm)
    (h : selectBestAmongInconsistent p rp rm = some (best, pen)) : 0 ≤ pen := by
  obtain ⟨scored, hsc, hmn, _⟩ := selectBest_inv p rp rm best pen h
  obtain ⟨y, hy, rfl⟩ := List.mem_map.mp (minRat_mem _ _ hmn)
  obtain ⟨hm, hp⟩ := scored_mem hsc hy
  exact penaltyOf_nonneg p _ _ (hc _ hm) hp

/-- `penalty_score` of a modelled match, as the exact rational the code's float stands for -/
def penaltyScoreOf (m : IsoMatch) : Rat := (m.penaltyNum : Rat) / (m.penaltyDen : Rat)

theorem ratOfNumDen_nonneg (q : Rat) (h : 0 ≤ q) : 0 ≤ ((q.num : Int) : Rat) / ((q.den : Int) : Rat) := by
  rw [Rat.div_def]
  apply Rat.mul_nonneg
  · exact_mod_cast Rat.num_nonneg.mpr h
  · apply Rat.le_of_lt
    apply Rat.inv_pos.mpr
    exact_mod_cast q.den_pos

theorem default_penalty_nonneg (m : IsoMatch) (h1 : m.penaltyNum = 0) : 0 ≤ penaltyScoreOf m := by
  unfold penaltyScoreOf
  rw [h1, Rat.div_def]
  simp [Rat.zero_mul]

theorem mapOpt_all {α β} {f : α → Option β} {l : List α} {r : List β} (h : mapOpt f l = some r)
    (P : β → Prop) (hP : ∀ x y, f x = some y → P y) : ∀ y ∈ r, P y := by
  intro y hy
  obtain ⟨x, _, hxy⟩ := forall₂_mem_right (mapOpt_spec f l r h) y hy
  exact hP x y hxy

theorem mapOpt_default_nonneg {α} {f : α → Option IsoMatch} {l : List α} {ms : List IsoMatch}
    (h : mapOpt f l = some ms) (hf : ∀ x y, f x = some y → y.penaltyNum = 0) : ∀ m ∈ ms, 0 ≤ penaltyScoreOf m :=
  mapOpt_all h _ fun x y hxy => default_penalty_nonneg y (hf x y hxy)

/-- the event list `detect_inconsistensies` builds for ONE candidate isoform: the comparator's events (`cj`, an input
    of the model), the elongation events, then `verify_read_ends` -/
def detectedEvents (g : Gene) (p : Params) (rp : ReadProf) (cj : Nat → Option (List Event)) (I : IsoInfo) :
    Option (List Event) :=
  match cj I.id with
  | none => none
  | some ev =>
    match elongationEvents g p rp I with
    | none => none
    | some el => verifyReadEnds p rp I (ev ++ el)

/-- what `detect_inconsistensies` returns pairs candidates with their `detectedEvents` -/
theorem detect_mem (g : Gene) (p : Params) (rp : ReadProf) (cj : Nat → Option (List Event))
    (cands : List IsoInfo) (rm : List (IsoInfo × List Event)) (h : detectInconsistencies g p rp cj cands = some rm) :
    ∀ Ie ∈ rm, Ie.1 ∈ cands ∧ detectedEvents g p rp cj Ie.1 = some Ie.2 := by
  intro Ie hIe
  obtain ⟨hc, ev0, el, h1, _, h2, h3⟩ := detectInconsistencies_spec g p rp cj cands rm h Ie hIe
  exact ⟨hc, by simp only [detectedEvents, h1, h2, h3]⟩

/-- every event that reaches the penalty computation counts a non-negative number of features: a decidable
    condition on the gene's isoforms (the comparator `cj` is an input of the model, so this is a hypothesis on its
    output; `eventCount_nonneg` reduces it to ordered index ranges) -/
def DetectedCountsNonneg (g : Gene) (p : Params) (rp : ReadProf) (cj : Nat → Option (List Event)) : Prop :=
  ∀ I ∈ g.isos, ∀ evs ∈ (detectedEvents g p rp cj I).toList, ∀ e ∈ evs, 0 ≤ eventCount e

instance (g : Gene) (p : Params) (rp : ReadProf) (cj : Nat → Option (List Event)) :
    Decidable (DetectedCountsNonneg g p rp cj) := by unfold DetectedCountsNonneg; infer_instance

/-- **match_inconsistent_penalty_nonneg**: every isoform match of the assignment `match_inconsistent` returns has
    `penalty_score ≥ 0` (it is the minimal penalty for inconsistent assignments of spliced reads and the default 0.0
    on every other branch) -/
theorem match_inconsistent_penalty_nonneg (g : Gene) (p : Params) (rp : ReadProf) (cj : Nat → Option (List Event))
    (a : Assignment) (hd : DetectedCountsNonneg g p rp cj) (h : matchInconsistent g p rp cj = some a) :
    ∀ m ∈ a.isoMatches, 0 ≤ penaltyScoreOf m := by
  revert h
  fun_cases matchInconsistent g p rp cj <;> intro h
  case case1 | case3 | case5 => cases h
  case case2 => cases h; intro m hm; simp at hm; subst hm; exact default_penalty_nonneg _ rfl
  case case4 | case6 => cases h; intro m hm; cases hm
  case case7 =>
    obtain ⟨ms, hms, rfl⟩ := Option.map_eq_some_iff.mp h
    exact mapOpt_default_nonneg hms fun x y hxy => by
      obtain ⟨c, _, rfl⟩ := Option.map_eq_some_iff.mp hxy; rfl
  case case8 hrm _ _ _ hsel _ _ _ _ =>
    have hcn : CountsNonneg _ := fun Ie hIe e he => by
      obtain ⟨h1, h2⟩ := detect_mem g p rp cj _ _ hrm Ie hIe
      exact hd Ie.1 (List.mem_filter.mp h1).1 Ie.2 (by simp [h2]) e he
    have hpen := select_best_penalty_nonneg p rp _ _ _ hcn hsel
    cases h
    intro m hm
    obtain ⟨Ie, _, rfl⟩ := List.mem_map.mp hm
    exact ratOfNumDen_nonneg _ hpen
  case case9 =>
    obtain ⟨ms, hms, rfl⟩ := Option.map_eq_some_iff.mp h
    exact mapOpt_default_nonneg hms fun x y hxy => by
      obtain ⟨m0, hm0, rfl⟩ := Option.map_eq_some_iff.mp hxy
      obtain ⟨ce, _, rfl⟩ := Option.map_eq_some_iff.mp hm0
      rfl

/-- non-vacuity data: a three-exon isoform, a read that keeps its second intron (the comparator reports
    `intron_retention`), nanopore thresholds -/
def exIsoA : IsoInfo :=
  { id := 0, exons := [(100, 200), (300, 400), (500, 600)], introns := [(201, 299), (401, 499)], region := (100, 600),
    strand := .plus, intronProf := [1, 1], intronRange := (0, 2), splitProf := [1, 1, 1], splitRange := (0, 3) }
def exGeneA : Gene :=
  { start := 100, stop := 600, introns := [(201, 299), (401, 499)], exons := [(100, 200), (300, 400), (500, 600)],
    splitExons := [(100, 200), (300, 400), (500, 600)], isos := [exIsoA] }
def exReadA : ReadProf :=
  { blocks := [(100, 200), (300, 600)], region := (100, 600), introns := [(201, 299)],
    intron := { gene := [1, -1], read := [1], range := (0, 2) }, split := { gene := [1, 1, 1], read := [1, 1], range := (0, 3) },
    polya := { extA := -1, extT := -1, intA := -1, intT := -1 } }
def exCjA : Nat → Option (List Event) :=
  fun _ => some [{ ty := .intron_retention, isoRegion := (1, 1), readRegion := (absentPos, 1) }]

-- the hypothesis holds on the example, `match_inconsistent` returns an assignment, and its match carries the penalty
-- 3/5 = 0.6 (one retained intron)
example : DetectedCountsNonneg exGeneA exP exReadA exCjA ∧
    ((matchInconsistent exGeneA exP exReadA exCjA).map
      (fun a => a.isoMatches.map (fun m => (m.penaltyNum, m.penaltyDen)))) = some [(3, 5)] := by
  refine ⟨by decide +kernel, by decide +kernel⟩

-- non-vacuity of `penaltyOf_nonneg` / `select_best_penalty_nonneg`: an ordered exon-skipping event (two exons) and a
-- retained intron cost 2 * 1.0 + 0.6
example : (∀ e ∈ ([{ ty := .exon_skipping_known, isoRegion := (2, 3), readRegion := (1, 1) },
                   { ty := .intron_retention, isoRegion := (1, 1), readRegion := (absentPos, 1) }] : List Event),
             RegionsOrdered e ∧ 0 ≤ eventCount e) ∧
    penaltyOf exP [{ ty := .exon_skipping_known, isoRegion := (2, 3), readRegion := (1, 1) },
                   { ty := .intron_retention, isoRegion := (1, 1), readRegion := (absentPos, 1) }] = some ((260 : Rat) / 100) := by
  refine ⟨by decide, by decide +kernel⟩

/-- **penalty_negative_count_witness**: an `exon_gain_novel` event whose read range is reversed, (3, 1), counts −2
    features and costs −2: `penaltyOf` is negative.  (The comparator never emits a reversed range; the run-time monitor
    harness/mon_wrap.py `c14events` checks `0 ≤ r0 ≤ r1 < #read introns` on every event of every pipeline run of the
    C14 / C11 oracles, and harness/gen/savedumps.py checks the penalty of every saved record.) -/
theorem penalty_negative_count_witness :
    ¬ RegionsOrdered { ty := .exon_gain_novel, isoRegion := (0, 0), readRegion := (3, 1) } ∧
    eventCount { ty := .exon_gain_novel, isoRegion := (0, 0), readRegion := (3, 1) } = -2 ∧
    penaltyOf exP [{ ty := .exon_gain_novel, isoRegion := (0, 0), readRegion := (3, 1) }] = some (-2) := by
  refine ⟨by decide, by decide, by decide +kernel⟩

open IsoVerif.Model.Serial IsoVerif.Lemmas.C15 in
/-- **assigner_record_nonneg_first**: a saved record whose isoform matches carry, position by position, the penalties
    of matches produced by the modelled `match_inconsistent` (or any matches with `penalty_score ≥ 0`, e.g. the default
    0.0 of every other constructor of `IsoformMatch`) satisfies `NonNegFirst` — the hypothesis `MemoryModeOk` of the
    `--high_memory` clauses of Props/C15Reuse.lean asks for exactly this, record by record -/
theorem assigner_record_nonneg_first (r : Serial.ReadAssignment) (ms : List IsoMatch)
    (hpen : r.isoformMatches.map (·.penaltyScore) = ms.map penaltyScoreOf)
    (hms : ∀ m ∈ ms, 0 ≤ penaltyScoreOf m) : NonNegFirst r := by
  intro m hm
  cases hr : r.isoformMatches with
  | nil => rw [hr] at hm; simp at hm
  | cons m0 rest =>
    rw [hr] at hm hpen
    simp at hm; subst hm
    cases ms with
    | nil => simp at hpen
    | cons a as =>
      simp at hpen
      rw [hpen.1]
      exact hms a (by simp)

end IsoVerif.Props.C15Penalty
