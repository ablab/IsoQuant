/-
C11 — translation equivariance of the splice-site reads (Model/Canonical.lean, property C18's model of
`get_intron_strand`, `common.get_strand`, the `Canonical` flag computation): the functions cut two dinucleotides out of a
reference string at `intron − region_start`.

  * region start shifted with the intron (`gene_info.all_read_region_start`, the reference region is re-cut from the shifted
    chromosome): nothing changes, for ALL inputs (`shift_equivariant_siteRaw` and its consequences);
  * the literal statement of C11 — k bases INSERTED at the start of the chromosome (`pad ++ chr`, start 1 kept): the sites
    of the shifted intron in the padded chromosome are the sites of the intron, for introns inside the chromosome
    (`insert_bases_siteRaw`); for an intron hanging over the start Python's negative slice indices wrap, and the
    statement is false (`insert_bases_wrap_witness`).
(Reflection: the strand decision over these functions is Props/C11Strand.lean, with the mirrored site votes as a hypothesis;
Props/C11Canonical.lean reflects the string-valued site model of Model/C11Canonical.lean.)
-/
import IsoVerif.Model.Canonical
import IsoVerif.Model.C11Symmetry
import IsoVerif.Props.C18Strand

namespace IsoVerif.Props.C11Sites
open IsoVerif.Gen IsoVerif.Model IsoVerif.Model.C11 IsoVerif.Model.C18

theorem shift_equivariant_siteRaw (k : Int) (s : Seq) (start : Int) (it : Iv) :
    siteRaw s (start + k) (shiftIv k it) = siteRaw s start it := by
  simp only [siteRaw, shiftIv, Int.add_sub_add_right]

theorem shift_equivariant_getIntronStrand (k : Int) (it : Iv) (s : Seq) (start : Int) :
    getIntronStrand (shiftIv k it) s (start + k) = getIntronStrand it s start := by
  simp only [getIntronStrand, shift_equivariant_siteRaw]

theorem shift_equivariant_commonGetStrand (k : Int) (introns : List Iv) (s : Seq) (start : Int) :
    commonGetStrand (shiftL k introns) s (start + k) = commonGetStrand introns s start := by
  simp only [C18.common_get_strand_spec, shiftL, List.countP_map, Function.comp_def, shift_equivariant_siteRaw,
    List.map_eq_nil_iff]

/-- the `Canonical` flag of an intron: the gene's reference region starts k later, the intron lies k later -/
theorem shift_equivariant_canonCompute (k : Int) (g : GeneRef) (it : Iv) (st : Strand) :
    canonCompute { g with start := g.start + k } (shiftIv k it) st = canonCompute g it st := by
  simp only [canonCompute, shift_equivariant_siteRaw]

/-- Python slice of a string with a prefix inserted, for non-negative bounds -/
theorem pySlice_pad {α} (pad s : List α) (a b : Int) (ha : 0 ≤ a) (hb : 0 ≤ b) :
    pySlice (pad ++ s) (a + pad.length) (b + pad.length) = pySlice s a b := by
  obtain ⟨a, rfl⟩ := Int.eq_ofNat_of_zero_le ha
  obtain ⟨b, rfl⟩ := Int.eq_ofNat_of_zero_le hb
  rw [← Int.natCast_add, ← Int.natCast_add, Lemmas.pySlice_natCast, Lemmas.pySlice_natCast, Nat.add_sub_add_right, Nat.add_comm,
    List.drop_append, List.drop_eq_nil_of_le (Nat.le_add_right _ _), Nat.add_sub_cancel_left, List.nil_append]

/-- **insert_bases_siteRaw** — k = |pad| bases inserted at the start of the chromosome, intron moved by k: the same two
    dinucleotides are read, for every intron that starts at or after `start` and whose end is beyond `start` -/
theorem insert_bases_siteRaw (pad s : Seq) (start : Int) (it : Iv) (h1 : start ≤ it.1) (h2 : start + 1 ≤ it.2) :
    siteRaw (pad ++ s) start (shiftIv (pad.length : Int) it) = siteRaw s start it := by
  simp only [siteRaw, shiftIv]
  have e1 : it.1 + (pad.length : Int) - start = (it.1 - start) + (pad.length : Int) := by omega
  have e2 : it.1 + (pad.length : Int) - start + 2 = (it.1 - start + 2) + (pad.length : Int) := by omega
  have e3 : it.2 + (pad.length : Int) - start - 1 = (it.2 - start - 1) + (pad.length : Int) := by omega
  have e4 : it.2 + (pad.length : Int) - start + 1 = (it.2 - start + 1) + (pad.length : Int) := by omega
  rw [e2, e1, e3, e4, pySlice_pad pad s _ _ (by omega) (by omega), pySlice_pad pad s _ _ (by omega) (by omega)]

theorem insert_bases_getIntronStrand (pad s : Seq) (it : Iv) (h1 : 1 ≤ it.1) (h2 : 2 ≤ it.2) :
    getIntronStrand (shiftIv (pad.length : Int) it) (pad ++ s) 1 = getIntronStrand it s 1 := by
  simp only [getIntronStrand, insert_bases_siteRaw pad s 1 it h1 (by omega)]

/-- non-vacuity: a GT–AG intron at 3..8 of `CCGTAAAGCC`, 3 bases inserted -/
example : getIntronStrand (3, 8) "CCGTAAAGCC".toList 1 = .plus ∧
    getIntronStrand (shiftIv 3 (3, 8)) ("NNN".toList ++ "CCGTAAAGCC".toList) 1 = .plus := by decide

/-- **insert_bases_wrap_witness** — the hypothesis is needed: an "intron" starting before position 1 makes the slice
    index negative, which Python wraps to the END of the string; after inserting bases the index is non-negative -/
theorem insert_bases_wrap_witness :
    siteRaw "CCCCAGCGTC".toList 1 (-2, 6) = ("GT".toList, "AG".toList) ∧
    siteRaw ("NNN".toList ++ "CCCCAGCGTC".toList) 1 (shiftIv 3 (-2, 6)) = ("NN".toList, "AG".toList) := by decide

end IsoVerif.Props.C11Sites
