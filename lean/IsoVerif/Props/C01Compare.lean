/-
C01 (comparator) — `JunctionComparator.compare_junctions` (Model/JunctionCompare.lean), for ALL inputs:
  (1) it never raises, and every event it emits is well formed (type among the members the comparator names, info 0,
      regions that index the two junction lists or are the code's sentinels);
  (2) the test that decides whether `detect_contradiction_type` runs (`any(el == -1 …)`) is false exactly when every read
      intron overlapping the isoform span equals an isoform intron within δ and every isoform intron overlapping the read
      span equals a read intron within δ — for intron chains as the pipeline produces them (`ChainsWF`).
The converse clause of C01 built on top of this is in Props/C01Converse.lean.
-/
import IsoVerif.Model.JunctionCompare
import IsoVerif.Lemmas.C01CmpTotal
import IsoVerif.Lemmas.C01CmpEvents
import IsoVerif.Lemmas.C01CmpSpec

namespace IsoVerif.Props.C01Compare
open IsoVerif.Gen IsoVerif.Model IsoVerif.Model.C01 IsoVerif.Lemmas IsoVerif.Lemmas.C01Cmp

theorem sweep_wellformed (c : CmpCtx) (rj : List Iv) (rr : Iv) (ij : List Iv) (ir : Iv) :
    (sweepOf c rj rr ij ir).readProf.length = rj.length ∧ (sweepOf c rj rr ij ir).isoProf.length = ij.length ∧
    ∀ pr ∈ (sweepOf c rj rr ij ir).pairs, PairOK rj.length ij.length pr :=
  sweep_ok c.p.delta rr ir rj.length ij.length rj 0 0 ij 0 0 none (by simp) (by simp) trivial

/-- `compare_junctions` returns a value on EVERY input (any junction lists — sorted or not —, any regions, any
    parameters, any known-intron list): no IndexError / AssertionError / KeyError path is reachable -/
theorem compare_never_raises (c : CmpCtx) (rj : List Iv) (rr : Iv) (ij : List Iv) (ir : Iv) :
    ∃ evs, compareJunctions c rj rr ij ir = some evs := by
  unfold compareJunctions
  split
  · exact ⟨_, rfl⟩
  · rename_i hne
    have hn : 0 < rj.length := List.length_pos_iff.mpr (by simpa using hne)
    obtain ⟨h1, _, h3⟩ := sweep_wellformed c rj rr ij ir
    obtain ⟨d, hd⟩ := detectContradictions_some c rr rj ir ij hn (sweepOf c rj rr ij ir).pairs h3
    obtain ⟨x, hx⟩ := addExtraOut_some c (sweepOf c rj rr ij ir).readProf rr rj ir.1 h1 hn
    simp only [hd, hx, Option.map_some, ← apply_ite some]
    exact ⟨_, rfl⟩

/-- … and what it returns is a non-empty list of well-formed events: the type is one of the generated
    `comparator_event_types`, `event_info = 0`, the read region is undefined / (absent, position ≤ #read introns) / an
    index range of the read introns, the isoform region likewise (or one of the two `extra_…_region` sentinels) -/
theorem compare_events_wellformed (c : CmpCtx) (rj : List Iv) (rr : Iv) (ij : List Iv) (ir : Iv) (evs : List Event)
    (h : compareJunctions c rj rr ij ir = some evs) :
    evs ≠ [] ∧ ∀ e ∈ evs, EventOK rj.length ij.length e := by
  obtain ⟨h1, _, h3⟩ := sweep_wellformed c rj rr ij ir
  refine compareJunctions_forall h (fun e => by rw [e]; exact (monoExonSubtype_ok c rr ij).2) (fun _ e hs => ?_)
    ⟨by decide, rfl, Or.inl rfl, Or.inl (Or.inl rfl)⟩
  rcases hs with ⟨_, pr, hpr, hc⟩ | ⟨_, x, hx, he⟩
  · exact classifyPair_ok (h3 pr hpr) hc
  · have := (addExtraOut_ok (m := ij.length) hx e he).1
    rwa [h1] at this

/-- the comparator events never carry an elongation type and never the lone `undefined` that makes
    `detect_inconsistensies` skip an isoform (closed over the regenerated table) -/
theorem comparator_types_not_undefined :
    ∀ t ∈ comparator_event_types, t ≠ .undefined ∧ t.is_major_elongation = false ∧ t.is_minor_elongation = false := by
  decide

/-- intron chains as the pipeline produces them (`junctions_from_blocks` of sorted alignment blocks / annotated exons):
    δ ≥ 0, both chains sorted and separated, every intron longer than 2δ, and inside its region -/
def ChainsWF (δ : Int) (rj : List Iv) (rr : Iv) (ij : List Iv) (ir : Iv) : Prop := Geo δ rr ir rj ij

/-- the presence lists ARE the declarative profiles: read intron `r` is marked 1 iff some isoform intron equals it
    within δ, −1 iff none does and `r` overlaps the isoform region, 0 otherwise (symmetric for the isoform introns) -/
theorem presence_spec (c : CmpCtx) (rj : List Iv) (rr : Iv) (ij : List Iv) (ir : Iv)
    (hwf : ChainsWF c.p.delta rj rr ij ir) (hr : rj ≠ []) (hi : ij ≠ []) :
    (sweepOf c rj rr ij ir).readProf = rj.map (specR c.p.delta ir ij) ∧
    (sweepOf c rj rr ij ir).isoProf = ij.map (specK c.p.delta rr rj) := by
  have h1 : 0 < rj.length := List.length_pos_iff.mpr hr
  have h2 : 0 < ij.length := List.length_pos_iff.mpr hi
  exact sweep_spec c.p.delta rr ir rj 0 0 ij 0 0 none hwf (Or.inl rfl) (Or.inl rfl)
    (fun h => absurd h (by omega)) (fun h => absurd h (by omega)) (by omega) (by omega)

/-- **no_contradiction_iff**: `detect_contradiction_type` is NOT consulted (no −1 in either presence list) iff the read's
    introns inside the isoform span match isoform introns within δ and no isoform intron inside the read span is missed -/
theorem no_contradiction_iff (c : CmpCtx) (rj : List Iv) (rr : Iv) (ij : List Iv) (ir : Iv)
    (hwf : ChainsWF c.p.delta rj rr ij ir) (hr : rj ≠ []) (hi : ij ≠ []) :
    (hasNeg (sweepOf c rj rr ij ir).readProf || hasNeg (sweepOf c rj rr ij ir).isoProf) = false ↔
    ((∀ r ∈ rj, overlaps ir r = true → ∃ k ∈ ij, equal_ranges k r c.p.delta = true) ∧
     (∀ k ∈ ij, overlaps rr k = true → ∃ r ∈ rj, equal_ranges k r c.p.delta = true)) := by
  obtain ⟨e1, e2⟩ := presence_spec c rj rr ij ir hwf hr hi
  rw [e1, e2]
  simp only [hasNeg, Bool.or_eq_false_iff, List.any_eq_false, List.mem_map, beq_iff_eq, forall_exists_index, and_imp,
    forall_apply_eq_imp_iff₂]
  constructor
  · rintro ⟨h1, h2⟩
    constructor
    · intro r hr' hov
      have := h1 r hr'
      simp only [specR, hov, if_true] at this
      by_cases hm : matchedBy c.p.delta ij r = true
      · simpa [matchedBy] using hm
      · simp [hm] at this
    · intro k hk' hov
      have := h2 k hk'
      simp only [specK, hov, if_true] at this
      by_cases hm : matchesSome c.p.delta rj k = true
      · simpa [matchesSome] using hm
      · simp [hm] at this
  · rintro ⟨h1, h2⟩
    constructor
    · intro r hr'
      unfold specR
      by_cases hm : matchedBy c.p.delta ij r = true
      · simp [hm]
      · by_cases hov : overlaps ir r = true
        · exfalso; apply hm
          obtain ⟨k, hk, he⟩ := h1 r hr' hov
          simp only [matchedBy, List.any_eq_true]; exact ⟨k, hk, he⟩
        · simp [hm, hov]
    · intro k hk'
      unfold specK
      by_cases hm : matchesSome c.p.delta rj k = true
      · simp [hm]
      · by_cases hov : overlaps rr k = true
        · exfalso; apply hm
          obtain ⟨r, hr', he⟩ := h2 k hk' hov
          simp only [matchesSome, List.any_eq_true]; exact ⟨r, hr', he⟩
        · simp [hm, hov]

/-- when no contradiction is seen, the only events are those of `add_extra_out_exon_events` (or the single `none`) -/
theorem no_contradiction_events (c : CmpCtx) (rj : List Iv) (rr : Iv) (ij : List Iv) (ir : Iv) (evs : List Event)
    (hr : rj ≠ [])
    (hno : (hasNeg (sweepOf c rj rr ij ir).readProf || hasNeg (sweepOf c rj rr ij ir).isoProf) = false)
    (h : compareJunctions c rj rr ij ir = some evs) :
    ∀ e ∈ evs, e.ty = .none ∨ e.ty ∈ flank_types := by
  refine (compareJunctions_forall h (fun e => absurd e hr) (fun _ e hs => ?_) (.inl rfl)).2
  rcases hs with ⟨hn, _⟩ | ⟨_, x, hx, he⟩
  · rw [hno] at hn; cases hn
  · exact .inr (addExtraOut_ok (m := ij.length) hx e he).2

/-- a spliced read against a mono-exonic isoform: the terminating loop stops at the first read intron that does not
    overlap the isoform region, so a later intron INSIDE the isoform's exon is called "flanking" (still a major event;
    this is why `no_contradiction_iff` asks for `ij ≠ []`) -/
theorem flanking_inside_monoexon_witness :
    ((compareJunctions
        { p := { delta := 6, minor_exon_extension := 50, major_exon_extension := 300, min_abs_exon_overlap := 10,
                 apa_delta := 50, minimal_exon_overlap := 5, minimal_intron_absence_overlap := 20,
                 max_fake_terminal_exon_len := 40, max_missed_exon_len := 100, resolve_ambiguous := .monoexon_and_fsm },
          q := { max_intron_shift := 60, micro_intron_length := 50, max_intron_abs_diff := 30,
                 max_intron_rel_diff_num := 1, max_intron_rel_diff_den := 5, min_rel_exon_overlap_num := 1,
                 min_rel_exon_overlap_den := 5, max_suspicious_intron_abs_len := 60,
                 max_suspicious_intron_rel_len_num := 1, max_suspicious_intron_rel_len_den := 1 },
          known := [], geneRegion := (1000, 2000) }
        [(100, 500), (1200, 1500)] (50, 1900) [] (1000, 2000)).map (fun l => l.map (fun e => (e.ty, e.readRegion))))
      = some [(.extra_intron_flanking_left, (0, 0)), (.extra_intron_flanking_left, (1, 1))] := by
  decide +kernel

end IsoVerif.Props.C01Compare
