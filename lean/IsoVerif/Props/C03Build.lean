/-
C03 — constructors of exon lists and the reference path: `get_exons` yields sorted disjoint well-formed exons for
every intron path with well-formed introns whose starts do not decrease; end correction keeps a transcript well-formed and its intron chain intact;
reference transcripts are copied verbatim; the extended annotation is reference + novel.
-/
import IsoVerif.Model.Gtf
import IsoVerif.Lemmas.C03Build
import IsoVerif.Lemmas.C03GtfDump
import IsoVerif.Props.C03Hist
import IsoVerif.Props.C03

namespace IsoVerif.Props.C03Build
open IsoVerif.Gen IsoVerif.Model IsoVerif.Lemmas IsoVerif.Props.C03Hist IsoVerif.Props.C03 IsoVerif.Model.C03 IsoVerif.Lemmas.C03

/-- **get_exons_wellformed_of_monotone_starts** (weakest interface): for every transcript range and every intron path
    whose introns are well-formed (`start <= end`) and whose starts do not decrease, `get_exons` returns sorted,
    pairwise disjoint, well-formed exons; every exon starts at the range start or right after an intron and ends at
    the range end or right before an intron.  (Introns may touch, overlap or nest: `get_exons` then merges them.) -/
theorem get_exons_wellformed_of_monotone_starts (r : Iv) (introns : List Iv) (hsm : StartsMono introns) (hw : WFl introns) :
    SD (getExons r introns) ∧ WFl (getExons r introns) ∧
    (∀ x ∈ getExons r introns, x.1 = r.1 ∨ ∃ c ∈ introns, x.1 = c.2 + 1) ∧
    (∀ x ∈ getExons r introns, x.2 = r.2 ∨ ∃ c ∈ introns, x.2 = c.1 - 1) := by
  have h := junctions_between (r.2 + 1, 0) introns (0, r.1 - 1) hsm hw
  simp only at h
  unfold getExons
  obtain ⟨w, s, st, en⟩ := h
  refine ⟨s, w, ?_, ?_⟩
  · intro x hx
    rcases st x hx with h1 | h1
    · left; omega
    · right; exact h1
  · intro x hx
    rcases en x hx with h1 | h1
    · left; omega
    · right; exact h1

/-- **get_exons_wellformed**: the same for sorted, pairwise disjoint, well-formed intron paths (the `SD` special
    case of the previous theorem) -/
theorem get_exons_wellformed (r : Iv) (introns : List Iv) (hsd : SD introns) (hw : WFl introns) :
    SD (getExons r introns) ∧ WFl (getExons r introns) ∧
    (∀ x ∈ getExons r introns, x.1 = r.1 ∨ ∃ c ∈ introns, x.1 = c.2 + 1) ∧
    (∀ x ∈ getExons r introns, x.2 = r.2 ∨ ∃ c ∈ introns, x.2 = c.1 - 1) :=
  get_exons_wellformed_of_monotone_starts r introns (SD_startsMono introns hsd hw) hw

-- non-vacuity of the weak interface: touching and nested introns, starts non-decreasing
example : StartsMono [(11, 19), (20, 39)] ∧ WFl [(11, 19), (20, 39)] ∧ getExons (5, 50) [(11, 19), (20, 39)] = [(5, 10), (40, 50)] ∧
    StartsMono [(11, 30), (15, 20)] ∧ getExons (5, 50) [(11, 30), (15, 20)] = [(5, 10), (21, 50)] := by
  unfold StartsMono; decide +kernel

/-- **fl_guard_gives_wellformed**: with the length guard of `construct_fl_isoforms` (`len(novel_exons) ==
    len(intron_path) + 1`, added by a `fix:` commit of C04) the monotonicity part of the assumption interface is
    *enforced by the code*: for every range and every path of well-formed introns that survives the guard, the path is
    sorted and disjoint, lies strictly inside the range, and the exons are sorted, disjoint, well-formed, start at the
    range start and end at the range end.  What remains assumed of the intron graph is only `start <= end` per intron. -/
theorem fl_guard_gives_wellformed (r : Iv) (path ex : List Iv) (h : flNovelExons r path = some ex) (hw : WFl path) :
    SD path ∧ SD ex ∧ WFl ex ∧ ex.length = path.length + 1 ∧
    (∀ c ∈ path, r.1 < c.1 ∧ c.2 < r.2) ∧
    (∀ x ∈ ex, x.1 = r.1 ∨ ∃ c ∈ path, x.1 = c.2 + 1) ∧ (∀ x ∈ ex, x.2 = r.2 ∨ ∃ c ∈ path, x.2 = c.1 - 1) := by
  obtain ⟨rfl, hlen⟩ := flNovelExons_eq_some.mp h
  have hg : GapsAll ((0, r.1 - 1) :: path ++ [(r.2 + 1, 0)]) :=
    junctions_full_gaps _ (by rw [show junctionsFromBlocks _ = getExons r path from rfl, hlen]; simp)
  obtain ⟨hsd, hin⟩ := gaps_inner (r.2 + 1, 0) path (0, r.1 - 1) hg hw
  obtain ⟨s, w, st, en⟩ := get_exons_wellformed r path hsd hw
  exact ⟨hsd, s, w, hlen, fun c hc => by have := hin c hc; simp only at this; omega, st, en⟩

-- non-vacuity: a monotone path survives the guard; the non-monotone path of the witness below is skipped
example : flNovelExons (5, 50) [(11, 19), (31, 39)] = some [(5, 10), (20, 30), (40, 50)] ∧
    flNovelExons (5, 50) [(31, 39), (11, 19)] = none ∧ flNovelExons (5, 50) [(11, 19), (20, 39)] = none := by decide +kernel

theorem get_exons_passes_gate (r : Iv) (introns : List Iv) (hsd : SD introns) (hw : WFl introns)
    (hr : 0 < r.1) (hi : ∀ c ∈ introns, 0 ≤ c.2) : validateExons (getExons r introns) = true := by
  obtain ⟨s, w, st, _⟩ := get_exons_wellformed r introns hsd hw
  apply sd_passes_gate _ s w
  intro x hx
  rcases st x hx with h1 | ⟨c, hc, h1⟩
  · omega
  · have := hi c hc; omega

-- non-vacuity: a concrete path meets the hypotheses and the function computes the expected exons
example : SD [(11, 19), (31, 39)] ∧ WFl [(11, 19), (31, 39)] ∧
    getExons (5, 50) [(11, 19), (31, 39)] = [(5, 10), (20, 30), (40, 50)] := by decide +kernel

/-- outside the assumption interface (an intron path that is not increasing) `get_exons` produces overlapping exons
    which the gate lets through (they are sorted by start): non-overlap of novel exons rests on the monotonicity of
    the intron paths, which the oracle monitors on every pipeline output -/
theorem get_exons_unsorted_path_witness :
    getExons (5, 50) [(31, 39), (11, 19)] = [(5, 30), (20, 50)] ∧
    validateExons (getExons (5, 50) [(31, 39), (11, 19)]) = true ∧ ¬ SD (getExons (5, 50) [(31, 39), (11, 19)]) := by
  decide +kernel

/-- **end_correction_preserves_wf**: for every sorted, disjoint, well-formed transcript and every list of assigned
    reads, `correct_novel_transcript_ends` succeeds and returns a transcript with the same number of exons and the same
    intron chain that is still sorted, disjoint and well-formed, starts no earlier and ends no later. -/
theorem end_correction_preserves_wf (exons reads : List Iv) (apa : Int) (hne : exons ≠ [])
    (hsd : SD exons) (hw : WFl exons) :
    ∃ r, correctEnds exons reads apa = some r ∧ Shrunk exons r := by
  cases exons with
  | nil => exact absurd rfl hne
  | cons a t =>
    obtain ⟨last, hlast⟩ := getLast?_cons_some a t
    unfold correctEnds
    simp only [List.head?_cons, hlast]
    have h1 := applyStart_shrunk a t last hlast hsd hw
      (if (List.foldl (endStep apa a.1 last.2 a last) {} reads).startSupported = true then none
        else List.find? (fun s => decide (s > a.1)) (isortBy intLt (List.foldl (endStep apa a.1 last.2 a last) {} reads).readStarts))
      (by
        intro s hs
        split at hs
        · cases hs
        · have := List.find?_some hs; simpa using this)
    apply applyEnd_shrunk h1.1 _ last.2 h1.2
    · intro e he
      split at he
      · cases he
      · have := List.find?_some he; simpa using this
    · intro hnil
      have := h1.1.length_eq
      rw [hnil] at this
      simp at this

theorem end_correction_passes_gate (exons reads : List Iv) (apa : Int) (r : List Iv)
    (h : correctEnds exons reads apa = some r) (hne : exons ≠ []) (hsd : SD exons) (hw : WFl exons)
    (hpos : ∀ x ∈ exons, 0 < x.1) : validateExons r = true := by
  obtain ⟨r', hr', hsh⟩ := end_correction_preserves_wf exons reads apa hne hsd hw
  rw [h] at hr'; simp only [Option.some.injEq] at hr'; subst hr'
  have s := hsh.sd
  have w := hsh.wf
  apply sd_passes_gate r s w
  cases exons with
  | nil => exact absurd rfl hne
  | cons a t =>
    obtain ⟨last, hlast⟩ := getLast?_cons_some a t
    obtain ⟨f', t', hf', _, b1, _⟩ := hsh.ends rfl hlast
    have ha := hpos a (by simp)
    obtain ⟨ys, hys⟩ := List.head?_eq_some_iff.mp hf'
    subst hys
    intro x hx
    rcases List.mem_cons.mp hx with hx | hx
    · subst hx; omega
    · have := SD_all_right s w x hx
      have := WFl_head w
      omega

-- non-vacuity + a concrete correction: unsupported start 100 moves to the smallest later read start, end stays
example : SD [(100, 200), (300, 400)] ∧ WFl [(100, 200), (300, 400)] ∧
    correctEnds [(100, 200), (300, 400)] [(150, 400), (160, 395)] 10 = some [(150, 200), (300, 400)] := by decide +kernel

/-- **novel_spliced_model_wellformed**: the whole construction chain of a novel spliced model - `get_exons` on an
    intron path with well-formed introns and non-decreasing starts inside the chromosome `[1, L]`, then end correction with any assigned reads - succeeds and
    yields exons that are sorted, pairwise disjoint, well-formed, inside `[1, L]`, and pass the gate.  This is the
    "exons non-overlapping, `1 <= start <= end <= chromosome length`" clause for novel transcripts, conditional only on the
    monitored assumption interface (intron starts non-decreasing, each intron well-formed, range and introns inside the chromosome). -/
theorem novel_spliced_model_wellformed (r : Iv) (introns reads : List Iv) (apa L : Int)
    (hsm : StartsMono introns) (hw : WFl introns) (hr1 : 1 ≤ r.1) (hr2 : r.2 ≤ L)
    (hin : ∀ c ∈ introns, 1 ≤ c.1 ∧ c.2 ≤ L) (hne : getExons r introns ≠ []) :
    ∃ l, correctEnds (getExons r introns) reads apa = some l ∧ SD l ∧ WFl l ∧ validateExons l = true ∧
      (∀ x ∈ l, 1 ≤ x.1 ∧ x.2 ≤ L) ∧ junctionsFromBlocks l = junctionsFromBlocks (getExons r introns) := by
  obtain ⟨gs, gw, gst, gen⟩ := get_exons_wellformed_of_monotone_starts r introns hsm hw
  have gpos : ∀ x ∈ getExons r introns, 1 ≤ x.1 := by
    intro x hx
    rcases gst x hx with h | ⟨c, hc, h⟩
    · omega
    · have := hin c hc; have := hw c hc; omega
  have gend : ∀ x ∈ getExons r introns, x.2 ≤ L := by
    intro x hx
    rcases gen x hx with h | ⟨c, hc, h⟩
    · omega
    · have := hin c hc; have := hw c hc; omega
  obtain ⟨l, hl, hsh⟩ := end_correction_preserves_wf (getExons r introns) reads apa hne gs gw
  have hgate := end_correction_passes_gate (getExons r introns) reads apa l hl hne gs gw (fun x hx => by have := gpos x hx; omega)
  have ls := hsh.sd
  refine ⟨l, hl, ls, hsh.wf, hgate, ?_, hsh.junctions_eq⟩
  -- bounds: the corrected transcript lies inside the span of the uncorrected one
  cases hE : getExons r introns with
  | nil => exact absurd hE hne
  | cons a t =>
    obtain ⟨last, hlast⟩ := getLast?_cons_some a t
    rw [hE] at hsh gpos gend
    obtain ⟨f', t', hf', ht', b1, b2⟩ := hsh.ends rfl hlast
    have ha := gpos a (by simp)
    have hlastm := gend last (List.mem_of_getLast? hlast)
    have hgl := (validate_exons_iff l).mp hgate
    intro x hx
    constructor
    · have := (hgl.2 x hx).1; omega
    · -- x.2 ≤ t'.2 ≤ last.2 ≤ L
      have := (transcript_record_spans l f' t' hgate hf' ht').2.2.2 ls x hx
      omega

-- non-vacuity of `novel_spliced_model_wellformed`: hypotheses met, and the chain computes
example : StartsMono [(11, 19), (31, 39)] ∧ WFl [(11, 19), (31, 39)] ∧ getExons (5, 50) [(11, 19), (31, 39)] ≠ [] ∧
    (∀ c ∈ [((11, 19) : Iv), (31, 39)], 1 ≤ c.1 ∧ c.2 ≤ 100) ∧
    correctEnds (getExons (5, 50) [(11, 19), (31, 39)]) [(7, 48), (8, 50)] 1 = some [(7, 10), (20, 30), (40, 50)] := by
  unfold StartsMono; decide +kernel

theorem mono_exon_gate (x : Iv) : validateExons [x] = true ↔ (0 < x.1 ∧ x.1 ≤ x.2) := by
  rw [validate_exons_iff]
  simp

theorem mono_exon_coordinates (cutoff : Nat) (reads : List Iv) (three : Int) (x : Iv) :
    (monoExonFromCluster cutoff true reads three = some [x] → x.2 = three ∧ listMin (reads.map (·.1)) = some x.1) ∧
    (monoExonFromCluster cutoff false reads three = some [x] → x.1 = three ∧ listMax (reads.map (·.2)) = some x.2) := by
  unfold monoExonFromCluster
  constructor
  · intro h
    split at h
    · simp at h
    · simp only [if_true] at h
      cases hm : listMin (reads.map (·.1)) with
      | none => simp [hm] at h
      | some v => simp [hm] at h; subst h; exact ⟨rfl, rfl⟩
  · intro h
    split at h
    · simp at h
    · simp only [Bool.false_eq_true, if_false] at h
      cases hm : listMax (reads.map (·.2)) with
      | none => simp [hm] at h
      | some v => simp [hm] at h; subst h; exact ⟨rfl, rfl⟩

/-- **mono_exon_passes_gate_iff**: a novel forward mono-exon model `(five', three')` is printed iff the minimum read
    start is positive and not beyond the clustered polyA position; the constructor itself does not guarantee it, the
    gate does (mirror statement for polyT clusters) -/
theorem mono_exon_passes_gate_iff (cutoff : Nat) (reads : List Iv) (three : Int) (x : Iv) :
    (monoExonFromCluster cutoff true reads three = some [x] →
      (validateExons [x] = true ↔ ∃ five, listMin (reads.map (·.1)) = some five ∧ 0 < five ∧ five ≤ three)) ∧
    (monoExonFromCluster cutoff false reads three = some [x] →
      (validateExons [x] = true ↔ ∃ five, listMax (reads.map (·.2)) = some five ∧ 0 < three ∧ three ≤ five)) := by
  obtain ⟨h1, h2⟩ := mono_exon_coordinates cutoff reads three x
  constructor
  · intro h
    obtain ⟨e1, e2⟩ := h1 h
    rw [mono_exon_gate, e2]
    constructor
    · rintro ⟨a, b⟩; exact ⟨x.1, rfl, a, by omega⟩
    · rintro ⟨five, hf, a, b⟩
      simp only [Option.some.injEq] at hf
      omega
  · intro h
    obtain ⟨e1, e2⟩ := h2 h
    rw [mono_exon_gate, e2]
    constructor
    · rintro ⟨a, b⟩; exact ⟨x.2, rfl, by omega, by omega⟩
    · rintro ⟨five, hf, a, b⟩
      simp only [Option.some.injEq] at hf
      omega

-- non-vacuity of `mono_exon_passes_gate_iff`
example : monoExonFromCluster 2 true [(40, 90), (35, 95), (50, 99)] 100 = some [(35, 100)] := by decide +kernel

/-- the model object `from_reference_transcript` builds for an annotated transcript -/
def refModel (ctx : GeneCtx) (r : RefTx) : TModel :=
  { chr := ctx.chr, strand := r.strand, tid := r.tid, gid := r.gid, exons := r.exons, known := true, other := r.other }

/-- **reference_verbatim** (construction): a model reported under a reference id carries exactly the annotated exon
    list, strand, gene and chromosome of the first annotated transcript with that id -/
theorem reference_verbatim (ctx : GeneCtx) (iso : Id) (m : TModel) (h : fromReference ctx iso = some m) :
    ∃ r ∈ ctx.isoforms, r.tid = iso ∧ m = refModel ctx r := by
  unfold fromReference at h
  cases hf : ctx.isoforms.find? (fun r => r.tid == iso) with
  | none => simp [hf] at h
  | some r =>
    simp only [hf, Option.some.injEq] at h
    refine ⟨r, List.mem_of_find?_eq_some hf, by simpa using List.find?_some hf, h.symm⟩

/-- **reference_printed_verbatim**: when such a model is handed to the printer (any history), its transcript record
    and its exon records are the annotated ones: same chromosome, strand, gene, id, `(first start, last end)`, and the
    exon records of its block are exactly the annotated exons -/
theorem reference_printed_verbatim (ctx : GeneCtx) (r : RefTx) (calls : List Call) (printed p' : List Id)
    (out : List Line) (h : runCalls printed calls = some (p', out)) (hin : InHistory calls (refModel ctx r))
    (ho : ∀ f ∈ r.other, f.2.2 ≠ 0) :
    (∃ f l, r.exons.head? = some f ∧ r.exons.getLast? = some l ∧ Line.tx ctx.chr f.1 l.2 r.strand r.gid r.tid ∈ out) ∧
    (∀ x ∈ r.exons, ∃ num, Line.feat ctx.chr 0 x.1 x.2 r.strand r.gid r.tid num ∈ out) ∧
    (exonRecs (featLines (refModel ctx r))).Perm r.exons := by
  refine ⟨?_, ?_, exon_records_of_block (refModel ctx r) ho⟩
  · -- the call did not abort, so the exon list is non-empty
    obtain ⟨tr, hreg⟩ := region_of_history h hin
    obtain ⟨f, l, hf, hl, rfl⟩ := regionOf?_eq_some.mp hreg
    exact ⟨f, l, hf, hl, (transcript_records_are_gated_models calls printed p' out h _ _ _ _ _ _).mpr
      ⟨refModel ctx r, hin, hreg, rfl, rfl, rfl, rfl⟩⟩
  · intro x hx
    exact (exon_records_are_model_exons calls printed p' out h).2 (refModel ctx r) hin x hx

theorem createExtendedStorage_eq (ctx : GeneCtx) (novel : List TModel) (hnd : (ctx.isoforms.map (·.tid)).Nodup) :
    createExtendedStorage ctx novel = some (ctx.isoforms.map (refModel ctx) ++ novel) := by
  unfold createExtendedStorage
  have hall : ∀ r ∈ ctx.isoforms, fromReference ctx r.tid = some (refModel ctx r) := by
    intro r hr
    unfold fromReference
    have : ctx.isoforms.find? (fun r' => r'.tid == r.tid) = some r := by
      simpa using find?_key (·.tid) (fun _ => true) hnd hr
    rw [this]; rfl
  rw [mapM_all_some _ _ _ hall]
  rfl

/-- **extended_is_reference_plus_novel** (storage): with pairwise distinct annotated transcript ids,
    `create_extended_storage` is exactly: one verbatim model per annotated transcript, in annotation order, followed by
    the novel models, unchanged -/
theorem extended_is_reference_plus_novel (ctx : GeneCtx) (novel ms : List TModel)
    (hnd : (ctx.isoforms.map (·.tid)).Nodup) (h : createExtendedStorage ctx novel = some ms) :
    ms = ctx.isoforms.map (refModel ctx) ++ novel := by
  rw [createExtendedStorage_eq ctx novel hnd] at h
  simpa using h.symm

-- non-vacuity of the storage theorem
example : createExtendedStorage { chr := 0, isoforms := [{ tid := 1, gid := 5, strand := 0, exons := [(3, 9)] }] }
    [{ chr := 0, strand := 1, tid := 2, gid := 6, exons := [(20, 30)], known := false }] =
    some [{ chr := 0, strand := 0, tid := 1, gid := 5, exons := [(3, 9)], known := true },
          { chr := 0, strand := 1, tid := 2, gid := 6, exons := [(20, 30)], known := false }] := by decide +kernel

/-- the novel models collected over the `transcript_models.gtf` history (`novel_model_storage`) -/
def novelOf (calls : List Call) : List TModel := calls.flatMap (fun cl => cl.models.filter (fun m => !m.known))

/-- **extended_records**: the transcript records of `extended_annotation.gtf` (one dump of the extended storage on a
    fresh printer) are exactly: the verbatim record of every annotated transcript that passes the gate, plus the records
    of the novel models - and a novel model's record in the extended file is identical (chromosome, coordinates, strand,
    gene, id) to its record in `transcript_models.gtf`. -/
theorem extended_records (ctx : GeneCtx) (calls : List Call) (ms : List TModel)
    (hnd : (ctx.isoforms.map (·.tid)).Nodup)
    (hs : createExtendedStorage ctx (novelOf calls) = some ms)
    (pT pE : List Id) (outT outE : List Line)
    (hT : runCalls [] calls = some (pT, outT)) (hE : dump [] ctx ms = some (pE, outE)) :
    ∀ c s e st g t, Line.tx c s e st g t ∈ outE ↔
      ((∃ r ∈ ctx.isoforms, validateExons r.exons = true ∧ regionOf? (refModel ctx r) = some (s, e) ∧
          c = ctx.chr ∧ st = r.strand ∧ g = r.gid ∧ t = r.tid) ∨
       (Line.tx c s e st g t ∈ outT ∧ ∃ m, InHistory calls m ∧ m.known = false ∧ m.tid = t ∧ m.gid = g ∧
          regionOf? m = some (s, e) ∧ m.chr = c ∧ m.strand = st)) := by
  intro c s e st g t
  have hms := extended_is_reference_plus_novel ctx (novelOf calls) ms hnd hs
  rw [dump_tx_line hE, hms]
  have hnovel : ∀ m, m ∈ novelOf calls ∧ validM m = true ↔ (InHistory calls m ∧ m.known = false) := by
    intro m
    unfold novelOf InHistory
    simp only [List.mem_flatMap, List.mem_filter, Bool.not_eq_true']
    constructor
    · rintro ⟨⟨cl, hcl, hm, hk⟩, hv⟩; exact ⟨⟨cl, hcl, hm, hv⟩, hk⟩
    · rintro ⟨⟨cl, hcl, hm, hv⟩, hk⟩; exact ⟨⟨cl, hcl, hm, hk⟩, hv⟩
  constructor
  · rintro ⟨m, hm, hv, hreg, hc, hst, hg, ht⟩
    rcases List.mem_append.mp hm with hm | hm
    · obtain ⟨r, hr, hre⟩ := List.mem_map.mp hm
      subst hre
      left
      exact ⟨r, hr, hv, hreg, hc.symm, hst.symm, hg.symm, ht.symm⟩
    · right
      have hin := (hnovel m).mp ⟨hm, hv⟩
      refine ⟨?_, m, hin.1, hin.2, ht, hg, hreg, hc, hst⟩
      exact (transcript_records_are_gated_models calls [] pT outT hT c s e st g t).mpr ⟨m, hin.1, hreg, hc, hst, hg, ht⟩
  · rintro (⟨r, hr, hv, hreg, hc, hst, hg, ht⟩ | ⟨_, m, hin, hk, ht, hg, hreg, hc, hst⟩)
    · exact ⟨refModel ctx r, List.mem_append.mpr (Or.inl (List.mem_map_of_mem hr)), hv, hreg, hc.symm, hst.symm, hg.symm, ht.symm⟩
    · have := (hnovel m).mpr ⟨hin, hk⟩
      exact ⟨m, List.mem_append.mpr (Or.inr this.1), this.2, hreg, hc, hst, hg, ht⟩

end IsoVerif.Props.C03Build
