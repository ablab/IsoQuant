/-
C08 — multi-mapped reads resolve to one best locus, order-independently, counted once.
Which records are retained (priority classes, exact duplicates), what happens to the others, how ties are
flagged, and the read's total contribution to a count table.
-/
import IsoVerif.Model.Resolver
import IsoVerif.Lemmas.Resolver
import IsoVerif.Lemmas.ResolverSpec
import IsoVerif.Props.C08Spec

namespace IsoVerif.Props.C08
open IsoVerif.Gen IsoVerif.Model.Resolver IsoVerif.Lemmas.Resolver IsoVerif.Lemmas.ResolverSpec

/-- **priority** (which alignments are handed to duplicate elimination and kept).
    For every non-empty list the resolver keeps `findDuplicates cand` where `cand`, in list order, is
    * exactly the `Winner` records when some record is assigned (consistently or inconsistently),
    * the single first `Winner` record when every record is uninformative. -/
theorem priority_candidates (l : List Rec) (hl : l ≠ []) :
    ∃ cand, candidates l = some cand ∧
      selectBestAssignment l = some (applyKeep l (findDuplicates cand)) ∧
      cand.Sublist l.zipIdx ∧ cand ≠ [] ∧
      (∀ x ∈ cand, Winner l x.1) ∧
      ((Has Cons l ∨ Has Inc l) → ∀ x ∈ l.zipIdx, Winner l x.1 → x ∈ cand) ∧
      (¬ Has Cons l → ¬ Has Inc l →
        ∃ x pre post, cand = [x] ∧ l.zipIdx = pre ++ x :: post ∧ ∀ y ∈ pre, ¬ Winner l y.1) := by
  obtain ⟨hsel, hne, hA, hU⟩ := candidates_eq l hl
  by_cases h : Has Cons l ∨ Has Inc l
  · rw [hA h] at hsel
    exact ⟨_, hA h, hsel, winnersI_sublist l, hne, fun x hx => (mem_winnersI.mp hx).2,
      fun _ x hx hw => mem_winnersI.mpr ⟨hx, hw⟩, fun hc hi => absurd h (not_or.mpr ⟨hc, hi⟩)⟩
  · obtain ⟨hc, hi⟩ := not_or.mp h
    rw [hU hc hi] at hsel
    obtain ⟨z, t, hw⟩ := List.exists_cons_of_ne_nil hne
    obtain ⟨pre, post, hdec, hpre⟩ : ∃ pre post, l.zipIdx = pre ++ z :: post ∧ ∀ y ∈ pre, ¬ Winner l y.1 := by
      classical
      obtain ⟨pre, post, hdec, hpre, _⟩ := List.filter_eq_cons_iff.mp hw
      exact ⟨pre, post, hdec, fun y hy => by simpa using hpre y hy⟩
    exact ⟨_, hU hc hi, hsel, (List.take_sublist _ _).trans (winnersI_sublist l), by simp [hw],
      fun x hx => (mem_winnersI.mp ((List.take_sublist _ _).subset hx)).2, fun hA => absurd hA h,
      fun _ _ => ⟨z, pre, post, by simp [hw], hdec, hpre⟩⟩

theorem resolve_take_best (l : List Rec) (h2 : 2 ≤ l.length) :
    resolve .take_best l = selectBestAssignment l := by
  have : ¬ l.length ≤ 1 := by omega
  simp [resolve, this]

/-- **priority**, on the resolver's output.  For a read with at least two records (none already `suspended`)
    the resolver never raises, and with `retained out` = the output records that are not `suspended`:
    * every retained record is a `Winner` (same alignment, type possibly re-flagged);
    * if some record is assigned, every `Winner` alignment is retained;
    * if no record is assigned, exactly one record is retained. -/
theorem priority (l : List Rec) (h2 : 2 ≤ l.length) (hin : NoSuspendedInput l) :
    ∃ out, resolve .take_best l = some out ∧
      (∀ r' ∈ retained out, ∃ r ∈ l, Winner l r ∧ SameAlignment r r') ∧
      ((Has Cons l ∨ Has Inc l) → ∀ r ∈ l, Winner l r → ∃ r' ∈ retained out, key r' = key r) ∧
      (¬ Has Cons l → ¬ Has Inc l → ∃ r', retained out = [r']) := by
  have hl : l ≠ [] := by intro h; simp [h] at h2
  obtain ⟨cand, _, hsel, hsub, _, hwin, hall, hone⟩ := priority_candidates l hl
  have hret := retained_applyKeep_eq ((findDuplicates_sublist cand).trans hsub) hin
  refine ⟨_, (resolve_take_best l h2).trans hsel, ?_, ?_, ?_⟩
  · intro r' hr'
    rw [hret] at hr'
    obtain ⟨x, hx, rfl⟩ := List.mem_map.mp hr'
    have hxc : x ∈ cand := mem_of_mem_firstWins _ hx
    exact ⟨x.1, List.fst_mem_of_mem_zipIdx (hsub.subset hxc), hwin x hxc, sameAlignment_flag _ _ _⟩
  · intro hassigned r hr hw
    obtain ⟨i, hi⟩ := mem_zipIdx_of_mem hr
    obtain ⟨k, hk, hkr⟩ := firstWins_repr (fun a b : IRec => recEq a.1 b.1) (fun a => recEq_refl a.1) cand (r, i)
      (hall hassigned (r, i) hi hw)
    rw [hret]
    exact ⟨_, List.mem_map_of_mem hk, (key_flag _ _ _).trans (key_eq_of_recEq hkr)⟩
  · intro h1 h2'
    obtain ⟨x, _, _, rfl, _⟩ := hone h1 h2'
    exact ⟨_, hret⟩

theorem take_best_shape (l : List Rec) (h2 : 2 ≤ l.length) (out : List Rec) (hout : resolve .take_best l = some out) :
    ∃ cand, out = applyKeep l (findDuplicates cand) ∧ (findDuplicates cand).Sublist l.zipIdx := by
  have hl : l ≠ [] := by intro h; simp [h] at h2
  obtain ⟨cand, _, hsel, hsub, _⟩ := priority_candidates l hl
  exact ⟨cand, (Option.some.inj ((hsel.symm.trans (resolve_take_best l h2).symm).trans hout)).symm,
    (findDuplicates_sublist cand).trans hsub⟩

theorem take_best_retained (l : List Rec) (h2 : 2 ≤ l.length) (hin : NoSuspendedInput l) (out : List Rec)
    (hout : resolve .take_best l = some out) :
    ∃ kept, kept.Sublist l.zipIdx ∧ out = applyKeep l kept ∧
      retained out = kept.map (fun x => flag (changeT kept) (changeG kept) x.1) := by
  obtain ⟨cand, rfl, hksub⟩ := take_best_shape l h2 out hout
  exact ⟨_, hksub, rfl, retained_applyKeep_eq hksub hin⟩

/-- **the losers are suppressed**: the output is the input list, record by record, with only the type fields and the
    multimapper flag rewritten; a record that is not retained is `suspended` in *both* type fields -/
theorem losers_suspended (l : List Rec) (h2 : 2 ≤ l.length) (hin : NoSuspendedInput l) (out : List Rec)
    (hout : resolve .take_best l = some out) :
    out.length = l.length ∧
    (∀ (i : Nat) (r : Rec), l[i]? = some r → ∃ r', out[i]? = some r' ∧ SameAlignment r r') ∧
    (∀ r' ∈ out, r' ∉ retained out → r'.atype = .suspended ∧ r'.gtype = .suspended) := by
  obtain ⟨kept, _, rfl, _⟩ := take_best_retained l h2 hin out hout
  refine ⟨length_applyKeep _ _, ?_, ?_⟩
  · intro i r hr
    rw [getElem?_applyKeep, hr]
    simp only [Option.map_some, Option.some.injEq, exists_eq_left']
    split
    · exact sameAlignment_flag _ _ _
    · exact sameAlignment_suspend _
  · intro r' hr' hnr
    have hs : r'.atype = .suspended := by
      apply Classical.byContradiction
      intro h; exact hnr (mem_retained.mpr ⟨hr', h⟩)
    obtain ⟨r, i, hri, rfl⟩ := mem_applyKeep hr'
    split at hs
    · exact absurd hs (flag_atype_ne_suspended _ _ _ (hin r (List.fst_mem_of_mem_zipIdx hri)))
    · rename_i hc
      simp only [hc]
      exact ⟨rfl, rfl⟩

/-- **ties_flagged**: when the read is retained on SEVERAL records whose isoforms differ, every retained record is typed
    `ambiguous` / `inconsistent_ambiguous` and marked as a multimapper.  (`hsev`: a tie is a tie between loci - one
    retained record that names two isoforms at its own locus is not one, see `single_winner_untouched`.) -/
theorem ties_flagged (l : List Rec) (h2 : 2 ≤ l.length) (hin : NoSuspendedInput l) (out : List Rec)
    (hout : resolve .take_best l = some out) (hsev : 2 ≤ (retained out).length)
    (htie : ∃ r1 ∈ retained out, ∃ r2 ∈ retained out, ∃ a ∈ r1.isoforms, ∃ b ∈ r2.isoforms, a ≠ b) :
    ∀ r ∈ retained out, (r.atype = .ambiguous ∨ r.atype = .inconsistent_ambiguous) ∧ r.multimapper = true := by
  obtain ⟨kept, _, rfl, hret⟩ := take_best_retained l h2 hin out hout
  have hT : changeT kept = true := (changeT_iff_of_retained hret).mpr ⟨hsev, htie⟩
  intro r hr
  rw [hret] at hr
  obtain ⟨x, _, rfl⟩ := List.mem_map.mp hr
  rw [flag_atype, flag_multimapper, hT, if_pos rfl]
  refine ⟨?_, rfl⟩
  split
  · exact Or.inr rfl
  · exact Or.inl rfl

/-- the same for genes and the gene-level type -/
theorem ties_flagged_genes (l : List Rec) (h2 : 2 ≤ l.length) (hin : NoSuspendedInput l) (out : List Rec)
    (hout : resolve .take_best l = some out) (hsev : 2 ≤ (retained out).length)
    (htie : ∃ r1 ∈ retained out, ∃ r2 ∈ retained out, ∃ a ∈ r1.genes, ∃ b ∈ r2.genes, a ≠ b) :
    ∀ r ∈ retained out, (r.gtype = .ambiguous ∨ r.gtype = .inconsistent_ambiguous) ∧ r.multimapper = true := by
  obtain ⟨kept, _, rfl, hret⟩ := take_best_retained l h2 hin out hout
  have hG : changeG kept = true := (changeG_iff_of_retained hret).mpr ⟨hsev, htie⟩
  intro r hr
  rw [hret] at hr
  obtain ⟨x, _, rfl⟩ := List.mem_map.mp hr
  rw [flag_gtype, flag_multimapper, hG, if_pos rfl]
  refine ⟨?_, by simp⟩
  split
  · exact Or.inr rfl
  · exact Or.inl rfl

/-- conversely: when the read is retained on at most ONE record, or all retained records agree on one isoform and one
    gene, nothing is re-flagged - the retained records are input records, untouched (types and multimapper flag
    included) -/
theorem untouched_without_tie (l : List Rec) (h2 : 2 ≤ l.length) (hin : NoSuspendedInput l) (out : List Rec)
    (hout : resolve .take_best l = some out)
    (hno : (retained out).length ≤ 1 ∨
      ((∀ r1 ∈ retained out, ∀ r2 ∈ retained out, ∀ a ∈ r1.isoforms, ∀ b ∈ r2.isoforms, a = b) ∧
       (∀ r1 ∈ retained out, ∀ r2 ∈ retained out, ∀ a ∈ r1.genes, ∀ b ∈ r2.genes, a = b))) :
    ∀ r ∈ retained out, r ∈ l := by
  obtain ⟨kept, hksub, rfl, hret⟩ := take_best_retained l h2 hin out hout
  have hT : changeT kept = false := Bool.eq_false_iff.mpr fun h => by
    obtain ⟨hlen, r1, hr1, r2, hr2, a, ha, b, hb, hab⟩ := (changeT_iff_of_retained hret).mp h
    rcases hno with h1 | ⟨hiso, _⟩
    · omega
    · exact hab (hiso r1 hr1 r2 hr2 a ha b hb)
  have hG : changeG kept = false := Bool.eq_false_iff.mpr fun h => by
    obtain ⟨hlen, r1, hr1, r2, hr2, a, ha, b, hb, hab⟩ := (changeG_iff_of_retained hret).mp h
    rcases hno with h1 | ⟨_, hgen⟩
    · omega
    · exact hab (hgen r1 hr1 r2 hr2 a ha b hb)
  intro r hr
  rw [hret, hT, hG] at hr
  obtain ⟨x, hx, rfl⟩ := List.mem_map.mp hr
  exact List.fst_mem_of_mem_zipIdx (hksub.subset hx)

/-- **the losers do not influence the winner's record** (docs/C08.md §9): when exactly one record is retained, it
    stands in the output at its own position exactly as it stood in the input - types and multimapper flag included -
    whatever the records that lost were.  (So every consumer downstream - counts, TSV/BED, `IntronCollector`, `IntronGraph`,
    which skip `multimapper` records - sees what it would see had the read no other alignment.) -/
theorem single_winner_untouched (l : List Rec) (h2 : 2 ≤ l.length) (hin : NoSuspendedInput l) (out : List Rec)
    (hout : resolve .take_best l = some out) (r' : Rec) (h1 : retained out = [r']) :
    ∃ i : Nat, l[i]? = some r' ∧ out[i]? = some r' := by
  obtain ⟨kept, hksub, rfl, hret⟩ := take_best_retained l h2 hin out hout
  have hlen : kept.length = 1 := by simpa [h1] using (congrArg List.length hret).symm
  obtain ⟨x, rfl⟩ := List.length_eq_one_iff.mp hlen
  have hT : changeT [x] = false := changeT_of_length_le_one (Nat.le_refl 1)
  have hG : changeG [x] = false := changeG_of_length_le_one (Nat.le_refl 1)
  rw [h1, hT, hG] at hret
  obtain rfl : r' = x.1 := (List.cons.inj hret).1
  have hl : l[x.2]? = some x.1 := List.mem_zipIdx_iff_getElem?.mp (hksub.subset (by simp))
  refine ⟨x.2, hl, ?_⟩
  rw [getElem?_applyKeep, hl, hT, hG]
  simp [flag_false_false]

/-- the typical read of a novel isoform: a primary alignment that is inconsistent w.r.t. both annotated isoforms of its
    gene, and a secondary alignment in an unannotated region that loses -/
def witnessSingle : List Rec := [
  { aid := 1, readId := 0, chr := 0, start := 300, stop := 360, region := (250, 400), multimapper := false, polyA := false,
    atype := .inconsistent_ambiguous, gtype := .inconsistent, penalty := 0, isoforms := [0, 1], genes := [0] },
  { aid := 2, readId := 0, chr := 1, start := 100, stop := 140, region := (90, 200), multimapper := true, polyA := false,
    atype := .intergenic, gtype := .intergenic, penalty := 0, isoforms := [], genes := [] }]

/-- `single_winner_untouched` in membership form (the only retained record is an input record), for an arbitrary
    resolution function -/
def SingleWinnerUntouched (res : List Rec → Option (List Rec)) : Prop :=
  ∀ (l out : List Rec) (r' : Rec), 2 ≤ l.length → NoSuspendedInput l → res l = some out → retained out = [r'] → r' ∈ l

/-- **single_winner_witness**: `filter_assignments` before the `several_kept` fix re-flagged the only retained record as a
    multimapper because it names two isoforms at its own locus - a record that is not an input record comes out, and
    `IntronCollector` / `IntronGraph` skip it: the losing alignment decides whether the novel isoform is discovered.
    The repaired resolver leaves it alone. -/
theorem single_winner_witness :
    (selectBestAssignmentBuggyFlag witnessSingle).map (fun o => o.map (fun r => (r.atype, r.multimapper)))
      = some [(.inconsistent_ambiguous, true), (.suspended, true)] ∧
    ¬ SingleWinnerUntouched selectBestAssignmentBuggyFlag ∧
    (resolve .take_best witnessSingle).map (fun o => o.map (fun r => (r.atype, r.multimapper)))
      = some [(.inconsistent_ambiguous, false), (.suspended, true)] ∧
    SingleWinnerUntouched (resolve .take_best) := by
  refine ⟨by decide +kernel, ?_, by decide +kernel, ?_⟩
  · intro hall
    have h := hall witnessSingle
      [{ witnessSingle[0] with multimapper := true }, suspend witnessSingle[1]] { witnessSingle[0] with multimapper := true }
      (by decide +kernel) (by decide +kernel) (by decide +kernel) (by decide +kernel)
    revert h; decide +kernel
  · intro l out r' h2 hin hout h1
    obtain ⟨i, hi, _⟩ := single_winner_untouched l h2 hin out hout r' h1
    exact List.mem_of_getElem? hi

/-- **dedup_keeps_one** (the duplicate test of `find_duplicates`, for every list of candidates): the survivors are a
    sub-list; no two survivors are equal under `__eq__`; every candidate has an equal survivor; and the first
    candidate of every `__eq__`-class survives - so exactly the first of each class does -/
theorem dedup_keeps_one (cand : List IRec) :
    (findDuplicates cand).Sublist cand ∧
    (findDuplicates cand).Pairwise (fun a b => recEq a.1 b.1 = false) ∧
    (∀ x ∈ cand, ∃ k ∈ findDuplicates cand, recEq k.1 x.1 = true) ∧
    (∀ pre x post, cand = pre ++ x :: post → (∀ y ∈ pre, recEq y.1 x.1 = false) → x ∈ findDuplicates cand) := by
  refine ⟨firstWins_sublist _ cand, firstWins_pairwise _ cand,
    firstWins_repr _ (fun a => recEq_refl a.1) cand, ?_⟩
  intro pre x post h hpre
  subst h
  exact firstWins_first _ pre post x hpre

/-- on the output: no alignment is retained twice -/
theorem retained_pairwise_distinct (l : List Rec) (h2 : 2 ≤ l.length) (hin : NoSuspendedInput l) (out : List Rec)
    (hout : resolve .take_best l = some out) :
    (retained out).Pairwise (fun a b => recEq a b = false) := by
  obtain ⟨cand, rfl, hksub⟩ := take_best_shape l h2 out hout
  rw [retained_applyKeep_eq hksub hin, List.pairwise_map]
  simp only [recEq_flag]
  exact firstWins_pairwise _ cand

/-- full-strength statement of the last clause (FALSE of model and code, see the witness) -/
def ReadTotalLeOne : Prop :=
  ∀ (s : CountingStrategy) (l out : List Rec), NoSuspendedInput l → resolve .take_best l = some out →
    readTotal s out ≤ 1 ∧ readTotalG s out ≤ 1

def witnessTie : List Rec := [
  { aid := 1, readId := 0, chr := 0, start := 300, stop := 360, region := (250, 400), multimapper := false, polyA := false,
    atype := .inconsistent, gtype := .inconsistent, penalty := 0, isoforms := [4], genes := [2] },
  { aid := 2, readId := 0, chr := 0, start := 100, stop := 140, region := (90, 200), multimapper := true, polyA := false,
    atype := .unique, gtype := .unique, penalty := 0, isoforms := [0], genes := [0] },
  { aid := 3, readId := 0, chr := 1, start := 100, stop := 140, region := (90, 200), multimapper := true, polyA := false,
    atype := .unique, gtype := .unique, penalty := 0, isoforms := [2], genes := [1] }]

/-- an inconsistent primary and two secondaries that each match a different isoform: both secondaries are retained,
    flagged `ambiguous`, and each adds 1 - the read adds 2 to the transcript and to the gene table, even under
    `unique_only` (known finding `multilocus_tie_weight`; replayed on the real code by the oracle) -/
theorem read_total_le_one_witness :
    (resolve .take_best witnessTie).map (fun o => (o.map (·.atype), readTotal .unique_only o, readTotalG .unique_only o))
      = some ([.suspended, .ambiguous, .ambiguous], 2, 2) ∧ ¬ ReadTotalLeOne := by
  have h : (resolve .take_best witnessTie).map
      (fun o => (o.map (·.atype), readTotal .unique_only o, readTotalG .unique_only o))
      = some ([.suspended, .ambiguous, .ambiguous], 2, 2) := by decide +kernel
  refine ⟨h, ?_⟩
  intro hall
  cases hr : resolve .take_best witnessTie with
  | none => rw [hr] at h; cases h
  | some o =>
    rw [hr] at h
    simp only [Option.map_some, Option.some.injEq, Prod.mk.injEq] at h
    have := (hall .unique_only witnessTie o (by decide +kernel) hr).1
    rw [h.2.1] at this
    exact absurd this (by decide +kernel)

def witnessTieSameIsoform : List Rec := [
  { aid := 1, readId := 0, chr := 0, start := 300, stop := 360, region := (250, 400), multimapper := false, polyA := false,
    atype := .inconsistent, gtype := .inconsistent, penalty := 0, isoforms := [4], genes := [2] },
  { aid := 2, readId := 0, chr := 0, start := 100, stop := 140, region := (90, 200), multimapper := true, polyA := false,
    atype := .unique, gtype := .unique, penalty := 0, isoforms := [0], genes := [0] },
  { aid := 3, readId := 0, chr := 0, start := 100, stop := 150, region := (90, 200), multimapper := true, polyA := false,
    atype := .unique, gtype := .unique, penalty := 0, isoforms := [0], genes := [0] }]

/-- two retained alignments to the *same* isoform are not even flagged: the isoform gets 2 from one read under
    every strategy (same class of the finding; shows that "the retained records share one feature set" does not help) -/
theorem read_total_same_isoform_witness :
    (resolve .take_best witnessTieSameIsoform).map (fun o => (o.map (·.atype), readTotal .all o, readTotal .unique_only o))
      = some ([.suspended, .unique, .unique], 2, 2) := by decide +kernel

/-- exact value: every retained record adds 0 or 1, so the read's total is the number of retained records that
    carry weight -/
theorem read_total_eq_count (s : CountingStrategy) (out : List Rec) :
    readTotal s out = (((retained out).filter (fun r => decide (recordTotal s r = 1))).length : Rat) ∧
    readTotalG s out = (((retained out).filter (fun r => decide (recordTotalG s r = 1))).length : Rat) :=
  ⟨sumRat_map_zero_one _ (recordTotal_zero_or_one s) _, sumRat_map_zero_one _ (recordTotalG_zero_or_one s) _⟩

/-- the clause holds exactly when at most one retained record carries weight -/
theorem read_total_le_one_iff (s : CountingStrategy) (out : List Rec) :
    readTotal s out ≤ 1 ↔ ((retained out).filter (fun r => decide (recordTotal s r = 1))).length ≤ 1 := by
  rw [(read_total_eq_count s out).1, natCast_le_one_iff]

/-- **read_total_le_one_partial**: the clause for every read that is retained on at most one alignment record
    (what is missing for the full statement: reads retained on several records, see the two witnesses) -/
theorem read_total_le_one_partial (s : CountingStrategy) (out : List Rec) (h : (retained out).length ≤ 1) :
    readTotal s out ≤ 1 ∧ readTotalG s out ≤ 1 := by
  obtain ⟨h1, h2⟩ := read_total_eq_count s out
  rw [h1, h2, natCast_le_one_iff, natCast_le_one_iff]
  exact ⟨Nat.le_trans (List.length_filter_le _ _) h, Nat.le_trans (List.length_filter_le _ _) h⟩

/-- in particular for every read whose records are all uninformative (exactly one is retained) -/
theorem read_total_le_one_unassigned (s : CountingStrategy) (l : List Rec) (h2 : 2 ≤ l.length) (hin : NoSuspendedInput l)
    (hc : ¬ Has Cons l) (hi : ¬ Has Inc l) :
    ∃ out, resolve .take_best l = some out ∧ readTotal s out ≤ 1 ∧ readTotalG s out ≤ 1 := by
  obtain ⟨out, hout, _, _, hone⟩ := priority l h2 hin
  obtain ⟨r', hr'⟩ := hone hc hi
  exact ⟨out, hout, read_total_le_one_partial s out (by simp [hr'])⟩

/-- `ignore_multimapper`: every record of a read with several records is suspended -/
theorem ignore_multimapper_suspends_all (l : List Rec) (h2 : 2 ≤ l.length) :
    ∃ out, resolve .ignore_multimapper l = some out ∧ retained out = [] := by
  have : ¬ l.length ≤ 1 := by omega
  have hres : resolve .ignore_multimapper l = some (l.map (fun r => { r with atype := .suspended })) := by
    simp [resolve, this]
  refine ⟨_, hres, ?_⟩
  simp [retained, List.filter_eq_nil_iff]

/-- `merge` raises (`TypeError`: `find_duplicates` subscripts a `set`) as soon as two records are not
    `noninformative`; the command line hard-wires `take_best`, so the pipeline never gets here -/
theorem merge_raises_witness :
    resolve .merge witnessTie = none ∧ cli_multimap_strategy = "take_best" := by decide +kernel

/-- `BasicReadAssignment.penalty_score` is `min(0, first match penalty)`: for the non-negative penalties the assigner
    produces it is always 0, so "least penalty" never separates two inconsistent alignments in the pipeline -/
theorem compact_penalty_zero (ps : List Int) (h : ∀ p ∈ ps, 0 ≤ p) : compactPenalty ps = 0 := by
  match ps, h with
  | [], _ => rfl
  | p0 :: rest, h =>
    have h0 : 0 ≤ p0 := h p0 (by simp)
    simp only [compactPenalty]
    have : ∀ (xs : List Int) (acc : Int), acc = 0 → xs.foldl (fun acc _ => min acc p0) acc = 0 := by
      intro xs
      induction xs with
      | nil => intro acc h; simpa using h
      | cons x xs ih => intro acc h; simp only [List.foldl_cons]; exact ih _ (by omega)
    exact this _ 0 rfl

-- hypotheses of `priority` / `ties_flagged` / `losers_suspended` are met by a concrete read, and both sides are live
example : 2 ≤ witnessTie.length ∧ NoSuspendedInput witnessTie ∧ Has Cons witnessTie ∧
    (resolve .take_best witnessTie).map (fun o => (retained o).map (fun r => (r.aid, r.atype, r.multimapper)))
      = some [(2, .ambiguous, true), (3, .ambiguous, true)] := by
  refine ⟨by decide +kernel, by decide +kernel, ⟨witnessTie[1], by decide +kernel, by decide +kernel⟩, by decide +kernel⟩

-- `ties_flagged` needs `hsev`: without it the statement is false of the repaired resolver (one retained record naming
-- two isoforms meets `htie` with r1 = r2 and is NOT flagged); `single_winner_untouched` / `untouched_without_tie` are live
example : 2 ≤ witnessSingle.length ∧ NoSuspendedInput witnessSingle ∧
    (resolve .take_best witnessSingle).map (fun o => (retained o, (retained o).length)) = some ([witnessSingle[0]], 1) ∧
    (∃ a ∈ witnessSingle[0].isoforms, ∃ b ∈ witnessSingle[0].isoforms, a ≠ b) := by
  refine ⟨by decide +kernel, by decide +kernel, by decide +kernel, 0, by decide +kernel, 1, by decide +kernel, by decide +kernel⟩

-- a primary unique-consistent record beats a consistent secondary and an inconsistent primary
example : (resolve .take_best [
    { aid := 1, readId := 0, chr := 0, start := 10, stop := 50, region := (1, 90), multimapper := true, polyA := false,
      atype := .unique, gtype := .unique, penalty := 0, isoforms := [1], genes := [0] },
    { aid := 2, readId := 0, chr := 1, start := 10, stop := 50, region := (1, 90), multimapper := false, polyA := false,
      atype := .unique_minor_difference, gtype := .unique_minor_difference, penalty := 0, isoforms := [2], genes := [1] },
    { aid := 3, readId := 0, chr := 2, start := 10, stop := 50, region := (1, 90), multimapper := false, polyA := false,
      atype := .inconsistent, gtype := .inconsistent, penalty := 0, isoforms := [3], genes := [1] }]).map
      (fun o => o.map (fun r => (r.atype, r.gtype))) =
    some [(.suspended, .suspended), (.unique_minor_difference, .unique_minor_difference), (.suspended, .suspended)] := by
  decide +kernel

-- exact duplicates: the first of two `__eq__`-equal consistent records survives, the read stays unique
example : (resolve .take_best [
    { aid := 1, readId := 0, chr := 0, start := 10, stop := 50, region := (1, 90), multimapper := true, polyA := false,
      atype := .unique, gtype := .unique, penalty := 0, isoforms := [1], genes := [0] },
    { aid := 2, readId := 0, chr := 0, start := 10, stop := 50, region := (5, 95), multimapper := true, polyA := false,
      atype := .unique, gtype := .unique, penalty := 0, isoforms := [1], genes := [0] }]).map
      (fun o => o.map (fun r => (r.aid, r.atype, r.multimapper))) =
    some [(1, .unique, true), (2, .suspended, true)] := by decide +kernel

-- the tie witness is retained on 2 records (outside `read_total_le_one_partial`); its second record weighs one
example : (resolve .take_best witnessTie).map (fun o => (retained o).length) = some 2 ∧
    recordTotal .unique_only witnessTie[1] = 1 := by decide +kernel


end IsoVerif.Props.C08
