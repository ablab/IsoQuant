/-
C05 — contig sets (`Model/ContigSets.lean`): which alignments a run visits when the contig sets of BAM header and reference
FASTA differ.  Clause of the statement: "every primary alignment that passes the documented filters is reported … and the
alignment statistics in the log equal the per-category record counts of the input".
-/
import IsoVerif.Model.ContigSets

namespace IsoVerif.Props.C05Contigs
open IsoVerif.Model.C05C

/-- the records lie on contigs of the header (what a BAM file is) -/
def WellFormed (r : Run) : Prop := ∀ a ∈ r.alns, a.contig ∈ r.header

/-- **collected_iff** (repaired run, ∀ runs): a record is visited iff its contig is a key of the FASTA (and of the header) -/
theorem collected_iff (r : Run) (a : Aln) : a ∈ collectRun r ↔ a ∈ r.alns ∧ a.contig ∈ r.fastaKeys ∧ a.contig ∈ r.header := by
  simp only [collectRun, List.mem_flatMap, task, fetchContig]
  constructor
  · rintro ⟨c, hc, ha⟩
    by_cases hh : c ∈ r.header
    · simp only [hh, if_true, List.mem_filter, beq_iff_eq] at ha
      obtain ⟨h1, h2⟩ := ha
      subst h2
      exact ⟨h1, hc, hh⟩
    · simp [hh] at ha
  · rintro ⟨h1, h2, h3⟩
    exact ⟨a.contig, h2, by simp [h3, h1]⟩

/-- the clause at full strength: every mapped record of the input is visited -/
def EveryAlignmentVisited (r : Run) : Prop := ∀ a ∈ r.alns, a ∈ collectRun r

/-- **every_alignment_visited_iff**: on a well-formed BAM the clause holds exactly when every contig that carries an alignment
    is a key of the FASTA -/
theorem every_alignment_visited_iff (r : Run) (hw : WellFormed r) :
    EveryAlignmentVisited r ↔ ∀ a ∈ r.alns, a.contig ∈ r.fastaKeys := by
  unfold EveryAlignmentVisited
  constructor
  · intro h a ha; exact ((collected_iff r a).mp (h a ha)).2.1
  · intro h a ha; exact (collected_iff r a).mpr ⟨ha, h a ha, hw a ha⟩

/-- **every_alignment_visited_partial**: … in particular when the header's contigs are keys of the FASTA -/
theorem every_alignment_visited_partial (r : Run) (hw : WellFormed r) (hsub : ∀ c ∈ r.header, c ∈ r.fastaKeys) :
    EveryAlignmentVisited r :=
  (every_alignment_visited_iff r hw).mpr (fun a ha => hsub _ (hw a ha))

/-- the run of the pipeline witness `bam_only_contig`: contigs 1 and 2 in the BAM, only 1 in the FASTA -/
def bamOnlyRun : Run :=
  { fastaKeys := [1], header := [1, 2], alns := [⟨10, 1, 0⟩, ⟨11, 1, 0⟩, ⟨20, 2, 0⟩] }

/-- **every_alignment_visited_witness**: the record on the contig the FASTA lacks is not visited; the log statistic says 2, the
    input has 3 primary records; the unrepaired code (`collectRunOrig`) behaves the same (no exception) -/
theorem every_alignment_visited_witness :
    ¬ EveryAlignmentVisited bamOnlyRun ∧ statOf (collectRun bamOnlyRun) 0 = 2 ∧ statOf bamOnlyRun.alns 0 = 3 ∧
    collectRunOrig bamOnlyRun = some (collectRun bamOnlyRun) ∧ skipped bamOnlyRun = [⟨20, 2, 0⟩] := by
  refine ⟨?_, by decide +kernel, by decide +kernel, by decide +kernel, by decide +kernel⟩
  intro h
  have := h ⟨20, 2, 0⟩ (by decide +kernel)
  revert this
  decide +kernel

-- non-vacuity of the partial theorem
example : WellFormed ⟨[2, 1, 3], [1, 2], [⟨10, 1, 0⟩, ⟨20, 2, 1⟩]⟩ ∧ (∀ c ∈ [1, 2], c ∈ [2, 1, 3]) := by
  constructor
  · intro a ha; revert a; decide +kernel
  · decide +kernel

theorem countP_split (p q : Aln → Bool) (l : List Aln) :
    l.countP p = l.countP (fun a => p a && q a) + l.countP (fun a => p a && !q a) := by
  induction l with
  | nil => simp
  | cons a t ih =>
    simp only [List.countP_cons]
    by_cases hp : p a = true <;> by_cases hq : q a = true <;> simp [hp, hq] <;> omega

theorem count_key_split (hdr cs : List Id) (c : Id) (cat : Nat) (hc : c ∉ cs) (l : List Aln) (hl : ∀ a ∈ l, a.contig ∈ hdr) :
    l.countP (fun a => a.cat == cat && (c :: cs).contains a.contig) =
      (if c ∈ hdr then l.countP (fun a => a.cat == cat && a.contig == c) else 0) +
      l.countP (fun a => a.cat == cat && cs.contains a.contig) := by
  -- split by "the contig is `c`"; no record lies on a contig outside the header
  rw [countP_split _ (fun a => a.contig == c)]
  congr 1
  · by_cases hch : c ∈ hdr
    · rw [if_pos hch]
      exact List.countP_congr fun a _ => by by_cases h : a.contig = c <;> simp [h]
    · rw [if_neg hch, List.countP_eq_zero]
      intro a ha
      have : a.contig ≠ c := fun h => hch (h ▸ hl a ha)
      simp [this]
  · exact List.countP_congr fun a _ => by by_cases h : a.contig = c <;> simp [h, hc]

theorem count_flatMap_task (r : Run) (hw : WellFormed r) (cat : Nat) (keys : List Id) (hnd : keys.Nodup) :
    statOf (keys.flatMap (task r)) cat = r.alns.countP (fun a => a.cat == cat && keys.contains a.contig) := by
  induction keys with
  | nil => simp [statOf]
  | cons c cs ih =>
    simp only [List.nodup_cons] at hnd
    have h1 : statOf (task r c) cat = if c ∈ r.header then r.alns.countP (fun a => a.cat == cat && a.contig == c) else 0 := by
      unfold task fetchContig statOf
      by_cases hc : c ∈ r.header
      · simp only [hc, if_true, List.countP_filter]
      · simp [hc]
    have happ : statOf (task r c ++ cs.flatMap (task r)) cat = statOf (task r c) cat + statOf (cs.flatMap (task r)) cat := by
      simp [statOf, List.countP_append]
    rw [List.flatMap_cons, happ, h1, ih hnd.2, count_key_split r.header cs c cat hnd.1 r.alns hw]

/-- **statistics_split**: per category, the records of the input = the records the log counts + the records the warning
    announces (FASTA keys pairwise distinct, BAM well-formed) -/
theorem statistics_split (r : Run) (hw : WellFormed r) (hnd : r.fastaKeys.Nodup) (cat : Nat) :
    statOf r.alns cat = statOf (collectRun r) cat + statOf (skipped r) cat := by
  have h1 := count_flatMap_task r hw cat r.fastaKeys hnd
  have h2 : statOf (skipped r) cat = r.alns.countP (fun a => a.cat == cat && !(r.fastaKeys.contains a.contig)) := by
    unfold skipped statOf
    rw [List.countP_filter]
  rw [show collectRun r = r.fastaKeys.flatMap (task r) from rfl, h1, h2]
  exact countP_split (fun a => a.cat == cat) (fun a => r.fastaKeys.contains a.contig) r.alns

-- non-vacuity: 3 = 2 + 1 on the witness run
example : WellFormed bamOnlyRun ∧ bamOnlyRun.fastaKeys.Nodup ∧ statOf (skipped bamOnlyRun) 0 = 1 := by
  refine ⟨?_, by decide +kernel, by decide +kernel⟩
  intro a ha; revert a; decide +kernel

/-- **collect_orig_none_iff**: the unrepaired run aborts iff a key of the FASTA is missing from the BAM header -/
theorem collect_orig_none_iff (r : Run) : collectRunOrig r = none ↔ ∃ c ∈ r.fastaKeys, c ∉ r.header := by
  unfold collectRunOrig
  generalize r.fastaKeys = keys
  induction keys with
  | nil => simp [collectRunOrigAux]
  | cons c cs ih =>
    simp only [collectRunOrigAux, taskOrig, List.mem_cons, exists_eq_or_imp]
    by_cases hc : c ∈ r.header
    · simp only [hc, if_true, not_true_eq_false, false_or]
      cases h : collectRunOrigAux r cs with
      | none => simp only [true_iff]; exact ih.mp h
      | some rest =>
        simp only [reduceCtorEq, false_iff]
        intro hex
        have := ih.mpr hex
        rw [h] at this
        cases this
    · simp [hc]

/-- **collect_repair_conservative**: wherever the unrepaired run reached its end, the repaired run visits the same records in the
    same order -/
theorem collect_repair_conservative (r : Run) (l : List Aln) (h : collectRunOrig r = some l) : collectRun r = l := by
  unfold collectRunOrig at h
  unfold collectRun
  generalize r.fastaKeys = keys at h
  induction keys generalizing l with
  | nil => simpa [collectRunOrigAux] using h
  | cons c cs ih =>
    simp only [collectRunOrigAux, taskOrig] at h
    by_cases hc : c ∈ r.header
    · simp only [hc, if_true] at h
      cases h2 : collectRunOrigAux r cs with
      | none => simp [h2] at h
      | some rest =>
        simp only [h2, Option.some.injEq] at h
        subst h
        simp only [List.flatMap_cons, task, hc, if_true, ih rest h2]
    · simp [hc] at h

/-- the run of the pipeline witness `fasta_only_chrom`: contig 3 is a key of the FASTA, the BAM header lists 1 and 2 -/
def fastaOnlyRun : Run :=
  { fastaKeys := [1, 2, 3], header := [1, 2], alns := [⟨10, 1, 0⟩, ⟨20, 2, 0⟩] }

/-- **collect_orig_witness**: the unrepaired run aborts although every record of the input could be visited; the repaired run
    visits all of them -/
theorem collect_orig_witness :
    collectRunOrig fastaOnlyRun = none ∧ collectRun fastaOnlyRun = fastaOnlyRun.alns ∧ skipped fastaOnlyRun = [] := by decide +kernel

end IsoVerif.Props.C05Contigs
