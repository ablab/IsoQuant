/-
C11 — translation equivariance of the exon-id allocation (Model/Ids.lean, property C17's model of
`FeatureIdStorage.__init__ / get_id`): the storage is keyed by `(chr, start, end, strand)`; with the reference features and
the queried exons shifted by k, every call returns the SAME `exon_id` (reference ids for reference exons, the same fresh
`chr.N` numbers in the same order for novel ones), for every call history, every distributor state and every k.
The transcript / gene id allocators (`ExcludingIdDistributor`, `stepEvent`) take no coordinate at all.
-/
import IsoVerif.Model.Ids
import IsoVerif.Model.C11SymIds
import IsoVerif.Lemmas.Ids
import IsoVerif.Lemmas.MapComm

namespace IsoVerif.Props.C11Ids
open IsoVerif.Model IsoVerif.Model.C11 IsoVerif.Model.C17 IsoVerif.Lemmas.C17 IsoVerif.Lemmas.MapComm

theorem shiftEK_injective (k : Int) (a b : ExonKey) : shiftEK k a = shiftEK k b ↔ a = b := by
  obtain ⟨a1, a2, a3, a4⟩ := a
  obtain ⟨b1, b2, b3, b4⟩ := b
  simp only [shiftEK, Prod.mk.injEq]
  constructor
  · rintro ⟨h1, h2, h3, h4⟩; exact ⟨h1, by omega, by omega, h4⟩
  · rintro ⟨h1, h2, h3, h4⟩; exact ⟨h1, by omega, by omega, h4⟩

theorem shift_equivariant_dictGet (k : Int) (e : ExonKey) (d : List (ExonKey × Str)) :
    dictGet (shiftEK k e) (d.map (fun p => (shiftEK k p.1, p.2))) = dictGet e d := by
  induction d with
  | nil => rfl
  | cons p ps ih =>
    obtain ⟨pk, pv⟩ := p
    simp only [List.map_cons, dictGet, shiftEK_injective, ih]

theorem loadRecord_shift (k : Int) (chr : Str) (st : FeatureIdStorage) (f : RefRecord) :
    FeatureIdStorage.loadRecord chr (shiftIdStorage k st) (shiftRefRecord k f) =
      shiftIdStorage k (FeatureIdStorage.loadRecord chr st f) := by
  obtain ⟨ty, ft⟩ := f
  simp only [FeatureIdStorage.loadRecord, shiftRefRecord, shiftRefFeature]
  cases ft.idAttr with
  | none => rfl
  | some l => cases l <;> cases ty <;> rfl

/-- loading the shifted reference records of every feature type (`exon_id` values of CDS / codon / UTR records reserved
    in `used_ids`, `id_dict` filled from the `exon` records) gives the shifted dictionary and the same `used_ids` -/
theorem shift_equivariant_initRecords (k : Int) (dist : IdDistributor) (genedb : Option (List RefRecord)) (chr : Str) :
    FeatureIdStorage.initRecords dist (genedb.map (List.map (shiftRefRecord k))) chr =
      shiftIdStorage k (FeatureIdStorage.initRecords dist genedb chr) := by
  cases genedb with
  | none => rfl
  | some recs =>
    simp only [Option.map_some, FeatureIdStorage.initRecords]
    split
    · rfl
    · exact foldl_map_comm (shiftIdStorage k) (shiftRefRecord k) _ _ (loadRecord_shift k chr) recs ⟨dist, [], []⟩

/-- the same for the storage loaded from the exon records alone: it is the storage loaded from records that are all
    exons (`initRecords_of_features`) -/
theorem shift_equivariant_init (k : Int) (dist : IdDistributor) (genedb : Option (List RefFeature)) (chr : Str) :
    FeatureIdStorage.init dist (genedb.map (List.map (shiftRefFeature k))) chr =
      shiftIdStorage k (FeatureIdStorage.init dist genedb chr) := by
  rw [← initRecords_of_features, ← initRecords_of_features, ← shift_equivariant_initRecords]
  cases genedb with
  | none => rfl
  | some l => simp only [Option.map_some, List.map_map]; rfl

/-- **shift_equivariant_getId** — one `get_id` call on the shifted storage for the shifted exon: the same id -/
theorem shift_equivariant_getId (k : Int) (st : FeatureIdStorage) (e : ExonKey) :
    (shiftIdStorage k st).getId (shiftEK k e) = (st.getId e).map (fun r => (r.1, shiftIdStorage k r.2)) := by
  simp only [FeatureIdStorage.getId, shiftIdStorage, shift_equivariant_dictGet]
  cases dictGet e st.dict with
  | some id => rfl
  | none =>
    have : (shiftEK k e).1 = e.1 := rfl
    simp only [this]
    cases freshLoop e.1 st.used (st.used.length + 1) st.dist with
    | none => rfl
    | some r => rfl

/-- **shift_equivariant_getIds** — a whole call history -/
theorem shift_equivariant_getIds (k : Int) (es : List ExonKey) : ∀ (st : FeatureIdStorage),
    (shiftIdStorage k st).getIds (es.map (shiftEK k)) = (st.getIds es).map (fun r => (r.1, shiftIdStorage k r.2)) := by
  induction es with
  | nil => intro st; rfl
  | cons e t ih =>
    intro st
    simp only [List.map_cons, FeatureIdStorage.getIds, shift_equivariant_getId]
    cases st.getId e with
    | none => rfl
    | some r =>
      simp only [Option.map_some, ih]
      cases r.2.getIds t <;> rfl

/-- the ids written for the exons of a chromosome: reference annotation and queries shifted, ids unchanged -/
theorem shift_equivariant_exon_ids (k : Int) (dist : IdDistributor) (genedb : Option (List RefFeature)) (chr : Str)
    (es : List ExonKey) :
    ((FeatureIdStorage.init dist (genedb.map (List.map (shiftRefFeature k))) chr).getIds (es.map (shiftEK k))).map (·.1) =
      ((FeatureIdStorage.init dist genedb chr).getIds es).map (·.1) := by
  rw [shift_equivariant_init, shift_equivariant_getIds]
  cases (FeatureIdStorage.init dist genedb chr).getIds es <;> rfl

/-- … and with a reference that carries `exon_id` on records of other feature types as well -/
theorem shift_equivariant_exon_ids_records (k : Int) (dist : IdDistributor) (genedb : Option (List RefRecord))
    (chr : Str) (es : List ExonKey) :
    ((FeatureIdStorage.initRecords dist (genedb.map (List.map (shiftRefRecord k))) chr).getIds (es.map (shiftEK k))).map (·.1) =
      ((FeatureIdStorage.initRecords dist genedb chr).getIds es).map (·.1) := by
  rw [shift_equivariant_initRecords, shift_equivariant_getIds]
  cases (FeatureIdStorage.initRecords dist genedb chr).getIds es <;> rfl

/-- non-vacuity: reference exon `E7`, its CDS with the id `chr1.1` of its own: the novel exon gets `chr1.2` -/
example :
    let chr : Str := "chr1".toList
    let db : List RefRecord := [⟨true, 100, 200, "+".toList, some ["E7".toList]⟩, ⟨false, 120, 180, "+".toList, some ["chr1.1".toList]⟩]
    let calls : List ExonKey := [(chr, 100, 200, "+".toList), (chr, 300, 400, "+".toList), (chr, 300, 400, "+".toList)]
    ((FeatureIdStorage.initRecords SimpleIDDistributor.init (some db) chr).getIds calls).map (·.1) =
      some ["E7".toList, "chr1.2".toList, "chr1.2".toList] ∧
    ((FeatureIdStorage.initRecords SimpleIDDistributor.init (some (db.map (shiftRefRecord 1000))) chr).getIds
      (calls.map (shiftEK 1000))).map (·.1) = some ["E7".toList, "chr1.2".toList, "chr1.2".toList] := by decide

/-- non-vacuity: a reference exon keeps its reference id, a novel one gets `chr1.1`, before and after a shift by 1000 -/
example :
    let chr : Str := "chr1".toList
    let db : List RefFeature := [⟨100, 200, "+".toList, some ["E7".toList]⟩]
    let calls : List ExonKey := [(chr, 100, 200, "+".toList), (chr, 300, 400, "+".toList), (chr, 300, 400, "+".toList)]
    ((FeatureIdStorage.init SimpleIDDistributor.init (some db) chr).getIds calls).map (·.1) =
      some ["E7".toList, "chr1.1".toList, "chr1.1".toList] ∧
    ((FeatureIdStorage.init SimpleIDDistributor.init (some (db.map (shiftRefFeature 1000))) chr).getIds
      (calls.map (shiftEK 1000))).map (·.1) = some ["E7".toList, "chr1.1".toList, "chr1.1".toList] := by decide

end IsoVerif.Props.C11Ids
