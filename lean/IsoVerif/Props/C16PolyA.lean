/-
C16 — removing terminal exons that consist of an aligned polyA/polyT tail never produces an empty or
unordered exon list and moves the recorded tail position onto the retained exon.
Model: IsoVerif/Model/PolyA.lean (`addPolyaInfo` = the code after the fix commit, `addPolyaInfoBuggy` = the pinned
tree).  Helper lemmas: IsoVerif/Lemmas/PolyA.lean (a run as one record of facts: `TrimRun`), IsoVerif/Lemmas/TailExons.lean (its
projections `TrimRun.onRetainedA`, `TrimRun.onRetainedT`, through which the theorems on the position go).
-/
import IsoVerif.Model.PolyA
import IsoVerif.Lemmas.TailExons

namespace IsoVerif.Props.C16PolyA
open IsoVerif.Gen IsoVerif.Model IsoVerif.Model.C16 IsoVerif.Lemmas.C16

/-- **trim_nonempty_sorted** (full strength, fixed code) — for every non-empty exon list, every polyA/polyT
    position quadruple and every `max_fake_terminal_exon_len`: `add_polya_info` does not raise, the exon list
    it leaves is non-empty, is a contiguous part of the input (only terminal exons are removed), is sorted and
    disjoint whenever the input is, and the read/cigar block lists are cut in step with it. -/
theorem trim_nonempty_sorted (mf : Int) (exons rb cb : List Iv) (info : PolyAInfo) (hne : exons ≠ []) :
    ∃ r, addPolyaInfo mf exons rb cb info = some r ∧ r.exons ≠ [] ∧ r.exons <:+: exons ∧
      (SD exons → SD r.exons) ∧
      (rb.length = exons.length → r.readBlocks.length = r.exons.length) ∧
      (cb.length = exons.length → r.cigarBlocks.length = r.exons.length) := by
  obtain ⟨r, a, t, run⟩ := addPolyaInfo_run mf exons rb cb info hne
  have hlt := run.lt
  refine ⟨r, run.res, ?_, ?_, ?_, ?_, ?_⟩
  · intro h
    have : r.exons.length = 0 := by rw [h]; rfl
    rw [run.exons_eq, List.length_drop, List.length_take] at this
    omega
  · rw [run.exons_eq]
    exact List.IsInfix.trans (List.drop_suffix _ _).isInfix (List.take_prefix _ _).isInfix
  · intro hsd; rw [run.exons_eq]; exact (hsd.take _).drop _
  · intro h; rw [run.exons_eq, run.readBlocks_eq]; simp [h]
  · intro h; rw [run.exons_eq, run.cigarBlocks_eq]; simp [h]

/-- non-vacuity: a three-exon read whose polyA and polyT counts overlap ((2,2) on three exons, the input that
    crashed the pinned tree) is trimmed to its middle exon by the fixed code -/
example : (addPolyaInfo 40 [(1001, 1032), (1133, 1160), (1261, 1296)] [(0, 31), (32, 59), (60, 95)]
      [(0, 0), (2, 2), (4, 4)] ⟨-1, -1, 1032, 1159⟩).map (·.exons) = some [(1133, 1160)] := by decide

/-- **trim_empty_witness** — the pinned tree (`polyt + polya == len` guard only) fails the clause: the same
    read makes `add_polya_info` raise (`IndexError` in `shift_polyt`, after the exon list was cut to one exon
    and two more were to be removed); reachable from a real BAM record (`T32 A12 T16 A36`, `32M100N28M100N36M`) -/
theorem trim_empty_witness :
    correctReadInfoBuggy 40 [(1001, 1032), (1133, 1160), (1261, 1296)] ⟨-1, -1, 1032, 1159⟩ = some (2, 2) ∧
    addPolyaInfoBuggy 40 [(1001, 1032), (1133, 1160), (1261, 1296)] [(0, 31), (32, 59), (60, 95)]
      [(0, 0), (2, 2), (4, 4)] ⟨-1, -1, 1032, 1159⟩ = none := by decide

/-- second witness: counts (2,2) on two exons ask for four exons to be removed -/
theorem trim_two_exons_witness :
    correctReadInfoBuggy 40 [(1, 10), (20, 30)] ⟨-1, -1, 1, 30⟩ = some (2, 2) ∧
    addPolyaInfoBuggy 40 [(1, 10), (20, 30)] [(0, 9), (10, 20)] [(0, 0), (2, 2)] ⟨-1, -1, 1, 30⟩ = none := by
  decide

/-- **counts_disjoint_of_ordered** — when the internal polyT end does not lie after the internal polyA start
    (or one of them is absent) no exon is counted on both sides, so the two counts never exceed the number of
    exons: the over-count needs a polyA start *before* a polyT end -/
theorem counts_disjoint_of_ordered (mf : Int) (exons : List Iv) (posA posT : Int)
    (h : posT ≤ posA ∨ posA = -1 ∨ posT = -1) :
    countPolyaExons mf exons posA + countPolytExons mf exons posT ≤ exons.length := by
  have ha := countPolyaExons_bounds mf exons posA
  have ht := countPolytExons_bounds mf exons posT
  by_cases hA : posA = -1
  · simp only [countPolyaExons, hA, if_true] at ha ⊢; omega
  by_cases hT : posT = -1
  · simp only [countPolytExons, hT, if_true] at ht ⊢; omega
  have hle : posT ≤ posA := by omega
  have h1 := countPolyaLoop_le_countP mf posA exons.reverse 0
  have h2 := countPolytLoop_le_countP mf posT exons 0
  rw [List.countP_reverse] at h1
  have h3 := IsoVerif.Lemmas.countP_add_le_of_disjoint (polyaCounted mf posA) (polytCounted mf posT) exons (by
    intro e _ ⟨hpa, hpt⟩
    simp only [polyaCounted, polytCounted, isPolyaExon, isPolytExon, Bool.and_eq_true, Bool.or_eq_true,
      decide_eq_true_eq] at hpa hpt
    omega)
  simp only [countPolyaExons, countPolytExons, hA, hT, if_false]
  omega

example : (1159 : Int) ≤ 1200 ∨ (1200 : Int) = -1 ∨ (1159 : Int) = -1 := by decide

/-- **trim_nonempty_partial** (pinned tree) — on inputs whose counts do not overlap the old guard already behaved
    like the fixed code; with `counts_disjoint_of_ordered` this covers every read whose internal polyT end is not
    after its internal polyA start -/
theorem trim_nonempty_partial (mf : Int) (exons rb cb : List Iv) (info : PolyAInfo)
    (h : countPolyaExons mf exons info.internalPolyA + countPolytExons mf exons info.internalPolyT ≤ exons.length) :
    addPolyaInfoBuggy mf exons rb cb info = addPolyaInfo mf exons rb cb info := by
  have hcri : correctReadInfoBuggy mf exons info = correctReadInfo mf exons info := by
    unfold correctReadInfoBuggy correctReadInfo
    split
    · rfl
    · simp only
      by_cases heq : countPolytExons mf exons info.internalPolyT + countPolyaExons mf exons info.internalPolyA
          = exons.length
      · have h1 : countPolytExons mf exons info.internalPolyT + countPolyaExons mf exons info.internalPolyA
            ≥ (exons.length : Int) := by omega
        have h2 : ¬ (countPolytExons mf exons info.internalPolyT - 1 + (countPolyaExons mf exons info.internalPolyA - 1)
            ≥ (exons.length : Int)) := by omega
        simp [heq, clampLoop, h2]
      · have h1 : ¬ (countPolytExons mf exons info.internalPolyT + countPolyaExons mf exons info.internalPolyA
            ≥ (exons.length : Int)) := by omega
        simp [heq, clampLoop, h1]
  simp [addPolyaInfoBuggy, addPolyaInfo, addPolyaInfoWith, hcri]

example : countPolyaExons 40 [(1, 100), (200, 230)] 210 + countPolytExons 40 [(1, 100), (200, 230)] 5
    ≤ ([(1, 100), (200, 230)] : List Iv).length := by decide

/-- a 3' tail position `old` was re-anchored at `anchor` (end of the last retained exon): `-1` stays `-1`;
    otherwise the new position lies at or after the anchor, at a distance that does not exceed the genomic distance
    from the start `lo` of the removed part to the old position -/
def MovedRight (old new anchor lo : Int) : Prop :=
  (old = -1 → new = -1) ∧ (old ≠ -1 → anchor ≤ new ∧ new ≤ anchor + max 0 (old - lo))

/-- mirror image for a 5' head position: re-anchored at the start of the first retained exon -/
def MovedLeft (old new anchor hi : Int) : Prop :=
  (old = -1 → new = -1) ∧ (old ≠ -1 → anchor - max 0 (hi - old) ≤ new ∧ new ≤ anchor)

theorem MovedRight.clamp {oi oe ni ne anchor lo : Int} (hi : MovedRight oi ni anchor lo)
    (he : MovedRight oe ne anchor lo) : MovedRight oe (clampA oi oe ni ne) anchor lo := by
  unfold clampA
  refine ⟨fun h => ?_, fun h => ?_⟩
  · have := he.1 h; simp [h, this]
  · have h2 := he.2 h
    split
    · rename_i hc
      have h1 := hi.2 hc.1
      omega
    · exact h2

theorem MovedLeft.clamp {oi oe ni ne anchor hi' : Int} (hi : MovedLeft oi ni anchor hi')
    (he : MovedLeft oe ne anchor hi') : MovedLeft oe (clampT oi oe ni ne) anchor hi' := by
  unfold clampT
  refine ⟨fun h => ?_, fun h => ?_⟩
  · have := he.1 h; simp [h, this]
  · have h2 := he.2 h
    split
    · rename_i hc
      have h1 := hi.2 hc.1
      omega
    · exact h2

/-- **tail_moved_onto_retained** — for every sorted disjoint non-empty exon list and every position quadruple:
    when polyA exons are removed, the internal and the external polyA position are both moved onto the last
    exon of the result (its end is the anchor); when polyT exons are removed both polyT positions are moved onto
    the first exon of the result; a side on which nothing is removed keeps its positions. -/
theorem tail_moved_onto_retained (mf : Int) (exons rb cb : List Iv) (info : PolyAInfo) (hsd : SD exons)
    (hne : exons ≠ []) :
    ∃ (r : AInfo) (a t : Int), addPolyaInfo mf exons rb cb info = some r ∧
      correctReadInfo mf exons info = some (a, t) ∧
      (a ≤ 0 → r.info.internalPolyA = info.internalPolyA ∧ r.info.externalPolyA = info.externalPolyA) ∧
      (0 < a → ∃ lastKept firstRemoved : Iv, r.exons.getLast? = some lastKept ∧
          exons[exons.length - a.toNat]? = some firstRemoved ∧
          MovedRight info.internalPolyA r.info.internalPolyA lastKept.2 firstRemoved.1 ∧
          MovedRight info.externalPolyA r.info.externalPolyA lastKept.2 firstRemoved.1) ∧
      (t ≤ 0 → r.info.internalPolyT = info.internalPolyT ∧ r.info.externalPolyT = info.externalPolyT) ∧
      (0 < t → ∃ firstKept lastRemoved : Iv, r.exons.head? = some firstKept ∧
          exons[t.toNat - 1]? = some lastRemoved ∧
          MovedLeft info.internalPolyT r.info.internalPolyT firstKept.1 lastRemoved.2 ∧
          MovedLeft info.externalPolyT r.info.externalPolyT firstKept.1 lastRemoved.2) := by
  obtain ⟨r, a, t, run⟩ := addPolyaInfo_run mf exons rb cb info hne
  have hlt := run.lt
  refine ⟨r, a, t, run.res, run.cri, run.keepA, fun ha => ?_, run.keepT, fun ht => ?_⟩
  · have hal : a < exons.length := by omega
    obtain ⟨hi, ea, he, hx⟩ := run.shiftA ha
    have hmi := shiftPolya_moved hsd ha hal hi
    refine ⟨_, _, run.getLast?_exons, List.getElem?_eq_getElem (run.firstRemoved_lt ha), hmi, ?_⟩
    rw [hx]; exact MovedRight.clamp hmi (shiftPolya_moved hsd ha hal he)
  · have htl : t < exons.length := by omega
    obtain ⟨hi, et, he, hx⟩ := run.shiftT ht
    have hmi := shiftPolyt_moved hsd ht htl hi
    refine ⟨_, _, run.head?_exons, List.getElem?_eq_getElem run.lastRemoved_lt, hmi, ?_⟩
    rw [hx]; exact MovedLeft.clamp hmi (shiftPolyt_moved hsd ht htl he)

/-- non-vacuity: a read with two polyA exons (`a = 2`) whose external polyA lies beyond the alignment end -/
example : SD [(100, 200), (300, 310), (400, 420)] ∧
    correctReadInfo 40 [(100, 200), (300, 310), (400, 420)] ⟨425, -1, 302, -1⟩ = some (2, 0) ∧
    (addPolyaInfo 40 [(100, 200), (300, 310), (400, 420)] [] [] ⟨425, -1, 302, -1⟩).map (fun r => (r.exons, r.info))
      = some ([(100, 200)], ⟨202, -1, 202, -1⟩) := by decide

/-- **internal_tail_within_first_removed** — the sharp form for the *internal* polyA position (the one the exon
    counts are computed from): every removed exon ends after it, so after trimming it sits at
    `lastKept.2 + max 0 (pos - firstRemoved.1)`, i.e. at most `len(firstRemoved) - 2` bases past the end of the
    retained exon — "onto the retained exon" up to the non-A prefix of the first fake exon -/
theorem internal_tail_within_first_removed (mf : Int) (exons rb cb : List Iv) (info : PolyAInfo) (hsd : SD exons)
    (hne : exons ≠ []) :
    ∃ (r : AInfo) (a t : Int), addPolyaInfo mf exons rb cb info = some r ∧
      correctReadInfo mf exons info = some (a, t) ∧
      (0 < a → info.internalPolyA ≠ -1 →
        ∃ lastKept firstRemoved : Iv, r.exons.getLast? = some lastKept ∧
          exons[exons.length - a.toNat]? = some firstRemoved ∧
          info.internalPolyA < firstRemoved.2 ∧
          r.info.internalPolyA = lastKept.2 + max 0 (info.internalPolyA - firstRemoved.1)) := by
  obtain ⟨r, a, t, run⟩ := addPolyaInfo_run mf exons rb cb info hne
  refine ⟨r, a, t, run.res, run.cri, fun ha _ => ?_⟩
  obtain ⟨_, h1, h2, _⟩ := run.onRetainedA hsd ha
  exact ⟨_, _, run.getLast?_exons, List.getElem?_eq_getElem _, h1, h2⟩

example : SD [(100, 200), (300, 310), (400, 420)] ∧ (302 : Int) ≠ -1 := by decide

/-- mirror image of `internal_tail_within_first_removed` for the internal polyT position: every removed exon starts
    before it, so after trimming it sits at `firstKept.1 - max 0 (lastRemoved.2 - pos)` -/
theorem internal_head_within_last_removed (mf : Int) (exons rb cb : List Iv) (info : PolyAInfo) (hsd : SD exons)
    (hne : exons ≠ []) :
    ∃ (r : AInfo) (a t : Int), addPolyaInfo mf exons rb cb info = some r ∧
      correctReadInfo mf exons info = some (a, t) ∧
      (0 < t → info.internalPolyT ≠ -1 →
        ∃ firstKept lastRemoved : Iv, r.exons.head? = some firstKept ∧
          exons[t.toNat - 1]? = some lastRemoved ∧
          lastRemoved.1 < info.internalPolyT ∧
          r.info.internalPolyT = firstKept.1 - max 0 (lastRemoved.2 - info.internalPolyT)) := by
  obtain ⟨r, a, t, run⟩ := addPolyaInfo_run mf exons rb cb info hne
  refine ⟨r, a, t, run.res, run.cri, fun ht _ => ?_⟩
  obtain ⟨_, h1, h2, _⟩ := run.onRetainedT hsd ht
  exact ⟨_, _, run.head?_exons, List.getElem?_eq_getElem _, h1, h2⟩

example : SD [(100, 110), (200, 300)] ∧
    correctReadInfo 40 [(100, 110), (200, 300)] ⟨-1, 95, -1, 108⟩ = some (0, 1) ∧
    (addPolyaInfo 40 [(100, 110), (200, 300)] [] [] ⟨-1, 95, -1, 108⟩).map (fun r => (r.exons, r.info))
      = some ([(200, 300)], ⟨-1, 198, -1, 198⟩) := by decide

/-- **tail_on_retained_exon** (full strength, repaired code) — "moves the recorded tail position onto the retained
    exon", for every sorted disjoint non-empty exon list, every position quadruple and every
    `max_fake_terminal_exon_len`.  When `a > 0` exons are removed at the 3' end the internal polyA position was found
    (`≠ -1`), lies before the end of the first removed exon, and with
    `d = max 0 (internal − start of the first removed exon)` — the number of bases of the removed part that lie before
    the tail and therefore stay attached to the retained exon (0 when the removed exons consist of tail; bounded by
    `max_fake_terminal_exon_len`, `tail_offset_bounded` in Props/C16TailExons.lean) —
    * the internal position is recorded EXACTLY at `end of the last retained exon + d`,
    * the external position, when found, is recorded in `[end of the last retained exon, recorded internal position]`
      (never beyond the point where the internal scan says the tail starts), and stays `-1` otherwise.
    Mirror statement at the 5' end around the start of the first retained exon. -/
theorem tail_on_retained_exon (mf : Int) (exons rb cb : List Iv) (info : PolyAInfo) (hsd : SD exons)
    (hne : exons ≠ []) :
    ∃ (r : AInfo) (a t : Int), addPolyaInfo mf exons rb cb info = some r ∧
      correctReadInfo mf exons info = some (a, t) ∧
      (0 < a → ∃ lastKept firstRemoved : Iv, r.exons.getLast? = some lastKept ∧
          exons[exons.length - a.toNat]? = some firstRemoved ∧
          info.internalPolyA ≠ -1 ∧ info.internalPolyA < firstRemoved.2 ∧
          r.info.internalPolyA = lastKept.2 + max 0 (info.internalPolyA - firstRemoved.1) ∧
          (info.externalPolyA = -1 → r.info.externalPolyA = -1) ∧
          (info.externalPolyA ≠ -1 →
            lastKept.2 ≤ r.info.externalPolyA ∧ r.info.externalPolyA ≤ r.info.internalPolyA)) ∧
      (0 < t → ∃ firstKept lastRemoved : Iv, r.exons.head? = some firstKept ∧
          exons[t.toNat - 1]? = some lastRemoved ∧
          info.internalPolyT ≠ -1 ∧ lastRemoved.1 < info.internalPolyT ∧
          r.info.internalPolyT = firstKept.1 - max 0 (lastRemoved.2 - info.internalPolyT) ∧
          (info.externalPolyT = -1 → r.info.externalPolyT = -1) ∧
          (info.externalPolyT ≠ -1 →
            r.info.internalPolyT ≤ r.info.externalPolyT ∧ r.info.externalPolyT ≤ firstKept.1)) := by
  obtain ⟨r, a, t, run⟩ := addPolyaInfo_run mf exons rb cb info hne
  exact ⟨r, a, t, run.res, run.cri,
    fun ha => ⟨_, _, run.getLast?_exons, List.getElem?_eq_getElem _, run.onRetainedA hsd ha⟩,
    fun ht => ⟨_, _, run.head?_exons, List.getElem?_eq_getElem _, run.onRetainedT hsd ht⟩⟩

/-- non-vacuity + the read of the finding (`201M299N31M30S`, 31 aligned A + 30 clipped A): external 1528 / internal 1200 are
    both recorded at 1200, the end of the retained exon -/
example : SD [(1000, 1200), (1500, 1530)] ∧
    correctReadInfo 40 [(1000, 1200), (1500, 1530)] ⟨1528, -1, 1200, -1⟩ = some (1, 0) ∧
    (addPolyaInfo 40 [(1000, 1200), (1500, 1530)] [] [] ⟨1528, -1, 1200, -1⟩).map (fun r => (r.exons, r.info))
      = some ([(1000, 1200)], ⟨1200, -1, 1200, -1⟩) := by decide

/-- **tail_at_end_of_retained_exon** — the statement read literally: when the removed exons CONSIST of tail (the
    internal position does not lie after the start of the first removed exon; mirror: not before the end of the last
    removed exon), both recorded positions ARE the end (start) of the retained exon. -/
theorem tail_at_end_of_retained_exon (mf : Int) (exons rb cb : List Iv) (info : PolyAInfo) (hsd : SD exons)
    (hne : exons ≠ []) :
    ∃ (r : AInfo) (a t : Int), addPolyaInfo mf exons rb cb info = some r ∧
      correctReadInfo mf exons info = some (a, t) ∧
      (0 < a → ∃ lastKept firstRemoved : Iv, r.exons.getLast? = some lastKept ∧
          exons[exons.length - a.toNat]? = some firstRemoved ∧
          (info.internalPolyA ≤ firstRemoved.1 →
            r.info.internalPolyA = lastKept.2 ∧
            (info.externalPolyA ≠ -1 → r.info.externalPolyA = lastKept.2))) ∧
      (0 < t → ∃ firstKept lastRemoved : Iv, r.exons.head? = some firstKept ∧
          exons[t.toNat - 1]? = some lastRemoved ∧
          (lastRemoved.2 ≤ info.internalPolyT →
            r.info.internalPolyT = firstKept.1 ∧
            (info.externalPolyT ≠ -1 → r.info.externalPolyT = firstKept.1))) := by
  obtain ⟨r, a, t, hr, hcri, hA, hT⟩ := tail_on_retained_exon mf exons rb cb info hsd hne
  refine ⟨r, a, t, hr, hcri, ?_, ?_⟩
  · intro h
    obtain ⟨lk, fr, hlk, hfr, _, _, hi, _, he⟩ := hA h
    refine ⟨lk, fr, hlk, hfr, fun hle => ⟨by omega, fun hx => ?_⟩⟩
    have := he hx
    omega
  · intro h
    obtain ⟨fk, lr, hfk, hlr, _, _, hi, _, he⟩ := hT h
    refine ⟨fk, lr, hfk, hlr, fun hle => ⟨by omega, fun hx => ?_⟩⟩
    have := he hx
    omega

example : (1200 : Int) ≤ (1500, 1530).1 := by decide

/-- **external_shift_witness** — the code before the repair (both positions shifted independently) fails the
    clause: on the read `201M299N31M30S` the external position is recorded at 1228, 28 bases past the retained exon
    `(1000, 1200)` – as far as the aligned tail reached into the removed exon – while the internal one is at 1200;
    mirror image for polyT.  With `--report_novel_unspliced true` ten such reads gave a novel mono-exon model ending
    28 bp behind every aligned base. -/
theorem external_shift_witness :
    (addPolyaInfoOrigShift 40 [(1000, 1200), (1500, 1530)] [] [] ⟨1528, -1, 1200, -1⟩).map (fun r => (r.exons, r.info))
      = some ([(1000, 1200)], ⟨1228, -1, 1200, -1⟩) ∧
    (addPolyaInfoOrigShift 40 [(1000, 1030), (1330, 1530)] [] [] ⟨-1, 1002, -1, 1330⟩).map (fun r => (r.exons, r.info))
      = some ([(1330, 1530)], ⟨-1, 1302, -1, 1330⟩) ∧
    (addPolyaInfo 40 [(1000, 1030), (1330, 1530)] [] [] ⟨-1, 1002, -1, 1330⟩).map (fun r => (r.exons, r.info))
      = some ([(1330, 1530)], ⟨-1, 1330, -1, 1330⟩) := by decide

/-- the repair changes nothing but the external positions of reads on which both positions were found and exons
    were removed: same exons, same blocks, same internal positions, and the same external ones whenever one of the
    two positions of a side is absent.  Two steps: the guard of `clampA` / `clampT` is false when a position of the side is
    −1, so the repaired trimming step is the old one (`hcA`, `hcT`); the 3' step leaves the polyT fields as they were
    (`hk`), so the 5' step meets the same absent position -/
theorem repair_conservative (mf : Int) (exons rb cb : List Iv) (info : PolyAInfo)
    (hA : info.internalPolyA = -1 ∨ info.externalPolyA = -1)
    (hT : info.internalPolyT = -1 ∨ info.externalPolyT = -1) :
    addPolyaInfo mf exons rb cb info = addPolyaInfoOrigShift mf exons rb cb info := by
  have hcA : ∀ st : AInfo, st.info.internalPolyA = info.internalPolyA → st.info.externalPolyA = info.externalPolyA →
      ∀ a, trimPolyA st a = trimPolyAOrig st a := by
    intro st h1 h2 a
    have hc : ¬ (st.info.internalPolyA ≠ -1 ∧ st.info.externalPolyA ≠ -1) := by rw [h1, h2]; omega
    unfold trimPolyA trimPolyAOrig clampA
    simp only [hc, if_false]
  have hcT : ∀ st : AInfo, st.info.internalPolyT = info.internalPolyT → st.info.externalPolyT = info.externalPolyT →
      ∀ t, trimPolyT st t = trimPolyTOrig st t := by
    intro st h1 h2 t
    have hc : ¬ (st.info.internalPolyT ≠ -1 ∧ st.info.externalPolyT ≠ -1) := by rw [h1, h2]; omega
    unfold trimPolyT trimPolyTOrig clampT
    simp only [hc, if_false]
  unfold addPolyaInfo addPolyaInfoOrigShift addPolyaInfoWith addPolyaInfoGen
  cases h0 : ainfoInit exons rb cb info with
  | none => rfl
  | some st0 =>
    have hi0 : st0.info = info := by
      unfold ainfoInit at h0
      split at h0
      · cases h0; rfl
      · cases h0
    cases hc : correctReadInfo mf exons info with
    | none => rfl
    | some at' =>
      obtain ⟨a, t⟩ := at'
      simp only [Option.bind_eq_bind, Option.bind_some]
      rw [hcA st0 (by rw [hi0]) (by rw [hi0]) a]
      cases h1 : trimPolyAOrig st0 a with
      | none => rfl
      | some st1 =>
        have hk : st1.info.internalPolyT = info.internalPolyT ∧ st1.info.externalPolyT = info.externalPolyT := by
          unfold trimPolyAOrig at h1
          split at h1
          · cases hx : shiftPolya st0.exons a st0.info.internalPolyA with
            | none => simp [hx] at h1
            | some v1 =>
              cases hy : shiftPolya st0.exons a st0.info.externalPolyA with
              | none => simp [hx, hy] at h1
              | some v2 =>
                simp [hx, hy] at h1
                subst h1
                simp [hi0]
          · cases h1; simp [hi0]
        simp only [Option.bind_some]
        rw [hcT st1 hk.1 hk.2 t]

example : ((-1 : Int) = -1 ∨ (1528 : Int) = -1) ∧ ((-1 : Int) = -1 ∨ (-1 : Int) = -1) := by decide

end IsoVerif.Props.C16PolyA
