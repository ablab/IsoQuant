/-
C04 — `IntronGraph.simplify()` as the code COMPUTES it (Model/IntronSimplify.lean): which vertices are collapsed,
cut and discarded is derived from the collected intron counts and coordinates, not replayed from a trace.

* (1) every collapse the computed `simplify()` performs joins two DISTINCT introns the collector knows whose splice sites are
  both closer than `graph_clustering_distance`; the operations form a scoped history, so `edges_witnessed`,
  `thread_path_label_monotone`, `paths_monotone` hold for the computed constructor with no hypothesis about collapses;
* (2) `simplify()` is ONE pass (six phases), not a loop to a fixed point; its inner `while` loops — the dead-end walks —
  terminate: fuel `|edge pairs| + 1` never runs out (explicit measure), and on a locus whose splice windows are ordered no walk
  enters a cycle; the result is NOT a fixed point in general (`simplify_not_idempotent_witness`, replayed on the real code);
* (3) a key of `clustered_introns` disappears only through a justified `collapse_vertex` / `discard` (or, in
  `simplify_correction_map`, because it is also a key of the correction map); an intron that is annotated or has at least
  `min_novel_isolated_intron_abs` reads and no other collected intron within `graph_clustering_distance` survives with
  at least its count.
Property theorems; helper lemmas: IsoVerif/Lemmas/IntronSimplify.lean (`nearD_iff` stands beside `MergeRel`).
-/
import IsoVerif.Model.IntronSimplify
import IsoVerif.Model.IntronTerminals
import IsoVerif.Lemmas.IntronSimplify
import IsoVerif.Lemmas.IntronTerminals
import IsoVerif.Props.C04Graph
import IsoVerif.Props.C04Paths
import IsoVerif.Props.C04Terminals

namespace IsoVerif.Props.C04Simplify
open IsoVerif.Gen IsoVerif.Model IsoVerif.Model.C04 IsoVerif.Lemmas.C04 IsoVerif.Props.C04Graph IsoVerif.Props.C04
  IsoVerif.Props.C04Paths IsoVerif.Props.C04Terminals

/-- both splice sites of `c` and `s` are closer than `d` (`start_dist < d and end_dist < d` of `collapse_vertex_set`);
    strict, unlike `Near` (Lemmas/IntronEdges.lean, `≤`); the model's Boolean `nearD d s c` takes the two introns in the other order -/
def Within (d : Int) (c s : Iv) : Prop := iabs (s.1 - c.1) < d ∧ iabs (s.2 - c.2) < d

/-- the merge relation of the whole constructor: cluster substitution (within `delta`) or graph collapse (within
    `graph_clustering_distance`) -/
def MergeRel (δ d : Int) (c s : Iv) : Prop := Near δ c s ∨ Within d c s

theorem nearD_iff {d : Int} {c s : Iv} : nearD d s c = true ↔ Within d c s := by
  simp [nearD, Within]

/-- every edge endpoint is an intron the collector knows (a key of `clustered_introns` or of the correction map, or a
    discarded intron): holds after `construct()` (`constructed_endpoints_known`) -/
def EndpointsKnown (g : Graph) : Prop := EAll g.out (cdom g.col) ∧ EAll g.inc (cdom g.col)

theorem constructed_endpoints_known (known : List Iv) (δ minCount : Int) (reads : List Read) (g0 : Graph)
    (h0 : Graph.constructed known δ reads minCount = some g0) : EndpointsKnown g0 := constructed_eall h0

/-- **simplify_respects_merge_relation.** For EVERY graph whose edge endpoints the collector knows (in particular the graph
    `construct()` builds from any reads), every `collapse_vertex(c, s)` the computed `simplify()` performs has `c ≠ s` and both
    splice sites of `c` and `s` closer than `graph_clustering_distance`; the computed operations form a scoped history
    (`runOps`) from the input graph to the result, contain no `add_edge` and no attachment, and satisfy the hypothesis `OpOk`
    of `edges_witnessed` for every merge relation that contains `Within graph_clustering_distance`. -/
theorem simplify_respects_merge_relation (P : SimpParams) (g g1 : Graph) (ops : List Op) (fr : Bool) (hg : EndpointsKnown g)
    (h1 : Graph.simplify P g = some g1) (h2 : simplifyOps P g = some (ops, fr)) :
    (∀ c s, Op.collapse c s ∈ ops → c ≠ s ∧ Within P.dist c s) ∧
    (∀ obs, runOps obs g ops = some g1) ∧
    (∀ op ∈ ops, notAttach op = true) ∧
    (∀ reads (M : Iv → Iv → Prop), (∀ c s, Within P.dist c s → M c s) → ∀ op ∈ ops, OpOk reads M op) := by
  obtain ⟨_, _, h2', hh⟩ := simplify_hist hg.1 hg.2 h1
  rw [h2] at h2'; cases h2'
  refine ⟨fun c t hc => ?_, fun obs => hist_runOps hh, fun op hop => ?_, fun reads M hM op hop => ?_⟩
  · obtain ⟨_, _, _, hj⟩ := hist_just hh hc
    exact ⟨hj.1, nearD_iff.1 hj.2.1⟩
  · obtain ⟨_, _, _, hj⟩ := hist_just hh hop
    cases op <;> first | rfl | exact False.elim hj
  · obtain ⟨_, _, _, hj⟩ := hist_just hh hop
    cases op with
    | collapse c t => exact hM c t (nearD_iff.1 hj.2.1)
    | addEdge a b => exact False.elim hj
    | _ => trivial

/-- the merge relation of the whole constructor, between introns of non-multimapper reads: cluster substitution (within
    `delta`) or graph collapse (within `graph_clustering_distance`) -/
def ObsMerge (reads : List Read) (δ d : Int) (c s : Iv) : Prop :=
  Observed reads c ∧ Observed reads s ∧ MergeRel δ d c s

/-- every collapse of the computed `simplify()` on a constructed graph joins two introns of non-multimapper reads -/
theorem computed_simplify_ops_ok (known : List Iv) (δ minCount : Int) (reads : List Read) (P : SimpParams)
    (g0 g1 : Graph) (sops : List Op) (fr : Bool)
    (h0 : Graph.constructed known δ reads minCount = some g0) (h1 : Graph.simplify P g0 = some g1)
    (hso : simplifyOps P g0 = some (sops, fr)) (M : Iv → Iv → Prop)
    (hM : ∀ c s, Observed reads c → Observed reads s → Within P.dist c s → M c s) : ∀ op ∈ sops, OpOk reads M op := by
  obtain ⟨_, _, hso', hh⟩ := simplify_hist (constructed_eall h0).1 (constructed_eall h0).2 h1
  rw [hso] at hso'; cases hso'
  intro op hop
  obtain ⟨pre, gp, hp, hj⟩ := hist_just hh hop
  have hvo := vertices_observed known δ minCount reads pre g0 gp h0 (hist_runOps hp)
  cases op with
  | collapse c t =>
    exact hM c t (hvo c (dom_verts hj.2.2.1)) (hvo t (dom_verts hj.2.2.2)) (nearD_iff.1 hj.2.1)
  | addEdge a b => exact False.elim hj
  | _ => trivial

/-- the whole computed constructor — `process`, `construct()`, COMPUTED `simplify()`, modelled `attach_terminal_positions()` —
    is one scoped operation history; each of its collapses joins two introns of non-multimapper reads with both splice sites
    closer than `graph_clustering_distance`, so `OpOk` holds for every relation containing those pairs.  `hpos`, here and in
    the `_computed` theorems below: read introns have non-negative coordinates, so they are intron vertices — a terminal vertex
    is a pair whose first component is a negative `VERTEX_*` code (`isIntronVertex v = decide (0 ≤ v.1)`) -/
theorem computed_constructor_is_history (known : List Iv) (δ minCount : Int) (reads : List Read) (P : SimpParams)
    (tp : TermParams) (g0 g1 g2 : Graph) (hpos : ∀ v, Observed reads v → 0 ≤ v.1)
    (h0 : Graph.constructed known δ reads minCount = some g0) (h1 : Graph.simplify P g0 = some g1)
    (h2 : g1.attachTerminals tp reads = some g2) :
    ∃ ops, runOps (obsIntrons reads) g0 ops = some g2 ∧
      (∀ M : Iv → Iv → Prop, (∀ c s, Observed reads c → Observed reads s → Within P.dist c s → M c s) →
        ∀ op ∈ ops, OpOk reads M op) := by
  have hek := constructed_endpoints_known known δ minCount reads g0 h0
  obtain ⟨sops, fr, hso, _⟩ := simplify_hist hek.1 hek.2 h1
  obtain ⟨_, hrun, hna, _⟩ := simplify_respects_merge_relation P g0 g1 sops fr hek h1 hso
  have n1 := constructed_noTerm (fun v hv => hpos v (mem_obsIntrons.1 hv)) hna h0 (hrun _)
  obtain ⟨aops, _, haops, hrun2⟩ := attach_is_history (obsIntrons reads) g1 g2 tp reads n1 h2
  refine ⟨sops ++ aops, by rw [runOps_append, hrun]; exact hrun2, ?_⟩
  intro M hM op hop
  rcases List.mem_append.1 hop with hop | hop
  · exact computed_simplify_ops_ok known δ minCount reads P g0 g1 sops fr h0 h1 hso M hM op hop
  · have hk := attached_terminals_spec g1 tp reads aops _ haops op hop
    cases op with
    | collapse c s => exact False.elim hk
    | addEdge a b => exact False.elim hk
    | _ => trivial

/-- **edges_witnessed_computed.** `edges_witnessed` for the COMPUTED constructor, no hypothesis about collapses left: every
    intron-to-intron edge of the final graph is the image of a read adjacency under chains of merges between introns of
    non-multimapper reads, each within `delta` (cluster substitution) or within `graph_clustering_distance` (graph collapse);
    every entry of the correction map is such a chain. -/
theorem edges_witnessed_computed (known : List Iv) (δ minCount : Int) (reads : List Read) (P : SimpParams)
    (tp : TermParams) (g0 g1 g2 : Graph) (hpos : ∀ v, Observed reads v → 0 ≤ v.1)
    (h0 : Graph.constructed known δ reads minCount = some g0) (h1 : Graph.simplify P g0 = some g1)
    (h2 : g1.attachTerminals tp reads = some g2) :
    (∀ u v, (u, v) ∈ g2.out → isIntronVertex v = true → Wit reads (ObsMerge reads δ P.dist) u v) ∧
    (∀ w v, (w, v) ∈ g2.inc → isIntronVertex v = true → Wit reads (ObsMerge reads δ P.dist) v w) ∧
    (∀ k s, amGet? g2.col.corr k = some s → Rep (ObsMerge reads δ P.dist) k s) := by
  obtain ⟨ops, hrun, hok⟩ := computed_constructor_is_history known δ minCount reads P tp g0 g1 g2 hpos h0 h1 h2
  have hpos' : ∀ v ∈ obsIntrons reads, 0 ≤ v.1 := fun v hv => hpos v (mem_obsIntrons.1 hv)
  have hinv := edgeInv_of_history_obs (M := ObsMerge reads δ P.dist) hpos'
    (fun k s hk hs hn => ⟨mem_obsIntrons.1 hk, mem_obsIntrons.1 hs, Or.inl hn⟩)
    (hok _ (fun c s hc hs hw => ⟨hc, hs, Or.inr hw⟩)) h0 hrun
  exact ⟨fun u v huv hv => hinv.out (u, v) huv hv, fun w v hwv hv => hinv.inc (w, v) hwv hv,
    fun k s hks => hinv.corr (k, s) (amGet?_mem hks)⟩

/-- **thread_path_label_monotone_computed.** For any labelling of introns (e.g. the index of the splice window) that is
    constant on read introns within `delta` and on read introns within `graph_clustering_distance` of each other and strictly
    increases along the reads, the label strictly increases along every intron-to-intron edge of the computed graph (so the
    graph is acyclic) and along every path `thread_introns` builds on it (so no vertex repeats).  No hypothesis about the
    history is left. -/
theorem thread_path_label_monotone_computed (known : List Iv) (δ minCount : Int) (reads : List Read) (P : SimpParams)
    (tp : TermParams) (g0 g1 g2 : Graph) (w : Iv → Int) (hpos : ∀ v, Observed reads v → 0 ≤ v.1)
    (hδ : ∀ k s, Observed reads k → Observed reads s → Near δ k s → w k = w s)
    (hD : ∀ c s, Observed reads c → Observed reads s → Within P.dist c s → w c = w s)
    (hadj : ∀ a b, Adj reads a b → w a < w b)
    (h0 : Graph.constructed known δ reads minCount = some g0) (h1 : Graph.simplify P g0 = some g1)
    (h2 : g1.attachTerminals tp reads = some g2) :
    (∀ u v, (u, v) ∈ g2.out → isIntronVertex v = true → w u < w v) ∧
    (∀ introns path, (∀ a b, AdjIn introns a b → w a < w b) → threadIntrons g2.col introns = some path →
      ∀ u v, AdjIn path u v → w u < w v) := by
  obtain ⟨ops, hrun, hok⟩ := computed_constructor_is_history known δ minCount reads P tp g0 g1 g2 hpos h0 h1 h2
  have hpos' : ∀ v ∈ obsIntrons reads, 0 ≤ v.1 := fun v hv => hpos v (mem_obsIntrons.1 hv)
  have hinv := edgeInv_of_history_obs (M := fun c s => w c = w s) hpos'
    (fun k s hk hs hn => hδ k s (mem_obsIntrons.1 hk) (mem_obsIntrons.1 hs) hn) (hok _ hD) h0 hrun
  constructor
  · intro u v huv hv
    exact wit_label_lt hadj (hinv.out (u, v) huv hv)
  · exact fun introns path hl ht u v => threadIntrons_label_lt hinv.corr hl ht

/-- **paths_monotone_computed.** `paths_monotone` with the graph computed end to end inside the model: reads → collector →
    `construct()` → computed `simplify()` → modelled terminal attachment → the code's path enumeration →
    `construct_fl_isoforms`: every novel model has a strictly increasing chain of observed introns between attached terminal
    positions. -/
theorem paths_monotone_computed (known : List Iv) (δ minCount : Int) (reads : List Read) (P : SimpParams)
    (tp : TermParams) (g0 g1 g2 : Graph) (hpos : ∀ v, Observed reads v → 0 ≤ v.1)
    (hwf : ∀ r ∈ reads, ∀ i ∈ r.introns, i.1 ≤ i.2)
    (h0 : Graph.constructed known δ reads minCount = some g0) (h1 : Graph.simplify P g0 = some g1)
    (h2 : g1.attachTerminals tp reads = some g2)
    (delta apa : Int) (req : Bool) (verdict : List Iv → Bool × String)
    (env : FLEnv) (sd : Iv → Strand) (next : Nat → Nat) (st st' : FLState) (ds : List Decision)
    (hrun : constructFL env sd next st (pathInsOf (fillGraphPaths g2 delta apa req reads) verdict) = some (st', ds)) :
    ∀ d ∈ ds, ∀ m, d = .novelAdded m →
      ∃ s e : Iv, s.1 ∈ starting_vertex_codes ∧ e.1 ∈ terminal_vertex_codes ∧
        (∃ first, m.intronPath.head? = some first ∧ (first, s) ∈ g2.inc) ∧
        (∃ last, m.intronPath.getLast? = some last ∧ (last, e) ∈ g2.out) ∧
        m.exons = getExons (s.2, e.2) m.intronPath ∧ m.exons.length = m.intronPath.length + 1 ∧
        ChainMonotone s.2 m.intronPath e.2 ∧ (∀ i ∈ m.intronPath, Observed reads i) := by
  obtain ⟨ops, hr, _⟩ := computed_constructor_is_history known δ minCount reads P tp g0 g1 g2 hpos h0 h1 h2
  exact paths_monotone known δ minCount reads ops g0 g2 hwf h0 hr delta apa req verdict env sd next st st' ds hrun

/-- **dead_end_walk_fuel_suffices.** The walks of `signleton_dead_end` / `signleton_dead_start` never run out of the fuel
    `|edge pairs| + 1` the model gives them — for every graph and start vertex.  Explicit measure: the number of edge pairs
    whose key has not been walked yet (`unwalked`) strictly decreases with every step, because a step leaves a vertex of count 1
    with exactly one neighbour that was not on the path.  So the only non-terminating behaviour is the `cycle` answer: the
    walk returns to a vertex of the path, where the code's `while` (whose state is the current vertex alone) runs forever. -/
theorem dead_end_walk_fuel_suffices (g : Graph) (outgoing : Bool) (v : Iv) :
    deadWalk g outgoing (walkFuel g outgoing) [] v ≠ .fuel :=
  deadWalk_fuel g outgoing _ [] v (walkFuel_enough g outgoing)

/-- **dead_end_walks_terminate.** On a locus with ordered splice windows — a labelling that is constant on read introns
    within `delta`, that every collapse of the history respects and that strictly increases along the reads — every dead-end
    walk, in every graph state reachable before the terminal vertices are attached, ends:
    `[signleton_dead_end(i) for i in ...]` returns. -/
theorem dead_end_walks_terminate (known : List Iv) (δ minCount : Int) (reads : List Read) (ops : List Op) (g0 g : Graph)
    (w : Iv → Int) (hpos : ∀ v, Observed reads v → 0 ≤ v.1)
    (hδ : ∀ k s, Observed reads k → Observed reads s → Near δ k s → w k = w s)
    (hops : ∀ op ∈ ops, OpOk reads (fun c s => w c = w s) op)
    (hna : ∀ op ∈ ops, notAttach op = true) (hadj : ∀ a b, Adj reads a b → w a < w b)
    (h0 : Graph.constructed known δ reads minCount = some g0)
    (h : runOps (obsIntrons reads) g0 ops = some g) (outgoing : Bool) (starts : List Iv) :
    ∃ r, walkAll g outgoing starts = some r := by
  have hpos' : ∀ v ∈ obsIntrons reads, 0 ≤ v.1 := fun v hv => hpos v (mem_obsIntrons.1 hv)
  have hinv := edgeInv_of_history_obs (M := fun c s => w c = w s) hpos'
    (fun k s hk hs hn => hδ k s (mem_obsIntrons.1 hk) (mem_obsIntrons.1 hs) hn) hops h0 h
  have n1 := constructed_noTerm hpos' hna h0 h
  apply walkAll_isSome
  intro i _
  refine ⟨dead_end_walk_fuel_suffices g outgoing i, ?_⟩
  cases outgoing
  · refine deadWalk_no_cycle g false (fun v => - w v) ?_ _ [] i (by simp)
    intro v x hx
    have : w x < w v := wit_label_lt hadj (hinv.inc (v, x) (mem_incOf.1 hx) (n1.2 _ (mem_incOf.1 hx)))
    omega
  · refine deadWalk_no_cycle g true w ?_ _ [] i (by simp)
    intro v x hx
    exact wit_label_lt hadj (hinv.out (v, x) (mem_outOf.1 hx) (n1.1 _ (mem_outOf.1 hx)))

/-- **simplify_walks_terminate.** ... in particular in every state the COMPUTED `simplify()` passes through (after any prefix
    of its own operations): with ordered splice windows the computed `simplify()` never hangs in a dead-end walk. -/
theorem simplify_walks_terminate (known : List Iv) (δ minCount : Int) (reads : List Read) (P : SimpParams)
    (g0 g1 : Graph) (sops : List Op) (fr : Bool) (w : Iv → Int) (hpos : ∀ v, Observed reads v → 0 ≤ v.1)
    (hδ : ∀ k s, Observed reads k → Observed reads s → Near δ k s → w k = w s)
    (hD : ∀ c s, Observed reads c → Observed reads s → Within P.dist c s → w c = w s)
    (hadj : ∀ a b, Adj reads a b → w a < w b)
    (h0 : Graph.constructed known δ reads minCount = some g0) (h1 : Graph.simplify P g0 = some g1)
    (hso : simplifyOps P g0 = some (sops, fr)) (pre post : List Op) (hsplit : sops = pre ++ post) (gp : Graph)
    (hp : runOps (obsIntrons reads) g0 pre = some gp) (outgoing : Bool) (starts : List Iv) :
    ∃ r, walkAll gp outgoing starts = some r := by
  have hok := computed_simplify_ops_ok known δ minCount reads P g0 g1 sops fr h0 h1 hso (fun c s => w c = w s) hD
  have hna := (simplify_respects_merge_relation P g0 g1 sops fr
    (constructed_endpoints_known known δ minCount reads g0 h0) h1 hso).2.2.1
  exact dead_end_walks_terminate known δ minCount reads pre g0 gp w hpos hδ
    (fun op hop => hok op (by rw [hsplit]; exact List.mem_append.2 (Or.inl hop)))
    (fun op hop => hna op (by rw [hsplit]; exact List.mem_append.2 (Or.inl hop))) hadj h0 hp outgoing starts

/-- one read `(102,200)|(300,400)|(500,600)`, three reads `(100,200)|(301,400)|(500,600)` -/
def idemReads : List Read :=
  [⟨"u0", [(102, 200), (300, 400), (500, 600)], [(72, 101), (201, 299), (401, 499), (601, 630)], false, "+", true, false, "g"⟩,
   ⟨"u1", [(100, 200), (301, 400), (500, 600)], [(70, 99), (201, 300), (401, 499), (601, 630)], false, "+", true, false, "g"⟩,
   ⟨"u2", [(100, 200), (301, 400), (500, 600)], [(70, 99), (201, 300), (401, 499), (601, 630)], false, "+", true, false, "g"⟩,
   ⟨"u3", [(100, 200), (301, 400), (500, 600)], [(70, 99), (201, 300), (401, 499), (601, 630)], false, "+", true, false, "g"⟩]

/-- `graph_clustering_distance` 4, ratio 0.5, `singleton_adjacent_cov` 2, `min_novel_isolated_intron_abs` 2 -/
def idemParams : SimpParams := ⟨4, 500, 2, 2⟩

/-- **simplify_not_idempotent_witness.** "`simplify()` runs until nothing changes / its result is a fixed point" is FALSE of
    model and code: `simplify()` is a single pass.  In the incoming half of `clean_tips_and_bulges` the key (300,400) is visited
    before (500,600), whose predecessor set {(300,400), (301,400)} makes (300,400) collapse into (301,400); only then does
    `incoming_edges[(301,400)]` hold both (100,200) and (102,200), which a SECOND `simplify()` collapses.  Replayed on the real
    `IntronGraph` by the correspondence on every run. -/
theorem simplify_not_idempotent_witness :
    ((Graph.constructed [] 0 idemReads 1).bind (Graph.simplify idemParams)).bind (fun g1 =>
        (Graph.simplify idemParams g1).map (fun g2 => (sortIv (amKeys g1.col.clustered), sortIv (amKeys g2.col.clustered))))
      = some ([(100, 200), (102, 200), (301, 400), (500, 600)], [(100, 200), (301, 400), (500, 600)]) := by
  decide +kernel

/-- **simplify_drops_justified.** State exactly what the computed `simplify()` may drop.  For every graph whose edge endpoints
    the collector knows: (a) every operation of the computed history is justified in the state its predecessors lead to
    (`OpJust`): `collapse_vertex(c, s)` joins distinct known introns with both splice sites closer than
    `graph_clustering_distance`; `discard(v)` hits a key of `clustered_introns` that is not annotated, has fewer than
    `min_novel_isolated_intron_abs` reads and no edge at that moment; a defaultdict read hits a known intron; (b) a key of
    `clustered_introns` that is no key afterwards was the first argument of such a `collapse_vertex`, or of such a `discard`,
    or was also a key of the correction map (only `simplify_correction_map` removes those). -/
theorem simplify_drops_justified (P : SimpParams) (g g1 : Graph) (ops : List Op) (fr : Bool) (hg : EndpointsKnown g)
    (h1 : Graph.simplify P g = some g1) (h2 : simplifyOps P g = some (ops, fr)) :
    (∀ obs pre op post, ops = pre ++ op :: post → ∃ gp, runOps obs g pre = some gp ∧ OpJust P gp op) ∧
    (∀ v ∈ amKeys g.col.clustered, v ∉ amKeys g1.col.clustered →
      (∃ s, Op.collapse v s ∈ ops) ∨ Op.discard v ∈ ops ∨ v ∈ amKeys g.col.corr) := by
  obtain ⟨_, _, h2', hh⟩ := simplify_hist hg.1 hg.2 h1
  rw [h2] at h2'; cases h2'
  constructor
  · intro obs pre op post heq
    obtain ⟨gp, hp, hj⟩ := hist_split hh pre op post heq
    exact ⟨gp, hist_runOps hp, hj⟩
  · intro v hv hnv
    rcases (hist_drop hh).2 v hv with h' | h'
    · exact absurd h' hnv
    · exact h'

/-- the exact local rule: `collapse_vertex_set` maps `v` to `s` only if both are members of the vertex set, `s ≠ v`, both
    splice sites are closer than `graph_clustering_distance` and `count(v) < count(s) * graph_clustering_ratio` -/
theorem collapse_vertex_set_spec (P : SimpParams) (cl : List (Iv × Int)) (vs : List Iv) (v s : Iv)
    (h : (v, s) ∈ sortSubst (collapseVertexSet P cl vs).1) :
    v ≠ s ∧ Within P.dist v s ∧ v ∈ vs ∧ s ∈ vs ∧ cnt cl v * 1000 < cnt cl s * P.ratioM := by
  obtain ⟨a, b, c, d, e⟩ := cvs_pairs_spec h
  exact ⟨a, nearD_iff.1 b, c, d, e⟩

/-- **simplify_keeps_supported.** The converse of "evidence-backed".  Let the counts be non-negative and the edge endpoints
    known (both hold after `construct()`).  A key `v` of `clustered_introns` that is neither substituted nor discarded, is
    annotated or has at least `min_novel_isolated_intron_abs` reads, and has no OTHER collected intron (clustered,
    substituted or discarded) with both splice sites closer than `graph_clustering_distance`, is after the computed
    `simplify()` still a key of `clustered_introns` with at least its count, not substituted, not discarded. -/
theorem simplify_keeps_supported (P : SimpParams) (g g1 : Graph) (hg : EndpointsKnown g)
    (hnn : ∀ p ∈ g.col.clustered, 0 ≤ p.2) (h1 : Graph.simplify P g = some g1) (v : Iv)
    (hv : v ∈ amKeys g.col.clustered) (hnc : v ∉ amKeys g.col.corr) (hnd : v ∉ g.col.discarded)
    (hsup : v ∈ g.col.known ∨ P.isoAbs ≤ cnt g.col.clustered v)
    (hsib : ∀ u, cdom g.col u → Within P.dist v u → u = v) :
    v ∈ amKeys g1.col.clustered ∧ cnt g.col.clustered v ≤ cnt g1.col.clustered v ∧ v ∉ amKeys g1.col.corr ∧
      v ∉ g1.col.discarded := by
  obtain ⟨_, _, _, hh⟩ := simplify_hist hg.1 hg.2 h1
  have hk := hist_keeps hh v (cnt g.col.clustered v)
    ⟨hv, Int.le_refl _, hnc, hnd, hnn, fun _ h => h, rfl⟩ hsup (fun u hu hn => hsib u hu (nearD_iff.1 hn))
  exact ⟨hk.key, hk.cnt, hk.ncorr, hk.ndisc⟩

/-- ... in particular after `process` and `construct()` on any reads: the two structural hypotheses are theorems -/
theorem simplify_keeps_supported_constructed (known : List Iv) (δ minCount : Int) (reads : List Read) (P : SimpParams)
    (g0 g1 : Graph) (h0 : Graph.constructed known δ reads minCount = some g0) (h1 : Graph.simplify P g0 = some g1) (v : Iv)
    (hv : v ∈ amKeys g0.col.clustered) (hnc : v ∉ amKeys g0.col.corr) (hnd : v ∉ g0.col.discarded)
    (hsup : v ∈ g0.col.known ∨ P.isoAbs ≤ cnt g0.col.clustered v)
    (hsib : ∀ u, cdom g0.col u → Within P.dist v u → u = v) :
    v ∈ amKeys g1.col.clustered ∧ cnt g0.col.clustered v ≤ cnt g1.col.clustered v ∧ v ∉ amKeys g1.col.corr ∧
      v ∉ g1.col.discarded := by
  refine simplify_keeps_supported P g0 g1 (constructed_endpoints_known known δ minCount reads g0 h0) ?_ h1 v hv hnc hnd hsup hsib
  rw [constructed_col h0]
  exact collectorProcess_nonneg known δ reads minCount

/-- the witness reads: the first computed `simplify()` performs exactly one collapse — (300,400) into (301,400), 1 bp apart —
    and is a scoped history; the supported intron (500,600) (4 reads, no sibling) survives with its count -/
example : ((Graph.constructed [] 0 idemReads 1).bind (fun g0 => (simplifyOps idemParams g0).map (fun r =>
      r.1.filter (fun op => match op with | .collapse _ _ => true | _ => false))))
    = some [.collapse (300, 400) (301, 400)] := by decide +kernel

example : ((Graph.constructed [] 0 idemReads 1).bind (fun g0 => (Graph.simplify idemParams g0).map (fun g1 =>
      (cnt g0.col.clustered (500, 600), cnt g1.col.clustered (500, 600), amGet? g1.col.corr (300, 400)))))
    = some (4, 4, some (301, 400)) := by decide +kernel

/-- a singleton dead end next to a well covered intron is cut and, being isolated afterwards with 1 < 2 reads, discarded;
    the walk needs no more fuel than edge pairs + 1 -/
def deadEndReads : List Read :=
  [⟨"a", [(100, 200), (300, 400)], [(70, 99), (201, 299), (401, 430)], false, "+", true, false, "g"⟩,
   ⟨"b", [(100, 200), (300, 400)], [(70, 99), (201, 299), (401, 430)], false, "+", true, false, "g"⟩,
   ⟨"c", [(100, 200), (300, 400), (500, 600)], [(70, 99), (201, 299), (401, 499), (601, 630)], false, "+", true, false, "g"⟩]

example : ((Graph.constructed [] 0 deadEndReads 1).map (fun g0 =>
      (g0.out, deadWalk g0 true (walkFuel g0 true) [] (500, 600)))
      = some ([((100, 200), (300, 400)), ((300, 400), (500, 600))], .done [(500, 600)] [(500, 600)])) ∧
    ((Graph.constructed [] 0 deadEndReads 1).bind (fun g0 => (Graph.simplify idemParams g0).map (fun g1 =>
      (g1.out, g1.col.discarded)))
      = some ([((100, 200), (300, 400))], [(500, 600)])) := by decide +kernel

/-- a cycle of singletons: the model answers `cycle` (the real `while` never ends; the correspondence checks that the real
    `simplify()` does not return within the time limit on such states) -/
example : deadWalk ⟨⟨[], [((10, 20), 1), ((30, 40), 1)], [], []⟩, [((10, 20), (30, 40)), ((30, 40), (10, 20))],
      [((10, 20), (30, 40)), ((30, 40), (10, 20))]⟩ true 3 [] (10, 20) = .cycle := by decide

/-- the whole computed constructor runs on the witness reads (hypotheses `h0`, `h1`, `h2` of the `_computed` theorems) -/
example : (((Graph.constructed [] 0 idemReads 1).bind (Graph.simplify idemParams)).bind (fun g1 =>
      g1.attachTerminals exTermParams idemReads)).map (fun g2 => g2.out)
    = some [((100, 200), (301, 400)), ((301, 400), (500, 600)), ((102, 200), (301, 400)),
            ((500, 600), (VERTEX_polya, 630))] := by decide +kernel

instance (d : Int) (c s : Iv) : Decidable (Within d c s) := by unfold Within; infer_instance

/-- splice windows of width 50 -/
def idemLabel (i : Iv) : Int := i.1 / 50

/-- the labelling hypotheses of `thread_path_label_monotone_computed` / `simplify_walks_terminate` hold for the witness reads
    with `delta = 0`, `graph_clustering_distance = 4` -/
example : (∀ c s, Observed idemReads c → Observed idemReads s → Within 4 c s → idemLabel c = idemLabel s) ∧
    (∀ k s, Observed idemReads k → Observed idemReads s → Near 0 k s → idemLabel k = idemLabel s) ∧
    (∀ a b, Adj idemReads a b → idemLabel a < idemLabel b) := by
  refine ⟨?_, ?_, ?_⟩
  · intro c s hc hs
    have key : ∀ c ∈ obsIntrons idemReads, ∀ s ∈ obsIntrons idemReads, Within 4 c s → idemLabel c = idemLabel s := by decide
    exact key c (mem_obsIntrons.2 hc) s (mem_obsIntrons.2 hs)
  · intro k s _ _ hn; rw [Near.eq_of_zero hn]
  · rintro a b ⟨r, hr, _, hab⟩
    have key : ∀ r ∈ idemReads, ∀ p ∈ r.introns.zip r.introns.tail, idemLabel p.1 < idemLabel p.2 := by decide
    exact key r hr (a, b) (adjIn_zip hab)

end IsoVerif.Props.C04Simplify
