/-
C15 — primitives of src/serialization.py: every `read_*` undoes its `write_*` on the exact value domain of the
writer, byte-aligned (whatever follows in the stream is left untouched), plus the facts about the regenerated
constants and the regression witnesses of the two defects repaired in /repo (62ec0ea, 93f9737).

A writer returning `some bs` means the real writer did not raise; `…_encodable_iff` theorems characterise when.
-/
import IsoVerif.Lemmas.SerialDomain

namespace IsoVerif.Props.C15
open IsoVerif.Gen IsoVerif.Model IsoVerif.Model.Serial IsoVerif.Lemmas.Serial

/-- the model hard-wires big-endian byte order and UTF-8: both are constants of serialization.py -/
theorem byte_order_and_encoding : ser_BYTE_ORDER = "big" ∧ ser_ENCODING = "utf-8" := by decide

/-- widths and derived constants are the ones the documented value domain (DESIGN.md §6) is stated for -/
theorem widths :
    ser_STR_LEN_BYTES = 2 ∧ ser_SHORT_INT_BYTES = 2 ∧ ser_LONG_INT_BYTES = 4 ∧ ser_DICT_TYPE_LEN = 1 ∧
    ser_NONE_STR_LEN = 256 ^ ser_STR_LEN_BYTES - 1 ∧ ser_SHORT_FLOAT_MULTIPLIER = 2 ^ 20 ∧
    ser_TERMINATION_INT < 256 ^ ser_LONG_INT_BYTES := by decide

/-- the three record markers of a `.save` stream are pairwise distinct and fit into the two marker bytes: a record
    marker can never be read where the terminator is expected, nor one record kind for the other -/
theorem terminator_unambiguous :
    tmp_GENE_INFO ≠ tmp_READ_ASSIGNMENT ∧ tmp_GENE_INFO ≠ ser_SHORT_TERMINATION_INT ∧
    tmp_READ_ASSIGNMENT ≠ ser_SHORT_TERMINATION_INT ∧
    tmp_GENE_INFO < 256 ^ ser_SHORT_INT_BYTES ∧ tmp_READ_ASSIGNMENT < 256 ^ ser_SHORT_INT_BYTES ∧
    ser_SHORT_TERMINATION_INT < 256 ^ ser_SHORT_INT_BYTES := by decide

/-- the dict value tags are pairwise distinct and fit into the tag byte -/
theorem dict_tags_distinct :
    ser_DICT_INT_TYPE ≠ ser_DICT_STR_TYPE ∧ ser_DICT_INT_TYPE ≠ ser_DICT_INT_PAIR_TYPE ∧
    ser_DICT_STR_TYPE ≠ ser_DICT_INT_PAIR_TYPE ∧ ser_DICT_INT_TYPE < 256 ^ ser_DICT_TYPE_LEN ∧
    ser_DICT_STR_TYPE < 256 ^ ser_DICT_TYPE_LEN ∧ ser_DICT_INT_PAIR_TYPE < 256 ^ ser_DICT_TYPE_LEN := by decide

/-- every enum member is recovered from its stored value and fits into the two bytes it is stored in
    (regenerated enums: a new member, a duplicated value or a value ≥ 65536 re-opens this) -/
theorem enum_values_roundtrip :
    (∀ e : MatchEventSubtype, MatchEventSubtype.ofValue? e.value = some e ∧ e.value < 256 ^ ser_SHORT_INT_BYTES) ∧
    (∀ e : MatchClassification, MatchClassification.ofValue? e.value = some e ∧ e.value < 256 ^ ser_SHORT_INT_BYTES) ∧
    (∀ e : ReadAssignmentType, ReadAssignmentType.ofValue? e.value = some e ∧ e.value < 256 ^ ser_SHORT_INT_BYTES) :=
  ⟨fun e => ⟨MatchEventSubtype.ofValue_value e, MatchEventSubtype.value_lt e⟩,
   fun e => ⟨MatchClassification.ofValue_value e, MatchClassification.value_lt e⟩,
   fun e => ⟨ReadAssignmentType.ofValue_value e, ReadAssignmentType.value_lt e⟩⟩

theorem write_int_encodable_iff (v : Int) (k : Nat) : (writeInt v k).isSome ↔ (0 ≤ v ∧ v.toNat < 256 ^ k) :=
  intToBytes_isSome_iff k v

theorem write_int_length (v : Int) (k : Nat) (bs : Bytes) (h : writeInt v k = some bs) : bs.length = k :=
  intToBytes_length h

theorem read_int_write_int (v : Int) (k : Nat) (bs rest : Bytes) (h : writeInt v k = some bs) :
    (readInt k).run (bs ++ rest) = some (v, rest) :=
  readInt_write rest h

example : writeInt ((2 : Int) ^ 31) = some [128, 0, 0, 0] ∧ (writeInt ((2 : Int) ^ 32)).isSome = false ∧
    (writeInt (-1)).isSome = false ∧ (readInt 4).run [128, 0, 0, 0, 7] = some ((2 : Int) ^ 31, [7]) := by
  decide

/-- `write_int_neg` accepts exactly the open interval (−2^31, 2^31) -/
theorem write_int_neg_encodable_iff (v : Int) : (writeIntNeg v).isSome ↔ (-(2 ^ 31 : Int) < v ∧ v < 2 ^ 31) :=
  writeIntNeg_isSome_iff v

theorem read_int_neg_write_int_neg (v : Int) (bs rest : Bytes) (h : writeIntNeg v = some bs) :
    readIntNeg.run (bs ++ rest) = some (v, rest) :=
  RT_writeIntNeg v bs rest trivial h

example : writeIntNeg (-5) = some [128, 0, 0, 5] ∧ readIntNeg.run [128, 0, 0, 5, 9] = some (-5, [9]) ∧
    (writeIntNeg (-(2 : Int) ^ 31)).isSome = false := by decide

/-- `write_string` accepts exactly the strings of fewer than 2^16 UTF-8 bytes -/
theorem write_string_encodable_iff (s : String) : (writeString s).isSome ↔ s.utf8ByteSize < 256 ^ ser_STR_LEN_BYTES :=
  writeString_isSome s

theorem read_string_write_string (s : String) (bs rest : Bytes) (h : writeString s = some bs) :
    readString.run (bs ++ rest) = some (s, rest) :=
  RT_writeString s bs rest trivial h

/-- `None` and every string whose UTF-8 length is not 65535 survive `write_string_or_none` / `read_string_or_none` -/
theorem read_string_or_none_write (o : Option String) (bs rest : Bytes) (h : writeStringOrNone o = some bs)
    (hlen : ∀ s, o = some s → s.utf8ByteSize ≠ ser_NONE_STR_LEN) :
    readStringOrNone.run (bs ++ rest) = some (o, rest) :=
  RT_writeStringOrNone o bs rest (fun s hs => by rw [utf8_length]; exact hlen s hs) h

/-- the length prefix counts bytes: the written record has exactly 2 + (UTF-8 length) bytes -/
theorem write_string_length (s : String) (bs : Bytes) (h : writeString s = some bs) :
    bs.length = ser_STR_LEN_BYTES + s.utf8ByteSize := by
  simp only [writeString, seqW_cons_eq_some_iff, seqW_nil_eq_some_iff] at h
  obtain ⟨b1, _, h1, ⟨b2, _, h2, rfl, rfl⟩, rfl⟩ := h
  cases h2
  simp [intToBytes_length h1, utf8_length]

example : writeString "é1" = some [0, 3, 195, 169, 49] ∧
    readString.run [0, 3, 195, 169, 49, 7] = some ("é1", [7]) := by decide +kernel

/-- before fix 62ec0ea (`len(s)` characters as the prefix) a non-ASCII string did not come back: the reader takes
    one byte too few and the next field starts inside the string -/
theorem write_string_buggy_witness :
    writeStringBuggy "é1" = some [0, 2, 195, 169, 49] ∧
    readString.run ([0, 2, 195, 169, 49] ++ [0, 0, 0, 7]) = some ("é", [49, 0, 0, 0, 7]) := by decide +kernel

/-- a 65535-byte id cannot be told from `None` (outside the documented domain: strings shorter than 65535 bytes) -/
theorem string_or_none_collision_witness (s : String) (h : s.utf8ByteSize = ser_NONE_STR_LEN) (rest : Bytes) :
    ∃ bs, writeStringOrNone (some s) = some bs ∧ readStringOrNone.run (bs ++ rest) = some (none, utf8 s ++ rest) := by
  have hl : (utf8 s).length = ser_NONE_STR_LEN := by rw [utf8_length]; exact h
  have hw : intToBytes ser_STR_LEN_BYTES (((utf8 s).length : Nat) : Int) = some (toBE ser_STR_LEN_BYTES ser_NONE_STR_LEN) := by
    rw [hl]; decide
  refine ⟨toBE ser_STR_LEN_BYTES ser_NONE_STR_LEN ++ utf8 s, ?_, ?_⟩
  · simp [writeStringOrNone, seqW, hw]
  · have := readNat_toBE ser_STR_LEN_BYTES ser_NONE_STR_LEN (utf8 s ++ rest) (by decide)
    simp [readStringOrNone, StateT.run_bind, this]

/-- `write_list` succeeds iff the length fits into four bytes and every element is accepted -/
theorem write_list_encodable_iff {α} (l : List α) (w : α → Option Bytes) :
    (writeList l w).isSome ↔ (l.length < 256 ^ ser_LONG_INT_BYTES ∧ ∀ x ∈ l, (w x).isSome) :=
  writeList_isSome l w _ fun _ => Iff.rfl

/-- generic list framing: if the element reader undoes the element writer then `read_list` undoes `write_list` -/
theorem read_list_write_list {α} (w : α → Option Bytes) (r : Rd α)
    (helem : ∀ x bs rest, w x = some bs → r.run (bs ++ rest) = some (x, rest))
    (l : List α) (bs rest : Bytes) (h : writeList l w = some bs) :
    (readList r).run (bs ++ rest) = some (l, rest) :=
  RT_writeList (P := fun _ => True) (fun x bs rest _ hx => helem x bs rest hx) l bs rest (fun _ _ => trivial) h

theorem read_list_of_pairs_write (l : List (Int × Int)) (bs rest : Bytes)
    (h : writeListOfPairs l (writeInt ·) = some bs) :
    (readListOfPairs readInt).run (bs ++ rest) = some (l, rest) :=
  RT_writeListOfPairs (RT_writeInt ser_LONG_INT_BYTES) l bs rest (fun _ _ => ⟨trivial, trivial⟩) h

example : writeList [3, -1] writeIntNeg = some [0, 0, 0, 2, 0, 0, 0, 3, 128, 0, 0, 1] ∧
    (readList readIntNeg).run [0, 0, 0, 2, 0, 0, 0, 3, 128, 0, 0, 1] = some ([3, -1], []) := by decide

theorem write_bool_array_encodable_iff (l : List Bool) : (writeBoolArray l).isSome ↔ l.length ≤ 8 :=
  writeBoolArray_isSome l

theorem read_bool_array_write (l : List Bool) (bs rest : Bytes) (h : writeBoolArray l = some bs) :
    (readBoolArray l.length).run (bs ++ rest) = some (l, rest) :=
  RT_writeBoolArray l.length l bs rest rfl h

example : writeBoolArray [true, false, true] = some [5] ∧
    (readBoolArray 3).run [5, 1] = some ([true, false, true], [1]) ∧
    (writeBoolArray (List.replicate 9 true)).isSome = false := by decide

/-- a dict (distinct keys, as every Python dict has) with int / str / int-pair values is read back unchanged,
    in insertion order, for every value `write_dict` accepts -/
theorem read_dict_write_dict (d : Dict) (bs rest : Bytes) (h : writeDict d = some bs)
    (hkeys : (d.map (·.1)).Nodup) : readDict.run (bs ++ rest) = some (d, rest) :=
  RT_writeDict d bs rest hkeys h

example : writeDict [("a", .int (-5))] = some [0, 0, 0, 1, 0, 1, 97, 9, 128, 0, 0, 5] ∧
    readDict.run [0, 0, 0, 1, 0, 1, 97, 9, 128, 0, 0, 5] = some ([("a", .int (-5))], []) ∧
    (([("a", DictVal.int (-5))] : Dict).map (·.1)).Nodup := by
  refine ⟨by decide +kernel, by decide +kernel, by simp⟩

/-- before fix 93f9737 `read_dict` read int values with `read_int`: {"a": -5} came back as {"a": 2147483653} -/
theorem read_dict_buggy_witness :
    writeDict [("a", .int (-5))] = some [0, 0, 0, 1, 0, 1, 97, 9, 128, 0, 0, 5] ∧
    readDictBuggy.run [0, 0, 0, 1, 0, 1, 97, 9, 128, 0, 0, 5] = some ([("a", .int 2147483653)], []) := by
  decide +kernel

/-- a penalty that is a multiple of 2^-20 is stored exactly -/
theorem penalty_roundtrip (n : Int) (bs rest : Bytes)
    (h : writePenalty ((n : Rat) / ((ser_SHORT_FLOAT_MULTIPLIER : Nat) : Rat)) = some bs) :
    readPenalty.run (bs ++ rest) = some ((n : Rat) / ((ser_SHORT_FLOAT_MULTIPLIER : Nat) : Rat), rest) :=
  RT_writePenalty _ bs rest ⟨n, rfl⟩ h

/-- …and is accepted exactly when 0 ≤ n < 2^32 (i.e. the penalty is below 2^12) -/
theorem penalty_multiple_encodable_iff (n : Int) :
    (writePenalty ((n : Rat) / ((ser_SHORT_FLOAT_MULTIPLIER : Nat) : Rat))).isSome ↔ (0 ≤ n ∧ n.toNat < 256 ^ 4) := by
  simp only [writePenalty, writeInt, penaltyToInt_of_multiple, intToBytes_isSome_iff]
  rfl

/-- any other penalty `q` is read back as `quantPenalty q` (truncated to 20 fractional bits) … -/
theorem penalty_decode_encode (q : Rat) (bs rest : Bytes) (h : writePenalty q = some bs) :
    readPenalty.run (bs ++ rest) = some (quantPenalty q, rest) :=
  RTn_writePenalty q bs rest trivial h

/-- … and encode ∘ decode ∘ encode = encode: saving what was loaded writes the same bytes again -/
theorem penalty_idempotent (q : Rat) : writePenalty (quantPenalty q) = writePenalty q := by
  simp only [writePenalty, penaltyToInt_quantPenalty]

example : writePenalty (mkRat 3 4) = some [0, 12, 0, 0] ∧ readPenalty.run [0, 12, 0, 0] = some (mkRat 3 4, []) ∧
    writePenalty (mkRat 1 10) = some [0, 1, 153, 153] ∧ quantPenalty (mkRat 1 10) = mkRat 104857 1048576 ∧
    (writePenalty (mkRat (-1) 2)).isSome = false ∧ (writePenalty 4096).isSome = false := by
  decide +kernel

end IsoVerif.Props.C15
