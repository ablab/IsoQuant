/-
C03 — the per-chromosome files are merged in natural order: the sort key never raises, the comparison is a total
preorder on file names, the merge order is a function of the set of names (when keys are distinct) and merging
neither loses nor duplicates a record.
-/
import IsoVerif.Model.Gtf
import IsoVerif.Lemmas.C03Merge
import IsoVerif.Lemmas.ListFacts

namespace IsoVerif.Props.C03Merge
open IsoVerif.Model IsoVerif.Lemmas IsoVerif.Model.C03 IsoVerif.Lemmas.C03
open IsoVerif.Lemmas.C06 (LinCmp lexCmp_lin)
open IsoVerif.Model.C06 (lexCmp)

/-- **natural_key_never_raises**: for all file names the key lists alternate `str, int, str, …` starting with `str`,
    so Python's list comparison never meets an `int` against a `str`: `keyLt` is defined for every pair of names -/
theorem natural_key_never_raises (s t : List Char) : ∃ r, keyLt (natKey s) (natKey t) = some r :=
  ⟨_, keyLt_natKey s t⟩

/-- `a ≤ b` in natural order -/
def natLe (a b : List Char) : Prop := keyLt (natKey b) (natKey a) = some false

theorem natLe_iff (a b : List Char) : natLe a b ↔ cmpName a b ≠ .gt := by
  rw [cmpName, ← (lexCmp_lin cmpTok_lin).not_lt_iff, natLe, keyLt_natKey, cmpName]
  simp

/-- the comparison of the sort and the order of the statements are one relation -/
theorem nameLt_false_iff_natLe {α} (name : α → List Char) (a b : α) :
    nameLt name b a = false ↔ natLe (name a) (name b) :=
  (nameLt_false_iff name a b).trans (natLe_iff _ _).symm

/-- **natural_merge_order_total**: the sort key induces a total preorder on file names (total, transitive,
    reflexive); two names are equivalent iff their keys are equal (same text up to ASCII case and leading zeros) -/
theorem natural_merge_order_total :
    (∀ a b, natLe a b ∨ natLe b a) ∧ (∀ a b c, natLe a b → natLe b c → natLe a c) ∧ (∀ a, natLe a a) ∧
    (∀ a b, natLe a b → natLe b a → natKey a = natKey b) := by
  have L := lexCmp_lin cmpTok_lin
  simp only [natLe_iff]
  refine ⟨fun a b => L.le_total _ _, fun a b c => L.le_trans _ _ _, fun a => by simp [cmpName, (L.eq_iff _ _).2 rfl], ?_⟩
  intro a b h1 h2
  rw [cmpName, L.swap] at h2
  apply (L.eq_iff _ _).1
  cases h : lexCmp cmpTok (natKey a) (natKey b) <;> simp_all [cmpName, Ordering.swap]

/-- **sort_natural_total_sorted**: `file_names.sort(key=…)` never raises, returns a permutation of the names that
    is sorted for the natural order -/
theorem sort_natural_total_sorted {α} (name : α → List Char) (l : List α) :
    ∃ r, sortNatural name l = some r ∧ r.Perm l ∧ r.Pairwise (fun a b => natLe (name a) (name b)) := by
  refine ⟨_, sortNatural_eq name l, isortBy_perm _ l, ?_⟩
  have := isortBy_sorted (nameLt_strict name) l
  exact this.imp fun {a b} h => (nameLt_false_iff_natLe name a b).mp h

/-- **merge_order_is_function_of_name_set**: if the keys of the names are pairwise different (no two chromosome
    names differ only by case / leading zeros), the merge order does not depend on the order in which the chromosomes
    are listed (`chr_ids` is sorted by length in `get_chr_list`, ties in dict order) -/
theorem merge_order_is_function_of_name_set {α} (name : α → List Char) (l1 l2 : List α) (hp : l1.Perm l2)
    (hinj : ∀ a ∈ l1, ∀ b ∈ l1, natKey (name a) = natKey (name b) → a = b) :
    sortNatural name l1 = sortNatural name l2 := by
  rw [sortNatural_eq, sortNatural_eq]
  congr 1
  have s1 := isortBy_sorted (nameLt_strict name) l1
  have s2 := isortBy_sorted (nameLt_strict name) l2
  have p : (isortBy (nameLt name) l1).Perm (isortBy (nameLt name) l2) :=
    (isortBy_perm _ l1).trans (hp.trans (isortBy_perm _ l2).symm)
  refine List.Perm.eq_of_pairwise ?_ s1 s2 p
  intro a b ha hb h1 h2
  have ha' : a ∈ l1 := (mem_isortBy _ _ _).mp ha
  have hb' : b ∈ l1 := hp.mem_iff.mpr ((mem_isortBy _ _ _).mp hb)
  exact hinj a ha' b hb' (natural_merge_order_total.2.2.2 _ _
    ((nameLt_false_iff_natLe name a b).mp h1) ((nameLt_false_iff_natLe name b a).mp h2))

/-- **merge_preserves_records**: `merge_files` never raises, and the merged file is a permutation of the
    concatenation of the per-chromosome files: every record of every part appears exactly as often as in the parts
    (gene / transcript records that are unique per chromosome file and carry chromosome-specific ids stay unique).
    No hypothesis on the records: since the repair `fix_merge_header` a record that starts with `#` (contig `#c1`) is a
    record like any other (`merge_files_no_header`; the old behaviour: `merge_hash_witness`) -/
theorem merge_preserves_records {α} (files : List (List Char × List α)) :
    ∃ r, mergeFiles files = some r ∧ r.Perm (files.flatMap (·.2)) := by
  obtain ⟨s, hs, hperm, _⟩ := sort_natural_total_sorted (fun f : List Char × List α => f.1) files
  refine ⟨s.flatMap (·.2), ?_, hperm.flatMap_right _⟩
  unfold mergeFiles
  rw [hs]; rfl

/-- the GTF merges skip no line: `header_lines = 0` is plain concatenation -/
theorem merge_files_no_header {α} (files : List (List Char × List α)) : mergeFilesH 0 files = mergeFiles files := by
  simp [mergeFilesH, mergeFiles]

/-- **merge_preserves_records_with_header**: a merge whose parts carry `k` header lines each (read_assignments.tsv,
    corrected_reads.bed) keeps exactly the records: no hypothesis on what a record looks like -/
theorem merge_preserves_records_with_header {α} (k : Nat) (files : List (List Char × (List α × List α)))
    (hk : ∀ f ∈ files, f.2.1.length = k) :
    ∃ r, mergeFilesH k (files.map (fun f => (f.1, f.2.1 ++ f.2.2))) = some r ∧
      r.Perm (files.flatMap (fun f => f.2.2)) := by
  obtain ⟨s, hs, hperm, _⟩ := sort_natural_total_sorted (fun f : List Char × List α => f.1)
    (files.map (fun f => (f.1, f.2.1 ++ f.2.2)))
  refine ⟨s.flatMap (fun f => f.2.drop k), ?_, ?_⟩
  · unfold mergeFilesH; rw [hs]; rfl
  · refine (hperm.flatMap_right _).trans ?_
    rw [List.flatMap_map]
    have : ∀ f ∈ files, (f.2.1 ++ f.2.2).drop k = f.2.2 := by
      intro f hf; rw [← hk f hf, List.drop_left]
    exact List.Perm.of_eq (flatMap_congr_mem this)

/-- a contig named `#c1`: three GTF records (as record ids 1, 2, 3; `isHashRec` marks the records whose line starts with
    `#`, i.e. all records of that contig) and one record of contig `c2` -/
def isHashRec (r : Nat) : Bool := r ≤ 3
def hashFiles : List (List Char × List Nat) := [("S_#c1.gtf".toList, [1, 2, 3]), ("S_c2.gtf".toList, [4])]

/-- **merge_hash_witness**: under the header test by content of the unrepaired tree every record of the contig `#c1`
    is lost in the merge (`merge_preserves_records` was false of that code; replayed on the real code by
    harness/props/C03.py `oracle_merge`); the repaired merge keeps all four -/
theorem merge_hash_witness :
    mergeFilesOrig isHashRec hashFiles = some [4] ∧ mergeFiles hashFiles = some [1, 2, 3, 4] := by
  decide +kernel

/-- **merge_preserves_records_orig_partial**: what held of the unrepaired code - records are preserved when no record
    line starts with `#` (the exact excluded class) -/
theorem merge_preserves_records_orig_partial {α} (isHdr : α → Bool) (files : List (List Char × List α))
    (h : ∀ f ∈ files, ∀ r ∈ f.2, isHdr r = false) :
    mergeFilesOrig isHdr files = mergeFiles files := by
  obtain ⟨s, hs, hperm, hsorted⟩ := sort_natural_total_sorted (fun f : List Char × List α => f.1) files
  unfold mergeFilesOrig mergeFiles
  rw [hs]
  simp only [Option.map_some]
  congr 1
  have hs' : ∀ f ∈ s, ∀ r ∈ f.2, isHdr r = false := fun f hf => h f (hperm.mem_iff.mp hf)
  refine flatMap_congr_mem fun f hf => ?_
  cases hr : f.2 with
  | nil => rfl
  | cons r rs =>
    have : isHdr r = false := hs' f hf r (by simp [hr])
    simp [this]

example : ∀ f ∈ [("S_c2.gtf".toList, [4, 5])], ∀ r ∈ f.2, isHashRec r = false := by decide +kernel

/-- the records of one chromosome stay contiguous and in their order: the merged file is the concatenation of the
    parts in sorted order -/
theorem merge_is_concatenation {α} (files : List (List Char × List α)) :
    mergeFiles files = some ((isortBy (nameLt (fun f : List Char × List α => f.1)) files).flatMap (·.2)) := by
  unfold mergeFiles
  rw [sortNatural_eq]; rfl

-- the order the code documents: chr1 < chr2 < chr10 < chrX; case-insensitive; leading zeros tie
example : (sortNatural id ["chr10".toList, "chrX".toList, "chr2".toList, "chr1".toList]).map (·.map String.ofList) =
    some ["chr1", "chr2", "chr10", "chrX"] := by decide +kernel

/-- **natural_order_tie_witness**: `chr01` and `chr1` have equal keys: their relative order in the merged file is the
    order in which the chromosomes were listed (the sort is stable) - the only way the merge order can depend on more
    than the set of names -/
theorem natural_order_tie_witness :
    natKey "S_chr01.gtf".toList = natKey "S_chr1.gtf".toList ∧
    sortNatural id ["S_chr01.gtf".toList, "S_chr1.gtf".toList] ≠ sortNatural id ["S_chr1.gtf".toList, "S_chr01.gtf".toList] := by
  decide +kernel

end IsoVerif.Props.C03Merge
