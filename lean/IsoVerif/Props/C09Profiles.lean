/-
C09 — exon / intron inclusion–exclusion tables per group (`ProfileFeatureCounter`, `ExonCounter`, `IntronCounter` of
src/long_read_counter.py): every line holds exactly the reads of its group, the groups sum to the ungrouped table.
The numeric group ids are handed out on first sight of a group, so they depend on the order of the reads — the
theorems hold for every order.
-/
import IsoVerif.Model.C09
import IsoVerif.Lemmas.C09
import IsoVerif.Lemmas.C09Profile

namespace IsoVerif.Props.C09Profiles
open IsoVerif.Gen IsoVerif.Model.C09 IsoVerif.Lemmas.C09 IsoVerif.Lemmas.C09Profile

/-- **group_of_read** (exon / intron counters): after any stream of reads, for every group name `g` that has a numeric
    id and every feature `f`, the cell of `g` in the inclusion table (`sign = 1`; exclusion table: `sign = −1`) is the number
    of profile positions equal to `sign` at `f` over exactly the valid reads of group `g` -/
theorem profile_group_of_read (rs : List PRead) (c : PCounter) (h : pRun (initPCounter false) rs = .ok c)
    (f g : String) (gid : Nat) (hg : c.ids.lookup g = some gid) (sign : Int) (hs : sign = 1 ∨ sign = -1) :
    cell (tbl c sign) f gid = sumOver rs (fun r => if r.group = g then (if r.valid = true then pVal sign r.profile r.fids f else 0) else 0) := by
  obtain ⟨hinv, _, _, _, hcells⟩ := pRun_spec (PInv_init false) h
  rw [hcells sign hs f gid, tbl_init, Rat.zero_add]
  apply sumOver_congr
  intro r _
  have hiff : c.ids.lookup (pName (initPCounter false) r) = some gid ↔ r.group = g := by
    simp only [pName, initPCounter, Bool.false_eq_true, if_false]
    exact ⟨fun hr => lookup_inj hinv hr hg, fun e => by rw [e]; exact hg⟩
  by_cases hr : r.group = g <;> by_cases hv : r.valid = true <;> simp [hiff, hr, hv]

/-- the ungrouped exon / intron counter counts every valid read in its single column (numeric id 0, `NA`) -/
theorem profile_ungrouped (rs : List PRead) (c : PCounter) (h : pRun (initPCounter true) rs = .ok c) (f : String) :
    c.ids.lookup NA = some 0 ∧ ∀ sign, sign = 1 ∨ sign = -1 →
      cell (tbl c sign) f 0 = sumOver rs (fun r => if r.valid = true then pVal sign r.profile r.fids f else 0) := by
  obtain ⟨hinv, _, hmono, _, hcells⟩ := pRun_spec (PInv_init true) h
  have hna : c.ids.lookup NA = some 0 := hmono NA 0 (by simp [initPCounter])
  refine ⟨hna, fun sign hs => ?_⟩
  rw [hcells sign hs f 0, tbl_init, Rat.zero_add]
  apply sumOver_congr
  intro r _
  simp [pName, initPCounter, hna]

/-- the partition for the table of `sign`: an instance of `sumOver_partition` -/
theorem profile_partition_sign (rs : List PRead) (cG cU : PCounter) (hG : pRun (initPCounter false) rs = .ok cG)
    (hU : pRun (initPCounter true) rs = .ok cU) (f : String) (sign : Int) (hs : sign = 1 ∨ sign = -1) :
    sumOver (cG.ids.map Prod.fst) (fun g => cell (tbl cG sign) f (idOf cG.ids g)) = cell (tbl cU sign) f 0 := by
  obtain ⟨hinv, _, _, hall, _⟩ := pRun_spec (PInv_init false) hG
  rw [(profile_ungrouped rs cU hU f).2 sign hs]
  refine sumOver_partition _ hinv.names_nodup rs (fun r => r.group) _ _ (fun g hg => ?_) (fun r hr hv => ?_)
  · obtain ⟨p, hp, rfl⟩ := List.mem_map.mp hg
    have hgid : cG.ids.lookup p.1 = some p.2 := (IsoVerif.Lemmas.lookup_iff_mem_of_nodup hinv.names_nodup p.1 p.2).mpr hp
    rw [show idOf cG.ids p.1 = p.2 by simp [idOf, hgid]]
    exact profile_group_of_read rs cG hG f p.1 p.2 hgid sign hs
  · have hvalid : r.valid = true := by
      cases h : r.valid with
      | true => rfl
      | false => simp [h] at hv
    obtain ⟨gid, hg⟩ := hall r hr hvalid
    simp only [pName, initPCounter, Bool.false_eq_true, if_false] at hg
    exact List.mem_map.mpr ⟨(r.group, gid), IsoVerif.Lemmas.mem_of_lookup hg, rfl⟩

/-- **partition** (exon / intron counters): the cells of all groups sum to the ungrouped cell -/
theorem profile_partition (rs : List PRead) (cG cU : PCounter) (hG : pRun (initPCounter false) rs = .ok cG)
    (hU : pRun (initPCounter true) rs = .ok cU) (f : String) :
    sumOver (cG.ids.map Prod.fst) (fun g => cell cG.incl f (idOf cG.ids g)) = cell cU.incl f 0 ∧
    sumOver (cG.ids.map Prod.fst) (fun g => cell cG.excl f (idOf cG.ids g)) = cell cU.excl f 0 :=
  ⟨profile_partition_sign rs cG cU hG hU f 1 (Or.inl rfl), profile_partition_sign rs cG cU hG hU f (-1) (Or.inr rfl)⟩

/-- **the dumped lines**: `dump()` writes the line (feature, group, include, exclude) exactly when the feature was seen,
    the group has an id, the two numbers are the cells of that group, and one of them is positive — group *names*,
    never numeric ids, label the lines -/
theorem profile_lines (c : PCounter) (f g : String) (i e : Rat) :
    (f, g, i, e) ∈ pDump c ↔
      f ∈ c.names ∧ ∃ gid, c.ids.lookup g = some gid ∧ i = cell c.incl f gid ∧ e = cell c.excl f gid ∧ (i > 0 ∨ e > 0) := by
  unfold pDump
  simp only [List.mem_flatMap, List.mem_filterMap]
  constructor
  · rintro ⟨f', hf', g', _, hsome⟩
    cases hl : c.ids.lookup g' with
    | none => simp [hl] at hsome
    | some gid =>
      simp only [hl] at hsome
      split at hsome
      · rename_i hpos
        injection hsome with hsome
        injection hsome with h1 h2
        injection h2 with h2 h3
        injection h3 with h3 h4
        subst h1; subst h2
        exact ⟨hf', gid, hl, h3.symm, h4.symm, by rw [← h3, ← h4]; exact hpos⟩
      · cases hsome
  · rintro ⟨hf, gid, hl, hi, he, hpos⟩
    refine ⟨f, hf, g, ?_, ?_⟩
    · exact mem_sortStr.mpr (List.mem_map.mpr ⟨(g, gid), IsoVerif.Lemmas.mem_of_lookup hl, rfl⟩)
    · simp only [hl]
      rw [if_pos (by rw [← hi, ← he]; exact hpos)]
      rw [hi, he]

-- non-vacuity: two groups seen in the order b, a (ids 1, 2); an invalid read is ignored
example : (match pRun (initPCounter false)
      [⟨true, [1, -1, 0, 1], ["e1", "e2", "e3", "e4"], "b"⟩, ⟨true, [1, 0, -2, 1], ["e1", "e2", "e3", "e4"], "a"⟩,
       ⟨false, [1], ["e1"], "z"⟩] with
    | .ok c => decide (c.ids = [("b", 1), ("a", 2)] ∧
        pDump c = [("e1", "a", 1, 0), ("e1", "b", 1, 0), ("e2", "b", 0, 1), ("e4", "a", 1, 0), ("e4", "b", 1, 0)])
    | .error _ => false) = true := by decide +kernel

end IsoVerif.Props.C09Profiles
