/-
C04 / C03 — `TranscriptToGeneJoiner`: after `join_transcripts` every novel transcript sits in a gene of its own strand.
Genes are merged only when `count_score` reaches 0.1, and `count_score` is 0.0 for genes of different strands; gene strands
never change.  The overlap score itself (`heur`) is universally quantified.
Property theorems only; helper lemmas: IsoVerif/Lemmas/GeneJoiner.lean.  Model: IsoVerif/Model/GeneJoiner.lean.
-/
import IsoVerif.Model.GeneJoiner
import IsoVerif.Lemmas.GeneJoiner

namespace IsoVerif.Props.C04Join
open IsoVerif.Gen IsoVerif.Model IsoVerif.Model.C04 IsoVerif.Lemmas.C04

/-- **count_score_strand_gate.** Whatever the overlap heuristic: `count_score` of two genes of different strands is `0.0`,
    which is below the merge cutoff `0.1`; so a score at or above the cutoff certifies equal strands. -/
theorem count_score_strand_gate (heur : ScoreFn) (j : Joiner) (a b : String) (s : Score)
    (h : j.countScore heur a b = some s) :
    (∀ s1 s2, amGet? j.strands a = some s1 → amGet? j.strands b = some s2 → s1 ≠ s2 → s = Score.zero) ∧
    Score.lt Score.zero scoreCutoff = true ∧
    (Score.lt s scoreCutoff = false → ∃ st, amGet? j.strands a = some st ∧ amGet? j.strands b = some st) := by
  refine ⟨?_, zero_lt_cutoff, countScore_strands h⟩
  intro s1 s2 h1 h2 hne
  unfold Joiner.countScore at h
  rw [h1, h2] at h
  exact (Option.some.inj ((if_pos hne).symm.trans h)).symm

/-- **joined_gene_strand.** For every overlap heuristic, every annotation and every storage in which novel models that share
    a transcript id share the strand (`hid`: less than pairwise distinct ids) and no novel id is an annotated one (`href`) —
    the interface to C17: if the constructor and `join_transcripts` run through, the returned storage is the input storage with new gene ids, and the gene every novel (non-`known`) model ends up in has, in
    the joiner's `gene_strands`, exactly the model's strand — whether the gene is its original one, an annotated gene it was
    merged into, or a novel gene that absorbed it. -/
theorem joined_gene_strand (heur : ScoreFn) (gs : List RefGene) (ts : List (String × String × List Iv))
    (storage : List TModel) (jn : Joiner) (ms : List TModel)
    (hid : ∀ m1 ∈ storage, ∀ m2 ∈ storage, m1.ttype ≠ .known → m2.ttype ≠ .known → m1.tid = m2.tid → m1.strand = m2.strand)
    (href : ∀ t ∈ ts, ∀ m ∈ storage, m.ttype ≠ .known → m.tid ≠ t.1)
    (h : joinTranscripts heur gs ts storage = some (jn, ms)) :
    ∀ m' ∈ ms, ∃ m ∈ storage, m' = { m with gene := m'.gene } ∧
      (m.ttype ≠ .known → amGet? jn.strands m'.gene = some m.strand) := by
  unfold joinTranscripts at h
  split at h
  · cases h
  · rename_i j0 hj0
    unfold Joiner.join at h
    split at h
    · cases h
    · rename_i j1 hj1
      split at h
      · cases h
      · rename_i j2 hj2
        obtain ⟨ms', hms, e⟩ := Option.map_eq_some_iff.1 h
        cases e
        -- scores of a fresh joiner are empty; count_scores changes nothing but the scores
        obtain ⟨sc, rfl, hsc1⟩ := countScores_spec (init_scores hj0 ▸ fun _ hp => nomatch hp) hj1
        have hinv0 : StrandInv storage j0 := init_inv hid href hj0
        have hinv1 : StrandInv storage { j0 with scores := sc } := hinv0
        obtain ⟨hinv2, _⟩ := mergeLoop_inv _ hinv1 hsc1 hj2
        intro m' hm'
        obtain ⟨m, hm, hf⟩ := IsoVerif.Lemmas.mapM_option_mem _ storage _ hms m' hm'
        obtain ⟨g, hg, rfl⟩ := Option.map_eq_some_iff.1 hf
        obtain ⟨l, hl, hml⟩ := geneOf_mem hg
        exact ⟨m, hm, rfl, fun hn => (hinv2 (g, l) hl m hm hn hml).1⟩

/-- **joined_uniform_strands.** Consequently two novel models that share a gene after `join_transcripts` have the same
    strand: the hypothesis `UniformStrands` of C03's `gene_strand_matches_partial` holds among the novel transcripts of every
    gene the joiner hands to the printer. -/
theorem joined_uniform_strands (heur : ScoreFn) (gs : List RefGene) (ts : List (String × String × List Iv))
    (storage : List TModel) (jn : Joiner) (ms : List TModel)
    (hid : ∀ m1 ∈ storage, ∀ m2 ∈ storage, m1.ttype ≠ .known → m2.ttype ≠ .known → m1.tid = m2.tid → m1.strand = m2.strand)
    (href : ∀ t ∈ ts, ∀ m ∈ storage, m.ttype ≠ .known → m.tid ≠ t.1)
    (h : joinTranscripts heur gs ts storage = some (jn, ms)) :
    ∀ a ∈ ms, ∀ b ∈ ms, a.ttype ≠ .known → b.ttype ≠ .known → a.gene = b.gene → a.strand = b.strand := by
  intro a ha b hb hna hnb hg
  obtain ⟨ma, _, ea, sa⟩ := joined_gene_strand heur gs ts storage jn ms hid href h a ha
  obtain ⟨mb, _, eb, sb⟩ := joined_gene_strand heur gs ts storage jn ms hid href h b hb
  have h1 := sa fun e => hna ((congrArg TModel.ttype ea).trans e)
  have h2 := sb fun e => hnb ((congrArg TModel.ttype eb).trans e)
  exact (congrArg TModel.strand ea).trans ((Option.some.inj (h1.symm.trans ((congrArg _ hg).trans h2))).trans
    (congrArg TModel.strand eb).symm)

/-- **gene_strands_never_change.** The merge loop only deletes entries of `gene_strands`: the strand a surviving gene has
    at the end is the strand `count_scores` found for it (for an annotated gene: the annotated strand). -/
theorem gene_strands_never_change (heur : ScoreFn) (fuel : Nat) (storage : List TModel) (j j' : Joiner)
    (hinv : StrandInv storage j) (hsc : ScoreInv j.strands j.scores) (h : Joiner.mergeLoop heur fuel j = some j') :
    ∀ g s, amGet? j'.strands g = some s → amGet? j.strands g = some s :=
  (mergeLoop_inv fuel hinv hsc h).2

/-- **merge_shortens_scores.** `merge_genes(g1, g2)` drops every score entry that mentions `g2`; the loop always merges
    the two genes of an existing entry, so `len(self.scores)` strictly decreases with every iteration. -/
theorem merge_shortens_scores (heur : ScoreFn) (j j' : Joiner) (g1 g2 : String) (h : j.mergeGenes heur g1 g2 = some j')
    (hp : ∃ p ∈ j.scores, p.1.1 = g2 ∨ p.1.2 = g2) : j'.scores.length < j.scores.length :=
  mergeGenes_scores h hp

/-- **merge_loop_terminates.** Hence the `while len(self.scores) > 1` loop ends after at most `len(scores)` iterations:
    the model's loop gives the same result for every amount of fuel above `len(scores)`; `join_transcripts` runs it with
    `len(scores) + 1`, so a `none` of the model is always an exception of the code, never exhausted fuel. -/
theorem merge_loop_terminates (heur : ScoreFn) (j : Joiner) (extra : Nat) :
    Joiner.mergeLoop heur (j.scores.length + 1 + extra) j = Joiner.mergeLoop heur (j.scores.length + 1) j :=
  mergeLoop_fuel heur _ _ j (by omega) (by omega)

/-! non-vacuity: an annotated `+` gene, a novel `+` gene overlapping it (merged into it) and a novel `-` gene on the same
    region (kept apart), with the code's own score formula -/

def exGenes : List RefGene := [⟨"G0", .plus, some (100, 1000)⟩]
def exRefTx : List (String × String × List Iv) := [("G0.T0", "G0", [(200, 300), (400, 500)])]
def exStorage : List TModel :=
  [⟨"chr1", .plus, "transcript1.chr1.nnic", "novel_gene_chr1_2", [(100, 199), (301, 399), (501, 900)], .novel_not_in_catalog, []⟩,
   ⟨"chr1", .minus, "transcript3.chr1.nnic", "novel_gene_chr1_4", [(100, 199), (301, 399), (501, 900)], .novel_not_in_catalog, []⟩,
   ⟨"chr1", .plus, "G0.T0", "G0", [(100, 199), (301, 399), (501, 1000)], .known, []⟩]

example : (joinTranscripts countScoreExact exGenes exRefTx exStorage).map
      (fun r => (r.2.map (fun m => (m.tid, m.gene)), r.1.strands))
    = some ([("transcript1.chr1.nnic", "G0"), ("transcript3.chr1.nnic", "novel_gene_chr1_4"), ("G0.T0", "G0")],
            [("G0", .plus), ("novel_gene_chr1_4", .minus)]) := by decide +kernel

example : (∀ m1 ∈ exStorage, ∀ m2 ∈ exStorage, m1.ttype ≠ .known → m2.ttype ≠ .known → m1.tid = m2.tid → m1.strand = m2.strand) ∧
    (∀ t ∈ exRefTx, ∀ m ∈ exStorage, m.ttype ≠ .known → m.tid ≠ t.1) := by decide +kernel

end IsoVerif.Props.C04Join
