/-
C04 — `IntronGraph.attach_terminal_positions`: the terminal vertices of the graph.
Every vertex attached to `outgoing_edges[v]` is `(VERTEX_polya | VERTEX_read_end, pos)` with `pos` beyond the end of `v`,
every vertex attached to `incoming_edges[v]` is `(VERTEX_polyt | VERTEX_read_start, pos)` with `pos` before the start of `v`;
`pos` is the outer end of a non-multimapper read or (polyA / polyT clusters only) an annotated transcript end of an isoform
whose last / first intron is `v`.  Hence all terminal positions lie inside the chromosome.
Property theorems only; helper lemmas: IsoVerif/Lemmas/IntronTerminals.lean.  Model: IsoVerif/Model/IntronTerminals.lean.
-/
import IsoVerif.Model.IntronTerminals
import IsoVerif.Lemmas.IntronTerminals
import IsoVerif.Props.C04Graph

namespace IsoVerif.Props.C04Terminals
open IsoVerif.Gen IsoVerif.Model IsoVerif.Model.C04 IsoVerif.Lemmas.C04 IsoVerif.Props.C04Graph

/-- **attached_terminals_spec.** Whatever the graph, the reads and the thresholds: every operation
    `attach_terminal_positions` performs is a defaultdict read of `clustered_introns[i]` for a neighbour `i`, or attaches to a
    key `v` of `clustered_introns` a polyA / read-end vertex positioned after `v.end` (resp. a polyT / read-start vertex
    positioned before `v.start`) whose position is the end (start) of a non-multimapper read — or, for polyA / polyT
    clusters, an annotated terminal position of `v`.  (`none` = the call raises or does not return: an `assert` of
    `cluster_polya_positions` or its `while` loop, the IndexError of `collect_terminal_positions` on a spliced read
    without exons.) -/
theorem attached_terminals_spec (g : Graph) (p : TermParams) (reads : List Read) (ops : List Op) (fr : Bool)
    (h : attachTerminalOps g p reads = some (ops, fr)) : ∀ op ∈ ops, AttachOpOK g p reads op :=
  attachTerminalOps_ok h

/-- **attach_keeps_correction_map.** `attach_terminal_positions` changes neither the correction map nor the discarded
    set (so `correction_map_clean` survives it), and adds nothing but the attached pairs to the edge sets. -/
theorem attach_keeps_correction_map (g g' : Graph) (p : TermParams) (reads : List Read)
    (h : g.attachTerminals p reads = some g') :
    g'.col.corr = g.col.corr ∧ g'.col.discarded = g.col.discarded ∧
    (∀ k t, (k, t) ∈ g'.out → (k, t) ∈ g.out ∨ AttachOpOK g p reads (Op.attachOut k t)) ∧
    (∀ k t, (k, t) ∈ g'.inc → (k, t) ∈ g.inc ∨ AttachOpOK g p reads (Op.attachInc k t)) := by
  unfold Graph.attachTerminals at h
  split at h
  · simp at h
  · rename_i ops fr hops
    have hok := attachTerminalOps_ok hops
    obtain ⟨h1, h2, h3, h4⟩ := foldlM_attach_edges (p := p) (reads := reads) g ops hok h
    exact ⟨h3, h4, fun k t hk => (h1 k t hk).imp_right (hok _), fun k t hk => (h2 k t hk).imp_right (hok _)⟩

/-- **attach_is_history.** On a graph without terminal vertices the operations of `attach_terminal_positions` are scoped
    in the sense of `runOps`: the whole `IntronGraph.__init__` is one operation history, so every theorem stated for
    arbitrary histories (`vertices_observed`, `edges_witnessed`, `paths_monotone`, …) covers the modelled attachment. -/
theorem attach_is_history (obs : List Iv) (g g' : Graph) (p : TermParams) (reads : List Read) (hn : NoTerm g)
    (h : g.attachTerminals p reads = some g') :
    ∃ aops fr, attachTerminalOps g p reads = some (aops, fr) ∧ runOps obs g aops = some g' := by
  unfold Graph.attachTerminals at h
  split at h
  · simp at h
  · rename_i ops fr hops
    refine ⟨ops, fr, hops, ?_⟩
    rw [runOps_of_attach (obs := obs) hn ops (attachTerminalOps_ok hops) g (fun v hv => hv)]
    exact h

/-- **terminal_vertices_spec.** The whole constructor: `process`, `construct()`, ANY history of operations that are not
    attachments (what `simplify()` does), then the modelled `attach_terminal_positions`.  If read introns have non-negative
    coordinates, read exons are well-formed and, like the annotated transcript ends, lie inside `[1, L]`, then every non-intron member of
    `outgoing_edges[k]` has a terminal code, a position after `k.end` and inside `[1, L]`; every non-intron member of
    `incoming_edges[k]` has a starting code, a position before `k.start` and inside `[1, L]`.  Third conjunct: the graph before
    the attachment has no terminal vertex (`NoTerm g1`, the hypothesis of `attach_is_history`). -/
theorem terminal_vertices_spec (known : List Iv) (δ minCount : Int) (reads : List Read) (ops : List Op) (g0 g1 g' : Graph)
    (p : TermParams) (L : Int) (hpos : ∀ v, Observed reads v → 0 ≤ v.1)
    (hreads : ∀ r ∈ reads, ∀ e ∈ r.exons, 1 ≤ e.1 ∧ e.1 ≤ e.2 ∧ e.2 ≤ L)
    (hke : ∀ e ∈ p.knownEnds, ∀ x ∈ e.2, 1 ≤ x ∧ x ≤ L) (hks : ∀ e ∈ p.knownStarts, ∀ x ∈ e.2, 1 ≤ x ∧ x ≤ L)
    (h0 : Graph.constructed known δ reads minCount = some g0)
    (hna : ∀ op ∈ ops, notAttach op = true) (h1 : runOps (obsIntrons reads) g0 ops = some g1)
    (h2 : g1.attachTerminals p reads = some g') :
    (∀ k t, (k, t) ∈ g'.out → isIntronVertex t = false → t.1 ∈ terminal_vertex_codes ∧ k.2 < t.2 ∧ 1 ≤ t.2 ∧ t.2 ≤ L) ∧
    (∀ k t, (k, t) ∈ g'.inc → isIntronVertex t = false → t.1 ∈ starting_vertex_codes ∧ t.2 < k.1 ∧ 1 ≤ t.2 ∧ t.2 ≤ L) ∧
    NoTerm g1 := by
  have hpos' : ∀ v ∈ obsIntrons reads, 0 ≤ v.1 := fun v hv => hpos v (mem_obsIntrons.1 hv)
  have n1 := constructed_noTerm hpos' hna h0 h1
  obtain ⟨_, _, ho, hi⟩ := attach_keeps_correction_map g1 g' p reads h2
  have hend : ∀ pos, ReadEndPos reads pos → 1 ≤ pos ∧ pos ≤ L := by
    rintro pos ⟨r, hr, _, el, hel, rfl⟩
    have := hreads r hr el (List.mem_of_getLast? hel); omega
  have hstart : ∀ pos, ReadStartPos reads pos → 1 ≤ pos ∧ pos ≤ L := by
    rintro pos ⟨r, hr, _, e0, he0, rfl⟩
    have := hreads r hr e0 (List.mem_of_head? he0); omega
  have hk : ∀ (tbl : List (Iv × List Int)), (∀ e ∈ tbl, ∀ x ∈ e.2, 1 ≤ x ∧ x ≤ L) →
      ∀ v x, x ∈ (amGet? tbl v).getD [] → 1 ≤ x ∧ x ≤ L := fun tbl ht v x hx =>
    have ⟨l, hl, hx⟩ := mem_getD_amGet? hx
    ht (v, l) hl x hx
  -- an edge to a non-intron vertex was not there before the attachment
  have old : ∀ {e : Iv × Iv} {Q : Prop}, isIntronVertex e.2 = true → isIntronVertex e.2 = false → Q :=
    fun h1 h0 => nomatch h1.symm.trans h0
  refine ⟨fun k t hkt hti => ?_, fun k t hkt hti => ?_, n1⟩
  · rcases ho k t hkt with h' | ⟨_, hgt, hc⟩
    · exact old (n1.1 (k, t) h') hti
    · rcases hc with ⟨e, hor⟩ | ⟨e, hr⟩
      · exact ⟨List.mem_cons.2 (Or.inl e), hgt, hor.elim (hend _) (hk p.knownEnds hke k t.2)⟩
      · exact ⟨List.mem_cons_of_mem _ (List.mem_cons.2 (Or.inl e)), hgt, hend _ hr⟩
  · rcases hi k t hkt with h' | ⟨_, hgt, hc⟩
    · exact old (n1.2 (k, t) h') hti
    · rcases hc with ⟨e, hor⟩ | ⟨e, hr⟩
      · exact ⟨List.mem_cons.2 (Or.inl e), hgt, hor.elim (hstart _) (hk p.knownStarts hks k t.2)⟩
      · exact ⟨List.mem_cons_of_mem _ (List.mem_cons.2 (Or.inl e)), hgt, hstart _ hr⟩

/-! non-vacuity: the reads of the end-to-end example get a polyA vertex at 400 and a read-start vertex at 10 from the
    modelled attachment (thresholds of the `default_ont`-like kind), after which the code's path enumeration finds the
    full-length path -/

def exTermParams : TermParams :=
  { delta := 0, apaDelta := 10, abs := 1, relM := 100, internalRelM := 50, knownEnds := [], knownStarts := [] }

/-- the reads of `e2eReads` of Props/C04.lean, copied because this file does not import it -/
def e2eReads' : List Read :=
  [⟨"a", [(50, 90), (100, 200)], [(10, 49), (91, 99), (201, 400)], false, "+", true, false, "g"⟩,
   ⟨"b", [(50, 90), (100, 200)], [(12, 49), (91, 99), (201, 400)], false, "+", true, false, "g"⟩,
   ⟨"c", [(50, 90), (100, 200)], [(10, 49), (91, 99), (201, 398)], false, "+", true, false, "g"⟩]

example : (((Graph.constructed [] 0 e2eReads' 1).bind (fun g0 => g0.attachTerminals exTermParams e2eReads')).map (fun g => g.out)
      = some [((50, 90), (100, 200)), ((100, 200), (VERTEX_polya, 400))]) ∧
    (((Graph.constructed [] 0 e2eReads' 1).bind (fun g0 => g0.attachTerminals exTermParams e2eReads')).map (fun g => g.inc)
      = some [((100, 200), (50, 90)), ((50, 90), (VERTEX_read_start, 10))]) ∧
    (((Graph.constructed [] 0 e2eReads' 1).bind (fun g0 => g0.attachTerminals exTermParams e2eReads')).map
      (fun g => (fillGraphPaths g 0 10 true e2eReads').fl)
      = some [[(VERTEX_read_start, 10), (50, 90), (100, 200), (VERTEX_polya, 400)]]) := by decide +kernel

/-- an annotated transcript end within `apa_delta` of the best supported polyA position replaces it -/
example : ((Graph.constructed [] 0 e2eReads' 1).bind (fun g0 =>
      g0.attachTerminals { exTermParams with knownEnds := [((100, 200), [405, 900])] } e2eReads')).map (fun g => g.out)
    = some [((50, 90), (100, 200)), ((100, 200), (VERTEX_polya, 405))] := by decide +kernel

end IsoVerif.Props.C04Terminals
