/-
C16 — the CIGAR walkers of src/common.py as *regenerated from the source on every run* (`Gen/LoopsCigar.lean`):
`get_read_blocks` and `concat_gapless_blocks`.  The generated definitions keep what the Python has — an index `while`
over `cigar_tuples` with an emitted fuel bound, `CigarEvent(code)` per iteration (`none` = ValueError), the three
None-able locals `current_*_block_start`, the truthiness test `if current_ref_block_start:`, the three `append`s — and
are proved EQUAL to the hand model (`Model/Cigar.lean`: a left fold with one `Option` triple).  The C16 headline theorems
are then restated over the generated definitions.
-/
import IsoVerif.Props.C16
import IsoVerif.Props.C16Concat
import IsoVerif.Lemmas.GenCigar

namespace IsoVerif.Props.C16Gen
open IsoVerif.Gen IsoVerif.Model IsoVerif.Model.C16 IsoVerif.Lemmas.C16 IsoVerif.Lemmas.GenCigar

/-- `get_read_blocks` for ALL inputs (any reference start, any tuple list): the generated loop returns exactly the
    model's triple for the decoded CIGAR, and raises (`none`) exactly when some code is not a `CigarEvent` value.
    In particular the fuel `len + 1` suffices and a `None` never reaches one of the appended tuples. -/
theorem get_read_blocks_refines (s : Int) (tuples : List Iv) :
    Gen.get_read_blocks s tuples = (decodeOps tuples).map (fun ops => rbOut (getReadBlocks s ops)) := by
  unfold get_read_blocks
  have := rb_loop s tuples (get_read_blocks.fuel1 s tuples) 0 0 (s + 1) none none none none ⟨rfl, rfl, rfl⟩ false [] [] []
    (by simp [get_read_blocks.fuel1])
  simp only [Int.natCast_zero, List.drop_zero] at this
  rw [this]
  cases decodeOps tuples with
  | none => rfl
  | some ops => rfl

/-- `concat_gapless_blocks` on a CIGAR whose codes are all valid (the loop stops as soon as `blocks` is exhausted, so
    codes behind that point are never decoded by the real code: hence the hypothesis instead of `Option.map`) -/
theorem concat_gapless_blocks_refines (blocks tuples : List Iv) (ops : List CigarOp)
    (hdec : decodeOps tuples = some ops) :
    Gen.concat_gapless_blocks blocks tuples = some (concatGaplessBlocks blocks ops) := by
  unfold concat_gapless_blocks concatGaplessBlocks
  have := concat_loop blocks tuples ops hdec (concat_gapless_blocks.fuel1 blocks tuples) 0 0 [] none 0
    (by simp only [concat_gapless_blocks.fuel1, List.drop_zero]; omega)
  simp only [Int.natCast_zero, List.drop_zero] at this
  rw [this]
  cases h : concatGaplessAux none 0 [] ops blocks with
  | mk res cur => cases cur <;> rfl

/-- the hypothesis above cannot be dropped: with no block left the invalid code 9 is never looked at -/
theorem concat_lazy_decode_witness :
    decodeOps [(9, 1)] = none ∧ Gen.concat_gapless_blocks [] [(9, 1)] = some [] := by decide +kernel

example : decodeOps [(4, 2), (0, 5), (2, 1), (3, 10), (7, 3)]
    = some [(.soft_clipping, 2), (.«match», 5), (.deletion, 1), (.skipped, 10), (.seq_match, 3)] := by decide +kernel

theorem fuel_bounds (s : Int) (blocks tuples : List Iv) :
    get_read_blocks.fuel1 s tuples = tuples.length + 1 ∧
    concat_gapless_blocks.fuel1 blocks tuples = tuples.length + blocks.length + 1 := ⟨rfl, rfl⟩

/-- **read_blocks_spec** over `Gen.get_read_blocks`: for every CIGAR with valid codes and non-negative lengths and
    every `reference_start ≥ 0`, the exons are exactly the SAM-semantics exons of the specification -/
theorem read_blocks_spec (s : Int) (tuples : List Iv) (ops : List CigarOp) (hdec : decodeOps tuples = some ops)
    (hs : 0 ≤ s) (hn : NonNeg ops) :
    (Gen.get_read_blocks s tuples).map (·.1) = some (exonsSpec s ops) := by
  rw [get_read_blocks_refines, hdec]
  simp only [Option.map_some, rbOut]
  rw [C16.read_blocks_spec s ops hs hn]

theorem read_blocks_query_spec (s : Int) (tuples : List Iv) (ops : List CigarOp) (hdec : decodeOps tuples = some ops)
    (hs : 0 ≤ s) (hn : NonNeg ops) :
    (Gen.get_read_blocks s tuples).map (·.2.1) = some (queryBlocksSpec ops) := by
  rw [get_read_blocks_refines, hdec]
  simp only [Option.map_some, rbOut]
  rw [C16.read_blocks_query_spec s ops hs hn]

theorem cigar_blocks_spec (s : Int) (tuples : List Iv) (ops : List CigarOp) (hdec : decodeOps tuples = some ops)
    (hs : 0 ≤ s) (hn : NonNeg ops) :
    (Gen.get_read_blocks s tuples).map (·.2.2) = some (cigarBlocksSpec ops) := by
  rw [get_read_blocks_refines, hdec]
  simp only [Option.map_some, rbOut]
  rw [C16.cigar_blocks_spec s ops hs hn]

/-- an invalid operation code anywhere in the CIGAR makes `get_read_blocks` raise -/
theorem read_blocks_invalid_code (s : Int) (tuples : List Iv) (h : decodeOps tuples = none) :
    Gen.get_read_blocks s tuples = none := by
  rw [get_read_blocks_refines, h]; rfl

/-- non-vacuity: the CIGAR of `C16.read_blocks_spec`'s example, as tuples -/
example : decodeOps [(5, 3), (4, 2), (2, 1), (0, 5), (1, 2), (3, 10), (3, 4), (1, 1), (2, 2), (3, 7), (7, 3), (6, 1), (8, 1),
      (2, 2), (4, 4)]
    = some [(.hard_clipping, 3), (.soft_clipping, 2), (.deletion, 1), (.«match», 5),
        (.insertion, 2), (.skipped, 10), (.skipped, 4), (.insertion, 1), (.deletion, 2), (.skipped, 7),
        (.seq_match, 3), (.padding, 1), (.seq_mismatch, 1), (.deletion, 2), (.soft_clipping, 4)] ∧
    (Gen.get_read_blocks 99 [(5, 3), (4, 2), (2, 1), (0, 5), (1, 2), (3, 10), (3, 4), (1, 1), (2, 2), (3, 7), (7, 3), (6, 1),
      (8, 1), (2, 2), (4, 4)]).map (·.1) = some [(100, 105), (129, 134)] := by
  refine ⟨by decide +kernel, by decide +kernel⟩

/-- **concat_gapless_spec** over `Gen.concat_gapless_blocks` on pysam's `get_blocks()` -/
theorem concat_gapless_spec (s : Int) (tuples : List Iv) (ops : List CigarOp) (hdec : decodeOps tuples = some ops) :
    Gen.concat_gapless_blocks (alignedBlocks s ops) tuples = some (concatGaplessSpec s ops) := by
  rw [concat_gapless_blocks_refines _ tuples ops hdec, C16Concat.concat_gapless_spec s ops]

example : Gen.concat_gapless_blocks [(10, 15), (26, 29)] [(4, 2), (0, 5), (2, 1), (3, 10), (7, 3)] = some [(10, 16), (26, 29)] := by
  decide +kernel

end IsoVerif.Props.C16Gen
