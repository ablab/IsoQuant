/-
C14 (part 3) — the short-read based corrector `IlluminaExonCorrector.correct_exons` (`--illumina_bam`, reads without
an assigned isoform): for ALL reads and ALL short-read junction lists (in every enumeration order of the Python set)
the corrected block list is a valid block list with the read's own ends, and every block boundary is the read's own
or a site of a short-read junction that one of the two rules accepts for the read intron it overlaps.
Property theorems only.
-/
import IsoVerif.Gen.Prims
import IsoVerif.Gen.Illumina
import IsoVerif.Model.Bed
import IsoVerif.Model.Illumina
import IsoVerif.Lemmas.Interval
import IsoVerif.Lemmas.Corrector
import IsoVerif.Lemmas.Illumina
import IsoVerif.Props.C14

namespace IsoVerif.Props.C14
open IsoVerif.Gen IsoVerif.Model IsoVerif.Model.C14.Illumina IsoVerif.Lemmas IsoVerif.Lemmas.C14
open IsoVerif.Lemmas.C14.Illumina

/-- where an intron that shapes the corrected alignment may come from: the read itself; a short-read junction
    accepted by the 4-bp rule for a read intron it overlaps; one member of a pair of short-read junctions accepted by
    the skipped-exon rule for a read intron both overlap — in the last two cases strictly inside the read -/
def IntronSource (short readIntrons : List Iv) (s e : Int) (c : Iv) : Prop :=
  c ∈ readIntrons ∨
  (c ∈ short ∧ ∃ i ∈ readIntrons, overlaps i c = true ∧ SingleTol i c ∧ s < c.1 ∧ c.2 < e) ∨
  (c ∈ short ∧ ∃ i ∈ readIntrons, ∃ p ∈ short,
    (PairTol i c p ∧ s < c.1 ∧ p.2 < e) ∨ (PairTol i p c ∧ s < p.1 ∧ c.2 < e))

/-- the constants the rules are stated with are the ones of the class (`decide` over the generated values) -/
theorem illumina_constants_as_modelled :
    ill_MAX_SCORE = 1000000000000 ∧ ill_ABSENT_INTRON = (0, 0) ∧ ill_EXON_LENGTH = 50 ∧ ill_SIDE_DIFF = 25 := by
  decide +kernel

/-- the only exception of `correct_exons` is the empty block list -/
theorem illumina_raises_iff (short exons : List Iv) : correctExons short exons = none ↔ exons = [] := by
  cases exons with
  | nil => simp [correctExons]
  | cons a t =>
    obtain ⟨l, hl⟩ := getLast?_cons_some a t
    simp [correctExons_of_ends (short := short) (List.head?_cons) hl]

/-- one iteration of the loop over the read's introns (every junction list, every order): the read intron is kept,
    or replaced by ONE short-read junction that overlaps it, shares one end with it and is 4 bp longer at the other,
    or replaced by TWO short-read junctions that overlap it, lie in order, leave at most 50 bp between them and end
    within 25 bp of the read intron's ends (not both ends equal); a replacement is strictly inside the read -/
theorem illumina_intron_cases (short : List Iv) (s e : Int) (i : Iv) (hi : i.1 ≤ i.2) :
    correctIntron short s e i = [i] ∨
    (∃ c, correctIntron short s e i = [c] ∧ c ∈ short ∧ overlaps i c = true ∧ SingleTol i c ∧ s < c.1 ∧ c.2 < e) ∨
    (∃ l r, correctIntron short s e i = [l, r] ∧ l ∈ short ∧ r ∈ short ∧ PairTol i l r ∧ s < l.1 ∧ r.2 < e) :=
  correctIntron_cases short s e i hi

/-- the junction the 4-bp rule is tried on is the closest overlapping one (sum of the two site distances), the
    first such in enumeration order; there is none only if no overlapping junction is closer than `MAX_SCORE` -/
theorem illumina_best_match_closest (short : List Iv) (i : Iv) :
    let sh := bestMatch i (overlappingOf short i) ill_MAX_SCORE ill_ABSENT_INTRON
    (sh = ill_ABSENT_INTRON ∧ ∀ s ∈ short, overlaps i s = true → ill_MAX_SCORE ≤ ill_site_distance i s) ∨
    (sh ∈ short ∧ overlaps i sh = true ∧
      ∀ s ∈ short, overlaps i s = true → ill_site_distance i sh ≤ ill_site_distance i s) := by
  intro sh
  rcases bestMatch_minimal i (overlappingOf short i) ill_MAX_SCORE ill_ABSENT_INTRON with ⟨h, hall⟩ | ⟨hm, _, hall⟩
  · left
    exact ⟨h, fun s hs ho => hall s (mem_overlappingOf.mpr ⟨hs, ho⟩)⟩
  · right
    obtain ⟨h1, h2⟩ := mem_overlappingOf.mp hm
    exact ⟨h1, h2, fun s hs ho => hall s (mem_overlappingOf.mpr ⟨hs, ho⟩)⟩

/-- **illumina_bed_valid**: for every read with sorted, disjoint, well-formed blocks and every list of well-formed
    short-read junctions, the corrected block list is sorted, disjoint and well formed (corrected introns that touch
    or overlap their neighbours are merged by `get_exons`, never emitted as empty or reversed blocks) -/
theorem illumina_bed_valid (short exons out : List Iv) (hsd : SD exons) (hw : WFl exons) (hws : WFl short)
    (h : correctExons short exons = some out) : SD out ∧ WFl out := by
  obtain ⟨f, l, _, _, rfl⟩ := correctExons_some h
  have hsp := junctions_spaced_of_SD hsd hw
  obtain ⟨h1, h2⟩ := corrected_list_ok short f.1 l.2 (junctionsFromBlocks exons) (Spaced_SD hsp) (Spaced_WFl hsp) hws
  exact getExons_valid f.1 l.2 _ h1 h2

/-- **illumina_ends_preserved**: the first start and the last end of the read are unchanged — for every list of
    short-read junctions whatsoever (true since fix a250903, see `illumina_ends_buggy_witness`) -/
theorem illumina_ends_preserved (short exons out : List Iv) (hsd : SD exons) (hw : WFl exons)
    (h : correctExons short exons = some out) :
    out.head?.map (·.1) = exons.head?.map (·.1) ∧ out.getLast?.map (·.2) = exons.getLast?.map (·.2) := by
  obtain ⟨f, l, hf, hl, rfl⟩ := correctExons_some h
  rw [hf, hl]
  have hin := read_introns_inside hsd hw hf hl
  have hwf := junctions_wf exons
  cases hri : junctionsFromBlocks exons with
  | nil =>
    have hfl : f.1 ≤ l.2 := first_le_last hsd hw hf hl
    simp [correctedIntronList, getExons_nil f.1 l.2 hfl]
  | cons i rest =>
    rw [hri] at hin hwf
    constructor
    · obtain ⟨c, t, hc, hlt⟩ := corrected_list_head short f.1 l.2 i rest (hwf i (by simp)) (hin i (by simp)).1
      rw [hc, getExons_head f.1 l.2 c t hlt]
      rfl
    · obtain ⟨init, j, hij⟩ : ∃ init j, i :: rest = init ++ [j] := by
        rcases List.eq_nil_or_concat (i :: rest) with h0 | ⟨l', b, h0⟩
        · cases h0
        · exact ⟨l', b, by simpa using h0⟩
      have hj : j ∈ i :: rest := by rw [hij]; simp
      obtain ⟨c, hc, hlt⟩ := corrected_list_last short f.1 l.2 init j (hwf j hj) (hin j hj).2
      rw [hij, getExons_last f.1 l.2 _ c hc hlt]
      rfl

/-- **illumina_site_provenance**: every block of the corrected alignment starts at the read's start or right after
    an intron with an `IntronSource`, and ends at the read's end or right before such an intron — for every read and
    every junction list, no hypothesis at all -/
theorem illumina_site_provenance (short exons out : List Iv) (f l : Iv) (hf : exons.head? = some f)
    (hl : exons.getLast? = some l) (h : correctExons short exons = some out) :
    ∀ x ∈ out,
      (x.1 = f.1 ∨ ∃ c, IntronSource short (junctionsFromBlocks exons) f.1 l.2 c ∧ x.1 = c.2 + 1) ∧
      (x.2 = l.2 ∨ ∃ c, IntronSource short (junctionsFromBlocks exons) f.1 l.2 c ∧ x.2 = c.1 - 1) := by
  rw [correctExons_of_ends hf hl] at h
  simp only [Option.some.injEq] at h
  subst h
  have hsrc : ∀ c ∈ correctedIntronList short f.1 l.2 (junctionsFromBlocks exons),
      IntronSource short (junctionsFromBlocks exons) f.1 l.2 c := by
    intro c hc
    obtain ⟨i, hi, hc⟩ := List.mem_flatMap.mp hc
    exact correctIntron_forall (P := IntronSource short (junctionsFromBlocks exons) f.1 l.2)
      (junctions_wf exons i hi) (Or.inl hi)
      (fun c hm ho ht h1 h2 => Or.inr (Or.inl ⟨hm, i, hi, ho, ht, h1, h2⟩))
      (fun a ha b hb ht h1 h2 => ⟨Or.inr (Or.inr ⟨ha, i, hi, b, hb, Or.inl ⟨ht, h1, h2⟩⟩),
        Or.inr (Or.inr ⟨hb, i, hi, a, ha, Or.inr ⟨ht, h1, h2⟩⟩)⟩) c hc
  intro x hx
  obtain ⟨h1, h2⟩ := getExons_sites f.1 l.2 _ x hx
  constructor
  · rcases h1 with h1 | ⟨c, hc, h1⟩
    · exact Or.inl h1
    · exact Or.inr ⟨c, hsrc c hc, h1⟩
  · rcases h2 with h2 | ⟨c, hc, h2⟩
    · exact Or.inl h2
    · exact Or.inr ⟨c, hsrc c hc, h2⟩

/-- **illumina_site_provenance**, intron form: every intron of the corrected alignment (the gap between two consecutive
    corrected blocks) starts at the left site of an intron with an `IntronSource` and ends at the right site of one -/
theorem illumina_intron_sites (short exons out : List Iv) (f l : Iv) (hf : exons.head? = some f)
    (hl : exons.getLast? = some l) (hsd : SD exons) (hw : WFl exons) (hws : WFl short)
    (h : correctExons short exons = some out) (k : Nat) (e e' : Iv) (hk : out[k]? = some e)
    (hk' : out[k + 1]? = some e') :
    (∃ c, IntronSource short (junctionsFromBlocks exons) f.1 l.2 c ∧ e.2 + 1 = c.1) ∧
    (∃ c, IntronSource short (junctionsFromBlocks exons) f.1 l.2 c ∧ e'.1 - 1 = c.2) := by
  obtain ⟨osd, ow⟩ := illumina_bed_valid short exons out hsd hw hws h
  obtain ⟨eh, el⟩ := illumina_ends_preserved short exons out hsd hw h
  rw [hf] at eh
  rw [hl] at el
  have hprov := illumina_site_provenance short exons out f l hf hl h
  have he : e ∈ out := List.mem_of_getElem? hk
  have he' : e' ∈ out := List.mem_of_getElem? hk'
  have hadj : e.2 < e'.1 := by
    obtain ⟨hk1, rfl⟩ := List.getElem?_eq_some_iff.mp hk
    obtain ⟨hk2, rfl⟩ := List.getElem?_eq_some_iff.mp hk'
    exact List.pairwise_iff_getElem.mp (SD_pairwise out osd ow) k (k + 1) hk1 hk2 (Nat.lt_succ_self k)
  cases hoh : out.head? with
  | none => rw [hoh] at eh; simp at eh
  | some a =>
    cases hol : out.getLast? with
    | none => rw [hol] at el; simp at el
    | some b =>
      rw [hoh] at eh
      rw [hol] at el
      simp at eh el
      have hb := SD_bounds osd ow hoh hol
      have h1 := hb e he
      have h2 := hb e' he'
      have := ow e he
      have := ow e' he'
      constructor
      · rcases (hprov e he).2 with h3 | ⟨c, hc, h3⟩
        · omega
        · exact ⟨c, hc, by omega⟩
      · rcases (hprov e' he').1 with h3 | ⟨c, hc, h3⟩
        · omega
        · exact ⟨c, hc, by omega⟩

/-- identity as soon as no short-read junction overlaps an intron of the read (gapped read blocks: C16's output) -/
theorem illumina_identity_no_overlap (short exons : List Iv) (hne : exons ≠ []) (hg : Spaced exons)
    (hno : ∀ i ∈ junctionsFromBlocks exons, ∀ s ∈ short, overlaps i s = false) :
    correctExons short exons = some exons := by
  cases exons with
  | nil => exact absurd rfl hne
  | cons a t =>
    obtain ⟨l, hl⟩ := getLast?_cons_some a t
    rw [correctExons_of_ends (List.head?_cons) hl]
    have hid : correctedIntronList short a.1 l.2 (junctionsFromBlocks (a :: t)) = junctionsFromBlocks (a :: t) := by
      apply flatMap_singleton_of
      intro i hi
      apply correctIntron_no_overlap short a.1 l.2 i (junctions_wf _ i hi)
      simp only [overlappingOf, List.filter_eq_nil_iff]
      intro s hs
      simp [hno i hi s hs]
    rw [hid, junctions_exons_inverse_aux (a :: t) a l ((spaced_iff_gapped _).1 hg) (List.head?_cons) hl]

/-- **illumina_identity_without_junctions**: without short-read junctions the read comes back unchanged -/
theorem illumina_identity_without_junctions (exons : List Iv) (hne : exons ≠ []) (hg : Spaced exons) :
    correctExons [] exons = some exons :=
  illumina_identity_no_overlap [] exons hne hg (fun _ _ s hs => by cases hs)

/-- the BED12 record of the corrected read is valid and decodes to the corrected blocks: composition with
    `bed_valid_iff` (read inside the chromosome, well-formed junctions; nothing else is assumed) -/
theorem illumina_record_valid (chrom name strand : String) (short exons out : List Iv) (chromLen : Int)
    (hfit : ExonsFit exons chromLen) (hws : WFl short) (h : correctExons short exons = some out) :
    ∃ r, C14.bedRecord chrom name strand out = some r ∧ ValidBed r chromLen ∧ r.blocks = out := by
  obtain ⟨hsd, hw, h1, h2⟩ := hfit
  obtain ⟨osd, ow⟩ := illumina_bed_valid short exons out hsd hw hws h
  obtain ⟨eh, el⟩ := illumina_ends_preserved short exons out hsd hw h
  obtain ⟨f, l, hf, hl, _⟩ := correctExons_some h
  rw [hf] at eh
  rw [hl] at el
  have hne : out ≠ [] := by
    intro h0; subst h0; simp at eh
  have hfit' : ExonsFit out chromLen := by
    refine ⟨osd, ow, ?_, ?_⟩
    · intro a ha
      rw [ha] at eh
      simp at eh
      have := h1 f hf
      omega
    · intro b hb
      rw [hb] at el
      simp at el
      have := h2 l hl
      omega
  obtain ⟨r, hr, hv⟩ := bed_valid chrom name strand out chromLen hne hfit'
  exact ⟨r, hr, hv, bed_blocks_roundtrip chrom name strand out r hr⟩

/-! ### the junction container built by `get_introns` -/

/-- `short_introns` holds exactly the junctions of the files, shifted from pysam's 0-based start to the 1-based
    closed convention of the read blocks -/
theorem illumina_short_introns_spec (files : List (List (Iv × Int))) (s : Iv) :
    s ∈ shortIntronsOf (mergeFiles files) ↔ ∃ f ∈ files, ∃ q ∈ f, s = (q.1.1 + 1, q.1.2) := by
  simp only [shortIntronsOf, mergeFiles, List.mem_map]
  constructor
  · rintro ⟨q, hq, rfl⟩
    have hk : q.1 ∈ (files.foldl mergeCounts []).map (·.1) := List.mem_map.mpr ⟨q, hq, rfl⟩
    rcases (mergeFiles_keys files [] q.1).mp hk with h0 | ⟨f, hf, hk'⟩
    · simp at h0
    · obtain ⟨q', hq', e⟩ := List.mem_map.mp hk'
      exact ⟨f, hf, q', hq', by rw [e]⟩
  · rintro ⟨f, hf, q, hq, rfl⟩
    have hk : q.1 ∈ (files.foldl mergeCounts []).map (·.1) :=
      (mergeFiles_keys files [] q.1).mpr (Or.inr ⟨f, hf, List.mem_map.mpr ⟨q, hq, rfl⟩⟩)
    obtain ⟨q', hq', e⟩ := List.mem_map.mp hk
    exact ⟨q', hq', by rw [e]⟩

/-- pysam reports an intron as `(start, end)` with `start < end` (0-based, half open): the container is then a list
    of well-formed junctions — the hypothesis `WFl short` of `illumina_bed_valid` -/
theorem illumina_short_introns_wf (files : List (List (Iv × Int)))
    (hp : ∀ f ∈ files, ∀ q ∈ f, q.1.1 < q.1.2) : WFl (shortIntronsOf (mergeFiles files)) := by
  intro s hs
  obtain ⟨f, hf, q, hq, rfl⟩ := (illumina_short_introns_spec files s).mp hs
  have := hp f hf q hq
  simp; omega

/-- before fix a250903 a terminal exon shorter than the shift vanished and the read's start moved: read
    `10-12, 20-30` with the short-read junction `9-19` (4-bp rule at the left end of intron `13-19`).  The unguarded
    code returns the single block `20-30`; the fixed code keeps the read. -/
theorem illumina_ends_buggy_witness :
    correctExonsBuggy [(9, 19)] [(10, 12), (20, 30)] = some [(20, 30)] ∧
    correctExons [(9, 19)] [(10, 12), (20, 30)] = some [(10, 12), (20, 30)] := by
  decide +kernel

/-- the same for the skipped-exon rule: pair `8-14`, `18-22` around read intron `13-24` of read `10-12, 25-40` -/
theorem illumina_pair_buggy_witness :
    correctExonsBuggy [(8, 14), (18, 22)] [(10, 12), (25, 40)] = some [(15, 17), (23, 40)] ∧
    correctExons [(8, 14), (18, 22)] [(10, 12), (25, 40)] = some [(10, 12), (25, 40)] := by
  decide +kernel

/-- identity needs gapped blocks: two adjacent blocks are merged even without any short-read junction (outside the
    domain of the property: C16 never produces adjacent blocks) -/
theorem illumina_identity_adjacent_witness : correctExons [] [(1, 5), (6, 9)] = some [(1, 9)] := by decide +kernel

-- non-vacuity: the 4-bp rule fires (right end +4), the skipped-exon rule fires, a micro-exon between two corrected
-- introns is swallowed and the result is still a valid block list
example : correctExons [(101, 204)] [(1, 100), (201, 300)] = some [(1, 100), (205, 300)] := by decide +kernel
example : correctExons [(97, 200)] [(1, 100), (201, 300)] = some [(1, 96), (201, 300)] := by decide +kernel
example : correctExons [(101, 130), (151, 205)] [(1, 100), (201, 300)] = some [(1, 100), (131, 150), (206, 300)] := by
  decide +kernel
example : correctExons [(11, 24)] [(1, 10), (21, 23), (31, 40)] = some [(1, 10), (31, 40)] := by decide +kernel
example : SD [(1, 100), (201, 300)] ∧ WFl [(1, 100), (201, 300)] ∧ WFl [(101, 130), (151, 205)] ∧
    Spaced [(1, 100), (201, 300)] := by decide +kernel
example : PairTol (101, 200) (101, 130) (151, 205) := by
  unfold PairTol; decide
example : SingleTol (101, 200) (101, 204) := by unfold SingleTol; decide

end IsoVerif.Props.C14
