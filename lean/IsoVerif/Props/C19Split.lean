/-
C19 (split exons) — `GeneInfo.split_exons` returns the atoms of the exon arrangement: for every list of
well-formed exons with non-negative starts (the code uses −1 as "unset" for `last_border`; genomic coordinates
are ≥ 1) the sweep over the separately sorted starts and ends never runs out of ends and returns sorted,
pairwise disjoint, non-empty blocks that cover exactly the positions covered by the exons, each block being
contained in or disjoint from every exon, and each block ending at an exon border (the blocks are not finer than the
arrangement: merging a block with its right neighbour would straddle a border).  No bound on the number of exons or on the coordinates.
-/
import IsoVerif.Props.C19
import IsoVerif.Lemmas.Split

namespace IsoVerif.Props.C19Split
open IsoVerif.Gen IsoVerif.Model IsoVerif.Lemmas

theorem split_exons_spec (exons : List Iv) (w : WFl exons) (hpos : ∀ e ∈ exons, 0 ≤ e.1) :
    ∃ blocks, splitExons exons = some blocks ∧
      SD blocks ∧ WFl blocks ∧
      (∀ p, cov blocks p ↔ cov exons p) ∧
      (∀ b ∈ blocks, ∀ e ∈ exons, contains e b = true ∨ overlaps e b = false) ∧
      (∀ b ∈ blocks, ∃ e ∈ exons, e.1 = b.2 + 1 ∨ e.2 = b.2) := by
  obtain ⟨res, hres, hsd, hb, hc⟩ := splitMain_spec _ _ _ _ _ _ (SplitInv.init exons w hpos)
  refine ⟨res, hres, hsd, fun b hb' => (hb b hb').2.1, fun p => ?_, fun b hb' e he => ?_, fun b hb' => ?_⟩
  · rw [hc p, cntLe_sortInts, cntLt_sortInts]
    have hd := depth_eq exons w p
    rw [← depthAt_pos_iff]
    constructor
    · rintro ⟨_, h⟩; omega
    · intro h
      refine ⟨?_, by omega⟩
      obtain ⟨r, hr, h1, _⟩ := (depthAt_pos_iff exons p).mp h
      have := hpos r hr; omega
  · obtain ⟨_, _, h3, h4, _⟩ := hb b hb'
    have h3' := h3 e.1 ((mem_sortInts _ _).mpr (List.mem_map.mpr ⟨e, he, rfl⟩))
    have h4' := h4 e.2 ((mem_sortInts _ _).mpr (List.mem_map.mpr ⟨e, he, rfl⟩))
    simp only [contains, overlaps, Bool.and_eq_true, decide_eq_true_eq, Bool.not_eq_false',
      Bool.or_eq_true, ge_iff_le, gt_iff_lt]
    omega
  · obtain ⟨_, _, _, _, h5⟩ := hb b hb'
    rcases h5 with h5 | h5
    · obtain ⟨e, he, hee⟩ := List.mem_map.mp ((mem_sortInts _ _).mp h5)
      exact ⟨e, he, Or.inl hee⟩
    · obtain ⟨e, he, hee⟩ := List.mem_map.mp ((mem_sortInts _ _).mp h5)
      exact ⟨e, he, Or.inr hee⟩

/-- the hypotheses are met by a non-trivial input: nested, abutting and duplicated borders (the input of the
    2ee949c fix); the blocks are the six atoms -/
example : WFl [(1, 3), (1, 5), (4, 5), (8, 9), (2, 8)] ∧ (∀ e ∈ [((1 : Int), (3 : Int)), (1, 5), (4, 5), (8, 9), (2, 8)], 0 ≤ e.1) ∧
    splitExons [(1, 3), (1, 5), (4, 5), (8, 9), (2, 8)] = some [(1, 1), (2, 3), (4, 5), (6, 7), (8, 8), (9, 9)] := by
  refine ⟨by decide, by decide, by decide +kernel⟩

/-- a gap between exons produces no block -/
example : splitExons [(10, 20), (1, 5)] = some [(1, 5), (10, 20)] := by decide +kernel

/-- the empty exon list gives no blocks -/
theorem split_exons_nil : splitExons [] = some [] := by decide +kernel

/-- the non-negativity hypothesis cannot be dropped: a start equal to −1 is taken for the "unset" marker of
    `last_border` and positions −1..1 are lost (outside the domain of the property: coordinates are ≥ 1) -/
example : splitExons [(-1, 3), (2, 5)] = some [(2, 3), (4, 5)] := by decide +kernel

end IsoVerif.Props.C19Split
