/-
C16 — characterisation of the polyA finder of /repo/src/polya_finder.py (window scan: as it is; the two tail finders: the
functions of Model/PolyAFinder.lean, before the two finder repairs — the current tree is Props/C16FinderFix.lean).

`PolyAFinder.find_polya` (window scan):
* `find_polya_char`: for EVERY window length `w` (0 included), count `c` and base list — the answer is `p` iff `p` is
  the start `i` of the LEAST window `[i, i+w)` that ends strictly before the end of the sequence and holds ≥ `c` 'A',
  advanced to the least position ≥ `i` where an "AA" starts (`p = i` when there is none); the answer is −1 iff no such
  window exists.  Soundness, minimality and completeness in one `↔`.
* `find_polya_eq_spec`: the same as one equation with the brute-force specification `findPolyaSpec` (every window
  start tested on its own) — the function the driver evaluates against the real code.
* `find_polya_short`, `find_polya_in_range`, `find_polya_inside_window`: the error-free corner cases made explicit
  (sequence not longer than the window ⇒ −1; the answer is an index of the sequence; when `c > (w+1)/2` — the
  defaults 12 of 16 — the reported "AA" lies inside the first dense window).
* `is_a_flag_iff` / `is_t_flag_iff`: the base test after `.upper()` accepts exactly `A a` (`T t`): lower case counts,
  `N` and everything else does not.

`find_polya_tail` / `find_polyt_head`:
* `region_a_spec` / `region_t_spec`: which read bases are scanned — the last `from_pos` bases before the soft-clipped
  tail plus the first `to_pos + 1` clipped bases (head: `to_pos` clipped bases plus the first `from_pos + 1` aligned
  ones, read backwards) — and which read base a scan index stands for;
* `tail_scan_char`: the query-level scan as a relation (`TailStart`), `↔`;
* `find_polya_tail_char` / `find_polyt_head_char`: the reported reference position, `↔`, errors included;
* `find_polya_tail_found_iff`, `find_polya_tail_raises_iff` (+ head): found ⇔ specification, raise ⇔ explicit causes;
* `find_polya_tail_eq_spec` / `find_polyt_head_eq_spec`: model = executable specification.
-/
import IsoVerif.Model.FinderChar
import IsoVerif.Lemmas.FinderWith
import IsoVerif.Lemmas.CharUpper
import IsoVerif.Props.C16FinderSpec

namespace IsoVerif.Props.C16FinderChar
open IsoVerif.Gen IsoVerif.Model IsoVerif.Model.C16 IsoVerif.Lemmas.C16

/-- **find_polya_eq_spec** — the modelled loop (running count, sliding by one base) returns what the brute-force
    specification returns, for every window length (0 included), every count and every sequence -/
theorem find_polya_eq_spec (w c : Nat) (seq : List Bool) : findPolya w c seq = findPolyaSpec w c seq :=
  findPolya_eq_spec w c seq

/-- **find_polya_char** — soundness, minimality and completeness of the window scan, no bound on anything:
    `find_polya` answers `p` ⇔ `PolyAStart w c seq p` (the first dense window that ends strictly before the end of the
    sequence, advanced to the first "AA" at or after its start); it answers −1 ⇔ no window that ends strictly before
    the end of the sequence holds `c` 'A'. -/
theorem find_polya_char (w c : Nat) (seq : List Bool) :
    (∀ p, findPolya w c seq = some p ↔ PolyAStart w c seq p) ∧
    (findPolya w c seq = none ↔ ∀ j, j + w < seq.length → winCount seq j w < c) := by
  have h := findPolyaSpec_sound w c seq
  rw [← findPolya_eq_spec] at h
  constructor
  · intro p
    constructor
    · intro hp; rw [hp] at h; exact h
    · intro hp
      cases hf : findPolya w c seq with
      | none =>
        rw [hf] at h
        obtain ⟨i, hi, _⟩ := hp
        have := h i hi.1
        have := hi.2.1
        omega
      | some p' =>
        rw [hf] at h
        rw [PolyAStart_unique hp h]
  · constructor
    · intro hn; rw [hn] at h; exact h
    · intro hall
      cases hf : findPolya w c seq with
      | none => rfl
      | some p' =>
        rw [hf] at h
        obtain ⟨i, hi, _⟩ := h
        have := hall i hi.1
        have := hi.2.1
        omega

/-- non-vacuity: `CCCC A^20`, window 16, count 12: first dense window at 0, first "AA" at 4 -/
example : PolyAStart 16 12 ([false, false, false, false] ++ List.replicate 20 true) 4 :=
  (find_polya_char 16 12 _).1 4 |>.1 (by decide)

/-- non-vacuity of the −1 clause, and the excluded last window: 16 A's alone are answered −1, one more base of any
    kind makes the window acceptable -/
example : findPolya 16 12 (List.replicate 16 true) = none ∧
    findPolya 16 12 (List.replicate 16 true ++ [false]) = some 0 := by decide

/-- **find_polya_short** — a sequence that is not longer than the window is answered −1 (shorter: the explicit test
    of the code; exactly as long: the only window ends at the end of the sequence) -/
theorem find_polya_short (w c : Nat) (seq : List Bool) (h : seq.length ≤ w) : findPolya w c seq = none :=
  (find_polya_char w c seq).2.2 (fun j hj => by omega)

/-- **find_polya_in_range** — an answer is an index of the sequence, and for `w ≥ 1` not its last index -/
theorem find_polya_in_range (w c : Nat) (seq : List Bool) (p : Nat) (h : findPolya w c seq = some p) :
    p < seq.length ∧ (1 ≤ w → p + 1 < seq.length) :=
  PolyAStart_lt ((find_polya_char w c seq).1 p |>.1 h)

/-- **find_polya_inside_window** — when the count threshold exceeds half of the window (`w + 2 ≤ 2c`; defaults
    16 and 12) the reported position lies inside the first dense window and an "AA" starts there: the advance to the
    first "AA" never leaves the window that triggered the detection -/
theorem find_polya_inside_window (w c : Nat) (seq : List Bool) (p : Nat) (hc : w + 2 ≤ 2 * c)
    (h : findPolya w c seq = some p) :
    ∃ i, FirstWindow seq w c i ∧ i ≤ p ∧ p + 2 ≤ i + w ∧ AAat seq p := by
  obtain ⟨i, hi, hp⟩ := (find_polya_char w c seq).1 p |>.1 h
  obtain ⟨k, k1, k2, k3⟩ := aa_in_window seq w c i hi hc
  rcases hp with ⟨a1, a2, a3⟩ | ⟨_, a2⟩
  · refine ⟨i, hi, a1, ?_, a2⟩
    by_cases hle : p ≤ k
    · omega
    · exact absurd k3 (a3 k k1 (by omega))
  · exact absurd k3 (a2 k k1)

example : (16 : Nat) + 2 ≤ 2 * 12 := by decide

/-- **default_finder_reports_inside_window** — the hypothesis of `find_polya_inside_window` for the constants GENERATED
    from /repo (`PolyAFinder` defaults = the values `isoquant.py` passes; Gen/CigarClasses.lean, re-extracted each
    run): with the shipped window and fraction every reported position lies inside the first dense window and starts
    an "AA".  A change of the defaults in the source re-opens this obligation. -/
theorem default_finder_reports_inside_window (seq : List Bool) (p : Nat)
    (h : findPolya polya_window (polya_window * polya_fraction_num / polya_fraction_den) seq = some p) :
    ∃ i, FirstWindow seq polya_window (polya_window * polya_fraction_num / polya_fraction_den) i ∧ i ≤ p ∧
      p + 2 ≤ i + polya_window ∧ AAat seq p :=
  find_polya_inside_window _ _ seq p (by decide) h

/-- the hypothesis is needed: with `c ≤ (w+1)/2` a dense window need not hold an "AA" and the answer may lie far
    behind it (`ACAC CCCC AA C`, window 4, count 2: window 0 is dense, the first "AA" starts at 8) -/
example : findPolya 4 2 [true, false, true, false, false, false, false, false, true, true, false] = some 8 := by decide

/-- **is_a_flag_iff** — after `.upper()` exactly `A` and `a` count as 'A' (`N`, `n` and every other character do not) -/
theorem is_a_flag_iff (ch : Char) : (upperChar ch == 'A') = true ↔ ch = 'A' ∨ ch = 'a' := by
  rw [beq_iff_eq]; exact IsoVerif.Lemmas.toUpper_A ch

/-- **is_t_flag_iff** — the polyT head: exactly `T` and `t` (reverse complement maps them, and nothing else, to `A a`) -/
theorem is_t_flag_iff (ch : Char) : (upperChar ch == 'T') = true ↔ ch = 'T' ∨ ch = 't' := by
  rw [beq_iff_eq]; exact IsoVerif.Lemmas.toUpper_T ch

/-- **region_a_spec** — `find_polya_tail` scans the read bases `[to_check_start, to_check_end)`: scan index `j` stands
    for the read base `to_check_start + j` (an 'A' iff that base is `A`/`a`); for a soft clip `0 ≤ clip ≤ len` and
    `from_pos, to_pos ≥ 0` these are the last `min(from_pos, len − clip)` bases before the soft-clipped tail (aligned
    or inserted) followed by its first `min(to_pos + 1, clip)` bases -/
theorem region_a_spec (cigar : List CigarOp) (seq : List Char) (fromPos toPos : Int) :
    (∀ j, (regionA cigar seq fromPos toPos)[j]? =
      if (startA cigar seq fromPos).toNat + j < (stopA cigar seq toPos).toNat
      then (seq[(startA cigar seq fromPos).toNat + j]?).map (fun ch => upperChar ch == 'A') else none) ∧
    (0 ≤ softClipTail cigar → softClipTail cigar ≤ seq.length → 0 ≤ fromPos → 0 ≤ toPos →
      ((regionA cigar seq fromPos toPos).length : Int) =
        min fromPos ((seq.length : Int) - softClipTail cigar) + min (toPos + 1) (softClipTail cigar)) := by
  constructor
  · intro j
    unfold regionA startA stopA
    rw [List.getElem?_map, slice_getElem?]
    split <;> simp
  · intro h1 h2 h3 h4
    unfold regionA
    rw [List.length_map, slice_length_int _ _ _ (by omega) (by omega) (by omega)]
    omega

/-- **region_t_spec** — `find_polyt_head` scans the read bases `[to_check_start, to_check_end)` backwards: scan index
    `j` stands for the read base `to_check_end − 1 − j` (set iff that base is `T`/`t`); these are the last
    `min(to_pos, clip)` bases of the soft-clipped head and the first `min(from_pos + 1, len − clip)` bases after it —
    one clipped base less and one aligned base more than the mirror image of `find_polya_tail`'s region -/
theorem region_t_spec (cigar : List CigarOp) (seq : List Char) (fromPos toPos : Int) :
    (∀ j, (regionT cigar seq fromPos toPos)[j]? =
      if j < (stopT cigar seq fromPos).toNat - (startT cigar toPos).toNat
      then (seq[(stopT cigar seq fromPos).toNat - 1 - j]?).map (fun ch => upperChar ch == 'T') else none) ∧
    (0 ≤ softClipHead cigar → softClipHead cigar ≤ seq.length → 0 ≤ fromPos → 0 ≤ toPos →
      ((regionT cigar seq fromPos toPos).length : Int) =
        min toPos (softClipHead cigar) + min (fromPos + 1) ((seq.length : Int) - softClipHead cigar)) := by
  constructor
  · intro j
    unfold regionT stopT startT
    rw [List.getElem?_map, slice_reverse_getElem? _ _ _ (by omega)]
    split <;> simp
  · intro h1 h2 h3 h4
    unfold regionT
    rw [List.length_map, List.length_reverse, slice_length_int _ _ _ (by omega) (by omega) (by omega)]
    omega

/-- non-vacuity (defaults, external finder `from 2, to 32`; internal `from 64, to 2`) on a 100-base read with a
    20-base soft-clipped tail: 2 + 20 resp. 64 + 3 scanned bases; head (20-base clip): 20 + 3 resp. 2 + 65 -/
example :
    let cig : List CigarOp := [(.«match», 80), (.soft_clipping, 20)]
    let gic : List CigarOp := [(.soft_clipping, 20), (.«match», 80)]
    let seq := List.replicate 100 'C'
    (regionA cig seq 2 32).length = 22 ∧ (regionA cig seq 64 2).length = 67 ∧
    (regionT gic seq 2 32).length = 23 ∧ (regionT gic seq 64 2).length = 67 := by decide

/-- **tail_scan_char** — the scan shared by both finders answers `p` ⇔ `TailStart … p` (`find_polya`'s answer, and
    with `check_entire_tail` the rest of the checked sequence from `p` on holds the fraction `num/den` of 'A');
    it answers −1 ⇔ no position satisfies `TailStart` -/
theorem tail_scan_char (w num den : Nat) (chk : Bool) (region : List Bool) :
    (∀ p, tailScan w num den chk region = some p ↔ TailStart w num den chk region p) ∧
    (tailScan w num den chk region = none ↔ ∀ p, ¬ TailStart w num den chk region p) :=
  tailScan_char w num den chk region

/-- non-vacuity: the fraction test at the threshold — window 4, fraction 3/4, tail `AAAC AAAC C` from position 0:
    6 A's of 9 bases, 6·4 = 24 < 27 = 9·3 ⇒ rejected; one base shorter (6 of 8, 24 ≥ 24) ⇒ accepted -/
example :
    tailScan 4 3 4 true [true, true, true, false, true, true, true, false, false] = none ∧
    tailScan 4 3 4 true [true, true, true, false, true, true, true, false] = some 0 ∧
    tailScan 4 3 4 false [true, true, true, false, true, true, true, false, false] = some 0 := by decide

/-- **find_polya_tail_eq_spec** — on every record whose CIGAR lengths are ≥ 0 the modelled `find_polya_tail` equals
    the specification (brute-force scan + base-by-base projection); this is the function the driver evaluates against
    the real code under the op `find_polya_tail_spec` -/
theorem find_polya_tail_eq_spec (w num den : Nat) (s : Int) (cigar : List CigarOp) (seq : List Char)
    (fromPos toPos : Int) (chk : Bool) (hnn : NonNeg cigar) :
    findPolyaTail w num den s cigar seq fromPos toPos chk = findPolyaTailSpec w num den s cigar seq fromPos toPos chk :=
  findPolyaTailWith_eq_spec moveRefCoord w num den s cigar seq fromPos toPos chk moveRefCoordSpec
    (fun sh => IsoVerif.Props.C16MoveRef.move_ref_coord_eq_spec cigar sh hnn)

theorem find_polyt_head_eq_spec (w num den : Nat) (s : Int) (cigar : List CigarOp) (seq : List Char)
    (fromPos toPos : Int) (chk : Bool) (hnn : NonNeg cigar) :
    findPolytHead w num den s cigar seq fromPos toPos chk = findPolytHeadSpec w num den s cigar seq fromPos toPos chk :=
  findPolytHeadWith_eq_spec moveRefCoord w num den s cigar seq fromPos toPos chk moveRefCoordSpec
    (fun sh => IsoVerif.Props.C16MoveRef.move_ref_coord_eq_spec cigar sh hnn)

example : NonNeg [(CigarEvent.«match», (30 : Int)), (.soft_clipping, 20)] := by
  intro o ho; simp at ho; rcases ho with h | h <;> subst h <;> decide

/-- **find_polya_tail_char** — complete characterisation of `find_polya_tail` on a record that passes the guards
    (non-empty CIGAR with lengths ≥ 0, non-empty sequence longer than the soft-clipped tail), for every window, fraction,
    `from_pos`, `to_pos`, `check_entire_tail`: the call returns `r` ⇔
    * no position of the checked sequence satisfies `TailStart` and `r = −1`; or
    * `p` is the (unique) position with `TailStart`, `q = to_check_start + p` the read index of the first tail base, and
      - `q` lies in the soft clip: `r = reference_end + (q − mapped end)`;
      - `q` lies before it: no `P` operation is met on the way, and `r = reference_end − k` with `k` the base-by-base
        projection (backward walk) of the base `mapped end − q` bases inside the alignment.
    (So the call raises ⇔ the second case holds with a `P` on the way: `find_polya_tail_raises_iff`.) -/
theorem find_polya_tail_char (w num den : Nat) (s : Int) (cigar : List CigarOp) (seq : List Char)
    (fromPos toPos : Int) (chk : Bool) (hne : cigar ≠ []) (hseq : seq ≠ [])
    (hclip : softClipTail cigar < seq.length) (hnn : NonNeg cigar) (r : Int) :
    findPolyaTail w num den s cigar seq fromPos toPos chk = some r ↔
      ((∀ p, ¬ TailStart w num den chk (regionA cigar seq fromPos toPos) p) ∧ r = -1) ∨
      (∃ p, TailStart w num den chk (regionA cigar seq fromPos toPos) p ∧
        (((seq.length : Int) - softClipTail cigar ≤ startA cigar seq fromPos + p ∧
            r = referenceEnd s cigar + (startA cigar seq fromPos + p - ((seq.length : Int) - softClipTail cigar))) ∨
         (startA cigar seq fromPos + p < (seq.length : Int) - softClipTail cigar ∧
            padReached (walkCore cigar false)
              ((seq.length : Int) - softClipTail cigar - (startA cigar seq fromPos + p)).toNat = false ∧
            ∃ k, ProjectsTo (expand (walkCore cigar false))
                ((seq.length : Int) - softClipTail cigar - (startA cigar seq fromPos + p)).toNat k ∧
              r = referenceEnd s cigar - k))) := by
  rw [findPolyaTail_eq_with]
  exact findPolyaTailWith_char moveRefCoord w num den s cigar seq fromPos toPos chk
    (fun n => padReached (walkCore cigar false) n = false) (moveRefCoord_back_iff hnn hne) hne hseq hclip r

/-- **find_polyt_head_char** — mirror statement: the call returns `r` ⇔ nothing satisfies `TailStart` on the reversed
    region and `r = −1`; or `p` does, `q = to_check_end − 1 − p` is the read index of the last head base, and
    `r = max 1 (reference_start − (clip − q))` when `q` lies in the soft-clipped head or on the first base after it,
    `r = max 1 (reference_start + k)` with `k` the forward projection of the base `q − clip` bases inside otherwise -/
theorem find_polyt_head_char (w num den : Nat) (s : Int) (cigar : List CigarOp) (seq : List Char)
    (fromPos toPos : Int) (chk : Bool) (hne : cigar ≠ []) (hseq : seq ≠ [])
    (hclip : softClipHead cigar < seq.length) (hnn : NonNeg cigar) (r : Int) :
    findPolytHead w num den s cigar seq fromPos toPos chk = some r ↔
      ((∀ p, ¬ TailStart w num den chk (regionT cigar seq fromPos toPos) p) ∧ r = -1) ∨
      (∃ p, TailStart w num den chk (regionT cigar seq fromPos toPos) p ∧
        ((stopT cigar seq fromPos - p - 1 ≤ softClipHead cigar ∧
            r = max 1 (s - (softClipHead cigar - (stopT cigar seq fromPos - p - 1)))) ∨
         (softClipHead cigar < stopT cigar seq fromPos - p - 1 ∧
            padReached (walkCore cigar true) (stopT cigar seq fromPos - p - 1 - softClipHead cigar).toNat = false ∧
            ∃ k, ProjectsTo (expand (walkCore cigar true)) (stopT cigar seq fromPos - p - 1 - softClipHead cigar).toNat k ∧
              r = max 1 (s + k)))) := by
  rw [findPolytHead_eq_with]
  exact findPolytHeadWith_char moveRefCoord w num den s cigar seq fromPos toPos chk
    (fun n => padReached (walkCore cigar true) n = false) (moveRefCoord_fwd_iff hnn hne) hne hseq hclip r

/-- non-vacuity of both characterisations: the record passes the guards and a tail / head is found (defaults) -/
example :
    let cig : List CigarOp := [(.«match», 30), (.soft_clipping, 20)]
    let gic : List CigarOp := [(.soft_clipping, 20), (.«match», 30)]
    cig ≠ [] ∧ softClipTail cig < ((List.replicate 30 'C' ++ List.replicate 20 'A').length : Int) ∧
    tailScan 16 3 4 false (regionA cig (List.replicate 30 'C' ++ List.replicate 20 'A') 2 32) = some 2 ∧
    tailScan 16 3 4 false (regionT gic (List.replicate 24 'T' ++ List.replicate 26 'C') 2 32) = some 0 ∧
    findPolytHead 16 3 4 1000 gic (List.replicate 24 'T' ++ List.replicate 26 'C') 2 32 false = some 1002 := by decide

/-- **find_polya_tail_found_iff** — on a record that passes the guards, with `reference_start ≥ 0`: the answer is −1
    exactly when the specification has no tail start; hence "a position was reported" ⇔ `∃ p, TailStart … p`
    (a reported position is ≥ `reference_start + 1 ≥ 1` and cannot be confused with −1) -/
theorem find_polya_tail_found_iff (w num den : Nat) (hw : 1 ≤ w) (s : Int) (cigar : List CigarOp) (seq : List Char)
    (fromPos toPos : Int) (chk : Bool) (hs : 0 ≤ s) (hne : cigar ≠ []) (hseq : seq ≠ [])
    (hclip : softClipTail cigar < seq.length) (hnn : NonNeg cigar) :
    findPolyaTail w num den s cigar seq fromPos toPos chk = some (-1) ↔
      ∀ p, ¬ TailStart w num den chk (regionA cigar seq fromPos toPos) p :=
  findPolyaTailWith_found_iff w num den s seq fromPos toPos chk (moveRefCoord_projects hnn) hs hne hseq hclip hnn

/-- **find_polyt_head_found_iff** — the same for the head (no hypothesis on `reference_start`: the answer is clamped at 1) -/
theorem find_polyt_head_found_iff (w num den : Nat) (s : Int) (cigar : List CigarOp) (seq : List Char)
    (fromPos toPos : Int) (chk : Bool) (hne : cigar ≠ []) (hseq : seq ≠ [])
    (hclip : softClipHead cigar < seq.length) (hnn : NonNeg cigar) :
    findPolytHead w num den s cigar seq fromPos toPos chk = some (-1) ↔
      ∀ p, ¬ TailStart w num den chk (regionT cigar seq fromPos toPos) p :=
  findPolytHeadWith_found_iff w num den s seq fromPos toPos chk (moveRefCoord_projects hnn) hne hseq hclip hnn

/-- **find_polya_tail_raises_iff** — every way the call can raise, for every record with CIGAR lengths ≥ 0:
    the CIGAR is empty (`IndexError`/`TypeError` on `cigartuples`), or the sequence is non-empty but not longer than
    the soft-clipped tail (`AssertionError`), or the tail starts inside the aligned part and the backward walk meets a
    `P` operation before reaching its base (`TypeError` of the "Unexpected event" branch) -/
theorem find_polya_tail_raises_iff (w num den : Nat) (s : Int) (cigar : List CigarOp) (seq : List Char)
    (fromPos toPos : Int) (chk : Bool) (hnn : NonNeg cigar) :
    findPolyaTail w num den s cigar seq fromPos toPos chk = none ↔
      cigar = [] ∨ (seq ≠ [] ∧ (seq.length : Int) ≤ softClipTail cigar) ∨
      (cigar ≠ [] ∧ seq ≠ [] ∧ softClipTail cigar < seq.length ∧
        ∃ p, TailStart w num den chk (regionA cigar seq fromPos toPos) p ∧
          startA cigar seq fromPos + p < (seq.length : Int) - softClipTail cigar ∧
          padReached (walkCore cigar false)
            ((seq.length : Int) - softClipTail cigar - (startA cigar seq fromPos + p)).toNat = true) := by
  rw [findPolyaTail_eq_with, findPolyaTailWith_eq, scanThen_none_iff, Int.not_lt]
  refine or_congr_right (or_congr_right (and_congr_right fun hne => and_congr_right fun _ => and_congr_right fun _ =>
    exists_congr fun p => and_congr_right fun _ => tailPos_eq_none_iff.trans (and_congr_right fun hlt => ?_)))
  have key := moveRefCoord_none_iff cigar (startA cigar seq fromPos + p - ((seq.length : Int) - softClipTail cigar))
    hnn (by omega) hne
  rwa [decide_eq_false (by omega),
    show (startA cigar seq fromPos + p - ((seq.length : Int) - softClipTail cigar)).natAbs =
      ((seq.length : Int) - softClipTail cigar - (startA cigar seq fromPos + p)).toNat by omega] at key

/-- non-vacuity of the third cause: 14 C + 36 A, 20 of them soft-clipped, internal finder: the tail starts 16 bases
    inside the alignment, the backward walk needs 17 query bases; with `20M` after the `P` it does not reach it
    (position 114 = 130 − 16), with only `10M` after the `P` it does and the call raises -/
example :
    findPolyaTail 16 3 4 100 [(.«match», 10), (.padding, 2), (.«match», 20), (.soft_clipping, 20)]
      (List.replicate 14 'C' ++ List.replicate 36 'A') 64 2 true = some 114 ∧
    findPolyaTail 16 3 4 100 [(.«match», 20), (.padding, 2), (.«match», 10), (.soft_clipping, 20)]
      (List.replicate 14 'C' ++ List.replicate 36 'A') 64 2 true = none := by decide

/-- **find_polyt_head_raises_iff** — the same for the head: empty CIGAR, sequence not longer than the soft-clipped head,
    or the head ends inside the aligned part and the forward walk meets a `P` before reaching its last base -/
theorem find_polyt_head_raises_iff (w num den : Nat) (s : Int) (cigar : List CigarOp) (seq : List Char)
    (fromPos toPos : Int) (chk : Bool) (hnn : NonNeg cigar) :
    findPolytHead w num den s cigar seq fromPos toPos chk = none ↔
      cigar = [] ∨ (seq ≠ [] ∧ (seq.length : Int) ≤ softClipHead cigar) ∨
      (cigar ≠ [] ∧ seq ≠ [] ∧ softClipHead cigar < seq.length ∧
        ∃ p, TailStart w num den chk (regionT cigar seq fromPos toPos) p ∧
          softClipHead cigar < stopT cigar seq fromPos - p - 1 ∧
          padReached (walkCore cigar true) (stopT cigar seq fromPos - p - 1 - softClipHead cigar).toNat = true) := by
  rw [findPolytHead_eq_with, findPolytHeadWith_eq, scanThen_none_iff, Int.not_lt]
  refine or_congr_right (or_congr_right (and_congr_right fun hne => and_congr_right fun _ => and_congr_right fun _ =>
    exists_congr fun p => and_congr_right fun _ => headPos_eq_none_iff.trans (and_congr_right fun hlt => ?_)))
  have key := moveRefCoord_none_iff cigar (stopT cigar seq fromPos - p - 1 - softClipHead cigar) hnn (by omega) hne
  rwa [decide_eq_true (by omega),
    show (stopT cigar seq fromPos - p - 1 - softClipHead cigar).natAbs =
      (stopT cigar seq fromPos - p - 1 - softClipHead cigar).toNat by omega] at key

end IsoVerif.Props.C16FinderChar
