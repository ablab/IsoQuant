/-
C08 — the pickle boundary of the compact record (`BasicReadAssignment.__getstate__` / `__setstate__`): with
`--high_memory --threads > 1` the per-chromosome results come back from worker processes pickled.  The tuple layouts are
regenerated from the source on every run (Gen/Resolver.lean).
-/
import IsoVerif.Model.Resolver
import IsoVerif.Props.C08Flow

namespace IsoVerif.Props.C08Pickle
open IsoVerif.Gen IsoVerif.Model.Resolver IsoVerif.Props.C08Flow

/-- **pickle_roundtrip**: `pickle.loads(pickle.dumps(a))` of a compact record gives back every field (a reordered
    tuple, a slot read into another field or a field no longer restored re-opens this obligation) -/
theorem pickle_roundtrip (r : Rec) : pickleRoundTrip r = some r := by
  cases r
  rfl

/-- **memory_paths_agree_pickled**: with worker processes (`--high_memory --threads > 1`) the records reach the
    resolver through the pickle boundary; the lists handed to the resolver are still those of the default path -/
theorem memory_paths_agree_pickled (s : MultimapResolvingStrategy) (records : List Rec) :
    (groupAllPickled records).map (resolveAll s) = some (resolveAll s (groupMulti records)) := by
  have h : records.mapM pickleRoundTrip = some records := by
    induction records with
    | nil => rfl
    | cons r rest ih => simp [List.mapM_cons, pickle_roundtrip, ih]
  simp [groupAllPickled, h, memory_paths_agree]

-- non-vacuity: a record whose isoform and gene lists differ (so a swap of the two slots would show) survives the round trip
example : pickleRoundTrip recA = some recA ∧ recA.isoforms ≠ recA.genes :=
  ⟨pickle_roundtrip recA, by decide +kernel⟩

end IsoVerif.Props.C08Pickle
