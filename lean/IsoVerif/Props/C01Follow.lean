/-
C01, FORWARD clause for reads that follow an annotated isoform T with exact splice sites (DESIGN §7 `follow_exact`):
the geometric ⇒ profile direction.  A read that is a contiguous sub-chain of T's exons (5' / 3' truncation anywhere inside
the terminal exons it reaches) gets
  (1) an all-1 intron read profile and a gene intron profile that `equal_profiles_in_range` accepts for T,
  (2) an all-1 split-exon read profile, a gene split-exon profile that `equal_profiles_in_range` accepts for T and that
      shares a present split exon with T (`has_overlapping_features`),
  (3) hence `assign_to_isoform` dispatches it to `match_consistent`, T passes its three tests and is among the candidate
      isoforms; when the assignment comes from the consistent path it has a consistent type, every reported isoform is
      structurally compatible, T is reported under the score hypothesis of `full_length_reported`, and the read is unique
      to T when T is the only compatible isoform.
The intron half is proved for reads WITHIN δ too (`follow_delta_intron_profile`), under the tie-loser reading rule of
DESIGN §6 (each read intron's match in T is STRICTLY the closest annotated intron within δ).
Lemmas: Lemmas/C01FollowIntron.lean (on top of the C13 completeness lemmas), C01SplitSweep.lean, C01FollowGene.lean,
C01Follow.lean.
-/
import IsoVerif.Props.C01Far
import IsoVerif.Lemmas.C01Follow

namespace IsoVerif.Props.C01Follow
open IsoVerif.Gen IsoVerif.Model IsoVerif.Model.C01 IsoVerif.Lemmas IsoVerif.Lemmas.C01 IsoVerif.Lemmas.C13
open IsoVerif.Props.C01 IsoVerif.Props.C01Path IsoVerif.Props.C01Far IsoVerif.Props.C13Profiles

/-- `follow_exact_profiles`: for ALL annotations / parameters / reads meeting `FollowHyp` (see Lemmas/C01Follow.lean: every
    item decidable), the two read profiles are all 1, both gene profiles are accepted for T by `equal_profiles_in_range`
    over the read's range, and the split-exon gene profile shares a present feature with T's -/
theorem follow_exact_profiles (ms : List Isoform) (g : Gene) (p : Params) (T : IsoInfo) (blocks : List Iv) (pa : PolyA)
    (rp : ReadProf) (H : FollowHyp ms g p T blocks pa) (hrp : constructProfiles g p blocks pa = some rp) :
    (rp.intron.read.length = (junctionsFromBlocks blocks).length ∧ ∀ v ∈ rp.intron.read, v = 1) ∧
    equalProfilesInRange T.intronProf rp.intron.gene rp.intron.range = some true ∧
    (rp.split.read.length = blocks.length ∧ ∀ v ∈ rp.split.read, v = 1) ∧
    equalProfilesInRange T.splitProf rp.split.gene rp.split.range = some true ∧
    hasOverlappingFeatures T.splitProf rp.split.gene (overlap_intervals rp.split.range T.splitRange) = some true := by
  obtain ⟨hi1, hi2⟩ := follow_intron H rp hrp
  obtain ⟨hs0, hs1, hs2, hs3, _⟩ := follow_split H rp hrp
  have spec := (constructProfiles_of g p blocks pa rp hrp).intron
  exact ⟨⟨spec.rlen, hi1⟩, hi2, ⟨hs0, hs1⟩, hs2, hs3⟩

/-- the same, position by position: inside the read's range every non-zero mark of the read's gene profiles is T's mark
    (1 on T's own introns / on the atoms inside T's exons, −1 elsewhere); outside the range the read's marks are 0 by the
    definition of the range -/
theorem follow_exact_profiles_pointwise (ms : List Isoform) (g : Gene) (p : Params) (T : IsoInfo) (blocks : List Iv)
    (pa : PolyA) (rp : ReadProf) (H : FollowHyp ms g p T blocks pa) (hrp : constructProfiles g p blocks pa = some rp)
    (i : Nat) (v : Int) (hv0 : v ≠ 0) :
    (rp.intron.gene[i]? = some v → T.intronProf[i]? = some v) ∧
    (rp.split.gene[i]? = some v → T.splitProf[i]? = some v) := by
  obtain ⟨_, hi2, _, hs2, _⟩ := follow_exact_profiles ms g p T blocks pa rp H hrp
  have hprof := (constructProfiles_of g p blocks pa rp hrp).intron_eq
  obtain ⟨_, _, hrange⟩ := constructProfiles_split_nopolya g p blocks pa rp hrp H.hA H.hT'
  constructor
  · intro hv
    have hr : rp.intron.range = profileRange rp.intron.gene := by rw [hprof]; rfl
    have hin := nonzero_in_range rp.intron.gene i v hv hv0
    rw [← hr] at hin
    exact equalProfilesInRange_true _ _ _ hi2 i hin.1 hin.2 v hv hv0
  · intro hv
    have hin := nonzero_in_range rp.split.gene i v hv hv0
    rw [← hrange] at hin
    exact equalProfilesInRange_true _ _ _ hs2 i hin.1 hin.2 v hv hv0

/-- `follow_delta_intron_profile`: the intron half for reads WITHIN δ, at the level of the profile constructor, for all
    known-feature lists `K` (ordered by start, features at least δ long), read features `R` (well formed, more than δ
    apart), transcript features `TI`: if every read feature has a STRICTLY closest known feature within δ and that one is
    in `TI`, and no feature of `TI` inside the read span `M` is skipped, then every read feature is marked 1 and a known
    feature carries 1 only if it is in `TI`, −1 only if it is not in `TI` and overlaps the span -/
theorem follow_delta_intron_profile (K : List Iv) (gr : Iv) (mio δ : Int) (R TI : List Iv) (M : Iv)
    (hδ : 0 ≤ δ) (hyp : Hyp δ K R) (hf : IntronFollow δ K TI R M) :
    (∀ (j : Nat) (r : Iv), R[j]? = some r →
      (constructOverlapping K gr (fun a b => equal_ranges a b δ) (fun a b => overlaps_at_least a b mio) δ R M
        (-1) (-1)).read[j]? = some 1) ∧
    (∀ (i : Nat) (k : Iv) (v : Int), K[i]? = some k →
      (constructOverlapping K gr (fun a b => equal_ranges a b δ) (fun a b => overlaps_at_least a b mio) δ R M
        (-1) (-1)).gene[i]? = some v → v ≠ 0 →
      (v = 1 ∧ k ∈ TI) ∨ (v = -1 ∧ k ∉ TI ∧ overlaps k M = true)) := by
  constructor
  · intro j r hr
    obtain ⟨t, _, htK, hc, _⟩ := hf.each r (List.mem_of_getElem? hr)
    exact follow_read_marked K gr _ δ R M hyp j r t hr htK hc
  · intro i k v hk hv hv0
    exact follow_gene_marks K gr mio δ R TI M hδ hyp hf i k v hk hv hv0

/-- non-vacuity of `follow_delta_intron_profile`: a read whose two introns are 2 and 3 bases off T's introns, with an
    alternative acceptor 5 bases away in another isoform (δ = 6): hypotheses hold, the profile is [1, −1, 1] -/
example : Hyp 6 [(201, 299), (201, 304), (401, 499)] [(203, 299), (401, 502)] ∧
    (constructOverlapping [(201, 299), (201, 304), (401, 499)] (100, 600) (fun a b => equal_ranges a b 6)
      (fun a b => overlaps_at_least a b 20) 6 [(203, 299), (401, 502)] (120, 580) (-1) (-1)).gene = [1, -1, 1] ∧
    StrictBest 6 [(201, 299), (201, 304), (401, 499)] (203, 299) (201, 299) := by
  refine ⟨⟨by simp [SortedStarts], by simp [LongerThan], by simp [SepBy], by simp [WFR]⟩, by decide +kernel, ?_⟩
  refine ⟨by simp, by decide, ?_⟩
  intro k hk hne _
  simp at hk
  rcases hk with rfl | rfl | rfl
  · exact absurd rfl hne
  · decide
  · decide

/-- `follow_exact_dispatch`: the read is sent to `match_consistent` -/
theorem follow_exact_dispatch (ms : List Isoform) (g : Gene) (p : Params) (T : IsoInfo) (blocks : List Iv) (pa : PolyA)
    (rp : ReadProf) (H : FollowHyp ms g p T blocks pa) (hrp : constructProfiles g p blocks pa = some rp) :
    dispatch g rp = .consistent := by
  obtain ⟨hi1, _⟩ := follow_intron H rp hrp
  obtain ⟨hs0, hs1, _, _, ⟨i1, hi1'⟩⟩ := follow_split H rp hrp
  have hreg := (constructProfiles_of g p blocks pa rp hrp).hregion
  obtain ⟨f, l, hf, _, _, _, _⟩ := follow_region H rp.region hreg
  have hbne : 0 < blocks.length := by
    have : blocks[0]? = some f := by rw [← List.head?_eq_getElem?]; exact hf
    exact getElem?_lt this
  have hsne : 0 < rp.split.read.length := by omega
  obtain ⟨a0, hfa⟩ := H.hf
  obtain ⟨e, he, _⟩ := hfa 0 f (by rw [← List.head?_eq_getElem?]; exact hf)
  have heg : e ∈ g.exons := exons_in_gene H.hg H.hT e (List.mem_of_getElem? he)
  have noval : ∀ c : Int, c ≠ 1 → ¬ ((rp.intron.read.any fun e => decide (e = c)) = true ∨
      (rp.split.read.any fun e => decide (e = c)) = true) := by
    intro c hc h
    simp only [List.any_eq_true, decide_eq_true_eq] at h
    rcases h with ⟨v, hv, e⟩ | ⟨v, hv, e⟩
    · exact hc (e ▸ hi1 v hv)
    · exact hc (e ▸ hs1 v hv)
  fun_cases dispatch g rp
  case case1 h => rw [List.isEmpty_iff.mp h] at heg; cases heg
  case case2 _ h =>
    simp only [List.all_eq_true, decide_eq_true_eq] at h
    rcases h with h | h
    · have hm : rp.split.read[0] ∈ rp.split.read := List.getElem_mem hsne
      exact (h _ hm (hs1 _ hm)).elim
    · have := h 1 (List.mem_of_getElem? hi1')
      omega
  case case3 _ _ h => exact (noval (-1) (by decide) h).elim
  case case4 _ _ _ h => exact (noval 0 (by decide) h).elim
  case case5 => rfl

/-- T passes the three tests of `match_consistent` -/
theorem follow_exact_tests (ms : List Isoform) (g : Gene) (p : Params) (T : IsoInfo) (blocks : List Iv) (pa : PolyA)
    (rp : ReadProf) (H : FollowHyp ms g p T blocks pa) (hrp : constructProfiles g p blocks pa = some rp) :
    contains_approx T.region rp.region p.min_abs_exon_overlap = true ∧
    hasOverlappingFeatures T.splitProf rp.split.gene (overlap_intervals rp.split.range T.splitRange) = some true ∧
    equalProfilesInRange T.intronProf rp.intron.gene rp.intron.range = some true := by
  obtain ⟨_, h3, _, _, h2⟩ := follow_exact_profiles ms g p T blocks pa rp H hrp
  have hreg := (constructProfiles_of g p blocks pa rp hrp).hregion
  obtain ⟨f, l, _, _, hregeq, hr1, hr2⟩ := follow_region H rp.region hreg
  refine ⟨?_, h2, h3⟩
  have := H.hmao
  rw [hregeq]
  simp only [contains_approx, Bool.and_eq_true, decide_eq_true_eq]
  omega

/-- the polyA hypothesis of `consistent_path_sound` holds trivially (no external polyA / polyT position) -/
theorem follow_polya_outside (ms : List Isoform) (g : Gene) (p : Params) (T : IsoInfo) (blocks : List Iv) (pa : PolyA)
    (H : FollowHyp ms g p T blocks pa) : PolyAOutside blocks pa :=
  ⟨Or.inl H.hA, Or.inl H.hT'⟩

/-- T itself is structurally compatible with the read -/
theorem follow_exact_compatible (ms : List Isoform) (g : Gene) (p : Params) (T : IsoInfo) (blocks : List Iv) (pa : PolyA)
    (rp : ReadProf) (H : FollowHyp ms g p T blocks pa) (hrp : constructProfiles g p blocks pa = some rp) :
    Compatible p blocks T := by
  obtain ⟨h1, _, h3⟩ := follow_exact_tests ms g p T blocks pa rp H hrp
  obtain ⟨hi1, _⟩ := follow_intron H rp hrp
  exact candidate_compatible ms p blocks pa g rp H.hwf H.hg hrp (follow_polya_outside ms g p T blocks pa H) hi1 T H.hT h1 h3

/-- `follow_exact_assigned_partial`.  FULL statement (DESIGN §7 `follow_exact`): the read's assignment comes from
    `match_consistent`, has a consistent type, reports compatible isoforms only, T among them.
    PROVED (for all annotations / parameters / reads meeting `FollowHyp`; no hypothesis on the profiles): the read
    is dispatched to `match_consistent`; T is one of its candidate isoforms; the assignment is produced EITHER by the
    consistent path — then its type is unique / unique_minor_difference / ambiguous, every reported isoform is
    structurally compatible, T is reported whenever its Jaccard-based score is ≥ 2/3 of every candidate's and ≥ −1/2
    (`full_length_reported`), and it is reported alone (unique / unique_minor_difference) when T is the only compatible
    isoform — OR by the fall-back (`match_consistent` returned None).
    MISSING: the exclusion of the fall-back, i.e. that (a) the score resolution keeps at least one candidate, (b) no
    selected isoform gets a major elongation event from `check_read_ends` (for T itself the read ends lie inside its
    exons; for another selected isoform I the read extends at most `min_abs_exon_overlap` beyond I, so (b) holds as soon
    as `min_abs_exon_overlap ≤ minor_exon_extension` — true of every preset) and (c) polyA verification with an INTERNAL
    polyA / polyT position adds no major event (`FollowHyp` excludes external positions only; for a tail at the isoform's
    end: `C01Tail.verifyReadEnds_tail_at_end_no_new_major`); carried by the correspondence and the oracle. -/
theorem follow_exact_assigned_partial (ms : List Isoform) (g : Gene) (p : Params) (T : IsoInfo) (blocks : List Iv)
    (pa : PolyA) (rp : ReadProf) (cj : Nat → Option (List Event)) (a : Assignment) (path : Path)
    (H : FollowHyp ms g p T blocks pa) (hrp : constructProfiles g p blocks pa = some rp)
    (h : assignToIsoform g p rp cj = some (a, path)) :
    dispatch g rp = .consistent ∧
    (∃ cons, consistentIsoforms g p rp = some (some cons) ∧ T ∈ cons) ∧
    ((path = .consistent ∧ a.ty.is_consistent = true ∧ a.isoMatches ≠ [] ∧
        (∀ m ∈ a.isoMatches, ∃ I ∈ g.isos, m.iso = some I.id ∧ Compatible p blocks I) ∧
        (∀ sT, jaccardScore p rp T = some sT →
          (∀ I ∈ g.isos, ∀ s, jaccardScore p rp I = some s → s ≤ sT * topScoredFactor) → minimalScore ≤ sT →
          ∃ m ∈ a.isoMatches, m.iso = some T.id) ∧
        ((∀ I ∈ g.isos, Compatible p blocks I → I = T) →
          (a.ty = .unique ∨ a.ty = .unique_minor_difference) ∧ ∃ m, a.isoMatches = [m] ∧ m.iso = some T.id)) ∨
      (path = .fallback ∧ matchConsistent g p rp = some none)) := by
  have hdisp := follow_exact_dispatch ms g p T blocks pa rp H hrp
  obtain ⟨h1, h2, h3⟩ := follow_exact_tests ms g p T blocks pa rp H hrp
  obtain ⟨hcand, _⟩ := follow_exact_partial g p rp cj a path T H.hT hdisp h1 h2 h3 h
  have hpa := follow_polya_outside ms g p T blocks pa H
  refine ⟨hdisp, hcand, ?_⟩
  rcases path_of_consistent hdisp h with ⟨hp, hmc⟩ | ⟨hp, hmc, _⟩
  · left
    obtain ⟨hty, hne, hall⟩ := consistent_path_sound ms p blocks pa g rp a H.hwf H.hg hrp hpa hdisp hmc
    refine ⟨hp, hty, hne, hall, ?_, ?_⟩
    · intro sT hs hbest hmin
      obtain ⟨cons, hcons, hT⟩ := hcand
      obtain ⟨_, _, _, hs2, _⟩ := follow_exact_profiles ms g p T blocks pa rp H hrp
      apply full_length_reported g p rp a cons T sT hmc hcons hT (fun _ => hs2) hs ?_ hmin
      intro I hI s hIs
      exact hbest I (consistentIsoforms_mem g p rp cons hcons I hI).1 s hIs
    · intro honly
      exact unique_when_only ms p blocks pa g rp a T H.hwf H.hg hrp hpa hdisp hmc honly
  · right; exact ⟨hp, hmc⟩

/-! ### non-vacuity: the hypotheses are met by concrete annotations and reads (also replayed on the real code) -/

def fxParams : Params :=
  { delta := 6, minor_exon_extension := 50, major_exon_extension := 300, min_abs_exon_overlap := 10, apa_delta := 50,
    minimal_exon_overlap := 5, minimal_intron_absence_overlap := 20, max_fake_terminal_exon_len := 40,
    max_missed_exon_len := 100, resolve_ambiguous := .monoexon_and_fsm }

/-- T = isoform 0; isoform 1 skips T's second exon, isoform 2 has an alternative acceptor 4 bases inside T's third exon
    (within δ), isoform 3 is a mono-exon transcript inside T's first intron -/
def fxAnnotation : List Isoform :=
  [⟨[(100, 200), (300, 400), (500, 600), (700, 800)], .plus⟩, ⟨[(100, 200), (500, 600), (700, 800)], .plus⟩,
   ⟨[(100, 200), (300, 400), (504, 600)], .plus⟩, ⟨[(230, 260)], .minus⟩]

def fxNoPolyA : PolyA := ⟨-1, -1, -1, -1⟩

/-- a 5'- and 3'-truncated read of T: starts inside exon 2, ends inside exon 4; the first block keeps 4 bases
    < `minimal_exon_overlap` = 5 (it ends at the exon end: `FollowHyp` has no length condition for spliced reads) -/
def fxBlocks : List Iv := [(397, 400), (500, 600), (700, 730)]

theorem fx_followsExact : FollowsExact [(100, 200), (300, 400), (500, 600), (700, 800)] fxBlocks := by
  refine ⟨1, ?_⟩
  intro j b hj
  match j, hj with
  | 0, h => simp [fxBlocks] at h; subst h; exact ⟨(300, 400), by simp, by decide, by decide, by simp, by simp [fxBlocks]⟩
  | 1, h => simp [fxBlocks] at h; subst h; exact ⟨(500, 600), by simp, by decide, by decide, by simp, by simp [fxBlocks]⟩
  | 2, h => simp [fxBlocks] at h; subst h; exact ⟨(700, 800), by simp, by decide, by decide, by simp, by simp [fxBlocks]⟩
  | n + 3, h => simp [fxBlocks] at h

/-- every hypothesis of `FollowHyp` holds for this input, and the model assigns the read uniquely to T on the consistent
    path (isoform 2's acceptor is within δ of T's but loses the tie) -/
example : ∃ g T, Gene.fromModels fxAnnotation = some g ∧ g.isos[0]? = some T ∧
    FollowHyp fxAnnotation g fxParams T fxBlocks fxNoPolyA ∧
    view (assignRead fxAnnotation fxParams fxBlocks fxNoPolyA (fun _ => none)) = some (.unique, [some 0], .consistent) := by
  have hg : ∃ g, Gene.fromModels fxAnnotation = some g := by
    cases h : Gene.fromModels fxAnnotation with
    | none => exact absurd h (by decide +kernel)
    | some g => exact ⟨g, rfl⟩
  obtain ⟨g, hg⟩ := hg
  have hi : g.introns = [(201, 299), (201, 499), (401, 499), (401, 503), (601, 699)] := by
    have : (Gene.fromModels fxAnnotation).map (·.introns) =
        some [(201, 299), (201, 499), (401, 499), (401, 503), (601, 699)] := by decide +kernel
    rw [hg] at this; simpa using this
  have hT : ∃ T, g.isos[0]? = some T ∧ T.exons = [(100, 200), (300, 400), (500, 600), (700, 800)] := by
    have : ((Gene.fromModels fxAnnotation).bind (fun g => g.isos[0]?)).map (·.exons) =
        some [(100, 200), (300, 400), (500, 600), (700, 800)] := by decide +kernel
    rw [hg] at this
    cases h0 : g.isos[0]? with
    | none => simp [h0] at this
    | some T => simp [h0] at this; exact ⟨T, rfl, this⟩
  obtain ⟨T, hT0, hTe⟩ := hT
  refine ⟨g, T, hg, hT0, ?_, by decide +kernel⟩
  refine { hg := hg, hwf := ?_, hnn := ?_, hT := List.mem_of_getElem? hT0, hTg := ?_, hδ := by decide, hmao := by decide,
           hlong := ?_, hB := ?_, hf := ?_, hsep := ?_, hsingle := ?_, hA := rfl, hT' := rfl }
  · intro m hm
    simp [fxAnnotation] at hm
    rcases hm with rfl | rfl | rfl | rfl <;> (constructor <;> simp [SD, WFl])
  · intro m hm e he
    simp [fxAnnotation] at hm
    rcases hm with rfl | rfl | rfl | rfl <;> simp at he <;> (try rcases he with rfl | rfl | rfl | rfl) <;>
      (try rcases he with rfl | rfl | rfl) <;> (try subst he) <;> decide
  · rw [hTe]; simp [Gapped]
  · rw [hi]; simp [LongerThan, fxParams]
  · simp [fxBlocks, Gapped]
  · rw [hTe]; exact fx_followsExact
  · simp [fxBlocks, junctionsFromBlocks, SepBy, fxParams]
  · intro b hb
    simp [fxBlocks] at hb

end IsoVerif.Props.C01Follow
