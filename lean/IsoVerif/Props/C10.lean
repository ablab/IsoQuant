/-
C10 — experiments processed in one invocation are independent of each other.

Property theorems (and the unfolding `runInvocation_eq` beside its user).  The model is `IsoVerif/Model/Samples.lean`; the reset / derivation sites of the
source enter through `wiringOfSource`, which is computed from tables that `harness/translate.py`
regenerates from /repo on every run (`Gen/SharedState.lean`, `Gen/SampleState.lean`).
-/
import IsoVerif.Model.Samples
import IsoVerif.Lemmas.Samples
import IsoVerif.Props.C10Names

namespace IsoVerif.Props.C10
open IsoVerif.Gen IsoVerif.Model.C10 IsoVerif.Lemmas.C10

/-- why a piece of class-level / module-level state cannot carry information from one sample into the
    outputs of the next -/
inductive Handling where
  | resetPerTask     -- cleared at the top of every chromosome task (lemma `detected_component` for `detected_known_isoforms`)
  | idOnly           -- a running number that never reaches an output (lemma `id_counters_component`)
  | logOnly          -- every read is the test of an `if` that guards logger calls only (generated `counter_reads`;
                     -- lemma `duplicate_counter_component`)
  | notInPipeline    -- lives in a module that isoquant.py does not import
  deriving DecidableEq, Repr

def inPipeline (item : String) : Bool :=
  match shared_state_item_files.lookup item with
  | some file => pipeline_modules.contains file
  | none => true

def handlingOf (item : String) : Option Handling :=
  if !inPipeline item then some .notInPipeline
  else if item == "GraphBasedModelConstructor.detected_known_isoforms" then some .resetPerTask
  else if item == "GraphBasedModelConstructor.reported_novel_chains" then some .resetPerTask   -- fix b2b4dd9 (C04); no component of `ProcState`: cleared with the detected set, Model/Schedule.lean
  else if item == "ReadAssignment.assignment_id_generator" then some .idOnly
  else if item == "FeatureInfo.feature_id_counter" then some .idOnly
  else if item == "MultimapResolver.duplicate_counter" then some .logOnly
  else none

/-- the static side condition each handling needs, read off generated tables -/
def justified (item : String) : Bool :=
  match handlingOf item with
  | some .resetPerTask => (tableGet "construct_models_in_parallel" chr_task_resets).contains item
  | some .logOnly =>
    -- a numeric counter, and every read of it is the test of an `if` that guards logger calls only
    numeric_counters.contains item
      && (counter_reads.filter (fun r => r.1 == item)).all (fun r => r.2.2 == "log")
  | some _ => true
  | none => false

/-- every item of the regenerated shared-state inventory has a handling whose side condition holds:
    a new class-level / module-level mutable re-opens this obligation -/
theorem inventory_handled : ∀ item ∈ shared_state_inventory, justified item = true := by decide +kernel

/-- how an `args` field assigned outside isoquant.py is kept from leaking -/
inductive ArgsHandling where
  | freshPerSample   -- assigned by process_sample from constants, preset copies and fields assigned earlier in the same call
  | oncePerProcess   -- assigned only in DatasetProcessor.__init__
  | mappingStage     -- assigned only while FASTQ input is mapped (before any sample is processed)
  | notInPipeline    -- assigned only in a module that isoquant.py does not import
  deriving DecidableEq, Repr

/-- `args.<f> = rhs` of process_sample reads only: args fields nobody assigns (constants), args fields assigned
    earlier in the same call, and preset copies that are never assigned after `__init__`; never `args.<f>` itself -/
def freshIn (earlier : List String) (f : String) (deps : List (String × String)) : Bool :=
  deps.all (fun d =>
    if d.1 == "args" then
      d.2 != f && (earlier.contains d.2 || !args_fields_mutated.contains d.2)
    else if d.1 == "self" then
      processor_preset_copies.any (fun p => p.1 == d.2) && !processor_fields_mutated.contains d.2
    else false)

def freshAll : List String → List (String × List (String × String)) → Bool
  | _, [] => true
  | earlier, (f, deps) :: rest => freshIn earlier f deps && freshAll (f :: earlier) rest

def argsHandlingOf (f : String) : Option ArgsHandling :=
  let sites := tableGet f args_assign_sites
  if sites.isEmpty then none
  else if sites.all (· == ("src/dataset_processor.py", "DatasetProcessor.process_sample")) then
    (if process_sample_args_assignments.any (fun p => p.1 == f) then some .freshPerSample else none)
  else if sites.all (· == ("src/dataset_processor.py", "DatasetProcessor.__init__")) then some .oncePerProcess
  else if sites.all (· == ("src/read_mapper.py", "align_fasta")) then some .mappingStage
  else if sites.all (fun s => !pipeline_modules.contains s.1) then some .notInPipeline
  else none

/-- every mutated `args` field is classified, and the per-sample ones are recomputed from scratch -/
theorem args_fields_handled :
    (∀ f ∈ args_fields_mutated, (argsHandlingOf f).isSome = true) ∧
    freshAll [] process_sample_args_assignments = true := by decide +kernel

/-- every `DatasetProcessor` field that is mutated after `__init__` is re-initialised by `process_sample`
    before it calls any other method -/
theorem processor_fields_handled :
    ∀ f ∈ processor_fields_mutated, f ∈ processor_fields_reset_per_sample := by decide +kernel

/-- objects created once as default argument values are shared by every call of their function for the life
    of the process; the ones present today are stateless (`PrintAllFunctor`, a `partial` of a pure function) or
    never used because the only call site passes the argument (`DefaultReadGrouper()`); a new one re-opens this -/
def statelessDefaults : List String := ["DefaultReadGrouper()", "PrintAllFunctor()", "partial(equal_ranges, delta=0)"]

theorem default_arguments_handled :
    ∀ d ∈ default_argument_objects, statelessDefaults.contains d.2.2 = true := by decide +kernel

/-- the reset / derivation sites found in the current source are those of the fixed tree -/
theorem wiring_of_source_fixed : wiringOfSource = wiringFixed := by decide +kernel

/-! ### Per-component lemmas: no component of the long-lived state reaches the outputs of a sample -/

/-- `detected_known_isoforms`: with the per-task reset a chromosome task ignores the set it inherits -/
theorem detected_component (w : Wiring) (h : w.resetDetectedPerTask = true) (cfg : Config) (fl : Flags)
    (d d' : List String) (c : ChrData) :
    chrTask w cfg fl d c = chrTask w cfg fl d' c := by
  simp [chrTask, h]

/-- … hence neither the process a task runs in, nor the tasks that process ran before, nor the
    task → worker assignment matter: a pool returns what isolated tasks return -/
theorem pool_schedule_independent (w : Wiring) (h : w.resetDetectedPerTask = true) (cfg : Config) (fl : Flags)
    (d0 : List String) (ws : List (Nat × List String)) (assign : List Nat) (cs : List ChrData) :
    runPool w cfg fl d0 ws assign cs = cs.map (fun c => (chrTask w cfg fl [] c).1) := by
  induction cs generalizing ws assign with
  | nil => rfl
  | cons c cs ih =>
    simp only [runPool, List.map_cons, ih]
    rw [detected_component w h cfg fl _ [] c]

theorem seq_state_independent (w : Wiring) (h : w.resetDetectedPerTask = true) (cfg : Config) (fl : Flags)
    (d : List String) (cs : List ChrData) :
    (runSeq w cfg fl d cs).1 = cs.map (fun c => (chrTask w cfg fl [] c).1) := by
  induction cs generalizing d with
  | nil => rfl
  | cons c cs ih =>
    simp only [runSeq, List.map_cons, ih]
    rw [detected_component w h cfg fl d [] c]

/-- the polyA flags: derived from the preset, whatever the previous sample left in `args` -/
theorem flags_component (w : Wiring) (hi : w.monoIntronicFromPreset = true) (he : w.monoExonicFromPreset = true)
    (cfg : Config) (p p' : Flags) (s : Sample) :
    deriveFlags w cfg p s = deriveFlags w cfg p' s := by
  simp [deriveFlags, hi, he]

/-- `assignment_id_generator`, `feature_id_counter`: the counters are written, never read, by a sample -/
theorem id_counters_component (w : Wiring) (cfg : Config) (σ : ProcState) (a f : Nat) (e : Exec) (s : Sample) :
    (processSample w cfg { σ with assignmentId := a, featureId := f } e s).1 = (processSample w cfg σ e s).1 := by
  cases e <;> simp [processSample]

/-- … and where their *values* are compared (resolver entries looked up by assignment id when a chromosome is
    loaded again) the result does not depend on the number the chromosome's ids start from – i.e. on what the
    collecting process did before – nor on entries of other chromosomes that carry the same numbers (two pool
    workers count independently) -/
theorem assignment_ids_component (c : String) (base base' : Nat) (recs : List Rec) (foreign foreign' : List Entry)
    (hf : ∀ e ∈ foreign, e.chr ≠ c) (hf' : ∀ e ∈ foreign', e.chr ≠ c) :
    loadChr c base recs foreign = loadChr c base' recs foreign' := by
  rw [loadChr_base_zero c base recs foreign hf, loadChr_base_zero c base' recs foreign' hf']

/-- non-vacuity: a multimapped read with two alignments on the chromosome, an unrelated read, a foreign entry
    with a colliding number -/
example : loadChr "chr1" 41 [⟨"r1", true, 7⟩, ⟨"r2", false, 0⟩, ⟨"r1", true, 9⟩] [⟨"r1", 41, "chr2", 5⟩]
    = [.resolved 7, .untouched, .resolved 9] := by decide +kernel

/-- without the chromosome test a colliding foreign entry would win (last match): the `chr_id` comparison in
    `ReadAssignmentLoader.get_next` is what makes independently counting workers safe -/
example : lookupLast "chr2" [⟨"r1", 41, "chr1", 7⟩, ⟨"r1", 41, "chr2", 5⟩] "r1" 41 = some 5 := by decide +kernel

/-- `duplicate_counter` -/
theorem duplicate_counter_component (w : Wiring) (cfg : Config) (σ : ProcState) (n : Nat) (e : Exec) (s : Sample) :
    (processSample w cfg { σ with duplicates := n } e s).1 = (processSample w cfg σ e s).1 := by
  cases e <;> simp [processSample]

/-- `all_read_groups`: overwritten before use -/
theorem read_groups_component (w : Wiring) (cfg : Config) (σ : ProcState) (g : List String) (e : Exec) (s : Sample) :
    (processSample w cfg { σ with readGroups := g } e s).1 = (processSample w cfg σ e s).1 := by
  cases e <;> simp [processSample]

/-- `alignment_stat_counter`: with the per-sample reset the inherited statistics are not read -/
theorem alignment_stats_component (w : Wiring) (h : w.statsResetPerSample = true) (cfg : Config) (σ : ProcState)
    (u a : Nat) (e : Exec) (s : Sample) :
    (processSample w cfg { σ with unaligned := u, aligned := a } e s).1 = (processSample w cfg σ e s).1 := by
  cases e <;> simp [processSample, h]

/-- the outputs of sample `s` processed alone by a fresh single-threaded process -/
def standalone (w : Wiring) (cfg : Config) (s : Sample) : Outputs :=
  (processSample w cfg (initState cfg) .single s).1

/-- core statement, for the wiring of the fixed tree: the outputs of a sample do not depend on the process
    state it meets, nor on how its tasks are executed (threads, worker assignment) -/
theorem sample_independent_of_state (w : Wiring) (hw : w = wiringFixed) (cfg : Config) (σ σ' : ProcState)
    (e e' : Exec) (s : Sample) :
    (processSample w cfg σ e s).1 = (processSample w cfg σ' e' s).1 := by
  have h1 : w.resetDetectedPerTask = true := by rw [hw]; rfl
  have h2 : w.monoIntronicFromPreset = true := by rw [hw]; rfl
  have h2' : w.monoExonicFromPreset = true := by rw [hw]; rfl
  have h3 : w.statsResetPerSample = true := by rw [hw]; rfl
  have hf := flags_component w h2 h2' cfg σ.flags σ'.flags s
  cases e <;> cases e' <;>
    simp [processSample, h3, hf, seq_state_independent w h1, pool_schedule_independent w h1]

/-- **sample_independent** (full strength): for every configuration, every history of experiments processed
    before (any data, any order, any mix of `--threads 1` / pool executions with any task → worker assignment)
    and every way of executing `s` itself, the outputs of `s` are those of `s` processed alone.
    The statement is about the wiring read off the *current* source. -/
theorem sample_independent (cfg : Config) (hist : List (Exec × Sample)) (e : Exec) (s : Sample) :
    (processSample wiringOfSource cfg (runHistory wiringOfSource cfg (initState cfg) hist).2 e s).1
      = standalone wiringOfSource cfg s :=
  sample_independent_of_state _ wiring_of_source_fixed cfg _ _ e .single s

/-- the whole invocation: the list of per-experiment outputs is the list of stand-alone outputs, in file order
    – so every order of the experiments gives every experiment the same files -/
theorem history_outputs (cfg : Config) (σ : ProcState) (hist : List (Exec × Sample)) :
    (runHistory wiringOfSource cfg σ hist).1 = hist.map (fun p => standalone wiringOfSource cfg p.2) := by
  induction hist generalizing σ with
  | nil => rfl
  | cons p rest ih =>
    obtain ⟨e, s⟩ := p
    simp only [runHistory, List.map_cons, ih]
    congr 1
    exact sample_independent_of_state _ wiring_of_source_fixed cfg _ _ e .single s

/-- reordering the experiments permutes the outputs accordingly -/
theorem order_independent (cfg : Config) (h₁ h₂ : List (Exec × Sample)) (hp : (h₁.map Prod.snd).Perm (h₂.map Prod.snd)) :
    ((runHistory wiringOfSource cfg (initState cfg) h₁).1).Perm ((runHistory wiringOfSource cfg (initState cfg) h₂).1) := by
  rw [history_outputs, history_outputs]
  simpa [List.map_map, Function.comp_def] using hp.map (standalone wiringOfSource cfg)

/-! non-vacuity: a sample whose outputs are not trivial (transcripts reported, flags raised, unaligned reads) -/

def cfgPacbio : Config := ⟨false, true, 1, 2, false, .auto, false, false⟩
def cfgSensitive : Config := ⟨false, false, 1, 2, false, .auto, false, false⟩

def geneA : GeneData :=
  { fl := [⟨some "T1", false, 3, "n0", false, true, true, true, 1⟩, ⟨none, false, 4, "novel2x", true, false, true, true, 1⟩],
    mono := [⟨"TM", 2, true, 0⟩],
    nonfl := [⟨"T2", 2, true, false, 1, 0, 1, 0⟩] }

/-- polyA-rich experiment -/
def sampleA : Sample := ⟨"A", 1, 3, 10, 9, [], 0, [⟨"chr1", 10, 4, 12, [geneA]⟩]⟩
/-- experiment without polyA tails -/
def sampleN : Sample := ⟨"N", 1, 5, 10, 0, [], 0, [⟨"chr1", 10, 4, 12, [geneA]⟩]⟩

example : standalone wiringFixed cfgSensitive sampleN =
    { flags := ⟨false, false, false, false⟩, notAligned := 5,
      transcripts := [[["T1", "novel2x", "TM", "T2"]]], readGroups := [], groupedTables := false } := by decide +kernel

example : (standalone wiringFixed cfgSensitive sampleA).flags = ⟨true, true, true, false⟩ := by decide +kernel

/-! ### The pinned tree: each of the three channels is a counterexample (`wiringPinned`) -/

/-- class-level `detected_known_isoforms`: the same experiment processed a second time by the same process
    (`--threads 1`) reports no known transcript any more -/
theorem detected_leak_witness :
    (processSample wiringPinned cfgSensitive
        (processSample wiringPinned cfgSensitive (initState cfgSensitive) .single sampleN).2 .single sampleN).1.transcripts
      = [[["novel2x"]]]
    ∧ (standalone wiringPinned cfgSensitive sampleN).transcripts = [[["T1", "novel2x", "TM", "T2"]]] := by decide +kernel

/-- sticky `require_mono*_polya`: after a polyA-rich experiment the tail-less one loses its 2-exon novel
    transcript and its mono-exon isoform – with `--threads 1` and with a pool alike -/
theorem sticky_polya_flags_witness :
    (processSample wiringPinned cfgSensitive
        (processSample wiringPinned cfgSensitive (initState cfgSensitive) (.pool [0]) sampleA).2 (.pool [0]) sampleN).1.transcripts
      = [[["T1", "T2"]]]
    ∧ (processSample wiringPinned cfgSensitive (initState cfgSensitive) (.pool [0]) sampleN).1.transcripts
      = [[["T1", "novel2x", "TM", "T2"]]] := by decide +kernel

/-- accumulated alignment statistics: `__not_aligned` of the second experiment counts the first one's reads too -/
theorem unaligned_accumulates_witness :
    (processSample wiringPinned cfgSensitive
        (processSample wiringPinned cfgSensitive (initState cfgSensitive) (.pool [0]) sampleA).2 (.pool [0]) sampleN).1.notAligned = 8
    ∧ (standalone wiringPinned cfgSensitive sampleN).notAligned = 5 := by decide +kernel

/-- the order of two experiments matters on the pinned tree -/
theorem order_dependence_witness :
    (runHistory wiringPinned cfgSensitive (initState cfgSensitive) [(.single, sampleA), (.single, sampleN)]).1
      ≠ ((runHistory wiringPinned cfgSensitive (initState cfgSensitive) [(.single, sampleN), (.single, sampleA)]).1).reverse := by
  decide +kernel

/-! ### The command-line level: the configuration is derived from *all* experiments -/

/-- full-strength statement at the command-line level (false: see the witness) -/
def InvocationIndependent : Prop :=
  ∀ (base : Config) (rg : ReadGroupOpt) (hist : List (Exec × Sample)) (i : Nat) (p : Exec × Sample) (e' : Exec),
    hist[i]? = some p →
    (runInvocation wiringOfSource base rg hist)[i]? = (runInvocation wiringOfSource base rg [(e', p.2)])[0]?

def sampleTwoFiles : Sample := { sampleA with name := "R", files := 2 }

/-- without `--read_group`, one experiment with two files switches `read_group = file_name` on for every
    experiment of the invocation: the single-file experiment gets grouped tables it would not get alone -/
theorem invocation_independent_witness : ¬ InvocationIndependent := by
  intro h
  have := h cfgSensitive .unset [(.single, sampleTwoFiles), (.single, sampleN)] 1 (.single, sampleN) .single rfl
  rw [wiring_of_source_fixed] at this
  revert this
  decide +kernel

theorem runInvocation_eq (base : Config) (rg : ReadGroupOpt) (hist : List (Exec × Sample)) :
    runInvocation wiringOfSource base rg hist
      = hist.map (fun p => standalone wiringOfSource
          (base.withReadGroup (effectiveReadGroup rg (hist.map Prod.snd))) p.2) := by
  simp [runInvocation, history_outputs]

/-- … and that is the only dependence: whenever the read grouping the invocation settles on is the one the
    experiment would get alone (a `--read_group` option is given, or the experiment has several files itself, or
    no experiment has), its outputs are those of the stand-alone run -/
theorem invocation_independent_partial (base : Config) (rg : ReadGroupOpt) (hist : List (Exec × Sample)) (i : Nat)
    (p : Exec × Sample) (e' : Exec) (hi : hist[i]? = some p)
    (hrg : effectiveReadGroup rg (hist.map Prod.snd) = effectiveReadGroup rg [p.2]) :
    (runInvocation wiringOfSource base rg hist)[i]? = (runInvocation wiringOfSource base rg [(e', p.2)])[0]? := by
  rw [runInvocation_eq, runInvocation_eq]
  simp [List.getElem?_map, hi, hrg]

/-- the hypothesis is decidable and met in the three documented situations -/
theorem read_group_stable_cases (rg : ReadGroupOpt) (samples : List Sample) (s : Sample) :
    (rg ≠ .unset ∨ s.files > 1 ∧ s ∈ samples ∨ hasReplicas samples = false ∧ s.files ≤ 1) →
    effectiveReadGroup rg samples = effectiveReadGroup rg [s] := by
  rintro (h | ⟨h1, h2⟩ | ⟨h1, h2⟩)
  · cases rg <;> simp_all [effectiveReadGroup]
  · have hr : hasReplicas samples = true := by
      simp only [hasReplicas, List.any_eq_true]; exact ⟨s, h2, by simpa using h1⟩
    have hs : hasReplicas [s] = true := by simp [hasReplicas]; omega
    cases rg <;> simp [effectiveReadGroup, hr, hs]
  · have hs : hasReplicas [s] = false := by simp [hasReplicas]; omega
    cases rg <;> simp [effectiveReadGroup, h1, hs]

example : effectiveReadGroup .unset [sampleA, sampleN] = effectiveReadGroup .unset [sampleN] := by decide +kernel

/-! ### Parsing the experiment description: every experiment gets the fields of its own entry -/

/-- **parsed_sample_depends_on_own_entry** (YAML): when the experiments carry explicit, pairwise distinct names
    (reading rule c), `get_samples_from_yaml` returns – for *every* list of entries, with or without the optional
    keys, in every order – exactly the concatenation of what each entry yields by itself (`parseOwnYaml e n` is a
    function of that one entry), and fails iff some entry fails by itself.  None of the loop locals
    (`experiment_names`, `current_index`, `readable_names_dict`, the per-entry lists) carries anything over. -/
theorem parsed_sample_depends_on_own_entry (pfx : String) (entries : List YamlEntry) (ns : List String)
    (hnames : entries.map YamlEntry.name = ns.map some) (hnd : ns.Nodup) :
    parseYaml pfx entries = parseEachOwn (entries.zip ns) :=
  C10Names.parse_rule_irrelevant_partial _ pfx entries ns hnames hnd

/-- … in the form of the property: the joint description parses to the concatenation of the stand-alone
    (one-entry) descriptions, whatever the prefix of either invocation -/
theorem parse_joint_eq_standalone (pfx pfx' : String) (entries : List YamlEntry) (ns : List String)
    (hnames : entries.map YamlEntry.name = ns.map some) (hnd : ns.Nodup) :
    parseYaml pfx entries = parseEachOwn (entries.zip ns)
    ∧ ∀ (e : YamlEntry) (n : String), (e, n) ∈ entries.zip ns → e.name = some n →
        parseYaml pfx' [e] = (parseOwnYaml e n).map Option.toList := by
  refine ⟨parsed_sample_depends_on_own_entry pfx entries ns hnames hnd, ?_⟩
  intro e n _ hn
  have := parsed_sample_depends_on_own_entry pfx' [e] [n] (by simp [hn]) (by simp)
  rw [this]
  simp only [List.zip_cons_cons, List.zip_nil_right, parseEachOwn]
  cases parseOwnYaml e n <;> simp

/-- the short-read BAMs of a parsed experiment are those of the entry with its name -/
theorem parsed_illumina_is_own (l : List (YamlEntry × String)) (rs : List ParsedSample)
    (h : parseEachOwn l = some rs) :
    ∀ s ∈ rs, ∃ p ∈ l, s.name = p.2 ∧ s.illumina = p.1.illumina := by
  induction l generalizing rs with
  | nil =>
    simp only [parseEachOwn, Option.some.injEq] at h
    subst h
    simp
  | cons p l ih =>
    obtain ⟨e, n⟩ := p
    simp only [parseEachOwn] at h
    cases hp : parseOwnYaml e n with
    | none => simp [hp] at h
    | some r =>
      cases hr : parseEachOwn l with
      | none => simp [hp, hr] at h
      | some rs' =>
        simp only [hp, hr, Option.some.injEq] at h
        subst h
        intro s hs
        rcases List.mem_append.mp hs with h1 | h1
        · refine ⟨(e, n), List.mem_cons_self, ?_⟩
          unfold parseOwnYaml at hp
          cases hf : e.files with
          | none => simp [hf] at hp
          | some fs =>
            cases hl : labelled fs e.labels with
            | none => simp [hf, hl] at hp
            | some pairs =>
              cases ha : addFiles [] pairs with
              | none => simp [hf, hl, ha] at hp
              | some d =>
                simp only [hf, hl, ha] at hp
                split at hp
                · simp only [Option.some.injEq] at hp; subst hp; simp at h1
                · simp only [Option.some.injEq] at hp; subst hp
                  simp only [Option.toList, List.mem_singleton] at h1
                  subst h1
                  exact ⟨rfl, rfl⟩
        · obtain ⟨q, hq, hh⟩ := ih rs' hr s h1
          exact ⟨q, List.mem_cons_of_mem _ hq, hh⟩

/-- the same for list files (`get_samples_from_file`, a line-by-line loop with a pending sample): a description made
    of `#name` headers (explicit, pairwise distinct names) each followed by its file lines parses to the
    concatenation of what each block yields by itself (`ownBlock n lines`: a function of that block alone) -/
theorem parsed_list_sample_depends_on_own_entry (pfx : String) (blocks : List (String × List ListLine))
    (hne : ∀ b ∈ blocks, b.1.isEmpty = false ∧ ∀ l ∈ b.2, l.isFiles = true)
    (hnd : (blocks.map Prod.fst).Nodup) :
    parseList pfx (renderBlocks blocks) = parseEachOwnBlock blocks := by
  have h := listLoopR_blocks renameRuleOfSource.list pfx blocks ⟨ParseSt.init, [], pfx⟩ [] ownInv_init hne hnd
    (by simp [ListSt.flush, ParseSt.init])
  unfold parseList parseListR
  rw [h]
  cases parseEachOwnBlock blocks <;> simp

/-- … and a block alone (the stand-alone list file, under any prefix) yields exactly that -/
theorem parse_list_standalone (pfx' : String) (n : String) (lines : List ListLine)
    (hne : n.isEmpty = false) (hl : ∀ l ∈ lines, l.isFiles = true) :
    parseList pfx' (renderBlocks [(n, lines)]) = (ownBlock n lines).map Option.toList := by
  rw [parsed_list_sample_depends_on_own_entry pfx' [(n, lines)]
    (by intro b hb; simp only [List.mem_singleton] at hb; subst hb; exact ⟨hne, hl⟩) (by simp)]
  simp only [parseEachOwnBlock]
  cases ownBlock n lines <;> simp

example : parseList "X" (renderBlocks [("A", [.files [⟨"/d/a.bam", "a"⟩] none]), ("E", []), ("B", [.files [⟨"/d/c.bam", "c"⟩, ⟨"/d/d.bam", "d"⟩] (some "pair")])])
    = some [⟨"A", [["/d/a.bam"]], [("/d/a.bam", "a")], none⟩,
            ⟨"B", [["/d/c.bam", "/d/d.bam"]], [("/d/c.bam", "pair"), ("/d/d.bam", "pair")], none⟩] := by decide +kernel

/-- non-vacuity: an experiment with short reads and labels, one without either, one without files (skipped) -/
example : parseYaml "X" [⟨some "E1", some [⟨"/d/a.bam", "a"⟩, ⟨"/d/b.bam", "b"⟩], some ["L1", "L2"], some ["/d/s.bam"]⟩,
                         ⟨some "E0", some [], none, none⟩,
                         ⟨some "E2", some [⟨"/d/c.bam", "c"⟩], none, none⟩]
    = some [⟨"E1", [["/d/a.bam"], ["/d/b.bam"]], [("/d/a.bam", "L1"), ("/d/b.bam", "L2")], some ["/d/s.bam"]⟩,
            ⟨"E2", [["/d/c.bam"]], [("/d/c.bam", "c")], none⟩] := by decide +kernel

/-- without distinct names the locals do leak (renaming by position): the hypothesis is needed -/
example : (parseYaml "X" [⟨some "E", some [⟨"/d/a.bam", "a"⟩], none, none⟩, ⟨some "E", some [⟨"/d/c.bam", "c"⟩], none, none⟩]).map
    (fun l => l.map ParsedSample.name) = some ["E", "X1"] := by decide +kernel

example : parseList "X" [.header "A", .files [⟨"/d/a.bam", "a"⟩] none, .files [⟨"/d/b.bam", "b"⟩] (some "lab"),
                         .header "", .header "B", .files [⟨"/d/c.bam", "c"⟩] none]
    = some [⟨"A", [["/d/a.bam"], ["/d/b.bam"]], [("/d/a.bam", "a"), ("/d/b.bam", "lab")], none⟩,
            ⟨"B", [["/d/c.bam"]], [("/d/c.bam", "c")], none⟩] := by decide +kernel

/-- **combined_columns**: the combined table has the header `#feature_id` + the experiment names; its feature
    rows are distinct; and for every experiment `i` the non-empty cells of column `i` are exactly the rows of
    that experiment's individual table (count tables: without their three trailing `__` lines) -/
theorem combined_columns (full : Bool) (ts : List (String × Table))
    (hnd : ∀ p ∈ ts, (p.2.map Prod.fst).Nodup) :
    (combineTable full ts).1 = "#feature_id" :: ts.map Prod.fst
    ∧ ((combineTable full ts).2.map Prod.fst).Nodup
    ∧ ∀ (i : Nat) (p : String × Table), ts[i]? = some p → ∀ (k v : String),
        (∃ row ∈ (combineTable full ts).2, row.1 = k ∧ row.2[i]? = some (some v))
          ↔ (k, v) ∈ transformCounts full p.2 :=
  ⟨rfl, combine_keys_nodup full ts, fun i p hi k v => combine_cell_iff full ts hnd i p hi k v⟩

/-- every row has one cell per experiment -/
theorem combined_row_width (full : Bool) (ts : List (String × Table)) :
    ∀ row ∈ (combineTable full ts).2, row.2.length = ts.length := fun row h => by
  rw [((mem_combineTable full ts row).mp h).2, List.length_map]

example : combineTable false [("A", [("g1", "3.00"), ("g2", "1.00"), ("__ambiguous", "0"), ("__no_feature", "2"), ("__not_aligned", "5")]),
                              ("B", [("g2", "4.00"), ("g3", "7.00"), ("__ambiguous", "1"), ("__no_feature", "0"), ("__not_aligned", "0")])]
    = (["#feature_id", "A", "B"],
       [("g1", [some "3.00", none]), ("g2", [some "1.00", some "4.00"]), ("g3", [none, some "7.00"])]) := by decide +kernel

end IsoVerif.Props.C10
