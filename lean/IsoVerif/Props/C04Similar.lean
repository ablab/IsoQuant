/-
C04 (`detect_similar_isoforms` inside the model) — the non-redundancy clause for models with ≥ 3 exons and the
bookkeeping clauses of `pre_filter_transcripts` / `filter_transcripts`, about the filter as the code COMPUTES it
(`Model/SimilarIsoforms.lean`: `detectSimilar` = the C01 assigner model on `GeneInfo.from_models([model])` +
`is_matching_assignment` over the GENERATED allowed set; `Store.filterTranscriptsC` = both passes with the end correction
in between).  Component coverage, per-read mapq and the reads' outer coordinates are universally quantified inputs.
Property theorems (helper lemmas: IsoVerif/Lemmas/SimilarIsoforms.lean).

Result.  The full-strength clause "after `filter_transcripts` no two novel models with ≥ 3 exons of one strand share their
intron chain" (`ChainsDistinctAfterFilter`) is FALSE of the function (`chains_distinct_after_filter_witness`: two models with
one chain whose ends are not nested — each reaches more than `minor_exon_extension` beyond the other — are both kept;
replayed on the real `filter_transcripts` by harness/props/c04sim.py).  What the filter guarantees is
`survivors_pairwise_unmatched`: no surviving novel model would be substituted by another surviving model; hence
`chains_distinct_after_filter_partial` (a surviving same-chain pair is mutually unmatched) and, read as an exclusion under the
decidable hypothesis that one model of the pair matches the other, `chains_distinct_when_matched`.
-/
import IsoVerif.Model.SimilarIsoforms
import IsoVerif.Lemmas.SimilarIsoforms
import IsoVerif.Lemmas.Exons

namespace IsoVerif.Props.C04Similar
open IsoVerif.Gen IsoVerif.Model IsoVerif.Model.C04 IsoVerif.Lemmas.C04
open IsoVerif.Lemmas (Gapped)

/-! ## the allowed event set (regenerated from `is_matching_assignment`) -/

/-- no event `is_matching_assignment` tolerates is a major inconsistency … -/
theorem allowed_events_not_major : ∀ e ∈ matching_allowed_events, e.is_major_inconsistency = false := by decide +kernel

/-- … and an alternative polyA / polyT site or a major exon elongation is never tolerated -/
theorem alternative_polya_not_allowed :
    matching_allowed_events.contains .alternative_polya_site_left = false ∧
    matching_allowed_events.contains .alternative_polya_site_right = false ∧
    matching_allowed_events.contains .major_exon_elongation_left = false ∧
    matching_allowed_events.contains .major_exon_elongation_right = false := by decide

/-- **simPolyA_absent.** The polyA / polyT vertex → `PolyAInfo` conversion of `detect_similar_isoforms` tests the START
    COORDINATE of the first / last INTRON of `intron_path` (= `path[1:-1]`, the terminal vertices are already cut off)
    against the vertex codes −20 / −10.  For genomic (non-negative) coordinates it never fires: the assigner is always
    called with `PolyAInfo(-1, -1, -1, -1)`, so no `alternative_polya_site_*` / `correct_polya_site_*` event can arise from
    the terminal vertices of the compared model. -/
theorem simPolyA_absent (path : List Iv) (hne : path ≠ []) (hpos : ∀ i ∈ path, 0 ≤ i.1) :
    simPolyA path = some ⟨-1, -1, -1, -1⟩ := by
  unfold simPolyA
  cases hh : path.head? with
  | none => simp [List.head?_eq_none_iff] at hh; exact absurd hh hne
  | some first =>
    cases hl : path.getLast? with
    | none => simp [List.getLast?_eq_none_iff] at hl; exact absurd hl hne
    | some last =>
      have h1 := hpos first (List.mem_of_mem_head? hh)
      have h2 := hpos last (List.mem_of_getLast? hl)
      have e1 : ¬ first.1 = VERTEX_polyt := by unfold VERTEX_polyt; omega
      have e2 : ¬ last.1 = VERTEX_polya := by unfold VERTEX_polya; omega
      simp [e1, e2]

/-- non-vacuity, and the only way the conversion fires: an intron that starts at coordinate −20 -/
example : (simPolyA [(1201, 1299), (1401, 1499)]).map (fun x => (x.extA, x.extT, x.intA, x.intT)) = some (-1, -1, -1, -1) ∧
    (simPolyA [(-20, 59), (121, 199)]).map (fun x => (x.extA, x.extT, x.intA, x.intT)) = some (-1, 59, -1, -1) := by
  decide +kernel

/-- **detect_similar_sound.** Every entry `to_substitute[k] = v` names two models of the storage: `v` is the id of a model
    with ≥ 3 exons (known or novel) whose artificial gene was built, `k` the id of a NOVEL model `m ≠ model` with ≥ 2 exons, a
    non-empty `intron_path` and at most as many exons as `model`, and `is_matching_assignment` held for `m` assigned against
    `model`.  It is the model playing the READ that is deleted; the model playing the GENE stays. -/
theorem detect_similar_sound {γ : Type} (prep : TModel → Option γ) (verdict : γ → TModel → Option Bool)
    (storage : List TModel) (sub : List (String × String)) (h : detectSimilarG prep verdict storage = some sub) :
    ∀ kv ∈ sub, ∃ model ∈ storage, ∃ g, ∃ m ∈ storage, 3 ≤ model.exons.length ∧ prep model = some g ∧
      kv = (m.tid, model.tid) ∧ Comparable model m ∧ verdict g m = some true :=
  fun kv hkv => ((simOuter_spec prep verdict h).2.1 kv hkv).resolve_left fun hn => nomatch hn

/-- **detect_similar_complete.** Two models that both stay OUT of `to_substitute` were compared (if the guard allows the
    comparison at all) and did not match: for every unsubstituted `model` with ≥ 3 exons its gene was built and every
    unsubstituted comparable `m` got the verdict `False`. -/
theorem detect_similar_complete {γ : Type} (prep : TModel → Option γ) (verdict : γ → TModel → Option Bool)
    (storage : List TModel) (sub : List (String × String)) (h : detectSimilarG prep verdict storage = some sub) :
    ∀ model ∈ storage, 3 ≤ model.exons.length → amHas sub model.tid = false →
      ∃ g, prep model = some g ∧ ∀ m ∈ storage, Comparable model m → amHas sub m.tid = false → verdict g m = some false :=
  (simOuter_spec prep verdict h).2.2

/-- **survivors_pairwise_unmatched.** After the computed `filter_transcripts`: if a novel model `M` with ≥ 3 exons and a
    novel model `m` (another id, ≥ 2 exons, non-empty `intron_path`, at most as many exons as `M`) BOTH survive, then the
    assigner, run on the gene made of `M` alone, did NOT give `m` a matching assignment — evaluated on the models as
    returned (after end correction).  For every storage, all parameters, coverages, mapping qualities, read coordinates. -/
theorem survivors_pairwise_unmatched (s s' : Store) (p : FilterParams) (sp : SimParams) (mapq : String → Int)
    (readSpan : String → Iv) (covTerm : TModel → Int)
    (h : s.filterTranscriptsC p sp mapq readSpan covTerm = some s') :
    ∀ M ∈ s'.models, ∀ m ∈ s'.models, M.ttype ≠ .known → 3 ≤ M.exons.length → Comparable M m →
      simMatch sp M m = some false := by
  intro M hM m hm hMn hlen hc
  -- the second pass filters the pre-filtered, end-corrected storage `pre` by the second `detect_similar_isoforms`
  obtain ⟨sub1, s1, pre, sub2, s2, kept, _, h3, h4, rfl⟩ := filterTranscriptsG_inv h
  rw [show kept = _ from filterLoopG_pure _ (filterDec2_eq sub2) h4, List.nil_append] at hM hm
  simp only [List.mem_filter, Bool.or_eq_true, decide_eq_true_eq, Bool.not_eq_true', decide_eq_false_iff_not] at hM hm
  obtain ⟨sub, hd, rfl⟩ := Option.map_eq_some_iff.1 h3
  -- a novel survivor of the second pass is not a key of `to_substitute`
  have out : ∀ x : TModel, x.ttype ≠ .known → x.ttype = .known ∨ x.tid ∉ amKeys sub → amHas sub x.tid = false :=
    fun x hx hk => Bool.eq_false_iff.2 fun hb => hk.resolve_left hx (amHas_iff_key.1 hb)
  obtain ⟨g, hg, hall⟩ := detect_similar_complete simGene (simVerdict sp) pre sub hd M hM.1 hlen (out M hMn hM.2)
  simp only [simMatch, hg]
  exact hall m hm.1 hc (out m hc.1 hm.2)

/-- the full-strength clause for spliced models with ≥ 3 exons (FALSE: `chains_distinct_after_filter_witness`) -/
def ChainsDistinctAfterFilter : Prop :=
  ∀ (s s' : Store) (p : FilterParams) (sp : SimParams) (mapq : String → Int) (readSpan : String → Iv) (covTerm : TModel → Int),
    s.filterTranscriptsC p sp mapq readSpan covTerm = some s' →
    ∀ a ∈ s'.models, ∀ b ∈ s'.models, a.tid ≠ b.tid → a.ttype ≠ .known → b.ttype ≠ .known →
      3 ≤ a.exons.length → 3 ≤ b.exons.length → a.strand = b.strand → a.introns ≠ b.introns

/-- **chains_distinct_after_filter_partial.** Two surviving novel models with ≥ 3 exons (gapped exon lists, non-empty
    `intron_path`s) and ONE GTF intron chain are mutually unmatched: each was assigned against the other and neither
    assignment was a matching one.  Equivalently: if for a same-chain pair the assigner matches one model against the other
    (`simMatch sp a b = some true ∨ simMatch sp b a = some true` — decidable, the exact negation of the failing class), the two
    cannot both survive; the one that is deleted is the one that matched as a READ.  Whether strands agree plays no role:
    the comparison ignores the strand of `m`. -/
theorem chains_distinct_after_filter_partial (s s' : Store) (p : FilterParams) (sp : SimParams) (mapq : String → Int)
    (readSpan : String → Iv) (covTerm : TModel → Int)
    (h : s.filterTranscriptsC p sp mapq readSpan covTerm = some s')
    (a b : TModel) (ha : a ∈ s'.models) (hb : b ∈ s'.models) (hne : a.tid ≠ b.tid)
    (han : a.ttype ≠ .known) (hbn : b.ttype ≠ .known) (hal : 3 ≤ a.exons.length) (hbl : 3 ≤ b.exons.length)
    (hap : a.intronPath ≠ []) (hbp : b.intronPath ≠ []) (hag : Gapped a.exons) (hbg : Gapped b.exons)
    (hchain : a.introns = b.introns) :
    simMatch sp a b = some false ∧ simMatch sp b a = some false := by
  have gt1 : ∀ {n : Nat}, 3 ≤ n → 1 < n := Nat.lt_of_lt_of_le (by decide)
  have hlen : a.exons.length = b.exons.length := by
    have h1 := IsoVerif.Lemmas.junctions_length a.exons hag
    rw [show junctionsFromBlocks a.exons = junctionsFromBlocks b.exons from hchain,
      IsoVerif.Lemmas.junctions_length b.exons hbg] at h1
    exact Nat.sub_one_cancel (Nat.lt_of_succ_lt (gt1 hal)) (Nat.lt_of_succ_lt (gt1 hbl)) h1.symm
  exact ⟨survivors_pairwise_unmatched s s' p sp mapq readSpan covTerm h a ha b hb han hal
      ⟨hbn, hne.symm, Nat.ne_of_gt (gt1 hbl), hbp, Nat.le_of_eq hlen.symm⟩,
    survivors_pairwise_unmatched s s' p sp mapq readSpan covTerm h b hb a ha hbn hbl
      ⟨han, hne, Nat.ne_of_gt (gt1 hal), hap, Nat.le_of_eq hlen⟩⟩

/-- the same as an exclusion: a same-chain pair one of whose members matches the other never survives together -/
theorem chains_distinct_when_matched (s s' : Store) (p : FilterParams) (sp : SimParams) (mapq : String → Int)
    (readSpan : String → Iv) (covTerm : TModel → Int)
    (h : s.filterTranscriptsC p sp mapq readSpan covTerm = some s')
    (a b : TModel) (hne : a.tid ≠ b.tid)
    (han : a.ttype ≠ .known) (hbn : b.ttype ≠ .known) (hal : 3 ≤ a.exons.length) (hbl : 3 ≤ b.exons.length)
    (hap : a.intronPath ≠ []) (hbp : b.intronPath ≠ []) (hag : Gapped a.exons) (hbg : Gapped b.exons)
    (hchain : a.introns = b.introns)
    (hfit : simMatch sp a b = some true ∨ simMatch sp b a = some true) :
    ¬ (a ∈ s'.models ∧ b ∈ s'.models) := by
  rintro ⟨ha, hb⟩
  obtain ⟨h1, h2⟩ := chains_distinct_after_filter_partial s s' p sp mapq readSpan covTerm h a b ha hb hne han hbn hal hbl
    hap hbp hag hbg hchain
  rcases hfit with hf | hf
  · rw [h1] at hf; simp at hf
  · rw [h2] at hf; simp at hf

/-- the `default` matching preset as `isoquant.py` derives it (checked against the real namespace by the correspondence) -/
def wParams : SimParams :=
  { p := { delta := 6, minor_exon_extension := 50, major_exon_extension := 300, min_abs_exon_overlap := 10, apa_delta := 50,
           minimal_exon_overlap := 5, minimal_intron_absence_overlap := 20, max_fake_terminal_exon_len := 40,
           max_missed_exon_len := 100, resolve_ambiguous := .monoexon_and_fsm },
    q := { max_intron_shift := 60, micro_intron_length := 50, max_intron_abs_diff := 30,
           max_intron_rel_diff_num := 1, max_intron_rel_diff_den := 5, min_rel_exon_overlap_num := 1,
           min_rel_exon_overlap_den := 5, max_suspicious_intron_abs_len := 60,
           max_suspicious_intron_rel_len_num := 1, max_suspicious_intron_rel_len_den := 1 } }

def wA : TModel :=
  ⟨"chr1", .plus, "transcript1.chr1.nnic", "novel_gene_chr1_1", [(1000, 1200), (1300, 1400), (1500, 1600)],
   .novel_not_in_catalog, [(1201, 1299), (1401, 1499)]⟩

/-- the same intron chain; starts 100 bp later, ends 100 bp later -/
def wB : TModel :=
  ⟨"chr1", .plus, "transcript2.chr1.nnic", "novel_gene_chr1_2", [(1100, 1200), (1300, 1400), (1500, 1700)],
   .novel_not_in_catalog, [(1201, 1299), (1401, 1499)]⟩

def wStore : Store := (Store.empty.addModel wA ["a1", "a2", "a3"]).addModel wB ["b1", "b2", "b3"]

def wSpan (r : String) : Iv := if r = "a1" ∨ r = "a2" ∨ r = "a3" then (1000, 1600) else (1100, 1700)

/-- the storage `[wA, wB]` (three reads each, `min_novel_count = 2`) passes the computed `filter_transcripts` unchanged -/
theorem witness_run : wStore.filterTranscriptsC ⟨2, 30⟩ wParams (fun _ => 60) wSpan (fun _ => 0)
    = some { wStore with models := [wA, wB] } := by decide +kernel

/-- the two verdicts: assigned against `wA`, `wB` reaches 100 bp beyond its end (`major_exon_elongation_right`); assigned
    against `wB`, `wA` reaches 100 bp beyond its start (`major_exon_elongation_left`): neither matches -/
theorem witness_verdicts : simMatch wParams wA wB = some false ∧ simMatch wParams wB wA = some false :=
  -- both survive `witness_run`, and survivors are pairwise unmatched
  have un := survivors_pairwise_unmatched wStore _ ⟨2, 30⟩ wParams (fun _ => 60) wSpan (fun _ => 0) witness_run
  ⟨un wA (.head _) wB (.tail _ (.head _)) (by decide) (by decide) (by unfold Comparable; decide +kernel),
   un wB (.tail _ (.head _)) wA (.head _) (by decide) (by decide) (by unfold Comparable; decide +kernel)⟩

/-- **chains_distinct_after_filter_witness.** `ChainsDistinctAfterFilter` is FALSE of model and code: the storage
    `[wA, wB]` (three reads each, `min_novel_count = 2`) passes `pre_filter_transcripts` and the computed
    `filter_transcripts` unchanged — two novel 3-exon `+` models with the intron chain `[(1201,1299), (1401,1499)]`. -/
theorem chains_distinct_after_filter_witness : ¬ ChainsDistinctAfterFilter :=
  fun hall => hall wStore _ ⟨2, 30⟩ wParams (fun _ => 60) wSpan (fun _ => 0) witness_run wA (.head _) wB (.tail _ (.head _))
    (by decide +kernel) (by decide) (by decide) (by decide +kernel) (by decide +kernel) rfl (by decide +kernel)

/-- the witness also passes `pre_filter_transcripts` (3-exon models are never touched there) -/
example : (wStore.preFilter ⟨2, 30⟩ (fun _ => 60)).map (fun s => ids s.models) = some [wA.tid, wB.tid] := by decide +kernel

/-- non-vacuity of `chains_distinct_when_matched`: NESTED ends — `wC` lies inside `wA` — the pair is matched and the inner
    model is deleted together with its reads -/
def wC : TModel :=
  ⟨"chr1", .plus, "transcript3.chr1.nnic", "novel_gene_chr1_3", [(1100, 1200), (1300, 1400), (1500, 1550)],
   .novel_not_in_catalog, [(1201, 1299), (1401, 1499)]⟩

def wStore2 : Store := (Store.empty.addModel wA ["a1", "a2", "a3"]).addModel wC ["c1", "c2", "c3"]

example : Gapped wA.exons ∧ Gapped wC.exons := by simp [Gapped, wA, wC]

example : simMatch wParams wA wC = some true ∧ wA.introns = wC.introns ∧
    (wStore2.filterTranscriptsC ⟨2, 30⟩ wParams (fun _ => 60) wSpan (fun _ => 0)).map
      (fun s => (ids s.models, s.readIds.map (·.1), s.rcount))
      = some ([wA.tid], [wA.tid], [("a1", 1), ("a2", 1), ("a3", 1), ("c1", 0), ("c2", 0), ("c3", 0)]) := by
  decide +kernel

/-- **filters_only_delete.** `pre_filter_transcripts` returns a sub-list of the storage; the computed `filter_transcripts`
    returns, in the original order, models of the input storage whose `exon_blocks` may have been rewritten by the end
    correction and nothing else (id, type, strand, gene, `intron_path` untouched; a known model is returned verbatim).  No
    model is invented. -/
theorem filters_only_delete (s s' : Store) (p : FilterParams) (sp : SimParams) (mapq : String → Int)
    (readSpan : String → Iv) (covTerm : TModel → Int) :
    (s.preFilter p mapq = some s' → s'.models.Sublist s.models) ∧
    (s.filterTranscriptsC p sp mapq readSpan covTerm = some s' →
      (ids s'.models).Sublist (ids s.models) ∧
      ∀ b ∈ s'.models, ∃ a ∈ s.models, b = { a with exons := b.exons } ∧ (a.ttype = .known → b = a)) := by
  constructor
  · intro h
    obtain ⟨D, hsub, _, _⟩ := preFilter_spec h
    exact hsub
  · intro h
    have hp := correctModel_postOK sp.p.apa_delta readSpan
    obtain ⟨D, _, hsub, hmem, _, _⟩ := filterTranscriptsG_spec hp h
    refine ⟨hsub, fun b hb => ?_⟩
    obtain ⟨a, ha, sx, hpost⟩ := hmem b hb
    exact ⟨a, ha, (hp sx a b hpost).2, (hp sx a b hpost).1⟩

/-- **known_never_dropped.** Neither filter ever removes (or changes) a known model. -/
theorem known_never_dropped (s s' : Store) (p : FilterParams) (sp : SimParams) (mapq : String → Int)
    (readSpan : String → Iv) (covTerm : TModel → Int) :
    (s.preFilter p mapq = some s' → ∀ m ∈ s.models, m.ttype = .known → m ∈ s'.models) ∧
    (s.filterTranscriptsC p sp mapq readSpan covTerm = some s' → ∀ m ∈ s.models, m.ttype = .known → m ∈ s'.models) := by
  constructor
  · exact fun h => preFilter_known h
  · intro h
    obtain ⟨D, _, _, _, hk, _⟩ := filterTranscriptsG_spec (correctModel_postOK sp.p.apa_delta readSpan) h
    exact hk

/-- **surviving_novel_keeps_reads.** Every novel model that survives the computed `filter_transcripts` keeps exactly the
    reads `transcript_read_ids` listed for it before, and at least one (`min_novel_count ≥ 1`: `min_novel_count_pos`;
    `CounterLe`: `counter_le_reads`; distinct ids: C17).  With `Grow` of the final `assign_reads_to_models` this is what
    `has_supporting_read` states for ANY `detect_similar_isoforms`; here it holds of the computed one. -/
theorem surviving_novel_keeps_reads (s s' : Store) (p : FilterParams) (sp : SimParams) (mapq : String → Int)
    (readSpan : String → Iv) (covTerm : TModel → Int)
    (hpos : 1 ≤ p.minNovelCount) (hnd : (ids s.models).Nodup) (hle : CounterLe s)
    (h : s.filterTranscriptsC p sp mapq readSpan covTerm = some s') :
    ∀ m ∈ s'.models, m.ttype ≠ .known →
      readsIn s'.readIds m.tid = readsIn s.readIds m.tid ∧ 1 ≤ (readsIn s'.readIds m.tid).length := by
  obtain ⟨D, hsh, _, _, _, hB⟩ := filterTranscriptsG_spec (correctModel_postOK sp.p.apa_delta readSpan) h
  intro m hm hn
  obtain ⟨hD, hq⟩ := hB hnd m hm
  have hr : readsIn s'.readIds m.tid = readsIn s.readIds m.tid := by rw [hsh.reads, if_neg hD]
  refine ⟨hr, ?_⟩
  have h1 := hq hn
  have h2 := hle m.tid
  rw [hr]
  omega

/-- **counts_consistent.** `read_assignment_counts[r]` = the number of times `r` is listed in `transcript_read_ids`
    (`CountsConsistent`: one dict entry per key, absent count = 0) holds of the empty constructor and is preserved by
    `save_assigned_read`, by adding a model with its reads, by `delete_from_storage`, by `pre_filter_transcripts` and by the
    computed `filter_transcripts` — so `read_assignment_counts[r] = 0` (the `*` lines of `transcript_model_reads`, the
    re-assignment guard of `assign_reads_to_models`) means exactly "listed for no stored model". -/
theorem counts_consistent :
    CountsConsistent Store.empty ∧
    (∀ s read tid, CountsConsistent s → CountsConsistent (s.saveRead read tid)) ∧
    (∀ s m reads, CountsConsistent s → CountsConsistent (s.addModel m reads)) ∧
    (∀ s s' tid, CountsConsistent s → s.deleteFromStorage tid = some s' → CountsConsistent s') ∧
    (∀ s s' p mapq, CountsConsistent s → s.preFilter p mapq = some s' → CountsConsistent s') ∧
    (∀ s s' p sp mapq readSpan covTerm, CountsConsistent s →
      s.filterTranscriptsC p sp mapq readSpan covTerm = some s' → CountsConsistent s') :=
  ⟨countsConsistent_empty, fun _ r t h => saveRead_counts h r t, fun _ m rs h => addModel_counts h m rs,
   fun _ _ _ h hd => deleteFromStorage_counts h hd, fun _ _ _ _ h hp => preFilter_counts h hp,
   fun _ _ _ _ _ _ _ h hf => filterTranscriptsG_counts h hf⟩

/-- consequence used by `dump_read_assignments`: a read whose count is 0 after the filters is listed for no transcript -/
theorem zero_count_unlisted (s : Store) (hc : CountsConsistent s) (r : String) (h0 : cnt s.rcount r = 0) :
    ∀ p ∈ s.readIds, r ∉ p.2 := by
  intro q hq hr
  have h1 : 1 ≤ q.2.count r := List.count_pos_iff.2 hr
  have h2 := count_le_occ hq r
  have h3 := hc.2 r
  omega

/-- non-vacuity of the bookkeeping theorems: the witness storages satisfy the hypotheses (built by `add_model`), the nested
    pair runs through the computed filter, the survivor keeps its three reads and the deleted model's reads drop to 0 -/
example : CountsConsistent wStore2 ∧ CounterLe wStore2 ∧ (ids wStore2.models).Nodup :=
  ⟨addModel_counts (addModel_counts countsConsistent_empty _ _) _ _,
   addModel_counterLe (addModel_counterLe counterLe_empty _ _) _ _, by decide +kernel⟩

/-- non-vacuity with a known model and an end correction: the known 2-exon model survives both filters verbatim, the novel
    model `wC` (inside the novel `wA`) is deleted, `wA`'s unsupported start is moved to its reads' start -/
def wK : TModel :=
  ⟨"chr1", .plus, "K1", "G1", [(1000, 1200), (1300, 1400)], .known, []⟩

def wStore3 : Store := ((Store.empty.addModel wK ["k1"]).addModel wA ["a1", "a2", "a3"]).addModel wC ["c1", "c2", "c3"]

example : (wStore3.filterTranscriptsC ⟨2, 30⟩ wParams (fun _ => 60) (fun _ => (1080, 1600)) (fun _ => 0)).map
      (fun s => (s.models.map (fun m => (m.tid, m.exons)), s.rcount.filter (fun x => x.2 = 0)))
      = some ([("K1", [(1000, 1200), (1300, 1400)]), (wA.tid, [(1080, 1200), (1300, 1400), (1500, 1600)])],
              [("c1", 0), ("c2", 0), ("c3", 0)]) := by
  decide +kernel

/-! ## why non-nested same-chain pairs do not come out of the path enumeration of one strand

`fill` calls `thread_starts(…, trusted = strand == '-' and polyT found)` and `thread_ends(…, trusted = strand == '+' and polyA
found)`: for reads of a `+` locus the start is never trusted, for reads of a `-` locus the end is never trusted.  An
untrusted call can only return THE extreme vertex (leftmost start / rightmost end), so two full-length paths with the same first
(last) intron get the same starting (terminal) vertex: before end correction the models of one chain share one outer
coordinate, i.e. their ends are nested. -/

/-- **untrusted_reads_share_start.** Two untrusted calls of `thread_starts` on one intron that both return a vertex return
    the same one. -/
theorem untrusted_reads_share_start (g : Graph) (delta apa : Int) (intron : Iv) (s1 s2 : Int) (v1 v2 : Iv)
    (h1 : threadStarts g delta apa intron s1 false = some v1) (h2 : threadStarts g delta apa intron s2 false = some v2) :
    v1 = v2 := by
  unfold threadStarts at h1 h2
  simp only [Bool.false_eq_true, if_false] at h1 h2
  have a := pickStart_head ((IsoVerif.Lemmas.of_ite_eq h1).resolve_left fun hc => nomatch hc.2).2
  have b := pickStart_head ((IsoVerif.Lemmas.of_ite_eq h2).resolve_left fun hc => nomatch hc.2).2
  rw [a] at b
  exact Option.some.inj b

/-- **untrusted_reads_share_end.** The same for `thread_ends`. -/
theorem untrusted_reads_share_end (g : Graph) (delta apa : Int) (intron : Iv) (e1 e2 : Int) (v1 v2 : Iv)
    (h1 : threadEnds g delta apa intron e1 false = some v1) (h2 : threadEnds g delta apa intron e2 false = some v2) :
    v1 = v2 := by
  unfold threadEnds at h1 h2
  simp only [Bool.false_eq_true, if_false] at h1 h2
  have a := pickEnd_head ((IsoVerif.Lemmas.of_ite_eq h1).resolve_left fun hc => nomatch hc.2).2
  have b := pickEnd_head ((IsoVerif.Lemmas.of_ite_eq h2).resolve_left fun hc => nomatch hc.2).2
  rw [a] at b
  exact Option.some.inj b

end IsoVerif.Props.C04Similar
