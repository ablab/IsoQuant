/-
C11 — translation equivariance of the read-to-isoform assignment model (Model/Assign.lean, property C01):
`assignRead` on the shifted annotation + shifted read = the same assignment type, path, isoform ids, classifications and
event types, with the coordinate payloads shifted.  Bottom-up, one `shift_equivariant_<fn>` per model function, for ALL
inputs and ALL `k : Int`.

Transformations (Model/C11SymAssign.lean): `shiftIsoform`, `shiftIsoInfo`, `shiftGene`, `shiftPolyA` (sentinel −1 kept),
`shiftReadProf` (blocks, region, introns, polyA shifted; profiles are marks: unchanged), `shiftEvent` (the `info` of a
polyA-site event is a POSITION and moves; the `info` of an elongation / terminal-site event is a LENGTH, index regions are
indices: unchanged), `shiftAssignment`, `shiftCj` (the comparator's output is an input of the model).

Hypotheses that appear, and why (each with a `_witness` showing it is needed):
  * `ExonsSafe k ms` — the hypotheses of `shift_equivariant_splitExons` for every annotated exon (well formed; no exon
    start / end + 1 is the loop's border sentinel −1 before or after the shift);
  * `SafePos k x` — a present polyA / polyT position is not moved onto the sentinel −1;
  * `MovedSafeA/T k read x` — nor is the position `shift_polya` / `shift_polyt` recomputes from it;
  * since fix a2ae069 (an absent position is infinitely far, `minInf (distOrInf ..)`) `detect_reference_exons_*` need no
    distance-from-origin and no presence hypothesis (`detect_both_absent`): `detectBeyondPolya_sentinel_arith_witness` / `detectBeforePolyt_sentinel_arith_witness` are regression witnesses
    about the old code (`detectBeyondPolyaBuggy`, `detectBeforePolytBuggy`), `detect_sentinel_arith_regression` /
    `verifyReadEnds_sentinel_arith_regression` show the fixed model on the same inputs;
  * everything bundled once, on the INPUTS, in `NoSentinel k ms blocks pa`; `Genomic k ms blocks pa` (non-negative
    coordinates before and after the shift, well-formed exons, sorted read blocks) implies it (`noSentinel_of_genomic`),
    which gives `shift_equivariant_assignRead_genomic` without any mention of the sentinel.
-/
import IsoVerif.Model.Assign
import IsoVerif.Model.C11SymAssign
import IsoVerif.Lemmas.C11AssignShift7
import IsoVerif.Props.C11Lists
import IsoVerif.Props.C11Profiles

namespace IsoVerif.Props.C11Assign
open IsoVerif.Gen IsoVerif.Model IsoVerif.Model.C01 IsoVerif.Model.C11 IsoVerif.Lemmas.C11 IsoVerif.Lemmas.C11.AssignShift

/-! ## gene construction (`GeneInfo.from_models`) -/

theorem shift_equivariant_sortDedupIv (k : Int) (l : List Iv) : sortDedupIv (shiftL k l) = shiftL k (sortDedupIv l) := by
  induction l with
  | nil => rfl
  | cons x xs ih => simp only [shiftL_cons, sortDedupIv, ih, insertIv_shift]

theorem shift_equivariant_regionOf (k : Int) (l : List Iv) : regionOf (shiftL k l) = (regionOf l).map (shiftIv k) := by
  simp only [regionOf, shiftL_head?, shiftL_getLast?]
  cases l.head? <;> cases l.getLast? <;> rfl

/-- the per-isoform record: exons, introns, region shifted; both profiles and their ranges unchanged -/
theorem shift_equivariant_mkIso (k : Int) (introns split : List Iv) (m : Isoform) (id : Nat) :
    mkIso (shiftL k introns) (shiftL k split) (shiftIsoform k m) id = (mkIso introns split m id).map (shiftIsoInfo k) := by
  simp only [mkIso, shiftIsoform, shift_equivariant_regionOf]
  cases regionOf m.exons with
  | none => rfl
  | some reg =>
    simp only [Option.map_some, junctionsFromBlocks_shift,
      IsoVerif.Props.C11Profiles.shift_equivariant_setProfiles k _ (IsoVerif.Props.C11Profiles.shiftInv_equal_ranges k 0),
      IsoVerif.Props.C11Profiles.shift_equivariant_setProfiles k _ (IsoVerif.Props.C11Profiles.shiftInv_contains k)]
    rfl

theorem mkIsos_shift (k : Int) (introns split : List Iv) (ms : List Isoform) (i : Nat) :
    mkIsos (shiftL k introns) (shiftL k split) (ms.map (shiftIsoform k)) i
      = (mkIsos introns split ms i).map (List.map (shiftIsoInfo k)) := by
  induction ms generalizing i with
  | nil => rfl
  | cons m ms ih =>
    simp only [List.map_cons, mkIsos, shift_equivariant_mkIso, ih]
    cases mkIso introns split m i <;> cases mkIsos introns split ms (i + 1) <;> rfl

theorem shift_equivariant_fromModels (k : Int) (ms : List Isoform) (h : ExonsSafe k ms) :
    Gene.fromModels (ms.map (shiftIsoform k)) = (Gene.fromModels ms).map (shiftGene k) := by
  unfold Gene.fromModels
  have e1 : mapOpt (fun m => regionOf m.exons) (ms.map (shiftIsoform k))
      = (mapOpt (fun m => regionOf m.exons) ms).map (List.map (shiftIv k)) := by
    rw [mapOpt_map, ← mapOpt_comp_map]
    apply mapOpt_congr
    intro m _
    simp only [shiftIsoform, shift_equivariant_regionOf]
  rw [e1]
  cases mapOpt (fun m => regionOf m.exons) ms with
  | none => rfl
  | some regs =>
    cases regs with
    | nil => rfl
    | cons r0 regs =>
      simp only [Option.map_some, List.map_cons, shiftIv_fst, shiftIv_snd, foldl_min_shift, foldl_max_shift,
        flatMap_exons_shift, flatMap_junctions_shift, shift_equivariant_sortDedupIv]
      have hw : ∀ e ∈ sortDedupIv (ms.flatMap (fun m => m.exons)), e.1 ≤ e.2 := by
        intro e he
        obtain ⟨m, hm, hem⟩ := List.mem_flatMap.mp ((IsoVerif.Lemmas.C01.mem_sortDedupIv _ e).mp he)
        exact (h m hm e hem).1
      have hs : ∀ e ∈ sortDedupIv (ms.flatMap (fun m => m.exons)),
          e.1 ≠ -1 ∧ e.1 + k ≠ -1 ∧ e.2 + 1 ≠ -1 ∧ e.2 + 1 + k ≠ -1 := by
        intro e he
        obtain ⟨m, hm, hem⟩ := List.mem_flatMap.mp ((IsoVerif.Lemmas.C01.mem_sortDedupIv _ e).mp he)
        exact (h m hm e hem).2
      rw [IsoVerif.Props.C11Profiles.shift_equivariant_splitExons k _ hw hs]
      cases IsoVerif.Model.splitExons (sortDedupIv (ms.flatMap (fun m => m.exons))) with
      | none => rfl
      | some split =>
        simp only [Option.map_some, mkIsos_shift]
        cases mkIsos (sortDedupIv (ms.flatMap (fun m => junctionsFromBlocks m.exons))) split ms 0 with
        | none => rfl
        | some isos => rfl

/-- the sentinel hypothesis is needed (the `split_exons` border sentinel, cf. `split_exons_sentinel_collision_witness`) -/
theorem fromModels_sentinel_witness :
    (Gene.fromModels ([⟨[(1, 6)], .plus⟩, ⟨[(3, 6)], .plus⟩].map (shiftIsoform (-2)))).map (·.splitExons)
      ≠ ((Gene.fromModels [⟨[(1, 6)], .plus⟩, ⟨[(3, 6)], .plus⟩]).map (shiftGene (-2))).map (·.splitExons) := by
  decide +kernel

def exParams : Params :=
  { delta := 6, minor_exon_extension := 50, major_exon_extension := 300, min_abs_exon_overlap := 10, apa_delta := 50,
    minimal_exon_overlap := 5, minimal_intron_absence_overlap := 20, max_fake_terminal_exon_len := 40,
    max_missed_exon_len := 100, resolve_ambiguous := .monoexon_and_fsm }

def exAnnotation : List Isoform :=
  [⟨[(1000, 1200), (1300, 1400), (1500, 1600)], .plus⟩, ⟨[(1000, 1200), (1500, 1600)], .plus⟩,
   ⟨[(1100, 1200), (1300, 1450)], .minus⟩]

example : ExonsSafe 255 exAnnotation := by
  intro m hm e he
  simp only [exAnnotation, List.mem_cons, List.mem_nil_iff, or_false] at hm
  rcases hm with rfl | rfl | rfl <;> simp only [List.mem_cons, List.mem_nil_iff, or_false] at he <;>
    rcases he with rfl | rfl | rfl <;> decide

example : (Gene.fromModels (exAnnotation.map (shiftIsoform 255))).map (·.splitExons)
    = some (shiftL 255 [(1000, 1099), (1100, 1200), (1300, 1400), (1401, 1450), (1500, 1600)]) := by decide +kernel

/-! ## read profiles (`construct_profiles`) -/

theorem shift_equivariant_constructProfiles (k : Int) (g : Gene) (p : Params) (blocks : List Iv) (pa : PolyA)
    (hA : SafePos k pa.extA) (hT : SafePos k pa.extT) :
    constructProfiles (shiftGene k g) p (shiftL k blocks) (shiftPolyA k pa)
      = (constructProfiles g p blocks pa).map (shiftReadProf k) := by
  simp only [constructProfiles, shift_equivariant_regionOf]
  cases regionOf blocks with
  | none => rfl
  | some reg =>
    have e1 := IsoVerif.Props.C11Profiles.shift_equivariant_constructOverlapping k
      (fun a b => equal_ranges a b p.delta) (fun a b => overlaps_at_least a b p.minimal_intron_absence_overlap)
      (IsoVerif.Props.C11Profiles.shiftInv_equal_ranges k p.delta)
      (IsoVerif.Props.C11Profiles.shiftInv_overlaps_at_least k p.minimal_intron_absence_overlap)
      g.introns (g.start, g.stop) p.delta (junctionsFromBlocks blocks) reg pa.extA pa.extT hA hT
    have e2 := IsoVerif.Props.C11Profiles.shift_equivariant_constructNonOverlapping k
      (fun a b => overlaps_at_least_when_overlap a b p.minimal_exon_overlap)
      (IsoVerif.Props.C11Profiles.shiftInv_overlaps_at_least_when_overlap k p.minimal_exon_overlap)
      g.splitExons p.delta blocks pa.extA pa.extT hA hT
    simp only [Option.map_some, shiftGene, shiftPolyA, junctionsFromBlocks_shift]
    have e1' : constructOverlapping (shiftL k g.introns) (g.start + k, g.stop + k)
        (fun a b => equal_ranges a b p.delta) (fun a b => overlaps_at_least a b p.minimal_intron_absence_overlap)
        p.delta (shiftL k (junctionsFromBlocks blocks)) (shiftIv k reg) (shiftPos k pa.extA) (shiftPos k pa.extT)
        = constructOverlapping g.introns (g.start, g.stop)
        (fun a b => equal_ranges a b p.delta) (fun a b => overlaps_at_least a b p.minimal_intron_absence_overlap)
        p.delta (junctionsFromBlocks blocks) reg pa.extA pa.extT := e1
    rw [e1', e2]
    cases constructNonOverlapping g.splitExons (fun a b => overlaps_at_least_when_overlap a b p.minimal_exon_overlap)
      p.delta blocks pa.extA pa.extT with
    | none => rfl
    | some sp => rfl

example : SafePos 255 1601 ∧ SafePos 255 (-1) := ⟨fun _ => by decide, fun h => absurd rfl h⟩

/-- the hypothesis is needed: a polyA position in the middle of the gene masks the downstream introns (−2); shifted onto
    the sentinel it is read as "no polyA" and nothing is masked -/
theorem constructProfiles_sentinel_witness :
    ((Gene.fromModels (exAnnotation.map (shiftIsoform (-1251)))).bind (fun g =>
        (constructProfiles g exParams (shiftL (-1251) [(1020, 1200)]) (shiftPolyA (-1251) ⟨1250, -1, -1, -1⟩)).map
          (fun rp => rp.intron.gene)))
      ≠ ((Gene.fromModels exAnnotation).bind (fun g =>
        (constructProfiles g exParams [(1020, 1200)] ⟨1250, -1, -1, -1⟩).map (fun rp => rp.intron.gene))) := by
  decide +kernel

theorem shift_equivariant_findContaining (k : Int) (p : Params) (rp : ReadProf) (hint : List IsoInfo) :
    findContaining p (shiftReadProf k rp) (hint.map (shiftIsoInfo k)) = (findContaining p rp hint).map (shiftIsoInfo k) := by
  simp only [findContaining, List.filter_map]
  congr 1
  apply List.filter_congr
  intro I _
  simp only [Function.comp, shiftIsoInfo, shiftReadProf, Props.C11.shift_equivariant_contains_approx]

theorem shift_equivariant_findOverlapping (k : Int) (rp : ReadProf) (hint : List IsoInfo) :
    findOverlapping (shiftReadProf k rp) (hint.map (shiftIsoInfo k))
      = (findOverlapping rp hint).map (List.map (shiftIsoInfo k)) := by
  simp only [findOverlapping, filterOpt_map]
  rfl

theorem shift_equivariant_findMatchingIntron (k : Int) (rp : ReadProf) (hint : List IsoInfo) :
    findMatchingIntron (shiftReadProf k rp) (hint.map (shiftIsoInfo k))
      = (findMatchingIntron rp hint).map (List.map (shiftIsoInfo k)) := by
  simp only [findMatchingIntron, filterOpt_map]
  rfl

theorem shift_equivariant_findMatchingSplit (k : Int) (rp : ReadProf) (hint : List IsoInfo) :
    findMatchingSplit (shiftReadProf k rp) (hint.map (shiftIsoInfo k))
      = (findMatchingSplit rp hint).map (List.map (shiftIsoInfo k)) := by
  simp only [findMatchingSplit, filterOpt_map]
  rfl

theorem extendedRegion_shift (k : Int) (p : Params) (I : IsoInfo) :
    extendedRegion p (shiftIsoInfo k I) = (extendedRegion p I).map (shiftIv k) := by
  simp only [extendedRegion, shiftIsoInfo, shift_equivariant_regionOf, Option.map_map]
  congr 1
  funext r
  simp only [Function.comp, shiftIv]
  ext <;> simp <;> omega

/-- both nucleotide scores are the same exact rationals -/
theorem shift_equivariant_jaccardScore (k : Int) (p : Params) (rp : ReadProf) (I : IsoInfo) :
    jaccardScore p (shiftReadProf k rp) (shiftIsoInfo k I) = jaccardScore p rp I := by
  simp only [jaccardScore, extendedRegion_shift]
  have e : jaccardSweep (shiftReadProf k rp).blocks (shiftIsoInfo k I).exons = jaccardSweep rp.blocks I.exons :=
    IsoVerif.Props.C11Lists.shift_equivariant_jaccardSweep k rp.blocks I.exons
  rw [e]
  cases extendedRegion p I with
  | none => cases jaccardSweep rp.blocks I.exons <;> rfl
  | some ext =>
    have e2 : extraExonPercentage (shiftIv k ext) (shiftReadProf k rp).blocks = extraExonPercentage ext rp.blocks :=
      IsoVerif.Props.C11Lists.shift_equivariant_extraExonPercentage k ext rp.blocks
    cases jaccardSweep rp.blocks I.exons with
    | none => rfl
    | some js => simp only [Option.map_some, e2]

theorem shift_equivariant_coverageScore (k : Int) (p : Params) (rp : ReadProf) (I : IsoInfo) :
    coverageScore p (shiftReadProf k rp) (shiftIsoInfo k I) = coverageScore p rp I := by
  simp only [coverageScore, extendedRegion_shift]
  have e : readCoverageFraction (shiftReadProf k rp).blocks (shiftIsoInfo k I).exons
      = readCoverageFraction rp.blocks I.exons :=
    IsoVerif.Props.C11Lists.shift_equivariant_readCoverageFraction k rp.blocks I.exons
  rw [e]
  cases extendedRegion p I with
  | none => cases readCoverageFraction rp.blocks I.exons <;> rfl
  | some ext =>
    have e2 : extraExonPercentage (shiftIv k ext) (shiftReadProf k rp).blocks = extraExonPercentage ext rp.blocks :=
      IsoVerif.Props.C11Lists.shift_equivariant_extraExonPercentage k ext rp.blocks
    cases readCoverageFraction rp.blocks I.exons with
    | none => rfl
    | some js => simp only [Option.map_some, e2]

theorem resolveByScore_jaccard_shift (k : Int) (p : Params) (rp : ReadProf) (factor : Option Rat) (matched : List IsoInfo) :
    resolveByScore (jaccardScore p (shiftReadProf k rp)) factor (matched.map (shiftIsoInfo k))
      = (resolveByScore (jaccardScore p rp) factor matched).map (List.map (shiftIsoInfo k)) :=
  resolveByScore_map _ _ _ (shift_equivariant_jaccardScore k p rp) factor matched

theorem resolveByScore_coverage_shift (k : Int) (p : Params) (rp : ReadProf) (factor : Option Rat) (matched : List IsoInfo) :
    resolveByScore (coverageScore p (shiftReadProf k rp)) factor (matched.map (shiftIsoInfo k))
      = (resolveByScore (coverageScore p rp) factor matched).map (List.map (shiftIsoInfo k)) :=
  resolveByScore_map _ _ _ (shift_equivariant_coverageScore k p rp) factor matched

/-- `resolve_by_nucleotide_score` with either score keeps the same isoforms -/
theorem shift_equivariant_resolveByScore (k : Int) (p : Params) (rp : ReadProf) (factor : Option Rat) (matched : List IsoInfo) :
    resolveByScore (jaccardScore p (shiftReadProf k rp)) factor (matched.map (shiftIsoInfo k))
        = (resolveByScore (jaccardScore p rp) factor matched).map (List.map (shiftIsoInfo k)) ∧
    resolveByScore (coverageScore p (shiftReadProf k rp)) factor (matched.map (shiftIsoInfo k))
        = (resolveByScore (coverageScore p rp) factor matched).map (List.map (shiftIsoInfo k)) :=
  ⟨resolveByScore_jaccard_shift k p rp factor matched, resolveByScore_coverage_shift k p rp factor matched⟩

theorem shift_equivariant_isFsm (k : Int) (rp : ReadProf) (I : IsoInfo) :
    isFsm (shiftReadProf k rp) (shiftIsoInfo k I) = isFsm rp I := by
  simp only [isFsm, shiftIsoInfo, shiftReadProf, shift_equivariant_regionOf, Option.map_map]
  congr 1
  funext r
  simp only [Function.comp, Props.C11.shift_equivariant_contains]

theorem shift_equivariant_detectIsmSubtype (k : Int) (rp : ReadProf) (I : IsoInfo) :
    detectIsmSubtype (shiftReadProf k rp) (shiftIsoInfo k I) = detectIsmSubtype rp I := by
  simp only [detectIsmSubtype, shiftIsoInfo, shiftReadProf, shift_equivariant_regionOf, Option.map_map]
  congr 1
  funext r
  have h1 : (r.1 + k < rp.region.1 + k) ↔ (r.1 < rp.region.1) := by omega
  have h2 : (r.2 + k > rp.region.2 + k) ↔ (r.2 > rp.region.2) := by omega
  simp only [Function.comp, shiftIv_fst, shiftIv_snd, h1, h2]

theorem shift_equivariant_categorizeSplice (k : Int) (rp : ReadProf) (I : IsoInfo) :
    categorizeSplice (shiftReadProf k rp) (shiftIsoInfo k I) = categorizeSplice rp I := by
  simp only [categorizeSplice, shift_equivariant_isFsm, shift_equivariant_detectIsmSubtype]
  simp only [shiftIsoInfo, shiftReadProf, shiftL_length]

theorem shift_equivariant_spliceMatch (k : Int) (rp : ReadProf) (I : IsoInfo) :
    spliceMatch (shiftReadProf k rp) (shiftIsoInfo k I) = spliceMatch rp I := by
  simp only [spliceMatch, shift_equivariant_categorizeSplice]
  rfl

theorem shift_equivariant_unsplicedMatch (k : Int) (I : IsoInfo) : unsplicedMatch (shiftIsoInfo k I) = unsplicedMatch I := by
  simp only [unsplicedMatch, shiftIsoInfo, shiftL_length]

/-- `categorize_exon_elongation_subtype`: the events and their `extra` lengths are unchanged -/
theorem shift_equivariant_elongationEvents (k : Int) (g : Gene) (p : Params) (rp : ReadProf) (I : IsoInfo) :
    elongationEvents (shiftGene k g) p (shiftReadProf k rp) (shiftIsoInfo k I) = elongationEvents g p rp I := by
  rw [elongationEvents_sides, elongationEvents_sides, elongSides_shift]

/-- `shift_polya` / `shift_polyt` (the copies of Model/Assign.lean) of a present position -/
theorem shift_equivariant_shiftPolya (k : Int) (exons : List Iv) (count : Nat) (pos : Int) (hp : pos ≠ -1) (hp' : pos + k ≠ -1) :
    C01.shiftPolya (shiftL k exons) count (pos + k) = (C01.shiftPolya exons count pos).map (· + k) ∧
    C01.shiftPolyt (shiftL k exons) count (pos + k) = (C01.shiftPolyt exons count pos).map (· + k) :=
  ⟨c01_shiftPolya_shift k exons count pos hp hp', c01_shiftPolyt_shift k exons count pos hp hp'⟩

example : C01.shiftPolya (shiftL 255 [(100, 200), (300, 320)]) 1 (310 + 255) = some (210 + 255) := by decide

theorem shift_equivariant_checkIfClose (k : Int) (p : Params) (stop ext int : Int) (evs : List Event) (ty : MatchEventSubtype)
    (hty : isPosEvent ty = true) (hE : SafePos k ext) (hI : SafePos k int) :
    checkIfClose p (stop + k) (shiftPos k ext) (shiftPos k int) (shiftEvents k evs) ty
      = (checkIfClose p stop ext int evs ty).map (shiftEvents k) :=
  (shiftSym k).checkIfClose_sym p stop ext int evs ty hty hE hI

example : isPosEvent .correct_polya_site_right = true ∧ isPosEvent .correct_polya_site_left = true := ⟨rfl, rfl⟩

/-- `dist_to_polya` of `detect_reference_exons_*`: the distance to the nearer PRESENT position (fix a2ae069) -/
theorem shift_equivariant_tailDist (k a ext int : Int) (hE : SafePos k ext) (hI : SafePos k int) :
    minInf (distOrInf (a + k) (shiftPos k ext)) (distOrInf (a + k) (shiftPos k int)) = minInf (distOrInf a ext) (distOrInf a int) :=
  (shiftSym k).tailDist_sym a ext int hE hI

theorem shift_equivariant_detectBeyondPolya (k : Int) (p : Params) (iso : List Iv) (ext int : Int) (evs : List Event)
    (hE : SafePos k ext) (hI : SafePos k int) (hEnd : ∀ e, iso.getLast? = some e → e.2 ≠ -1) :
    detectBeyondPolya p (shiftL k iso) (shiftPos k ext) (shiftPos k int) (shiftEvents k evs)
      = (detectBeyondPolya p iso ext int evs).map (outShift k) := by
  by_cases hP : ext ≠ -1 ∨ int ≠ -1
  case neg =>
    obtain ⟨rfl, rfl⟩ : ext = -1 ∧ int = -1 := by omega
    simp only [shiftPos_neg_one, detectBeyondPolya_absent, Option.map_some, outShift]
  have hpos : (if shiftPos k int ≠ -1 then shiftPos k int else shiftPos k ext) = (if int ≠ -1 then int else ext) + k :=
    (shiftSym k).pickPresent_sym ext int hI hP
  simp only [detectBeyondPolya, hpos, ← shiftL_reverse, countBeyond_shift, shiftL_length, pyGet?_shiftL, shiftL_getLast?,
    ← shiftL_drop, intervalsTotalLength_shift]
  generalize countBeyond ((if int ≠ -1 then int else ext)) iso.reverse = c
  split
  · rfl
  · cases hb : pyGet? iso (-(c : Int) - 1) with
    | none => rfl
    | some b =>
      cases hl : iso.getLast? with
      | none => rfl
      | some lastE =>
        simp only [Option.map_some, shiftIv_snd]
        simp only [shift_equivariant_tailDist k b.2 ext int hE hI]
        split
        · simp only [Option.map_some, outShift, shiftEvents_append,
            shiftEvents_misalign k .terminal_exon_misalignment_right rfl, shiftPos_of_ne k lastE.2 (hEnd lastE hl)]
        · rfl

theorem shift_equivariant_detectBeforePolyt (k : Int) (p : Params) (iso : List Iv) (ext int : Int) (evs : List Event)
    (hE : SafePos k ext) (hI : SafePos k int) (hEnd : ∀ e, iso.head? = some e → e.1 ≠ -1) :
    detectBeforePolyt p (shiftL k iso) (shiftPos k ext) (shiftPos k int) (shiftEvents k evs)
      = (detectBeforePolyt p iso ext int evs).map (outShift k) := by
  by_cases hP : ext ≠ -1 ∨ int ≠ -1
  case neg =>
    obtain ⟨rfl, rfl⟩ : ext = -1 ∧ int = -1 := by omega
    simp only [shiftPos_neg_one, detectBeforePolyt_absent, Option.map_some, outShift]
  have hpos : (if shiftPos k int ≠ -1 then shiftPos k int else shiftPos k ext) = (if int ≠ -1 then int else ext) + k :=
    (shiftSym k).pickPresent_sym ext int hI hP
  simp only [detectBeforePolyt, hpos, countBefore_shift, shiftL_length, shiftL_getElem?, shiftL_head?,
    ← shiftL_take, intervalsTotalLength_shift]
  generalize countBefore ((if int ≠ -1 then int else ext)) iso = c
  split
  · rfl
  · cases hb : iso[c]? with
    | none => rfl
    | some b =>
      cases hl : iso.head? with
      | none => rfl
      | some firstE =>
        simp only [Option.map_some, shiftIv_fst]
        simp only [shift_equivariant_tailDist k b.1 ext int hE hI]
        split
        · simp only [Option.map_some, outShift, shiftEvents_append,
            shiftEvents_misalign k .terminal_exon_misalignment_left rfl, shiftPos_of_ne k firstE.1 (hEnd firstE hl)]
        · rfl

/-- with both positions absent nothing is detected, wherever the gene lies (the loop then compares exon starts with the
    sentinel itself, but after fix a2ae069 the distance is infinite; the old code was not equivariant there either) -/
theorem detect_both_absent (p : Params) (iso : List Iv) (evs : List Event) :
    detectBeyondPolya p iso (-1) (-1) evs = some (evs, -1, -1) ∧ detectBeforePolyt p iso (-1) (-1) evs = some (evs, -1, -1) :=
  ⟨detectBeyondPolya_absent p iso evs, detectBeforePolyt_absent p iso evs⟩

/-- REGRESSION (code before fix a2ae069, kept as `detectBeyondPolyaBuggy`): with the internal polyA position absent (−1)
    the old code still took `min(abs(30 − 80), abs(30 − (−1))) = 31 ≤ max_fake_terminal_exon_len` and declared the terminal
    exon misaligned; 1000 bases further down the same configuration gave `min(50, 1031) = 50` and nothing was reported -/
theorem detectBeyondPolya_sentinel_arith_witness :
    detectBeyondPolyaBuggy exParams (shiftL 1000 [(10, 30), (200, 210)]) (shiftPos 1000 80) (shiftPos 1000 (-1))
        (shiftEvents 1000 [])
      ≠ (detectBeyondPolyaBuggy exParams [(10, 30), (200, 210)] 80 (-1) []).map (outShift 1000) := by
  decide

/-- … and its polyT twin: `min(abs(30 − 100), abs(30 − (−1))) = 31` -/
theorem detectBeforePolyt_sentinel_arith_witness :
    detectBeforePolytBuggy exParams (shiftL 1000 [(1, 3), (30, 200)]) (shiftPos 1000 100) (shiftPos 1000 (-1))
        (shiftEvents 1000 [])
      ≠ (detectBeforePolytBuggy exParams [(1, 3), (30, 200)] 100 (-1) []).map (outShift 1000) := by
  decide

/-- the FIXED functions are equivariant on those same inputs (instances of the two theorems above; no terminal exon is
    declared misaligned, at either place) -/
theorem detect_sentinel_arith_regression :
    detectBeyondPolya exParams (shiftL 1000 [(10, 30), (200, 210)]) (shiftPos 1000 80) (shiftPos 1000 (-1)) (shiftEvents 1000 [])
      = (detectBeyondPolya exParams [(10, 30), (200, 210)] 80 (-1) []).map (outShift 1000) ∧
    detectBeyondPolya exParams [(10, 30), (200, 210)] 80 (-1) [] = some ([], 80, -1) ∧
    detectBeforePolyt exParams (shiftL 1000 [(1, 3), (30, 200)]) (shiftPos 1000 100) (shiftPos 1000 (-1)) (shiftEvents 1000 [])
      = (detectBeforePolyt exParams [(1, 3), (30, 200)] 100 (-1) []).map (outShift 1000) ∧
    detectBeforePolyt exParams [(1, 3), (30, 200)] 100 (-1) [] = some ([], 100, -1) := by
  decide

/-- the hypotheses of `shift_equivariant_detectBeyondPolya` are met by that input -/
example : SafePos 1000 80 ∧ SafePos 1000 (-1) ∧
    (∀ e, [((10 : Int), (30 : Int)), (200, 210)].getLast? = some e → e.2 ≠ -1) := by
  refine ⟨fun _ => by decide, fun h => absurd rfl h, ?_⟩
  intro e he
  simp at he
  subst he
  decide

theorem shift_equivariant_verifyPolya (k : Int) (p : Params) (iso read : List Iv) (pa : PolyA) (evs0 : List Event)
    (hP : pa.extA ≠ -1 ∨ pa.intA ≠ -1) (h : PolyaSafe k iso read pa.extA pa.intA) :
    verifyPolya p (shiftL k iso) (shiftL k read) (shiftPolyA k pa) (shiftEvents k evs0)
      = (verifyPolya p iso read pa evs0).map (shiftEvents k) := by
  obtain ⟨hE, hI, hEnd, hME, hMI⟩ := h
  rw [verifyPolya_step_eq, verifyPolya_step_eq, shiftL_getLast?]
  cases hl : iso.getLast? with
  | none => rfl
  | some lastE =>
    exact (shiftSym k).verifyTail_sym p lastE.2 pa.extA pa.intA evs0 .major_exon_elongation_right .exon_elongation_right
      .correct_polya_site_right .alternative_polya_site_right _ _ rfl rfl hE hI
      ((shiftSym k).endStep_sym read.length _ (shiftL_length k read) (C01.shiftPolya read) _ (detectBeyondPolya p iso) _
        pa.extA pa.intA evs0 .fake_terminal_exon_right .terminal_exon_misalignment_right .major_exon_elongation_right
        .exon_elongation_right lastE.2 hE hI hP (hEnd lastE hl)
        (c01_shiftPolya_raw k read) (fun c => (shiftPoly_absent read c).1)
        (fun e1 i1 h1 h2 => ⟨hME _ e1 h1, hMI _ i1 h2⟩)
        (fun e1 i1 evs s1 s2 => shift_equivariant_detectBeyondPolya k p iso e1 i1 evs s1 s2 (fun e he => (hEnd e he).1))
        (detectBeyondPolya_out p iso lastE hl))

theorem shift_equivariant_verifyPolyt (k : Int) (p : Params) (iso read : List Iv) (pa : PolyA) (evs0 : List Event)
    (hP : pa.extT ≠ -1 ∨ pa.intT ≠ -1) (h : PolytSafe k iso read pa.extT pa.intT) :
    verifyPolyt p (shiftL k iso) (shiftL k read) (shiftPolyA k pa) (shiftEvents k evs0)
      = (verifyPolyt p iso read pa evs0).map (shiftEvents k) := by
  obtain ⟨hE, hI, hEnd, hME, hMI⟩ := h
  rw [verifyPolyt_step_eq, verifyPolyt_step_eq, shiftL_head?]
  cases hl : iso.head? with
  | none => rfl
  | some firstE =>
    exact (shiftSym k).verifyTail_sym p firstE.1 pa.extT pa.intT evs0 .major_exon_elongation_left .exon_elongation_left
      .correct_polya_site_left .alternative_polya_site_left _ _ rfl rfl hE hI
      ((shiftSym k).endStep_sym read.length _ (shiftL_length k read) (C01.shiftPolyt read) _ (detectBeforePolyt p iso) _
        pa.extT pa.intT evs0 .fake_terminal_exon_left .terminal_exon_misalignment_left .major_exon_elongation_left
        .exon_elongation_left firstE.1 hE hI hP (hEnd firstE hl)
        (c01_shiftPolyt_raw k read) (fun c => (shiftPoly_absent read c).2)
        (fun e1 i1 h1 h2 => ⟨hME _ e1 h1, hMI _ i1 h2⟩)
        (fun e1 i1 evs s1 s2 => shift_equivariant_detectBeforePolyt k p iso e1 i1 evs s1 s2 (fun e he => (hEnd e he).1))
        (detectBeforePolyt_out p iso firstE hl))

/-- a real (external) polyA position shifted ONTO the sentinel is read as "no polyA": the close external site is lost
    and the distant internal one is reported as an alternative site -/
theorem verifyPolya_sentinel_collision_witness :
    verifyPolya exParams (shiftL (-602) [(100, 600)]) (shiftL (-602) [(100, 600)]) (shiftPolyA (-602) ⟨601, -1, 700, -1⟩) []
      ≠ (verifyPolya exParams [(100, 600)] [(100, 600)] ⟨601, -1, 700, -1⟩ []).map (shiftEvents (-602)) := by
  decide

theorem shift_equivariant_checkInternal (k pos : Int) (evs : List Event) (incomplete internal : MatchEventSubtype)
    (hty : isPosEvent internal = true) (h : SafePos k pos) :
    checkInternal (shiftPos k pos) (shiftEvents k evs) incomplete internal
      = (shiftEvents k (checkInternal pos evs incomplete internal).1, (checkInternal pos evs incomplete internal).2) :=
  (shiftSym k).checkInternal_sym pos evs incomplete internal hty h (fun e _ => shiftEvent_isoRegion k e)

/-- `PolyAVerifier.verify_read_ends`: same events, polyA-site positions shifted -/
theorem shift_equivariant_verifyReadEnds (k : Int) (p : Params) (rp : ReadProf) (I : IsoInfo) (evs : List Event)
    (h : EndsSafe k rp I) :
    verifyReadEnds p (shiftReadProf k rp) (shiftIsoInfo k I) (shiftEvents k evs)
      = (verifyReadEnds p rp I evs).map (shiftEvents k) := by
  rw [verifyReadEnds_eq, verifyReadEnds_eq]
  refine Eq.trans (congrArg _ ?_) ((shiftSym k).map_none_default rfl (verifyReadEndsCore p rp I evs))
  unfold EndsSafe at h
  simp only [verifyReadEndsCore, shiftIsoInfo, shiftReadProf, shiftPolyA]
  cases hs : I.strand with
  | other => rfl
  | plus =>
    rw [hs] at h
    exact (shiftSym k).verifySide_sym rp.polya.extA rp.polya.intA evs .incomplete_intron_retention_right
      .internal_polya_right _ _ _ (Or.inr h) (fun h => ⟨h.safeExt, h.safeInt⟩) rfl (fun e _ => shiftEvent_isoRegion k e)
      (fun h hP => shift_equivariant_verifyPolya k p I.exons rp.blocks rp.polya evs hP h)
  | minus =>
    rw [hs] at h
    exact (shiftSym k).verifySide_sym rp.polya.extT rp.polya.intT evs .incomplete_intron_retention_left
      .internal_polya_left _ _ _ (Or.inr h) (fun h => ⟨h.safeExt, h.safeInt⟩) rfl (fun e _ => shiftEvent_isoRegion k e)
      (fun h hP => shift_equivariant_verifyPolyt k p I.exons rp.blocks rp.polya evs hP h)

/-- REGRESSION of fix a2ae069 seen through `verify_read_ends` (the input on which the old code "corrected" the read end to
    the isoform end near the origin and reported an alternative polyA site 1000 bases further down; replayed on the real
    code by the harness, relation `S.verify_read_ends`, k = 1000): the relation holds, an alternative site at both places -/
theorem verifyReadEnds_sentinel_arith_regression :
    ((Gene.fromModels ([⟨[(10, 30), (200, 210)], .plus⟩].map (shiftIsoform 1000))).bind (fun g =>
        (constructProfiles g exParams (shiftL 1000 [(10, 30)]) (shiftPolyA 1000 ⟨80, -1, -1, -1⟩)).bind (fun rp =>
          g.isos[0]?.bind (fun I => verifyReadEnds exParams rp I []))))
      = ((Gene.fromModels [⟨[(10, 30), (200, 210)], .plus⟩]).bind (fun g =>
        (constructProfiles g exParams [(10, 30)] ⟨80, -1, -1, -1⟩).bind (fun rp =>
          g.isos[0]?.bind (fun I => verifyReadEnds exParams rp I [])))).map (shiftEvents 1000) ∧
    ((Gene.fromModels [⟨[(10, 30), (200, 210)], .plus⟩]).bind (fun g =>
        (constructProfiles g exParams [(10, 30)] ⟨80, -1, -1, -1⟩).bind (fun rp =>
          g.isos[0]?.bind (fun I => verifyReadEnds exParams rp I []))))
      = some [{ ty := .alternative_polya_site_right, info := 80 }] := by
  decide +kernel

/-- `check_read_ends` -/
theorem shift_equivariant_checkReadEnds (k : Int) (g : Gene) (p : Params) (rp : ReadProf) (ms : List (IsoInfo × IsoMatch))
    (ty : ReadAssignmentType) :
    checkReadEnds (shiftGene k g) p (shiftReadProf k rp) (ms.map (shPairM k)) ty
      = (checkReadEnds g p rp ms ty).map (fun r => (r.1.map (shPairM k), r.2)) := by
  induction ms generalizing ty with
  | nil => rfl
  | cons Im ms ih =>
    obtain ⟨I, m⟩ := Im
    simp only [List.map_cons, shPairM, checkReadEnds_step, shift_equivariant_elongationEvents]
    cases hel : elongationEvents g p rp I with
    | none => rfl
    | some el =>
      have key : List.foldl addSub (shiftMatch k m).events el = shiftEvents k (List.foldl addSub m.events el) := by
        have := foldl_addSub_shift k el m.events
        rwa [shiftEvents_of_noPos k el (elongationEvents_noPos g p rp I el hel)] at this
      simp only [key, ih]
      cases checkReadEnds g p rp ms (elongTypeStep el ty) <;> rfl

theorem shift_equivariant_verifyEndsForAssignment (k : Int) (p : Params) (rp : ReadProf) (ms : List (IsoInfo × IsoMatch))
    (h : ∀ Im ∈ ms, EndsSafe k rp Im.1) :
    verifyEndsForAssignment p (shiftReadProf k rp) (ms.map (shPairM k))
      = (verifyEndsForAssignment p rp ms).map (fun r => (r.1.map (shPairM k), r.2)) := by
  unfold verifyEndsForAssignment
  rw [mapOpt_map_of_mem (fun (Im : IsoInfo × IsoMatch) =>
      (verifyReadEnds p rp Im.1 Im.2.events).map (fun e => (Im.1, { Im.2 with events := e }))) _ (shPairM k) (shPairM k) ms
    fun Im hIm => by
      simp only [shPairM, shiftMatch]
      rw [shift_equivariant_verifyReadEnds k p rp Im.1 Im.2.events (h Im hIm)]
      cases verifyReadEnds p rp Im.1 Im.2.events <;> rfl]
  generalize mapOpt _ ms = r
  cases r with
  | none => rfl
  | some ms' =>
    simp only [Option.map_some]
    have e2 : (ms'.map (shPairM k)).map (fun x => x.2.events) = (ms'.map (fun x => x.2.events)).map (shiftEvents k) := by
      simp only [List.map_map]
      apply List.map_congr_left
      intro x _
      rfl
    rw [e2, classifyAssignment_shift]

theorem splicedStage1_shift (k : Int) (rp : ReadProf) (cons : List IsoInfo) :
    splicedStage1 (shiftReadProf k rp) (cons.map (shiftIsoInfo k))
      = (splicedStage1 rp cons).map (List.map (shiftIsoInfo k)) := by
  unfold splicedStage1
  simp only [List.length_map, shift_equivariant_findMatchingSplit]
  split
  · cases findMatchingSplit rp cons with
    | none => rfl
    | some em =>
      simp only [Option.map_some, List.length_map]
      split <;> rfl
  · rfl

theorem splicedStage2_shift (k : Int) (p : Params) (rp : ReadProf) (matched : List IsoInfo) :
    splicedStage2 p (shiftReadProf k rp) (matched.map (shiftIsoInfo k))
      = (splicedStage2 p rp matched).map (List.map (shiftIsoInfo k)) := by
  unfold splicedStage2
  simp only [List.length_map, resolveByScore_jaccard_shift,
    anyOpt_map (shiftIsoInfo k) (isFsm rp) (isFsm (shiftReadProf k rp)) (shift_equivariant_isFsm k rp)]
  split
  · cases p.resolve_ambiguous with
    | all => rfl
    | monoexon_and_fsm =>
      simp only
      cases selectSpliced.anyOpt (isFsm rp) matched with
      | none => rfl
      | some b => cases b <;> rfl
    | none => rfl
    | monoexon_only => rfl
  · rfl

theorem shift_equivariant_selectSpliced (k : Int) (p : Params) (rp : ReadProf) (cons : List IsoInfo) :
    selectSpliced p (shiftReadProf k rp) (cons.map (shiftIsoInfo k))
      = (selectSpliced p rp cons).map (List.map (shiftIsoInfo k)) := by
  rw [selectSpliced_eq, selectSpliced_eq, splicedStage1_shift]
  cases splicedStage1 rp cons with
  | none => rfl
  | some m => simp only [Option.map_some, Option.bind_some, splicedStage2_shift]

theorem shift_equivariant_selectUnspliced (k : Int) (p : Params) (rp : ReadProf) (cons : List IsoInfo) :
    selectUnspliced p (shiftReadProf k rp) (cons.map (shiftIsoInfo k))
      = (selectUnspliced p rp cons).map (List.map (shiftIsoInfo k)) := by
  unfold selectUnspliced
  simp only [List.length_map, resolveByScore_jaccard_shift]
  split <;> rfl

theorem shift_equivariant_consistentIsoforms (k : Int) (g : Gene) (p : Params) (rp : ReadProf) :
    consistentIsoforms (shiftGene k g) p (shiftReadProf k rp)
      = (consistentIsoforms g p rp).map (Option.map (List.map (shiftIsoInfo k))) := by
  unfold consistentIsoforms
  have hg : (shiftGene k g).isos = g.isos.map (shiftIsoInfo k) := rfl
  simp only [hg, shift_equivariant_findContaining, List.isEmpty_map, shift_equivariant_findOverlapping]
  split
  · rfl
  · cases findOverlapping rp (findContaining p rp g.isos) with
    | none => rfl
    | some ov =>
      simp only [Option.map_some, List.isEmpty_map]
      split
      · rfl
      · rw [shift_equivariant_findMatchingIntron]
        cases findMatchingIntron rp ov <;> rfl

theorem firstMatch_shift (k : Int) (rp : ReadProf) (spliced : Bool) (I : IsoInfo) :
    firstMatch (shiftReadProf k rp) spliced (shiftIsoInfo k I) = (firstMatch rp spliced I).map (shPairM k) := by
  unfold firstMatch
  cases spliced with
  | true =>
    simp only [if_true, shift_equivariant_spliceMatch]
    cases hm : spliceMatch rp I with
    | none => rfl
    | some m =>
      simp only [Option.map_some, shPairM, shiftMatch, shiftEvents_of_noPos k _ (spliceMatch_noPos rp I m hm)]
  | false =>
    simp only [Bool.false_eq_true, if_false, shift_equivariant_unsplicedMatch]
    cases hm : unsplicedMatch I with
    | none => rfl
    | some m =>
      simp only [Option.map_some, shPairM, shiftMatch, shiftEvents_of_noPos k _ (unsplicedMatch_noPos I m hm)]

theorem consistentTail_shift (k : Int) (g : Gene) (p : Params) (rp : ReadProf) (spliced : Bool) (matched : List IsoInfo)
    (h : ∀ I ∈ matched, EndsSafe k rp I) :
    consistentTail (shiftGene k g) p (shiftReadProf k rp) spliced (matched.map (shiftIsoInfo k))
      = (consistentTail g p rp spliced matched).map (Option.map (shiftAssignment k)) := by
  unfold consistentTail
  simp only [List.isEmpty_map, List.length_map]
  split
  · rfl
  · rw [mapOpt_map_of_mem (firstMatch rp spliced) _ (shiftIsoInfo k) (shPairM k) matched
      fun I _ => firstMatch_shift k rp spliced I]
    cases hms : mapOpt (firstMatch rp spliced) matched with
    | none => rfl
    | some ms =>
      simp only [Option.map_some, shift_equivariant_checkReadEnds]
      cases hcr : checkReadEnds g p rp ms
          (if matched.length = 1 then ReadAssignmentType.unique else ReadAssignmentType.ambiguous) with
      | none => rfl
      | some r1 =>
        obtain ⟨ms1, t1⟩ := r1
        simp only [Option.map_some]
        have hfst := checkReadEnds_fst g p rp ms _ ms1 t1 hcr
        have hms_fst : ms.map (·.1) = matched := mapOpt_pair_fst _ matched ms hms
        have hsafe : ∀ Im ∈ ms1, EndsSafe k rp Im.1 := by
          intro Im hIm
          apply h
          rw [← hms_fst, ← hfst]
          exact List.mem_map.mpr ⟨Im, hIm, rfl⟩
        rw [shift_equivariant_verifyEndsForAssignment k p rp ms1 hsafe]
        cases verifyEndsForAssignment p rp ms1 with
        | none => rfl
        | some r2 =>
          obtain ⟨ms2, ty2⟩ := r2
          simp only [Option.map_some]
          split
          · rfl
          · simp only [Option.map_some, shiftAssignment, List.map_map]
            rfl

theorem shift_equivariant_matchConsistent (k : Int) (g : Gene) (p : Params) (rp : ReadProf)
    (h : ∀ I ∈ g.isos, EndsSafe k rp I) :
    matchConsistent (shiftGene k g) p (shiftReadProf k rp) = (matchConsistent g p rp).map (Option.map (shiftAssignment k)) := by
  rw [matchConsistent_eq, matchConsistent_eq, shift_equivariant_consistentIsoforms]
  cases hc : consistentIsoforms g p rp with
  | none => rfl
  | some oc =>
    cases oc with
    | none => rfl
    | some consistent =>
      simp only [Option.map_some]
      have hr : (shiftReadProf k rp).intron = rp.intron := rfl
      rw [hr, shift_equivariant_selectSpliced, shift_equivariant_selectUnspliced]
      have hsub : ∀ matched, (if (!rp.intron.read.isEmpty) = true then selectSpliced p rp consistent
          else selectUnspliced p rp consistent) = some matched → ∀ I ∈ matched, I ∈ g.isos := by
        intro matched hm I hI
        have hcons := IsoVerif.Lemmas.C01.consistentIsoforms_mem g p rp consistent hc
        split at hm
        · exact (hcons I (IsoVerif.Lemmas.C01.selectSpliced_sub p rp consistent matched hm I hI)).1
        · exact (hcons I (IsoVerif.Lemmas.C01.selectUnspliced_sub p rp consistent matched hm I hI)).1
      cases hsel : (if (!rp.intron.read.isEmpty) = true then selectSpliced p rp consistent
          else selectUnspliced p rp consistent) with
      | none =>
        split at hsel
        · rename_i hb; simp only [hb, if_true, hsel]; rfl
        · rename_i hb; simp only [hb, hsel]; rfl
      | some matched =>
        have hs := hsub matched hsel
        split at hsel
        · rename_i hb
          simp only [hb, if_true, hsel, Option.map_some, Option.bind_some]
          exact consistentTail_shift k g p rp _ matched (fun I hI => h I (hs I hI))
        · rename_i hb
          simp only [hb, hsel, Option.map_some, Option.bind_some]
          exact consistentTail_shift k g p rp _ matched (fun I hI => h I (hs I hI))

theorem shift_equivariant_selectSimilar (k : Int) (g : Gene) (p : Params) (rp : ReadProf) :
    selectSimilar (shiftGene k g) p (shiftReadProf k rp) = (selectSimilar g p rp).map (List.map (shiftIsoInfo k)) := by
  refine selectSimilar_map (shiftIsoInfo k) g (shiftGene k g) p rp (shiftReadProf k rp) rfl
    (shift_equivariant_findOverlapping k rp g.isos) (fun I _ => shift_equivariant_coverageScore k p rp I) (fun I _ => rfl) (fun I d => ?_)
  have h1 : (rp.region.2 + k - p.delta > I.region.2 + k) ↔ (rp.region.2 - p.delta > I.region.2) := by omega
  have h2 : (rp.region.1 + k + p.delta < I.region.1 + k) ↔ (rp.region.1 + p.delta < I.region.1) := by omega
  simp only [shiftReadProf, shiftIsoInfo, shiftIv_fst, shiftIv_snd, h1, h2]

/-- `detect_inconsistensies` with the comparator's events of the shifted input -/
theorem shift_equivariant_detectInconsistencies (k : Int) (g : Gene) (p : Params) (rp : ReadProf)
    (cj : Nat → Option (List Event)) (l : List IsoInfo) (h : ∀ I ∈ l, EndsSafe k rp I) :
    detectInconsistencies (shiftGene k g) p (shiftReadProf k rp) (shiftCj k cj) (l.map (shiftIsoInfo k))
      = (detectInconsistencies g p rp cj l).map (List.map (shPairE k)) := by
  induction l with
  | nil => rfl
  | cons I rest ih =>
    have ih' := ih (fun J hJ => h J (List.mem_cons_of_mem _ hJ))
    have hid : (shiftIsoInfo k I).id = I.id := rfl
    simp only [List.map_cons, detectInconsistencies, shiftCj, hid]
    cases cj I.id with
    | none => rfl
    | some ev =>
      simp only [Option.map_some, isUndefinedOnly_shift]
      split
      · exact ih'
      · rw [shift_equivariant_elongationEvents]
        cases hel : elongationEvents g p rp I with
        | none => rfl
        | some el =>
          simp only
          have e1 : shiftEvents k ev ++ el = shiftEvents k (ev ++ el) := by
            rw [shiftEvents_append, shiftEvents_of_noPos k el (elongationEvents_noPos g p rp I el hel)]
          rw [e1, shift_equivariant_verifyReadEnds k p rp I (ev ++ el) (h I (by simp)), ih']
          cases verifyReadEnds p rp I (ev ++ el) <;> cases detectInconsistencies g p rp cj rest <;> rfl

/-- the penalty reads `info` of elongation events only (a length): the cost of a shifted event is the same -/
theorem shift_equivariant_eventCost (k : Int) (p : Params) (e : Event) : eventCost p (shiftEvent k e) = eventCost p e := by
  unfold shiftEvent
  split
  · rename_i hp
    have hne : ¬ (e.ty = .major_exon_elongation_left ∨ e.ty = .major_exon_elongation_right ∨
        e.ty = .exon_elongation_right ∨ e.ty = .exon_elongation_left) := by
      intro hh
      rcases hh with h | h | h | h <;> (rw [h] at hp; exact absurd hp (by decide))
    simp only [eventCost, eventCount, hne, if_false]
  · rfl

theorem shift_equivariant_penaltyOf (k : Int) (p : Params) (evs : List Event) :
    penaltyOf p (shiftEvents k evs) = penaltyOf p evs :=
  penaltyOf_map p _ (shift_equivariant_eventCost k p) evs

theorem bestPick_shift (k : Int) (p : Params) (rp : ReadProf) (best : List (IsoInfo × List Event)) (mn : Rat) :
    bestPick p (shiftReadProf k rp) (best.map (shPairE k)) mn
      = (bestPick p rp best mn).map (fun r => (r.1.map (shPairE k), r.2)) := by
  unfold bestPick
  have e4 : (best.map (shPairE k)).map (·.1) = (best.map (·.1)).map (shiftIsoInfo k) := by
    simp only [List.map_map]; rfl
  simp only [List.length_map, e4, resolveByScore_coverage_shift]
  split
  · cases resolveByScore (coverageScore p rp) (some topScoredFactor) (best.map (·.1)) with
    | none => rfl
    | some keep =>
      simp only [Option.map_some, List.filter_map]
      congr 3
      apply List.filter_congr
      intro Ie _
      simp only [Function.comp, shPairE]
      exact any_id_map k keep Ie.1.id
  · rfl

theorem shift_equivariant_selectBestAmongInconsistent (k : Int) (p : Params) (rp : ReadProf)
    (rm : List (IsoInfo × List Event)) :
    selectBestAmongInconsistent p (shiftReadProf k rp) (rm.map (shPairE k))
      = (selectBestAmongInconsistent p rp rm).map (fun r => (r.1.map (shPairE k), r.2)) := by
  rw [selectBest_eq, selectBest_eq]
  rw [mapOpt_map_of_mem (fun (Ie : IsoInfo × List Event) => (penaltyOf p Ie.2).map (fun s => (Ie, s))) _ (shPairE k)
    (fun (x : (IsoInfo × List Event) × Rat) => (shPairE k x.1, x.2)) rm fun Ie _ => by
      simp only [shPairE, shift_equivariant_penaltyOf]
      cases penaltyOf p Ie.2 <;> rfl]
  generalize mapOpt _ rm = r
  cases r with
  | none => rfl
  | some scored =>
    simp only [Option.map_some]
    have e2 : (scored.map (fun (x : (IsoInfo × List Event) × Rat) => (shPairE k x.1, x.2))).map (·.2)
        = scored.map (·.2) := by
      simp only [List.map_map]; rfl
    rw [e2]
    cases minRat (scored.map (·.2)) with
    | none => rfl
    | some mn =>
      simp only
      have e3 : ((scored.map (fun (x : (IsoInfo × List Event) × Rat) => (shPairE k x.1, x.2))).filter
            (fun x => x.2 - mn < penaltyTieEps)).map (·.1)
          = ((scored.filter (fun x => x.2 - mn < penaltyTieEps)).map (·.1)).map (shPairE k) := by
        simp only [List.filter_map, List.map_map]
        rfl
      rw [e3]
      exact bestPick_shift k p rp _ mn

theorem monoMatch_shift (k : Int) (Ie : IsoInfo × List Event) : monoMatch (shPairE k Ie) = (monoMatch Ie).map (shiftMatch k) := by
  simp only [monoMatch, shPairE, monoExonClassification_shift, mkMatchList_shift]
  cases monoExonClassification Ie.2 <;> rfl

theorem splicedIncMatch_shift (k : Int) (rp : ReadProf) (Ie : IsoInfo × List Event) :
    splicedIncMatch (shiftReadProf k rp) (shPairE k Ie) = (splicedIncMatch rp Ie).map (shiftMatch k) := by
  simp only [splicedIncMatch, shPairE, shift_equivariant_spliceMatch]
  cases hm : spliceMatch rp Ie.1 with
  | none => rfl
  | some m =>
    simp only [Option.map_some, shiftMatch]
    congr 2
    rw [filter_ty_shift k (fun t => t != MatchEventSubtype.none) Ie.2]
    have f2 := foldl_addSub_shift k (Ie.2.filter (fun e => e.ty != MatchEventSubtype.none)) m.events
    rwa [shiftEvents_of_noPos k m.events (spliceMatch_noPos rp Ie.1 m hm)] at f2

theorem inconsistentTail_shift (k : Int) (rp : ReadProf) (best : List (IsoInfo × List Event)) (pen : Rat) :
    inconsistentTail (shiftReadProf k rp) (best.map (shPairE k)) pen
      = (inconsistentTail rp best pen).map (shiftAssignment k) := by
  unfold inconsistentTail
  have hr : (shiftReadProf k rp).intron = rp.intron := rfl
  have hcl : classifyAssignment ((best.map (shPairE k)).map (·.2)) = classifyAssignment (best.map (·.2)) := by
    have : (best.map (shPairE k)).map (·.2) = (best.map (·.2)).map (shiftEvents k) := by
      simp only [List.map_map]; rfl
    rw [this, classifyAssignment_shift]
  rw [hr, hcl]
  split
  · rw [mapOpt_map_of_mem monoMatch _ (shPairE k) (shiftMatch k) best fun Ie _ => monoMatch_shift k Ie]
    cases mapOpt monoMatch best <;> rfl
  · split
    · simp only [Option.map_some, shiftAssignment, List.map_map]
      congr 2
      apply List.map_congr_left
      intro Ie _
      simp only [Function.comp, shPairE, inconsistencyClassification_shift, mkMatchList_shift]
      rfl
    · rw [mapOpt_map_of_mem (splicedIncMatch rp) _ (shPairE k) (shiftMatch k) best fun Ie _ => splicedIncMatch_shift k rp Ie]
      cases mapOpt (splicedIncMatch rp) best <;> rfl

theorem shift_equivariant_matchInconsistent (k : Int) (g : Gene) (p : Params) (rp : ReadProf)
    (cj : Nat → Option (List Event)) (h : ∀ I ∈ g.isos, EndsSafe k rp I) :
    matchInconsistent (shiftGene k g) p (shiftReadProf k rp) (shiftCj k cj)
      = (matchInconsistent g p rp cj).map (shiftAssignment k) := by
  rw [matchInconsistent_eq, matchInconsistent_eq, shift_equivariant_selectSimilar]
  cases selectSimilar g p rp with
  | none => rfl
  | some cands =>
    simp only [Option.map_some, List.isEmpty_map]
    split
    · rfl
    · have hg : (shiftGene k g).isos = g.isos.map (shiftIsoInfo k) := rfl
      have hsorted : (shiftGene k g).isos.filter (fun I => (cands.map (shiftIsoInfo k)).any (fun C => C.id = I.id))
          = (g.isos.filter (fun I => cands.any (fun C => C.id = I.id))).map (shiftIsoInfo k) := by
        rw [hg, List.filter_map]
        congr 1
        apply List.filter_congr
        intro I _
        simp only [Function.comp]
        exact any_id_map k cands I.id
      rw [hsorted, shift_equivariant_detectInconsistencies k g p rp cj _
        (fun I hI => h I (List.mem_filter.mp hI).1)]
      cases detectInconsistencies g p rp cj (g.isos.filter (fun I => cands.any (fun C => C.id = I.id))) with
      | none => rfl
      | some rm =>
        simp only [Option.map_some, List.isEmpty_map]
        split
        · rfl
        · rw [shift_equivariant_selectBestAmongInconsistent]
          cases selectBestAmongInconsistent p rp rm with
          | none => rfl
          | some r =>
            obtain ⟨best, pen⟩ := r
            simp only [Option.map_some, List.isEmpty_map]
            split
            · rfl
            · exact inconsistentTail_shift k rp best pen

theorem shift_equivariant_dispatch (k : Int) (g : Gene) (rp : ReadProf) :
    dispatch (shiftGene k g) (shiftReadProf k rp) = dispatch g rp := by
  unfold dispatch
  have h1 : (shiftGene k g).exons.isEmpty = g.exons.isEmpty := List.isEmpty_map
  rw [h1]
  rfl

theorem shift_equivariant_noninformativeAssignment (k : Int) (g : Gene) (rp : ReadProf) :
    noninformativeAssignment (shiftGene k g) (shiftReadProf k rp)
      = (noninformativeAssignment g rp).map (shiftAssignment k) := by
  unfold noninformativeAssignment
  have h1 : (shiftGene k g).splitExons = shiftL k g.splitExons := rfl
  rw [h1, shift_equivariant_regionOf]
  cases regionOf g.splitExons with
  | none => rfl
  | some gr =>
    have h2 : (shiftReadProf k rp).region = shiftIv k rp.region := rfl
    simp only [Option.map_some, h2, overlaps_shift]
    rfl

/-! ## `assign_to_isoform` and the whole model -/

/-- `assign_to_isoform` on a shifted gene model and shifted read profiles: same type, path, isoforms, classifications,
    event types; positions shifted -/
theorem shift_equivariant_assignToIsoform (k : Int) (g : Gene) (p : Params) (rp : ReadProf)
    (cj : Nat → Option (List Event)) (h : ∀ I ∈ g.isos, EndsSafe k rp I) :
    assignToIsoform (shiftGene k g) p (shiftReadProf k rp) (shiftCj k cj)
      = (assignToIsoform g p rp cj).map (fun r => (shiftAssignment k r.1, r.2)) := by
  unfold assignToIsoform
  rw [shift_equivariant_dispatch, shift_equivariant_noninformativeAssignment, shift_equivariant_matchInconsistent k g p rp cj h,
    shift_equivariant_matchConsistent k g p rp h]
  cases dispatch g rp with
  | intergenic => rfl
  | noninformative => simp only; cases noninformativeAssignment g rp <;> rfl
  | inconsistent => simp only; cases matchInconsistent g p rp cj <;> rfl
  | consistent =>
    simp only
    cases matchConsistent g p rp with
    | none => rfl
    | some o =>
      cases o with
      | none => simp only [Option.map_some, Option.map_none]; cases matchInconsistent g p rp cj <;> rfl
      | some a => rfl
  | fallback =>
    simp only
    cases matchConsistent g p rp with
    | none => rfl
    | some o =>
      cases o with
      | none => simp only [Option.map_some, Option.map_none]; cases matchInconsistent g p rp cj <;> rfl
      | some a => rfl

/-- END TO END: annotation, alignment blocks and polyA positions shifted by `k` (comparator events of the shifted input)
    give the shifted assignment by the same path — errors included (`none ↦ none`) -/
theorem shift_equivariant_assignRead (k : Int) (ms : List Isoform) (p : Params) (blocks : List Iv) (pa : PolyA)
    (cj : Nat → Option (List Event)) (h : NoSentinel k ms blocks pa) :
    assignRead (ms.map (shiftIsoform k)) p (shiftL k blocks) (shiftPolyA k pa) (shiftCj k cj)
      = (assignRead ms p blocks pa cj).map (fun r => (shiftAssignment k r.1, r.2)) := by
  unfold assignRead
  rw [shift_equivariant_fromModels k ms h.exons]
  cases hg : Gene.fromModels ms with
  | none => rfl
  | some g =>
    simp only [Option.map_some]
    rw [shift_equivariant_constructProfiles k g p blocks pa h.extA h.extT]
    cases hrp : constructProfiles g p blocks pa with
    | none => rfl
    | some rp =>
      simp only [Option.map_some]
      apply shift_equivariant_assignToIsoform
      intro I hI
      obtain ⟨hb, hpa⟩ := constructProfiles_fields g p blocks pa rp hrp
      obtain ⟨m, hm, hIm⟩ := (IsoVerif.Lemmas.C01.fromModels_spec ms g hg).2.2 I hI
      unfold EndsSafe
      rw [hIm.strand, hIm.exons, hb, hpa]
      cases hs : m.strand with
      | plus => exact h.plus m hm hs
      | minus => exact h.minus m hm hs
      | other => trivial

/-- the same on the natural domain, without any mention of the sentinel: annotation and read at non-negative coordinates
    before and after the shift (`Genomic`: well-formed exons, sorted disjoint read blocks, polyA / polyT positions absent
    or non-negative) -/
theorem shift_equivariant_assignRead_genomic (k : Int) (ms : List Isoform) (p : Params) (blocks : List Iv) (pa : PolyA)
    (cj : Nat → Option (List Event)) (h : Genomic k ms blocks pa) :
    assignRead (ms.map (shiftIsoform k)) p (shiftL k blocks) (shiftPolyA k pa) (shiftCj k cj)
      = (assignRead ms p blocks pa cj).map (fun r => (shiftAssignment k r.1, r.2)) :=
  shift_equivariant_assignRead k ms p blocks pa cj (noSentinel_of_genomic k ms blocks pa h)

/-! ### non-vacuity of the end-to-end theorem: a read of isoform 0 with a polyA tail, shifted by 255 -/

def exBlocks : List Iv := [(1020, 1203), (1297, 1400), (1500, 1600)]
def exPolyA : PolyA := ⟨1601, -1, -1, -1⟩

theorem exGenomic : Genomic 255 exAnnotation exBlocks exPolyA := by
  refine ⟨?_, ?_, by simp [exBlocks], ?_⟩
  · intro m hm e he
    simp only [exAnnotation, List.mem_cons, List.mem_nil_iff, or_false] at hm
    rcases hm with rfl | rfl | rfl <;> simp only [List.mem_cons, List.mem_nil_iff, or_false] at he <;>
      rcases he with rfl | rfl | rfl <;> decide
  · intro b hb
    simp only [exBlocks, List.mem_cons, List.mem_nil_iff, or_false] at hb
    rcases hb with rfl | rfl | rfl <;> decide
  · intro x hx
    simp only [exPolyA, List.mem_cons, List.mem_nil_iff, or_false] at hx
    rcases hx with rfl | rfl | rfl | rfl <;> decide

example : Genomic 255 exAnnotation exBlocks exPolyA := exGenomic

/-- … hence the hypotheses of the read-end theorems (`PolyaSafe`, i.e. `EndsSafe` of a '+' isoform) hold for isoform 0 -/
example : PolyaSafe 255 [(1000, 1200), (1300, 1400), (1500, 1600)] exBlocks exPolyA.extA exPolyA.intA :=
  (noSentinel_of_genomic _ _ _ _ exGenomic).plus ⟨[(1000, 1200), (1300, 1400), (1500, 1600)], .plus⟩
    (by simp [exAnnotation]) rfl

example : NoSentinel 255 exAnnotation exBlocks exPolyA := noSentinel_of_genomic _ _ _ _ exGenomic

def view (r : Option (Assignment × Path)) : Option (ReadAssignmentType × Path) := r.map (fun r => (r.1.ty, r.2))
def viewEvents (r : Option (Assignment × Path)) : Option (List (Option Nat × List (MatchEventSubtype × Int))) :=
  r.map (fun r => r.1.isoMatches.map (fun m => (m.iso, m.events.map (fun e => (e.ty, e.info)))))

/-- … and the shifted call really returns the shifted polyA site 1601 + 255 (the `info` of the other events is unchanged) -/
example : view (assignRead (exAnnotation.map (shiftIsoform 255)) exParams (shiftL 255 exBlocks) (shiftPolyA 255 exPolyA)
      (fun _ => none)) = some (.unique, .consistent) ∧
    viewEvents (assignRead (exAnnotation.map (shiftIsoform 255)) exParams (shiftL 255 exBlocks) (shiftPolyA 255 exPolyA)
      (fun _ => none))
    = some [(some 0, [(.fsm, 0), (.terminal_site_match_left, -20), (.terminal_site_match_right_precise, 0),
        (.correct_polya_site_right, 1856)])] := by
  decide +kernel

end IsoVerif.Props.C11Assign
