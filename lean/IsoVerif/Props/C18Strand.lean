/-
C18 (second half) — strands are pure functions of the reference sequence (and of the annotation seed):
the splice-site strand of an intron, the strand vote of `StrandDetector` (memo independent of the query history),
the read strand of `get_assignment_strand`, and the strand of a novel spliced transcript in `construct_fl_isoforms`
(agrees with the splice sites, else with the polyA/polyT evidence, and never contradicts all available evidence).
-/
import IsoVerif.Model.Canonical
import IsoVerif.Lemmas.Canonical
import IsoVerif.Props.C18

namespace IsoVerif.Props.C18
open IsoVerif.Gen IsoVerif.Model IsoVerif.Model.C18 IsoVerif.Lemmas.C18

/-- `get_intron_strand`: `+` iff the (case-folded) pair is in the forward table, `-` iff in the reverse table,
    `.` iff in neither -/
theorem intron_strand_spec (it : Iv) (seq : Seq) (start : Int) :
    (getIntronStrand it seq start = .plus ↔ upperSite (siteRaw seq start it) ∈ fwdSites) ∧
    (getIntronStrand it seq start = .minus ↔ upperSite (siteRaw seq start it) ∈ revSites) ∧
    (getIntronStrand it seq start = .dot ↔
      upperSite (siteRaw seq start it) ∉ fwdSites ∧ upperSite (siteRaw seq start it) ∉ revSites) := by
  have hd := tables_disjoint (upperSite (siteRaw seq start it))
  simp only [isFwd, isRev, List.contains_iff_mem] at hd
  unfold getIntronStrand
  simp only [isFwd, isRev]
  by_cases hf : upperSite (siteRaw seq start it) ∈ fwdSites <;>
    by_cases hr : upperSite (siteRaw seq start it) ∈ revSites <;>
    simp_all

/-- the splice-site strand and the Canonical flag read the sequence in the same way: an in-range intron has site
    strand `+` (`-`) exactly when it is canonical on `+` (`-`) in the sense of `CanonicalOn` -/
theorem site_strand_iff_canonical (it : Iv) (seq : Seq) (h1 : 1 ≤ it.1) (h2 : 1 < it.2) :
    (getIntronStrand it seq = .plus ↔ CanonicalOn ⟨seq, 1⟩ it .plus) ∧
    (getIntronStrand it seq = .minus ↔ CanonicalOn ⟨seq, 1⟩ it .minus) := by
  have hp := canonCompute_iff ⟨seq, 1⟩ it .plus h1 h2
  have hm := canonCompute_iff ⟨seq, 1⟩ it .minus h1 h2
  have hs := intron_strand_spec it seq 1
  simp only [canonCompute, isFwd, isRev, List.contains_iff_mem, if_true, reduceCtorEq, if_false] at hp hm
  exact ⟨hs.1.trans hp, hs.2.1.trans hm⟩

inductive DetQuery where
  | count (introns : List Iv)
  | clean (introns : List Iv)
  | strand (introns : List Iv) (hasPolyA hasPolyT : Bool)

inductive DetAnswer where
  | counts (f r : Nat)
  | strand (s : Strand)
  deriving DecidableEq

def runDetQuery (seq : Seq) (q : DetQuery) (σ : StrandDict) : DetAnswer × StrandDict :=
  match q with
  | .count introns => let r := countCanonicalSites seq introns σ; (.counts r.1.1 r.1.2, r.2)
  | .clean introns => let r := getCleanStrand seq introns σ; (.strand r.1, r.2)
  | .strand introns pa pt => let r := detGetStrand seq introns pa pt σ; (.strand r.1, r.2)

def runDet (seq : Seq) : List DetQuery → StrandDict → List DetAnswer × StrandDict
  | [], σ => ([], σ)
  | q :: qs, σ =>
    let r := runDetQuery seq q σ
    let rs := runDet seq qs r.2
    (r.1 :: rs.1, rs.2)

/-- the answer as a function of the per-intron strand assignment `e` alone -/
def pureDetAnswer (e : Iv → Strand) (q : DetQuery) : DetAnswer :=
  let f := fun (l : List Iv) => l.countP fun it => decide (e it = .plus)
  let r := fun (l : List Iv) => l.countP fun it => decide (e it = .minus)
  match q with
  | .count introns => .counts (f introns) (r introns)
  | .clean introns => .strand (cleanOf (f introns) (r introns))
  | .strand introns pa pt => .strand (voteOf (f introns) (r introns) pa pt)

theorem runDetQuery_spec (seq : Seq) (q : DetQuery) (σ : StrandDict) :
    (runDetQuery seq q σ).1 = pureDetAnswer (eff σ seq) q ∧
    ∀ it, eff (runDetQuery seq q σ).2 seq it = eff σ seq it := by
  cases q with
  | count introns =>
    have := count_spec seq introns σ
    simp only [runDetQuery, pureDetAnswer]
    exact ⟨by rw [this.1]; rfl, this.2⟩
  | clean introns =>
    have := count_spec seq introns σ
    simp only [runDetQuery, pureDetAnswer, getCleanStrand]
    exact ⟨by rw [this.1]; rfl, this.2⟩
  | strand introns pa pt =>
    have := count_spec seq introns σ
    simp only [runDetQuery, pureDetAnswer, detGetStrand]
    exact ⟨by rw [this.1]; rfl, this.2⟩

/-- **strand_detector_memo_pure**: for every detector state `σ` (any annotation seed) and every history of
    count / clean-strand / strand queries, each answer is the function of the per-intron strands `eff σ` alone, and
    the per-intron strands are the same after the history as before it (the memo only stores what would be recomputed) -/
theorem strand_detector_memo_pure (seq : Seq) :
    ∀ (qs : List DetQuery) (σ : StrandDict),
      (runDet seq qs σ).1 = qs.map (pureDetAnswer (eff σ seq)) ∧
      ∀ it, eff (runDet seq qs σ).2 seq it = eff σ seq it := by
  intro qs
  induction qs with
  | nil => intro σ; exact ⟨rfl, fun _ => rfl⟩
  | cons q rest ih =>
    intro σ
    have hq := runDetQuery_spec seq q σ
    have hr := ih (runDetQuery seq q σ).2
    have hfun : eff (runDetQuery seq q σ).2 seq = eff σ seq := funext hq.2
    simp only [runDet, List.map_cons]
    refine ⟨by rw [hq.1, hr.1, hfun], fun it => by rw [hr.2 it, hq.2 it]⟩

/-- without an annotation seed (the detector of `AlignmentCollector`) every answer of every history is a function of
    the reference sequence alone -/
theorem strand_detector_memo_pure_unseeded (seq : Seq) (qs : List DetQuery) :
    (runDet seq qs []).1 = qs.map (pureDetAnswer (fun it => getIntronStrand it seq)) := by
  have := (strand_detector_memo_pure seq qs []).1
  rw [this]
  have : eff [] seq = fun it => getIntronStrand it seq := funext (eff_nil seq)
  rw [this]

/-- `set_strand`: an explicit (annotation) strand replaces the intron's strand, `None` stores the site strand -/
theorem set_strand_spec (seq : Seq) (σ : StrandDict) (it it' : Iv) (st : Option Strand) :
    eff (setStrand seq σ it st) seq it' =
      if it' = it then st.getD (getIntronStrand it seq) else eff σ seq it' := by
  cases st <;> simp [setStrand, eff_cons]

/-- **strand_agrees** (detector level): the strand is `+` iff the forward sites outnumber the reverse ones or there
    is a tie and only a polyA tail; `-` symmetrically; `.` iff a tie and the tails do not decide -/
theorem strand_agrees (seq : Seq) (introns : List Iv) (pa pt : Bool) (σ : StrandDict) :
    let f := nPlus σ seq introns
    let r := nMinus σ seq introns
    let s := (detGetStrand seq introns pa pt σ).1
    (s = .plus ↔ r < f ∨ (f = r ∧ pa = true ∧ pt = false)) ∧
    (s = .minus ↔ f < r ∨ (f = r ∧ pt = true ∧ pa = false)) ∧
    (s = .dot ↔ f = r ∧ pa = pt) := by
  simp only [detGetStrand, (count_spec seq introns σ).1]
  exact voteOf_spec _ _ pa pt

/-- **clean_strand**: `+` iff some intron is a `+` intron and none is a `-` intron (all informative sites agree);
    `-` symmetrically; `.` otherwise -/
theorem clean_strand (seq : Seq) (introns : List Iv) (σ : StrandDict) :
    let s := (getCleanStrand seq introns σ).1
    (s = .plus ↔ (∃ it ∈ introns, eff σ seq it = .plus) ∧ ∀ it ∈ introns, eff σ seq it ≠ .minus) ∧
    (s = .minus ↔ (∃ it ∈ introns, eff σ seq it = .minus) ∧ ∀ it ∈ introns, eff σ seq it ≠ .plus) ∧
    (s = .dot ↔ ¬ ((∃ it ∈ introns, eff σ seq it = .plus) ∧ ∀ it ∈ introns, eff σ seq it ≠ .minus) ∧
               ¬ ((∃ it ∈ introns, eff σ seq it = .minus) ∧ ∀ it ∈ introns, eff σ seq it ≠ .plus)) := by
  have hc := (count_spec seq introns σ).1
  have pos_p := nPlus_pos (σ := σ) (seq := seq) (introns := introns)
  have pos_m := nMinus_pos (σ := σ) (seq := seq) (introns := introns)
  have zero_p : nPlus σ seq introns = 0 ↔ ∀ it ∈ introns, eff σ seq it ≠ .plus := by
    simp [nPlus, List.countP_eq_zero]
  have zero_m : nMinus σ seq introns = 0 ↔ ∀ it ∈ introns, eff σ seq it ≠ .minus := by
    simp [nMinus, List.countP_eq_zero]
  simp only [getCleanStrand, hc, cleanOf, ← pos_p, ← pos_m, ← zero_p, ← zero_m]
  generalize nPlus σ seq introns = a
  generalize nMinus σ seq introns = b
  rcases Nat.eq_zero_or_pos a with h1 | h1 <;> rcases Nat.eq_zero_or_pos b with h2 | h2
  · simp [h1, h2]
  · have h4 : ¬ b = 0 := by omega
    simp [h1, h2, h4]
  · have h3 : ¬ a = 0 := by omega
    simp [h1, h2, h3]
  · have h3 : ¬ a = 0 := by omega
    have h4 : ¬ b = 0 := by omega
    simp [h1, h2, h3, h4]

theorem unique_match_strand_spec (ra : ReadStrandInfo) (ms : Strand) :
    ra.uniqueMatchStrand = some ms ↔
      (∃ rest, ra.matchStrands = ms :: rest) ∧ (ra.atype = "unique" ∨ ra.atype = "unique_minor_difference") := by
  unfold ReadStrandInfo.uniqueMatchStrand
  cases ra.matchStrands with
  | nil => simp
  | cons m rest =>
    by_cases hu : ra.atype = "unique" ∨ ra.atype = "unique_minor_difference"
    · simp [hu]
    · simp [hu]

/-- `get_assignment_strand`: the strand of the matched isoform for unique (minor-difference) assignments; otherwise
    the tails alone for a mono-exonic read and the vote over the corrected introns for a spliced one; the
    detector's per-intron strands are unchanged by the call -/
theorem assignment_strand_spec (seq : Seq) (ra : ReadStrandInfo) (σ : StrandDict) :
    (∀ ms, ra.uniqueMatchStrand = some ms → (getAssignmentStrand seq ra σ).1 = ms) ∧
    (ra.uniqueMatchStrand = none → ra.nExons = 1 →
      (getAssignmentStrand seq ra σ).1 = voteOf 0 0 ra.hasPolyA ra.hasPolyT) ∧
    (ra.uniqueMatchStrand = none → ra.nExons ≠ 1 →
      (getAssignmentStrand seq ra σ).1 =
        voteOf (nPlus σ seq ra.correctedIntrons) (nMinus σ seq ra.correctedIntrons) ra.hasPolyA ra.hasPolyT) ∧
    ∀ it, eff (getAssignmentStrand seq ra σ).2 seq it = eff σ seq it := by
  have hc := count_spec seq ra.correctedIntrons σ
  unfold getAssignmentStrand
  cases hm : ra.uniqueMatchStrand with
  | some ms =>
    refine ⟨fun ms' h => (by cases h; rfl), fun h => (by cases h), fun h => (by cases h), fun _ => rfl⟩
  | none =>
    refine ⟨fun ms' h => (by cases h), fun _ hn => ?_, fun _ hn => ?_, fun it => ?_⟩
    · simp [strandViaSites, hn, voteOf]
    · simp [strandViaSites, hn, detGetStrand, hc.1]
    · by_cases hn : ra.nExons = 1
      · simp [strandViaSites, hn]
      · simp only [strandViaSites, hn, if_false, detGetStrand]; exact hc.2 it

/-- splice-site / tail evidence for a strand -/
def EvPlus (σ : StrandDict) (seq : Seq) (path : List Iv) (pa : Bool) : Prop :=
  (∃ it ∈ path, eff σ seq it = .plus) ∨ pa = true
def EvMinus (σ : StrandDict) (seq : Seq) (path : List Iv) (pt : Bool) : Prop :=
  (∃ it ∈ path, eff σ seq it = .minus) ∨ pt = true

/-- what `novelModelStrand` returns when it reports a model: the vote if it is decisive, otherwise the strand of the
    selected reference gene, otherwise `.` -/
theorem novel_strand_cases (seq : Seq) (prm : NovelParams) (count : Int) (range : Iv) (path : List Iv)
    (pa pt : Bool) (cands : List (String × Strand)) (σ : StrandDict) (s : Strand)
    (h : (novelModelStrand seq prm count range path pa pt cands σ).1 = some s) :
    let v := voteOf (nPlus σ seq path) (nMinus σ seq path) pa pt
    let c := cleanOf (nPlus σ seq path) (nMinus σ seq path)
    ((v ≠ .dot ∧ s = v) ∨ (v = .dot ∧ (s = .dot ∨ ∃ g ∈ cands, s = g.2))) ∧
    (prm.level = .only_canonical → c ≠ .dot) ∧ (prm.level = .only_stranded → v ≠ .dot) ∧
    prm.minNovelCount ≤ count ∧ path ≠ [] := by
  have hc := count_spec seq path σ
  have hc2 := count_spec seq path (detGetStrand seq path pa pt σ).2
  have hσ : ∀ it, eff (detGetStrand seq path pa pt σ).2 seq it = eff σ seq it := by
    simpa [detGetStrand] using hc.2
  have hn := counts_congr hσ path
  have hv : (detGetStrand seq path pa pt σ).1 = voteOf (nPlus σ seq path) (nMinus σ seq path) pa pt := by
    simp [detGetStrand, hc.1]
  have hcl : (getCleanStrand seq path (detGetStrand seq path pa pt σ).2).1 =
      cleanOf (nPlus σ seq path) (nMinus σ seq path) := by
    simp [getCleanStrand, hc2.1, hn.1, hn.2]
  unfold novelModelStrand at h
  simp only [hv, hcl, apply_ite Prod.fst, Option.ite_none_left_eq_some] at h
  obtain ⟨hp, _, hcount, _, hlevel, h⟩ := h
  refine ⟨?_, fun hl hcd => hlevel (Or.inl ⟨hl, hcd⟩), fun hl hvd => hlevel (Or.inr ⟨hl, hvd⟩), by omega,
    fun e => hp (by rw [e]; rfl)⟩
  by_cases hd : voteOf (nPlus σ seq path) (nMinus σ seq path) pa pt = .dot
  · refine Or.inr ⟨hd, ?_⟩
    split at h
    · exact Or.inl (by rw [← hd]; exact (Option.some.inj h).symm)
    · rename_i g hsel
      rw [if_pos hd] at h
      exact Or.inr ⟨g, List.mem_of_find?_eq_some hsel, (Option.some.inj h).symm⟩
  · refine Or.inl ⟨hd, ?_⟩
    split at h
    · exact (Option.some.inj h).symm
    · rw [if_neg hd] at h; exact (Option.some.inj h).symm

/-- **strand_agrees** (novel transcript): the reported strand follows the majority of the splice sites; on a tie it
    follows the tail when exactly one kind of tail is present -/
theorem novel_strand_agrees (seq : Seq) (prm : NovelParams) (count : Int) (range : Iv) (path : List Iv)
    (pa pt : Bool) (cands : List (String × Strand)) (σ : StrandDict) (s : Strand)
    (h : (novelModelStrand seq prm count range path pa pt cands σ).1 = some s) :
    (nMinus σ seq path < nPlus σ seq path → s = .plus) ∧
    (nPlus σ seq path < nMinus σ seq path → s = .minus) ∧
    (nPlus σ seq path = nMinus σ seq path → pa = true → pt = false → s = .plus) ∧
    (nPlus σ seq path = nMinus σ seq path → pt = true → pa = false → s = .minus) := by
  obtain ⟨hp, hm, _⟩ := voteOf_spec (nPlus σ seq path) (nMinus σ seq path) pa pt
  have key : ∀ st, st ≠ .dot → voteOf (nPlus σ seq path) (nMinus σ seq path) pa pt = st → s = st := by
    intro st hne hv
    rcases (novel_strand_cases seq prm count range path pa pt cands σ s h).1 with ⟨_, hs⟩ | ⟨hd, _⟩
    · exact hs.trans hv
    · exact absurd (hv.symm.trans hd) hne
  exact ⟨fun hlt => key _ (by decide) (hp.mpr (Or.inl hlt)), fun hlt => key _ (by decide) (hm.mpr (Or.inl hlt)),
    fun he ha ht => key _ (by decide) (hp.mpr (Or.inr ⟨he, ha, ht⟩)),
    fun he ht ha => key _ (by decide) (hm.mpr (Or.inr ⟨he, ht, ha⟩))⟩

/-- **never_contradicts_all_evidence**: a novel transcript is reported on `+` only if a splice site or a polyA tail
    speaks for `+`, or nothing at all speaks for `-` and the strand is that of an overlapping reference gene;
    symmetrically for `-`.  In particular the strand is never the opposite of everything observed. -/
theorem never_contradicts_all_evidence (seq : Seq) (prm : NovelParams) (count : Int) (range : Iv) (path : List Iv)
    (pa pt : Bool) (cands : List (String × Strand)) (σ : StrandDict) (s : Strand)
    (h : (novelModelStrand seq prm count range path pa pt cands σ).1 = some s) :
    (s = .plus → EvPlus σ seq path pa ∨ (¬ EvMinus σ seq path pt ∧ ∃ g ∈ cands, g.2 = .plus)) ∧
    (s = .minus → EvMinus σ seq path pt ∨ (¬ EvPlus σ seq path pa ∧ ∃ g ∈ cands, g.2 = .minus)) ∧
    (s = .plus → ¬ (EvMinus σ seq path pt ∧ ¬ EvPlus σ seq path pa)) ∧
    (s = .minus → ¬ (EvPlus σ seq path pa ∧ ¬ EvMinus σ seq path pt)) := by
  have hcases := (novel_strand_cases seq prm count range path pa pt cands σ s h).1
  obtain ⟨hvp, hvm, hvd⟩ := voteOf_spec (nPlus σ seq path) (nMinus σ seq path) pa pt
  have main : (s = .plus → EvPlus σ seq path pa ∨ (¬ EvMinus σ seq path pt ∧ ∃ g ∈ cands, g.2 = .plus)) ∧
      (s = .minus → EvMinus σ seq path pt ∨ (¬ EvPlus σ seq path pa ∧ ∃ g ∈ cands, g.2 = .minus)) := by
    unfold EvPlus EvMinus
    rw [← nPlus_pos, ← nMinus_pos]
    rcases hcases with ⟨_, hs⟩ | ⟨hv, hs⟩
    · -- decisive vote
      constructor
      · intro hsp
        rcases hvp.mp (hs.symm.trans hsp) with hlt | ⟨_, hpa, _⟩
        · exact Or.inl (Or.inl (by omega))
        · exact Or.inl (Or.inr hpa)
      · intro hsm
        rcases hvm.mp (hs.symm.trans hsm) with hlt | ⟨_, hpt, _⟩
        · exact Or.inl (Or.inl (by omega))
        · exact Or.inl (Or.inr hpt)
    · -- tie: strand of the reference gene (or '.')
      obtain ⟨he, hpp⟩ := hvd.mp hv
      constructor
      · intro hsp
        rcases hs with hs | ⟨g, hg, hs⟩
        · rw [hsp] at hs; cases hs
        · by_cases hz : 0 < nPlus σ seq path
          · exact Or.inl (Or.inl hz)
          · cases hpa : pa with
            | true => exact Or.inl (Or.inr rfl)
            | false =>
              right
              refine ⟨?_, g, hg, by rw [← hs, hsp]⟩
              rintro (hm | hm)
              · omega
              · rw [← hpp, hpa] at hm; cases hm
      · intro hsm
        rcases hs with hs | ⟨g, hg, hs⟩
        · rw [hsm] at hs; cases hs
        · by_cases hz : 0 < nMinus σ seq path
          · exact Or.inl (Or.inl hz)
          · cases hpt : pt with
            | true => exact Or.inl (Or.inr rfl)
            | false =>
              right
              refine ⟨?_, g, hg, by rw [← hs, hsm]⟩
              rintro (hm | hm)
              · omega
              · rw [hpp, hpt] at hm; cases hm
  refine ⟨main.1, main.2, fun hsp ⟨hm, hnp⟩ => ?_, fun hsm ⟨hp, hnm⟩ => ?_⟩
  · rcases main.1 hsp with h1 | ⟨h1, _⟩
    · exact hnp h1
    · exact h1 hm
  · rcases main.2 hsm with h1 | ⟨h1, _⟩
    · exact hnm h1
    · exact h1 hp

/-- the reporting levels: under `only_canonical` a reported novel transcript has all its informative sites on one
    strand and carries exactly that strand; under `only_stranded` it carries a decisive vote -/
theorem report_levels (seq : Seq) (prm : NovelParams) (count : Int) (range : Iv) (path : List Iv)
    (pa pt : Bool) (cands : List (String × Strand)) (σ : StrandDict) (s : Strand)
    (h : (novelModelStrand seq prm count range path pa pt cands σ).1 = some s) :
    (prm.level = .only_canonical →
      (getCleanStrand seq path σ).1 ≠ .dot ∧ s = (getCleanStrand seq path σ).1) ∧
    (prm.level = .only_stranded → s ≠ .dot ∧ s = (detGetStrand seq path pa pt σ).1) := by
  have hall := novel_strand_cases seq prm count range path pa pt cands σ s h
  have hc := (count_spec seq path σ).1
  constructor
  · intro hl
    have hcl := hall.2.1 hl
    have hclean : (getCleanStrand seq path σ).1 = cleanOf (nPlus σ seq path) (nMinus σ seq path) := by
      simp [getCleanStrand, hc]
    rw [hclean]
    refine ⟨hcl, ?_⟩
    have hag := novel_strand_agrees seq prm count range path pa pt cands σ s h
    simp only [cleanOf] at hcl ⊢
    by_cases h1 : nPlus σ seq path = 0 ∧ nMinus σ seq path > 0
    · rw [if_pos h1]; exact hag.2.1 (by omega)
    · by_cases h2 : nPlus σ seq path > 0 ∧ nMinus σ seq path = 0
      · rw [if_neg h1, if_pos h2]; exact hag.1 (by omega)
      · rw [if_neg h1, if_neg h2] at hcl; exact absurd rfl hcl
  · intro hl
    have hvd := hall.2.2.1 hl
    have hv : (detGetStrand seq path pa pt σ).1 = voteOf (nPlus σ seq path) (nMinus σ seq path) pa pt := by
      simp [detGetStrand, hc]
    rw [hv]
    rcases hall.1 with ⟨_, hs⟩ | ⟨hd, _⟩
    · exact ⟨by rw [hs]; exact hvd, hs⟩
    · exact absurd hd hvd

/-! ### `common.get_strand` (not called by the pipeline; kept because the tests of /repo exercise it) -/

theorem commonCountLoop_spec (s : Seq) (start : Int) :
    ∀ (introns : List Iv) (f r : Nat),
      commonCountLoop s start introns f r =
        (f + introns.countP (fun it => isFwd (siteRaw s start it)),
         r + introns.countP (fun it => isRev (siteRaw s start it))) := by
  intro introns
  induction introns with
  | nil => intro f r; simp [commonCountLoop]
  | cons it rest ih =>
    intro f r
    simp only [commonCountLoop, ih, List.countP_cons]
    by_cases h1 : isFwd (siteRaw s start it) = true <;> by_cases h2 : isRev (siteRaw s start it) = true <;>
      simp [h1, h2] <;> omega

/-- `.` for no introns; otherwise the majority of forward versus reverse pairs, read *without* case folding -/
theorem common_get_strand_spec (introns : List Iv) (s : Seq) (start : Int) :
    let f := introns.countP (fun it => isFwd (siteRaw s start it))
    let r := introns.countP (fun it => isRev (siteRaw s start it))
    commonGetStrand introns s start =
      if introns = [] then .dot else if f = r then .dot else if r < f then .plus else .minus := by
  unfold commonGetStrand
  rw [commonCountLoop_spec]
  cases introns with
  | nil => simp
  | cons a l => simp

/-- unlike `get_intron_strand`, `common.get_strand` is case sensitive (dead code in the pipeline) -/
theorem common_get_strand_case_witness :
    commonGetStrand [(5, 14)] (witnessSeq.map Char.toLower) = .dot ∧ commonGetStrand [(5, 14)] witnessSeq = .plus ∧
    getIntronStrand (5, 14) (witnessSeq.map Char.toLower) = .plus := by
  rw [witnessSeq_eq]; decide +kernel

/-- a fixed 18-base witness sequence (not a reversal of `witnessSeq`): its intron (5,14) is CT..AC, a `-` intron -/
def revSeq : Seq := "AAAACTCCCCCCACTTTT".toList

example : getIntronStrand (5, 14) witnessSeq = .plus ∧ getIntronStrand (5, 14) revSeq = .minus ∧
    getIntronStrand (6, 14) witnessSeq = .dot := by rw [witnessSeq_eq]; decide +kernel

-- a seeded detector: the annotation says `-` for a GT-AG intron; the vote follows the seed
example : (detGetStrand witnessSeq [(5, 14)] false false (setStrand witnessSeq [] (5, 14) (some .minus))).1 = .minus ∧
    (detGetStrand witnessSeq [(5, 14)] false false []).1 = .plus ∧
    (detGetStrand witnessSeq [(6, 14)] true false []).1 = .plus ∧
    (getCleanStrand witnessSeq [(5, 14), (6, 14)] []).1 = .plus := by rw [witnessSeq_eq]; decide +kernel

-- a reported novel model on every level, and one taking the gene's strand on a tie
example :
    (novelModelStrand witnessSeq ⟨1, false, .only_canonical⟩ 2 (1, 18) [(5, 14)] false false [] []).1 = some .plus ∧
    (novelModelStrand witnessSeq ⟨1, false, .only_stranded⟩ 2 (1, 18) [(5, 14)] false false [] []).1 = some .plus ∧
    (novelModelStrand witnessSeq ⟨1, false, .all⟩ 2 (1, 30) [(6, 10), (12, 20)] false false [("g", .minus)] []).1
      = some .minus ∧
    (novelModelStrand witnessSeq ⟨3, false, .all⟩ 2 (1, 18) [(5, 14)] false false [] []).1 = none := by
  rw [witnessSeq_eq]; decide +kernel

example : (getAssignmentStrand witnessSeq ⟨[.minus], "unique", -1, -1, -1, -1, 2, [(5, 14)]⟩ []).1 = .minus ∧
    (getAssignmentStrand witnessSeq ⟨[.minus], "ambiguous", -1, -1, -1, -1, 2, [(5, 14)]⟩ []).1 = .plus ∧
    (getAssignmentStrand witnessSeq ⟨[], "intergenic", -1, -1, 7, -1, 1, []⟩ []).1 = .minus := by
  rw [witnessSeq_eq]; decide +kernel

end IsoVerif.Props.C18
