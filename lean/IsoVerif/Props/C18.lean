/-
C18 (first half) — the Canonical flag of a read / transcript model is a pure function of the reference sequence:
True exactly when every intron has a canonical dinucleotide pair on the reported strand, independently of which
other reads or models were processed before.

Property theorems only (helpers: IsoVerif/Lemmas/Canonical.lean).  The tables are the *generated* ones
(IsoVerif/Gen/Constants.lean, re-extracted from /repo/src/common.py on every run).
The strand half of the property is in Props/C18Strand.lean.
-/
import IsoVerif.Model.Canonical
import IsoVerif.Lemmas.Canonical

namespace IsoVerif.Props.C18
open IsoVerif.Gen IsoVerif.Model IsoVerif.Model.C18 IsoVerif.Lemmas.C18

/-- the generated tables are the three splice-site pairs GT-AG, GC-AG, AT-AC (as read on the forward strand) and
    CT-AC, CT-GC, GT-AT (the same introns seen from the reverse strand) -/
theorem tables_literal :
    fwdSites = [(['A','T'],['A','C']), (['G','C'],['A','G']), (['G','T'],['A','G'])] ∧
    revSites = [(['C','T'],['A','C']), (['C','T'],['G','C']), (['G','T'],['A','T'])] := by
  decide +kernel

/-- complement of an upper-case base (what the tables are written in); `compl` of Lemmas/CanonicalReflect.lean keeps the case of
    a soft-masked base, and `(compl c).toUpper = comp c.toUpper` (`toUpper_compl`); the lemmas about `comp` stand there -/
def comp : Char → Char
  | 'A' => 'T'
  | 'C' => 'G'
  | 'G' => 'C'
  | 'T' => 'A'
  | c => c

/-- an intron whose ends read (l, r) on the forward strand reads (revcomp r, revcomp l) on the reverse strand -/
def revcompSite (p : Site) : Site := (p.2.reverse.map comp, p.1.reverse.map comp)

/-- the reverse table is exactly the reverse complement of the forward table -/
theorem rev_table_is_revcomp :
    (∀ p ∈ fwdSites, revcompSite p ∈ revSites) ∧ (∀ p ∈ revSites, revcompSite p ∈ fwdSites) ∧
    fwdSites.length = revSites.length := by
  decide +kernel

/-- no pair is canonical on both strands (so `is_fwd == is_rev` means "on neither") -/
theorem tables_disjoint (p : Site) : ¬ (isFwd p = true ∧ isRev p = true) := by
  have h : ∀ q ∈ fwdSites, q ∉ revSites := by decide +kernel
  intro ⟨hf, hr⟩
  simp only [isFwd, isRev, List.contains_iff_mem] at hf hr
  exact h p hf hr

/-- every table entry is a pair of dinucleotides in upper case -/
theorem tables_shape : ∀ p ∈ fwdSites ++ revSites, p.1.length = 2 ∧ p.2.length = 2 ∧ upperSite p = p := by
  decide +kernel

/-- the base of the reference at 1-based genome position `p`, case-folded (`none` outside the loaded region) -/
def baseAt (g : GeneRef) (p : Int) : Option Char :=
  if p < g.start then none else (g.refRegion[(p - g.start).toNat]?).map Char.toUpper

def tableOf (st : Strand) : List Site := if st = .plus then fwdSites else revSites

/-- "the intron has a canonical dinucleotide pair on strand `st` in the reference": the first two and the last two
    bases of the intron, read on the forward strand of the FASTA, form a pair of the table of that strand -/
def CanonicalOn (g : GeneRef) (it : Iv) (st : Strand) : Prop :=
  ∃ a b c d, baseAt g it.1 = some a ∧ baseAt g (it.1 + 1) = some b ∧
             baseAt g (it.2 - 1) = some c ∧ baseAt g it.2 = some d ∧ ([a, b], [c, d]) ∈ tableOf st

/-- The value computed on a memo miss is the declarative predicate, for every intron that does not start before the
    loaded region (Python would wrap a negative index; see `negative_index_wrap_witness`).  Introns reaching beyond
    the end of the region are covered: both sides are false. -/
theorem canonCompute_iff (g : GeneRef) (it : Iv) (st : Strand) (h1 : g.start ≤ it.1) (h2 : g.start < it.2) :
    canonCompute g it st = true ↔ CanonicalOn g it st := by
  -- a 2-base slice equal to `[a, b]` is two `getElem?`s (`IsoVerif.Lemmas.take2_map_eq`); every table entry has two bases on each side (`tables_shape`)
  have hl : 0 ≤ it.1 - g.start := by omega
  have hr : 0 ≤ it.2 - g.start - 1 := by omega
  have e2 : it.2 - g.start + 1 = (it.2 - g.start - 1) + 2 := by omega
  have key : ∀ tbl : List Site, (∀ p ∈ tbl, p.1.length = 2 ∧ p.2.length = 2) →
      (upperSite (siteRaw g.refRegion g.start it) ∈ tbl ↔
        ∃ a b c d, baseAt g it.1 = some a ∧ baseAt g (it.1 + 1) = some b ∧
             baseAt g (it.2 - 1) = some c ∧ baseAt g it.2 = some d ∧ ([a, b], [c, d]) ∈ tbl) := by
    intro tbl hshape
    have n1 : ¬ it.1 < g.start := by omega
    have n2 : ¬ it.1 + 1 < g.start := by omega
    have n3 : ¬ it.2 - 1 < g.start := by omega
    have n4 : ¬ it.2 < g.start := by omega
    have t2 : (it.1 + 1 - g.start).toNat = (it.1 - g.start).toNat + 1 := by omega
    have t3 : (it.2 - 1 - g.start).toNat = (it.2 - g.start - 1).toNat := by omega
    have t4 : (it.2 - g.start).toNat = (it.2 - g.start - 1).toNat + 1 := by omega
    simp only [siteRaw, upperSite, baseAt, n1, n2, n3, n4, if_false, t2, t3, t4]
    rw [e2, pySlice_two _ _ hl, pySlice_two _ _ hr]
    constructor
    · intro hmem
      obtain ⟨hs1, hs2⟩ := hshape _ hmem
      generalize hL : List.map Char.toUpper (List.take 2 (List.drop (it.1 - g.start).toNat g.refRegion)) = L at hmem hs1
      generalize hR : List.map Char.toUpper (List.take 2 (List.drop (it.2 - g.start - 1).toNat g.refRegion)) = R at hmem hs2
      match L, hs1 with
      | [a, b], _ =>
        match R, hs2 with
        | [c, d], _ =>
          rw [IsoVerif.Lemmas.take2_map_eq] at hL hR
          exact ⟨a, b, c, d, hL.1, hL.2, hR.1, hR.2, hmem⟩
    · rintro ⟨a, b, c, d, ha, hb, hc, hd, hmem⟩
      have eL := (IsoVerif.Lemmas.take2_map_eq Char.toUpper g.refRegion (it.1 - g.start).toNat a b).mpr ⟨ha, hb⟩
      have eR := (IsoVerif.Lemmas.take2_map_eq Char.toUpper g.refRegion (it.2 - g.start - 1).toNat c d).mpr ⟨hc, hd⟩
      rw [eL, eR]; exact hmem
  have shape : ∀ tbl, (tbl = fwdSites ∨ tbl = revSites) → ∀ p ∈ tbl, p.1.length = 2 ∧ p.2.length = 2 := by
    intro tbl ht p hp
    have := tables_shape p (by rcases ht with rfl | rfl <;> simp [hp])
    exact ⟨this.1, this.2.1⟩
  unfold canonCompute CanonicalOn tableOf
  by_cases hst : st = .plus
  · simp only [hst, if_true, isFwd, List.contains_iff_mem]
    exact key fwdSites (shape _ (Or.inl rfl))
  · simp only [hst, if_false, isRev, List.contains_iff_mem]
    exact key revSites (shape _ (Or.inr rfl))

/-- memo states that can arise for one `gene_info`: empty after `set_reference_sequence`, then any sequence of
    queries (reads of the locus, transcript models, in any order and on any strand) -/
inductive Reachable (g : GeneRef) : CanonMemo → Prop
  | fresh : Reachable g []
  | query (σ : CanonMemo) (introns : List Iv) (st : Strand) :
      Reachable g σ → Reachable g (checkSites g introns st σ).2

/-- the answer the statement demands: every intron is canonical on the strand; for a record of unknown strand (`.`;
    DESIGN §6): the whole intron chain is canonical on `+`, or the whole chain is canonical on `-`.
    Abbreviation of `Lemmas.C18.pureAll`, the name the property statements use -/
def pureAnswer (g : GeneRef) (introns : List Iv) (st : Strand) : Bool := pureAll g introns st

theorem pureAnswer_stranded (g : GeneRef) (introns : List Iv) (st : Strand) (hst : st ≠ .dot) :
    pureAnswer g introns st = introns.all fun it => canonCompute g it st := by
  simp [pureAnswer, pureAll, hst]

theorem pureAnswer_dot (g : GeneRef) (introns : List Iv) :
    pureAnswer g introns .dot = (pureAnswer g introns .plus || pureAnswer g introns .minus) := by
  simp [pureAnswer, pureAll]

theorem memo_invariant {g : GeneRef} {σ : CanonMemo} (h : Reachable g σ) : MemoOK g σ := by
  induction h with
  | fresh => exact memoOK_nil g
  | query σ introns st _ ih => exact (checkSites_spec g st introns σ ih).2

/-- **canonical_pure** (full strength): in every reachable memo state, whatever was asked before and on whichever
    strands, the answer is the pure function of (reference sequence, introns, strand) -/
theorem canonical_pure {g : GeneRef} {σ : CanonMemo} (h : Reachable g σ) (introns : List Iv) (st : Strand) :
    (checkSites g introns st σ).1 = pureAnswer g introns st :=
  (checkSites_spec g st introns σ (memo_invariant h)).1

/-- the same with the declarative right-hand side: True exactly when every intron has a canonical pair on the strand -/
theorem canonical_pure_declarative {g : GeneRef} {σ : CanonMemo} (h : Reachable g σ) (introns : List Iv) (st : Strand)
    (hst : st ≠ .dot) (hin : ∀ it ∈ introns, g.start ≤ it.1 ∧ g.start < it.2) :
    (checkSites g introns st σ).1 = true ↔ ∀ it ∈ introns, CanonicalOn g it st := by
  rw [canonical_pure h, pureAnswer_stranded g introns st hst, List.all_eq_true]
  constructor
  · intro hh it hit; exact (canonCompute_iff g it st (hin it hit).1 (hin it hit).2).mp (hh it hit)
  · intro hh it hit; exact (canonCompute_iff g it st (hin it hit).1 (hin it hit).2).mpr (hh it hit)

/-- the unknown strand (`.`), declaratively: True exactly when every intron has a canonical pair on `+`, or every intron
    has a canonical pair on `-` (one strand for the whole chain) -/
theorem canonical_pure_declarative_dot {g : GeneRef} {σ : CanonMemo} (h : Reachable g σ) (introns : List Iv)
    (hin : ∀ it ∈ introns, g.start ≤ it.1 ∧ g.start < it.2) :
    (checkSites g introns .dot σ).1 = true ↔
      (∀ it ∈ introns, CanonicalOn g it .plus) ∨ (∀ it ∈ introns, CanonicalOn g it .minus) := by
  have hp := canonical_pure_declarative (Reachable.fresh (g := g)) introns .plus (by decide) hin
  have hm := canonical_pure_declarative (Reachable.fresh (g := g)) introns .minus (by decide) hin
  rw [canonical_pure Reachable.fresh] at hp hm
  rw [canonical_pure h, pureAnswer_dot, Bool.or_eq_true, hp, hm]

theorem runQueries_spec (g : GeneRef) :
    ∀ (qs : List (List Iv × Strand)) (σ : CanonMemo), Reachable g σ →
      (runQueries g qs σ).1 = qs.map (fun q => pureAnswer g q.1 q.2) ∧ Reachable g (runQueries g qs σ).2 := by
  intro qs
  induction qs with
  | nil => intro σ h; exact ⟨rfl, h⟩
  | cons q rest ih =>
    intro σ h
    have hq := canonical_pure h q.1 q.2
    have := ih _ (Reachable.query σ q.1 q.2 h)
    simp only [runQueries, List.map_cons]
    exact ⟨by rw [hq, this.1], this.2⟩

/-- every history of queries against a fresh `gene_info` answers each query by the pure function: the list of answers
    is the map of `pureAnswer` over the history (so it is invariant under any reordering, insertion or deletion of
    other queries) -/
theorem canonical_history_independent (g : GeneRef) (qs : List (List Iv × Strand)) :
    (runQueries g qs []).1 = qs.map (fun q => pureAnswer g q.1 q.2) :=
  (runQueries_spec g qs [] Reachable.fresh).1

/-- two different histories give the same answer to the same final query -/
theorem canonical_same_answer_after_any_histories (g : GeneRef) (h₁ h₂ : List (List Iv × Strand))
    (introns : List Iv) (st : Strand) :
    (checkSites g introns st (runQueries g h₁ []).2).1 = (checkSites g introns st (runQueries g h₂ []).2).1 := by
  rw [canonical_pure (runQueries_spec g h₁ [] Reachable.fresh).2,
      canonical_pure (runQueries_spec g h₂ [] Reachable.fresh).2]

/-! ### the code before the two fixes (regression witnesses, replayed on the real code by the oracle) -/

def witnessSeq : Seq := "AAAAGTCCCCCCAGTTTT".toList     -- intron (5,14) is GT..AG

/-- `witnessSeq` as a list the kernel need not decode: it decodes a string literal anew in every declaration that evaluates
    it; the witnesses and examples rewrite with this first -/
theorem witnessSeq_eq : witnessSeq = ['A','A','A','A','G','T','C','C','C','C','C','C','A','G','T','T','T','T'] := by
  decide +kernel

/-- before 29fb9df (memo keyed by the intron only): `+` then `-` on the same GT-AG intron answers True twice,
    a fresh `-` query answers False -/
theorem canonical_pure_buggy_witness :
    (runQueriesBuggy ⟨witnessSeq, 1⟩ [([(5, 14)], .plus), ([(5, 14)], .minus)] []).1 = [true, true] ∧
    (runQueriesBuggy ⟨witnessSeq, 1⟩ [([(5, 14)], .minus)] []).1 = [false] ∧
    (runQueries ⟨witnessSeq, 1⟩ [([(5, 14)], .plus), ([(5, 14)], .minus)] []).1 = [true, false] := by
  rw [witnessSeq_eq]; decide +kernel

/-- before 35f57f0 (no case folding): the same intron in a soft-masked region was never canonical, while
    `get_intron_strand` called it a `+` intron -/
theorem canonical_case_witness :
    canonComputeNoUpper ⟨witnessSeq.map Char.toLower, 1⟩ (5, 14) .plus = false ∧
    canonCompute ⟨witnessSeq.map Char.toLower, 1⟩ (5, 14) .plus = true ∧
    getIntronStrand (5, 14) (witnessSeq.map Char.toLower) = .plus := by
  rw [witnessSeq_eq]; decide +kernel

/-- outside the hypothesis of `canonCompute_iff`: an "intron" that starts before the loaded region makes Python wrap
    the negative index, so the code looks at the *end* of the region (model and code agree; such introns do not occur:
    the region always contains the reads of the locus) -/
theorem negative_index_wrap_witness :
    canonCompute ⟨"AGGTCC".toList, 10⟩ (6, 11) .plus = true ∧ ¬ CanonicalOn ⟨"AGGTCC".toList, 10⟩ (6, 11) .plus := by
  refine ⟨by decide +kernel, ?_⟩
  rintro ⟨a, b, c, d, ha, _⟩
  simp [baseAt] at ha

/-- before the repair of the unknown strand: `.` was looked up as `-`, so the GT-AG intron of
    the witness sequence answered False for `.` while its mirror image (the CT-AC intron (5,14) of the reverse complement
    `AAAACTGGGGGGACTTTT`) answered True; the repaired function answers True for both (and False for a chain that is
    canonical on neither strand, or on `+` for one intron and on `-` for the other) -/
theorem dot_flag_orig_witness :
    (checkSitesOrig ⟨witnessSeq, 1⟩ [(5, 14)] .dot []).1 = false ∧
    (checkSitesOrig ⟨"AAAACTGGGGGGACTTTT".toList, 1⟩ [(5, 14)] .dot []).1 = true ∧
    (checkSites ⟨witnessSeq, 1⟩ [(5, 14)] .dot []).1 = true ∧
    (checkSites ⟨"AAAACTGGGGGGACTTTT".toList, 1⟩ [(5, 14)] .dot []).1 = true ∧
    (checkSites ⟨"AAAAGTCCAGAACTCCACTT".toList, 1⟩ [(5, 10), (13, 18)] .dot []).1 = false ∧
    (checkSites ⟨"AAAAGTCCAGAACTCCACTT".toList, 1⟩ [(5, 10)] .dot []).1 = true ∧
    (checkSites ⟨"AAAAGTCCAGAACTCCACTT".toList, 1⟩ [(13, 18)] .dot []).1 = true := by
  rw [witnessSeq_eq]; decide +kernel

/-- the flag the statement demands for a record with exon blocks `exons` on strand `st` -/
def pureFlag (g : GeneRef) (exons : List Iv) (st : Strand) : String :=
  if junctionsFromBlocks exons = [] then "Unspliced" else boolStr (pureAnswer g (junctionsFromBlocks exons) st)

/-- `add_canonical_info_for_model`: a model without the attribute gets `Unspliced` / the pure answer for its introns
    and strand, whatever the memo holds; the memo stays reachable -/
theorem model_flag_pure {g : GeneRef} {σ : CanonMemo} (h : Reachable g σ) (m : TModel)
    (href : g.refRegion ≠ []) (hattr : m.canonicalAttr = none) :
    (addCanonicalInfoForModel g m σ).1.canonicalAttr = some (pureFlag g m.exons m.strand) ∧
    (addCanonicalInfoForModel g m σ).1.exons = m.exons ∧ (addCanonicalInfoForModel g m σ).1.strand = m.strand ∧
    Reachable g (addCanonicalInfoForModel g m σ).2 := by
  have he : g.refRegion.isEmpty = false := by
    cases hg : g.refRegion with
    | nil => exact absurd hg href
    | cons _ _ => rfl
  unfold addCanonicalInfoForModel pureFlag
  simp only [he, hattr, Option.isSome_none, Bool.false_eq_true, if_false]
  by_cases hj : junctionsFromBlocks m.exons = []
  · simp [hj, h]
  · have hl : ¬ (junctionsFromBlocks m.exons).length = 0 := by
      intro h0; exact hj (List.eq_nil_of_length_eq_zero h0)
    simp only [hl, hj, if_false]
    refine ⟨by rw [canonical_pure h], ?_, ?_, Reachable.query σ _ _ h⟩ <;> trivial

/-- the statement's clause for transcript models, declaratively: the attribute is `True` exactly when the model is
    spliced and every intron has a canonical pair on the model's strand; `Unspliced` exactly when it has no intron -/
theorem model_flag_declarative {g : GeneRef} {σ : CanonMemo} (h : Reachable g σ) (m : TModel)
    (href : g.refRegion ≠ []) (hattr : m.canonicalAttr = none) (hst : m.strand ≠ .dot)
    (hin : ∀ it ∈ junctionsFromBlocks m.exons, g.start ≤ it.1 ∧ g.start < it.2) :
    ((addCanonicalInfoForModel g m σ).1.canonicalAttr = some "True" ↔
      junctionsFromBlocks m.exons ≠ [] ∧ ∀ it ∈ junctionsFromBlocks m.exons, CanonicalOn g it m.strand) ∧
    ((addCanonicalInfoForModel g m σ).1.canonicalAttr = some "Unspliced" ↔ junctionsFromBlocks m.exons = []) := by
  rw [(model_flag_pure h m href hattr).1]
  unfold pureFlag
  have hdecl := canonical_pure_declarative h (junctionsFromBlocks m.exons) m.strand hst hin
  rw [canonical_pure h] at hdecl
  by_cases hj : junctionsFromBlocks m.exons = []
  · simp [hj]
  · simp only [hj, if_false, Option.some.injEq, ne_eq, not_false_eq_true, true_and, iff_false]
    cases hb : pureAnswer g (junctionsFromBlocks m.exons) m.strand with
    | true => rw [hb] at hdecl; exact ⟨by simpa [boolStr] using hdecl.mp rfl, by decide⟩
    | false =>
      rw [hb] at hdecl
      refine ⟨?_, by decide⟩
      simp only [boolStr, Bool.false_eq_true, if_false]
      constructor
      · intro hh; exact absurd hh (by decide)
      · intro hh; exact absurd (hdecl.mpr hh) (by decide)

/-- a model that already carries the attribute, or a locus without reference sequence, is left untouched -/
theorem model_flag_untouched (g : GeneRef) (σ : CanonMemo) (m : TModel)
    (h : g.refRegion = [] ∨ m.canonicalAttr.isSome = true) :
    addCanonicalInfoForModel g m σ = (m, σ) := by
  unfold addCanonicalInfoForModel
  rcases h with h | h
  · simp [h]
  · simp [h]

/-- `add_canonical_info` over a whole model storage: every model's flag is the pure flag of that model alone
    (independent of the other models in the storage and of their order) -/
theorem model_storage_flags_pure (g : GeneRef) (href : g.refRegion ≠ []) :
    ∀ (ms : List TModel) (σ : CanonMemo), Reachable g σ → (∀ m ∈ ms, m.canonicalAttr = none) →
      ((addCanonicalInfo g ms σ).1.map (·.canonicalAttr) = ms.map (fun m => some (pureFlag g m.exons m.strand))) ∧
      Reachable g (addCanonicalInfo g ms σ).2 := by
  intro ms
  induction ms with
  | nil => intro σ h _; exact ⟨rfl, h⟩
  | cons m rest ih =>
    intro σ h hn
    have hm := model_flag_pure h m href (hn m (by simp))
    have := ih _ hm.2.2.2 (fun m' hm' => hn m' (by simp [hm']))
    simp only [addCanonicalInfo, List.map_cons]
    exact ⟨by rw [hm.1, this.1], this.2⟩

/-- the `Canonical=` field of a read line: printed iff `--check_canonical` and the locus has a reference region;
    then it is the pure flag of the read's exons and reported strand -/
theorem read_field_pure {g : GeneRef} {σ : CanonMemo} (h : Reachable g σ) (check : Bool) (exons : List Iv) (st : Strand) :
    (readCanonicalField check g exons st σ).1 =
      (if check = true ∧ g.refRegion ≠ [] then some (pureFlag g exons st) else none) ∧
    Reachable g (readCanonicalField check g exons st σ).2 := by
  unfold readCanonicalField pureFlag
  cases check with
  | false => simp [h]
  | true =>
    cases hg : g.refRegion with
    | nil => simp [h]
    | cons c cs =>
      simp only [List.isEmpty_cons, Bool.not_false, Bool.and_self, if_true, ne_eq, reduceCtorEq, not_false_eq_true,
        and_self]
      by_cases hj : junctionsFromBlocks exons = []
      · simp [hj, h]
      · have hl : ¬ (junctionsFromBlocks exons).length = 0 := by
          intro h0; exact hj (List.eq_nil_of_length_eq_zero h0)
        simp only [hl, hj, if_false]
        exact ⟨by rw [canonical_pure h], Reachable.query σ _ _ h⟩

/-- `set_reference_sequence(start, end, chr)` followed by the site look-up with offset `start` reads the same four
    bases as a look-up on the whole chromosome, for every intron inside the window — wherever the window ends: a window
    (gene annotated) beyond the last base of the contig is clamped by the slice, and positions beyond the contig are
    absent from the window exactly as they are absent from the chromosome -/
theorem region_slice_invariant (chr : Seq) (start end_ : Int) (it : Iv)
    (hs : 1 ≤ start) (h1 : start ≤ it.1) (h2 : it.1 + 1 ≤ end_)
    (h3 : start < it.2) (h4 : it.2 ≤ end_) :
    siteRaw (setReferenceSequence chr start end_).1.refRegion start it = siteRaw chr 1 it := by
  simp only [setReferenceSequence, siteRaw, show max 1 start = start by omega]
  rw [pySlice_pySlice chr _ _ _ _ (by omega) (by omega) (by omega) (by omega),
    pySlice_pySlice chr _ _ _ _ (by omega) (by omega) (by omega) (by omega)]
  congr 2 <;> omega

/-- a window that is asked to start at or before position 0 (0-based start of a read cluster at the first base of
    the contig) is the window starting at base 1 -/
theorem region_start_clamped (chr : Seq) (start end_ : Int) (hs : start ≤ 1) :
    setReferenceSequence chr start end_ = setReferenceSequence chr 1 end_ := by
  have : max 1 start = 1 := by omega
  simp [setReferenceSequence, this]

/-- before the clamp: the window asked to start at 0 is empty, so `add_canonical_info_for_model` leaves the
    model without the attribute although its intron is GT-AG; with the clamp the flag is `True` -/
theorem region_start_zero_witness :
    (setReferenceSequenceNoClamp witnessSeq 0 16).1.refRegion = [] ∧
    (addCanonicalInfoForModel (setReferenceSequenceNoClamp witnessSeq 0 16).1 ⟨[(1, 4), (15, 16)], .plus, none⟩ []).1.canonicalAttr
      = none ∧
    (addCanonicalInfoForModel (setReferenceSequence witnessSeq 0 16).1 ⟨[(1, 4), (15, 16)], .plus, none⟩ []).1.canonicalAttr
      = some "True" := by
  rw [witnessSeq_eq]; decide +kernel

/-- hence the flag does not depend on which window of the chromosome the locus loaded (the per-locus `gene_info` of
    the read/model pass and the whole-chromosome `gene_info` of the extended annotation give the same answers), and
    the window's memo starts empty.  No hypothesis on where the window ends (it may end beyond the contig) nor on
    whether the introns lie inside the contig (beyond it both look-ups find no bases: `False` on either side). -/
theorem flag_independent_of_region (chr : Seq) (start end_ : Int) (introns : List Iv) (st : Strand)
    (hs : 1 ≤ start)
    (hin : ∀ it ∈ introns, start ≤ it.1 ∧ it.1 + 1 ≤ end_ ∧ start < it.2 ∧ it.2 ≤ end_) :
    pureAnswer (setReferenceSequence chr start end_).1 introns st = pureAnswer ⟨chr, 1⟩ introns st ∧
    (setReferenceSequence chr start end_).2 = [] := by
  refine ⟨?_, rfl⟩
  have hall : ∀ st' : Strand, (introns.all fun it => canonCompute (setReferenceSequence chr start end_).1 it st') =
      (introns.all fun it => canonCompute ⟨chr, 1⟩ it st') := by
    intro st'
    have key' : ∀ it ∈ introns,
        canonCompute (setReferenceSequence chr start end_).1 it st' = canonCompute ⟨chr, 1⟩ it st' := by
      intro it hit
      obtain ⟨h1, h2, h3, h4⟩ := hin it hit
      have := region_slice_invariant chr start end_ it hs h1 h2 h3 h4
      simp only [canonCompute]
      rw [show (setReferenceSequence chr start end_).1.start = start from by simp [setReferenceSequence]; omega, this]
    rw [Bool.eq_iff_iff, List.all_eq_true, List.all_eq_true]
    constructor
    · intro h it hit; rw [← key' it hit]; exact h it hit
    · intro h it hit; rw [key' it hit]; exact h it hit
  unfold pureAnswer pureAll
  simp only [hall]

/-- the same for any requested start: a start at or before base 1 is the start at base 1 -/
theorem flag_of_window (chr : Seq) (start end_ : Int) (introns : List Iv) (st : Strand)
    (hin : ∀ it ∈ introns, max 1 start ≤ it.1 ∧ it.1 + 1 ≤ end_ ∧ max 1 start < it.2 ∧ it.2 ≤ end_) :
    pureAnswer (setReferenceSequence chr start end_).1 introns st = pureAnswer ⟨chr, 1⟩ introns st := by
  by_cases hs : start ≤ 1
  · rw [region_start_clamped chr start end_ hs]
    exact (flag_independent_of_region chr 1 end_ introns st (Int.le_refl 1)
      (fun it hit => by have := hin it hit; omega)).1
  · exact (flag_independent_of_region chr start end_ introns st (by omega)
      (fun it hit => by have := hin it hit; omega)).1

-- a reachable, non-empty memo; an in-range canonical intron; both strands queried
example : Reachable ⟨witnessSeq, 1⟩ (checkSites ⟨witnessSeq, 1⟩ [(5, 14)] .plus []).2 ∧
    (checkSites ⟨witnessSeq, 1⟩ [(5, 14)] .plus []).2 ≠ [] :=
  ⟨Reachable.query [] _ _ Reachable.fresh, by rw [witnessSeq_eq]; decide +kernel⟩

example : (1 : Int) ≤ (5, 14).1 ∧ (1 : Int) < ((5, 14) : Iv).2 ∧ canonCompute ⟨witnessSeq, 1⟩ (5, 14) .plus = true ∧
    canonCompute ⟨witnessSeq, 1⟩ (5, 14) .minus = false := by rw [witnessSeq_eq]; decide +kernel

example : CanonicalOn ⟨witnessSeq, 1⟩ (5, 14) .plus :=
  (canonCompute_iff _ _ _ (by decide) (by decide)).mp (by rw [witnessSeq_eq]; decide +kernel)

example : (addCanonicalInfoForModel ⟨witnessSeq, 1⟩ ⟨[(1, 4), (15, 18)], .plus, none⟩ []).1.canonicalAttr = some "True" ∧
    (addCanonicalInfoForModel ⟨witnessSeq, 1⟩ ⟨[(1, 4), (15, 18)], .minus, none⟩ []).1.canonicalAttr = some "False" ∧
    (addCanonicalInfoForModel ⟨witnessSeq, 1⟩ ⟨[(1, 18)], .minus, none⟩ []).1.canonicalAttr = some "Unspliced" := by
  rw [witnessSeq_eq]; decide +kernel

-- a window (3..16) of the witness chromosome containing the intron (5,14)
example : (1 : Int) ≤ 3 ∧ (16 : Int) ≤ witnessSeq.length ∧
    pureAnswer (setReferenceSequence witnessSeq 3 16).1 [(5, 14)] .plus = true ∧
    (setReferenceSequence witnessSeq 3 16).1.refRegion = "AAGTCCCCCCAGTT".toList := by rw [witnessSeq_eq]; decide +kernel

-- a window that ends beyond the 18-base contig (gene end 1000 in the GTF): the slice is clamped, the answers are the
-- chromosome's; an "intron" (15, 25) reaching beyond the contig inside such a window answers False on both sides
example : (1000 : Int) > witnessSeq.length ∧
    (setReferenceSequence witnessSeq 3 1000).1.refRegion = "AAGTCCCCCCAGTTTT".toList ∧
    pureAnswer (setReferenceSequence witnessSeq 3 1000).1 [(5, 14)] .plus = true ∧
    pureAnswer (setReferenceSequence witnessSeq 3 1000).1 [(15, 25)] .plus = false ∧
    pureAnswer ⟨witnessSeq, 1⟩ [(15, 25)] .plus = false := by rw [witnessSeq_eq]; decide +kernel

end IsoVerif.Props.C18
