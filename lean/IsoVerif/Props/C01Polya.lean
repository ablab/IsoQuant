/-
C01 (polyA verification, sentinel distance) — `PolyAVerifier.detect_reference_exons_beyond_polya / before_polyt`
(src/polya_verification.py) computed `abs(exon_end - pos)` also for an ABSENT position (−1); near the chromosome start the
distance to coordinate −1 won the `min`, so the verdict ("terminal exons missed" ⇒ terminal_exon_misalignment_* events and a
corrected polyA position) depended on where the gene sits.  Found by the C11 equivariance proofs (translation
equivariance needed the gene to lie far from the origin exactly there); fixed in /repo (an absent position is infinitely far, as in `check_if_close`).
The model (`Model/Assign.lean`) follows the fixed code; the old behaviour is kept as `detectBeyondPolyaBuggy` /
`detectBeforePolytBuggy`.
-/
import IsoVerif.Model.Assign
import IsoVerif.Lemmas.C11AssignShift
import IsoVerif.Props.C11Assign

namespace IsoVerif.Props.C01Polya
open IsoVerif.Gen IsoVerif.Model IsoVerif.Model.C01 IsoVerif.Model.C11 IsoVerif.Lemmas IsoVerif.Lemmas.C11
open IsoVerif.Lemmas.C11.AssignShift

def exP : Params :=
  { delta := 6, minor_exon_extension := 50, major_exon_extension := 300, min_abs_exon_overlap := 10, apa_delta := 50,
    minimal_exon_overlap := 5, minimal_intron_absence_overlap := 20, max_fake_terminal_exon_len := 40,
    max_missed_exon_len := 100, resolve_ambiguous := .monoexon_and_fsm }

def shiftOut (k : Int) (r : Option (List Event × Int × Int)) : Option (List MatchEventSubtype × Int × Int) :=
  r.map (fun r => (r.1.map (·.ty), (if r.2.1 = -1 then -1 else r.2.1 - k), (if r.2.2 = -1 then -1 else r.2.2 - k)))

/-- **detectBeyondPolyaBuggy_witness** (position dependence near the chromosome start, code before the fix): isoform
    (10-30, 200-210), external polyA at 80, no internal one.  `min(|30 − 80|, |30 − (−1)|) = 31 ≤ 40`: the last exon counts
    as "missed" and the polyA position is moved to 210; the same configuration 1000 bases downstream gives
    `min(50, 1031) = 50` and nothing.  The repaired function gives nothing in both places. -/
theorem detectBeyondPolyaBuggy_witness :
    shiftOut 0 (detectBeyondPolyaBuggy exP [(10, 30), (200, 210)] 80 (-1) [])
      = some ([.terminal_exon_misalignment_right], 210, 210) ∧
    shiftOut 1000 (detectBeyondPolyaBuggy exP [(1010, 1030), (1200, 1210)] 1080 (-1) []) = some ([], 80, -1) ∧
    shiftOut 0 (detectBeyondPolya exP [(10, 30), (200, 210)] 80 (-1) []) = some ([], 80, -1) ∧
    shiftOut 1000 (detectBeyondPolya exP [(1010, 1030), (1200, 1210)] 1080 (-1) []) = some ([], 80, -1) := by
  decide

/-- the polyT side: isoform (1-3, 5-100), external polyT at 50 (inside the second exon): `min(|5 − 50|, |5 − (−1)|) = 6` -/
theorem detectBeforePolytBuggy_witness :
    shiftOut 0 (detectBeforePolytBuggy exP [(1, 3), (5, 100)] 50 (-1) [])
      = some ([.terminal_exon_misalignment_left], 1, 1) ∧
    shiftOut 1000 (detectBeforePolytBuggy exP [(1001, 1003), (1005, 1100)] 1050 (-1) []) = some ([], 50, -1) ∧
    shiftOut 0 (detectBeforePolyt exP [(1, 3), (5, 100)] 50 (-1) []) = some ([], 50, -1) ∧
    shiftOut 1000 (detectBeforePolyt exP [(1001, 1003), (1005, 1100)] 1050 (-1) []) = some ([], 50, -1) := by
  decide

/-- the fix changes nothing when both positions are present -/
theorem detectBeyondPolya_eq_buggy_of_present (p : Params) (iso : List Iv) (ext int : Int) (evs : List Event)
    (he : ext ≠ -1) (hi : int ≠ -1) : detectBeyondPolya p iso ext int evs = detectBeyondPolyaBuggy p iso ext int evs := by
  simp [detectBeyondPolya, detectBeyondPolyaBuggy, distOrInf, minInf, missedTerminalOk, he, hi]

theorem detectBeforePolyt_eq_buggy_of_present (p : Params) (iso : List Iv) (ext int : Int) (evs : List Event)
    (he : ext ≠ -1) (hi : int ≠ -1) : detectBeforePolyt p iso ext int evs = detectBeforePolytBuggy p iso ext int evs := by
  simp [detectBeforePolyt, detectBeforePolytBuggy, distOrInf, minInf, missedTerminalOk, he, hi]

/-- the distance that decides (absent = infinitely far) is invariant under a shift that moves no real position onto −1 —
    with one position absent as well (the sentinel case) -/
theorem sentinel_distance_shift_invariant (k b ext int : Int) (hE : SafePos k ext) (hI : SafePos k int) :
    minInf (distOrInf (b + k) (shiftPos k ext)) (distOrInf (b + k) (shiftPos k int))
      = minInf (distOrInf b ext) (distOrInf b int) :=
  C11Assign.shift_equivariant_tailDist k b ext int hE hI

/-- **the repaired `detect_reference_exons_beyond_polya` is translation equivariant, sentinel case included**: no
    hypothesis on how far the gene lies from the origin (`hP` only names the case "some position is present"; the proof
    does not need it) -/
theorem detectBeyondPolya_shift_sentinel (k : Int) (p : Params) (iso : List Iv) (ext int : Int) (evs : List Event)
    (hE : SafePos k ext) (hI : SafePos k int) (hP : ext ≠ -1 ∨ int ≠ -1)
    (hEnd : ∀ e, iso.getLast? = some e → e.2 ≠ -1) :
    detectBeyondPolya p (shiftL k iso) (shiftPos k ext) (shiftPos k int) (shiftEvents k evs)
      = (detectBeyondPolya p iso ext int evs).map (outShift k) :=
  C11Assign.shift_equivariant_detectBeyondPolya k p iso ext int evs hE hI hEnd

theorem detectBeforePolyt_shift_sentinel (k : Int) (p : Params) (iso : List Iv) (ext int : Int) (evs : List Event)
    (hE : SafePos k ext) (hI : SafePos k int) (hP : ext ≠ -1 ∨ int ≠ -1)
    (hEnd : ∀ e, iso.head? = some e → e.1 ≠ -1) :
    detectBeforePolyt p (shiftL k iso) (shiftPos k ext) (shiftPos k int) (shiftEvents k evs)
      = (detectBeforePolyt p iso ext int evs).map (outShift k) :=
  C11Assign.shift_equivariant_detectBeforePolyt k p iso ext int evs hE hI hEnd

/-- the hypotheses of the two theorems are met in the sentinel case of the witness (k = 1000) -/
example : SafePos 1000 80 ∧ SafePos 1000 (-1) ∧ ((80 : Int) ≠ -1 ∨ (-1 : Int) ≠ -1) := by
  refine ⟨?_, ?_, Or.inl (by decide)⟩ <;> (unfold SafePos; intro h; omega)

end IsoVerif.Props.C01Polya
