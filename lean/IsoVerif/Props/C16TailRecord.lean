/-
C16 — end to end for one alignment record: the tail positions come from the *modelled finder*
(`detect_polya`), the exons from the CIGAR walk, and `add_polya_info` trims; where does the recorded tail position
end up?  Composition of the range of the finder's positions (`detectPolyaWith_ranges`, Lemmas/FinderWith.lean),
Props/C16.lean (exons of the record) and what a run of `add_polya_info` does to the positions (`TrimRun.onRetainedA`,
`TrimRun.onRetainedT` of Lemmas/TailExons.lean: the facts `tail_on_retained_exon` of Props/C16PolyA.lean states).
-/
import IsoVerif.Props.C16
import IsoVerif.Props.C16PolyA
import IsoVerif.Props.C16FinderSpec

namespace IsoVerif.Props.C16TailRecord
open IsoVerif.Gen IsoVerif.Model IsoVerif.Model.C16 IsoVerif.Lemmas.C16
open IsoVerif.Props.C16FinderSpec

/-- **detected_positions_in_range** — every position `detect_polya` reports for a record (CIGAR lengths ≥ 0) is −1 or
    lies next to the alignment: polyA in `[reference_start + 1, reference_end + max 1 clip₃]`, polyT in
    `[max 1 (reference_start − max 1 clip₅), max 1 (reference_end − 1)]` -/
theorem detected_positions_in_range (w num den : Nat) (s : Int) (cigar : List CigarOp)
    (seq : List Char) (hnn : NonNeg cigar) (info : PolyAInfo) (h : detectPolya w num den s cigar seq = some info) :
    (∀ x, (x = info.internalPolyA ∨ x = info.externalPolyA) → x ≠ -1 →
      s + 1 ≤ x ∧ x ≤ referenceEnd s cigar + max 1 (softClipTail cigar)) ∧
    (∀ x, (x = info.internalPolyT ∨ x = info.externalPolyT) → x ≠ -1 →
      max 1 (s - max 1 (softClipHead cigar)) ≤ x ∧ x ≤ max 1 (referenceEnd s cigar - 1)) :=
  detectPolyaWith_ranges w num den s seq (moveRefCoord_projects hnn) hnn info (detectPolya_eq_with ▸ h)

/-- **record_tail_on_retained_exon_of_ranges** — for every record (`reference_start ≥ 0`, SAM-valid CIGAR over all
    nine kinds) with at least one exon, every position quadruple whose entries are −1 or lie in the ranges of
    `detected_positions_in_range` (`hrA`, `hrT`: no finder and no window is mentioned, so every variant of the finder
    that keeps these ranges is covered), and every `max_fake_terminal_exon_len`: `add_polya_info` does not raise and

    3' side
    * exons removed (`a > 0`): the internal polyA position found inside the alignment is recorded on/adjacent to the
      last retained exon — at its end plus at most the length of the first removed exon minus one (the non-A bases at
      the start of that exon); the external position is recorded between that end and the recorded internal position
      (repaired code; `tail_on_retained_exon`); an absent position stays absent;
    * no terminal exon looks like a tail (`count_polya_exons = 0`): nothing is removed on this side and the recorded
      internal position is the finder's, which lies on the last exon or after it, at most `max 1 clip` past `reference_end`.
    5' side: mirror image, around the start of the first retained exon.

    (The remaining case — both sides claim so many exons that the counts are cut down — leaves the positions where
    the finder put them; `tail_moved_onto_retained` covers it.) -/
theorem record_tail_on_retained_exon_of_ranges (s : Int) (ops : List CigarOp)
    (mf : Int) (info : PolyAInfo) (hs : 0 ≤ s) (hp : Pos ops)
    (hrA : ∀ x, (x = info.internalPolyA ∨ x = info.externalPolyA) → x ≠ -1 →
      s + 1 ≤ x ∧ x ≤ referenceEnd s ops + max 1 (softClipTail ops))
    (hrT : ∀ x, (x = info.internalPolyT ∨ x = info.externalPolyT) → x ≠ -1 →
      max 1 (s - max 1 (softClipHead ops)) ≤ x ∧ x ≤ max 1 (referenceEnd s ops - 1))
    (hne : (getReadBlocks s ops).refBlocks ≠ []) :
    ∃ (r : AInfo) (a t : Int),
      addPolyaInfo mf (getReadBlocks s ops).refBlocks (getReadBlocks s ops).readBlocks
        (getReadBlocks s ops).cigarBlocks info = some r ∧
      correctReadInfo mf (getReadBlocks s ops).refBlocks info = some (a, t) ∧
      (0 < a → ∃ lastKept firstRemoved : Iv, r.exons.getLast? = some lastKept ∧
        (getReadBlocks s ops).refBlocks[(getReadBlocks s ops).refBlocks.length - a.toNat]? = some firstRemoved ∧
        lastKept.2 < firstRemoved.1 ∧ firstRemoved.2 ≤ referenceEnd s ops ∧
        (info.internalPolyA = -1 → r.info.internalPolyA = -1) ∧
        (info.internalPolyA ≠ -1 → lastKept.2 ≤ r.info.internalPolyA ∧
          r.info.internalPolyA ≤ lastKept.2 + max 0 (firstRemoved.2 - firstRemoved.1 - 1)) ∧
        (info.externalPolyA = -1 → r.info.externalPolyA = -1) ∧
        (info.externalPolyA ≠ -1 → lastKept.2 ≤ r.info.externalPolyA ∧
          r.info.externalPolyA ≤ r.info.internalPolyA)) ∧
      (countPolyaExons mf (getReadBlocks s ops).refBlocks info.internalPolyA = 0 → info.internalPolyA ≠ -1 →
        ∃ last : Iv, (getReadBlocks s ops).refBlocks.getLast? = some last ∧
          r.info.internalPolyA = info.internalPolyA ∧ last.1 ≤ r.info.internalPolyA ∧
          r.info.internalPolyA ≤ referenceEnd s ops + max 1 (softClipTail ops)) ∧
      (0 < t → ∃ firstKept lastRemoved : Iv, r.exons.head? = some firstKept ∧
        (getReadBlocks s ops).refBlocks[t.toNat - 1]? = some lastRemoved ∧
        lastRemoved.2 < firstKept.1 ∧ s + 1 ≤ lastRemoved.1 ∧
        (∀ old new, (old = info.internalPolyT ∧ new = r.info.internalPolyT) ∨
            (old = info.externalPolyT ∧ new = r.info.externalPolyT) →
          (old = -1 → new = -1) ∧
          (old ≠ -1 → new ≤ firstKept.1 ∧
            firstKept.1 - (lastRemoved.2 - max 1 (s - max 1 (softClipHead ops))) ≤ new)) ∧
        (info.externalPolyT ≠ -1 → r.info.internalPolyT ≤ r.info.externalPolyT)) ∧
      (countPolytExons mf (getReadBlocks s ops).refBlocks info.internalPolyT = 0 → info.internalPolyT ≠ -1 →
        ∃ first : Iv, (getReadBlocks s ops).refBlocks.head? = some first ∧
          r.info.internalPolyT = info.internalPolyT ∧ r.info.internalPolyT ≤ first.2 ∧
          max 1 (s - max 1 (softClipHead ops)) ≤ r.info.internalPolyT) := by
  have hsw := C16.exons_sorted_wf s ops hs hp
  have hsd : SD (getReadBlocks s ops).refBlocks := ⟨fun e he => (hsw.1 e he).2, hsw.2⟩
  have hwithin : ∀ e ∈ (getReadBlocks s ops).refBlocks, e.2 ≤ referenceEnd s ops := fun e he =>
    Int.le_trans (C16.exons_within_reference_end s ops hs hp.nonneg e he) (referenceEnd_ge s ops hp.nonneg).1
  obtain ⟨r, a, t, run⟩ := addPolyaInfo_run mf _ (getReadBlocks s ops).readBlocks
    (getReadBlocks s ops).cigarBlocks info hne
  generalize (getReadBlocks s ops).refBlocks = exons at *
  have hord : ∀ {i j : Nat} (hi : i < exons.length) (hj : j < exons.length), i < j → exons[i].2 < exons[j].1 :=
    fun hi hj hij => List.pairwise_iff_getElem.1 hsd.2 _ _ hi hj hij
  refine ⟨r, a, t, run.res, run.cri, fun ha => ?_, fun hc hia => ?_, fun ht => ?_, fun hc hit => ?_⟩
  · obtain ⟨hpA, hlt, hi, he1, he2⟩ := run.onRetainedA hsd ha
    exact ⟨_, _, run.getLast?_exons, List.getElem?_eq_getElem _,
      hord run.lastKept_lt (run.firstRemoved_lt ha) (by have := run.lt; omega), hwithin _ (List.getElem_mem _),
      fun h => absurd h hpA, fun _ => by omega, he1, he2⟩
  · have hk := (run.keepA (by have := run.le_countA; omega)).1
    have hl := List.getLast?_eq_some_getLast hne
    have hwf := hsd.1 _ (List.getLast_mem hne)
    have hon := count_zero_on_last mf exons _ _ hc hia hl
    exact ⟨_, hl, hk, by omega, hk ▸ (hrA _ (Or.inl rfl) hia).2⟩
  · obtain ⟨hpT, _, hi, he1, he2⟩ := run.onRetainedT hsd ht
    have hlr := hsw.1 _ (List.getElem_mem run.lastRemoved_lt)
    have hlo := (hrT _ (Or.inl rfl) hpT).1
    -- the clamped lower end gets a name: `omega` would split on its two `max` in every goal below
    have hlo' : max 1 (s - max 1 (softClipHead ops)) ≤ s + 1 := by omega
    generalize max 1 (s - max 1 (softClipHead ops)) = lo at hlo hlo' ⊢
    refine ⟨_, _, run.head?_exons, List.getElem?_eq_getElem _,
      hord run.lastRemoved_lt run.firstKept_lt (by omega), hlr.1, ?_, fun h => (he2 h).1⟩
    rintro old new (⟨rfl, rfl⟩ | ⟨rfl, rfl⟩)
    · exact ⟨fun h => absurd h hpT, fun _ => by omega⟩
    · refine ⟨he1, fun h => ?_⟩
      have := he2 h
      omega
  · have hk := (run.keepT (by have := run.le_countT; omega)).1
    have hf := List.head?_eq_some_head hne
    have hwf := hsd.1 _ (List.head_mem hne)
    have hon := count_zero_on_first mf exons _ _ hc hit hf
    exact ⟨_, hf, hk, by omega, hk ▸ (hrT _ (Or.inl rfl) hit).1⟩

/-- **record_tail_on_retained_exon** — `record_tail_on_retained_exon_of_ranges` for the four positions the modelled
    finder reports (`detect_polya`, any window ≥ 1, any sequence; head window before the repair of Model/FinderMirror.lean
    – the statement for the repaired window is `record_tail_on_retained_exon_win`, Props/C16FinderMirror.lean: same
    conclusion, the ranges of the positions do not depend on the window) -/
theorem record_tail_on_retained_exon (w num den : Nat) (hw : 1 ≤ w) (s : Int) (ops : List CigarOp)
    (seq : List Char) (mf : Int) (info : PolyAInfo) (hs : 0 ≤ s) (hp : Pos ops)
    (hdet : detectPolya w num den s ops seq = some info)
    (hne : (getReadBlocks s ops).refBlocks ≠ []) :
    ∃ (r : AInfo) (a t : Int),
      addPolyaInfo mf (getReadBlocks s ops).refBlocks (getReadBlocks s ops).readBlocks
        (getReadBlocks s ops).cigarBlocks info = some r ∧
      correctReadInfo mf (getReadBlocks s ops).refBlocks info = some (a, t) ∧
      (0 < a → ∃ lastKept firstRemoved : Iv, r.exons.getLast? = some lastKept ∧
        (getReadBlocks s ops).refBlocks[(getReadBlocks s ops).refBlocks.length - a.toNat]? = some firstRemoved ∧
        lastKept.2 < firstRemoved.1 ∧ firstRemoved.2 ≤ referenceEnd s ops ∧
        (info.internalPolyA = -1 → r.info.internalPolyA = -1) ∧
        (info.internalPolyA ≠ -1 → lastKept.2 ≤ r.info.internalPolyA ∧
          r.info.internalPolyA ≤ lastKept.2 + max 0 (firstRemoved.2 - firstRemoved.1 - 1)) ∧
        (info.externalPolyA = -1 → r.info.externalPolyA = -1) ∧
        (info.externalPolyA ≠ -1 → lastKept.2 ≤ r.info.externalPolyA ∧
          r.info.externalPolyA ≤ r.info.internalPolyA)) ∧
      (countPolyaExons mf (getReadBlocks s ops).refBlocks info.internalPolyA = 0 → info.internalPolyA ≠ -1 →
        ∃ last : Iv, (getReadBlocks s ops).refBlocks.getLast? = some last ∧
          r.info.internalPolyA = info.internalPolyA ∧ last.1 ≤ r.info.internalPolyA ∧
          r.info.internalPolyA ≤ referenceEnd s ops + max 1 (softClipTail ops)) ∧
      (0 < t → ∃ firstKept lastRemoved : Iv, r.exons.head? = some firstKept ∧
        (getReadBlocks s ops).refBlocks[t.toNat - 1]? = some lastRemoved ∧
        lastRemoved.2 < firstKept.1 ∧ s + 1 ≤ lastRemoved.1 ∧
        (∀ old new, (old = info.internalPolyT ∧ new = r.info.internalPolyT) ∨
            (old = info.externalPolyT ∧ new = r.info.externalPolyT) →
          (old = -1 → new = -1) ∧
          (old ≠ -1 → new ≤ firstKept.1 ∧
            firstKept.1 - (lastRemoved.2 - max 1 (s - max 1 (softClipHead ops))) ≤ new)) ∧
        (info.externalPolyT ≠ -1 → r.info.internalPolyT ≤ r.info.externalPolyT)) ∧
      (countPolytExons mf (getReadBlocks s ops).refBlocks info.internalPolyT = 0 → info.internalPolyT ≠ -1 →
        ∃ first : Iv, (getReadBlocks s ops).refBlocks.head? = some first ∧
          r.info.internalPolyT = info.internalPolyT ∧ r.info.internalPolyT ≤ first.2 ∧
          max 1 (s - max 1 (softClipHead ops)) ≤ r.info.internalPolyT) := by
  obtain ⟨hrA, hrT⟩ := detected_positions_in_range w num den s ops seq hp.nonneg info hdet
  exact record_tail_on_retained_exon_of_ranges s ops mf info hs hp hrA hrT hne

/-- non-vacuity: `60M 100N 20M 20S` at 1000, read = 62 C + 38 A (18 aligned A's form most of the second exon, 20 are
    soft-clipped): the finder reports internal 1162 / external 1178, the second exon is removed (`a = 1`), the
    internal position is recorded at 1061 = end of the retained exon + 1 (the one non-A base 1161 of the removed
    exon), the external one at 1061 as well (repaired code: cut down to the internal position; `addPolyaInfoOrigShift`: 1077) -/
example :
    let ops : List CigarOp := [(.«match», 60), (.skipped, 100), (.«match», 20), (.soft_clipping, 20)]
    let seq : List Char := List.replicate 62 'C' ++ List.replicate 38 'A'
    Pos ops ∧ detectPolya 16 3 4 1000 ops seq = some ⟨1178, -1, 1162, -1⟩ ∧
    (getReadBlocks 1000 ops).refBlocks = [(1001, 1060), (1161, 1180)] ∧
    correctReadInfo 40 (getReadBlocks 1000 ops).refBlocks ⟨1178, -1, 1162, -1⟩ = some (1, 0) ∧
    (addPolyaInfo 40 (getReadBlocks 1000 ops).refBlocks (getReadBlocks 1000 ops).readBlocks
      (getReadBlocks 1000 ops).cigarBlocks ⟨1178, -1, 1162, -1⟩).map (fun r => (r.exons, r.info))
      = some ([(1001, 1060)], ⟨1061, -1, 1061, -1⟩) := by
  refine ⟨?_, by decide, by decide, by decide, by decide⟩
  intro o ho; simp at ho; rcases ho with h | h | h | h <;> subst h <;> decide

end IsoVerif.Props.C16TailRecord
