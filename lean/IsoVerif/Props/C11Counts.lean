/-
C11 — translation equivariance of the exon / intron inclusion–exclusion counting (Model/FeatureCounts.lean, property
C13's model of `construct_exon_profile / construct_intron_profile`, `GeneInfo.set_feature_properties`,
`ProfileFeatureCounter.add_read_info_from_profile / dump`).

ALL inputs, all k.  The rows of exon_counts.tsv / intron_counts.tsv are keyed here by `coordKey` = `(chr, start, end)` with
merged descriptions (`ProfileFeatureCounter.feature_key`, `FeatureInfo.merge`; Model/C11SymCounts.lean): shifting the
annotation shifts the keys, the counts and the feature flags (`X/T/I`, `S`, `C`, `U/M`) do not change, and the counter fed
with the shifted property maps dumps the shifted rows in the same order.  The only hypothesis (profile constructors) is the
polyA / polyT sentinel one of `shift_equivariant_constructOverlapping`.
-/
import IsoVerif.Model.FeatureCounts
import IsoVerif.Model.C11SymCounts
import IsoVerif.Lemmas.C11Counts
import IsoVerif.Props.C11Profiles

namespace IsoVerif.Props.C11Counts
open IsoVerif.Gen IsoVerif.Model IsoVerif.Model.C11 IsoVerif.Model.C13 IsoVerif.Lemmas.C11

/-- `construct_exon_profile` of the shifted read against the shifted annotation: the same profile -/
theorem shift_equivariant_constructExonProfile (k : Int) (known : List Iv) (geneRegion : Iv) (delta : Int)
    (blocks : List Iv) (polya polyt : Int) (hA : polya ≠ -1 → polya + k ≠ -1) (hT : polyt ≠ -1 → polyt + k ≠ -1) :
    constructExonProfile (shiftL k known) (shiftIv k geneRegion) delta (shiftL k blocks) (shiftPos k polya) (shiftPos k polyt)
      = constructExonProfile known geneRegion delta blocks polya polyt := by
  simp only [constructExonProfile, shiftL_head?, shiftL_getLast?]
  cases blocks.head? with
  | none => rfl
  | some f =>
    cases blocks.getLast? with
    | none => rfl
    | some l =>
      simp only [Option.map_some]
      have e : (((shiftIv k f).2 + delta, (shiftIv k l).1 - delta) : Iv) = shiftIv k (f.2 + delta, l.1 - delta) := by
        simp only [shiftIv]; ext <;> simp <;> omega
      rw [e, IsoVerif.Props.C11Profiles.shift_equivariant_constructOverlapping k _ _
        (IsoVerif.Props.C11Profiles.shiftInv_equal_ranges k delta) (IsoVerif.Props.C11Profiles.shiftInv_contains k)
        known geneRegion delta blocks _ polya polyt hA hT]

/-- `construct_intron_profile` -/
theorem shift_equivariant_constructIntronProfile (k : Int) (known : List Iv) (geneRegion : Iv) (delta absDelta : Int)
    (blocks : List Iv) (polya polyt : Int) (hA : polya ≠ -1 → polya + k ≠ -1) (hT : polyt ≠ -1 → polyt + k ≠ -1) :
    constructIntronProfile (shiftL k known) (shiftIv k geneRegion) delta absDelta (shiftL k blocks)
        (shiftPos k polya) (shiftPos k polyt)
      = constructIntronProfile known geneRegion delta absDelta blocks polya polyt := by
  simp only [constructIntronProfile, shiftL_head?, shiftL_getLast?]
  cases blocks.head? with
  | none => rfl
  | some f =>
    cases blocks.getLast? with
    | none => rfl
    | some l =>
      simp only [Option.map_some]
      have e : (((shiftIv k f).1, (shiftIv k l).2) : Iv) = shiftIv k (f.1, l.2) := rfl
      rw [e, junctionsFromBlocks_shift, IsoVerif.Props.C11Profiles.shift_equivariant_constructOverlapping k _ _
        (IsoVerif.Props.C11Profiles.shiftInv_equal_ranges k delta)
        (IsoVerif.Props.C11Profiles.shiftInv_overlaps_at_least k absDelta)
        known geneRegion delta (junctionsFromBlocks blocks) _ polya polyt hA hT]

/-- the row key moves with the feature -/
theorem shift_equivariant_coordKey (k : Int) (f : FeatureInfo) : coordKey (shiftFI k f) = shiftKey k (coordKey f) := rfl

/-- the shift is injective on row keys: two features share a row after the shift iff they did before -/
theorem shiftKey_injective (k : Int) (a b : CoordKey) : shiftKey k a = shiftKey k b ↔ a = b := fc_shiftKey_inj k a b

/-- `GeneInfo.set_feature_properties` of the shifted annotation: the same ids, strands, flags and gene lists on the
    shifted coordinates -/
theorem shift_equivariant_setFeatureProperties (k : Int) (chr : String) (delta : Int) (features : List Iv)
    (isoforms : List IsoformFeatures) (nextId : Nat) :
    setFeatureProperties chr delta (shiftL k features) (isoforms.map (shiftIsoFeats k)) nextId =
      (setFeatureProperties chr delta features isoforms nextId).map (shiftFI k) := by
  simp only [setFeatureProperties]
  have hz : (shiftL k features).zipIdx = features.zipIdx.map (fun x => (shiftIv k x.1, x.2)) := by
    simp only [shiftL]; rw [List.zipIdx_map]; rfl
  rw [hz, List.map_map, List.map_map]
  congr 1
  funext x
  simp only [Function.comp, mkFeatureInfo, fc_featureEntries_shift, fc_featureType_shift]
  rfl

/-- one read: `add_read_info_from_profile` on the shifted counter with the shifted property map -/
theorem shift_equivariant_addReadInfoFromProfile (k : Int) (st : PCounter CoordKey) (prof : List Int)
    (pm : List FeatureInfo) (g : String) :
    addReadInfoFromProfile coordKey FeatureInfo.merge (shiftCounter k st) prof (pm.map (shiftFI k)) g =
      (addReadInfoFromProfile coordKey FeatureInfo.merge st prof pm g).map (shiftCounter k) :=
  fc_addReadInfoFromProfile_shift k st prof pm g

/-- **shift_equivariant_count_rows** — a whole history of reads: the counter fed with the shifted property maps dumps
    the shifted rows (same order, same groups, same include / exclude counts); an IndexError stays an IndexError -/
theorem shift_equivariant_count_rows (k : Int) (ig : Bool) (dg : String) (evs : List ReadEv) :
    (countAll coordKey FeatureInfo.merge ig dg (evs.map (shiftReadEv k))).map dumpRows =
      (countAll coordKey FeatureInfo.merge ig dg evs).map (fun st => (dumpRows st).map (shiftRow k)) := by
  have h := fc_runCounter_shift k ig dg evs (PCounter.init ig dg)
  have h0 : shiftCounter k (PCounter.init ig dg : PCounter CoordKey) = PCounter.init ig dg := rfl
  rw [h0] at h
  simp only [countAll, h, Option.map_map]
  congr 1
  funext st
  exact fc_dumpRows_shift k st

/-- non-vacuity: two reads on a two-exon gene, shifted by 1000 -/
example :
    let fi1 : FeatureInfo := ⟨1, "chr1", 100, 200, "+", "TU", ["G"]⟩
    let fi2 : FeatureInfo := ⟨2, "chr1", 300, 400, "+", "TU", ["G"]⟩
    let evs : List ReadEv := [⟨[1, -1], [fi1, fi2], "g"⟩, ⟨[1, 1], [fi1, fi2], "g"⟩]
    ((countAll coordKey FeatureInfo.merge false "NA" evs).map dumpRows).map (List.map (fun r => (r.fi.start, r.incl, r.excl)))
      = some [(100, 2, 0), (300, 1, 1)] ∧
    ((countAll coordKey FeatureInfo.merge false "NA" (evs.map (shiftReadEv 1000))).map dumpRows).map
        (List.map (fun r => (r.fi.start, r.incl, r.excl))) = some [(1100, 2, 0), (1300, 1, 1)] := by decide

end IsoVerif.Props.C11Counts
