/-
C09 — grouped tables partition the ungrouped ones; matrix and linear formats agree.
Counter side (src/long_read_counter.py `AssignedFeatureCounter`): theorems about `IsoVerif.Model.C09`
(`initCounter`, `run`, `dump`).  The `read_groups` set reaches the counter in *some* iteration order `π`
(a duplicate-free list); every theorem below holds for all `π`, all call streams, all strategies/formats.
Grouper side: Props/C09Groupers.lean; table loading: Props/C09Tables.lean.
-/
import IsoVerif.Model.C09
import IsoVerif.Lemmas.C09
import IsoVerif.Props.C09Groupers

namespace IsoVerif.Props.C09
open IsoVerif.Gen IsoVerif.Model.C09 IsoVerif.Lemmas.C09

/-- hash-seed independence of the counter: the iteration order of the `read_groups` set does not reach the state -/
theorem init_independent_of_iteration_order {π₁ π₂ : List String} (h : π₁.Perm π₂) (s : CountingStrategy)
    (af : List String) (oz : Bool) (fmt : GroupedOutputFormat) :
    initCounter false (some π₁) s af oz fmt = initCounter false (some π₂) s af oz fmt := by
  have he : π₁.isEmpty = π₂.isEmpty := by
    cases π₁ with
    | nil => rw [h.symm.eq_nil]
    | cons a t =>
      cases π₂ with
      | nil => exact absurd h.eq_nil (by simp)
      | cons b u => rfl
  simp [initCounter, he, sortStr_eq_of_perm h]

/-- **group_of_read** (counter): for every iteration order `π` of the group universe, every call stream the counter
    accepts, every feature `f` and every group `g` of the universe, the cell in the column labelled `g` is the sum of
    the values of exactly the calls whose read group is `g`. -/
theorem group_of_read {π : List String} (hne : π ≠ []) (hnd : π.Nodup) (s : CountingStrategy) (af : List String)
    (oz : Bool) (fmt : GroupedOutputFormat) (calls : List Call) (c : Counter)
    (h : run (initCounter false (some π) s af oz fmt) calls = .ok c) (f g : String) (hg : g ∈ π) :
    c.ordered[idOf c.ids g]? = some g ∧
    cell c.fc f (idOf c.ids g) = sumOver calls (fun x => if x.group = some g then callVal s x f else 0) := by
  obtain ⟨hig, hord, hids, hfc, hs, _, _, _⟩ := init_grouped hne s af oz fmt
  generalize initCounter false (some π) s af oz fmt = c0 at *
  obtain ⟨hcfg, hcell⟩ := run_spec h
  have hnd' : (sortStr π).Nodup := sortStr_nodup hnd
  obtain ⟨i, hli, hgi⟩ := IsoVerif.Lemmas.lookup_zipIdx_isSome hnd' (mem_sortStr.mpr hg)
  have hid : idOf c.ids g = i := by
    rw [hcfg.ids, hids]; simp [idOf, hli]
  rw [hid, hcfg.ordered, hord]
  refine ⟨hgi, ?_⟩
  rw [hcell f i, hfc, hs, hids]
  rw [cell_nil, Rat.zero_add]
  apply sumOver_congr
  intro x _
  simp only [gnameOf, hig, Bool.false_eq_true, if_false]
  have hiff := IsoVerif.Lemmas.lookup_zipIdx hnd' (x.group.getD NA) i
  cases hx : x.group with
  | some g' =>
    simp only [Option.getD] at hiff ⊢
    rw [hx] at hiff
    simp only at hiff
    by_cases hgg : g' = g
    · subst hgg; simp [hiff.mpr hgi]
    · have : ¬ (List.lookup g' (sortStr π).zipIdx = some i) := by
        intro hl
        have := hiff.mp hl
        rw [hgi] at this
        exact hgg (Option.some.inj this).symm
      simp [this, hgg]
  | none => simp [callVal_of_group_none s f hx]

/-- the ungrouped counter: its single column holds all reads -/
theorem ungrouped_cell (s : CountingStrategy) (af : List String) (oz : Bool) (fmt : GroupedOutputFormat)
    (calls : List Call) (c : Counter) (h : run (initCounter false none s af oz fmt) calls = .ok c) (f : String) :
    cell c.fc f 0 = sumOver calls (fun x => callVal s x f) := by
  obtain ⟨hig, hord, hids, hfc, hs, _, _, _⟩ := init_ungrouped s af oz fmt
  generalize initCounter false none s af oz fmt = c0 at *
  obtain ⟨hcfg, hcell⟩ := run_spec h
  rw [hcell f 0, hfc, hs, hids]
  rw [cell_nil, Rat.zero_add]
  apply sumOver_congr
  intro x _
  simp [gnameOf, hig, List.lookup]

/-- **partition** (cells): feed the same call stream to a grouped counter (universe `π`, any iteration order) and to an
    ungrouped one; if both accept it, then for every feature the cells of all groups sum to the ungrouped cell. -/
theorem partition {π : List String} (hne : π ≠ []) (hnd : π.Nodup) (s : CountingStrategy) (af : List String)
    (oz ozU : Bool) (fmt fmtU : GroupedOutputFormat) (calls : List Call) (cG cU : Counter)
    (hG : run (initCounter false (some π) s af oz fmt) calls = .ok cG)
    (hU : run (initCounter false none s af ozU fmtU) calls = .ok cU) (f : String) :
    sumOver cG.ordered (fun g => cell cG.fc f (idOf cG.ids g)) = cell cU.fc f 0 := by
  rw [ungrouped_cell s af ozU fmtU calls cU hU f]
  obtain ⟨hig, hord, hids, hfc, hs, _, _, _⟩ := init_grouped hne s af oz fmt
  have hnd' : (sortStr π).Nodup := sortStr_nodup hnd
  rw [show cG.ordered = sortStr π by rw [(run_spec hG).1.ordered, hord]]
  refine sumOver_partition _ hnd' calls (fun x => x.group.getD NA) _ _ (fun g hg => ?_) (fun x hx hv => ?_)
  · rw [(group_of_read hne hnd s af oz fmt calls cG hG f g (mem_sortStr.mp hg)).2]
    apply sumOver_congr
    intro x _
    cases hx : x.group with
    | none => simp [callVal_of_group_none s f hx]
    | some g' => simp
  · obtain ⟨k, hk⟩ := run_contributing_known hG x hx f (by rw [hs]; exact hv)
    rw [hids] at hk
    simp only [gnameOf, hig, Bool.false_eq_true, if_false] at hk
    exact List.mem_of_getElem? ((IsoVerif.Lemmas.lookup_zipIdx hnd' _ k).mp hk)

/-- the grouped counter raises nothing the ungrouped counter does not raise, as long as every read group is in the
    universe it was built with (which is the case when every grouper adds what it returns, see C09Groupers) -/
theorem no_abort {π : List String} (hne : π ≠ []) (hnd : π.Nodup) (s : CountingStrategy) (af : List String)
    (oz ozU : Bool) (fmt fmtU : GroupedOutputFormat) (calls : List Call) (cU : Counter)
    (hU : run (initCounter false none s af ozU fmtU) calls = .ok cU)
    (hgroups : ∀ x ∈ calls, ∀ g, x.group = some g → g ∈ π) :
    ∃ cG, run (initCounter false (some π) s af oz fmt) calls = .ok cG := by
  obtain ⟨hig, hord, hids, hfc, hs, _, _, _⟩ := init_grouped hne s af oz fmt
  have hsU := (init_ungrouped s af ozU fmtU).strategy
  apply (run_ok_iff _ calls).mpr
  intro x hx
  obtain ⟨e, he, _⟩ := (run_ok_iff _ calls).mp ⟨cU, hU⟩ x hx
  rw [hsU] at he
  refine ⟨e, by rw [hs]; exact he, ?_⟩
  intro hn
  rw [hids]
  simp only [gnameOf, hig, Bool.false_eq_true, if_false]
  cases hg : x.group with
  | none =>
    cases x with
    | confirmFeatures fs => simp [callEffect] at he; subst he; simp [Effect.none] at hn
    | info r => simp [Call.group] at hg
    | raw r => simp [Call.group] at hg
  | some g =>
    obtain ⟨i, hi, _⟩ := IsoVerif.Lemmas.lookup_zipIdx_isSome (sortStr_nodup hnd) (mem_sortStr.mpr (hgroups x hx g hg))
    exact ⟨i, by simpa [Option.getD] using hi⟩

-- non-vacuity of `group_of_read` / `partition` / `no_abort`: a concrete stream over three groups (given in an
-- unsorted iteration order) is accepted; the NA column holds the half read
example : (match run (initCounter false (some ["b", "NA", "a"]) .with_ambiguous [] true .both)
    [.raw ⟨true, ["T1"], "a"⟩, .raw ⟨true, ["T1", "T2"], "NA"⟩, .confirmFeatures ["T1"]] with
    | .ok c => decide (cell c.fc "T1" (idOf c.ids "NA") = 1 / 2 ∧ c.ordered = ["NA", "a", "b"] ∧
                       cell c.fc "T1" (idOf c.ids "a") = 1)
    | .error _ => false) = true := by decide +kernel

/-- **matrix_linear_agree**: for every iteration order `π` of the group universe, every strategy / format / zero
    setting and every call stream the counter accepts, `dump()` succeeds and, whenever both renderings are written,
    they contain identical non-zero (feature, group, value) triples; with `--counts_format both` both are written. -/
theorem matrix_linear_agree {π : List String} (hne : π ≠ []) (hnd : π.Nodup) (s : CountingStrategy) (af : List String)
    (oz : Bool) (fmt : GroupedOutputFormat) (calls : List Call) (c : Counter)
    (h : run (initCounter false (some π) s af oz fmt) calls = .ok c) :
    ∃ d, dump c = .ok d ∧ d.header = sortStr π ∧
      (∀ rows lins, d.matrix = some rows → d.linear = some lins → Agree d.header rows lins) ∧
      (fmt = GroupedOutputFormat.both → d.matrix.isSome ∧ d.linear.isSome) := by
  obtain ⟨hinv, hig, hord, _, _, _, hfmt⟩ := run_grouped hne hnd h
  obtain ⟨rows, lins, hd, hagree, _⟩ := dump_grouped_spec c hinv hig
  refine ⟨_, hd, hord, fun rows' lins' h1 h2 => ?_, fun hb => ?_⟩
  · simp only at h1 h2
    split at h1 <;> split at h2 <;> simp at h1 h2
    subst h1; subst h2
    exact hagree
  · have h1 : GroupedOutputFormat.both.output_matrix = true := by decide
    have h2 : GroupedOutputFormat.both.output_linear = true := by decide
    simp [hfmt, hb, h1, h2]

/-- **the per-chromosome tables can be concatenated**: the counters of different chromosomes (different worker
    processes, hence possibly different iteration orders of the same universe) print the same header, so the rows of
    `merge_counts` line up under the header of the first file -/
theorem chromosome_headers_agree {π₁ π₂ : List String} (hperm : π₁.Perm π₂) (hne : π₁ ≠ []) (hnd : π₁.Nodup)
    (s : CountingStrategy) (af₁ af₂ : List String) (oz : Bool) (fmt : GroupedOutputFormat) (calls₁ calls₂ : List Call)
    (c₁ c₂ : Counter)
    (h₁ : run (initCounter false (some π₁) s af₁ oz fmt) calls₁ = .ok c₁)
    (h₂ : run (initCounter false (some π₂) s af₂ oz fmt) calls₂ = .ok c₂) :
    ∃ d₁ d₂, dump c₁ = .ok d₁ ∧ dump c₂ = .ok d₂ ∧ d₁.header = d₂.header := by
  have hne₂ : π₂ ≠ [] := fun e => hne (by rw [e] at hperm; exact hperm.eq_nil)
  have hnd₂ : π₂.Nodup := hperm.nodup_iff.mp hnd
  obtain ⟨d₁, hd₁, hh₁, _⟩ := matrix_linear_agree hne hnd s af₁ oz fmt calls₁ c₁ h₁
  obtain ⟨d₂, hd₂, hh₂, _⟩ := matrix_linear_agree hne₂ hnd₂ s af₂ oz fmt calls₂ c₂ h₂
  exact ⟨d₁, d₂, hd₁, hd₂, by rw [hh₁, hh₂, sortStr_eq_of_perm hperm]⟩

/-- **partition** (dumped tables): the same call stream counted by a grouped counter (universe `π` in any iteration
    order) and by an ungrouped one, both dumped with the same `output_zeroes` setting: `dump()` succeeds for both, the
    two tables list the same features, and every grouped row sums to the ungrouped value (after the zeroing of
    unconfirmed features, which is the same in both because the confirmed sets coincide). -/
theorem partition_dump {π : List String} (hne : π ≠ []) (hnd : π.Nodup) (s : CountingStrategy) (af : List String)
    (oz : Bool) (fmt fmtU : GroupedOutputFormat) (calls : List Call) (cG cU : Counter)
    (hG : run (initCounter false (some π) s af oz fmt) calls = .ok cG)
    (hU : run (initCounter false none s af oz fmtU) calls = .ok cU) :
    ∃ dG dU rowsU, dump cG = .ok dG ∧ dump cU = .ok dU ∧ dU.matrix = some rowsU ∧
      ∀ rowsG, dG.matrix = some rowsG →
        (∀ f row, (f, row) ∈ rowsG → (f, [sumList row]) ∈ rowsU) ∧
        (∀ f v, (f, [v]) ∈ rowsU → ∃ row, (f, row) ∈ rowsG ∧ sumList row = v) := by
  obtain ⟨hinvG, higG, _, _, hsG, hozG, _⟩ := run_grouped hne hnd hG
  obtain ⟨higU, _, hidsU, _, _, hozU, _, _⟩ := init_ungrouped s af oz fmtU
  have hcfgU := (run_spec hU).1
  obtain ⟨hAF, hCF⟩ := run_sets_init hne hG hU
  obtain ⟨rowsG, lins, hdG, _, hmG⟩ := dump_grouped_spec cG hinvG higG
  obtain ⟨rowsU, hdU, hmU⟩ := dump_ungrouped_spec cU (hcfgU.ignoreGroups.trans higU) (hcfgU.ids.trans hidsU)
  replace hozU := hcfgU.outputZeroes.trans hozU
  -- a grouped row sums to the ungrouped value: the cells do (`partition`), and both are zeroed alike
  have hsum : ∀ f, sumList (cG.ordered.map (fun g => zcell cG f (idOf cG.ids g))) = zcell cU f 0 := by
    intro f
    rw [sumList_map]
    unfold zcell
    rw [← hCF]
    by_cases hc : f ∈ cG.confirmed
    · simp only [hc, if_true]; exact partition hne hnd s af oz oz fmt fmtU calls cG cU hG hU f
    · simp only [hc, if_false]; exact sumOver_zero _
  refine ⟨_, _, rowsU, hdG, hdU, rfl, fun rows' hr' => ?_⟩
  simp only at hr'
  split at hr'
  · obtain rfl := Option.some.inj hr'
    constructor
    · intro f row hfr
      obtain ⟨hf, rfl, hz⟩ := (hmG f row).mp hfr
      rw [hsum f] at hz ⊢
      exact (hmU f _).mpr ⟨hAF ▸ hf, rfl, by rw [hozU, ← hozG]; exact hz⟩
    · intro f v hfv
      obtain ⟨hf, rfl, hz⟩ := (hmU f v).mp hfv
      exact ⟨_, (hmG f _).mpr ⟨hAF ▸ hf, rfl, by rw [hsum f, hozG, ← hozU]; exact hz⟩, hsum f⟩
  · cases hr'

/-- **a read that cannot be grouped never aborts the run** (whole flow): a validly configured grouper is run over the
    alignments of every chromosome; the counters are built with the union of the recorded `read_groups` sets in any
    iteration order `π`; every call carries the group the grouper returned for some read.  Then the grouped counter
    accepts every call stream the ungrouped counter accepts — no `KeyError`, whichever reads lack a tag / delimiter /
    table row / file name. -/
theorem pipeline_no_abort (g : Grouper) (hv : C09Groupers.ValidGrouper g) (chrAlns : List (List Aln))
    (results : List (List (Option String) × List String))
    (hres : chrAlns.map (fun alns => runGrouper g alns g.initGroups) = results.map Except.ok)
    (π : List String) (hπ : π.Perm (groupUniverse (results.map Prod.snd))) (hne : π ≠ [])
    (s : CountingStrategy) (af : List String) (oz ozU : Bool) (fmt fmtU : GroupedOutputFormat) (calls : List Call)
    (hcalls : ∀ x ∈ calls, ∀ grp, x.group = some grp → ∃ res ∈ results, some grp ∈ res.1)
    (cU : Counter) (hU : run (initCounter false none s af ozU fmtU) calls = .ok cU) :
    ∃ cG, run (initCounter false (some π) s af oz fmt) calls = .ok cG := by
  obtain ⟨results', hres', hin⟩ := C09Groupers.group_of_every_read_in_universe g hv chrAlns
  have heq : results' = results := map_ok_injective _ _ (by rw [← hres', hres])
  subst heq
  have hnd : π.Nodup := hπ.nodup_iff.mpr (C09Groupers.groupUniverse_nodup _)
  apply no_abort hne hnd s af oz ozU fmt fmtU calls cU hU
  intro x hx grp hg
  obtain ⟨res, hr, hmem⟩ := hcalls x hx grp hg
  obtain ⟨y, hy, hyU⟩ := hin res hr (some grp) hmem
  injection hy with hy
  rw [hy]
  exact hπ.mem_iff.mpr hyU

/-! ### the tree before fix b707b14 (`enumerate(read_groups)` over the unsorted set) -/

/-- with the old numbering and the iteration order `["b", "a"]`, one read of group `a` is printed under `a` in the
    matrix and under `b` in the linear table: the two renderings disagree -/
theorem matrix_linear_agree_buggy_witness :
    (match run (initCounter true (some ["b", "a"]) .unique_only [] true .both)
        [.raw ⟨true, ["T1"], "a"⟩, .confirmFeatures ["T1"]] with
     | .ok c =>
       (match dump c with
        | .ok d => decide (d.header = ["a", "b"] ∧ d.matrix = some [("T1", [1, 0])] ∧ d.linear = some [("T1", "b", 1)])
        | .error _ => false)
     | .error _ => false) = true ∧
    ¬ Agree ["a", "b"] [("T1", [1, 0])] [("T1", "b", 1)] := by
  refine ⟨by decide +kernel, ?_⟩
  intro h
  have := (h "T1" "b" 1 (by decide)).mp (by simp)
  rw [mem_matrixTriples] at this
  obtain ⟨row, hrow, hz⟩ := this
  simp at hrow
  subst hrow
  simp at hz

/-- ... and the linear table depends on the iteration order of the set (i.e. on PYTHONHASHSEED): the same read of
    group `a` is labelled `a` under the order `["a", "b"]` -/
theorem iteration_order_buggy_witness :
    (match run (initCounter true (some ["a", "b"]) .unique_only [] true .both)
        [.raw ⟨true, ["T1"], "a"⟩, .confirmFeatures ["T1"]] with
     | .ok c =>
       (match dump c with
        | .ok d => decide (d.linear = some [("T1", "a", 1)])
        | .error _ => false)
     | .error _ => false) = true := by decide +kernel

-- the same stream on the fixed numbering, in both iteration orders: matrix and linear agree
example :
    (match run (initCounter false (some ["b", "a"]) .unique_only [] true .both)
        [.raw ⟨true, ["T1"], "a"⟩, .confirmFeatures ["T1"]] with
     | .ok c =>
       (match dump c with
        | .ok d => decide (d.header = ["a", "b"] ∧ d.matrix = some [("T1", [1, 0])] ∧ d.linear = some [("T1", "a", 1)])
        | .error _ => false)
     | .error _ => false) = true := by decide +kernel

/-! ### the grouped TPM table keeps the group labels (`convert_counts_to_tpm` header) -/

/-- for a grouped counter the TPM table has exactly the columns of the count table, whatever the group names are -/
theorem tpm_header_labels (header : List String) : tpmHeader false false header = header := by
  simp [tpmHeader]

/-- the ungrouped table still renames its value column -/
theorem tpm_header_ungrouped : tpmHeader false true ["count"] = ["TPM"] := by decide +kernel

/-- before fix fea027c the header line went through `replace("count", "TPM")`: the group `count_A` lost its name -/
theorem tpm_header_buggy_witness : tpmHeader true false ["B", "count_A"] = ["B", "TPM_A"] := by decide +kernel

end IsoVerif.Props.C09
