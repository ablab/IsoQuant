/-
C18 — "the Canonical attribute of a transcript model ..." as it is PRINTED: the transcript line of the output GTFs is
`gene_id; transcript_id;` + the model's own `additional_info` + the attributes `GeneInfo.set_gene_attributes` copies from
the reference transcript with the same id.  When the reference is itself an IsoQuant annotation written with
`--check_canonical`, the reference transcript carries a `Canonical` attribute (possibly stale: other assembly, older
version).  The property needs the printed line to carry exactly ONE `Canonical` attribute, the recomputed one.

The skip list is the GENERATED table `TRANSCRIPT_ATTR_SKIP` (IsoVerif/Gen/GeneAttributes.lean, re-extracted from
src/gene_info.py on every run); the behaviour before `Canonical` entered it is kept as `transcriptSkipOrig` with
`canonical_attr_orig_witness`.
-/
import IsoVerif.Props.C18
import IsoVerif.Lemmas.CanonicalAttr

namespace IsoVerif.Props.C18Attr
open IsoVerif.Gen IsoVerif.Model IsoVerif.Model.C18 IsoVerif.Lemmas.C18 IsoVerif.Props.C18

/-- the transcript-level skip list of `set_gene_attributes` is the literal list below: the ids, `level`, and the two
    attributes the printer writes itself, `exons` and `Canonical` -/
theorem skip_tables_literal :
    TRANSCRIPT_ATTR_SKIP = ["transcript_id", "gene_id", "ID", "level", "exons", "Canonical", "Parent"] ∧
    CANONICAL_KEY = "Canonical" ∧ EXONS_KEY = "exons" := by
  decide +kernel

/-- every key the printer writes itself on a transcript line is in the skip list -/
theorem printer_keys_skipped :
    ∀ k ∈ ["gene_id", "transcript_id", CANONICAL_KEY, EXONS_KEY], TRANSCRIPT_ATTR_SKIP.contains k = true := by
  decide +kernel

/-- declarative reading of the copy loop (no restatement of the loop): an item `k "v";` is appended to the transcript
    line iff `k` is not in the skip list and `v` is the FIRST value the reference transcript has for `k` -/
theorem copied_attrs_spec (skip : List String) (ref : RefAttrs) (k v : String) :
    (k, v) ∈ copyLoop skip ref ↔ skip.contains k = false ∧ ∃ vs, (k, v :: vs) ∈ ref :=
  copyLoop_mem skip ref k v

/-- **canonical_attr_unique** (full strength): with `--check_canonical`, for every reachable memo state (any models /
    reads processed before), every model whose `additional_info` does not yet hold the key (a known model — its
    `additional_info` is a fresh `OrderedDict` in both passes — or a novel model of the per-locus pass, with or without
    `similar_reference_id` / `alternatives`) and EVERY reference attribute list (none, one or several `Canonical` values,
    whatever they say), the printed transcript line carries exactly one `Canonical` attribute and its value is the pure
    flag of the model's exons and strand. -/
theorem canonical_attr_unique {g : GeneRef} {σ : CanonMemo} (h : Reachable g σ) (m : PModel) (ref : Option RefAttrs)
    (href : g.refRegion ≠ []) (hfresh : checkAdditional m.info CANONICAL_KEY = false) :
    attrValues (printTranscriptLine TRANSCRIPT_ATTR_SKIP true g m ref σ).1 CANONICAL_KEY = [pureFlag g m.exons m.strand] ∧
    Reachable g (printTranscriptLine TRANSCRIPT_ATTR_SKIP true g m ref σ).2 := by
  have he : g.refRegion.isEmpty = false := by
    cases hg : g.refRegion with
    | nil => exact absurd hg href
    | cons _ _ => rfl
  have hline : ∀ m' : PModel, attrValues (transcriptLineAttrs TRANSCRIPT_ATTR_SKIP m' ref) CANONICAL_KEY
      = attrValues m'.info CANONICAL_KEY :=
    fun m' => line_values_of_skipped_key _ m' ref CANONICAL_KEY (by decide) (by decide) (by decide) (by decide)
  have hset : ∀ v, attrValues (setAttr m.info CANONICAL_KEY v) CANONICAL_KEY = [v] := by
    intro v
    rw [setAttr_fresh hfresh, attrValues_append, attrValues_nil_of_check hfresh, attrValues_cons_eq]
    simp [attrValues]
  unfold printTranscriptLine addCanonicalInfoForModelP pureFlag
  simp only [he, hfresh, Bool.false_eq_true, if_false, if_true]
  by_cases hj : junctionsFromBlocks m.exons = []
  · simp only [hj, List.length_nil, if_true]
    exact ⟨by rw [hline, hset], h⟩
  · have hl : ¬ (junctionsFromBlocks m.exons).length = 0 := by
      intro h0; exact hj (List.eq_nil_of_length_eq_zero h0)
    simp only [hl, hj, if_false]
    exact ⟨by rw [hline, hset, canonical_pure h], Reachable.query σ _ _ h⟩

/-- the same against the FASTA: when the gene info holds a window of the chromosome (per-locus pass: the read cluster /
    the widened gene span; extended-annotation pass: the whole chromosome) that contains the model's introns, the single
    printed value is the flag of a look-up on the whole chromosome — wherever the window ends -/
theorem canonical_attr_unique_chromosome (chr : Seq) (start end_ : Int) {σ : CanonMemo}
    (h : Reachable (setReferenceSequence chr start end_).1 σ) (m : PModel) (ref : Option RefAttrs)
    (hs : 1 ≤ start) (href : (setReferenceSequence chr start end_).1.refRegion ≠ [])
    (hfresh : checkAdditional m.info CANONICAL_KEY = false)
    (hin : ∀ it ∈ junctionsFromBlocks m.exons, start ≤ it.1 ∧ it.1 + 1 ≤ end_ ∧ start < it.2 ∧ it.2 ≤ end_) :
    attrValues (printTranscriptLine TRANSCRIPT_ATTR_SKIP true (setReferenceSequence chr start end_).1 m ref σ).1 CANONICAL_KEY
      = [pureFlag ⟨chr, 1⟩ m.exons m.strand] := by
  rw [(canonical_attr_unique h m ref href hfresh).1]
  unfold pureFlag
  rw [(flag_independent_of_region chr start end_ (junctionsFromBlocks m.exons) m.strand hs hin).1]

/-- a model that already carries the attribute once (`OrderedDict`: a key occurs once) — a novel model in the
    extended-annotation pass, dumped once already by the per-locus pass — is printed with exactly that one, with or
    without `--check_canonical`, whatever the reference says -/
theorem canonical_attr_kept (check : Bool) (g : GeneRef) (σ : CanonMemo) (m : PModel) (ref : Option RefAttrs) (v : String)
    (hv : attrValues m.info CANONICAL_KEY = [v]) :
    attrValues (printTranscriptLine TRANSCRIPT_ATTR_SKIP check g m ref σ).1 CANONICAL_KEY = [v] ∧
    (printTranscriptLine TRANSCRIPT_ATTR_SKIP check g m ref σ).2 = σ := by
  have hc : checkAdditional m.info CANONICAL_KEY = true := check_of_attrValues (by rw [hv]; simp)
  have hline := line_values_of_skipped_key TRANSCRIPT_ATTR_SKIP m ref CANONICAL_KEY (by decide) (by decide) (by decide) (by decide)
  unfold printTranscriptLine addCanonicalInfoForModelP
  cases check with
  | false => exact ⟨by simp only [Bool.false_eq_true, if_false]; rw [hline, hv], by simp⟩
  | true =>
    simp only [hc, if_true]
    split <;> exact ⟨by rw [hline, hv], rfl⟩

/-- without `--check_canonical` (or for a locus without reference window) a model that does not carry the attribute is
    printed WITHOUT any `Canonical` attribute: a value of the reference is never passed through unchecked -/
theorem canonical_attr_absent_unchecked (check : Bool) (g : GeneRef) (σ : CanonMemo) (m : PModel) (ref : Option RefAttrs)
    (hfresh : checkAdditional m.info CANONICAL_KEY = false) (hoff : check = false ∨ g.refRegion = []) :
    attrValues (printTranscriptLine TRANSCRIPT_ATTR_SKIP check g m ref σ).1 CANONICAL_KEY = [] := by
  have hline := line_values_of_skipped_key TRANSCRIPT_ATTR_SKIP m ref CANONICAL_KEY (by decide) (by decide) (by decide) (by decide)
  unfold printTranscriptLine addCanonicalInfoForModelP
  rcases hoff with rfl | hg
  · simp only [Bool.false_eq_true, if_false]
    rw [hline, attrValues_nil_of_check hfresh]
  · cases check with
    | false => simp only [Bool.false_eq_true, if_false]; rw [hline, attrValues_nil_of_check hfresh]
    | true => simp only [hg, List.isEmpty_nil, if_true]; rw [hline, attrValues_nil_of_check hfresh]

/-- a whole storage (`add_canonical_info` then `dump`): every line of a storage of fresh models carries exactly its own
    pure flag — independent of the other models of the storage, of their order and of their reference attributes -/
theorem storage_canonical_attr_unique (g : GeneRef) (href : g.refRegion ≠ []) :
    ∀ (ms : List (PModel × Option RefAttrs)) (σ : CanonMemo), Reachable g σ →
      (∀ m ∈ ms, checkAdditional m.1.info CANONICAL_KEY = false) →
      (printStorage TRANSCRIPT_ATTR_SKIP true g ms σ).1.map (attrValues · CANONICAL_KEY)
        = ms.map (fun m => [pureFlag g m.1.exons m.1.strand]) ∧
      Reachable g (printStorage TRANSCRIPT_ATTR_SKIP true g ms σ).2 := by
  intro ms
  induction ms with
  | nil => intro σ h _; exact ⟨rfl, h⟩
  | cons m rest ih =>
    intro σ h hf
    have hm := canonical_attr_unique h m.1 m.2 href (hf m (by simp))
    have := ih _ hm.2 (fun m' hm' => hf m' (by simp [hm']))
    simp only [printStorage, List.map_cons]
    exact ⟨by rw [hm.1, this.1], this.2⟩

/-- the `exons` attribute likewise: exactly one, the number of exon blocks of the model, whatever the reference says -/
theorem exons_attr_unique (check : Bool) (g : GeneRef) (σ : CanonMemo) (m : PModel) (ref : Option RefAttrs)
    (hfresh : checkAdditional m.info EXONS_KEY = false) :
    attrValues (printTranscriptLine TRANSCRIPT_ATTR_SKIP check g m ref σ).1 EXONS_KEY = [toString m.exons.length] := by
  have key : ∀ m' : PModel, checkAdditional m'.info EXONS_KEY = false →
      attrValues (transcriptLineAttrs TRANSCRIPT_ATTR_SKIP m' ref) EXONS_KEY = [toString m'.exons.length] := by
    intro m' hf
    have hcop : ∀ r, attrValues (copyLoop TRANSCRIPT_ATTR_SKIP r) EXONS_KEY = [] :=
      fun r => attrValues_copyLoop_skipped _ r _ (by decide)
    have hg1 : ("gene_id", m'.geneId).1 ≠ EXONS_KEY := show "gene_id" ≠ EXONS_KEY by decide
    have hg2 : ("transcript_id", m'.transcriptId).1 ≠ EXONS_KEY := show "transcript_id" ≠ EXONS_KEY by decide
    cases ref with
    | none =>
      simp only [transcriptLineAttrs, hf, Bool.false_eq_true, if_false, List.append_nil]
      rw [attrValues_append, attrValues_cons_ne _ _ _ hg1, attrValues_cons_ne _ _ _ hg2,
        setAttr_fresh hf, attrValues_append, attrValues_nil_of_check hf, attrValues_cons_eq]
      simp [attrValues]
    | some r =>
      simp only [transcriptLineAttrs, hf, Bool.false_eq_true, if_false]
      rw [attrValues_append, attrValues_append, attrValues_cons_ne _ _ _ hg1, attrValues_cons_ne _ _ _ hg2,
        setAttr_fresh hf, attrValues_append, attrValues_nil_of_check hf, attrValues_cons_eq, hcop]
      simp [attrValues]
  have hother : ∀ v, checkAdditional (setAttr m.info CANONICAL_KEY v) EXONS_KEY = false := by
    intro v
    cases hc : checkAdditional (setAttr m.info CANONICAL_KEY v) EXONS_KEY with
    | false => rfl
    | true =>
      have h1 := attrValues_setAttr_other m.info CANONICAL_KEY v EXONS_KEY (by decide)
      rw [attrValues_nil_of_check hfresh] at h1
      have : attrValues (setAttr m.info CANONICAL_KEY v) EXONS_KEY ≠ [] := by
        unfold checkAdditional at hc
        rw [List.any_eq_true] at hc
        obtain ⟨e, he, hk⟩ := hc
        unfold attrValues
        intro hnil
        rw [List.map_eq_nil_iff, List.filter_eq_nil_iff] at hnil
        exact hnil e he hk
      exact absurd h1 this
  unfold printTranscriptLine addCanonicalInfoForModelP
  cases check with
  | false => simp only [Bool.false_eq_true, if_false]; exact key m hfresh
  | true =>
    simp only [if_true]
    split
    · exact key m hfresh
    · split
      · exact key m hfresh
      · split
        · exact key _ (hother _)
        · exact key _ (hother _)

/-! ### the behaviour before `Canonical` entered the skip list -/

/-- reference transcript `T` (1-4, 15-18 on `AAAAGTCCCCCCAGTTTT`, intron (5,14) GT..AG, strand +) as an earlier
    `--check_canonical` run wrote it, its flag falsified -/
def exRef : RefAttrs := [("gene_id", ["G"]), ("transcript_id", ["T"]), ("Canonical", ["False"]), ("exons", ["2"])]
def exModel : PModel := { geneId := "G", transcriptId := "T", exons := [(1, 4), (15, 18)], strand := .plus, info := [] }

/-- **canonical_attr_orig_witness** (the defect; replayed on the real `set_gene_attributes` / `GFFPrinter.dump` by the
    oracle, `WITNESSES`): with the skip list that lacks `Canonical` the line is
    `... Canonical "True"; exons "2"; Canonical "False";` — two attributes that contradict each other, the last one
    stale; with the generated list it carries the recomputed one only -/
theorem canonical_attr_orig_witness :
    (printTranscriptLine transcriptSkipOrig true ⟨witnessSeq, 1⟩ exModel (some exRef) []).1 =
      [("gene_id", "G"), ("transcript_id", "T"), ("Canonical", "True"), ("exons", "2"), ("Canonical", "False")] ∧
    attrValues (printTranscriptLine transcriptSkipOrig true ⟨witnessSeq, 1⟩ exModel (some exRef) []).1 CANONICAL_KEY
      = ["True", "False"] ∧
    (printTranscriptLine TRANSCRIPT_ATTR_SKIP true ⟨witnessSeq, 1⟩ exModel (some exRef) []).1 =
      [("gene_id", "G"), ("transcript_id", "T"), ("Canonical", "True"), ("exons", "2")] := by
  rw [witnessSeq_eq]; decide +kernel

-- the hypotheses of `canonical_attr_unique` on the concrete line: reachable non-empty memo, region, fresh model, a
-- reference with a (false) Canonical value; the conclusion is the non-trivial value "True"
example : Reachable ⟨witnessSeq, 1⟩ (checkSites ⟨witnessSeq, 1⟩ [(5, 14)] .minus []).2 ∧
    (⟨witnessSeq, 1⟩ : GeneRef).refRegion ≠ [] ∧ checkAdditional exModel.info CANONICAL_KEY = false ∧
    pureFlag ⟨witnessSeq, 1⟩ exModel.exons exModel.strand = "True" ∧
    attrValues (copyLoop transcriptSkipOrig exRef) CANONICAL_KEY = ["False"] :=
  ⟨Reachable.query [] _ _ Reachable.fresh, by rw [witnessSeq_eq]; decide +kernel⟩

-- a novel model with model-constructor attributes is fresh as well; one that was dumped before meets `canonical_attr_kept`
example : checkAdditional [("similar_reference_id", "T"), ("alternatives", "x")] CANONICAL_KEY = false ∧
    attrValues [("similar_reference_id", "T"), ("Canonical", "False"), ("exons", "2")] CANONICAL_KEY = ["False"] := by
  decide +kernel

-- the window form: window 3..1000 of the 18-base contig
example : (1 : Int) ≤ 3 ∧ (setReferenceSequence witnessSeq 3 1000).1.refRegion ≠ [] ∧
    (∀ it ∈ junctionsFromBlocks exModel.exons, (3 : Int) ≤ it.1 ∧ it.1 + 1 ≤ 1000 ∧ 3 < it.2 ∧ it.2 ≤ 1000) := by
  rw [witnessSeq_eq]; decide +kernel

end IsoVerif.Props.C18Attr
