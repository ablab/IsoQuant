/-
C19 — the two-pointer sweeps `read_coverage_fraction`, `jaccard_similarity`, `merge_ranges` as REGENERATED FROM THE SOURCE on every run (`Gen/Loops.lean`, written by `harness/translate.py`).
Part 1: refinement `Gen.f args = Model.f args` for ALL inputs (no sortedness / well-formedness; error cases included; the
emitted fuel bounds suffice).  Part 2: the C19 theorems about the hand model restated over the generated definitions.
An edit of the Python loop re-generates `Gen.f` and re-opens these proofs.  Overview: Props/C19Gen.lean.
-/
import IsoVerif.Props.C19Lists
import IsoVerif.Lemmas.GenSweeps
import IsoVerif.Props.C19GenSums

namespace IsoVerif.Props.C19Gen
open IsoVerif.Gen IsoVerif.Model IsoVerif.Lemmas IsoVerif.Lemmas.GenLoops

/-! ## Part 1 — refinement: generated definition = hand model, for all inputs -/

/-- `read_coverage_fraction`: two-pointer `while` with fuel `len₁ + len₂ + 1` = the model's sweep; the result is the
    exact fraction, `none` = ZeroDivisionError -/
theorem read_coverage_fraction_refines (read iso : List Iv) :
    Gen.read_coverage_fraction read iso = readCoverageFraction read iso := by
  unfold read_coverage_fraction readCoverageFraction
  have := coverage_loop read iso (read_coverage_fraction.fuel1 read iso) 0 0 0 (by simp [read_coverage_fraction.fuel1])
  simp only [Int.natCast_zero, List.drop_zero, Int.zero_add] at this
  simp only [this, pyDivF]

/-- `jaccard_similarity`: main loop + the two tail loops, with the Python lists `included1/2` (set by index) shown to
    carry exactly the model's two Boolean flags (`GenLoops.IncInv`); `none` = either `assert` fails -/
theorem jaccard_similarity_refines (l1 l2 : List Iv) :
    Gen.jaccard_similarity l1 l2 = jaccardSweep l1 l2 := by
  unfold jaccard_similarity jaccardSweep
  have := jaccard_main l1 l2 (jaccard_similarity.fuel1 l1 l2) 0 0 0 0
    (List.replicate l1.length 0) (List.replicate l2.length 0) false false (IncInv.init _) (IncInv.init _)
    (by simp [jaccard_similarity.fuel1])
  simp only [Int.natCast_zero, List.drop_zero] at this
  simp only [pyLen, Int.toNat_natCast, this]
  cases jaccardLoop l1 false l2 false with
  | none => rfl
  | some p => simp [jcont, jfin]

/-- `merge_ranges`: as above, and the Python list `union` (`append`, `union[-1]` read and overwritten) is the model's
    accumulator reversed; `none` = an `assert` fails or `union[-1]` hits an empty list -/
theorem merge_ranges_refines (l1 l2 : List Iv) :
    Gen.merge_ranges l1 l2 = mergeRanges l1 l2 := by
  unfold merge_ranges mergeRanges
  have := merge_main l1 l2 (merge_ranges.fuel1 l1 l2) 0 0 [] 0
    (List.replicate l1.length 0) (List.replicate l2.length 0) false false (IncInv.init _) (IncInv.init _)
    (by omega) (by omega) (by simp [merge_ranges.fuel1])
  simp only [Int.natCast_zero, List.drop_zero, List.reverse_nil] at this
  simp only [pyLen, Int.toNat_natCast, this]
  cases mergeLoop l1 false l2 false [] with
  | none => rfl
  | some p => rfl

/-- the emitted fuel bounds (shown sufficient by the refinement theorems above) -/
theorem fuel_bounds_sweeps (l1 l2 : List Iv) :
    read_coverage_fraction.fuel1 l1 l2 = l1.length + l2.length + 1 ∧
    jaccard_similarity.fuel1 l1 l2 = l1.length + l2.length + 1 ∧ jaccard_similarity.fuel2 l1 l2 = l1.length + 1 ∧
    jaccard_similarity.fuel3 l1 l2 = l2.length + 1 ∧
    merge_ranges.fuel1 l1 l2 = l1.length + l2.length + 1 ∧ merge_ranges.fuel2 l1 l2 = l1.length + 1 ∧
    merge_ranges.fuel3 l1 l2 = l2.length + 1 := ⟨rfl, rfl, rfl, rfl, rfl, rfl, rfl⟩

/-! ## Part 2 — theorems over the generated definitions -/

/-- `read_coverage_fraction` = |read ∩ isoform| / |read|; raises exactly when the read has total length 0 -/
theorem coverage_sweep_eq (read iso : List Iv) (h1 : SD read) (h2 : SD iso) (w1 : WFl read) (w2 : WFl iso) :
    Gen.read_coverage_fraction read iso =
      if Gen.intervals_total_length read = 0 then none else some (inter read iso, Gen.intervals_total_length read) := by
  rw [read_coverage_fraction_refines, intervals_total_length_refines]
  exact C19Lists.coverage_fraction_spec read iso h1 h2 w1 w2

example : SD [(1, 5), (10, 12)] ∧ SD [(4, 11)] ∧ WFl [(1, 5), (10, 12)] ∧ WFl [(4, 11)] ∧
    Gen.read_coverage_fraction [(1, 5), (10, 12)] [(4, 11)] = some (4, 8) := by
  refine ⟨by decide, by decide, by decide, by decide, by decide +kernel⟩

/-- `jaccard_similarity` = |A ∩ B| / (|A| + |B| − |A ∩ B|); no inner assertion failure on sorted disjoint lists -/
theorem jaccard_sweep_eq (l1 l2 : List Iv) (h1 : SD l1) (h2 : SD l2) (w1 : WFl l1) (w2 : WFl l2) :
    Gen.jaccard_similarity l1 l2 =
      if Gen.intervals_total_length l1 + Gen.intervals_total_length l2 - inter l1 l2 = 0 then none
      else some (inter l1 l2, Gen.intervals_total_length l1 + Gen.intervals_total_length l2 - inter l1 l2) := by
  rw [jaccard_similarity_refines, intervals_total_length_refines, intervals_total_length_refines]
  exact C19Lists.jaccard_sweep_eq l1 l2 h1 h2 w1 w2

example : SD [(1, 5), (10, 12)] ∧ SD [(4, 11)] ∧ WFl [(1, 5), (10, 12)] ∧ WFl [(4, 11)] ∧
    Gen.jaccard_similarity [(1, 5), (10, 12)] [(4, 11)] = some (4, 12) := by
  refine ⟨by decide, by decide, by decide, by decide, by decide +kernel⟩

/-- `merge_ranges` succeeds on sorted disjoint lists (not both empty) and covers exactly the union of positions -/
theorem merge_cov (l1 l2 : List Iv) (h1 : SD l1) (h2 : SD l2) (w1 : WFl l1) (w2 : WFl l2)
    (hne : l1 ≠ [] ∨ l2 ≠ []) :
    ∃ res, Gen.merge_ranges l1 l2 = some res ∧ ∀ p, cov res p ↔ cov l1 p ∨ cov l2 p := by
  rw [merge_ranges_refines]; exact C19Lists.merge_cov l1 l2 h1 h2 w1 w2 hne

/-- … and its result is again sorted, pairwise disjoint, well formed, without nested blocks -/
theorem merge_sorted (l1 l2 : List Iv) (h1 : SD l1) (h2 : SD l2) (w1 : WFl l1) (w2 : WFl l2)
    (res : List Iv) (hres : Gen.merge_ranges l1 l2 = some res) :
    SD res ∧ WFl res ∧
      res.Pairwise (fun x y => x.1 < y.1 ∧ x.2 < y.1 ∧ contains x y = false ∧ contains y x = false ∧
        overlaps x y = false) := by
  rw [merge_ranges_refines] at hres; exact C19Lists.merge_sorted l1 l2 h1 h2 w1 w2 res hres

example : SD [(1, 5), (10, 12)] ∧ SD [(4, 11), (20, 21)] ∧ WFl [(1, 5), (10, 12)] ∧ WFl [(4, 11), (20, 21)] ∧
    Gen.merge_ranges [(1, 5), (10, 12)] [(4, 11), (20, 21)] = some [(1, 12), (20, 21)] := by
  refine ⟨by decide, by decide, by decide, by decide, by decide +kernel⟩

theorem merge_empty : Gen.merge_ranges [] [] = none := by decide +kernel

end IsoVerif.Props.C19Gen
