/-
C09 — the two internal text files of read grouping round-trip verbatim (repaired code: `fix:` commits ce9c77f, 9fe3773).

*Per-chromosome read-group table* (`--read_group file:TABLE`): `split_read_group_table` writes `read\tgroup\n`,
`load_split_table` reads it back.  `table_roundtrip` holds for EVERY read id without tab / newline (a BAM read name has
neither) and EVERY group without a newline — in particular read ids that start with `#`, groups that are empty, begin or
end with blanks or contain tabs (the group is everything after the FIRST tab of the line).  A group with a newline cannot
come out of `load_table` (`user_table_roundtrip`: lines of a text file contain none), so for tables loaded from a file the
only hypothesis left is the one on BAM read names.  The pinned tree re-read the file with the user-table parser:
`table_roundtrip_orig_witness` (Props/C09Tables.lean keeps `table_roundtrip_orig_partial` for clean fields).

*`_groups` file* (`collect_reads_in_parallel`): `groups_file_roundtrip` — every set of group names without a newline is
re-read by `--resume` exactly as it was recorded, so the universe `π` of a resumed run is the universe of the uninterrupted
one (`resumed_universe`) and `pipeline_no_abort` holds for resumed runs without a hypothesis on the re-read sets
(`pipeline_no_abort_resumed`).  A group name WITH a newline is split into two groups (`groups_file_newline_witness`): that is
the exact remaining domain.  The pinned tree stripped the names: `groups_file_orig_witness`.
-/
import IsoVerif.Model.C09Files
import IsoVerif.Lemmas.C09Files
import IsoVerif.Props.C09
import IsoVerif.Props.C09Tables

namespace IsoVerif.Props.C09Files
open IsoVerif.Gen IsoVerif.Model.C09 IsoVerif.Lemmas.C09 IsoVerif.Lemmas.C09Split IsoVerif.Lemmas.C09Files
open IsoVerif.Props

/-! ### iterating over a text file (`newline='\n'`) -/

/-- **fileLines_spec**: the lines concatenated are the text; no line is empty; writing newline-free items one per line
    and iterating gives exactly the items (each with its terminator), and `chomp` removes exactly that terminator -/
theorem fileLines_spec :
    (∀ t, (fileLines t).flatten = t) ∧ (∀ t, ∀ l ∈ fileLines t, l ≠ []) ∧
    (∀ items : List (List Char), (∀ l ∈ items, '\n' ∉ l) → (fileLines (linesText items)).map chomp = items) := by
  refine ⟨fileLines_flatten, fileLines_ne_nil, ?_⟩
  intro items h
  rw [fileLines_linesText items h, List.map_map]
  conv => rhs; rw [← List.map_id items]
  apply List.map_congr_left
  intro l _
  simp [chomp_line]

/-- membership form, for every list of names (duplicates allowed): a name is re-read iff it was written -/
theorem groups_file_mem (π : List String) (hnl : ∀ g ∈ π, '\n' ∉ g.toList) (x : String) :
    x ∈ readGroupsFile (groupsFileText π) ↔ x ∈ π := by
  rw [readGroupsFile_written π hnl, foldl_setInsert_mem]; simp

/-- **groups_file_roundtrip**: `π` = the `read_groups` set of a chromosome in the iteration order of the dump (a set: no
    duplicates).  When no name contains a newline, the `--resume` branch re-reads exactly `π` — same names, nothing
    stripped, nothing merged, nothing invented (even the order is that of the dump) -/
theorem groups_file_roundtrip (π : List String) (hnd : π.Nodup) (hnl : ∀ g ∈ π, '\n' ∉ g.toList) :
    readGroupsFile (groupsFileText π) = π := by
  rw [readGroupsFile_written π hnl, foldl_setInsert_nodup_eq π [] (by simpa using hnd)]; rfl

/-- the exact remaining domain: a name with a newline comes back as two names -/
theorem groups_file_newline_witness :
    readGroupsFile (groupsFileText ["a\nb"]) = ["a", "b"] ∧ ¬ (readGroupsFile (groupsFileText ["a\nb"]) = ["a\nb"]) := by
  decide +kernel

/-- the pinned tree (`add(g.strip())`): tag values `"cell A "` and `" cell B"` come back as `"cell A"` and `"cell B"` — the
    recorded groups are no longer in the universe (`KeyError` in the counters) and two columns are invented; an outer tab
    or a blank-only name is lost in the same way -/
theorem groups_file_orig_witness :
    readGroupsFileOrig (groupsFileText ["cell A ", " cell B", "cellC"]) = ["cell A", "cell B", "cellC"] ∧
    readGroupsFile (groupsFileText ["cell A ", " cell B", "cellC"]) = ["cell A ", " cell B", "cellC"] ∧
    readGroupsFileOrig (groupsFileText [" ", ""]) = [""] := by
  decide +kernel

-- non-vacuity of `groups_file_roundtrip` / `groups_file_mem`: blanks at both ends, the empty name, tabs, `#`, `\r`
example : ["cell A ", " cell B", "", " ", "a\tb", "#c", "x\r"].Nodup ∧
    (∀ g ∈ ["cell A ", " cell B", "", " ", "a\tb", "#c", "x\r"], '\n' ∉ g.toList) ∧
    readGroupsFile (groupsFileText ["cell A ", " cell B", "", " ", "a\tb", "#c", "x\r"]) =
      ["cell A ", " cell B", "", " ", "a\tb", "#c", "x\r"] := by
  decide +kernel

/-- **resumed_universe**: the counters of a resumed run get the universe of the uninterrupted run.  `sets` = the recorded
    `read_groups` of the chromosomes; `resumed i = true` when chromosome `i` was finished before the kill and is re-read from
    its `_groups` file -/
theorem resumed_universe (sets : List (List String)) (hnd : ∀ s ∈ sets, s.Nodup)
    (hnl : ∀ s ∈ sets, ∀ g ∈ s, '\n' ∉ g.toList) (resumed : Nat → Bool) :
    groupUniverse (sets.zipIdx.map (fun p => if resumed p.2 then readGroupsFile (groupsFileText p.1) else p.1)) =
      groupUniverse sets := by
  congr 1
  conv => rhs; rw [← List.zipIdx_map_fst 0 sets]
  apply List.map_congr_left
  intro p hp
  have hm : p.1 ∈ sets := by
    obtain ⟨_, _, h3⟩ := List.mem_zipIdx (x := p.1) (i := p.2) hp
    rw [h3]
    exact List.getElem_mem _
  split
  · exact groups_file_roundtrip p.1 (hnd p.1 hm) (hnl p.1 hm)
  · rfl

/-- the final `read_groups` of a collector run has no duplicates -/
theorem runGrouper_nodup (g : Grouper) : ∀ (alns : List Aln) (S0 : List String) rets S, S0.Nodup →
    runGrouper g alns S0 = .ok (rets, S) → S.Nodup
  | [], S0, rets, S, h0, h => by
    simp only [runGrouper, Except.ok.injEq, Prod.mk.injEq] at h
    rw [← h.2]; exact h0
  | a :: as, S0, rets, S, h0, h => by
    simp only [runGrouper] at h
    split at h
    · cases h
    · rename_i r hr
      split at h
      · cases h
      · rename_i rs sf hrun
        simp only [Except.ok.injEq, Prod.mk.injEq] at h
        rw [← h.2]
        refine runGrouper_nodup g as _ rs sf ?_ hrun
        cases r.added with
        | none => exact h0
        | some x => exact setInsert_nodup h0 x

theorem initGroups_nodup (g : Grouper) : g.initGroups.Nodup := by
  cases g <;> simp [Grouper.initGroups]

/-- **pipeline_no_abort_resumed**: `pipeline_no_abort` for a run that was killed during read collection and resumed.  The
    counters are built with the union `π` of the sets the resumed run holds — re-read from the `_groups` files for the
    chromosomes finished before the kill, recorded afresh for the others.  No hypothesis on the re-read sets is needed beyond
    "no group name contains a newline": the obligation `hπ` of `pipeline_no_abort` is discharged by
    `groups_file_roundtrip`. -/
theorem pipeline_no_abort_resumed (g : Grouper) (hv : C09Groupers.ValidGrouper g) (chrAlns : List (List Aln))
    (results : List (List (Option String) × List String))
    (hres : chrAlns.map (fun alns => runGrouper g alns g.initGroups) = results.map Except.ok)
    (hnl : ∀ res ∈ results, ∀ x ∈ res.2, '\n' ∉ x.toList) (resumed : Nat → Bool)
    (π : List String)
    (hπ : π.Perm (groupUniverse ((results.map Prod.snd).zipIdx.map
      (fun p => if resumed p.2 then readGroupsFile (groupsFileText p.1) else p.1)))) (hne : π ≠ [])
    (s : CountingStrategy) (af : List String) (oz ozU : Bool) (fmt fmtU : GroupedOutputFormat) (calls : List Call)
    (hcalls : ∀ x ∈ calls, ∀ grp, x.group = some grp → ∃ res ∈ results, some grp ∈ res.1)
    (cU : Counter) (hU : run (initCounter false none s af ozU fmtU) calls = .ok cU) :
    ∃ cG, run (initCounter false (some π) s af oz fmt) calls = .ok cG := by
  have hnd : ∀ st ∈ results.map Prod.snd, st.Nodup := by
    intro st hst
    obtain ⟨res, hr, rfl⟩ := List.mem_map.mp hst
    obtain ⟨i, hi, rfl⟩ := List.getElem_of_mem hr
    have h1 : (chrAlns.map (fun alns => runGrouper g alns g.initGroups))[i]? = (results.map Except.ok)[i]? := by rw [hres]
    simp only [List.getElem?_map, List.getElem?_eq_getElem hi, Option.map_some] at h1
    cases ha : chrAlns[i]? with
    | none => simp [ha] at h1
    | some alns =>
      simp only [ha, Option.map_some, Option.some.injEq] at h1
      exact runGrouper_nodup g alns g.initGroups results[i].1 results[i].2 (initGroups_nodup g) h1
  have hnl' : ∀ st ∈ results.map Prod.snd, ∀ x ∈ st, '\n' ∉ x.toList := by
    intro st hst
    obtain ⟨res, hr, rfl⟩ := List.mem_map.mp hst
    exact hnl res hr
  rw [resumed_universe (results.map Prod.snd) hnd hnl' resumed] at hπ
  exact C09.pipeline_no_abort g hv chrAlns results hres π hπ hne s af oz ozU fmt fmtU calls hcalls cU hU

/-- **loadSplitTable_last_line_wins**: a file of `read\tgroup` lines (read ids without tab / newline, groups without
    newline) is read without error; every read id gets the group of the last line that names it, verbatim -/
theorem loadSplitTable_last_line_wins (es : List (String × String))
    (hr : ∀ e ∈ es, '\t' ∉ e.1.toList ∧ '\n' ∉ e.1.toList) (hg : ∀ e ∈ es, '\n' ∉ e.2.toList) :
    ∃ m, loadSplitTable (linesText (es.map (fun e => e.1.toList ++ ['\t'] ++ e.2.toList))) = .ok m ∧
      ∀ r, m.lookup r = es.reverse.lookup r := by
  refine ⟨dictOf es [], ?_, ?_⟩
  · unfold loadSplitTable
    rw [fileLines_linesText _ (by
      intro l hl
      obtain ⟨e, he, rfl⟩ := List.mem_map.mp hl
      have h1 := (hr e he).2
      have h2 := hg e he
      simp [h1, h2]), List.map_map]
    exact loadSplitLines_entries es [] (fun e he => (hr e he).1)
  · intro r
    rw [lookup_dictOf]
    cases es.reverse.lookup r <;> simp

/-- **table_roundtrip** (repaired code, no `hclean`): the file written for chromosome `chr` is re-read without error and
    gives, for every read that has an alignment on `chr`, the entry of the whole table, verbatim — for all read ids without
    tab / newline (every BAM read name; a leading `#` is fine) and all groups without a newline (empty, blank-padded,
    containing tabs, starting with `#`: all kept as they are) -/
theorem table_roundtrip (m : List (String × String)) (chr : String) (alns : List (String × Option String))
    (hids : ∀ rid c, (rid, c) ∈ alns → '\t' ∉ rid.toList ∧ '\n' ∉ rid.toList)
    (hgrp : ∀ rid g, m.lookup rid = some g → '\n' ∉ g.toList) :
    ∃ m', loadSplitTable (splitFileText m chr alns) = .ok m' ∧
      ∀ rid, (rid, some chr) ∈ alns → m'.lookup rid = m.lookup rid := by
  have hes : ∀ e ∈ splitEntries m chr alns [], (e.1, some chr) ∈ alns ∧ m.lookup e.1 = some e.2 :=
    fun e he => ((mem_splitEntries m chr alns [] e.1 e.2).mp he).2
  obtain ⟨m', hm', hl⟩ := loadSplitTable_last_line_wins (splitEntries m chr alns [])
    (fun e he => hids e.1 (some chr) (hes e he).1) (fun e he => hgrp e.1 e.2 (hes e he).2)
  exact ⟨m', by rw [splitFileText, splitTableLines_eq]; exact hm',
    fun rid hrid => by rw [hl rid, lookup_splitEntries m chr alns rid hrid]⟩

/-- **user_table_roundtrip**: the whole table mode.  The user's table is any list of lines of a text file (no newline inside
    a line), any columns, any non-empty delimiter; then for every chromosome the collector's dictionary agrees with the
    loaded table on every read aligned there — the only hypothesis left is that BAM read names contain no tab / newline -/
theorem user_table_roundtrip (rc gc : Nat) (delim : List Char) (hd : delim ≠ []) (lines : List (List Char))
    (hlines : ∀ l ∈ lines, '\n' ∉ l) (chr : String) (alns : List (String × Option String))
    (hids : ∀ rid c, (rid, c) ∈ alns → '\t' ∉ rid.toList ∧ '\n' ∉ rid.toList) :
    ∃ m m', loadTable rc gc delim lines [] = .ok m ∧ loadSplitTable (splitFileText m chr alns) = .ok m' ∧
      ∀ rid, (rid, some chr) ∈ alns → m'.lookup rid = m.lookup rid := by
  obtain ⟨m, hm, _⟩ := C09Tables.loadTable_last_row_wins rc gc delim hd lines
  have hgrp := loadTable_chars rc gc delim hd '\n' lines [] m hlines (by intro k v h; simp at h) hm
  obtain ⟨m', hm', hl⟩ := table_roundtrip m chr alns hids hgrp
  exact ⟨m, m', hm, hm', hl⟩

/-- what the repaired reader does outside the domain / at its edge, and what the pinned tree did on the same files:
    a read id starting with `#`, a group ending in a blank, the empty group and a group with a tab are all kept verbatim;
    a line without a tab is a `ValueError` (never written by `split_read_group_table`); the user-table parser applied to
    the same file skipped the `#` line, stripped the blank, dropped the row with the empty group and cut the group at
    its tab -/
theorem table_roundtrip_orig_witness :
    loadSplitTable (splitFileText [("#r", "A "), ("q", ""), ("t", "B\tx")] "c" [("#r", some "c"), ("q", some "c"), ("t", some "c")])
      = .ok [("#r", "A "), ("q", ""), ("t", "B\tx")] ∧
    loadTable 0 1 ['\t'] (splitTableLines [("#r", "A "), ("q", ""), ("t", "B\tx")] "c" [("#r", some "c"), ("q", some "c"), ("t", some "c")] []) []
      = .ok [("t", "B")] ∧
    loadTable 0 1 ['\t'] (splitTableLines [("r", "A ")] "c" [("r", some "c")] []) [] = .ok [("r", "A")] ∧
    loadSplitTable "r\n".toList = .error .valueError := by
  decide +kernel

/-- the hypotheses of `table_roundtrip` are exact: a read id with a tab is cut at that tab (the rest joins the group), a
    group with a newline breaks the file into a line without tab (`ValueError`).  Neither can occur in a run: BAM read names
    have no tab / newline, `load_table` yields no newline (`user_table_roundtrip`). -/
theorem table_roundtrip_domain_witness :
    loadSplitTable (splitFileText [("a\tb", "g")] "c" [("a\tb", some "c")]) = .ok [("a", "b\tg")] ∧
    loadSplitTable (splitFileText [("r", "x\ny")] "c" [("r", some "c")]) = .error .valueError := by
  decide +kernel

-- non-vacuity of `table_roundtrip` / `user_table_roundtrip`: a csv table `group,read,extra` with a `#` read id, a
-- blank-padded group and an empty group; reads on two chromosomes, an unmapped record
example : loadTable 1 0 [','] ["A ,#r1,x".toList, ",r2,x".toList, " g C,r3,x".toList] [] =
      .ok [("#r1", "A "), ("r2", ""), ("r3", "g C")] ∧
    loadSplitTable (splitFileText [("#r1", "A "), ("r2", ""), ("r3", "g C")] "chr1"
      [("r2", some "chr2"), ("#r1", some "chr1"), ("r2", some "chr1"), ("#r1", some "chr1"), ("x", none)]) =
      .ok [("#r1", "A "), ("r2", "")] := by decide +kernel

end IsoVerif.Props.C09Files
