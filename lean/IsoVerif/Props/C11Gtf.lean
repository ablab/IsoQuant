/-
C11 — translation / reflection equivariance of the GTF output path (Model/Gtf.lean = `validate_exons`,
`GFFPrinter.dump`, `from_reference_transcript`, the constructors of novel exon lists; property C03's model), for
ALL inputs and ALL shifts `k : Int`:

  * lines: `shiftLine k` adds `k` to the start and end columns; chromosome, strand, ids, the transcript count of a
    gene line and the exon number of a feature line are unchanged; the ORDER of the lines is unchanged (Python's
    stable `sorted` commutes with every comparison-preserving map: `shift_equivariant_sorted`);
  * `validate_exons` tests `0 < start`: the answer is shift invariant exactly when that test is (`PosStable`,
    witness `shift_validateExons_witness`); `dump` / a history of `dump` calls inherit this hypothesis;
  * `correct_novel_transcript_ends` tests the chosen coordinate for Python truthiness (`if new_start and …`): the
    hypothesis is that no read end is 0 before or after the shift (witness `shift_correctEnds_witness`);
  * strand flip of one transcript's feature lines: `mirror_dual_featLines` (exons only, sorted disjoint, stranded),
    with witnesses for unstranded transcripts and for `other_features` that share both ends with an exon.
-/
import IsoVerif.Gen.Prims
import IsoVerif.Model.Interval
import IsoVerif.Model.Gtf
import IsoVerif.Model.C11Symmetry
import IsoVerif.Model.C11SymBedCorr
import IsoVerif.Lemmas.Interval
import IsoVerif.Lemmas.C11Shift
import IsoVerif.Lemmas.C11Mirror
import IsoVerif.Lemmas.C11Gtf
import IsoVerif.Props.C11Lists

namespace IsoVerif.Props.C11Gtf
open IsoVerif.Gen IsoVerif.Model IsoVerif.Model.C03 IsoVerif.Model.C11 IsoVerif.Lemmas IsoVerif.Lemmas.C11

/-- Python's stable `sorted` (the model's `isortBy`) commutes with every map that preserves the comparison -/
theorem sorted_commutes_with_order_preserving_map {α β} (lt : α → α → Bool) (lt' : β → β → Bool) (f : α → β)
    (h : ∀ a b, lt' (f a) (f b) = lt a b) (l : List α) :
    isortBy lt' (l.map f) = (isortBy lt l).map f :=
  gtf_isortBy_map lt lt' f h l

theorem shift_equivariant_sorted (k : Int) (l : List Iv) : isortBy ivLt (shiftL k l) = shiftL k (isortBy ivLt l) :=
  gtf_isortBy_map ivLt ivLt (shiftIv k) (gtf_ivLt_shift k) l

/-- `validate_exons` of the shifted list, when the `0 < start` test is unaffected by the shift -/
theorem shift_equivariant_validateExons (k : Int) (l : List Iv) (h : PosStable k l) :
    validateExons (shiftL k l) = validateExons l :=
  validateExons_shift k l h

/-- the hypothesis is needed: a valid exon moved to position 0 becomes invalid -/
theorem shift_validateExons_witness : ¬ (∀ (k : Int) (l : List Iv), validateExons (shiftL k l) = validateExons l) := by
  intro h
  have := h (-1) [(1, 2)]
  revert this
  decide

/-- exon / other-feature lines of one model: same order, same exon numbers, coordinates + k -/
theorem shift_equivariant_featLines (k : Int) (m : TModel) :
    featLines (shiftTM k m) = (featLines m).map (shiftLine k) :=
  featLines_shift k m

theorem shift_equivariant_txBlock (k : Int) (m : TModel) (region : Iv) :
    txBlock (shiftTM k m, shiftIv k region) = (txBlock (m, region)).map (shiftLine k) :=
  txBlock_shift k (m, region)

/-- `TranscriptModel.from_reference_transcript` on the shifted annotation (`none` = KeyError is kept) -/
theorem shift_equivariant_fromReference (k : Int) (ctx : GeneCtx) (isoform : Id) :
    fromReference (shiftCtx k ctx) isoform = (fromReference ctx isoform).map (shiftTM k) := by
  simp only [fromReference, shiftCtx, List.find?_map]
  have : ((fun r : RefTx => r.tid == isoform) ∘ shiftRefTx k) = (fun r : RefTx => r.tid == isoform) := by
    funext r; rfl
  rw [this]
  cases ctx.isoforms.find? (fun r => r.tid == isoform) <;> rfl

/-- **`GFFPrinter.dump`**: gene lines, transcript lines, feature lines in the same order with coordinates + k, the
    same new `printed_gene_ids`; an exception (`none`) is kept -/
theorem shift_equivariant_dump (k : Int) (printed : List Id) (ctx : GeneCtx) (models : List TModel)
    (h : ∀ m ∈ models, PosStable k m.exons) :
    dump printed (shiftCtx k ctx) (models.map (shiftTM k))
      = (dump printed ctx models).map (fun r => (r.1, r.2.map (shiftLine k))) :=
  dump_shift k printed ctx models (fun m hm => validateExons_shift k m.exons (h m hm))

/-- a whole history of `dump` calls on one printer -/
theorem shift_equivariant_runCalls (k : Int) (printed : List Id) (calls : List Call)
    (h : ∀ c ∈ calls, ∀ m ∈ c.models, PosStable k m.exons) :
    runCalls printed (calls.map (shiftCall k))
      = (runCalls printed calls).map (fun r => (r.1, r.2.map (shiftLine k))) :=
  runCalls_shift k calls printed (fun c hc m hm => validateExons_shift k m.exons (h c hc m hm))

/-- the hypothesis of the two theorems above is needed: a model that is dropped as invalid after the shift -/
theorem shift_dump_witness :
    ¬ (∀ (k : Int) (printed : List Id) (ctx : GeneCtx) (models : List TModel),
        dump printed (shiftCtx k ctx) (models.map (shiftTM k))
          = (dump printed ctx models).map (fun r => (r.1, r.2.map (shiftLine k)))) := by
  intro h
  have := h (-1) [] { chr := 0 } [{ chr := 0, strand := 0, tid := 1, gid := 2, exons := [(1, 2)], known := false }]
  revert this
  decide

/-- `construct_fl_isoforms`: exons of a novel transcript from its range and intron path; a skipped path stays skipped -/
theorem shift_equivariant_flNovelExons (k : Int) (range : Iv) (path : List Iv) :
    flNovelExons (shiftIv k range) (shiftL k path) = (flNovelExons range path).map (shiftL k) := by
  simp only [flNovelExons, IsoVerif.Props.C11Lists.shift_equivariant_getExons, shiftL_length]
  split <;> rfl

/-- one cluster of `generate_monoexon_from_clustered` (`none` = ValueError of `min([])` is kept) -/
theorem shift_equivariant_monoExonFromCluster (k : Int) (cutoff : Nat) (forward : Bool) (reads : List Iv)
    (three : Int) :
    monoExonFromCluster cutoff forward (shiftL k reads) (three + k)
      = (monoExonFromCluster cutoff forward reads three).map (shiftL k) := by
  have e1 : (shiftL k reads).map (·.1) = (reads.map (·.1)).map (· + k) := by
    simp only [shiftL, List.map_map]; rfl
  have e2 : (shiftL k reads).map (·.2) = (reads.map (·.2)).map (· + k) := by
    simp only [shiftL, List.map_map]; rfl
  simp only [monoExonFromCluster, shiftL_length, e1, e2, gtf_listMin_shift, gtf_listMax_shift]
  split
  · rfl
  · split
    · cases C03.listMin (reads.map (·.1)) <;> rfl
    · cases C03.listMax (reads.map (·.2)) <;> rfl

/-- **`correct_novel_transcript_ends`**: shifted model and shifted reads give the shifted corrected exons, when no
    read start / end is 0 before or after the shift (the code tests the chosen coordinate for truthiness) -/
theorem shift_equivariant_correctEnds (k apa : Int) (exons reads : List Iv)
    (h : ∀ rd ∈ reads, (rd.1 = 0 ↔ rd.1 + k = 0) ∧ (rd.2 = 0 ↔ rd.2 + k = 0)) :
    correctEnds (shiftL k exons) (shiftL k reads) apa = (correctEnds exons reads apa).map (shiftL k) := by
  simp only [correctEnds, shiftL_head?, shiftL_getLast?]
  cases hf : exons.head? <;> cases hl : exons.getLast? <;> simp only [Option.map_none, Option.map_some]
  rename_i first last
  have hfold := gtf_foldl_endStep_shift k apa first.1 last.2 first last reads {}
  have he : shiftEndState k {} = {} := rfl
  rw [he] at hfold
  rw [show (shiftIv k first).1 = first.1 + k from rfl, show (shiftIv k last).2 = last.2 + k from rfl, hfold]
  obtain ⟨m1, m2⟩ := gtf_foldl_endStep_mem apa first.1 last.2 first last reads {}
  generalize reads.foldl (endStep apa first.1 last.2 first last) {} = st at m1 m2 ⊢
  have hs1 : ∀ s ∈ st.readStarts, (s = 0 ↔ s + k = 0) := by
    intro s hs
    rcases m1 s hs with h' | ⟨rd, hrd, h'⟩
    · simp at h'
    · subst h'; exact (h rd hrd).1
  have hs2 : ∀ e ∈ st.readEnds, (e = 0 ↔ e + k = 0) := by
    intro e he'
    rcases m2 e he' with h' | ⟨rd, hrd, h'⟩
    · simp at h'
    · subst h'; exact (h rd hrd).2
  -- either side: a coordinate picked by `find?` among candidates (none when the side is supported) is shifted with them,
  -- and is 0 before iff after the shift when every candidate is
  have pick : ∀ (sup : Bool) (l : List Int) (p p' : Int → Bool), (∀ s, p' (s + k) = p s) →
      (∀ s ∈ l, (s = 0 ↔ s + k = 0)) →
      (if sup then none else (l.map (· + k)).find? p') = (if sup then none else l.find? p).map (· + k) ∧
      ZeroStableAt k (if sup then none else l.find? p) := by
    intro sup l p p' hp hl
    cases sup
    · exact ⟨by simp only [Bool.false_eq_true, if_false, List.find?_map, Function.comp_def, hp],
        fun s hs => hl s (List.mem_of_find?_eq_some hs)⟩
    · exact ⟨rfl, fun s hs => by cases hs⟩
  obtain ⟨hns, hz1⟩ := pick st.startSupported (isortBy intLt st.readStarts) (fun s => decide (s > first.1))
    (fun s => decide (s > first.1 + k)) (fun s => by simp only [gt_iff_lt, Int.add_lt_add_iff_right])
    (fun s hs => hs1 s ((C03.mem_isortBy intLt _ s).mp hs))
  obtain ⟨hne, hz2⟩ := pick st.endSupported (isortBy intLt st.readEnds).reverse (fun e => decide (e < last.2))
    (fun e => decide (e < last.2 + k)) (fun e => by simp only [Int.add_lt_add_iff_right])
    (fun e he' => hs2 e ((C03.mem_isortBy intLt _ e).mp (List.mem_reverse.mp he')))
  simp only [show (shiftEndState k st).startSupported = st.startSupported from rfl,
    show (shiftEndState k st).readStarts = st.readStarts.map (· + k) from rfl,
    show (shiftEndState k st).endSupported = st.endSupported from rfl,
    show (shiftEndState k st).readEnds = st.readEnds.map (· + k) from rfl, isortBy_intLt_shift, ← List.map_reverse, hns, hne]
  rw [applyStart_shift k exons first _ hz1, applyEnd_shift k _ _ hz2]

/-- the hypothesis is needed: a read starting at position 0 is not used as the new start (`0` is falsy), the same
    read shifted to position 10 is -/
theorem shift_correctEnds_witness :
    ¬ (∀ (k apa : Int) (exons reads : List Iv),
        correctEnds (shiftL k exons) (shiftL k reads) apa = (correctEnds exons reads apa).map (shiftL k)) := by
  intro h
  have := h 10 1 [(-5, 10)] [(0, 10)]
  revert this
  decide

/-- exons only, sorted disjoint well-formed exons, a stranded transcript: the feature lines of the mirrored
    transcript (on the flipped strand) are the mirrored lines in the same order with the same exon numbers (the
    minus strand reverses the sorted order, which undoes the reversal of the coordinates) -/
theorem mirror_dual_featLines (L : Int) (m : TModel) (ho : m.other = []) (hsd : SD m.exons) (hw : WFl m.exons)
    (hs : m.strand = 0 ∨ m.strand = 1) :
    featLines (mirrorTM L m) = (featLines m).map (mirrorLine L) :=
  featLines_mirror L m ho hsd hw hs

/-- the transcript line and the feature lines of one model (what `dump` writes for it) -/
theorem mirror_dual_txBlock (L : Int) (m : TModel) (region : Iv) (ho : m.other = []) (hsd : SD m.exons)
    (hw : WFl m.exons) (hs : m.strand = 0 ∨ m.strand = 1) :
    txBlock (mirrorTM L m, mirrorIv L region) = (txBlock (m, region)).map (mirrorLine L) := by
  simp only [txBlock, featLines_mirror L m ho hsd hw hs, List.map_cons]
  rfl

/-- needed: an unstranded ('.') transcript is printed in ascending order in both orientations, so the exon
    numbers are reversed -/
theorem mirror_dual_featLines_unstranded_witness :
    ¬ (∀ (L : Int) (m : TModel), m.other = [] → SD m.exons → WFl m.exons →
        featLines (mirrorTM L m) = (featLines m).map (mirrorLine L)) := by
  intro h
  have := h 10 { chr := 0, strand := 2, tid := 0, gid := 0, exons := [(1, 2), (4, 5)], known := true }
    rfl (by decide) (by decide)
  revert this
  decide

/-- needed: a CDS with the coordinates of its exon (a fully coding exon) is printed before the exon on '+' and
    after it on '−' (ties of the sort key `(start, end, kind)` are not reversed by the reflection) -/
theorem mirror_dual_featLines_other_witness :
    ¬ (∀ (L : Int) (m : TModel), SD m.exons → WFl m.exons → (m.strand = 0 ∨ m.strand = 1) →
        featLines (mirrorTM L m) = (featLines m).map (mirrorLine L)) := by
  intro h
  have := h 10 { chr := 0, strand := 0, tid := 0, gid := 0, exons := [(1, 10)], known := true, other := [(1, 10, -1)] }
    (by decide) (by decide) (by decide)
  revert this
  decide

-- non-vacuity: inputs that meet the hypotheses, and the values the model computes on them
example : PosStable 255 [(11, 20), (31, 40)] ∧ validateExons (shiftL 255 [(11, 20), (31, 40)]) = true := by
  refine ⟨?_, by decide⟩
  intro x hx; simp at hx; rcases hx with rfl | rfl <;> decide

example : let m : TModel := { chr := 0, strand := 1, tid := 7, gid := 3, exons := [(11, 20), (31, 40)], known := false }
    m.other = [] ∧ SD m.exons ∧ WFl m.exons ∧ (m.strand = 0 ∨ m.strand = 1) ∧
    featLines (mirrorTM 100 m) = [Line.feat 0 0 61 70 0 3 7 1, Line.feat 0 0 81 90 0 3 7 2] ∧
    featLines m = [Line.feat 0 0 31 40 1 3 7 1, Line.feat 0 0 11 20 1 3 7 2] ∧
    (dump [] (shiftCtx 7 { chr := 0 }) [shiftTM 7 m]).map (·.2.length) = some 4 := by
  refine ⟨rfl, by decide, by decide, by decide, by decide, by decide, by decide⟩

example : (∀ rd ∈ [((15 : Int), (38 : Int)), (13, 44)], (rd.1 = 0 ↔ rd.1 + 255 = 0) ∧ (rd.2 = 0 ↔ rd.2 + 255 = 0)) ∧
    correctEnds [(11, 20), (31, 40)] [(15, 38), (13, 44)] 1 = some [(13, 20), (31, 38)] ∧
    correctEnds (shiftL 255 [(11, 20), (31, 40)]) (shiftL 255 [(15, 38), (13, 44)]) 1
      = some (shiftL 255 [(13, 20), (31, 38)]) := by
  refine ⟨?_, by decide, by decide⟩
  intro rd hrd; simp at hrd; rcases hrd with rfl | rfl <;> decide

end IsoVerif.Props.C11Gtf
