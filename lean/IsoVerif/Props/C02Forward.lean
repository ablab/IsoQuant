/-
C02, part 3 — transcript-model tables: `GraphBasedModelConstructor.forward_counts` feeds the counter with the
documented weights (1 for a read assigned to one model, 1/k for a read shared by k models when ambiguous reads are
counted, else 0), every constructed model is confirmed, so the model table is never zeroed.
-/
import IsoVerif.Model.Counter
import IsoVerif.Model.CounterSpec
import IsoVerif.Lemmas.Counter
import IsoVerif.Lemmas.CounterSteps
import IsoVerif.Lemmas.CounterForward
import IsoVerif.Props.C02

namespace IsoVerif.Props.C02Forward
open IsoVerif.Gen IsoVerif.Model.C02 IsoVerif.Lemmas.C02 IsoVerif.Props.C02

variable {F : Type} [DecidableEq F] {R : Type} [DecidableEq R]

/-- **forward_counts_sum**: the calls `forward_counts` makes on the counter contribute to model `f` exactly
    `readModelWeight` per (model, read) listing of `transcript_read_ids` – for every table of listings and every
    `read_assignment_counts`, consistent or not, with or without repeated listings -/
theorem forward_counts_sum (s : CountingStrategy) (lvl : Level) (tr : List (F × List R)) (rc : List (R × Nat))
    (models : List F) (f : F) :
    ratSum ((forwardCounts tr rc models).map (fun e => contribution s lvl e f))
      = ratSum ((incidences tr).map (fun p => if p.1 = f then readModelWeight s tr rc p.2 f else 0)) := by
  unfold forwardCounts
  rw [fcTranscripts_eq]
  obtain ⟨hout, hamb, _⟩ := fcInc_spec (incidences tr) rc ([] : List (R × List F)) ([] : List (Event F))
  generalize hL : incidences tr = L at *
  simp only [hout, hamb, List.nil_append, List.map_append, ratSum_append, List.map_map]
  -- the last two calls contribute nothing
  have htail : ratSum (List.map (fun e => contribution s lvl e f)
      [Event.unassigned (List.filter (fun p => p.2 == 0) (fcInc L rc [] []).1).length, Event.confirm models]) = 0 := by
    simp [contribution, Rat.add_zero]
  rw [htail, Rat.add_zero]
  obtain ⟨L2, hL2⟩ : ∃ L2, L2 = L.filter (fun p => ¬ countOf rc p.2 = 1) := ⟨_, rfl⟩
  rw [← hL2]
  obtain ⟨hnd, hkeys, hget⟩ := ambFold_spec L2 ([] : List (R × List F)) (by simp)
  -- the ambiguous part, regrouped by listing
  have hambsum : ratSum ((ambFold [] L2).map ((fun e => contribution s lvl e f) ∘ fun p => Event.raw false (dedup p.2)))
      = ratSum (L2.map (fun p => if p.1 = f then
          docWeight s .ambiguous (dedup (modelsOf L2 p.2)).length / cnt (modelsOf L2 p.2) f else 0)) := by
    have h1 := ratSum_amb (ambFold [] L2) hnd (fun _ ts => cnt (dedup ts) f * docWeight s .ambiguous (dedup ts).length)
    have : (ambFold [] L2).map ((fun e => contribution s lvl e f) ∘ fun p => Event.raw false (dedup p.2))
        = (ambFold [] L2).map (fun p => cnt (dedup p.2) f * docWeight s .ambiguous (dedup p.2).length) := by
      apply List.map_congr_left; intro p _; simp [contribution]
    rw [this, h1]
    rw [ratSum_partition L2 ((ambFold [] L2).map Prod.fst) hnd
      (fun p hp => (hkeys p.2).mpr (Or.inr ⟨p, hp, rfl⟩))]
    congr 1
    apply List.map_congr_left
    intro r _
    rw [hget r]
    simp only [ambGet, List.nil_append]
    have : (L2.filter (fun p => p.2 = r)).map (fun p => if p.1 = f then
            docWeight s .ambiguous (dedup (modelsOf L2 p.2)).length / cnt (modelsOf L2 p.2) f else 0)
        = (L2.filter (fun p => p.2 = r)).map (fun p => if p.1 = f then
            docWeight s .ambiguous (dedup (modelsOf L2 r)).length / cnt (modelsOf L2 r) f else 0) := by
      apply List.map_congr_left
      intro p hp
      simp only [List.mem_filter, decide_eq_true_eq] at hp
      rw [hp.2]
    rw [this, ratSum_shared]
  rw [hambsum]
  rw [ratSum_filter_split L (fun p => countOf rc p.2 = 1), ← hL2]
  congr 1
  · apply congrArg
    apply List.map_congr_left
    intro p hp
    simp only [List.mem_filter, decide_eq_true_eq] at hp
    simp [contribution, readModelWeight, hp.2, cnt_cons, cnt_nil, docWeight]
    by_cases h : p.1 = f <;> simp [h, Rat.add_zero]
  · apply congrArg
    apply List.map_congr_left
    intro p hp
    have hp' := hp
    simp only [hL2, List.mem_filter, decide_eq_true_eq] at hp'
    have hmodels : modelsOf L2 p.2 = modelsOf L p.2 := by
      simp only [modelsOf, hL2, List.filter_filter]
      congr 1
      apply List.filter_congr
      intro q _
      by_cases hq : q.2 = p.2
      · simp [hq, hp'.2]
      · simp [hq]
    simp only [readModelWeight, hp'.2, if_false, hmodels, hL]

/-- **read_weight_per_model** (read-level reading of `readModelWeight`): a read `r` that is not assigned exactly once and
    is listed under model `f` - once or several times - gives `f`, over all its listings together, exactly the documented
    weight of a read shared by its DISTINCT models: 1 when `f` is its only model, 1/k for k models when ambiguous reads
    are counted, else 0 -/
theorem read_weight_per_model (s : CountingStrategy) (tr : List (F × List R)) (rc : List (R × Nat)) (r : R) (f : F)
    (hc : countOf rc r ≠ 1) (hf : f ∈ modelsOf (incidences tr) r) :
    ratSum (((incidences tr).filter (fun p => p.2 = r)).map
        (fun p => if p.1 = f then readModelWeight s tr rc p.2 f else 0))
      = docWeight s .ambiguous (dedup (modelsOf (incidences tr) r)).length := by
  have : ((incidences tr).filter (fun p => p.2 = r)).map
        (fun p => if p.1 = f then readModelWeight s tr rc p.2 f else 0)
      = ((incidences tr).filter (fun p => p.2 = r)).map (fun p => if p.1 = f then
          docWeight s .ambiguous (dedup (modelsOf (incidences tr) r)).length / cnt (modelsOf (incidences tr) r) f else 0) := by
    apply List.map_congr_left
    intro p hp
    simp only [List.mem_filter, decide_eq_true_eq] at hp
    simp [readModelWeight, hp.2, hc]
  rw [this, ratSum_shared, cnt_dedup, if_pos hf, Rat.one_mul]

/-- with consistent counts (`read_assignment_counts[r]` = number of listings of `r`, which is what `save_assigned_read`
    maintains: one per alignment record) a read assigned once has one model and weight 1, so the weight of every listing
    is the documented one: the ambiguous weight for the number of DISTINCT models, shared evenly by the listings under
    the same model -/
theorem forward_counts_documented (s : CountingStrategy) (tr : List (F × List R)) (rc : List (R × Nat))
    (hc : CountsConsistent tr rc) (p : F × R) (hp : p ∈ incidences tr) :
    readModelWeight s tr rc p.2 p.1
      = docWeight s .ambiguous (dedup (modelsOf (incidences tr) p.2)).length / cnt (modelsOf (incidences tr) p.2) p.1 := by
  unfold readModelWeight
  split
  · rename_i h1
    rw [hc p hp] at h1
    have hmem : p.1 ∈ modelsOf (incidences tr) p.2 := by
      simp only [modelsOf, List.mem_map, List.mem_filter, decide_eq_true_eq]
      exact ⟨p, ⟨hp, rfl⟩, rfl⟩
    match hm : modelsOf (incidences tr) p.2, h1, hmem with
    | [x], _, hx =>
      have : p.1 = x := by simpa using hx
      subst this
      simp [dedup, docWeight, cnt]
      decide +kernel
  · rfl

/-- **model_table_is_sum**: for any list of genes, the transcript-model counter fed by `forward_counts` runs without
    raising, and every row of its dumped table whose id is a constructed model carries the sum, over all genes and all
    (model, read) incidences of that model, of `readModelWeight` – it is never zeroed -/
theorem model_table_is_sum (s : CountingStrategy) (genes : List (GeneModels F R)) (le : F → F → Bool) (oz : Bool) :
    ∃ st, run s Level.transcript (CState.init []) (genes.flatMap geneEvents) = some st ∧
      ∀ f v, (f, v) ∈ dumpRowsExact le oz st → (∃ g ∈ genes, f ∈ g.models) →
        v = ratSum (genes.map (fun g => ratSum ((incidences g.transcriptReads).map
              (fun p => if p.1 = f then readModelWeight s g.transcriptReads g.readCounts p.2 f else 0)))) := by
  have hnr : ∀ e ∈ genes.flatMap geneEvents, noRead e = true := by
    intro e he
    simp only [List.mem_flatMap] at he
    obtain ⟨g, _, heg⟩ := he
    exact forwardCounts_noRead _ _ _ e heg
  obtain ⟨st, hst⟩ := run_noRead s Level.transcript _ hnr (CState.init [])
  refine ⟨st, hst, ?_⟩
  intro f v hrow ⟨g, hg, hfg⟩
  have hconf : ∃ e ∈ genes.flatMap geneEvents, confirmsFeature Level.transcript e f := by
    refine ⟨Event.confirm g.models, ?_, by simpa [confirmsFeature] using hfg⟩
    simp only [List.mem_flatMap]
    refine ⟨g, hg, ?_⟩
    simp [geneEvents, forwardCounts]
  rcases table_is_sum s Level.transcript [] _ st hst le oz f v hrow with ⟨_, hv⟩ | ⟨hno, _⟩
  · rw [hv, ratSum_flatMap_map]
    congr 1
    apply List.map_congr_left
    intro g' _
    exact forward_counts_sum s Level.transcript g'.transcriptReads g'.readCounts g'.models f
  · exact absurd hconf hno

/-- **forward_counts_stats**: when every listed read has an entry in `read_assignment_counts` (the constructor
    maintains this), the calls of one gene add to `__no_feature` exactly the number of reads with count 0 (reads
    assigned to no model) and nothing to `__not_aligned` -/
theorem forward_counts_stats (g : GeneModels F R)
    (hkeys : ∀ p ∈ incidences g.transcriptReads, p.2 ∈ g.readCounts.map Prod.fst) :
    natSum ((geneEvents g).map noFeatureClass) = (g.readCounts.filter (fun p => p.2 == 0)).length ∧
    natSum ((geneEvents g).map notAlignedClass) = 0 := by
  unfold geneEvents forwardCounts
  rw [fcTranscripts_eq]
  obtain ⟨hout, hamb, _⟩ := fcInc_spec (incidences g.transcriptReads) g.readCounts ([] : List (R × List F)) ([] : List (Event F))
  have hcnt := fcInc_counts_unchanged (incidences g.transcriptReads) g.readCounts ([] : List (R × List F)) ([] : List (Event F)) hkeys
  simp only [hout, hamb, hcnt, List.nil_append, List.map_append, natSum_append, List.map_map]
  have hne := ambFold_nonempty (L := (incidences g.transcriptReads).filter (fun p => ¬ countOf g.readCounts p.2 = 1))
    ([] : List (R × List F)) (by simp)
  have z1 : ∀ (cls : Event F → Nat), (∀ t : F, cls (Event.raw false [t]) = 0) →
      natSum (((incidences g.transcriptReads).filter (fun p => countOf g.readCounts p.2 = 1)).map
        (cls ∘ fun p => Event.raw false [p.1])) = 0 := by
    intro cls hcls
    induction ((incidences g.transcriptReads).filter (fun p => countOf g.readCounts p.2 = 1)) with
    | nil => simp
    | cons x xs ih => simp [hcls, ih]
  have z2 : ∀ (cls : Event F → Nat), (∀ ts : List F, ts ≠ [] → cls (Event.raw false ts) = 0) →
      natSum ((ambFold [] ((incidences g.transcriptReads).filter (fun p => ¬ countOf g.readCounts p.2 = 1))).map
        (cls ∘ fun p => Event.raw false (dedup p.2))) = 0 := by
    intro cls hcls
    generalize ambFold [] ((incidences g.transcriptReads).filter (fun p => ¬ countOf g.readCounts p.2 = 1)) = A at hne
    induction A with
    | nil => simp
    | cons x xs ih =>
      have hx := hne x (by simp)
      have hx' : dedup x.2 ≠ [] := by
        cases hxs : x.2 with
        | nil => exact absurd hxs hx
        | cons a as => simp [dedup]
      simp [hcls _ hx', ih (fun p hp => hne p (by simp [hp]))]
  constructor
  · rw [z1 noFeatureClass (by intro t; rfl), z2 noFeatureClass (by
      intro ts hts
      cases ts with
      | nil => exact absurd rfl hts
      | cons a as => rfl)]
    simp [noFeatureClass]
  · rw [z1 notAlignedClass (by intro t; rfl), z2 notAlignedClass (by intro ts _; rfl)]
    simp [notAlignedClass]

/-! non-vacuity: one gene, model 1 has reads 10 (only model 1) and 11 (models 1 and 2), read 12 has no model -/
def demoGene : GeneModels Nat Nat :=
  { transcriptReads := [(1, [10, 11]), (2, [11])], readCounts := [(10, 1), (11, 2), (12, 0)], models := [1, 2] }

example : CountsConsistent demoGene.transcriptReads demoGene.readCounts := by
  unfold CountsConsistent; decide +kernel
example : ∀ p ∈ incidences demoGene.transcriptReads, p.2 ∈ demoGene.readCounts.map Prod.fst := by decide +kernel
example : geneEvents demoGene
    = [Event.raw false [1], Event.raw false [1, 2], Event.unassigned 1, Event.confirm [1, 2]] := by rfl
example : (run .with_ambiguous .transcript (CState.init []) (geneEvents demoGene)).map
      (fun st => (dumpRowsExact natLe false st, (dump natLe false st).noFeature, (dump natLe false st).ambiguous,
                  (dump natLe false st).usable))
    = some ([(1, 3/2), (2, 1/2)], 1, 1, 3) := by decide +kernel
example : (run .unique_only .transcript (CState.init []) (geneEvents demoGene)).map
      (fun st => dumpRowsExact natLe false st) = some [(1, 1)] := by decide +kernel

/-! the failing input of the tree before the repair `fix_forward_dup`: read 20 has
    two alignment records, both listed under model 1 (`read_assignment_counts[20] = 2`); reads 10 and 11 once -/
def dupGene : GeneModels Nat Nat :=
  { transcriptReads := [(1, [10, 20, 20]), (2, [11])], readCounts := [(10, 1), (20, 2), (11, 1)], models := [1, 2] }

example : CountsConsistent dupGene.transcriptReads dupGene.readCounts := by
  unfold CountsConsistent; decide +kernel
-- hypotheses of `read_weight_per_model` for read 20 / model 1, and its value: the weight of a read with ONE model
example : countOf dupGene.readCounts 20 ≠ 1 ∧ 1 ∈ modelsOf (incidences dupGene.transcriptReads) 20 ∧
    docWeight .unique_only .ambiguous (dedup (modelsOf (incidences dupGene.transcriptReads) 20)).length = 1 := by
  decide +kernel
example : geneEvents dupGene
    = [Event.raw false [1], Event.raw false [2], Event.raw false [1], Event.unassigned 0, Event.confirm [1, 2]] := by rfl

/-- **forward_dup_witness**: with the call list of the unrepaired tree (`forwardCountsOrig`: `[1, 1]` for read 20) the
    read weighs 0 under `unique_only` - model 1 is printed with 1 instead of 2 - and `__ambiguous` is 1 although no read
    is shared by two models; with the repaired call list the table is the read-level sum and `__ambiguous` is 0 -/
theorem forward_dup_witness :
    (run .unique_only .transcript (CState.init [])
        (forwardCountsOrig dupGene.transcriptReads dupGene.readCounts dupGene.models)).map
      (fun st => (dumpRowsExact natLe false st, (dump natLe false st).ambiguous)) = some ([(1, 1), (2, 1)], 1) ∧
    (run .unique_only .transcript (CState.init []) (geneEvents dupGene)).map
      (fun st => (dumpRowsExact natLe false st, (dump natLe false st).ambiguous)) = some ([(1, 2), (2, 1)], 0) := by
  decide +kernel

end IsoVerif.Props.C02Forward
