/-
C11 — translation equivariance and reflection of the exon corrector (Model/Corrector.lean = `ExonCorrector.correct_assigned_read`,
`process_events`, `match_genomic_features`; property C14's model), for ALL inputs and ALL shifts `k : Int`:

  * the events of the isoform match carry intron INDEX ranges (`iso`, `read`), the alignment error counts `err`
    are per read-intron index: both are inputs that do not change under a translation;
  * the annotation (`known`, the isoform's region and introns) and the read's exons are shifted by `k`;
  * the result is shifted by `k`, every exception (`IndexError`, failed `assert`, non-terminating loop = out of
    fuel, with the SAME fuel) is the same exception.

The second half (from `## reflection` on) is the corrector under reflection: `mirror_dual_processEvents` (event maps,
`EmapWF` / `MicroWF`), `mirror_dual_correctAssignedRead` (event lists, `EventsMirrorable`), and `…_witness` theorems
for the hypotheses (one isoform intron per terminal event, in-range indices, one event per region end, no fuzzy
correction).
-/
import IsoVerif.Gen.Prims
import IsoVerif.Model.Interval
import IsoVerif.Model.Corrector
import IsoVerif.Model.C11Symmetry
import IsoVerif.Model.C11SymBedCorr
import IsoVerif.Lemmas.C11Shift
import IsoVerif.Lemmas.C11Corrector
import IsoVerif.Lemmas.CorrectorLoop
import IsoVerif.Lemmas.C11Mirror
import IsoVerif.Lemmas.C11CorrectorMirror
import IsoVerif.Lemmas.C11CorrectorSeg
import IsoVerif.Lemmas.C11CorrectorLists

namespace IsoVerif.Props.C11Corrector
open IsoVerif.Gen IsoVerif.Model IsoVerif.Model.C14 IsoVerif.Model.C11 IsoVerif.Lemmas.C11

/-- `match_genomic_features` (two-pointer sweep, candidate elimination by `match_delta`, "take first"):
    the feature chosen for every read intron is the shifted feature -/
theorem shift_equivariant_matchGenomicFeatures (k δ : Int) (known reads : List Iv) :
    matchGenomicFeatures δ (shiftL k known) (shiftL k reads) = shiftL k (matchGenomicFeatures δ known reads) :=
  matchGenomicFeatures_shift k δ known reads

/-- the sweep itself: same read positions, shifted known features, same order of appends -/
theorem shift_equivariant_matchSweep (k δ : Int) (ks rs : List Iv) (ri : Nat) :
    matchSweep δ (shiftL k ks) (shiftL k rs) ri = (matchSweep δ ks rs ri).map (fun q => (q.1, shiftIv k q.2)) :=
  matchSweep_shift k δ ks rs ri

/-- fuzzy junction correction with the SAME error-count function -/
theorem shift_equivariant_correctedIntrons (k : Int) (p : CParams) (err : Nat → Bool → Int × Int)
    (known readIntrons : List Iv) :
    correctedIntrons p err (shiftL k known) (shiftL k readIntrons)
      = shiftL k (correctedIntrons p err known readIntrons) :=
  correctedIntrons_shift k p err known readIntrons

/-- one `if/elif` chain on an event -/
theorem shift_equivariant_eventStep (k : Int) (p : CParams) (rr : Iv) (ri corr : List Iv) (isoR : Iv)
    (isoI : List Iv) (e : MEvent) (reg : Iv) (acc : List Iv) :
    eventStep p (shiftIv k rr) (shiftL k ri) (shiftL k corr) (shiftIv k isoR) (shiftL k isoI) e (shiftIv k reg)
        (shiftL k acc)
      = shiftExRes k (eventStep p rr ri corr isoR isoI e reg acc) :=
  eventStep_shift k p rr ri corr isoR isoI e reg acc

/-- the `while` loop from ANY state with the SAME fuel and the SAME event map -/
theorem shift_equivariant_eventLoop (k : Int) (p : CParams) (emap : List (Int × MEvent)) (mm : List (Int × Int))
    (rr : Iv) (ri corr : List Iv) (isoR : Iv) (isoI : List Iv) (fuel : Nat) (i : Int) (reg : Iv) (acc : List Iv) :
    eventLoop p emap mm (shiftIv k rr) (shiftL k ri) (shiftL k corr) (shiftIv k isoR) (shiftL k isoI) fuel i
        (shiftIv k reg) (shiftL k acc)
      = shiftExRes k (eventLoop p emap mm rr ri corr isoR isoI fuel i reg acc) :=
  eventLoop_shift k p emap mm rr ri corr isoR isoI fuel i reg acc

/-- `process_events`: corrected region and new introns shifted, `Except.error e ↦ Except.error e` -/
theorem shift_equivariant_processEvents (k : Int) (p : CParams) (err : Nat → Bool → Int × Int) (known : List Iv)
    (emap : List (Int × MEvent)) (mm : List (Int × Int)) (rr : Iv) (ri : List Iv) (isoR : Iv) (isoI : List Iv) :
    processEvents p err (shiftL k known) emap mm (shiftIv k rr) (shiftL k ri) (shiftIv k isoR) (shiftL k isoI)
      = shiftExRes k (processEvents p err known emap mm rr ri isoR isoI) :=
  processEvents_shift k p err known emap mm rr ri isoR isoI

theorem shift_equivariant_buildExons (k : Int) (reg : Iv) (ni : List Iv) :
    buildExons (shiftIv k reg) (shiftL k ni) = shiftL k (buildExons reg ni) := by
  simp only [buildExons, shiftL_head?, shiftL_getLast?, junctionsFromBlocks_shift]
  cases ni.head? <;> cases ni.getLast? <;> simp only [Option.map_none, Option.map_some] <;> try rfl
  rename_i f l
  have e1 : f.1 + k - 1 = f.1 - 1 + k := by omega
  have e2 : l.2 + k + 1 = l.2 + 1 + k := by omega
  simp only [shiftL_cons, shiftL_append, shiftL_nil, shiftIv, e1, e2]

/-- `is_valid_exon_chain` does not see a translation -/
theorem shift_equivariant_validChain (k : Int) (l : List Iv) : validChain (shiftL k l) = validChain l := by
  have h : ∀ e : Iv, (e.1 + k ≤ e.2 + k) ↔ (e.1 ≤ e.2) := by intro e; omega
  rw [validChain, chainSorted_shift]
  simp only [validChain, shiftL, List.all_map, Function.comp_def, shiftIv_fst, shiftIv_snd, h]

/-- `is_valid_intron_chain` (the gate added by the repair eb9960f) sees neither a translation nor
    a reflection (`mirror_dual_validIntronChain`): ALL lists -/
theorem shift_equivariant_validIntronChain (k : Int) (l : List Iv) :
    validIntronChain (shiftL k l) = validIntronChain l := by
  have h : ∀ e : Iv, (e.1 + k ≤ e.2 + k) ↔ (e.1 ≤ e.2) := by intro e; omega
  rw [validIntronChain, intronsSpaced_shift]
  simp only [validIntronChain, shiftL, List.all_map, Function.comp_def, shiftIv_fst, shiftIv_snd, h]

/-- **`correct_assigned_read`**: same events, same error counts, annotation and read shifted by `k` ⇒ the corrected
    exons are the shifted corrected exons; an exception stays the same exception -/
theorem shift_equivariant_correctAssignedRead (k : Int) (p : CParams) (err : Nat → Bool → Int × Int)
    (known : List Iv) (noninformative : Bool) (events : Option (List MEvent)) (isoRegion : Iv)
    (isoIntrons exons : List Iv) :
    correctAssignedRead p err (shiftL k known) noninformative events (shiftIv k isoRegion) (shiftL k isoIntrons)
        (shiftL k exons)
      = shiftExL k (correctAssignedRead p err known noninformative events isoRegion isoIntrons exons) := by
  unfold correctAssignedRead
  cases events with
  | none => rfl
  | some evs =>
    simp only [shiftL_length, shiftL_head?, shiftL_getLast?]
    split
    · rfl
    · cases exons.head? <;> cases exons.getLast? <;> try rfl
      simp only [Option.map_some, processEvents_shift_exons]
      cases processEvents p err known (buildEventMap evs) (buildMicroMap p.fl.microintron_retention evs) _
          (junctionsFromBlocks exons) isoRegion isoIntrons with
      | error x => rfl
      | ok q =>
        simp only [shiftExRes, shift_equivariant_buildExons, shift_equivariant_validChain, shift_equivariant_validIntronChain]
        split <;> rfl

/-- the code before the validity gate (kept by C14 for its regression witness) is equivariant too -/
theorem shift_equivariant_correctAssignedReadBuggy (k : Int) (p : CParams) (err : Nat → Bool → Int × Int)
    (known : List Iv) (noninformative : Bool) (events : Option (List MEvent)) (isoRegion : Iv)
    (isoIntrons exons : List Iv) :
    correctAssignedReadBuggy p err (shiftL k known) noninformative events (shiftIv k isoRegion)
        (shiftL k isoIntrons) (shiftL k exons)
      = shiftExL k (correctAssignedReadBuggy p err known noninformative events isoRegion isoIntrons exons) := by
  unfold correctAssignedReadBuggy
  cases events with
  | none => rfl
  | some evs =>
    simp only [shiftL_length, shiftL_head?, shiftL_getLast?]
    split
    · rfl
    · cases exons.head? <;> cases exons.getLast? <;> try rfl
      simp only [Option.map_some, processEvents_shift_exons]
      cases processEvents p err known (buildEventMap evs) (buildMicroMap p.fl.microintron_retention evs) _
          (junctionsFromBlocks exons) isoRegion isoIntrons with
      | error x => rfl
      | ok q => simp only [shiftExRes, shift_equivariant_buildExons, shiftExL]

-- non-vacuity: on shifted inputs the model corrects (fuzzy junction moved onto the annotation, fake terminal exon
-- removed, skipped micro-exon restored) and raises (assertion) exactly as the theorems say
example : correctAssignedRead ⟨⟨true, false, true, false, true, true⟩, 6⟩ (fun _ _ => (1, 0)) (shiftL 255 [(41, 60)])
      false (some [⟨MatchEventSubtype.fake_terminal_exon_left, (1073741823, 1073741823), (0, 0)⟩])
      (shiftIv 255 (30, 120)) (shiftL 255 [(41, 60)]) (shiftL 255 [(10, 12), (30, 42), (61, 99)])
    = .ok (shiftL 255 [(30, 40), (61, 99)]) := by decide +kernel
example : processEvents ⟨⟨false, false, true, false, false, false⟩, 6⟩ (fun _ _ => (0, 0)) []
    [(0, ⟨MatchEventSubtype.exon_misalignment, (0, 1), (0, 0)⟩)] [] (shiftIv (-7) (1, 200))
    (shiftL (-7) [(21, 80)]) (shiftIv (-7) (1, 200)) (shiftL (-7) [(21, 40), (51, 80)])
    = .ok (shiftIv (-7) (1, 200), shiftL (-7) [(21, 40), (51, 80)]) := by decide +kernel
example : processEvents ⟨⟨true, false, true, false, true, true⟩, 6⟩ (fun _ _ => (0, 0)) []
    [(0, ⟨MatchEventSubtype.fake_terminal_exon_left, (0, 0), (0, 1)⟩)] [] (shiftIv 1000 (10, 99))
    (shiftL 1000 [(13, 40), (61, 70)]) (shiftIv 1000 (41, 120)) (shiftL 1000 [(61, 70)]) = .error .assertion := by
  decide +kernel
example : matchGenomicFeatures 3 (shiftL 256 [(20, 31), (22, 30), (50, 60)]) (shiftL 256 [(21, 30), (51, 61)])
    = shiftL 256 [(22, 30), (50, 60)] := by decide +kernel

/-! ## reflection: the pieces of the corrector that are mirror images of themselves

Left/right swap: `fake_terminal_exon_left ↔ …_right`, `terminal_exon_misalignment_left ↔ …_right` (`swapLR`), read intron
`i ↦ n − 1 − i`, isoform intron `j ↦ m − 1 − j` (`mirrorMEvent`), `err i left ↦ err (n − 1 − i) (¬ left)` (`mirrorErr`).
Proved: one event of the if/elif chain, the fuzzy junction loop, the exon chain and its validity test.  False:
`match_genomic_features` (takes the FIRST of equally distant candidates: `…_tie_witness`).  The whole `while` loop with
index-keyed events (`ProcessEventsMirror`) and `correct_assigned_read` through event lists are proved further down
(`mirror_dual_processEvents`, `mirror_dual_correctAssignedRead`); the harness replays both on model and real code
(relations `M.process_events`, `M.correct_assigned_read`). -/

/-- one event of the chain on the mirrored data is the mirrored result (new introns in mirrored order); from the
    empty accumulator, see `Summ.run_mirror` -/
theorem mirror_dual_eventStep (L : Int) (p : CParams) (rr : Iv) (ri corr : List Iv) (isoR : Iv) (isoI : List Iv)
    (e : MEvent) (reg : Iv) (hn : corr.length = ri.length) (h : EventInRange ri.length isoI.length e) :
    eventStep p (mirrorIv L rr) (mirrorL L ri) (mirrorL L corr) (mirrorIv L isoR) (mirrorL L isoI)
        (mirrorMEvent ri.length isoI.length e) (mirrorIv L reg) []
      = mirrorExRes L (eventStep p rr ri corr isoR isoI e reg []) := by
  rw [eventStep_evOut, eventStep_evOut, evOut_mirror L p rr ri corr isoR isoI e hn h, Summ.run_mirror]

/-- needed (`EventInRange.single`): `terminal_exon_misalignment_right` reads `isoform_region[0]` like its left
    partner, so an event spanning two isoform introns inserts a different intron in the two orientations -/
theorem mirror_eventStep_terminal_iso_witness :
    ¬ (∀ (L : Int) (p : CParams) (rr : Iv) (ri corr : List Iv) (isoR : Iv) (isoI : List Iv) (e : MEvent) (reg : Iv),
        corr.length = ri.length →
        (0 ≤ e.read.1 ∧ e.read.1 < ri.length ∧ 0 ≤ e.read.2 ∧ e.read.2 < ri.length) →
        (0 ≤ e.iso.1 ∧ e.iso.1 < isoI.length ∧ 0 ≤ e.iso.2 ∧ e.iso.2 < isoI.length) →
        eventStep p (mirrorIv L rr) (mirrorL L ri) (mirrorL L corr) (mirrorIv L isoR) (mirrorL L isoI)
            (mirrorMEvent ri.length isoI.length e) (mirrorIv L reg) []
          = mirrorExRes L (eventStep p rr ri corr isoR isoI e reg [])) := by
  intro h
  have := h 100 ⟨⟨false, false, false, true, false, false⟩, 6⟩ (1, 90) [(11, 20)] [(11, 20)] (1, 95)
    [(11, 20), (41, 50)] ⟨MatchEventSubtype.terminal_exon_misalignment_left, (0, 1), (0, 0)⟩ (1, 90) rfl
    (by decide) (by decide)
  revert this
  decide

/-- needed (`EventInRange.read`): Python's negative indices are valid (−1 = last intron), their mirror images
    (`n`) are not -/
theorem mirror_eventStep_negative_index_witness :
    ¬ (∀ (L : Int) (p : CParams) (rr : Iv) (ri corr : List Iv) (isoR : Iv) (isoI : List Iv) (e : MEvent) (reg : Iv),
        corr.length = ri.length →
        eventStep p (mirrorIv L rr) (mirrorL L ri) (mirrorL L corr) (mirrorIv L isoR) (mirrorL L isoI)
            (mirrorMEvent ri.length isoI.length e) (mirrorIv L reg) []
          = mirrorExRes L (eventStep p rr ri corr isoR isoI e reg [])) := by
  intro h
  have := h 100 ⟨⟨false, false, false, false, true, false⟩, 6⟩ (1, 90) [(11, 20), (41, 50)] [(11, 20), (41, 50)] (1, 95)
    [(11, 20)] ⟨MatchEventSubtype.fake_terminal_exon_left, (0, 0), (-1, -1)⟩ (1, 90) rfl
  revert this
  decide

/-! ### micro-intron restoration: EVERY read exon (first and last included), any number of retained introns per exon

`MicroWF n m mm`: every binding names a read exon `0 ≤ k ≤ n` (n = number of read introns, so `k = n` is the last
exon) and an isoform intron index `0 ≤ j < m`; nothing else — keys may repeat. -/

/-- the introns restored in exon `j` of the mirrored read (exon `n − j` of the read seen from the other end, bindings
    in the opposite order, isoform intron `m − 1 − ·`) are the mirror images, in mirrored order -/
theorem mirror_dual_microStep (L : Int) (n : Nat) (mm : List (Int × Int)) (isoI : List Iv)
    (hw : MicroWF n isoI.length mm) (j : Nat) (hj : j ≤ n) :
    microStep (mirrorMicroMap n isoI.length mm) (mirrorL L isoI) (j : Int) []
      = (match microStep mm isoI ((n - j : Nat) : Int) [] with
         | .ok xs => .ok (mirrorL L xs)
         | .error e => .error e) := by
  have hw' : MicroWF n (mirrorL L isoI).length (mirrorMicroMap n isoI.length mm) := by
    rw [mirrorL_length]; exact microWF_mirror hw
  rw [microStep_wf hw', microStep_wf hw, microOf_mirror L hw j hj]
  simp

/-- non-vacuity + the two failing inputs of fix a149767 on the REPAIRED model: a micro intron retained in the LAST read exon
    and two micro introns retained in ONE exon are restored, in both orientations -/
example : MicroWF 2 3 [(2, 2)] ∧ MicroWF 1 3 [(0, 0), (0, 1)] := by decide
example : processEvents ⟨⟨false, false, false, false, false, true⟩, 6⟩ (fun _ _ => (0, 0)) [] [] [(2, 2)]
      (6000, 8300) [(6301, 6999), (7301, 7799)] (6000, 8300) [(6301, 6999), (7301, 7799), (8092, 8099)]
    = .ok ((6000, 8300), [(6301, 6999), (7301, 7799), (8092, 8099)]) := by decide +kernel
example : processEvents ⟨⟨false, false, false, false, false, true⟩, 6⟩ (fun _ _ => (0, 0)) [] [] [(0, 0), (0, 1)]
      (4086, 4500) [(4319, 4400)] (4086, 4500) [(4109, 4147), (4237, 4256), (4319, 4400)]
    = .ok ((4086, 4500), [(4109, 4147), (4237, 4256), (4319, 4400)]) := by decide +kernel

/-- `…_witness` (fix a149767, last exon): the code BEFORE the repair never looked at the key of the last read exon, so the
    read `6000-6300,7000-7300,7800-8300` that retains the isoform's micro intron `8092-8099` in its last exon is
    returned unchanged, while its mirror image (micro intron in the FIRST exon) is corrected: `processEventsOld` is
    not mirror-dual on a well-formed micro map.  The repaired function is (`mirror_dual_processEvents_micro`). -/
theorem mirror_processEventsOld_last_exon_witness :
    ¬ (∀ (L : Int) (p : CParams) (err : Nat → Bool → Int × Int) (known : List Iv) (mm : List (Int × Int)) (rr : Iv)
        (ri : List Iv) (isoR : Iv) (isoI : List Iv),
        p.fl.fuzzy_junctions = false → MicroWF ri.length isoI.length mm →
        processEventsOld p (mirrorErr ri.length err) (mirrorL L known) [] (mirrorMicroMap ri.length isoI.length mm)
            (mirrorIv L rr) (mirrorL L ri) (mirrorIv L isoR) (mirrorL L isoI)
          = mirrorExRes L (processEventsOld p err known [] mm rr ri isoR isoI)) := by
  intro h
  have := h 9000 ⟨⟨false, false, false, false, false, true⟩, 6⟩ (fun _ _ => (0, 0)) [] [(2, 2)] (6000, 8300)
    [(6301, 6999), (7301, 7799)] (6000, 8300) [(6301, 6999), (7301, 7799), (8092, 8099)] rfl
    (by intro q hq; simp at hq; subst hq; decide)
  revert this
  decide +kernel

/-- `…_witness` (fix a149767, several per exon): before the repair the dict key of a read exon held ONE event, the last one
    assigned; with two micro introns retained in one exon the last one in ascending order was restored, which is
    the other one in the mirrored run -/
theorem mirror_processEventsOld_several_witness :
    ¬ (∀ (L : Int) (p : CParams) (err : Nat → Bool → Int × Int) (known : List Iv) (mm : List (Int × Int)) (rr : Iv)
        (ri : List Iv) (isoR : Iv) (isoI : List Iv),
        p.fl.fuzzy_junctions = false → MicroWF ri.length isoI.length mm →
        processEventsOld p (mirrorErr ri.length err) (mirrorL L known) [] (mirrorMicroMap ri.length isoI.length mm)
            (mirrorIv L rr) (mirrorL L ri) (mirrorIv L isoR) (mirrorL L isoI)
          = mirrorExRes L (processEventsOld p err known [] mm rr ri isoR isoI)) := by
  intro h
  have := h 5000 ⟨⟨false, false, false, false, false, true⟩, 6⟩ (fun _ _ => (0, 0)) [] [(0, 0), (0, 1)] (4086, 4500)
    [(4319, 4400)] (4086, 4500) [(4109, 4147), (4237, 4256), (4319, 4400)] rfl
    (by intro q hq; simp at hq; rcases hq with hq | hq <;> subst hq <;> decide)
  revert this
  decide +kernel

/-- the same two inputs through `correct_assigned_read` (event LISTS as `JunctionComparator` emits them): the old
    code returns the read unchanged / restores one of the two introns, the repaired code restores all of them -/
theorem correctAssignedReadOld_micro_witness :
    correctAssignedReadOld ⟨⟨false, false, false, false, false, true⟩, 6⟩ (fun _ _ => (0, 0)) [] false
        (some [⟨MatchEventSubtype.fake_micro_intron_retention, (2, 2), (absentPosition, 2)⟩]) (6000, 8300)
        [(6301, 6999), (7301, 7799), (8092, 8099)] [(6000, 6300), (7000, 7300), (7800, 8300)]
      = .ok [(6000, 6300), (7000, 7300), (7800, 8300)] ∧
    correctAssignedRead ⟨⟨false, false, false, false, false, true⟩, 6⟩ (fun _ _ => (0, 0)) [] false
        (some [⟨MatchEventSubtype.fake_micro_intron_retention, (2, 2), (absentPosition, 2)⟩]) (6000, 8300)
        [(6301, 6999), (7301, 7799), (8092, 8099)] [(6000, 6300), (7000, 7300), (7800, 8300)]
      = .ok [(6000, 6300), (7000, 7300), (7800, 8091), (8100, 8300)] ∧
    correctAssignedReadOld ⟨⟨false, false, false, false, false, true⟩, 6⟩ (fun _ _ => (0, 0)) [] false
        (some [⟨MatchEventSubtype.fake_micro_intron_retention, (0, 0), (absentPosition, 0)⟩,
               ⟨MatchEventSubtype.fake_micro_intron_retention, (1, 1), (absentPosition, 0)⟩]) (4086, 4500)
        [(4109, 4147), (4237, 4256), (4319, 4400)] [(4086, 4318), (4401, 4500)]
      = .ok [(4086, 4236), (4257, 4318), (4401, 4500)] ∧
    correctAssignedRead ⟨⟨false, false, false, false, false, true⟩, 6⟩ (fun _ _ => (0, 0)) [] false
        (some [⟨MatchEventSubtype.fake_micro_intron_retention, (0, 0), (absentPosition, 0)⟩,
               ⟨MatchEventSubtype.fake_micro_intron_retention, (1, 1), (absentPosition, 0)⟩]) (4086, 4500)
        [(4109, 4147), (4237, 4256), (4319, 4400)] [(4086, 4318), (4401, 4500)]
      = .ok [(4086, 4108), (4148, 4236), (4257, 4318), (4401, 4500)] := by
  decide +kernel

/-- fuzzy junction correction with the error counts read from the other end (`err i left ↦ err (n−1−i) (¬left)`),
    given the matched annotation introns of the mirrored read in mirrored order -/
theorem mirror_dual_fuzzyLoop (L : Int) (err : Nat → Bool → Int × Int) (rs qs : List Iv) (h : rs.length = qs.length) :
    fuzzyLoop (mirrorErr rs.length err) (mirrorL L rs) (mirrorL L qs) 0 = mirrorL L (fuzzyLoop err rs qs 0) := by
  have := fuzzyLoop_mirror L err rs qs 0 h
  simp only [Nat.zero_add] at this
  exact this

/-- `match_genomic_features` is NOT its own mirror image: of two annotated introns at the same distance from the
    read intron it takes the first in ascending order, which is the other one after the reflection -/
theorem mirror_matchGenomicFeatures_tie_witness :
    ¬ (∀ (L δ : Int) (known reads : List Iv),
        matchGenomicFeatures δ (mirrorL L known) (mirrorL L reads) = mirrorL L (matchGenomicFeatures δ known reads)) := by
  intro h
  have := h 30 2 [(10, 20), (12, 22)] [(11, 21)]
  revert this
  decide +kernel

/-- exon chain from the corrected region and the new introns: ALL inputs -/
theorem mirror_dual_buildExons (L : Int) (reg : Iv) (ni : List Iv) :
    buildExons (mirrorIv L reg) (mirrorL L ni) = mirrorL L (buildExons reg ni) := by
  cases ni with
  | nil => rfl
  | cons a t =>
    obtain ⟨l, hl⟩ : ∃ l, (a :: t).getLast? = some l := IsoVerif.Lemmas.getLast?_cons_some a t
    simp only [buildExons, mirrorL_head?, mirrorL_getLast?, hl, List.head?_cons, Option.map_some,
      junctionsFromBlocks_mirror]
    rw [mirrorL_cons, mirrorL_append, mirrorL_singleton]
    simp only [mirrorIv, List.cons_append, List.nil_append]
    congr 1
    · ext <;> simp <;> omega
    · congr 2; ext <;> simp <;> omega

/-- `is_valid_exon_chain` is mirror-symmetric: ALL lists -/
theorem mirror_dual_validChain (L : Int) (l : List Iv) : validChain (mirrorL L l) = validChain l := by
  have key : ∀ l, validChain l = true → validChain (mirrorL L l) = true := fun l h => by
    rw [IsoVerif.Lemmas.C14.validChain_iff] at h ⊢
    exact ⟨WFl_mirror L l h.1, SD_mirror L l h.2⟩
  rw [Bool.eq_iff_iff]
  exact ⟨fun h => by simpa only [mirrorL_mirrorL] using key _ h, key l⟩

theorem mirror_dual_validIntronChain (L : Int) (l : List Iv) :
    validIntronChain (mirrorL L l) = validIntronChain l := by
  rw [Bool.eq_iff_iff, IsoVerif.Lemmas.C14.validIntronChain_iff, IsoVerif.Lemmas.C14.validIntronChain_iff]
  constructor
  · intro h
    have := Spaced_mirror L _ h
    rwa [mirrorL_mirrorL] at this
  · exact Spaced_mirror L l

example : validIntronChain (mirrorL 100 [(11, 20), (31, 40)]) = true ∧ validIntronChain [(11, 20), (21, 40)] = false ∧
    validIntronChain (mirrorL 100 [(11, 20), (21, 40)]) = false := by decide

/-- the whole `while` loop of `process_events` (+ the step after it) without fuzzy junction correction (which is not
    mirror-symmetric on ties) on a well-formed event map WITH index-keyed events and any well-formed micro map:
    `process_events` of the mirrored input (events keyed by the mirror image of their LAST read intron, left/right
    names swapped, micro bindings counted from the other end) is the mirrored result, the same exception included.
    Proved below (`mirror_dual_processEvents`); the instance `emap = []` is `mirror_dual_processEvents_micro`. -/
def ProcessEventsMirror : Prop :=
  ∀ (L : Int) (p : CParams) (err : Nat → Bool → Int × Int) (known : List Iv) (emap : List (Int × MEvent))
    (mm : List (Int × Int)) (rr : Iv) (ri : List Iv) (isoR : Iv) (isoI : List Iv),
    p.fl.fuzzy_junctions = false → EmapWF ri.length isoI.length emap → MicroWF ri.length isoI.length mm →
    processEvents p (mirrorErr ri.length err) (mirrorL L known) (mirrorEmap ri.length isoI.length emap)
        (mirrorMicroMap ri.length isoI.length mm) (mirrorIv L rr) (mirrorL L ri) (mirrorIv L isoR) (mirrorL L isoI)
      = mirrorExRes L (processEvents p err known emap mm rr ri isoR isoI)

/-- **`ProcessEventsMirror` holds.**  The loop walks the tiling of the read introns by the event ranges left to right
    (`loop_eq_back`: its result is the summary `backS` of the tiling, which is defined from the RIGHT end), the loop
    on the mirrored data walks the same tiling right to left (`mirror_loop_back`); per segment the two agree by
    `evOut_mirror` / `microOf_mirror`; the region updates commute because `EmapWF` allows one event
    per region end (needed: `mirror_processEvents_override_witness`); every exception of a well-formed map is the failed
    `assert` (`evOut_inrange`), so the order in which the runs meet it does not matter. -/
theorem mirror_dual_processEvents : ProcessEventsMirror := by
  intro L p err known emap mm rr ri isoR isoI hf hwf hw
  have ho := emapOK_of_wf hwf
  -- `hf`: no fuzzy correction, the corrected introns are the read introns (`corr := ri`)
  have h1 := mirror_loop_back L ⟨p, emap, mm, rr, ri, ri, isoR, isoI⟩ rfl hw ho (2 * ri.length + emap.length + 2) 0
    (mirrorIv L rr) [] (by omega) (by simp only; omega)
  have h2 := loop_eq_back ⟨p, emap, mm, rr, ri, ri, isoR, isoI⟩ rfl hw ho (2 * ri.length + emap.length + 2) 0 rr []
    (by omega) (by simp only; omega) (bd_zero ho)
  rw [backS_zero] at h2
  have hlen : (mirrorEmap ri.length isoI.length emap).length = emap.length := by simp [mirrorEmap]
  simp only [processEvents, correctedIntrons, hf, Bool.false_eq_true, if_false, eventFuel, mirrorL_length, hlen]
  have happ : RegUpd.app (none, none) rr = rr := rfl
  simp only [LCtx.loop, LCtx.mirror, Int.natCast_zero, Nat.sub_zero, List.nil_append, happ, totalS] at h1 h2
  rw [h1, h2]
  cases backS ⟨p, emap, mm, rr, ri, ri, isoR, isoI⟩ ri.length with
  | error x => rfl
  | ok q =>
    obtain ⟨u, xs⟩ := q
    simp only [mirrorExRes, mirrorUpd_app]

/-- **the whole `while` loop + the step after it, on an event map that holds micro-intron retentions only**
    (no index-keyed event; fuzzy correction off, which is not mirror-symmetric on ties): `process_events` of the
    mirrored read is the mirrored result — for ALL positions of the retained introns (first exon, inner exons,
    LAST exon) and any number of them per exon.  This is the statement that was false before the repair
    (`…_last_exon_witness`, `…_several_witness` above). -/
theorem mirror_dual_processEvents_micro (L : Int) (p : CParams) (err : Nat → Bool → Int × Int) (known : List Iv)
    (mm : List (Int × Int)) (rr : Iv) (ri : List Iv) (isoR : Iv) (isoI : List Iv)
    (hf : p.fl.fuzzy_junctions = false) (hw : MicroWF ri.length isoI.length mm) :
    processEvents p (mirrorErr ri.length err) (mirrorL L known) [] (mirrorMicroMap ri.length isoI.length mm)
        (mirrorIv L rr) (mirrorL L ri) (mirrorIv L isoR) (mirrorL L isoI)
      = mirrorExRes L (processEvents p err known [] mm rr ri isoR isoI) := by
  have hwf : EmapWF ri.length isoI.length [] :=
    ⟨List.nodup_nil, fun _ h => absurd h List.not_mem_nil, fun _ h => absurd h List.not_mem_nil,
      fun _ h => absurd h List.not_mem_nil, Nat.zero_le 1, Nat.zero_le 1⟩
  exact mirror_dual_processEvents L p err known [] mm rr ri isoR isoI hf hwf hw

-- non-vacuity: a well-formed event map with an index-keyed event of each end and an inner one, and the two sides
example : EmapWF 3 2 [(0, ⟨MatchEventSubtype.fake_terminal_exon_left, (0, 0), (0, 0)⟩),
                      (1, ⟨MatchEventSubtype.exon_misalignment, (0, 1), (1, 1)⟩),
                      (2, ⟨MatchEventSubtype.fake_terminal_exon_right, (0, 0), (2, 2)⟩)] := by decide
example : processEvents ⟨⟨false, false, true, false, true, false⟩, 6⟩ (mirrorErr 3 (fun _ _ => (0, 0))) []
      (mirrorEmap 3 2 [(0, ⟨MatchEventSubtype.fake_terminal_exon_left, (0, 0), (0, 0)⟩),
                       (1, ⟨MatchEventSubtype.exon_misalignment, (0, 1), (1, 1)⟩),
                       (2, ⟨MatchEventSubtype.fake_terminal_exon_right, (0, 0), (2, 2)⟩)]) []
      (mirrorIv 1000 (1, 900)) (mirrorL 1000 [(11, 20), (101, 400), (801, 850)]) (mirrorIv 1000 (21, 800))
      (mirrorL 1000 [(101, 200), (301, 400)])
    = .ok (mirrorIv 1000 (21, 800), mirrorL 1000 [(101, 200), (301, 400)]) ∧
    processEvents ⟨⟨false, false, true, false, true, false⟩, 6⟩ (fun _ _ => (0, 0)) []
      [(0, ⟨MatchEventSubtype.fake_terminal_exon_left, (0, 0), (0, 0)⟩),
       (1, ⟨MatchEventSubtype.exon_misalignment, (0, 1), (1, 1)⟩),
       (2, ⟨MatchEventSubtype.fake_terminal_exon_right, (0, 0), (2, 2)⟩)] []
      (1, 900) [(11, 20), (101, 400), (801, 850)] (21, 800) [(101, 200), (301, 400)]
    = .ok ((21, 800), [(101, 200), (301, 400)]) := by decide +kernel

/-! ### reflection through event LISTS (`correct_misalignments` + `process_events` + the validity gates)

`mirrorEventList n m evs` (Model/C11SymBedCorr.lean): every event seen from the other end by `mirrorMEventS` — the two
sentinels of `read_region` are KEPT (undefined region: unchanged; absent position + read exon `k`: absent position + exon
`n − k`), all other events are `mirrorMEvent` — in the opposite order. -/

/-- what the reflection theorem needs of an event list (all decidable): its event map and its micro bindings are well
    formed (`EmapWF`, `MicroWF`), an event that names a read EXON (absent sentinel) names ONE isoform intron (true of
    the only such event the comparator emits: `isoform_region = (i, i)`, junction_comparator.py), and the read has at
    most 2³¹ − 1 introns, so that no intron index is mirrored onto a sentinel -/
structure EventsMirrorable (p : CParams) (n m : Nat) (evs : List MEvent) : Prop where
  emap : EmapWF n m (buildEventMap evs)
  micro : MicroWF n m (buildMicroMap p.fl.microintron_retention evs)
  single : ∀ e ∈ evs, e.read.1 = absentPosition → e.iso.1 = e.iso.2
  size : (n : Int) ≤ absentPosition

/-- the sentinel-preserving event mirror is `mirrorMEvent` on every event that enters the event map -/
theorem mirrorMEventS_of_normal (n m : Nat) (e : MEvent) (h1 : e.read ≠ undefinedRegion) (h2 : e.read.1 ≠ absentPosition) :
    mirrorMEventS n m e = mirrorMEvent n m e :=
  mirrorS_of_normal n m e (by simp [normalB, h1, h2])

/-- … and keeps both sentinels -/
theorem mirrorMEventS_sentinel (n m : Nat) (e : MEvent) :
    (e.read = undefinedRegion → (mirrorMEventS n m e).read = undefinedRegion) ∧
    (e.read ≠ undefinedRegion → e.read.1 = absentPosition →
      (mirrorMEventS n m e).read = (absentPosition, (n : Int) - e.read.2)) := by
  refine ⟨fun h => by simp [mirrorMEventS, h], fun h1 h2 => by simp [mirrorMEventS, h1, h2]⟩

theorem eventsMirrorable_normal {p : CParams} {n m : Nat} {evs : List MEvent} (h : EventsMirrorable p n m evs) :
    ∀ e ∈ evs, normalB e = true → normalB (mirrorMEvent n m e) = true := by
  intro e he hb
  have hq := buildEventMap_mem_of he hb
  obtain ⟨_, h2, _, h4, _, _⟩ := h.emap
  exact normalB_mirror_of_inrange n m e h.size (h2 _ hq (h4 _ hq)).2.2.read

/-- event map and micro bindings of the mirrored event list -/
theorem mirror_dual_buildEventMap {p : CParams} {n m : Nat} {evs : List MEvent} (h : EventsMirrorable p n m evs) :
    buildEventMap (mirrorEventList n m evs) = mirrorEmap n m (buildEventMap evs).reverse :=
  buildEventMap_mirror n m evs (eventsMirrorable_normal h)

theorem mirror_dual_buildMicroMap {p : CParams} {n m : Nat} {evs : List MEvent} (h : EventsMirrorable p n m evs) :
    buildMicroMap p.fl.microintron_retention (mirrorEventList n m evs)
      = mirrorMicroMap n m (buildMicroMap p.fl.microintron_retention evs) :=
  buildMicroMap_mirror n m _ evs (eventsMirrorable_normal h) h.single

/-- **`correct_assigned_read` is mirror dual** (fuzzy junction correction off): the corrected exons of the mirrored read
    with the mirrored event list on the mirrored annotation are the mirrored corrected exons; an exception is the same
    exception; a correction rejected by `is_valid_intron_chain` / `is_valid_exon_chain` is rejected in both runs -/
theorem mirror_dual_correctAssignedRead (L : Int) (p : CParams) (err : Nat → Bool → Int × Int) (known : List Iv)
    (noninformative : Bool) (evs : List MEvent) (isoRegion : Iv) (isoIntrons exons : List Iv)
    (hf : p.fl.fuzzy_junctions = false)
    (h : EventsMirrorable p (junctionsFromBlocks exons).length isoIntrons.length evs) :
    correctAssignedRead p (mirrorErr (junctionsFromBlocks exons).length err) (mirrorL L known) noninformative
        (some (mirrorEventList (junctionsFromBlocks exons).length isoIntrons.length evs)) (mirrorIv L isoRegion)
        (mirrorL L isoIntrons) (mirrorL L exons)
      = mirrorExL L (correctAssignedRead p err known noninformative (some evs) isoRegion isoIntrons exons) := by
  unfold correctAssignedRead
  simp only [mirrorL_length, mirrorL_head?, mirrorL_getLast?]
  split
  · rfl
  · cases hh : exons.head? <;> cases hl : exons.getLast? <;> simp only [Option.map_none, Option.map_some] <;>
      try rfl
    rename_i f l
    have hpe := mirror_dual_processEvents L p err known (buildEventMap evs).reverse
      (buildMicroMap p.fl.microintron_retention evs) (f.1, l.2) (junctionsFromBlocks exons) isoRegion isoIntrons hf
      (emapWF_reverse h.emap) h.micro
    rw [processEvents_reverse _ _ _ _ _ _ _ _ _ h.emap.1] at hpe
    have hrr : ((mirrorIv L l).1, (mirrorIv L f).2) = mirrorIv L (f.1, l.2) := rfl
    rw [junctionsFromBlocks_mirror, mirror_dual_buildEventMap h, mirror_dual_buildMicroMap h, hrr, hpe]
    cases processEvents p err known (buildEventMap evs) (buildMicroMap p.fl.microintron_retention evs) (f.1, l.2)
        (junctionsFromBlocks exons) isoRegion isoIntrons with
    | error x => rfl
    | ok q =>
      obtain ⟨reg, ni⟩ := q
      simp only [mirrorExRes, mirror_dual_buildExons, mirror_dual_validChain, mirror_dual_validIntronChain]
      split <;> rfl

instance (p : CParams) (n m : Nat) (evs : List MEvent) : Decidable (EventsMirrorable p n m evs) :=
  decidable_of_iff (_ ∧ _ ∧ _ ∧ _) ⟨fun ⟨a, b, c, d⟩ => ⟨a, b, c, d⟩, fun ⟨a, b, c, d⟩ => ⟨a, b, c, d⟩⟩

-- non-vacuity: an event list with an index-keyed event, a micro-intron retention in the LAST read exon (absent
-- sentinel kept by the mirror) and an undefined-region event; hypotheses and both sides
example : mirrorEventList 2 3 [⟨MatchEventSubtype.fake_micro_intron_retention, (2, 2), (absentPosition, 2)⟩,
      ⟨MatchEventSubtype.intron_retention, (0, 0), undefinedRegion⟩,
      ⟨MatchEventSubtype.fake_terminal_exon_left, (0, 0), (0, 0)⟩]
    = [⟨MatchEventSubtype.fake_terminal_exon_right, (2, 2), (1, 1)⟩,
       ⟨MatchEventSubtype.intron_retention, (2, 2), undefinedRegion⟩,
       ⟨MatchEventSubtype.fake_micro_intron_retention, (0, 0), (absentPosition, 0)⟩] := by decide
example : EventsMirrorable ⟨⟨false, false, false, false, true, true⟩, 6⟩ 2 3
    [⟨MatchEventSubtype.fake_micro_intron_retention, (2, 2), (absentPosition, 2)⟩,
     ⟨MatchEventSubtype.intron_retention, (0, 0), undefinedRegion⟩,
     ⟨MatchEventSubtype.fake_terminal_exon_left, (0, 0), (0, 0)⟩] := by decide
example : correctAssignedRead ⟨⟨false, false, false, false, true, true⟩, 6⟩ (fun _ _ => (0, 0)) [] false
      (some [⟨MatchEventSubtype.fake_micro_intron_retention, (2, 2), (absentPosition, 2)⟩,
             ⟨MatchEventSubtype.intron_retention, (0, 0), undefinedRegion⟩,
             ⟨MatchEventSubtype.fake_terminal_exon_left, (0, 0), (0, 0)⟩]) (6000, 8300)
      [(6301, 6999), (7301, 7799), (8092, 8099)] [(6000, 6300), (7000, 7300), (7800, 8300)]
    = .ok [(7000, 7300), (7800, 8091), (8100, 8300)] ∧
    correctAssignedRead ⟨⟨false, false, false, false, true, true⟩, 6⟩ (mirrorErr 2 (fun _ _ => (0, 0))) [] false
      (some (mirrorEventList 2 3 [⟨MatchEventSubtype.fake_micro_intron_retention, (2, 2), (absentPosition, 2)⟩,
             ⟨MatchEventSubtype.intron_retention, (0, 0), undefinedRegion⟩,
             ⟨MatchEventSubtype.fake_terminal_exon_left, (0, 0), (0, 0)⟩])) (mirrorIv 9000 (6000, 8300))
      (mirrorL 9000 [(6301, 6999), (7301, 7799), (8092, 8099)]) (mirrorL 9000 [(6000, 6300), (7000, 7300), (7800, 8300)])
    = .ok (mirrorL 9000 [(7000, 7300), (7800, 8091), (8100, 8300)]) := by decide +kernel

/-- why `EmapWF` allows one event per region end: the LAST `fake_terminal_exon_right` event wins, which is the other
    one in the mirrored run (model and real code agree) -/
theorem mirror_processEvents_override_witness :
    processEvents ⟨⟨false, false, false, false, true, false⟩, 6⟩ (mirrorErr 2 (fun _ _ => (0, 0))) []
        (mirrorEmap 2 0 [(0, ⟨MatchEventSubtype.fake_terminal_exon_right, (0, 0), (0, 0)⟩),
                         (1, ⟨MatchEventSubtype.fake_terminal_exon_right, (0, 0), (1, 1)⟩)]) []
        (mirrorIv 100 (1, 90)) (mirrorL 100 [(11, 20), (41, 50)]) (mirrorIv 100 (1, 90)) (mirrorL 100 [])
      ≠ mirrorExRes 100 (processEvents ⟨⟨false, false, false, false, true, false⟩, 6⟩ (fun _ _ => (0, 0)) []
          [(0, ⟨MatchEventSubtype.fake_terminal_exon_right, (0, 0), (0, 0)⟩),
           (1, ⟨MatchEventSubtype.fake_terminal_exon_right, (0, 0), (1, 1)⟩)] []
          (1, 90) [(11, 20), (41, 50)] (1, 90) []) := by
  decide +kernel

-- non-vacuity of the reflection theorems: an in-range event, and the two sides computed on it
example : EventInRange 2 1 ⟨MatchEventSubtype.fake_terminal_exon_left, (1073741823, 1073741823), (0, 0)⟩ ∧
    eventStep ⟨⟨true, false, true, false, true, true⟩, 6⟩ (mirrorIv 200 (10, 99)) (mirrorL 200 [(13, 40), (61, 70)])
      (mirrorL 200 [(13, 40), (61, 70)]) (mirrorIv 200 (41, 120)) (mirrorL 200 [(61, 70)])
      (mirrorMEvent 2 1 ⟨MatchEventSubtype.fake_terminal_exon_left, (1073741823, 1073741823), (0, 0)⟩)
      (mirrorIv 200 (10, 99)) [] = .ok (mirrorIv 200 (41, 99), []) ∧
    (mirrorMEvent 2 1 ⟨MatchEventSubtype.fake_terminal_exon_left, (1073741823, 1073741823), (0, 0)⟩).etype
      = MatchEventSubtype.fake_terminal_exon_right := by
  exact ⟨by decide, by decide +kernel, rfl⟩

example : fuzzyLoop (mirrorErr 1 (fun _ l => if l then (1, 0) else (0, 0))) (mirrorL 100 [(21, 30)])
    (mirrorL 100 [(20, 31)]) 0 = mirrorL 100 [(20, 30)] := by decide

end IsoVerif.Props.C11Corrector
