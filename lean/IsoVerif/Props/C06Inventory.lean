/-
C06 — the inventories regenerated from /repo on every run (`Gen/SharedState.lean`, `Gen/SetSites.lean`) are covered
by the hand-written handled tables (`Model/C06Inventory.lean`): a new class-level / module-level mutable, a new
unsorted iteration over a set, a new reader of an assignment id or a new run-dependent call re-opens the obligation.
The tables are searched by rewriting, an item being found where the same literal stands in the handled table
(`x == x`); evaluating `==` on the strings themselves costs the kernel a UTF-8 encoding of both sides per comparison.
Kept in a file of its own so that a failure here does not take the other C06 theorems down with it.
-/
import IsoVerif.Lemmas.C06Inventory

namespace IsoVerif.Props.C06
open IsoVerif.Model.C06Inv IsoVerif.Gen


/-- every class-level / module-level mutable of the modules reachable from isoquant.py (re-extracted from
    /repo on every run) has an entry, hence an argument, in the handled table -/
theorem inventory_handled : subsetB shared_state_inventory (handled_state.map Prod.fst) = true := by
  simp only [subsetB, shared_state_inventory, handled_state, List.map, List.all_cons, List.all_nil, List.contains_cons,
    beq_self_eq_true, Bool.true_or, Bool.or_true, Bool.and_self]

theorem args_fields_handled : subsetB args_fields_mutated handled_args_fields = true := by
  simp only [subsetB, args_fields_mutated, handled_args_fields, List.all_cons, List.all_nil, List.contains_cons,
    beq_self_eq_true, Bool.true_or, Bool.or_true, Bool.and_self]

/-- every place where the iteration order of a set is observable has an entry in the handled table -/
theorem set_sites_handled : subseqB set_iteration_sites (handled_set_sites.map Prod.fst) = true := by
  -- the handled table lists the sites one for one in the generator's order, so the identity embedding is the witness;
  -- once a site has gone from /repo and its line is still in the table, the walk is evaluated instead (string
  -- comparisons in the kernel: some 300 times dearer)
  first
    | exact subseqB_of_sublist (.refl _)
    | decide +kernel

theorem nondeterminism_handled : subsetB nondeterminism_calls handled_nondeterminism = true := by
  simp only [subsetB, nondeterminism_calls, handled_nondeterminism, List.all_cons, List.all_nil, List.contains_cons,
    beq_self_eq_true, Bool.true_or, Bool.or_true, Bool.and_self]

/-- nobody but the loader's equality test and the (de)serialisers reads an assignment id -/
theorem assignment_id_readers_handled : subsetB assignment_id_readers handled_assignment_id_readers = true := by
  simp only [subsetB, assignment_id_readers, handled_assignment_id_readers, List.all_cons, List.all_nil,
    List.contains_cons, beq_self_eq_true, Bool.true_or, Bool.or_true, Bool.and_self]

theorem feature_info_readers_handled : subsetB feature_info_readers handled_feature_info_readers = true := by
  simp only [subsetB, feature_info_readers, handled_feature_info_readers, List.all_cons, List.all_nil,
    List.contains_cons, beq_self_eq_true, Bool.true_or, Bool.or_true, Bool.and_self]

/-- non-vacuity: the inventories are not empty and the check does reject an unknown item -/
example : shared_state_inventory ≠ [] ∧ set_iteration_sites ≠ [] ∧
    subsetB ("NewClass.cache" :: shared_state_inventory) (handled_state.map Prod.fst) = false ∧
    subseqB ["a:f:for:s", "new:g:list:t"] ["a:f:for:s", "b:h:for:u"] = false := by decide +kernel


end IsoVerif.Props.C06
