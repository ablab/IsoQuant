/-
C18 / C11 — the Canonical flag under strand reflection.

Reverse-complementing the chromosome and mirroring the introns (`x ↦ L + 1 − x`, list reversed) turns a `+` record into a
`-` record and leaves a record of unknown strand (`.`) a record of unknown strand.  The flag must be the same on both
sides.  For `+` / `-` this follows from the tables being each other's mirror image; for `.` it holds for the repaired
`check_sites_are_canonical` (`.` = canonical on `+` or canonical on `-`) and FAILED for the function before the repair,
which looked `.` up as `-` (`dot_flag_orig_reflection_witness`: GT–AG chain False, its mirror image True).

All sequences (mixed case: soft-masked bases are complemented within their case), all intron lists inside the
chromosome, all memo states.
-/
import IsoVerif.Props.C18
import IsoVerif.Lemmas.CanonicalReflect

namespace IsoVerif.Props.C18Reflect
open IsoVerif.Gen IsoVerif.Model IsoVerif.Model.C18 IsoVerif.Lemmas.C18 IsoVerif.Props.C18

/-- the same intron on the reverse-complemented chromosome of length `L` (1-based closed coordinates) -/
def mirrorIv (L : Int) (it : Iv) : Iv := (L + 1 - it.2, L + 1 - it.1)

/-- the same intron chain on the reverse-complemented chromosome, in coordinate order again -/
def mirrorIntrons (L : Int) (l : List Iv) : List Iv := (l.map (mirrorIv L)).reverse

def flipStrand : Strand → Strand
  | .plus => .minus
  | .minus => .plus
  | .dot => .dot

/-- the intron lies inside the chromosome with both dinucleotides (the statement's "in the reference FASTA") -/
def InsideChr (chr : Seq) (it : Iv) : Prop :=
  1 ≤ it.1 ∧ it.1 + 1 ≤ chr.length ∧ 2 ≤ it.2 ∧ it.2 ≤ chr.length

/-- the generated tables are each other's mirror image (sides swapped, reversed, complemented): `rev_table_is_revcomp`,
    a `decide` over the tables re-extracted from /repo on every run -/
theorem mirror_dual_tables :
    (∀ p ∈ fwdSites, revcompSite p ∈ revSites) ∧ (∀ p ∈ revSites, revcompSite p ∈ fwdSites) :=
  ⟨rev_table_is_revcomp.1, rev_table_is_revcomp.2.1⟩

theorem isFwd_revcompSite (p : Site) : isFwd (revcompSite p) = isRev p := by
  rw [Bool.eq_iff_iff]
  simp only [isFwd, isRev, List.contains_iff_mem]
  constructor
  · intro h
    have := mirror_dual_tables.1 _ h
    rwa [revcompSite_involutive] at this
  · intro h; exact mirror_dual_tables.2 _ h

theorem isRev_revcompSite (p : Site) : isRev (revcompSite p) = isFwd p := by
  have := isFwd_revcompSite (revcompSite p)
  rw [revcompSite_involutive] at this
  exact this.symm

/-- one intron, definite strand: canonical on `st` in the chromosome ⇔ canonical on the opposite strand in the reverse
    complement at the mirrored position -/
theorem canonCompute_reflect (chr : Seq) (it : Iv) (h : InsideChr chr it) (st : Strand) (hst : st ≠ .dot) :
    canonCompute ⟨rcSeq chr, 1⟩ (mirrorIv chr.length it) (flipStrand st) = canonCompute ⟨chr, 1⟩ it st := by
  obtain ⟨h1, h1', h2, h2'⟩ := h
  simp only [canonCompute, mirrorIv]
  rw [mirror_site chr it h1 h1' h2 h2']
  cases st with
  | plus => simp [flipStrand, isRev_revcompSite]
  | minus => simp [flipStrand, isFwd_revcompSite]
  | dot => exact absurd rfl hst

theorem all_reflect (chr : Seq) (introns : List Iv) (hin : ∀ it ∈ introns, InsideChr chr it) (st : Strand) (hst : st ≠ .dot) :
    ((mirrorIntrons chr.length introns).all fun it => canonCompute ⟨rcSeq chr, 1⟩ it (flipStrand st)) =
      (introns.all fun it => canonCompute ⟨chr, 1⟩ it st) := by
  rw [Bool.eq_iff_iff]
  simp only [mirrorIntrons, List.all_eq_true, List.mem_reverse, List.mem_map]
  constructor
  · intro h it hit
    rw [← canonCompute_reflect chr it (hin it hit) st hst]
    exact h _ ⟨it, hit, rfl⟩
  · rintro h _ ⟨it, hit, rfl⟩
    rw [canonCompute_reflect chr it (hin it hit) st hst]
    exact h it hit

/-- **canonical_flag_reflection** — the answer the statement demands is reflection-equivariant for EVERY strand value:
    the mirrored chain on the reverse complement, reported on the flipped strand (`.` stays `.`), gets the same flag -/
theorem canonical_flag_reflection (chr : Seq) (introns : List Iv) (st : Strand)
    (hin : ∀ it ∈ introns, InsideChr chr it) :
    pureAnswer ⟨rcSeq chr, 1⟩ (mirrorIntrons chr.length introns) (flipStrand st) = pureAnswer ⟨chr, 1⟩ introns st := by
  have hp := all_reflect chr introns hin .plus (by decide)
  have hm := all_reflect chr introns hin .minus (by decide)
  simp only [flipStrand] at hp hm
  cases st with
  | plus => simp only [flipStrand, pureAnswer, pureAll]; simpa using hp
  | minus => simp only [flipStrand, pureAnswer, pureAll]; simpa using hm
  | dot =>
    simp only [flipStrand, pureAnswer, pureAll, if_true]
    rw [hp, hm, Bool.or_comm]

/-- **dot_flag_reflection_invariant**: the flag of a record of unknown strand does
    not depend on the orientation of the locus -/
theorem dot_flag_reflection_invariant (chr : Seq) (introns : List Iv) (hin : ∀ it ∈ introns, InsideChr chr it) :
    pureAnswer ⟨rcSeq chr, 1⟩ (mirrorIntrons chr.length introns) .dot = pureAnswer ⟨chr, 1⟩ introns .dot :=
  canonical_flag_reflection chr introns .dot hin

/-- the same about the function with its memo: whatever was asked before on either side (any reachable memo states), the
    real answers agree -/
theorem check_sites_reflection (chr : Seq) (introns : List Iv) (st : Strand) (hin : ∀ it ∈ introns, InsideChr chr it)
    {σ σ' : CanonMemo} (h : Reachable ⟨chr, 1⟩ σ) (h' : Reachable ⟨rcSeq chr, 1⟩ σ') :
    (checkSites ⟨rcSeq chr, 1⟩ (mirrorIntrons chr.length introns) (flipStrand st) σ').1 =
      (checkSites ⟨chr, 1⟩ introns st σ).1 := by
  rw [canonical_pure h, canonical_pure h', canonical_flag_reflection chr introns st hin]

/-- a window of the chromosome loaded by `set_reference_sequence` on either side: the flags still agree (composition with
    `flag_independent_of_region`) -/
theorem window_flag_reflection (chr : Seq) (introns : List Iv) (st : Strand) (hin : ∀ it ∈ introns, InsideChr chr it)
    (s e s' e' : Int) (hs : 1 ≤ s) (hs' : 1 ≤ s')
    (hw : ∀ it ∈ introns, s ≤ it.1 ∧ it.1 + 1 ≤ e ∧ s < it.2 ∧ it.2 ≤ e)
    (hw' : ∀ it ∈ mirrorIntrons chr.length introns, s' ≤ it.1 ∧ it.1 + 1 ≤ e' ∧ s' < it.2 ∧ it.2 ≤ e') :
    pureAnswer (setReferenceSequence (rcSeq chr) s' e').1 (mirrorIntrons chr.length introns) (flipStrand st) =
      pureAnswer (setReferenceSequence chr s e).1 introns st := by
  rw [(flag_independent_of_region chr s e introns st hs hw).1,
      (flag_independent_of_region (rcSeq chr) s' e' _ (flipStrand st) hs' hw').1]
  exact canonical_flag_reflection chr introns st hin

/-- **dot_flag_orig_reflection_witness** (replayed on the real code by the oracle, `WITNESSES`): before the
    repair the GT–AG intron (5,14) of `AAAAGTCCCCCCAGTTTT` reported on strand `.` answers False, its mirror image — the
    intron (5,14) of the reverse complement `AAAACTGGGGGGACTTTT` — answers True; after the repair both answer True -/
theorem dot_flag_orig_reflection_witness :
    rcSeq witnessSeq = "AAAACTGGGGGGACTTTT".toList ∧ mirrorIntrons 18 [(5, 14)] = [(5, 14)] ∧
    (checkSitesOrig ⟨witnessSeq, 1⟩ [(5, 14)] .dot []).1 = false ∧
    (checkSitesOrig ⟨rcSeq witnessSeq, 1⟩ (mirrorIntrons 18 [(5, 14)]) .dot []).1 = true ∧
    (checkSites ⟨witnessSeq, 1⟩ [(5, 14)] .dot []).1 = true ∧
    (checkSites ⟨rcSeq witnessSeq, 1⟩ (mirrorIntrons 18 [(5, 14)]) .dot []).1 = true := by
  rw [witnessSeq_eq]; decide +kernel

example : InsideChr witnessSeq (5, 14) := by
  unfold InsideChr; rw [witnessSeq_eq]; decide +kernel

-- a soft-masked two-intron chain, one GT-AG and one GC-AG: canonical on '+', so True for '.', and so is its mirror image
example : pureAnswer ⟨"aaGTccAGttGCaaAGtt".toList, 1⟩ [(3, 8), (11, 16)] .dot = true ∧
    pureAnswer ⟨rcSeq "aaGTccAGttGCaaAGtt".toList, 1⟩ (mirrorIntrons 18 [(3, 8), (11, 16)]) .dot = true ∧
    pureAnswer ⟨rcSeq "aaGTccAGttGCaaAGtt".toList, 1⟩ (mirrorIntrons 18 [(3, 8), (11, 16)]) .minus = true ∧
    pureAnswer ⟨rcSeq "aaGTccAGttGCaaAGtt".toList, 1⟩ (mirrorIntrons 18 [(3, 8), (11, 16)]) .plus = false ∧
    rcSeq "aaGTccAGttGCaaAGtt".toList = "aaCTttGCaaCTggACtt".toList := by decide +kernel

-- reachable memo states on both sides (hypotheses of `check_sites_reflection`)
example : Reachable ⟨witnessSeq, 1⟩ (checkSites ⟨witnessSeq, 1⟩ [(5, 14)] .minus []).2 ∧
    Reachable ⟨rcSeq witnessSeq, 1⟩ (checkSites ⟨rcSeq witnessSeq, 1⟩ [(5, 14)] .dot []).2 :=
  ⟨Reachable.query [] _ _ Reachable.fresh, Reachable.query [] _ _ Reachable.fresh⟩

-- windows on both sides (hypotheses of `window_flag_reflection`)
example : (∀ it ∈ [((5, 14) : Iv)], (3 : Int) ≤ it.1 ∧ it.1 + 1 ≤ 16 ∧ 3 < it.2 ∧ it.2 ≤ 16) ∧
    (∀ it ∈ mirrorIntrons (witnessSeq.length : Int) [(5, 14)], (2 : Int) ≤ it.1 ∧ it.1 + 1 ≤ 17 ∧ 2 < it.2 ∧ it.2 ≤ 17) := by
  rw [witnessSeq_eq]; decide +kernel

end IsoVerif.Props.C18Reflect
