/-
C19 (lists) — the loop functions of src/common.py equal their set-theoretic specification for every
sorted, pairwise disjoint, well-formed interval list (no bound on length or coordinates).
`inter l₁ l₂` (Lemmas/Interval.lean) is the number of common positions written as the double sum of the
generated `intersection_len`; `inter_counts_positions` below grounds it in sets of positions.
-/
import IsoVerif.Props.C19
import IsoVerif.Lemmas.Interval
import IsoVerif.Lemmas.BinSearch
import IsoVerif.Lemmas.Lists
import IsoVerif.Lemmas.Jaccard
import IsoVerif.Lemmas.BinSearchRev
import IsoVerif.Lemmas.Positions
import IsoVerif.Lemmas.MergeSorted
import IsoVerif.Lemmas.Exons
import IsoVerif.Lemmas.Truncate

namespace IsoVerif.Props.C19Lists
open IsoVerif.Gen IsoVerif.Model IsoVerif.Lemmas

/-! ### grounding in sets of positions
`countWin f lo n` is the number of positions `p ∈ [lo, lo+n)` with `f p`; `covb l p` decides whether `p` is covered by `l`.
Inside any window containing the lists, total length = |A| and `inter` = |A ∩ B|. -/

theorem total_length_counts_positions (l : List Iv) (lo : Int) (n : Nat) (h : SD l) (w : WFl l)
    (hwin : ∀ r ∈ l, lo ≤ r.1 ∧ r.2 < lo + n) :
    intervalsTotalLength l = (countWin (covb l) lo n : Int) :=
  total_length_counts l lo n h w hwin

theorem inter_counts_positions (l1 l2 : List Iv) (lo : Int) (n : Nat) (h1 : SD l1) (h2 : SD l2) (w1 : WFl l1) (w2 : WFl l2)
    (hwin : ∀ r ∈ l1, lo ≤ r.1 ∧ r.2 < lo + n) :
    inter l1 l2 = (countWin (fun p => covb l1 p && covb l2 p) lo n : Int) := by
  rw [countWin_congr _ (fun p => covb l2 p && covb l1 p) lo n (fun p => Bool.and_comm _ _),
    countWin_and_covb (covb l2) lo n l1 h1 w1, inter]
  congr 1
  refine List.map_congr_left fun a ha => ?_
  rw [rowSum_counts a l2 lo n h2 w2 (hwin a ha),
    countWin_congr _ _ lo n (fun p => Bool.and_comm (covb l2 p) (inIv a p))]

theorem covb_iff_cov (l : List Iv) (p : Int) : covb l p = true ↔ cov l p := covb_iff l p

example : intervalsTotalLength [(2, 4), (7, 7)] = (countWin (covb [(2, 4), (7, 7)]) 0 10 : Int) := by decide

theorem total_length_eq_sum (l : List Iv) :
    intervalsTotalLength l = (l.map (fun r => r.2 - r.1 + 1)).sum :=
  total_eq_sum_of_all l _ fun _ _ => rfl

/-- the two-pointer sweep of `read_coverage_fraction` returns the number of common positions -/
theorem coverage_sweep_eq (l1 l2 : List Iv) (h1 : SD l1) (h2 : SD l2) (w1 : WFl l1) (w2 : WFl l2) :
    readCoverageSweep l1 l2 = inter l1 l2 :=
  sweep_eq_inter l1 l2 h1 h2 w1 w2

/-- `read_coverage_fraction` = |read ∩ isoform| / |read| (as an exact fraction); it raises exactly when the
    read has total length 0 -/
theorem coverage_fraction_spec (read iso : List Iv) (h1 : SD read) (h2 : SD iso) (w1 : WFl read) (w2 : WFl iso) :
    readCoverageFraction read iso =
      if intervalsTotalLength read = 0 then none else some (inter read iso, intervalsTotalLength read) := by
  simp only [readCoverageFraction, coverage_sweep_eq read iso h1 h2 w1 w2]

example : SD [(1, 5), (10, 12)] ∧ SD [(4, 11)] ∧ readCoverageFraction [(1, 5), (10, 12)] [(4, 11)] = some (4, 8) := by
  decide +kernel

/-- `jaccard_similarity` = |A ∩ B| / |A ∪ B| with |A ∪ B| = |A| + |B| − |A ∩ B| (exact fraction); the inner
    assertion never fails on sorted disjoint lists and the function raises exactly when the union is empty -/
theorem jaccard_sweep_eq (l1 l2 : List Iv) (h1 : SD l1) (h2 : SD l2) (w1 : WFl l1) (w2 : WFl l2) :
    jaccardSweep l1 l2 =
      if intervalsTotalLength l1 + intervalsTotalLength l2 - inter l1 l2 = 0 then none
      else some (inter l1 l2, intervalsTotalLength l1 + intervalsTotalLength l2 - inter l1 l2) := by
  simp only [jaccardSweep]
  rw [jaccardLoop_spec l1 false l2 false h1 h2 w1 w2 (by simp) (by simp) (by simp)]
  simp

example : SD [(1, 5), (10, 12)] ∧ jaccardSweep [(1, 5), (10, 12)] [(4, 11)] = some (4, 12) := by
  decide +kernel

/-- `merge_ranges` on sorted disjoint lists (not both empty) succeeds — neither assertion fires and the
    accumulator is never indexed while empty — and the returned blocks cover exactly the union of the positions -/
theorem merge_cov (l1 l2 : List Iv) (h1 : SD l1) (h2 : SD l2) (w1 : WFl l1) (w2 : WFl l2)
    (hne : l1 ≠ [] ∨ l2 ≠ []) :
    ∃ res, mergeRanges l1 l2 = some res ∧ ∀ p, cov res p ↔ cov l1 p ∨ cov l2 p := by
  obtain ⟨res, hres, -, -, hcov⟩ := mergeRanges_sorted_cov l1 l2 h1 h2 w1 w2 hne
  exact ⟨res, hres, hcov⟩

/-- both lists empty: the real code raises (assert len(union) != 0) -/
theorem merge_empty : mergeRanges [] [] = none := by decide +kernel

example : mergeRanges [(1, 5), (10, 12)] [(4, 11), (20, 21)] = some [(1, 12), (20, 21)] := by decide +kernel

/-- the blocks returned by `merge_ranges` on sorted disjoint lists are again sorted, pairwise disjoint and well
    formed: every block lies strictly left of every later one, so starts increase strictly and no block is nested in
    (or even overlaps) another -/
theorem merge_sorted (l1 l2 : List Iv) (h1 : SD l1) (h2 : SD l2) (w1 : WFl l1) (w2 : WFl l2)
    (res : List Iv) (hres : mergeRanges l1 l2 = some res) :
    SD res ∧ WFl res ∧
      res.Pairwise (fun x y => x.1 < y.1 ∧ x.2 < y.1 ∧ contains x y = false ∧ contains y x = false ∧
        overlaps x y = false) := by
  have hne : l1 ≠ [] ∨ l2 ≠ [] := by
    cases l1 with
    | cons a t => exact .inl (List.cons_ne_nil a t)
    | nil =>
      cases l2 with
      | cons b t => exact .inr (List.cons_ne_nil b t)
      | nil => rw [merge_empty] at hres; cases hres
  obtain ⟨res', hres', hsd, hwf, -⟩ := mergeRanges_sorted_cov l1 l2 h1 h2 w1 w2 hne
  cases hres.symm.trans hres'
  refine ⟨hsd, hwf, (SD_pairwise _ hsd hwf).imp_of_mem fun {x y} hx hy hlt => ?_⟩
  have := hwf x hx
  have := hwf y hy
  simp only [contains, overlaps, Bool.and_eq_false_iff, decide_eq_false_iff_not, Bool.not_eq_false',
    Bool.or_eq_true, decide_eq_true_eq]
  omega

example : SD [(1, 5), (10, 12)] ∧ SD [(4, 11), (20, 21)] ∧
    mergeRanges [(1, 5), (10, 12)] [(4, 11), (20, 21)] = some [(1, 12), (20, 21)] := by decide +kernel

/-- `lenBelow r p` / `lenAbove r p` (Lemmas/Lists.lean) are the numbers of positions of `r` that are `< p` / `> p` -/
theorem lenBelow_def (r : Iv) (p : Int) : lenBelow r p = max 0 (min r.2 (p - 1) - r.1 + 1) := rfl
theorem lenAbove_def (r : Iv) (p : Int) : lenAbove r p = max 0 (r.2 - max r.1 (p + 1) + 1) := rfl

theorem sum_to_point_spec (l : List Iv) (p : Int) (h : SD l) (w : WFl l) (hne : l ≠ []) :
    sumIntervalsToPoint l p = some ((l.map (lenBelow · p)).sum) := by
  cases l with
  | nil => exact absurd rfl hne
  | cons a rest =>
    obtain ⟨t, ht⟩ := getLast?_cons_some a rest
    simp only [sumIntervalsToPoint, List.head?_cons, ht]
    split
    · rename_i hle
      congr 1
      symm
      apply sum_map_eq_zero
      intro r hr
      have := SD_head_le h w r hr
      have := w r hr
      simp only [lenBelow]; omega
    · split
      · rename_i hgt
        congr 1
        apply total_eq_sum_of_all
        intro r hr
        have := SD_le_last h w t ht r hr
        have := w r hr
        simp only [lenBelow]; omega
      · congr 1
        exact sumToLoop_eq p _ h w

theorem sum_from_point_spec (l : List Iv) (p : Int) (h : SD l) (w : WFl l) (hne : l ≠ []) :
    sumIntervalsFromPoint l p = some ((l.map (lenAbove · p)).sum) := by
  -- the sum from a point is the sum to the reflected point on the reflected list
  have hs : ∀ f t, l.head? = some f → l.getLast? = some t → f.1 ≤ t.2 := by
    intro f t hf ht
    obtain ⟨r, rfl⟩ := List.head?_eq_some_iff.mp hf
    have := SD_head_le h w t (List.mem_of_getLast? ht)
    have := w t (List.mem_of_getLast? ht)
    omega
  rw [← C11.sumIntervalsToPoint_mirror 0 l p hs, sum_to_point_spec _ _ (C11.SD_mirror 0 l h) (C11.WFl_mirror 0 l w)
    (fun e => hne (List.length_eq_zero_iff.mp ((C11.mirrorL_length 0 l).symm.trans (congrArg List.length e))))]
  simp only [C11.mirrorL, List.map_reverse, List.sum_reverse, List.map_map, Function.comp_def, lenBelow_mirror]

/-- on the empty list the real code raises IndexError; so does the model -/
theorem sum_to_point_empty (p : Int) : sumIntervalsToPoint [] p = none := rfl

example : sumIntervalsToPoint [(1, 5), (10, 12)] 11 = some 6 ∧ sumIntervalsFromPoint [(1, 5), (10, 12)] 3 = some 5 := by
  decide

theorem junctions_exons_inverse (ex : List Iv) (f t : Iv) (h : Gapped ex)
    (hf : ex.head? = some f) (ht : ex.getLast? = some t) :
    getExons (f.1, t.2) (junctionsFromBlocks ex) = ex :=
  junctions_exons_inverse_aux ex f t h hf ht

/-- introns are exactly the gaps: each junction abuts the exons on both sides -/
theorem junctions_are_gaps (a b : Iv) (t : List Iv) (h : a.2 + 1 < b.1) :
    junctionsFromBlocks (a :: b :: t) = (a.2 + 1, b.1 - 1) :: junctionsFromBlocks (b :: t) :=
  junctions_cons_cons_of_lt h

theorem junctions_skip_touching (a b : Iv) (t : List Iv) (h : ¬ a.2 + 1 < b.1) :
    junctionsFromBlocks (a :: b :: t) = junctionsFromBlocks (b :: t) :=
  junctions_cons_cons_of_not_lt h

example : Gapped [(1, 5), (10, 12), (20, 30)] ∧
    getExons (1, 30) (junctionsFromBlocks [(1, 5), (10, 12), (20, 30)]) = [(1, 5), (10, 12), (20, 30)] := by
  refine ⟨by simp [Gapped], by decide⟩

/-! ### single exons from the junction list
`region` = (start of the first exon, end of the last exon), `junctions` = `junctions_from_blocks` of a gapped exon list. -/

/-- `get_exon(region, junctions, i)` is exon `i` (needs ≥ 2 exons: with no junction the code indexes an empty list) -/
theorem get_exon_spec (ex : List Iv) (f t : Iv) (h : Gapped ex) (hf : ex.head? = some f) (ht : ex.getLast? = some t)
    (h2 : 2 ≤ ex.length) (i : Nat) (hi : i < ex.length) :
    getExon (f.1, t.2) (junctionsFromBlocks ex) (i : Int) = ex[i]? := by
  have hn := junctions_length ex h
  rw [getExon_nat _ _ i (fun e => by rw [e] at hn; simp at hn; omega) (by omega), exonAt_junctions ex f t h hf ht i hi]

/-- negative positions count from the end: position `−k` (1 ≤ k ≤ |ex|) is exon `|ex| − k` -/
theorem get_exon_neg_spec (ex : List Iv) (f t : Iv) (h : Gapped ex) (hf : ex.head? = some f) (ht : ex.getLast? = some t)
    (h2 : 2 ≤ ex.length) (k : Nat) (h0 : 0 < k) (hk : k ≤ ex.length) :
    getExon (f.1, t.2) (junctionsFromBlocks ex) (-(k : Int)) = ex[ex.length - k]? := by
  have hn := junctions_length ex h
  rw [getExon_neg _ _ k h0 (by omega), hn]
  have : ex.length - 1 + 1 - k = ex.length - k := by omega
  rw [this]
  exact get_exon_spec ex f t h hf ht h2 _ (by omega)

/-- a position beyond the last exon violates the `assert` -/
theorem get_exon_out_of_range (region : Iv) (junctions : List Iv) (i : Int) (hi : (junctions.length : Int) < i) :
    getExon region junctions i = none := by
  simp [getExon, hi]

/-- a single-exon read has no junction: `get_exon` raises IndexError (so does the model) -/
theorem get_exon_single (a : Iv) (i : Int) : getExon (a.1, a.2) (junctionsFromBlocks [a]) i = none := by
  have hnil : ∀ x : Int, pyGet? ([] : List Iv) x = none := by
    intro x; simp only [pyGet?, List.length_nil]; split
    · simp
    · split <;> simp
  simp only [junctionsFromBlocks, getExon, hnil, Option.map_none, ite_self]

/-- `get_preceding_exon_from_junctions(region, junctions, i)` is exon `i` — the exon before intron `i`; `i = |junctions|`
    gives the last exon (also for a single-exon read) -/
theorem get_preceding_exon_spec (ex : List Iv) (f t : Iv) (h : Gapped ex) (hf : ex.head? = some f)
    (ht : ex.getLast? = some t) (i : Nat) (hi : i < ex.length) :
    getPrecedingExon (f.1, t.2) (junctionsFromBlocks ex) (i : Int) = ex[i]? := by
  rw [getPrecedingExon_nat _ _ i (by rw [junctions_length ex h]; omega), exonAt_junctions ex f t h hf ht i hi]

/-- `get_following_exon_from_junctions(region, junctions, i)` is exon `i + 1` — the exon after intron `i` -/
theorem get_following_exon_spec (ex : List Iv) (f t : Iv) (h : Gapped ex) (hf : ex.head? = some f)
    (ht : ex.getLast? = some t) (i : Nat) (hi : i + 1 < ex.length) :
    getFollowingExon (f.1, t.2) (junctionsFromBlocks ex) (i : Int) = ex[i + 1]? := by
  rw [getFollowingExon_nat, exonAt_junctions ex f t h hf ht (i + 1) hi]

/-- intron position `−1` (the code's special case) is the last intron: the following exon is the last exon -/
theorem get_following_exon_last (ex : List Iv) (f t : Iv) (h : Gapped ex) (hf : ex.head? = some f)
    (ht : ex.getLast? = some t) (h2 : 2 ≤ ex.length) :
    getFollowingExon (f.1, t.2) (junctionsFromBlocks ex) (-1) = some t := by
  have hn := junctions_length ex h
  have hlast := getElem?_last ex t ht
  obtain ⟨a, ha⟩ : ∃ a, ex[ex.length - 2]? = some a := exists_getElem? ex (by omega)
  have hlast' : ex[ex.length - 2 + 1]? = some t := by
    have : ex.length - 2 + 1 = ex.length - 1 := by omega
    rw [this]; exact hlast
  have hj := junctions_getElem ex h (ex.length - 2) a t ha hlast'
  have hg : pyGet? (junctionsFromBlocks ex) (-1) = some (a.2 + 1, t.1 - 1) := by
    have := pyGet?_neg (junctionsFromBlocks ex) 1 (by omega) (by omega)
    rw [hn] at this
    have e : ex.length - 1 - 1 = ex.length - 2 := by omega
    rw [e, hj] at this
    simpa using this
  simp only [getFollowingExon, or_true, if_true, hg]
  congr 1; ext <;> simp

example : Gapped [(1, 5), (10, 12), (20, 30)] ∧
    getExon (1, 30) (junctionsFromBlocks [(1, 5), (10, 12), (20, 30)]) 1 = some (10, 12) ∧
    getExon (1, 30) (junctionsFromBlocks [(1, 5), (10, 12), (20, 30)]) (-1) = some (20, 30) ∧
    getPrecedingExon (1, 30) (junctionsFromBlocks [(1, 5), (10, 12), (20, 30)]) 2 = some (20, 30) ∧
    getFollowingExon (1, 30) (junctionsFromBlocks [(1, 5), (10, 12), (20, 30)]) 0 = some (10, 12) := by
  refine ⟨by simp [Gapped], by decide, by decide, by decide, by decide⟩

/-- numerator = number of read positions outside the isoform region (per exon: positions `< reg.1` plus positions
    `> reg.2`), denominator = total read length; raises (ZeroDivisionError) exactly when the total length is 0 -/
theorem extra_exon_percentage_spec (reg : Iv) (exons : List Iv) (w : WFl exons) :
    extraExonPercentage reg exons =
      if intervalsTotalLength exons = 0 then none
      else some ((exons.map (fun e => lenBelow e reg.1 + lenAbove e reg.2)).sum, intervalsTotalLength exons) := by
  simp only [extraExonPercentage, extraExonLoop_eq reg exons w]

/-- a non-empty well-formed read never divides by zero -/
theorem extra_exon_percentage_defined (reg : Iv) (exons : List Iv) (w : WFl exons) (hne : exons ≠ []) :
    extraExonPercentage reg exons =
      some ((exons.map (fun e => lenBelow e reg.1 + lenAbove e reg.2)).sum, intervalsTotalLength exons) := by
  rw [extra_exon_percentage_spec reg exons w]
  have := total_length_pos exons w hne
  have h0 : ¬ intervalsTotalLength exons = 0 := by omega
  simp only [h0, if_false]

example : WFl [(1, 5), (10, 12), (20, 30)] ∧
    extraExonPercentage (4, 24) [(1, 5), (10, 12), (20, 30)] = some (9, 19) := by
  refine ⟨by decide, by decide⟩

/-! ### truncate_read_to_polya (no caller in the pipeline) -/

/-- no tail on either side: the read is returned unchanged -/
theorem truncate_identity (exons : List Iv) (hne : exons ≠ []) : truncateReadToPolya exons (-1) (-1) = some exons := by
  cases exons with
  | nil => exact absurd rfl hne
  | cons a rest =>
    obtain ⟨t, ht⟩ := getLast?_cons_some a rest
    simp [truncateReadToPolya, ht]

theorem truncate_empty (a t : Int) : truncateReadToPolya [] a t = none := rfl

/-- polyA side only, tail position `P` inside the read span in the sense that `P − 1` is a read position (`P` lies in
    an exon behind its first base, or directly behind an exon): the result is sorted, disjoint and well formed, starts
    where the read starts, ends at `P`, and covers exactly the read positions `≤ P` plus `P` itself -/
theorem truncate_polya_spec (exons : List Iv) (f t : Iv) (P : Int) (h : SD exons) (w : WFl exons)
    (hf : exons.head? = some f) (ht : exons.getLast? = some t) (hP : P ≠ -1) (hin : cov exons (P - 1)) :
    ∃ res, truncateReadToPolya exons P (-1) = some res ∧ SD res ∧ WFl res ∧
      res.head?.map (·.1) = some f.1 ∧ res.getLast?.map (·.2) = some P ∧
      ∀ p, cov res p ↔ (p ≤ P ∧ cov exons p) ∨ p = P := by
  obtain ⟨e, he, he1, he2⟩ := hin
  obtain ⟨rest, rfl⟩ := List.head?_eq_some_iff.mp hf
  have hfe := SD_head_le h w e he
  obtain ⟨res, hres, hsd, hwf, hhd, hlast, hkeep, hcov⟩ :=
    truncate_polya_span_aux _ f t P h w hf ht hP (by omega)
  refine ⟨res, hres, hsd, hwf, hhd, hlast, fun p => ⟨fun hc => ?_, ?_⟩⟩
  · obtain ⟨hpP, hc' | hall⟩ := hcov p hc
    · exact .inl ⟨hpP, hc'⟩
    · have := hall e he (by omega); exact .inr (by omega)
  · rintro (⟨hpP, hc⟩ | rfl)
    · exact hkeep p hpP hc
    · -- the last block of the result ends at `P`
      obtain ⟨l, hl, hlp⟩ := Option.map_eq_some_iff.mp hlast
      have hm := List.mem_of_getLast? hl
      exact ⟨l, hm, by have := hwf l hm; omega, by omega⟩

/-- polyT side only, `T + 1` a read position: the result starts at `T`, ends where the read ends and covers exactly
    the read positions `≥ T` plus `T` itself -/
theorem truncate_polyt_spec (exons : List Iv) (f t : Iv) (T : Int) (h : SD exons) (w : WFl exons)
    (hf : exons.head? = some f) (ht : exons.getLast? = some t) (hT : T ≠ -1) (hin : cov exons (T + 1)) :
    ∃ res, truncateReadToPolya exons (-1) T = some res ∧ SD res ∧ WFl res ∧
      res.head?.map (·.1) = some T ∧ res.getLast?.map (·.2) = some t.2 ∧
      ∀ p, cov res p ↔ (T ≤ p ∧ cov exons p) ∨ p = T := by
  obtain ⟨e, he, he1, he2⟩ := hin
  have het := SD_le_last h w t ht e he
  obtain ⟨res, hres, hsd, hwf, hhd, hlast, hkeep, hcov⟩ :=
    truncate_polyt_span_aux exons f t T h w hf ht hT (by omega)
  refine ⟨res, hres, hsd, hwf, hhd, hlast, fun p => ⟨fun hc => ?_, ?_⟩⟩
  · obtain ⟨hTp, hc' | hall⟩ := hcov p hc
    · exact .inl ⟨hTp, hc'⟩
    · have := hall e he (by omega); exact .inr (by omega)
  · rintro (⟨hTp, hc⟩ | rfl)
    · exact hkeep p hTp hc
    · -- the first block of the result starts at `T`
      obtain ⟨l, hl, hlp⟩ := Option.map_eq_some_iff.mp hhd
      have hm := List.mem_of_mem_head? hl
      exact ⟨l, hm, by omega, by have := hwf l hm; omega⟩

example : SD [(1, 5), (10, 12), (20, 30)] ∧ WFl [(1, 5), (10, 12), (20, 30)] ∧ cov [(1, 5), (10, 12), (20, 30)] (11 - 1) ∧
    truncateReadToPolya [(1, 5), (10, 12), (20, 30)] 11 (-1) = some [(1, 5), (10, 11)] ∧
    cov [(1, 5), (10, 12), (20, 30)] (11 + 1) ∧
    truncateReadToPolya [(1, 5), (10, 12), (20, 30)] (-1) 11 = some [(11, 12), (20, 30)] := by
  refine ⟨by decide, by decide, ⟨(10, 12), by simp, by decide, by decide⟩, by decide,
    ⟨(10, 12), by simp, by decide, by decide⟩, by decide⟩

/-- polyA side, ANY tail position behind the first base of the read (`f.1 < P`; at or before it the code indexes
    `read_exons[-1]` and returns an unsorted list): the result is sorted, disjoint, well formed, spans exactly
    `[read start, P]`, keeps every read position `≤ P`, and any other position it covers lies in the stretch between
    the end of the last exon starting before `P` and `P` (the last kept exon is stretched up to the tail) -/
theorem truncate_polya_span (exons : List Iv) (f t : Iv) (P : Int) (h : SD exons) (w : WFl exons)
    (hf : exons.head? = some f) (ht : exons.getLast? = some t) (hP : P ≠ -1) (hin : f.1 < P) :
    ∃ res, truncateReadToPolya exons P (-1) = some res ∧ SD res ∧ WFl res ∧
      res.head?.map (·.1) = some f.1 ∧ res.getLast?.map (·.2) = some P ∧
      (∀ p, p ≤ P → cov exons p → cov res p) ∧
      (∀ p, cov res p → p ≤ P ∧ (cov exons p ∨ ∀ e ∈ exons, e.1 < P → e.2 < p)) :=
  truncate_polya_span_aux exons f t P h w hf ht hP hin

/-- polyT side, ANY tail position before the last base of the read (`T < t.2`) -/
theorem truncate_polyt_span (exons : List Iv) (f t : Iv) (T : Int) (h : SD exons) (w : WFl exons)
    (hf : exons.head? = some f) (ht : exons.getLast? = some t) (hT : T ≠ -1) (hin : T < t.2) :
    ∃ res, truncateReadToPolya exons (-1) T = some res ∧ SD res ∧ WFl res ∧
      res.head?.map (·.1) = some T ∧ res.getLast?.map (·.2) = some t.2 ∧
      (∀ p, T ≤ p → cov exons p → cov res p) ∧
      (∀ p, cov res p → T ≤ p ∧ (cov exons p ∨ ∀ e ∈ exons, T < e.2 → p < e.1)) :=
  truncate_polyt_span_aux exons f t T h w hf ht hT hin

/-- the domain hypothesis of `truncate_polya_span` is needed: a polyA position at the first base makes the code read
    `read_exons[-1]` through Python's negative index and return an unsorted list -/
example : truncateReadToPolya [(1, 5), (10, 12), (20, 30)] 1 (-1) = some [(1, 5), (10, 12), (20, 1)] := by decide

/-- outside the domain of `truncate_polya_spec` the function does not truncate to read positions: a tail position strictly inside an intron
    stretches the neighbouring exon across the intron bases up to the tail (here 6 and 7 are not read positions) -/
example : truncateReadToPolya [(1, 5), (10, 12)] 8 (-1) = some [(1, 8)] := by decide

/-- for strictly increasing starts, a position inside `[l[t].1, l[t+1].1)` is found at index `t`
    (the halving loop terminates within the fuel and never leaves the list) -/
theorem bin_search_spec (l : List Iv) (pos : Int) (hinc : StrictInc (l.map (·.1))) (hw : WFl l)
    (f tl : Iv) (hf : l.head? = some f) (ht : l.getLast? = some tl)
    (t : Nat) (a b : Iv) (hta : l[t]? = some a) (htb : l[t + 1]? = some b)
    (hpa : a.1 ≤ pos) (hpb : pos < b.1) (hin : pos ≤ tl.2) :
    intervalBinSearch l pos = some (t : Int) :=
  bin_search_aux l pos hinc f tl hf ht t a b hta htb hpa hpb hin

theorem bin_search_outside (l : List Iv) (pos : Int) (f tl : Iv) (hf : l.head? = some f) (ht : l.getLast? = some tl)
    (hout : pos > tl.2 ∨ pos < f.1) : intervalBinSearch l pos = some (-1) := by
  simp [intervalBinSearch, hf, ht, hout]

theorem bin_search_last (l : List Iv) (pos : Int) (f tl : Iv) (hf : l.head? = some f) (ht : l.getLast? = some tl)
    (h1 : f.1 ≤ pos) (h2 : tl.1 ≤ pos) (h3 : pos ≤ tl.2) :
    intervalBinSearch l pos = some ((l.length : Int) - 1) := by
  have hne : l ≠ [] := by intro e; simp [e] at hf
  have : 0 < l.length := List.length_pos_iff.mpr hne
  simp [intervalBinSearch, hf, ht]
  have : ¬ (tl.2 < pos ∨ pos < f.1) := by omega
  simp [this, h2]; omega

example : intervalBinSearch [(1, 5), (10, 12), (20, 30), (40, 41), (50, 60)] 11 = some 1 := by decide

/-- mirror search (`interval_bin_search_rev`): for strictly increasing ends a position in `(l[t].2, l[t+1].2]`
    is found at index `t + 1`; the loop terminates, and Python's silent `l[-1]` wrap at index 0 is harmless -/
theorem bin_search_rev_spec (l : List Iv) (pos : Int) (hinc : StrictInc (l.map (fun r => r.2 + 1)))
    (f tl : Iv) (hf : l.head? = some f) (ht : l.getLast? = some tl)
    (t : Nat) (a b : Iv) (hta : l[t]? = some a) (htb : l[t + 1]? = some b)
    (hpa : a.2 < pos) (hpb : pos ≤ b.2) (hin : f.1 ≤ pos) :
    intervalBinSearchRev l pos = some ((t : Int) + 1) :=
  bin_search_rev_aux l pos hinc f tl hf ht t a b hta htb hpa hpb hin

theorem bin_search_rev_outside (l : List Iv) (pos : Int) (f tl : Iv) (hf : l.head? = some f) (ht : l.getLast? = some tl)
    (hout : pos > tl.2 ∨ pos < f.1) : intervalBinSearchRev l pos = some (-1) := by
  simp [intervalBinSearchRev, hf, ht, hout]

theorem bin_search_rev_first (l : List Iv) (pos : Int) (f tl : Iv) (hf : l.head? = some f) (ht : l.getLast? = some tl)
    (h1 : f.1 ≤ pos) (h2 : pos ≤ f.2) (h3 : pos ≤ tl.2) : intervalBinSearchRev l pos = some 0 := by
  have : ¬ (tl.2 < pos ∨ pos < f.1) := by omega
  simp [intervalBinSearchRev, hf, ht, this, h2]

example : intervalBinSearchRev [(1, 5), (10, 12), (20, 30), (40, 41), (50, 60)] 35 = some 3 := by decide

end IsoVerif.Props.C19Lists
