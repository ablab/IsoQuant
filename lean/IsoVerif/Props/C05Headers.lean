/-
C05 / C12 — files of one experiment with DIFFERENT headers (a part that does not list the sequence, parts that
give it different lengths) and a reference FASTA record shorter than the headers say: every alignment of every file is
still forwarded, with the index of its file, in both memory modes.

Model: `Model/ChromHeaders.lean` (`get_chromosome_length`, `_fetch`) over `Model/RegionsMulti.lean`.
-/
import IsoVerif.Model.ChromHeaders
import IsoVerif.Props.C05Multi

namespace IsoVerif.Props.C05Headers
open IsoVerif.Gen IsoVerif.Model IsoVerif.Model.Regions IsoVerif.Model.RegionsMulti
open IsoVerif.Lemmas.Regions IsoVerif.Lemmas.RegionsMulti

theorem le_foldl_max (t : List Int) (a x : Int) (hx : x ∈ a :: t) : x ≤ t.foldl max a :=
  (List.max?_eq_some_iff.mp (List.max?_cons' (x := a) (xs := t))).2 x hx

/-- **chromLength_ge_listed**: the scan interval reaches the end of the sequence as EVERY file that lists it declares it -/
theorem chromLength_ge_listed (fs : List HFile) (f : HFile) (hf : f ∈ fs) (l : Int) (hl : f.len = some l) :
    l ≤ chromLength fs := by
  have hm : l ∈ listedLengths fs := List.mem_filterMap.2 ⟨f, hf, hl⟩
  unfold chromLength
  cases hll : listedLengths fs with
  | nil => rw [hll] at hm; cases hm
  | cons a t => exact le_foldl_max t a l (hll ▸ hm)

/-- the input domain: every file coordinate-sorted; every record lies on a sequence its OWN header lists, inside the length
    its own header gives (a BAM record cannot be written otherwise) and has at least one reference base -/
def ValidHeaders (fs : List HFile) : Prop :=
  (∀ f, f ∈ fs → SortedByStart f.recs) ∧
  ∀ f, f ∈ fs → ∀ a, a ∈ f.recs → ∃ l, f.len = some l ∧ 0 ≤ a.start ∧ a.start < a.stop ∧ a.stop ≤ l

theorem validPlain_of_headers (fs : List HFile) (hv : ValidHeaders fs) (L : Int)
    (hL : ∀ f, f ∈ fs → ∀ a, a ∈ f.recs → a.stop ≤ L) :
    Props.C05Multi.ValidPlain (fs.map HFile.visible) L := by
  constructor
  · intro g hg
    obtain ⟨f, hf, rfl⟩ := List.mem_map.1 hg
    cases hl : f.len with
    | none => simp [HFile.visible, hl, SortedByStart]
    | some l => simpa [HFile.visible, hl] using hv.1 f hf
  · intro a ha
    obtain ⟨g, hg, hag⟩ := List.mem_flatten.1 ha
    obtain ⟨f, hf, rfl⟩ := List.mem_map.1 hg
    cases hl : f.len with
    | none => simp [HFile.visible, hl] at hag
    | some l =>
      have har : a ∈ f.recs := by simpa [HFile.visible, hl] using hag
      obtain ⟨_, _, h0, h1, _⟩ := hv.2 f hf a har
      exact ⟨h0, h1, hL f hf a har⟩

theorem stop_le_chromLength (fs : List HFile) (hv : ValidHeaders fs) :
    ∀ f, f ∈ fs → ∀ a, a ∈ f.recs → a.stop ≤ chromLength fs := by
  intro f hf a ha
  obtain ⟨l, hl, _, _, h2⟩ := hv.2 f hf a ha
  have := chromLength_ge_listed fs f hf l hl
  omega

/-- **headers_every_alignment_forwarded**: whatever the headers of the other files say about the sequence (another length,
    not listed at all) and whatever the length of the FASTA record is, every record of every file is handed to
    `process_alignments_in_region` for a region it overlaps, carrying the index of its file, in either memory mode. -/
theorem headers_every_alignment_forwarded (m : Mode) (fs : List HFile) (fasta : Option Int) (hv : ValidHeaders fs) :
    ∃ out, collectHeaders m fs fasta = some out ∧
      ∀ (i : Nat) (f : HFile), fs[i]? = some f → ∀ a, a ∈ f.recs →
        ∃ p, p ∈ out ∧ (i, a) ∈ p.2 ∧ overlaps p.1 a.iv = true := by
  obtain ⟨out, hout, hfw⟩ :=
    Props.C05Multi.multi_every_alignment_forwarded_files m (fs.map HFile.visible) (chromLength fs)
      (validPlain_of_headers fs hv _ (stop_le_chromLength fs hv))
  refine ⟨out, hout, ?_⟩
  intro i f hfi a ha
  obtain ⟨l, hl, _⟩ := hv.2 f (List.mem_of_getElem? hfi) a ha
  have hvis : (fs.map HFile.visible)[i]? = some f.recs := by
    simp [List.getElem?_map, hfi, HFile.visible, hl]
  exact hfw i f.recs hvis a ha

/-- **headers_as_common_header**: with records inside their own headers, the collector on files with DIFFERENT headers
    (other lengths, sequence not listed) forwards exactly what it forwards on the same record lists under one common header
    of any sufficient length `L` — the input class of the C12 partition theorems (`Props/C12.lean`, one shared `L`), so a
    partition into parts with other headers is covered by them. -/
theorem headers_as_common_header (m : Mode) (fs : List HFile) (fasta : Option Int) (hv : ValidHeaders fs) (L : Int)
    (hL : ∀ f, f ∈ fs → ∀ a, a ∈ f.recs → a.stop ≤ L) :
    collectHeaders m fs fasta = collectFiles m (fs.map HFile.visible) L := by
  have h1 := validPlain_of_headers fs hv _ (stop_le_chromLength fs hv)
  have h2 := validPlain_of_headers fs hv L hL
  unfold collectHeaders collectFiles collectM
  rw [scan_eq _ (validFiles_tag _ _ h1.1 h1.2), scan_eq _ (validFiles_tag _ _ h2.1 h2.2)]

/-- **fasta_length_irrelevant**: the forwarded regions do not depend on the length of the reference record -/
theorem fasta_length_irrelevant (m : Mode) (fs : List HFile) (fa fb : Option Int) :
    collectHeaders m fs fa = collectHeaders m fs fb := rfl

/-- **unlisted_file_is_empty_file**: a file whose header lacks the sequence behaves as a file without records on it: the
    other files lose nothing (`_fetch` handles ValueError per file) -/
theorem unlisted_file_is_empty_file (m : Mode) (pre post : List HFile) (recs : List Aln) (fasta : Option Int) :
    collectHeaders m (pre ++ ⟨none, recs⟩ :: post) fasta = collectHeaders m (pre ++ ⟨none, []⟩ :: post) fasta := by
  simp [collectHeaders, chromLength, listedLengths, HFile.visible, List.filterMap_append]

/-! ### non-vacuity -/

/-- three files: header 100 / sequence not listed / header 40, each with its records inside the declared length -/
def exH : List HFile :=
  [⟨some 100, [⟨1, 5, false, false, true, 60, 0⟩, ⟨70, 90, false, false, true, 60, 1⟩]⟩, ⟨none, []⟩,
   ⟨some 40, [⟨2, 4, true, false, true, 0, 2⟩, ⟨33, 39, false, false, true, 60, 3⟩]⟩]

example : ValidHeaders exH := by
  constructor
  · intro f hf
    simp only [exH, List.mem_cons, List.not_mem_nil, or_false] at hf
    rcases hf with rfl | rfl | rfl <;> simp [SortedByStart]
  · intro f hf a ha
    simp only [exH, List.mem_cons, List.not_mem_nil, or_false] at hf
    rcases hf with rfl | rfl | rfl
    · simp only [List.mem_cons, List.not_mem_nil, or_false] at ha
      rcases ha with rfl | rfl <;> exact ⟨100, rfl, by decide +kernel, by decide +kernel, by decide +kernel⟩
    · cases ha
    · simp only [List.mem_cons, List.not_mem_nil, or_false] at ha
      rcases ha with rfl | rfl <;> exact ⟨40, rfl, by decide +kernel, by decide +kernel, by decide +kernel⟩

example : chromLength exH = 100 := by decide +kernel

example : ∀ f, f ∈ exH → ∀ a, a ∈ f.recs → a.stop ≤ 200 := by decide +kernel

end IsoVerif.Props.C05Headers
