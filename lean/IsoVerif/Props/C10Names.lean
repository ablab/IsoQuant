/-
C10 — experiment names.

`InputDataStorage.get_samples_from_yaml` / `get_samples_from_file` rename a duplicate (or missing) experiment name to
`<prefix><position>`.  The output folder of an experiment is `<output>/<name>` and every file in it starts with
`<name>.`, so two experiments with one name write over each other: "for each experiment exactly the files a separate
run would produce" needs the names the parser hands out to be pairwise different – for EVERY description, not only for
those that already carry distinct explicit names (reading rule c of docs/C10.md).

The model (`Model/Samples.lean`) takes the test that precedes the renaming from the source
(`renameRuleOfSource`, generated table `Gen.rename_exit_test`): `recheck = false` is the tree before the repair
(`current_sample_name == new_sample_name`), `recheck = true` the repaired one (`new_sample_name in experiment_names`).
Property theorems, and the three `_recheck` statements (the parser with the repaired test as a parameter value) from which
the ones about the source follow by `rename_rule_of_source_fixed`; lemmas in `Lemmas/SampleNames.lean`.
-/
import IsoVerif.Model.Samples
import IsoVerif.Lemmas.Samples
import IsoVerif.Lemmas.SampleNames

namespace IsoVerif.Props.C10Names
open IsoVerif.Gen IsoVerif.Model.C10 IsoVerif.Lemmas.C10

/-- the tests found in the current source are those of the repaired tree (fails to compile on a tree where either
    parser compares the generated name with the duplicate only) -/
theorem rename_rule_of_source_fixed : renameRuleOfSource = renameRuleFixed := by decide +kernel

/-- full-strength statement, YAML: whatever the description says about names (absent, repeated, of the form
    `<prefix><number>` …), a description the parser accepts yields pairwise different experiment names -/
def ParsedNamesDistinct (parse : String → List YamlEntry → Option (List ParsedSample)) : Prop :=
  ∀ (pfx : String) (entries : List YamlEntry) (rs : List ParsedSample),
    parse pfx entries = some rs → (rs.map ParsedSample.name).Nodup

/-- … and for list files -/
def ParsedListNamesDistinct (parse : String → List ListLine → Option (List ParsedSample)) : Prop :=
  ∀ (pfx : String) (lines : List ListLine) (rs : List ParsedSample),
    parse pfx lines = some rs → (rs.map ParsedSample.name).Nodup

/-- `parsed_own_entry_any_names` for the repaired test as a parameter value (YAML, ALL inputs): the `hnames` / `hnd` hypotheses of
    `parsed_sample_depends_on_own_entry` / `parse_joint_eq_standalone` (Props/C10.lean) are not needed for what the
    parser itself produces. -/
theorem parsed_own_entry_any_names_recheck (pfx : String) (entries : List YamlEntry) (rs : List ParsedSample)
    (h : parseYamlR true pfx entries = some rs) :
    ∃ ns : List String, ns.length = entries.length ∧
      parseEachOwn (entries.zip ns) = some rs ∧
      (rs.map ParsedSample.name).Nodup ∧
      ∀ (i : Nat) (hi : i < entries.length) (hn : i < ns.length),
        entries[i].name = some ns[i] ∨ ns[i] = pfx ++ toString i := by
  obtain ⟨st, hl, rfl⟩ := Option.map_eq_some_iff.mp h
  obtain ⟨ns, hlen, hpe, hni, hnm⟩ := yamlLoopR_own_any pfx entries ParseSt.init st [] ownInv_init hl
  refine ⟨ns, hlen, ?_, ?_, ?_⟩
  · cases hq : parseEachOwn (entries.zip ns) with
    | none => simp [hq] at hpe
    | some rs' => simpa [hq] using hpe
  · rw [finishParse_names st hni]; exact hni.nodup
  · intro i hi hn
    have := hnm i hi hn
    simpa [ParseSt.init] using this

/-- the repaired test gives distinct names, for all prefixes and all entry lists -/
theorem parsed_names_distinct_recheck : ParsedNamesDistinct (parseYamlR true) := fun pfx entries rs h =>
  let ⟨_, _, _, hnd, _⟩ := parsed_own_entry_any_names_recheck pfx entries rs h
  hnd

/-- **parsed_names_distinct**: `get_samples_from_yaml` of the current source, ALL inputs (no hypothesis on the given names) -/
theorem parsed_names_distinct : ParsedNamesDistinct parseYaml := by
  intro pfx entries rs h
  unfold parseYaml at h
  rw [rename_rule_of_source_fixed] at h
  exact parsed_names_distinct_recheck pfx entries rs h

theorem parsed_list_names_distinct_recheck : ParsedListNamesDistinct (parseListR true) := by
  intro pfx lines rs h
  obtain ⟨s, hl, rfl⟩ := Option.map_eq_some_iff.mp h
  have hI := listLoopR_names pfx lines ⟨ParseSt.init, [], pfx⟩ s hl ⟨namesInv_init, by simp [ParseSt.init]⟩
  have hf := flush_namesInv s hI
  rw [finishParse_names s.flush hf]
  exact hf.nodup

/-- **parsed_list_names_distinct**: `get_samples_from_file` of the current source, ALL inputs – blank-line headers,
    repeated `#name` lines, files before the first header (named by the prefix), headers without files -/
theorem parsed_list_names_distinct : ParsedListNamesDistinct parseList := by
  intro pfx lines rs h
  unfold parseList at h
  rw [rename_rule_of_source_fixed] at h
  exact parsed_list_names_distinct_recheck pfx lines rs h

/-- … for `get_samples_from_yaml` of the current source -/
theorem parsed_own_entry_any_names (pfx : String) (entries : List YamlEntry) (rs : List ParsedSample)
    (h : parseYaml pfx entries = some rs) :
    ∃ ns : List String, ns.length = entries.length ∧
      parseEachOwn (entries.zip ns) = some rs ∧
      (rs.map ParsedSample.name).Nodup ∧
      ∀ (i : Nat) (hi : i < entries.length) (hn : i < ns.length),
        entries[i].name = some ns[i] ∨ ns[i] = pfx ++ toString i := by
  unfold parseYaml at h
  rw [rename_rule_of_source_fixed] at h
  exact parsed_own_entry_any_names_recheck pfx entries rs h

/-- the only name-dependent exit of one YAML entry, exactly: the name the entry starts from (its `name`, or
    `<prefix><position>` when the key is absent) is registered AND so is `<prefix><position>`; otherwise the entry
    exits iff it fails by itself (`parseOwnYaml` under the name it ends up with: key `long read files` absent, label
    count, a file twice) -/
theorem yaml_entry_exit_iff (pfx : String) (st : ParseSt) (outs : List ParsedSample) (e : YamlEntry)
    (hI : OwnInv st outs) :
    yamlStepR true pfx st e = none ↔
      (startName pfx st e ∈ st.names ∧ pfx ++ toString st.index ∈ st.names) ∨
      parseOwnYaml e (chosenName pfx st (startName pfx st e)) = none := by
  rw [yamlStepR_eq]
  cases hb : (st.names.contains (startName pfx st e) &&
      renameBlocked true st.names (startName pfx st e) (pfx ++ toString st.index)) with
  | true =>
    have hb' := hb
    simp only [renameBlocked, if_true, Bool.and_eq_true, List.contains_iff_mem] at hb'
    constructor
    · intro _; exact Or.inl hb'
    · intro _
      unfold yamlBody
      dsimp only
      rw [hb]; rfl
  | false =>
    have hstep := yamlBody_own true pfx st outs e (startName pfx st e) hI hb (chosen_name_fresh _ _ _ hb)
    have hnot : ¬ (startName pfx st e ∈ st.names ∧ pfx ++ toString st.index ∈ st.names) := by
      intro hh
      have : (st.names.contains (startName pfx st e) &&
          renameBlocked true st.names (startName pfx st e) (pfx ++ toString st.index)) = true := by
        simp only [renameBlocked, if_true, Bool.and_eq_true, List.contains_iff_mem]; exact hh
      rw [hb] at this; exact absurd this (by decide)
    cases hp : parseOwnYaml e (chosenName pfx st (startName pfx st e)) with
    | none =>
      simp only [hp] at hstep
      simp [hstep]
    | some r =>
      simp only [hp] at hstep
      obtain ⟨st', hs, _⟩ := hstep
      constructor
      · intro hn; rw [hs] at hn; simp at hn
      · intro hh
        rcases hh with hh | hh
        · exact absurd hh hnot
        · simp at hh

/-! non-vacuity: descriptions outside reading rule (c) that the repaired parser accepts / refuses -/

/-- the invariant assumed by `yaml_entry_exit_iff` holds at the start of the loop (and is kept: `yamlBody_own`) -/
example : OwnInv ParseSt.init [] := ownInv_init

/-- a repeated name is renamed by position; an unnamed entry after it gets its own position -/
example : (parseYamlR true "P" [⟨some "X", some [⟨"/d/a.bam", "a"⟩], none, none⟩,
                                ⟨some "X", some [⟨"/d/b.bam", "b"⟩], none, none⟩,
                                ⟨none, some [⟨"/d/c.bam", "c"⟩], none, none⟩]).map (fun l => l.map ParsedSample.name)
    = some ["X", "P1", "P2"] := by decide +kernel

/-- names P2, X, X with prefix P – the positional name of the third entry is
    taken by the first, the repaired parser exits ("Change experiment name X and rerun IsoQuant") -/
example : parseYamlR true "P" [⟨some "P2", some [⟨"/d/a.bam", "a"⟩], none, none⟩,
                               ⟨some "X", some [⟨"/d/b.bam", "b"⟩], none, none⟩,
                               ⟨some "X", some [⟨"/d/c.bam", "c"⟩], none, none⟩] = none := by decide +kernel

example : (parseListR true "P" [.files [⟨"/d/z.bam", "z"⟩] none, .header "P", .files [⟨"/d/a.bam", "a"⟩] none,
                                .header "", .files [⟨"/d/b.bam", "b"⟩] none]).map (fun l => l.map ParsedSample.name)
    = some ["P", "P0", "P1"] := by decide +kernel

example : parseListR true "P" [.header "P2", .files [⟨"/d/a.bam", "a"⟩] none, .header "X", .files [⟨"/d/b.bam", "b"⟩] none,
                               .header "X", .files [⟨"/d/c.bam", "c"⟩] none] = none := by decide +kernel

/-! ### the tree before the repair: the statement is false -/

/-- names P2, X, X with prefix P: experiments P2, X, P2 – the first and the third share the folder `<out>/P2` -/
theorem parsed_names_distinct_witness : ¬ ParsedNamesDistinct parseYamlOrig := by
  intro h
  have := h "P" [⟨some "P2", some [⟨"/d/a.bam", "a"⟩], none, none⟩, ⟨some "X", some [⟨"/d/b.bam", "b"⟩], none, none⟩,
                 ⟨some "X", some [⟨"/d/c.bam", "c"⟩], none, none⟩]
    [⟨"P2", [["/d/a.bam"]], [("/d/a.bam", "a"), ("/d/c.bam", "c")], none⟩, ⟨"X", [["/d/b.bam"]], [("/d/b.bam", "b")], none⟩,
     ⟨"P2", [["/d/c.bam"]], [("/d/a.bam", "a"), ("/d/c.bam", "c")], none⟩] (by decide)
  revert this
  decide +kernel

theorem parsed_list_names_distinct_witness : ¬ ParsedListNamesDistinct parseListOrig := by
  intro h
  have := h "P" [.header "P2", .files [⟨"/d/a.bam", "a"⟩] none, .header "X", .files [⟨"/d/b.bam", "b"⟩] none,
                 .header "X", .files [⟨"/d/c.bam", "c"⟩] none]
    [⟨"P2", [["/d/a.bam"]], [("/d/a.bam", "a"), ("/d/c.bam", "c")], none⟩, ⟨"X", [["/d/b.bam"]], [("/d/b.bam", "b")], none⟩,
     ⟨"P2", [["/d/c.bam"]], [("/d/a.bam", "a"), ("/d/c.bam", "c")], none⟩] (by decide)
  revert this
  decide +kernel

/-- what the old test did guarantee: with explicit, pairwise distinct names (reading rule c) nothing is renamed, under
    either test – the two trees parse such descriptions alike -/
theorem parse_rule_irrelevant_partial (rc : Bool) (pfx : String) (entries : List YamlEntry) (ns : List String)
    (hnames : entries.map YamlEntry.name = ns.map some) (hnd : ns.Nodup) :
    parseYamlR rc pfx entries = parseEachOwn (entries.zip ns) := by
  have h := yamlLoopR_own rc pfx entries ns ParseSt.init [] ownInv_init hnames hnd (by simp [ParseSt.init])
  unfold parseYamlR
  rw [h]
  cases parseEachOwn (entries.zip ns) <;> simp

example : parseYamlR false "X" [⟨some "E1", some [⟨"/d/a.bam", "a"⟩], none, none⟩, ⟨some "E2", some [⟨"/d/c.bam", "c"⟩], none, none⟩]
    = parseYamlR true "X" [⟨some "E1", some [⟨"/d/a.bam", "a"⟩], none, none⟩, ⟨some "E2", some [⟨"/d/c.bam", "c"⟩], none, none⟩] := by decide +kernel

end IsoVerif.Props.C10Names
