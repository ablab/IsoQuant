/-
C04 — `ReadsKeepTheirChain` (Props/C04Chromosome.lean, a `def … : Prop` proved on one witness input only) for
ALL inputs, with the second assigner's answers a function of (read, CONTENT of the storage) instead of parameters that name ids
(IsoVerif/Model/ChainAssigner.lean; the real `assign_reads_to_models` is checked to behave like that: harness/props/c04chain.py).

What is proved, per constructor and for every storage / dict / assigner: the relation "read is listed under a novel spliced model of
(strand, chain) k" after the tail of `process()` of the CURRENT code equals that of the code before fix b2b4dd9 — under the decidable
predicate `chainFaithful`, and the predicate is exactly where the two differ (`…_residual_witness`: the polyA variant class of the
finding `split_region_apa_variant`; `…_gain_witness`: a later sub-region below the novel cut-off, where the current code lists MORE).
Helper lemmas: IsoVerif/Lemmas/ChainAssigner.lean.
-/
import IsoVerif.Model.ChainAssigner
import IsoVerif.Lemmas.ChainAssigner
import IsoVerif.Props.C04Chromosome

namespace IsoVerif.Props.C04Chain
open IsoVerif.Gen IsoVerif.Model IsoVerif.Model.C04 IsoVerif.Lemmas.C04 IsoVerif.Props.C04 IsoVerif.Props.C04Chromosome

/-- "read `r` is listed under a novel spliced model of (strand, chain) `k`" for ONE constructor: `ms` are the models its second
    `assign_reads_to_models` worked on (for the current code: the kept models followed by the copies of the earlier models, whose
    lines `forward_counts` credits to the model an earlier constructor dumped), `s` the storage that is dumped -/
def ListedUnderChain (ms : List TModel) (s : Store) (r : String) (k : ChainKey) : Prop :=
  ∃ m ∈ ms, isSplicedNovel m = true ∧ chainKey m = k ∧ r ∈ readsIn s.readIds m.tid

/-- every read of a withheld copy: it was assigned once, to that copy only, it is offered to the second assigner, and the assigner —
    asked about the storage of the current code — finds it consistent with novel spliced models of exactly the copy's chain
    (the model reported first).  This is the clause the polyA-variant class violates: there the assigner answers "inconsistent". -/
def freedOk (A : CAssigner) (keys : List ChainKey) (s5 : Store) (ms6 : List TModel) (reads : List String) : Bool :=
  (withheld keys s5).all (fun m => (readsIn s5.readIds m.tid).all (fun r =>
    decide (cnt s5.rcount r = 1) && decide (r ∈ reads) &&
    s5.models.all (fun m' => decide (m'.tid = m.tid) || decide (r ∉ readsIn s5.readIds m'.tid)) &&
    sameKeys (ansChains ms6 (A r (ms6.map TModel.content))) [chainKey m]))

/-- every other read that reaches the assigner: the chains of the answer are the same on both storages -/
def othersOk (A : CAssigner) (keys : List ChainKey) (s5 : Store) (ms6 : List TModel) (reads : List String) : Bool :=
  reads.all (fun r => decide (r ∈ freedReads keys s5) || decide (cnt s5.rcount r > 0) ||
    sameKeys (ansChains s5.models (A r (s5.models.map TModel.content))) (ansChains ms6 (A r (ms6.map TModel.content))))

/-- the residual class, decidable: `true` = the assigner's verdicts on the storage of the current code name the same chains as on the
    storage of the code before the fixes -/
def chainFaithful (A : CAssigner) (keys : List ChainKey) (s5 : Store) (ms6 : List TModel) (reads : List String) : Bool :=
  freedOk A keys s5 ms6 reads && othersOk A keys s5 ms6 reads

/-! ### one direction: no read LOSES its chain (the later sub-region may gain reads) -/

/-- a read that reaches the assigner unassigned keeps every chain the answer named on the storage of the code before the fixes -/
def othersKeep (A : CAssigner) (keys : List ChainKey) (s5 : Store) (ms6 : List TModel) (reads : List String) : Bool :=
  reads.all (fun r => decide (r ∈ freedReads keys s5) || decide (cnt s5.rcount r > 0) ||
    (ansChains s5.models (A r (s5.models.map TModel.content))).all
      (fun k => decide (k ∈ ansChains ms6 (A r (ms6.map TModel.content)))))

/-- the residual class of "no read loses its chain": `freedOk` (the polyA-variant class fails it) and `othersKeep` -/
def chainKept (A : CAssigner) (keys : List ChainKey) (s5 : Store) (ms6 : List TModel) (reads : List String) : Bool :=
  freedOk A keys s5 ms6 reads && othersKeep A keys s5 ms6 reads

theorem freedOk_spec {A : CAssigner} {keys : List ChainKey} {s5 : Store} {ms6 : List TModel} {reads : List String}
    (h : freedOk A keys s5 ms6 reads = true) {m : TModel} (hm : m ∈ s5.models) (hk : keepModel keys m = false) {r : String}
    (hr : r ∈ readsIn s5.readIds m.tid) :
    cnt s5.rcount r = 1 ∧ r ∈ reads ∧ ∀ k, k ∈ ansChains ms6 (A r (ms6.map TModel.content)) ↔ k = chainKey m := by
  simp only [freedOk, withheld, List.all_eq_true, List.mem_filter, Bool.and_eq_true, decide_eq_true_eq, Bool.not_eq_true',
    and_imp] at h
  obtain ⟨⟨⟨hc1, hrin⟩, _⟩, hsame⟩ := h m hm hk r hr
  exact ⟨hc1, hrin, fun k => (sameKeys_iff hsame k).trans List.mem_singleton⟩

/-- **no_read_loses_its_chain_region.**  The direction of `reads_keep_their_chain_region` that fix b2b4dd9 broke and the follow-ups
    repaired, under the weaker predicate `chainKept` (which `exRegsFew`, the sub-region below the cut-off, satisfies): every read
    the code before the fixes listed under a novel spliced model of chain `k` is listed under a model of chain `k` by the current code. -/
theorem no_read_loses_its_chain_region (A : CAssigner) (s5 s6 : Store) (reported rep' : ModelMap) (span : Option (Int × Int))
    (final : List TModel) (reads : List String)
    (h : s5.dropJoin reported span = some (s6, final, rep'))
    (hreads : reads.Nodup) (hids5 : (ids s5.models).Nodup) (hids6 : (ids s6.models).Nodup)
    (hkept : chainKept A (modelKeys reported) s5 s6.models reads = true) (r : String) (k : ChainKey) :
    ListedUnderChain s5.models (s5.assignReads (insOf A reads s5.models)) r k →
    ListedUnderChain s6.models (s6.assignReads (insOf A reads s6.models)) r k := by
  simp only [chainKept, Bool.and_eq_true] at hkept
  obtain ⟨hfr, hoth⟩ := hkept
  have rc := dropJoin_rcount h r
  unfold ListedUnderChain
  rw [assignContent_chains A s5 reads hreads hids5, assignContent_chains A s6 reads hreads hids6]
  rintro (⟨m, hm, hsn, hk, hr⟩ | ⟨hrin, hc, hk⟩)
  · cases hkm : keepModel (modelKeys reported) m with
    | false =>
      -- a read of a withheld copy: its count drops to 0, the second assignment gives it to the model reported first
      obtain ⟨hc1, hrin, hsame⟩ := freedOk_spec hfr hm hkm hr
      have := rc.less hids5 m hm hkm hr
      exact Or.inr ⟨hrin, by omega, (hsame k).2 hk.symm⟩
    | true =>
      obtain ⟨hf, _, _, _, _, hms, _⟩ := dropJoin_spec h
      have hmf : m ∈ final := hf ▸ List.mem_filter.2 ⟨hm, hkm⟩
      refine Or.inl ⟨m, hms ▸ List.mem_append_left _ hmf, hsn, hk, ?_⟩
      rw [((drop_keeps_bookkeeping s5 s6 reported rep' span final h).2.2.2 hids5 m hmf).2]
      exact hr
  · -- unassigned before the step, so not a read of a withheld copy (those have count 1)
    have hnot : ∀ m ∈ s5.models, keepModel (modelKeys reported) m = false → r ∉ readsIn s5.readIds m.tid :=
      fun m hm hkm hr => hc (by rw [(freedOk_spec hfr hm hkm hr).1]; decide)
    refine Or.inr ⟨hrin, by rw [rc.same hnot]; exact hc, ?_⟩
    simp only [othersKeep, List.all_eq_true, Bool.or_eq_true, decide_eq_true_eq] at hoth
    rcases hoth r hrin with (o1 | o2) | o3
    · obtain ⟨m, hm, hkm, hr⟩ := mem_freedReads.1 o1
      exact absurd hr (hnot m hm hkm)
    · exact absurd o2 hc
    · exact o3 k hk

theorem chainKept_of_chainFaithful {A : CAssigner} {keys : List ChainKey} {s5 : Store} {ms6 : List TModel} {reads : List String}
    (h : chainFaithful A keys s5 ms6 reads = true) : chainKept A keys s5 ms6 reads = true := by
  simp only [chainFaithful, chainKept, othersOk, othersKeep, sameKeys, Bool.and_eq_true, List.all_eq_true, Bool.or_eq_true] at h ⊢
  exact ⟨h.1, fun r hr => (h.2 r hr).imp_right And.left⟩

/-- **reads_keep_their_chain_region.**  One constructor of the current code against the code before fix b2b4dd9, on the SAME storage
    after `filter_transcripts`, the same dict, the same reads, ANY content-based assigner: under `chainFaithful` a read is listed
    under a novel spliced model of chain `k` by the one iff by the other.  Hypotheses besides the residual predicate are invariants:
    read ids of the record pairwise different, transcript ids of a storage pairwise different (C17), lines name stored models. -/
theorem reads_keep_their_chain_region (A : CAssigner) (s5 s6 : Store) (reported rep' : ModelMap) (span : Option (Int × Int))
    (final : List TModel) (reads : List String)
    (h : s5.dropJoin reported span = some (s6, final, rep'))
    (hreads : reads.Nodup) (hids5 : (ids s5.models).Nodup) (hids6 : (ids s6.models).Nodup)
    (hinv : ∀ t, t ∉ ids s5.models → readsIn s5.readIds t = [])
    (hfaith : chainFaithful A (modelKeys reported) s5 s6.models reads = true) (r : String) (k : ChainKey) :
    ListedUnderChain s5.models (s5.assignReads (insOf A reads s5.models)) r k ↔
    ListedUnderChain s6.models (s6.assignReads (insOf A reads s6.models)) r k := by
  refine ⟨no_read_loses_its_chain_region A s5 s6 reported rep' span final reads h hreads hids5 hids6
    (chainKept_of_chainFaithful hfaith) r k, ?_⟩
  simp only [chainFaithful, Bool.and_eq_true] at hfaith
  obtain ⟨hfr, hoth⟩ := hfaith
  unfold ListedUnderChain
  rw [assignContent_chains A s5 reads hreads hids5, assignContent_chains A s6 reads hreads hids6]
  rintro (⟨m, hm, hsn, hk, hr⟩ | ⟨hrin, hc, hk⟩)
  · obtain ⟨hmf, hr5⟩ := dropJoin_listed_back h hids6 hinv hm hr
    exact Or.inl ⟨m, ((drop_keeps_bookkeeping s5 s6 reported rep' span final h).1.subset hmf), hsn, hk, hr5⟩
  · by_cases hfreed : ∃ m ∈ s5.models, keepModel (modelKeys reported) m = false ∧ r ∈ readsIn s5.readIds m.tid
    · -- freed by the step: the answer names exactly the chain of the withheld copy
      obtain ⟨m, hm, hkm, hrm⟩ := hfreed
      exact Or.inl ⟨m, hm, (keepModel_eq_false.1 hkm).1, (((freedOk_spec hfr hm hkm hrm).2.2 k).1 hk).symm, hrm⟩
    · rw [(dropJoin_rcount h r).same fun m hm hkm hr => hfreed ⟨m, hm, hkm, hr⟩] at hc
      refine Or.inr ⟨hrin, hc, ?_⟩
      simp only [othersOk, List.all_eq_true, Bool.or_eq_true, decide_eq_true_eq] at hoth
      rcases hoth r hrin with (o1 | o2) | o3
      · exact absurd (mem_freedReads.1 o1) hfreed
      · exact absurd o2 hc
      · exact (sameKeys_iff o3 k).2 hk

/-- the interface facts (read ids of a record pairwise different, transcript ids of a storage pairwise different — C17 —, lines name
    stored models) and the residual predicate for one record -/
def regionOk (A : CAssigner) (keys : List ChainKey) (s5 : Store) (ms6 : List TModel) (reads : List String) : Bool :=
  decide reads.Nodup && decide (ids s5.models).Nodup && decide (ids ms6).Nodup && listsOnlyModels s5 &&
    chainFaithful A keys s5 ms6 reads

/-- `regionOk` for every record, computed along the run of the current code -/
def chrFaithful (A : CAssigner) (next : Nat → Nat) : List RegionIn → ChrState → Bool
  | [], _ => true
  | r :: t, cs =>
    match regionHead next cs r with
    | none => true
    | some (st2, s5) =>
      match s5.dropJoin cs.reported r.span with
      | none => true
      | some (s6, _, rep) =>
        regionOk A (modelKeys cs.reported) s5 s6.models (r.ins2.map (·.read)) && chrFaithful A next t ⟨st2.detected, st2.idv, rep⟩

/-- the statement for a chromosome: at EVERY record, along the run of the current code (`csF`) and of the code before fix b2b4dd9
    (`csO`), the dumped storages list every read under the same (strand, chain)s; the ids of the current code's lines are those of
    the models it dumps and of the copies `em` of earlier models (dumped by an earlier record: `reported_ids_name_reported_models`) -/
def KeepsChains (A : CAssigner) (next : Nat → Nat) : List RegionIn → ChrState → ChrState → Prop
  | [], _, _ => True
  | r :: t, csF, csO =>
    ∀ csF' sF csO' sO, processRegionC .joinEarlier A next csF r = some (csF', sF) →
      processRegionC .none A next csO r = some (csO', sO) →
      (∃ em, earlierModels csF.reported r.span = some em ∧
        ∀ rd k, ListedUnderChain sO.models sO rd k ↔ ListedUnderChain (sF.models ++ em) sF rd k) ∧
      KeepsChains A next t csF' csO'

/-- **reads_keep_their_chain_chromosome.**  `ReadsKeepTheirChain` for ALL inputs, as a relation (the order of the lines of
    `transcript_model_reads` differs: `reads_keep_their_chain_order_witness`): any records, any id source, any heuristic answers, ANY
    content-based assigner — wherever `chrFaithful` holds, every record of the chromosome lists every read under the same
    (strand, chain)s as the code before the fixes did. -/
theorem reads_keep_their_chain_chromosome (A : CAssigner) (next : Nat → Nat) (regs : List RegionIn) (csF csO : ChrState)
    (hdet : csF.detected = csO.detected) (hidv : csF.idv = csO.idv) (hf : chrFaithful A next regs csF = true) :
    KeepsChains A next regs csF csO := by
  induction regs generalizing csF csO with
  | nil => trivial
  | cons r t ih =>
    intro csF' sF csO' sO hF hO
    obtain ⟨st2, s5, s6, final, rep, em, hh, hdj, hem, rfl, hd', hi', h1, h3⟩ := processRegionC_pair hdet hidv hF hO
    unfold chrFaithful at hf
    simp only [hh, hdj, regionOk, Bool.and_eq_true, decide_eq_true_eq] at hf
    obtain ⟨⟨⟨⟨⟨hr1, hr2⟩, hr3⟩, hr4⟩, hr5⟩, hrest⟩ := hf
    exact ⟨⟨em, hem, fun rd k => (h1 rd k).trans ((reads_keep_their_chain_region A s5 s6 csF.reported rep r.span final _
      hdj hr1 hr2 hr3 (listsOnlyModels_spec hr4) hr5 rd k).trans (h3 rd k))⟩, ih _ _ hd'.symm hi'.symm hrest⟩

/-- from the start of a chromosome task -/
theorem reads_keep_their_chain_all_inputs (A : CAssigner) (next : Nat → Nat) (regs : List RegionIn)
    (hf : chrFaithful A next regs ChrState.init = true) : KeepsChains A next regs ChrState.init ChrState.init :=
  reads_keep_their_chain_chromosome A next regs _ _ rfl rfl hf

/-- `chainKept` (and the interface facts it needs) for every record, computed along the run of the current code -/
def chrKept (A : CAssigner) (next : Nat → Nat) : List RegionIn → ChrState → Bool
  | [], _ => true
  | r :: t, cs =>
    match regionHead next cs r with
    | none => true
    | some (st2, s5) =>
      match s5.dropJoin cs.reported r.span with
      | none => true
      | some (s6, _, rep) =>
        decide (r.ins2.map (·.read)).Nodup && decide (ids s5.models).Nodup && decide (ids s6.models).Nodup &&
          chainKept A (modelKeys cs.reported) s5 s6.models (r.ins2.map (·.read)) && chrKept A next t ⟨st2.detected, st2.idv, rep⟩

/-- at every record: what the code before the fixes listed under a chain, the current code lists under that chain -/
def LosesNoChain (A : CAssigner) (next : Nat → Nat) : List RegionIn → ChrState → ChrState → Prop
  | [], _, _ => True
  | r :: t, csF, csO =>
    ∀ csF' sF csO' sO, processRegionC .joinEarlier A next csF r = some (csF', sF) →
      processRegionC .none A next csO r = some (csO', sO) →
      (∃ em, earlierModels csF.reported r.span = some em ∧
        ∀ rd k, ListedUnderChain sO.models sO rd k → ListedUnderChain (sF.models ++ em) sF rd k) ∧
      LosesNoChain A next t csF' csO'

/-- **no_read_loses_its_chain_chromosome.**  For all inputs with `chrKept`: the defect of fix b2b4dd9 (reads of a withheld copy
    printed `*`) and of fix 0c8e711 cannot occur — at every record every (read, chain) of the code before the fixes is still there.
    `exRegsFew` satisfies `chrKept` (not `chrFaithful`); the polyA-variant input `exRegsApa` satisfies neither. -/
theorem no_read_loses_its_chain_chromosome (A : CAssigner) (next : Nat → Nat) (regs : List RegionIn) (csF csO : ChrState)
    (hdet : csF.detected = csO.detected) (hidv : csF.idv = csO.idv) (hf : chrKept A next regs csF = true) :
    LosesNoChain A next regs csF csO := by
  induction regs generalizing csF csO with
  | nil => trivial
  | cons r t ih =>
    intro csF' sF csO' sO hF hO
    obtain ⟨st2, s5, s6, final, rep, em, hh, hdj, hem, rfl, hd', hi', h1, h3⟩ := processRegionC_pair hdet hidv hF hO
    unfold chrKept at hf
    simp only [hh, hdj, Bool.and_eq_true, decide_eq_true_eq] at hf
    obtain ⟨⟨⟨⟨hr1, hr2⟩, hr3⟩, hr5⟩, hrest⟩ := hf
    exact ⟨⟨em, hem, fun rd k hx => (h3 rd k).1 (no_read_loses_its_chain_region A s5 s6 csF.reported rep r.span final _
      hdj hr1 hr2 hr3 hr5 rd k ((h1 rd k).1 hx))⟩, ih _ _ hd'.symm hi'.symm hrest⟩

/-- the run with the computed assigner is a run of the current code: the per-chromosome theorems hold of it, in particular every
    copy `em` that joins a second assignment is a model an earlier record dumped -/
theorem computed_run_is_current_code (A : CAssigner) (next : Nat → Nat) (regs : List RegionIn) (cs' : ChrState) (reps : List Store)
    (h : runChromosomeC .joinEarlier A next regs ChrState.init [] = some (cs', reps)) :
    (∀ p ∈ cs'.reported, ∃ s ∈ reps, ∃ m ∈ s.models, isSplicedNovel m = true ∧ chainKey m = p.1 ∧ SameModel m p.2) ∧
    ((∀ s ∈ reps, ChainsDistinctPerConstructor s) → ChainsDistinctPerChromosome reps) := by
  obtain ⟨regs', _, hr⟩ := runChromosomeC_is_run .joinEarlier A next regs ChrState.init []
  rw [h] at hr
  exact ⟨reported_ids_name_reported_models next regs' cs' reps hr, chains_distinct_per_chromosome next regs' cs' reps hr⟩

/-- a toy CONTENT-based assigner: `geom r` = (introns, polyA site) of read `r`; it names every '+' model of the storage with exactly the
    read's introns whose last exon ends within 100 bp of the read's polyA site (the `apa_delta` test of the real comparison), and
    finds the read consistent iff there is one.  It never looks at an id. -/
def exA (geom : String → List Iv × Int) : CAssigner := fun r cs =>
  let g := geom r
  let ix := (List.range cs.length).filter (fun i => match cs[i]? with
    | some (st, ex) => decide (st = Strand.plus) && decide (junctionsFromBlocks ex = g.1) &&
        (match ex.getLast? with | some e => decide ((e.2 - g.2).natAbs ≤ 100) | none => false)
    | none => false)
  ⟨!ix.isEmpty, ix⟩

/-- reads r4 r5 r6: the isoform `(50,90),(100,200)` with polyA site `e`; r7 r8 r9: another isoform; every other read: the first
    isoform, polyA site 400 -/
def exGeom (e : Int) : String → List Iv × Int := fun r =>
  if r = "r7" ∨ r = "r8" ∨ r = "r9" then ([(50, 90), (100, 250)], 400)
  else if r = "r4" ∨ r = "r5" ∨ r = "r6" then ([(50, 90), (100, 200)], e) else ([(50, 90), (100, 200)], 400)

def exPathC : PathIn :=
  { exPath with path := [(VERTEX_read_start, 30), (50, 90), (100, 250), (VERTEX_polya, 400)],
                reads := [("r7", "g"), ("r8", "g"), ("r9", "g")] }

/-- the reads of the repeated isoform in the later sub-region, with polyA site `e` -/
def exPathBe (e : Int) : PathIn :=
  { exPathB with path := [(VERTEX_read_start, 30), (50, 90), (100, 200), (VERTEX_polya, e)] }

/-- the first sub-region: three reads of the isoform, polyA site 400; nothing is left for the second assignment -/
def exRegA : RegionIn := { exRegion [exPath] with ins2 := [] }

/-- a later sub-region; the reads offered to the second assignment (the recorded answers are ignored by `runChromosomeC`) -/
def exRegLater (e : Int) (paths : List PathIn) (reads : List String) : RegionIn :=
  { exRegion paths with ins2 := reads.map (fun r => ⟨r, false, []⟩), span := some (30, e) }

/-- the later sub-region builds a copy of the repeated isoform (same polyA site) and one fresh isoform -/
def exRegsGood : List RegionIn := [exRegA, exRegLater 400 [exPathB, exPathC] ["r4", "r5", "r6", "r7"]]
/-- the reads of the later sub-region end 1100 bp further out: the polyA-variant class -/
def exRegsApa : List RegionIn := [exRegA, exRegLater 1500 [exPathBe 1500, exPathC] ["r4", "r5", "r6", "r7"]]
/-- the later sub-region holds two reads of the isoform: below the novel cut-off, no local copy -/
def exRegsFew : List RegionIn := [exRegA, exRegLater 400 [] ["r4", "r5"]]

def exKey : ChainKey := (Strand.plus, [(50, 90), (100, 200)])

instance : DecidableEq (String × ChainKey) := inferInstance
instance : DecidableEq (List (String × ChainKey)) := inferInstance

/-- non-vacuity of `reads_keep_their_chain_all_inputs`: the predicate holds on `exRegsGood` (the second record deletes its copy, its
    three reads are freed, the content-based assigner finds them consistent with the model reported first) -/
example : chrFaithful (exA (exGeom 400)) (· + 1) exRegsGood ChrState.init = true := by decide +kernel

/-- **reads_keep_their_chain_order_witness.**  On `exRegsGood` both variants list every read under the same (strand, chain) — but
    `ReadsKeepTheirChain` (equality of the LISTS `chrReadChains`) is false even here: the freed reads are appended
    to `transcript_read_ids` after the reads of the models that stay, so the lines of the record come in another order.  The
    statement for all inputs is therefore the relation (`KeepsChains`), not the list. -/
theorem reads_keep_their_chain_order_witness :
    (runChromosomeC .joinEarlier (exA (exGeom 400)) (· + 1) exRegsGood ChrState.init []).map (fun r => chrReadChains r.2) =
      some [("r1", exKey), ("r2", exKey), ("r3", exKey),
            ("r7", (.plus, [(50, 90), (100, 250)])), ("r8", (.plus, [(50, 90), (100, 250)])), ("r9", (.plus, [(50, 90), (100, 250)])),
            ("r4", exKey), ("r5", exKey), ("r6", exKey)] ∧
    (runChromosomeC .none (exA (exGeom 400)) (· + 1) exRegsGood ChrState.init []).map (fun r => chrReadChains r.2) =
      some [("r1", exKey), ("r2", exKey), ("r3", exKey), ("r4", exKey), ("r5", exKey), ("r6", exKey),
            ("r7", (.plus, [(50, 90), (100, 250)])), ("r8", (.plus, [(50, 90), (100, 250)])), ("r9", (.plus, [(50, 90), (100, 250)]))] := by
  decide +kernel

/-- **reads_keep_their_chain_residual_witness** (the class of the finding `split_region_apa_variant`).  The reads of the later
    sub-region end 1100 bp beyond the model the first sub-region reported: the code before the fixes listed them under their own copy
    (a duplicate of the chain); the current code deletes the copy, the assigner — a function of the CONTENT — finds the reads
    inconsistent with the model that is in the output, and they are `*`.  `chrFaithful` is `false` exactly here (clause `freedOk`):
    the predicate is not an artefact of the proof. -/
theorem reads_keep_their_chain_residual_witness :
    chrFaithful (exA (exGeom 1500)) (· + 1) exRegsApa ChrState.init = false ∧
    (runChromosomeC .joinEarlier (exA (exGeom 1500)) (· + 1) exRegsApa ChrState.init []).map
        (fun r => (chrReadChains r.2, r.2.map (fun s => s.dumpR2T.filter (fun p => p.2 = "*")))) =
      some ([("r1", exKey), ("r2", exKey), ("r3", exKey),
             ("r7", (.plus, [(50, 90), (100, 250)])), ("r8", (.plus, [(50, 90), (100, 250)])), ("r9", (.plus, [(50, 90), (100, 250)]))],
            [[], [("r4", "*"), ("r5", "*"), ("r6", "*")]]) ∧
    (runChromosomeC .none (exA (exGeom 1500)) (· + 1) exRegsApa ChrState.init []).map (fun r => chrReadChains r.2) =
      some [("r1", exKey), ("r2", exKey), ("r3", exKey), ("r4", exKey), ("r5", exKey), ("r6", exKey),
            ("r7", (.plus, [(50, 90), (100, 250)])), ("r8", (.plus, [(50, 90), (100, 250)])), ("r9", (.plus, [(50, 90), (100, 250)]))] := by
  decide +kernel

/-- **reads_keep_their_chain_gain_witness.**  The other place where the two variants differ, in the opposite direction: a later
    sub-region with two reads of the isoform builds no local copy; the code before the fixes printed them `*`, the current code
    lists them under the model reported first.  `chrFaithful` is `false` (clause `othersOk`); no read LOSES a chain. -/
theorem reads_keep_their_chain_gain_witness :
    chrFaithful (exA (exGeom 400)) (· + 1) exRegsFew ChrState.init = false ∧
    (runChromosomeC .joinEarlier (exA (exGeom 400)) (· + 1) exRegsFew ChrState.init []).map (fun r => chrReadChains r.2) =
      some [("r1", exKey), ("r2", exKey), ("r3", exKey), ("r4", exKey), ("r5", exKey)] ∧
    (runChromosomeC .none (exA (exGeom 400)) (· + 1) exRegsFew ChrState.init []).map (fun r => chrReadChains r.2) =
      some [("r1", exKey), ("r2", exKey), ("r3", exKey)] := by
  decide +kernel

/-- … hence `ReadsKeepTheirChain` (equality with the code before the fixes) is FALSE of the current code on `fewRegions` (recorded
    answers): the current code lists two reads more -/
theorem reads_keep_their_chain_few_false : ¬ ReadsKeepTheirChain runChromosomeFixed (· + 1) fewRegions := by
  unfold ReadsKeepTheirChain
  rw [(IsoVerif.Lemmas.map_pair_eq_some reads_kept_without_local_copy_witness).2]
  decide +kernel

/-! one constructor: the hypotheses of `reads_keep_their_chain_region` hold together, and the two sides are inhabited -/

def exCopy (e : Int) : TModel :=
  ⟨"chr1", .plus, "transcript3.chr1.nnic", "g", [(30, 49), (91, 99), (201, e)], .novel_not_in_catalog, [(50, 90), (100, 200)]⟩
def exFresh : TModel := ⟨"chr1", .plus, "transcript4.chr1.nnic", "g", [(30, 49), (91, 400)], .novel_not_in_catalog, [(50, 90)]⟩
def exS5 (e : Int) : Store := (Store.empty.addModel (exCopy e) ["r4", "r5", "r6"]).addModel exFresh ["r7"]
def exDict : ModelMap := [(exKey, exFirstModel)]
def exGeom1 (e : Int) : String → List Iv × Int := fun r => if r = "r7" then ([(50, 90)], 400) else ([(50, 90), (100, 200)], e)
def exReads : List String := ["r4", "r5", "r6", "r7", "r8"]
def exS6 (e : Int) : Store := (((exS5 e).dropJoin exDict (some (30, e))).map (·.1)).getD Store.empty

example : ((exS5 400).dropJoin exDict (some (30, 400))).map (fun x => (x.1, x.2.1.map (·.tid))) =
      some (exS6 400, ["transcript4.chr1.nnic"]) ∧
    exReads.Nodup ∧ (ids (exS5 400).models).Nodup ∧ (ids (exS6 400).models).Nodup ∧ listsOnlyModels (exS5 400) = true ∧
    chainFaithful (exA (exGeom1 400)) (modelKeys exDict) (exS5 400) (exS6 400).models exReads = true := by
  decide +kernel

/-- r4 (freed) and r8 (never assigned) are listed under the chain by both; under `transcript3…` by the one, `transcript1…` by the other -/
example : ListedUnderChain (exS5 400).models ((exS5 400).assignReads (insOf (exA (exGeom1 400)) exReads (exS5 400).models)) "r4" exKey ∧
    ListedUnderChain (exS6 400).models ((exS6 400).assignReads (insOf (exA (exGeom1 400)) exReads (exS6 400).models)) "r4" exKey ∧
    ListedUnderChain (exS6 400).models ((exS6 400).assignReads (insOf (exA (exGeom1 400)) exReads (exS6 400).models)) "r8" exKey ∧
    (readsIn ((exS5 400).assignReads (insOf (exA (exGeom1 400)) exReads (exS5 400).models)).readIds "transcript3.chr1.nnic",
     readsIn ((exS6 400).assignReads (insOf (exA (exGeom1 400)) exReads (exS6 400).models)).readIds "transcript1.chr1.nnic") =
      (["r4", "r5", "r6", "r8"], ["r4", "r5", "r6", "r8"]) := by
  unfold ListedUnderChain
  decide +kernel

/-- the polyA-variant class for one constructor: the predicate fails and so does the conclusion -/
example : chainFaithful (exA (exGeom1 1500)) (modelKeys exDict) (exS5 1500) (exS6 1500).models exReads = false ∧
    ListedUnderChain (exS5 1500).models ((exS5 1500).assignReads (insOf (exA (exGeom1 1500)) exReads (exS5 1500).models)) "r4" exKey ∧
    ¬ ListedUnderChain (exS6 1500).models ((exS6 1500).assignReads (insOf (exA (exGeom1 1500)) exReads (exS6 1500).models)) "r4" exKey := by
  unfold ListedUnderChain
  decide +kernel

/-- non-vacuity of `no_read_loses_its_chain_region` where `chainFaithful` fails: the empty storage of a sub-region below the cut-off -/
example : (Store.empty.dropJoin exDict (some (30, 400))).map (fun x =>
      (chainKept (exA (exGeom1 400)) (modelKeys exDict) Store.empty x.1.models ["r4", "r5"],
       chainFaithful (exA (exGeom1 400)) (modelKeys exDict) Store.empty x.1.models ["r4", "r5"],
       decide (ids x.1.models).Nodup)) = some (true, false, true) := by
  decide +kernel

/-- … and on the constructor with a freed copy -/
example : chainKept (exA (exGeom1 400)) (modelKeys exDict) (exS5 400) (exS6 400).models exReads = true ∧
    chainKept (exA (exGeom1 1500)) (modelKeys exDict) (exS5 1500) (exS6 1500).models exReads = false := by
  decide +kernel

/-- non-vacuity of `no_read_loses_its_chain_chromosome` beyond `chrFaithful`; the polyA-variant input fails both -/
example : chrKept (exA (exGeom 400)) (· + 1) exRegsFew ChrState.init = true ∧
    chrKept (exA (exGeom 400)) (· + 1) exRegsGood ChrState.init = true ∧
    chrKept (exA (exGeom 1500)) (· + 1) exRegsApa ChrState.init = false := by
  decide +kernel

end IsoVerif.Props.C04Chain
