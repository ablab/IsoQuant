/-
C09 — grouper side (src/read_groups.py): each read gets exactly the documented group, `NA` when it has none;
what a grouper returns is a string and is recorded in `read_groups`, so the universe handed to the counters
contains the group of every read.
-/
import IsoVerif.Model.C09
import IsoVerif.Lemmas.C09
import IsoVerif.Lemmas.C09Split

namespace IsoVerif.Props.C09Groupers
open IsoVerif.Gen IsoVerif.Model.C09 IsoVerif.Lemmas.C09 IsoVerif.Lemmas.C09Split

/-! ### group_of_read: the four groupers return the documented group -/

/-- `tag:TAG` — the value of the tag (printed with `str`) when the read carries it, `NA` when it does not;
    in both cases the returned string is also added to `read_groups` -/
theorem tag_group_of_read (t : String) (a : Aln) :
    ((∀ v, (t, v) ∉ a.tags) → getGroupId (.tag t) a = .ok (GRes.both NA)) ∧
    (∀ pre v post, a.tags = pre ++ (t, v) :: post → (∀ v', (t, v') ∉ pre) →
      getGroupId (.tag t) a = .ok (GRes.both v.render)) := by
  constructor
  · intro h
    simp [getGroupId, (IsoVerif.Lemmas.lookup_none_iff a.tags t).mpr h]
  · intro pre v post he hpre
    simp [getGroupId, he, IsoVerif.Lemmas.lookup_first pre post t v hpre]

/-- `file:TABLE` — the table entry of the read id, `NA` for a read that has no row -/
theorem table_group_of_read (m : List (String × String)) (a : Aln) :
    ((∀ g, (a.name, g) ∉ m) → getGroupId (.table m) a = .ok (GRes.both NA)) ∧
    (∀ pre g post, m = pre ++ (a.name, g) :: post → (∀ g', (a.name, g') ∉ pre) →
      getGroupId (.table m) a = .ok (GRes.both g)) := by
  constructor
  · intro h
    simp [getGroupId, (IsoVerif.Lemmas.lookup_none_iff m a.name).mpr h]
  · intro pre g post he hpre
    simp [getGroupId, he, IsoVerif.Lemmas.lookup_first pre post a.name g hpre]

/-- `file_name` — the label of the file the read came from; the file name itself when it has no label;
    `NA` when there is no file name -/
theorem filename_group_of_read (names : List (String × String)) (a : Aln) :
    (a.file = none → getGroupId (.fileName names) a = .ok (GRes.both NA)) ∧
    (∀ f pre label post, a.file = some f → names = pre ++ (f, label) :: post → (∀ l', (f, l') ∉ pre) →
      getGroupId (.fileName names) a = .ok (GRes.both label)) ∧
    (∀ f, a.file = some f → (∀ l, (f, l) ∉ names) →
      getGroupId (.fileName names) a = .ok (GRes.both (if f = "" then NA else f))) := by
  refine ⟨?_, ?_, ?_⟩
  · intro h; simp [getGroupId, h]
  · intro f pre label post hf he hpre
    simp [getGroupId, hf, he, IsoVerif.Lemmas.lookup_first pre post f label hpre]
  · intro f hf hn
    simp only [getGroupId, hf, (IsoVerif.Lemmas.lookup_none_iff names f).mpr hn]
    split <;> rfl

/-- `read_id:DELIM` — with a non-empty delimiter: `NA` when the delimiter does not occur in the read id; otherwise
    the returned group `g` is a suffix of the read id that follows an occurrence of the delimiter and contains no
    further occurrence (`read id = p ++ DELIM ++ g`) -/
theorem readid_group_of_read (delim : String) (a : Aln) (hd : delim.toList ≠ []) :
    ∃ g, getGroupId (.readId delim) a = .ok (GRes.both g) ∧
      (¬ delim.toList <:+: a.name.toList → g = NA) ∧
      (delim.toList <:+: a.name.toList →
        (∃ p, a.name.toList = p ++ delim.toList ++ g.toList) ∧ ¬ delim.toList <:+: g.toList) := by
  obtain ⟨ps, hps, hne, _, hone, hlast⟩ := pySplit_spec delim.toList a.name.toList hd
  by_cases hin : delim.toList <:+: a.name.toList
  · have hlen : ¬ ps.length = 1 := fun e => (hone.mp e) hin
    obtain ⟨l, hl⟩ : ∃ l, ps.getLast? = some l := ⟨ps.getLast hne, List.getLast?_eq_some_getLast hne⟩
    refine ⟨String.ofList l, by simp [getGroupId, hps, hlen, hl], fun h => absurd hin h, ?_⟩
    intro _
    obtain ⟨h1, h2⟩ := hlast l hl
    simp only [String.toList_ofList]
    exact ⟨h2 hin, h1⟩
  · have hlen : ps.length = 1 := hone.mpr hin
    exact ⟨NA, by simp [getGroupId, hps, hlen], fun _ => rfl, fun h => absurd h hin⟩

/-- for a single-character delimiter (the documented use: `read_id:_`) the group is *the* suffix after the last
    occurrence of the delimiter: any decomposition `read id = p ++ [c] ++ g` with `c ∉ g` has `g` = the returned group -/
theorem readid_single_char (delim : String) (c : Char) (a : Aln) (hd : delim.toList = [c]) (p g : List Char)
    (hname : a.name.toList = p ++ [c] ++ g) (hg : c ∉ g) :
    getGroupId (.readId delim) a = .ok (GRes.both (String.ofList g)) := by
  obtain ⟨g0, hg0, _, hsome⟩ := readid_group_of_read delim a (by rw [hd]; simp)
  have hin : delim.toList <:+: a.name.toList := ⟨p, g, by rw [hd, hname]⟩
  obtain ⟨⟨p0, hp0⟩, hno⟩ := hsome hin
  rw [hd] at hp0 hno
  have hc0 : c ∉ g0.toList := by
    intro hm
    obtain ⟨u, v, huv⟩ := List.append_of_mem hm
    exact hno ⟨u, v, by rw [huv]; simp⟩
  have : g = g0.toList := by
    refine (Lemmas.last_sep_unique c p p0 g g0.toList hg hc0 ?_).2
    rw [hname] at hp0
    simpa [List.append_assoc] using hp0
  rw [hg0, this, String.ofList_toList]

/-- the read has no group under the grouper (missing tag / delimiter / table row / file name) -/
def Ungroupable : Grouper → Aln → Prop
  | .default, _ => True
  | .tag t, a => ∀ v, (t, v) ∉ a.tags
  | .readId d, a => d.toList ≠ [] ∧ ¬ d.toList <:+: a.name.toList
  | .table m, a => ∀ g, (a.name, g) ∉ m
  | .fileName names, a => a.file = none ∨ (a.file = some "" ∧ ∀ l, ("", l) ∉ names)

/-- **ungroupable_is_NA**: a read that cannot be grouped is reported under `NA` — a string, not `None`, no exception —
    and (for the four real groupers) `NA` is recorded in `read_groups` by that very call -/
theorem ungroupable_is_NA (g : Grouper) (a : Aln) (h : Ungroupable g a) :
    ∃ ad, getGroupId g a = .ok ⟨some NA, ad⟩ ∧ (g.initGroups = [] → ad = some NA) := by
  cases g with
  | default => exact ⟨none, rfl, by simp [Grouper.initGroups]⟩
  | tag t => exact ⟨some NA, (tag_group_of_read t a).1 h, fun _ => rfl⟩
  | readId d =>
    obtain ⟨g0, hg0, hna, _⟩ := readid_group_of_read d a h.1
    rw [hna h.2] at hg0
    exact ⟨some NA, hg0, fun _ => rfl⟩
  | table m => exact ⟨some NA, (table_group_of_read m a).1 h, fun _ => rfl⟩
  | fileName names =>
    rcases h with h | ⟨h1, h2⟩
    · exact ⟨some NA, (filename_group_of_read names a).1 h, fun _ => rfl⟩
    · have := (filename_group_of_read names a).2.2 "" h1 h2
      simp only [if_true] at this
      exact ⟨some NA, this, fun _ => rfl⟩

/-- a grouper is configured validly (`read_id:` with an empty delimiter is rejected by `str.split`) -/
def ValidGrouper : Grouper → Prop
  | .readId d => d.toList ≠ []
  | _ => True

/-- every call of a validly configured grouper returns a string, and that string is in `read_groups` afterwards
    (it is added by the call, or it is the `NA` of the default grouper's initial set) -/
theorem returned_group_recorded (g : Grouper) (hv : ValidGrouper g) (a : Aln) :
    ∃ x, (getGroupId g a = .ok (GRes.both x)) ∨ (g.initGroups = [NA] ∧ x = NA ∧ getGroupId g a = .ok ⟨some NA, none⟩) := by
  cases g with
  | default => exact ⟨NA, Or.inr ⟨rfl, rfl, rfl⟩⟩
  | tag t =>
    simp only [getGroupId]
    cases a.tags.lookup t with
    | none => exact ⟨NA, Or.inl rfl⟩
    | some v => exact ⟨v.render, Or.inl rfl⟩
  | readId d =>
    obtain ⟨g0, hg0, _⟩ := readid_group_of_read d a hv
    exact ⟨g0, Or.inl hg0⟩
  | table m =>
    simp only [getGroupId]
    cases m.lookup a.name with
    | none => exact ⟨NA, Or.inl rfl⟩
    | some v => exact ⟨v, Or.inl rfl⟩
  | fileName names =>
    simp only [getGroupId]
    cases a.file with
    | none => exact ⟨NA, Or.inl rfl⟩
    | some f =>
      simp only
      cases names.lookup f with
      | some l => exact ⟨l, Or.inl rfl⟩
      | none =>
        simp only
        split
        · exact ⟨NA, Or.inl rfl⟩
        · exact ⟨f, Or.inl rfl⟩

/-- one collector run (any alignments, any starting set): every returned value is a string that is in the final
    `read_groups`, and the final set holds nothing but the starting set and returned values -/
theorem runGrouper_spec (g : Grouper) (hv : ValidGrouper g) :
    ∀ (alns : List Aln) (S0 : List String), (g.initGroups = [NA] → NA ∈ S0) →
      ∃ rets S, runGrouper g alns S0 = .ok (rets, S) ∧ rets.length = alns.length ∧
        (∀ x ∈ S0, x ∈ S) ∧
        (∀ r ∈ rets, ∃ x, r = some x ∧ x ∈ S) ∧
        (∀ x ∈ S, x ∈ S0 ∨ some x ∈ rets)
  | [], S0, _ => ⟨[], S0, rfl, rfl, fun _ h => h, by simp, fun _ h => Or.inl h⟩
  | a :: as, S0, hna => by
    obtain ⟨x, hx⟩ := returned_group_recorded g hv a
    rcases hx with hx | ⟨hi, hxe, hx⟩
    · obtain ⟨rets, S, hr, hlen, hsub, hret, hback⟩ := runGrouper_spec g hv as (setInsert S0 x)
        (fun h => (mem_setInsert S0 x NA).mpr (Or.inl (hna h)))
      refine ⟨some x :: rets, S, by simp [runGrouper, hx, GRes.both, hr], by simp [hlen], ?_, ?_, ?_⟩
      · intro y hy; exact hsub y ((mem_setInsert S0 x y).mpr (Or.inl hy))
      · intro r hr'
        rcases List.mem_cons.mp hr' with e | e
        · exact ⟨x, e, hsub x ((mem_setInsert S0 x x).mpr (Or.inr rfl))⟩
        · exact hret r e
      · intro y hy
        rcases hback y hy with h | h
        · rcases (mem_setInsert S0 x y).mp h with h' | h'
          · exact Or.inl h'
          · right; rw [h']; exact List.mem_cons_self
        · exact Or.inr (List.mem_cons_of_mem _ h)
    · obtain ⟨rets, S, hr, hlen, hsub, hret, hback⟩ := runGrouper_spec g hv as S0 hna
      refine ⟨some NA :: rets, S, by simp [runGrouper, hx, hr], by simp [hlen], hsub, ?_, ?_⟩
      · intro r hr'
        rcases List.mem_cons.mp hr' with e | e
        · exact ⟨NA, e, hsub NA (hna hi)⟩
        · exact hret r e
      · intro y hy
        rcases hback y hy with h | h
        · exact Or.inl h
        · exact Or.inr (List.mem_cons_of_mem _ h)

/-- the universe handed to the counters is the union of the per-chromosome `read_groups` sets -/
theorem groupUniverse_mem (perChr : List (List String)) (x : String) :
    x ∈ groupUniverse perChr ↔ ∃ s ∈ perChr, x ∈ s := by
  unfold groupUniverse
  suffices h : ∀ acc, x ∈ perChr.foldl (fun acc s => s.foldl setInsert acc) acc ↔ x ∈ acc ∨ ∃ s ∈ perChr, x ∈ s by
    simpa using h []
  induction perChr with
  | nil => simp
  | cons s t ih =>
    intro acc
    simp only [List.foldl_cons, ih, foldl_setInsert_mem, List.mem_cons]
    constructor
    · rintro ((h | h) | ⟨s', hs', hx⟩)
      · exact Or.inl h
      · exact Or.inr ⟨s, Or.inl rfl, h⟩
      · exact Or.inr ⟨s', Or.inr hs', hx⟩
    · rintro (h | ⟨s', hs' | hs', hx⟩)
      · exact Or.inl (Or.inl h)
      · subst hs'; exact Or.inl (Or.inr hx)
      · exact Or.inr ⟨s', hs', hx⟩

theorem groupUniverse_nodup (perChr : List (List String)) : (groupUniverse perChr).Nodup := by
  unfold groupUniverse
  suffices h : ∀ acc : List String, acc.Nodup → (perChr.foldl (fun acc s => s.foldl setInsert acc) acc).Nodup from h [] (by simp)
  induction perChr with
  | nil => intro acc h; exact h
  | cons s t ih => intro acc h; exact ih _ (foldl_setInsert_nodup s acc h)

/-- **every read's group is in the universe**: run a validly configured grouper over the alignments of each
    chromosome; the group recorded for any read of any chromosome is a member of the universe the counters are
    built with (so `no_abort` of Props/C09.lean applies: no `KeyError` in any grouped counter) -/
theorem group_of_every_read_in_universe (g : Grouper) (hv : ValidGrouper g) (chrAlns : List (List Aln)) :
    ∃ results : List (List (Option String) × List String),
      chrAlns.map (fun alns => runGrouper g alns g.initGroups) = results.map Except.ok ∧
      ∀ res ∈ results, ∀ r ∈ res.1, ∃ x, r = some x ∧ x ∈ groupUniverse (results.map Prod.snd) := by
  have hinit : g.initGroups = [NA] → NA ∈ g.initGroups := by intro h; rw [h]; simp
  -- per chromosome: the returned values and the final set that `runGrouper_spec` provides, with its facts
  have spec := fun alns => (runGrouper_spec g hv alns g.initGroups hinit).choose_spec.choose_spec
  refine ⟨chrAlns.map (fun alns => ((runGrouper_spec g hv alns g.initGroups hinit).choose,
      (runGrouper_spec g hv alns g.initGroups hinit).choose_spec.choose)), ?_, ?_⟩
  · rw [List.map_map]
    apply List.map_congr_left
    intro alns _
    exact (spec alns).1
  · intro res hres r hr
    obtain ⟨alns, _, rfl⟩ := List.mem_map.mp hres
    obtain ⟨_, _, _, hret, _⟩ := spec alns
    obtain ⟨x, hx, hxS⟩ := hret r hr
    refine ⟨x, hx, (groupUniverse_mem _ x).mpr ⟨_, ?_, hxS⟩⟩
    exact List.mem_map.mpr ⟨_, hres, rfl⟩

/-- before fix e484a5c a read id without the delimiter got `None` (and nothing was added to `read_groups`):
    `ungroupable_is_NA` fails for the old `get_group_id` -/
theorem ungroupable_is_NA_buggy_witness :
    Ungroupable (.readId "_") ⟨"abc", [], none⟩ ∧
    getGroupIdBuggy (.readId "_") ⟨"abc", [], none⟩ = .ok ⟨none, none⟩ := by
  constructor
  · exact ⟨by decide, by decide⟩
  · decide +kernel

-- non-vacuity: concrete reads meet the hypotheses and get the documented groups
example : getGroupId (.readId "_") ⟨"m54158_180727_042959_59310706_ccs_NEU", [], none⟩ = .ok (GRes.both "NEU") := by
  decide +kernel
example : getGroupId (.readId "_") ⟨"abc", [], none⟩ = .ok (GRes.both "NA") := by decide +kernel
example : getGroupId (.tag "HP") ⟨"r", [("NM", .int 3), ("HP", .int 1)], none⟩ = .ok (GRes.both "1") := by decide +kernel
example : getGroupId (.tag "CB") ⟨"r", [("NM", .int 3)], none⟩ = .ok (GRes.both "NA") := by decide +kernel
example : getGroupId (.table [("r1", "g1"), ("r2", "g2")]) ⟨"r2", [], none⟩ = .ok (GRes.both "g2") := by decide +kernel
example : getGroupId (.fileName [("/d/A.bam", "A")]) ⟨"r", [], some "/d/A.bam"⟩ = .ok (GRes.both "A") := by decide +kernel
example : ValidGrouper (.readId "_") ∧ Ungroupable (.tag "CB") ⟨"r", [("NM", .int 3)], none⟩ := by
  refine ⟨by unfold ValidGrouper; decide, ?_⟩
  intro v; simp

end IsoVerif.Props.C09Groupers
