/-
C19 — the split-exon READ profile: `NonOverlappingFeaturesProfileConstructor.construct_profile`
(src/long_read_profiles.py; model `Model/Profiles.lean` `noSweep` / `constructNonOverlapping`, correspondence op
`C19.nonoverlapping_profile`).

Last sentence of C19: "read profiles mark a feature present iff a read feature matches it within delta and absent iff the read
spans it without matching".  For the split-exon profile the known features are the disjoint blocks of `split_exons`, a read
exon MATCHES a block when it overlaps it and passes the comparator (`overlaps_at_least_when_overlap … minimal_exon_overlap`:
contains it, lies inside it, or shares at least `minimal_exon_overlap` bases), and the reading of "spans it without matching"
under which the code is right (proposed DESIGN §6 sentence, see docs/C19.md) is: the block's END lies strictly inside a gap
between two consecutive read exons.  A block that overlaps a read exon by fewer than `minimal_exon_overlap` bases and whose end
is not in a gap is left UNDETERMINED (0): `nonoverlapping_literal_witness`.

`nonoverlapping_profile_spec` is exact (three `↔`), for all sorted disjoint well-formed block and read lists, every comparator.
-/
import IsoVerif.Lemmas.C19NoSweep
import IsoVerif.Props.C19Lists

namespace IsoVerif.Props.C19NonOverlapping
open IsoVerif.Gen IsoVerif.Model IsoVerif.Lemmas IsoVerif.Lemmas.C01 IsoVerif.Lemmas.C19NoSweep

/-- some read exon overlaps the block and passes the comparator -/
def Present (cmp : Iv → Iv → Bool) (R : List Iv) (k : Iv) : Prop :=
  ∃ r ∈ R, overlaps r k = true ∧ cmp r k = true

/-- the END of the block lies strictly inside a gap between two consecutive read exons -/
def EndInGap (R : List Iv) (k : Iv) : Prop :=
  ∃ (j : Nat) (r r' : Iv), R[j]? = some r ∧ R[j + 1]? = some r' ∧ r.2 < k.2 ∧ k.2 < r'.1

/-- the gene profile computed by the sweep (before polyA / polyT masking) -/
def sweepGene (cmp : Iv → Iv → Bool) (K R : List Iv) : List Int :=
  (noSweep cmp K 0 R 0 { gene := K.map (fun _ => 0), read := R.map (fun _ => 0) }).gene

theorem sweepGene_length (cmp : Iv → Iv → Bool) (K R : List Iv) : (sweepGene cmp K R).length = K.length := by
  simp [sweepGene, noSweep_gene_length]

theorem sweep_inv (cmp : Iv → Iv → Bool) (K R : List Iv) (hK : SD K) (hKw : WFl K) :
    NoInv cmp K R (noSweep cmp K 0 R 0 { gene := K.map (fun _ => 0), read := R.map (fun _ => 0) }) :=
  noSweep_inv cmp K R hK hKw K 0 R 0 _ rfl rfl (fun h => absurd h (by omega)) (noSweep_init_inv cmp K R)

/-- **nonoverlapping_profile_spec** — for every comparator, every sorted, pairwise disjoint, well-formed block list `K`
    (touching blocks allowed: that is what `split_exons` returns) and read exon list `R`, and every block `K[i] = k`:
    the profile value is 1 iff some read exon overlaps `k` and passes the comparator; −1 iff not, and the end of `k` lies
    strictly inside a gap between two consecutive read exons; 0 otherwise.  No other value occurs. -/
theorem nonoverlapping_profile_spec (cmp : Iv → Iv → Bool) (K R : List Iv) (hK : SD K) (hKw : WFl K) (hR : SD R)
    (hRw : WFl R) (i : Nat) (k : Iv) (hi : K[i]? = some k) :
    ((sweepGene cmp K R)[i]? = some 1 ↔ Present cmp R k) ∧
    ((sweepGene cmp K R)[i]? = some (-1) ↔ ¬ Present cmp R k ∧ EndInGap R k) ∧
    ((sweepGene cmp K R)[i]? = some 0 ↔ ¬ Present cmp R k ∧ ¬ EndInGap R k) := by
  have inv := sweep_inv cmp K R hK hKw
  have hlen := sweepGene_length cmp K R
  have hiK : i < K.length := getElem?_lt hi
  obtain ⟨v, hv⟩ : ∃ v, (sweepGene cmp K R)[i]? = some v :=
    ⟨(sweepGene cmp K R)[i]'(by omega), List.getElem?_eq_getElem (by omega)⟩
  have hdom : v = 0 ∨ v = 1 ∨ v = -1 := inv.dom v (List.mem_of_getElem? hv)
  have h1 : (sweepGene cmp K R)[i]? = some 1 ↔ Present cmp R k := by
    constructor
    · intro h
      obtain ⟨k', j, r, hk', hr, hov, hc⟩ := inv.gene1 i h
      rw [hi] at hk'; cases hk'
      exact ⟨r, List.mem_of_getElem? hr, hov, hc⟩
    · rintro ⟨r, hr, hov, hc⟩
      obtain ⟨j, hj⟩ := List.getElem?_of_mem hr
      exact (noSweep_marks cmp K R hK hKw hR hRw i j k r hi hj hov hc K 0 R 0 _ rfl rfl (by simp) (by simp)
        (by omega) (by omega)).1
  have hgap : EndInGap R k → (sweepGene cmp K R)[i]? ≠ some 0 := by
    rintro ⟨j, r, r', hj, hj', ha, hb⟩
    exact noSweep_gap_marked cmp K R hK hKw hR hRw i j k r r' hi hj hj' ha hb K 0 R 0 _ rfl rfl (by simp) (by omega)
      (by omega)
  have hN : (sweepGene cmp K R)[i]? = some (-1) → EndInGap R k := by
    intro h
    obtain ⟨k', j, r, r', hk', hr, hr', ha, hb⟩ := inv.geneN i h
    rw [hi] at hk'; cases hk'
    exact ⟨j, r, r', hr, hr', ha, hb⟩
  refine ⟨h1, ?_, ?_⟩
  · constructor
    · intro h
      refine ⟨fun hp => ?_, hN h⟩
      have := h1.mpr hp
      rw [h] at this; cases this
    · rintro ⟨hnp, hg⟩
      rcases hdom with e | e | e
      · subst e; exact absurd hv (hgap hg)
      · subst e; exact absurd (h1.mp hv) hnp
      · subst e; exact hv
  · constructor
    · intro h
      refine ⟨fun hp => ?_, fun hg => hgap hg h⟩
      have := h1.mpr hp
      rw [h] at this; cases this
    · rintro ⟨hnp, hng⟩
      rcases hdom with e | e | e
      · subst e; exact hv
      · subst e; exact absurd (h1.mp hv) hnp
      · subst e; exact absurd (hN hv) hng

/-- without a tail the constructor returns exactly the sweep's profile (never raises, on any list — also an empty one) -/
theorem nonoverlapping_no_tail (cmp : Iv → Iv → Bool) (K : List Iv) (delta : Int) (R : List Iv) :
    ∃ res, constructNonOverlapping K cmp delta R (-1) (-1) = some res ∧ res.gene = sweepGene cmp K R := by
  simp [constructNonOverlapping, sweepGene]

/-- non-vacuity of `nonoverlapping_profile_spec`: blocks (1,3),(4,8),(20,30),(40,45), read (2,8),(25,28),(50,60), 5 common
    bases required: (1,3) lies inside no read exon but is overlapped by 2 < 5 bases and its end is not in a gap → 0; (4,8)
    lies inside the first read exon → 1; (20,30) contains the second read exon → 1; the end of (40,45) lies in the gap
    (29, 49) → −1 -/
example : SD [(1, 3), (4, 8), (20, 30), (40, 45)] ∧ SD [(2, 8), (25, 28), (50, 60)] ∧
    sweepGene (fun a b => overlaps_at_least_when_overlap a b 5) [(1, 3), (4, 8), (20, 30), (40, 45)]
      [(2, 8), (25, 28), (50, 60)] = [0, 1, 1, -1] := by decide +kernel

/-- the LITERAL sentence ("absent iff the read spans it without matching") is not what the code computes: the block (2,3)
    lies between the first and the last base of the read (1,1),(3,5), no read exon matches it (1 common base, 2 required, it
    neither contains nor lies inside a read exon), and it is left undetermined (0), not absent — its end is not in a gap.
    Replayed on the real constructor by the oracle (`nonoverlapping_literal_witness`). -/
theorem nonoverlapping_literal_witness :
    let K : List Iv := [(2, 3)]
    let R : List Iv := [(1, 1), (3, 5)]
    let cmp : Iv → Iv → Bool := fun a b => overlaps_at_least_when_overlap a b 2
    sweepGene cmp K R = [0] ∧ (1 : Int) ≤ 2 ∧ (3 : Int) ≤ 5 ∧ ¬ Present cmp R (2, 3) ∧ ¬ EndInGap R (2, 3) := by
  refine ⟨by decide +kernel, by decide, by decide, ?_, ?_⟩
  · rintro ⟨r, hr, hov, hc⟩
    simp only [List.mem_cons, List.mem_nil_iff, or_false] at hr
    rcases hr with e | e <;> subst e <;> revert hc <;> decide
  · rintro ⟨j, r, r', hj, hj', ha, hb⟩
    match j, hj, hj' with
    | 0, hj, hj' => simp at hj hj'; subst hj hj'; revert hb; decide
    | (n + 1), hj, hj' => simp at hj'

end IsoVerif.Props.C19NonOverlapping
