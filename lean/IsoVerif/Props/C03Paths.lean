/-
C03 — the assumption interface "intron paths handed to the exon constructor are strictly increasing" is discharged:
every novel spliced model that the modelled `construct_fl_isoforms` emits from a path enumerated on the modelled intron
graph (any operation history, the code's own `thread_ends` / `thread_starts`) has a sorted, pairwise disjoint,
well-formed exon list — WITHOUT a monotone-path hypothesis.  Composition of C04's `paths_monotone` (graph vertices are read
introns; the length guard of `construct_fl_isoforms`) with C03's `fl_guard_gives_wellformed` /
`novel_spliced_model_wellformed`.
-/
import IsoVerif.Props.C03Build
import IsoVerif.Props.C04Paths
import IsoVerif.Props.C04Terminals

namespace IsoVerif.Props.C03Paths
open IsoVerif.Gen IsoVerif.Model IsoVerif.Lemmas
open IsoVerif.Model.C04 (Read Op Graph FLEnv FLState Decision Strand runOps obsIntrons constructFL fillGraphPaths
  isIntronVertex)
open IsoVerif.Props.C04Graph (Observed)
open IsoVerif.Props.C04 (pathInsOf)
open IsoVerif.Props.C04Paths (paths_monotone)

/-- **graph_paths_give_wellformed_models.** Reads with non-empty introns (`hwf`, the interface to C14) → collector →
    `construct()` → ANY history of graph operations → the code's enumeration of full-length paths → `construct_fl_isoforms`
    (any assigner verdicts, canonical-site table, id source): for every novel model emitted there are a starting and a
    terminal vertex `s`, `e` of the graph such that the two modelled statements of C03 (`get_exons` + length guard,
    `flNovelExons`) produce exactly the model's exon list from its intron chain, the chain is sorted, disjoint and strictly
    inside `[s.pos, e.pos]`, and the exons are sorted, pairwise disjoint, well-formed, one more than the introns, start at
    `s.pos`, end at `e.pos`, and have exactly the chain as junctions.  No monotonicity of paths or edges is assumed (the
    edges are in fact not monotone: `C04Paths.edge_order_witness`). -/
theorem graph_paths_give_wellformed_models (known : List Iv) (δ minCount : Int) (reads : List Read) (ops : List Op)
    (g0 g : Graph) (hwf : ∀ r ∈ reads, ∀ i ∈ r.introns, i.1 ≤ i.2)
    (h0 : Graph.constructed known δ reads minCount = some g0)
    (h : runOps (obsIntrons reads) g0 ops = some g)
    (delta apa : Int) (req : Bool) (verdict : List Iv → Bool × String)
    (env : FLEnv) (sd : Iv → Strand) (next : Nat → Nat) (st st' : FLState) (ds : List Decision)
    (hrun : constructFL env sd next st (pathInsOf (fillGraphPaths g delta apa req reads) verdict) = some (st', ds)) :
    ∀ d ∈ ds, ∀ m, d = Decision.novelAdded m →
      ∃ s e : Iv, (∃ k, (k, s) ∈ g.inc) ∧ (∃ k, (k, e) ∈ g.out) ∧ isIntronVertex s = false ∧ isIntronVertex e = false ∧
        C03.flNovelExons (s.2, e.2) m.intronPath = some m.exons ∧
        SD m.intronPath ∧ WFl m.intronPath ∧ (∀ c ∈ m.intronPath, s.2 < c.1 ∧ c.2 < e.2) ∧
        SD m.exons ∧ WFl m.exons ∧ m.exons.length = m.intronPath.length + 1 ∧
        (∀ x ∈ m.exons, x.1 = s.2 ∨ ∃ c ∈ m.intronPath, x.1 = c.2 + 1) ∧
        (∀ x ∈ m.exons, x.2 = e.2 ∨ ∃ c ∈ m.intronPath, x.2 = c.1 - 1) := by
  intro d hd m hm
  obtain ⟨s, e, hs, he, ⟨first, _, hsin⟩, ⟨last, _, hein⟩, hex, hcnt, hmono, _⟩ :=
    paths_monotone known δ minCount reads ops g0 g hwf h0 h delta apa req verdict env sd next st st' ds hrun d hd m hm
  have hw : WFl m.intronPath := fun c hc => (hmono.1 c hc).1
  -- the guard passed: C04's loop body computed `get_exons` and found one exon more than introns
  have hfl : C03.flNovelExons (s.2, e.2) m.intronPath = some m.exons :=
    IsoVerif.Lemmas.C03.flNovelExons_eq_some.mpr ⟨hex, hcnt⟩
  obtain ⟨p1, p2, p3, p4, p5, p6, p7⟩ := C03Build.fl_guard_gives_wellformed (s.2, e.2) m.intronPath m.exons hfl hw
  refine ⟨s, e, ⟨first, hsin⟩, ⟨last, hein⟩, ?_, ?_, hfl, p1, hw, p5, p2, p3, p4, p6, p7⟩
  · simp only [starting_vertex_codes, VERTEX_polyt, VERTEX_read_start, List.mem_cons, List.not_mem_nil, or_false] at hs
    simp only [isIntronVertex, decide_eq_false_iff_not]; omega
  · simp only [terminal_vertex_codes, VERTEX_polya, VERTEX_read_end, List.mem_cons, List.not_mem_nil, or_false] at he
    simp only [isIntronVertex, decide_eq_false_iff_not]; omega

/-- **novel_models_from_graph_wellformed.** The clause "exons sorted, non-overlapping, `1 <= start <= end <= chromosome
    length`" for novel spliced transcripts, from the reads to the printed exon list: if the terminal vertices attached to the
    graph carry positions inside the chromosome `[1, L]` (they are read ends or annotated transcript ends), then for every
    novel model emitted, end correction with ANY assigned reads succeeds and yields exons that are sorted, pairwise
    disjoint, well-formed, inside `[1, L]`, pass `validate_exons`, and still have the model's intron chain.  This discharges
    the `exons_ok` field of C03's `GoodHistory` for novel spliced models; unlike `novel_spliced_model_wellformed` it needs no
    monotone-path assumption (what remains assumed: `hwf`, C14, and the terminal positions, `hterm`). -/
theorem novel_models_from_graph_wellformed (known : List Iv) (δ minCount : Int) (reads : List Read) (ops : List Op)
    (g0 g : Graph) (hwf : ∀ r ∈ reads, ∀ i ∈ r.introns, i.1 ≤ i.2)
    (h0 : Graph.constructed known δ reads minCount = some g0)
    (h : runOps (obsIntrons reads) g0 ops = some g)
    (L : Int) (hterm : ∀ k t, ((k, t) ∈ g.out ∨ (k, t) ∈ g.inc) → isIntronVertex t = false → 1 ≤ t.2 ∧ t.2 ≤ L)
    (delta apa : Int) (req : Bool) (verdict : List Iv → Bool × String)
    (env : FLEnv) (sd : Iv → Strand) (next : Nat → Nat) (st st' : FLState) (ds : List Decision)
    (hrun : constructFL env sd next st (pathInsOf (fillGraphPaths g delta apa req reads) verdict) = some (st', ds))
    (assigned : List Iv) (apaCorr : Int) :
    ∀ d ∈ ds, ∀ m, d = Decision.novelAdded m →
      ∃ l, C03.correctEnds m.exons assigned apaCorr = some l ∧ SD l ∧ WFl l ∧ C03.validateExons l = true ∧
        (∀ x ∈ l, 1 ≤ x.1 ∧ x.2 ≤ L) ∧ junctionsFromBlocks l = m.intronPath := by
  intro d hd m hm
  obtain ⟨s, e, ⟨k1, hs⟩, ⟨k2, he⟩, hsi, hei, hfl, hsd, hw, hin, _, _, hlen, _, _⟩ :=
    graph_paths_give_wellformed_models known δ minCount reads ops g0 g hwf h0 h delta apa req verdict env sd next st st' ds
      hrun d hd m hm
  have hs' := hterm k1 s (Or.inr hs) hsi
  have he' := hterm k2 e (Or.inl he) hei
  have hex : m.exons = getExons (s.2, e.2) m.intronPath := (IsoVerif.Lemmas.C03.flNovelExons_eq_some.mp hfl).1
  have hne : getExons (s.2, e.2) m.intronPath ≠ [] := by
    rw [← hex]; intro hnil; rw [hnil] at hlen; simp at hlen
  obtain ⟨l, hl, a1, a2, a3, a4, a5⟩ := C03Build.novel_spliced_model_wellformed (s.2, e.2) m.intronPath assigned apaCorr L
    (IsoVerif.Lemmas.C03.SD_startsMono _ hsd hw) hw hs'.1 he'.2
    (fun c hc => by have := hin c hc; have := hw c hc; omega) hne
  refine ⟨l, by rw [hex]; exact hl, a1, a2, a3, a4, ?_⟩
  rw [a5]
  -- junctions of the uncorrected exon list are the chain (Lemmas/ModelConstruction: `junctions_getExons`)
  have hg : IsoVerif.Lemmas.C04.PathGapped s.2 m.intronPath e.2 :=
    IsoVerif.Lemmas.C04.pathGapped_of_getExons_length _ _ _ (fun i hi => hw i hi) (by rw [← hex]; exact hlen)
  exact IsoVerif.Lemmas.C04.junctions_getExons _ _ _ hg

/-- **novel_models_wellformed_end_to_end.** The same with the terminal vertices inside the model: reads whose introns
    are non-empty with non-negative coordinates and whose exons are well-formed inside the chromosome `[1, L]`, annotated
    transcript ends inside `[1, L]`; `IntronGraph.__init__` = `process`, `construct()`, ANY non-attaching history (`simplify()`),
    the modelled `attach_terminal_positions`; the code's path enumeration; `construct_fl_isoforms` with any verdicts; end
    correction with any assigned reads.  Every novel spliced model has exons that are sorted, pairwise disjoint,
    well-formed, inside `[1, L]`, pass `validate_exons` and have the model's intron chain.  No hypothesis on paths, edges or
    terminal positions is left: the clause "exons sorted, non-overlapping, `1 <= start <= end <= chromosome length`" for novel
    spliced transcripts rests on the input interface alone (read coordinates: C14 / C16; annotation inside the chromosome). -/
theorem novel_models_wellformed_end_to_end (known : List Iv) (δ minCount : Int) (reads : List Read) (ops : List Op)
    (g0 g1 g' : Graph) (p : IsoVerif.Model.C04.TermParams) (L : Int)
    (hwf : ∀ r ∈ reads, ∀ i ∈ r.introns, i.1 ≤ i.2) (hpos : ∀ v, Observed reads v → 0 ≤ v.1)
    (hreads : ∀ r ∈ reads, ∀ e ∈ r.exons, 1 ≤ e.1 ∧ e.1 ≤ e.2 ∧ e.2 ≤ L)
    (hke : ∀ e ∈ p.knownEnds, ∀ x ∈ e.2, 1 ≤ x ∧ x ≤ L) (hks : ∀ e ∈ p.knownStarts, ∀ x ∈ e.2, 1 ≤ x ∧ x ≤ L)
    (h0 : Graph.constructed known δ reads minCount = some g0)
    (hna : ∀ op ∈ ops, IsoVerif.Lemmas.C04.notAttach op = true) (h1 : runOps (obsIntrons reads) g0 ops = some g1)
    (h2 : g1.attachTerminals p reads = some g')
    (delta apa : Int) (req : Bool) (verdict : List Iv → Bool × String)
    (env : FLEnv) (sd : Iv → Strand) (next : Nat → Nat) (st st' : FLState) (ds : List Decision)
    (hrun : constructFL env sd next st (pathInsOf (fillGraphPaths g' delta apa req reads) verdict) = some (st', ds))
    (assigned : List Iv) (apaCorr : Int) :
    ∀ d ∈ ds, ∀ m, d = Decision.novelAdded m →
      ∃ l, C03.correctEnds m.exons assigned apaCorr = some l ∧ SD l ∧ WFl l ∧ C03.validateExons l = true ∧
        (∀ x ∈ l, 1 ≤ x.1 ∧ x.2 ≤ L) ∧ junctionsFromBlocks l = m.intronPath := by
  obtain ⟨to, ti, hn1⟩ := IsoVerif.Props.C04Terminals.terminal_vertices_spec known δ minCount reads ops g0 g1 g' p L hpos hreads
    hke hks h0 hna h1 h2
  obtain ⟨aops, _, _, hrun2⟩ := IsoVerif.Props.C04Terminals.attach_is_history (obsIntrons reads) g1 g' p reads hn1 h2
  have hall : runOps (obsIntrons reads) g0 (ops ++ aops) = some g' := by
    rw [IsoVerif.Lemmas.C04.runOps_append, h1]; exact hrun2
  have hterm : ∀ k t, ((k, t) ∈ g'.out ∨ (k, t) ∈ g'.inc) → isIntronVertex t = false → 1 ≤ t.2 ∧ t.2 ≤ L := by
    intro k t hkt hti
    rcases hkt with hkt | hkt
    · exact (to k t hkt hti).2.2
    · exact (ti k t hkt hti).2.2
  exact novel_models_from_graph_wellformed known δ minCount reads (ops ++ aops) g0 g' hwf h0 hall L hterm delta apa req verdict
    env sd next st st' ds hrun assigned apaCorr

/-- non-vacuity: the read set `e2eReads` of C04 meets `hwf`; its graph (two attached terminal vertices, positions inside
    `[1, 1000]`: `hterm`) yields through the code's path enumeration one novel model, whose exons end correction (assigned
    read spans as C03 models them) keeps sorted, disjoint and with the reads' intron chain -/
example : (∀ r ∈ IsoVerif.Props.C04.e2eReads, ∀ i ∈ r.introns, i.1 ≤ i.2) ∧
    ((Graph.constructed [] 0 IsoVerif.Props.C04.e2eReads 1).bind (fun g0 =>
      (runOps (obsIntrons IsoVerif.Props.C04.e2eReads) g0 [.attachOut (100, 200) (VERTEX_polya, 400),
          .attachInc (50, 90) (VERTEX_read_start, 10)]).bind (fun g =>
        (constructFL (IsoVerif.Props.C04.exEnv .only_stranded) IsoVerif.Props.C04.exSd (· + 1) ⟨[], 0, IsoVerif.Model.C04.Store.empty⟩
          (pathInsOf (fillGraphPaths g 0 10 true IsoVerif.Props.C04.e2eReads) (fun _ => (false, "")))).map (fun r =>
            ((g.out ++ g.inc).all (fun p => isIntronVertex p.2 || (decide (1 ≤ p.2.2) && decide (p.2.2 ≤ 1000))),
             r.2.map (fun d => match d with
               | .novelAdded m => C03.flNovelExons (10, 400) m.intronPath == some m.exons
               | _ => false),
             r.2.map (fun d => match d with
               | .novelAdded m => (C03.correctEnds m.exons [(12, 400), (12, 400), (14, 398)] 1).getD []
               | _ => []))))))
    = some (true, [true], [[(12, 49), (91, 99), (201, 400)]]) := by
  constructor
  · decide +kernel
  · decide +kernel

/-- non-vacuity of the end-to-end theorem: hypotheses met by `e2eReads'` (`L = 1000`), and the chain with the MODELLED
    attachment of terminal vertices emits the novel model and corrects its ends -/
example : (∀ r ∈ IsoVerif.Props.C04Terminals.e2eReads', (∀ i ∈ r.introns, i.1 ≤ i.2 ∧ 0 ≤ i.1) ∧
      ∀ e ∈ r.exons, 1 ≤ e.1 ∧ e.1 ≤ e.2 ∧ e.2 ≤ 1000) ∧
    ((Graph.constructed [] 0 IsoVerif.Props.C04Terminals.e2eReads' 1).bind (fun g0 =>
      (g0.attachTerminals IsoVerif.Props.C04Terminals.exTermParams IsoVerif.Props.C04Terminals.e2eReads').bind (fun g =>
        (constructFL (IsoVerif.Props.C04.exEnv .only_stranded) IsoVerif.Props.C04.exSd (· + 1) ⟨[], 0, IsoVerif.Model.C04.Store.empty⟩
          (pathInsOf (fillGraphPaths g 0 10 true IsoVerif.Props.C04Terminals.e2eReads') (fun _ => (false, "")))).map (fun r =>
            r.2.map (fun d => match d with
               | .novelAdded m => (C03.correctEnds m.exons [(12, 400), (12, 400), (14, 398)] 1).getD []
               | _ => [])))))
    = some [[(12, 49), (91, 99), (201, 400)]] := by
  constructor
  · decide +kernel
  · decide +kernel

end IsoVerif.Props.C03Paths
