/-
C11 — the polyA-tail / polyT-head finder (Model/PolyAFinder.lean, property C16's model of `find_polya_tail`,
`find_polyt_head`, `detect_polya`) under translation, and the known asymmetry under reflection.

WHICH CODE: the functions of Model/PolyAFinder.lean are the finder BEFORE two repairs of /repo.  `findPolytHead` scans the
window `seq[start − to_pos : start + from_pos + 1]` that `find_polyt_head` had before /repo 4c8b13d (src/polya_finder.py:184-185
is `start − to_pos − 1 : start + from_pos` since), and both finders use the projection `moveRefCoord` as it was before
/repo c5101fc (a `P` inside the walked tail); `headOffset` (Lemmas/C11Finder.lean) has that old window.  The function the
code has is `findPolytHeadWin` of Model/FinderMirror.lean (repaired window and projection): its reflection is
Props/C11FinderMirror.lean and Props/C16FinderMirror.lean, its translation is stated nowhere.  `findPolytHeadFix`
(Model/FinderPad.lean) is, despite its name, still the OLD window: only its projection is the repaired one.

translation: the reported position is `reference_start + offset` where neither the offset nor found / not found / raises
depends on `reference_start` (`find_polyt_head` additionally clamps at 1: `max 1 (reference_start + offset)`).  Stated
without any hypothesis: the offset is `tailOffset` / `headOffset` (Lemmas/C11Finder.lean: the function body evaluated
relative to the start), the same for EVERY `reference_start`.  The corollaries in `shiftPos` form need "the position found is
not −1 by coincidence" resp. "the clamp at 1 is not active".

reflection: `find_polyt_head` is NOT the mirror image of `find_polya_tail` (known finding `polya_finder_not_mirror_dual`):
on a clean tail the polyT position is the mirror image of the polyA position minus 2: `finder_clean_tail_minus_two` proves
the exact −2 law for ALL reads `x…x c0 c1 c2 A¹⁵ y…y` / `xM yS` (any aligned prefix, `c1 c2` not A and `c0` free, at least 15 A's
at the start of the soft clip, anything behind them) and every read of the mirrored shape (soft clip and aligned part of the same
lengths, the clip ending in 15 T's, three non-T bases after them: the reverse complement is such a read when `c0` is not A either); `finder_mirror_minus_two_witness` pins one
instance by kernel evaluation (replayed on the real code by the harness).
-/
import IsoVerif.Model.PolyAFinder
import IsoVerif.Model.C11Symmetry
import IsoVerif.Lemmas.C11Finder

namespace IsoVerif.Props.C11Finder
open IsoVerif.Gen IsoVerif.Model IsoVerif.Model.C11 IsoVerif.Model.C16 IsoVerif.Lemmas.C11

/-- **shift_equivariant_findPolyaTail** — for every read (CIGAR, sequence, window parameters) and EVERY
    `reference_start` the result is `reference_start + offset`, resp. −1 (not found), resp. the exception, with one
    offset / verdict that does not depend on `reference_start` -/
theorem shift_equivariant_findPolyaTail (w n d : Nat) (s : Int) (cigar : List CigarOp) (seq : List Char) (f t : Int)
    (c : Bool) :
    findPolyaTail w n d s cigar seq f t c = (tailOffset w n d cigar seq f t c).map (renderTail s) := by
  unfold findPolyaTail tailOffset
  simp only [referenceEnd_rel s cigar]
  by_cases h1 : cigar = []
  · simp [h1]
  by_cases h2 : seq = []
  · simp [h1, h2, renderTail]
  by_cases h3 : softClipTail cigar < (seq.length : Int)
  · simp only [h1, h2, h3, if_false, not_true_eq_false]
    generalize tailScan w n d c _ = fp
    cases fp with
    | none => rfl
    | some p =>
      simp only []
      split
      · simp only [Option.map_some, renderTail]; congr 1; omega
      · cases moveRefCoord cigar _ with
        | none => rfl
        | some r => simp only [Option.bind_eq_bind, Option.bind_some, Option.map_some, renderTail]; congr 1; omega
  · simp [h1, h2, h3]

/-- the same for the polyT head; the reported position is clamped at 1 (`max(1, …)` in the code) -/
theorem shift_equivariant_findPolytHead (w n d : Nat) (s : Int) (cigar : List CigarOp) (seq : List Char) (f t : Int)
    (c : Bool) :
    findPolytHead w n d s cigar seq f t c = (headOffset w n d cigar seq f t c).map (renderHead s) := by
  unfold findPolytHead headOffset
  by_cases h1 : cigar = []
  · simp [h1]
  by_cases h2 : seq = []
  · simp [h1, h2, renderHead]
  by_cases h3 : softClipHead cigar < (seq.length : Int)
  · simp only [h1, h2, h3, if_false, not_true_eq_false]
    generalize tailScan w n d c _ = fp
    cases fp with
    | none => rfl
    | some p =>
      simp only []
      split
      · simp only [Option.map_some, renderHead]; congr 2
      · cases moveRefCoord cigar _ with
        | none => rfl
        | some r => simp only [Option.bind_eq_bind, Option.bind_some, Option.map_some, renderHead]
  · simp [h1, h2, h3]

/-- `shiftPos` form for the tail: found positions that are not the sentinel by coincidence move by k, −1 stays −1 -/
theorem shift_equivariant_findPolyaTail_pos (w n d : Nat) (s k : Int) (cigar : List CigarOp) (seq : List Char) (f t : Int)
    (c : Bool) (h : ∀ x, tailOffset w n d cigar seq f t c = some (some x) → s + x ≠ -1) :
    findPolyaTail w n d (s + k) cigar seq f t c = (findPolyaTail w n d s cigar seq f t c).map (shiftPos k) := by
  rw [shift_equivariant_findPolyaTail, shift_equivariant_findPolyaTail]
  cases ho : tailOffset w n d cigar seq f t c with
  | none => rfl
  | some o =>
    cases o with
    | none => simp [renderTail, shiftPos]
    | some x =>
      have := h x ho
      simp only [Option.map_some, renderTail, shiftPos, this, if_false]; congr 1; omega

/-- `shiftPos` form for the head: when the clamp at 1 is not active before and after the shift -/
theorem shift_equivariant_findPolytHead_pos (w n d : Nat) (s k : Int) (cigar : List CigarOp) (seq : List Char) (f t : Int)
    (c : Bool) (h : ∀ x, headOffset w n d cigar seq f t c = some (some x) → 1 ≤ s + x ∧ 1 ≤ s + k + x) :
    findPolytHead w n d (s + k) cigar seq f t c = (findPolytHead w n d s cigar seq f t c).map (shiftPos k) := by
  rw [shift_equivariant_findPolytHead, shift_equivariant_findPolytHead]
  cases ho : headOffset w n d cigar seq f t c with
  | none => rfl
  | some o =>
    cases o with
    | none => simp [renderHead, shiftPos]
    | some x =>
      obtain ⟨h1, h2⟩ := h x ho
      have e1 : max 1 (s + x) = s + x := by omega
      have e2 : max 1 (s + k + x) = s + k + x := by omega
      have e3 : s + x ≠ -1 := by omega
      simp only [Option.map_some, renderHead, shiftPos, e1, e2, e3, if_false]; congr 1; omega

/-- **head_clamp_witness** — the clamp hypothesis is needed: a polyT head hanging over the start of the chromosome is
    reported at 1 for `reference_start` 0 and 1 alike -/
theorem head_clamp_witness :
    findPolytHead 16 3 4 0 [(.soft_clipping, 20), (.«match», 20)] (List.replicate 20 'T' ++ List.replicate 20 'G') 2 32 false
      = some 1 ∧
    findPolytHead 16 3 4 (0 + 1) [(.soft_clipping, 20), (.«match», 20)] (List.replicate 20 'T' ++ List.replicate 20 'G') 2 32 false
      = some 1 := by decide +kernel

/-- non-vacuity: a clean 20-base polyA tail behind 20 aligned bases, `reference_start` 99 and 99 + 256 -/
example :
    findPolyaTail 16 3 4 99 [(.«match», 20), (.soft_clipping, 20)] (List.replicate 20 'C' ++ List.replicate 20 'A') 2 32 false
      = some 119 ∧
    findPolyaTail 16 3 4 (99 + 256) [(.«match», 20), (.soft_clipping, 20)] (List.replicate 20 'C' ++ List.replicate 20 'A') 2 32 false
      = some (119 + 256) ∧
    tailOffset 16 3 4 [(.«match», 20), (.soft_clipping, 20)] (List.replicate 20 'C' ++ List.replicate 20 'A') 2 32 false
      = some (some 20) := by decide +kernel

/-- the polyA position of a clean tail: the first soft-clipped base (`reference_start + aligned length`, 0-based end) -/
theorem clean_tail_position (pre : List Char) (c1 c2 : Char) (rest : List Char) (s : Int)
    (h1 : (upperChar c1 == 'A') = false) (h2 : (upperChar c2 == 'A') = false) :
    findPolyaTail 16 3 4 s [(CigarEvent.«match», (pre.length : Int) + 2), (CigarEvent.soft_clipping, 15 + (rest.length : Int))]
      (pre ++ (c1 :: c2 :: (a15 ++ rest))) 2 32 false = some (s + (pre.length : Int) + 2) :=
  clean_tail pre c1 c2 rest s h1 h2

/-- the polyT position of a clean head: one base before `reference_start` (clamped at 1) -/
theorem clean_head_position (rest : List Char) (d1 d2 d3 : Char) (post : List Char) (s : Int)
    (h1 : (upperChar d1 == 'T') = false) (h2 : (upperChar d2 == 'T') = false) (h3 : (upperChar d3 == 'T') = false) :
    findPolytHead 16 3 4 s [(CigarEvent.soft_clipping, (rest.length : Int) + 15), (CigarEvent.«match», 3 + (post.length : Int))]
      (rest ++ (tt15 ++ (d1 :: d2 :: d3 :: post))) 2 32 false = some (max 1 (s - 1)) :=
  clean_head rest d1 d2 d3 post s h1 h2 h3

/-- **finder_clean_tail_minus_two** — the exact −2 law: a read with aligned part `pre c0 c1 c2` (`c1`, `c2` not A; nothing
    is asked of `c0`) and a soft clip that starts with 15 A's has its polyA position at `p = s + |aligned|`; a read of the
    mirrored shape on a chromosome of length L (soft clip of the same length ending in 15 T's, aligned part of the same length
    starting with three non-T bases `d2 d1 d0`, reversed CIGAR, start `L − s − |aligned|` - the reverse complement is such a
    read when `c0` is not A either) has its polyT position at `mirror(p) − 2`, for every such read, every s and every L
    that leaves two bases before the mirrored start -/
theorem finder_clean_tail_minus_two (pre : List Char) (c0 c1 c2 : Char) (rest rest' : List Char) (d2 d1 d0 : Char)
    (pre' : List Char) (s L : Int) (hl1 : rest'.length = rest.length) (hl2 : pre'.length = pre.length)
    (h1 : (upperChar c1 == 'A') = false) (h2 : (upperChar c2 == 'A') = false)
    (g2 : (upperChar d2 == 'T') = false) (g1 : (upperChar d1 == 'T') = false) (g0 : (upperChar d0 == 'T') = false)
    (hL : 2 ≤ L - s - ((pre.length : Int) + 3)) :
    ∃ p : Int,
      findPolyaTail 16 3 4 s [(CigarEvent.«match», (pre.length : Int) + 3), (CigarEvent.soft_clipping, 15 + (rest.length : Int))]
        (pre ++ (c0 :: c1 :: c2 :: (a15 ++ rest))) 2 32 false = some p ∧
      findPolytHead 16 3 4 (L - s - ((pre.length : Int) + 3))
        [(CigarEvent.soft_clipping, (rest.length : Int) + 15), (CigarEvent.«match», 3 + (pre.length : Int))]
        (rest' ++ (tt15 ++ (d2 :: d1 :: d0 :: pre'))) 2 32 false = some (mirrorP L p - 2) := by
  refine ⟨s + (pre.length : Int) + 3, ?_, ?_⟩
  · have h := clean_tail (pre ++ [c0]) c1 c2 rest s h1 h2
    simp only [List.length_append, List.length_cons, List.length_nil, List.append_assoc, List.cons_append,
      List.nil_append] at h
    have e : ((pre.length + (0 + 1) : Nat) : Int) + 2 = (pre.length : Int) + 3 := by omega
    rw [e] at h
    rw [h]; congr 1; omega
  · have h := clean_head rest' d2 d1 d0 pre' (L - s - ((pre.length : Int) + 3)) g2 g1 g0
    rw [hl1, hl2] at h
    rw [h]
    simp only [mirrorP]
    congr 1; omega

/-- **finder_mirror_minus_two_witness** — the reverse-complemented read of the example on a chromosome of length 1000
    (`20S 20M` at 0-based start 881, sequence T×20 G×20): `find_polyt_head` reports 880, the mirror image of the polyA
    position (1001 − 119 = 882) minus 2 — the finder pair is not mirror-dual (known finding), the offset is exactly −2 -/
theorem finder_mirror_minus_two_witness :
    findPolyaTail 16 3 4 99 [(.«match», 20), (.soft_clipping, 20)] (List.replicate 20 'C' ++ List.replicate 20 'A') 2 32 false
      = some 119 ∧
    findPolytHead 16 3 4 (1000 - 99 - 20) [(.soft_clipping, 20), (.«match», 20)]
      (List.replicate 20 'T' ++ List.replicate 20 'G') 2 32 false = some 880 ∧
    mirrorP 1000 119 - 2 = 880 := by decide +kernel

end IsoVerif.Props.C11Finder
