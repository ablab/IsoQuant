/-
C16 — alignment records become exon blocks exactly as SAM semantics dictate.
Property theorems about `get_read_blocks` (model: IsoVerif/Model/Cigar.lean; helper lemmas: Lemmas/Cigar.lean, Lemmas/CutsN.lean).
Reading rule (DESIGN §6 "C16"): an exon is a maximal run of `{M,=,X,I,D}` (and the transparent `H`,`P`) between
`N`/`S` boundaries that contains at least one aligned base; a run without an aligned base yields no exon.
-/
import IsoVerif.Model.Cigar
import IsoVerif.Lemmas.CutsN

namespace IsoVerif.Props.C16
open IsoVerif.Gen IsoVerif.Model IsoVerif.Model.C16 IsoVerif.Lemmas.C16

/-- **read_blocks_spec** — for every CIGAR (any operations over `{M,I,D,N,S,H,P,=,X}`, any length, any
    non-negative operation lengths) and every `reference_start ≥ 0`, the exons returned by `get_read_blocks`
    are exactly the SAM-semantics exons of the specification (no bound on the CIGAR). -/
theorem read_blocks_spec (s : Int) (ops : List CigarOp) (hs : 0 ≤ s) (hn : NonNeg ops) :
    (getReadBlocks s ops).refBlocks = exonsSpec s ops := by
  have h := (fold_abs s hs ops [] [] [] [] [] (by intro o hm; cases hm) (by simpa using hn)).1
  rw [← rbInit_abs] at h
  simpa [getReadBlocks, exonsSpec, cuts] using h

/-- the accompanying read-coordinate blocks are the query intervals of the same segments -/
theorem read_blocks_query_spec (s : Int) (ops : List CigarOp) (hs : 0 ≤ s) (hn : NonNeg ops) :
    (getReadBlocks s ops).readBlocks = queryBlocksSpec ops := by
  have h := (fold_abs s hs ops [] [] [] [] [] (by intro o hm; cases hm) (by simpa using hn)).2.1
  rw [← rbInit_abs] at h
  simpa [getReadBlocks, queryBlocksSpec, cuts] using h

/-- the CIGAR-index blocks run from the first `M/=/X/I/D` operation of the segment to its last operation -/
theorem cigar_blocks_spec (s : Int) (ops : List CigarOp) (hs : 0 ≤ s) (hn : NonNeg ops) :
    (getReadBlocks s ops).cigarBlocks = cigarBlocksSpec ops := by
  have h := (fold_abs s hs ops [] [] [] [] [] (by intro o hm; cases hm) (by simpa using hn)).2.2
  rw [← rbInit_abs] at h
  simpa [getReadBlocks, cigarBlocksSpec, cuts] using h

/-- non-vacuity: a CIGAR with clips, indels next to `N`, an indel-only segment and consecutive `N` -/
example : (0 : Int) ≤ 99 ∧ NonNeg [(.hard_clipping, 3), (.soft_clipping, 2), (.deletion, 1), (.«match», 5),
    (.insertion, 2), (.skipped, 10), (.skipped, 4), (.insertion, 1), (.deletion, 2), (.skipped, 7),
    (.seq_match, 3), (.padding, 1), (.seq_mismatch, 1), (.deletion, 2), (.soft_clipping, 4)] := by
  refine ⟨by decide, ?_⟩
  intro o ho; simp at ho; rcases ho with h | h | h | h | h | h | h | h | h | h | h | h | h | h | h <;> subst h <;> decide

example : (getReadBlocks 99 [(.hard_clipping, 3), (.soft_clipping, 2), (.deletion, 1), (.«match», 5),
    (.insertion, 2), (.skipped, 10), (.skipped, 4), (.insertion, 1), (.deletion, 2), (.skipped, 7),
    (.seq_match, 3), (.padding, 1), (.seq_mismatch, 1), (.deletion, 2), (.soft_clipping, 4)]).refBlocks
    = [(100, 105), (129, 134)] := by decide

/-- **cuts_are_maximal_runs** — `(pre, seg)` is listed by `cuts ops` iff `seg` is a separator-free run of the
    CIGAR that is preceded by `pre` and cannot be extended on either side (it is delimited by an `N`/`S` or by the
    end of the CIGAR).  This grounds `exonsSpec` in a statement without any recursion. -/
theorem cuts_are_maximal_runs (ops pre seg : List CigarOp) :
    (pre, seg) ∈ cuts ops ↔
      ∃ post, ops = pre ++ seg ++ post ∧ SepFree seg ∧ EndsWithSep pre ∧ StartsWithSep post := by
  unfold cuts
  rw [cutsAux_eq]
  -- `SepFree`, `EndsWithSep`, `StartsWithSep` unfold to `FreeOf isSep`, `EndsWith isSep`, `StartsWith isSep`
  exact cutsAuxP_maximal_runs isSep ops pre seg

/-- **exon_iff** — an interval is reported as an exon iff it is the reference span of a maximal `N`/`S`-free run
    that contains an aligned base, placed right after the reference bases consumed by everything before the run -/
theorem exon_iff (s : Int) (ops : List CigarOp) (hs : 0 ≤ s) (hn : NonNeg ops) (e : Iv) :
    e ∈ (getReadBlocks s ops).refBlocks ↔
      ∃ pre seg post, ops = pre ++ seg ++ post ∧ SepFree seg ∧ EndsWithSep pre ∧ StartsWithSep post ∧
        hasAligned seg = true ∧ e = (s + 1 + refLen pre, s + refLen pre + refLen seg) := by
  rw [read_blocks_spec s ops hs hn, exonsSpec, List.mem_filterMap]
  constructor
  · rintro ⟨⟨pre, seg⟩, hm, he⟩
    obtain ⟨post, h1, h2, h3, h4⟩ := (cuts_are_maximal_runs ops pre seg).1 hm
    simp only [exonOf] at he
    split at he
    · rename_i ha
      exact ⟨pre, seg, post, h1, h2, h3, h4, ha, (Option.some.inj he).symm⟩
    · cases he
  · rintro ⟨pre, seg, post, h1, h2, h3, h4, ha, he⟩
    exact ⟨(pre, seg), (cuts_are_maximal_runs ops pre seg).2 ⟨post, h1, h2, h3, h4⟩, by simp [exonOf, ha, he]⟩

/-- non-vacuity of `exon_iff`: the second exon of `2S 5M 10N 1I 3M 4S` -/
example : ∃ pre seg post, [(CigarEvent.soft_clipping, (2 : Int)), (.«match», 5), (.skipped, 10), (.insertion, 1),
      (.«match», 3), (.soft_clipping, 4)] = pre ++ seg ++ post ∧ SepFree seg ∧ EndsWithSep pre ∧
      StartsWithSep post ∧ hasAligned seg = true :=
  ⟨[(.soft_clipping, 2), (.«match», 5), (.skipped, 10)], [(.insertion, 1), (.«match», 3)], [(.soft_clipping, 4)],
    rfl, by intro o ho; simp at ho; rcases ho with h | h <;> subst h <;> rfl,
    by intro o ho; simp at ho; subst ho; rfl, by intro o ho; simp at ho; subst ho; rfl, rfl⟩

/-- **exons_sorted_wf** — with SAM-valid operation lengths (≥ 1) the exons are non-empty intervals, lie after
    `reference_start`, and are strictly increasing and disjoint (`a.2 < b.1` for `a` before `b`) -/
theorem exons_sorted_wf (s : Int) (ops : List CigarOp) (hs : 0 ≤ s) (hp : Pos ops) :
    (∀ e ∈ (getReadBlocks s ops).refBlocks, s + 1 ≤ e.1 ∧ e.1 ≤ e.2) ∧
    (getReadBlocks s ops).refBlocks.Pairwise (fun a b => a.2 < b.1) := by
  rw [read_blocks_spec s ops hs hp.nonneg]
  have h := exons_chain s ops [] [] (by intro o hm; cases hm) hp
  simp only [refLen_nil, Int.add_zero] at h
  exact ⟨h.all_ge, h.pairwise⟩

/-- every exon ends at or before the last reference base the alignment consumes (`reference_end`) -/
theorem exons_within_reference_end (s : Int) (ops : List CigarOp) (hs : 0 ≤ s) (hn : NonNeg ops) :
    ∀ e ∈ (getReadBlocks s ops).refBlocks, e.2 ≤ s + refLen ops := by
  intro e he
  obtain ⟨pre, seg, post, h1, _, _, _, _, h6⟩ := (exon_iff s ops hs hn e).1 he
  have hpost : NonNeg post := fun o ho => hn o (by rw [h1]; simp [ho])
  have := refLen_nonneg hpost
  rw [h6, h1]
  simp only [refLen_append]
  omega

example : Pos [(CigarEvent.«match», (5 : Int)), (.skipped, 10), (.«match», 3)] := by
  intro o ho; simp at ho; rcases ho with h | h | h <;> subst h <;> decide

/-- **intron_is_skipped_length** — two runs with read support separated by one `N` of length `n` give two exons
    whose gap is exactly the `n` skipped reference bases -/
theorem intron_is_skipped_length (s n : Int) (a b : List CigarOp) (hs : 0 ≤ s) (hn : 0 ≤ n)
    (ha : SepFree a) (hb : SepFree b) (hna : NonNeg a) (hnb : NonNeg b)
    (haa : hasAligned a = true) (hab : hasAligned b = true) :
    (getReadBlocks s (a ++ (CigarEvent.skipped, n) :: b)).refBlocks =
      [(s + 1, s + refLen a), (s + refLen a + n + 1, s + refLen a + n + refLen b)] := by
  have hnn : NonNeg (a ++ (CigarEvent.skipped, n) :: b) := by
    intro o ho
    rcases List.mem_append.1 ho with h | h
    · exact hna o h
    · rcases List.mem_cons.1 h with h | h
      · subst h; exact hn
      · exact hnb o h
  rw [read_blocks_spec s _ hs hnn, exonsSpec, cuts, cutsAux_append_sepfree a [] [] _ ha]
  simp only [List.nil_append, cutsAux, isSep, beq_self_eq_true, Bool.true_or, if_true]
  have h2 := cutsAux_append_sepfree b (a ++ [(CigarEvent.skipped, n)]) [] [] hb
  simp only [List.append_nil] at h2
  rw [h2]
  simp [cutsAux, exonOf, haa, hab, refLen_append, refLen_cons, refLen_nil, consumesRef]
  omega

example : SepFree [(CigarEvent.deletion, (2 : Int)), (.«match», 5)] ∧ hasAligned [(CigarEvent.deletion, (2 : Int)), (.«match», 5)] = true :=
  ⟨by intro o ho; simp at ho; rcases ho with h | h <;> subst h <;> rfl, rfl⟩

/-- **adjacent_runs_gap** — anywhere inside any CIGAR: two maximal runs with read support that are separated by a
    single `N` of length `n` are both reported, and the second exon starts exactly `n` bases after the first ends
    (exons are separated by the skipped length) -/
theorem adjacent_runs_gap (s n : Int) (pre a b post : List CigarOp) (hs : 0 ≤ s)
    (hn : NonNeg (pre ++ a ++ (CigarEvent.skipped, n) :: b ++ post))
    (hpre : EndsWithSep pre) (ha : SepFree a) (hb : SepFree b) (hpost : StartsWithSep post)
    (haa : hasAligned a = true) (hab : hasAligned b = true) :
    let ops := pre ++ a ++ (CigarEvent.skipped, n) :: b ++ post
    let e1 : Iv := (s + 1 + refLen pre, s + refLen pre + refLen a)
    let e2 : Iv := (e1.2 + n + 1, e1.2 + n + refLen b)
    e1 ∈ (getReadBlocks s ops).refBlocks ∧ e2 ∈ (getReadBlocks s ops).refBlocks := by
  intro ops e1 e2
  constructor
  · refine (exon_iff s ops hs hn e1).2 ⟨pre, a, (CigarEvent.skipped, n) :: b ++ post, ?_, ha, hpre, ?_, haa, rfl⟩
    · simp [ops]
    · intro o ho; simp at ho; subst ho; rfl
  · refine (exon_iff s ops hs hn e2).2 ⟨pre ++ a ++ [(CigarEvent.skipped, n)], b, post, ?_, hb, ?_, hpost, hab, ?_⟩
    · simp [ops]
    · intro o ho; simp at ho; subst ho; rfl
    · simp only [e2, e1, refLen_append, refLen_cons, refLen_nil, consumesRef]
      simp
      constructor <;> omega

example : EndsWithSep [(CigarEvent.soft_clipping, (3 : Int))] ∧ StartsWithSep ([] : List CigarOp) :=
  ⟨by intro o ho; simp at ho; subst ho; rfl, by intro o ho; cases ho⟩

/-- **insertions_and_clips_do_not_move_reference** — removing every `I`, `H` and `P` operation from a CIGAR leaves
    the exons unchanged (they never advance the reference and never start or end an exon by themselves) -/
theorem insertions_and_clips_do_not_move_reference (s : Int) (ops : List CigarOp) (hs : 0 ≤ s) (hn : NonNeg ops) :
    (getReadBlocks s (dropTransparent ops)).refBlocks = (getReadBlocks s ops).refBlocks := by
  have hn' : NonNeg (dropTransparent ops) := fun o ho => hn o (List.mem_filter.1 ho).1
  rw [read_blocks_spec s _ hs hn', read_blocks_spec s _ hs hn, exonsSpec, exonsSpec, cuts, cuts]
  exact exons_dropTransparent s ops [] []

/-- **deletion_at_segment_ends_included** — a deletion at the start or at the end of a run (next to a clip, an `N`
    or the end of the CIGAR) belongs to the exon (reading rule: the run is `{M,=,X,I,D}`-maximal) -/
theorem deletion_at_segment_ends_included (s d m d' : Int) (hs : 0 ≤ s) (hd : 0 ≤ d) (hm : 0 ≤ m) (hd' : 0 ≤ d') :
    (getReadBlocks s [(.deletion, d), (.«match», m), (.deletion, d')]).refBlocks = [(s + 1, s + d + m + d')] := by
  rw [read_blocks_spec s _ hs (by intro o ho; simp at ho; rcases ho with h | h | h <;> subst h <;> assumption)]
  simp [exonsSpec, cuts, cutsAux, isSep, exonOf, hasAligned, isAligned, refLen_cons, refLen_nil, consumesRef]
  omega

/-- **indel_only_segment_no_exon** — a run between two `N` that holds only insertions/deletions has no read
    support and yields no exon; the neighbouring exons are as if it were part of the intron -/
theorem indel_only_segment_no_exon (s m1 n1 i d n2 m2 : Int) (hs : 0 ≤ s) (h1 : 0 ≤ m1) (h2 : 0 ≤ n1) (h3 : 0 ≤ i)
    (h4 : 0 ≤ d) (h5 : 0 ≤ n2) (h6 : 0 ≤ m2) :
    (getReadBlocks s [(.«match», m1), (.skipped, n1), (.insertion, i), (.deletion, d), (.skipped, n2),
        (.«match», m2)]).refBlocks = [(s + 1, s + m1), (s + m1 + n1 + d + n2 + 1, s + m1 + n1 + d + n2 + m2)] := by
  rw [read_blocks_spec s _ hs (by
    intro o ho; simp at ho; rcases ho with h | h | h | h | h | h <;> subst h <;> assumption)]
  simp [exonsSpec, cuts, cutsAux, isSep, exonOf, hasAligned, isAligned, refLen_cons, refLen_nil, consumesRef]
  omega

/-- **read_blocks_query_consistent** — the read-coordinate blocks are consistent with the query sequence: block
    `i` is the query interval consumed by the same run that gives exon `i` (`read_blocks_query_spec`), the blocks
    are non-empty, ordered and disjoint, and all lie inside `[0, query length)` (soft clips count, hard clips do
    not) -/
theorem read_blocks_query_consistent (s : Int) (ops : List CigarOp) (hs : 0 ≤ s) (hp : Pos ops) :
    (getReadBlocks s ops).readBlocks.length = (getReadBlocks s ops).refBlocks.length ∧
    (∀ b ∈ (getReadBlocks s ops).readBlocks, 0 ≤ b.1 ∧ b.1 ≤ b.2 ∧ b.2 < queryLen ops) ∧
    (getReadBlocks s ops).readBlocks.Pairwise (fun a b => a.2 < b.1) := by
  rw [read_blocks_query_spec s ops hs hp.nonneg, read_blocks_spec s ops hs hp.nonneg]
  have h := query_chain ops [] [] (by intro o hm; cases hm) hp
  simp only [queryLen_nil, List.nil_append] at h
  refine ⟨?_, ?_, h.1.pairwise⟩
  · simp only [queryBlocksSpec, exonsSpec]
    generalize cuts ops = l
    induction l with
    | nil => rfl
    | cons c cs ih =>
      cases hc : hasAligned c.2 <;> simp [queryBlockOf, exonOf, hc, ih]
  · intro b hb
    have h1 := h.1.all_ge b hb
    have h2 := h.2 b hb
    exact ⟨h1.1, h1.2, h2⟩

/-- **truthiness_corner_witness** — the hypothesis `0 ≤ reference_start` of `read_blocks_spec` is needed:
    `if current_ref_block_start:` is a truthiness test, so for `reference_start = -1` (an unmapped record; the
    pipeline skips those) a block that starts at coordinate 0 is neither closed by `N` nor flushed at the end and
    the read gets no exon at all (the real code returns `([], [], [])` too) -/
theorem truthiness_corner_witness :
    (getReadBlocks (-1) [(.«match», 5), (.skipped, 3), (.«match», 2)]).refBlocks = [] ∧
    exonsSpec (-1) [(.«match», 5), (.skipped, 3), (.«match», 2)] = [(0, 4), (8, 9)] := by decide

end IsoVerif.Props.C16
