/-
C11 — translation equivariance of the alignment-collection layer (Model/Regions.lean, property C05's model of
`AlignmentCollector.process`, `split_coverage_regions`, `forward_alignments`, the BAM storage).

The statement of C11 restricts region splitting to shifts by multiples of the coverage bin: the coverage dictionary is
keyed by `position // 256`, so a shift by `k = COVERAGE_BIN * j` moves every key by j and every split point by k, while a
shift by a non-multiple changes which bases share a bin — `split_shift_witness` shows a split point that stays put.
What does NOT depend on the bin grid is proved for EVERY k: the clusters of adjacent alignments, their regions and the
alignment statistics (`shift_equivariant_clusters`, `shift_equivariant_processStats`).
-/
import IsoVerif.Model.Regions
import IsoVerif.Model.C11SymRegions
import IsoVerif.Lemmas.Regions
import IsoVerif.Lemmas.C11Regions

namespace IsoVerif.Props.C11Regions
open IsoVerif.Gen IsoVerif.Model IsoVerif.Model.C11 IsoVerif.Model.Regions IsoVerif.Lemmas.C11

/-- bins move with the coordinates by whole bins -/
theorem shift_equivariant_bin (x j : Int) : bin (x + ap_COVERAGE_BIN * j) = bin x + j := rg_bin_shift x j

/-- **shift_equivariant_splitCoverageRegions** — for `k = COVERAGE_BIN * j`: the sub-regions of the shifted cluster
    (region moved by k, coverage dictionary moved by j bins, same read count) are the shifted sub-regions, for EVERY
    region, count and coverage dictionary (including the ones on which the loops raise: `none ↦ none`) -/
theorem shift_equivariant_splitCoverageRegions (j : Int) (R : Iv) (count : Nat) (d : CovDict) :
    splitCoverageRegions (shiftIv (ap_COVERAGE_BIN * j) R) count (shiftCov j d) =
      (splitCoverageRegions R count d).map (shiftL (ap_COVERAGE_BIN * j)) :=
  rg_splitCoverageRegions_shift j R count d

/-- the storage built from the shifted alignments holds the shifted region, the coverage dictionary moved by j bins and
    the shifted alignments -/
theorem shift_equivariant_buildStore (j : Int) (l : List Aln) :
    (buildStore (l.map (shiftAln (ap_COVERAGE_BIN * j)))).region = (buildStore l).region.map (shiftIv (ap_COVERAGE_BIN * j)) ∧
    (buildStore (l.map (shiftAln (ap_COVERAGE_BIN * j)))).cov = shiftCov j (buildStore l).cov ∧
    (buildStore (l.map (shiftAln (ap_COVERAGE_BIN * j)))).alns = (buildStore l).alns.map (shiftAln (ap_COVERAGE_BIN * j)) := by
  have h := rg_buildStore_view j l
  simp only [storeView, shiftView, Prod.mk.injEq] at h
  exact h

/-- splitting the cluster formed by the shifted alignments = shifting the split of the cluster -/
theorem shift_equivariant_split_of_alignments (j : Int) (l : List Aln) (R : Iv) (h : (buildStore l).region = some R) :
    splitCoverageRegions (shiftIv (ap_COVERAGE_BIN * j) R) (l.map (shiftAln (ap_COVERAGE_BIN * j))).length
        (buildStore (l.map (shiftAln (ap_COVERAGE_BIN * j)))).cov =
      (splitCoverageRegions R l.length (buildStore l).cov).map (shiftL (ap_COVERAGE_BIN * j)) := by
  rw [(shift_equivariant_buildStore j l).2.1, List.length_map]
  exact shift_equivariant_splitCoverageRegions j R l.length _

/-- **shift_equivariant_collect_bam** — default mode (`BAMAlignmentStorage`): everything `AlignmentCollector.process`
    yields for a chromosome whose alignments are shifted by `k = COVERAGE_BIN * j` — the `(region, alignments)` pairs in
    order — is the shifted output: same clusters, same sub-regions moved by k, the same alignments in each -/
theorem shift_equivariant_collect_bam (j : Int) (all : List Aln) :
    collect .bam (all.map (shiftAln (ap_COVERAGE_BIN * j))) = (collect .bam all).map (shiftOut (ap_COVERAGE_BIN * j)) :=
  rg_collectStores_bam j all _ _ (rg_processStores_view j all)

/-- **shift_equivariant_clusters** — for EVERY k (no divisibility): the clusters of adjacent alignments and their
    regions are the shifted clusters / regions -/
theorem shift_equivariant_clusters (k : Int) (l : List Aln) :
    clusters (l.map (shiftAln k)) = (clusters l).map (List.map (shiftAln k)) ∧
    (processStores (l.map (shiftAln k))).map (·.region) = (processStores l).map (fun s => s.region.map (shiftIv k)) := by
  have h := rg_processStores_rview k l
  constructor
  · have := congrArg (List.map Prod.snd) h
    simp only [List.map_map] at this
    simp only [clusters, List.map_map]
    exact this
  · have := congrArg (List.map Prod.fst) h
    simp only [List.map_map] at this
    exact this

/-- the alignment statistics (`primary` / `secondary` / `supplementary` counts) do not see coordinates at all -/
theorem shift_equivariant_processStats (k : Int) (l : List Aln) : processStats (l.map (shiftAln k)) = processStats l := by
  rw [processStats, processStats, Lemmas.Regions.stats_foldl, Lemmas.Regions.stats_foldl, List.foldl_map]
  rfl

/-- **split_shift_witness** — a shift by a non-multiple of the bin width can move a split differently: the same alignment
    shifted by 100 keeps its split point at 32768 (bin boundary) instead of 32868, so the sub-regions are NOT the shifted
    sub-regions -/
theorem split_shift_witness :
    splitCoverageRegions (0, 39999) 1 (buildStore [⟨0, 40000, false, false, true, 60, 1⟩]).cov
      = some [(0, 32768), (32769, 39999)] ∧
    splitCoverageRegions (shiftIv 100 (0, 39999)) 1 (buildStore [shiftAln 100 ⟨0, 40000, false, false, true, 60, 1⟩]).cov
      = some [(100, 32768), (32769, 40099)] ∧
    shiftL 100 [(0, 32768), (32769, 39999)] = [(100, 32868), (32869, 40099)] := by
  -- the loops are run on the closed form of the lookups (`splitLoop_buildStore`), not on the dictionary built bin by bin
  refine ⟨?_, ?_, rfl⟩ <;>
  · rw [splitCoverageRegions, Lemmas.Regions.splitLoop_buildStore (by unfold Lemmas.Regions.WFA; decide) rfl]
    decide +kernel

/-- non-vacuity: one 40-kb alignment is split at bin 128; shifted by 256·3 the split point moves by 768 -/
example :
    splitCoverageRegions (0, 39999) 1 (buildStore [⟨0, 40000, false, false, true, 60, 1⟩]).cov
      = some [(0, 32768), (32769, 39999)] ∧
    splitCoverageRegions (shiftIv (ap_COVERAGE_BIN * 3) (0, 39999)) 1
        (buildStore [shiftAln (ap_COVERAGE_BIN * 3) ⟨0, 40000, false, false, true, 60, 1⟩]).cov
      = some [(768, 33536), (33537, 40767)] := by
  have h := shift_equivariant_split_of_alignments 3 [⟨0, 40000, false, false, true, 60, 1⟩] (0, 39999) rfl
  exact ⟨split_shift_witness.1, h.trans (congrArg _ split_shift_witness.1)⟩

end IsoVerif.Props.C11Regions
