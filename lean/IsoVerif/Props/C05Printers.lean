/-
C05 / C08 at the level of the printed lines (Model/Printers.lean, Model/ReusePrint.lean).

  C08 "the alignments that lose are suppressed everywhere (assignments, BED, ...)":
      `dropped_record_prints_nothing` – a record the loader drops (verdict `suspended`, or no verdict for it) adds no
      line to either file; `suspended_is_dropped`, `unmatched_is_dropped`.
  C05 "every primary alignment that passes the filters is reported in corrected_reads.bed and, with an annotation, in
      read_assignments.tsv": `kept_records_lines` – every record the loader keeps yields exactly one BED record named by
      its read id and `max 1 (#isoform matches)` TSV lines carrying its read id; hence the read ids of the BED are those
      of the kept records (`bed_reads_are_kept_reads`) and both files name the same reads.
  The merge of the per-chromosome files: `merged_files` – all lines arrive in the main files, in the order of
      `merge_files` (repaired merge: the parts are cut by the number of header lines their printer wrote).  The merge
      before the repair `fix_merge_header` cut every leading line that starts with `#` (`printedOfOrig_tsv`,
      `printedOfOrig_bed`: the bodies arrive without their leading `#`-lines): `merged_files_orig_partial` –
      complete PROVIDED no per-chromosome body begins with such a line; without the proviso (`MergedCompleteOrig`) it
      is FALSE of model and code: `merged_hash_witness` (a read whose id starts with `#`, first on its chromosome,
      loses its lines in read_assignments.tsv: `merge_files` takes them for header lines).

The file also holds the helper lemmas about Model/ReusePrint.lean that only it uses (`loadGroupFull_drop`,
`recordLines_kept`, `specRecords_kept`, `drop_header`, `header_lines_hash`, `merge_parts`, `printedOfOrig_tsv/_bed`, …).
The facts about single lines they rest on (`bed_line_spec`, `tsv_line_count`, `tsv_lines_of_record`,
`printers_pure_fresh`) are theorems of Props/C15Printers.lean; `headerCount` is the one of Model/ReusePrint.lean
(`Model.C15`), not its namesake in Model/Schedule.lean.
-/
import IsoVerif.Props.C15Printers

namespace IsoVerif.Props.C05Printers
open IsoVerif.Gen IsoVerif.Model IsoVerif.Model.Serial IsoVerif.Model.Resolver IsoVerif.Model.C12 IsoVerif.Model.C15
open IsoVerif.Model.Printers IsoVerif.Lemmas.Printers IsoVerif.Props.C15Printers

/-- the loader's verdict for the record is `suspended`: the record is dropped -/
theorem suspended_is_dropped (E : Env) (dict : List (Nat × List Rec)) (r : ReadAssignment) (vs : List Rec) (a : Rec)
    (h1 : dict.lookup (fullOf E r).readId = some vs) (h2 : lookupVerdict vs (fullOf E r) = some a)
    (h3 : a.atype = .suspended) : loadOne dict (fullOf E r) = none := by
  simp [loadOne, h1, h2, h3]

/-- the read is in the multimapper file of the chromosome but no verdict matches this record: dropped as well -/
theorem unmatched_is_dropped (E : Env) (dict : List (Nat × List Rec)) (r : ReadAssignment) (vs : List Rec)
    (h1 : dict.lookup (fullOf E r).readId = some vs) (h2 : lookupVerdict vs (fullOf E r) = none) :
    loadOne dict (fullOf E r) = none := by
  simp [loadOne, h1, h2]

theorem loadGroupFull_drop (E : Env) (dict : List (Nat × List Rec)) (pre post : List ReadAssignment)
    (r : ReadAssignment) (h : loadOne dict (fullOf E r) = none) :
    loadGroupFull E dict (pre ++ r :: post) = loadGroupFull E dict (pre ++ post) := by
  simp [loadGroupFull, List.filterMap_append, h]

/-- **dropped_record_prints_nothing** (C08 `suspended_everywhere` for the two read-level files): removing a record the
    loader drops from the chromosome's dump changes neither file – it contributes no TSV line and no BED line. -/
theorem dropped_record_prints_nothing (E : Env) (X : PrintEnv) (chrName : String) (dict : List (Nat × List Rec))
    (gs₁ gs₂ : List (Group ReadAssignment)) (h : GeneHeader) (pre post : List ReadAssignment) (r : ReadAssignment)
    (hd : loadOne dict (fullOf E r) = none) :
    printGroups E X chrName dict (gs₁ ++ (h, pre ++ r :: post) :: gs₂) =
      printGroups E X chrName dict (gs₁ ++ (h, pre ++ post) :: gs₂) := by
  induction gs₁ with
  | nil => simp only [List.nil_append, printGroups, loadGroupFull_drop E dict pre post r hd]
  | cons g gs ih => simp only [List.cons_append, printGroups, ih]

/-- the records of a chromosome the loader keeps, verdicts applied, in file order -/
def keptRecords (E : Env) (dict : List (Nat × List Rec)) (gs : List (Group ReadAssignment)) : List ReadAssignment :=
  gs.flatMap (fun g => loadGroupFull E dict g.2)

/-- with the aggregator's printers (`PrintAllFunctor`): a record that prints gives exactly one BED record, named by its
    read id on the chromosome of its gene info, and `max 1 (#matches)` TSV lines that all carry its read id -/
theorem recordLines_kept (X : PrintEnv) (gv : GeneView) (r : ReadAssignment)
    (x : List C14.BedRecord × List TsvLine) (h : recordLines (aggregatorPrinters X) gv r = some x) :
    (∃ b, x.1 = [b] ∧ b.name = r.readId ∧ b.chrom = gv.chrId ∧ b.blocks = r.correctedExons) ∧
    x.2.length = max 1 r.isoformMatches.length ∧ ∀ l ∈ x.2, l.readId = r.readId := by
  unfold recordLines at h
  cases hb : bedOf (aggregatorPrinters X).bedChecker printer_bed_print_corrected gv r with
  | none => simp [hb] at h
  | some ob =>
    cases ht : specTsv (aggregatorPrinters X).tsvChecker (aggregatorPrinters X).params gv r with
    | none => simp [hb, ht] at h
    | some ls =>
      simp only [hb, ht, Option.some.injEq] at h
      subst h
      have hck : (Checker.all).check r = true := rfl
      have hspec := bed_line_spec .all printer_bed_print_corrected gv r
      have hcount := tsv_line_count .all X.params gv r ls ht
      have hcommon := tsv_lines_of_record .all X.params gv r ls ht
      refine ⟨?_, hcount.2.2 hck, fun l hl => (hcommon l hl).1⟩
      by_cases hne : (if printer_bed_print_corrected then r.correctedExons else r.exons) = []
      · have := hspec.2.2 hck hne
        simp only [aggregatorPrinters] at hb
        rw [this] at hb
        cases hb
      · obtain ⟨b, hbb, h1, h2, _, h4⟩ := hspec.2.1 hck hne
        simp only [aggregatorPrinters] at hb
        rw [hbb] at hb
        simp only [Option.some.injEq] at hb
        subst hb
        exact ⟨b, rfl, h2, h1, h4⟩

theorem specRecords_kept (X : PrintEnv) (gv : GeneView) :
    ∀ (rs : List ReadAssignment) (L : Lines), specRecords (aggregatorPrinters X) gv rs = some L →
      L.bed.map (·.name) = rs.map (·.readId) ∧
      L.tsv.map (·.readId) = rs.flatMap (fun r => List.replicate (max 1 r.isoformMatches.length) r.readId) := by
  intro rs
  induction rs with
  | nil =>
    intro L h
    simp only [specRecords, Option.some.injEq] at h
    subst h
    exact ⟨rfl, rfl⟩
  | cons r rs ih =>
    intro L h
    cases h1 : recordLines (aggregatorPrinters X) gv r with
    | none => simp [specRecords, h1] at h
    | some x =>
      cases h2 : specRecords (aggregatorPrinters X) gv rs with
      | none => simp [specRecords, h1, h2] at h
      | some rest =>
        simp only [specRecords, h1, h2, Option.some.injEq] at h
        subst h
        obtain ⟨⟨b, hb, hn, _, _⟩, hlen, hall⟩ := recordLines_kept X gv r x h1
        obtain ⟨ihb, iht⟩ := ih rest h2
        refine ⟨?_, ?_⟩
        · simp only [hb, List.cons_append, List.nil_append, List.map_cons, hn, ihb]
        · simp only [List.map_append, List.flatMap_cons, iht]
          rw [List.map_eq_replicate_iff.mpr hall, hlen]

/-- **kept_records_lines** (C05 at line level): when the chromosome prints, the BED records are, in order, one per kept
    record and named by its read id; the TSV lines are, in order, `max 1 (#isoform matches)` lines per kept record, each
    carrying its read id. -/
theorem kept_records_lines (E : Env) (X : PrintEnv) (chrName : String) (dict : List (Nat × List Rec)) :
    ∀ (gs : List (Group ReadAssignment)) (L : Lines), printGroups E X chrName dict gs = some L →
      L.bed.map (·.name) = (keptRecords E dict gs).map (·.readId) ∧
      L.tsv.map (·.readId) =
        (keptRecords E dict gs).flatMap (fun r => List.replicate (max 1 r.isoformMatches.length) r.readId) := by
  intro gs
  induction gs with
  | nil =>
    intro L h
    simp only [printGroups, Option.some.injEq] at h
    subst h
    exact ⟨rfl, rfl⟩
  | cons g gs ih =>
    intro L h
    simp only [printGroups, printers_pure_fresh] at h
    cases h1 : specRecords (aggregatorPrinters X) (viewOf X chrName g.1 (loadGroupFull E dict g.2))
        (loadGroupFull E dict g.2) with
    | none => simp [h1] at h
    | some a =>
      cases h2 : printGroups E X chrName dict gs with
      | none => simp [h1, h2] at h
      | some b =>
        simp only [h1, h2, Option.some.injEq] at h
        subst h
        obtain ⟨hb1, ht1⟩ := specRecords_kept X _ _ a h1
        obtain ⟨hb2, ht2⟩ := ih b h2
        simp only [Lines.append, keptRecords, List.flatMap_cons, List.map_append, List.flatMap_append]
        exact ⟨by rw [hb1, hb2]; rfl, by rw [ht1, ht2]; rfl⟩

/-- every kept record gives exactly one BED line and at least one TSV line.  This is the printer of Model/ReusePrint.lean;
    the repaired `BEDPrinter` skips a marked repeat of an alignment (`bedKeepLoop` of Model/RegionsEdge.lean,
    `bed_one_line_per_alignment` of Props/C05Edge.lean), so for the code the BED count holds for records without a marked twin -/
theorem kept_line_counts (E : Env) (X : PrintEnv) (chrName : String) (dict : List (Nat × List Rec))
    (gs : List (Group ReadAssignment)) (L : Lines) (h : printGroups E X chrName dict gs = some L) :
    L.bed.length = (keptRecords E dict gs).length ∧ (keptRecords E dict gs).length ≤ L.tsv.length := by
  obtain ⟨hb, ht⟩ := kept_records_lines E X chrName dict gs L h
  have h1 : L.bed.length = (keptRecords E dict gs).length := by
    have := congrArg List.length hb
    simpa using this
  refine ⟨h1, ?_⟩
  have h2 := congrArg List.length ht
  simp only [List.length_map] at h2
  rw [h2]
  generalize keptRecords E dict gs = ks
  induction ks with
  | nil => simp
  | cons k ks ih =>
    simp only [List.flatMap_cons, List.length_append, List.length_replicate, List.length_cons]
    omega

/-- **bed_reads_are_kept_reads**: the distinct read ids of corrected_reads.bed are the distinct read ids of the kept
    records (same number, same set), and read_assignments.tsv names exactly the same reads -/
theorem bed_reads_are_kept_reads (E : Env) (X : PrintEnv) (chrName : String) (dict : List (Nat × List Rec))
    (gs : List (Group ReadAssignment)) (L : Lines) (h : printGroups E X chrName dict gs = some L) :
    (L.bed.map (·.name)).eraseDups.length = ((keptRecords E dict gs).map (·.readId)).eraseDups.length ∧
    (∀ s, s ∈ L.bed.map (·.name) ↔ s ∈ (keptRecords E dict gs).map (·.readId)) ∧
    (∀ s, s ∈ L.tsv.map (·.readId) ↔ s ∈ L.bed.map (·.name)) := by
  obtain ⟨hb, ht⟩ := kept_records_lines E X chrName dict gs L h
  refine ⟨by rw [hb], fun s => by rw [hb], ?_⟩
  intro s
  rw [hb, ht]
  simp only [List.mem_flatMap, List.mem_replicate, List.mem_map]
  constructor
  · rintro ⟨r, hr, _, rfl⟩
    exact ⟨r, hr, rfl⟩
  · rintro ⟨r, hr, rfl⟩
    exact ⟨r, hr, by omega, rfl⟩

/-- the lines the two printers wrote on all chromosomes, in the order `merge_files` visits the parts -/
def allLines (order : List Nat) (outs : List Lines) : List String × List String :=
  ((order.filterMap (fun c => outs[c]?)).flatMap (fun l => l.tsv.map TsvLine.render),
   (order.filterMap (fun c => outs[c]?)).flatMap (fun l => l.bed.map C14.BedRecord.render))

/-- FULL-STRENGTH statement: every line written on a chromosome arrives in the main file. -/
def MergedComplete (X : PrintEnv) (order : List Nat) (outs : List Lines) : Prop :=
  (printedOf X order outs).tsv = X.commonHeader ++ [printer_tsv_header] ++ (allLines order outs).1 ∧
  (printedOf X order outs).bed = [printer_bed_header] ++ (allLines order outs).2

/-- the same statement about the merge of the tree BEFORE the repair `fix_merge_header`: false (`merged_hash_witness`) -/
def MergedCompleteOrig (X : PrintEnv) (order : List Nat) (outs : List Lines) : Prop :=
  (printedOfOrig X order outs).tsv = X.commonHeader ++ [printer_tsv_header] ++ (allLines order outs).1 ∧
  (printedOfOrig X order outs).bed = [printer_bed_header] ++ (allLines order outs).2

theorem headerCount_append (hs body : List String) (h : ∀ l ∈ hs, isHeaderLine l = true) :
    headerCount (hs ++ body) = hs.length + headerCount body := by
  induction hs with
  | nil => simp
  | cons a t ih =>
    simp only [List.cons_append, headerCount, h a (by simp), if_true, List.length_cons,
      ih (fun x hx => h x (List.mem_cons_of_mem _ hx))]
    omega

theorem drop_header (hs body : List String) (h : ∀ l ∈ hs, isHeaderLine l = true) :
    (hs ++ body).drop (headerCount (hs ++ body)) = body.drop (headerCount body) := by
  rw [headerCount_append hs body h, ← List.drop_drop, List.drop_left]

/-- `line.startswith("#")` for a TSV line is decided by the read id -/
theorem isHeaderLine_render (l : TsvLine) : isHeaderLine l.render = isHeaderLine l.readId := by
  unfold isHeaderLine TsvLine.render
  simp only [String.append_assoc, String.toList_append]
  cases h : l.readId.toList with
  | nil => simp
  | cons c cs => simp

theorem headerCount_tsv_zero (ls : List TsvLine) (h : ∀ l, ls.head? = some l → isHeaderLine l.readId = false) :
    headerCount (ls.map TsvLine.render) = 0 := by
  cases ls with
  | nil => rfl
  | cons l t => simp [headerCount, isHeaderLine_render, h l rfl]

theorem mem_parts {order : List Nat} {outs : List Lines} {L : Lines} (h : L ∈ order.filterMap fun c => outs[c]?) :
    L ∈ outs := by
  obtain ⟨c, _, hc⟩ := List.mem_filterMap.mp h
  exact List.mem_of_getElem? hc

theorem merge_parts (order : List Nat) (outs : List Lines) (f body : Lines → List String) (skip : List String → Nat)
    (h : ∀ L ∈ outs, (f L).drop (skip (f L)) = body L) :
    ((order.filterMap fun c => (outs.map f)[c]?).flatMap fun ls => ls.drop (skip ls)) =
      (order.filterMap fun c => outs[c]?).flatMap body := by
  have : (order.filterMap fun c => (outs.map f)[c]?) = (order.filterMap fun c => outs[c]?).map f := by
    simp only [List.getElem?_map, List.map_filterMap]
  rw [this, List.flatMap_map]
  exact IsoVerif.Lemmas.flatMap_congr_mem fun L hL => h L (mem_parts hL)

/-- **merged_files** (full strength, no hypothesis - not on the command-line header lines, not on the read ids, not on
    the contig names): the main files are the headers followed by every line of every chromosome in `merge_files`
    order.  `merge_assignments` passes the number of lines each printer wrote before its first record, so a line is
    skipped because of WHERE it stands, never because of how it begins. -/
theorem merged_files (X : PrintEnv) (order : List Nat) (outs : List Lines) : MergedComplete X order outs := by
  have hT : ∀ L : Lines, (tsvPart X L).drop (tsvHeaderLines X) = L.tsv.map TsvLine.render := by
    intro L
    unfold tsvPart tsvHeaderLines
    have : (X.commonHeader ++ [printer_tsv_header]).length = X.commonHeader.length + 1 := by simp
    rw [← this, List.drop_left]
  exact ⟨congrArg _ (merge_parts order outs _ _ _ fun L _ => hT L),
    congrArg _ (merge_parts order outs bedPart _ (fun _ => bedHeaderLines) fun _ _ => rfl)⟩

/-- a literal is `String.ofList` of its characters: the header test reads the first one -/
theorem isHeaderLine_ofList (c : Char) (cs : List Char) : isHeaderLine (String.ofList (c :: cs)) = (c == '#') := by
  simp [isHeaderLine, String.toList_ofList]

theorem header_lines_hash : isHeaderLine printer_tsv_header = true ∧ isHeaderLine printer_bed_header = true :=
  ⟨isHeaderLine_ofList _ _, isHeaderLine_ofList _ _⟩

/-- what the unrepaired merge writes to read_assignments.tsv: every chromosome body without its leading `#`-lines -/
theorem printedOfOrig_tsv (X : PrintEnv) (order : List Nat) (outs : List Lines)
    (hX : ∀ l ∈ X.commonHeader, isHeaderLine l = true) :
    (printedOfOrig X order outs).tsv = X.commonHeader ++ [printer_tsv_header] ++
      (order.filterMap fun c => outs[c]?).flatMap fun L =>
        (L.tsv.map TsvLine.render).drop (headerCount (L.tsv.map TsvLine.render)) := by
  refine congrArg _ (merge_parts order outs _ _ headerCount fun L _ => drop_header _ _ fun l hl => ?_)
  rcases List.mem_append.mp hl with h | h
  · exact hX l h
  · rw [List.mem_singleton.mp h]
    exact header_lines_hash.1

/-- the same for corrected_reads.bed -/
theorem printedOfOrig_bed (X : PrintEnv) (order : List Nat) (outs : List Lines) :
    (printedOfOrig X order outs).bed = [printer_bed_header] ++
      (order.filterMap fun c => outs[c]?).flatMap fun L =>
        (L.bed.map C14.BedRecord.render).drop (headerCount (L.bed.map C14.BedRecord.render)) := by
  refine congrArg _ (merge_parts order outs _ _ headerCount fun L _ => drop_header _ _ fun l hl => ?_)
  rw [List.mem_singleton.mp hl]
  exact header_lines_hash.2

/-- **merged_files_orig_partial** (what held of the unrepaired merge): if the two command-line header lines start with
    `#` and NO per-chromosome body begins with a `#`-line, the main files are complete; the hypothesis on the bodies is
    the exact excluded class (`merged_hash_witness`); `headerCount_tsv_zero` discharges it from the read ids. -/
theorem merged_files_orig_partial (X : PrintEnv) (order : List Nat) (outs : List Lines)
    (hX : ∀ l ∈ X.commonHeader, isHeaderLine l = true)
    (hb : ∀ L ∈ outs, headerCount (L.tsv.map TsvLine.render) = 0 ∧ headerCount (L.bed.map C14.BedRecord.render) = 0) :
    MergedCompleteOrig X order outs := by
  rw [MergedCompleteOrig, printedOfOrig_tsv X order outs hX, printedOfOrig_bed]
  exact ⟨congrArg _ (IsoVerif.Lemmas.flatMap_congr_mem fun L hL => by rw [(hb L (mem_parts hL)).1, List.drop_zero]),
    congrArg _ (IsoVerif.Lemmas.flatMap_congr_mem fun L hL => by rw [(hb L (mem_parts hL)).2, List.drop_zero])⟩

/-- the two lines of a one-chromosome experiment: read `#r1` first, then `r2` -/
def exHashLines : Lines :=
  { bed := [], tsv := [{ readId := "#r1", chr := "c1", strand := "+", isoformId := ".", geneId := ".",
                          assignmentType := "intergenic", events := ".", exons := "1-5", info := "*" },
                        { readId := "r2", chr := "c1", strand := "+", isoformId := ".", geneId := ".",
                          assignmentType := "intergenic", events := ".", exons := "11-15", info := "*" }] }

def exHashEnv : PrintEnv :=
  { params := ⟨false, false⟩, isoformIntrons := fun _ => [], chrSeq := fun _ => [],
    commonHeader := ["# Command line: isoquant.py\n", "# IsoQuant version: 3.4.0\n"] }

theorem exHashEnv_header : ∀ l ∈ exHashEnv.commonHeader, isHeaderLine l = true := by
  simp only [exHashEnv, List.mem_cons, List.not_mem_nil, or_false]
  rintro l (rfl | rfl) <;> exact isHeaderLine_ofList _ _

/-- **merged_hash_witness**: the negation of `MergedCompleteOrig` on a concrete experiment – the per-chromosome file
    holds the lines of `#r1` and `r2`, the read_assignments.tsv merged by the unrepaired code only the line of `r2`:
    `merge_files` counted the line of `#r1` as a fourth header line; the repaired merge keeps both lines.  Replayed on
    the real code by the oracle (`printers:hash_led_line_lost`). -/
theorem merged_hash_witness :
    ¬ MergedCompleteOrig exHashEnv [0] [exHashLines] ∧
    (printedOfOrig exHashEnv [0] [exHashLines]).tsv =
      ["# Command line: isoquant.py\n", "# IsoQuant version: 3.4.0\n", printer_tsv_header,
       "r2\tc1\t+\t.\t.\tintergenic\t.\t11-15\t*\n"] ∧
    (tsvPart exHashEnv exHashLines).length = 5 ∧
    (printedOf exHashEnv [0] [exHashLines]).tsv =
      ["# Command line: isoquant.py\n", "# IsoQuant version: 3.4.0\n", printer_tsv_header,
       "#r1\tc1\t+\t.\t.\tintergenic\t.\t1-5\t*\n", "r2\tc1\t+\t.\t.\tintergenic\t.\t11-15\t*\n"] := by
  -- the body begins with the line of `#r1`: one `#`-line (`isHeaderLine_render`), which the unrepaired merge cuts
  have hn : headerCount (exHashLines.tsv.map TsvLine.render) = 1 := by
    simp only [exHashLines, List.map_cons, headerCount, isHeaderLine_render]
    rfl
  have h2 := printedOfOrig_tsv exHashEnv [0] [exHashLines] exHashEnv_header
  simp only [List.filterMap_cons, List.getElem?_cons_zero, List.filterMap_nil, List.flatMap_cons, List.flatMap_nil,
    List.append_nil, hn] at h2
  refine ⟨fun h => ?_, h2.trans (by simp [exHashEnv, exHashLines, TsvLine.render]), by simp [tsvPart, exHashEnv, exHashLines],
    (merged_files exHashEnv [0] [exHashLines]).1.trans (by simp [allLines, exHashEnv, exHashLines, TsvLine.render])⟩
  -- the first claim follows by counting lines
  have := congrArg List.length (h.1.symm.trans h2)
  simp [allLines, exHashLines] at this

-- non-vacuity of `merged_files_orig_partial`: the same experiment with the reads in the other order meets the hypotheses
example : (∀ l ∈ exHashEnv.commonHeader, isHeaderLine l = true) ∧
    (∀ L ∈ [{ exHashLines with tsv := exHashLines.tsv.reverse }],
      headerCount (L.tsv.map TsvLine.render) = 0 ∧ headerCount (L.bed.map C14.BedRecord.render) = 0) := by
  refine ⟨exHashEnv_header, fun L hL => ?_⟩
  rw [List.mem_singleton.1 hL]
  exact ⟨headerCount_tsv_zero _ fun l hl => by cases hl; exact isHeaderLine_ofList _ _, rfl⟩

open IsoVerif.Props.C15Reuse in
/-- the verdict file of chromosome c2: the secondary alignment of read `ra` (assignment id 2) is `suspended` -/
def exDict : List (Nat × List Rec) :=
  [(exEnv.intern "ra", [{ toRec exEnv (basicOf (mkRA 2 "ra" "c2" "G2" "T2" true 0)) with
                           atype := .suspended, gtype := .suspended }])]

open IsoVerif.Props.C15Reuse in
-- hypotheses of `suspended_is_dropped` / `dropped_record_prints_nothing` (record 2 of `ra`) and of
-- `kept_records_lines` / `kept_line_counts` / `bed_reads_are_kept_reads` (chromosome c2 prints): `rb` is kept and printed
-- once in each file, `ra` nowhere
example :
    loadOne exDict (fullOf exEnv (mkRA 2 "ra" "c2" "G2" "T2" true 0)) = none ∧
    (loadOne exDict (fullOf exEnv (mkRA 3 "rb" "c2" "G2" "T2" false (mkRat 7 10)))).isSome = true ∧
    ((exChroms[1]?).bind (fun c => printGroups exEnv exX "c2" exDict c.groups)).map
        (fun L => (L.bed.map (·.name), L.tsv.map (·.readId))) = some (["rb"], ["rb"]) ∧
    ((exChroms[1]?).map (fun c => (keptRecords exEnv exDict c.groups).map (·.readId))) = some ["rb"] := by
  decide +kernel

end IsoVerif.Props.C05Printers
