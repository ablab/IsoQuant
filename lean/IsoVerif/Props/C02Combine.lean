/-
C02, part 5 — the `combined_*` tables of a multi-experiment invocation (`src/stats.py combine_counts`).

The outer join itself is C10's model (`IsoVerif.Model.C10.transformCounts` / `combineTable`); its facts come from C10
(`combined_row_width` of Props/C10.lean; `mem_combineTable`, `combineTable_cell`, `combine_keys_nodup` of Lemmas/Samples.lean)
– imported, not repeated.  This file adds the C02 side:
which lines the files contain (`countsFileTable`, `tpmFileTable`), that the `[:-3]` slice removes exactly the
statistics lines `merge_counts` wrote, the row order pandas gives an outer join, and what every cell of the
combined tables is in terms of the documented weighting (composition with `merge_named_sums`, `tpm_rows`).
-/
import IsoVerif.Model.CounterCombine
import IsoVerif.Lemmas.CounterCombine
import IsoVerif.Props.C02MergeOrder
import IsoVerif.Props.C10
import IsoVerif.Gen.CombineTables

namespace IsoVerif.Props.C02Combine
open IsoVerif.Gen IsoVerif.Model.C02 IsoVerif.Lemmas.C02 IsoVerif.Props.C02 IsoVerif.Props.C02Merge
open IsoVerif.Props.C02MergeOrder
open IsoVerif.Model.C10 (Table transformCounts combineTable)

/-! ## the protocol between the writers of the tables and `combine_counts` (generated on every run) -/

/-- **combine_protocol** (generated from `transform_counts`, `combine_table`, `combine_counts`, `format_header`,
    `convert_counts_to_tpm`, `merge_counts`; `decide`):
    the slice `df[:-N]` drops as many lines as `merge_counts` appends; the join is an outer join on the first header
    column; counts files are read with the value column `format_header` writes and lose the statistics lines, TPM files
    are read whole under the renamed value column; the statistics lines never reach a TPM file (the TPM reader stops at
    them), whose only extra line is `__unassigned` -/
theorem combine_protocol :
    combine_dropped_tail = merge_stat_names.length ∧
    combine_join_key = counts_header_key ∧ combine_join_how = "outer" ∧
    (∀ c ∈ combine_calls,
      (c.2.1 = "_counts.tsv" ∧ c.2.2.2.1 = counts_header_value ∧ c.2.2.2.2 = false) ∨
      (c.2.1 = "_tpm.tsv" ∧ c.2.2.2.1 = tpm_header_replace.2 ∧ c.2.2.2.2 = true)) ∧
    tpm_header_replace.1 = counts_header_value ∧
    (∀ n ∈ merge_stat_names, n ∈ tpm_stop_names) ∧ tpm_unassigned_name ∉ tpm_stop_names := by decide

/-- C10's `transformCounts` is the slice of today's source -/
theorem transform_is_generated_slice (t : Table) :
    transformCounts false t = t.take (t.length - combine_dropped_tail) ∧ transformCounts true t = t := by
  simp [transformCounts, combine_dropped_tail]

/-- **transform_drops_stat_lines**: on a counts file written by `merge_counts`, `transform_counts` keeps exactly the
    feature rows – whatever the feature ids are (no test on the first column is involved) -/
theorem transform_drops_stat_lines (fmtC : Int → String) (fmtN : Nat → String) (p : Part String) :
    transformCounts false (countsFileTable fmtC fmtN p) = p.rows.map (fun r => (r.1, fmtC r.2)) := by
  unfold transformCounts countsFileTable
  simp only [Bool.false_eq_true, if_false]
  exact IsoVerif.Lemmas.take_append_tail _ _ 3 (by simp [merge_stat_names])

/-- the counts tables are combined as if the feature rows alone had been read whole -/
theorem combine_counts_files (fmtC : Int → String) (fmtN : Nat → String) (es : List (String × Part String)) :
    combineTable false (es.map (fun e => (e.1, countsFileTable fmtC fmtN e.2)))
      = combineTable true (es.map (fun e => (e.1, e.2.rows.map (fun r => (r.1, fmtC r.2))))) := by
  simp only [combineTable, List.map_map, Function.comp_def, transform_drops_stat_lines]
  simp [transformCounts]

/-- `combineTableSorted` has C10's header and C10's rows, in increasing order of the feature id (code points):
    the rows are pairwise distinct and strictly sorted -/
theorem combined_sorted (full : Bool) (ts : List (String × Table)) :
    (combineTableSorted full ts).1 = (combineTable full ts).1 ∧
    (combineTableSorted full ts).2.Perm (combineTable full ts).2 ∧
    (combineTableSorted full ts).2.Pairwise (fun a b => a.1 < b.1) := by
  refine ⟨rfl, IsoVerif.Lemmas.C06.isort_perm _ _, ?_⟩
  have hperm : (combineTableSorted full ts).2.Perm (combineTable full ts).2 := IsoVerif.Lemmas.C06.isort_perm _ _
  have hle : (combineTableSorted full ts).2.Pairwise (fun a b => strLeB a.1 b.1 = true) :=
    IsoVerif.Lemmas.C06.isort_pairwise (fun a b : String × List (Option String) => strLeB a.1 b.1)
      (fun a b c => strLeB_trans a.1 b.1 c.1) (fun a b => strLeB_total a.1 b.1) _
  have hnd : ((combineTableSorted full ts).2.map Prod.fst).Nodup :=
    (hperm.map Prod.fst).nodup_iff.mpr (IsoVerif.Lemmas.C10.combine_keys_nodup full ts)
  have hne : (combineTableSorted full ts).2.Pairwise (fun a b => a.1 ≠ b.1) := by
    rw [List.Nodup, List.pairwise_map] at hnd
    exact hnd
  refine (hle.and hne).imp ?_
  rintro a b ⟨h1, h2⟩
  simp only [strLeB, decide_eq_true_eq] at h1
  exact String.not_le.mp (fun hba => h2 (String.le_antisymm h1 hba))

theorem sorted_row_mem (full : Bool) (ts : List (String × Table)) (row : String × List (Option String)) :
    row ∈ (combineTableSorted full ts).2 ↔ row ∈ (combineTable full ts).2 :=
  (combined_sorted full ts).2.1.mem_iff

/-- generic form (any table read whole): a row of the combined table carries in column `i` the value of experiment
    `i` for that feature, and an EMPTY cell (pandas NaN – not 0) when experiment `i` has no row for it -/
theorem combined_cells_full (ts : List (String × Table)) (hnd : ∀ p ∈ ts, (p.2.map Prod.fst).Nodup)
    (i : Nat) (p : String × Table) (hi : ts[i]? = some p) (row : String × List (Option String))
    (hrow : row ∈ (combineTableSorted true ts).2) :
    row.2.length = ts.length ∧
    (∀ v, (row.1, v) ∈ p.2 → row.2[i]? = some (some v)) ∧
    (row.1 ∉ p.2.map Prod.fst → row.2[i]? = some none) := by
  rw [sorted_row_mem] at hrow
  have hp : p ∈ ts := List.mem_of_getElem? hi
  have hc := IsoVerif.Lemmas.C10.combineTable_cell hrow hi
  simp only [transformCounts, if_true] at hc
  refine ⟨IsoVerif.Props.C10.combined_row_width true ts row hrow, fun v hv => ?_, fun hk => ?_⟩
  · rw [hc, (IsoVerif.Lemmas.lookup_iff_mem_of_nodup (hnd p hp) row.1 v).mpr hv]
  · rw [hc]
    cases hl : p.2.lookup row.1 with
    | none => rfl
    | some v => exact absurd (List.mem_map.mpr ⟨(row.1, v), IsoVerif.Lemmas.mem_of_lookup hl, rfl⟩) hk

/-- **combined_columns_exact** (`combined_gene_counts.tsv`, `combined_transcript_counts.tsv`).  Experiments
    `es = [(prefix, merged counts table)]` whose tables list every feature once.  Then
    * the header is `#feature_id` followed by the experiment prefixes, in invocation order;
    * the rows are strictly sorted by feature id, one row per feature that has a row in SOME experiment – the
      statistics lines of the individual files are gone (handled by position: the last three lines), and a feature
      whose id happens to look like one is kept;
    * every row has one cell per experiment; the cell of experiment `i` is the printed count of that feature in
      experiment `i`'s own table, and is EMPTY (NaN, not `0`) when experiment `i` has no row for the feature. -/
theorem combined_columns_exact (fmtC : Int → String) (fmtN : Nat → String) (es : List (String × Part String))
    (hnd : ∀ e ∈ es, (e.2.rows.map Prod.fst).Nodup) :
    let T := combineTableSorted false (es.map (fun e => (e.1, countsFileTable fmtC fmtN e.2)))
    T.1 = "#feature_id" :: es.map Prod.fst ∧
    T.2.Pairwise (fun a b => a.1 < b.1) ∧
    (∀ k, k ∈ T.2.map Prod.fst ↔ ∃ e ∈ es, k ∈ e.2.rows.map Prod.fst) ∧
    ∀ (i : Nat) (e : String × Part String), es[i]? = some e → ∀ row ∈ T.2,
      row.2.length = es.length ∧
      (∀ c, (row.1, c) ∈ e.2.rows → row.2[i]? = some (some (fmtC c))) ∧
      (row.1 ∉ e.2.rows.map Prod.fst → row.2[i]? = some none) := by
  intro T
  have hT : T = combineTableSorted true (es.map (fun e => (e.1, e.2.rows.map (fun r => (r.1, fmtC r.2))))) := by
    simp only [T, combineTableSorted, combine_counts_files]
  have hkeys : ∀ (e : String × Part String),
      (e.2.rows.map (fun r => (r.1, fmtC r.2))).map Prod.fst = e.2.rows.map Prod.fst := by
    intro e; simp [List.map_map, Function.comp_def]
  refine ⟨?_, ?_, ?_, ?_⟩
  · rw [hT]; simp [combineTableSorted, combineTable, List.map_map, Function.comp_def]
  · rw [hT]; exact (combined_sorted _ _).2.2
  · intro k
    rw [hT]
    have hp := ((combined_sorted true (es.map (fun e => (e.1, e.2.rows.map (fun r => (r.1, fmtC r.2)))))).2.1.map Prod.fst).mem_iff (a := k)
    rw [hp, combined_keys]
    constructor
    · rintro ⟨p, hp, hk⟩
      obtain ⟨e, he, rfl⟩ := List.mem_map.mp hp
      simp only [transformCounts, if_true, hkeys] at hk
      exact ⟨e, he, hk⟩
    · rintro ⟨e, he, hk⟩
      refine ⟨_, List.mem_map.mpr ⟨e, he, rfl⟩, ?_⟩
      simp only [transformCounts, if_true, hkeys]
      exact hk
  · intro i e hi row hrow
    rw [hT] at hrow
    have hi' : (es.map (fun e => (e.1, e.2.rows.map (fun r => (r.1, fmtC r.2)))))[i]?
        = some (e.1, e.2.rows.map (fun r => (r.1, fmtC r.2))) := by
      simp [List.getElem?_map, hi]
    obtain ⟨hw, hpos, hneg⟩ := combined_cells_full _ (by
      intro p hp
      obtain ⟨e', he', rfl⟩ := List.mem_map.mp hp
      simp only [hkeys]
      exact hnd e' he') i _ hi' row hrow
    refine ⟨by simpa using hw, ?_, ?_⟩
    · intro c hc
      exact hpos (fmtC c) (List.mem_map.mpr ⟨(row.1, c), hc, rfl⟩)
    · intro hk
      apply hneg
      simp only [hkeys]
      exact hk

/-- **combined_tpm_columns_exact** (`combined_gene_tpm.tsv`, `combined_transcript_tpm.tsv`): the TPM files are read
    whole, so the combined table has – besides one row per feature – a row `__unassigned` whose cell `i` is the
    `__unassigned` value of experiment `i`; every other cell is the printed TPM of that experiment, or EMPTY. -/
theorem combined_tpm_columns_exact (fmtT : Int → String) (es : List (String × TpmPrinted))
    (hnd : ∀ e ∈ es, (e.2.rows.map Prod.fst).Nodup ∧ tpm_unassigned_name ∉ e.2.rows.map Prod.fst) :
    let T := combineTableSorted true (es.map (fun e => (e.1, tpmFileTable fmtT e.2)))
    T.1 = "#feature_id" :: es.map Prod.fst ∧
    T.2.Pairwise (fun a b => a.1 < b.1) ∧
    ∀ (i : Nat) (e : String × TpmPrinted), es[i]? = some e → ∀ row ∈ T.2,
      row.2.length = es.length ∧
      (∀ v, (row.1, v) ∈ e.2.rows → row.2[i]? = some (some (fmtT v))) ∧
      (row.1 = tpm_unassigned_name → row.2[i]? = some (some (fmtT e.2.unassigned))) ∧
      (row.1 ∉ e.2.rows.map Prod.fst → row.1 ≠ tpm_unassigned_name → row.2[i]? = some none) := by
  intro T
  have hkeys : ∀ (e : String × TpmPrinted),
      (tpmFileTable fmtT e.2).map Prod.fst = e.2.rows.map Prod.fst ++ [tpm_unassigned_name] := by
    intro e; simp [tpmFileTable, List.map_map, Function.comp_def]
  refine ⟨?_, (combined_sorted _ _).2.2, ?_⟩
  · simp [T, combineTableSorted, combineTable, List.map_map, Function.comp_def]
  · intro i e hi row hrow
    have hi' : (es.map (fun e => (e.1, tpmFileTable fmtT e.2)))[i]? = some (e.1, tpmFileTable fmtT e.2) := by
      simp [List.getElem?_map, hi]
    obtain ⟨hw, hpos, hneg⟩ := combined_cells_full _ (by
      intro p hp
      obtain ⟨e', he', rfl⟩ := List.mem_map.mp hp
      simp only [hkeys]
      rw [List.nodup_append]
      refine ⟨(hnd e' he').1, by simp, ?_⟩
      intro a ha b hb hab
      simp only [List.mem_singleton] at hb
      subst hb; subst hab
      exact (hnd e' he').2 ha) i _ hi' row hrow
    refine ⟨by simpa using hw, ?_, ?_, ?_⟩
    · intro v hv
      apply hpos
      simp only [tpmFileTable, List.mem_append, List.mem_map]
      exact Or.inl ⟨(row.1, v), hv, rfl⟩
    · intro hk
      apply hpos
      simp [tpmFileTable, hk]
    · intro hk hne
      apply hneg
      simp only [hkeys, List.mem_append, List.mem_singleton]
      rintro (h | h)
      · exact hk h
      · exact hne h

/-! ## what a cell of the combined counts table is: the documented sum of its own experiment -/

/-- one experiment of the invocation at one table level: its prefix, its chromosomes in `chr_ids` order (name of the
    part file, complete feature list, history of calls of that chromosome's counter), the unmapped reads of its BAMs -/
structure Experiment where
  name : String
  chrs : List (String × List String × List (Event String))
  unaligned : Nat

/-- the merged counts table of the experiment; `none` when a call raises -/
def Experiment.table (s : CountingStrategy) (lvl : Level) (le : String → String → Bool) (oz : Bool) (x : Experiment) :
    Option (Part String) :=
  (runChromosomes s lvl le oz (x.chrs.map (·.2))).map
    (fun parts => mergeCountsNamed ((x.chrs.map (·.1)).zip parts) x.unaligned)

/-- **combined_cell_is_sum**: every non-empty cell of `combined_gene_counts.tsv` / `combined_transcript_counts.tsv`
    in the column of experiment `x` is the `%.2f` rendering of the sum of the documented contributions of the calls
    of ONE chromosome of experiment `x` (or of 0 when nothing there confirmed the feature) – no other experiment's
    records enter the column.  (`tabs` = the merged tables, all experiments ran; each lists a feature once.) -/
theorem combined_cell_is_sum (s : CountingStrategy) (lvl : Level) (le : String → String → Bool) (oz : Bool)
    (fmtC : Int → String) (fmtN : Nat → String) (exps : List Experiment) (tabs : List (Part String))
    (hlen : tabs.length = exps.length)
    (htab : ∀ (i : Nat) (x : Experiment), exps[i]? = some x → x.table s lvl le oz = tabs[i]?)
    (hnd : ∀ t ∈ tabs, (t.rows.map Prod.fst).Nodup) :
    let T := combineTableSorted false (((exps.map (·.name)).zip tabs).map (fun e => (e.1, countsFileTable fmtC fmtN e.2)))
    ∀ (i : Nat) (x : Experiment), exps[i]? = some x → ∀ row ∈ T.2, ∀ txt, row.2[i]? = some (some txt) →
      ∃ c ∈ x.chrs,
        ((∃ e ∈ c.2.2, confirmsFeature lvl e row.1) ∧
            txt = fmtC (hundredths (ratSum (c.2.2.map (fun e => contribution s lvl e row.1)))))
        ∨ ((¬ ∃ e ∈ c.2.2, confirmsFeature lvl e row.1) ∧ txt = fmtC (hundredths 0)) := by
  intro T i x hi row hrow txt hcell
  have hilt : i < exps.length := by
    rcases Nat.lt_or_ge i exps.length with h | h
    · exact h
    · rw [List.getElem?_eq_none h] at hi; cases hi
  have hx : exps[i] = x := by
    rw [List.getElem?_eq_getElem hilt] at hi; exact Option.some.inj hi
  have hit : i < tabs.length := by rw [hlen]; exact hilt
  let es := (exps.map (·.name)).zip tabs
  have hes : es[i]? = some (x.name, tabs[i]) := by
    simp [es, List.getElem?_zip_eq_some, List.getElem?_map, hi, List.getElem?_eq_getElem hit]
  have hndes : ∀ e ∈ es, (e.2.rows.map Prod.fst).Nodup := by
    intro e he
    exact hnd e.2 (List.of_mem_zip he).2
  obtain ⟨_, _, _, hcols⟩ := combined_columns_exact fmtC fmtN es hndes
  obtain ⟨_, hpos, hneg⟩ := hcols i _ hes row hrow
  -- the cell is non-empty, hence the feature has a row in experiment i's own table
  have hmem : row.1 ∈ (tabs[i]).rows.map Prod.fst := by
    refine Classical.byContradiction (fun hk => ?_)
    have := hneg hk
    rw [hcell] at this
    cases this
  obtain ⟨⟨f, c⟩, hc, hf⟩ := List.mem_map.mp hmem
  simp only at hf
  subst hf
  have hval := hpos c hc
  rw [hcell] at hval
  have htxt : txt = fmtC c := Option.some.inj (Option.some.inj hval)
  -- experiment i's table is its own merge
  have htab' := htab i x hi
  rw [List.getElem?_eq_getElem hit] at htab'
  unfold Experiment.table at htab'
  cases hrun : runChromosomes s lvl le oz (x.chrs.map (·.2)) with
  | none => simp [hrun] at htab'
  | some parts =>
    simp only [hrun, Option.map_some, Option.some.injEq] at htab'
    have hpl := runChromosomes_length s lvl le oz _ parts hrun
    have hsnd : ((x.chrs.map (·.1)).zip parts).map Prod.snd = parts := by
      apply List.map_snd_zip
      simp [hpl]
    obtain ⟨_, _, _, _, hrows⟩ := merge_named_sums s lvl le oz (x.chrs.map (·.2)) parts hrun
      ((x.chrs.map (·.1)).zip parts) hsnd x.unaligned
    rw [htab'] at hrows
    obtain ⟨c', hc', hres⟩ := hrows row.1 c hc
    obtain ⟨c0, hc0, rfl⟩ := List.mem_map.mp hc'
    refine ⟨c0, hc0, ?_⟩
    rw [htxt]
    rcases hres with ⟨h1, h2⟩ | ⟨h1, h2⟩
    · exact Or.inl ⟨h1, by rw [h2]⟩
    · exact Or.inr ⟨h1, by rw [h2]⟩

-- two experiments; the counts files carry their three statistics lines; g2 is absent from A, g1 from B;
-- a feature called `__no_feature` is kept (B): only the POSITION of a line decides
example : combineTableSorted false
    [("A", countsFileTable (fmtFixed 2) toString { rows := [("g3", 300), ("g1", 150)], ambiguous := 1, noFeature := 2, notAligned := 0, usable := 9 }),
     ("B", countsFileTable (fmtFixed 2) toString { rows := [("g2", 25), ("__no_feature", 700), ("g3", 0)], ambiguous := 0, noFeature := 0, notAligned := 4, usable := 8 })]
    = (["#feature_id", "A", "B"],
       [("__no_feature", [none, some "7.00"]), ("g1", [some "1.50", none]), ("g2", [none, some "0.25"]),
        ("g3", [some "3.00", some "0.00"])]) := by decide +kernel

example : combineTableSorted true
    [("A", tpmFileTable (fmtFixed 6) { rows := [("g1", 750000000000), ("g2", 250000000000)], unassigned := 0 }),
     ("B", tpmFileTable (fmtFixed 6) { rows := [("g2", 333333333333)], unassigned := 666666666667 })]
    = (["#feature_id", "A", "B"],
       [("__unassigned", [some "0.000000", some "666666.666667"]), ("g1", [some "750000.000000", none]),
        ("g2", [some "250000.000000", some "333333.333333"])]) := by decide +kernel

-- hypotheses of combined_cell_is_sum on a concrete invocation: two experiments over the demo history
def demoStr : List (Event String) :=
  [.raw false ["T1"], .raw false ["T1", "T2"], .confirm ["T1", "T2"]]
def expA : Experiment := ⟨"A", [("A_chr2.transcript_counts.tsv", [], demoStr), ("A_chr1.transcript_counts.tsv", [], [.raw false ["T0"], .confirm ["T0"]])], 0⟩
def expB : Experiment := ⟨"B", [("B_chr1.transcript_counts.tsv", ["T9"], [.raw false ["T2"], .confirm ["T2"]])], 3⟩
def leStr (a b : String) : Bool := decide (a ≤ b)

example : (expA.table .with_ambiguous .transcript leStr true).map (·.rows) = some [("T0", 100), ("T1", 150), ("T2", 50)] ∧
    (expB.table .with_ambiguous .transcript leStr true).map (·.rows) = some [("T2", 100), ("T9", 0)] := by
  simp only [Experiment.table, mergeCountsNamed, orderParts_eq]
  decide +kernel

end IsoVerif.Props.C02Combine
