/-
C11 — translation and reflection equivariance: the straight-line interval primitives.

Every theorem here is about a *generated* definition (IsoVerif/Gen/Prims.lean, re-translated from
/repo/src/common.py on every run) and holds for ALL intervals (no well-formedness needed unless stated),
ALL shifts `k : Int` and ALL chromosome lengths `L : Int`.

  shift_equivariant_X :  X (shift k a) (shift k b) = shift k (X a b)     (interval-valued X)
                                                  = X a b               (Bool / length-valued X)
  mirror_dual_X       :  X (mirror L a) (mirror L b) = the mirror image named in the statement
                         (self-dual, or the left/right partner: covers_start ↔ covers_end,
                          left_of a b ↔ left_of (mirror b) (mirror a), cmp x y ↔ cmp y x)

`overlaps_at_least` / `overlaps_at_least_when_overlap` are self-dual like the others since fix 48e5811
("containment first"); their PRE-FIX bodies (`overlapsAtLeastBuggy`, `overlapsAtLeastWhenOverlapBuggy`) were not
mirror-symmetric on ties: the exact failing class is `EndTie`, proved in both directions (`…Buggy_mirror_iff`), with the
`_witness` and the `_partial` form, and the fix is characterised exactly (`…_fix_exact`).
-/
import IsoVerif.Gen.Prims
import IsoVerif.Gen.EventClasses
import IsoVerif.Model.C11Symmetry
import IsoVerif.Lemmas.EventEnum

namespace IsoVerif.Props.C11
open IsoVerif.Gen IsoVerif.Model IsoVerif.Model.C11

/-- unfold the generated primitives and the transformations, then decide the linear-arithmetic /
    propositional residue (robust to harmless re-orderings of the generated code) -/
macro "c11_prim_tac" : tactic => `(tactic|
  (simp only [cmp, overlaps, overlap_intervals, overlaps_at_least, overlaps_at_least_when_overlap, intersection_len,
      left_of, equal_ranges, covers_end, covers_start, contains, contains_well_inside, contains_approx, max_range,
      interval_len, iabs, shiftIv, mirrorIv, mirrorP]
   grind))

/-! ### the transformations are group actions (so "shift back" / "mirror back" are again instances) -/

theorem shiftIv_zero (a : Iv) : shiftIv 0 a = a := by simp [shiftIv]
theorem shiftIv_add (j k : Int) (a : Iv) : shiftIv j (shiftIv k a) = shiftIv (k + j) a := by
  simp [shiftIv]; omega
theorem mirrorIv_involutive (L : Int) (a : Iv) : mirrorIv L (mirrorIv L a) = a := by
  simp only [mirrorIv]; ext <;> simp <;> omega
theorem mirrorP_involutive (L p : Int) : mirrorP L (mirrorP L p) = p := by
  simp only [mirrorP]; omega
/-- mirroring commutes with shifting (chromosome length grows by k) -/
theorem mirror_shift_commute (L k : Int) (a : Iv) :
    mirrorIv (L + k) (shiftIv k a) = mirrorIv L a := by
  simp only [mirrorIv, shiftIv]; ext <;> simp <;> omega
theorem mirror_preserves_wf (L : Int) (a : Iv) : (mirrorIv L a).1 ≤ (mirrorIv L a).2 ↔ a.1 ≤ a.2 := by
  simp only [mirrorIv]; omega
theorem shift_preserves_wf (k : Int) (a : Iv) : (shiftIv k a).1 ≤ (shiftIv k a).2 ↔ a.1 ≤ a.2 := by
  simp only [shiftIv]; omega

theorem shift_equivariant_cmp (k x y : Int) : cmp (x + k) (y + k) = cmp x y := by
  c11_prim_tac

theorem shift_equivariant_overlaps (k : Int) (a b : Iv) :
    overlaps (shiftIv k a) (shiftIv k b) = overlaps a b := by
  c11_prim_tac

theorem shift_equivariant_overlap_intervals (k : Int) (a b : Iv) :
    overlap_intervals (shiftIv k a) (shiftIv k b) = shiftIv k (overlap_intervals a b) := by
  c11_prim_tac

theorem shift_equivariant_overlaps_at_least (k : Int) (a b : Iv) (d : Int) :
    overlaps_at_least (shiftIv k a) (shiftIv k b) d = overlaps_at_least a b d := by
  c11_prim_tac

theorem shift_equivariant_overlaps_at_least_when_overlap (k : Int) (a b : Iv) (d : Int) :
    overlaps_at_least_when_overlap (shiftIv k a) (shiftIv k b) d = overlaps_at_least_when_overlap a b d := by
  c11_prim_tac

theorem shift_equivariant_interval_len (k : Int) (a : Iv) : interval_len (shiftIv k a) = interval_len a := by
  c11_prim_tac

/-- `intersection_len a b = max 0 (interval_len (overlap_intervals a b))` by definition -/
theorem shift_equivariant_intersection_len (k : Int) (a b : Iv) :
    intersection_len (shiftIv k a) (shiftIv k b) = intersection_len a b := by
  show max 0 (interval_len (overlap_intervals _ _)) = max 0 (interval_len (overlap_intervals a b))
  rw [shift_equivariant_overlap_intervals, shift_equivariant_interval_len]

theorem shift_equivariant_left_of (k : Int) (a b : Iv) :
    left_of (shiftIv k a) (shiftIv k b) = left_of a b := by
  c11_prim_tac

theorem shift_equivariant_equal_ranges (k : Int) (a b : Iv) (d : Int) :
    equal_ranges (shiftIv k a) (shiftIv k b) d = equal_ranges a b d := by
  c11_prim_tac

theorem shift_equivariant_covers_end (k : Int) (a b : Iv) :
    covers_end (shiftIv k a) (shiftIv k b) = covers_end a b := by
  c11_prim_tac

theorem shift_equivariant_covers_start (k : Int) (a b : Iv) :
    covers_start (shiftIv k a) (shiftIv k b) = covers_start a b := by
  c11_prim_tac

theorem shift_equivariant_contains (k : Int) (a b : Iv) :
    contains (shiftIv k a) (shiftIv k b) = contains a b := by
  c11_prim_tac

theorem shift_equivariant_contains_well_inside (k : Int) (a b : Iv) (d : Int) :
    contains_well_inside (shiftIv k a) (shiftIv k b) d = contains_well_inside a b d := by
  c11_prim_tac

theorem shift_equivariant_contains_approx (k : Int) (a b : Iv) (d : Int) :
    contains_approx (shiftIv k a) (shiftIv k b) d = contains_approx a b d := by
  c11_prim_tac

theorem shift_equivariant_max_range (k : Int) (a b : Iv) :
    max_range (shiftIv k a) (shiftIv k b) = shiftIv k (max_range a b) := by
  c11_prim_tac

/-- order comparison flips -/
theorem mirror_dual_cmp (L x y : Int) : cmp (mirrorP L x) (mirrorP L y) = cmp y x := by
  c11_prim_tac

theorem mirror_dual_overlaps (L : Int) (a b : Iv) :
    overlaps (mirrorIv L a) (mirrorIv L b) = overlaps a b := by
  c11_prim_tac

theorem mirror_dual_overlap_intervals (L : Int) (a b : Iv) :
    overlap_intervals (mirrorIv L a) (mirrorIv L b) = mirrorIv L (overlap_intervals a b) := by
  c11_prim_tac

theorem mirror_dual_interval_len (L : Int) (a : Iv) : interval_len (mirrorIv L a) = interval_len a := by
  c11_prim_tac

theorem mirror_dual_intersection_len (L : Int) (a b : Iv) :
    intersection_len (mirrorIv L a) (mirrorIv L b) = intersection_len a b := by
  show max 0 (interval_len (overlap_intervals _ _)) = max 0 (interval_len (overlap_intervals a b))
  rw [mirror_dual_overlap_intervals, mirror_dual_interval_len]

/-- `left_of a b` becomes `left_of (mirror b) (mirror a)`: the order of the two arguments swaps -/
theorem mirror_dual_left_of (L : Int) (a b : Iv) :
    left_of (mirrorIv L b) (mirrorIv L a) = left_of a b := by
  c11_prim_tac

theorem mirror_dual_equal_ranges (L : Int) (a b : Iv) (d : Int) :
    equal_ranges (mirrorIv L a) (mirrorIv L b) d = equal_ranges a b d := by
  c11_prim_tac

/-- `covers_start` and `covers_end` are each other's mirror image -/
theorem mirror_dual_covers_start_end (L : Int) (a b : Iv) :
    covers_start (mirrorIv L a) (mirrorIv L b) = covers_end a b := by
  c11_prim_tac

theorem mirror_dual_covers_end_start (L : Int) (a b : Iv) :
    covers_end (mirrorIv L a) (mirrorIv L b) = covers_start a b := by
  c11_prim_tac

theorem mirror_dual_contains (L : Int) (a b : Iv) :
    contains (mirrorIv L a) (mirrorIv L b) = contains a b := by
  c11_prim_tac

theorem mirror_dual_contains_well_inside (L : Int) (a b : Iv) (d : Int) :
    contains_well_inside (mirrorIv L a) (mirrorIv L b) d = contains_well_inside a b d := by
  c11_prim_tac

theorem mirror_dual_contains_approx (L : Int) (a b : Iv) (d : Int) :
    contains_approx (mirrorIv L a) (mirrorIv L b) d = contains_approx a b d := by
  c11_prim_tac

theorem mirror_dual_max_range (L : Int) (a b : Iv) :
    max_range (mirrorIv L a) (mirrorIv L b) = mirrorIv L (max_range a b) := by
  c11_prim_tac

/-! ### the two overlap tests are self-dual (since fix 48e5811); the pre-fix bodies were not

Before the fix a range INSIDE the other one that shared only its RIGHT end was sent to the partial-overlap branch
(`range1[1] < range2[1]` is strict) while its mirror image, sharing the LEFT end, counted as contained.  A noise-free
read truncated inside a terminal exon so that its terminal block keeps fewer than `minimal_exon_overlap` bases is such
an input (block inside a split exon, ending at the splice site): `A_t1 unique` vs `ambiguous` for the mirror image.
The fix tests containment first.  The generated definitions (Gen/Prims.lean) are the FIXED ones; the pre-fix bodies are
`overlapsAtLeastBuggy` / `overlapsAtLeastWhenOverlapBuggy` (Model/C11Symmetry.lean). -/

/-- full strength, ALL intervals (well formed or not), all thresholds, all L -/
theorem mirror_dual_overlaps_at_least (L : Int) (a b : Iv) (d : Int) :
    overlaps_at_least (mirrorIv L a) (mirrorIv L b) d = overlaps_at_least a b d := by
  c11_prim_tac

theorem mirror_dual_overlaps_at_least_when_overlap (L : Int) (a b : Iv) (d : Int) :
    overlaps_at_least_when_overlap (mirrorIv L a) (mirrorIv L b) d = overlaps_at_least_when_overlap a b d := by
  c11_prim_tac

/-- the statements in the form the pre-fix witnesses negate -/
def OverlapsAtLeastMirror (f : Iv → Iv → Int → Bool) : Prop :=
  ∀ (L : Int) (a b : Iv) (d : Int), a.1 ≤ a.2 → b.1 ≤ b.2 → f (mirrorIv L a) (mirrorIv L b) d = f a b d

theorem overlaps_at_least_mirror : OverlapsAtLeastMirror overlaps_at_least :=
  fun L a b d _ _ => mirror_dual_overlaps_at_least L a b d
theorem overlaps_at_least_when_overlap_mirror : OverlapsAtLeastMirror overlaps_at_least_when_overlap :=
  fun L a b d _ _ => mirror_dual_overlaps_at_least_when_overlap L a b d

-- the tie inputs of the pre-fix tests are positive instances on both sides (non-degenerate: the answer is `true` although the
-- shared part, 5 positions, is shorter than the threshold 10)
example : overlaps_at_least (1, 5) (1, 9) 10 = true ∧ overlaps_at_least (mirrorIv 9 (1, 5)) (mirrorIv 9 (1, 9)) 10 = true ∧
    overlaps_at_least_when_overlap (3002, 3005) (3002, 3225) 5 = true ∧
    overlaps_at_least_when_overlap (mirrorIv 9000 (3002, 3005)) (mirrorIv 9000 (3002, 3225)) 5 = true ∧
    overlaps_at_least (3, 20) (1, 9) 5 = true ∧ overlaps_at_least (3, 20) (1, 9) 8 = false := by decide

/-- `a` and `b` share exactly one end, `a` is the shorter one and is shorter than the threshold `d`:
    the class on which the PRE-FIX tests treated the left and the right end differently -/
def EndTie (a b : Iv) (d : Int) : Prop :=
  ((a.1 = b.1 ∧ a.2 < b.2) ∨ (a.2 = b.2 ∧ b.1 < a.1)) ∧ a.2 - a.1 + 1 < d

instance (a b : Iv) (d : Int) : Decidable (EndTie a b d) := by unfold EndTie; infer_instance

/-- `a` lies inside `b`, shares only its RIGHT end with it and is shorter than `d`: where the fix changes the answer -/
def RightTie (a b : Iv) (d : Int) : Prop := a.2 = b.2 ∧ b.1 < a.1 ∧ a.2 - a.1 + 1 < d

instance (a b : Iv) (d : Int) : Decidable (RightTie a b d) := by unfold RightTie; infer_instance

/-- the fix is local: for well-formed intervals the repaired test differs from the pre-fix one exactly on `RightTie`,
    where it answers `true` (as both tests do on the mirror image) -/
theorem overlaps_at_least_fix_exact (a b : Iv) (d : Int) (ha : a.1 ≤ a.2) (hb : b.1 ≤ b.2) :
    overlaps_at_least a b d = (overlapsAtLeastBuggy a b d || decide (RightTie a b d)) := by
  rw [Bool.eq_iff_iff]
  simp only [overlaps_at_least, overlapsAtLeastBuggy, RightTie]; grind

theorem overlaps_at_least_when_overlap_fix_exact (a b : Iv) (d : Int) :
    overlaps_at_least_when_overlap a b d = (overlapsAtLeastWhenOverlapBuggy a b d || decide (RightTie a b d)) := by
  rw [Bool.eq_iff_iff]
  simp only [overlaps_at_least_when_overlap, overlapsAtLeastWhenOverlapBuggy, RightTie]; grind

example : RightTie (3002, 3005) (2125, 3005) 5 ∧ overlapsAtLeastWhenOverlapBuggy (3002, 3005) (2125, 3005) 5 = false ∧
    overlaps_at_least_when_overlap (3002, 3005) (2125, 3005) 5 = true := by decide

/-- exact characterisation of the PRE-FIX test: mirror-symmetric iff there is no end tie -/
theorem overlapsAtLeastBuggy_mirror_iff (L : Int) (a b : Iv) (d : Int) (ha : a.1 ≤ a.2) (hb : b.1 ≤ b.2) :
    overlapsAtLeastBuggy (mirrorIv L a) (mirrorIv L b) d = overlapsAtLeastBuggy a b d ↔ ¬ EndTie a b d := by
  rw [Bool.eq_iff_iff]
  simp only [overlapsAtLeastBuggy, mirrorIv, EndTie]; grind

theorem overlapsAtLeastBuggy_mirror_partial (L : Int) (a b : Iv) (d : Int) (ha : a.1 ≤ a.2) (hb : b.1 ≤ b.2)
    (h : ¬ EndTie a b d) :
    overlapsAtLeastBuggy (mirrorIv L a) (mirrorIv L b) d = overlapsAtLeastBuggy a b d :=
  (overlapsAtLeastBuggy_mirror_iff L a b d ha hb).mpr h

/-- regression witness of the fixed defect: a read span (1,5) inside an intron (1,9) sharing its LEFT end counted as
    "overlapping by at least 10", its mirror image (5,9) sharing the RIGHT end did not (L = 9 maps one onto the other) -/
theorem overlapsAtLeastBuggy_mirror_witness : ¬ OverlapsAtLeastMirror overlapsAtLeastBuggy := by
  intro h
  have := h 9 (1, 5) (1, 9) 10 (by decide) (by decide)
  revert this; decide

-- non-vacuity of the partial form: a non-tied pair that satisfies the hypotheses and is a positive instance
example : ¬ EndTie (3, 20) (1, 9) 5 ∧ overlapsAtLeastBuggy (3, 20) (1, 9) 5 = true ∧
    overlapsAtLeastBuggy (mirrorIv 30 (3, 20)) (mirrorIv 30 (1, 9)) 5 = true := by decide

theorem overlapsAtLeastWhenOverlapBuggy_mirror_iff (L : Int) (a b : Iv) (d : Int) :
    overlapsAtLeastWhenOverlapBuggy (mirrorIv L a) (mirrorIv L b) d = overlapsAtLeastWhenOverlapBuggy a b d
      ↔ ¬ EndTie a b d := by
  rw [Bool.eq_iff_iff]
  simp only [overlapsAtLeastWhenOverlapBuggy, mirrorIv, EndTie]; grind

theorem overlapsAtLeastWhenOverlapBuggy_mirror_partial (L : Int) (a b : Iv) (d : Int) (h : ¬ EndTie a b d) :
    overlapsAtLeastWhenOverlapBuggy (mirrorIv L a) (mirrorIv L b) d = overlapsAtLeastWhenOverlapBuggy a b d :=
  (overlapsAtLeastWhenOverlapBuggy_mirror_iff L a b d).mpr h

/-- the noise-free read that exposed the defect: terminal block (3002,3005) of a 3'-truncated read inside the split exon
    (3002,3225), threshold `minimal_exon_overlap` = 5 -- present; its mirror image (L = 9000) -- absent -/
theorem overlapsAtLeastWhenOverlapBuggy_mirror_witness : ¬ OverlapsAtLeastMirror overlapsAtLeastWhenOverlapBuggy := by
  intro h
  have := h 9000 (3002, 3005) (3002, 3225) 5 (by decide) (by decide)
  revert this; decide

example : ¬ EndTie (3, 20) (1, 9) 5 ∧ overlapsAtLeastWhenOverlapBuggy (3, 20) (1, 9) 5 = true := by decide

/-! ### left/right event names: every table that decides on event types is closed under the swap

`swapLR` (Model/C11Symmetry.lean) pairs `X_left…` with `X_right…`; its agreement with the member NAMES of the
Python enum is checked through the driver on every run.  The tables below are *generated* from
src/isoform_assignment.py, so an edit that puts only one side of a pair into a set, or gives the two sides
different costs, re-opens exactly these obligations (each is a `decide` over the whole enum). -/

theorem swapLR_involutive (e : MatchEventSubtype) : swapLR (swapLR e) = e :=
  Lemmas.forall_events (P := fun e => swapLR (swapLR e) = e) (by decide +kernel) e

theorem swapLR_eq_iff (a b : MatchEventSubtype) : swapLR a = b ↔ a = swapLR b :=
  ⟨fun h => by rw [← h, swapLR_involutive], fun h => by rw [h, swapLR_involutive]⟩

theorem mirror_dual_is_consistent (e : MatchEventSubtype) : (swapLR e).is_consistent = e.is_consistent :=
  Lemmas.forall_events (P := fun e => (swapLR e).is_consistent = e.is_consistent) (by decide +kernel) e
theorem mirror_dual_is_minor_error (e : MatchEventSubtype) : (swapLR e).is_minor_error = e.is_minor_error :=
  Lemmas.forall_events (P := fun e => (swapLR e).is_minor_error = e.is_minor_error) (by decide +kernel) e
theorem mirror_dual_is_alignment_artifact (e : MatchEventSubtype) :
    (swapLR e).is_alignment_artifact = e.is_alignment_artifact :=
  Lemmas.forall_events (P := fun e => (swapLR e).is_alignment_artifact = e.is_alignment_artifact) (by decide +kernel) e
theorem mirror_dual_is_major_elongation (e : MatchEventSubtype) :
    (swapLR e).is_major_elongation = e.is_major_elongation :=
  Lemmas.forall_events (P := fun e => (swapLR e).is_major_elongation = e.is_major_elongation) (by decide +kernel) e
theorem mirror_dual_is_minor_elongation (e : MatchEventSubtype) :
    (swapLR e).is_minor_elongation = e.is_minor_elongation :=
  Lemmas.forall_events (P := fun e => (swapLR e).is_minor_elongation = e.is_minor_elongation) (by decide +kernel) e
theorem mirror_dual_is_major_inconsistency (e : MatchEventSubtype) :
    (swapLR e).is_major_inconsistency = e.is_major_inconsistency :=
  Lemmas.forall_events (P := fun e => (swapLR e).is_major_inconsistency = e.is_major_inconsistency) (by decide +kernel) e
theorem mirror_dual_is_intronic_inconsistency (e : MatchEventSubtype) :
    (swapLR e).is_intronic_inconsistency = e.is_intronic_inconsistency :=
  Lemmas.forall_events (P := fun e => (swapLR e).is_intronic_inconsistency = e.is_intronic_inconsistency) (by decide +kernel) e
/-- both sides of a pair cost the same (so the penalty of a mirrored event list is the penalty of the original) -/
theorem mirror_dual_event_cost (e : MatchEventSubtype) :
    event_cost_hundredths (swapLR e) = event_cost_hundredths e :=
  Lemmas.forall_events (P := fun e => event_cost_hundredths (swapLR e) = event_cost_hundredths e)
    (by decide +kernel) e
/-- the swap is not the identity: the sided members really move (non-vacuity of the table theorems) -/
example : swapLR .exon_elongation_left = .exon_elongation_right ∧ swapLR .fsm = .fsm ∧
    MatchEventSubtype.is_minor_error .exon_elongation_left = true := by decide

end IsoVerif.Props.C11
