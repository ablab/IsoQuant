/-
C05 — every alignment accounted for in an experiment made of SEVERAL BAM files, both memory modes.

Theorems about `Model/RegionsMulti.lean`: the composition of C12's model of `BAMOnlineMerger` (k-way merge on
`(reference_start, reference_end, bam_index)`) with C05's model of the storages, `split_coverage_regions` and the
statistics.  For every number of files, every tuple of coordinate-sorted files (sorted by start only) and every `rest`
(the part of a record that the merger does not look at).  No bounds.

`ValidFiles files L` (Lemmas/RegionsMulti.lean): every file sorted by `reference_start`, every record with at least one
reference base and inside the scan interval `[0, L]`, `L` = `get_chromosome_length()` (the largest length among the
files whose header lists the sequence: `Model/ChromHeaders.lean`, `Props/C05Headers.lean`).
-/
import IsoVerif.Model.RegionsMulti
import IsoVerif.Lemmas.RegionsMulti
import IsoVerif.Lemmas.RegionsMultiEmpty
import IsoVerif.Lemmas.RegionsMultiOrder
import IsoVerif.Props.C05
import IsoVerif.Lemmas.BamClusters

namespace IsoVerif.Props.C05Multi
open IsoVerif.Gen IsoVerif.Model IsoVerif.Model.Regions IsoVerif.Model.RegionsMulti
open IsoVerif.Lemmas.Regions IsoVerif.Lemmas.RegionsMulti
open IsoVerif.Lemmas.C12 (Forall2)

/-- **multi_region_per_file_exact** (both memory modes): the collector terminates without error and, for every region it
    forwards and every file index `i`, the alignments handed over WITH bam index `i` are exactly the records of file `i`
    that `fetch` returns for that region, in file order.  So nothing is invented, nothing is repeated inside a region,
    every label is the index of the file the record came from, and what is forwarded under label `i` depends on file
    `i` and the region only — an empty file, or a file without a record in the region, contributes nothing and changes
    nothing under the other labels. -/
theorem multi_region_per_file_exact (m : Mode) (rest : Nat → Aln) (files : List (List C12.Aln)) (L : Int)
    (hv : ValidFiles files L) :
    ∃ out, collectM m rest files L = some out ∧
      ∀ p, p ∈ out → ∀ i : Nat,
        (p.2.filter (fun e => e.1 == i)).map Prod.snd = (C12.fetch p.1 (files[i]?.getD [])).map (full rest) := by
  refine ⟨_, collectM_eq m hv, ?_⟩
  intro p hp i
  obtain ⟨ms, hms, hp⟩ := List.mem_flatMap.1 hp
  obtain ⟨r, hr, rfl⟩ := List.mem_map.1 hp
  exact handed_spec m hv hms hr i

/-- **multi_every_alignment_forwarded**: every record of every file is handed to `process_alignments_in_region` for at
    least one region that it overlaps, carrying the index of ITS file — no loss through merging, clustering, region
    splitting, the bin index of the in-memory storage or the per-region re-fetch, in either memory mode. -/
theorem multi_every_alignment_forwarded (m : Mode) (rest : Nat → Aln) (files : List (List C12.Aln)) (L : Int)
    (hv : ValidFiles files L) :
    ∃ out, collectM m rest files L = some out ∧
      ∀ (i : Nat) (f : List C12.Aln), files[i]? = some f → ∀ b, b ∈ f →
        ∃ p, p ∈ out ∧ (i, full rest b) ∈ p.2 ∧ overlaps p.1 (full rest b).iv = true := by
  refine ⟨_, collectM_eq m hv, ?_⟩
  intro i f hfi b hb
  have hflat : b ∈ files.flatten := List.mem_flatten.2 ⟨f, List.mem_of_getElem? hfi, hb⟩
  obtain ⟨ms, hms, r, hr, hin⟩ := covered (rest := rest) hv hflat
  refine ⟨(r, handed m rest files ms r), ?_, ?_, ?_⟩
  · exact List.mem_flatMap.2 ⟨ms, hms, List.mem_map.2 ⟨r, hr, rfl⟩⟩
  · have hmem : full rest b ∈ (C12.fetch r (files[i]?.getD [])).map (full rest) := by
      rw [hfi]; exact List.mem_map_of_mem (List.mem_filter.2 ⟨hb, hin⟩)
    rw [← handed_spec m hv hms hr i] at hmem
    obtain ⟨⟨j, a⟩, he, he2⟩ := List.mem_map.1 hmem
    obtain ⟨he1, hi⟩ := List.mem_filter.1 he
    simp only [beq_iff_eq] at hi he2
    subst hi he2
    exact he1
  · show overlaps r (full rest b).iv = true
    rw [ov_full]; exact hin

/-- **multi_index_is_own_file**: whatever is forwarded with bam index `i` is a record of file `i` (so the file name looked
    up for the read group is the name of the file that holds the record), and it overlaps the region it is forwarded for -/
theorem multi_index_is_own_file (m : Mode) (rest : Nat → Aln) (files : List (List C12.Aln)) (L : Int)
    (hv : ValidFiles files L) :
    ∃ out, collectM m rest files L = some out ∧
      ∀ p, p ∈ out → ∀ e, e ∈ p.2 →
        ∃ f, files[e.1]? = some f ∧ ∃ b, b ∈ f ∧ full rest b = e.2 ∧ overlaps p.1 e.2.iv = true := by
  obtain ⟨out, hout, hspec⟩ := multi_region_per_file_exact m rest files L hv
  refine ⟨out, hout, ?_⟩
  intro p hp e he
  have hs := hspec p hp e.1
  have hmem : e.2 ∈ (p.2.filter (fun x => x.1 == e.1)).map Prod.snd :=
    List.mem_map_of_mem (List.mem_filter.2 ⟨he, by simp⟩)
  rw [hs] at hmem
  obtain ⟨b, hb, hbe⟩ := List.mem_map.1 hmem
  obtain ⟨hbf, hin⟩ := List.mem_filter.1 hb
  cases hf : files[e.1]? with
  | none => rw [hf] at hbf; simp at hbf
  | some f =>
    rw [hf] at hbf
    refine ⟨f, rfl, b, hbf, hbe, ?_⟩
    rw [← hbe, ov_full]; exact hin

/-- **multi_memory_modes_same_multiset**: default mode and `--high_memory` forward the same sequence of regions and, region
    by region, the same multiset of `(file index, alignment)` pairs.  (`multi_memory_modes_equal` below: even the
    order inside a region is the same.) -/
theorem multi_memory_modes_same_multiset (rest : Nat → Aln) (files : List (List C12.Aln)) (L : Int)
    (hv : ValidFiles files L) :
    ∃ om ob, collectM .memory rest files L = some om ∧ collectM .bam rest files L = some ob ∧
      Forall2 (fun p q => p.1 = q.1 ∧ p.2.Perm q.2) om ob := by
  exact ⟨_, _, collectM_eq .memory hv, (collectM_modes_eq rest hv).symm.trans (collectM_eq .memory hv),
    Lemmas.C12.forall2_refl_of _ fun _ _ => ⟨rfl, .refl _⟩⟩

/-- **merger_commutes_with_fetch**: `BAMOnlineMerger` over the re-fetched files yields the whole-chromosome merged stream
    restricted to the region IN THE SAME ORDER — although the k-way merge is not a sort (files are sorted by start only,
    ties on `(start, end)` are broken by file index, the order among equal starts inside a file is arbitrary) -/
theorem merger_commutes_with_fetch (files : List (List C12.Aln)) (hs : ∀ f ∈ files, Lemmas.C12.SortedStart f) (r : Iv) :
    C12.merge (files.map (C12.fetch r)) = (C12.merge files).filter (fun e => inR r e.2) :=
  merge_filter (inR r) (inR_upClosed r) files hs

/-- **multi_memory_modes_equal** (list equality): default mode and `--high_memory` hand exactly the same
    `(region, [(file index, alignment)])` sequence to `process_alignments_in_region`, also when the experiment has
    several files — the multi-file form of `Props.C05.memory_mode_equal` (used by C06) -/
theorem multi_memory_modes_equal (rest : Nat → Aln) (files : List (List C12.Aln)) (L : Int) (hv : ValidFiles files L) :
    collectM .memory rest files L = collectM .bam rest files L :=
  collectM_modes_eq rest hv

/-- **multi_group_is_own_file**: with one name per file, the expression `bam_pairs[bam_index][1]` never raises for a
    forwarded pair and the file-name grouper returns the group of the file that holds the record -/
theorem multi_group_is_own_file (m : Mode) (rest : Nat → Aln) (files : List (List C12.Aln)) (L : Int)
    (hv : ValidFiles files L) (names : List String) (readable : String → Option String)
    (hn : names.length = files.length) :
    ∃ out, collectM m rest files L = some out ∧
      ∀ p, p ∈ out → ∀ e, e ∈ p.2 →
        ∃ f name, files[e.1]? = some f ∧ names[e.1]? = some name ∧ (∃ b, b ∈ f ∧ full rest b = e.2) ∧
          fileGroup names readable e.1 =
            some (match readable name with | some n => n | none => if name = "" then "NA" else name) := by
  obtain ⟨out, hout, hown⟩ := multi_index_is_own_file m rest files L hv
  refine ⟨out, hout, ?_⟩
  intro p hp e he
  obtain ⟨f, hf, b, hb, hbe, _⟩ := hown p hp e he
  have hlt : e.1 < names.length := by
    obtain ⟨h, _⟩ := List.getElem?_eq_some_iff.1 hf
    exact hn ▸ h
  refine ⟨f, names[e.1], hf, List.getElem?_eq_getElem hlt, ⟨b, hb, hbe⟩, ?_⟩
  unfold fileGroup
  rw [List.getElem?_eq_getElem hlt]
  simp only
  cases readable names[e.1] with
  | some n => rfl
  | none => exact (apply_ite some _ _ _).symm

/-- **multi_stats_equal_union**: the alignment statistics of a chromosome equal the per-category record counts of the
    union of the files (each record counted once, whatever file it is in and however the cluster is split) -/
theorem multi_stats_equal_union (rest : Nat → Aln) (files : List (List C12.Aln)) (L : Int) (hv : ValidFiles files L) :
    chromStats rest files L AlignmentType.secondary =
      ((files.flatten.map (full rest)).filter (fun a => a.secondary)).length ∧
    chromStats rest files L AlignmentType.supplementary =
      ((files.flatten.map (full rest)).filter (fun a => !a.secondary && a.supplementary)).length ∧
    chromStats rest files L AlignmentType.primary =
      ((files.flatten.map (full rest)).filter (fun a => !a.secondary && !a.supplementary && a.mapped)).length ∧
    chromStats rest files L AlignmentType.unaligned = 0 := by
  have hperm : ((scanStream rest files L).map Prod.snd).Perm (files.flatten.map (full rest)) := by
    rw [scan_eq rest hv, List.map_map]
    have := (Lemmas.C12.merge_perm_aux files).map (full rest)
    rw [List.map_map] at this
    exact this
  obtain ⟨h1, h2, h3, h4⟩ := Props.C05.stats_equal_categories ((scanStream rest files L).map Prod.snd)
  unfold chromStats
  rw [stats_eq]
  exact ⟨h1.trans (hperm.filter _).length_eq, h2.trans (hperm.filter _).length_eq, h3.trans (hperm.filter _).length_eq, h4⟩

/-- the count over the union of the files is the sum of the counts of the files -/
theorem union_count_is_sum {α β : Type} (g : α → β) (p : β → Bool) (files : List (List α)) :
    ((files.flatten.map g).filter p).length = (files.map (fun f => ((f.map g).filter p).length)).sum := by
  induction files with
  | nil => rfl
  | cons f fs ih =>
    simp only [List.flatten_cons, List.map_append, List.filter_append, List.length_append, List.map_cons, List.sum_cons, ih]

/-- **experiment_stats_equal_union**: the counter printed after "Alignments collected" (per-chromosome counters merged,
    then `bam.unmapped` of every file) = per category the sum over the chromosomes of the counts of the union of the
    files; `unaligned` = the sum of the unaligned reads of all files -/
theorem experiment_stats_equal_union (rest : Nat → Aln) (chroms : List (List (List C12.Aln) × Int)) (unmapped : List Nat)
    (hv : ∀ c, c ∈ chroms → ValidFiles c.1 c.2) :
    experimentStats rest chroms unmapped AlignmentType.secondary =
      (chroms.map (fun c => ((c.1.flatten.map (full rest)).filter (fun a => a.secondary)).length)).sum ∧
    experimentStats rest chroms unmapped AlignmentType.supplementary =
      (chroms.map (fun c => ((c.1.flatten.map (full rest)).filter (fun a => !a.secondary && a.supplementary)).length)).sum ∧
    experimentStats rest chroms unmapped AlignmentType.primary =
      (chroms.map (fun c => ((c.1.flatten.map (full rest)).filter
        (fun a => !a.secondary && !a.supplementary && a.mapped)).length)).sum ∧
    experimentStats rest chroms unmapped AlignmentType.unaligned = unmapped.sum := by
  have hs : ∀ c, c ∈ chroms → _ := fun c hc => multi_stats_equal_union rest c.1 c.2 (hv c hc)
  have key : ∀ (t : AlignmentType) (g : List (List C12.Aln) × Int → Nat),
      (∀ c, c ∈ chroms → chromStats rest c.1 c.2 t = g c) →
      experimentStats rest chroms unmapped t =
        if t = AlignmentType.unaligned then (chroms.map g).sum + unmapped.sum else (chroms.map g).sum := by
    intro t g hg
    unfold experimentStats
    rw [addUnaligned_apply, mergeFold_apply, List.map_congr_left hg]
    simp only [Nat.zero_add]
  exact ⟨key _ _ fun c hc => (hs c hc).1, key _ _ fun c hc => (hs c hc).2.1, key _ _ fun c hc => (hs c hc).2.2.1,
    (key _ _ fun c hc => (hs c hc).2.2.2).trans (by simp [List.map_const'])⟩

/-- **empty_file_changes_nothing** (list equality, both memory modes, no hypothesis on the files): inserting a file without
    records at position `j` leaves the forwarded regions and alignments exactly as they were, in the same order; only
    the bam indices `≥ j` grow by one.  Neither the priming of the merger nor the numbering of the files may depend
    on which files have a record in the region. -/
theorem empty_file_changes_nothing (m : Mode) (rest : Nat → Aln) (files : List (List C12.Aln)) (L : Int) (j : Nat)
    (hj : j ≤ files.length) :
    collectM m rest (insEmpty j files) L =
      (collectM m rest files L).map (fun out => out.map (fun p => (p.1, p.2.map (shiftF j)))) := by
  unfold collectM scanStream
  rw [regionStream_insEmpty rest files (0, L) j hj, stores_relabel]
  exact collectStoresM_relabel j _ _ (forwardM_relabel m rest files j hj) _

/-- the same for the statistics -/
theorem empty_file_same_stats (rest : Nat → Aln) (files : List (List C12.Aln)) (L : Int) (j : Nat)
    (hj : j ≤ files.length) : chromStats rest (insEmpty j files) L = chromStats rest files L := by
  unfold chromStats scanStream
  rw [regionStream_insEmpty rest files (0, L) j hj, stats_eq, stats_eq, List.map_map]
  rfl

/-- **tagging_faithful**: numbering the records of files of full alignments and reading the rest of each record off its
    number gives the files back — the tagged form used by the theorems above loses no generality -/
theorem tagging_faithful (files : List (List Aln)) :
    (tagFiles 0 files).map (fun f => f.map (full (restOf files.flatten.toArray))) = files :=
  tagFiles_faithful files

/-- `ValidFiles` read on files of full alignments -/
def ValidPlain (files : List (List Aln)) (L : Int) : Prop :=
  (∀ f, f ∈ files → SortedByStart f) ∧ ∀ a, a ∈ files.flatten → 0 ≤ a.start ∧ a.start < a.stop ∧ a.stop ≤ L

/-- **multi_every_alignment_forwarded_files**: the statement on files of full alignments — every alignment of every file
    is forwarded, in either memory mode, for at least one region it overlaps, with the index of its file -/
theorem multi_every_alignment_forwarded_files (m : Mode) (files : List (List Aln)) (L : Int) (hv : ValidPlain files L) :
    ∃ out, collectFiles m files L = some out ∧
      ∀ (i : Nat) (f : List Aln), files[i]? = some f → ∀ a, a ∈ f →
        ∃ p, p ∈ out ∧ (i, a) ∈ p.2 ∧ overlaps p.1 a.iv = true := by
  have hvt : ValidFiles (tagFiles 0 files) L := validFiles_tag files L hv.1 hv.2
  obtain ⟨out, hout, hfw⟩ := multi_every_alignment_forwarded m (restOf files.flatten.toArray) (tagFiles 0 files) L hvt
  refine ⟨out, hout, ?_⟩
  intro i f hfi a ha
  have ht := congrArg (fun l => l[i]?) (tagging_faithful files)
  simp only [List.getElem?_map, hfi] at ht
  cases htf : (tagFiles 0 files)[i]? with
  | none => rw [htf] at ht; cases ht
  | some tf =>
    rw [htf] at ht
    simp only [Option.map_some, Option.some.injEq] at ht
    rw [← ht] at ha
    obtain ⟨b, hb, rfl⟩ := List.mem_map.1 ha
    exact hfw i tf htf b hb

/-! ### non-vacuity -/

def exFiles : List (List C12.Aln) := [[⟨1, 5, 0⟩, ⟨3, 9, 1⟩], [], [⟨1, 4, 2⟩, ⟨30, 39, 3⟩]]
def exRest (t : Nat) : Aln := ⟨0, 0, t == 2, false, true, 60, t⟩

example : ValidFiles exFiles 100 := by
  refine ⟨?_, ?_⟩
  · unfold exFiles Lemmas.C12.SortedStart; decide +kernel
  · unfold exFiles; decide +kernel

-- three files, the middle one empty, a secondary record in the third: both modes, indices 0 and 2, statistics
example : (collectM .bam exRest exFiles 100).map (fun o => o.map (fun p => (p.1, p.2.map (fun e => (e.1, e.2.rid))))) =
      some [((1, 8), [(2, 2), (0, 0), (0, 1)]), ((30, 38), [(2, 3)])] ∧
    (collectM .memory exRest exFiles 100).map (fun o => o.map (fun p => (p.1, p.2.map (fun e => (e.1, e.2.rid))))) =
      some [((1, 8), [(2, 2), (0, 0), (0, 1)]), ((30, 38), [(2, 3)])] ∧
    chromStats exRest exFiles 100 AlignmentType.primary = 3 ∧ chromStats exRest exFiles 100 AlignmentType.secondary = 1 := by
  decide +kernel

-- ties on start with decreasing ends inside a file, a tie on (start, end) across files: merge of the fetched = fetch of the merged
example : (∀ f ∈ ([[⟨1, 9, 0⟩, ⟨1, 3, 1⟩, ⟨1, 7, 2⟩], [⟨1, 5, 3⟩, ⟨1, 7, 4⟩]] : List (List C12.Aln)), Lemmas.C12.SortedStart f) ∧
    C12.merge (([[⟨1, 9, 0⟩, ⟨1, 3, 1⟩, ⟨1, 7, 2⟩], [⟨1, 5, 3⟩, ⟨1, 7, 4⟩]] : List (List C12.Aln)).map (C12.fetch (4, 6))) =
      [(1, ⟨1, 5, 3⟩), (1, ⟨1, 7, 4⟩), (0, ⟨1, 9, 0⟩), (0, ⟨1, 7, 2⟩)] := by
  refine ⟨?_, by decide +kernel⟩
  unfold Lemmas.C12.SortedStart; decide +kernel

example : insEmpty 1 [[(⟨1, 5, 0⟩ : C12.Aln)], [⟨1, 4, 2⟩]] = [[⟨1, 5, 0⟩], [], [⟨1, 4, 2⟩]] ∧ (1 : Nat) ≤ [[(⟨1, 5, 0⟩ : C12.Aln)], [⟨1, 4, 2⟩]].length := by
  decide +kernel

example : ValidPlain [[⟨1, 5, false, false, true, 60, 0⟩], [⟨1, 4, true, false, true, 0, 1⟩]] 10 := by
  refine ⟨?_, ?_⟩
  · unfold SortedByStart; decide +kernel
  · decide +kernel

example : fileGroup ["a.bam", "b.bam"] (fun s => if s = "a.bam" then some "a" else none) 1 = some "b.bam" ∧
    ["a.bam", "b.bam"].length = [[(⟨1, 5, 0⟩ : C12.Aln)], [⟨1, 4, 2⟩]].length := by decide +kernel

end IsoVerif.Props.C05Multi
