/-
C15, reuse clause — "a run restarted from saved assignments (`--read_assignments`) reproduces the outputs of the run
that saved them", for the modelled downstream (Model/Reuse.lean over Model/BamPipeline.lean `downstream`).

Which stage is what
  MODEL      printer, full and abridged loader, multimapper files, `_info` file (C15, Model/Serial.lean); per-read lists
             of both memory modes, `MultimapResolver.resolve` (take_best), verdict files, `ReadAssignmentLoader.get_next`
             (C08, Model/Resolver.lean); ungrouped gene / transcript counters, `dump`, `merge_counts`,
             `convert_counts_to_tpm` (C02, Model/Counter.lean); the glue of `collect_reads`, `process_sample`,
             `construct_models_in_parallel`, `merge_assignments` (Model/Reuse.lean, Model/BamPipeline.lean)
  PARAMETER  `Env.intern / name` (strings as numbers), `Env.derive` (what `GeneInfo.deserialize` re-derives from the gene
             database for a header: HYPOTHESIS = the restart is given the database of the saving run, i.e. the same
             `derive`), `Env.code` (the rest of a record), `Config` (counting strategies, order of ids, complete
             feature lists, merge order), the reference (chromosome names in `get_chr_list` order)
  OUTSIDE    printers (the read-level printers are inside the clause in Props/C15Printers.lean), transcript model construction, grouped and exon/intron counters (pipeline triple in the oracle)

Memory modes of the SAVING run (read off src/dataset_processor.py, checked on the real code by the harness):
  * second half (`process_assigned_reads`): reads the dumps in BOTH modes – it always works from the quantised records;
  * first half, resolver input: default = abridged re-read of the dumps (quantised); `--high_memory` = the
    `BasicReadAssignment(ra)` objects kept in memory (unquantised), whose `penalty_score` is `min(0.0, first penalty)`,
    i.e. 0.0 for every penalty that is not negative: the two inputs are EQUAL objects (`memory_modes_same_files`);
    they differ only for a negative first penalty in (−2^-20, 0) (`memory_mode_negative_penalty_witness`), which
    the assigner never produces (penalties are sums of non-negative event costs).
-/
import IsoVerif.Lemmas.Reuse

namespace IsoVerif.Props.C15Reuse
open IsoVerif.Gen IsoVerif.Model IsoVerif.Model.Serial IsoVerif.Model.Resolver IsoVerif.Model.C12 IsoVerif.Model.C15
open IsoVerif.Model.C02
open IsoVerif.Lemmas.Serial IsoVerif.Lemmas.Resolver IsoVerif.Lemmas.C12 IsoVerif.Lemmas.C15
open IsoVerif.Props.C15Objects IsoVerif.Props.C15Stream

/-- the tables with the `__not_aligned` line blanked -/
def forgetNotAligned (o : Output) : Output :=
  { o with geneCounts := { o.geneCounts with notAligned := 0 },
           transcriptCounts := { o.transcriptCounts with notAligned := 0 } }

/-- `merge_assignments` looks at the unaligned reads only through their total, and only for `__not_aligned` -/
theorem assemble_unaligned (cfg : Config) (u u' : List Nat) (outs : List ChrOut) :
    forgetNotAligned (assemble cfg u outs) = forgetNotAligned (assemble cfg u' outs) ∧
    (countUnaligned u = countUnaligned u' → assemble cfg u outs = assemble cfg u' outs) := by
  refine ⟨by simp [forgetNotAligned, assemble, mergeCounts], ?_⟩
  intro h
  simp [assemble, h]

theorem processSaved_unaligned (E : Env) (cfg : Config) (u u' : List Nat) (names : List String) (files : Saved)
    (h : countUnaligned u = countUnaligned u') :
    processSaved E cfg u names files = processSaved E cfg u' names files := by
  unfold processSaved
  cases readSaveInfo.run files.info with
  | none => rfl
  | some ir =>
    cases (names.zip files.chrs).zipIdx.mapM (fun x => constructChr E cfg x.2 x.1.1 x.1.2) with
    | none => rfl
    | some outs => simp only [(assemble_unaligned cfg u u' outs).2 h]

/-- on the `_info` file written by the modelled `collect_reads` the restart finds the number of unaligned reads the
    saving run had counted (fix cc73ffc), so it is the second half run with that number -/
theorem restartRun_on_saved (E : Env) (cfg : Config) (hm : Bool) (readGroups : List String) (ua : Nat)
    (chroms : List ChrIn) (files : Saved) (names : List String)
    (hsave : collectReads E hm readGroups ua chroms = some files) (u : List Nat) (hu : countUnaligned u = ua) :
    restartRun E cfg names files = processSaved E cfg u names files := by
  obtain ⟨i, hi⟩ := collectReads_info hsave
  unfold restartRun
  rw [info_file_unaligned i _ files.info hi]
  simp only [Int.toNat_natCast]
  exact processSaved_unaligned E cfg [ua] u names _ (by rw [hu]; simp [countUnaligned])

theorem savingRun_eq (E : Env) (cfg : Config) (readGroups : List String) (unmapped : List Nat) (chroms : List ChrIn) :
    savingRun E cfg readGroups unmapped chroms =
      (collectReads E cfg.highMemory readGroups (countUnaligned unmapped) chroms).bind fun files =>
        (processSaved E cfg unmapped (chroms.map (·.name)) files).map (fun o => (files, o)) := by
  unfold savingRun
  cases collectReads E cfg.highMemory readGroups (countUnaligned unmapped) chroms <;> rfl

theorem savingRun_unpack {E : Env} {cfg : Config} {readGroups : List String} {unmapped : List Nat}
    {chroms : List ChrIn} {files : Saved} {o : RunOut}
    (h : savingRun E cfg readGroups unmapped chroms = some (files, o)) :
    collectReads E cfg.highMemory readGroups (countUnaligned unmapped) chroms = some files ∧
    processSaved E cfg unmapped (chroms.map (·.name)) files = some o := by
  rw [savingRun_eq] at h
  obtain ⟨f, hc, h⟩ := Option.bind_eq_some_iff.mp h
  obtain ⟨o', ho', hfo⟩ := Option.map_eq_some_iff.mp h
  cases hfo
  exact ⟨hc, ho'⟩

/-- **restart_is_second_half_files** (the set-up aside: Props/C15Setup.lean `restart_is_second_half` adds it; after fix cc73ffc): whatever the saving run computed from the files it
    wrote (in both memory modes it computes its outputs from them), a run restarted from these files computes again –
    the loaded `_info`, the per-chromosome records and tables, the merged tables, TPM and the `__not_aligned` line. -/
theorem restart_is_second_half_files (E : Env) (cfg : Config) (readGroups : List String) (unmapped : List Nat)
    (chroms : List ChrIn) (files : Saved) (o : RunOut)
    (h : savingRun E cfg readGroups unmapped chroms = some (files, o)) :
    restartRun E cfg (chroms.map (·.name)) files = some o := by
  obtain ⟨hc, ho⟩ := savingRun_unpack h
  rw [restartRun_on_saved E cfg cfg.highMemory readGroups _ chroms files _ hc unmapped rfl]
  exact ho

/-- the restart BEFORE fix cc73ffc (`restartRunOrig`) knew nothing about unaligned reads: same loaded `_info`, same
    per-chromosome records and tables, same merged tables and TPM up to the `__not_aligned` line; everything equal only
    when the saving run saw no unaligned read (`restart_not_aligned_witness`) -/
theorem restart_orig_is_second_half (E : Env) (cfg : Config) (readGroups : List String) (unmapped : List Nat)
    (chroms : List ChrIn) (files : Saved) (o : RunOut)
    (h : savingRun E cfg readGroups unmapped chroms = some (files, o)) :
    ∃ o', restartRunOrig E cfg (chroms.map (·.name)) files = some o' ∧ o'.info = o.info ∧ o'.out.chrs = o.out.chrs ∧
      forgetNotAligned o'.out = forgetNotAligned o.out ∧ (countUnaligned unmapped = 0 → o' = o) := by
  obtain ⟨_, ho⟩ := savingRun_unpack h
  unfold restartRunOrig
  unfold processSaved at ho ⊢
  split at ho
  · rename_i info _ outs _ _
    cases ho
    refine ⟨_, rfl, rfl, rfl, (assemble_unaligned cfg [] unmapped outs).1, fun hz => ?_⟩
    rw [(assemble_unaligned cfg [] unmapped outs).2 (by rw [hz]; rfl)]
  · cases ho

/-- a save folder written before fix cc73ffc (`_info` = the three fields only) is still accepted: the restart reads 0
    unaligned reads at the end of the file and behaves as it did before the fix -/
theorem restart_on_old_info_file (E : Env) (cfg : Config) (names : List String) (files : Saved) (i : SaveInfo)
    (hold : writeSaveInfo i = some files.info) :
    restartRun E cfg names files = restartRunOrig E cfg names files := by
  unfold restartRun restartRunOrig
  rw [old_info_file_unaligned i files.info hold]
  exact processSaved_unaligned E cfg _ _ names files rfl

theorem downstream_eq_keyed (cfg : Config) (ids : Nat → Nat → Nat) (u : List Nat) (X : List (List PRec)) :
    downstream cfg ids u X = downstreamKeyed cfg u ((stampedOf ids X).map (fun x => (x.2, x.2, x.1))) := by
  unfold downstream downstreamKeyed
  simp only [List.map_map, Function.comp_def, mapM_map_opt]
  rfl

/-- the assignment ids the records carry, as the numbering `downstream` is given -/
def aidTable (X : List (List PRec)) : Nat → Nat → Nat :=
  fun c i => (((X[c]?).getD [])[i]?.map (·.basic.aid)).getD 0

/-- per chromosome: position, interned name, the records as the dump holds them (penalties truncated) under the gene
    info the restart re-derives for their header -/
def keyedOf (E : Env) (chroms : List ChrIn) : List (Nat × Nat × List PRec) :=
  chroms.zipIdx.map (fun x => (x.2, E.intern x.1.name, chrPRecs E (quantGroups x.1.groups)))

/-- the representable domain: what the round-trip theorems of Props/C15Objects.lean need of every record -/
def InDomain (chroms : List ChrIn) : Prop := ∀ c ∈ chroms, ∀ g ∈ c.groups, ∀ r ∈ g.2, RADom r ∧ r.exons ≠ []

/-- `name` undoes `intern` on every string of the experiment (chromosome names, read ids, gene and transcript ids):
    a table-based interning meets it -/
def InternOk (E : Env) (chroms : List ChrIn) : Prop := ∀ s ∈ allStrings chroms, E.name (E.intern s) = s

/-- with `--high_memory` the resolver sees the objects in memory: their first penalty is not negative -/
def MemoryModeOk (highMemory : Bool) (chroms : List ChrIn) : Prop :=
  highMemory = true → ∀ c ∈ chroms, ∀ g ∈ c.groups, ∀ r ∈ g.2, NonNegFirst r

/-- the records the saving run holds after its own write, per chromosome, in file order -/
def heldRecords (E : Env) (chroms : List ChrIn) : List (List PRec) :=
  chroms.map (fun c => chrPRecs E (quantGroups c.groups))

theorem keyedOf_stream (E : Env) (chroms : List ChrIn) :
    ((keyedOf E chroms).map (·.2.2)).flatten.map (·.basic) = streamOf E chroms := by
  have : (keyedOf E chroms).map (·.2.2) = heldRecords E chroms := by
    unfold keyedOf heldRecords
    rw [List.map_map]
    have : chroms.map (fun c => chrPRecs E (quantGroups c.groups)) =
        (chroms.zipIdx.map Prod.fst).map (fun c => chrPRecs E (quantGroups c.groups)) := by simp
    rw [this, List.map_map]
    rfl
  rw [this]
  simp only [heldRecords, streamOf, List.flatMap_def, List.map_flatten, List.map_map]
  rfl

/-- the files of the first half, read back: the resolver of the saving run ran on the compact records as the dumps hold
    them (`streamOf`, both memory modes); `_info` holds the totals computed from its output; every chromosome's verdict
    file gives back `verdictsFor`, every dump the truncated records -/
theorem saved_files_read_back (E : Env) (hm : Bool) (readGroups : List String) (chroms : List ChrIn)
    (files : Saved) (ua : Nat) (hE : InternOk E chroms)
    (hsave : collectReads E hm readGroups ua chroms = some files)
    (hdom : InDomain chroms) (hpen : MemoryModeOk hm chroms)
    (hlen : (streamOf E chroms).length < ser_TERMINATION_INT) :
    ∃ (resolved : List (Nat × List Rec)) (info : Bytes) (sv mm : ChrIn → Bytes),
      resolveStream hm (streamOf E chroms) = some resolved ∧
      writeInfoFile (infoOf readGroups (listsOf hm (streamOf E chroms)) resolved) (ua : Int) = some info ∧
      files = { info := info, chrs := chroms.map (fun c => ⟨sv c, mm c⟩) } ∧
      ∀ c ∈ chroms, loadVerdicts E c.name (mm c) = some (verdictsFor (E.intern c.name) resolved) ∧
        loadStreamFull.run (sv c) = some (quantGroups c.groups, []) := by
  obtain ⟨saves, resolved, mms, info, hs, hres, hmm, hi, rfl⟩ := collectReads_eq_some hdom hpen hsave
  obtain ⟨hnd, hfacts⟩ := resolved_facts E _ _ _ hres (streamOf_closed E chroms hE)
  have hrec : ∀ kv ∈ resolved, kv.2.length < ser_TERMINATION_INT ∧ ∀ r ∈ kv.2, r.readId = kv.1 ∧ IdsClosed E r :=
    fun kv hkv => ⟨Nat.lt_of_le_of_lt (hfacts kv hkv).1 hlen, (hfacts kv hkv).2⟩
  obtain ⟨rfl, hsall⟩ := Lemmas.mapM_eq_some_map _ ([] : Bytes) chroms saves hs
  obtain ⟨rfl, hmall⟩ := Lemmas.mapM_eq_some_map _ ([] : Bytes) chroms mms hmm
  refine ⟨resolved, info, _, _, hres, hi, by rw [List.zip_map', List.map_map], fun c hc => ⟨?_, ?_⟩⟩
  · exact loadVerdicts_written E c.name (hE _ (mem_allStrings_name hc)) resolved _ (hmall c hc) hnd hrec
  · exact (dump_decodes c.groups _ (hsall c hc) (hdom c hc)).1

/-- the second half on the files of the first, stage by stage: the restart loads the `_info` record the saving run
    computed and works chromosome by chromosome from the verdicts and records `saved_files_read_back` gives -/
theorem processSaved_spec (E : Env) (cfg : Config) (readGroups : List String) (chroms : List ChrIn)
    (files : Saved) (u : List Nat) (ua : Nat) (hE : InternOk E chroms)
    (hsave : collectReads E cfg.highMemory readGroups ua chroms = some files)
    (hdom : InDomain chroms) (hpen : MemoryModeOk cfg.highMemory chroms)
    (hlen : (streamOf E chroms).length < ser_TERMINATION_INT) :
    ∃ resolved, resolveStream cfg.highMemory (streamOf E chroms) = some resolved ∧
      processSaved E cfg u (chroms.map (·.name)) files =
        ((keyedOf E chroms).mapM (fun x => processChrKeyed cfg resolved x.1 x.2.1 x.2.2)).map (fun outs =>
          { info := infoOf readGroups (listsOf cfg.highMemory (streamOf E chroms)) resolved,
            out := assemble cfg u outs }) := by
  obtain ⟨resolved, info, sv, mm, hres, hi, rfl, hchr⟩ :=
    saved_files_read_back E cfg.highMemory readGroups chroms files ua hE hsave hdom hpen hlen
  refine ⟨resolved, hres, ?_⟩
  obtain ⟨_, ub, _, _, _, hinfo⟩ := info_file_head _ _ info [] hi
  rw [List.append_nil] at hinfo
  have hmapM : ((chroms.map (·.name)).zip (chroms.map (fun c => (⟨sv c, mm c⟩ : ChrFiles)))).zipIdx.mapM
        (fun x => constructChr E cfg x.2 x.1.1 x.1.2) =
      (keyedOf E chroms).mapM (fun x => processChrKeyed cfg resolved x.1 x.2.1 x.2.2) := by
    rw [List.zip_map', zipIdx_map', mapM_map_opt]
    unfold keyedOf
    rw [mapM_map_opt]
    apply Lemmas.mapM_congr_mem
    intro x hx
    obtain ⟨hv, hl⟩ := hchr x.1 (List.fst_mem_of_mem_zipIdx hx)
    unfold constructChr processChrKeyed
    rw [hv, hl]
    simp only
    cases loadChr (verdictsFor (E.intern x.1.name) resolved) (chrPRecs E (quantGroups x.1.groups)) <;> rfl
  unfold processSaved
  rw [hinfo, hmapM]
  cases (keyedOf E chroms).mapM (fun x => processChrKeyed cfg resolved x.1 x.2.1 x.2.2) <;> rfl

/-- **restart_reads_saved_info**: the `total_assignments / polya_found / all_read_groups` a restart loads are the ones
    the saving run computed from its resolver's output (they decide the polyA requirements of model construction and
    the columns of the grouped tables – both outside `downstream`) -/
theorem restart_reads_saved_info (E : Env) (cfg : Config) (readGroups : List String) (chroms : List ChrIn)
    (files : Saved) (ua : Nat) (hE : InternOk E chroms)
    (hsave : collectReads E cfg.highMemory readGroups ua chroms = some files)
    (hdom : InDomain chroms) (hpen : MemoryModeOk cfg.highMemory chroms)
    (hlen : (streamOf E chroms).length < ser_TERMINATION_INT) (o : RunOut)
    (ho : restartRun E cfg (chroms.map (·.name)) files = some o) :
    ∃ resolved, resolveStream cfg.highMemory (streamOf E chroms) = some resolved ∧
      o.info = infoOf readGroups (listsOf cfg.highMemory (streamOf E chroms)) resolved ∧
      o.info.readGroups = readGroups := by
  obtain ⟨resolved, hres, hp⟩ := processSaved_spec E cfg readGroups chroms files [ua] ua hE hsave hdom hpen hlen
  rw [restartRun_on_saved E cfg cfg.highMemory readGroups ua chroms files _ hsave [ua] (by simp [countUnaligned])] at ho
  rw [hp] at ho
  simp only [Option.map_eq_some_iff] at ho
  obtain ⟨outs, _, rfl⟩ := ho
  exact ⟨resolved, hres, rfl, rfl⟩

/-- `downstream` identifies a chromosome with its position: the interned chromosome names are the positions in
    `get_chr_list` order, and every record carries the `chr_id` of the chromosome it was collected on
    (`read_assignment.chr_id = self.chr_id`) -/
def ChrStamped (E : Env) (chroms : List ChrIn) : Prop :=
  ∀ i c, chroms[i]? = some c → E.intern c.name = i ∧ ∀ g ∈ c.groups, ∀ r ∈ g.2, r.chrId = c.name

theorem keyedOf_eq_stamped (E : Env) (chroms : List ChrIn) (h : ChrStamped E chroms) :
    keyedOf E chroms =
      (stampedOf (aidTable (heldRecords E chroms)) (heldRecords E chroms)).map (fun x => (x.2, x.2, x.1)) := by
  unfold keyedOf stampedOf heldRecords
  rw [zipIdx_map', List.map_map, List.map_map]
  apply List.map_congr_left
  intro x hx
  have hget : chroms[x.2]? = some x.1 := List.mem_zipIdx_iff_getElem?.mp hx
  obtain ⟨hk, hchr⟩ := h x.2 x.1 hget
  simp only [Function.comp]
  rw [stampChr_self, hk]
  intro i p hp
  obtain ⟨g, hg, r, hr, rfl⟩ := mem_chrPRecs_quant (List.mem_of_getElem? hp)
  refine ⟨?_, ?_⟩
  · show E.intern r.chrId = x.2
    rw [hchr g hg r hr, hk]
  · simp only [aidTable, List.getElem?_map, hget, Option.map_some, Option.getD_some, hp]

/-- what the second half of a run computes, as a function of the records the saving run holds after its own write: the
    `_info` record from the resolver's output on their compact form, and `C12.downstream` of them -/
def secondHalf (E : Env) (cfg : Config) (readGroups : List String) (u : List Nat) (chroms : List ChrIn) : Option RunOut :=
  (resolveStream cfg.highMemory (streamOf E chroms)).bind fun resolved =>
    (downstream cfg (aidTable (heldRecords E chroms)) u (heldRecords E chroms)).map fun out =>
      { info := infoOf readGroups (listsOf cfg.highMemory (streamOf E chroms)) resolved, out := out }

theorem secondHalf_out (E : Env) (cfg : Config) (readGroups : List String) (u : List Nat) (chroms : List ChrIn) :
    (secondHalf E cfg readGroups u chroms).map (·.out) =
      downstream cfg (aidTable (heldRecords E chroms)) u (heldRecords E chroms) := by
  obtain ⟨resolved, hres, _⟩ := resolveStream_spec cfg.highMemory (streamOf E chroms)
  rw [secondHalf, hres, Option.bind_some, Option.map_map]
  exact Option.map_id'

/-- **processSaved_on_saved** (the core of the reuse clause): on the files written by the modelled `collect_reads`
    (either memory mode), the second half – `_info`, multimapper files, FULL loader, loader verdicts, counters, merge,
    TPM – computes exactly `secondHalf` of the records the saving run holds after its own write (`quantGroups`: penalties
    truncated), for every number of unaligned reads either half is told. -/
theorem processSaved_on_saved (E : Env) (cfg : Config) (readGroups : List String) (chroms : List ChrIn)
    (files : Saved) (u : List Nat) (ua : Nat) (hE : InternOk E chroms)
    (hsave : collectReads E cfg.highMemory readGroups ua chroms = some files)
    (hdom : InDomain chroms) (hpen : MemoryModeOk cfg.highMemory chroms)
    (hlen : (streamOf E chroms).length < ser_TERMINATION_INT) (hst : ChrStamped E chroms) :
    processSaved E cfg u (chroms.map (·.name)) files = secondHalf E cfg readGroups u chroms := by
  obtain ⟨resolved, hres, hp⟩ := processSaved_spec E cfg readGroups chroms files u ua hE hsave hdom hpen hlen
  rw [hp, secondHalf, hres, downstream_eq_keyed, ← keyedOf_eq_stamped E chroms hst]
  unfold downstreamKeyed
  rw [keyedOf_stream, hres]
  simp only [Option.bind_some]
  cases (keyedOf E chroms).mapM (fun x => processChrKeyed cfg resolved x.1 x.2.1 x.2.2) <;> rfl

/-- **reuse_reproduces_outputs**.  For every list of per-chromosome record streams (gene regions with their read
    assignments) in the representable domain, written by the modelled printer in either memory mode: the loaded-record
    lists and the gene / transcript count and TPM tables that a run RESTARTED from the files computes – full loader for
    the model-construction stage, verdicts of the saving run's resolver (which read the dumps with the abridged loader,
    or, with `--high_memory`, used the objects in memory) – are those `C12.downstream` computes from the records the
    saving run held in memory after its own write (`quantRA` of the originals: penalties truncated to 2^-20) and from the
    saving run's unaligned reads, which the restart finds at the end of `_info` (fix cc73ffc); and the SAVING run's own
    outputs are `downstream` of the same records and the same unaligned reads.  So the restart reproduces the saving run's
    `downstream` outputs exactly, the `__not_aligned` line included (the restart before the fix:
    `restart_orig_is_second_half`, `restart_not_aligned_witness`).
    Hypotheses: the writers accepted the data (`hsave`); `InDomain` (ids not colliding with the None marker, dict keys
    distinct, `corrected_introns` = junctions of `corrected_exons`, at least one exon); `MemoryModeOk` (with
    `--high_memory`: first penalties not negative); fewer than 2^32 − 1 records; `InternOk`; `ChrStamped`;
    the restart is given the same `Env.derive` (gene database), `Config` and reference (chromosome names). -/
theorem reuse_reproduces_outputs (E : Env) (cfg : Config) (readGroups : List String) (unmapped : List Nat)
    (chroms : List ChrIn) (files : Saved) (hE : InternOk E chroms)
    (hsave : collectReads E cfg.highMemory readGroups (countUnaligned unmapped) chroms = some files)
    (hdom : InDomain chroms) (hpen : MemoryModeOk cfg.highMemory chroms)
    (hlen : (streamOf E chroms).length < ser_TERMINATION_INT) (hst : ChrStamped E chroms) :
    (restartRun E cfg (chroms.map (·.name)) files).map (·.out) =
      downstream cfg (aidTable (heldRecords E chroms)) unmapped (heldRecords E chroms) ∧
    (savingRun E cfg readGroups unmapped chroms).map (fun x => x.2.out) =
      downstream cfg (aidTable (heldRecords E chroms)) unmapped (heldRecords E chroms) := by
  have hp := processSaved_on_saved E cfg readGroups chroms files unmapped _ hE hsave hdom hpen hlen hst
  constructor
  · rw [restartRun_on_saved E cfg cfg.highMemory readGroups _ chroms files _ hsave unmapped rfl, hp, secondHalf_out]
  · rw [savingRun_eq, hsave, Option.bind_some, hp, Option.map_map]
    exact secondHalf_out E cfg readGroups unmapped chroms

theorem resolveStream_memory_modes (s : List Rec) : resolveStream true s = resolveStream false s := by
  simp only [resolveStream, if_true, Bool.false_eq_true, if_false,
    IsoVerif.Props.C08Flow.memory_paths_agree .take_best s]

/-- **memory_modes_same_files**: on the representable domain with non-negative first penalties, the saving run writes
    the same dumps and the same multimapper files with and without `--high_memory` – although one resolver works from
    the unquantised objects in memory and the other from the abridged re-read of the dumps -/
theorem memory_modes_same_files (E : Env) (readGroups : List String) (ua : Nat) (chroms : List ChrIn)
    (filesT filesF : Saved)
    (hT : collectReads E true readGroups ua chroms = some filesT)
    (hF : collectReads E false readGroups ua chroms = some filesF)
    (hdom : InDomain chroms) (hpen : MemoryModeOk true chroms) : filesT.chrs = filesF.chrs := by
  obtain ⟨saves, resolved, mms, _, hs, hr, hm, _, rfl⟩ := collectReads_eq_some hdom hpen hT
  obtain ⟨saves', resolved', mms', _, hs', hr', hm', _, rfl⟩ := collectReads_eq_some hdom (fun h => by cases h) hF
  cases hs.symm.trans hs'
  rw [resolveStream_memory_modes] at hr
  cases hr.symm.trans hr'
  cases hm.symm.trans hm'
  rfl

/-- no record enters resolution as `suspended` (the assigner never produces the type; only the resolver does) -/
def NoSuspendedInput (chroms : List ChrIn) : Prop :=
  ∀ c ∈ chroms, ∀ g ∈ c.groups, ∀ r ∈ g.2, r.assignmentType ≠ .suspended

/-- if moreover no input record is `suspended`, the two memory modes of `collect_reads` are one function: the same
    files, `_info` totals included, or an exception in both -/
theorem memory_modes_eq (E : Env) (readGroups : List String) (ua : Nat) (chroms : List ChrIn)
    (hdom : InDomain chroms) (hpen : MemoryModeOk true chroms) (hNS : NoSuspendedInput chroms) :
    collectReads E true readGroups ua chroms = collectReads E false readGroups ua chroms := by
  have hs : ∀ r ∈ streamOf E chroms, r.atype ≠ .suspended := by
    intro r hr
    obtain ⟨c, hc, hrc⟩ := List.mem_flatMap.mp hr
    rw [streamOf_chr] at hrc
    obtain ⟨x, hx, rfl⟩ := List.mem_map.mp hrc
    obtain ⟨g, hg, hxg⟩ := List.mem_flatMap.mp hx
    exact hNS c hc g hg x hxg
  rw [collectReads_eq E true readGroups ua chroms hdom hpen,
    collectReads_eq E false readGroups ua chroms hdom (fun h => by cases h), resolveStream_memory_modes]
  simp only [infoOf_memory_modes readGroups (streamOf E chroms) _ hs]

/-- **memory_modes_same_saved_files**: if moreover no input record is `suspended`, ALL saved files are equal in the two
    memory modes, the `_info` totals included (`--high_memory` counts the reads seen once inside
    `resolve_multimappers`, the default mode in `prepare_multimapper_dict`): a restart cannot tell which mode saved -/
theorem memory_modes_same_saved_files (E : Env) (readGroups : List String) (ua : Nat) (chroms : List ChrIn)
    (filesT filesF : Saved)
    (hT : collectReads E true readGroups ua chroms = some filesT)
    (hF : collectReads E false readGroups ua chroms = some filesF)
    (hdom : InDomain chroms) (hpen : MemoryModeOk true chroms) (hNS : NoSuspendedInput chroms) :
    filesT = filesF :=
  Option.some.inj (hT.symm.trans ((memory_modes_eq E readGroups ua chroms hdom hpen hNS).trans hF))

/-- outside that domain the two inputs of the resolver DO differ: a first penalty in (−2^-20, 0) is accepted by the
    writer (it is stored as 0), the object in memory keeps the negative value, the abridged reader returns 0.
    (The assigner never produces a negative penalty; kept visible as the edge of `MemoryModeOk`.) -/
def exNegRA : ReadAssignment :=
  { exRA with isoformMatches := [{ exMatch with penaltyScore := mkRat (-1) 2097152 }] }

theorem memory_mode_negative_penalty_witness :
    (writeReadAssignment exNegRA).isSome = true ∧ exNegRA.exons ≠ [] ∧ ¬ NonNegFirst exNegRA ∧
    (basicOf exNegRA).penaltyScore = mkRat (-1) 2097152 ∧ (basicOf (quantRA exNegRA)).penaltyScore = 0 ∧
    basicOf (quantRA exNegRA) ≠ basicOf exNegRA := by
  decide +kernel

/-- interning by a table (what the harness does): position in the table, and back -/
def tableEnv (tbl : List String) (derive : GeneHeader → List (Nat × Nat)) : Env :=
  { intern := fun s => tbl.idxOf s, name := fun n => tbl[n]?.getD "", code := fun r => r.assignmentId.toNat,
    derive := derive }

def exTable : List String := ["c1", "c2", "ra", "rb", "G1", "G2", "T1", "T2"]

/-- T1 has one intron, T2 none (what the gene database says about the genes of the header) -/
def exEnv : Env := tableEnv exTable (fun _ => [(6, 1), (7, 0)])

def mkRA (aid : Int) (rid chr g t : String) (mm : Bool) (pen : Rat) : ReadAssignment :=
  { exRA with assignmentId := aid, readId := rid, chrId := chr, multimapper := mm, assignmentType := .«unique»,
              geneAssignmentType := .«unique»,
              isoformMatches := [{ exMatch with assignedGene := some g, assignedTranscript := some t,
                                                penaltyScore := pen }] }

/-- two chromosomes; read `ra` has its primary alignment on c1 (T1 of G1, penalty 0.1 – not a multiple of 2^-20) and a
    secondary one on c2; read `rb` has one alignment on c2 -/
def exChroms : List ChrIn :=
  [{ name := "c1", groups := [({ exHeader with chrId := "c1", geneIds := ["G1"] }, [mkRA 1 "ra" "c1" "G1" "T1" false (mkRat 1 10)])] },
   { name := "c2", groups := [({ exHeader with chrId := "c2", geneIds := ["G2"] },
                                [mkRA 2 "ra" "c2" "G2" "T2" true 0, mkRA 3 "rb" "c2" "G2" "T2" false (mkRat 7 10)]),
                               ({ exHeader with chrId := "c2", geneIds := [] }, [])] }]

def exCfg (hm : Bool) : Config :=
  { highMemory := hm, geneStrategy := .unique_only, transcriptStrategy := .unique_only, le := fun a b => decide (a ≤ b),
    norm := .simple, isStatLike := fun _ => false,
    completeGenes := fun c => if c = 0 then [4] else [5], completeTranscripts := fun c => if c = 0 then [6] else [7],
    mergeOrder := [0, 1] }

theorem exChroms_noSuspended : NoSuspendedInput exChroms := by
  unfold NoSuspendedInput
  decide

-- the hypotheses of `reuse_reproduces_outputs` are met by the concrete experiment, in both memory modes ...
-- (named: Props/C15Printers.lean uses it for the non-vacuity of `files_reproduce_printed`)
theorem exChroms_hyps : InternOk exEnv exChroms ∧ InDomain exChroms ∧ MemoryModeOk true exChroms ∧ MemoryModeOk false exChroms ∧
    (streamOf exEnv exChroms).length < ser_TERMINATION_INT ∧ ChrStamped exEnv exChroms ∧
    (collectReads exEnv true ["NA"] 0 exChroms).isSome = true ∧
    (collectReads exEnv false ["NA"] 0 exChroms).isSome = true := by
  have hI : ∀ s ∈ allStrings exChroms, exEnv.name (exEnv.intern s) = s := by decide +kernel
  have hD : InDomain exChroms := by unfold InDomain; decide +kernel
  have hM : MemoryModeOk true exChroms := fun _ => by decide +kernel
  have hS : ∀ x ∈ exChroms.zipIdx, exEnv.intern x.1.name = x.2 ∧ ∀ g ∈ x.1.groups, ∀ r ∈ g.2, r.chrId = x.1.name := by
    decide +kernel
  -- the first half succeeds: evaluated on the records (`collectReads_eq`), no dump is read back
  have hF : (collectReads exEnv false ["NA"] 0 exChroms).isSome = true := by
    rw [collectReads_eq exEnv false ["NA"] 0 exChroms hD (fun h => by cases h)]
    decide +kernel
  exact ⟨hI, hD, hM, fun h => (by cases h), (by decide +kernel),
    fun i c hi => hS (c, i) (List.mem_zipIdx_iff_getElem?.mpr hi),
    memory_modes_eq exEnv ["NA"] 0 exChroms hD hM exChroms_noSuspended ▸ hF, hF⟩

-- ... also `NoSuspendedInput` (hypothesis of `memory_modes_same_saved_files`)
example : NoSuspendedInput exChroms := exChroms_noSuspended

/-- ... and everything computes on it: the verdict file of c2 holds the suspended secondary alignment of `ra`, the
    restart drops it, both memory modes write the same files, T1 and T2 count one read each, and the loaded `_info`
    says 2 assignments -/
example :
    ((collectReads exEnv false ["NA"] 0 exChroms).bind (restartRun exEnv (exCfg false) ["c1", "c2"])).map (fun o =>
        (o.info.totalAssignments, o.info.polyaAssignments, o.info.readGroups)) = some (2, 0, ["NA"]) ∧
    ((collectReads exEnv false ["NA"] 0 exChroms).bind (restartRun exEnv (exCfg false) ["c1", "c2"])).map (fun o =>
        o.out.chrs.map (fun c => c.records.map (fun p => (p.basic.readId, p.basic.aid)))) = some [[(2, 1)], [(3, 3)]] ∧
    ((collectReads exEnv false ["NA"] 0 exChroms).bind (restartRun exEnv (exCfg false) ["c1", "c2"])).map (fun o =>
        (o.out.transcriptCounts.rows, o.out.geneCounts.rows, o.out.geneCounts.notAligned)) =
      some ([(6, 100), (7, 100)], [(4, 100), (5, 100)], 0) ∧
    collectReads exEnv true ["NA"] 0 exChroms = collectReads exEnv false ["NA"] 0 exChroms ∧
    ((collectReads exEnv false ["NA"] 0 exChroms).bind (fun f => f.chrs[1]?.bind (fun c =>
        (loadVerdicts exEnv "c2" c.multimappers).map (fun d => d.map (fun kv => (kv.1, kv.2.map (fun r => (r.aid, r.atype)))))))) =
      some [(2, [(2, .suspended)])] := by
  obtain ⟨hI, hD, hM, hMf, hlen, hS, _, hsF⟩ := exChroms_hyps
  obtain ⟨files, hc⟩ := Option.isSome_iff_exists.mp hsF
  -- by the reuse theorems nothing is read back from the files: the restart is `secondHalf` of the records, the verdict
  -- file of c2 gives back `verdictsFor`
  have hrun : (secondHalf exEnv (exCfg false) ["NA"] [0] exChroms).map (fun o =>
        ((o.info.totalAssignments, o.info.polyaAssignments, o.info.readGroups),
         o.out.chrs.map (fun c => c.records.map (fun p => (p.basic.readId, p.basic.aid))))) =
      some ((2, 0, ["NA"]), [[(2, 1)], [(3, 3)]]) := by decide +kernel
  have hrows : (secondHalf exEnv (exCfg false) ["NA"] [0] exChroms).map (fun o =>
        (o.out.transcriptCounts.rows, o.out.geneCounts.rows, o.out.geneCounts.notAligned)) =
      some ([(6, 100), (7, 100)], [(4, 100), (5, 100)], 0) := by decide +kernel
  have hver : (resolveStream false (streamOf exEnv exChroms)).map (fun res =>
        (verdictsFor (exEnv.intern "c2") res).map (fun kv => (kv.1, kv.2.map (fun r => (r.aid, r.atype))))) =
      some [(2, [(2, .suspended)])] := by decide +kernel
  rw [← processSaved_on_saved exEnv (exCfg false) ["NA"] exChroms files [0] 0 hI hc hD hMf hlen hS,
    ← restartRun_on_saved exEnv (exCfg false) false ["NA"] 0 exChroms files _ hc [0] rfl] at hrun hrows
  obtain ⟨o, ho, hov⟩ := Option.map_eq_some_iff.mp hrun
  obtain ⟨h1, h2⟩ := Prod.mk.inj hov
  obtain ⟨res, _, sv, mm, hr, _, hf, hchr⟩ := saved_files_read_back exEnv false ["NA"] exChroms files 0 hI hc hD hMf hlen
  rw [hr, Option.map_some, Option.some.injEq] at hver
  obtain ⟨c2, hc2, hn⟩ : ∃ c, exChroms[1]? = some c ∧ c.name = "c2" := ⟨_, rfl, rfl⟩
  have hv := (hchr c2 (List.mem_of_getElem? hc2)).1
  rw [hn] at hv
  rw [hc, Option.bind_some, Option.bind_some, show (["c1", "c2"] : List String) = exChroms.map (·.name) from rfl,
    memory_modes_eq exEnv ["NA"] 0 exChroms hD hM exChroms_noSuspended, hc]
  refine ⟨?_, ?_, hrows, rfl, ?_⟩
  · rw [ho]; exact congrArg some h1
  · rw [ho]; exact congrArg some h2
  · rw [hf, List.getElem?_map, hc2, Option.map_some, Option.bind_some, hv, Option.map_some, hver]

/-- **restart_not_aligned_witness** (the defect repaired by fix cc73ffc, replayed on the real pipeline by the oracle,
    which expects the repaired answer): the saving run saw 5 unaligned reads and prints `__not_aligned 5`; the
    restart as it was BEFORE the fix (`restartRunOrig`) prints `__not_aligned 0` – the number was not in the saved files,
    and a restart has no BAM file to count it from.  Every other modelled output agreed
    (`restart_orig_is_second_half`). -/
theorem restart_not_aligned_witness :
    (savingRun exEnv (exCfg false) ["NA"] [2, 3] exChroms).map (fun x =>
        (x.2.out.geneCounts.notAligned, x.2.out.transcriptCounts.notAligned)) = some (5, 5) ∧
    ((savingRun exEnv (exCfg false) ["NA"] [2, 3] exChroms).bind (fun x =>
        (restartRunOrig exEnv (exCfg false) ["c1", "c2"] x.1).map (fun o =>
          (o.out.geneCounts.notAligned, o.out.transcriptCounts.notAligned)))) = some (0, 0) := by
  obtain ⟨hI, hD, _, hMf, hlen, hS, _, _⟩ := exChroms_hyps
  obtain ⟨files, hc⟩ : ∃ f, collectReads exEnv (exCfg false).highMemory ["NA"] (countUnaligned [2, 3]) exChroms = some f := by
    rw [collectReads_eq exEnv (exCfg false).highMemory _ _ exChroms hD hMf, ← Option.isSome_iff_exists]
    decide +kernel
  -- both second halves are `secondHalf` of the records: evaluated there, not through the files
  have hd : (secondHalf exEnv (exCfg false) ["NA"] [2, 3] exChroms).map
        (fun o => (o.out.geneCounts.notAligned, o.out.transcriptCounts.notAligned)) = some (5, 5) ∧
      (secondHalf exEnv (exCfg false) ["NA"] [] exChroms).map
        (fun o => (o.out.geneCounts.notAligned, o.out.transcriptCounts.notAligned)) = some (0, 0) := by
    decide +kernel
  rw [← processSaved_on_saved exEnv (exCfg false) ["NA"] exChroms files [2, 3] _ hI hc hD hMf hlen hS,
    ← processSaved_on_saved exEnv (exCfg false) ["NA"] exChroms files [] _ hI hc hD hMf hlen hS] at hd
  obtain ⟨o, ho, _⟩ := Option.map_eq_some_iff.mp hd.1
  rw [ho] at hd
  rw [savingRun_eq, hc, Option.bind_some, ho]
  exact hd

/-- the concrete experiment with 5 unaligned reads (2 + 3 in two BAM files): the saving run prints `__not_aligned 5`
    and so does the run restarted from its files (fix cc73ffc) -/
example :
    (savingRun exEnv (exCfg false) ["NA"] [2, 3] exChroms).map (fun x =>
        (x.2.out.geneCounts.notAligned, x.2.out.transcriptCounts.notAligned)) = some (5, 5) ∧
    ((savingRun exEnv (exCfg false) ["NA"] [2, 3] exChroms).bind (fun x =>
        (restartRun exEnv (exCfg false) ["c1", "c2"] x.1).map (fun o =>
          (o.out.geneCounts.notAligned, o.out.transcriptCounts.notAligned)))) = some (5, 5) := by
  have h := restart_not_aligned_witness.1
  refine ⟨h, ?_⟩
  cases hs : savingRun exEnv (exCfg false) ["NA"] [2, 3] exChroms with
  | none => rw [hs] at h; cases h
  | some x =>
    rw [hs] at h
    rw [Option.bind_some, show ["c1", "c2"] = exChroms.map (·.name) from rfl,
      restart_is_second_half_files _ _ _ _ _ x.1 x.2 hs]
    exact h

end IsoVerif.Props.C15Reuse
