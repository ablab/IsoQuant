/-
C13 — exon / intron inclusion and exclusion counts equal a recount from the alignments.
Part 1: the counters (src/long_read_counter.py ProfileFeatureCounter / ExonCounter / IntronCounter), the dumped
tables and their row identity.  Property theorems (and the two instances `hupd_merge`, `hupd_keepFirst`); helper lemmas are in IsoVerif/Lemmas/C13Counts.lean.

A *history* is the list of read events (gene profile, property map of the read's GeneInfo, read group) fed to a
counter in order; `countAll key upd ignore dflt evs` is the counter state after the whole history (`none` = the code
raised IndexError), `dumpRows` the table it writes.  `key = coordKey`, `upd = FeatureInfo.merge` is the code (since
fix a72c642: rows keyed by (chr, start, end), descriptions merged); `strandKey`, `keepFirst` the code between
fix a8ffd5c and that fix (`…Orig`); `idKey`, `keepFirst` the code before a8ffd5c.  `hupd` (re-describing a row does not change its
key) holds for all three (`hupd_merge`, `hupd_keepFirst`).
-/
import IsoVerif.Model.FeatureCounts
import IsoVerif.Lemmas.C13Counts
import IsoVerif.Lemmas.C13Merge

namespace IsoVerif.Props.C13
open IsoVerif.Gen IsoVerif.Model IsoVerif.Model.C13 IsoVerif.Lemmas.C13

variable {κ : Type} [BEq κ] [LawfulBEq κ] {upd : FeatureInfo → FeatureInfo → FeatureInfo}

theorem hupd_merge : ∀ a b : FeatureInfo, coordKey (a.merge b) = coordKey a := merge_coordKey
omit [BEq κ] [LawfulBEq κ] in
theorem hupd_keepFirst (key : FeatureInfo → κ) : ∀ a b : FeatureInfo, key (keepFirst a b) = key a := fun _ _ => rfl

/-- the include count of feature key `k` in group `g` is the number of (processed read, profile position) pairs
    filed under `g` whose profile value is +1 at a feature with key `k` (`hits` = number of such positions of one read).
    `hupd` is not used here (the counts do not depend on how rows are re-described); it is a hypothesis of the dump theorems. -/
theorem include_counts (key : FeatureInfo → κ) (hupd : ∀ a b, key (upd a b) = key a) (ignore : Bool) (dflt : String) (evs : List ReadEv) (st : PCounter κ)
    (h : countAll key upd ignore dflt evs = some st) (k : κ) (g : String) :
    st.inclOf k g =
      ((evs.filter (fun ev => groupOf ignore dflt ev == g)).map (fun ev => hits key 1 k ev.profile ev.pmap)).sum :=
  countAll_counts key ignore dflt evs st h 1 (.inl rfl) k g

theorem exclude_counts (key : FeatureInfo → κ) (hupd : ∀ a b, key (upd a b) = key a) (ignore : Bool) (dflt : String) (evs : List ReadEv) (st : PCounter κ)
    (h : countAll key upd ignore dflt evs = some st) (k : κ) (g : String) :
    st.exclOf k g =
      ((evs.filter (fun ev => groupOf ignore dflt ev == g)).map (fun ev => hits key (-1) k ev.profile ev.pmap)).sum :=
  countAll_counts key ignore dflt evs st h (-1) (.inr rfl) k g

/-- when the features of every property map have distinct keys (true of `set_feature_properties` under `coordKey`,
    see `feature_keys_nodup`), a read contributes at most once: the count of the mark `v` is the *number of processed
    reads* of the group whose profile is `v` at the feature -/
theorem counts_reads (key : FeatureInfo → κ) (ignore : Bool) (dflt : String) (evs : List ReadEv) (st : PCounter κ)
    (h : countAll key upd ignore dflt evs = some st) (hnd : ∀ ev ∈ evs, (ev.pmap.map key).Nodup) (v : Int)
    (hv : v = 1 ∨ v = -1) (k : κ) (g : String) :
    cntOf v st k g = (evs.filter (fun ev => groupOf ignore dflt ev == g)).countP (marks key v k) := by
  rw [countAll_counts key ignore dflt evs st h v hv k g, ← IsoVerif.Lemmas.sum_ite_eq_countP]
  exact congrArg List.sum (List.map_congr_left fun ev hev => hits_eq_marks key v k ev (hnd ev (List.mem_filter.mp hev).1))

theorem include_counts_reads (key : FeatureInfo → κ) (ignore : Bool) (dflt : String) (evs : List ReadEv) (st : PCounter κ)
    (h : countAll key upd ignore dflt evs = some st) (hnd : ∀ ev ∈ evs, (ev.pmap.map key).Nodup) (k : κ) (g : String) :
    st.inclOf k g = (evs.filter (fun ev => groupOf ignore dflt ev == g)).countP (marks key 1 k) :=
  counts_reads key ignore dflt evs st h hnd 1 (.inl rfl) k g

theorem exclude_counts_reads (key : FeatureInfo → κ) (ignore : Bool) (dflt : String) (evs : List ReadEv) (st : PCounter κ)
    (h : countAll key upd ignore dflt evs = some st) (hnd : ∀ ev ∈ evs, (ev.pmap.map key).Nodup) (k : κ) (g : String) :
    st.exclOf k g = (evs.filter (fun ev => groupOf ignore dflt ev == g)).countP (marks key (-1) k) :=
  counts_reads key ignore dflt evs st h hnd (-1) (.inr rfl) k g

-- non-vacuity: a history of three reads over two loads of the same gene (different running ids), two groups
def exFi (id : Nat) (s e : Int) : FeatureInfo :=
  { id := id, chr := "chr1", start := s, stop := e, strand := "+", ftype := "I", genes := ["g1"] }
def exHistory : List ReadEv :=
  [{ profile := [1, -1], pmap := [exFi 1 10 20, exFi 2 30 40], group := "A" },
   { profile := [1, 1], pmap := [exFi 3 10 20, exFi 4 30 40], group := "B" },
   { profile := [0, -1], pmap := [exFi 1 10 20, exFi 2 30 40], group := "A" }]

example : ∃ st, countAll coordKey FeatureInfo.merge true "NA" exHistory = some st ∧
    st.inclOf ("chr1", 10, 20) "NA" = 2 ∧ st.exclOf ("chr1", 30, 40) "NA" = 2 ∧
    (∀ ev ∈ exHistory, (ev.pmap.map coordKey).Nodup) := by
  exact ⟨_, rfl, by decide +kernel⟩

/-- every dumped row carries the counts of its (feature key, group) and at least one of them is positive -/
theorem dump_row_counts (key : FeatureInfo → κ) (hupd : ∀ a b, key (upd a b) = key a) (ignore : Bool) (dflt : String) (evs : List ReadEv) (st : PCounter κ)
    (h : countAll key upd ignore dflt evs = some st) (r : CountRow) (hr : r ∈ dumpRows st) :
    r.incl = st.inclOf (key r.fi) r.group ∧ r.excl = st.exclOf (key r.fi) r.group ∧ (0 < r.incl ∨ 0 < r.excl) := by
  obtain ⟨_, hN, _⟩ := countAll_spec key hupd h
  obtain ⟨k, hk, gid, hgid, hi, he, hpos⟩ := (mem_dumpRows st r).mp hr
  have : key r.fi = k := hN.names_key _ hk
  subst this
  simp [PCounter.inclOf, PCounter.exclOf, hgid, hi, he]
  rw [← hi, ← he]; exact hpos

/-- every (feature key, group) with a positive count has a row -/
theorem dump_complete (key : FeatureInfo → κ) (hupd : ∀ a b, key (upd a b) = key a) (ignore : Bool) (dflt : String) (evs : List ReadEv) (st : PCounter κ)
    (h : countAll key upd ignore dflt evs = some st) (k : κ) (g : String) (hpos : 0 < st.inclOf k g ∨ 0 < st.exclOf k g) :
    ∃ r ∈ dumpRows st, key r.fi = k ∧ r.group = g ∧ r.incl = st.inclOf k g ∧ r.excl = st.exclOf k g := by
  obtain ⟨_, hN, _⟩ := countAll_spec key hupd h
  unfold PCounter.inclOf PCounter.exclOf at hpos ⊢
  cases hl : st.groupIds.lookup g with
  | none => simp [hl] at hpos
  | some gid =>
    simp only [hl] at hpos ⊢
    have hmem : k ∈ st.names.map (·.1) := hN.counted_named k gid (by omega)
    obtain ⟨⟨k', fi⟩, hp, hpk⟩ := List.mem_map.mp hmem
    simp only at hpk; subst hpk
    refine ⟨{ fi := fi, group := g, incl := getCount st.incl (k', gid), excl := getCount st.excl (k', gid) }, ?_, ?_, rfl, rfl, rfl⟩
    · exact (mem_dumpRows st _).mpr ⟨k', hp, gid, hl, rfl, rfl, hpos⟩
    · exact hN.names_key _ hp

/-- ONE ROW PER FEATURE (full strength, the code since fix a72c642): for every history of loads - the same
    annotated feature described by gene infos built from any gene subsets, in any order, under any strand strings -
    no two rows of the dumped table have the same chromosome, start, end and group -/
theorem one_row_per_feature (ignore : Bool) (dflt : String) (evs : List ReadEv) (st : PCounter CoordKey)
    (h : countAll coordKey FeatureInfo.merge ignore dflt evs = some st) :
    ((dumpRows st).map (fun r => ((r.fi.chr, r.fi.start, r.fi.stop), r.group))).Nodup := by
  obtain ⟨hG, hN, _⟩ := countAll_spec coordKey hupd_merge h
  exact dumpRows_nodup coordKey st hG hN

/-- the code before fix a72c642 (rows keyed by (chr, start, end, strand string), first description kept): rows are
    unique only up to the strand string -/
theorem one_row_per_feature_strand_partial (ignore : Bool) (dflt : String) (evs : List ReadEv) (st : PCounter StrandKey)
    (h : countAll strandKey keepFirst ignore dflt evs = some st) :
    ((dumpRows st).map (fun r => ((r.fi.chr, r.fi.start, r.fi.stop, r.fi.strand), r.group))).Nodup := by
  obtain ⟨hG, hN, _⟩ := countAll_spec strandKey (hupd_keepFirst strandKey) h
  exact dumpRows_nodup strandKey st hG hN

/-- the same statement for any row key: rows never share (key, group) -/
theorem one_row_per_key (key : FeatureInfo → κ) (hupd : ∀ a b, key (upd a b) = key a) (ignore : Bool) (dflt : String) (evs : List ReadEv) (st : PCounter κ)
    (h : countAll key upd ignore dflt evs = some st) :
    ((dumpRows st).map (fun r => (key r.fi, r.group))).Nodup := by
  obtain ⟨hG, hN, _⟩ := countAll_spec key hupd h
  exact dumpRows_nodup key st hG hN

/-- the defect that was fixed (rows keyed by the running `FeatureInfo.id`): the gene is loaded twice, the exon
    chr1:10-20 gets ids 1 and 3, and the table has two rows for it with the counts split 1 + 1 -/
theorem feature_row_split_witness :
    (countAll idKey keepFirst true "NA" exHistory).map (fun st => (dumpRows st).map (fun r => (coordKey r.fi, r.incl, r.excl))) =
      some [(("chr1", 10, 20), 1, 0), (("chr1", 30, 40), 0, 2), (("chr1", 10, 20), 1, 0), (("chr1", 30, 40), 1, 0)] ∧
    (countAll coordKey FeatureInfo.merge true "NA" exHistory).map (fun st => (dumpRows st).map (fun r => (coordKey r.fi, r.incl, r.excl))) =
      some [(("chr1", 10, 20), 2, 0), (("chr1", 30, 40), 1, 2)] := by
  constructor <;> decide +kernel

/-- row identity: the key of a row is the key of descriptions counted under it (FeatureInfos of the property maps of
    processed reads at positions where the profile is +1 or −1: `mem_touched`), and the description printed is the FIRST of
    them re-described (`upd`) with every later one, in the order of the history -/
theorem row_description (key : FeatureInfo → κ) (hupd : ∀ a b, key (upd a b) = key a) (ignore : Bool) (dflt : String)
    (evs : List ReadEv) (st : PCounter κ)
    (h : countAll key upd ignore dflt evs = some st) (r : CountRow) (hr : r ∈ dumpRows st) :
    ∃ f rest, (touched evs).filter (fun x => key x == key r.fi) = f :: rest ∧ r.fi = rest.foldl upd f := by
  obtain ⟨_, hN, _, hnames⟩ := countAll_spec key hupd h
  obtain ⟨k, hk, _⟩ := (mem_dumpRows st r).mp hr
  have hkey : key r.fi = k := hN.names_key _ hk
  have hl := (Lemmas.lookup_iff_mem_of_nodup hN.names_nodup k r.fi).mpr hk
  rw [hnames, lookup_nameFold, ← hkey] at hl
  simp only [List.lookup] at hl
  split at hl
  · simp at hl
  · rename_i f rest hf
    exact ⟨f, rest, hf, by simpa using hl.symm⟩

theorem row_from_property_map (key : FeatureInfo → κ) (hupd : ∀ a b, key (upd a b) = key a) (ignore : Bool) (dflt : String)
    (evs : List ReadEv) (st : PCounter κ)
    (h : countAll key upd ignore dflt evs = some st) (r : CountRow) (hr : r ∈ dumpRows st) :
    ∃ ev ∈ evs, ∃ x ∈ ev.profile.zip ev.pmap, (x.1 = 1 ∨ x.1 = -1) ∧ key x.2 = key r.fi := by
  obtain ⟨f, rest, hf, _⟩ := row_description key hupd ignore dflt evs st h r hr
  have hm : f ∈ (touched evs).filter (fun x => key x == key r.fi) := by rw [hf]; exact List.mem_cons_self ..
  obtain ⟨hm1, hm2⟩ := List.mem_filter.mp hm
  obtain ⟨ev, hev, p, hp, hv, hx⟩ := (mem_touched evs f).mp hm1
  exact ⟨ev, hev, p, hp, hv, by rw [hx]; simpa using hm2⟩

theorem grouped_groups (key : FeatureInfo → κ) (hupd : ∀ a b, key (upd a b) = key a) (dflt : String) (evs : List ReadEv) (sg : PCounter κ)
    (hg : countAll key upd false dflt evs = some sg) :
    (sg.groupIds.map (·.1)).Nodup ∧ ∀ g, g ∈ sg.groupIds.map (·.1) ↔ ∃ ev ∈ evs, ev.group = g := by
  obtain ⟨hG, _, hgr, _⟩ := countAll_spec key hupd hg
  exact ⟨hG.grp_nodup, fun g => by rw [hgr g]; simp [groupOf]⟩

theorem grouped_partition_of (key : FeatureInfo → κ) (hupd : ∀ a b, key (upd a b) = key a) (dflt : String) (evs : List ReadEv) (su sg : PCounter κ)
    (hu : countAll key upd true dflt evs = some su) (hg : countAll key upd false dflt evs = some sg) (k : κ) (v : Int)
    (hv : v = 1 ∨ v = -1) :
    cntOf v su k dflt = ((sg.groupIds.map (·.1)).map (fun g => cntOf v sg k g)).sum := by
  obtain ⟨hnd, hmem⟩ := grouped_groups key hupd dflt evs sg hg
  have hall : ∀ ev ∈ evs, ev.group ∈ sg.groupIds.map (·.1) := fun ev hev => (hmem ev.group).mpr ⟨ev, hev, rfl⟩
  have hft : evs.filter (fun _ => true) = evs := List.filter_eq_self.mpr fun _ _ => rfl
  simp only [countAll_counts key true dflt evs su hu v hv, countAll_counts key false dflt evs sg hg v hv, groupOf,
    Bool.false_eq_true, if_false, if_true, beq_self_eq_true, hft]
  rw [IsoVerif.Lemmas.sum_by_group _ hnd evs (·.group) _ hall]

/-- GROUPED PARTITION: for every feature key, the counts of the grouped counter summed over its groups equal the
    counts of the ungrouped counter fed with the same history -/
theorem grouped_partition (key : FeatureInfo → κ) (hupd : ∀ a b, key (upd a b) = key a) (dflt : String) (evs : List ReadEv) (su sg : PCounter κ)
    (hu : countAll key upd true dflt evs = some su) (hg : countAll key upd false dflt evs = some sg) (k : κ) :
    su.inclOf k dflt = ((sg.groupIds.map (·.1)).map (fun g => sg.inclOf k g)).sum ∧
    su.exclOf k dflt = ((sg.groupIds.map (·.1)).map (fun g => sg.exclOf k g)).sum :=
  ⟨grouped_partition_of key hupd dflt evs su sg hu hg k 1 (.inl rfl),
   grouped_partition_of key hupd dflt evs su sg hu hg k (-1) (.inr rfl)⟩

/-- GROUPED PARTITION at the level of the written tables: for every feature key, the include (exclude) counts of the
    rows of the grouped table with that key sum to the count of the ungrouped counter — which is what the single row
    of the ungrouped table shows (`dump_row_counts`, `dump_complete`, `one_row_per_key`) -/
theorem grouped_tables_partition (key : FeatureInfo → κ) (hupd : ∀ a b, key (upd a b) = key a) (dflt : String) (evs : List ReadEv) (su sg : PCounter κ)
    (hu : countAll key upd true dflt evs = some su) (hg : countAll key upd false dflt evs = some sg) (k : κ) :
    (((dumpRows sg).filter (fun r => key r.fi == k)).map (·.incl)).sum = su.inclOf k dflt ∧
    (((dumpRows sg).filter (fun r => key r.fi == k)).map (·.excl)).sum = su.exclOf k dflt ∧
    (((dumpRows su).filter (fun r => key r.fi == k)).map (·.incl)).sum = su.inclOf k dflt ∧
    (((dumpRows su).filter (fun r => key r.fi == k)).map (·.excl)).sum = su.exclOf k dflt := by
  obtain ⟨_, hNg, _⟩ := countAll_spec key hupd hg
  obtain ⟨_, hNu, _⟩ := countAll_spec key hupd hu
  have hgu : su.groupIds = [(dflt, 0)] := run_groupIds_ungrouped key dflt evs su hu
  have hG : ∀ v, v = 1 ∨ v = -1 → (((dumpRows sg).filter (fun r => key r.fi == k)).map (colOf v)).sum = cntOf v su k dflt :=
    fun v hv => by rw [dumpRows_sum key sg hNg k v, grouped_partition_of key hupd dflt evs su sg hu hg k v hv]
  have hU : ∀ v, (((dumpRows su).filter (fun r => key r.fi == k)).map (colOf v)).sum = cntOf v su k dflt :=
    fun v => by rw [dumpRows_sum key su hNu k v, hgu]; simp
  exact ⟨hG 1 (.inl rfl), by simpa [colOf_neg_one, cntOf] using hG (-1) (.inr rfl), hU 1,
    by simpa [colOf_neg_one, cntOf] using hU (-1)⟩

example : ∃ su sg, countAll coordKey FeatureInfo.merge true "NA" exHistory = some su ∧ countAll coordKey FeatureInfo.merge false "NA" exHistory = some sg ∧
    sg.groupIds.map (·.1) = ["A", "B"] ∧ su.inclOf ("chr1", 10, 20) "NA" = 2 ∧
    sg.inclOf ("chr1", 10, 20) "A" = 1 ∧ sg.inclOf ("chr1", 10, 20) "B" = 1 := by
  exact ⟨_, _, rfl, rfl, by decide +kernel⟩

end IsoVerif.Props.C13
