/-
C12 — the same alignments supplied as one BAM or split over several BAM files of one experiment give the same
read assignments, corrected alignments and ungrouped tables (as multisets of records).

Theorems about `Model/BamMerge.lean` (the `BAMOnlineMerger` k-way merge on the code's key
`(reference_start, reference_end, bam_index)`, the region clusters of `AlignmentCollector.process`, the
per-region re-fetch and the per-alignment map).  No bound on the number of files, records or coordinates.
-/
import IsoVerif.Model.BamMerge
import IsoVerif.Lemmas.BamMerge
import IsoVerif.Lemmas.BamClusters
import IsoVerif.Lemmas.BamRecords
import IsoVerif.Lemmas.BamOrder
import IsoVerif.Lemmas.ListFacts

namespace IsoVerif.Props.C12
open IsoVerif.Gen IsoVerif.Model.C12 IsoVerif.Lemmas.C12
open List

/-- the merged stream is a permutation of the records of all files (nothing lost, nothing duplicated, whatever
    the order inside the files) -/
theorem merge_perm (files : List (List Aln)) : ((merge files).map Prod.snd).Perm files.flatten :=
  merge_perm_aux files

/-- coordinate-sorted files give a coordinate-sorted merged stream -/
theorem merge_sorted_by_start (files : List (List Aln)) (hs : ∀ f ∈ files, SortedStart f) :
    (merge files).Pairwise (fun x y => x.2.start ≤ y.2.start) :=
  merge_sorted_aux files hs

example : (∀ f ∈ [[(⟨1, 5, 0⟩ : Aln), ⟨3, 9, 1⟩], [⟨1, 4, 2⟩, ⟨3, 9, 3⟩], []], SortedStart f) ∧
    merge [[⟨1, 5, 0⟩, ⟨3, 9, 1⟩], [⟨1, 4, 2⟩, ⟨3, 9, 3⟩], []] = [(1, ⟨1, 4, 2⟩), (0, ⟨1, 5, 0⟩), (0, ⟨3, 9, 1⟩), (1, ⟨3, 9, 3⟩)] := by
  decide +kernel

/-- the merged stream keeps every file's own order, and the records labelled with bam index `i` are exactly the
    records of file `i` (the label selects the file name used by the file-name read grouper); together with
    `merge_perm` and `merge_sorted_by_start`: the stream is an order-preserving interleaving of the files -/
theorem merge_preserves_file_order (files : List (List Aln)) (i : Nat) :
    ((merge files).filter (fun e => e.1 == i)).map Prod.snd = files[i]?.getD [] :=
  merge_file_order_aux files i

/-! ### the tuple comparison of the priority queue never reaches the pysam record -/

/-- in every state the merger goes through, no two queue entries belong to the same iterator -/
theorem queue_indices_nodup (files : List (List Aln)) (n : Nat) (s : MState)
    (h : stateAfter files n = some s) : (s.queue.map Prod.fst).Nodup := by
  induction n generalizing s with
  | zero =>
    simp only [stateAfter, Option.some.injEq] at h
    subst h
    exact init_nodup files
  | succ n ih =>
    simp only [stateAfter] at h
    cases hs : stateAfter files n with
    | none => simp [hs] at h
    | some s0 =>
      simp only [hs] at h
      cases hm : minEntry s0.queue with
      | none => simp [hm] at h
      | some m =>
        simp only [hm, Option.some.injEq] at h
        subst h
        exact nodup_step (minEntry_mem hm) (ih s0 hs)

/-- hence two different queue entries never compare equal on `(start, end, bam_index)`: Python's tuple
    comparison is decided before it would have to compare two `AlignedSegment` objects (a `TypeError`) -/
theorem queue_keys_never_tie (files : List (List Aln)) (n : Nat) (s : MState)
    (h : stateAfter files n = some s) (x y : Entry) (hx : x ∈ s.queue) (hy : y ∈ s.queue) (hne : x ≠ y) :
    ¬ (keyLe x y = true ∧ keyLe y x = true) := by
  have hn := queue_indices_nodup files n s h
  intro ⟨h1, h2⟩
  exact hne (Lemmas.eq_of_nodup_map Prod.fst hn hx hy (keyLe_antisymm_idx h1 h2))

/-- `AlignmentCollector.process`: two coordinate-sorted streams holding the same alignments (bam indices and
    the order among equal starts may differ) are cut into the same regions with the same alignments in each -/
theorem clusters_invariant_under_equal_start_permutation (l1 l2 : List Entry)
    (h1 : l1.Pairwise (fun x y => x.2.start ≤ y.2.start)) (h2 : l2.Pairwise (fun x y => x.2.start ≤ y.2.start))
    (wf : ∀ e ∈ l1, e.2.start < e.2.stop) (hp : (l1.map Prod.snd).Perm (l2.map Prod.snd)) :
    ClusterEquiv ((clusters Prod.snd l1).map strip) ((clusters Prod.snd l2).map strip) :=
  clusters_equiv_of_perm l1 l2 h1 h2 wf hp

example : clusters Prod.snd [(0, (⟨1, 5, 0⟩ : Aln)), (1, ⟨1, 9, 1⟩), (0, ⟨9, 12, 2⟩), (0, ⟨20, 30, 3⟩)] =
      [((1, 8), [(0, ⟨1, 5, 0⟩), (1, ⟨1, 9, 1⟩)]), ((9, 11), [(0, ⟨9, 12, 2⟩)]), ((20, 29), [(0, ⟨20, 30, 3⟩)])] ∧
    clusters Prod.snd [(1, (⟨1, 9, 1⟩ : Aln)), (0, ⟨1, 5, 0⟩), (0, ⟨9, 12, 2⟩), (0, ⟨20, 30, 3⟩)] =
      [((1, 8), [(1, ⟨1, 9, 1⟩), (0, ⟨1, 5, 0⟩)]), ((9, 11), [(0, ⟨9, 12, 2⟩)]), ((20, 29), [(0, ⟨20, 30, 3⟩)])] := by
  decide +kernel

/-- every alignment of the stream lands in exactly one cluster, in stream order -/
theorem clusters_flatten {E : Type} (al : E → Aln) (l : List E) : (clusters al l).flatMap (·.2) = l := by
  simpa [clusters] using clustersGo_flatten al none l

/-- the alignments of all files inside a sub-region, as handed to `process_alignments_in_region` in the default
    mode, are a permutation of the sub-region's alignments of the pooled input -/
theorem region_fetch_perm (files : List (List Aln)) (sub : Iv) :
    ((merge (files.map (fetch sub))).map Prod.snd).Perm (fetch sub files.flatten) :=
  fetch_merge_perm files sub

/-- **partition invariance.**  Two ways of supplying the same alignments as coordinate-sorted files
    (any number of files, any assignment of records to files, any order among equal starts) produce the same
    multiset of per-alignment records — for every `split_coverage_regions` function and every per-alignment
    function that does not look at the bam index (grouping by file name off). -/
theorem records_multiset_invariant {R : Type} (split : SplitFn) (assign : Assign R)
    (files1 files2 : List (List Aln))
    (s1 : ∀ f ∈ files1, SortedStart f) (s2 : ∀ f ∈ files2, SortedStart f)
    (wf : ∀ a ∈ files1.flatten, a.start < a.stop)
    (hp : files1.flatten.Perm files2.flatten)
    (hidx : ∀ r i j a, assign r i a = assign r j a) :
    (collect split assign files1).Perm (collect split assign files2) := by
  rw [collect_eq_blocks, collect_eq_blocks]
  exact forall2_flatten_perm (blocks_forall2 split assign files1 files2 s1 s2 wf hp hidx)

/-- the same for `--high_memory` (alignments of a region are taken from the stored cluster) -/
theorem records_multiset_invariant_high_memory {R : Type} (split : SplitFn) (assign : Assign R)
    (files1 files2 : List (List Aln))
    (s1 : ∀ f ∈ files1, SortedStart f) (s2 : ∀ f ∈ files2, SortedStart f)
    (wf : ∀ a ∈ files1.flatten, a.start < a.stop)
    (hp : files1.flatten.Perm files2.flatten)
    (hidx : ∀ r i j a, assign r i a = assign r j a) :
    (collectMem split assign files1).Perm (collectMem split assign files2) := by
  rw [collectMem_eq_blocks, collectMem_eq_blocks]
  exact forall2_flatten_perm (blocksMem_forall2 split assign files1 files2 s1 s2 wf hp hidx)

/-- one BAM vs. the same records split over several: the special case named in the statement -/
theorem one_bam_vs_split {R : Type} (split : SplitFn) (assign : Assign R) (whole : List Aln) (parts : List (List Aln))
    (sw : SortedStart whole) (sp : ∀ f ∈ parts, SortedStart f) (wf : ∀ a ∈ whole, a.start < a.stop)
    (hp : whole.Perm parts.flatten) (hidx : ∀ r i j a, assign r i a = assign r j a) :
    (collect split assign [whole]).Perm (collect split assign parts) :=
  records_multiset_invariant split assign [whole] parts (by simpa using sw) sp (by simpa using wf) (by simpa using hp) hidx

/-- any table that adds a per-record weight per feature (the ungrouped count tables) is the same for both
    representations; so is every other function of the multiset of records -/
theorem tables_invariant {R F : Type} (w : R → F → Int) {recs1 recs2 : List R} (h : recs1.Perm recs2) (f : F) :
    table w recs1 f = table w recs2 f :=
  IsoVerif.Lemmas.sum_perm (h.map _)

example : let whole : List Aln := [⟨1, 5, 0⟩, ⟨1, 9, 1⟩, ⟨9, 12, 2⟩, ⟨20, 30, 3⟩]
    let parts : List (List Aln) := [[⟨1, 9, 1⟩, ⟨20, 30, 3⟩], [], [⟨1, 5, 0⟩, ⟨9, 12, 2⟩]]
    SortedStart whole ∧ (∀ f ∈ parts, SortedStart f) ∧ (∀ a ∈ whole, a.start < a.stop) ∧ whole.Perm parts.flatten ∧
      collect (fun r _ _ => [r]) (fun r _ a => some (r, a.tag)) [whole] = [((1, 8), 0), ((1, 8), 1), ((9, 11), 2), ((20, 29), 3)] ∧
      collect (fun r _ _ => [r]) (fun r _ a => some (r, a.tag)) parts = [((1, 8), 0), ((1, 8), 1), ((9, 11), 2), ((20, 29), 3)] := by
  refine ⟨by decide +kernel, by decide +kernel, by decide +kernel, ?_, by decide +kernel, by decide +kernel⟩
  decide +kernel

/-- with grouping by file name switched on (IsoQuant does so by itself when an experiment has several files) the
    per-alignment record carries a label that depends on the bam index; everything else in the record does not.
    Then the two representations give the same multiset of records once that label is projected away — which is
    what the ungrouped outputs named in the statement do. -/
theorem records_invariant_modulo_file_label {R S : Type} (proj : R → S) (split : SplitFn) (assign : Assign R)
    (files1 files2 : List (List Aln))
    (s1 : ∀ f ∈ files1, SortedStart f) (s2 : ∀ f ∈ files2, SortedStart f)
    (wf : ∀ a ∈ files1.flatten, a.start < a.stop)
    (hp : files1.flatten.Perm files2.flatten)
    (hidx : ∀ r i j a, (assign r i a).map proj = (assign r j a).map proj) :
    ((collect split assign files1).map proj).Perm ((collect split assign files2).map proj) := by
  rw [collect_map, collect_map]
  exact records_multiset_invariant split _ files1 files2 s1 s2 wf hp hidx

example : let assign : Assign (Nat × Nat) := fun _ i a => some (a.tag, i)     -- (record, file label)
    (∀ r i j a, (assign r i a).map Prod.fst = (assign r j a).map Prod.fst) ∧
    collect (fun r _ _ => [r]) assign [[⟨1, 5, 0⟩, ⟨1, 9, 1⟩]] = [(0, 0), (1, 0)] ∧
    collect (fun r _ _ => [r]) assign [[⟨1, 9, 1⟩], [⟨1, 5, 0⟩]] = [(0, 1), (1, 0)] := by
  refine ⟨fun _ _ _ _ => rfl, by decide +kernel, by decide +kernel⟩

/-- the hypothesis `start < stop` of the cluster theorem is needed: an alignment with an empty reference span and
    the start of its neighbour is clustered differently in the two orders.  (pysam never yields such a record:
    `reference_end` is `bam_endpos`, at least `reference_start + 1`; the harness re-checks this on real BAM files.) -/
example : clusters id [(⟨5, 9, 0⟩ : Aln), ⟨5, 5, 1⟩] = [((5, 8), [⟨5, 9, 0⟩]), ((5, 4), [⟨5, 5, 1⟩])] ∧
    clusters id [(⟨5, 5, 1⟩ : Aln), ⟨5, 9, 0⟩] = [((5, 4), [⟨5, 5, 1⟩]), ((5, 8), [⟨5, 9, 0⟩])] := by
  decide +kernel

/-- The BAM clause at full strength: every output `post` of the real pipeline downstream of the per-alignment
    records (multimapper resolution, counters, printers — compared up to record order) is the same for the two
    representations.  Not proved here in this form: that the real downstream is a function of the *multiset* of
    records is the content of C08 (`the resolver retains the same set for every record order`) and C02
    (`accumulation commutes`); it enters `outputs_invariant_partial` as the hypothesis `hpost`.
    Props/C12EndToEnd.lean composes the C08 and C02 models and proves the clause for the modelled downstream
    (`bam_clause_end_to_end_partial`, `end_to_end_partition_invariant`) under a no-conflicting-duplicates condition,
    without which it is false (`bam_clause_witness`). -/
def BamClause {R O : Type} (post : List R → O) (split : SplitFn) (assign : Assign R) : Prop :=
  ∀ files1 files2 : List (List Aln),
    (∀ f ∈ files1, SortedStart f) → (∀ f ∈ files2, SortedStart f) → (∀ a ∈ files1.flatten, a.start < a.stop) →
    files1.flatten.Perm files2.flatten →
    post (collect split assign files1) = post (collect split assign files2)

/-- proved part of `BamClause`: it holds for every downstream that does not depend on the order of the records
    and every per-alignment function that does not look at the bam index -/
theorem outputs_invariant_partial {R O : Type} (post : List R → O) (split : SplitFn) (assign : Assign R)
    (hpost : ∀ l l' : List R, l.Perm l' → post l = post l')
    (hidx : ∀ r i j a, assign r i a = assign r j a) : BamClause post split assign := by
  intro files1 files2 s1 s2 wf hp
  exact hpost _ _ (records_multiset_invariant split assign files1 files2 s1 s2 wf hp hidx)

example : (∀ l l' : List (Iv × Nat), l.Perm l' → table (fun r (f : Nat) => if r.2 = f then (1 : Int) else 0) l =
    table (fun r (f : Nat) => if r.2 = f then (1 : Int) else 0) l') :=
  fun _ _ h => funext (fun f => tables_invariant _ h f)

end IsoVerif.Props.C12
