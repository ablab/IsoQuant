/-
C20 — concurrent runs under one HOME do not interfere (per-user JSON cache protocol).
Model in IsoVerif/Model/Cache.lean, lemmas in IsoVerif/Lemmas/Cache.lean.

Reading of the statement over the model (docs/C20.md):
  "never observed half-written"       every `load` of every process, in every interleaving, sees either no file or a
                                      complete buffer handed to a store (or the content the file had at the start)
  "each finish successfully"          no process is ever crashed and every process reaches the end of its program
  "never makes a run use a conversion that does not correspond to its own input"
                                      every artefact a run goes on to use (cache hit or own production) is the output of a
                                      production for the run's own key and tag, recorded for the source mtimes it sees now
Quantification: `∀ sched : List Nat` = every merge of the step lists of any number of processes.
-/
import IsoVerif.Model.Cache
import IsoVerif.Lemmas.Cache

namespace IsoVerif.Props.C20
open IsoVerif.Model.C20 IsoVerif.Lemmas.C20

variable {β : Type}

/-! ### positive part, holds for the fixed *and* the original protocol (any programs over the primitives) -/

/-- Whenever a lookup succeeds, in any interleaving of any number of processes running any programs, the returned
    artefact was stored for the same key (absolute GTF path) by a production with the same tag (`complete_db` flag /
    k-mer size) whose recorded source / target / dependency mtimes equal the mtimes the files have now. -/
theorem no_foreign_conversion (cd : Codec β) (hl : cd.Lawful) (s0 : Sys β) (h0 : SInv cd s0)
    (sched : List Nat) (pid : Nat) (p : Proc) (c : Client) (k : Nat) (rest : List Instr) (e : Entry)
    (hp : (run cd s0 sched).procs[pid]? = some p) (_hnext : p.todo = .lookup c k :: rest)
    (hhit : lookupHit (run cd s0 sched).world (p.dict c.file) c = some e) :
    ∃ cv ∈ (run cd s0 sched).world.convs,
      cv.client.file = c.file ∧ cv.client.key = c.key ∧ cv.client.tag = c.tag ∧ cv.client.target = e.target ∧
      (run cd s0 sched).world.mtime c.src = some cv.srcM ∧
      (run cd s0 sched).world.mtime e.target = some cv.tgtM ∧
      c.aux.map (run cd s0 sched).world.mtime = cv.auxM.map some := by
  have hinv := run_sinv cd hl sched s0 h0
  obtain ⟨hm, hk0, h1, h2, h3, h4⟩ := lookupHit_spec hhit
  obtain ⟨cv, hcv, hk, hce⟩ := (hinv.2 p (List.mem_of_getElem? hp)).dict c.file _ hm
  subst hce
  exact ⟨cv, hcv, hk0, hk, h3, rfl, h1, h2, h4⟩

/-- Every artefact any run goes on to use – taken from the cache or produced by itself – is the output of a production
    for the run's own key and tag, recorded for exactly the source mtime the run saw: what the run would have used alone. -/
theorem results_correspond_to_own_input (cd : Codec β) (hl : cd.Lawful) (s0 : Sys β) (h0 : SInv cd s0)
    (sched : List Nat) :
    ∀ p ∈ (run cd s0 sched).procs, ∀ r ∈ p.results,
      ∃ cv ∈ (run cd s0 sched).world.convs, cv.client.key = r.client.key ∧ cv.client.tag = r.client.tag ∧
        cv.client.target = r.target ∧ cv.srcM = r.srcM ∧ cv.tgtM = r.tgtM ∧ cv.auxM = r.auxM :=
  fun p hp r hr => ((run_sinv cd hl sched s0 h0).2 p hp).results r hr

/-- A path together with its mtime identifies one production: the conversion found by `no_foreign_conversion` /
    `results_correspond_to_own_input` is *the* production that wrote the file version the run goes on to use; and the
    source mtime an entry records is the mtime of the source that was actually converted (unless a production
    overwrites its own source file). Holds in every interleaving, for any programs. -/
theorem conversion_identity (cd : Codec β) (s0 : Sys β) (h0 : ConvInv s0.world) (sched : List Nat) :
    (∀ c1 ∈ (run cd s0 sched).world.convs, ∀ c2 ∈ (run cd s0 sched).world.convs,
        c1.client.target = c2.client.target → c1.tgtM = c2.tgtM → c1 = c2) ∧
    (∀ c ∈ (run cd s0 sched).world.convs, c.client.target ≠ c.client.src → c.srcM0 = c.srcM) :=
  (run_convInv cd sched s0 h0).2

/-- `ConvInv` holds at every start without history -/
theorem start_fresh_convInv (mt : Path → Option Nat) (clock : Nat) (progs : List (List Instr)) :
    ConvInv (Sys.start (World.fresh (β := β) mt clock) progs).world :=
  convInv_start_fresh mt clock progs

/-- the hypothesis `SInv` is met by every start from an empty cache directory, for any programs -/
theorem start_fresh_ok (cd : Codec β) (hl : cd.Lawful) (mt : Path → Option Nat) (clock : Nat)
    (progs : List (List Instr)) : SInv cd (Sys.start (World.fresh mt clock) progs) :=
  start_fresh_sinv cd hl mt clock progs

/-! ### the fixed protocol (`load_config` / `store_config`): only complete states, every run completes -/

/-- "never observed half-written": if no program truncates or writes a shared file in place (true of `progFixed`), then
    in every interleaving every `load` observes either an absent file or a complete buffer some store handed over
    (or the content a file had at the start). -/
theorem no_partial_observed (cd : Codec β) (s0 : Sys β)
    (hnames : ∀ f i, s0.world.names f = some i → i < s0.world.nextInode)
    (hobs : s0.world.obs = []) (hst : s0.world.stored = [])
    (hat : ∀ p ∈ s0.procs, ∀ i ∈ p.todo, i.atomic = true) (sched : List Nat) :
    ∀ f c, (f, some c) ∈ (run cd s0 sched).world.obs →
      (c ∈ (run cd s0 sched).world.stored ∧ ∃ d, c = cd.ser d) ∨ ∃ f', s0.world.content f' = some c := by
  have hs : StoredSer cd (run cd s0 sched).world :=
    run_storedSer cd sched s0 (by intro b hb; rw [hst] at hb; cases hb)
  intro f c hc
  exact ((run_finv cd s0.world sched s0 (finv_start s0 hnames hobs hat)).1.2.2 f c hc).imp_left fun h => ⟨h, hs c h⟩

/-- the same for what the name points to at any moment -/
theorem file_always_complete (cd : Codec β) (s0 : Sys β)
    (hnames : ∀ f i, s0.world.names f = some i → i < s0.world.nextInode) (hobs : s0.world.obs = [])
    (hat : ∀ p ∈ s0.procs, ∀ i ∈ p.todo, i.atomic = true) (sched : List Nat) :
    ∀ f c, (run cd s0 sched).world.content f = some c →
      c ∈ (run cd s0 sched).world.stored ∨ ∃ f', s0.world.content f' = some c :=
  (run_finv cd s0.world sched s0 (finv_start s0 hnames hobs hat)).1.2.1

/-- "each finish successfully": if every program consists of instructions that cannot fail (atomic stores, tolerant
    loads, productions whose input files exist – true of `progFixed`), then in every interleaving no process is ever
    crashed, and letting the processes run on after the interleaving brings every one of them to the end of its program. -/
theorem fixed_runs_complete (cd : Codec β) (s0 : Sys β)
    (hsafe : ∀ p ∈ s0.procs, p.crashed = false ∧ ∀ i ∈ p.todo, SafeI s0.world i) (sched : List Nat) :
    (∀ p ∈ (run cd s0 sched).procs, p.crashed = false) ∧
    (∀ p ∈ (drain cd (run cd s0 sched)).procs, p.crashed = false ∧ p.todo = []) := by
  have h0 : CInv s0.world s0 := ⟨fun _ h => h, hsafe⟩
  refine ⟨fun p hp => ((run_cinv cd s0.world sched s0 h0).2 p hp).1, fun p hp => ?_⟩
  -- letting the processes run on is a longer interleaving: nobody is crashed, so whoever cannot move has finished
  obtain ⟨sch, hsch⟩ := drain_eq_run cd (run cd s0 sched)
  have hc : p.crashed = false := by
    rw [hsch, ← run_append] at hp
    exact ((run_cinv cd s0.world _ s0 h0).2 p hp).1
  exact ⟨hc, (drain_stuck cd _ p hp).resolve_left (by rw [hc]; exact Bool.false_ne_true)⟩

/-- the inputs of every client of the run exist -/
def InputsPresent (w : World β) (r : RunCfg) : Prop :=
  (∀ x, r.db = some x → (w.mtime x.1.src).isSome ∧ ∀ a ∈ x.1.aux, (w.mtime a).isSome) ∧
  (∀ x ∈ r.stores, (w.mtime x.1.src).isSome ∧ ∀ a ∈ x.1.aux, (w.mtime a).isSome)

/-- the program of the code base (after the fix) has no in-place write -/
theorem progFixed_atomic (r : RunCfg) : ∀ i ∈ progFixed r, i.atomic = true := by
  -- the test evaluates on every shape of the program, the clients staying variables
  refine List.forall_mem_append.2 ⟨List.forall_mem_append.2 ⟨by decide, ?_⟩, List.forall_mem_flatMap.2 fun x _ => ?_⟩
  · rcases r.db with _ | ⟨c, _ | _⟩ <;> exact List.all_eq_true.1 rfl
  · rcases x with ⟨c, _ | _⟩ <;> exact List.all_eq_true.1 rfl

/-- every instruction of the program of the code base (after the fix) is safe when the run's input files exist -/
theorem progFixed_safe (w : World β) (r : RunCfg) (h : InputsPresent w r) : ∀ i ∈ progFixed r, SafeI w i := by
  refine List.forall_mem_append.2 ⟨List.forall_mem_append.2 ⟨fun i hi => .of_safeB (List.all_eq_true.1 rfl i hi), ?_⟩,
    List.forall_mem_flatMap.2 fun x hx => ?_⟩
  · cases hdb : r.db with
    | none => exact nofun
    | some x =>
      have hx := h.1 x hdb
      rcases x with ⟨c, _ | _⟩ <;> exact safe_around_produce w _ _ c _ rfl rfl hx
  · have hx := h.2 x hx
    rcases x with ⟨c, _ | _⟩ <;> exact safe_around_produce w _ _ c _ rfl rfl hx

/-- C20 for the code base after the fix: n runs (any n, any configurations with existing inputs, equal or different
    annotations, shared or separate targets) started on any cache directory, under any
    interleaving: nobody crashes, everybody finishes, and every load sees no file, a complete buffer some store handed
    over, or what a file held at the start. -/
theorem fixed_protocol_sound (cd : Codec β) (w : World β) (cfgs : List RunCfg)
    (hnames : ∀ f i, w.names f = some i → i < w.nextInode) (hobs : w.obs = []) (hst : w.stored = [])
    (hin : ∀ r ∈ cfgs, InputsPresent w r) (sched : List Nat) :
    let s0 := Sys.start w (cfgs.map progFixed)
    (∀ p ∈ (run cd s0 sched).procs, p.crashed = false) ∧
    (∀ p ∈ (drain cd (run cd s0 sched)).procs, p.crashed = false ∧ p.todo = []) ∧
    (∀ f c, (f, some c) ∈ (run cd s0 sched).world.obs →
      (c ∈ (run cd s0 sched).world.stored ∧ ∃ d, c = cd.ser d) ∨ ∃ f', w.content f' = some c) := by
  intro s0
  have hsafe : ∀ p ∈ s0.procs, p.crashed = false ∧ ∀ i ∈ p.todo, SafeI s0.world i :=
    List.forall_mem_map.2 (List.forall_mem_map.2 fun r hr => ⟨rfl, progFixed_safe w r (hin r hr)⟩)
  have hat : ∀ p ∈ s0.procs, ∀ i ∈ p.todo, i.atomic = true :=
    List.forall_mem_map.2 (List.forall_mem_map.2 fun r _ => progFixed_atomic r)
  obtain ⟨c1, c2⟩ := fixed_runs_complete cd s0 hsafe sched
  exact ⟨c1, c2, no_partial_observed cd s0 hnames hobs hst hat sched⟩

/-! ### the protocol before the fix (`open(..,'w')`; `json.dump`): the property is false -/

/-- Mechanics of the lost tail, for every lawful format: a shorter buffer written over a longer one leaves
    `short ++ tail(long)`, which is not a document – for every later reader. -/
theorem lost_tail_unparsable (cd : Codec β) (hl : cd.Lawful) (d1 d2 : Cache)
    (hlen : (cd.ser d1).length < (cd.ser d2).length) :
    overlay (cd.ser d1) (cd.ser d2) = cd.ser d1 ++ (cd.ser d2).drop (cd.ser d1).length ∧
    cd.parse (overlay (cd.ser d1) (cd.ser d2)) = none := by
  refine ⟨rfl, ?_⟩
  unfold overlay
  apply hl.parse_tail d1 d2
  · intro h
    have := congrArg List.length h
    simp at this; omega
  · exact List.drop_suffix _ _

/-- Mechanics of the half-written read, for every lawful format: between another process's `open(..,'w')` and its
    `close`, a non-tolerant `load` of an existing config file fails. -/
theorem truncated_load_crashes (cd : Codec β) (hl : cd.Lawful) (w : World β) (f i : Nat) (writer reader : Proc)
    (hn : w.names f = some i) (hw : writer.crashed = false) (rest : List Instr) (hwt : writer.todo = .openW f :: rest)
    (hr : reader.crashed = false) (ap : Bool) (rest' : List Instr) (hrt : reader.todo = .load f false ap :: rest') :
    (stepProc cd (stepProc cd w writer).1 reader).2.crashed = true := by
  have h1 : (stepProc cd w writer).1 = { w with inodes := upd w.inodes i [] } := by
    unfold stepProc; simp [hw, hwt, hn]
  rw [h1]
  unfold stepProc
  simp [hr, hrt, loadDict, World.content, hn, upd, hl.parse_nil]

/-- a run of the original program that uses the annotation cache cannot write db_config.json before it reads it -/
theorem progOrig_doomed (r : RunCfg) (c : Client) (cs : Bool) (hdb : r.db = some (c, cs)) (hf : c.file = 0) :
    Doomed (progOrig r) := by
  simp only [progOrig, setupOrig, configFiles, hdb, dbOrig, hf, List.flatMap_cons, List.flatMap_nil, List.cons_append,
    List.nil_append, List.append_nil, List.append_assoc]
  -- the block of `set_configs_directory` for another file leaves the process doomed, whether it is skipped or not
  have other (f : Nat) (hf : f ≠ 0) (rest : List Instr) (h : Doomed rest) :
      Doomed (.existsQ f 2 :: .openW f :: .writeBuf f true :: rest) :=
    .existsOther f 2 _ hf (.openW f _ hf (.writeBuf f true _ hf h)) h
  exact .exists0 2 _ (other 1 (by decide) _ (other 2 (by decide) _ (other 3 (by decide) _ (.load _ _))))

/-- "unparsable for every later run", for the original protocol and all interleavings: once db_config.json exists and
    is not a document, any number of runs of the original program that use the annotation cache all crash, in every
    interleaving, and the file keeps exactly its corrupted content (nobody ever repairs it). -/
theorem orig_corruption_permanent (cd : Codec β) (w : World β) (i0 : Nat)
    (hn0 : w.names 0 = some i0) (hbad : cd.parse (w.inodes i0) = none) (hlt : i0 < w.nextInode)
    (hinj : ∀ f, f ≠ 0 → w.names f ≠ some i0)
    (cfgs : List RunCfg) (hdb : ∀ r ∈ cfgs, ∃ c cs, r.db = some (c, cs) ∧ c.file = 0) (sched : List Nat) :
    (∀ p ∈ (drain cd (run cd (Sys.start w (cfgs.map progOrig)) sched)).procs, p.crashed = true) ∧
    (drain cd (run cd (Sys.start w (cfgs.map progOrig)) sched)).world.content 0 = w.content 0 := by
  have h0 : KInv i0 (w.inodes i0) (Sys.start w (cfgs.map progOrig)) := by
    refine ⟨⟨hn0, rfl, hlt, hinj⟩, ?_⟩
    refine List.forall_mem_map.2 (List.forall_mem_map.2 fun r hr => ?_)
    obtain ⟨c, cs, h1, h2⟩ := hdb r hr
    exact ⟨Or.inr (progOrig_doomed r c cs h1 h2), fun f => nofun⟩
  obtain ⟨sch, hsch⟩ := drain_eq_run cd (run cd (Sys.start w (cfgs.map progOrig)) sched)
  have hk : KInv i0 (w.inodes i0) (drain cd (run cd (Sys.start w (cfgs.map progOrig)) sched)) := by
    rw [hsch, ← run_append]
    exact run_kinv cd i0 _ hbad _ _ h0
  refine ⟨?_, ?_⟩
  · intro p hp
    rcases drain_stuck cd _ p hp with h | h
    · exact h
    · rcases (hk.2 p hp).1 with h' | h'
      · exact h'
      · exact absurd h h'.ne_nil
  · obtain ⟨k1, k2, _, _⟩ := hk.1
    unfold World.content
    rw [k1, hn0]
    simp [k2]

/-- two runs of the original program with different annotations on an empty cache directory -/
def origPair : Sys Nat :=
  Sys.start (World.fresh (fun p => if p = 10 then some 5 else if p = 11 then some 6 else none) 100)
    [progOrig { db := some ({ file := 0, key := 10, src := 10, aux := [], target := 20, tag := 1 }, false), stores := [] },
     progOrig { db := some ({ file := 0, key := 11, src := 11, aux := [], target := 21, tag := 1 }, false), stores := [] }]

/-- process 0 runs up to and including its `open(db_config,'w')`; process 1 then reaches its `json.load` -/
def halfWrittenSched : List Nat := List.replicate 16 0 ++ List.replicate 5 1

/-- The property is false of the original protocol: in this interleaving run 1 reads the truncated file (a content no
    store ever handed over) and crashes, although in the sequential order both runs complete. -/
theorem half_written_observable_witness :
    (((run toyCodec origPair halfWrittenSched).procs.map (·.crashed)) = [false, true]) ∧
    (0, some []) ∈ (run toyCodec origPair halfWrittenSched).world.obs ∧
    [] ∉ (run toyCodec origPair halfWrittenSched).world.stored ∧
    ((drain toyCodec origPair).procs.map (fun p => (p.crashed, p.todo.length))) = [(false, 0), (false, 0)] := by
  decide +kernel

/-- two runs of the original program using the alignment cache: run 1 has a junction annotation (one more stored
    mtime), so its serialised dict is longer -/
def origAlignPair : Sys Nat :=
  Sys.start (World.fresh (fun p => if p = 10 then some 5 else if p = 11 then some 6 else if p = 12 then some 7
                                   else if p = 13 then some 8 else none) 100)
    [progOrig { db := none, stores := [({ file := 3, key := 30, src := 10, aux := [12], target := 20, tag := 0 }, true)] },
     progOrig { db := none, stores := [({ file := 3, key := 31, src := 11, aux := [12, 13], target := 21, tag := 0 }, true)] },
     progOrig { db := none, stores := [({ file := 3, key := 30, src := 10, aux := [12], target := 22, tag := 0 }, true)] }]

/-- both reach `open(..,'w')` (T0 T1), the longer buffer is written first (W1), the shorter second (W0);
    afterwards a third run starts -/
def lostTailSched : List Nat :=
  List.replicate 16 0 ++ List.replicate 8 1 ++ [0, 1, 1, 0] ++ List.replicate 5 2

/-- The property is false of the original protocol: overlapping writers leave `short ++ tail(long)`; both writers
    finish "successfully", the file is unparsable, and a run started afterwards crashes at its first load. -/
theorem lost_tail_corruption_witness :
    let s := run toyCodec origAlignPair lostTailSched
    (s.procs.map (fun p => (p.crashed, p.todo.length))) = [(false, 0), (false, 0), (true, 6)] ∧
    s.world.content 3 = some (toySer [(30, ⟨3, 20, 5, 100, 0, [7]⟩)] ++
                              (toySer [(31, ⟨3, 21, 6, 101, 0, [7, 8]⟩)]).drop 9) ∧
    loadDict toyCodec s.world 3 = none ∧
    (drain toyCodec s).world.content 3 = s.world.content 3 := by
  decide +kernel

/-- the laws are satisfiable -/
theorem lawful_codec_exists : toyCodec.Lawful := toyCodec_lawful

/-- three runs of the fixed program, two with the same annotation -/
def fixedTriple : Sys Nat :=
  Sys.start (World.fresh (fun p => if p = 10 then some 5 else if p = 11 then some 6 else none) 100)
    [progFixed { db := some ({ file := 0, key := 10, src := 10, aux := [], target := 20, tag := 1 }, false), stores := [] },
     progFixed { db := some ({ file := 0, key := 11, src := 11, aux := [], target := 21, tag := 1 }, false), stores := [] },
     progFixed { db := some ({ file := 0, key := 10, src := 10, aux := [], target := 22, tag := 1 }, false), stores := [] }]

/-- the cache is not trivially empty: after run 0 has finished, run 2 (same annotation, other output folder) gets a hit
    and uses run 0's database; run 1 (other annotation) converts itself; loads observed real contents -/
example :
    let s := drain toyCodec (run toyCodec fixedTriple (List.replicate 12 0 ++ [1, 2, 1, 2]))
    (s.procs.map (fun p => (p.crashed, p.todo.length, p.results.map (fun r => (r.target, r.hit))))) =
      [(false, 0, [(20, false)]), (false, 0, [(21, false)]), (false, 0, [(20, true)])] ∧
    s.world.obs.length = 3 := by
  decide +kernel

/-- the hypotheses of `no_foreign_conversion` are met in a reachable state: run 2 stands before its lookup and the
    lookup succeeds (it finds run 0's database) -/
example :
    let s := run toyCodec fixedTriple (List.replicate 12 0 ++ List.replicate 5 2)
    (match s.procs[2]? with
     | some p => (match p.todo with
        | .lookup c _ :: _ => (lookupHit s.world (p.dict c.file) c).isSome
        | _ => false)
     | none => false) = true := by
  decide +kernel

/-- the hypotheses of `orig_corruption_permanent` are met by the state the lost-tail mechanics leave behind
    (`short ++ tail(long)` in db_config.json) -/
example :
    let bad := overlay (toySer [(10, ⟨0, 20, 5, 100, 1, []⟩)]) (toySer [(11, ⟨0, 21, 6, 101, 1, [7]⟩)])
    let w : World Nat := { World.fresh (fun _ => none) 100 with
      names := fun f => if f = 0 then some 0 else none, inodes := fun i => if i = 0 then bad else [], nextInode := 1 }
    w.names 0 = some 0 ∧ toyCodec.parse (w.inodes 0) = none ∧ 0 < w.nextInode ∧ ∀ f, f ≠ 0 → w.names f ≠ some 0 := by
  refine ⟨rfl, by decide +kernel, by decide +kernel, ?_⟩
  intro f hf
  simp [hf]

/-- `InputsPresent` (hypothesis of `fixed_protocol_sound`) on a one-run system, `SInv` (hypothesis of `no_foreign_conversion`) on
    `fixedTriple` -/
example : (∀ r ∈ [({ db := some ({ file := 0, key := 10, src := 10, aux := [], target := 20, tag := 1 }, false),
                      stores := [] } : RunCfg)],
            InputsPresent (World.fresh (β := Nat) (fun p => if p = 10 then some 5 else none) 100) r) ∧
          SInv toyCodec fixedTriple := by
  refine ⟨?_, start_fresh_ok toyCodec toyCodec_lawful _ _ _⟩
  intro r hr
  simp at hr
  subst hr
  simp [InputsPresent, World.fresh]

end IsoVerif.Props.C20
