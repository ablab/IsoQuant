/-
C11 — reflection of the splice-site strand detection (`get_intron_strand`, `get_strand`, `StrandDetector`):
the *generated* tables CANONICAL_FWD_SITES / CANONICAL_REV_SITES (Gen/Constants.lean, re-translated from
src/common.py on every run) are each other's mirror image — reverse table = every forward pair with the two sides
swapped and each side reverse-complemented — hence the strand read off the splice sites of a mirrored intron is the
opposite strand ('.' stays '.'), for ALL site strings, ALL intron lists and ALL reference sequences.
An edit that reverse-complements the sides without swapping them (or forgets one pair) re-opens
`mirror_dual_canonical_tables` (a `decide` over the whole tables).
-/
import IsoVerif.Model.C11Canonical
import IsoVerif.Lemmas.C11Canonical
import IsoVerif.Lemmas.CanonicalReflect

namespace IsoVerif.Props.C11Canonical
open IsoVerif.Gen IsoVerif.Model.C11 IsoVerif.Lemmas.C11

theorem mirrorSites_involutive (p : Sites) : mirrorSites (mirrorSites p) = p := by
  simp [mirrorSites, rcSeq_involutive]

/-- the generated reverse table is the mirror image of the forward table, and vice versa -/
theorem mirror_dual_canonical_tables :
    (∀ p ∈ CANONICAL_FWD_SITES, mirrorSites p ∈ CANONICAL_REV_SITES) ∧
    (∀ p ∈ CANONICAL_REV_SITES, mirrorSites p ∈ CANONICAL_FWD_SITES) ∧
    CANONICAL_FWD_SITES.length = CANONICAL_REV_SITES.length := by decide

theorem mirror_dual_isFwdSite (p : Sites) : isFwdSite (mirrorSites p) = isRevSite p := by
  rw [Bool.eq_iff_iff]
  simp only [isFwdSite, isRevSite, List.contains_iff_mem]
  constructor
  · intro h
    have := mirror_dual_canonical_tables.1 _ h
    rwa [mirrorSites_involutive] at this
  · intro h; exact mirror_dual_canonical_tables.2.1 _ h

theorem mirror_dual_isRevSite (p : Sites) : isRevSite (mirrorSites p) = isFwdSite p := by
  have := mirror_dual_isFwdSite (mirrorSites p)
  rw [mirrorSites_involutive] at this
  exact this.symm

/-- `get_intron_strand` of the mirrored intron is the opposite strand ('.' stays '.'), for ALL site strings -/
theorem mirror_dual_intronStrandOfSites (p : Sites) :
    intronStrandOfSites (mirrorSites p) = flipStrand (intronStrandOfSites p) := by
  simp only [intronStrandOfSites, mirror_dual_isFwdSite, mirror_dual_isRevSite]
  cases isFwdSite p <;> cases isRevSite p <;> decide

/-- `get_strand` (majority vote over the introns) of the mirrored introns is the opposite strand -/
theorem mirror_dual_strandOfSites (l : List Sites) :
    strandOfSites ((l.map mirrorSites).reverse) = flipStrand (strandOfSites l) := by
  simp only [strandOfSites, List.filter_reverse, List.length_reverse, List.isEmpty_reverse, List.isEmpty_map,
    filter_length_map l mirrorSites isFwdSite isRevSite mirror_dual_isFwdSite,
    filter_length_map l mirrorSites isRevSite isFwdSite mirror_dual_isRevSite]
  cases l.isEmpty
  · exact vote_flip _ _ "." "." rfl
  · rfl

example : intronStrandOfSites ("AT", "AC") = "+" ∧ intronStrandOfSites (mirrorSites ("AT", "AC")) = "-" ∧
    mirrorSites ("AT", "AC") = ("GT", "AT") ∧ intronStrandOfSites ("AA", "CC") = "." := by decide

theorem mirror_dual_sitesOfIntron (ref : List Char) (a b : Nat) (ha : 1 ≤ a) (hab : a + 1 ≤ ref.length)
    (hb : 2 ≤ b) (hbn : b ≤ ref.length) :
    sitesOfIntron (rcList ref) (ref.length + 1 - b) (ref.length + 1 - a) = mirrorSites (sitesOfIntron ref a b) := by
  simp only [sitesOfIntron, mirrorSites, rcSeq, String.toList_ofList, rcList, ← List.map_drop, ← List.map_take]
  have e1 := IsoVerif.Lemmas.window_reverse' ref (ref.length + 1 - b - 1) 2 (by omega)
  have e2 := IsoVerif.Lemmas.window_reverse' ref (ref.length + 1 - a - 2) 2 (by omega)
  have i1 : ref.length - (ref.length + 1 - b - 1) - 2 = b - 2 := by omega
  have i2 : ref.length - (ref.length + 1 - a - 2) - 2 = a - 1 := by omega
  rw [i1] at e1; rw [i2] at e2
  rw [e1, e2]

theorem mirror_dual_isPlus (p : Sites) : isPlus (mirrorSites p) = isMinus p := by
  simp only [isPlus, isMinus, mirror_dual_intronStrandOfSites]
  rcases intronStrand_cases p with h | h | h <;> rw [h] <;> decide

theorem mirror_dual_isMinus (p : Sites) : isMinus (mirrorSites p) = isPlus p := by
  simp only [isPlus, isMinus, mirror_dual_intronStrandOfSites]
  rcases intronStrand_cases p with h | h | h <;> rw [h] <;> decide

theorem mirror_dual_detectorStrand (l : List Sites) (hasA hasT : Bool) :
    detectorStrand ((l.map mirrorSites).reverse) hasT hasA = flipStrand (detectorStrand l hasA hasT) := by
  simp only [detectorStrand, List.filter_reverse, List.length_reverse,
    filter_length_map l mirrorSites isPlus isMinus mirror_dual_isPlus,
    filter_length_map l mirrorSites isMinus isPlus mirror_dual_isMinus]
  exact vote_flip _ _ _ _ (by cases hasA <;> cases hasT <;> rfl)

theorem mirror_dual_detectorCleanStrand (l : List Sites) :
    detectorCleanStrand ((l.map mirrorSites).reverse) = flipStrand (detectorCleanStrand l) := by
  simp only [detectorCleanStrand, List.filter_reverse, List.length_reverse,
    filter_length_map l mirrorSites isPlus isMinus mirror_dual_isPlus,
    filter_length_map l mirrorSites isMinus isPlus mirror_dual_isMinus]
  by_cases h1 : (l.filter isPlus).length = 0 <;> by_cases h2 : (l.filter isMinus).length = 0
  · simp [h1, h2, flipStrand]
  · have : (l.filter isMinus).length > 0 := Nat.pos_of_ne_zero h2
    simp [h1, h2, this, flipStrand]
  · have : (l.filter isPlus).length > 0 := Nat.pos_of_ne_zero h1
    simp [h1, h2, this, flipStrand]
  · have a : (l.filter isPlus).length > 0 := Nat.pos_of_ne_zero h1
    have b : (l.filter isMinus).length > 0 := Nat.pos_of_ne_zero h2
    simp [h1, h2, flipStrand]

example : detectorStrand [("AT", "AC"), ("AA", "AA")] false false = "+" ∧
    detectorStrand (([("AT", "AC"), ("AA", "AA")].map mirrorSites).reverse) false false = "-" ∧
    sitesOfIntron "CCATGGGGACTT".toList 3 10 = ("AT", "AC") ∧
    sitesOfIntron (rcList "CCATGGGGACTT".toList) (12 + 1 - 10) (12 + 1 - 3) = ("GT", "AT") := by decide

end IsoVerif.Props.C11Canonical
