/-
C11 — reflection `x ↦ L + 1 − x` (intervals swap their ends, lists are reversed, left/right partners swap) of
the list functions of the interval model (Model/Interval.lean), for ALL chromosome lengths `L : Int`.

  self-dual     : intervalsTotalLength, readCoverageSweep/Fraction, jaccardSweep, extraExonPercentage,
                  junctionsFromBlocks, getExons
  partner pairs : sumIntervalsToPoint ↔ sumIntervalsFromPoint, getFollowingExon ↔ getPrecedingExon (index i ↔ n−1−i),
                  intervalBinSearch ↔ intervalBinSearchRev (index i ↔ n−1−i, −1 ↔ −1)

Sums and block constructions hold for ALL lists; the two-pointer sweeps and the binary searches are stated for sorted
disjoint well-formed lists (`SD`, `WFl` — the lists the pipeline builds from alignments and annotations), where they
follow from C19's specifications; `sum_mirror_unsorted_witness` shows why the prefix/suffix sums need `f.1 ≤ t.2`.
-/
import IsoVerif.Gen.Prims
import IsoVerif.Model.Interval
import IsoVerif.Model.C11Symmetry
import IsoVerif.Lemmas.C11Mirror
import IsoVerif.Lemmas.Jaccard
import IsoVerif.Lemmas.BinSearchRev

namespace IsoVerif.Props.C11Mirror
open IsoVerif.Gen IsoVerif.Model IsoVerif.Model.C11 IsoVerif.Lemmas IsoVerif.Lemmas.C11

theorem mirror_involutive_list (L : Int) (l : List Iv) : mirrorL L (mirrorL L l) = l := mirrorL_mirrorL L l

theorem mirror_preserves_SD (L : Int) (l : List Iv) (h : SD l) (w : WFl l) :
    SD (mirrorL L l) ∧ WFl (mirrorL L l) := ⟨SD_mirror L l h, WFl_mirror L l w⟩

theorem mirror_dual_intervalsTotalLength (L : Int) (l : List Iv) :
    intervalsTotalLength (mirrorL L l) = intervalsTotalLength l :=
  intervalsTotalLength_mirror L l

/-- the first block does not start after the last one ends (true of every sorted well-formed list) -/
def Spanned (l : List Iv) : Prop := ∀ f t, l.head? = some f → l.getLast? = some t → f.1 ≤ t.2

theorem spanned_of_SD (l : List Iv) (h : SD l) (w : WFl l) : Spanned l := by
  intro f t hf ht
  cases l with
  | nil => simp at hf
  | cons a r =>
    simp only [List.head?_cons, Option.some.injEq] at hf; subst hf
    have h1 := SD_head_le h w t (List.mem_of_getLast? ht)
    have h2 := w t (List.mem_of_getLast? ht)
    omega

/-- number of covered positions left of `p` in the mirror image = number right of `p` in the original -/
theorem mirror_dual_sumIntervalsToPoint (L : Int) (l : List Iv) (p : Int) (hs : Spanned l) :
    sumIntervalsToPoint (mirrorL L l) (mirrorP L p) = sumIntervalsFromPoint l p :=
  sumIntervalsToPoint_mirror L l p hs

theorem mirror_dual_sumIntervalsFromPoint (L : Int) (l : List Iv) (p : Int) (hs : Spanned l) :
    sumIntervalsFromPoint (mirrorL L l) (mirrorP L p) = sumIntervalsToPoint l p := by
  have hs' : Spanned (mirrorL L l) := by
    intro f t hf ht
    obtain ⟨t0, ht0, rfl⟩ := Option.map_eq_some_iff.mp (mirrorL_head? L l ▸ hf)
    obtain ⟨f0, hf0, rfl⟩ := Option.map_eq_some_iff.mp (mirrorL_getLast? L l ▸ ht)
    have := hs f0 t0 hf0 ht0
    simp only [mirrorIv_fst, mirrorIv_snd]; omega
  have := mirror_dual_sumIntervalsToPoint L (mirrorL L l) (mirrorP L p) hs'
  rwa [mirrorL_mirrorL, IsoVerif.Props.C11.mirrorP_involutive, eq_comm] at this

/-- without `Spanned` the two guards of the code are tested in a different order -/
theorem sum_mirror_unsorted_witness :
    sumIntervalsToPoint (mirrorL 10 [(5, 6), (1, 2)]) (mirrorP 10 3) ≠ sumIntervalsFromPoint [(5, 6), (1, 2)] 3 := by
  decide

example : Spanned [(1, 5), (10, 12)] ∧ sumIntervalsToPoint (mirrorL 20 [(1, 5), (10, 12)]) (mirrorP 20 3) = some 5 ∧
    sumIntervalsFromPoint [(1, 5), (10, 12)] 3 = some 5 := by
  refine ⟨spanned_of_SD _ (by decide) (by decide), by decide, by decide⟩

/-- the two-pointer sweep of `read_coverage_fraction` gives the same number from either end -/
theorem mirror_dual_readCoverageSweep (L : Int) (l1 l2 : List Iv) (h1 : SD l1) (h2 : SD l2) (w1 : WFl l1) (w2 : WFl l2) :
    readCoverageSweep (mirrorL L l1) (mirrorL L l2) = readCoverageSweep l1 l2 := by
  rw [sweep_eq_inter _ _ (SD_mirror L l1 h1) (SD_mirror L l2 h2) (WFl_mirror L l1 w1) (WFl_mirror L l2 w2),
    sweep_eq_inter _ _ h1 h2 w1 w2, inter_mirror]

theorem mirror_dual_readCoverageFraction (L : Int) (read iso : List Iv) (h1 : SD read) (h2 : SD iso)
    (w1 : WFl read) (w2 : WFl iso) :
    readCoverageFraction (mirrorL L read) (mirrorL L iso) = readCoverageFraction read iso := by
  simp only [readCoverageFraction, intervalsTotalLength_mirror, mirror_dual_readCoverageSweep L read iso h1 h2 w1 w2]

theorem mirror_dual_jaccardSweep (L : Int) (l1 l2 : List Iv) (h1 : SD l1) (h2 : SD l2) (w1 : WFl l1) (w2 : WFl l2) :
    jaccardSweep (mirrorL L l1) (mirrorL L l2) = jaccardSweep l1 l2 := by
  simp only [jaccardSweep]
  rw [jaccardLoop_spec _ false _ false (SD_mirror L l1 h1) (SD_mirror L l2 h2) (WFl_mirror L l1 w1) (WFl_mirror L l2 w2)
      (by simp) (by simp) (by simp),
    jaccardLoop_spec l1 false l2 false h1 h2 w1 w2 (by simp) (by simp) (by simp)]
  simp only [inter_mirror, intervalsTotalLength_mirror]
  simp

example : SD [(1, 5), (10, 12)] ∧ SD [(4, 11)] ∧
    jaccardSweep (mirrorL 30 [(1, 5), (10, 12)]) (mirrorL 30 [(4, 11)]) = some (4, 12) := by decide +kernel

/-- flanking bases left of the region become flanking bases right of it: the fraction is unchanged (ALL lists) -/
theorem mirror_dual_extraExonPercentage (L : Int) (reg : Iv) (exons : List Iv) :
    extraExonPercentage (mirrorIv L reg) (mirrorL L exons) = extraExonPercentage reg exons := by
  simp only [extraExonPercentage, extraExonLoop_mirror]

/-- introns of the mirrored blocks are the mirrored introns (ALL lists) -/
theorem mirror_dual_junctionsFromBlocks (L : Int) (l : List Iv) :
    junctionsFromBlocks (mirrorL L l) = mirrorL L (junctionsFromBlocks l) :=
  junctionsFromBlocks_mirror L l

theorem mirror_dual_getExons (L : Int) (region : Iv) (introns : List Iv) :
    getExons (mirrorIv L region) (mirrorL L introns) = mirrorL L (getExons region introns) := by
  simp only [getExons, ← junctionsFromBlocks_mirror]
  have e : mirrorL L ((0, region.1 - 1) :: introns ++ [(region.2 + 1, 0)]) =
      (L + 1 - 0, L + 1 - (region.2 + 1)) :: (mirrorL L introns ++ [(L + 1 - (region.1 - 1), L + 1 - 0)]) := by
    simp [mirrorL, mirrorIv]
  rw [e]
  simp only [mirrorIv_fst, mirrorIv_snd]
  have e1 : L + 1 - region.2 - 1 = L + 1 - (region.2 + 1) := by omega
  have e2 : L + 1 - region.1 + 1 = L + 1 - (region.1 - 1) := by omega
  rw [e1, e2]
  exact (junctionsFromBlocks_first 0 (L + 1 - 0) _ _).trans
    (junctionsFromBlocks_last ((L + 1 - 0, L + 1 - (region.2 + 1)) :: mirrorL L introns) (L + 1 - (region.1 - 1)) 0 (L + 1 - 0))

example : getExons (mirrorIv 40 (1, 30)) (mirrorL 40 [(6, 9), (13, 19)]) = mirrorL 40 [(1, 5), (10, 12), (20, 30)] := by
  decide

/-! ### exon before / after an intron: partners, intron index i ↔ n−1−i (0 ≤ i < n) -/

theorem mirror_dual_getFollowingExon (L : Int) (region : Iv) (introns : List Iv) (i : Nat) (h : i < introns.length) :
    getPrecedingExon (mirrorIv L region) (mirrorL L introns) ((introns.length : Int) - 1 - (i : Int))
      = (getFollowingExon region introns (i : Int)).map (mirrorIv L) :=
  getFollowingExon_mirror L region introns i h

theorem mirror_dual_getPrecedingExon (L : Int) (region : Iv) (introns : List Iv) (i : Nat) (h : i < introns.length) :
    getFollowingExon (mirrorIv L region) (mirrorL L introns) ((introns.length : Int) - 1 - (i : Int))
      = (getPrecedingExon region introns (i : Int)).map (mirrorIv L) := by
  have h' : introns.length - 1 - i < (mirrorL L introns).length := by rw [mirrorL_length]; omega
  have := mirror_dual_getFollowingExon L (mirrorIv L region) (mirrorL L introns) (introns.length - 1 - i) h'
  rw [mirrorL_mirrorL, mirrorIv_mirrorIv, mirrorL_length] at this
  have e1 : (introns.length : Int) - 1 - ((introns.length - 1 - i : Nat) : Int) = (i : Int) := by omega
  have e2 : ((introns.length - 1 - i : Nat) : Int) = (introns.length : Int) - 1 - (i : Int) := by omega
  rw [e1, e2] at this
  rw [this, Option.map_map]
  have : (mirrorIv L ∘ mirrorIv L) = id := by funext a; exact mirrorIv_mirrorIv L a
  simp [this]

example : getPrecedingExon (mirrorIv 40 (1, 30)) (mirrorL 40 [(6, 9), (13, 19)]) ((2 : Int) - 1 - 0)
    = (getFollowingExon (1, 30) [(6, 9), (13, 19)] 0).map (mirrorIv 40) ∧
    getFollowingExon (1, 30) [(6, 9), (13, 19)] 0 = some (10, 12) := by decide

/-! ### the two binary searches are each other's mirror image (index i ↔ n−1−i, "not found" −1 ↔ −1) -/

theorem mirror_dual_intervalBinSearch (L : Int) (l : List Iv) (pos : Int) (h : SD l) (w : WFl l) :
    intervalBinSearchRev (mirrorL L l) (mirrorP L pos) = (intervalBinSearch l pos).map (dualIdx l.length) := by
  rcases head?_getLast?_cases l with ⟨rfl, _, _⟩ | ⟨f, tl, hf, ht, _, _, hlen⟩
  · rfl
  · rw [bin_search_total l pos h w f tl hf ht,
      bin_search_rev_total _ _ (SD_mirror L l h) (WFl_mirror L l w) (mirrorIv L tl) (mirrorIv L f)
        (by rw [mirrorL_head?, ht]; rfl) (by rw [mirrorL_getLast?, hf]; rfl)]
    -- a block of the mirror image ends before the mirrored position iff the block starts behind the position
    have hc : (mirrorL L l).countP (fun r => decide (r.2 + 1 ≤ mirrorP L pos))
        = l.length - l.countP (fun r => decide (r.1 ≤ pos)) := by
      rw [mirrorL, List.countP_reverse, List.countP_map,
        List.length_eq_countP_add_countP (fun r => decide (r.1 ≤ pos)) (l := l), Nat.add_sub_cancel_left]
      apply List.countP_congr
      intro r _
      have : (mirrorIv L r).2 + 1 ≤ mirrorP L pos ↔ ¬ r.1 ≤ pos := by simp only [mirrorIv, mirrorP]; omega
      show decide ((mirrorIv L r).2 + 1 ≤ mirrorP L pos) = true ↔ decide (¬ decide (r.1 ≤ pos) = true) = true
      simp only [decide_eq_true_eq, this]
    have := List.countP_le_length (p := fun r => decide (r.1 ≤ pos)) (l := l)
    by_cases hout : pos > tl.2 ∨ pos < f.1
    · have hout' : mirrorP L pos > (mirrorIv L f).2 ∨ mirrorP L pos < (mirrorIv L tl).1 := by
        simp only [mirrorIv, mirrorP]; omega
      rw [if_pos hout, if_pos hout']; rfl
    · have hout' : ¬ (mirrorP L pos > (mirrorIv L f).2 ∨ mirrorP L pos < (mirrorIv L tl).1) := by
        simp only [mirrorIv, mirrorP]; omega
      -- the first block starts at or before the position, so the count is positive
      have hpos : 0 < l.countP (fun r => decide (r.1 ≤ pos)) :=
        List.countP_pos_iff.mpr ⟨f, List.mem_of_mem_head? hf, by simp; omega⟩
      rw [if_neg hout, if_neg hout', hc]
      simp only [Option.map_some, dualIdx]
      congr 1
      rw [if_neg (by omega)]; omega

/-- the same fact read in the other direction: `interval_bin_search_rev` is `interval_bin_search` on the mirror image -/
theorem mirror_dual_intervalBinSearchRev (L : Int) (l : List Iv) (pos : Int) (h : SD l) (w : WFl l) :
    intervalBinSearchRev l pos = (intervalBinSearch (mirrorL L l) (mirrorP L pos)).map (dualIdx l.length) := by
  have := mirror_dual_intervalBinSearch L (mirrorL L l) (mirrorP L pos) (SD_mirror L l h) (WFl_mirror L l w)
  rwa [mirrorL_mirrorL, mirrorL_length, IsoVerif.Props.C11.mirrorP_involutive] at this

example : SD [(1, 5), (10, 12), (20, 30), (40, 41), (50, 60)] ∧
    intervalBinSearch [(1, 5), (10, 12), (20, 30), (40, 41), (50, 60)] 11 = some 1 ∧
    intervalBinSearchRev (mirrorL 100 [(1, 5), (10, 12), (20, 30), (40, 41), (50, 60)]) (mirrorP 100 11) = some 3 := by
  decide

end IsoVerif.Props.C11Mirror
