/-
C10 — experiment name = folder name = file prefix, and "one BAM file per line" of a list file.

Statement (docs/C10.md): a description (YAML or list file) is either REFUSED (message, exit) or ACCEPTED, never answered with an
exception; when it is accepted, the experiments get pairwise different output folders, each of them an entry of its own
directly inside `--output`, and every file `<name><suffix>` of an experiment is an entry of that experiment's folder – for ALL
names a description can carry (absent, blank, empty, non-strings, `./A`, `A/`, `d/A`, `.`, `..`, absolute paths, duplicates) and
all output folders.  A folder is what a path MEANS (`resolveL`: the directory entries walked from the root), not its text.

`describeYaml` / `describeList` are the parsers of the CURRENT source (`namePolicyOfSource` is read off the source); the tree
before the repair (`namePolicyOrig`) keeps its `…_witness` theorems.  Lemmas: `Lemmas/SampleFolders.lean`; the three that need `OwnFolders` or Props/C10Names.lean are here.
-/
import IsoVerif.Model.SampleFolders
import IsoVerif.Lemmas.SampleFolders
import IsoVerif.Props.C10Names

namespace IsoVerif.Props.C10Folders
open IsoVerif.Gen IsoVerif.Model.C10 IsoVerif.Lemmas.C10 IsoVerif.Props.C10Names

/-- static tie: the current source prints the `name` value (`str(sample['name'])`), names a blank value by position, calls
    `check_experiment_name` before every `SampleData`, and refuses a `--bam_list` line with several files (fails to compile on
    a tree where any of the four is missing) -/
theorem name_policy_of_source_fixed : namePolicyOfSource = namePolicyFixed := by decide +kernel

/-- the experiments of an invocation with `--output out` have folders of their own: pairwise different folders; the folder of
    `r` is the entry `r.name` of the output folder; its file `<name><suffix>` is the entry `<name><suffix>` of that folder -/
def OwnFolders (out : String) (rs : List ParsedSample) : Prop :=
  (rs.map (fun r => folderOf out r.name)).Nodup ∧
  ∀ r ∈ rs, folderOf out r.name = resolveL out.toList ++ [r.name.toList] ∧
    ∀ suffix : List Char, '/' ∉ suffix → fileOf out r.name suffix = folderOf out r.name ++ [r.name.toList ++ suffix]

/-- full-strength statement, YAML -/
def AcceptedOwnFolders (describe : String → List RawEntry → Described (List ParsedSample)) : Prop :=
  ∀ (pfx : String) (entries : List RawEntry) (rs : List ParsedSample) (out : String),
    describe pfx entries = .ok rs → OwnFolders out rs

/-- … list files (`--bam_list` and `--fastq_list`) -/
def AcceptedListOwnFolders (describe : Bool → String → List ListLine → Described (List ParsedSample)) : Prop :=
  ∀ (bam : Bool) (pfx : String) (lines : List ListLine) (rs : List ParsedSample) (out : String),
    describe bam pfx lines = .ok rs → OwnFolders out rs

/-- no description makes the parser die with an exception -/
def NeverCrashes (describe : String → List RawEntry → Described (List ParsedSample)) : Prop :=
  ∀ (pfx : String) (entries : List RawEntry), describe pfx entries ≠ .crash

/-- distinct names that pass `check_experiment_name` have folders of their own, under every output folder -/
theorem own_folders_of_checked_names (out : String) (rs : List ParsedSample)
    (hnd : (rs.map ParsedSample.name).Nodup) (hgood : ∀ r ∈ rs, badFolderName r.name = false) : OwnFolders out rs := by
  have hplain : ∀ r ∈ rs, PlainComp r.name.toList := fun r hr => plain_of_not_bad _ (hgood r hr)
  have hfold : ∀ r ∈ rs, folderOf out r.name = resolveL out.toList ++ [r.name.toList] :=
    fun r hr => folder_of_plain out.toList r.name.toList (hplain r hr)
  refine ⟨?_, ?_⟩
  · have e : rs.map (fun r => folderOf out r.name)
        = (rs.map ParsedSample.name).map (fun n => resolveL out.toList ++ [n.toList]) := by
      rw [List.map_map]
      exact List.map_congr_left (fun r hr => by simpa using hfold r hr)
    rw [e]
    refine List.Pairwise.map _ ?_ hnd
    intro a b hab he
    have h1 := List.append_cancel_left he
    simp only [List.cons.injEq, and_true] at h1
    exact hab (String.toList_inj.mp h1)
  · intro r hr
    refine ⟨hfold r hr, ?_⟩
    intro suffix hs
    unfold fileOf
    rw [file_of_plain out.toList r.name.toList suffix (hplain r hr) hs, hfold r hr]
    simp

/-- what an accepted YAML description went through, for every policy: the parser loop accepted it, and – when the source has the
    folder check – every experiment name passed it -/
theorem describeYamlP_ok (pol : NamePolicy) (rc : Bool) (pfx : String) (entries : List RawEntry) (rs : List ParsedSample)
    (h : describeYamlP pol rc pfx entries = .ok rs) :
    parseYamlR rc pfx (entries.map (RawEntry.toEntry pol)) = some rs ∧
      (pol.folderCheck = true → ∀ r ∈ rs, badFolderName r.name = false) := by
  unfold describeYamlP at h
  cases hp : parseYamlR rc pfx (entries.map (RawEntry.toEntry pol)) with
  | none => simp [hp] at h
  | some rs' =>
    simp only [hp] at h
    split at h
    · simp at h
    · split at h
      · simp at h
      · rename_i _ hc
        simp only [Described.ok.injEq] at h
        subst h
        refine ⟨rfl, ?_⟩
        intro hf r hr
        simp only [hf, Bool.true_and, List.any_eq_true, not_exists, not_and, Bool.not_eq_true] at hc
        exact hc r hr

theorem describeListP_ok (pol : NamePolicy) (rc bam : Bool) (pfx : String) (lines : List ListLine) (rs : List ParsedSample)
    (h : describeListP pol rc bam pfx lines = .ok rs) :
    parseListR rc pfx lines = some rs ∧
      (pol.folderCheck = true → ∀ r ∈ rs, badFolderName r.name = false) ∧
      (pol.oneBamPerLine = true → bam = true → ∀ l ∈ lines, ListLine.manyFiles l = false) := by
  unfold describeListP at h
  cases hq : parseListP pol rc bam pfx lines with
  | none => simp [hq] at h
  | some rs' =>
    simp only [hq] at h
    unfold parseListP at hq
    split at hq
    · simp at hq
    · rename_i hm
      split at h
      · simp at h
      · rename_i hc
        simp only [Described.ok.injEq] at h
        subst h
        refine ⟨hq, ?_, ?_⟩
        · intro hf r hr
          simp only [hf, Bool.true_and, List.any_eq_true, not_exists, not_and, Bool.not_eq_true] at hc
          exact hc r hr
        · intro ho hb l hl
          simp only [ho, hb, Bool.true_and, List.any_eq_true, not_exists, not_and, Bool.not_eq_true] at hm
          exact hm l hl

/-- **accepted_names_own_folders** (YAML, current source, ALL inputs): whatever the entries say about names, an accepted
    description gives every experiment a folder of its own directly inside the output folder, with its files inside -/
theorem accepted_names_own_folders : AcceptedOwnFolders describeYaml := by
  intro pfx entries rs out h
  unfold describeYaml at h
  rw [name_policy_of_source_fixed, rename_rule_of_source_fixed] at h
  obtain ⟨hp, hg⟩ := describeYamlP_ok _ _ _ _ _ h
  exact own_folders_of_checked_names out rs (parsed_names_distinct_recheck pfx _ rs hp) (hg rfl)

/-- **accepted_list_names_own_folders** (list files, current source, ALL inputs, both `--bam_list` and `--fastq_list`) -/
theorem accepted_list_names_own_folders : AcceptedListOwnFolders describeList := by
  intro bam pfx lines rs out h
  unfold describeList at h
  rw [name_policy_of_source_fixed, rename_rule_of_source_fixed] at h
  obtain ⟨hp, hg, _⟩ := describeListP_ok _ _ _ _ _ _ h
  exact own_folders_of_checked_names out rs (parsed_list_names_distinct_recheck pfx _ rs hp) (hg rfl)

/-- **description_never_crashes** (current source): a `name` of any YAML type is used by its printed value or named by position;
    the parser answers with experiments or with a refusal -/
theorem description_never_crashes : NeverCrashes describeYaml := by
  intro pfx entries h
  unfold describeYaml at h
  rw [name_policy_of_source_fixed] at h
  unfold describeYamlP at h
  have hr : rawCrash namePolicyFixed entries = false := by simp [rawCrash, namePolicyFixed]
  rw [hr] at h
  cases hp : parseYamlR renameRuleOfSource.yaml pfx (entries.map (RawEntry.toEntry namePolicyFixed)) with
  | none => simp [hp] at h
  | some rs =>
    simp only [hp, Bool.false_eq_true, if_false] at h
    split at h <;> simp at h

/-- non-string and blank names, exactly (current source): the name an entry starts from is its printed value, except that an
    absent key, a blank value and the empty string start from `<prefix><position>` -/
theorem name_for_loop_fixed (n : YamlName) :
    nameForLoop namePolicyFixed n = (if n = .absent ∨ n = .null ∨ n = .str "" then none else some n.printed) := by
  cases n with
  | absent => simp [nameForLoop]
  | null => simp [nameForLoop, namePolicyFixed]
  | str s =>
    by_cases hs : s = ""
    · simp [nameForLoop, namePolicyFixed, hs]
    · simp [nameForLoop, namePolicyFixed, hs, YamlName.printed]
  | int i => simp [nameForLoop]
  | bool b => simp [nameForLoop]
  | other p => simp [nameForLoop, YamlName.printed]

/-- **bam_list_every_file_opened** (current source): of an accepted `--bam_list` description whose file lines name at least one
    file each, the run opens EVERY file the description names (`x[0] for x in file_list` = all files) -/
theorem bam_list_every_file_opened (pfx : String) (lines : List ListLine) (rs : List ParsedSample)
    (hne : ∀ fs lab, ListLine.files fs lab ∈ lines → fs ≠ [])
    (h : describeList true pfx lines = .ok rs) :
    ∀ r ∈ rs, openedBams r = some r.libs.flatten := by
  unfold describeList at h
  rw [name_policy_of_source_fixed] at h
  obtain ⟨hp, _, hone⟩ := describeListP_ok _ _ _ _ _ _ h
  have hone' : ∀ l ∈ lines, l.oneFile := by
    intro l hl
    have hm := hone rfl rfl l hl
    cases l with
    | header nm => trivial
    | files fs lab =>
      have h0 := hne fs lab hl
      simp only [ListLine.manyFiles, decide_eq_false_iff_not, Nat.not_lt] at hm
      have : fs.length ≠ 0 := fun e => h0 (List.length_eq_zero_iff.mp e)
      show fs.length = 1
      omega
  obtain ⟨s, hl, rfl⟩ := Option.map_eq_some_iff.mp hp
  have hI := listLoopR_libs _ pfx lines ⟨ParseSt.init, [], pfx⟩ s hone' hl ⟨by simp [ParseSt.init], by simp⟩
  have hf := flush_libs s hI
  intro r hr
  simp only [finishParse, List.mem_map] at hr
  obtain ⟨t, ht, rfl⟩ := hr
  exact IsoVerif.Lemmas.mapM_head_of_singletons _ (hf t ht)

/-- names 7, blank, `E`, `7` again: experiments `7`, `X1`, `E`, `X3` -/
example : describeYamlP namePolicyFixed true "X"
    [⟨.int 7, some [⟨"/d/a.bam", "a"⟩], none, none⟩, ⟨.null, some [⟨"/d/b.bam", "b"⟩], none, none⟩,
     ⟨.str "E", some [⟨"/d/c.bam", "c"⟩], none, none⟩, ⟨.str "7", some [⟨"/d/d.bam", "d"⟩], none, none⟩]
    = .ok [⟨"7", [["/d/a.bam"]], [("/d/a.bam", "a")], none⟩, ⟨"X1", [["/d/b.bam"]], [("/d/b.bam", "b")], none⟩,
           ⟨"E", [["/d/c.bam"]], [("/d/c.bam", "c")], none⟩, ⟨"X3", [["/d/d.bam"]], [("/d/d.bam", "d")], none⟩] := by decide +kernel

/-- `A` and `./A`: refused -/
example : describeYamlP namePolicyFixed true "X"
    [⟨.str "A", some [⟨"/d/a.bam", "a"⟩], none, none⟩, ⟨.str "./A", some [⟨"/d/b.bam", "b"⟩], none, none⟩] = .exit := by decide +kernel

/-- a path-like name of an entry WITHOUT files is never used: accepted -/
example : describeYamlP namePolicyFixed true "X"
    [⟨.str "./A", some [], none, none⟩, ⟨.str "A", some [⟨"/d/b.bam", "b"⟩], none, none⟩]
    = .ok [⟨"A", [["/d/b.bam"]], [("/d/b.bam", "b")], none⟩] := by decide +kernel

/-- the folders and a file of two accepted experiments under `--output /vol/./out/` -/
example : folderOf "/vol/./out/" "7" = ["vol".toList, "out".toList, "7".toList]
    ∧ fileOf "/vol/./out/" "7" ".gene_counts.tsv".toList = ["vol".toList, "out".toList, "7".toList, "7.gene_counts.tsv".toList] := by
  decide +kernel

example : describeListP namePolicyFixed true true "X"
    [.header "T", .files [⟨"/d/a.bam", "a"⟩, ⟨"/d/b.bam", "b"⟩] none] = .exit := by decide +kernel

/-- `--fastq_list`: a line is a library and may hold several files -/
example : describeListP namePolicyFixed true false "X"
    [.header "T", .files [⟨"/d/a.fq", "a"⟩, ⟨"/d/b.fq", "b"⟩] none]
    = .ok [⟨"T", [["/d/a.fq", "/d/b.fq"]], [("/d/a.fq", "a"), ("/d/b.fq", "a")], none⟩] := by decide +kernel

example : (describeListP namePolicyFixed true true "X"
    [.header "T", .files [⟨"/d/a.bam", "a"⟩] (some "rep1"), .files [⟨"/d/b.bam", "b"⟩] (some "rep2")]).casesOn
      (fun rs => rs.map openedBams) [] [] = [some ["/d/a.bam", "/d/b.bam"]] := by decide +kernel

/-! ### the tree before the repair: each clause is false -/

/-- `A` and `./A` are accepted as two experiments and are ONE folder: the second overwrites the first -/
theorem accepted_names_own_folders_witness : ¬ AcceptedOwnFolders (describeYamlP namePolicyOrig true) := by
  intro h
  have := (h "X" [⟨.str "A", some [⟨"/d/a.bam", "a"⟩], none, none⟩, ⟨.str "./A", some [⟨"/d/b.bam", "b"⟩], none, none⟩]
    [⟨"A", [["/d/a.bam"]], [("/d/a.bam", "a")], none⟩, ⟨"./A", [["/d/b.bam"]], [("/d/b.bam", "b")], none⟩] "/out" (by decide)).1
  revert this
  decide +kernel

/-- the same through a list file -/
theorem accepted_list_names_own_folders_witness : ¬ AcceptedListOwnFolders (describeListP namePolicyOrig true) := by
  intro h
  have := (h true "X" [.header "A", .files [⟨"/d/a.bam", "a"⟩] none, .header "./A", .files [⟨"/d/b.bam", "b"⟩] none]
    [⟨"A", [["/d/a.bam"]], [("/d/a.bam", "a")], none⟩, ⟨"./A", [["/d/b.bam"]], [("/d/b.bam", "b")], none⟩] "/out" (by decide)).1
  revert this
  decide +kernel

/-- `name: ""` is accepted and its "folder" is the output folder itself (`.gene_counts.tsv` lands next to the combined tables) -/
theorem empty_name_folder_witness :
    describeYamlP namePolicyOrig true "X" [⟨.str "", some [⟨"/d/a.bam", "a"⟩], none, none⟩]
      = .ok [⟨"", [["/d/a.bam"]], [("/d/a.bam", "a")], none⟩] ∧ folderOf "/out" "" = resolveL "/out".toList := by decide +kernel

/-- `name: 7`: TypeError in `os.path.join`, the whole invocation dies – also the experiment `E` next to it -/
theorem description_crash_witness : ¬ NeverCrashes (describeYamlP namePolicyOrig true) := by
  intro h
  exact h "X" [⟨.int 7, some [⟨"/d/a.bam", "a"⟩], none, none⟩, ⟨.str "E", some [⟨"/d/b.bam", "b"⟩], none, none⟩] (by decide)

/-- two BAM files on one line: accepted, and the second file is never opened -/
theorem bam_list_every_file_opened_witness :
    describeListP namePolicyOrig true true "X" [.header "T", .files [⟨"/d/a.bam", "a"⟩, ⟨"/d/b.bam", "b"⟩] none]
      = .ok [⟨"T", [["/d/a.bam", "/d/b.bam"]], [("/d/a.bam", "a"), ("/d/b.bam", "a")], none⟩] ∧
    openedBams ⟨"T", [["/d/a.bam", "/d/b.bam"]], [("/d/a.bam", "a"), ("/d/b.bam", "a")], none⟩ = some ["/d/a.bam"] := by decide +kernel

/-- **own_folders_partial**: what every tree guarantees, with or without the check – a description that is accepted AND whose
    experiment names happen to be ordinary folder names has folders of its own.  Missing in the old tree is exactly the
    hypothesis: nothing made it true. -/
theorem own_folders_partial (pol : NamePolicy) (pfx : String) (entries : List RawEntry) (rs : List ParsedSample) (out : String)
    (h : describeYamlP pol true pfx entries = .ok rs) (hgood : ∀ r ∈ rs, badFolderName r.name = false) : OwnFolders out rs := by
  obtain ⟨hp, _⟩ := describeYamlP_ok _ _ _ _ _ h
  exact own_folders_of_checked_names out rs (parsed_names_distinct_recheck pfx _ rs hp) hgood

example : describeYamlP namePolicyOrig true "X"
    [⟨.str "A", some [⟨"/d/a.bam", "a"⟩], none, none⟩, ⟨.absent, some [⟨"/d/b.bam", "b"⟩], none, none⟩]
    = .ok [⟨"A", [["/d/a.bam"]], [("/d/a.bam", "a")], none⟩, ⟨"X1", [["/d/b.bam"]], [("/d/b.bam", "b")], none⟩]
    ∧ badFolderName "A" = false ∧ badFolderName "X1" = false := by decide +kernel

end IsoVerif.Props.C10Folders
