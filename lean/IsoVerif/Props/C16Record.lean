/-
C16 — the two halves composed: what `AlignmentInfo(alignment)` followed by `add_polya_info` leaves in
`read_exons` (the list printed in the `exons` column of `*.read_assignments.tsv`) for one alignment record.
-/
import IsoVerif.Props.C16
import IsoVerif.Props.C16PolyA

namespace IsoVerif.Props.C16Record
open IsoVerif.Gen IsoVerif.Model IsoVerif.Model.C16 IsoVerif.Lemmas.C16

/-- **record_exons_after_trimming** — for every SAM-valid CIGAR (operation lengths ≥ 1), every
    `reference_start ≥ 0`, every polyA/polyT position quadruple and every `max_fake_terminal_exon_len`: if the
    record has at least one exon then `add_polya_info` does not raise and the exon list it leaves is a non-empty,
    sorted, disjoint, contiguous part of the SAM exons of the record (only terminal exons are removed), with the
    read blocks still in step -/
theorem record_exons_after_trimming (s : Int) (ops : List CigarOp) (mf : Int) (info : PolyAInfo)
    (hs : 0 ≤ s) (hp : Pos ops) (hne : (getReadBlocks s ops).refBlocks ≠ []) :
    ∃ r, addPolyaInfo mf (getReadBlocks s ops).refBlocks (getReadBlocks s ops).readBlocks
          (getReadBlocks s ops).cigarBlocks info = some r ∧
      r.exons ≠ [] ∧ r.exons <:+: exonsSpec s ops ∧ SD r.exons ∧ r.readBlocks.length = r.exons.length := by
  obtain ⟨r, hr, hne', hinf, hsd, hrb, _⟩ :=
    C16PolyA.trim_nonempty_sorted mf (getReadBlocks s ops).refBlocks (getReadBlocks s ops).readBlocks
      (getReadBlocks s ops).cigarBlocks info hne
  have hsw := C16.exons_sorted_wf s ops hs hp
  have hq := C16.read_blocks_query_consistent s ops hs hp
  refine ⟨r, hr, hne', ?_, hsd ⟨fun e he => (hsw.1 e he).2, hsw.2⟩, hrb hq.1⟩
  rw [← C16.read_blocks_spec s ops hs hp.nonneg]
  exact hinf

/-- non-vacuity: the record that crashed the pinned tree (`32M100N28M100N36M` at position 1000) -/
example : (0 : Int) ≤ 1000 ∧
    (getReadBlocks 1000 [(.«match», 32), (.skipped, 100), (.«match», 28), (.skipped, 100), (.«match», 36)]).refBlocks
      = [(1001, 1032), (1133, 1160), (1261, 1296)] := by decide

end IsoVerif.Props.C16Record
