/-
C09 — `--counts_format` reaches every grouped count table (repaired code: `fix:` commit 879a99a).  docs/cmd.md, `--counts_format`: output format for grouped counts, one of
matrix / linear (no TPM output) / both.

The table `rg_grouped_counters` (Gen/ReadGroups.lean) is regenerated from `ReadAssignmentAggregator.__init__`
(src/dataset_processor.py) on every run; this file is kept apart from Props/C09Options.lean so that a change of that table
re-opens exactly the obligation below.
-/
import IsoVerif.Model.C09
import IsoVerif.Lemmas.C09

namespace IsoVerif.Props.C09Format
open IsoVerif.Gen IsoVerif.Model.C09 IsoVerif.Lemmas.C09

/-- the format the counter of a grouped table works with: the run's `--counts_format` when the aggregator passes it, the
    default of the factory function otherwise.  This definition IS the model of the call site: `passes` is the entry of the
    generated table `rg_grouped_counters`, the result is the `fmt` argument of `initCounter` -/
def tableFormat (passes : Bool) (fmt : GroupedOutputFormat) : GroupedOutputFormat :=
  if passes then fmt else rg_grouped_format_default

/-- **counts_format_reaches_every_grouped_table**: every grouped count table of `ReadAssignmentAggregator` (table
    generated from the source on every run) is written in the run's `--counts_format` — gene, transcript AND
    transcript-model tables.  On the pinned tree the third entry of the table is `false` and this theorem fails to
    check: with `--counts_format linear` the transcript-model matrix and TPM tables were still written -/
theorem counts_format_reaches_every_grouped_table (fmt : GroupedOutputFormat) :
    ∀ p ∈ rg_grouped_counters, tableFormat p.2 fmt = fmt := by
  have h : ∀ p ∈ rg_grouped_counters, p.2 = true := by decide
  intro p hp
  simp [tableFormat, h p hp]

/-- the three grouped tables are the ones the property names -/
theorem grouped_tables_listed :
    rg_grouped_counters.map Prod.fst = ["gene_grouped_counter", "transcript_grouped_counter", "transcript_model_grouped_counter"] := by
  decide +kernel

/-- **dump_writes_requested_renderings**: a grouped counter writes the matrix rendering iff its format is `matrix` or
    `both`, and the linear rendering iff it is `linear` or `both` -/
theorem dump_writes_requested_renderings (c : Counter) (d : Dump) (hg : c.ignoreGroups = false) (h : dump c = .ok d) :
    (d.matrix.isSome = true ↔ (c.fmt = .matrix ∨ c.fmt = .both)) ∧
    (d.linear.isSome = true ↔ (c.fmt = .linear ∨ c.fmt = .both)) := by
  unfold dump at h
  simp only [hg, Bool.false_eq_true, if_false] at h
  cases hr : dumpGroupedRows c (zeroUnconfirmed c.fc (sortStr c.allFeatures) c.confirmed) (sortStr c.allFeatures) with
  | error e => rw [hr] at h; cases h
  | ok p =>
    rw [hr] at h
    simp only [Except.ok.injEq] at h
    subst h
    cases hf : c.fmt <;> simp [GroupedOutputFormat.output_matrix, GroupedOutputFormat.output_linear] <;> decide

/-- the pinned tree, as a regression example: a table whose counter is not handed the format is written in both
    renderings whatever `--counts_format` says -/
theorem counts_format_orig_witness : tableFormat false .linear = .both ∧ tableFormat true .linear = .linear := by
  decide +kernel

-- non-vacuity of `dump_writes_requested_renderings`: a grouped counter that dumps
example : (initCounter false (some ["a", "b"]) .unique_only ["f"] true .linear).ignoreGroups = false ∧
    (dump (initCounter false (some ["a", "b"]) .unique_only ["f"] true .linear)).toOption.isSome = true := by
  decide +kernel

end IsoVerif.Props.C09Format
