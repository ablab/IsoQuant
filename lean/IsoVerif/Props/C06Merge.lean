/-
C06 — ordered merge of the per-chromosome part files (`merge_files` of src/file_utils.py).
Lemmas on the sort key in IsoVerif/Lemmas/C06Merge.lean.
-/
import IsoVerif.Model.Schedule
import IsoVerif.Lemmas.Schedule
import IsoVerif.Lemmas.C06Merge
import IsoVerif.Props.C06

namespace IsoVerif.Props.C06
open IsoVerif.Model.C06 IsoVerif.Lemmas.C06

/-- `re.split('(\d+)', s)` always yields text, number, text, …, text -/
theorem natural_key_alternates (s : String) : AltS (naturalKey s) := naturalKey_alt s

/-- the key lists of two file names are compared position by position between tokens of the same type:
    Python's list comparison never raises `TypeError` inside `file_names.sort(key=…)` -/
theorem natural_key_no_type_error (a b : String) : cmpKey (naturalKey a) (naturalKey b) ≠ none := by
  rw [cmpKey_eq_of_alt (naturalKey_alt a) (naturalKey_alt b)]; simp

/-- the order used by the merge (`keyLe`) is a total preorder on file names: totality (transitivity: next theorem) -/
theorem natural_merge_order_total (a b : String) : keyLe a b = true ∨ keyLe b a = true := by
  rw [keyLe_iff, keyLe_iff]; exact cmpKeyT_lin.le_total _ _

theorem natural_merge_order_trans (a b c : String) (h1 : keyLe a b = true) (h2 : keyLe b c = true) :
    keyLe a c = true := by
  rw [keyLe_iff] at *; exact cmpKeyT_lin.le_trans _ _ _ h1 h2

/-- the visiting order of the merge is sorted by `keyLe` and (`merge_order_perm`) contains every part file exactly once -/
theorem merge_order_sorted (names : List String) : (mergeOrder names).Pairwise (fun a b => keyLe a b = true) :=
  isort_pairwise keyLe natural_merge_order_trans natural_merge_order_total names

theorem merge_order_perm (names : List String) : (mergeOrder names).Perm names := isort_perm keyLe names

/-- when no two part-file names have equal keys (names that differ by more than letter case / leading zeros),
    the visiting order does not depend on the order in which the chromosomes were listed -/
theorem merge_order_of_perm {names names' : List String} (h : names.Perm names')
    (distinct : ∀ a b, a ∈ names → b ∈ names → keyLe a b = true → keyLe b a = true → a = b) :
    mergeOrder names = mergeOrder names' :=
  isort_eq_of_perm keyLe natural_merge_order_trans natural_merge_order_total distinct h

/-- non-vacuity / regression examples: numeric runs compare as numbers, case is ignored and ties keep the
    submission order (stable sort) -/
example : mergeOrder ["Q_chr10.gtf", "Q_chrX.gtf", "Q_chr2.gtf", "Q_chr1.gtf"]
    = ["Q_chr1.gtf", "Q_chr2.gtf", "Q_chr10.gtf", "Q_chrX.gtf"] := by rw [mergeOrder_eq]; decide +kernel
example : mergeOrder ["Q_chr1.gtf", "Q_Chr1.gtf", "Q_chr01.gtf"] = ["Q_chr1.gtf", "Q_Chr1.gtf", "Q_chr01.gtf"]
    ∧ mergeOrder ["Q_chr01.gtf", "Q_Chr1.gtf", "Q_chr1.gtf"] = ["Q_chr01.gtf", "Q_Chr1.gtf", "Q_chr1.gtf"] := by
  rw [mergeOrder_eq, mergeOrder_eq]; decide +kernel
/-- two names with equal keys keep their input order: why the hypothesis of `merge_order_of_perm` is needed -/
theorem merge_order_tie_witness :
    ["Q_chr1.gtf", "Q_Chr1.gtf"].Perm ["Q_Chr1.gtf", "Q_chr1.gtf"] ∧
    mergeOrder ["Q_chr1.gtf", "Q_Chr1.gtf"] ≠ mergeOrder ["Q_Chr1.gtf", "Q_chr1.gtf"] := by
  refine ⟨List.Perm.swap _ _ _, by rw [mergeOrder_eq, mergeOrder_eq]; decide +kernel⟩

/-- the part files after a pool run, as a function from file name to content -/
def fsOf (names : List String) (results : List (Option (List String))) : String → Option (List String) :=
  fun n => ((names.zip results).lookup n).join

/-- **merged (run s) = merged (run s')**: tasks whose output lines do not depend on the worker state give the same
    merged file under every schedule, every number of workers and every initial worker state -/
theorem merged_schedule_independent {σ χ : Type} (f : σ → χ → List String × σ) (chrs : List χ)
    (names : List String) (copyHeader : Bool) (headerLines : Nat)
    (H : ∀ σ₁ σ₂ c, (f σ₁ c).1 = (f σ₂ c).1)
    (st st' : Nat → σ) (s s' : List Event)
    (hs : ValidSchedule chrs.length s) (hs' : ValidSchedule chrs.length s') :
    mergeFiles (fsOf names (poolMap f chrs st s)) names copyHeader headerLines
      = mergeFiles (fsOf names (poolMap f chrs st' s')) names copyHeader headerLines := by
  rw [schedule_independent f chrs H st st' s s' hs hs']

/-! ### header lines are the lines the WRITER put there (repair `fix_merge_header`)

A part file is `header ++ records`; the caller of `merge_files` passes `header.length`.  No hypothesis on the records:
a record may start with `#` (a read id, a gene / transcript id, a contig name). -/

/-- the records of the part file `n` (nothing for a missing file) -/
def recordsOf (parts : String → Option (List String × List String)) (n : String) : List String :=
  match parts n with
  | none => []
  | some p => p.2

/-- the text of the part file `n`: header lines, then records -/
def textOf (parts : String → Option (List String × List String)) : String → Option (List String) :=
  fun n => (parts n).map (fun p => p.1 ++ p.2)

/-- where no header is copied (`copy_header=False`, or any part but the first), the merge appends the records -/
theorem mergeFiles_go_records (parts : String → Option (List String × List String)) (k : Nat)
    (hk : ∀ n p, parts n = some p → p.1.length = k) (copyHeader : Bool) :
    ∀ (ns : List String) (i : Nat), (copyHeader && i == 0) = false →
      mergeFiles.go (textOf parts) copyHeader k ns i = ns.flatMap (recordsOf parts)
  | [], _, _ => rfl
  | n :: ns, i, hi => by
    have ih := mergeFiles_go_records parts k hk copyHeader ns (i + 1) (by simp)
    simp only [mergeFiles.go, textOf, recordsOf, List.flatMap_cons, hi, ih]
    cases hp : parts n with
    | none => rfl
    | some p => simp [← hk n p hp]

/-- **merge_keeps_every_record** (all merges with `copy_header=False`: read_assignments.tsv, corrected_reads.bed, both
    GTFs, transcript_model_reads.tsv, the SQANTI-like table): whatever the records are, the merged lines are exactly the
    records of the parts, part by part in the visiting order - no record is taken for a header line -/
theorem merge_keeps_every_record (parts : String → Option (List String × List String)) (names : List String) (k : Nat)
    (hk : ∀ n p, parts n = some p → p.1.length = k) :
    mergeFiles (textOf parts) names false k = (mergeOrder names).flatMap (recordsOf parts) :=
  mergeFiles_go_records parts k hk false _ 0 rfl

/-- with `copy_header=True` (the counts files): the first file of the visiting order is copied whole, of every other
    file exactly the records -/
theorem merge_keeps_every_record_with_header (parts : String → Option (List String × List String))
    (names : List String) (k : Nat) (hk : ∀ n p, parts n = some p → p.1.length = k)
    (n₀ : String) (rest : List String) (h₀ : mergeOrder names = n₀ :: rest) :
    mergeFiles (textOf parts) names true k
      = (match parts n₀ with | none => [] | some p => p.1) ++ (mergeOrder names).flatMap (recordsOf parts) := by
  unfold mergeFiles
  rw [h₀]
  simp only [mergeFiles.go, List.flatMap_cons, mergeFiles_go_records parts k hk true rest 1 rfl, textOf, recordsOf]
  cases parts n₀ <;> simp

/-- part files of the contigs `#c1` (3 GTF-like records) and `c2`, without a header (`k = 0`): the example below shows
    the non-vacuity of both statements on them, the witness after it that they are the failing input of the unrepaired tree -/
def exHashParts : String → Option (List String × List String) := fun n =>
  if n = "S_#c1.gtf" then some ([], ["#c1\tgene", "#c1\ttranscript", "#c1\texon"])
  else if n = "S_c2.gtf" then some ([], ["c2\tgene"]) else none

example : (∀ n p, exHashParts n = some p → p.1.length = 0) ∧
    mergeFiles (textOf exHashParts) ["S_#c1.gtf", "S_c2.gtf"] false 0
      = ["#c1\tgene", "#c1\ttranscript", "#c1\texon", "c2\tgene"] := by
  refine ⟨?_, by decide +kernel⟩
  intro n p h
  unfold exHashParts at h
  split at h
  · cases h; rfl
  · split at h
    · cases h; rfl
    · cases h

/-- **merge_hash_witness**: under the header test by content of the unrepaired tree (`mergeFilesOrig`) all records of
    the contig `#c1` vanish from the merged file (replayed on the real code: harness/props/C03.py, C06.py) -/
theorem merge_hash_witness :
    mergeFilesOrig (textOf exHashParts) ["S_#c1.gtf", "S_c2.gtf"] false = ["c2\tgene"] ∧
    mergeFiles (textOf exHashParts) ["S_#c1.gtf", "S_c2.gtf"] false 0
      = ["#c1\tgene", "#c1\ttranscript", "#c1\texon", "c2\tgene"] := by
  decide +kernel

end IsoVerif.Props.C06
