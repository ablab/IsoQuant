/-
C13 — exon / intron inclusion and exclusion counts equal a recount from the alignments.
Part 2: what a +1 / −1 of the gene profile means (src/long_read_profiles.py construct_exon_profile /
construct_intron_profile / construct_profile_for_features), i.e. the link between the counted values and the
declarative reading of the property (DESIGN.md §6, C13/C19).  Helper lemmas: IsoVerif/Lemmas/C13ProfileSound.lean
(soundness), C13ProfileComplete.lean (the converse under `Hyp`).
-/
import IsoVerif.Model.FeatureCounts
import IsoVerif.Lemmas.C13ProfileSound
import IsoVerif.Lemmas.C13ProfileComplete
import IsoVerif.Gen.Strategies

namespace IsoVerif.Props.C13Profiles
open IsoVerif.Gen IsoVerif.Model IsoVerif.Model.C13 IsoVerif.Lemmas.C13

/-- INCLUDE, soundness (no hypothesis on the inputs): a known feature is marked present (+1) only if some read
    feature satisfies the comparator with it — and it is not masked by a polyA / polyT position -/
theorem include_sound (K : List Iv) (gr : Iv) (cmp absent : Iv → Iv → Bool) (δ : Int) (R : List Iv) (M : Iv)
    (pa pt : Int) (i : Nat)
    (h : (constructOverlapping K gr cmp absent δ R M pa pt).gene[i]? = some 1) :
    ∃ (j : Nat) (r k : Iv), R[j]? = some r ∧ K[i]? = some k ∧ cmp r k = true ∧
      ¬ (pa ≠ -1 ∧ k.1 > pa + δ) ∧ ¬ (pt ≠ -1 ∧ k.2 < pt - δ) := by
  obtain ⟨h1, k, hk, hpa, hpt⟩ := constructOverlapping_gene K gr cmp absent δ R M pa pt i 1 (by decide) h
  obtain ⟨j, r, _, hr, hc⟩ := sweepState_one K gr cmp absent R M i k hk (ovEliminate_ne_neg K R _ _ i 1 (by decide) h1)
  exact ⟨j, r, k, hr, hk, hc, hpa, hpt⟩

/-- EXCLUDE, soundness (known features ordered by start, as the code's sorted feature lists are): a known feature is
    marked absent (−1) only if the absence test holds for the mapped region, or it lies strictly inside a gap
    between two consecutive read features, or it loses a tie (a read feature matches it and a strictly closer
    known feature) -/
theorem exclude_sound (K : List Iv) (gr : Iv) (cmp absent : Iv → Iv → Bool) (δ : Int) (R : List Iv) (M : Iv)
    (pa pt : Int) (hK : SortedStarts K) (i : Nat)
    (h : (constructOverlapping K gr cmp absent δ R M pa pt).gene[i]? = some (-1)) :
    ∃ k, K[i]? = some k ∧ (absent M k = true ∨ InGap R k ∨ TieLoser cmp K R k) ∧
      ¬ (pa ≠ -1 ∧ k.1 > pa + δ) ∧ ¬ (pt ≠ -1 ∧ k.2 < pt - δ) := by
  obtain ⟨h1, k, hk, hpa, hpt⟩ := constructOverlapping_gene K gr cmp absent δ R M pa pt i (-1) (by decide) h
  refine ⟨k, hk, ?_, hpa, hpt⟩
  have hs := sweepState_matched K gr cmp absent R M
  rcases ovEliminate_spec K R (sweepState K gr cmp absent R M).matched (sweepState K gr cmp absent R M).gene i with he | ⟨_, ri, i', hm, hm', hlt⟩
  · rw [he] at h1
    exact (sweepState_neg K gr cmp absent R M hK i k hk h1).imp id Or.inl
  · obtain ⟨r, k1, hr, hk1, hc⟩ := hs _ hm
    obtain ⟨r', k2, hr', hk2, hc'⟩ := hs _ hm'
    simp only at hr hk1 hr' hk2
    rw [hk] at hk1; cases hk1
    rw [hr] at hr'; cases hr'
    exact Or.inr (Or.inr ⟨ri, r, i', k2, hr, hk2, hc, hc', (loserIdx_iff K R i ri i' r k k2 hr hk hk2).mp hlt⟩)

example : SortedStarts [(10, 20), (12, 20), (30, 40), (50, 60)] ∧
    (constructOverlapping [(10, 20), (12, 20), (30, 40), (50, 60)] (10, 60) (fun a b => equal_ranges a b 4)
      (fun a b => contains a b) 4 [(10, 20), (50, 60)] (24, 46) (-1) (-1)).gene = [1, -1, -1, 1] := by
  refine ⟨by simp [SortedStarts], by decide +kernel⟩

/-- exon profile: an annotated exon is counted as included for a read only if one of the read's exon blocks equals it
    within δ at both ends -/
theorem exon_include_sound (known : List Iv) (gr : Iv) (δ : Int) (blocks : List Iv) (pa pt : Int) (p : ProfileResult)
    (hp : constructExonProfile known gr δ blocks pa pt = some p) (i : Nat) (h : p.gene[i]? = some 1) :
    ∃ (j : Nat) (r k : Iv), blocks[j]? = some r ∧ known[i]? = some k ∧ equal_ranges r k δ = true := by
  unfold constructExonProfile at hp
  split at hp
  · simp at hp; subst hp
    obtain ⟨j, r, k, h1, h2, h3, _⟩ := include_sound _ _ _ _ _ _ _ _ _ i h
    exact ⟨j, r, k, h1, h2, h3⟩
  · simp at hp

/-- exon profile: an annotated exon is counted as excluded only if it lies inside the inner region
    `[first block end + δ, last block start − δ]` of the read, or strictly inside one of the read's introns, or a
    read exon matches it within δ but matches another annotated exon more closely -/
theorem exon_exclude_sound (known : List Iv) (gr : Iv) (δ : Int) (blocks : List Iv) (pa pt : Int) (p : ProfileResult)
    (hK : SortedStarts known)
    (hp : constructExonProfile known gr δ blocks pa pt = some p) (i : Nat) (h : p.gene[i]? = some (-1)) :
    ∃ (f l k : Iv), blocks.head? = some f ∧ blocks.getLast? = some l ∧ known[i]? = some k ∧
      ((f.2 + δ ≤ k.1 ∧ k.2 ≤ l.1 - δ) ∨ InGap blocks k ∨ TieLoser (fun a b => equal_ranges a b δ) known blocks k) := by
  unfold constructExonProfile at hp
  split at hp
  · rename_i f l hf hl
    simp at hp; subst hp
    obtain ⟨k, h1, h2, _⟩ := exclude_sound _ _ _ _ _ _ _ _ _ hK i h
    refine ⟨f, l, k, hf, hl, h1, ?_⟩
    rcases h2 with h2 | h2 | h2
    · left; simp [contains] at h2; omega
    · exact Or.inr (Or.inl h2)
    · exact Or.inr (Or.inr h2)
  · simp at hp

/-- intron profile: an annotated intron is counted as included only if one of the read's introns (gaps between
    consecutive blocks) equals it within δ at both ends -/
theorem intron_include_sound (known : List Iv) (gr : Iv) (δ absδ : Int) (blocks : List Iv) (pa pt : Int) (p : ProfileResult)
    (hp : constructIntronProfile known gr δ absδ blocks pa pt = some p) (i : Nat) (h : p.gene[i]? = some 1) :
    ∃ (j : Nat) (r k : Iv), (junctionsFromBlocks blocks)[j]? = some r ∧ known[i]? = some k ∧ equal_ranges r k δ = true := by
  unfold constructIntronProfile at hp
  split at hp
  · simp at hp; subst hp
    obtain ⟨j, r, k, h1, h2, h3, _⟩ := include_sound _ _ _ _ _ _ _ _ _ i h
    exact ⟨j, r, k, h1, h2, h3⟩
  · simp at hp

/-- intron profile: an annotated intron is counted as excluded only if the read's span `(first start, last end)`
    overlaps it per `overlaps_at_least` (characterised position-wise by `C19.overlaps_at_least_spec`), or it lies
    strictly between two consecutive read introns, or it loses a tie -/
theorem intron_exclude_sound (known : List Iv) (gr : Iv) (δ absδ : Int) (blocks : List Iv) (pa pt : Int) (p : ProfileResult)
    (hK : SortedStarts known)
    (hp : constructIntronProfile known gr δ absδ blocks pa pt = some p) (i : Nat) (h : p.gene[i]? = some (-1)) :
    ∃ (f l k : Iv), blocks.head? = some f ∧ blocks.getLast? = some l ∧ known[i]? = some k ∧
      (overlaps_at_least (f.1, l.2) k absδ = true ∨ InGap (junctionsFromBlocks blocks) k ∨
        TieLoser (fun a b => equal_ranges a b δ) known (junctionsFromBlocks blocks) k) := by
  unfold constructIntronProfile at hp
  split at hp
  · rename_i f l hf hl
    simp at hp; subst hp
    obtain ⟨k, h1, h2, _⟩ := exclude_sound _ _ _ _ _ _ _ _ _ hK i h
    exact ⟨f, l, k, hf, hl, h1, h2⟩
  · simp at hp

/-- on an empty block list the real code raises IndexError (`sorted_blocks[0]`); so does the model -/
theorem profile_empty_blocks (known : List Iv) (gr : Iv) (δ a pa pt : Int) :
    constructExonProfile known gr δ [] pa pt = none ∧ constructIntronProfile known gr δ a [] pa pt = none := by
  simp [constructExonProfile, constructIntronProfile]


/-- the hypotheses under which the profile equals its declarative meaning: known features ordered by start and longer
    than δ, read features well formed and more than δ apart (DESIGN.md §7 C19 `read_profile_spec`; for δ = 0 this is
    "features well formed, read features sorted and disjoint").  Outside them `sweep_skip_witness` applies. -/
structure Hyp (δ : Int) (K R : List Iv) : Prop where
  sorted : SortedStarts K
  long : LongerThan δ K
  sep : SepBy δ R
  wf : WFR R

/-- `k` is a best match: a read feature equals it within δ and no known feature is strictly closer to that read
    feature (sum of the two site distances) -/
def Best (δ : Int) (K R : List Iv) (k : Iv) : Prop :=
  ∃ (j : Nat) (r : Iv), R[j]? = some r ∧ equal_ranges r k δ = true ∧
    ∀ (i' : Nat) (k' : Iv), K[i']? = some k' → equal_ranges r k' δ = true → matchDelta r k ≤ matchDelta r k'

/-- the full-strength statement ("a feature is counted as included iff a read feature matches it within δ, best
    match") is FALSE without hypotheses (`sweep_skip_witness`); this is the proved part -/
theorem include_iff_best_partial (K : List Iv) (gr : Iv) (absent : Iv → Iv → Bool) (δ : Int) (R : List Iv) (M : Iv)
    (pa pt : Int) (hyp : Hyp δ K R) (i : Nat) (k : Iv) (hk : K[i]? = some k) :
    (constructOverlapping K gr (fun a b => equal_ranges a b δ) absent δ R M pa pt).gene[i]? = some 1 ↔
      (Best δ K R k ∧ ¬ (pa ≠ -1 ∧ k.1 > pa + δ) ∧ ¬ (pt ≠ -1 ∧ k.2 < pt - δ)) := by
  have hs := sweepState_matched K gr (fun a b => equal_ranges a b δ) absent R M
  have hrange := sweepState_matched_lt K gr (fun a b => equal_ranges a b δ) absent R M
  have hglen : (sweepState K gr (fun a b => equal_ranges a b δ) absent R M).gene.length = K.length := sweepState_gene_length ..
  have hi : i < K.length := (List.getElem?_eq_some_iff.mp hk).1
  constructor
  · intro h
    obtain ⟨h1, k', hk', hpa, hpt⟩ := constructOverlapping_gene K gr _ absent δ R M pa pt i 1 (by decide) h
    rw [hk] at hk'; cases hk'
    refine ⟨?_, hpa, hpt⟩
    -- not a loser, else the elimination would have written −1
    have hnl : ¬ LoserIdx K R (sweepState K gr (fun a b => equal_ranges a b δ) absent R M).matched i := by
      intro hl
      have := ovEliminate_hit K R _ (sweepState K gr (fun a b => equal_ranges a b δ) absent R M).gene i (by omega) hrange hl
      rw [h1] at this; simp at this
    obtain ⟨j, r, hj, hr, hc⟩ := sweepState_one K gr _ absent R M i k hk (ovEliminate_ne_neg K R _ _ i 1 (by decide) h1)
    refine ⟨j, r, hr, hc, fun i' k' hk' hc' => Int.not_lt.mp fun hlt => hnl ?_⟩
    have hj' := (sweepState_complete K gr absent δ R M hyp.sorted hyp.long hyp.sep hyp.wf j i' r k' hr hk' hc').1
    exact ⟨j, i', hj, hj', (loserIdx_iff K R i j i' r k k' hr hk hk').mpr hlt⟩
  · rintro ⟨⟨j, r, hr, hc, hbest⟩, hpa, hpt⟩
    obtain ⟨hj, hg⟩ := sweepState_complete K gr absent δ R M hyp.sorted hyp.long hyp.sep hyp.wf j i r k hr hk hc
    apply constructOverlapping_gene_fwd K gr _ absent δ R M pa pt i k 1 hk ?_ hpa hpt
    rcases ovEliminate_spec K R _ (sweepState K gr (fun a b => equal_ranges a b δ) absent R M).gene i with he | ⟨_, ri, i', hm, hm', hlt⟩
    · rw [he]; exact hg
    · exfalso
      obtain ⟨r1, k1, hr1, hk1, hc1⟩ := hs _ hm
      obtain ⟨r2, k2, hr2, hk2, hc2⟩ := hs _ hm'
      simp only at hr1 hk1 hr2 hk2
      rw [hk] at hk1; cases hk1
      rw [hr1] at hr2; cases hr2
      have : j = ri := sep_unique δ R hyp.sep k (hyp.long k (List.mem_of_getElem? hk)) j ri r r1 hr hr1 hc hc1
      subst this
      rw [hr] at hr1; cases hr1
      have := (loserIdx_iff K R i j i' r k k2 hr hk hk2).mp hlt
      have := hbest i' k2 hk2 hc2
      omega

/-- corollary without polyA / polyT position: under the hypotheses a best match is included -/
theorem include_complete_partial (K : List Iv) (gr : Iv) (absent : Iv → Iv → Bool) (δ : Int) (R : List Iv) (M : Iv)
    (hyp : Hyp δ K R) (i : Nat) (k : Iv) (hk : K[i]? = some k) (hb : Best δ K R k) :
    (constructOverlapping K gr (fun a b => equal_ranges a b δ) absent δ R M (-1) (-1)).gene[i]? = some 1 :=
  (include_iff_best_partial K gr absent δ R M (-1) (-1) hyp i k hk).mpr ⟨hb, by simp, by simp⟩

/-- under the hypotheses a feature counted as excluded is never a best match ("without containing the feature itself") -/
theorem exclude_not_best_partial (K : List Iv) (gr : Iv) (absent : Iv → Iv → Bool) (δ : Int) (R : List Iv) (M : Iv)
    (pa pt : Int) (hyp : Hyp δ K R) (i : Nat) (k : Iv) (hk : K[i]? = some k)
    (h : (constructOverlapping K gr (fun a b => equal_ranges a b δ) absent δ R M pa pt).gene[i]? = some (-1)) :
    ¬ Best δ K R k := by
  intro hb
  obtain ⟨_, k', hk', hpa, hpt⟩ := constructOverlapping_gene K gr _ absent δ R M pa pt i (-1) (by decide) h
  rw [hk] at hk'; cases hk'
  have := (include_iff_best_partial K gr absent δ R M pa pt hyp i k hk).mpr ⟨hb, hpa, hpt⟩
  rw [h] at this; simp at this


/-- EXCLUDE under the hypotheses (and δ ≥ 0, true of every preset: `delta_presets_nonneg`): a known feature is counted
    as excluded iff it is not a best match and it loses a tie, or the absence test holds for the mapped region, or
    it lies strictly inside a gap between consecutive read features — and it is not masked by a polyA/polyT position.
    Together with `include_iff_best_partial` this is the declarative meaning of the two counted values. -/
theorem exclude_iff_partial (K : List Iv) (gr : Iv) (absent : Iv → Iv → Bool) (δ : Int) (R : List Iv) (M : Iv)
    (pa pt : Int) (hδ : 0 ≤ δ) (hyp : Hyp δ K R) (i : Nat) (k : Iv) (hk : K[i]? = some k) :
    (constructOverlapping K gr (fun a b => equal_ranges a b δ) absent δ R M pa pt).gene[i]? = some (-1) ↔
      (¬ Best δ K R k ∧ (TieLoser (fun a b => equal_ranges a b δ) K R k ∨ absent M k = true ∨ InGap R k) ∧
        ¬ (pa ≠ -1 ∧ k.1 > pa + δ) ∧ ¬ (pt ≠ -1 ∧ k.2 < pt - δ)) := by
  constructor
  · intro h
    obtain ⟨k', hk', hor, hpa, hpt⟩ := exclude_sound K gr _ absent δ R M pa pt hyp.sorted i h
    rw [hk] at hk'; cases hk'
    refine ⟨exclude_not_best_partial K gr absent δ R M pa pt hyp i k hk h, ?_, hpa, hpt⟩
    rcases hor with h' | h' | h'
    · exact Or.inr (Or.inl h')
    · exact Or.inr (Or.inr h')
    · exact Or.inl h'
  · rintro ⟨hnb, hor, hpa, hpt⟩
    have hrange := sweepState_matched_lt K gr (fun a b => equal_ranges a b δ) absent R M
    have hglen : (sweepState K gr (fun a b => equal_ranges a b δ) absent R M).gene.length = K.length := sweepState_gene_length ..
    have hi : i < K.length := (List.getElem?_eq_some_iff.mp hk).1
    apply constructOverlapping_gene_fwd K gr _ absent δ R M pa pt i k (-1) hk ?_ hpa hpt
    by_cases hmatch : ∃ (j : Nat) (r : Iv), R[j]? = some r ∧ equal_ranges r k δ = true
    · -- some read feature matches k; k is not best, so a strictly closer variant exists: the elimination marks k
      obtain ⟨j, r, hr, hc⟩ := hmatch
      have hex : ∃ (i' : Nat) (k' : Iv), K[i']? = some k' ∧ equal_ranges r k' δ = true ∧ matchDelta r k' < matchDelta r k := by
        apply Classical.byContradiction
        intro hne
        apply hnb
        refine ⟨j, r, hr, hc, ?_⟩
        intro i' k' hk' hc'
        apply Int.not_lt.mp
        intro hlt
        exact hne ⟨i', k', hk', hc', hlt⟩
      obtain ⟨i', k', hk', hc', hlt⟩ := hex
      have hj := (sweepState_complete K gr absent δ R M hyp.sorted hyp.long hyp.sep hyp.wf j i r k hr hk hc).1
      have hj' := (sweepState_complete K gr absent δ R M hyp.sorted hyp.long hyp.sep hyp.wf j i' r k' hr hk' hc').1
      exact ovEliminate_hit K R _ _ i (by omega) hrange ⟨j, i', hj, hj', (loserIdx_iff K R i j i' r k k' hr hk hk').mpr hlt⟩
    · -- no read feature matches k: the sweep leaves −1 there and the elimination does not touch a −1
      have hsweep : (sweepState K gr (fun a b => equal_ranges a b δ) absent R M).gene[i]? = some (-1) := by
        have hnot1 : (sweepState K gr (fun a b => equal_ranges a b δ) absent R M).gene[i]? ≠ some 1 := by
          intro h1
          obtain ⟨j, r, _, hr, hc⟩ := sweepState_one K gr _ absent R M i k hk h1
          exact hmatch ⟨j, r, hr, hc⟩
        rcases hor with ht | ha | hg
        · obtain ⟨j, r, _, _, hr, _, hc, _⟩ := ht
          exact absurd ⟨j, r, hr, hc⟩ hmatch
        · have hinit : (K.map (fun k => if absent M k then (-1 : Int) else 0))[i]? = some (-1) := by
            simp [List.getElem?_map, hk, ha]
          rcases ovSweep_gene_tri (fun a b => equal_ranges a b δ) absent M K 0 R 0
            { gene := K.map (fun k => if absent M k then -1 else 0), read := R.map (fun r => if absent gr r then -1 else 0), matched := [] } i with h | h | h
          · exact h.trans hinit
          · exact h
          · exact absurd h hnot1
        · obtain ⟨j, r, r', hr, hr', hlt1, hlt2⟩ := hg
          have hWk : ∀ x ∈ K, x.1 ≤ x.2 := fun x hx => by have := hyp.long x hx; omega
          refine sweepState_gap K gr _ absent R M hyp.sorted hWk hyp.wf i k hk (j + 1) r' (by omega) hr' hlt2 ?_
          intro c' r'' hc' hr''
          by_cases hcj : c' = j
          · subst hcj; rw [hr] at hr''; cases hr''; exact hlt1
          · obtain ⟨h1, e1⟩ := List.getElem?_eq_some_iff.mp hr''
            obtain ⟨h2, e2⟩ := List.getElem?_eq_some_iff.mp hr
            have := (List.pairwise_iff_getElem.mp hyp.sep) c' j h1 h2 (by omega)
            rw [e1, e2] at this
            have := hyp.wf r (List.mem_of_getElem? hr)
            omega
      rcases ovEliminate_spec K R _ (sweepState K gr (fun a b => equal_ranges a b δ) absent R M).gene i with he | ⟨he, _⟩
      · rw [he]; exact hsweep
      · exact he

example : Hyp 4 [(100, 200), (250, 280), (300, 400), (500, 600)] [(100, 200), (500, 600)] ∧
    (constructOverlapping [(100, 200), (250, 280), (300, 400), (500, 600)] (100, 600) (fun a b => equal_ranges a b 4)
      (fun a b => contains a b) 4 [(100, 200), (500, 600)] (204, 496) (-1) (-1)).gene = [1, -1, -1, 1] := by
  refine ⟨⟨by simp [SortedStarts], by simp [LongerThan], by simp [SepBy], by simp [WFR]⟩, by decide +kernel⟩

/-- the two counted values of the EXON table, declaratively (hypotheses on annotated exons and read blocks):
    +1 ⇔ best match within δ; −1 ⇔ not a best match and (tie loser ∨ inside the inner region
    `[first block end + δ, last block start − δ]` ∨ strictly inside a read intron); both only when not masked -/
theorem exon_profile_meaning_partial (known : List Iv) (gr : Iv) (δ : Int) (blocks : List Iv) (pa pt : Int) (p : ProfileResult)
    (hδ : 0 ≤ δ) (hyp : Hyp δ known blocks) (hp : constructExonProfile known gr δ blocks pa pt = some p)
    (i : Nat) (k : Iv) (hk : known[i]? = some k) :
    ∃ (f l : Iv), blocks.head? = some f ∧ blocks.getLast? = some l ∧
      (p.gene[i]? = some 1 ↔ (Best δ known blocks k ∧ ¬ (pa ≠ -1 ∧ k.1 > pa + δ) ∧ ¬ (pt ≠ -1 ∧ k.2 < pt - δ))) ∧
      (p.gene[i]? = some (-1) ↔
        (¬ Best δ known blocks k ∧
          (TieLoser (fun a b => equal_ranges a b δ) known blocks k ∨ (f.2 + δ ≤ k.1 ∧ k.2 ≤ l.1 - δ) ∨ InGap blocks k) ∧
          ¬ (pa ≠ -1 ∧ k.1 > pa + δ) ∧ ¬ (pt ≠ -1 ∧ k.2 < pt - δ))) := by
  unfold constructExonProfile at hp
  split at hp
  · rename_i f l hf hl
    simp at hp; subst hp
    refine ⟨f, l, hf, hl, include_iff_best_partial known gr _ δ blocks _ pa pt hyp i k hk, ?_⟩
    rw [exclude_iff_partial known gr _ δ blocks _ pa pt hδ hyp i k hk]
    have : (contains (f.2 + δ, l.1 - δ) k = true) ↔ (f.2 + δ ≤ k.1 ∧ k.2 ≤ l.1 - δ) := by
      simp [contains]; omega
    rw [this]
  · simp at hp

/-- the same for the INTRON table (read features = the junctions of the blocks; absence test = `overlaps_at_least`
    of the read span, characterised position-wise by `C19.overlaps_at_least_spec`) -/
theorem intron_profile_meaning_partial (known : List Iv) (gr : Iv) (δ absδ : Int) (blocks : List Iv) (pa pt : Int)
    (p : ProfileResult) (hδ : 0 ≤ δ) (hyp : Hyp δ known (junctionsFromBlocks blocks))
    (hp : constructIntronProfile known gr δ absδ blocks pa pt = some p) (i : Nat) (k : Iv) (hk : known[i]? = some k) :
    ∃ (f l : Iv), blocks.head? = some f ∧ blocks.getLast? = some l ∧
      (p.gene[i]? = some 1 ↔
        (Best δ known (junctionsFromBlocks blocks) k ∧ ¬ (pa ≠ -1 ∧ k.1 > pa + δ) ∧ ¬ (pt ≠ -1 ∧ k.2 < pt - δ))) ∧
      (p.gene[i]? = some (-1) ↔
        (¬ Best δ known (junctionsFromBlocks blocks) k ∧
          (TieLoser (fun a b => equal_ranges a b δ) known (junctionsFromBlocks blocks) k ∨
            overlaps_at_least (f.1, l.2) k absδ = true ∨ InGap (junctionsFromBlocks blocks) k) ∧
          ¬ (pa ≠ -1 ∧ k.1 > pa + δ) ∧ ¬ (pt ≠ -1 ∧ k.2 < pt - δ))) := by
  unfold constructIntronProfile at hp
  split at hp
  · rename_i f l hf hl
    simp at hp; subst hp
    exact ⟨f, l, hf, hl, include_iff_best_partial known gr _ δ _ _ pa pt hyp i k hk,
      exclude_iff_partial known gr _ δ _ _ pa pt hδ hyp i k hk⟩
  · simp at hp

-- non-vacuity: genome-like input meeting the hypotheses for δ = 4, with a tie (two variants of the first exon)
example : Hyp 4 [(100, 200), (102, 200), (300, 400), (500, 600)] [(101, 200), (500, 603)] ∧
    Best 4 [(100, 200), (102, 200), (300, 400), (500, 600)] [(101, 200), (500, 603)] (100, 200) := by
  refine ⟨⟨by simp [SortedStarts], by simp [LongerThan], by simp [SepBy], by simp [WFR]⟩, 0, (101, 200), rfl, by decide +kernel, ?_⟩
  intro i' k' hk' _
  match i', hk' with
  | 0, h => simp at h; subst h; decide +kernel
  | 1, h => simp at h; subst h; decide +kernel
  | 2, h => simp at h; subst h; decide +kernel
  | 3, h => simp at h; subst h; decide +kernel
  | n + 4, h => simp at h

/-- every delta preset of `set_matching_options` (regenerated from isoquant.py) is non-negative, so δ = 0 reduces the
    hypotheses to well-formed, sorted, disjoint features -/
theorem delta_presets_nonneg : ∀ p ∈ matching_presets, 0 ≤ p.2.delta := by decide +kernel

theorem hyp_delta_zero (K R : List Iv) (hS : SortedStarts K) (hK : ∀ k ∈ K, k.1 ≤ k.2)
    (hR : R.Pairwise (fun a b => a.2 < b.1)) (hW : ∀ r ∈ R, r.1 ≤ r.2) : Hyp 0 K R :=
  ⟨hS, fun k hk => by have := hK k hk; omega, hR.imp (fun h => by omega), hW⟩

/-! ### corners that are real (proved on the model, replayed on the real code by the harness) -/

/-- the sweep can skip a matching pair when a known feature is not longer than δ / read features are δ or less
    apart: `(3,4)` equals `(2,4)` within δ = 1 but the feature stays 0 -/
theorem sweep_skip_witness :
    (constructOverlapping [(2, 4)] (1, 10) (fun a b => equal_ranges a b 1) (fun a b => contains a b) 1
      [(1, 2), (3, 4)] (0, 0) (-1) (-1)).gene = [0] ∧ equal_ranges (3, 4) (2, 4) 1 = true := by decide +kernel

/-- with a spanning mapped region the skipped feature is even counted as excluded although a read feature matches
    it within δ -/
theorem exclude_while_matching_witness :
    (constructExonProfile [(2, 4)] (0, 9) 1 [(0, 0), (1, 2), (3, 4), (9, 9)] (-1) (-1)).map (·.gene) = some [-1] ∧
    equal_ranges (3, 4) (2, 4) 1 = true := by decide +kernel

/-! ### class `micro_feature_sweep_skip` (known finding) -/

/-- the class predicate of the known finding, for one (known feature, read feature) pair: the read feature equals the
    known feature within δ, and the known feature is shorter than δ + 1 or the read feature starts at most δ after the
    end of an earlier read feature.  (The oracle's `micro_class` asks this of the feature itself or of a competitor for the
    same read feature.) -/
def MicroPair (δ : Int) (R : List Iv) (k r : Iv) : Prop :=
  equal_ranges r k δ = true ∧ (k.2 - k.1 < δ ∨ ∃ p, [p, r].Sublist R ∧ r.1 - p.2 ≤ δ)

/-- the class lies outside `Hyp`: under the hypotheses of the `…_partial` theorems no pair is in it -/
theorem micro_pair_outside_hyp (δ : Int) (K R : List Iv) (hyp : Hyp δ K R) (k r : Iv) (hk : k ∈ K) :
    ¬ MicroPair δ R k r := by
  rintro ⟨_, h | ⟨p, hs, hd⟩⟩
  · have := hyp.long k hk; omega
  · have := (List.pairwise_cons.mp (List.Pairwise.sublist hs hyp.sep)).1 r (by simp)
    omega

/-- genome-scale exon example: annotated exon 1302-1304 (3 bp, δ = 6), read exon 1299-1301 equals it within δ at both
    ends without overlapping it; the sweep never compares the pair and the mapped-region test marks the exon −1 -/
theorem micro_exon_witness :
    (constructExonProfile [(1100, 1200), (1302, 1304), (1366, 1466)] (1100, 1466) 6 [(1100, 1197), (1299, 1301), (1368, 1466)]
      (-1) (-1)).map (·.gene) = some [1, -1, 1] ∧
    MicroPair 6 [(1100, 1197), (1299, 1301), (1368, 1466)] (1302, 1304) (1299, 1301) := by
  refine ⟨by decide +kernel, by decide +kernel, Or.inl (by decide)⟩

/-- genome-scale intron example: read blocks 100-199, 305-306, 369-467 (a 2-bp read exon: read introns 200-304 and 307-368,
    2 bp apart); annotated intron 304-366 equals read intron 307-368 within δ = 6 but is marked −1 -/
theorem micro_intron_witness :
    (constructIntronProfile [(201, 301), (304, 366)] (100, 467) 6 20 [(100, 199), (305, 306), (369, 467)] (-1) (-1)).map (·.gene) =
      some [1, -1] ∧
    junctionsFromBlocks [(100, 199), (305, 306), (369, 467)] = [(200, 304), (307, 368)] ∧
    MicroPair 6 [(200, 304), (307, 368)] (304, 366) (307, 368) := by
  refine ⟨by decide +kernel, by decide +kernel, by decide +kernel, Or.inr ⟨(200, 304), List.Sublist.refl _, by decide⟩⟩

/-- class `tie_loser_exon` (known finding): the annotated exon (102,200) equals the read's FIRST exon (100,200) within
    δ = 4, loses the tie against (100,200), and is marked −1 (counted as excluded) although it does not lie
    between the read's first and last exon -/
theorem tie_loser_exon_witness :
    (constructExonProfile [(100, 200), (102, 200)] (100, 400) 4 [(100, 200), (300, 400)] (-1) (-1)).map (·.gene)
      = some [1, -1] ∧
    ¬ ((200 : Int) + 4 ≤ 102 ∧ (200 : Int) ≤ 300 - 4) ∧ ¬ ((200 : Int) < 102) := by decide +kernel

end IsoVerif.Props.C13Profiles
