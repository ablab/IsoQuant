/-
C14 (part 2) — `ExonCorrector.correct_assigned_read / process_events` over an ARBITRARY event list
(the events of the unmodelled junction comparator, the error counts of the unmodelled `get_error_count` and the
annotation are universally quantified inputs).  Property theorems only.
-/
import IsoVerif.Gen.Prims
import IsoVerif.Gen.Strategies
import IsoVerif.Gen.Corrector
import IsoVerif.Model.Bed
import IsoVerif.Model.Corrector
import IsoVerif.Lemmas.Interval
import IsoVerif.Lemmas.Corrector
import IsoVerif.Lemmas.CorrectorLoop
import IsoVerif.Lemmas.CorrectorMatch
import IsoVerif.Props.C14

namespace IsoVerif.Props.C14Corrector
open IsoVerif.Gen IsoVerif.Model IsoVerif.Model.C14 IsoVerif.Lemmas IsoVerif.Lemmas.C14 IsoVerif.Props.C14

/-- **strategy_none_identity**: with the flags of strategy `none` (looked up in the table generated from
    `set_splice_correction_options`), for every gapped exon list, every event list whose read regions are sentinels
    or index ranges of the read introns, every annotation, every error-count function and both values of the
    `noninformative` test, `correct_assigned_read` returns the read's own exons. -/
theorem strategy_none_identity (p : CParams) (hnone : correction_presets.lookup "none" = some p.fl)
    (err : Nat → Bool → Int × Int) (known : List Iv) (noninformative : Bool) (events : Option (List MEvent))
    (isoRegion : Iv) (isoIntrons : List Iv) (exons : List Iv) (hne : exons ≠ []) (hg : Spaced exons)
    (hw : ∀ evs, events = some evs → WellFormedRegions (junctionsFromBlocks exons).length evs) :
    correctAssignedRead p err known noninformative events isoRegion isoIntrons exons = .ok exons := by
  have hp : p.fl = allOff := Option.some.inj (hnone.symm.trans none_all_off)
  unfold correctAssignedRead
  cases events with
  | none => rfl
  | some evs =>
    simp only
    split
    · rfl
    · rename_i hcond
      cases exons with
      | nil => exact absurd rfl hne
      | cons a rest =>
        cases rest with
        | nil => simp at hcond
        | cons b rest' =>
          obtain ⟨t, ht⟩ := getLast?_cons_some a (b :: rest')
          simp only [List.head?_cons, ht]
          have hmicro : p.fl.microintron_retention = false := by rw [hp]; rfl
          have hfz : p.fl.fuzzy_junctions = false := by rw [hp]; rfl
          have hcorr : correctedIntrons p err known (junctionsFromBlocks (a :: b :: rest'))
              = junctionsFromBlocks (a :: b :: rest') := by simp [correctedIntrons, hfz]
          have hm := buildEventMap_wf (hw evs rfl)
          simp only [processEvents, hcorr, hmicro, buildMicroMap_off]
          rw [eventLoop_off hp _ _ _ _ _ hm _ 0 _ [] (by omega) (by omega) (by simp [eventFuel]; omega)]
          simp only [Int.toNat_zero, List.drop_zero, List.nil_append]
          rw [chain_of_junctions a b rest' hg t ht]
          have hv : validChain (a :: b :: rest') = true :=
            (validChain_iff _).mpr ⟨Spaced_WFl hg, Spaced_SD hg⟩
          have hvi : validIntronChain (junctionsFromBlocks (a :: b :: rest')) = true :=
            (validIntronChain_iff _).mpr (junctions_spaced _ hg)
          simp [hv, hvi]

-- non-vacuity: a three-exon read with a well-formed event list; the theorem applies and the model computes
example : Spaced [(10, 20), (31, 40), (61, 70)] ∧
    WellFormedRegions (junctionsFromBlocks [(10, 20), (31, 40), (61, 70)]).length
      [⟨MatchEventSubtype.intron_shift, (0, 0), (1, 1)⟩, ⟨MatchEventSubtype.fake_terminal_exon_left, (0, 0), (0, 0)⟩,
       ⟨MatchEventSubtype.fake_micro_intron_retention, (1, 1), (absentPosition, 1)⟩] := by
  refine ⟨by decide, ?_⟩
  intro e he
  simp at he
  rcases he with rfl | rfl | rfl
  · right; right; decide
  · right; right; decide
  · right; left; decide


/-- either the read's own exons (one exon, noninformative assignment, no isoform match, or a correction that was
    discarded by the validity gate) or the valid exon chain built from the region and introns that `process_events`
    returns on the event map of the first isoform match -/
theorem correct_assigned_read_cases (p : CParams) (err : Nat → Bool → Int × Int) (known : List Iv)
    (noninformative : Bool) (events : Option (List MEvent)) (isoRegion : Iv) (isoIntrons : List Iv)
    (exons out : List Iv)
    (h : correctAssignedRead p err known noninformative events isoRegion isoIntrons exons = .ok out) :
    out = exons ∨
    ∃ f l evs reg ni, exons.head? = some f ∧ exons.getLast? = some l ∧ events = some evs ∧
      processEvents p err known (buildEventMap evs) (buildMicroMap p.fl.microintron_retention evs) (f.1, l.2)
        (junctionsFromBlocks exons) isoRegion isoIntrons = .ok (reg, ni) ∧
      out = buildExons reg ni ∧ validChain out = true := by
  unfold correctAssignedRead at h
  cases events with
  | none => simp at h; exact Or.inl h.symm
  | some evs =>
    simp only at h
    split at h
    · simp at h; exact Or.inl h.symm
    · cases hf : exons.head? with
      | none => simp [hf] at h
      | some f =>
        cases hl : exons.getLast? with
        | none => simp [hf, hl] at h
        | some l =>
          simp only [hf, hl] at h
          cases hp : processEvents p err known (buildEventMap evs) (buildMicroMap p.fl.microintron_retention evs) (f.1, l.2)
              (junctionsFromBlocks exons) isoRegion isoIntrons with
          | error x => simp [hp] at h
          | ok q =>
            obtain ⟨reg, ni⟩ := q
            simp only [hp] at h
            split at h
            · rename_i hv
              simp at h
              have hv2 := (Bool.and_eq_true _ _).mp hv
              exact Or.inr ⟨f, l, evs, reg, ni, rfl, rfl, rfl, hp, h.symm, by rw [← h]; exact hv2.2⟩
            · simp at h; exact Or.inl h.symm

/-- **corrected_always_valid** (after `b92880e`, the `fix:` commit that added the validity gate): for EVERY event list,
    annotation, error function and flag setting, if the read's exons are a sorted disjoint well-formed block list
    then so is the corrected alignment — no assumption on the junction comparator is left -/
theorem corrected_always_valid (p : CParams) (err : Nat → Bool → Int × Int) (known : List Iv)
    (noninformative : Bool) (events : Option (List MEvent)) (isoRegion : Iv) (isoIntrons : List Iv)
    (exons out : List Iv) (hsd : SD exons) (hw : WFl exons)
    (h : correctAssignedRead p err known noninformative events isoRegion isoIntrons exons = .ok out) :
    SD out ∧ WFl out := by
  rcases correct_assigned_read_cases p err known noninformative events isoRegion isoIntrons exons out h with
    h1 | ⟨_, _, _, _, _, _, _, _, _, _, hv⟩
  · subst h1; exact ⟨hsd, hw⟩
  · have := (validChain_iff out).mp hv
    exact ⟨this.2, this.1⟩

/-- flags of `default_ont` as generated: the flag literal of the concrete runs in this file -/
theorem default_ont_flags : correction_presets.lookup "default_ont" = some ⟨true, false, true, false, true, true⟩ := by
  decide +kernel

/-- the gate is what makes this true: without it (the code before the fix) a read whose last exon (1797,1800) is
    shorter than `delta` and whose last intron (1501,1796) is within `delta` of the annotated intron (1501,1800) gets
    the empty last block (1801,1800) under every default strategy (seen in corrected_reads.bed as block size 0) -/
theorem corrected_valid_buggy_witness :
    correctAssignedReadBuggy ⟨⟨true, false, true, false, true, true⟩, 6⟩ (fun _ _ => (0, 4)) [(1201, 1300), (1501, 1800)]
      false (some []) (1001, 2000) [(1201, 1300), (1501, 1800)] [(1050, 1200), (1301, 1500), (1797, 1800)]
      = .ok [(1050, 1200), (1301, 1500), (1801, 1800)] ∧
    correctAssignedRead ⟨⟨true, false, true, false, true, true⟩, 6⟩ (fun _ _ => (0, 4)) [(1201, 1300), (1501, 1800)]
      false (some []) (1001, 2000) [(1201, 1300), (1501, 1800)] [(1050, 1200), (1301, 1500), (1797, 1800)]
      = .ok [(1050, 1200), (1301, 1500), (1797, 1800)] := by
  decide +kernel

theorem build_exons_ends (reg : Iv) (ni : List Iv) :
    ∃ f l, (buildExons reg ni).head? = some f ∧ (buildExons reg ni).getLast? = some l ∧ f.1 = reg.1 ∧ l.2 = reg.2 := by
  cases ni with
  | nil => exact ⟨reg, reg, by simp [buildExons], by simp [buildExons], rfl, rfl⟩
  | cons a rest =>
    obtain ⟨t, ht⟩ := getLast?_cons_some a rest
    rw [buildExons_cons reg a rest t ht]
    exact ⟨(reg.1, a.1 - 1), (t.2 + 1, reg.2), by simp [chain], List.getLast?_concat (l := _ :: _), rfl, rfl⟩

/-- allowed start of the corrected region: the read's own start, or (flag `fake_terminal_exons`) the base after a
    read intron named by a `fake_terminal_exon_left` event, or (flag `terminal_exons`) the assigned isoform's start
    when a `terminal_exon_misalignment_left` event is present -/
def StartAllowed (p : CParams) (emap : List (Int × MEvent)) (readIntrons : List Iv) (isoRegion readRegion : Iv)
    (v : Int) : Prop :=
  v = readRegion.1 ∨
  (p.fl.fake_terminal_exons = true ∧ ∃ k e x, emap.lookup k = some e ∧
      e.etype = MatchEventSubtype.fake_terminal_exon_left ∧ pyGet? readIntrons e.read.1 = some x ∧ v = x.2 + 1) ∨
  (p.fl.terminal_exons = true ∧ ∃ k e, emap.lookup k = some e ∧
      e.etype = MatchEventSubtype.terminal_exon_misalignment_left ∧ v = isoRegion.1)

def EndAllowed (p : CParams) (emap : List (Int × MEvent)) (readIntrons : List Iv) (isoRegion readRegion : Iv)
    (v : Int) : Prop :=
  v = readRegion.2 ∨
  (p.fl.fake_terminal_exons = true ∧ ∃ k e x, emap.lookup k = some e ∧
      e.etype = MatchEventSubtype.fake_terminal_exon_right ∧ pyGet? readIntrons e.read.1 = some x ∧ v = x.1 - 1) ∨
  (p.fl.terminal_exons = true ∧ ∃ k e, emap.lookup k = some e ∧
      e.etype = MatchEventSubtype.terminal_exon_misalignment_right ∧ v = isoRegion.2)

/-- **ends_preserved_unless_terminal** (`process_events`, for every event map, annotation and error function):
    each end of the returned region is the read's own end unless one of the four terminal branches, guarded by its
    strategy flag, was taken for an event of the map -/
theorem ends_preserved_unless_terminal (p : CParams) (err : Nat → Bool → Int × Int) (known : List Iv)
    (emap : List (Int × MEvent)) (mm : List (Int × Int)) (readRegion : Iv) (readIntrons : List Iv) (isoRegion : Iv)
    (isoIntrons : List Iv)
    (reg : Iv) (ni : List Iv)
    (h : processEvents p err known emap mm readRegion readIntrons isoRegion isoIntrons = .ok (reg, ni)) :
    StartAllowed p emap readIntrons isoRegion readRegion reg.1 ∧
    EndAllowed p emap readIntrons isoRegion readRegion reg.2 := by
  unfold processEvents at h
  refine eventLoop_invariant p emap mm readRegion readIntrons _ isoRegion isoIntrons
    (fun r _ => StartAllowed p emap readIntrons isoRegion readRegion r.1 ∧
                EndAllowed p emap readIntrons isoRegion readRegion r.2)
    (fun _ _ _ _ _ hi => hi) (fun _ _ _ _ _ hi => hi) ?_ _ 0 readRegion [] reg ni ⟨Or.inl rfl, Or.inl rfl⟩ h
  intro i e r acc r' acc' hl hs hi
  obtain ⟨hc, _⟩ := eventStep_ok hs
  cases hc with
  | keep hk => rw [hk]; exact hi
  | fakeLeft x hf ht hx hr => rw [hr]; exact ⟨Or.inr (Or.inl ⟨hf, i, e, x, hl, ht, hx, rfl⟩), hi.2⟩
  | fakeRight x hf ht hx hr => rw [hr]; exact ⟨hi.1, Or.inr (Or.inl ⟨hf, i, e, x, hl, ht, hx, rfl⟩)⟩
  | termLeft hf ht hr => rw [hr]; exact ⟨Or.inr (Or.inr ⟨hf, i, e, hl, ht, rfl⟩), hi.2⟩
  | termRight hf ht hr => rw [hr]; exact ⟨hi.1, Or.inr (Or.inr ⟨hf, i, e, hl, ht, rfl⟩)⟩

/-- corollary: a strategy without the two terminal flags never moves an end -/
theorem ends_preserved_without_terminal_flags (p : CParams) (hf : p.fl.fake_terminal_exons = false)
    (ht : p.fl.terminal_exons = false) (err : Nat → Bool → Int × Int) (known : List Iv)
    (emap : List (Int × MEvent)) (mm : List (Int × Int)) (readRegion : Iv) (readIntrons : List Iv) (isoRegion : Iv)
    (isoIntrons : List Iv)
    (reg : Iv) (ni : List Iv)
    (h : processEvents p err known emap mm readRegion readIntrons isoRegion isoIntrons = .ok (reg, ni)) :
    reg = readRegion := by
  obtain ⟨h1, h2⟩ := ends_preserved_unless_terminal p err known emap mm readRegion readIntrons isoRegion isoIntrons reg ni h
  have e1 : reg.1 = readRegion.1 := by
    rcases h1 with h1 | ⟨h1, _⟩ | ⟨h1, _⟩
    · exact h1
    · rw [hf] at h1; cases h1
    · rw [ht] at h1; cases h1
  have e2 : reg.2 = readRegion.2 := by
    rcases h2 with h2 | ⟨h2, _⟩ | ⟨h2, _⟩
    · exact h2
    · rw [hf] at h2; cases h2
    · rw [ht] at h2; cases h2
  ext <;> assumption

/-- which generated presets have neither terminal flag (so the corollary applies to them) -/
theorem presets_without_terminal_flags :
    (correction_presets.filter (fun q => !q.2.fake_terminal_exons && !q.2.terminal_exons)).map (·.1) =
      ["none", "default_pacbio", "conservative_ont", "assembly"] := by decide +kernel

/-- the same statement for the corrected alignment returned by `correct_assigned_read`: its first block starts and
    its last block ends at an allowed position -/
theorem corrected_read_ends (p : CParams) (err : Nat → Bool → Int × Int) (known : List Iv) (noninformative : Bool)
    (evs : List MEvent) (isoRegion : Iv) (isoIntrons : List Iv) (exons out : List Iv) (f l : Iv)
    (hf : exons.head? = some f) (hl : exons.getLast? = some l)
    (h : correctAssignedRead p err known noninformative (some evs) isoRegion isoIntrons exons = .ok out) :
    ∃ f' l', out.head? = some f' ∧ out.getLast? = some l' ∧
      StartAllowed p (buildEventMap evs) (junctionsFromBlocks exons) isoRegion (f.1, l.2) f'.1 ∧
      EndAllowed p (buildEventMap evs) (junctionsFromBlocks exons) isoRegion (f.1, l.2) l'.2 := by
  rcases correct_assigned_read_cases p err known noninformative (some evs) isoRegion isoIntrons exons out h with
    h1 | ⟨f2, l2, evs2, reg, ni, hf2, hl2, he, hp, ho, _⟩
  · subst h1
    exact ⟨f, l, hf, hl, Or.inl rfl, Or.inl rfl⟩
  · rw [hf] at hf2; rw [hl] at hl2
    cases hf2; cases hl2; cases he
    obtain ⟨a, b⟩ := ends_preserved_unless_terminal p err known _ _ _ _ isoRegion isoIntrons reg ni hp
    obtain ⟨f', l', h1, h2, h3, h4⟩ := build_exons_ends reg ni
    subst ho
    exact ⟨f', l', h1, h2, by rw [h3]; exact a, by rw [h4]; exact b⟩

/-- an intron of the assigned isoform whose (Python) index is named by an event of the map, or by a retained
    micro intron (`mm`: the `(read exon, isoform intron index)` bindings of the `fake_micro_intron_retention` events) -/
def NamedIsoformIntron (emap : List (Int × MEvent)) (mm : List (Int × Int)) (isoIntrons : List Iv) (n : Iv) : Prop :=
  n ∈ isoIntrons ∧
    ((∃ k e j, emap.lookup k = some e ∧ ((e.iso.1 ≤ j ∧ j ≤ e.iso.2) ∨ j = e.iso.1) ∧ pyGet? isoIntrons j = some n) ∨
     (∃ q ∈ mm, pyGet? isoIntrons q.2 = some n))

/-- "best-matching": the candidate chosen for a read feature has the smallest total site distance among the known
    features that the sweep collected for it (ties: the first in annotation order) -/
theorem pickBest_closest {r : Iv} {cs : List Iv} {k : Iv} (h : pickBest r cs = some k) :
    ∀ c ∈ cs, siteDelta r k ≤ siteDelta r c := by
  unfold pickBest at h
  split at h
  · cases hm : listMin (cs.map (siteDelta r)) with
    | none => simp [hm] at h
    | some best =>
      simp only [hm] at h
      have hk := List.mem_of_mem_head? h
      have hkb : siteDelta r k = best := by simpa using (List.mem_filter.mp hk).2
      obtain ⟨_, hmin⟩ := listMin_spec hm
      intro c hc
      rw [hkb]
      exact hmin _ (List.mem_map.mpr ⟨c, hc, rfl⟩)
  · rename_i hlen
    intro c hc
    cases cs with
    | nil => cases hc
    | cons a t =>
      cases t with
      | nil => simp at h hc; subst h; subst hc; omega
      | cons b t' => simp at hlen

/-- `match_genomic_features` returns, position by position, the read feature itself or a known feature within
    `delta` of it (in particular it returns as many features as it is given: the `assert` of the code holds) -/
theorem match_genomic_features_sound (δ : Int) (known reads : List Iv) :
    Forall2 (Candidate known δ) reads (matchGenomicFeatures δ known reads) := by
  unfold matchGenomicFeatures
  apply pickAll_sound known δ reads _ _ reads 0 (by simp)
  intro q hq
  obtain ⟨a, _, r, c, d⟩ := match_sweep_sound δ known reads 0 q hq
  exact ⟨a, r, by simpa using c, d⟩

/-- every corrected read intron has, site by site, the read's own site or the site of an annotated intron within
    `delta` of that read intron — and without the `fuzzy_junctions` flag it *is* the read intron -/
theorem corrected_introns_sound (p : CParams) (err : Nat → Bool → Int × Int) (known readIntrons : List Iv) :
    ∀ n ∈ correctedIntrons p err known readIntrons,
      FuzzyOf known p.delta readIntrons n ∧ (p.fl.fuzzy_junctions = false → n ∈ readIntrons) := by
  intro n hn
  unfold correctedIntrons at hn
  split at hn
  · rename_i hf
    exact ⟨fuzzyLoop_sound known p.delta err _ _ (match_genomic_features_sound p.delta known readIntrons) 0 n hn,
           by intro hc; rw [hf] at hc; cases hc⟩
  · exact ⟨⟨n, hn, n, Or.inl rfl, Or.inl rfl, Or.inl rfl⟩, fun _ => hn⟩

/-- **site_provenance** (`process_events`, for every event map, annotation and error function): every intron of the
    result is (a) a read intron each of whose sites is the read's own or the corresponding site of an annotated
    intron within `delta` (only the read's own when `fuzzy_junctions` is off), or (b) an intron of the assigned
    isoform whose index is named by an event of the map -/
theorem site_provenance (p : CParams) (err : Nat → Bool → Int × Int) (known : List Iv)
    (emap : List (Int × MEvent)) (mm : List (Int × Int)) (readRegion : Iv) (readIntrons : List Iv) (isoRegion : Iv)
    (isoIntrons : List Iv)
    (reg : Iv) (ni : List Iv)
    (h : processEvents p err known emap mm readRegion readIntrons isoRegion isoIntrons = .ok (reg, ni)) :
    ∀ n ∈ ni, (FuzzyOf known p.delta readIntrons n ∧ (p.fl.fuzzy_junctions = false → n ∈ readIntrons)) ∨
              NamedIsoformIntron emap mm isoIntrons n := by
  unfold processEvents at h
  have hcorr := corrected_introns_sound p err known readIntrons
  have hown : ∀ n ∈ readIntrons, FuzzyOf known p.delta readIntrons n ∧ (p.fl.fuzzy_junctions = false → n ∈ readIntrons) :=
    fun n hn => ⟨⟨n, hn, n, Or.inl rfl, Or.inl rfl, Or.inl rfl⟩, fun _ => hn⟩
  refine eventLoop_invariant p emap mm readRegion readIntrons _ isoRegion isoIntrons
    (fun _ acc => ∀ n ∈ acc, (FuzzyOf known p.delta readIntrons n ∧ (p.fl.fuzzy_junctions = false → n ∈ readIntrons)) ∨
                             NamedIsoformIntron emap mm isoIntrons n)
    ?_ ?_ ?_ _ 0 readRegion [] reg ni (by intro n hn; cases hn) h
  · intro i r acc acc' hm hi
    obtain ⟨xs, hg, rfl⟩ := microStep_ok hm
    refine List.forall_mem_append.mpr ⟨hi, fun n hn => ?_⟩
    obtain ⟨j, hj, h2⟩ := getAll_mem hg n hn
    simp only [microAt, List.mem_map, List.mem_filter] at hj
    obtain ⟨q, ⟨hq, _⟩, rfl⟩ := hj
    exact Or.inr ⟨pyGet?_mem h2, Or.inr ⟨q, hq, h2⟩⟩
  · intro i c r acc hg hi
    refine List.forall_mem_append.mpr ⟨hi, fun n hn => ?_⟩
    rw [List.mem_singleton.mp hn]
    exact Or.inl (hcorr c (pyGet?_mem hg))
  · intro i e r acc r' acc' hl hs hi
    obtain ⟨_, xs, rfl, hxs⟩ := eventStep_ok hs
    refine List.forall_mem_append.mpr ⟨hi, fun n hn => ?_⟩
    rcases hxs n hn with ⟨j, _, _, hj | hj⟩ | ⟨j, hj1, hj2⟩
    · exact Or.inl (hown n (pyGet?_mem hj))
    · exact Or.inl (hcorr n (pyGet?_mem hj))
    · exact Or.inr ⟨pyGet?_mem hj2, Or.inl ⟨i, e, j, hl, hj1, hj2⟩⟩

/-- the block boundaries of the corrected alignment are the ends of the region and the sites of the new introns:
    every block starts at the region start or right after a new intron and ends at the region end or right
    before a new intron (so `site_provenance` speaks about every splice site that reaches the BED file) -/
theorem output_sites_from_introns (reg : Iv) (ni : List Iv) :
    ∀ e ∈ buildExons reg ni, (e.1 = reg.1 ∨ ∃ n ∈ ni, e.1 = n.2 + 1) ∧ (e.2 = reg.2 ∨ ∃ n ∈ ni, e.2 = n.1 - 1) := by
  intro e he
  cases ni with
  | nil => simp [buildExons] at he; subst he; exact ⟨Or.inl rfl, Or.inl rfl⟩
  | cons a rest =>
    obtain ⟨t, ht⟩ := getLast?_cons_some a rest
    rw [buildExons_cons reg a rest t ht] at he
    have htm : t ∈ a :: rest := List.mem_of_getLast? ht
    simp only [chain, List.mem_cons, List.mem_append, List.mem_nil_iff, or_false] at he
    rcases he with he | he | he
    · subst he; exact ⟨Or.inl rfl, Or.inr ⟨a, by simp, rfl⟩⟩
    · obtain ⟨u, hu, v, hv, hj⟩ := mem_junctions he
      subst hj
      exact ⟨Or.inr ⟨u, hu, rfl⟩, Or.inr ⟨v, hv, rfl⟩⟩
    · subst he; exact ⟨Or.inr ⟨t, htm, rfl⟩, Or.inl rfl⟩

/-- where an intron of the corrected alignment may come from (the two disjuncts of `site_provenance`) -/
def Provenance (p : CParams) (known : List Iv) (emap : List (Int × MEvent)) (mm : List (Int × Int))
    (readIntrons isoIntrons : List Iv) (n : Iv) : Prop :=
  (FuzzyOf known p.delta readIntrons n ∧ (p.fl.fuzzy_junctions = false → n ∈ readIntrons)) ∨
  NamedIsoformIntron emap mm isoIntrons n

/-- **site_provenance** for the alignment that reaches the BED file: the output of `correct_assigned_read` is the
    read's own exon list, or every block boundary other than the two outer ends is a splice site of an intron with
    the provenance above (for every event list, error function, annotation and strategy) -/
theorem corrected_read_site_provenance (p : CParams) (err : Nat → Bool → Int × Int) (known : List Iv)
    (noninformative : Bool) (evs : List MEvent) (isoRegion : Iv) (isoIntrons : List Iv) (exons out : List Iv)
    (h : correctAssignedRead p err known noninformative (some evs) isoRegion isoIntrons exons = .ok out) :
    out = exons ∨ ∃ reg : Iv, ∀ e ∈ out,
      (e.1 = reg.1 ∨ ∃ n, Provenance p known (buildEventMap evs) (buildMicroMap p.fl.microintron_retention evs)
          (junctionsFromBlocks exons) isoIntrons n ∧ e.1 = n.2 + 1) ∧
      (e.2 = reg.2 ∨ ∃ n, Provenance p known (buildEventMap evs) (buildMicroMap p.fl.microintron_retention evs)
          (junctionsFromBlocks exons) isoIntrons n ∧ e.2 = n.1 - 1) := by
  rcases correct_assigned_read_cases p err known noninformative (some evs) isoRegion isoIntrons exons out h with
    h1 | ⟨f, l, evs2, reg, ni, _, _, he, hp, ho, _⟩
  · exact Or.inl h1
  · cases he
    refine Or.inr ⟨reg, ?_⟩
    have hprov := site_provenance p err known _ _ _ _ isoRegion isoIntrons reg ni hp
    subst ho
    intro e he
    obtain ⟨h1, h2⟩ := output_sites_from_introns reg ni e he
    constructor
    · rcases h1 with h1 | ⟨n, hn, h1⟩
      · exact Or.inl h1
      · exact Or.inr ⟨n, hprov n hn, h1⟩
    · rcases h2 with h2 | ⟨n, hn, h2⟩
      · exact Or.inl h2
      · exact Or.inr ⟨n, hprov n hn, h2⟩

/-- the new introns fit the corrected region: well formed, each separated from the next by at least one base
    (strictly increasing), strictly inside the region; an empty intron list needs a non-empty region -/
def IntronsFit (reg : Iv) (ni : List Iv) : Prop :=
  Spaced ni ∧ (∀ f, ni.head? = some f → reg.1 < f.1) ∧ (∀ l, ni.getLast? = some l → l.2 < reg.2) ∧
    (ni = [] → reg.1 ≤ reg.2)

/-- **corrected_valid_iff** (constructor lemma of `correct_assigned_read`): the exon chain built from a region and
    new introns is a sorted, disjoint, well-formed block list *whose introns are exactly the new introns* iff the new
    introns fit the region.  `process_events` does not enforce the right-hand side (`gate_needed_witness`); the validity
    gate added by the `fix:` commit tests the left-hand side at run time (`corrected_always_valid`).  The theorem says
    when a correction survives the gate with all its introns. -/
theorem corrected_valid_iff (reg : Iv) (ni : List Iv) :
    (SD (buildExons reg ni) ∧ WFl (buildExons reg ni) ∧ junctionsFromBlocks (buildExons reg ni) = ni) ↔
      IntronsFit reg ni := by
  cases ni with
  | nil =>
    simp only [buildExons_nil, IntronsFit, Spaced, List.head?_nil, List.getLast?_nil, reduceCtorEq, false_implies,
      implies_true, true_and, forall_const]
    constructor
    · rintro ⟨_, hw, _⟩; exact hw reg (by simp)
    · intro h; exact ⟨trivial, fun r hr => by simp at hr; subst hr; exact h, by simp [junctionsFromBlocks]⟩
  | cons a rest =>
    obtain ⟨t, ht⟩ := getLast?_cons_some a rest
    rw [buildExons_cons reg a rest t ht]
    constructor
    · rintro ⟨hsd, hw, hj⟩
      have hg := junctions_spaced_of_SD hsd hw
      rw [hj] at hg
      refine ⟨hg, ?_, ?_, by intro h; cases h⟩
      · intro f hf; simp at hf; subst hf
        have := hw (reg.1, a.1 - 1) (by simp [chain]); simp at this; omega
      · intro l hl; rw [ht] at hl; cases hl
        have := hw (t.2 + 1, reg.2) (by simp [chain]); simp at this; omega
    · rintro ⟨hg, hf, hl, _⟩
      obtain ⟨hsd, hw⟩ := buildExons_valid_of_monotone reg _ (List.cons_ne_nil a rest) (Spaced_Monotone2 hg) hf hl
      rw [buildExons_cons reg a rest t ht] at hsd hw
      exact ⟨hsd, hw, junctions_chain a rest reg.1 reg.2 t hg ht⟩

/-- weaker sufficient condition that covers what fuzzy correction can produce: if the new introns are well formed,
    neither end ever moves backwards (overlapping / touching neighbours allowed: the code merges them) and they lie
    strictly inside the region, the corrected exon list is still a valid block list -/
theorem corrected_valid_of_monotone (reg : Iv) (ni : List Iv) (hm : Monotone2 ni)
    (hf : ∀ f, ni.head? = some f → reg.1 < f.1) (hl : ∀ l, ni.getLast? = some l → l.2 < reg.2)
    (he : ni = [] → reg.1 ≤ reg.2) :
    SD (buildExons reg ni) ∧ WFl (buildExons reg ni) := by
  cases ni with
  | nil =>
    rw [buildExons_nil]
    exact ⟨trivial, fun r hr => by simp at hr; subst hr; exact he rfl⟩
  | cons a rest => exact buildExons_valid_of_monotone reg _ (List.cons_ne_nil a rest) hm hf hl

/-- end to end: if `process_events` returns new introns that fit a region inside the chromosome, the record that
    `BEDPrinter` writes for the corrected alignment is valid BED12 -/
theorem corrected_record_valid (chrom name strand : String) (chromLen : Int) (reg : Iv) (ni : List Iv)
    (hfit : IntronsFit reg ni) (h1 : 1 ≤ reg.1) (h2 : reg.2 ≤ chromLen) :
    ∃ r, bedRecord chrom name strand (buildExons reg ni) = some r ∧ ValidBed r chromLen ∧ r.blocks = buildExons reg ni := by
  obtain ⟨hsd, hw, _⟩ := (corrected_valid_iff reg ni).mpr hfit
  obtain ⟨f, l, hf, hl, hf1, hl2⟩ := build_exons_ends reg ni
  have hne : buildExons reg ni ≠ [] := by intro h; rw [h] at hf; cases hf
  have hfit' : ExonsFit (buildExons reg ni) chromLen :=
    ⟨hsd, hw, fun f' hf' => by rw [hf] at hf'; cases hf'; omega, fun l' hl' => by rw [hl] at hl'; cases hl'; omega⟩
  obtain ⟨r, hr, hv⟩ := bed_valid chrom name strand (buildExons reg ni) chromLen hne hfit'
  exact ⟨r, hr, hv, bed_blocks_roundtrip chrom name strand _ r hr⟩

/-- **corrected_bed_valid** — the first clause of C14 for the genic path, with no assumption on the unmodelled parts:
    for every read whose exon blocks are a valid block list inside the chromosome, every event list, every error
    function, every annotation whose assigned isoform lies inside the chromosome and every strategy, the line that
    `BEDPrinter` writes for the output of `correct_assigned_read` is a valid BED12 record, and it decodes to exactly
    the corrected blocks -/
theorem corrected_bed_valid (chrom name strand : String) (chromLen : Int) (p : CParams)
    (err : Nat → Bool → Int × Int) (known : List Iv) (noninformative : Bool) (events : Option (List MEvent))
    (isoRegion : Iv) (isoIntrons : List Iv) (exons out : List Iv) (hne : exons ≠ [])
    (hfit : ExonsFit exons chromLen) (hiso : 1 ≤ isoRegion.1 ∧ isoRegion.2 ≤ chromLen)
    (h : correctAssignedRead p err known noninformative events isoRegion isoIntrons exons = .ok out) :
    ∃ r, bedRecord chrom name strand out = some r ∧ ValidBed r chromLen ∧ r.blocks = out := by
  obtain ⟨hsd, hw, hfirst, hlast⟩ := hfit
  obtain ⟨hsd', hw'⟩ := corrected_always_valid p err known noninformative events isoRegion isoIntrons exons out hsd hw h
  have hfit' : out ≠ [] ∧ ExonsFit out chromLen := by
    rcases correct_assigned_read_cases p err known noninformative events isoRegion isoIntrons exons out h with
      h1 | ⟨f, l, evs, reg, ni, hf, hl, _, hp, ho, _⟩
    · subst h1; exact ⟨hne, hsd, hw, hfirst, hlast⟩
    · obtain ⟨hs, he⟩ := ends_preserved_unless_terminal p err known _ _ _ _ isoRegion isoIntrons reg ni hp
      obtain ⟨f', l', h1, h2, h3, h4⟩ := build_exons_ends reg ni
      have hin : ∀ i x, pyGet? (junctionsFromBlocks exons) i = some x → f.1 < x.1 ∧ x.1 ≤ x.2 ∧ x.2 < l.2 := fun _ x hx =>
        have hm := pyGet?_mem hx
        ⟨(read_introns_inside hsd hw hf hl x hm).1, junctions_wf _ x hm, (read_introns_inside hsd hw hf hl x hm).2⟩
      have hf1 := hfirst f hf
      have hl1 := hlast l hl
      have hstart : 1 ≤ reg.1 := by
        rcases hs with hs | ⟨_, _, _, x, _, _, hx, hv⟩ | ⟨_, _, _, _, _, hv⟩
        · rw [hs]; exact hf1
        · have := hin _ x hx; omega
        · rw [hv]; exact hiso.1
      have hend : reg.2 ≤ chromLen := by
        rcases he with he | ⟨_, _, _, x, _, _, hx, hv⟩ | ⟨_, _, _, _, _, hv⟩
        · rw [he]; exact hl1
        · have := hin _ x hx; omega
        · rw [hv]; exact hiso.2
      subst ho
      refine ⟨(by intro hc; rw [hc] at h1; cases h1), hsd', hw', ?_, ?_⟩
      · intro f'' hf''; rw [h1] at hf''; cases hf''; omega
      · intro l'' hl''; rw [h2] at hl''; cases hl''; omega
  obtain ⟨r, hr, hv⟩ := bed_valid chrom name strand out chromLen hfit'.1 hfit'.2
  exact ⟨r, hr, hv, bed_blocks_roundtrip chrom name strand _ r hr⟩

-- non-vacuity of the interface: introns that fit, and the chain the code builds from them
example : IntronsFit (10, 99) [(21, 30), (46, 59)] := by
  refine ⟨by decide, ?_, ?_, by intro h; cases h⟩ <;> intro x hx <;> simp at hx <;> subst hx <;> decide
example : buildExons (10, 99) [(21, 30), (46, 59)] = [(10, 20), (31, 45), (60, 99)] := by decide +kernel

/-- **process_events_terminates**: if every event stored under a non-negative key ends at or after that key
    (`read_region[1] ≥ read_region[0]`, which is how `correct_misalignments` keys well-formed events), the loop
    index strictly increases and the run never exhausts the model's fuel, for every flag setting and input -/
theorem process_events_terminates (p : CParams) (err : Nat → Bool → Int × Int) (known : List Iv)
    (emap : List (Int × MEvent)) (mm : List (Int × Int)) (readRegion : Iv) (readIntrons : List Iv) (isoRegion : Iv)
    (isoIntrons : List Iv)
    (hprog : ∀ k e, 0 ≤ k → emap.lookup k = some e → k ≤ e.read.2) :
    processEvents p err known emap mm readRegion readIntrons isoRegion isoIntrons ≠ .error .fuel := by
  unfold processEvents
  exact eventLoop_no_fuel_error p emap mm readRegion readIntrons _ isoRegion isoIntrons hprog _ 0 readRegion []
    (by omega) (by simp [eventFuel]; omega)

/-- the hypothesis of `process_events_terminates` holds for the map built from events whose read regions are
    sentinels or non-empty index ranges -/
theorem built_map_progress (n : Nat) (evs : List MEvent) (hw : WellFormedRegions n evs) :
    ∀ k e, 0 ≤ k → (buildEventMap evs).lookup k = some e → k ≤ e.read.2 := by
  intro k e hk hl
  obtain ⟨h1, h2, ha, hkey⟩ := buildEventMap_mem (mem_of_lookup hl)
  simp only at h1 h2 ha hkey
  rcases hw e h1 with h | h | h
  · exact absurd h h2
  · exact absurd h.1 ha
  · omega

/-- a malformed event (region ending before its key) makes the loop spin forever: the real code does not terminate,
    the model reports `fuel` (replayed against the real code under a watchdog by the correspondence) -/
theorem nontermination_witness :
    processEvents ⟨allOff, 0⟩ (fun _ _ => (0, 0)) [] [(0, ⟨MatchEventSubtype.intron_retention, (0, 0), (0, -1)⟩)] []
      (1, 100) [(11, 20)] (1, 100) [(11, 20)] = .error .fuel := by decide +kernel


/-! ### concrete runs (non-vacuity of the theorems above; the same inputs are replayed on the real code by the
    correspondence) -/

-- fuzzy correction moves both sites of read intron (21,30) onto the annotated intron (20,31) (within delta = 2) when
-- the alignment shows an indel between the candidate sites, and keeps the read's sites when it does not
example : processEvents ⟨⟨true, false, true, false, true, true⟩, 2⟩ (fun _ _ => (1, 0)) [(20, 31)] [] [] (10, 99)
    [(21, 30)] (5, 120) [(20, 31)] = .ok ((10, 99), [(20, 31)]) := by decide +kernel
example : processEvents ⟨⟨true, false, true, false, true, true⟩, 2⟩ (fun _ _ => (0, 1)) [(20, 31)] [] [] (10, 99)
    [(21, 30)] (5, 120) [(20, 31)] = .ok ((10, 99), [(21, 30)]) := by decide +kernel

-- a fake terminal exon on the left (event on read intron 0, flag on): the region starts after that intron and the
-- intron is dropped; with the flag off (`conservative_ont`) the same event changes nothing
example : processEvents ⟨⟨true, false, true, false, true, true⟩, 6⟩ (fun _ _ => (0, 0)) []
    [(0, ⟨MatchEventSubtype.fake_terminal_exon_left, (1073741823, 1073741823), (0, 0)⟩)] [] (10, 99)
    [(13, 40), (61, 70)] (41, 120) [(61, 70)] = .ok ((41, 99), [(61, 70)]) := by decide +kernel
example : processEvents ⟨⟨true, false, true, false, false, false⟩, 6⟩ (fun _ _ => (0, 0)) []
    [(0, ⟨MatchEventSubtype.fake_terminal_exon_left, (1073741823, 1073741823), (0, 0)⟩)] [] (10, 99)
    [(13, 40), (61, 70)] (41, 120) [(61, 70)] = .ok ((10, 99), [(13, 40), (61, 70)]) := by decide +kernel

-- a skipped micro-exon (exon_misalignment, flag `skipped_exons`): read intron (21,80) is replaced by the two
-- isoform introns it spans
example : processEvents ⟨⟨false, false, true, false, false, false⟩, 6⟩ (fun _ _ => (0, 0)) []
    [(0, ⟨MatchEventSubtype.exon_misalignment, (0, 1), (0, 0)⟩)] [] (1, 200)
    [(21, 80)] (1, 200) [(21, 40), (51, 80)] = .ok ((1, 200), [(21, 40), (51, 80)]) := by decide +kernel

/-- `process_events` itself has no gate on where a terminal event points: a `fake_terminal_exon_left` event on read
    intron 1 (not the first intron) under `default_ont` makes it return a region and introns that do not fit
    (`IntronsFit` fails), from which the code before the fix built the block list `[(71, 12), (41, 99)]`; the
    validity gate of `correct_assigned_read` discards such a correction -/
theorem gate_needed_witness :
    correctAssignedReadBuggy ⟨⟨true, false, true, false, true, true⟩, 6⟩ (fun _ _ => (0, 0)) [] false
      (some [⟨MatchEventSubtype.fake_terminal_exon_left, (1073741823, 1073741823), (1, 1)⟩]) (41, 120) [(61, 70)]
      [(10, 12), (41, 60), (71, 99)] = .ok [(71, 12), (41, 99)] ∧
    correctAssignedRead ⟨⟨true, false, true, false, true, true⟩, 6⟩ (fun _ _ => (0, 0)) [] false
      (some [⟨MatchEventSubtype.fake_terminal_exon_left, (1073741823, 1073741823), (1, 1)⟩]) (41, 120) [(61, 70)]
      [(10, 12), (41, 60), (71, 99)] = .ok [(10, 12), (41, 60), (71, 99)] := by
  decide +kernel

end IsoVerif.Props.C14Corrector
