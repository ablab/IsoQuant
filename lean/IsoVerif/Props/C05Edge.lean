/-
C05 — records that `fetch` yields but that are no alignments (placed unmapped read, no CIGAR), the
BED line of an alignment retained in two sub-regions, region-dependent remaining filters.
Model: IsoVerif/Model/RegionsEdge.lean.  The model describes /repo WITH the two repairs
(`fix: … records without reference span`, `fix: … one BED line per alignment`); `…Orig` definitions keep the tree
before them and the `…_witness` theorems show what it did.  See docs/C05.md §8.
-/
import IsoVerif.Model.RegionsEdge
import IsoVerif.Props.C05
import IsoVerif.Lemmas.RegionsEdge

namespace IsoVerif.Props.C05Edge
open IsoVerif.Gen IsoVerif.Model.Regions IsoVerif.Lemmas.Regions IsoVerif.Lemmas.RegionsEdge IsoVerif.Props.C05

/-- **skip_commutes_with_fetch**: skipping the records without reference span after `fetch(region)` (what the merger of
    a sub-region does in the default mode) gives exactly the alignments overlapping the region among the skipped scan –
    although `fetch` itself does return such a record whenever its one base lies in the window -/
theorem skip_commutes_with_fetch (all : List RawAln) (r : Iv) :
    skipNoSpan (rawFetch all r) = bamGet (skipNoSpan all) r := by
  unfold skipNoSpan rawFetch bamGet
  rw [List.filterMap_filter, List.filter_filterMap]
  congr 1
  funext a
  rcases toAln_cases a with ⟨hs, h1⟩ | ⟨e, hs, h1⟩
  · simp [h1]
  · simp only [h1, RawAln.fetchIv, hs]; rfl

/-- **collect_raw_eq**: the repaired collector on what `fetch` yields = the collector of `Props/C05.lean` on the
    records that have a reference span (so every theorem of that file applies to it) -/
theorem collect_raw_eq (m : Mode) (all : List RawAln) : collectRaw m all = collect m (skipNoSpan all) := by
  unfold collectRaw collect
  congr 1
  funext s
  unfold forwardRaw forward
  congr 1
  funext r
  cases m with
  | memory => rfl
  | bam =>
    cases r with
    | none => cases hreg : s.region <;> simp [getAlignmentsRaw, getAlignments, hreg, skip_commutes_with_fetch]
    | some r => simp [getAlignmentsRaw, getAlignments, skip_commutes_with_fetch]

/-- what a coordinate-sorted BAM yields: the records WITH a span are sorted by start and have ≥ 1 reference base;
    nothing is asked of the records without span (any number of them, anywhere) -/
def ValidRaw (all : List RawAln) : Prop := ValidInput (skipNoSpan all)

/-- **raw_every_alignment_forwarded** (clause 1 on the repaired tree, both memory modes): whatever placed unmapped
    reads / records without CIGAR the file holds, the collector ends without error, every record with a reference span
    is handed over for ≥ 1 region it overlaps, and nothing else is handed over (a record without span reaches no region) -/
theorem raw_every_alignment_forwarded (m : Mode) (all : List RawAln) (h : ValidRaw all) :
    ∃ out, collectRaw m all = some out ∧
      (∀ r, r ∈ all → ∀ a, r.toAln? = some a → ∃ p, p ∈ out ∧ a ∈ p.2 ∧ overlaps p.1 a.iv = true) ∧
      (∀ p, p ∈ out → ∀ a, a ∈ p.2 → ∃ r, r ∈ all ∧ r.toAln? = some a) := by
  obtain ⟨out, hout, hfw⟩ := every_alignment_forwarded m (skipNoSpan all) h
  exact ⟨out, by rw [collect_raw_eq]; exact hout,
    fun r hr a ha => hfw a ((mem_skipNoSpan all a).2 ⟨r, hr, ha⟩),
    fun p hp a ha => (mem_skipNoSpan all a).1 (mem_of_forwarded h hout hp ha)⟩

/-- both memory modes hand over the same `(region, alignments)` sequence on the repaired tree -/
theorem raw_memory_modes_equal (all : List RawAln) (h : ValidRaw all) :
    collectRaw .memory all = collectRaw .bam all := by
  rw [collect_raw_eq, collect_raw_eq]; exact memory_mode_equal _ h

/-- **raw_stats_equal_categories**: on the repaired tree the log counters are the per-category counts of the records
    that HAVE a reference span; a placed unmapped read or a record without CIGAR is counted in no category by the
    collector (unmapped reads, placed or not, are taken from the index statistics afterwards: `experimentStats`) -/
theorem raw_stats_equal_categories (all : List RawAln) :
    processStatsRaw all AlignmentType.secondary = (all.filter (fun r => r.stop.isSome && r.secondary)).length ∧
    processStatsRaw all AlignmentType.supplementary =
      (all.filter (fun r => r.stop.isSome && (!r.secondary && r.supplementary))).length ∧
    processStatsRaw all AlignmentType.primary =
      (all.filter (fun r => r.stop.isSome && (!r.secondary && !r.supplementary && r.mapped))).length ∧
    processStatsRaw all AlignmentType.unaligned = 0 := by
  obtain ⟨h1, h2, h3, h4⟩ := stats_equal_categories (skipNoSpan all)
  unfold processStatsRaw
  exact ⟨h1.trans (filter_skip_length _ _ _ fun _ _ => rfl), h2.trans (filter_skip_length _ _ _ fun _ _ => rfl),
    h3.trans (filter_skip_length _ _ _ fun _ _ => rfl), h4⟩

/-- **orig_raises_iff**: the unrepaired collector raises (whole run aborted, no read reported) exactly when `fetch`
    yields at least one record without reference span – ONE placed unmapped read anywhere on the chromosome is enough –
    and otherwise behaves as the repaired one -/
theorem orig_raises_iff (m : Mode) (all : List RawAln) (h : ValidRaw all) :
    (collectRawOrig m all = none ↔ ∃ r, r ∈ all ∧ r.stop = none) ∧
    ((∀ r, r ∈ all → r.stop ≠ none) → collectRawOrig m all = collectRaw m all) := by
  have hrep : collectRaw m all ≠ none := by
    obtain ⟨out, hout, _⟩ := raw_every_alignment_forwarded m all h
    rw [hout]; simp
  have key : (∀ r, r ∈ all → r.stop ≠ none) → collectRawOrig m all = collectRaw m all := by
    intro hall
    have hb : all.all (fun r => r.stop.isSome) = true := by
      rw [List.all_eq_true]; intro r hr
      cases hs : r.stop with
      | none => exact absurd hs (hall r hr)
      | some _ => rfl
    rw [collect_raw_eq]
    unfold collectRawOrig
    rw [foldl_orig, hb]
    rfl
  refine ⟨⟨?_, ?_⟩, key⟩
  · intro hnone
    apply Classical.byContradiction
    intro hno
    have hall : ∀ r, r ∈ all → r.stop ≠ none := fun r hr hs => hno ⟨r, hr, hs⟩
    rw [key hall] at hnone
    exact hrep hnone
  · rintro ⟨r, hr, hs⟩
    have hb : all.all (fun r => r.stop.isSome) = false := by
      rw [List.all_eq_false]
      exact ⟨r, hr, by simp [hs]⟩
    unfold collectRawOrig
    rw [foldl_orig, hb]
    rfl

/-- the failing input in small: two reads and one unmapped read placed at the position of the first -/
def placedUnmappedInput : List RawAln :=
  [⟨5, some 9, false, false, true, 60, 0⟩, ⟨5, none, false, false, true, 0, 1⟩, ⟨7, some 30, false, false, true, 60, 2⟩]

/-- **placed_unmapped_witness**: on the tree before the repair the run aborts in both memory modes and reports nothing;
    the repaired collector forwards both reads, counts two primary alignments and leaves the third record to the index -/
theorem placed_unmapped_witness :
    collectRawOrig .bam placedUnmappedInput = none ∧ collectRawOrig .memory placedUnmappedInput = none ∧
    (collectRaw .bam placedUnmappedInput).map (fun o => o.map (fun p => (p.1, p.2.map (·.rid)))) = some [((5, 29), [0, 2])] ∧
    (collectRaw .memory placedUnmappedInput).map (fun o => o.map (fun p => (p.1, p.2.map (·.rid)))) = some [((5, 29), [0, 2])] ∧
    processStatsRaw placedUnmappedInput AlignmentType.primary = 2 := by
  refine ⟨?_, ?_, ?_, ?_, ?_⟩ <;> decide +kernel

example : ValidRaw placedUnmappedInput ∧ (∃ r, r ∈ placedUnmappedInput ∧ r.stop = none) := by
  refine ⟨⟨?_, ?_⟩, ⟨⟨5, none, false, false, true, 0, 1⟩, by decide +kernel, rfl⟩⟩
  · unfold SortedByStart; decide +kernel
  · intro x hx
    have : x ∈ [(⟨5, 9, false, false, true, 60, 0⟩ : Aln), ⟨7, 30, false, false, true, 60, 2⟩] := hx
    simp at this
    rcases this with rfl | rfl <;> (unfold WFA; decide +kernel)

/-- **reads_with_records_regional**: the remaining filters of `process_genic / process_intergenic` depend on the
    (sub-)region (`inconsistent_mapq_cutoff` where the sub-region loads a gene, `simple_alignments_mapq_cutoff` where it
    does not).  For every such `keep` and every class `strong` of alignments kept in EVERY region (`MAPQ ≥ 5` with an
    aligned exon): an alignment that passes the documented filters and is `strong` has a record however the chromosome
    is cut, and every record comes from an input alignment that passes the filters and is kept in the region that made
    it – the cut can only decide about alignments outside `strong`. -/
theorem reads_with_records_regional (m : Mode) (all : List Aln) (h : ValidInput all) (p : Params)
    (keep : Iv → Aln → Bool) (strong : Aln → Bool) (hs : ∀ r a, strong a = true → keep r a = true) :
    ∃ out, collect m all = some out ∧
      (∀ a, a ∈ all → passes p a = true → strong a = true → ∃ rec, rec ∈ recordsOf p keep out ∧ rec.2 = a) ∧
      (∀ rec, rec ∈ recordsOf p keep out → rec.2 ∈ all ∧ passes p rec.2 = true ∧ keep rec.1 rec.2 = true) :=
  records_of_filters m all h p keep strong hs

example : ∃ keep : Iv → Aln → Bool, ∃ strong : Aln → Bool,
    (∀ r a, strong a = true → keep r a = true) ∧ keep (0, 10) ⟨0, 5, false, false, true, 3, 0⟩ = true ∧
    keep (20, 30) ⟨0, 5, false, false, true, 3, 0⟩ = false :=
  ⟨fun r a => decide (a.mapq ≥ (if r.1 < 15 then 1 else 5)), fun a => decide (a.mapq ≥ 5),
   by intro r a h; simp only [decide_eq_true_eq] at h ⊢; split <;> omega, by decide +kernel, by decide +kernel⟩

/-- what the multimapper resolution guarantees for the retained records of one chromosome: whenever two retained
    records (at different positions of the list) were made from the same alignment, both carry the multimapper mark
    (`filter_assignments` sets it on every kept record of a read that keeps records with different isoform sets;
    records with equal isoform sets are removed by `find_duplicates`, theorem `resolved_no_twins`) -/
def TwinsMarked (recs : List BedRec) : Prop :=
  recs.Pairwise (fun a b => a.key = b.key → a.multi = true ∧ b.multi = true)

/-- **bed_one_line_per_alignment** (repaired printer): the printed lines are a sub-list of the one-per-record lines
    (nothing invented, order kept); every retained record has the line of a record of ITS alignment in the file; and
    when twins are marked, no alignment has two lines: the keys of the printed records are pairwise different -/
theorem bed_one_line_per_alignment (recs : List BedRec) :
    (bedLines recs).Sublist (bedLinesOrig recs) ∧
    (∀ x, x ∈ recs → ∃ y, y ∈ bedKeep recs ∧ y.key = x.key) ∧
    (TwinsMarked recs → ((bedKeep recs).map BedRec.key).Nodup) := by
  obtain ⟨h1, _, h3, h4⟩ := bedKeepLoop_spec recs []
  refine ⟨h1.map _, ?_, ?_⟩
  · intro x hx
    rcases h4 x hx with h | ⟨_, h | ⟨y, hy, _, hyk⟩⟩
    · exact ⟨x, h, rfl⟩
    · simp at h
    · exact ⟨y, hy, hyk⟩
  · intro htw
    unfold List.Nodup
    rw [List.pairwise_map]
    have hsub : (bedKeep recs).Sublist recs := h1
    have htw' := htw.sublist hsub
    have hboth := h3.and htw'
    exact hboth.imp (fun {a b} hab heq => (hab.1 (hab.2 heq).1 (hab.2 heq).2) heq)

/-- the repair changes nothing when no two retained records were made from the same alignment -/
theorem bed_lines_unchanged_without_twins (recs : List BedRec) (h : (recs.map BedRec.key).Nodup) :
    bedLines recs = bedLinesOrig recs := by
  suffices hs : ∀ printed : List (Nat × Nat × List Iv), (∀ x, x ∈ recs → x.key ∉ printed) →
      bedKeepLoop printed recs = recs by
    unfold bedLines bedLinesOrig bedKeep
    rw [hs [] (by simp)]
  induction recs with
  | nil => intro _ _; rfl
  | cons x xs ih =>
    intro printed hp
    rw [List.map_cons, List.nodup_cons] at h
    rcases bedKeepLoop_cons printed x xs with ⟨_, hc, _⟩ | ⟨pr, he, _, hpr⟩
    · exact absurd hc (hp x List.mem_cons_self)
    · rw [he, ih h.2 pr]
      intro y hy hin
      rcases (hpr _).1 hin with hin | ⟨_, heq⟩
      · exact hp y (List.mem_cons_of_mem _ hy) hin
      · exact h.1 (List.mem_map.2 ⟨y, hy, heq⟩)

/-- a bridging read in small: ONE alignment (exons 2001-2300, 2601-3000, …) retained in the sub-region
    of gene G1 and in the sub-region of gene G2 (both records re-typed ambiguous, multimapper mark set) -/
def twinRecords : List BedRec :=
  [⟨7, 0, [(2001, 2300), (2601, 3000), (61001, 61300)], [(2001, 2300), (2601, 3000), (61001, 61300)], true⟩,
   ⟨3, 0, [(100, 200)], [(100, 200)], false⟩,
   ⟨7, 0, [(2001, 2300), (2601, 3000), (61001, 61300)], [(2001, 2300), (2601, 3000), (61001, 61300)], true⟩]

/-- **bed_twin_witness**: the printer before the repair writes the line of that alignment twice, byte-identically;
    the repaired one once -/
theorem bed_twin_witness :
    ¬ (bedLinesOrig twinRecords).Nodup ∧ (bedLines twinRecords).Nodup ∧ (bedLines twinRecords).length = 2 ∧
    TwinsMarked twinRecords := by
  refine ⟨by decide +kernel, by decide +kernel, by decide +kernel, ?_⟩
  unfold TwinsMarked; decide +kernel

end IsoVerif.Props.C05Edge
