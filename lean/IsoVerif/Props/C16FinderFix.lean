/-
C16 — the finder theorems for the CURRENT tree: projection after the `P` repair
(`moveRefCoordFix`, docs/C16.md §9) and polyT head window after the window repair (`findPolytHeadWin`, §10.2).

(1) the characterisations (`…_char`), found-iff, range and record-level theorems for `findPolyaTailFix`,
    `findPolytHeadFix`, `findPolytHeadWin`, `detectPolyaWin`: the statements of Props/C16FinderChar.lean / C16FinderSpec.lean /
    C16TailRecord.lean / C16TailExons.lean / C16FinderMirror.lean (which speak of the `…Orig` projection, raising on a `P`
    inside the walked tail) without the clause "no `P` is met on the way"; all are instances of Lemmas/FinderWith.lean;
(2) `find_polya_tail_fix_eq_spec`, `find_polyt_head_fix_eq_spec`, `find_polyt_head_win_fix_eq_spec`: the models equal the
    executable specifications the driver evaluates against the real code (`findPolyaTailSpecFix`, `findPolytHeadSpecFix`,
    `findPolytHeadSpecWin`) on every record with CIGAR lengths ≥ 0;
(3) `mirror_law_general`: the position law read ↔ mirror image for EVERY tail that starts inside the aligned part,
    `polyT(mirror) = max 1 (L − polyA − (k_A − k_T))`, and its closed form `mirror_law_offset`:
    `k_A − k_T` = (reference bases deleted / skipped between the first tail base and the base before it) +
    (1 if the base before the tail is aligned, 0 if it is an inserted base); `mirror_offset_witness`: offsets −2, −4, −1
    on three reads with the same tail, so no closed form in the polyA position alone exists.
-/
import IsoVerif.Lemmas.FinderFix
import IsoVerif.Props.C16FinderMirror
import IsoVerif.Props.C16TailRecord

namespace IsoVerif.Props.C16FinderFix
open IsoVerif.Gen IsoVerif.Model IsoVerif.Model.C16 IsoVerif.Lemmas.C16
open IsoVerif.Props.C16FinderMirror

/-- **find_polya_tail_fix_eq_spec** — the repaired `find_polya_tail` equals its executable specification (brute-force
    scan + base-by-base projection, `P` transparent) on every record with CIGAR lengths ≥ 0 -/
theorem find_polya_tail_fix_eq_spec (w num den : Nat) (s : Int) (cigar : List CigarOp) (seq : List Char)
    (fromPos toPos : Int) (chk : Bool) (hnn : NonNeg cigar) :
    findPolyaTailFix w num den s cigar seq fromPos toPos chk =
      findPolyaTailSpecFix w num den s cigar seq fromPos toPos chk :=
  findPolyaTailWith_eq_spec moveRefCoordFix w num den s cigar seq fromPos toPos chk moveRefCoordSpecFix
    (fun sh => C16Pad.move_ref_coord_fix_eq_spec cigar sh hnn)

/-- **find_polyt_head_fix_eq_spec** — the same for `find_polyt_head` with the `P` repair (old window) -/
theorem find_polyt_head_fix_eq_spec (w num den : Nat) (s : Int) (cigar : List CigarOp) (seq : List Char)
    (fromPos toPos : Int) (chk : Bool) (hnn : NonNeg cigar) :
    findPolytHeadFix w num den s cigar seq fromPos toPos chk =
      findPolytHeadSpecFix w num den s cigar seq fromPos toPos chk :=
  findPolytHeadWith_eq_spec moveRefCoordFix w num den s cigar seq fromPos toPos chk moveRefCoordSpecFix
    (fun sh => C16Pad.move_ref_coord_fix_eq_spec cigar sh hnn)

/-- the function of the current tree is the `P`-repaired one at the shifted arguments -/
theorem find_polyt_head_win_fix (w num den : Nat) (s : Int) (cigar : List CigarOp) (seq : List Char) (f t : Int)
    (chk : Bool) :
    findPolytHeadWin w num den s cigar seq f t chk = findPolytHeadFix w num den s cigar seq (f - 1) (t + 1) chk := by
  unfold findPolytHeadWin findPolytHeadFix
  exact find_polyt_head_win_eq _ w num den s cigar seq f t chk

/-- **find_polyt_head_win_fix_eq_spec** — `find_polyt_head` of the current tree (both repairs) equals the executable
    specification `findPolytHeadSpecWin` that the driver evaluates against the real code (op `find_polyt_head_spec`), on
    every record with CIGAR lengths ≥ 0 -/
theorem find_polyt_head_win_fix_eq_spec (w num den : Nat) (s : Int) (cigar : List CigarOp) (seq : List Char)
    (f t : Int) (chk : Bool) (hnn : NonNeg cigar) :
    findPolytHeadWin w num den s cigar seq f t chk = findPolytHeadSpecWin w num den s cigar seq f t chk := by
  rw [find_polyt_head_win_fix, find_polyt_head_spec_win_eq]
  exact find_polyt_head_fix_eq_spec w num den s cigar seq (f - 1) (t + 1) chk hnn

/-- the mirror image of the record of `pad_in_tail_witness`, evaluated once for the `example`s below -/
theorem padCigar_head :
    findPolytHeadWin 2 1 1 10 C16Pad.padCigar.reverse "TTTTTGG".toList 6 2 false = some 12 := by
  rw [String.toList_ofList]
  decide +kernel

/-- non-vacuity: the record of `pad_in_tail_witness` (a `P` inside the walked tail) and its mirror image -/
example :
    NonNeg C16Pad.padCigar ∧
    findPolyaTailSpecFix 2 1 1 10 C16Pad.padCigar "CCAAAAA".toList 6 2 false = some 12 ∧
    findPolytHeadSpecWin 2 1 1 10 C16Pad.padCigar.reverse "TTTTTGG".toList 6 2 false = some 12 := by
  exact ⟨C16Pad.padCigar_nonNeg, by rw [← find_polya_tail_fix_eq_spec _ _ _ _ _ _ _ _ _ C16Pad.padCigar_nonNeg]; exact C16Pad.pad_in_tail_witness.2.2.2.2,
    by rw [← find_polyt_head_win_fix_eq_spec _ _ _ _ _ _ _ _ _ (NonNeg_reverse C16Pad.padCigar_nonNeg)]; exact padCigar_head⟩

/-- **find_polya_tail_fix_char** — `find_polya_tail_char` for the repaired projection: on a record that passes the guards
    the call returns `r` ⇔ no position of the checked sequence satisfies `TailStart` and `r = −1`, or `p` is the
    position with `TailStart`, `q = to_check_start + p`, and `r = reference_end + (q − mapped end)` when `q` lies in the
    soft clip, `r = reference_end − k` with `k` the base-by-base backward projection of the base `mapped end − q` bases
    inside the alignment otherwise.  No clause about `P` operations. -/
theorem find_polya_tail_fix_char (w num den : Nat) (s : Int) (cigar : List CigarOp) (seq : List Char)
    (fromPos toPos : Int) (chk : Bool) (hne : cigar ≠ []) (hseq : seq ≠ [])
    (hclip : softClipTail cigar < seq.length) (hnn : NonNeg cigar) (r : Int) :
    findPolyaTailFix w num den s cigar seq fromPos toPos chk = some r ↔
      ((∀ p, ¬ TailStart w num den chk (regionA cigar seq fromPos toPos) p) ∧ r = -1) ∨
      (∃ p, TailStart w num den chk (regionA cigar seq fromPos toPos) p ∧
        (((seq.length : Int) - softClipTail cigar ≤ startA cigar seq fromPos + p ∧
            r = referenceEnd s cigar + (startA cigar seq fromPos + p - ((seq.length : Int) - softClipTail cigar))) ∨
         (startA cigar seq fromPos + p < (seq.length : Int) - softClipTail cigar ∧
            ∃ k, ProjectsTo (expand (walkCore cigar false))
                ((seq.length : Int) - softClipTail cigar - (startA cigar seq fromPos + p)).toNat k ∧
              r = referenceEnd s cigar - k))) := by
  unfold findPolyaTailFix
  simpa only [true_and] using findPolyaTailWith_char moveRefCoordFix w num den s cigar seq fromPos toPos chk
    (fun _ => True) (moveRefCoordFix_back_iff hnn hne) hne hseq hclip r

/-- **find_polyt_head_fix_char** — mirror statement (old window, repaired projection) -/
theorem find_polyt_head_fix_char (w num den : Nat) (s : Int) (cigar : List CigarOp) (seq : List Char)
    (fromPos toPos : Int) (chk : Bool) (hne : cigar ≠ []) (hseq : seq ≠ [])
    (hclip : softClipHead cigar < seq.length) (hnn : NonNeg cigar) (r : Int) :
    findPolytHeadFix w num den s cigar seq fromPos toPos chk = some r ↔
      ((∀ p, ¬ TailStart w num den chk (regionT cigar seq fromPos toPos) p) ∧ r = -1) ∨
      (∃ p, TailStart w num den chk (regionT cigar seq fromPos toPos) p ∧
        ((stopT cigar seq fromPos - p - 1 ≤ softClipHead cigar ∧
            r = max 1 (s - (softClipHead cigar - (stopT cigar seq fromPos - p - 1)))) ∨
         (softClipHead cigar < stopT cigar seq fromPos - p - 1 ∧
            ∃ k, ProjectsTo (expand (walkCore cigar true)) (stopT cigar seq fromPos - p - 1 - softClipHead cigar).toNat k ∧
              r = max 1 (s + k)))) := by
  unfold findPolytHeadFix
  simpa only [true_and] using findPolytHeadWith_char moveRefCoordFix w num den s cigar seq fromPos toPos chk
    (fun _ => True) (moveRefCoordFix_fwd_iff hnn hne) hne hseq hclip r

/-- **find_polyt_head_win_fix_char** — the complete `↔` for `find_polyt_head` of the current tree (repaired window,
    repaired projection): `find_polyt_head_win_char` without the clause about `P` -/
theorem find_polyt_head_win_fix_char (w num den : Nat) (s : Int) (cigar : List CigarOp) (seq : List Char)
    (f t : Int) (chk : Bool) (hne : cigar ≠ []) (hseq : seq ≠ [])
    (hclip : softClipHead cigar < seq.length) (hnn : NonNeg cigar) (r : Int) :
    findPolytHeadWin w num den s cigar seq f t chk = some r ↔
      ((∀ p, ¬ TailStart w num den chk (regionTWin cigar seq f t) p) ∧ r = -1) ∨
      (∃ p, TailStart w num den chk (regionTWin cigar seq f t) p ∧
        ((stopTWin cigar seq f - p - 1 ≤ softClipHead cigar ∧
            r = max 1 (s - (softClipHead cigar - (stopTWin cigar seq f - p - 1)))) ∨
         (softClipHead cigar < stopTWin cigar seq f - p - 1 ∧
            ∃ k, ProjectsTo (expand (walkCore cigar true)) (stopTWin cigar seq f - p - 1 - softClipHead cigar).toNat k ∧
              r = max 1 (s + k)))) := by
  rw [find_polyt_head_win_fix, (region_t_win_eq cigar seq f t).1, (region_t_win_eq cigar seq f t).2]
  exact find_polyt_head_fix_char w num den s cigar seq (f - 1) (t + 1) chk hne hseq hclip hnn r

/-- non-vacuity of the three characterisations: the guards hold and a position is reported through a `P` -/
example :
    C16Pad.padCigar ≠ [] ∧ softClipTail C16Pad.padCigar < ("CCAAAAA".toList.length : Int) ∧
    findPolyaTailFix 2 1 1 10 C16Pad.padCigar "CCAAAAA".toList 6 2 false = some 12 ∧
    findPolytHeadFix 2 1 1 10 C16Pad.padCigar.reverse "TTTTTGG".toList 5 3 false = some 12 ∧
    findPolytHeadWin 2 1 1 10 C16Pad.padCigar.reverse "TTTTTGG".toList 6 2 false = some 12 := by
  exact ⟨by decide, by decide, C16Pad.pad_in_tail_witness.2.2.2.2, (find_polyt_head_win_fix 2 1 1 10 _ _ 6 2 false).symm.trans padCigar_head,
    padCigar_head⟩

/-- **polya_fix_position_in_range** — `polya_position_in_range` for the repaired `find_polya_tail` (every record,
    including those with a `P` inside the walked tail) -/
theorem polya_fix_position_in_range (w num den : Nat) (s : Int) (cigar : List CigarOp) (seq : List Char)
    (fromPos toPos : Int) (chk : Bool) (hne : cigar ≠ []) (hseq : seq ≠ [])
    (hclip : softClipTail cigar < seq.length) (hnn : NonNeg cigar) (p : Nat)
    (hts : tailScan w num den chk (regionA cigar seq fromPos toPos) = some p) (r : Int)
    (hr : findPolyaTailFix w num den s cigar seq fromPos toPos chk = some r) :
    s + 1 ≤ r ∧ r ≤ referenceEnd s cigar + max 1 (softClipTail cigar) ∧
    (WalkOnRef cigar false → r ≤ referenceEnd s cigar + softClipTail cigar) :=
  findPolyaTailWith_range w num den s seq fromPos toPos chk (moveRefCoordFix_projects hnn) hne hseq hclip hnn p hts
    r hr

/-- **polyt_fix_position_in_range** — `polyt_position_in_range` for the repaired projection (old window) -/
theorem polyt_fix_position_in_range (w num den : Nat) (s : Int) (cigar : List CigarOp) (seq : List Char)
    (fromPos toPos : Int) (chk : Bool) (hne : cigar ≠ []) (hseq : seq ≠ [])
    (hclip : softClipHead cigar < seq.length) (hnn : NonNeg cigar) (p : Nat)
    (hts : tailScan w num den chk (regionT cigar seq fromPos toPos) = some p) (r : Int)
    (hr : findPolytHeadFix w num den s cigar seq fromPos toPos chk = some r) :
    max 1 (s - max 1 (softClipHead cigar)) ≤ r ∧ r ≤ max 1 (referenceEnd s cigar - 1) ∧
    (WalkOnRef cigar true → max 1 (s - softClipHead cigar) ≤ r) :=
  findPolytHeadWith_range w num den s seq fromPos toPos chk (moveRefCoordFix_projects hnn) hne hseq hclip hnn p hts
    r hr

/-- **polyt_win_fix_position_in_range** — the range for `find_polyt_head` of the current tree -/
theorem polyt_win_fix_position_in_range (w num den : Nat) (s : Int) (cigar : List CigarOp)
    (seq : List Char) (f t : Int) (chk : Bool) (hne : cigar ≠ []) (hseq : seq ≠ [])
    (hclip : softClipHead cigar < seq.length) (hnn : NonNeg cigar) (p : Nat)
    (hts : tailScan w num den chk (regionTWin cigar seq f t) = some p) (r : Int)
    (hr : findPolytHeadWin w num den s cigar seq f t chk = some r) :
    max 1 (s - max 1 (softClipHead cigar)) ≤ r ∧ r ≤ max 1 (referenceEnd s cigar - 1) ∧
    (WalkOnRef cigar true → max 1 (s - softClipHead cigar) ≤ r) := by
  rw [(region_t_win_eq cigar seq f t).1] at hts
  rw [find_polyt_head_win_fix] at hr
  exact polyt_fix_position_in_range w num den s cigar seq (f - 1) (t + 1) chk hne hseq hclip hnn p hts r hr

/-- non-vacuity of the range theorems on a record with a `P` inside the walked tail -/
example :
    tailScan 2 1 1 false (regionA C16Pad.padCigar "CCAAAAA".toList 6 2) = some 2 ∧
    findPolyaTailFix 2 1 1 10 C16Pad.padCigar "CCAAAAA".toList 6 2 false = some 12 ∧
    tailScan 2 1 1 false (regionTWin C16Pad.padCigar.reverse "TTTTTGG".toList 6 2) = some 2 ∧
    findPolytHeadWin 2 1 1 10 C16Pad.padCigar.reverse "TTTTTGG".toList 6 2 false = some 12 := by
  repeat rw [String.toList_ofList]
  exact ⟨by decide +kernel, C16Pad.pad_in_tail_witness.2.2.2.2, by decide +kernel, padCigar_head⟩

/-- **find_polya_tail_fix_found_iff** — the repaired `find_polya_tail` answers −1 exactly when no position satisfies
    `TailStart` (`reference_start ≥ 0`) -/
theorem find_polya_tail_fix_found_iff (w num den : Nat) (hw : 1 ≤ w) (s : Int) (cigar : List CigarOp) (seq : List Char)
    (fromPos toPos : Int) (chk : Bool) (hs : 0 ≤ s) (hne : cigar ≠ []) (hseq : seq ≠ [])
    (hclip : softClipTail cigar < seq.length) (hnn : NonNeg cigar) :
    findPolyaTailFix w num den s cigar seq fromPos toPos chk = some (-1) ↔
      ∀ p, ¬ TailStart w num den chk (regionA cigar seq fromPos toPos) p :=
  findPolyaTailWith_found_iff w num den s seq fromPos toPos chk (moveRefCoordFix_projects hnn) hs hne hseq hclip hnn

/-- **find_polyt_head_win_fix_found_iff** — the same for `find_polyt_head` of the current tree -/
theorem find_polyt_head_win_fix_found_iff (w num den : Nat) (hw : 1 ≤ w) (s : Int) (cigar : List CigarOp)
    (seq : List Char) (f t : Int) (chk : Bool) (hne : cigar ≠ []) (hseq : seq ≠ [])
    (hclip : softClipHead cigar < seq.length) (hnn : NonNeg cigar) :
    findPolytHeadWin w num den s cigar seq f t chk = some (-1) ↔
      ∀ p, ¬ TailStart w num den chk (regionTWin cigar seq f t) p := by
  rw [find_polyt_head_win_fix, (region_t_win_eq cigar seq f t).1]
  exact findPolytHeadWith_found_iff w num den s seq (f - 1) (t + 1) chk (moveRefCoordFix_projects hnn) hne hseq
    hclip hnn

example : ∀ p, ¬ TailStart 2 1 1 false (regionA C16Pad.padCigar "CCCCCCC".toList 6 2) p := by
  have h := (C16FinderChar.tail_scan_char 2 1 1 false (regionA C16Pad.padCigar "CCCCCCC".toList 6 2)).2.1
  exact h (by rw [String.toList_ofList]; decide +kernel)

/-- **detected_positions_in_range_fix** — every position `detect_polya` of the current tree (both finder repairs)
    reports is −1 or lies in the ranges of `detected_positions_in_range`; EVERY record with CIGAR lengths ≥ 0 -/
theorem detected_positions_in_range_fix (w num den : Nat) (s : Int) (cigar : List CigarOp)
    (seq : List Char) (hnn : NonNeg cigar) (info : PolyAInfo)
    (h : detectPolyaWin w num den s cigar seq = some info) :
    (∀ x, (x = info.internalPolyA ∨ x = info.externalPolyA) → x ≠ -1 →
      s + 1 ≤ x ∧ x ≤ referenceEnd s cigar + max 1 (softClipTail cigar)) ∧
    (∀ x, (x = info.internalPolyT ∨ x = info.externalPolyT) → x ≠ -1 →
      max 1 (s - max 1 (softClipHead cigar)) ≤ x ∧ x ≤ max 1 (referenceEnd s cigar - 1)) :=
  detectPolyaWinWith_ranges w num den s seq (moveRefCoordFix_projects hnn) hnn info h

/-- **record_tail_on_retained_exon_fix** — `record_tail_on_retained_exon` with the tail positions of `detect_polya` of
    the CURRENT tree (`detectPolyaWin`: repaired window + repaired projection) -/
theorem record_tail_on_retained_exon_fix (w num den : Nat) (hw : 1 ≤ w) (s : Int) (ops : List CigarOp)
    (seq : List Char) (mf : Int) (info : PolyAInfo) (hs : 0 ≤ s) (hp : Pos ops)
    (hdet : detectPolyaWin w num den s ops seq = some info)
    (hne : (getReadBlocks s ops).refBlocks ≠ []) :
    ∃ (r : AInfo) (a t : Int),
      addPolyaInfo mf (getReadBlocks s ops).refBlocks (getReadBlocks s ops).readBlocks
        (getReadBlocks s ops).cigarBlocks info = some r ∧
      correctReadInfo mf (getReadBlocks s ops).refBlocks info = some (a, t) ∧
      (0 < a → ∃ lastKept firstRemoved : Iv, r.exons.getLast? = some lastKept ∧
        (getReadBlocks s ops).refBlocks[(getReadBlocks s ops).refBlocks.length - a.toNat]? = some firstRemoved ∧
        lastKept.2 < firstRemoved.1 ∧ firstRemoved.2 ≤ referenceEnd s ops ∧
        (info.internalPolyA = -1 → r.info.internalPolyA = -1) ∧
        (info.internalPolyA ≠ -1 → lastKept.2 ≤ r.info.internalPolyA ∧
          r.info.internalPolyA ≤ lastKept.2 + max 0 (firstRemoved.2 - firstRemoved.1 - 1)) ∧
        (info.externalPolyA = -1 → r.info.externalPolyA = -1) ∧
        (info.externalPolyA ≠ -1 → lastKept.2 ≤ r.info.externalPolyA ∧
          r.info.externalPolyA ≤ r.info.internalPolyA)) ∧
      (countPolyaExons mf (getReadBlocks s ops).refBlocks info.internalPolyA = 0 → info.internalPolyA ≠ -1 →
        ∃ last : Iv, (getReadBlocks s ops).refBlocks.getLast? = some last ∧
          r.info.internalPolyA = info.internalPolyA ∧ last.1 ≤ r.info.internalPolyA ∧
          r.info.internalPolyA ≤ referenceEnd s ops + max 1 (softClipTail ops)) ∧
      (0 < t → ∃ firstKept lastRemoved : Iv, r.exons.head? = some firstKept ∧
        (getReadBlocks s ops).refBlocks[t.toNat - 1]? = some lastRemoved ∧
        lastRemoved.2 < firstKept.1 ∧ s + 1 ≤ lastRemoved.1 ∧
        (∀ old new, (old = info.internalPolyT ∧ new = r.info.internalPolyT) ∨
            (old = info.externalPolyT ∧ new = r.info.externalPolyT) →
          (old = -1 → new = -1) ∧
          (old ≠ -1 → new ≤ firstKept.1 ∧
            firstKept.1 - (lastRemoved.2 - max 1 (s - max 1 (softClipHead ops))) ≤ new)) ∧
        (info.externalPolyT ≠ -1 → r.info.internalPolyT ≤ r.info.externalPolyT)) ∧
      (countPolytExons mf (getReadBlocks s ops).refBlocks info.internalPolyT = 0 → info.internalPolyT ≠ -1 →
        ∃ first : Iv, (getReadBlocks s ops).refBlocks.head? = some first ∧
          r.info.internalPolyT = info.internalPolyT ∧ r.info.internalPolyT ≤ first.2 ∧
          max 1 (s - max 1 (softClipHead ops)) ≤ r.info.internalPolyT) := by
  obtain ⟨hrA, hrT⟩ := detected_positions_in_range_fix w num den s ops seq hp.nonneg info hdet
  exact C16TailRecord.record_tail_on_retained_exon_of_ranges s ops mf info hs hp hrA hrT hne

/-- non-vacuity: a record whose fake terminal exon holds a `P` inside the walked tail (`60M 100N 10M 1P 10M 20S`, 62 C +
    38 A): the old `detect_polya` raises, the current one reports (1178, −1, 1162, −1) -/
example :
    let ops : List CigarOp := [(.«match», 60), (.skipped, 100), (.«match», 10), (.padding, 1), (.«match», 10), (.soft_clipping, 20)]
    let seq : List Char := List.replicate 62 'C' ++ List.replicate 38 'A'
    Pos ops ∧ detectPolya 16 3 4 1000 ops seq = none ∧
    detectPolyaWin 16 3 4 1000 ops seq = some ⟨1178, -1, 1162, -1⟩ ∧
    (getReadBlocks 1000 ops).refBlocks = [(1001, 1060), (1161, 1180)] := by
  refine ⟨?_, by decide +kernel, by decide +kernel, by decide +kernel⟩
  intro o ho; simp at ho; rcases ho with h | h | h | h | h | h <;> subst h <;> decide

/-- **record_removed_exons_are_tail_fix** — `record_removed_exons_are_tail` with the positions of `detect_polya` of the
    current tree: for each exon removed at the 3' end the repaired `find_polya_tail` returned the recorded `x ≠ −1`,
    `TailStart` holds somewhere in the scanned region and the exon passes the per-exon test; mirror at the 5' end with
    the repaired window `regionTWin` -/
theorem record_removed_exons_are_tail_fix (w num den : Nat) (s : Int) (ops : List CigarOp)
    (seq : List Char) (mf : Int) (info : PolyAInfo) (hs : 0 ≤ s) (hp : Pos ops)
    (hdet : detectPolyaWin w num den s ops seq = some info)
    (hne : (getReadBlocks s ops).refBlocks ≠ []) :
    ∃ (r : AInfo) (a t : Int),
      addPolyaInfo mf (getReadBlocks s ops).refBlocks (getReadBlocks s ops).readBlocks
        (getReadBlocks s ops).cigarBlocks info = some r ∧
      correctReadInfo mf (getReadBlocks s ops).refBlocks info = some (a, t) ∧
      r.exons = ((getReadBlocks s ops).refBlocks.take ((getReadBlocks s ops).refBlocks.length - a.toNat)).drop t.toNat ∧
      (∀ e ∈ (getReadBlocks s ops).refBlocks.drop ((getReadBlocks s ops).refBlocks.length - a.toNat),
        info.internalPolyA ≠ -1 ∧
        findPolyaTailFix w num den s ops seq (4 * (w : Int)) 2 true = some info.internalPolyA ∧
        (∃ p, TailStart w num den true (regionA ops seq (4 * (w : Int)) 2) p) ∧
        info.internalPolyA < e.2 ∧
        (info.internalPolyA ≤ e.1 ∨
          (info.internalPolyA - e.1 ≤ mf ∧ 2 * (info.internalPolyA - e.1) < e.2 - info.internalPolyA))) ∧
      (∀ e ∈ (getReadBlocks s ops).refBlocks.take t.toNat,
        info.internalPolyT ≠ -1 ∧
        findPolytHeadWin w num den s ops seq (4 * (w : Int)) 2 true = some info.internalPolyT ∧
        (∃ p, TailStart w num den true (regionTWin ops seq (4 * (w : Int)) 2) p) ∧
        e.1 < info.internalPolyT ∧
        (e.2 ≤ info.internalPolyT ∨
          (e.2 - info.internalPolyT ≤ mf ∧ 2 * (e.2 - info.internalPolyT) < info.internalPolyT - e.1))) := by
  have hsw := C16.exons_sorted_wf s ops hs hp
  have hsd : SD (getReadBlocks s ops).refBlocks := ⟨fun e he => (hsw.1 e he).2, hsw.2⟩
  obtain ⟨r, a, t, hr, hcri, _, hre, hA, hT, _⟩ :=
    C16TailExons.trimmed_exons_are_tail_exons mf _ (getReadBlocks s ops).readBlocks (getReadBlocks s ops).cigarBlocks info hsd hne
  unfold detectPolyaWin detectPolyaWinWith at hdet
  simp only [Option.bind_eq_bind, Option.bind_eq_some_iff, Option.some.injEq] at hdet
  obtain ⟨ea, hea, et, het, ia, hia, it, hit, rfl⟩ := hdet
  refine ⟨r, a, t, hr, hcri, hre, ?_, ?_⟩
  · intro e he
    obtain ⟨hx, hc⟩ := hA e he
    exact ⟨hx, hia, polya_found_tailStart _ w num den s ops seq _ _ _ _ hia hx,
      (C16TailExons.polya_counted_iff mf ia e).1 hc⟩
  · intro e he
    obtain ⟨hx, hc⟩ := hT e he
    have hts := polyt_found_tailStart _ w num den s ops seq _ _ _ _ (find_polyt_head_win_eq .. ▸ hit) hx
    rw [← (region_t_win_eq ops seq _ _).1] at hts
    exact ⟨hx, hit, hts, (C16TailExons.polyt_counted_iff mf it e).1 hc⟩

/-- the reference columns between two neighbouring query bases: `c1` is query base number `j` of `cols`, `c2` the next
    query base, `mid` the (reference-only or empty) columns between them ⇒ the two projections differ by
    `#reference columns of mid` + (1 if `c2` is aligned, 0 if it is an inserted base) -/
theorem projects_gap (cols pre mid post : List (Bool × Bool)) (c1 c2 : Bool × Bool) (j : Nat) (kA kT : Int)
    (hcols : cols = pre ++ c1 :: (mid ++ c2 :: post)) (h1 : c1.1 = true) (h2 : c2.1 = true)
    (hmid : ∀ m ∈ mid, m.1 = false) (hj : qCount pre = j)
    (hA : ProjectsTo cols (j + 1) kA) (hT : ProjectsTo cols j kT) :
    kA - kT = (rCount mid : Int) + c2.2.toNat := by
  have hqmid := qCount_eq_zero hmid
  have hq : qCount (pre ++ c1 :: mid) = j + 1 := by
    unfold qCount at hqmid hj ⊢
    rw [List.countP_append, List.countP_cons, hqmid, hj]; simp [h1]
  have hA' : ProjectsTo cols (j + 1) ((rCount ((pre ++ c1 :: mid) ++ [c2]) : Int) - 1) :=
    Or.inl ⟨pre ++ c1 :: mid, c2, post, by rw [hcols]; simp, h2, hq, rfl⟩
  have hT' : ProjectsTo cols j ((rCount (pre ++ [c1]) : Int) - 1) :=
    Or.inl ⟨pre, c1, mid ++ c2 :: post, hcols, h1, hj, rfl⟩
  rw [projectsTo_unique _ _ _ _ hA hA', projectsTo_unique _ _ _ _ hT hT']
  have e0 : rCount ([] : List (Bool × Bool)) = 0 := rfl
  simp only [rCount_append, rCount_cons, e0]
  omega

/-- **mirror_law_general** — the position law for EVERY tail that starts inside the aligned part (no restriction to the
    last match operation).  Read `(s, cigar, seq)`, mirror image `(L − reference_end, reversed CIGAR, reverse
    complement)`, current tree (repaired window + repaired projection), ANY window and fraction, `from_pos, to_pos ≥ 0`.  The
    scan settles on the read base `q = to_check_start + pA`, `d = mapped end − q ≥ 1` bases of the tail are aligned.
    With `cols` = the alignment columns walked back from the alignment end,
    * `k_A` = projection of query base number `d` of `cols` (the base BEFORE the tail),
    * `k_T` = projection of query base number `d − 1` (the FIRST tail base); `0` when `d = 1` (the code takes the clip
      branch there),
    `find_polya_tail(read) = reference_end − k_A` and
    `find_polyt_head(mirror) = max 1 (L − find_polya_tail(read) − (k_A − k_T))`, i.e. the mirror image
    `L + 1 − polyA` minus `1 + (k_A − k_T)`. -/
theorem mirror_law_general (w num den : Nat) (s L : Int) (cigar : List CigarOp)
    (seq seq' : List Char) (f t : Int) (chk : Bool) (hne : cigar ≠ []) (hseq : seq ≠ [])
    (hclip : softClipTail cigar < seq.length) (hnn : NonNeg cigar) (hf : 0 ≤ f) (ht : 0 ≤ t)
    (hrc : seq'.map (fun c => upperChar c == 'T') = (seq.map (fun c => upperChar c == 'A')).reverse)
    (pA d : Nat) (hA : tailScan w num den chk (regionA cigar seq f t) = some pA)
    (hd : (d : Int) = (seq.length : Int) - softClipTail cigar - (startA cigar seq f + pA)) (hd1 : 1 ≤ d) :
    ∃ kA kT : Int,
      ProjectsTo (expand (walkCore cigar false)) d kA ∧
      (d = 1 → kT = 0) ∧ (2 ≤ d → ProjectsTo (expand (walkCore cigar false)) (d - 1) kT) ∧
      findPolyaTailFix w num den s cigar seq f t chk = some (referenceEnd s cigar - kA) ∧
      findPolytHeadWin w num den (L - referenceEnd s cigar) cigar.reverse seq' f t chk =
        some (max 1 (L - (referenceEnd s cigar - kA) - (kA - kT))) := by
  have hlen : seq'.length = seq.length := by simpa using congrArg List.length hrc
  have hc0 := softClipTail_nonneg hnn
  have hscan := mirror_scan w num den chk cigar seq seq' f t hnn hrc
  rw [(region_t_win_eq cigar.reverse seq' f t).1, hA] at hscan
  obtain ⟨h1, h2⟩ := mirror_pos moveRefCoordFix moveRefCoordFix w num den s L cigar seq seq' f t (f - 1) (t + 1) chk hne
    hseq hclip hlen pA pA hA hscan (by unfold stopT startA; rw [softClipHead_reverse, hlen]; omega) d hd
  rw [depthProj_fix cigar false d hnn hne hd1] at h1
  refine ⟨(refColsUpTo (expand (walkCore cigar false)) d : Int) - 1,
    if d = 1 then 0 else (refColsUpTo (expand (walkCore cigar false)) (d - 1) : Int) - 1,
    projectsTo_refColsUpTo _ _, fun h => if_pos h, fun h => ?_, h1, ?_⟩
  · rw [if_neg (by omega)]; exact projectsTo_refColsUpTo _ _
  · rw [find_polyt_head_win_fix]
    unfold findPolytHeadFix
    rw [h2]
    by_cases h1 : d = 1
    · subst h1; simp [depthProj]; congr 1; omega
    · have := depthProj_fix cigar.reverse true (d - 1) (NonNeg_reverse hnn) (by simpa using hne) (by omega)
      rw [Int.natCast_sub hd1] at this
      rw [show (d : Int) - 1 = (d : Int) - ((1 : Nat) : Int) from rfl, this, walkCore_reverse, if_neg h1]
      simp only [Option.map_some]; congr 2; omega

/-- **mirror_law_offset** — the closed form of the offset.  `c1` = alignment column of the first tail base, `c2` = column
    of the read base before the tail, `mid` = the columns between them (they consume no query base: deleted / skipped
    reference bases).  Then `find_polyt_head(mirror) = max 1 (L − find_polya_tail(read) − g)` with
    `g = #reference bases of mid + (1 if the base before the tail is aligned, 0 if it is an inserted base)`:
    mirror image `L + 1 − polyA` minus `1 + g`.  `g = 1` (offset −2) exactly when the two bases are adjacent aligned
    columns — `mirror_law_win_fix` is the instance "inside the last match operation". -/
theorem mirror_law_offset (w num den : Nat) (s L : Int) (cigar : List CigarOp)
    (seq seq' : List Char) (f t : Int) (chk : Bool) (hne : cigar ≠ []) (hseq : seq ≠ [])
    (hclip : softClipTail cigar < seq.length) (hnn : NonNeg cigar) (hf : 0 ≤ f) (ht : 0 ≤ t)
    (hrc : seq'.map (fun c => upperChar c == 'T') = (seq.map (fun c => upperChar c == 'A')).reverse)
    (pA d : Nat) (hA : tailScan w num den chk (regionA cigar seq f t) = some pA)
    (hd : (d : Int) = (seq.length : Int) - softClipTail cigar - (startA cigar seq f + pA)) (hd2 : 2 ≤ d)
    (pre mid post : List (Bool × Bool)) (c1 c2 : Bool × Bool)
    (hcols : expand (walkCore cigar false) = pre ++ c1 :: (mid ++ c2 :: post))
    (h1 : c1.1 = true) (h2 : c2.1 = true) (hmid : ∀ m ∈ mid, m.1 = false) (hj : qCount pre = d - 1) :
    ∃ ra, findPolyaTailFix w num den s cigar seq f t chk = some ra ∧
      findPolytHeadWin w num den (L - referenceEnd s cigar) cigar.reverse seq' f t chk =
        some (max 1 (L - ra - ((rCount mid : Int) + c2.2.toNat))) := by
  obtain ⟨kA, kT, hkA, _, hkT, hPA, hPT⟩ :=
    mirror_law_general w num den s L cigar seq seq' f t chk hne hseq hclip hnn hf ht hrc pA d hA hd (by omega)
  have hkA' : ProjectsTo (expand (walkCore cigar false)) (d - 1 + 1) kA := by
    have e : d - 1 + 1 = d := by omega
    rw [e]; exact hkA
  have hg := projects_gap _ pre mid post c1 c2 (d - 1) kA kT hcols h1 h2 hmid hj hkA' (hkT hd2)
  exact ⟨_, hPA, by rw [hPT, hg]⟩

/-- **mirror_law_offset_first** — the closed form for `d = 1` (exactly one aligned tail base; the code takes the clip
    branch of `find_polyt_head`, `k_T = 0`): `lead` = the columns at the walked end of the alignment that consume no query
    base (trailing `D`/`N`; none in an aligner's output), `c0` = column of the only aligned tail base, `mid` / `c2` as in
    `mirror_law_offset`.  Then `find_polyt_head(mirror) = max 1 (L − find_polya_tail(read) − g)` with
    `g = #ref(lead) + ref(c0) + #ref(mid) + ref(c2) − 1`; when the alignment ends with an aligned base (`lead = []`,
    `c0 = (true, true)`) this is the `g = #ref(mid) + ref(c2)` of `mirror_law_offset`. -/
theorem mirror_law_offset_first (w num den : Nat) (s L : Int) (cigar : List CigarOp)
    (seq seq' : List Char) (f t : Int) (chk : Bool) (hne : cigar ≠ []) (hseq : seq ≠ [])
    (hclip : softClipTail cigar < seq.length) (hnn : NonNeg cigar) (hf : 0 ≤ f) (ht : 0 ≤ t)
    (hrc : seq'.map (fun c => upperChar c == 'T') = (seq.map (fun c => upperChar c == 'A')).reverse)
    (pA : Nat) (hA : tailScan w num den chk (regionA cigar seq f t) = some pA)
    (hd : (1 : Int) = (seq.length : Int) - softClipTail cigar - (startA cigar seq f + pA))
    (lead mid post : List (Bool × Bool)) (c0 c2 : Bool × Bool)
    (hcols : expand (walkCore cigar false) = lead ++ c0 :: (mid ++ c2 :: post))
    (h0 : c0.1 = true) (h2 : c2.1 = true) (hlead : ∀ m ∈ lead, m.1 = false) (hmid : ∀ m ∈ mid, m.1 = false) :
    ∃ ra, findPolyaTailFix w num den s cigar seq f t chk = some ra ∧
      findPolytHeadWin w num den (L - referenceEnd s cigar) cigar.reverse seq' f t chk =
        some (max 1 (L - ra - ((rCount lead : Int) + c0.2.toNat + rCount mid + c2.2.toNat - 1))) := by
  obtain ⟨kA, kT, hkA, hkT, _, hPA, hPT⟩ :=
    mirror_law_general w num den s L cigar seq seq' f t chk hne hseq hclip hnn hf ht hrc pA 1 hA (by simpa using hd)
      (Nat.le_refl 1)
  have hq : qCount (lead ++ c0 :: mid) = 1 := by
    have a := qCount_eq_zero hlead
    have b := qCount_eq_zero hmid
    unfold qCount at a b ⊢
    rw [List.countP_append, List.countP_cons, a, b]; simp [h0]
  have hA' : ProjectsTo (expand (walkCore cigar false)) 1 ((rCount ((lead ++ c0 :: mid) ++ [c2]) : Int) - 1) :=
    Or.inl ⟨lead ++ c0 :: mid, c2, post, by rw [hcols]; simp, h2, hq, rfl⟩
  have hk := projectsTo_unique _ _ _ _ hkA hA'
  have e0 : rCount ([] : List (Bool × Bool)) = 0 := rfl
  simp only [rCount_append, rCount_cons, e0] at hk
  refine ⟨_, hPA, ?_⟩
  rw [hPT, hkT rfl]
  congr 2
  omega

/-- non-vacuity of `mirror_law_offset_first`: `8M 2D 1M 4S`, one aligned + 4 clipped A's (window 2, fraction 1/1,
    `from 8`): the base before the tail lies behind the deletion, `g = 0 + 1 + 2 + 1 − 1 = 3`, offset −4 -/
example :
    let r : List CigarOp := [(.«match», 8), (.deletion, 2), (.«match», 1), (.soft_clipping, 4)]
    tailScan 2 1 1 false (regionA r "CCCCCCCCAAAAA".toList 8 2) = some 7 ∧
    (1 : Int) = ("CCCCCCCCAAAAA".toList.length : Int) - softClipTail r - (startA r "CCCCCCCCAAAAA".toList 8 + (7 : Nat)) ∧
    expand (walkCore r false) = [] ++ (true, true) :: ([(false, true), (false, true)] ++ (true, true) :: List.replicate 7 (true, true)) ∧
    findPolyaTailFix 2 1 1 100 r "CCCCCCCCAAAAA".toList 8 2 false = some 108 ∧
    findPolytHeadWin 2 1 1 (1000 - referenceEnd 100 r) r.reverse "TTTTTGGGGGGGG".toList 8 2 false = some (1001 - 108 - 4) := by
  repeat rw [String.toList_ofList]
  refine ⟨by decide +kernel, by decide +kernel, by decide +kernel, by decide +kernel, by decide +kernel⟩

/-- **mirror_law_whole** — the remaining case of the closed form: the tail covers every read base the walk sees
    (`d` ≥ the number of query bases of the walked columns: the tail starts at the first aligned base or inside the
    soft-clipped head), and the walked columns end on a query column (the alignment starts, clips aside, with
    `M = X I` — every aligner's output).  Both positions are held at the far end of the alignment:
    `k_A = k_T`, `find_polyt_head(mirror) = max 1 (L − find_polya_tail(read))`, offset −1 (`window_mirror_witness`). -/
theorem mirror_law_whole (w num den : Nat) (s L : Int) (cigar : List CigarOp)
    (seq seq' : List Char) (f t : Int) (chk : Bool) (hne : cigar ≠ []) (hseq : seq ≠ [])
    (hclip : softClipTail cigar < seq.length) (hnn : NonNeg cigar) (hf : 0 ≤ f) (ht : 0 ≤ t)
    (hrc : seq'.map (fun c => upperChar c == 'T') = (seq.map (fun c => upperChar c == 'A')).reverse)
    (pA d : Nat) (hA : tailScan w num den chk (regionA cigar seq f t) = some pA)
    (hd : (d : Int) = (seq.length : Int) - softClipTail cigar - (startA cigar seq f + pA)) (hd2 : 2 ≤ d)
    (hq : qCount (expand (walkCore cigar false)) ≤ d)
    (hlast : qCount (expand (walkCore cigar false)) = d →
      ∃ pre c1, expand (walkCore cigar false) = pre ++ [c1] ∧ c1.1 = true) :
    ∃ ra, findPolyaTailFix w num den s cigar seq f t chk = some ra ∧
      findPolytHeadWin w num den (L - referenceEnd s cigar) cigar.reverse seq' f t chk = some (max 1 (L - ra)) := by
  obtain ⟨kA, kT, hkA, _, hkT, hPA, hPT⟩ :=
    mirror_law_general w num den s L cigar seq seq' f t chk hne hseq hclip hnn hf ht hrc pA d hA hd (by omega)
  have hA' : ProjectsTo (expand (walkCore cigar false)) d ((rCount (expand (walkCore cigar false)) : Int) - 1) :=
    Or.inr ⟨hq, rfl⟩
  have hT' : ProjectsTo (expand (walkCore cigar false)) (d - 1) ((rCount (expand (walkCore cigar false)) : Int) - 1) := by
    by_cases hlt : qCount (expand (walkCore cigar false)) ≤ d - 1
    · exact Or.inr ⟨hlt, rfl⟩
    · obtain ⟨pre, c1, hc, h1⟩ := hlast (by omega)
      have hqp : qCount pre = d - 1 := by
        have : qCount (pre ++ [c1]) = qCount pre + 1 := by
          unfold qCount; rw [List.countP_append]; simp [h1]
        rw [hc] at hq hlt
        omega
      rw [hc]
      exact Or.inl ⟨pre, c1, [], rfl, h1, hqp, rfl⟩
  have e1 := projectsTo_unique _ _ _ _ hkA hA'
  have e2 := projectsTo_unique _ _ _ _ (hkT hd2) hT'
  refine ⟨_, hPA, ?_⟩
  rw [hPT]; congr 2; omega

/-- non-vacuity: the read of `window_mirror_witness` (`17M 3S`, the whole read is tail): the scan settles on base 0,
    `d = 17` = number of walked query bases, the walked columns end on an aligned column; polyA 101, polyT(mirror) 899 -/
example :
    let r : List CigarOp := [(.«match», 17), (.soft_clipping, 3)]
    tailScan 16 3 4 true (regionA r "AAAAAACACCCAAAAAAACA".toList 64 2) = some 0 ∧
    ((17 : Nat) : Int) = ("AAAAAACACCCAAAAAAACA".toList.length : Int) - softClipTail r -
      (startA r "AAAAAACACCCAAAAAAACA".toList 64 + (0 : Nat)) ∧
    qCount (expand (walkCore r false)) = 17 ∧
    expand (walkCore r false) = List.replicate 16 (true, true) ++ [(true, true)] := by
  repeat rw [String.toList_ofList]
  refine ⟨by decide +kernel, by decide +kernel, by decide +kernel, by decide +kernel⟩

/-- **mirror_offset_witness** — three reads with the SAME tail (internal finder, window 4, fraction 3/4, `s = 100`,
    `L = 1000`; 3 aligned + 4 soft-clipped A's) whose base before the tail is (a) the neighbouring aligned base,
    (b) separated from the tail by `2D`, (c) an inserted base: offsets from the mirror image `1001 − polyA` are −2, −4,
    −1.  (a) and (b) report the same polyA position 106: no closed form in the polyA position alone exists; the
    columns between the two bases are needed (`mirror_law_offset`).  Model = code, replayed on the real finder each run. -/
theorem mirror_offset_witness :
    let ra : List CigarOp := [(.«match», 9), (.soft_clipping, 4)]
    let rb : List CigarOp := [(.«match», 6), (.deletion, 2), (.«match», 3), (.soft_clipping, 4)]
    let rc : List CigarOp := [(.«match», 6), (.insertion, 2), (.«match», 3), (.soft_clipping, 4)]
    (findPolyaTailFix 4 3 4 100 ra "CCCCCCAAAAAAA".toList 16 2 true = some 106 ∧
      findPolytHeadWin 4 3 4 (1000 - referenceEnd 100 ra) ra.reverse "TTTTTTTGGGGGG".toList 16 2 true = some (1001 - 106 - 2)) ∧
    (findPolyaTailFix 4 3 4 100 rb "CCCCCCAAAAAAA".toList 16 2 true = some 106 ∧
      findPolytHeadWin 4 3 4 (1000 - referenceEnd 100 rb) rb.reverse "TTTTTTTGGGGGG".toList 16 2 true = some (1001 - 106 - 4)) ∧
    (findPolyaTailFix 4 3 4 100 rc "CCCCCCCCAAAAAAA".toList 16 2 true = some 107 ∧
      findPolytHeadWin 4 3 4 (1000 - referenceEnd 100 rc) rc.reverse "TTTTTTTGGGGGGGG".toList 16 2 true = some (1001 - 107 - 1)) := by
  repeat rw [String.toList_ofList]
  decide +kernel

/-- non-vacuity of `mirror_law_general` / `mirror_law_offset`: read (b) of the witness — the scan settles on base 6,
    `d = 3`, the columns walked back are `3 × M, 2 × D, 6 × M`: `c1` = third column, `mid` = the two `D` columns,
    `c2` = the next `M` column, `g = 2 + 1` -/
example :
    let rb : List CigarOp := [(.«match», 6), (.deletion, 2), (.«match», 3), (.soft_clipping, 4)]
    tailScan 4 3 4 true (regionA rb "CCCCCCAAAAAAA".toList 16 2) = some 6 ∧
    ((3 : Nat) : Int) = ("CCCCCCAAAAAAA".toList.length : Int) - softClipTail rb - (startA rb "CCCCCCAAAAAAA".toList 16 + (6 : Nat)) ∧
    expand (walkCore rb false) = [(true, true), (true, true)] ++ (true, true) ::
      ([(false, true), (false, true)] ++ (true, true) :: List.replicate 5 (true, true)) ∧
    qCount [(true, true), (true, true)] = 3 - 1 := by
  repeat rw [String.toList_ofList]
  refine ⟨by decide +kernel, by decide +kernel, by decide +kernel, by decide⟩

end IsoVerif.Props.C16FinderFix
