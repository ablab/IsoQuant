/-
C11 — translation / reflection equivariance of the BED12 output (Model/Bed.lean = `BEDPrinter.add_read_info`,
property C14's model), for ALL exon lists (sorted or not, well formed or not), all `k`, all `L`:

  translation : chromStart / chromEnd / thickStart / thickEnd + k; blockCount, blockSizes and the (relative)
                blockStarts unchanged; the empty block list raises on both sides; the decoded blocks are shifted
  reflection  : the record of the mirrored exon list (on the flipped strand) is `mirrorBed L` of the record:
                [chromStart, chromEnd) ↦ [L − chromEnd, L − chromStart), block sizes reversed, the start of a
                block measured from the other end; the decoded blocks are the mirrored blocks.
-/
import IsoVerif.Gen.Prims
import IsoVerif.Model.Bed
import IsoVerif.Model.C11Symmetry
import IsoVerif.Model.C11SymBedCorr
import IsoVerif.Lemmas.C11Shift
import IsoVerif.Lemmas.C11Mirror
import IsoVerif.Lemmas.C11Bed

namespace IsoVerif.Props.C11Bed
open IsoVerif.Gen IsoVerif.Model IsoVerif.Model.C14 IsoVerif.Model.C11 IsoVerif.Lemmas.C11

/-- `add_read_info` on exons shifted by `k`: the four absolute columns move by `k`, the block columns stay;
    `none ↦ none` (IndexError on the empty list) -/
theorem shift_equivariant_bedRecord (k : Int) (chrom name strand : String) (exons : List Iv) :
    bedRecord chrom name strand (shiftL k exons) = (bedRecord chrom name strand exons).map (shiftBed k) :=
  bedRecord_shift k chrom name strand exons

/-- the relative columns, spelled out: same count, same sizes, same relative starts -/
theorem shift_invariant_bed_block_columns (k : Int) (chrom name strand : String) (exons : List Iv) (r r' : BedRecord)
    (h : bedRecord chrom name strand exons = some r) (h' : bedRecord chrom name strand (shiftL k exons) = some r') :
    r'.blockCount = r.blockCount ∧ r'.blockSizes = r.blockSizes ∧ r'.blockStarts = r.blockStarts ∧
      r'.chromStart = r.chromStart + k ∧ r'.chromEnd = r.chromEnd + k ∧
      r'.thickStart = r.thickStart + k ∧ r'.thickEnd = r.thickEnd + k := by
  rw [bedRecord_shift, h] at h'
  simp only [Option.map_some, Option.some.injEq] at h'
  subst h'
  simp [shiftBed]

/-- decoding commutes with the shift (ALL records, also malformed ones) -/
theorem shift_equivariant_bed_blocks (k : Int) (r : BedRecord) : (shiftBed k r).blocks = shiftL k r.blocks := by
  simp only [BedRecord.blocks, shiftBed, shiftL, List.map_map]
  apply List.map_congr_left; intro q _
  simp only [Function.comp, shiftIv]; ext <;> simp <;> omega

/-- the rendered line of the shifted record: columns 2, 3, 7, 8 carry `+ k`, every other column is the same text -/
theorem shift_equivariant_render (k : Int) (r : BedRecord) :
    (shiftBed k r).render =
      "\t".intercalate [r.chrom, toString (r.chromStart + k), toString (r.chromEnd + k), r.name, "0", r.strand,
                         toString (r.thickStart + k), toString (r.thickEnd + k), "0", toString r.blockCount,
                         joinComma r.blockSizes, joinComma r.blockStarts] ++ "\n" := rfl

/-- `BEDPrinter.add_read_info` on a `PrinterInput`: the guards of the model do not read coordinates (the test that
    writes a multimapper alignment once, `printed_multimappers` in assignment_io.py, is not in the model); what is
    written for the shifted read is the rendering of the shifted record; the exception is kept -/
theorem shift_equivariant_addReadInfo (k : Int) (i : PrinterInput) :
    addReadInfo (shiftPrinterInput k i) =
      (if !i.assignmentPresent || !i.typePresent || !i.geneInfoPresent then some none
       else if !i.checkerPresent || !i.checkerAccepts then some none
       else match bedRecord i.chrom i.name i.strand (if i.printCorrected then i.correctedExons else i.exons) with
         | none => none
         | some r => some (some (shiftBed k r).render)) := by
  obtain ⟨b1, b2, b3, b4, b5, pc, chrom, name, strand, exons, corrected⟩ := i
  have e : (if pc = true then shiftL k corrected else shiftL k exons)
      = shiftL k (if pc = true then corrected else exons) := by split <;> rfl
  show (if (!b1 || !b2 || !b3) = true then some none
        else if (!b4 || !b5) = true then some none
        else match bedRecord chrom name strand (if pc = true then shiftL k corrected else shiftL k exons) with
          | none => none
          | some r => some (some r.render)) = _
  rw [e, bedRecord_shift]
  cases bedRecord chrom name strand (if pc = true then corrected else exons) <;> rfl

/-- nothing written / exception: exactly the same inputs as before the shift -/
theorem shift_equivariant_addReadInfo_silent (k : Int) (i : PrinterInput) :
    (addReadInfo (shiftPrinterInput k i) = none ↔ addReadInfo i = none) ∧
    (addReadInfo (shiftPrinterInput k i) = some none ↔ addReadInfo i = some none) := by
  rw [shift_equivariant_addReadInfo]
  simp only [addReadInfo]
  cases bedRecord i.chrom i.name i.strand (if i.printCorrected = true then i.correctedExons else i.exons) <;>
    constructor <;> (split <;> try simp) <;> (split <;> simp)

/-- the record of the mirrored exon list, written with strand `strand'` (the flipped one), is the mirror image
    of the record: ALL exon lists, no sortedness needed -/
theorem mirror_dual_bedRecord (L : Int) (chrom name strand strand' : String) (exons : List Iv) :
    bedRecord chrom name strand' (mirrorL L exons) = (bedRecord chrom name strand exons).map (mirrorBed L strand') :=
  bedRecord_mirror L chrom name strand strand' exons

/-- the columns of the mirrored record, spelled out -/
theorem mirror_dual_bed_columns (L : Int) (chrom name strand strand' : String) (exons : List Iv) (r r' : BedRecord)
    (h : bedRecord chrom name strand exons = some r) (h' : bedRecord chrom name strand' (mirrorL L exons) = some r') :
    r'.chromStart = L - r.chromEnd ∧ r'.chromEnd = L - r.chromStart ∧ r'.blockCount = r.blockCount ∧
      r'.blockSizes = r.blockSizes.reverse ∧
      r'.blockStarts = ((List.zip r.blockStarts r.blockSizes).map
                          (fun q => (r.chromEnd - r.chromStart) - (q.1 + q.2))).reverse := by
  rw [bedRecord_mirror L chrom name strand strand', h] at h'
  simp only [Option.map_some, Option.some.injEq] at h'
  subst h'
  simp [mirrorBed]

/-- decoding the mirrored record gives the mirrored blocks, for every record with as many starts as sizes
    (all records written by `add_read_info`: `bedRecord_lengths`) -/
theorem mirror_dual_bed_blocks (L : Int) (strand' : String) (r : BedRecord)
    (h : r.blockStarts.length = r.blockSizes.length) :
    (mirrorBed L strand' r).blocks = mirrorL L r.blocks := by
  simp only [BedRecord.blocks, mirrorBed, mirrorL]
  have hl : ((List.zip r.blockStarts r.blockSizes).map
      (fun q => (r.chromEnd - r.chromStart) - (q.1 + q.2))).length = r.blockSizes.length := by
    simp [h]
  rw [List.zip_eq_zipWith, ← List.reverse_zipWith hl, ← List.zip_eq_zipWith, bed_zip_map_fst_snd _ _ _ h,
    List.map_reverse, List.map_map, List.map_map]
  congr 1
  apply List.map_congr_left; intro q _
  simp only [Function.comp, mirrorIv]; ext <;> simp <;> omega

/-- the hypothesis is needed: `zip` truncates at the end of the shorter column, which is the other end after
    the reversal -/
theorem mirror_dual_bed_blocks_witness :
    ¬ (∀ (L : Int) (s : String) (r : BedRecord), (mirrorBed L s r).blocks = mirrorL L r.blocks) := by
  intro h
  have := h 100 "-" { chrom := "c", chromStart := 0, chromEnd := 30, name := "r", strand := "+", thickStart := 0,
                       thickEnd := 0, blockCount := 2, blockSizes := [10, 5], blockStarts := [0] }
  revert this
  decide

-- non-vacuity: a written record meets the hypothesis, and the functions compute non-trivial values
example : ∃ r, bedRecord "chr1" "read" "+" [(11, 20), (31, 45), (61, 70)] = some r ∧
    r.blockStarts.length = r.blockSizes.length ∧ r.blockStarts = [0, 20, 50] ∧
    (mirrorBed 100 "-" r).blockStarts = [0, 25, 50] ∧ (mirrorBed 100 "-" r).chromStart = 30 ∧
    (mirrorBed 100 "-" r).blocks = [(31, 40), (56, 70), (81, 90)] ∧
    (shiftBed 255 r).blocks = [(266, 275), (286, 300), (316, 325)] := by
  refine ⟨_, rfl, ?_⟩
  decide

example : bedRecord "c" "n" "+" (shiftL 7 []) = none ∧ bedRecord "c" "n" "-" (mirrorL 7 []) = none := by decide

end IsoVerif.Props.C11Bed
