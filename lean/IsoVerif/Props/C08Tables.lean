/-
C08 — facts about the sources that the model relies on, re-extracted from /repo on every run (Gen/Resolver.lean) and
closed by evaluation: a change of one of them re-opens exactly the obligation that names it.
-/
import IsoVerif.Gen.Resolver

namespace IsoVerif.Props.C08Tables
open IsoVerif.Gen

/-- the command line hard-wires `take_best` (the strategy all theorems are about) -/
theorem cli_strategy_take_best :
    MultimapResolvingStrategy.ofName? cli_multimap_strategy = some .take_best := by decide +kernel

/-- `BasicReadAssignment.__eq__` compares exactly the fields `recEq` compares -/
theorem eq_fields_modelled : basic_eq_fields = ["read_id", "chr_id", "start", "end", "isoforms"] := rfl

/-- `suspended` is assigned nowhere but in the resolver (`filter_assignments` writes both type fields,
    `ignore_multimapper` the transcript-level one only): records reaching the resolver never carry it
    (`NoSuspendedInput`) -/
theorem suspended_only_by_resolver :
    suspended_assigned_at = ["src/multimap_resolver.py:assignment_type", "src/multimap_resolver.py:gene_assignment_type"] := rfl

/-- the loader skips a record whose verdict is `suspended` or missing -/
theorem loader_rule_present : loader_skips_suspended = true ∧ loader_skips_missing = true := ⟨rfl, rfl⟩

/-- every loop of the model-construction stage that consumes read assignments starts by skipping multimappers -/
theorem graph_guards_present :
    (multimapper_guards.map (·.1)).contains "IntronCollector.collect_introns" = true ∧
    (multimapper_guards.map (·.1)).contains "IntronGraph.construct" = true ∧
    multimapper_guards.all (·.2) = true := by decide +kernel

end IsoVerif.Props.C08Tables
