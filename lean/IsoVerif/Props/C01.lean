/-
C01 (classification) — `classify_assignment` over the generated event tables.
The tables (`is_consistent`, `is_minor_error`, `nic/nnic_event_types`, `nonintronic_events`, the ReadAssignmentType
families) are re-extracted from /repo/src/isoform_assignment.py on every run; every statement below is closed over the
whole generated enum, so an edited table re-opens exactly the facts it touches.
-/
import IsoVerif.Gen.Enums
import IsoVerif.Gen.EventClasses
import IsoVerif.Gen.Strategies
import IsoVerif.Model.Assign
import IsoVerif.Lemmas.EventEnum

namespace IsoVerif.Props.C01
open IsoVerif.Gen IsoVerif.Model IsoVerif.Model.C01 IsoVerif.Lemmas

/-- Consistent ∩ Major = ∅ -/
theorem consistent_not_major (e : MatchEventSubtype) :
    ¬ (e.is_consistent = true ∧ e.is_major_inconsistency = true) := by
  revert e; exact forall_events (by decide +kernel)

/-- MinorError ∩ Major = ∅ -/
theorem minor_not_major (e : MatchEventSubtype) :
    ¬ (e.is_minor_error = true ∧ e.is_major_inconsistency = true) := by
  revert e; exact forall_events (by decide +kernel)

/-- Consistent ∩ MinorError = ∅ -/
theorem consistent_not_minor (e : MatchEventSubtype) :
    ¬ (e.is_consistent = true ∧ e.is_minor_error = true) := by
  revert e; exact forall_events (by decide +kernel)

/-- an intronic inconsistency is a major inconsistency; elongation classes sit where the assigner expects them -/
theorem intronic_is_major (e : MatchEventSubtype) :
    e.is_intronic_inconsistency = true → e.is_major_inconsistency = true := by
  revert e; exact forall_events (by decide +kernel)

theorem major_elongation_is_major (e : MatchEventSubtype) :
    e.is_major_elongation = true → (e.is_major_inconsistency = true ∧ e.is_intronic_inconsistency = false) := by
  revert e; exact forall_events (by decide +kernel)

theorem minor_elongation_is_minor (e : MatchEventSubtype) :
    e.is_minor_elongation = true → e.is_minor_error = true := by
  revert e; exact forall_events (by decide +kernel)

/-- the three families of assignment types are pairwise disjoint, and `consistent` is exactly
    {unique, unique_minor_difference, ambiguous} -/
theorem type_families (t : ReadAssignmentType) :
    ¬ (t.is_consistent = true ∧ t.is_inconsistent = true) ∧
    ¬ (t.is_consistent = true ∧ t.is_unassigned = true) ∧
    ¬ (t.is_inconsistent = true ∧ t.is_unassigned = true) ∧
    (t.is_consistent = true ↔ (t = .unique ∨ t = .unique_minor_difference ∨ t = .ambiguous)) := by
  cases t <;> decide

/-- the only events outside the three classes are the bookkeeping ones -/
theorem unclassified_events (e : MatchEventSubtype) :
    (e.is_consistent = false ∧ e.is_minor_error = false ∧ e.is_major_inconsistency = false) ↔
      (e = .undefined ∨ e = .antisense ∨ e = .aligned_polya_tail) := by
  revert e; exact forall_events (by decide +kernel)

/-- `classify_assignment` asks three questions in this order — are all events consistent, is some event a major inconsistency,
    is some event a minor error — and the answers fix the type (up to the ambiguity flag, and up to which inconsistent type) -/
theorem classifyEvents_cases (amb : Bool) (tys : List MatchEventSubtype) :
    ((∀ e ∈ tys, e.is_consistent = true) ∧ classifyEvents amb tys = (bif amb then .ambiguous else .unique)) ∨
    ((¬ ∀ e ∈ tys, e.is_consistent = true) ∧
      (((∃ e ∈ tys, e.is_major_inconsistency = true) ∧ (classifyEvents amb tys).is_inconsistent = true) ∨
       ((∀ e ∈ tys, e.is_major_inconsistency = false) ∧
        (((∃ e ∈ tys, e.is_minor_error = true) ∧
            classifyEvents amb tys = (bif amb then .ambiguous else .unique_minor_difference)) ∨
         ((∀ e ∈ tys, e.is_minor_error = false) ∧ classifyEvents amb tys = .noninformative))))) := by
  unfold classifyEvents
  by_cases hc : ∀ e ∈ tys, e.is_consistent = true
  · exact .inl ⟨hc, by rw [if_pos (List.all_eq_true.mpr hc)]; cases amb <;> rfl⟩
  · rw [if_neg (fun h => hc (List.all_eq_true.mp h))]
    refine .inr ⟨hc, ?_⟩
    by_cases hM : ∃ e ∈ tys, e.is_major_inconsistency = true
    · rw [if_pos (List.any_eq_true.mpr hM)]
      exact .inl ⟨hM, by cases amb <;> cases tys.any (fun e => e.is_intronic_inconsistency) <;> rfl⟩
    · rw [if_neg (fun h => hM (List.any_eq_true.mp h))]
      refine .inr ⟨fun e he => Bool.eq_false_iff.mpr fun h => hM ⟨e, he, h⟩, ?_⟩
      by_cases hm : ∃ e ∈ tys, e.is_minor_error = true
      · exact .inl ⟨hm, by rw [if_pos (List.any_eq_true.mpr hm)]; cases amb <;> rfl⟩
      · rw [if_neg (fun h => hm (List.any_eq_true.mp h))]
        exact .inr ⟨fun e he => Bool.eq_false_iff.mpr fun h => hm ⟨e, he, h⟩, rfl⟩

/-- the type is in the inconsistent family iff some event is a major inconsistency -/
theorem classify_sound (amb : Bool) (tys : List MatchEventSubtype) :
    (classifyEvents amb tys).is_inconsistent = true ↔ ∃ e ∈ tys, e.is_major_inconsistency = true := by
  rcases classifyEvents_cases amb tys with ⟨hc, hv⟩ | ⟨_, ⟨hM, hv⟩ | ⟨hM, ⟨_, hv⟩ | ⟨_, hv⟩⟩⟩
  · rw [hv]
    refine ⟨?_, fun ⟨e, he, hm⟩ => absurd ⟨hc e he, hm⟩ (consistent_not_major e)⟩
    cases amb <;> intro h <;> cases h
  · exact ⟨fun _ => hM, fun _ => hv⟩
  all_goals
    rw [hv]
    refine ⟨?_, fun ⟨e, he, hm⟩ => by rw [hM e he] at hm; cases hm⟩
    cases amb <;> intro h <;> cases h

/-- the type is consistent (unique / unique_minor_difference / ambiguous) iff no event is a major inconsistency and
    either all events are consistent or some event is a minor error -/
theorem classify_consistent_iff (amb : Bool) (tys : List MatchEventSubtype) :
    (classifyEvents amb tys).is_consistent = true ↔
      ((∀ e ∈ tys, e.is_major_inconsistency = false) ∧
       ((∀ e ∈ tys, e.is_consistent = true) ∨ ∃ e ∈ tys, e.is_minor_error = true)) := by
  rcases classifyEvents_cases amb tys with ⟨hc, hv⟩ | ⟨hc, ⟨⟨e, he, hm⟩, hv⟩ | ⟨hM, ⟨hm, hv⟩ | ⟨hm, hv⟩⟩⟩
  · rw [hv]
    refine ⟨fun _ => ⟨fun e he => Bool.eq_false_iff.mpr fun h => consistent_not_major e ⟨hc e he, h⟩, .inl hc⟩, fun _ => ?_⟩
    cases amb <;> rfl
  · exact ⟨fun h => absurd ⟨h, hv⟩ (type_families _).1, fun ⟨h1, _⟩ => by rw [h1 e he] at hm; cases hm⟩
  · rw [hv]
    refine ⟨fun _ => ⟨hM, .inr hm⟩, fun _ => ?_⟩
    cases amb <;> rfl
  · rw [hv]
    exact ⟨nofun, fun ⟨_, h2⟩ => h2.elim (fun h => absurd h hc) fun ⟨e, he, h⟩ => by rw [hm e he] at h; cases h⟩

/-- `noninformative` is returned only for event sets that contain an unclassified (bookkeeping) event and nothing
    that is a major inconsistency or a minor error -/
theorem classify_noninformative_iff (amb : Bool) (tys : List MatchEventSubtype) :
    classifyEvents amb tys = .noninformative ↔
      ((∃ e ∈ tys, e.is_consistent = false) ∧ (∀ e ∈ tys, e.is_major_inconsistency = false) ∧
       (∀ e ∈ tys, e.is_minor_error = false)) := by
  rcases classifyEvents_cases amb tys with ⟨hc, hv⟩ | ⟨hc, ⟨⟨e, he, hm⟩, hv⟩ | ⟨hM, ⟨⟨e, he, hm⟩, hv⟩ | ⟨hm, hv⟩⟩⟩
  · rw [hv]
    refine ⟨?_, fun ⟨⟨e, he, h⟩, _⟩ => by rw [hc e he] at h; cases h⟩
    cases amb <;> intro h <;> cases h
  · exact ⟨fun h => (by rw [h] at hv; cases hv), fun ⟨_, h1, _⟩ => by rw [h1 e he] at hm; cases hm⟩
  · rw [hv]
    refine ⟨?_, fun ⟨_, _, h1⟩ => by rw [h1 e he] at hm; cases hm⟩
    cases amb <;> intro h <;> cases h
  · refine ⟨fun _ => ⟨Classical.byContradiction fun hne => hc fun e he => ?_, hM, hm⟩, fun _ => hv⟩
    cases h : e.is_consistent
    · exact absurd ⟨e, he, h⟩ hne
    · rfl

/-- the ambiguity flag decides between the unique and the ambiguous member of each family -/
theorem classify_ambiguity (amb : Bool) (tys : List MatchEventSubtype) :
    (amb = true → (classifyEvents amb tys = .ambiguous ∨ classifyEvents amb tys = .inconsistent_ambiguous ∨
                    classifyEvents amb tys = .noninformative)) ∧
    (amb = false → (classifyEvents amb tys = .unique ∨ classifyEvents amb tys = .unique_minor_difference ∨
                     classifyEvents amb tys = .inconsistent ∨ classifyEvents amb tys = .inconsistent_non_intronic ∨
                     classifyEvents amb tys = .noninformative)) := by
  unfold classifyEvents
  cases amb
  · refine ⟨fun h => absurd h (by decide), fun _ => ?_⟩
    simp only [Bool.false_eq_true, ↓reduceIte]
    (repeat' split) <;> simp
  · refine ⟨fun _ => ?_, fun h => absurd h (by decide)⟩
    simp only [↓reduceIte]
    (repeat' split) <;> simp

/-- `unique` exactly when the read is not ambiguous and every event is a consistent one -/
theorem classify_unique_iff (amb : Bool) (tys : List MatchEventSubtype) :
    classifyEvents amb tys = .unique ↔ (amb = false ∧ ∀ e ∈ tys, e.is_consistent = true) := by
  rcases classifyEvents_cases amb tys with ⟨hc, hv⟩ | ⟨hc, ⟨_, hv⟩ | ⟨_, ⟨_, hv⟩ | ⟨_, hv⟩⟩⟩
  · rw [hv]
    cases amb
    · exact ⟨fun _ => ⟨rfl, hc⟩, fun _ => rfl⟩
    · exact ⟨nofun, fun h => Bool.noConfusion h.1⟩
  · exact ⟨fun h => (by rw [h] at hv; cases hv), fun h => absurd h.2 hc⟩
  all_goals
    rw [hv]
    refine ⟨?_, fun h => absurd h.2 hc⟩
    cases amb <;> intro h <;> cases h

/-- an event set made of classified events only is never `noninformative` -/
theorem classify_known (amb : Bool) (tys : List MatchEventSubtype)
    (h : ∀ e ∈ tys, e.is_consistent = true ∨ e.is_minor_error = true ∨ e.is_major_inconsistency = true) :
    (classifyEvents amb tys).is_consistent = true ∨ (classifyEvents amb tys).is_inconsistent = true := by
  by_cases hM : ∃ e ∈ tys, e.is_major_inconsistency = true
  · exact Or.inr ((classify_sound amb tys).mpr hM)
  · left
    apply (classify_consistent_iff amb tys).mpr
    have hnoM : ∀ e ∈ tys, e.is_major_inconsistency = false := by
      intro e he
      cases hm : e.is_major_inconsistency
      · rfl
      · exact absurd ⟨e, he, hm⟩ hM
    refine ⟨hnoM, ?_⟩
    by_cases hm : ∃ e ∈ tys, e.is_minor_error = true
    · exact Or.inr hm
    · left
      intro e he
      rcases h e he with h1 | h2 | h3
      · exact h1
      · exact absurd ⟨e, he, h2⟩ hm
      · rw [hnoM e he] at h3; cases h3

-- non-vacuity: each family is reached by a concrete event set
example : classifyEvents false [.fsm, .terminal_site_match_left] = .unique ∧
    classifyEvents true [.fsm, .ism_left] = .ambiguous ∧
    classifyEvents false [.fsm, .exon_elongation_left] = .unique_minor_difference ∧
    classifyEvents false [.fsm, .exon_skipping_known] = .inconsistent ∧
    classifyEvents false [.fsm, .major_exon_elongation_right] = .inconsistent_non_intronic ∧
    classifyEvents true [.intron_retention, .intron_shift] = .inconsistent_ambiguous ∧
    classifyEvents false [.antisense] = .noninformative := by decide

/-- every matching preset has a non-negative tolerance, and `exact` means δ = 0 -/
theorem presets_delta_nonneg : ∀ q ∈ matching_presets, 0 ≤ q.2.delta := by decide

theorem preset_exact_delta : (matching_presets.lookup "exact").map (·.delta) = some 0 := by decide

end IsoVerif.Props.C01
