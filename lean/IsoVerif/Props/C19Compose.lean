/-
C19, composition of interface hypotheses.

`bin_search_spec` / `bin_search_rev_spec` (Props/C19Lists.lean) assume about the searched list: non-empty, intervals
well formed, starts strictly increasing (forward search) / ends strictly increasing (mirror search).  The ONLY caller of
`interval_bin_search(_rev)` is `NonOverlappingFeaturesProfileConstructor.construct_profile`, which searches
`self.known_exons` = `gene_info.split_exon_profiles.features` = `GeneInfo.split_exons(exons)`
(src/long_read_profiles.py:227,232).  `split_exons_spec` (Props/C19Split.lean) proves that list sorted, pairwise
disjoint and well formed; this file derives the hypotheses of the searches from that:

* `sd_starts_strictInc`, `sd_ends_strictInc`: `SD ∧ WFl` ⇒ both `StrictInc` hypotheses (any list);
* `split_exons_searchable`: what `split_exons` returns satisfies every hypothesis of the two searches, and is non-empty
  when the exon list is;
* `bin_search_on_split_exons`, `bin_search_rev_on_split_exons`: the two search theorems with their list hypotheses
  discharged for the caller's argument;
* `bin_search_on_split_exons_total`: on the split exons of a non-empty exon list the forward search never raises and never
  runs out of fuel: for EVERY position it returns an index; `bin_search_rev_on_split_exons_total`: the same for the mirror
  search.  Both instantiate `bin_search_total` / `bin_search_rev_total` (Lemmas/Lists, Lemmas/BinSearchRev), which give the index
  as a count; `exists_start_gap`, `exists_end_gap`: `exists_gap` at the two keys;
* `bin_search_empty`, `bin_search_rev_empty`: on `[]` both searches raise (`ordered_intervals[-1]`, IndexError); since
  /repo 3799710 the caller tests `self.known_exons` first (Props/C19Callers.lean, `nonoverlapping_guarded_empty`);
* `sorted_overlapping_not_searchable`: a list that is merely sorted by start (what `exon_profiles.features` is) does NOT
  satisfy the hypotheses — the composition really uses `split_exons`.
Run-time side: harness/mon_wrap.py `binsearch` checks the same four hypotheses on every real call in the pipeline runs
of the C19 oracle.
-/
import IsoVerif.Props.C19Lists
import IsoVerif.Props.C19Split

namespace IsoVerif.Props.C19Compose
open IsoVerif.Gen IsoVerif.Model IsoVerif.Lemmas IsoVerif.Props.C19Lists IsoVerif.Props.C19Split

/-- **sd_starts_strictInc**: sorted, pairwise disjoint, well-formed ⇒ starts strictly increasing -/
theorem sd_starts_strictInc (l : List Iv) (h : SD l) (w : WFl l) : StrictInc (l.map (·.1)) := h.strictInc_starts w

/-- **sd_ends_strictInc**: sorted, pairwise disjoint, well-formed ⇒ ends (+1, the form `bin_search_rev_spec` uses)
    strictly increasing -/
theorem sd_ends_strictInc (l : List Iv) (h : SD l) (w : WFl l) : StrictInc (l.map (fun r => r.2 + 1)) :=
  h.strictInc_ends w

example : SD [(1, 5), (6, 6), (10, 12)] ∧ WFl [(1, 5), (6, 6), (10, 12)] ∧
    StrictInc ([(1, 5), (6, 6), (10, 12)].map (·.1)) ∧ StrictInc ([(1, 5), (6, 6), (10, 12)].map (fun r => r.2 + 1)) := by
  refine ⟨by decide, by decide, by simp [StrictInc], by simp [StrictInc]⟩

/-- **split_exons_searchable**: the list `GeneInfo.split_exons` returns — the only argument the pipeline passes to
    the two binary searches — satisfies all their list hypotheses; it is non-empty when the exon list is -/
theorem split_exons_searchable (exons : List Iv) (w : WFl exons) (hpos : ∀ e ∈ exons, 0 ≤ e.1) :
    ∃ blocks, splitExons exons = some blocks ∧ WFl blocks ∧
      StrictInc (blocks.map (·.1)) ∧ StrictInc (blocks.map (fun r => r.2 + 1)) ∧ (exons ≠ [] → blocks ≠ []) := by
  obtain ⟨blocks, hb, hsd, hw, hcov, _, _⟩ := split_exons_spec exons w hpos
  refine ⟨blocks, hb, hw, sd_starts_strictInc blocks hsd hw, sd_ends_strictInc blocks hsd hw, ?_⟩
  intro hne hnil
  cases exons with
  | nil => exact hne rfl
  | cons e t =>
    have hc : cov (e :: t) e.1 := ⟨e, by simp, Int.le_refl _, w e (by simp)⟩
    obtain ⟨r, hr, _⟩ := (hcov e.1).mpr hc
    rw [hnil] at hr; cases hr

-- non-vacuity: overlapping annotated exons (two isoforms sharing a 3' part) are split into searchable atoms
example : splitExons [(100, 200), (150, 300), (400, 500)] = some [(100, 149), (150, 200), (201, 300), (400, 500)] := by
  decide +kernel

/-- **bin_search_on_split_exons**: `bin_search_spec` for what the caller passes: no hypothesis on the searched list
    is left, only the exon list's own well-formedness (GTF coordinates) -/
theorem bin_search_on_split_exons (exons blocks : List Iv) (w : WFl exons) (hpos : ∀ e ∈ exons, 0 ≤ e.1)
    (hb : splitExons exons = some blocks) (pos : Int)
    (f tl : Iv) (hf : blocks.head? = some f) (ht : blocks.getLast? = some tl)
    (t : Nat) (a b : Iv) (hta : blocks[t]? = some a) (htb : blocks[t + 1]? = some b)
    (hpa : a.1 ≤ pos) (hpb : pos < b.1) (hin : pos ≤ tl.2) :
    intervalBinSearch blocks pos = some (t : Int) := by
  obtain ⟨bl, hbl, hw, hs, _, _⟩ := split_exons_searchable exons w hpos
  rw [hb] at hbl; cases hbl
  exact bin_search_spec blocks pos hs hw f tl hf ht t a b hta htb hpa hpb hin

/-- **bin_search_rev_on_split_exons**: the mirror search, likewise -/
theorem bin_search_rev_on_split_exons (exons blocks : List Iv) (w : WFl exons) (hpos : ∀ e ∈ exons, 0 ≤ e.1)
    (hb : splitExons exons = some blocks) (pos : Int)
    (f tl : Iv) (hf : blocks.head? = some f) (ht : blocks.getLast? = some tl)
    (t : Nat) (a b : Iv) (hta : blocks[t]? = some a) (htb : blocks[t + 1]? = some b)
    (hpa : a.2 < pos) (hpb : pos ≤ b.2) (hin : f.1 ≤ pos) :
    intervalBinSearchRev blocks pos = some ((t : Int) + 1) := by
  obtain ⟨bl, hbl, _, _, he, _⟩ := split_exons_searchable exons w hpos
  rw [hb] at hbl; cases hbl
  exact bin_search_rev_spec blocks pos he f tl hf ht t a b hta htb hpa hpb hin

-- non-vacuity: the polyA position 250 (+ delta) of a read is looked up in the split exons of the example above
example : intervalBinSearch [(100, 149), (150, 200), (201, 300), (400, 500)] 250 = some 2 ∧
    intervalBinSearchRev [(100, 149), (150, 200), (201, 300), (400, 500)] 350 = some 3 := by decide

theorem exists_start_gap : ∀ (l : List Iv) (f tl : Iv), l.head? = some f → l.getLast? = some tl →
    ∀ pos, f.1 ≤ pos → pos < tl.1 → ∃ (t : Nat) (a b : Iv), l[t]? = some a ∧ l[t + 1]? = some b ∧ a.1 ≤ pos ∧ pos < b.1 :=
  exists_gap (·.1)

/-- **bin_search_on_split_exons_total**: on the split exons of a non-empty, well-formed exon list the forward search
    returns an index for every position — it never raises (`IndexError` on `[]`), never wraps a negative index and
    never runs out of fuel -/
theorem bin_search_on_split_exons_total (exons : List Iv) (hne : exons ≠ []) (w : WFl exons) (hpos : ∀ e ∈ exons, 0 ≤ e.1)
    (pos : Int) : ∃ blocks i, splitExons exons = some blocks ∧ intervalBinSearch blocks pos = some i := by
  obtain ⟨blocks, hb, hsd, hw, hcov, -⟩ := split_exons_spec exons w hpos
  obtain ⟨hnil, -⟩ | ⟨f, tl, hf, ht, -⟩ := head?_getLast?_cases blocks
  · obtain ⟨bl, hbl, -, -, -, hnb⟩ := split_exons_searchable exons w hpos
    cases hb.symm.trans hbl
    exact absurd hnil (hnb hne)
  exact ⟨blocks, _, hb, bin_search_total blocks pos hsd hw f tl hf ht⟩

example : ([(100, 200), (150, 300), (400, 500)] : List Iv) ≠ [] ∧ WFl [(100, 200), (150, 300), (400, 500)] ∧
    (∀ e ∈ ([(100, 200), (150, 300), (400, 500)] : List Iv), 0 ≤ e.1) := by
  refine ⟨by decide, by decide, by decide⟩

/-- **bin_search_empty**: on the empty list the code raises `IndexError` (`ordered_intervals[-1]`); the model says
    `none`.  The only caller does not search an empty list (/repo 3799710: `… and self.known_exons`) -/
theorem bin_search_empty (pos : Int) : intervalBinSearch [] pos = none := rfl

theorem bin_search_rev_empty (pos : Int) : intervalBinSearchRev [] pos = none := rfl

/-- **sorted_overlapping_not_searchable** (witness): a list sorted by start whose exons overlap — what
    `exon_profiles.features` looks like — has neither strictly increasing starts nor strictly increasing ends: had the
    caller passed it instead of the split exons, `bin_search_spec` would not apply -/
theorem sorted_overlapping_not_searchable :
    ¬ StrictInc ([(100, 300), (100, 200), (150, 250)].map (·.1)) ∧
    ¬ StrictInc ([(100, 300), (100, 200), (150, 250)].map (fun r => r.2 + 1)) := by simp [StrictInc]

/-- `exists_gap` for the keys `end + 1` -/
theorem exists_end_gap : ∀ (l : List Iv) (f tl : Iv), l.head? = some f → l.getLast? = some tl →
    ∀ pos, f.2 < pos → pos ≤ tl.2 → ∃ (t : Nat) (a b : Iv), l[t]? = some a ∧ l[t + 1]? = some b ∧ a.2 < pos ∧ pos ≤ b.2 := by
  intro l f tl hf ht pos h1 h2
  obtain ⟨t, a, b, ha, hb, h3, h4⟩ := exists_gap (fun r => r.2 + 1) l f tl hf ht pos (by omega) (by omega)
  exact ⟨t, a, b, ha, hb, by omega, by omega⟩

/-- **bin_search_rev_on_split_exons_total**: the mirror search on the split exons of a non-empty, well-formed exon list
    returns an index for EVERY position as well — it never raises, its `l[ind-1]` never leaves the list unnoticed and the
    halving loop never runs out of fuel -/
theorem bin_search_rev_on_split_exons_total (exons : List Iv) (hne : exons ≠ []) (w : WFl exons)
    (hpos : ∀ e ∈ exons, 0 ≤ e.1) (pos : Int) :
    ∃ blocks i, splitExons exons = some blocks ∧ intervalBinSearchRev blocks pos = some i := by
  obtain ⟨blocks, hb, hsd, hw, hcov, -⟩ := split_exons_spec exons w hpos
  obtain ⟨hnil, -⟩ | ⟨f, tl, hf, ht, -⟩ := head?_getLast?_cases blocks
  · obtain ⟨bl, hbl, -, -, -, hnb⟩ := split_exons_searchable exons w hpos
    cases hb.symm.trans hbl
    exact absurd hnil (hnb hne)
  exact ⟨blocks, _, hb, bin_search_rev_total blocks pos hsd hw f tl hf ht⟩

-- the value at a position inside an intron of the split exons (350 lies between the ends 300 and 500)
example : ∃ blocks, splitExons [(100, 200), (150, 300), (400, 500)] = some blocks ∧
    intervalBinSearchRev blocks 350 = some 3 :=
  ⟨[(100, 149), (150, 200), (201, 300), (400, 500)], by decide +kernel, by decide⟩

end IsoVerif.Props.C19Compose
