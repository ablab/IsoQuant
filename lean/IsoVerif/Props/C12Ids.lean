/-
C12 — "the same annotation … gives identical outputs": a GTF whose transcript records are typed `mRNA` is the same annotation
as the one typed `transcript` (the input check counts both as transcript records, GeneInfo reads both).  With the gffutils
default key specification only `transcript` records are keyed by transcript_id, so the mRNA spelling lost every isoform under
`--complete_genedb`.
-/
import IsoVerif.Model.GtfIds
import IsoVerif.Lemmas.GtfIds

namespace IsoVerif.Props.C12Ids
open IsoVerif.Gen IsoVerif.Model.C12Ids IsoVerif.Lemmas.C12Ids

/-- **transcript_types_agree** (over the tables GENERATED from /repo, closed by `decide`): the input check (GTF and GFF3
    branch) and GeneInfo name the same record types as transcript records, and the key specification handed to gffutils keys
    every one of them by `transcript_id` (and `gene` by `gene_id`).  An edit of any of the three places re-opens this. -/
theorem transcript_types_agree :
    (∀ t ∈ CHECK_TRANSCRIPT_TYPES, t ∈ GENEINFO_TRANSCRIPT_TYPES) ∧ (∀ t ∈ GENEINFO_TRANSCRIPT_TYPES, t ∈ CHECK_TRANSCRIPT_TYPES) ∧
    (∀ t ∈ CHECK_GFF3_TRANSCRIPT_TYPES, t ∈ GENEINFO_TRANSCRIPT_TYPES) ∧ (∀ t ∈ GENEINFO_TRANSCRIPT_TYPES, t ∈ CHECK_GFF3_TRANSCRIPT_TYPES) ∧
    (∀ t ∈ GENEINFO_TRANSCRIPT_TYPES, (effectiveSpec DB_ID_SPEC).lookup t = some "transcript_id") ∧
    (effectiveSpec DB_ID_SPEC).lookup "gene" = some "gene_id" := by
  decide +kernel

/-- **keyed_record_id** (∀ specifications, ∀ files): a record whose type the specification keys by `transcript_id` and which
    carries the attribute gets that value as its id — wherever it stands in the file, whatever else is auto-numbered — and its
    exon children are exactly the exon records with that transcript_id. -/
theorem keyed_record_id (spec : List (String × String)) (recs : List GRec) (cnt : String → Nat) (p : FId × GRec)
    (hp : p ∈ assignIdsFrom spec cnt recs) (t : String) (hk : spec.lookup p.2.ftype = some "transcript_id") (ht : p.2.tid = some t) :
    p.1 = .named t ∧
    exonsOf recs p.1 = (recs.filter (fun r => r.ftype == "exon" && r.tid == some t)).map (·.span) := by
  have hid : p.1 = .named t := by
    induction recs generalizing cnt with
    | nil => simp [assignIdsFrom] at hp
    | cons r rs ih =>
      unfold assignIdsFrom at hp
      have hkey : p.2 = r → keyOf spec r = some t := by
        rintro rfl
        rw [keyOf_transcript_id hk, ht]
      cases hkr : keyOf spec r with
      | some v =>
        simp only [hkr, List.mem_cons] at hp
        rcases hp with heq | hp
        · subst heq
          have := hkey rfl
          rw [hkr] at this
          cases this
          rfl
        · exact ih cnt hp
      | none =>
        simp only [hkr, List.mem_cons] at hp
        rcases hp with heq | hp
        · subst heq
          have := hkey rfl
          rw [hkr] at this
          cases this
        · exact ih _ hp
  exact ⟨hid, by rw [hid]; rfl⟩

-- non-vacuity: an mRNA record after an auto-numbered CDS record, keyed by the generated specification
example : ((.named "T1", ⟨"mRNA", "G1", some "T1", (1000, 2300)⟩) : FId × GRec) ∈
      assignIdsFrom (effectiveSpec DB_ID_SPEC) (fun _ => 0)
        [⟨"CDS", "G1", some "T0", (5, 9)⟩, ⟨"mRNA", "G1", some "T1", (1000, 2300)⟩] ∧
    (effectiveSpec DB_ID_SPEC).lookup "mRNA" = some "transcript_id" := by decide +kernel

/-- what `retype` does to one record (`retype t f recs = recs.map (rt t f)` by `rfl`): a record of a transcript type gets
    the type `f` names, every other record stays -/
def rt (txTypes : List String) (f : GRec → String) (r : GRec) : GRec :=
  if txTypes.contains r.ftype then { r with ftype := f r } else r

/-- re-typing keyed records does not move any id: the counters of the auto-numbered types are untouched -/
theorem assignIdsFrom_retype (spec : List (String × String)) (txTypes : List String) (f : GRec → String)
    (hkeyed : ∀ t ∈ txTypes, spec.lookup t = some "transcript_id")
    (hf : ∀ r, f r ∈ txTypes) (recs : List GRec)
    (htid : ∀ r ∈ recs, txTypes.contains r.ftype = true → r.tid.isSome = true) :
    ∀ cnt, assignIdsFrom spec cnt (retype txTypes f recs) =
      (assignIdsFrom spec cnt recs).map (fun p => (p.1, rt txTypes f p.2)) := by
  induction recs with
  | nil => intro cnt; rfl
  | cons r rs ih =>
    intro cnt
    have ih' := ih (fun x hx => htid x (List.mem_cons_of_mem _ hx))
    unfold retype at ih' ⊢
    simp only [List.map_cons]
    by_cases hc : txTypes.contains r.ftype = true
    · obtain ⟨t, ht⟩ := Option.isSome_iff_exists.mp (htid r (List.mem_cons_self ..) hc)
      have hmem : r.ftype ∈ txTypes := by simpa using hc
      have k1 : keyOf spec r = some t := by rw [keyOf_transcript_id (hkeyed _ hmem), ht]
      have k2 : keyOf spec { r with ftype := f r } = some t := by
        rw [keyOf_transcript_id (hkeyed _ (hf r))]; exact ht
      simp only [hc, if_true]
      unfold assignIdsFrom
      simp only [k1, k2, List.map_cons, ih' cnt, rt, hc, if_true]
    · simp only [hc, Bool.false_eq_true, if_false]
      unfold assignIdsFrom
      cases hk : keyOf spec r with
      | some v => simp only [List.map_cons, ih' cnt, rt, hc, Bool.false_eq_true, if_false]
      | none => simp only [List.map_cons, ih' _, rt, hc, Bool.false_eq_true, if_false]

/-- **retype_invariant** (∀ key specifications that key every transcript type by transcript_id, ∀ files whose transcript
    records carry a transcript_id, ∀ re-typings among the transcript types): the database of the re-typed file has the same
    ids in the same order, and GeneInfo reads the same isoforms — ids and exon coordinates — for every gene. -/
theorem retype_invariant (spec : List (String × String)) (txTypes : List String) (f : GRec → String)
    (hkeyed : ∀ t ∈ txTypes, (effectiveSpec spec).lookup t = some "transcript_id")
    (hexon : "exon" ∉ txTypes)
    (hf : ∀ r, f r ∈ txTypes) (recs : List GRec)
    (htid : ∀ r ∈ recs, txTypes.contains r.ftype = true → r.tid.isSome = true) (g : String) :
    (assignIds spec (retype txTypes f recs)).map (·.1) = (assignIds spec recs).map (·.1) ∧
    isoformsOf spec txTypes (retype txTypes f recs) g = isoformsOf spec txTypes recs g := by
  have hall := assignIdsFrom_retype (effectiveSpec spec) txTypes f hkeyed hf recs htid (fun _ => 0)
  have hids : (assignIds spec (retype txTypes f recs)).map (·.1) = (assignIds spec recs).map (·.1) := by
    unfold assignIds
    rw [hall, List.map_map]
    rfl
  refine ⟨hids, ?_⟩
  -- exon records are not re-typed, so `exonsOf` reads the same exon lines
  have hex : ∀ i, exonsOf (retype txTypes f recs) i = exonsOf recs i := by
    intro i
    cases i with
    | auto _ _ => rfl
    | named s =>
      simp only [exonsOf]
      unfold retype
      rw [List.filter_map, List.map_map]
      have hfun : ∀ r : GRec, ((fun r : GRec => r.ftype == "exon" && r.tid == some s) ∘
          (fun r => if txTypes.contains r.ftype then { r with ftype := f r } else r)) r =
          (r.ftype == "exon" && r.tid == some s) := by
        intro r
        simp only [Function.comp]
        by_cases hc : txTypes.contains r.ftype = true
        · have hmem : r.ftype ∈ txTypes := by simpa using hc
          have h1 : (r.ftype == "exon") = false := by
            simp only [beq_eq_false_iff_ne, ne_eq]; intro he; exact hexon (he ▸ hmem)
          have h2 : (f r == "exon") = false := by
            simp only [beq_eq_false_iff_ne, ne_eq]; intro he; exact hexon (he ▸ hf r)
          simp only [hc, if_true, h1, h2, Bool.false_and]
        · simp only [hc, Bool.false_eq_true, if_false]
      rw [List.filter_congr (fun r _ => hfun r)]
      apply List.map_congr_left
      intro r _
      simp only [Function.comp]
      split <;> rfl
  unfold isoformsOf assignIds
  rw [hall, List.filter_map, List.map_map]
  have hP : ∀ p : FId × GRec, ((fun p : FId × GRec => txTypes.contains p.2.ftype && p.2.gid == g) ∘
      (fun p => (p.1, rt txTypes f p.2))) p = (txTypes.contains p.2.ftype && p.2.gid == g) := by
    intro p
    simp only [Function.comp, rt]
    by_cases hc : txTypes.contains p.2.ftype = true
    · have : txTypes.contains (f p.2) = true := by simpa using hf p.2
      simp only [hc, if_true, this]
    · simp only [hc, Bool.false_eq_true, if_false]
  rw [List.filter_congr (fun p _ => hP p)]
  apply List.map_congr_left
  intro p _
  simp only [Function.comp, hex]

-- non-vacuity of `retype_invariant`: the generated specification and type list meet the hypotheses
example : (∀ t ∈ GENEINFO_TRANSCRIPT_TYPES, (effectiveSpec DB_ID_SPEC).lookup t = some "transcript_id") ∧
    "exon" ∉ GENEINFO_TRANSCRIPT_TYPES := by decide +kernel

/-- the probe annotation (gene G1, isoforms T1 / T2), transcript records typed `ty` -/
def probeFile (ty : String) : List GRec :=
  [⟨"gene", "G1", none, (1000, 2300)⟩,
   ⟨ty, "G1", some "T1", (1000, 2300)⟩,
   ⟨"exon", "G1", some "T1", (1000, 1200)⟩, ⟨"exon", "G1", some "T1", (1500, 1700)⟩, ⟨"exon", "G1", some "T1", (2000, 2300)⟩,
   ⟨ty, "G1", some "T2", (1000, 2300)⟩,
   ⟨"exon", "G1", some "T2", (1000, 1200)⟩, ⟨"exon", "G1", some "T2", (2000, 2300)⟩]

/-- **default_spec_mrna_witness**: with the gffutils default key specification (`DB_ID_SPEC = []`, the tree before the repair) the
    `mRNA` spelling of the probe annotation gives GeneInfo the isoforms `mRNA_1`, `mRNA_2` WITHOUT exons, the `transcript`
    spelling gives T1, T2 with their exons: the representations differ.  With the key specification of the repaired tree
    (generated) both spellings give T1, T2 with their exons. -/
theorem default_spec_mrna_witness :
    isoformsOf [] ["transcript", "mRNA"] (probeFile "mRNA") "G1" = [(.auto "mRNA" 1, []), (.auto "mRNA" 2, [])] ∧
    isoformsOf [] ["transcript", "mRNA"] (probeFile "transcript") "G1" =
      [(.named "T1", [(1000, 1200), (1500, 1700), (2000, 2300)]), (.named "T2", [(1000, 1200), (2000, 2300)])] ∧
    isoformsOf DB_ID_SPEC GENEINFO_TRANSCRIPT_TYPES (probeFile "mRNA") "G1" =
      isoformsOf DB_ID_SPEC GENEINFO_TRANSCRIPT_TYPES (probeFile "transcript") "G1" ∧
    isoformsOf DB_ID_SPEC GENEINFO_TRANSCRIPT_TYPES (probeFile "mRNA") "G1" =
      [(.named "T1", [(1000, 1200), (1500, 1700), (2000, 2300)]), (.named "T2", [(1000, 1200), (2000, 2300)])] := by
  refine ⟨by decide +kernel, by decide +kernel, by decide +kernel, by decide +kernel⟩

/-- **generated_spec_retype_invariant**: the clause for the tree as it is — with the key specification and the transcript
    type list GENERATED from /repo, every re-typing of the transcript records of any annotation (each carrying a
    transcript_id) among the transcript types leaves the isoforms GeneInfo reads — ids and exon coordinates — unchanged. -/
theorem generated_spec_retype_invariant (f : GRec → String) (hf : ∀ r, f r ∈ GENEINFO_TRANSCRIPT_TYPES) (recs : List GRec)
    (htid : ∀ r ∈ recs, GENEINFO_TRANSCRIPT_TYPES.contains r.ftype = true → r.tid.isSome = true) (g : String) :
    isoformsOf DB_ID_SPEC GENEINFO_TRANSCRIPT_TYPES (retype GENEINFO_TRANSCRIPT_TYPES f recs) g =
      isoformsOf DB_ID_SPEC GENEINFO_TRANSCRIPT_TYPES recs g :=
  (retype_invariant DB_ID_SPEC GENEINFO_TRANSCRIPT_TYPES f (by decide +kernel) (by decide +kernel) hf recs htid g).2

end IsoVerif.Props.C12Ids
