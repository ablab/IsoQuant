/-
C03 — reference transcripts the pipeline cannot digest or does not visit (`Model/GtfRef.lean`).

* exon-less reference transcripts: `set_introns_and_exons` skips them, `gene_id_map` keeps them; the unrepaired second loop of
  `TranscriptToGeneJoiner.__init__` (`joinerRefLoopOrig`) raises KeyError on them (`…_witness`, exact characterisation), the
  repaired loop (`joinerRefLoop`) is total, agrees with the unrepaired one wherever that one ran, and builds the declared tables.
* the task list is the FASTA's key set: full characterisation of the transcript records of `extended_annotation.gtf`
  (`extended_tx_line_iff`); the clause "extended_annotation.gtf consists of every reference transcript" at full strength
  (`ExtendedContainsEveryReferenceTranscript`) is FALSE (`…_witness`: annotated chromosome absent from the FASTA;
  `reference_on_wrong_chromosome_witness`: one gene_id on two chromosomes) and proved under the exact hypotheses that exclude
  the two classes (`…_partial`).
-/
import IsoVerif.Model.GtfRef
import IsoVerif.Props.C03Build
import IsoVerif.Lemmas.AssocList

namespace IsoVerif.Props.C03Ref
open IsoVerif.Gen IsoVerif.Model IsoVerif.Model.C03 IsoVerif.Lemmas IsoVerif.Lemmas.C03 IsoVerif.Props.C03Build

/-- **isoforms_are_transcripts_with_exons**: the entries of `all_isoforms_exons` are exactly the transcript records that have
    at least one exon record -/
theorem isoforms_are_transcripts_with_exons (a : ChrAnn) (r : RefTx) :
    r ∈ a.ctx.isoforms ↔ ∃ t ∈ a.txs, t.exons ≠ [] ∧ r = t.ref := by
  simp only [ChrAnn.ctx, isoformsOf, List.mem_map, List.mem_filter, Bool.not_eq_true', List.isEmpty_eq_false_iff]
  constructor
  · rintro ⟨t, ⟨ht, he⟩, rfl⟩; exact ⟨t, ht, he, rfl⟩
  · rintro ⟨t, ht, he, rfl⟩; exact ⟨t, ⟨ht, he⟩, rfl⟩

theorem isoforms_tids_nodup (txs : List DbTx) (hnd : (txs.map (·.tid)).Nodup) : ((isoformsOf txs).map (·.tid)).Nodup := by
  have : (isoformsOf txs).map (·.tid) = (txs.filter (fun t => !t.exons.isEmpty)).map (·.tid) := by
    simp [isoformsOf, DbTx.ref, List.map_map, Function.comp_def]
  rw [this]
  exact hnd.sublist ((List.filter_sublist).map _)

theorem find_tx (txs : List DbTx) (hnd : (txs.map (·.tid)).Nodup) (t : DbTx) (ht : t ∈ txs) :
    txs.find? (fun a => !a.exons.isEmpty && a.tid == t.tid) = if t.exons = [] then none else some t := by
  rw [find?_key (·.tid) (fun a => !a.exons.isEmpty) hnd ht]
  cases t.exons <;> rfl

theorem find_isoform (txs : List DbTx) (hnd : (txs.map (·.tid)).Nodup) (t : DbTx) (ht : t ∈ txs) :
    (isoformsOf txs).find? (fun r => r.tid == t.tid) = if t.exons = [] then none else some t.ref := by
  have h := find_tx txs hnd t ht
  unfold isoformsOf
  rw [List.find?_map, List.find?_filter]
  have hf : ∀ a : DbTx, decide ((!a.exons.isEmpty) = true ∧ ((fun r : RefTx => r.tid == t.tid) ∘ DbTx.ref) a = true) =
      (!a.exons.isEmpty && a.tid == t.tid) := by
    intro a; cases hx : a.exons <;> by_cases he : a.tid = t.tid <;> simp [DbTx.ref, he]
  simp only [hf, h]
  by_cases hx : t.exons = [] <;> simp [hx]

/-- **from_reference_exonless_keyerror**: `from_reference_transcript` raises KeyError for a transcript record without exon
    records, and returns the verbatim model for every other transcript (ids pairwise distinct: gffutils' primary keys) -/
theorem from_reference_exonless_keyerror (a : ChrAnn) (hnd : (a.txs.map (·.tid)).Nodup) (t : DbTx) (ht : t ∈ a.txs) :
    fromReference a.ctx t.tid = if t.exons = [] then none else some (refModel a.ctx t.ref) := by
  unfold fromReference
  have := find_isoform a.txs hnd t ht
  simp only [ChrAnn.ctx] at this ⊢
  rw [this]
  by_cases hx : t.exons = [] <;> simp [hx, refModel, DbTx.ref]

-- non-vacuity: one transcript with exons, one without
example : fromReference (ChrAnn.ctx { chr := 1, txs := [{ tid := 1, gid := 7, seqid := 1, strand := 0, exons := [(10, 20), (30, 40)] },
                                                      { tid := 2, gid := 7, seqid := 1, strand := 0, exons := [] }] }) 2 = none := by decide +kernel
example : (fromReference (ChrAnn.ctx { chr := 1, txs := [{ tid := 1, gid := 7, seqid := 1, strand := 0, exons := [(10, 20), (30, 40)] },
                                                       { tid := 2, gid := 7, seqid := 1, strand := 0, exons := [] }] }) 1).isSome = true := by decide +kernel

/-- **joiner_ref_loop_orig_none_iff**: the unrepaired loop raises KeyError iff some key of `gene_id_map` has no entry in
    `all_isoforms_introns` -/
theorem joiner_ref_loop_orig_none_iff (iso : List RefTx) (txs : List DbTx) (acc : RefTables) :
    joinerRefLoopOrig iso txs acc = none ↔ ∃ t ∈ txs, intronsOf? iso t.tid = none := by
  induction txs generalizing acc with
  | nil => simp [joinerRefLoopOrig]
  | cons t ts ih =>
    simp only [joinerRefLoopOrig, List.mem_cons, exists_eq_or_imp]
    cases h : intronsOf? iso t.tid with
    | none => simp
    | some l => simp [ih]

/-- **joiner_orig_aborts_iff_exonless**: on the GeneInfo of an annotation (ids pairwise distinct) the unrepaired constructor of
    the joiner aborts iff the annotation holds a transcript record without exon records -/
theorem joiner_orig_aborts_iff_exonless (a : ChrAnn) (hnd : (a.txs.map (·.tid)).Nodup) :
    a.joinerTablesOrig = none ↔ ∃ t ∈ a.txs, t.exons = [] := by
  unfold ChrAnn.joinerTablesOrig
  rw [joiner_ref_loop_orig_none_iff]
  refine exists_congr fun t => and_congr_right fun ht => ?_
  unfold intronsOf?
  rw [find_isoform a.txs hnd t ht]
  by_cases hx : t.exons = [] <;> simp [hx]

/-- **joiner_ref_loop_repair_conservative**: wherever the unrepaired loop ran to its end, the repaired loop builds the same tables -/
theorem joiner_ref_loop_repair_conservative (iso : List RefTx) (txs : List DbTx) (acc r : RefTables)
    (h : joinerRefLoopOrig iso txs acc = some r) : joinerRefLoop iso txs acc = r := by
  induction txs generalizing acc with
  | nil => simpa [joinerRefLoopOrig, joinerRefLoop] using h
  | cons t ts ih =>
    simp only [joinerRefLoopOrig] at h
    cases hl : intronsOf? iso t.tid with
    | none => simp [hl] at h
    | some l =>
      simp only [hl] at h
      simp only [joinerRefLoop, intronsOrEmpty, hl]
      exact ih _ h

/-- reading a `defaultdict(set)`: a missing key is the empty set -/
def getSet {α} (d : List (Id × List α)) (k : Id) : List α :=
  match d.lookup k with
  | none => []
  | some s => s

theorem mem_setIns {α} [DecidableEq α] (s : List α) (x y : α) : x ∈ setIns s y ↔ x ∈ s ∨ x = y := by
  unfold setIns
  split
  · next hy => exact ⟨Or.inl, fun h => h.elim id (· ▸ hy)⟩
  · simp

theorem mem_foldl_setIns {α} [DecidableEq α] (l s : List α) (x : α) : x ∈ l.foldl setIns s ↔ x ∈ s ∨ x ∈ l := by
  induction l generalizing s with
  | nil => simp
  | cons y ys ih => simp only [List.foldl_cons, ih, mem_setIns, List.mem_cons, or_assoc]

theorem lookup_map_val {β} (g : Id → β → β) (d : List (Id × β)) (k : Id) :
    (d.map (fun p => (p.1, g p.1 p.2))).lookup k = (d.lookup k).map (g k) := by
  induction d with
  | nil => rfl
  | cons p ps ih =>
    obtain ⟨a, b⟩ := p
    simp only [List.map_cons, List.lookup_cons, ih]
    cases h : k == a
    · rfl
    · rw [beq_iff_eq.mp h]; rfl

theorem lookup_map_update {β} (d : List (Id × β)) (k k' : Id) (f : β → β) :
    (d.map (fun p => if p.1 = k then (k, f p.2) else p)).lookup k' =
      if k' = k then (d.lookup k).map f else d.lookup k' := by
  have e : (fun p : Id × β => if p.1 = k then (k, f p.2) else p) =
      fun p => (p.1, (fun a b => if a = k then f b else b) p.1 p.2) := by
    funext ⟨a, b⟩
    by_cases h : a = k <;> simp [h]
  rw [e, lookup_map_val (fun a b => if a = k then f b else b)]
  by_cases hk : k' = k
  · subst hk; simp
  · cases d.lookup k' <;> simp [hk]

/-- `d[k].update(l)` -/
theorem getSet_ddUpdate {α : Type} [DecidableEq α] (d : List (Id × List α)) (k k' : Id) (l : List α) (x : α) :
    x ∈ getSet (ddUpdate d k l) k' ↔ x ∈ getSet d k' ∨ (k' = k ∧ x ∈ l) := by
  unfold ddUpdate getSet
  cases h : d.lookup k with
  | none =>
    simp only [lookup_append_single]
    by_cases hk : k' = k
    · subst hk; simp [h, mem_foldl_setIns]
    · cases d.lookup k' <;> simp [hk]
  | some s =>
    have := lookup_map_update d k k' (fun s => l.foldl setIns s)
    rw [this]
    by_cases hk : k' = k
    · subst hk; simp [h, mem_foldl_setIns]
    · simp [hk]

/-- **joiner_ref_loop_spec** (repaired loop, ∀ annotations, ∀ initial tables): afterwards the intron set of gene `g` is what it
    was plus the introns of every transcript of `g` THAT HAS AN ENTRY in `all_isoforms_introns`; the transcript set of `g` is
    what it was plus every transcript of `g` (with or without exons) -/
theorem joiner_ref_loop_spec (iso : List RefTx) (txs : List DbTx) (acc : RefTables) (g : Id) :
    (∀ x, x ∈ getSet (joinerRefLoop iso txs acc).introns g ↔
        x ∈ getSet acc.introns g ∨ ∃ t ∈ txs, t.gid = g ∧ ∃ l, intronsOf? iso t.tid = some l ∧ x ∈ l) ∧
    (∀ tid, tid ∈ getSet (joinerRefLoop iso txs acc).g2t g ↔
        tid ∈ getSet acc.g2t g ∨ ∃ t ∈ txs, t.gid = g ∧ t.tid = tid) := by
  induction txs generalizing acc with
  | nil => simp [joinerRefLoop]
  | cons t ts ih =>
    obtain ⟨h1, h2⟩ := ih (refStep acc t.gid t.tid (intronsOrEmpty iso t.tid))
    constructor
    · intro x
      simp only [joinerRefLoop]
      rw [h1 x]
      simp only [refStep, getSet_ddUpdate, List.mem_cons, exists_eq_or_imp]
      unfold intronsOrEmpty
      cases hl : intronsOf? iso t.tid with
      | none =>
        simp only [List.not_mem_nil, and_false, or_false, reduceCtorEq, false_and, exists_false, false_or]
      | some l => simp only [Option.some.injEq, exists_eq_left', or_assoc, eq_comm (a := g)]
    · intro tid
      simp only [joinerRefLoop]
      rw [h2 tid]
      simp only [refStep, getSet_ddUpdate, List.mem_cons, exists_eq_or_imp, List.not_mem_nil, or_false, or_assoc,
        eq_comm (a := g), eq_comm (a := tid)]

/-- **joiner_tables_spec**: the tables the repaired joiner starts from, for the GeneInfo of an annotation with pairwise distinct
    transcript ids: `gene_introns[g]` = the introns of the transcripts of `g` that have exon records (an exon-less transcript
    contributes nothing), `gene_to_transcripts[g]` = ALL transcript records of `g` -/
theorem joiner_tables_spec (a : ChrAnn) (hnd : (a.txs.map (·.tid)).Nodup) (g : Id) :
    (∀ x, x ∈ getSet a.joinerTables.introns g ↔ ∃ t ∈ a.txs, t.gid = g ∧ t.exons ≠ [] ∧ x ∈ junctionsFromBlocks t.exons) ∧
    (∀ tid, tid ∈ getSet a.joinerTables.g2t g ↔ ∃ t ∈ a.txs, t.gid = g ∧ t.tid = tid) := by
  obtain ⟨h1, h2⟩ := joiner_ref_loop_spec (isoformsOf a.txs) a.txs {} g
  constructor
  · intro x
    unfold ChrAnn.joinerTables
    rw [h1 x]
    simp only [getSet, List.lookup_nil, List.not_mem_nil, false_or]
    constructor
    · rintro ⟨t, ht, hg, l, hl, hx⟩
      unfold intronsOf? at hl
      rw [find_isoform a.txs hnd t ht] at hl
      by_cases he : t.exons = []
      · simp [he] at hl
      · simp only [he, if_false, Option.map_some, Option.some.injEq, DbTx.ref] at hl
        exact ⟨t, ht, hg, he, hl ▸ hx⟩
    · rintro ⟨t, ht, hg, he, hx⟩
      refine ⟨t, ht, hg, junctionsFromBlocks t.exons, ?_, hx⟩
      unfold intronsOf?
      rw [find_isoform a.txs hnd t ht]
      simp [he, DbTx.ref]
  · intro tid
    unfold ChrAnn.joinerTables
    rw [h2 tid]
    simp [getSet]

/-- the annotation of the pipeline witness (`gen/refsets.py: exonless`): gene 7 with two annotated isoforms and a transcript
    record without exon records -/
def exonlessAnn : ChrAnn :=
  { chr := 1, regions := [(7, (1000, 2300))],
    txs := [{ tid := 1, gid := 7, seqid := 1, strand := 0, exons := [(1000, 1200), (1500, 1700), (2000, 2300)] },
            { tid := 2, gid := 7, seqid := 1, strand := 0, exons := [(1000, 1200), (2000, 2300)] },
            { tid := 3, gid := 7, seqid := 1, strand := 0, exons := [] }] }

/-- **joiner_exonless_witness**: on that annotation the unrepaired constructor raises KeyError; the repaired one builds the tables
    of the two transcripts that have exons and lists all three under the gene -/
theorem joiner_exonless_witness :
    exonlessAnn.joinerTablesOrig = none ∧
    exonlessAnn.joinerTables = { introns := [(7, [(1201, 1499), (1701, 1999), (1201, 1999)])], g2t := [(7, [1, 2, 3])] } := by
  decide +kernel

-- non-vacuity of `joiner_ref_loop_repair_conservative`: without the exon-less record the unrepaired loop runs
example : joinerRefLoopOrig (isoformsOf (exonlessAnn.txs.take 2)) (exonlessAnn.txs.take 2) {} =
    some { introns := [(7, [(1201, 1499), (1701, 1999), (1201, 1999)])], g2t := [(7, [1, 2])] } := by decide +kernel

theorem mem_extendedRunAux (inp : RunInput) (l : List Id) (bs : List (Id × List Line)) (h : extendedRunAux inp l = some bs)
    (x : Line) : x ∈ bs.flatMap (·.2) ↔ ∃ c ∈ l, ∃ ls, extendedOfChr inp c = some ls ∧ x ∈ ls := by
  induction l generalizing bs with
  | nil =>
    simp only [extendedRunAux, Option.some.injEq] at h
    subst h; simp
  | cons c cs ih =>
    simp only [extendedRunAux] at h
    cases h1 : extendedOfChr inp c with
    | none => simp [h1] at h
    | some ls =>
      cases h2 : extendedRunAux inp cs with
      | none => simp [h1, h2] at h
      | some r =>
        simp only [h1, h2, Option.some.injEq] at h
        subst h
        simp only [List.flatMap_cons, List.mem_append, ih r h2, List.mem_cons, exists_eq_or_imp, h1, Option.some.injEq,
          exists_eq_left']

theorem extendedRunAux_isSome (inp : RunInput) : ∀ l : List Id,
    (extendedRunAux inp l).isSome ↔ ∀ c ∈ l, (extendedOfChr inp c).isSome
  | [] => by simp [extendedRunAux]
  | c :: cs => by
    simp only [extendedRunAux, List.forall_mem_cons, ← extendedRunAux_isSome inp cs]
    cases extendedOfChr inp c <;> cases extendedRunAux inp cs <;> simp

theorem storage_total (a : ChrAnn) (hnd : (a.txs.map (·.tid)).Nodup) (novel : List TModel) :
    createExtendedStorage a.ctx novel = some (a.ctx.isoforms.map (refModel a.ctx) ++ novel) :=
  createExtendedStorage_eq a.ctx novel (by simpa [ChrAnn.ctx] using isoforms_tids_nodup a.txs hnd)

theorem extendedOfChr_tx_line (inp : RunInput) (hnd : ∀ a ∈ inp.ann, (a.txs.map (·.tid)).Nodup) (c : Id) (ls : List Line)
    (h : extendedOfChr inp c = some ls) (c' : Id) (s e : Int) (st : Strand) (g t : Id) :
    Line.tx c' s e st g t ∈ ls ↔
      ((∃ a, inp.annOf c = some a ∧ ∃ x ∈ a.txs, x.exons ≠ [] ∧ validateExons x.exons = true ∧
          regionOf? (refModel a.ctx x.ref) = some (s, e) ∧ c' = c ∧ st = x.strand ∧ g = x.gid ∧ t = x.tid) ∨
       (∃ m ∈ inp.novelOf c, validM m = true ∧ regionOf? m = some (s, e) ∧ m.chr = c' ∧ m.strand = st ∧ m.gid = g ∧ m.tid = t)) := by
  unfold extendedOfChr at h
  cases ha : inp.annOf c with
  | none =>
    simp only [ha] at h
    cases hd : dump [] { chr := c } (inp.novelOf c) with
    | none => simp [hd] at h
    | some r =>
      obtain ⟨p, l1⟩ := r
      simp only [hd, Option.map_some, Option.some.injEq] at h
      subst h
      rw [dump_tx_line hd]
      simp
  | some a =>
    have hmem : a ∈ inp.ann := List.mem_of_find?_eq_some ha
    have hchr : a.chr = c := by simpa using List.find?_some ha
    simp only [ha, storage_total a (hnd a hmem)] at h
    cases hd : dump [] a.ctx (a.ctx.isoforms.map (refModel a.ctx) ++ inp.novelOf c) with
    | none => simp [hd] at h
    | some r =>
      obtain ⟨p, l1⟩ := r
      simp only [hd, Option.map_some, Option.some.injEq] at h
      subst h
      rw [dump_tx_line hd]
      constructor
      · rintro ⟨m, hm, hv, hreg, hc, hst, hg, ht⟩
        rcases List.mem_append.mp hm with hm | hm
        · obtain ⟨r, hr, hre⟩ := List.mem_map.mp hm
          obtain ⟨x, hx, hne, rfl⟩ := (isoforms_are_transcripts_with_exons a r).mp hr
          subst hre
          left
          refine ⟨a, rfl, x, hx, hne, hv, hreg, ?_, hst.symm, hg.symm, ht.symm⟩
          rw [← hc, ← hchr]; rfl
        · right
          exact ⟨m, hm, hv, hreg, hc, hst, hg, ht⟩
      · rintro (⟨a', ha', x, hx, hne, hv, hreg, hc, hst, hg, ht⟩ | ⟨m, hm, hv, hreg, hc, hst, hg, ht⟩)
        · simp only [Option.some.injEq] at ha'
          subst ha'
          refine ⟨refModel a.ctx x.ref, ?_, hv, hreg, ?_, hst.symm, hg.symm, ht.symm⟩
          · exact List.mem_append.mpr (Or.inl (List.mem_map_of_mem
              ((isoforms_are_transcripts_with_exons a x.ref).mpr ⟨x, hx, hne, rfl⟩)))
          · rw [hc, ← hchr]; rfl
        · exact ⟨m, List.mem_append.mpr (Or.inr hm), hv, hreg, hc, hst, hg, ht⟩

/-- **extended_tx_line_iff** (full characterisation, ∀ runs that do not abort): a transcript record is in
    `extended_annotation.gtf` iff its chromosome `c` is a KEY OF THE FASTA and it is either the verbatim record of a transcript
    of a gene annotated on `c` that has exon records and passes the gate — printed on `c`, the GENE's chromosome — or the
    record of a novel model of that task -/
theorem extended_tx_line_iff (inp : RunInput) (hnd : ∀ a ∈ inp.ann, (a.txs.map (·.tid)).Nodup) (out : List Line)
    (h : extendedLines inp = some out) (c' : Id) (s e : Int) (st : Strand) (g t : Id) :
    Line.tx c' s e st g t ∈ out ↔
      ∃ c ∈ inp.fastaKeys,
        ((∃ a, inp.annOf c = some a ∧ ∃ x ∈ a.txs, x.exons ≠ [] ∧ validateExons x.exons = true ∧
            regionOf? (refModel a.ctx x.ref) = some (s, e) ∧ c' = c ∧ st = x.strand ∧ g = x.gid ∧ t = x.tid) ∨
         (∃ m ∈ inp.novelOf c, validM m = true ∧ regionOf? m = some (s, e) ∧ m.chr = c' ∧ m.strand = st ∧ m.gid = g ∧ m.tid = t)) := by
  unfold extendedLines extendedRun at h
  cases hr : extendedRunAux inp inp.fastaKeys with
  | none => simp [hr] at h
  | some bs =>
    simp only [hr, Option.map_some, Option.some.injEq] at h
    subst h
    rw [mem_extendedRunAux inp inp.fastaKeys bs hr]
    constructor
    · rintro ⟨c, hc, ls, hls, hx⟩
      exact ⟨c, hc, (extendedOfChr_tx_line inp hnd c ls hls c' s e st g t).mp hx⟩
    · rintro ⟨c, hc, hx⟩
      obtain ⟨ls, hls⟩ := Option.isSome_iff_exists.mp ((extendedRunAux_isSome inp _).mp (by rw [hr]; rfl) c hc)
      exact ⟨c, hc, ls, hls, (extendedOfChr_tx_line inp hnd c ls hls c' s e st g t).mpr hx⟩

theorem dump_total (printed : List Id) (ctx : GeneCtx) (ms : List TModel)
    (h : ∀ m ∈ ms, m.chr = ctx.chr ∧ m.exons ≠ []) : ∃ r, dump printed ctx ms = some r :=
  Option.isSome_iff_exists.mp ((dump_isSome_iff printed ctx ms).mpr fun m hm _ => h m hm)

/-- **extended_run_total** (∀ annotations, with or without exon-less transcript records, ∀ FASTA key sets): the extended
    annotation of a run never aborts on the reference side — it can only abort on a novel model that is handed to the wrong
    chromosome's printer or has no exon (excluded by the hypothesis on the novel models; discharged for the constructors by
    `Props/C03Build`, `Props/C03Paths`) -/
theorem extended_run_total (inp : RunInput) (hnd : ∀ a ∈ inp.ann, (a.txs.map (·.tid)).Nodup)
    (hnov : ∀ c, ∀ m ∈ inp.novelOf c, m.chr = c ∧ m.exons ≠ []) : ∃ out, extendedLines inp = some out := by
  have htask : ∀ c, ∃ ls, extendedOfChr inp c = some ls := by
    intro c
    unfold extendedOfChr
    cases ha : inp.annOf c with
    | none =>
      obtain ⟨r, hr⟩ := dump_total [] { chr := c } (inp.novelOf c) (fun m hm => hnov c m hm)
      exact ⟨r.2, by simp [hr]⟩
    | some a =>
      have hmem : a ∈ inp.ann := List.mem_of_find?_eq_some ha
      have hchr : a.chr = c := by simpa using List.find?_some ha
      simp only [storage_total a (hnd a hmem)]
      have hall : ∀ m ∈ a.ctx.isoforms.map (refModel a.ctx) ++ inp.novelOf c, m.chr = a.ctx.chr ∧ m.exons ≠ [] := by
        intro m hm
        rcases List.mem_append.mp hm with hm | hm
        · obtain ⟨r, hr, rfl⟩ := List.mem_map.mp hm
          obtain ⟨t, _, hne, rfl⟩ := (isoforms_are_transcripts_with_exons a r).mp hr
          exact ⟨rfl, hne⟩
        · have := hnov c m hm
          exact ⟨by rw [this.1, ← hchr]; rfl, this.2⟩
      obtain ⟨r, hr⟩ := dump_total [] a.ctx _ hall
      exact ⟨r.2, by simp [hr]⟩
  obtain ⟨bs, hbs⟩ := Option.isSome_iff_exists.mp
    ((extendedRunAux_isSome inp inp.fastaKeys).mpr fun c _ => Option.isSome_iff_exists.mpr (htask c))
  exact ⟨bs.flatMap (·.2), by simp [extendedLines, extendedRun, hbs]⟩

/-- the clause of the statement, at full strength: EVERY reference transcript (that has exon records and passes the gate — a
    transcript without exons cannot be a record of a well-formed file) has its verbatim transcript record, on the chromosome
    it is annotated on, in `extended_annotation.gtf` -/
def ExtendedContainsEveryReferenceTranscript (inp : RunInput) (out : List Line) : Prop :=
  ∀ a ∈ inp.ann, ∀ x ∈ a.txs, x.exons ≠ [] → validateExons x.exons = true →
    ∃ s e, regionOf? (refModel a.ctx x.ref) = some (s, e) ∧ Line.tx x.seqid s e x.strand x.gid x.tid ∈ out

def txZ : DbTx := { tid := 2, gid := 8, seqid := 2, strand := 0, exons := [(300, 500), (700, 900)] }
def annZ : ChrAnn := { chr := 2, regions := [(8, (300, 900))], txs := [txZ] }
/-- run of the pipeline witness `ann_only_chrom`: the FASTA holds chromosome 1, the annotation has a gene on 1 and one on 2 -/
def annOnlyRun : RunInput :=
  { fastaKeys := [1],
    ann := [{ chr := 1, regions := [(7, (10, 40))], txs := [{ tid := 1, gid := 7, seqid := 1, strand := 0, exons := [(10, 20), (30, 40)] }] },
            annZ] }

/-- **extended_contains_every_reference_transcript_witness**: the run succeeds, the transcript annotated on the chromosome
    that is not a key of the FASTA has no record (the one on chromosome 1 has) -/
theorem extended_contains_every_reference_transcript_witness :
    ∃ out, extendedLines annOnlyRun = some out ∧ Line.tx 1 10 40 0 7 1 ∈ out ∧ Line.tx 2 300 900 0 8 2 ∉ out ∧
      ¬ ExtendedContainsEveryReferenceTranscript annOnlyRun out := by
  refine ⟨[Line.gene 1 10 40 0 7 1, Line.tx 1 10 40 0 7 1, Line.feat 1 0 10 20 0 7 1 1, Line.feat 1 0 30 40 0 7 1 2],
          by decide +kernel, by decide +kernel, by decide +kernel, ?_⟩
  intro hall
  obtain ⟨s, e, hreg, hin⟩ := hall annZ (by decide +kernel) txZ (by decide +kernel) (by decide +kernel) (by decide +kernel)
  have h2 : regionOf? (refModel annZ.ctx txZ.ref) = some (300, 900) := by decide +kernel
  rw [h2] at hreg
  have hse := Option.some.inj hreg
  simp only [Prod.mk.injEq] at hse
  obtain ⟨rfl, rfl⟩ := hse
  revert hin
  decide +kernel

/-- run of the pipeline witness `gene_two_chroms`: gffutils inferred ONE gene record (on chromosome 2) for a gene_id used on
    chromosomes 1 and 2; both chromosomes are keys of the FASTA -/
def twoChromRun : RunInput :=
  { fastaKeys := [1, 2],
    ann := [{ chr := 2, regions := [(7, (10, 480))],
              txs := [{ tid := 1, gid := 7, seqid := 1, strand := 0, exons := [(10, 20), (30, 40)] },
                      { tid := 2, gid := 7, seqid := 2, strand := 0, exons := [(400, 420), (460, 480)] }] }] }

/-- **reference_on_wrong_chromosome_witness**: the transcript annotated on chromosome 1 is printed on chromosome 2 (the
    chromosome of the inferred gene record) and nowhere on chromosome 1 -/
theorem reference_on_wrong_chromosome_witness :
    ∃ out, extendedLines twoChromRun = some out ∧ Line.tx 2 10 40 0 7 1 ∈ out ∧ Line.tx 1 10 40 0 7 1 ∉ out := by
  refine ⟨[Line.gene 2 10 480 0 7 2, Line.tx 2 10 40 0 7 1, Line.feat 2 0 10 20 0 7 1 1, Line.feat 2 0 30 40 0 7 1 2,
           Line.tx 2 400 480 0 7 2, Line.feat 2 0 400 420 0 7 2 1, Line.feat 2 0 460 480 0 7 2 2], by decide +kernel, by decide +kernel, by decide +kernel⟩

/-- **extended_contains_every_reference_transcript_partial**: the clause holds for every run that does not abort when
    (1) every annotated chromosome is a key of the FASTA, (2) every transcript lies on the chromosome of its gene record,
    (3) the annotation lists a chromosome once and transcript ids are pairwise distinct (gffutils' primary keys).
    Missing for full strength: exactly the two classes of the witnesses above. -/
theorem extended_contains_every_reference_transcript_partial (inp : RunInput)
    (hfasta : ∀ a ∈ inp.ann, a.chr ∈ inp.fastaKeys)
    (hseq : ∀ a ∈ inp.ann, ∀ x ∈ a.txs, x.seqid = a.chr)
    (hchr : (inp.ann.map (·.chr)).Nodup)
    (hnd : ∀ a ∈ inp.ann, (a.txs.map (·.tid)).Nodup)
    (out : List Line) (h : extendedLines inp = some out) :
    ExtendedContainsEveryReferenceTranscript inp out := by
  intro a ha x hx hne hv
  have hreg : ∃ s e, regionOf? (refModel a.ctx x.ref) = some (s, e) := by
    rcases head?_getLast?_cases x.exons with ⟨h0, _⟩ | ⟨f, l, hf, hl, _⟩
    · exact absurd h0 hne
    · exact ⟨f.1, l.2, regionOf?_eq_some.mpr ⟨f, l, hf, hl, rfl⟩⟩
  obtain ⟨s, e, hreg⟩ := hreg
  refine ⟨s, e, hreg, ?_⟩
  rw [extended_tx_line_iff inp hnd out h]
  refine ⟨a.chr, hfasta a ha, Or.inl ⟨a, ?_, x, hx, hne, hv, hreg, hseq a ha x hx, rfl, rfl, rfl⟩⟩
  -- the annotation of chromosome `a.chr` is `a` itself
  simpa [RunInput.annOf] using find?_key (·.chr) (fun _ => true) hchr ha

/-- a run inside the hypotheses of the partial theorem: two annotated chromosomes, both keys of the FASTA, a novel model,
    an exon-less transcript record -/
def goodRun : RunInput :=
  { fastaKeys := [2, 1, 3],
    ann := [{ chr := 1, regions := [(7, (10, 40))],
              txs := [{ tid := 1, gid := 7, seqid := 1, strand := 0, exons := [(10, 20), (30, 40)] },
                      { tid := 3, gid := 7, seqid := 1, strand := 0, exons := [] }] },
            { chr := 2, regions := [(8, (300, 900))], txs := [{ tid := 2, gid := 8, seqid := 2, strand := 1, exons := [(300, 500), (700, 900)] }] }],
    novel := [(1, [{ chr := 1, strand := 0, tid := 9, gid := 7, exons := [(10, 20), (30, 60)], known := false }])] }

-- non-vacuity: the hypotheses of `extended_contains_every_reference_transcript_partial` are met by a run that succeeds
example : (∀ a ∈ goodRun.ann, a.chr ∈ goodRun.fastaKeys) ∧ (∀ a ∈ goodRun.ann, ∀ x ∈ a.txs, x.seqid = a.chr) ∧
    (goodRun.ann.map (·.chr)).Nodup ∧ (∀ a ∈ goodRun.ann, (a.txs.map (·.tid)).Nodup) ∧ (extendedLines goodRun).isSome = true := by
  decide +kernel

-- non-vacuity of `extended_run_total`: `goodRun` (which holds an exon-less transcript record) meets its hypotheses
example : (∀ a ∈ goodRun.ann, (a.txs.map (·.tid)).Nodup) ∧ (∀ c ∈ [1, 2, 3], ∀ m ∈ goodRun.novelOf c, m.chr = c ∧ m.exons ≠ []) := by
  decide +kernel

end IsoVerif.Props.C03Ref
