/-
C09 — the empty group universe.

`group_of_read`, `partition`, `no_abort`, `matrix_linear_agree`, `partition_dump` (Props/C09.lean) assume `π ≠ []`.
The universe is empty iff no grouper call happened on any chromosome (e.g. a BAM with unaligned reads only).  The code
then takes `not read_groups` as "ungrouped" (`AssignedFeatureCounter.__init__`): a run on such
input was seen to end with rc 0 and `*_grouped_*` files in the ungrouped layout with all zeros.
The model does the same: with an empty universe the counter IS the ungrouped counter, so everything proved about
`initCounter _ none …` (C02) is what holds for `π = []`, and the `π ≠ []` theorems lose nothing but this case.
-/
import IsoVerif.Model.C09

namespace IsoVerif.Props.C09Empty
open IsoVerif.Gen IsoVerif.Model.C09

/-- an empty group universe gives the ungrouped counter (both numberings) -/
theorem empty_universe_is_ungrouped (buggy : Bool) (s : CountingStrategy) (af : List String) (oz : Bool)
    (fmt : GroupedOutputFormat) :
    initCounter buggy (some []) s af oz fmt = initCounter buggy none s af oz fmt := rfl

/-- … it ignores groups, has the single column `NA`, and numbers it 0 -/
theorem empty_universe_counter (buggy : Bool) (s : CountingStrategy) (af : List String) (oz : Bool)
    (fmt : GroupedOutputFormat) :
    (initCounter buggy (some []) s af oz fmt).ignoreGroups = true ∧
    (initCounter buggy (some []) s af oz fmt).ordered = [NA] ∧
    (initCounter buggy (some []) s af oz fmt).ids = [(NA, 0)] := ⟨rfl, rfl, rfl⟩

/-- hence every call stream is processed exactly as by the ungrouped counter (stated for the repaired numbering, the one
    the `π ≠ []` theorems of Props/C09.lean are about) -/
theorem empty_universe_run (s : CountingStrategy) (af : List String) (oz : Bool) (fmt : GroupedOutputFormat)
    (calls : List Call) :
    run (initCounter false (some []) s af oz fmt) calls = run (initCounter false none s af oz fmt) calls := by
  rw [empty_universe_is_ungrouped]

/-- the boundary is sharp: one group is already a grouped counter -/
example (s : CountingStrategy) : (initCounter false (some ["g"]) s [] false .matrix).ignoreGroups = false := rfl

end IsoVerif.Props.C09Empty
