/-
C16 — tail detection: what the window scan `PolyAFinder.find_polya` returns.
The trimming theorems (Props/C16PolyA.lean) quantify over *all* position quadruples and therefore do not depend on
the finder; this file pins the finder's window scan to its declarative meaning so that the positions fed to the
trimming step are what the documentation says ("first window of `window_size` bases with at least
`window_size * min_polya_fraction` A's").
-/
import IsoVerif.Model.PolyAFinder
import IsoVerif.Lemmas.PolyAFinder

namespace IsoVerif.Props.C16Finder
open IsoVerif.Gen IsoVerif.Model IsoVerif.Model.C16 IsoVerif.Lemmas.C16

/-- **find_polya_window_spec** — for every sequence and every window size (0 included): `find_polya` answers -1 iff no
    window that starts *strictly before* `len - w` holds `c` A's; otherwise it answers the start `i` of the first
    such window, advanced to the first "AA" at or after `i` (not advanced when there is none).
    (The window that ends exactly at the end of the sequence is never accepted by the code: the loop condition
    `i < len(seq) - window` excludes it — see the corner example below.) -/
theorem find_polya_window_spec (w c : Nat) (seq : List Bool) :
    match findPolya w c seq with
    | none => ∀ j, j + w < seq.length → winCount seq j w < c
    | some p => ∃ i, FirstWindow seq w c i ∧ p = i + (findAA (seq.drop i)).getD 0 :=
  findPolya_window w c seq

/-- non-vacuity: 4 non-A bases followed by 20 A's, window 16, threshold 12: the first qualifying window starts at
    0 (it already holds 12 A's) and the answer moves to the first "AA", position 4 -/
example : findPolya 16 12 ([false, false, false, false] ++ List.replicate 20 true) = some 4 := by decide

/-- corner kept visible: a sequence that is exactly one all-A window is answered -1 by the code -/
example : findPolya 16 12 (List.replicate 16 true) = none := by decide

end IsoVerif.Props.C16Finder
