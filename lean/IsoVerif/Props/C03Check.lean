/-
C03 — what the input annotation check guarantees about the exon records of a reference transcript (DESIGN §14, `31ac086`):
a transcript whose GTF lists one exon line twice (concatenated annotations), or whose exon records overlap, passes
`validate_exons` (sorted in tuple order, `0 < start <= end`), so the reading rule "a reference transcript = a transcript record
that passes validate_exons" let it into the clause "exons sorted, non-overlapping" — and the reference path copies it verbatim.
The repaired `check_gtf_duplicates` (Model/GtfCheck.lean) rejects such an annotation; on a checked annotation the gate and
"sorted, pairwise disjoint, 1 <= start <= end" are the SAME predicate.
-/
import IsoVerif.Model.GtfCheck
import IsoVerif.Model.GtfRef
import IsoVerif.Props.C03
import IsoVerif.Props.C03Ref

namespace IsoVerif.Props.C03Check
open IsoVerif.Gen IsoVerif.Model IsoVerif.Model.C03 IsoVerif.Lemmas IsoVerif.Lemmas.C03 IsoVerif.Props.C03
  IsoVerif.Props.C03Build IsoVerif.Props.C03Ref

/-- two exon lines are compatible: of different transcripts, or different records that share no position -/
def Compat (a b : ExonRec) : Prop := sameTx a b = true → a.iv ≠ b.iv ∧ ovl a.iv b.iv = false

theorem sameTx_comm (a b : ExonRec) : sameTx a b = sameTx b a := by
  unfold sameTx
  rw [Bool.beq_comm (a := a.seq), Bool.beq_comm (a := a.tid)]

theorem ovl_comm (a b : Iv) : ovl a b = ovl b a := by
  unfold ovl
  rw [Bool.and_comm]

/-- a record is its sequence, its transcript and its interval -/
theorem eq_of_sameTx {a b : ExonRec} (hs : sameTx a b = true) (he : a.iv = b.iv) : a = b := by
  unfold sameTx at hs
  simp only [Bool.and_eq_true, beq_iff_eq] at hs
  cases a; cases b; simp_all

theorem mem_seenOf (kept : List ExonRec) (r : ExonRec) (x : Iv) :
    x ∈ seenOf kept r ↔ ∃ k ∈ kept, sameTx r k = true ∧ k.iv = x := by
  unfold seenOf
  simp only [List.mem_map, List.mem_filter]
  constructor
  · rintro ⟨k, ⟨hk, hs⟩, hx⟩; exact ⟨k, hk, hs, hx⟩
  · rintro ⟨k, hk, hs, hx⟩; exact ⟨k, ⟨hk, hs⟩, hx⟩

theorem dup_iff_mem (kept : List ExonRec) (r : ExonRec) : r.iv ∈ seenOf kept r ↔ r ∈ kept := by
  rw [mem_seenOf]
  constructor
  · rintro ⟨k, hk, hs, hx⟩
    have : k = r := (eq_of_sameTx hs hx.symm).symm
    exact this ▸ hk
  · intro h
    exact ⟨r, h, by simp [sameTx], rfl⟩

theorem verdict_ok_iff (kept : List ExonRec) (r : ExonRec) :
    exonVerdict kept r = .ok ↔ ∀ k ∈ kept, Compat k r := by
  unfold exonVerdict Compat
  by_cases h1 : r.iv ∈ seenOf kept r
  · simp only [h1, if_true, reduceCtorEq, false_iff]
    obtain ⟨k, hk, hs, hx⟩ := (mem_seenOf kept r r.iv).mp h1
    intro hall
    exact (hall k hk (by rw [sameTx_comm]; exact hs)).1 hx
  · simp only [h1, if_false]
    by_cases h2 : (seenOf kept r).any (fun e => ovl e r.iv) = true
    · simp only [h2, if_true, reduceCtorEq, false_iff]
      obtain ⟨e, he, ho⟩ := List.any_eq_true.mp h2
      obtain ⟨k, hk, hs, hx⟩ := (mem_seenOf kept r e).mp he
      intro hall
      have := (hall k hk (by rw [sameTx_comm]; exact hs)).2
      rw [hx, ho] at this
      cases this
    · simp only [h2, Bool.false_eq_true, if_false, true_iff]
      intro k hk hs
      have hs' : sameTx r k = true := by rw [sameTx_comm]; exact hs
      refine ⟨fun he => h1 ((mem_seenOf kept r r.iv).mpr ⟨k, hk, hs', he⟩), ?_⟩
      cases ho : ovl k.iv r.iv with
      | false => rfl
      | true =>
        exact absurd (List.any_eq_true.mpr ⟨k.iv, (mem_seenOf kept r k.iv).mpr ⟨k, hk, hs', rfl⟩, ho⟩) h2

theorem exonCheckFrom_accepts_iff (l : List ExonRec) : ∀ (kept : List ExonRec) (ok : Bool),
    (exonCheckFrom kept ok l).1 = true ↔ ok = true ∧ (∀ k ∈ kept, ∀ r ∈ l, Compat k r) ∧ l.Pairwise Compat := by
  induction l with
  | nil => intro kept ok; simp [exonCheckFrom]
  | cons r rs ih =>
    intro kept ok
    have hok := verdict_ok_iff kept r
    unfold exonCheckFrom
    cases hv : exonVerdict kept r with
    | ok =>
      have hc : ∀ k ∈ kept, Compat k r := hok.mp hv
      simp only [ih, List.pairwise_cons, List.mem_append, List.mem_cons, List.not_mem_nil, or_false]
      constructor
      · rintro ⟨h1, h2, h3⟩
        refine ⟨h1, ?_, fun x hx => h2 r (Or.inr rfl) x hx, h3⟩
        intro k hk x hx
        rcases hx with rfl | hx
        · exact hc k hk
        · exact h2 k (Or.inl hk) x hx
      · rintro ⟨h1, h2, h3, h4⟩
        refine ⟨h1, ?_, h4⟩
        intro k hk x hx
        rcases hk with hk | rfl
        · exact h2 k hk x (Or.inr hx)
        · exact h3 x hx
    | dup | overlap =>
      have hne : ¬ ∀ k ∈ kept, Compat k r := fun h => by rw [hok.mpr h] at hv; cases hv
      simp only [ih, Bool.false_eq_true, false_and, false_iff]
      rintro ⟨_, h2, _⟩
      exact hne (fun k hk => h2 k hk r (List.mem_cons_self ..))

/-- **exon_check_accepts_iff** (∀ lists of exon lines): the exon part of the repaired input check leaves `gtf_correct` untouched
    exactly when any two exon lines of one transcript (same sequence, same transcript id) are different records that share no
    position — no line repeated, no two exons overlapping. -/
theorem exon_check_accepts_iff (l : List ExonRec) : (exonCheck l).1 = true ↔ l.Pairwise Compat := by
  unfold exonCheck
  rw [exonCheckFrom_accepts_iff]
  simp

-- non-vacuity: a three-exon transcript next to another transcript with the same coordinates is accepted
example : (exonCheck [⟨1, 1, (2001, 2300)⟩, ⟨1, 1, (2601, 3000)⟩, ⟨1, 2, (2601, 3000)⟩, ⟨1, 1, (3501, 3800)⟩]).1 = true := by decide +kernel

/-- the loop appends to `kept` the first copy of every record of `l` that `kept` does not hold yet: `d` is what it adds -
    a sublist of `l`, covering `l` together with `kept`, without repetition -/
theorem exonCheckFrom_kept (l : List ExonRec) : ∀ (kept : List ExonRec) (ok : Bool),
    ∃ d, (exonCheckFrom kept ok l).2 = kept ++ d ∧ d.Sublist l ∧ (∀ r ∈ l, r ∈ kept ++ d) ∧ (kept.Nodup → (kept ++ d).Nodup) := by
  induction l with
  | nil => intro kept ok; exact ⟨[], by simp [exonCheckFrom], List.Sublist.refl _, by simp, by simp⟩
  | cons r rs ih =>
    intro kept ok
    unfold exonCheckFrom
    have hdup : exonVerdict kept r = .dup ↔ r ∈ kept := by
      unfold exonVerdict
      rw [← dup_iff_mem kept r]
      by_cases h : r.iv ∈ seenOf kept r
      · simp [h]
      · simp only [h, if_false, iff_false]
        split <;> simp
    have hkeep : ∀ ok', exonVerdict kept r ≠ .dup →
        ∃ d, (exonCheckFrom (kept ++ [r]) ok' rs).2 = kept ++ d ∧ d.Sublist (r :: rs) ∧ (∀ x ∈ r :: rs, x ∈ kept ++ d) ∧
          (kept.Nodup → (kept ++ d).Nodup) := by
      intro ok' hnd
      have hnotin : r ∉ kept := fun h => hnd (hdup.mpr h)
      obtain ⟨d, h1, h2, h3, h4⟩ := ih (kept ++ [r]) ok'
      refine ⟨r :: d, by rw [h1]; simp, h2.cons_cons r, ?_, ?_⟩
      · intro x hx
        rcases List.mem_cons.mp hx with rfl | hx
        · simp
        · simpa [or_assoc] using h3 x hx
      · intro hk
        have : (kept ++ [r]).Nodup := nodup_append_singleton hk hnotin
        have := h4 this
        rw [List.append_assoc] at this
        exact this
    cases hv : exonVerdict kept r with
    | dup =>
      have hin : r ∈ kept := hdup.mp hv
      obtain ⟨d, h1, h2, h3, h4⟩ := ih kept false
      refine ⟨d, h1, h2.cons r, ?_, h4⟩
      intro x hx
      rcases List.mem_cons.mp hx with rfl | hx
      · exact List.mem_append_left _ hin
      · exact h3 x hx
    | ok => exact hkeep ok (by rw [hv]; simp)
    | overlap => exact hkeep false (by rw [hv]; simp)

/-- **exon_check_corrected_spec** (∀ lists of exon lines): the exon lines of the corrected annotation are a sub-sequence of the
    input lines (order kept, nothing invented), hold every input record (nothing lost but repetitions) and hold no record twice:
    one copy of every record (the loop keeps the first; the statement does not say which). -/
theorem exon_check_corrected_spec (l : List ExonRec) :
    (exonCheck l).2.Sublist l ∧ (∀ r ∈ l, r ∈ (exonCheck l).2) ∧ (exonCheck l).2.Nodup := by
  obtain ⟨d, h1, h2, h3, h4⟩ := exonCheckFrom_kept l [] true
  unfold exonCheck
  rw [h1]
  simp only [List.nil_append] at h3 h4 ⊢
  exact ⟨h2, h3, h4 List.nodup_nil⟩

example : (exonCheck [⟨1, 1, (2001, 2300)⟩, ⟨1, 1, (2601, 3000)⟩, ⟨1, 1, (2601, 3000)⟩, ⟨1, 1, (3501, 3800)⟩]) =
    (false, [⟨1, 1, (2001, 2300)⟩, ⟨1, 1, (2601, 3000)⟩, ⟨1, 1, (3501, 3800)⟩]) := by decide +kernel

/-- **exon_check_corrected_accepted**: if the only defect of an annotation is repeated exon lines (any two DIFFERENT exon
    records of one transcript share no position), the corrected annotation the check writes passes the check. -/
theorem exon_check_corrected_accepted (l : List ExonRec)
    (h : ∀ a ∈ l, ∀ b ∈ l, a ≠ b → sameTx a b = true → ovl a.iv b.iv = false) :
    (exonCheck (exonCheck l).2).1 = true := by
  obtain ⟨hsub, _, hnd⟩ := exon_check_corrected_spec l
  rw [exon_check_accepts_iff]
  have hp : (exonCheck l).2.Pairwise (fun a b => a ≠ b) := hnd
  refine hp.imp_of_mem ?_
  intro a b ha hb hne hs
  exact ⟨fun he => hne (eq_of_sameTx hs he), h a (hsub.subset ha) b (hsub.subset hb) hne hs⟩

-- non-vacuity: the duplicated-line annotation of the witness meets the hypothesis
example : ∀ a ∈ [(⟨1, 1, (2001, 2300)⟩ : ExonRec), ⟨1, 1, (2601, 3000)⟩, ⟨1, 1, (2601, 3000)⟩, ⟨1, 1, (3501, 3800)⟩],
    ∀ b ∈ [(⟨1, 1, (2001, 2300)⟩ : ExonRec), ⟨1, 1, (2601, 3000)⟩, ⟨1, 1, (2601, 3000)⟩, ⟨1, 1, (3501, 3800)⟩],
      a ≠ b → sameTx a b = true → ovl a.iv b.iv = false := by decide +kernel

theorem checked_lines_disjoint (l : List ExonRec) (hchk : (exonCheck l).1 = true) (seq tid : Id) :
    (exonLinesOf l seq tid).Pairwise (fun a b => ovl a b = false) := by
  have hp := (exon_check_accepts_iff l).mp hchk
  unfold exonLinesOf
  rw [List.pairwise_map]
  refine (hp.filter _).imp_of_mem ?_
  intro a b ha hb hc
  have ha' := (List.mem_filter.mp ha).2
  have hb' := (List.mem_filter.mp hb).2
  simp only [Bool.and_eq_true, beq_iff_eq] at ha' hb'
  exact (hc (by simp [sameTx, ha'.1, ha'.2, hb'.1, hb'.2])).2

/-- **checked_exons_sd** (∀ annotations the repaired check accepts, ∀ transcripts): whatever order gffutils returns the exon
    records of a transcript in (`ex` is any permutation of its exon lines), if the list passes `validate_exons` — which is what
    `GFFPrinter.dump` tests — then it is sorted, PAIRWISE DISJOINT, well-formed and 1-based. -/
theorem checked_exons_sd (l : List ExonRec) (hchk : (exonCheck l).1 = true) (seq tid : Id) (ex : List Iv)
    (hperm : ex.Perm (exonLinesOf l seq tid)) (hv : validateExons ex = true) :
    SD ex ∧ WFl ex ∧ ∀ x ∈ ex, 1 ≤ x.1 := by
  refine gate_plus_disjoint_is_SD ex hv ?_
  have hp := checked_lines_disjoint l hchk seq tid
  have hp' : ex.Pairwise (fun a b => ovl a b = false) :=
    (hperm.pairwise_iff (fun {a b} h => by rw [ovl_comm]; exact h)).mpr hp
  refine hp'.imp ?_
  intro a b hab hmm
  unfold ovl at hab
  simp only [Bool.and_eq_false_iff, decide_eq_false_iff_not] at hab
  omega

/-- the reading rule of DESIGN §6 C03 (b) before the repair: a reference transcript is a record with ≥ 1 exon whose exon list
    passes `validate_exons` -/
def RefGate (ex : List Iv) : Prop := ex ≠ [] ∧ validateExons ex = true

instance (ex : List Iv) : Decidable (RefGate ex) := by unfold RefGate; exact inferInstance

/-- what the statement's clause demands of a transcript of the output file -/
def RefWellFormed (ex : List Iv) : Prop := ex ≠ [] ∧ SD ex ∧ ∀ x ∈ ex, 1 ≤ x.1 ∧ x.1 ≤ x.2

/-- **checked_reference_gate_iff_wellformed**: on an annotation the repaired input check accepts the two predicates coincide
    for every transcript — the domain of "every reference transcript" is exactly the set of transcripts the output clause can
    hold for. -/
theorem checked_reference_gate_iff_wellformed (l : List ExonRec) (hchk : (exonCheck l).1 = true) (seq tid : Id) (ex : List Iv)
    (hperm : ex.Perm (exonLinesOf l seq tid)) : RefGate ex ↔ RefWellFormed ex := by
  unfold RefGate RefWellFormed
  constructor
  · rintro ⟨hne, hv⟩
    obtain ⟨h1, h2, h3⟩ := checked_exons_sd l hchk seq tid ex hperm hv
    exact ⟨hne, h1, fun x hx => ⟨h3 x hx, h2 x hx⟩⟩
  · rintro ⟨hne, hsd, hw⟩
    exact ⟨hne, sd_passes_gate ex hsd (fun x hx => (hw x hx).2) (fun x hx => by have := (hw x hx).1; omega)⟩

-- non-vacuity: a checked annotation, a transcript of it, both predicates hold
example : (exonCheck [⟨1, 1, (2001, 2300)⟩, ⟨1, 1, (3501, 3800)⟩, ⟨1, 1, (2601, 3000)⟩]).1 = true ∧
    [((2001, 2300) : Iv), (2601, 3000), (3501, 3800)].Perm (exonLinesOf [⟨1, 1, (2001, 2300)⟩, ⟨1, 1, (3501, 3800)⟩, ⟨1, 1, (2601, 3000)⟩] 1 1) ∧
    RefGate [(2001, 2300), (2601, 3000), (3501, 3800)] := by
  refine ⟨by decide +kernel, ?_, by decide +kernel⟩
  show [((2001, 2300) : Iv), (2601, 3000), (3501, 3800)].Perm [(2001, 2300), (3501, 3800), (2601, 3000)]
  exact List.Perm.cons _ (List.Perm.swap _ _ _)

/-- the exon records of every transcript of a chromosome's annotation are the exon lines of the checked file, in the order
    gffutils returned them -/
def AnnFromLines (l : List ExonRec) (a : ChrAnn) : Prop := ∀ x ∈ a.txs, x.exons.Perm (exonLinesOf l x.seqid x.tid)

/-- **checked_reference_models_sd** (∀ checked annotations, ∀ chromosomes): every reference model of the extended storage
    (`create_extended_storage`) that passes the gate of `dump` has sorted, pairwise disjoint, well-formed 1-based exons —
    the `SD` half of the field `exons_ok` of `GoodHistory` (Props/C03Whole) for the reference models. -/
theorem checked_reference_models_sd (l : List ExonRec) (hchk : (exonCheck l).1 = true) (a : ChrAnn) (ha : AnnFromLines l a)
    (m : TModel) (hm : m ∈ a.ctx.isoforms.map (refModel a.ctx)) (hv : validM m = true) :
    SD m.exons ∧ WFl m.exons ∧ ∀ x ∈ m.exons, 1 ≤ x.1 := by
  obtain ⟨r, hr, rfl⟩ := List.mem_map.mp hm
  obtain ⟨x, hx, _, rfl⟩ := (isoforms_are_transcripts_with_exons a r).mp hr
  exact checked_exons_sd l hchk x.seqid x.tid x.exons (ha x hx) hv

/-- exon lines of the pipeline witnesses (`gen/refsets.py` scenarios `dup_exon_line`, `overlap_exons`) -/
def dupLines : List ExonRec := [⟨1, 1, (2001, 2300)⟩, ⟨1, 1, (2601, 3000)⟩, ⟨1, 1, (2601, 3000)⟩, ⟨1, 1, (3501, 3800)⟩]
def ovlLines : List ExonRec := [⟨1, 1, (2001, 2300)⟩, ⟨1, 1, (2250, 3000)⟩, ⟨1, 1, (3501, 3800)⟩]

def runOf (ex : List Iv) : RunInput :=
  { fastaKeys := [1],
    ann := [{ chr := 1, regions := [(7, (2001, 3800))], txs := [{ tid := 1, gid := 7, seqid := 1, strand := 0, exons := ex }] }] }

/-- **unchecked_duplicate_exon_witness**: the unrepaired check accepts the annotation whose transcript lists exon 2601-3000 twice;
    the exon list passes `validate_exons` (so §6 (b) counted it as a reference transcript), is not `SD`, and
    `extended_annotation.gtf` carries the exon record twice. The repaired check rejects it, the corrected annotation is the clean
    transcript and passes. -/
theorem unchecked_duplicate_exon_witness :
    (exonCheckOrig dupLines).1 = true ∧ RefGate (exonLinesOf dupLines 1 1) ∧ ¬ RefWellFormed (exonLinesOf dupLines 1 1) ∧
    extendedLines (runOf (exonLinesOf dupLines 1 1)) =
      some [Line.gene 1 2001 3800 0 7 1, Line.tx 1 2001 3800 0 7 1, Line.feat 1 0 2001 2300 0 7 1 1,
            Line.feat 1 0 2601 3000 0 7 1 2, Line.feat 1 0 2601 3000 0 7 1 3, Line.feat 1 0 3501 3800 0 7 1 4] ∧
    (exonCheck dupLines).1 = false ∧
    (exonCheck dupLines).2 = [⟨1, 1, (2001, 2300)⟩, ⟨1, 1, (2601, 3000)⟩, ⟨1, 1, (3501, 3800)⟩] ∧
    (exonCheck (exonCheck dupLines).2).1 = true := by
  refine ⟨by decide +kernel, by decide +kernel, ?_, by decide +kernel, by decide +kernel, by decide +kernel, by decide +kernel⟩
  rintro ⟨_, hsd, _⟩
  revert hsd
  decide +kernel

/-- **unchecked_overlapping_exons_witness**: exons (2001,2300), (2250,3000) of one transcript: accepted by the unrepaired check,
    passes the gate, printed verbatim with overlapping exon records; rejected by the repaired check, which cannot correct it
    (the corrected annotation still holds both exons and is rejected again). -/
theorem unchecked_overlapping_exons_witness :
    (exonCheckOrig ovlLines).1 = true ∧ RefGate (exonLinesOf ovlLines 1 1) ∧ ¬ RefWellFormed (exonLinesOf ovlLines 1 1) ∧
    extendedLines (runOf (exonLinesOf ovlLines 1 1)) =
      some [Line.gene 1 2001 3800 0 7 1, Line.tx 1 2001 3800 0 7 1, Line.feat 1 0 2001 2300 0 7 1 1,
            Line.feat 1 0 2250 3000 0 7 1 2, Line.feat 1 0 3501 3800 0 7 1 3] ∧
    (exonCheck ovlLines).1 = false ∧ (exonCheck ovlLines).2 = ovlLines ∧ (exonCheck (exonCheck ovlLines).2).1 = false := by
  refine ⟨by decide +kernel, by decide +kernel, ?_, by decide +kernel, by decide +kernel, by decide +kernel, by decide +kernel⟩
  rintro ⟨_, hsd, _⟩
  revert hsd
  decide +kernel

end IsoVerif.Props.C03Check
