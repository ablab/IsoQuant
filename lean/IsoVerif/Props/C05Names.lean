/-
C05 (also C06 / C10) — the names of the per-chromosome part files: what a chromosome task WRITES is what the merge READS,
whatever the output prefix / experiment name is (repair `fix_prefix_in_suffix`).
Lemmas in IsoVerif/Lemmas/PartNames.lean; model IsoVerif/Model/PartNames.lean.
-/
import IsoVerif.Model.PartNames
import IsoVerif.Model.Schedule
import IsoVerif.Lemmas.PartNames

namespace IsoVerif.Props.C05
open IsoVerif.Model.PartNames IsoVerif.Lemmas.PartNames

/-- **rreplace_is_last_occurrence** (specification of `rreplace` of src/common.py): `s = pre ++ old ++ post` with no occurrence
    of `old` starting right of `pre` gives `pre ++ new ++ post` (a string without `old` is returned unchanged:
    `rreplace_absent_unchanged`; an empty `old` raises, `none`, by definition) -/
theorem rreplace_is_last_occurrence (old new pre post : Str) (hne : old ≠ [])
    (h : ∀ i, pre.length < i → ¬ OccursAt old (pre ++ old ++ post) i) :
    rreplace (pre ++ old ++ post) old new = some (pre ++ new ++ post) :=
  rreplace_last old new pre post hne h

theorem rreplace_absent_unchanged (old new s : Str) (hne : old ≠ []) (h : ∀ i, ¬ OccursAt old s i) :
    rreplace s old new = some s := by
  unfold rreplace
  rw [if_neg hne, (rreplace?_none_iff old new hne s).2 h]

/-- non-vacuity: `aXbXc`, the second `X` is the last occurrence -/
example : (∀ i, "aXb".toList.length < i → ¬ OccursAt "X".toList ("aXb".toList ++ "X".toList ++ "c".toList) i) ∧
    rreplace "aXbXc".toList "X".toList "X_1".toList = some "aXbX_1c".toList := by
  -- every literal is read as the list of its characters first (`rw` unifies a literal with `String.ofList _`): left to
  -- the evaluation, the kernel would decode the UTF-8 bytes of each literal, which is slow to check
  repeat rw [String.toList_ofList]
  refine ⟨fun i hi h => ?_, by decide +kernel⟩
  have hl := h.le_length
  obtain rfl : i = 4 := by simp at hi hl; omega
  revert h
  unfold OccursAt
  decide +kernel

/-- **part_name_is_written_name** (full strength, repaired tree): for the file `<dir>/<label><suffix>` the part file of
    chromosome `chr` named by `merge_file_list` is `<dir>/<label>_<chr><suffix>` - the file the chromosome task writes
    (`SampleData(prefix = f"{label}_{chr}")`, same `out_dir`).  NO hypothesis relates `label` and `suffix`: the name does not
    depend on whether the label occurs in the suffix (`-p a`, `t`, `reads`, `gene`, `counts`, `S` + SQANTI-like), in the
    directory (`<output>/<label>/…` always holds it) or in the chromosome name.  `label` may be empty. -/
theorem part_name_is_written_name (dir label suf chr : Str) (hd : DirOk dir) (hl : '/' ∉ label) (hs : '/' ∉ suf) :
    partNameFix (finalName dir label suf) label chr = some (writtenName dir label suf chr) := by
  have hb : '/' ∉ label ++ suf := by simp [hl, hs]
  unfold partNameFix finalName writtenName
  rw [pathSplit_dir_base dir (label ++ suf) hd hb]
  have hp : label.isPrefixOf (label ++ suf) = true := List.isPrefixOf_iff_prefix.2 (List.prefix_append label suf)
  simp only [hp, if_true, List.drop_left]
  rw [pathJoin_dir dir _ hd]
  cases label with
  | nil => simp [partLabel]
  | cons l ls =>
    have : l ≠ '/' := fun e => hl (by simp [e])
    simp [partLabel, this]

/-- hence the whole list: one name per chromosome, in the order of `chr_ids` -/
theorem merge_file_list_is_written_names (dir label suf : Str) (chrs : List Str) (hd : DirOk dir) (hl : '/' ∉ label)
    (hs : '/' ∉ suf) :
    mergeFileList (finalName dir label suf) label chrs = some (chrs.map (writtenName dir label suf)) := by
  unfold mergeFileList
  induction chrs with
  | nil => rfl
  | cons c cs ih =>
    rw [List.mapM_cons, part_name_is_written_name dir label suf c hd hl hs, ih]
    rfl

/-- different chromosomes have different part files -/
theorem written_names_injective (dir label suf c c' : Str) (h : writtenName dir label suf c = writtenName dir label suf c') :
    c = c' := by
  unfold writtenName partLabel at h
  have h1 := List.append_cancel_left h
  simp only [List.cons.injEq, true_and] at h1
  have h2 : label ++ '_' :: (c ++ suf) = label ++ '_' :: (c' ++ suf) := by simpa using h1
  have h3 := List.append_cancel_left h2
  simp only [List.cons.injEq, true_and] at h3
  exact List.append_cancel_right h3

/-- non-vacuity of the hypotheses, on the failing input of the unrepaired tree -/
example : DirOk "out/a".toList ∧ '/' ∉ "a".toList ∧ '/' ∉ ".transcript_models.gtf".toList := by
  repeat rw [String.toList_ofList]
  exact ⟨⟨['o', 'u', 't', '/'], 'a', rfl, by decide⟩, by decide +kernel, by decide +kernel⟩

/-- the statement above read on the UNREPAIRED tree (`partNameOrig` = `rreplace` on the whole path) -/
def PartNameOrigCorrect : Prop :=
  ∀ dir label suf chr : Str, DirOk dir → '/' ∉ label → '/' ∉ suf → label ≠ [] →
    partNameOrig (finalName dir label suf) label chr = some (writtenName dir label suf chr)

/-- **part_name_orig_witness**: it is false.  `-p a`, chromosome `chr9`: the unrepaired code looks for
    `out/a/a.tra_chr9nscript_models.gtf` (the last `a` of the path is the one in `transcript`), `merge_files` skips the file
    it cannot find and `os.remove` raises FileNotFoundError: exit code 255 after all the work, nothing merged (replayed on the
    real code by the pipeline oracles of C05 and C10) -/
theorem part_name_orig_witness :
    partNameOrig (finalName "out/a".toList "a".toList ".transcript_models.gtf".toList) "a".toList "chr9".toList
      = some "out/a/a.tra_chr9nscript_models.gtf".toList ∧
    partNameFix (finalName "out/a".toList "a".toList ".transcript_models.gtf".toList) "a".toList "chr9".toList
      = some "out/a/a_chr9.transcript_models.gtf".toList ∧
    ¬ PartNameOrigCorrect := by
  refine and_assoc.1 ⟨?_, fun h => ?_⟩
  · repeat rw [String.toList_ofList]
    decide +kernel
  · have := h "out/a".toList "a".toList ".transcript_models.gtf".toList "chr9".toList
    repeat rw [String.toList_ofList] at this
    have := this ⟨['o', 'u', 't', '/'], 'a', rfl, by decide⟩ (by decide +kernel) (by decide +kernel) (by decide +kernel)
    revert this
    decide +kernel

/-- the SQANTI-like table with `-p S` (the first recorded member of the family, DESIGN §13.2) -/
theorem part_name_orig_sqanti_witness :
    partNameOrig (finalName "o/S".toList "S".toList ".novel_vs_known.SQANTI-like.tsv".toList) "S".toList "c1".toList
      = some "o/S/S.novel_vs_known.S_c1QANTI-like.tsv".toList := by
  repeat rw [String.toList_ofList]
  decide +kernel

/-- **part_name_orig_partial**: the unrepaired code names the right file exactly under the hypothesis that prefixes like
    `Q7x`, `XQ1` meet: the label does not occur in `<label><suffix>` at any position but the first -/
theorem part_name_orig_partial (dir label suf chr : Str) (hne : label ≠ [])
    (hocc : ∀ j, 0 < j → ¬ OccursAt label (label ++ suf) j) :
    partNameOrig (finalName dir label suf) label chr = some (writtenName dir label suf chr) := by
  unfold partNameOrig finalName writtenName
  have h := rreplace_last label (partLabel label chr) (dir ++ ['/']) suf hne (by
    intro i hi hoc
    obtain ⟨j, rfl⟩ : ∃ j, i = (dir ++ ['/']).length + j := ⟨i - (dir ++ ['/']).length, by omega⟩
    rw [OccursAt, List.append_assoc, ← List.drop_drop, List.drop_left] at hoc
    exact hocc j (by omega) hoc)
  have e1 : dir ++ '/' :: (label ++ suf) = dir ++ ['/'] ++ label ++ suf := by simp
  have e2 : dir ++ '/' :: (partLabel label chr ++ suf) = dir ++ ['/'] ++ partLabel label chr ++ suf := by simp
  rw [e1, e2]
  exact h

/-- non-vacuity: the prefix `Q7x` meets the hypothesis for every suffix without `Q` -/
example : ∀ j, 0 < j → ¬ OccursAt "Q7x".toList ("Q7x".toList ++ ".gene_counts.tsv".toList) j := by
  -- beyond index 16 there is no room for three characters; up to there, evaluation
  have key : ∀ j, j < 17 → 0 < j → ¬ OccursAt "Q7x".toList ("Q7x".toList ++ ".gene_counts.tsv".toList) j := by
    repeat rw [String.toList_ofList]
    unfold OccursAt
    decide +kernel
  intro j hj h
  have hl := h.le_length
  repeat rw [String.toList_ofList] at hl
  exact key j (by simp at hl; omega) hj h

/-- `Model.C06.partName` (what `mergeFiles`' correspondence feeds as part names) is the written name -/
theorem written_name_is_partName (dir label suf chr : String) :
    writtenName dir.toList label.toList suf.toList chr.toList
      = (IsoVerif.Model.C06.partName (dir ++ "/") label suf chr).toList := by
  simp [writtenName, partLabel, IsoVerif.Model.C06.partName, String.toList_append]

/-! ### auxiliary files named after the reference sequences (repairs `fix_contig_name_slash`,
`fix_aux_file_name_collision`: `check_chromosome_file_names` refuses the run at start-up) -/

/-- **aux_names_disjoint**: a run the check accepts never lets two tasks (or a task and the experiment) share an auxiliary
    file: all names are pairwise different and none holds a path separator in its sequence part -/
theorem aux_names_disjoint (chrs : List Str) (h : auxCheck chrs = true) :
    (allAuxNames chrs).Nodup ∧ ∀ c ∈ chrs, '/' ∉ c := by
  simp only [auxCheck, Bool.and_eq_true, List.all_eq_true, decide_eq_true_eq] at h
  refine ⟨h.2, fun c hc => ?_⟩
  have := h.1 c hc
  simpa using this

/-- **aux_collision_witness** (unrepaired tree: no check): the sequences `chr2` and `chr2_bamstat` share the file
    `<out_raw>_chr2_bamstat` - save file of one, alignment statistics of the other; which task writes last depends on the
    schedule (observed: `--threads 1` exit 0, `--threads 2` AssertionError in some runs): C06 `exit_status_differs:threads`;
    the repaired check refuses both this set and `c/1` -/
theorem aux_collision_witness :
    "chr2_bamstat".toList ∈ auxNamesOrig "chr2".toList ∧ "chr2_bamstat".toList ∈ auxNamesOrig "chr2_bamstat".toList ∧
    auxCheck ["chr2".toList, "chr2_bamstat".toList] = false ∧ auxCheck ["c/1".toList] = false ∧
    auxCheck ["info".toList, "chr1".toList] = false ∧ auxCheck ["multimappers_chr1".toList, "chr1".toList] = false := by
  have h1 : "chr2_bamstat".toList ∈ auxNamesOrig "chr2".toList := by
    repeat rw [String.toList_ofList]
    decide +kernel
  have h2 : "multimappers_chr1".toList ∈ auxNamesOrig "chr1".toList := by
    repeat rw [String.toList_ofList]
    decide +kernel
  -- a shared name refutes the check; `c/1` holds a path separator
  exact ⟨h1, self_mem_auxNamesOrig _, auxCheck_false_of_shared (.refl _) h1 (self_mem_auxNamesOrig _), by decide +kernel,
    auxCheck_false_of_exp (List.mem_cons_self ..) (List.mem_cons_self ..) (self_mem_auxNamesOrig _),
    auxCheck_false_of_shared (.refl _) (self_mem_auxNamesOrig _) h2⟩

/-- non-vacuity: ordinary reference names pass -/
example : auxCheck ["chr1".toList, "chr2".toList, "chr10".toList, "chr1_KI270706v1_random".toList, "HLA-A*01:01".toList] = true := by
  repeat rw [String.toList_ofList]
  decide +kernel

end IsoVerif.Props.C05
