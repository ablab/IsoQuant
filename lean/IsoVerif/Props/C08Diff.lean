/-
C08 — differential form of "the alignments that lose are suppressed everywhere" (docs/C08.md §9): resolving a read
WITHOUT the records that lost gives exactly the retained records of the full resolution - the losers influence nothing
the consumers of the retained records can see (types and multimapper flag included).
Property theorem only; helper lemmas live in IsoVerif/Lemmas/ResolverDiff.lean.
-/
import IsoVerif.Model.Resolver
import IsoVerif.Lemmas.Resolver
import IsoVerif.Lemmas.ResolverSpec
import IsoVerif.Lemmas.ResolverDiff
import IsoVerif.Props.C08Spec
import IsoVerif.Props.C08

namespace IsoVerif.Props.C08Diff
open IsoVerif.Gen IsoVerif.Model.Resolver IsoVerif.Lemmas.Resolver IsoVerif.Lemmas.ResolverSpec IsoVerif.Lemmas.ResolverDiff
open IsoVerif.Props.C08

/-- **losers_do_not_influence** (the differential form of "suppressed everywhere").  For a read with at least two records:
    let `kept` be the input records (with their positions) that the resolution retains - `retained out` is `kept`
    re-flagged.  Resolving the read with ONLY these records, the losers removed, returns exactly `retained out`: the
    same records, types and multimapper flags included.  So nothing downstream of the resolver can tell whether the
    losing alignments were in the input. -/
theorem losers_do_not_influence (l : List Rec) (h2 : 2 ≤ l.length) (hin : NoSuspendedInput l) (out : List Rec)
    (hout : resolve .take_best l = some out) :
    ∃ kept : List IRec, kept.Sublist l.zipIdx ∧
      retained out = kept.map (fun x => flag (changeT kept) (changeG kept) x.1) ∧
      resolve .take_best (kept.map (·.1)) = some (retained out) := by
  have hl : l ≠ [] := by intro h; simp [h] at h2
  obtain ⟨cand, _, hsel, hsub, _, hwin, _, hone⟩ := priority_candidates l hl
  obtain rfl : applyKeep l (findDuplicates cand) = out :=
    Option.some.inj ((hsel.symm.trans (resolve_take_best l h2).symm).trans hout)
  have hKc := findDuplicates_sublist cand
  have hKpw : (findDuplicates cand).Pairwise (fun a b => recEq a.1 b.1 = false) := firstWins_pairwise _ cand
  have hksub := hKc.trans hsub
  have hret := retained_applyKeep_eq hksub hin
  refine ⟨findDuplicates cand, hksub, hret, ?_⟩
  generalize findDuplicates cand = K at *
  by_cases hlen : K.length ≤ 1
  · -- at most one record is retained: it is returned as it is
    rw [hret, changeT_of_length_le_one hlen, changeG_of_length_le_one hlen]
    simp [resolve, hlen, flag_false_false]
  · -- several: some record is assigned (otherwise there is exactly one candidate)
    have hA : Has Cons l ∨ Has Inc l := by
      refine Classical.byContradiction fun hn => ?_
      obtain ⟨x, _, _, rfl, _⟩ := hone (fun h => hn (Or.inl h)) (fun h => hn (Or.inr h))
      exact hlen (by simpa using hKc.length_le)
    let s := K.map (·.1)
    have hs : ∀ r ∈ s, r ∈ l ∧ Winner l r := by
      intro r hr
      obtain ⟨x, hx, rfl⟩ := List.mem_map.mp hr
      exact ⟨List.fst_mem_of_mem_zipIdx (hksub.subset hx), hwin x (hKc.subset hx)⟩
    have hs2 : 2 ≤ s.length := by simp only [s, List.length_map]; omega
    have hne : s ≠ [] := by intro h; simp [h] at hs2
    -- among themselves all of them win, so all are candidates, and none is a duplicate of another
    have hsel' := (candidates_eq s hne).1
    rw [candidates_of_all_winners hs hA hne] at hsel'
    have hfst : s.zipIdx.map (·.1) = K.map (·.1) := List.zipIdx_map_fst 0 s
    have hpw : s.zipIdx.Pairwise (fun a b : IRec => recEq a.1 b.1 = false) := by
      have h : (K.map (·.1)).Pairwise (fun a b : Rec => recEq a b = false) := List.pairwise_map.mpr hKpw
      rw [← hfst] at h
      exact List.pairwise_map.mp h
    rw [resolve_take_best s hs2, hsel', Option.map_some, findDuplicates_of_pairwise hpw, applyKeep_all,
      changeT_congr hfst, changeG_congr hfst, hret, List.map_map]
    rfl

-- the tie witness: three records in, the two retained ones resolved on their own come out alike
example : (resolve .take_best witnessTie).map retained =
    resolve .take_best [witnessTie[1], witnessTie[2]] := by decide +kernel

-- the single winner: the retained record alone is returned as it is
example : (resolve .take_best witnessSingle).map retained = resolve .take_best [witnessSingle[0]] := by decide +kernel

end IsoVerif.Props.C08Diff
