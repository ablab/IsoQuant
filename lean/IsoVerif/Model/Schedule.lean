/-
C06 — executable model of the chromosome fan-out of src/dataset_processor.py.

  §1  process pool: tasks = chromosomes, a schedule = any list of (worker, task) start events; every worker
      carries a private state from task to task (`ProcessPoolExecutor` forks the workers from the parent, a
      forked worker starts with a copy of the parent's state); `pool.map` returns the results in submission
      order whatever the completion order.
  §2  `merge_files`: per-chromosome part files concatenated in the order of the natural sort key
      `[int(t) if t.isdigit() else t.lower() for t in re.split('(\d+)', s)]` (ASCII names).
  §3  the worker state of the generated inventory (`Gen/SharedState`) and the two per-chromosome tasks
      `collect_reads_in_parallel` / `construct_models_in_parallel` as far as they touch that state
      (assignment ids, FeatureInfo ids, the set of already reported known isoforms), the parent-side glue
      between the two pools (multimapper table), `ReadAssignmentLoader.get_next` id matching.
  §4  set-iteration sites: every function takes the iteration order of the set as an explicit list.
  §5  default vs --high_memory multimapper bookkeeping of `DatasetProcessor.collect_reads`.

Core Lean only (the driver links this file).
-/
namespace IsoVerif.Model.C06

/-! ## §1 process pool -/

/-- start of task number `task` (index into the submitted list) on worker `worker` -/
abbrev Event := Nat × Nat

def setW {σ : Type} (st : Nat → σ) (w : Nat) (x : σ) : Nat → σ := fun v => if v = w then x else st v

/-- run the start events in order.  Returns the completion records `(task index, output)` and the final
    worker states.  An event that names a task which was not submitted does nothing (a valid schedule has none). -/
def runEvents {σ χ ω : Type} (f : σ → χ → ω × σ) (chrs : List χ) :
    (Nat → σ) → List Event → List (Nat × ω) × (Nat → σ)
  | st, [] => ([], st)
  | st, (w, t) :: es =>
    match chrs[t]? with
    | none => runEvents f chrs st es
    | some c =>
      let r := f (st w) c
      let rest := runEvents f chrs (setW st w r.2) es
      ((t, r.1) :: rest.1, rest.2)

/-- what `proc.map(f, chrs)` yields: the result of task `i` at position `i` (`none`: task never ran) -/
def poolMap {σ χ ω : Type} (f : σ → χ → ω × σ) (chrs : List χ) (st : Nat → σ) (s : List Event) : List (Option ω) :=
  (List.range chrs.length).map (fun i => (runEvents f chrs st s).1.lookup i)

/-- every submitted task is started exactly once -/
def ValidSchedule (n : Nat) (s : List Event) : Prop := (s.map Prod.snd).Perm (List.range n)

instance (n : Nat) (s : List Event) : Decidable (ValidSchedule n s) := by
  unfold ValidSchedule; infer_instance

/-- `--threads 1`: plain `map` in the parent process (worker 0), tasks in submission order -/
def seqSchedule (n : Nat) : List Event := (List.range n).map (fun i => (0, i))

/-! ## §2 merge_files -/

/-- stable insertion sort (structural, so that `decide` can evaluate it); `le x y` = "x may stay before y" -/
def insertBy {α : Type} (le : α → α → Bool) (x : α) : List α → List α
  | [] => [x]
  | y :: ys => if le x y then x :: y :: ys else y :: insertBy le x ys

def isort {α : Type} (le : α → α → Bool) : List α → List α
  | [] => []
  | x :: xs => insertBy le x (isort le xs)

inductive Tok where
  | str (s : List Nat)      -- code points of a lower-cased non-digit run
  | num (n : Nat)
  deriving DecidableEq, Repr

def digitVal (c : Char) : Nat := c.toNat - '0'.toNat

mutual
/-- inside a non-digit run of `re.split('(\d+)', s)` (`cur` = the run so far, reversed, lower-cased) -/
def scanStr : List Char → List Nat → List Tok
  | [], cur => [Tok.str cur.reverse]
  | c :: cs, cur =>
    if c.isDigit then Tok.str cur.reverse :: scanNum cs (digitVal c)
    else scanStr cs (c.toLower.toNat :: cur)
/-- inside a digit run (`n` = its value so far) -/
def scanNum : List Char → Nat → List Tok
  | [], n => [Tok.num n, Tok.str []]
  | c :: cs, n =>
    if c.isDigit then scanNum cs (10 * n + digitVal c)
    else Tok.num n :: scanStr cs [c.toLower.toNat]
end

/-- the sort key of `merge_files` -/
def naturalKey (s : String) : List Tok := scanStr s.toList []

def cmpNat (a b : Nat) : Ordering := if a < b then .lt else if a = b then .eq else .gt

/-- lexicographic comparison of sequences (Python `<` on str and on list): first difference decides, a proper
    prefix is smaller -/
def lexCmp {α : Type} (cmp : α → α → Ordering) : List α → List α → Ordering
  | [], [] => .eq
  | [], _ :: _ => .lt
  | _ :: _, [] => .gt
  | a :: as, b :: bs =>
    match cmp a b with
    | .eq => lexCmp cmp as bs
    | o => o

/-- comparing a `str` with an `int` raises TypeError in Python: `none` -/
def cmpTok : Tok → Tok → Option Ordering
  | .str a, .str b => some (lexCmp cmpNat a b)
  | .num a, .num b => some (cmpNat a b)
  | _, _ => none

/-- Python list comparison: the first differing pair decides (TypeError if its types differ),
    a proper prefix is smaller -/
def cmpKey : List Tok → List Tok → Option Ordering
  | [], [] => some .eq
  | [], _ :: _ => some .lt
  | _ :: _, [] => some .gt
  | a :: as, b :: bs =>
    if a = b then cmpKey as bs else cmpTok a b

/-- `key a <= key b` as used by the (stable) sort; a TypeError is reported as `false` here and excluded by
    theorem `natural_key_no_type_error` -/
def keyLe (a b : String) : Bool :=
  match cmpKey (naturalKey a) (naturalKey b) with
  | some .gt => false
  | some _ => true
  | none => false

/-- order in which `merge_files` visits the part files (`list.sort` is stable) -/
def mergeOrder (names : List String) : List String := isort keyLe names

/-- number of leading lines that start with `#`: the header test BY CONTENT of the tree before the repair
    (`while f.readline().startswith("#")`) -/
def headerCount : List String → Nat
  | [] => 0
  | l :: ls => if l.startsWith "#" then headerCount ls + 1 else 0

/-- `merge_files` of the tree BEFORE the repair `fix_merge_header`: every leading line of a part that starts with `#`
    counted as a header line - also a record whose first field (read id, feature id, contig name) starts with `#` -/
def mergeFilesOrig (fs : String → Option (List String)) (names : List String) (copyHeader : Bool) : List String :=
  let rec go : List String → Nat → List String
    | [], _ => []
    | n :: ns, i =>
      match fs n with
      | none => go ns (i + 1)
      | some ls => (if copyHeader && i == 0 then ls else ls.drop (headerCount ls)) ++ go ns (i + 1)
  go (mergeOrder names) 0

/-- `merge_files(file_name, label, chr_ids, handler, copy_header, header_lines)`: concatenate the existing parts in
    natural order; the first `header_lines` lines of part `i` (the number of lines the WRITER of the parts puts before
    the first record, given by the caller) are kept only when `copy_header` and `i = 0` (index in the *sorted* list,
    also when that file does not exist); `f.readline()` at the end of a short file reads nothing (`List.drop`) -/
def mergeFiles (fs : String → Option (List String)) (names : List String) (copyHeader : Bool) (headerLines : Nat) :
    List String :=
  let rec go : List String → Nat → List String
    | [], _ => []
    | n :: ns, i =>
      match fs n with
      | none => go ns (i + 1)
      | some ls => (if copyHeader && i == 0 then ls else ls.drop headerLines) ++ go ns (i + 1)
  go (mergeOrder names) 0

/-- `rreplace(fname, label, label_chr)` for a file name `pre ++ label ++ suf` whose last occurrence of the
    label is the intended one -/
def partName (pre label suf chr : String) : String := pre ++ label ++ "_" ++ chr ++ suf

/-! ## §3 worker state and the two per-chromosome tasks -/

/-- the process-wide state listed in `Gen/SharedState.shared_state_inventory` -/
structure WState where
  assignCtr : Nat := 0            -- ReadAssignment.assignment_id_generator.value
  featCtr : Nat := 0              -- FeatureInfo.feature_id_counter.value
  detected : List String := []    -- GraphBasedModelConstructor.detected_known_isoforms (and, since fix b2b4dd9,
                                  -- .reported_novel_chains: same reset and filter mechanics, disjoint key space)
  dupCtr : Nat := 0               -- MultimapResolver.duplicate_counter (parent process only)
  deriving Repr, DecidableEq

/-- one alignment as the assigner sees it: everything except the running id is a function of the inputs -/
structure ReadRec where
  readId : String
  payload : Nat                   -- abstract: gene / isoform / type / exons ...
  deriving Repr, DecidableEq

/-- one `GeneInfo` + its reads as produced by `AlignmentCollector.process` -/
structure Block where
  nFeatures : Nat                 -- FeatureInfo objects created when the GeneInfo is built
  reads : List ReadRec
  known : List String             -- reference isoforms that pass the reporting thresholds in this block
  nAssign2 : Nat := 0             -- ReadAssignment objects created while models are constructed (ids never used)
  deriving Repr, DecidableEq

structure Chr where
  name : String
  blocks : List Block
  deriving Repr, DecidableEq

/-- ids `ctr+1, ctr+2, …` for the reads of one block -/
def numberReads (ctr : Nat) : List ReadRec → List (Nat × ReadRec)
  | [] => []
  | r :: rs => (ctr + 1, r) :: numberReads (ctr + 1) rs

/-- blocks of the save file of one chromosome: reads with their assignment ids -/
abbrev SaveFile := List (Block × List (Nat × ReadRec))

def collectBlocks : WState → List Block → SaveFile × WState
  | st, [] => ([], st)
  | st, b :: bs =>
    let ids := numberReads st.assignCtr b.reads
    let st1 := { st with assignCtr := st.assignCtr + b.reads.length, featCtr := st.featCtr + b.nFeatures }
    let rest := collectBlocks st1 bs
    ((b, ids) :: rest.1, rest.2)

/-- `collect_reads_in_parallel` -/
def collectTask (st : WState) (c : Chr) : SaveFile × WState := collectBlocks st c.blocks

/-- a resolved multimapper record handed to the second pool: (read id, chromosome, assignment id, verdict);
    verdict `none` = suspended, `some p` = kept with the (possibly changed) payload `p` -/
structure MMRec where
  readId : String
  chr : String
  aid : Nat
  verdict : Option Nat
  deriving Repr, DecidableEq

/-- `ReadAssignmentLoader.get_next` for one stored read: look the read up in the multimapper table of this
    chromosome; the *last* record with the same assignment id and chromosome wins -/
def matchOne (chr : String) (mm : List MMRec) (aid : Nat) (r : ReadRec) : Option (Option ReadRec) :=
  let cands := mm.filter (fun a => a.readId == r.readId)
  if cands.isEmpty then some (some r)          -- not a multimapper: kept as is
  else
    match (cands.filter (fun a => a.aid == aid && a.chr == chr)).getLast? with
    | none => some none                        -- "Incomplete information on read": dropped
    | some a =>
      match a.verdict with
      | none => some none                      -- suspended: dropped
      | some p => some (some { r with payload := p })

def loadBlock (chr : String) (mm : List MMRec) (ids : List (Nat × ReadRec)) : List ReadRec :=
  ids.filterMap (fun (aid, r) => (matchOne chr mm aid r).join)

/-- report the known isoforms of one block that were not reported before -/
def reportKnown : List String → List String → List String × List String
  | det, [] => ([], det)
  | det, t :: ts =>
    if det.contains t then reportKnown det ts
    else
      let rest := reportKnown (t :: det) ts
      (t :: rest.1, rest.2)

/-- per-chromosome output lines of the second pool: reads after multimapper resolution + reported known isoforms -/
structure ChrOut where
  reads : List ReadRec
  transcripts : List String
  deriving Repr, DecidableEq

def constructBlocks (chr : String) (mm : List MMRec) : WState → SaveFile → ChrOut × WState
  | st, [] => ({ reads := [], transcripts := [] }, st)
  | st, (b, ids) :: bs =>
    let rd := loadBlock chr mm ids
    let rep := reportKnown st.detected b.known
    let st1 := { st with assignCtr := st.assignCtr + b.nAssign2, featCtr := st.featCtr + b.nFeatures, detected := rep.2 }
    let rest := constructBlocks chr mm st1 bs
    ({ reads := rd ++ rest.1.reads, transcripts := rep.1 ++ rest.1.transcripts }, rest.2)

/-- input of one task of the second pool -/
structure Task2 where
  name : String
  save : SaveFile
  mm : List MMRec

/-- `construct_models_in_parallel` after /repo commit 42b6bc8: the set of reported isoforms is cleared first -/
def constructTask (st : WState) (t : Task2) : ChrOut × WState :=
  constructBlocks t.name t.mm { st with detected := [] } t.save

/-- the same before the reset was added (kept for the witness) -/
def constructTaskNoReset (st : WState) (t : Task2) : ChrOut × WState :=
  constructBlocks t.name t.mm st t.save

def allRecs (names : List String) (saves : List SaveFile) : List (String × Nat × ReadRec) :=
  (names.zip saves).flatMap (fun (n, sv) => sv.flatMap (fun (_, ids) => ids.map (fun (aid, r) => (n, aid, r))))

def readIdsInOrder : List (String × Nat × ReadRec) → List String → List String
  | [], _ => []
  | (_, _, r) :: rest, seen =>
    if seen.contains r.readId then readIdsInOrder rest seen else r.readId :: readIdsInOrder rest (r.readId :: seen)

/-- parent side: the multimapper table from the save files (in submission order).  `resolve` is the
    multimapper resolver (C08) seen as a function from the alignments of one read `(chr, payload)` to verdicts;
    it never sees the assignment ids. -/
def mmTable (resolve : List (String × Nat) → List (Option Nat)) (recs : List (String × Nat × ReadRec)) : List MMRec :=
  (readIdsInOrder recs []).flatMap (fun rid =>
    let grp := recs.filter (fun x => x.2.2.readId == rid)
    if grp.length ≤ 1 then []
    else
      let vs := resolve (grp.map (fun x => (x.1, x.2.2.payload)))
      (grp.zip vs).map (fun (x, v) => { readId := rid, chr := x.1, aid := x.2.1, verdict := v }))

def tasks2 (resolve : List (String × Nat) → List (Option Nat)) (chrs : List Chr) (saves : List SaveFile) : List Task2 :=
  let names := chrs.map (·.name)
  let mm := mmTable resolve (allRecs names saves)
  (names.zip saves).map (fun (n, sv) => ({ name := n, save := sv, mm := mm.filter (fun a => a.chr == n) } : Task2))

/-- the whole sample: pool 1 under schedule `s1`, parent glue, pool 2 under `s2`, merged output in the order
    of `order` (a permutation of the task indices: the natural order of the part-file names).
    `none` when a schedule leaves a task out. -/
def pipeline (resolve : List (String × Nat) → List (Option Nat)) (chrs : List Chr)
    (st1 : Nat → WState) (s1 : List Event) (st2 : Nat → WState) (s2 : List Event) (order : List Nat) :
    Option (List ChrOut) :=
  match (poolMap collectTask chrs st1 s1).mapM id with
  | none => none
  | some saves =>
    match (poolMap constructTask (tasks2 resolve chrs saves) st2 s2).mapM id with
    | none => none
    | some outs => order.mapM (fun i => outs[i]?)

/-! ## §4 set-iteration sites (the argument list is the iteration order of the set) -/

def sortStr (l : List String) : List String := isort (fun a b => decide (a ≤ b)) l

/-- `",".join(self.gene_ids)` of `FeatureInfo.to_str` after /repo commit fc708be (`sorted(gene_ids)`) -/
def geneIdsColumn (iter : List String) : String := ",".intercalate (sortStr iter)
/-- before: `list(gene_ids)` -/
def geneIdsColumnBuggy (iter : List String) : String := ",".intercalate iter

/-- `BasicReadAssignment.isoforms` after /repo commit 3186289 and the tie-break comparison of
    `select_noninformative` on it -/
def isoformsKey (iter : List String) : List String := sortStr iter
def isoformsKeyBuggy (iter : List String) : List String := iter

/-- `AssignedFeatureCounter.__init__`: group → numeric id, and the label printed for a numeric id -/
def groupNumbering (iter : List String) : List (String × Nat) := (sortStr iter).zipIdx
/-- before /repo commit b707b14 (`enumerate(read_groups)` over the set, labels from the sorted list) -/
def groupNumberingBuggy (iter : List String) : List (String × Nat) := iter.zipIdx
def linearLabel (numbering : List (String × Nat)) (ordered : List String) (g : String) : Option String :=
  match numbering.lookup g with
  | none => none
  | some i => ordered[i]?

/-- `gene_counts[g_id] += 1` on an insertion-ordered dict -/
def bumpCount : List (String × Nat) → String → List (String × Nat)
  | [], g => [(g, 1)]
  | (k, v) :: rest, g => if k == g then (k, v + 1) :: rest else (k, v) :: bumpCount rest g

/-- `GraphBasedModelConstructor.select_reference_gene`: `iter` lists, per intron of the transcript that some gene
    owns, the iteration order of the set `intron_genes[intron]`; the dict is filled in that order -/
def geneCounts (iter : List (List String)) : List (String × Nat) := iter.flatten.foldl bumpCount []

/-- `sorted(gene_counts.items(), key=lambda x: (x[1], x[0]), reverse=True)`: `a` may stay before `b` -/
def refGeneBefore (a b : String × Nat) : Bool := decide (b.2 < a.2) || (a.2 == b.2 && decide (b.1 ≤ a.1))
/-- with the gene id dropped from the key (stable sort: ties keep the dict order) -/
def refGeneBeforeBuggy (a b : String × Nat) : Bool := decide (b.2 ≤ a.2)

def selectReferenceGene (iter : List (List String)) (strandOk : String → Bool) : Option String :=
  ((isort refGeneBefore (geneCounts iter)).find? (fun p => strandOk p.1)).map (·.1)
def selectReferenceGeneBuggy (iter : List (List String)) (strandOk : String → Bool) : Option String :=
  ((isort refGeneBeforeBuggy (geneCounts iter)).find? (fun p => strandOk p.1)).map (·.1)

def dedup : List String → List String
  | [] => []
  | x :: xs => if xs.contains x then dedup xs else x :: dedup xs

/-- read groups: per-chromosome set → `_groups` file (iteration order 1) → union in the parent → `_info` file
    (iteration order 2) → `set` → `sorted`: the header of every grouped table.  `perm2` re-orders the union. -/
def groupsHeader (perChrIter : List (List String)) (perm2 : List String → List String) : List String :=
  sortStr (dedup (perm2 (dedup perChrIter.flatten)))

/-! ## §5 multimapper bookkeeping: default vs --high_memory (`DatasetProcessor.collect_reads`) -/

/-- a `BasicReadAssignment` as far as the bookkeeping looks at it -/
structure BRec where
  readId : String
  chr : String
  polyA : Bool
  suspended : Bool        -- assignment_type == suspended (only the resolver sets it)
  tag : Nat               -- the rest
  deriving Repr, DecidableEq

/-- dict `read_id → [records]`: keys in the order of their first occurrence, every list in encounter order -/
def groupByRead : List BRec → List (String × List BRec)
  | [] => []
  | r :: rest =>
    (r.readId, r :: rest.filter (fun x => x.readId == r.readId))
      :: groupByRead (rest.filter (fun x => !(x.readId == r.readId)))
termination_by l => l.length
decreasing_by
  simp only [List.length_cons, List.length_unattach]
  exact Nat.lt_succ_of_le (Nat.le_trans (List.length_filter_le _ _) (by simp))

def keptCount (l : List BRec) : Nat := (l.filter (fun a => !a.suspended)).length
def keptPolyA (l : List BRec) : Nat := ((l.filter (fun a => !a.suspended)).filter (·.polyA)).length

/-- `resolve_multimappers`: lists longer than 1 are resolved and written to the per-chromosome tables (in dict
    order); every non-suspended record counts (returns table, total, polyA total) -/
def resolveAll (resolve : List BRec → List BRec) : List (String × List BRec) → List BRec × Nat × Nat
  | [] => ([], 0, 0)
  | g :: gs =>
    let rest := resolveAll resolve gs
    if g.2.length > 1 then
      let l := resolve g.2
      (l ++ rest.1, keptCount l + rest.2.1, keptPolyA l + rest.2.2)
    else
      (rest.1, keptCount g.2 + rest.2.1, keptPolyA g.2 + rest.2.2)

/-- high-memory mode: all records kept in memory -/
def bookkeepingHigh (resolve : List BRec → List BRec) (recs : List BRec) : List BRec × Nat × Nat :=
  resolveAll resolve (groupByRead recs)

def countId (recs : List BRec) (rid : String) : Nat := (recs.filter (fun x => x.readId == rid)).length

/-- default: only read ids are kept; `prepare_multimapper_dict` re-reads the save files, counts the unique reads
    directly and groups the others -/
def bookkeepingLow (resolve : List BRec → List BRec) (recs : List BRec) : List BRec × Nat × Nat :=
  let uniq := recs.filter (fun r => countId recs r.readId == 1)
  let multi := recs.filter (fun r => !(countId recs r.readId == 1))
  let res := resolveAll resolve (groupByRead multi)
  (res.1, res.2.1 + uniq.length, res.2.2 + (uniq.filter (·.polyA)).length)

end IsoVerif.Model.C06
