/-
C16 — executable model of the CIGAR walk of /repo/src/common.py (`get_read_blocks`, `correct_bam_coords`,
`concat_gapless_blocks`) and the declarative SAM-semantics specification it is proved equal to.
Core Lean only.

`get_read_blocks(ref_start, cigar_tuples)` is a `while` over the CIGAR with the locals
`read_pos, ref_pos, cigar_index, current_ref_block_start, current_read_block_start,
current_cigar_block_start, has_match` and three output lists.  The model is a left fold (`List.foldl step`)
over the operations whose state holds exactly these locals (the three `current_*_start` variables are always
assigned together, so they are one `Option` triple) followed by the flush after the loop (`finish`).

Faithfulness notes
* `if current_ref_block_start:` is a *truthiness* test in the code: a block that started at reference
  coordinate 0 is not closed by `N`/`S` (and not flushed at the end).  The model keeps this (`truthy`).
  `ref_pos = ref_start + 1 ≥ 1` for `ref_start ≥ 0`, so it matters only for `ref_start = -1`
  (see `Props/C16.lean`, `truthiness_corner_witness`).
* operation classes are the *generated* lists `cigar_match_events`, `cigar_ins_del_match_events`
  (IsoVerif/Gen/CigarClasses.lean); the specification uses its own SAM tables (`consumesRef`, `consumesQuery`,
  `isAligned`).
* `CigarEvent(code)` raises `ValueError` for codes > 8: decoding happens in the driver (`none` = error).
-/
import IsoVerif.Gen.Enums
import IsoVerif.Gen.CigarClasses
import IsoVerif.Gen.Prims

namespace IsoVerif.Model.C16
open IsoVerif.Gen IsoVerif.Model

/-- one CIGAR operation: (kind, length) -/
abbrev CigarOp := CigarEvent × Int

/-! ### the code: `get_read_blocks` -/

structure RBState where
  readPos : Int
  refPos : Int
  idx : Int
  /-- `(current_ref_block_start, current_read_block_start, current_cigar_block_start)`; `none` = `None` -/
  cur : Option (Int × Int × Int)
  hasMatch : Bool
  refBlocks : List Iv
  readBlocks : List Iv
  cigarBlocks : List Iv
  deriving Repr, DecidableEq

def rbInit (refStart : Int) : RBState :=
  { readPos := 0, refPos := refStart + 1, idx := 0, cur := none, hasMatch := false,
    refBlocks := [], readBlocks := [], cigarBlocks := [] }

/-- Python truthiness of `current_ref_block_start` (`None` and `0` are falsy) -/
def truthy : Option (Int × Int × Int) → Bool
  | none => false
  | some (b, _, _) => b != 0

/-- the three `append`s -/
def pushBlock (st : RBState) : RBState :=
  match st.cur with
  | none => st
  | some (b, rb, cb) =>
    { st with refBlocks := st.refBlocks ++ [(b, st.refPos - 1)],
              readBlocks := st.readBlocks ++ [(rb, st.readPos - 1)],
              cigarBlocks := st.cigarBlocks ++ [(cb, st.idx - 1)] }

/-- common body of the `skipped` and `soft_clipping` branches -/
def closeBlock (st : RBState) : RBState :=
  if truthy st.cur then
    let st1 := if st.hasMatch then pushBlock st else st
    { st1 with hasMatch := false, cur := none }
  else st

/-- one iteration of the `while` loop (without `cigar_index += 1`) -/
def stepBody (st : RBState) (op : CigarOp) : RBState :=
  if st.cur.isNone && op.1.in_cigar_ins_del_match_events then
    let st1 := { st with cur := some (st.refPos, st.readPos, st.idx) }
    if op.1 = CigarEvent.insertion then { st1 with readPos := st1.readPos + op.2 }
    else if op.1 = CigarEvent.deletion then { st1 with refPos := st1.refPos + op.2 }
    else { st1 with readPos := st1.readPos + op.2, refPos := st1.refPos + op.2, hasMatch := true }
  else if op.1.in_cigar_match_events then
    { st with readPos := st.readPos + op.2, refPos := st.refPos + op.2, hasMatch := true }
  else if op.1 = CigarEvent.insertion then { st with readPos := st.readPos + op.2 }
  else if op.1 = CigarEvent.deletion then { st with refPos := st.refPos + op.2 }
  else if op.1 = CigarEvent.skipped then
    let st1 := closeBlock st
    { st1 with refPos := st1.refPos + op.2 }
  else if op.1 = CigarEvent.soft_clipping then
    let st1 := closeBlock st
    { st1 with readPos := st1.readPos + op.2 }
  else st

def step (st : RBState) (op : CigarOp) : RBState :=
  let st1 := stepBody st op
  { st1 with idx := st1.idx + 1 }

/-- the flush after the loop -/
def finish (st : RBState) : RBState :=
  if truthy st.cur && st.hasMatch then pushBlock st else st

/-- `get_read_blocks(ref_start, cigar_tuples)`; the result's `refBlocks, readBlocks, cigarBlocks` are the
    returned triple -/
def getReadBlocks (refStart : Int) (ops : List CigarOp) : RBState :=
  finish (ops.foldl step (rbInit refStart))

/-- `correct_bam_coords` -/
def correctBamCoords (blocks : List Iv) : List Iv := blocks.map (fun x => (x.1 + 1, x.2))

/-! ### the specification (SAM semantics; no loop locals)

The CIGAR is cut at every `N` and `S` into *segments* (maximal runs without `N`/`S`); `cuts ops` lists each
segment together with the operations that precede it (`cuts_are_maximal_runs` in Props/C16.lean characterises it as
"all maximal separator-free runs").  A segment that contains an aligned base (`M`, `=`, `X`) is an exon that
starts right after the reference bases consumed by everything before it and spans the reference bases the
segment consumes. -/

/-- `N` and `S` end an exon -/
def isSep (k : CigarEvent) : Bool := k == .skipped || k == .soft_clipping
/-- SAM: operations that consume reference bases -/
def consumesRef (k : CigarEvent) : Bool :=
  k == .«match» || k == .seq_match || k == .seq_mismatch || k == .deletion || k == .skipped
/-- SAM: operations that consume query bases -/
def consumesQuery (k : CigarEvent) : Bool :=
  k == .«match» || k == .seq_match || k == .seq_mismatch || k == .insertion || k == .soft_clipping
/-- aligned base -/
def isAligned (k : CigarEvent) : Bool := k == .«match» || k == .seq_match || k == .seq_mismatch
/-- operations that belong to an alignment block (`M = X I D`); `H`/`P` are transparent -/
def isBlockOp (k : CigarEvent) : Bool := isAligned k || k == .insertion || k == .deletion

/-- reference bases consumed by a list of operations -/
def refLen (ops : List CigarOp) : Int := (ops.map (fun o => if consumesRef o.1 then o.2 else 0)).sum
/-- query bases consumed by a list of operations -/
def queryLen (ops : List CigarOp) : Int := (ops.map (fun o => if consumesQuery o.1 then o.2 else 0)).sum

/-- `(pre, seg)` for every maximal `N`/`S`-free run `seg` of the CIGAR, `pre` = everything before it -/
def cutsAux (pre seg : List CigarOp) : List CigarOp → List (List CigarOp × List CigarOp)
  | [] => [(pre, seg)]
  | op :: rest =>
    if isSep op.1 then (pre, seg) :: cutsAux (pre ++ seg ++ [op]) [] rest
    else cutsAux pre (seg ++ [op]) rest

def cuts (ops : List CigarOp) : List (List CigarOp × List CigarOp) := cutsAux [] [] ops

def hasAligned (seg : List CigarOp) : Bool := seg.any (fun o => isAligned o.1)

/-- exon (1-based, closed) of a segment, if it has read support -/
def exonOf (refStart : Int) (c : List CigarOp × List CigarOp) : Option Iv :=
  if hasAligned c.2 then some (refStart + 1 + refLen c.1, refStart + refLen c.1 + refLen c.2) else none

/-- query interval (0-based, closed; soft-clipped bases are counted, hard-clipped are not) of a segment -/
def queryBlockOf (c : List CigarOp × List CigarOp) : Option Iv :=
  if hasAligned c.2 then some (queryLen c.1, queryLen c.1 + queryLen c.2 - 1) else none

/-- CIGAR index interval of a segment: from its first `M = X I D` operation to its last operation -/
def cigarBlockOf (c : List CigarOp × List CigarOp) : Option Iv :=
  if hasAligned c.2 then
    some ((c.1.length : Int) + (c.2.findIdx (fun o => isBlockOp o.1) : Nat), (c.1.length : Int) + c.2.length - 1)
  else none

def exonsSpec (refStart : Int) (ops : List CigarOp) : List Iv := (cuts ops).filterMap (exonOf refStart)
def queryBlocksSpec (ops : List CigarOp) : List Iv := (cuts ops).filterMap queryBlockOf
def cigarBlocksSpec (ops : List CigarOp) : List Iv := (cuts ops).filterMap cigarBlockOf

/-! ### pysam's `get_blocks()` / `reference_end` (SAM walk of the aligned operations only), used to tie the
exons to the match-only projection -/

/-- `AlignedSegment.get_blocks()`: one 0-based half-open block per `M`/`=`/`X` operation -/
def alignedBlocksAux (pos : Int) : List CigarOp → List Iv
  | [] => []
  | op :: rest =>
    if isAligned op.1 then (pos, pos + op.2) :: alignedBlocksAux (pos + op.2) rest
    else if consumesRef op.1 then alignedBlocksAux (pos + op.2) rest
    else alignedBlocksAux pos rest

def alignedBlocks (refStart : Int) (ops : List CigarOp) : List Iv := alignedBlocksAux refStart ops

/-- `AlignedSegment.reference_end` (0-based, exclusive); htslib's `bam_endpos` reports `pos + 1` for a CIGAR
    that consumes no reference base -/
def referenceEnd (refStart : Int) (ops : List CigarOp) : Int :=
  if refLen ops = 0 then refStart + 1 else refStart + refLen ops

/-! ### `concat_gapless_blocks(blocks, cigar_tuples)`

`blocks` are pysam `get_blocks()` (one per aligned operation).  Locals: `cigar_index` (implicit in the
recursion), `block_index` (the remaining `blocks`), `current_block`, `deletions_before_block`,
`resulting_blocks`.  The loop stops when either list is exhausted. -/

def concatGaplessAux (cur : Option Iv) (delBefore : Int) (res : List Iv) :
    List CigarOp → List Iv → List Iv × Option Iv
  | [], _ => (res, cur)
  | _ :: _, [] => (res, cur)
  | op :: ops, b :: bs =>
    match cur with
    | none =>
      if op.1.in_cigar_match_events then concatGaplessAux (some (b.1 - delBefore, b.2)) 0 res ops bs
      else if op.1 = CigarEvent.deletion then concatGaplessAux none op.2 res ops (b :: bs)
      else concatGaplessAux none delBefore res ops (b :: bs)
    | some c =>
      if op.1 = CigarEvent.skipped then concatGaplessAux none delBefore (res ++ [c]) ops (b :: bs)
      else if op.1 = CigarEvent.deletion then concatGaplessAux (some (c.1, c.2 + op.2)) delBefore res ops (b :: bs)
      else if op.1.in_cigar_match_events then concatGaplessAux (some (c.1, b.2)) delBefore res ops bs
      else concatGaplessAux (some c) delBefore res ops (b :: bs)

def concatGaplessBlocks (blocks : List Iv) (ops : List CigarOp) : List Iv :=
  match concatGaplessAux none 0 [] ops blocks with
  | (res, some c) => res ++ [c]
  | (res, none) => res

end IsoVerif.Model.C16
