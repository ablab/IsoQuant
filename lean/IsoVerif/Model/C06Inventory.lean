/-
C06 — the hand-written "handled" tables against which the inventories regenerated from /repo
(`Gen/SharedState.lean`, `Gen/SetSites.lean`) are checked in `Props/C06Inventory.lean`.
Every entry names the argument (a theorem of Props/C06 or a reading recorded in docs/C06.md) by which the
per-chromosome output does not depend on that piece of state / on that iteration order.
A new entry in a regenerated inventory has no line here, the proof fails, the obligation is open again.
Core Lean only.
-/
import IsoVerif.Gen.SharedState
import IsoVerif.Gen.SetSites

namespace IsoVerif.Model.C06Inv

/-- why a piece of process-wide state cannot influence an output file -/
inductive StateArg where
  | equalityOnlyWithinChromosome   -- `assignment_id_renumbering_invariant`, `collect_ids_shift`
  | neverRead                      -- `feature_id_counter_unread` (+ generated `feature_info_readers`)
  | resetPerTask                   -- `construct_state_independent` (reset at task start, /repo 42b6bc8)
  | logOnlyParentOnly              -- `duplicate_counter_log_only`
  deriving DecidableEq, Repr

def handled_state : List (String × StateArg) := [
  ("ReadAssignment.assignment_id_generator", .equalityOnlyWithinChromosome),
  ("FeatureInfo.feature_id_counter", .neverRead),
  ("GraphBasedModelConstructor.detected_known_isoforms", .resetPerTask),
  -- added by fix b2b4dd9 (C04): keys (strand, intron chain) of the novel models already reported on this chromosome; the
  -- same mechanics as `detected_known_isoforms` (a class-level set, cleared at the top of every chromosome task,
  -- filtered against and extended block by block).  In Model/Schedule.lean both sets are the ONE list `WState.detected`
  -- over the disjoint union of the two key spaces (isoform ids / chain keys), `Block.known` = the keys a block reports
  ("GraphBasedModelConstructor.reported_novel_chains", .resetPerTask),
  ("MultimapResolver.duplicate_counter", .logOnlyParentOnly)]

/-- fields of the `args` namespace assigned after start-up.  All assignments happen in the parent before a pool
    is created (`DatasetProcessor.__init__`, `process_sample`, `isoquant.py` set-up); workers receive a pickled
    copy with every task, so within one experiment they are constants of the run (their behaviour *across*
    experiments is C10) -/
def handled_args_fields : List String := [
  "fai_file_name", "gunzipped_reference", "junc_bed_file", "output_exists", "reference",
  "gzi_file_name",     -- (/repo 8f3abaa) set next to fai_file_name in DatasetProcessor.__init__, before any pool exists
  "require_monoexonic_polya", "require_monointronic_polya", "requires_polya_for_construction",
  "use_technical_replicas",
  -- assigned by `process_sample` of a run restarted with --read_assignments only (repair of audit 2-C GAP 1-4): the
  -- command-line value kept in `requested_read_group`, else the grouping mode stored in the experiment's `_info` file
  "read_group"]

/-- why the iteration order of a set cannot reach an output file -/
inductive IterArg where
  | modelled          -- a `hash_independent_…` theorem of Props/C06
  | sortedAfter       -- the result is passed to `sorted` before it is used
  | sortedBefore      -- the expression is a sorted list at that point (the scan is flow-insensitive)
  | quantifier        -- all / any / membership / len: order-free
  | commutative       -- the loop body only adds to sets / per-key counters, or removes the element itself
  | intKeys           -- elements are ints or tuples of ints: CPython hashes them without the seed, the order is a
                      -- function of the (deterministic) insertion history only
  | singleton         -- `list(s)[0]` on a set of one element
  | debugOnly         -- feeds logger.debug only
  deriving DecidableEq, Repr

def handled_set_sites : List (String × IterArg) := [
  ("src.dataset_processor:DatasetProcessor.collect_reads:list:all_read_groups", .modelled),
  ("src.dataset_processor:collect_reads_in_parallel:for:read_grouper.read_groups", .modelled),
  ("src.gene_info:GeneInfo.from_models:list:exons", .sortedAfter),
  ("src.gene_info:GeneInfo.from_models:list:introns", .sortedAfter),
  ("src.gene_info:GeneInfo.set_introns_and_exons:list:exons", .sortedAfter),
  ("src.gene_info:GeneInfo.set_introns_and_exons:list:introns", .sortedAfter),
  ("src.graph_based_model_construction:GraphBasedModelConstructor.collect_terminal_exons_from_graph:for:self.intron_graph.incoming_edges[intron]", .intKeys),
  ("src.graph_based_model_construction:GraphBasedModelConstructor.collect_terminal_exons_from_graph:for:self.intron_graph.outgoing_edges[intron]", .intKeys),
  ("src.graph_based_model_construction:GraphBasedModelConstructor.correct_novel_transcript_ends:for:read_starts", .sortedBefore),
  ("src.graph_based_model_construction:GraphBasedModelConstructor.select_reference_gene:for:self.intron_genes[intron] => sorted(gene_counts.items(), key=lambda x: (x[1], x[0]), reverse=True)", .modelled),
  ("src.intron_graph:IntronCollector.simplify_correction_map:for:to_remove", .intKeys),
  ("src.intron_graph:IntronGraph.attach_transcpt_ends:comp:self.incoming_edges[intron]", .intKeys),
  ("src.intron_graph:IntronGraph.attach_transcpt_ends:comp:self.outgoing_edges[intron]", .intKeys),
  ("src.intron_graph:IntronGraph.clean_tips_and_bulges:for:to_remove", .intKeys),
  ("src.intron_graph:IntronGraph.collapse_vertex:for:self.incoming_edges[to_collapse]", .intKeys),
  ("src.intron_graph:IntronGraph.collapse_vertex:for:self.outgoing_edges[to_collapse]", .intKeys),
  ("src.intron_graph:IntronGraph.get_connected_component:for:self.incoming_edges[intron]", .intKeys),
  ("src.intron_graph:IntronGraph.get_connected_component:for:self.outgoing_edges[intron]", .intKeys),
  ("src.intron_graph:IntronGraph.get_incoming:for:self.incoming_edges[intron] => sorted(res)", .intKeys),
  ("src.intron_graph:IntronGraph.get_outgoing:for:self.outgoing_edges[intron] => sorted(res)", .intKeys),
  ("src.intron_graph:IntronGraph.get_overlapping_component_max_coverage:comp:processed_introns", .intKeys),
  ("src.intron_graph:IntronGraph.get_overlapping_component_max_coverage:for:all_vertices => for:processed_introns ; max((self.intron_collector.clustered_introns[i] for i in processed_introns))", .intKeys),
  ("src.intron_graph:IntronGraph.get_overlapping_component_max_coverage:for:self.incoming_edges[intron]", .intKeys),
  ("src.intron_graph:IntronGraph.get_overlapping_component_max_coverage:for:self.outgoing_edges[intron]", .intKeys),
  ("src.intron_graph:IntronGraph.is_end_internal:for:self.outgoing_edges[intron]", .intKeys),
  ("src.intron_graph:IntronGraph.is_monointron:comp:self.incoming_edges[v]", .intKeys),
  ("src.intron_graph:IntronGraph.is_monointron:comp:self.outgoing_edges[v]", .intKeys),
  ("src.intron_graph:IntronGraph.is_start_internal:for:self.incoming_edges[intron]", .intKeys),
  ("src.intron_graph:IntronGraph.print_graph:comp:self.incoming_edges[intron]", .debugOnly),
  ("src.intron_graph:IntronGraph.print_graph:comp:self.outgoing_edges[intron]", .debugOnly),
  ("src.intron_graph:IntronGraph.remove_isolates:for:isolated", .intKeys),
  ("src.intron_graph:IntronGraph.remove_isolates:for:to_remove", .intKeys),
  ("src.intron_graph:IntronGraph.remove_singleton_dead_ends:comp:self.incoming_edges[current_intron]", .intKeys),
  ("src.intron_graph:IntronGraph.remove_singleton_dead_ends:comp:self.outgoing_edges[current_intron]", .intKeys),
  ("src.intron_graph:IntronGraph.signleton_dead_end:list:self.outgoing_edges[v]", .intKeys),
  ("src.intron_graph:IntronGraph.signleton_dead_start:list:self.incoming_edges[v]", .intKeys),
  ("src.long_read_assigner:LongReadAssigner.classify_assignment:comp:all_event_types", .quantifier),
  ("src.long_read_counter:AssignedFeatureCounter.add_read_info:for:feature_ids", .commutative),
  ("src.long_read_counter:AssignedFeatureCounter.add_read_info:list:feature_ids", .singleton),
  ("src.long_read_counter:AssignedFeatureCounter.dump:filter:self.all_features", .sortedAfter),
  ("src.long_read_counter:AssignedFeatureCounter.dump_grouped:for:all_features", .sortedBefore),
  ("src.long_read_counter:AssignedFeatureCounter.dump_ungrouped:for:all_features", .sortedBefore)]

/-- run-dependent primitives.  `hash(path)` names the BAM that IsoQuant writes when it aligns FASTQ input itself
    (needs minimap2): an intermediate file under `aux/`, no output file contains it.
    `load_indexed_reference:uuid.uuid4` (after /repo commit eab0ef3) names the temporary file under which the FASTA index is
    built; the file is renamed to `<reference>.fai` before anything reads it and the name reaches no output.
    `gtf2db:uuid.uuid4` (repair of audit2 C20-G2, fix_db_built_atomically.patch) names the temporary file under which the
    annotation database is built; it is renamed to `<output>/<annotation>.db` before anything opens it, the name reaches no
    output (listed ahead of the commit: the obligation is a subset test) -/
def handled_nondeterminism : List String := ["src.dataset_processor:load_indexed_reference:uuid.uuid4", "src.gtf2db:gtf2db:uuid.uuid4", "src.read_mapper:align_fasta:hash"]

/-- readers of `.assignment_id`: copy / (de)serialise, and the equality test of the loader -/
def handled_assignment_id_readers : List String := [
  "src.dataset_processor:ReadAssignmentLoader.get_next",
  "src.isoform_assignment:BasicReadAssignment.__getstate__",
  "src.isoform_assignment:BasicReadAssignment.__init__",
  "src.isoform_assignment:BasicReadAssignment.serialize",
  "src.isoform_assignment:ReadAssignment.serialize"]

/-- functions that touch the FeatureInfo objects: they read chr/start/end/strand/type/gene_ids, never `.id`
    (after /repo commit a8ffd5c the rows are keyed by the feature itself) -/
def handled_feature_info_readers : List String := [
  "src.long_read_counter:ExonCounter.add_read_info",
  "src.long_read_counter:IntronCounter.add_read_info"]

def subsetB (a b : List String) : Bool := a.all (fun x => b.contains x)

/-- `a` is a subsequence of `b` (hence a subset): linear walk for the long tables, both of which are kept in
    the generator's sorted order -/
def subseqB : List String → List String → Bool
  | [], _ => true
  | _ :: _, [] => false
  | x :: xs, y :: ys => if x == y then subseqB xs ys else subseqB (x :: xs) ys

def unhandled (a b : List String) : List String := a.filter (fun x => !b.contains x)

end IsoVerif.Model.C06Inv
