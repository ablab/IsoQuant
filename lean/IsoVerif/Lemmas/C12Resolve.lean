/-
Helper lemmas for the end-to-end part of C12: what `MultimapResolver.resolve` keeps for one read, index-free
(`keptRecs` = the first record of every `__eq__`-class of `Winner` records); two `mapM` facts
(the verdict dictionaries themselves: Lemmas/C12Pipeline, part D).  Uses C08's theorems `candidates_eq` and `priority_candidates`.
-/
import IsoVerif.Model.Resolver
import IsoVerif.Lemmas.Resolver
import IsoVerif.Lemmas.ResolverSpec
import IsoVerif.Lemmas.ResolverFlow
import IsoVerif.Lemmas.C12Lists
import IsoVerif.Props.C08
import IsoVerif.Props.C08Flow

namespace IsoVerif.Lemmas.C12
open IsoVerif.Gen IsoVerif.Model.Resolver IsoVerif.Lemmas.Resolver IsoVerif.Lemmas.ResolverSpec
open IsoVerif.Lemmas.ResolverFlow IsoVerif.Props.C08 IsoVerif.Props.C08Flow
open List

/-- the records the statement of C08 says win, in list order -/
noncomputable def winnersR (l : List Rec) : List Rec :=
  open Classical in l.filter (fun r => decide (Winner l r))

noncomputable def keptRecs (l : List Rec) : List Rec := firstWins recEq (winnersR l)

/-- the indexed records `filter_assignments` keeps (`find_duplicates` of the candidates) -/
def keptI (l : List Rec) : List IRec :=
  match candidates l with
  | some cand => findDuplicates cand
  | none => []

theorem keptI_spec (l : List Rec) (h2 : 2 ≤ l.length) :
    resolve .take_best l = some (applyKeep l (keptI l)) ∧ (keptI l).Sublist l.zipIdx := by
  have hl : l ≠ [] := by intro h; simp [h] at h2
  obtain ⟨cand, hc, hsel, hsub, _⟩ := priority_candidates l hl
  simp only [keptI, hc]
  exact ⟨(resolve_take_best l h2).trans hsel, (firstWins_sublist _ cand).trans hsub⟩

theorem keptI_map_fst (l : List Rec) (hl : l ≠ []) (hread : ∀ a ∈ l, ∀ b ∈ l, a.readId = b.readId) :
    (keptI l).map Prod.fst = keptRecs l := by
  obtain ⟨_, hne, hA, hU⟩ := candidates_eq l hl
  have hfst : (winnersI l).map Prod.fst = winnersR l := by
    unfold winnersI winnersR; classical exact zipIdx_filter_map_fst l (fun r => decide (Winner l r))
  unfold keptRecs
  rw [← hfst]
  by_cases h : Has Cons l ∨ Has Inc l
  · simp only [keptI, hA h, findDuplicates]
    exact (firstWins_map Prod.fst _ recEq (fun _ _ => rfl) _).symm
  · obtain ⟨hc, hi⟩ := not_or.mp h
    obtain ⟨z, t, hw⟩ := List.exists_cons_of_ne_nil hne
    simp only [keptI, hU hc hi, findDuplicates, hw, List.take_succ_cons, List.take_zero, List.map_cons]
    rw [← firstWins_map Prod.fst _ recEq (fun _ _ => rfl), firstWins_all_eq]
    · rfl
    · -- all best uninformative records of one read are `__eq__`-equal
      intro y hy
      obtain ⟨y', hy', rfl⟩ := List.mem_map.mp hy
      have hzm := mem_winnersI.mp (hw ▸ List.mem_cons_self : z ∈ winnersI l)
      have hym := mem_winnersI.mp (hw ▸ List.mem_cons_of_mem _ hy' : y' ∈ winnersI l)
      have hz1 := List.fst_mem_of_mem_zipIdx hzm.1
      have hy1 := List.fst_mem_of_mem_zipIdx hym.1
      rw [recEq_iff]
      exact ⟨hread _ hz1 _ hy1, best_uninformative_unique hz1 hy1 (hzm.2.2.2.2.2 hc hi) (hym.2.2.2.2.2 hc hi)⟩

theorem mapM_option_eq_some {α β : Type} (f : α → Option β) (l : List α) (h : ∀ x ∈ l, ∃ y, f x = some y) :
    l.mapM f = some (l.filterMap f) := by
  induction l with
  | nil => rfl
  | cons x t ih =>
    obtain ⟨y, hy⟩ := h x (by simp)
    rw [List.mapM_cons, hy, ih (fun z hz => h z (List.mem_cons_of_mem _ hz))]
    simp [hy]

theorem mapM_option_eq_none {α β : Type} (f : α → Option β) (l : List α) (x : α) (hx : x ∈ l) (h : f x = none) :
    l.mapM f = none := by
  induction l with
  | nil => cases hx
  | cons y t ih =>
    rw [List.mapM_cons]
    rcases List.mem_cons.mp hx with rfl | hx
    · simp [h]
    · cases f y with
      | none => rfl
      | some v => simp [ih hx]

end IsoVerif.Lemmas.C12
