/-
Helper lemmas for C16: `move_ref_coord_alogn_alignment` against the base-by-base projection (Model/TailSpec.lean).
The walk after the `P` repair (`moveRefLoopFix`, Model/FinderPad.lean) is total and is the projection on every operation
list (`moveRefLoopFix_spec`); the walk before the repair (`moveRefLoop`, Model/PolyAFinder.lean) is that function behind
the guard "a `P` is met before the target base" (`moveRefLoop_eq_guard`, `moveRefCoord_eq_guard`), so what is known of the
repaired projection is known of the earlier one wherever it answers (both as relations: `moveRefCoordFix_some_iff`,
`moveRefCoord_some_iff`).
-/
import IsoVerif.Model.FinderPad
import IsoVerif.Lemmas.Cigar

namespace IsoVerif.Lemmas.C16
open IsoVerif.Gen IsoVerif.Model IsoVerif.Model.C16

theorem expand_nil : expand [] = [] := rfl

theorem expand_cons (o : CigarOp) (l : List CigarOp) :
    expand (o :: l) = List.replicate o.2.toNat (consumesQuery o.1, consumesRef o.1) ++ expand l := by
  simp [expand]

theorem refColsUpTo_rep_both (rest : List (Bool × Bool)) : ∀ (n q : Nat),
    refColsUpTo (List.replicate n (true, true) ++ rest) q = if q < n then q + 1 else n + refColsUpTo rest (q - n) := by
  intro n
  induction n with
  | zero => intro q; simp
  | succ n ih =>
    intro q
    cases q with
    | zero => simp [List.replicate_succ, refColsUpTo]
    | succ q =>
      simp only [List.replicate_succ, List.cons_append, refColsUpTo, ih q, Bool.toNat_true, Nat.add_sub_add_right]
      split <;> split <;> omega

theorem refColsUpTo_rep_qry (rest : List (Bool × Bool)) : ∀ (n q : Nat),
    refColsUpTo (List.replicate n (true, false) ++ rest) q = if q < n then 0 else refColsUpTo rest (q - n) := by
  intro n
  induction n with
  | zero => intro q; simp
  | succ n ih =>
    intro q
    cases q with
    | zero => simp [List.replicate_succ, refColsUpTo]
    | succ q =>
      simp only [List.replicate_succ, List.cons_append, refColsUpTo, ih q, Bool.toNat_false, Nat.add_sub_add_right]
      split <;> split <;> omega

theorem refColsUpTo_rep_ref (rest : List (Bool × Bool)) (q : Nat) : ∀ (n : Nat),
    refColsUpTo (List.replicate n (false, true) ++ rest) q = n + refColsUpTo rest q := by
  intro n
  induction n with
  | zero => simp
  | succ n ih => simp only [List.replicate_succ, List.cons_append, refColsUpTo, ih, Bool.toNat_true]; omega

theorem refColsUpTo_rep_none (rest : List (Bool × Bool)) (q : Nat) : ∀ (n : Nat),
    refColsUpTo (List.replicate n (false, false) ++ rest) q = refColsUpTo rest q := by
  intro n
  induction n with
  | zero => simp
  | succ n ih => simp only [List.replicate_succ, List.cons_append, refColsUpTo, ih, Bool.toNat_false]; omega

theorem rCount_cons (c : Bool × Bool) (l : List (Bool × Bool)) : rCount (c :: l) = c.2.toNat + rCount l := by
  obtain ⟨a, b⟩ := c
  cases b <;> simp [rCount] <;> omega

theorem qCount_cons (c : Bool × Bool) (l : List (Bool × Bool)) : qCount (c :: l) = c.1.toNat + qCount l := by
  obtain ⟨a, b⟩ := c
  cases a <;> simp [qCount] <;> omega

theorem qCount_eq_zero {l : List (Bool × Bool)} (h : ∀ m ∈ l, m.1 = false) : qCount l = 0 := by
  unfold qCount; rw [List.countP_eq_zero]; intro m hm; simp [h m hm]

/-- the executable walk over columns meets the declarative projection -/
theorem refColsUpTo_spec : ∀ (cols : List (Bool × Bool)) (q : Nat),
    (∃ pre c post, cols = pre ++ c :: post ∧ c.1 = true ∧ qCount pre = q ∧
        refColsUpTo cols q = rCount (pre ++ [c])) ∨
    (qCount cols ≤ q ∧ refColsUpTo cols q = rCount cols) := by
  intro cols
  induction cols with
  | nil => intro q; right; simp [qCount, rCount, refColsUpTo]
  | cons c cols ih =>
    intro q
    obtain ⟨a, b⟩ := c
    cases a with
    | true =>
      cases q with
      | zero =>
        left
        refine ⟨[], (true, b), cols, rfl, rfl, rfl, ?_⟩
        cases b <;> simp [refColsUpTo, rCount]
      | succ q =>
        rcases ih q with ⟨pre, c, post, h1, h2, h3, h4⟩ | ⟨h1, h2⟩
        · left
          refine ⟨(true, b) :: pre, c, post, by rw [h1]; rfl, h2, by rw [qCount_cons, h3]; simp; omega, ?_⟩
          simp only [refColsUpTo, h4, List.cons_append, rCount_cons]
        · right
          refine ⟨by rw [qCount_cons]; simp; omega, ?_⟩
          simp only [refColsUpTo, h2, rCount_cons]
    | false =>
      rcases ih q with ⟨pre, c, post, h1, h2, h3, h4⟩ | ⟨h1, h2⟩
      · left
        refine ⟨(false, b) :: pre, c, post, by rw [h1]; rfl, h2, by rw [qCount_cons, h3]; simp, ?_⟩
        simp only [refColsUpTo, h4, List.cons_append, rCount_cons]
      · right
        refine ⟨by rw [qCount_cons]; simpa using h1, ?_⟩
        simp only [refColsUpTo, h2, rCount_cons]

theorem projectsTo_refColsUpTo (cols : List (Bool × Bool)) (q : Nat) :
    ProjectsTo cols q ((refColsUpTo cols q : Int) - 1) := by
  rcases refColsUpTo_spec cols q with ⟨pre, c, post, h1, h2, h3, h4⟩ | ⟨h1, h2⟩
  · left; exact ⟨pre, c, post, h1, h2, h3, by rw [h4]⟩
  · right; exact ⟨h1, by rw [h2]⟩

/-- every `r` with `ProjectsTo cols q r` is `refColsUpTo cols q − 1` (induction on the columns) -/
theorem projectsTo_unique (cols : List (Bool × Bool)) (q : Nat) (r r' : Int)
    (h : ProjectsTo cols q r) (h' : ProjectsTo cols q r') : r = r' := by
  have key : ∀ r, ProjectsTo cols q r → r = (refColsUpTo cols q : Int) - 1 := by
    intro r hr
    clear h h'
    induction cols generalizing q r with
    | nil =>
      rcases hr with ⟨pre, c, post, h1, _⟩ | ⟨_, h2⟩
      · cases pre <;> cases h1
      · simp [rCount] at h2; simp [refColsUpTo, h2]
    | cons c cols ih =>
      obtain ⟨a, b⟩ := c
      rcases hr with ⟨pre, c, post, h1, h2, h3, h4⟩ | ⟨h1, h2⟩
      · cases pre with
        | nil =>
          simp only [List.nil_append, List.cons.injEq] at h1
          obtain ⟨rfl, rfl⟩ := h1
          simp only at h2; subst h2
          simp [qCount] at h3; subst h3
          cases b <;> simp [refColsUpTo, rCount] at h4 ⊢ <;> exact h4
        | cons p pre =>
          simp only [List.cons_append, List.cons.injEq] at h1
          obtain ⟨rfl, rfl⟩ := h1
          rw [qCount_cons] at h3
          simp only [List.cons_append, rCount_cons] at h4
          cases a with
          | true =>
            cases q with
            | zero => simp at h3
            | succ q =>
              have := ih q (r - b.toNat) (Or.inl ⟨pre, c, post, rfl, h2, by simp at h3; omega, by rw [h4]; simp; omega⟩)
              simp only [refColsUpTo]; omega
          | false =>
            have := ih q (r - b.toNat) (Or.inl ⟨pre, c, post, rfl, h2, by simpa using h3, by rw [h4]; simp; omega⟩)
            simp only [refColsUpTo]; omega
      · rw [qCount_cons] at h1
        rw [rCount_cons] at h2
        cases a with
        | true =>
          cases q with
          | zero => simp at h1
          | succ q =>
            have := ih q (r - b.toNat) (Or.inr ⟨by simp at h1; omega, by rw [h2]; simp; omega⟩)
            simp only [refColsUpTo]; omega
        | false =>
          have := ih q (r - b.toNat) (Or.inr ⟨by simpa using h1, by rw [h2]; simp; omega⟩)
          simp only [refColsUpTo]; omega
  rw [key r h, key r' h']

theorem refColsUpTo_le_rCount : ∀ (cols : List (Bool × Bool)) (q : Nat), refColsUpTo cols q ≤ rCount cols := by
  intro cols
  induction cols with
  | nil => intro q; simp [refColsUpTo]
  | cons c cols ih =>
    intro q
    obtain ⟨a, b⟩ := c
    rw [rCount_cons]
    cases a with
    | true =>
      cases q with
      | zero => simp [refColsUpTo]
      | succ q => have := ih q; simp only [refColsUpTo]; omega
    | false => have := ih q; simp only [refColsUpTo]; omega

theorem rCount_append (a b : List (Bool × Bool)) : rCount (a ++ b) = rCount a + rCount b := by
  simp [rCount, List.countP_append]

theorem rCount_replicate (n : Nat) (a b : Bool) : rCount (List.replicate n (a, b)) = if b then n else 0 := by
  cases b <;> simp [rCount, List.countP_replicate]

theorem rCount_expand {ops : List CigarOp} (h : NonNeg ops) : (rCount (expand ops) : Int) = refLen ops := by
  induction ops with
  | nil => simp [expand, rCount, refLen]
  | cons o l ih =>
    have ho : 0 ≤ o.2 := h o (by simp)
    have hl : NonNeg l := fun x hx => h x (by simp [hx])
    rw [expand_cons, rCount_append, rCount_replicate, refLen_cons, Int.natCast_add, ih hl]
    split <;> simp <;> omega

/-- the part of an operation list before its first clip -/
def coreOf (ops : List CigarOp) : List CigarOp := ops.takeWhile (fun o => !isClipOp o.1)

theorem moveRefLoop_done (T read ref : Int) (ops : List CigarOp) (h : ¬ read < T) :
    moveRefLoop T read ref ops = some ref := by
  cases ops <;> simp [moveRefLoop, h]

theorem coreOf_cons_clip (o : CigarOp) (l : List CigarOp) (h : isClipOp o.1 = true) : coreOf (o :: l) = [] := by
  simp [coreOf, h]

theorem coreOf_cons_nonclip (o : CigarOp) (l : List CigarOp) (h : isClipOp o.1 = false) :
    coreOf (o :: l) = o :: coreOf l := by
  simp [coreOf, h]

theorem kind_cases (k : CigarEvent) :
    isClipOp k = true ∨ k = .padding ∨ k = .insertion ∨ (k = .deletion ∨ k = .skipped) ∨ isAligned k = true := by
  cases k <;> simp [isClipOp, isAligned]

theorem moveRefLoop_clip (T read ref : Int) (k : CigarEvent) (n : Int) (rest : List CigarOp) (h : read < T)
    (hk : isClipOp k = true) : moveRefLoop T read ref ((k, n) :: rest) = some ref := by
  cases k <;> simp [isClipOp] at hk <;> simp [moveRefLoop, h]

theorem moveRefLoop_pad (T read ref : Int) (n : Int) (rest : List CigarOp) (h : read < T) :
    moveRefLoop T read ref ((CigarEvent.padding, n) :: rest) = none := by
  simp [moveRefLoop, h]

theorem moveRefLoop_ins (T read ref : Int) (n : Int) (rest : List CigarOp) (h : read < T) :
    moveRefLoop T read ref ((CigarEvent.insertion, n) :: rest) = moveRefLoop T (read + n) ref rest := by
  simp [moveRefLoop, h]

theorem moveRefLoop_ref (T read ref : Int) (k : CigarEvent) (n : Int) (rest : List CigarOp) (h : read < T)
    (hk : k = .deletion ∨ k = .skipped) :
    moveRefLoop T read ref ((k, n) :: rest) = moveRefLoop T read (ref + n) rest := by
  rcases hk with rfl | rfl <;> simp [moveRefLoop, h]

theorem moveRefLoop_aln (T read ref : Int) (k : CigarEvent) (n : Int) (rest : List CigarOp) (h : read < T)
    (hk : isAligned k = true) :
    moveRefLoop T read ref ((k, n) :: rest) =
      if n < T - read then moveRefLoop T (read + n) (ref + n) rest
      else moveRefLoop T (read + (T - read)) (ref + (T - read)) rest := by
  cases k <;> simp [isAligned] at hk <;> simp [moveRefLoop, h]

theorem padReached_iff (core : List CigarOp) (n : Nat) :
    padReached core n = true ↔
      ∃ pre l post, core = pre ++ (CigarEvent.padding, l) :: post ∧ queryLen pre ≤ (n : Int) := by
  simp only [padReached, List.any_eq_true, List.mem_range]
  constructor
  · rintro ⟨i, hi, h⟩
    have hget : core[i]? = some core[i] := by simp [hi]
    rw [hget] at h
    simp only [Bool.and_eq_true, beq_iff_eq, decide_eq_true_eq] at h
    refine ⟨core.take i, core[i].2, core.drop (i + 1), ?_, h.2⟩
    have : core[i] = (CigarEvent.padding, core[i].2) := by rw [← h.1]
    rw [← this]
    simp
  · rintro ⟨pre, l, post, hc, hq⟩
    refine ⟨pre.length, by rw [hc]; simp, ?_⟩
    subst hc
    simp [hq]

theorem padReached_false_iff (core : List CigarOp) (m : Int) (hm : 0 ≤ m) :
    padReached core m = false ↔
      ∀ pre l post, core = pre ++ (CigarEvent.padding, l) :: post → m < queryLen pre := by
  have h := padReached_iff core m.toNat
  rw [Int.toNat_of_nonneg hm] at h
  rw [← Bool.not_eq_true, h]
  exact ⟨fun hn pre l post hc => Int.lt_of_not_ge fun hq => hn ⟨pre, l, post, hc, hq⟩,
    fun ha ⟨pre, l, post, hc, hq⟩ => absurd (ha pre l post hc) (by omega)⟩

theorem padReached_nil (m : Int) : padReached [] m = false := rfl

theorem padReached_cons (o : CigarOp) (core : List CigarOp) (m : Int) :
    padReached (o :: core) m = ((o.1 == CigarEvent.padding && decide (0 ≤ m)) || padReached core (m - qOf o)) := by
  unfold padReached
  rw [List.length_cons, List.range_succ_eq_map, List.any_cons, List.any_map]
  congr 2
  funext i
  simp only [Function.comp, List.getElem?_cons_succ, List.take_succ_cons, queryLen_cons, qOf]
  cases core[i]? with
  | none => rfl
  | some x => simp only []; congr 1; exact decide_eq_decide.2 (by omega)


theorem padReached_neg {core : List CigarOp} (hnn : NonNeg core) {m : Int} (hm : m < 0) : padReached core m = false := by
  induction core generalizing m with
  | nil => rfl
  | cons o core ih =>
    have ho : 0 ≤ o.2 := hnn o (by simp)
    rw [padReached_cons, ih (fun x hx => hnn x (by simp [hx])) (by unfold qOf; split <;> omega)]
    simp; omega

theorem moveRefLoopFix_done (T read ref : Int) (ops : List CigarOp) (h : ¬ read < T) :
    moveRefLoopFix T read ref ops = ref := by
  cases ops <;> simp [moveRefLoopFix, h]

/-! the repaired loop takes the steps of the loop before the repair, and steps over a `P` -/

theorem stepFix_clip (T read ref : Int) (k : CigarEvent) (n : Int) (rest : List CigarOp) (h : read < T)
    (hk : isClipOp k = true) : moveRefLoopFix T read ref ((k, n) :: rest) = ref := by
  cases k <;> simp [isClipOp] at hk <;> simp [moveRefLoopFix, h]

theorem stepFix_pad (T read ref : Int) (n : Int) (rest : List CigarOp) (h : read < T) :
    moveRefLoopFix T read ref ((CigarEvent.padding, n) :: rest) = moveRefLoopFix T read ref rest := by
  simp [moveRefLoopFix, h]

theorem stepFix_ins (T read ref : Int) (n : Int) (rest : List CigarOp) (h : read < T) :
    moveRefLoopFix T read ref ((CigarEvent.insertion, n) :: rest) = moveRefLoopFix T (read + n) ref rest := by
  simp [moveRefLoopFix, h]

theorem stepFix_ref (T read ref : Int) (k : CigarEvent) (n : Int) (rest : List CigarOp) (h : read < T)
    (hk : k = .deletion ∨ k = .skipped) :
    moveRefLoopFix T read ref ((k, n) :: rest) = moveRefLoopFix T read (ref + n) rest := by
  rcases hk with rfl | rfl <;> simp [moveRefLoopFix, h]

theorem stepFix_aln (T read ref : Int) (k : CigarEvent) (n : Int) (rest : List CigarOp) (h : read < T)
    (hk : isAligned k = true) :
    moveRefLoopFix T read ref ((k, n) :: rest) =
      if n < T - read then moveRefLoopFix T (read + n) (ref + n) rest
      else moveRefLoopFix T (read + (T - read)) (ref + (T - read)) rest := by
  cases k <;> simp [isAligned] at hk <;> simp [moveRefLoopFix, h]

theorem moveRefLoopFix_spec (T : Int) : ∀ (ops : List CigarOp) (read ref : Int), NonNeg ops → read < T →
    moveRefLoopFix T read ref ops = ref + refColsUpTo (expand (coreOf ops)) (T - read - 1).toNat := by
  intro ops
  induction ops with
  | nil => intro read ref _ _; simp [moveRefLoopFix, coreOf, expand, refColsUpTo]
  | cons op rest ih =>
    intro read ref hnn hlt
    obtain ⟨k, n⟩ := op
    have hn : 0 ≤ n := hnn (k, n) (by simp)
    have hnn' : NonNeg rest := fun x hx => hnn x (by simp [hx])
    rcases kind_cases k with hk | rfl | rfl | hk | hk
    · rw [coreOf_cons_clip _ _ hk, stepFix_clip _ _ _ _ _ _ hlt hk]
      simp [expand, refColsUpTo]
    · rw [coreOf_cons_nonclip _ _ rfl, expand_cons, stepFix_pad _ _ _ _ _ hlt, ih _ _ hnn' hlt]
      exact congrArg _ (congrArg _ (refColsUpTo_rep_none _ _ _).symm)
    · rw [coreOf_cons_nonclip _ _ rfl, expand_cons, stepFix_ins _ _ _ _ _ hlt]
      show _ = ref + ((refColsUpTo (List.replicate n.toNat (true, false) ++ _) _ : Nat) : Int)
      rw [refColsUpTo_rep_qry]
      by_cases hc : read + n < T
      · rw [ih (read + n) ref hnn' hc, if_neg (by omega),
          show (T - (read + n) - 1).toNat = (T - read - 1).toNat - n.toNat by omega]
      · rw [moveRefLoopFix_done _ _ _ _ hc, if_pos (by omega)]; simp
    · have hclip : isClipOp k = false := by rcases hk with rfl | rfl <;> rfl
      have hcol : (consumesQuery k, consumesRef k) = (false, true) := by rcases hk with rfl | rfl <;> rfl
      rw [coreOf_cons_nonclip _ _ hclip, expand_cons, stepFix_ref _ _ _ _ _ _ hlt hk]
      simp only [hcol]
      rw [refColsUpTo_rep_ref, ih read (ref + n) hnn' hlt]
      simp only [Int.natCast_add]; omega
    · have hclip : isClipOp k = false := by cases k <;> simp [isAligned] at hk <;> rfl
      have hcol : (consumesQuery k, consumesRef k) = (true, true) := by cases k <;> simp [isAligned] at hk <;> rfl
      rw [coreOf_cons_nonclip _ _ hclip, expand_cons, stepFix_aln _ _ _ _ _ _ hlt hk]
      simp only [hcol]
      rw [refColsUpTo_rep_both]
      by_cases hc : n < T - read
      · rw [if_pos hc, ih (read + n) (ref + n) hnn' (by omega), if_neg (by omega),
          show (T - (read + n) - 1).toNat = (T - read - 1).toNat - n.toNat by omega]
        simp only [Int.natCast_add]; omega
      · rw [if_neg hc, moveRefLoopFix_done _ _ _ _ (by omega), if_pos (by omega)]
        simp only [Int.natCast_add]; omega

theorem moveRefLoop_eq_guard (T : Int) : ∀ (ops : List CigarOp) (read ref : Int), NonNeg ops →
    moveRefLoop T read ref ops =
      if padReached (coreOf ops) (T - read - 1) then none else some (moveRefLoopFix T read ref ops) := by
  intro ops
  induction ops with
  | nil => intro read ref _; simp [moveRefLoop, moveRefLoopFix, coreOf, padReached_nil]
  | cons op rest ih =>
    intro read ref hnn
    have hnn' : NonNeg rest := fun x hx => hnn x (by simp [hx])
    by_cases hlt : read < T
    · obtain ⟨k, n⟩ := op
      have hn : 0 ≤ n := hnn (k, n) (by simp)
      rcases kind_cases k with hk | rfl | rfl | hk | hk
      · rw [coreOf_cons_clip _ _ hk, moveRefLoop_clip _ _ _ _ _ _ hlt hk, stepFix_clip _ _ _ _ _ _ hlt hk, padReached_nil]
        rfl
      · rw [coreOf_cons_nonclip _ _ rfl, padReached_cons, moveRefLoop_pad _ _ _ _ _ hlt]
        simp; omega
      · rw [coreOf_cons_nonclip _ _ rfl, padReached_cons, moveRefLoop_ins _ _ _ _ _ hlt, stepFix_ins _ _ _ _ _ hlt,
          ih _ _ hnn', show qOf (CigarEvent.insertion, n) = n from rfl,
          show T - (read + n) - 1 = T - read - 1 - n by omega]
        rfl
      · have hclip : isClipOp k = false := by rcases hk with rfl | rfl <;> rfl
        have hq : qOf (k, n) = 0 := by rcases hk with rfl | rfl <;> rfl
        have hnp : (k == CigarEvent.padding) = false := by rcases hk with rfl | rfl <;> rfl
        rw [coreOf_cons_nonclip _ _ hclip, padReached_cons, moveRefLoop_ref _ _ _ _ _ _ hlt hk, stepFix_ref _ _ _ _ _ _ hlt hk,
          ih _ _ hnn', hq, hnp, Int.sub_zero]
        rfl
      · have hclip : isClipOp k = false := by cases k <;> simp [isAligned] at hk <;> rfl
        have hq : qOf (k, n) = n := by cases k <;> simp [isAligned] at hk <;> rfl
        have hnp : (k == CigarEvent.padding) = false := by cases k <;> simp [isAligned] at hk <;> rfl
        rw [coreOf_cons_nonclip _ _ hclip, padReached_cons, moveRefLoop_aln _ _ _ _ _ _ hlt hk,
          stepFix_aln _ _ _ _ _ _ hlt hk, hq, hnp]
        by_cases hc : n < T - read
        · rw [if_pos hc, if_pos hc, ih _ _ hnn', show T - (read + n) - 1 = T - read - 1 - n by omega]
          rfl
        · have hp : padReached (coreOf rest) (T - read - 1 - n) = false :=
            padReached_neg (fun x hx => hnn' x ((List.takeWhile_sublist _).subset hx)) (by omega)
          rw [if_neg hc, if_neg hc, moveRefLoop_done _ _ _ _ (by omega), moveRefLoopFix_done _ _ _ _ (by omega), hp]
          rfl
    · have hp : padReached (coreOf (op :: rest)) (T - read - 1) = false :=
        padReached_neg (fun x hx => hnn x ((List.takeWhile_sublist _).subset hx)) (by omega)
      rw [moveRefLoop_done _ _ _ _ hlt, moveRefLoopFix_done _ _ _ _ hlt, hp]
      rfl

theorem walkCore_eq (cigar : List CigarOp) (shift : Int) :
    walkCore cigar (decide (shift > 0)) =
      coreOf ((if shift > 0 then cigar else cigar.reverse).drop
        (leadingClips (if shift > 0 then cigar else cigar.reverse))) := by
  by_cases h : shift > 0 <;> simp [walkCore, coreOf, h]

theorem NonNeg_walk {cigar : List CigarOp} (hnn : NonNeg cigar) (shift : Int) :
    NonNeg ((if shift > 0 then cigar else cigar.reverse).drop
      (leadingClips (if shift > 0 then cigar else cigar.reverse))) := by
  intro o ho
  have := List.mem_of_mem_drop ho
  split at this
  · exact hnn o this
  · exact hnn o (List.mem_reverse.1 this)

theorem moveRefCoordFix_eq (cigar : List CigarOp) (shift : Int) (hnn : NonNeg cigar) (h0 : shift ≠ 0)
    (hne : cigar ≠ []) :
    moveRefCoordFix cigar shift =
      some ((refColsUpTo (expand (walkCore cigar (decide (shift > 0)))) shift.natAbs : Int) - 1) := by
  have habs : (if shift > 0 then shift else -shift) = (shift.natAbs : Int) := by split <;> omega
  simp only [moveRefCoordFix, h0, hne, if_false, habs]
  rw [walkCore_eq, moveRefLoopFix_spec _ _ 0 0 (NonNeg_walk hnn shift) (by omega)]
  simp

theorem moveRefCoordFix_some_iff (cigar : List CigarOp) (shift k : Int) (hnn : NonNeg cigar) (h0 : shift ≠ 0)
    (hne : cigar ≠ []) :
    moveRefCoordFix cigar shift = some k ↔
      ProjectsTo (expand (walkCore cigar (decide (shift > 0)))) shift.natAbs k := by
  rw [moveRefCoordFix_eq cigar shift hnn h0 hne, Option.some.injEq]
  exact ⟨fun h => h ▸ projectsTo_refColsUpTo _ _,
    fun h => (projectsTo_unique _ _ _ _ h (projectsTo_refColsUpTo _ _)).symm⟩

theorem moveRefCoord_eq_guard (cigar : List CigarOp) (shift : Int) (hnn : NonNeg cigar) (h0 : shift ≠ 0)
    (hne : cigar ≠ []) :
    moveRefCoord cigar shift =
      if padReached (walkCore cigar (decide (shift > 0))) shift.natAbs then none else moveRefCoordFix cigar shift := by
  have habs : (if shift > 0 then shift else -shift) = (shift.natAbs : Int) := by split <;> omega
  simp only [moveRefCoord, moveRefCoordFix, h0, hne, if_false, habs]
  rw [walkCore_eq, moveRefLoop_eq_guard _ _ 0 0 (NonNeg_walk hnn shift),
    show (shift.natAbs : Int) + 1 - 0 - 1 = shift.natAbs by omega]
  cases padReached _ _ <;> rfl

/-- the projection before the `P` repair as a relation -/
theorem moveRefCoord_some_iff (cigar : List CigarOp) (shift k : Int) (hnn : NonNeg cigar) (h0 : shift ≠ 0)
    (hne : cigar ≠ []) :
    moveRefCoord cigar shift = some k ↔
      padReached (walkCore cigar (decide (shift > 0))) shift.natAbs = false ∧
      ProjectsTo (expand (walkCore cigar (decide (shift > 0)))) shift.natAbs k := by
  rw [moveRefCoord_eq_guard cigar shift hnn h0 hne, ← moveRefCoordFix_some_iff cigar shift k hnn h0 hne]
  cases padReached (walkCore cigar (decide (shift > 0))) shift.natAbs <;> simp

theorem moveRefCoord_none_iff (cigar : List CigarOp) (shift : Int) (hnn : NonNeg cigar) (h0 : shift ≠ 0)
    (hne : cigar ≠ []) :
    moveRefCoord cigar shift = none ↔ padReached (walkCore cigar (decide (shift > 0))) shift.natAbs = true := by
  rw [moveRefCoord_eq_guard cigar shift hnn h0 hne, moveRefCoordFix_eq cigar shift hnn h0 hne]
  cases padReached (walkCore cigar (decide (shift > 0))) shift.natAbs <;> simp

/-- the two directions apart, in the shape `findPolyaTailWith_char` / `findPolytHeadWith_char` (Lemmas/FinderWith.lean) ask
    of a projection: `= some k ↔ G n ∧ ProjectsTo … n k` with `n` the number of bases walked -/
theorem moveRefCoord_back_iff {cigar : List CigarOp} (hnn : NonNeg cigar) (hne : cigar ≠ []) (sh k : Int)
    (h : sh < 0) : moveRefCoord cigar sh = some k ↔
      padReached (walkCore cigar false) sh.natAbs = false ∧ ProjectsTo (expand (walkCore cigar false)) sh.natAbs k := by
  have := moveRefCoord_some_iff cigar sh k hnn (by omega) hne
  rwa [decide_eq_false (by omega)] at this

theorem moveRefCoord_fwd_iff {cigar : List CigarOp} (hnn : NonNeg cigar) (hne : cigar ≠ []) (sh k : Int)
    (h : 0 < sh) : moveRefCoord cigar sh = some k ↔
      padReached (walkCore cigar true) sh.toNat = false ∧ ProjectsTo (expand (walkCore cigar true)) sh.toNat k := by
  have := moveRefCoord_some_iff cigar sh k hnn (by omega) hne
  rwa [decide_eq_true h, show sh.natAbs = sh.toNat by omega] at this

/-- the same for the repaired projection: no side condition (`G := fun _ => True`) -/
theorem moveRefCoordFix_back_iff {cigar : List CigarOp} (hnn : NonNeg cigar) (hne : cigar ≠ []) (sh k : Int)
    (h : sh < 0) : moveRefCoordFix cigar sh = some k ↔
      True ∧ ProjectsTo (expand (walkCore cigar false)) sh.natAbs k := by
  have := moveRefCoordFix_some_iff cigar sh k hnn (by omega) hne
  rw [decide_eq_false (by omega)] at this
  rw [true_and]; exact this

theorem moveRefCoordFix_fwd_iff {cigar : List CigarOp} (hnn : NonNeg cigar) (hne : cigar ≠ []) (sh k : Int)
    (h : 0 < sh) : moveRefCoordFix cigar sh = some k ↔
      True ∧ ProjectsTo (expand (walkCore cigar true)) sh.toNat k := by
  have := moveRefCoordFix_some_iff cigar sh k hnn (by omega) hne
  rw [decide_eq_true h, show sh.natAbs = sh.toNat by omega] at this
  rw [true_and]; exact this

/-! ### the repaired walk (`P` stepped over) against the walk before the repair (for Props/C16Pad.lean) -/

theorem moveRefLoopFix_eq_filter (T : Int) : ∀ (ops : List CigarOp) (read ref : Int),
    moveRefLoop T read ref (ops.filter notPad) = some (moveRefLoopFix T read ref ops) := by
  intro ops
  induction ops with
  | nil => intro read ref; simp [moveRefLoop, moveRefLoopFix]
  | cons op rest ih =>
    intro read ref
    by_cases hlt : read < T
    · obtain ⟨k, n⟩ := op
      by_cases hk : k = CigarEvent.padding
      · subst hk
        have hp : notPad (CigarEvent.padding, n) = false := by simp [notPad]
        rw [List.filter_cons, hp]
        simp only [Bool.false_eq_true, if_false]
        rw [ih]
        simp [moveRefLoopFix, hlt]
      · have hp : notPad (k, n) = true := by simp [notPad, hk]
        rw [List.filter_cons, hp]
        simp only [if_true]
        cases k <;> first
          | exact absurd rfl hk
          | (simp only [moveRefLoop, moveRefLoopFix, hlt, not_true_eq_false, if_false, if_true, reduceCtorEq,
              or_false, or_true, ih]
             try (split <;> simp only))
    · rw [moveRefLoop_done _ _ _ _ hlt, moveRefLoopFix_done _ _ _ _ hlt]

theorem moveRefLoop_some_fix (T : Int) : ∀ (ops : List CigarOp) (read ref r : Int),
    moveRefLoop T read ref ops = some r → moveRefLoopFix T read ref ops = r := by
  intro ops
  induction ops with
  | nil => intro read ref r h; simpa [moveRefLoop, moveRefLoopFix] using h
  | cons op rest ih =>
    intro read ref r h
    by_cases hlt : read < T
    · obtain ⟨k, n⟩ := op
      cases k <;> simp [moveRefLoop, moveRefLoopFix, hlt] at h ⊢
      all_goals first
        | exact ih _ _ _ h
        | exact h
        | (split at h <;> rename_i hc <;> simp [hc] <;> exact ih _ _ _ h)
    · rw [moveRefLoop_done _ _ _ _ hlt] at h
      rw [moveRefLoopFix_done _ _ _ _ hlt]
      exact Option.some.inj h

end IsoVerif.Lemmas.C16
