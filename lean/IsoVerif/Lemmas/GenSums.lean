/-
Loop lemmas (generated loop = hand model) for `intervals_total_length`, `sum_intervals_to_point`,
`sum_intervals_from_point`, `extra_exon_percentage` of Gen/Loops.lean; the refinement theorems are stated and proved from them
in Props/C19GenSums.lean (`intervals_total_length_eq` stands here: two of the other proofs use it).
-/
import IsoVerif.Gen.Loops
import IsoVerif.Lemmas.GenBase

namespace IsoVerif.Lemmas.GenLoops
open IsoVerif.Gen IsoVerif.Model IsoVerif.Lemmas

theorem intervals_total_length_loop (l0 it : List Iv) (acc : Int) :
    intervals_total_length.loop1 l0 it acc = acc + intervalsTotalLength it := by
  induction it generalizing acc with
  | nil => simp [intervals_total_length.loop1, intervals_total_length.after1, intervalsTotalLength]
  | cons r rs ih =>
    simp only [intervals_total_length.loop1, ih, intervalsTotalLength]
    omega

theorem intervals_total_length_eq (l : List Iv) : intervals_total_length l = intervalsTotalLength l := by
  simp [intervals_total_length, intervals_total_length_loop]

theorem sum_to_loop (l : List Iv) (pos : Int) (fuel k : Nat) (acc : Int) (hf : (l.drop k).length < fuel) :
    sum_intervals_to_point.loop2 l pos fuel (k : Int) acc = some (acc + sumToLoop pos (l.drop k)) := by
  induction fuel generalizing k acc with
  | zero => omega
  | succ fuel ih =>
    unfold sum_intervals_to_point.loop2
    rcases cursor_cases l k with ⟨hn, hl⟩ | ⟨x, hd, hx, hl, hc⟩
    · simp [hn, hl, sum_intervals_to_point.after2, sumToLoop]
    simp only [hd, List.length_cons] at hf
    have ih' := fun acc => ih (k + 1) acc (by omega)
    simp only [hx, hd, sumToLoop, hc, hl, decide_true, if_true, ih']
    by_cases hlt : x.1 < pos
    · by_cases h2 : x.1 ≤ pos ∧ pos ≤ x.2
      · simp only [hlt, h2, decide_true, Bool.and_self, if_true, and_self]
        congr 1; omega
      · have : (decide (x.1 ≤ pos) && decide (pos ≤ x.2)) = false := by simpa using h2
        simp only [hlt, this, h2, decide_true, if_true, if_false, Bool.false_eq_true]
        congr 1; omega
    · simp [hlt, sum_intervals_to_point.after2]

theorem sum_from_loop (l : List Iv) (pos : Int) (fuel k : Nat) (acc : Int)
    (hk : k ≤ l.length) (hf : k + 1 ≤ fuel) :
    sum_intervals_from_point.loop2 l pos fuel ((k : Int) - 1) acc
      = some (acc + sumFromLoop pos (l.take k).reverse) := by
  induction fuel generalizing k acc with
  | zero => omega
  | succ fuel ih =>
    unfold sum_intervals_from_point.loop2
    cases k with
    | zero =>
      simp [sum_intervals_from_point.after2, sumFromLoop]
    | succ k =>
      have hlt : k < l.length := by omega
      have hx : l[k]? = some l[k] := List.getElem?_eq_getElem hlt
      have hi : (((k + 1 : Nat) : Int) - 1) = (k : Int) := by omega
      have hge : (k : Int) ≥ 0 := by omega
      have hi2 : ((k : Int) - 1) = ((k : Nat) : Int) - 1 := rfl
      simp only [hi, pyIdx_natCast, hx, take_succ_reverse l k hlt, sumFromLoop, hge, decide_true, if_true]
      by_cases hc : l[k].2 > pos
      · simp only [hc, decide_true, if_true]
        by_cases h2 : l[k].1 ≤ pos ∧ pos ≤ l[k].2
        · simp only [h2, decide_true, Bool.and_self, if_true, and_self]
          rw [ih k _ (by omega) (by omega)]
          congr 1; omega
        · have : (decide (l[k].1 ≤ pos) && decide (pos ≤ l[k].2)) = false := by
            simpa using h2
          simp only [this, h2, if_false, Bool.false_eq_true]
          rw [ih k _ (by omega) (by omega)]
          congr 1; omega
      · simp [hc, sum_intervals_from_point.after2]

theorem extra_exon_loop (reg : Iv) (l0 it : List Iv) (t o : Int) :
    extra_exon_percentage.loop1 reg l0 it t o
      = pyDivF (o + (extraExonLoop reg it).1) (t + (extraExonLoop reg it).2) := by
  induction it generalizing t o with
  | nil => simp [extra_exon_percentage.loop1, extra_exon_percentage.after1, extraExonLoop]
  | cons e es ih =>
    unfold extra_exon_percentage.loop1
    simp only [extraExonLoop]
    by_cases h1 : e.1 < reg.1 <;> by_cases h2 : e.2 > reg.2 <;>
      simp only [h1, h2, decide_true, decide_false, if_true, if_false, Bool.false_eq_true, ih] <;>
      congr 1 <;> omega

end IsoVerif.Lemmas.GenLoops
