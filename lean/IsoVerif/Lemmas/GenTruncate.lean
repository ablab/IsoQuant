/-
Loop lemmas for `truncate_read_to_polya` of Gen/Loops.lean (the two index loops and the slices after them); the refinement
theorem is stated and proved from them in Props/C19GenTruncate.lean.
-/
import IsoVerif.Gen.Loops
import IsoVerif.Lemmas.GenBase
import IsoVerif.Lemmas.TruncateTail

namespace IsoVerif.Lemmas.GenLoops
open IsoVerif.Gen IsoVerif.Model IsoVerif.Lemmas

theorem pySlice_eq {α} (l : List α) (a b : Int) : Gen.pySlice l a b = Model.pySlice l a b := rfl

theorem truncate_after2 (l : List Iv) (f t : Iv) (hf : l.head? = some f) (ht : l.getLast? = some t)
    (pa pt ei ep si sp : Int) :
    truncate_read_to_polya.after2 l pa pt ei ep si sp = C11.truncTail l f t si ei sp ep := by
  unfold truncate_read_to_polya.after2 C11.truncTail
  simp only [pyIdx_zero, pyIdx_neg_one, hf, ht]
  simp only [pyIdx_eq_pyGet, pySlice_eq]
  grind

theorem truncate_loop2 (l : List Iv) (pa pt : Int) (fuel k : Nat) (ei ep sp : Int)
    (hk : k ≤ l.length) (hei : ei < (l.length : Int)) (hf : l.length + 1 ≤ fuel + k) :
    truncate_read_to_polya.loop2 l pa pt fuel ei ep (k : Int) sp
      = truncate_read_to_polya.after2 l pa pt ei ep (startIndexLoop pt ei (l.drop k) (k : Int)) sp := by
  induction fuel generalizing k with
  | zero => omega
  | succ fuel ih =>
    unfold truncate_read_to_polya.loop2
    by_cases hle : (k : Int) ≤ ei
    · have hlt : k < l.length := by omega
      have hx : l[k]? = some l[k] := List.getElem?_eq_getElem hlt
      have hd := drop_eq_cons_of_getElem l k _ hx
      have hc : ((k : Int) + 1) = ((k + 1 : Nat) : Int) := (Int.natCast_succ k).symm
      simp only [hle, decide_true, if_true, pyIdx_natCast, hx, hd, startIndexLoop, hc]
      by_cases hgt : l[k].2 > pt
      · simp only [hgt, decide_true, if_true]
      · simp only [hgt, decide_false, Bool.false_eq_true, if_false]
        rw [ih (k + 1) (by omega) (by omega)]
    · simp only [hle, decide_false, Bool.false_eq_true, if_false]
      cases hd : l.drop k with
      | nil => simp [startIndexLoop]
      | cons x rest => simp [startIndexLoop, hle]

theorem truncate_loop3 (l : List Iv) (pa pt : Int) (fuel k : Nat) (ep : Int)
    (hk : k ≤ l.length) (hf : k + 1 ≤ fuel) :
    truncate_read_to_polya.loop3 l pa pt fuel ((k : Int) - 1) ep
      = truncate_read_to_polya.after1 l pa pt (endIndexLoop pa (l.take k).reverse ((k : Int) - 1)) ep := by
  induction fuel generalizing k with
  | zero => omega
  | succ fuel ih =>
    unfold truncate_read_to_polya.loop3
    cases k with
    | zero => simp [endIndexLoop, truncate_read_to_polya.after3]
    | succ k =>
      have hlt : k < l.length := by omega
      have hx : l[k]? = some l[k] := List.getElem?_eq_getElem hlt
      have hi : (((k + 1 : Nat) : Int) - 1) = (k : Int) := by omega
      have hge : (k : Int) ≥ 0 := by omega
      simp only [hi, pyIdx_natCast, hx, take_succ_reverse l k hlt, endIndexLoop, hge, decide_true, if_true,
        truncate_read_to_polya.after3]
      by_cases hc : l[k].1 < pa
      · simp only [hc, decide_true, if_true]
      · simp only [hc, decide_false, Bool.false_eq_true, if_false]
        rw [ih k (by omega) (by omega)]

theorem endIndexLoop_le (pa : Int) (rs : List Iv) :
    endIndexLoop pa rs ((rs.length : Int) - 1) ≤ (rs.length : Int) - 1 := by
  induction rs with
  | nil => simp [endIndexLoop]
  | cons r rs ih =>
    simp only [endIndexLoop, List.length_cons]
    by_cases h : r.1 < pa
    · simp [h]
    · simp only [h, if_false]
      have : (((rs.length + 1 : Nat) : Int) - 1 - 1) = (rs.length : Int) - 1 := by omega
      rw [this]; omega

theorem truncate_after1 (l : List Iv) (f t : Iv) (hf : l.head? = some f) (ht : l.getLast? = some t)
    (pa pt ei ep : Int) (hei : ei < (l.length : Int)) :
    truncate_read_to_polya.after1 l pa pt ei ep
      = C11.truncTail l f t (if pt != -1 then startIndexLoop pt ei l 0 else 0) ei (if pt != -1 then pt else f.1) ep := by
  unfold truncate_read_to_polya.after1
  simp only [pyIdx_zero, hf]
  by_cases hpt : pt = -1
  · subst hpt
    have := truncate_after2 l f t hf ht pa (-1) ei ep 0 f.1
    unfold truncate_read_to_polya.after2 at this
    simp only [pyIdx_zero, hf] at this
    simpa using this
  · have h1 : (pt != -1) = true := by simpa using hpt
    simp only [hpt, h1, ne_eq, not_false_eq_true, decide_true, if_true, truncate_read_to_polya.fuel2]
    have := truncate_loop2 l pa pt (l.length + 1) 0 ei ep pt (by omega) hei (by omega)
    simp only [Int.natCast_zero, List.drop_zero] at this
    rw [this, truncate_after2 l f t hf ht]

end IsoVerif.Lemmas.GenLoops
