/-
Helper lemmas for C04 (Model/ModelConstruction.lean): `of_ite_eq` and its variants, which take an `if` in a hypothesis apart;
exon/intron inversion for graph paths (`PathGapped`); inversion of the decision block of `construct_fl_isoforms`
(`NovelFacts`, `flStepG_inv`); bookkeeping invariants of the transcript storage through the filtering loops (`CounterLe`,
`Grow`, `Touched`, `Shrunk`, `filterLoopG_spec`) and for the lines of transcript_model_reads (`R2TInv`).  Core Lean only.
-/
import IsoVerif.Model.ModelConstruction
import IsoVerif.Lemmas.IntronGraph
import IsoVerif.Lemmas.Junctions

namespace IsoVerif.Lemmas.C04
open IsoVerif.Gen IsoVerif.Model IsoVerif.Model.C04

/-! ### taking an `if` apart

`split at h` re-simplifies both branches, so a chain of splits through nested `if`s doubles in cost with every level;
these only unify. -/

/-- the intron path leaves a non-empty exon before, between and after its introns, starting at `s`, ending at `e`;
    introns are well formed -/
def PathGapped : Int → List Iv → Int → Prop
  | s, [], e => s ≤ e
  | s, i :: t, e => s < i.1 ∧ i.1 ≤ i.2 ∧ PathGapped (i.2 + 1) t e

instance : (s : Int) → (l : List Iv) → (e : Int) → Decidable (PathGapped s l e)
  | s, [], e => by unfold PathGapped; exact inferInstance
  | s, i :: t, e => by
    unfold PathGapped
    have := instDecidablePathGapped (i.2 + 1) t e
    exact inferInstance

/-- the exon list of a gapped path begins right after `b`; both inductions below step over it -/
theorem junctions_gapped_head {b : Iv} {ip : List Iv} {e : Int} (h : PathGapped (b.2 + 1) ip e) :
    ∃ y r, junctionsFromBlocks (b :: ip ++ [(e + 1, 0)]) = (b.2 + 1, y) :: r := by
  cases ip with
  | nil => exact ⟨_, _, junctions_cons_cons_of_lt (t := []) (by simp only [PathGapped] at h; omega)⟩
  | cons i t => exact ⟨_, _, junctions_cons_cons_of_lt h.1⟩

theorem junctions_junctions (b : Iv) (ip : List Iv) (e : Int) (h : PathGapped (b.2 + 1) ip e) :
    junctionsFromBlocks (junctionsFromBlocks (b :: ip ++ [(e + 1, 0)])) = ip := by
  induction ip generalizing b with
  | nil =>
    have hlt : b.2 + 1 < e + 1 := by simp only [PathGapped] at h; omega
    rw [List.cons_append, List.nil_append, junctions_cons_cons_of_lt (b := (e + 1, 0)) (t := []) hlt]
    rfl
  | cons i t ih =>
    obtain ⟨h1, h2, h3⟩ := h
    obtain ⟨y, r, hr⟩ := junctions_gapped_head h3
    have := ih i h3
    simp only [List.cons_append] at hr this ⊢
    rw [junctions_cons_cons_of_lt h1]
    rw [hr] at this ⊢
    rw [junctions_cons_cons_of_lt (show (b.2 + 1, i.1 - 1).2 + 1 < (i.2 + 1, y).1 by simp only; omega), this]
    congr 1
    exact Prod.ext (by simp) (by simp)

theorem junctions_getExons (s e : Int) (ip : List Iv) (h : PathGapped s ip e) :
    junctionsFromBlocks (getExons (s, e) ip) = ip := by
  unfold getExons
  have := junctions_junctions (0, s - 1) ip e (by simpa using h)
  simpa using this


/-- when `get_exons` returns one exon more than there are introns, no exon was dropped: the path is gapped -/
theorem pathGapped_of_length (b : Iv) (ip : List Iv) (e : Int) (hwf : ∀ i ∈ ip, i.1 ≤ i.2)
    (h : (junctionsFromBlocks (b :: ip ++ [(e + 1, 0)])).length = ip.length + 1) : PathGapped (b.2 + 1) ip e := by
  induction ip generalizing b with
  | nil =>
    have := (C14.length_junctions_full (t := []) (by simpa using h)).1
    simp only [PathGapped]
    omega
  | cons i t ih =>
    obtain ⟨hc, h'⟩ := C14.length_junctions_full (t := t ++ [(e + 1, 0)]) (by simpa using h)
    exact ⟨hc, hwf i (by simp), ih i (fun j hj => hwf j (by simp [hj])) (by simpa using h')⟩

theorem pathGapped_of_getExons_length (s e : Int) (ip : List Iv) (hwf : ∀ i ∈ ip, i.1 ≤ i.2)
    (h : (getExons (s, e) ip).length = ip.length + 1) : PathGapped s ip e := by
  unfold getExons at h
  have := pathGapped_of_length (0, s - 1) ip e hwf (by simpa using h)
  simpa using this

theorem validate_junctions (b : Iv) (ip : List Iv) (e : Int) (hpos : 0 < b.2 + 1) (h : PathGapped (b.2 + 1) ip e) :
    validateExons (junctionsFromBlocks (b :: ip ++ [(e + 1, 0)])) = true := by
  induction ip generalizing b with
  | nil =>
    have hlt : b.2 + 1 < e + 1 := by simp only [PathGapped] at h; omega
    rw [List.cons_append, List.nil_append, junctions_cons_cons_of_lt (b := (e + 1, 0)) (t := []) hlt]
    simp [validateExons, sortedIv, junctionsFromBlocks]
    omega
  | cons i t ih =>
    obtain ⟨h1, h2, h3⟩ := h
    obtain ⟨y, r, hr⟩ := junctions_gapped_head h3
    have := ih i (by omega) h3
    simp only [List.cons_append] at hr this ⊢
    rw [junctions_cons_cons_of_lt h1]
    rw [hr] at this ⊢
    -- the new first exon `(b.2 + 1, i.1 - 1)` lies before the next one, which starts at `i.2 + 1`
    simp only [validateExons, sortedIv, List.all_cons, Bool.and_eq_true] at this ⊢
    refine ⟨⟨?_, this.1⟩, ⟨?_, this.2⟩⟩
    · simp [ivLe]; omega
    · simp; omega

theorem validate_getExons (s e : Int) (ip : List Iv) (hs : 0 < s) (h : PathGapped s ip e) :
    validateExons (getExons (s, e) ip) = true :=
  validate_junctions (0, s - 1) ip e (by simpa using hs) (by simpa using h)


theorem buildNovel_inv {env : FLEnv} {next : Nat → Nat} {idv tidNum : Nat} {ip exons : List Iv} {strand : Strand}
    {m : TModel} {idv' : Nat} (h : buildNovel env next idv tidNum ip exons strand = some (m, idv')) :
    ∃ s g, m = { chr := env.chr, strand := s, gene := g, exons := exons, intronPath := ip,
                 tid := novelTid tidNum env.chr
                   (if ip.all (fun i => decide (i ∈ env.knownIntrons)) then tn_nic_transcript_suffix
                    else tn_nnic_transcript_suffix),
                 ttype := if ip.all (fun i => decide (i ∈ env.knownIntrons)) then .novel_in_catalog
                   else .novel_not_in_catalog } ∧
      (strand ≠ .dot → s = strand) ∧
      (selectReferenceGene env ip strand = some none → g = novelGeneId env.chr (next idv)) := by
  unfold buildNovel at h
  split at h
  · cases h
  · cases h; exact ⟨_, _, rfl, fun _ => rfl, fun _ => rfl⟩
  · rename_i gene hsel
    simp only at h
    split at h
    · cases h
    · rename_i s hs
      cases h
      exact ⟨s, gene, rfl, fun hd => by simpa [hd] using hs.symm, fun hn => by rw [hsel] at hn; cases hn⟩

/-- everything the loop body established when it emitted the novel model `m` for a path with terminal vertices `first`,
    `last`; `s` and `g` are the strand and the gene `buildNovel` chose -/
structure NovelFacts (guard : Bool) (env : FLEnv) (sd : Iv → Strand) (next : Nat → Nat) (st : FLState) (pi : PathIn)
    (first last : Iv) (s : Strand) (g : String) (m : TModel) : Prop where
  nonempty : pi.path.tail.dropLast ≠ []
  notKnownPath : pi.matching = false → pi.path.tail.dropLast ∉ env.knownPaths
  noRef : pi.matching = true → pi.ref = ""
  first_eq : pi.path.head? = some first
  last_eq : pi.path.getLast? = some last
  len : guard = true → (getExons (first.2, last.2) pi.path.tail.dropLast).length = pi.path.tail.dropLast.length + 1
  gate : novelGate env sd pi.count (getExons (first.2, last.2) pi.path.tail.dropLast).length pi.path.tail.dropLast
    (decide (last.1 = VERTEX_polya)) (decide (first.1 = VERTEX_polyt)) = false
  model : m = { chr := env.chr, strand := s, gene := g, exons := getExons (first.2, last.2) pi.path.tail.dropLast,
                intronPath := pi.path.tail.dropLast,
                tid := novelTid (next st.idv) env.chr
                  (if pi.path.tail.dropLast.all (fun i => decide (i ∈ env.knownIntrons)) then tn_nic_transcript_suffix
                   else tn_nnic_transcript_suffix),
                ttype := if pi.path.tail.dropLast.all (fun i => decide (i ∈ env.knownIntrons)) then .novel_in_catalog
                  else .novel_not_in_catalog }
  strand : getStrand sd pi.path.tail.dropLast (decide (last.1 = VERTEX_polya)) (decide (first.1 = VERTEX_polyt)) ≠ .dot →
    s = getStrand sd pi.path.tail.dropLast (decide (last.1 = VERTEX_polya)) (decide (first.1 = VERTEX_polyt))
  gene : selectReferenceGene env pi.path.tail.dropLast
      (getStrand sd pi.path.tail.dropLast (decide (last.1 = VERTEX_polya)) (decide (first.1 = VERTEX_polyt))) = some none →
    g = novelGeneId env.chr (next (next st.idv))

theorem of_ite_skipped {c : Prop} [Decidable c] {s st' : FLState} {d : Decision} {rest : Option (FLState × Decision)}
    (hd : d ≠ .skipped) (h : (if c then some (s, .skipped) else rest) = some (st', d)) : ¬ c ∧ rest = some (st', d) :=
  of_ite_ne (fun e => hd (by cases e; rfl)) h

theorem novelGate_eq_false {env : FLEnv} {sd : Iv → Strand} {count : Int} {n : Nat} {ip : List Iv} {a t : Bool}
    (h : novelGate env sd count n ip a t = false) :
    ¬ count < env.minNovelCount ∧
    ¬ (n = 2 ∧ ((env.requireMonointronicPolya ∧ ¬ (a ∨ t)) ∨ getCleanStrand sd ip = .dot)) ∧
    ¬ ((env.level = .only_canonical ∧ getCleanStrand sd ip = .dot) ∨
       (env.level = .only_stranded ∧ getStrand sd ip a t = .dot)) := by
  simp only [novelGate] at h
  obtain ⟨h1, h⟩ := of_ite_ne (by decide) h
  obtain ⟨h2, h⟩ := of_ite_ne (by decide) h
  exact ⟨h1, h2, (of_ite_ne (by decide) h).1⟩

theorem flStepG_inv {guard : Bool} {env : FLEnv} {sd : Iv → Strand} {next : Nat → Nat} {st st' : FLState}
    {pi : PathIn} {d : Decision} (h : flStepG guard env sd next st pi = some (st', d)) :
    match d with
    | .skipped => True
    | .knownAdded _ => pi.matching = true ∧ pi.ref ≠ ""
    | .novelAdded m => ∃ first last s g, NovelFacts guard env sd next st pi first last s g m := by
  by_cases hd : d = .skipped
  · subst hd; trivial
  simp only [flStepG] at h
  obtain ⟨hne, h⟩ := of_ite_skipped hd h
  split at h
  case h_2 => cases h
  rename_i first last hf hl
  obtain ⟨hg, h⟩ := of_ite_skipped hd h
  obtain ⟨hk, h⟩ := of_ite_skipped hd h
  rcases of_ite_eq h with ⟨hr, h⟩ | ⟨hr, h⟩
  · obtain ⟨_, h⟩ := of_ite_skipped hd h
    obtain ⟨_, h⟩ := of_ite_skipped hd h
    split at h
    · cases h
    · cases h; simpa using hr
  · obtain ⟨hgate, h⟩ := of_ite_skipped hd h
    obtain ⟨_, h⟩ := of_ite_skipped hd h
    split at h
    · cases h
    · rename_i m idv' hb
      cases h
      obtain ⟨s, g, hm, hs, hgene⟩ := buildNovel_inv hb
      exact ⟨first, last, s, g, by simpa using hne, by simpa using hk, by simpa using hr, hf, hl, by simpa using hg,
        by simpa using hgate, hm, hs, hgene⟩

theorem flStep_novel_inv {env : FLEnv} {sd : Iv → Strand} {next : Nat → Nat} {st st' : FLState} {pi : PathIn} {m : TModel}
    (h : flStep env sd next st pi = some (st', .novelAdded m)) :
    ∃ first last s g, NovelFacts true env sd next st pi first last s g m :=
  flStepG_inv h

theorem suffix_novelTid (n : Nat) (chr suf : String) : suf.toList <:+ (novelTid n chr suf).toList := by
  unfold novelTid
  rw [String.toList_append]
  exact List.suffix_append _ _

theorem not_suffix_novelTid {a b : String} (hab : ¬ a.toList <:+ b.toList) (hba : ¬ b.toList <:+ a.toList)
    (n : Nat) (chr : String) : ¬ a.toList <:+ (novelTid n chr b).toList := by
  intro h
  have hb := suffix_novelTid n chr b
  rcases Nat.le_total a.toList.length b.toList.length with hl | hl
  · exact hab (List.suffix_of_suffix_length_le h hb hl)
  · exact hba (List.suffix_of_suffix_length_le hb h hl)

theorem getStrand_ne_dot_of_clean (sd : Iv → Strand) (l : List Iv) (a t : Bool) (h : getCleanStrand sd l ≠ .dot) :
    getStrand sd l a t ≠ .dot := by
  -- a clean strand means canonical sites of one strand only, so the two counts differ
  have hne : (countCanonical sd l).1 ≠ (countCanonical sd l).2 := fun e =>
    h (by simp only [getCleanStrand]; rw [if_neg (by omega), if_neg (by omega)])
  simp only [getStrand, if_neg hne]
  split <;> simp

theorem prefix_novelGeneId (chr : String) (n : Nat) : tn_novel_gene_prefix.toList <+: (novelGeneId chr n).toList := by
  unfold novelGeneId
  rw [String.toList_append, String.toList_append, String.toList_append, List.append_assoc, List.append_assoc]
  exact List.prefix_append _ _

theorem novelChains_append (a b : List Decision) : novelChains (a ++ b) = novelChains a ++ novelChains b :=
  List.filterMap_append ..

theorem flLoop_chains (env : FLEnv) (sd : Iv → Strand) (next : Nat → Nat) (paths : List PathIn) (st : FLState)
    (ds : List Decision) (st' : FLState) (ds' : List Decision)
    (h : flLoop env sd next paths st ds = some (st', ds')) :
    ∃ new, novelChains ds' = novelChains ds ++ new ∧ new.Sublist (paths.map (fun p => p.path.tail.dropLast)) := by
  revert h
  fun_induction flLoop env sd next paths st ds
  case case1 => rintro ⟨⟩; exact ⟨[], by simp, by simp⟩
  case case2 => nofun
  case case3 pi t st ds st1 d hd ih =>
    intro h
    obtain ⟨new, hnew, hsub⟩ := ih h
    -- `novelChains [d]` is `[]` or `[m.intronPath]`, by evaluation
    rw [novelChains_append, List.append_assoc] at hnew
    cases d with
    | skipped => exact ⟨new, hnew, hsub.trans (List.sublist_cons_self _ _)⟩
    | knownAdded m => exact ⟨new, hnew, hsub.trans (List.sublist_cons_self _ _)⟩
    | novelAdded m =>
      obtain ⟨_, _, _, _, hf⟩ := flStep_novel_inv hd
      obtain rfl := hf.model
      exact ⟨_ :: new, hnew, List.Sublist.cons_cons _ hsub⟩

theorem flLoop_origin (env : FLEnv) (sd : Iv → Strand) (next : Nat → Nat) (paths : List PathIn) (st : FLState)
    (ds : List Decision) (st' : FLState) (ds' : List Decision)
    (h : flLoop env sd next paths st ds = some (st', ds')) :
    ∀ d ∈ ds', d ∈ ds ∨ ∃ pi ∈ paths, ∃ s1 s2, flStep env sd next s1 pi = some (s2, d) := by
  revert h
  fun_induction flLoop env sd next paths st ds
  case case1 => rintro ⟨⟩; exact fun d hd => Or.inl hd
  case case2 => nofun
  case case3 pi t st ds st1 d1 hd1 ih =>
    intro h d hd
    rcases ih h d hd with h' | ⟨pj, hpj, hs⟩
    · rcases List.mem_append.1 h' with h' | h'
      · exact Or.inl h'
      · cases List.mem_singleton.1 h'; exact Or.inr ⟨pi, List.mem_cons_self, st, st1, hd1⟩
    · exact Or.inr ⟨pj, List.mem_cons_of_mem _ hpj, hs⟩


theorem cnt_touchInt (m : List (String × Int)) (k t : String) : cnt (touchInt m k) t = cnt m t := getD_touch m k t 0

def readsIn (rm : List (String × List String)) (t : String) : List String := (amGet? rm t).getD []

theorem readsOf_eq (s : Store) (t : String) : readsOf s t = readsIn s.readIds t := rfl

theorem readsIn_amSet (m : List (String × List String)) (k t : String) (v : List String) :
    readsIn (amSet m k v) t = if t = k then v else readsIn m t := getD_amSet m k t v []

theorem readsIn_amErase (m : List (String × List String)) (k t : String) :
    readsIn (amErase m k) t = if t = k then [] else readsIn m t := getD_amErase m k t []

theorem readsIn_touchList (m : List (String × List String)) (k t : String) : readsIn (touchList m k) t = readsIn m t :=
  getD_touch m k t []

/-- the per-transcript read counter never exceeds the number of reads listed for the transcript -/
def CounterLe (s : Store) : Prop := ∀ t, cnt s.counter t ≤ ((readsIn s.readIds t).length : Int)

theorem counterLe_empty : CounterLe Store.empty := by
  intro t; simp [Store.empty, cnt, amGet?, readsIn]

theorem saveRead_counterLe {s : Store} (h : CounterLe s) (r tid : String) : CounterLe (s.saveRead r tid) := by
  intro t
  have := h t
  simp only [Store.saveRead, cnt_amSet, readsIn_amSet, readsOf_eq]
  split
  · rename_i ht; subst ht; simp; omega
  · exact this

theorem saveRead_models (s : Store) (r tid : String) : (s.saveRead r tid).models = s.models := rfl

theorem addModel_counterLe {s : Store} (h : CounterLe s) (m : TModel) (reads : List String) :
    CounterLe (s.addModel m reads) :=
  List.foldlRecOn _ _ (fun t => h t) fun _ hs r _ => saveRead_counterLe hs r m.tid

theorem addModel_models (s : Store) (m : TModel) (reads : List String) : (s.addModel m reads).models = s.models ++ [m] :=
  List.foldlRecOn (motive := fun x : Store => x.models = s.models ++ [m]) _ _ rfl fun _ hs _ _ => hs

theorem deleteFromStorage_spec {s s' : Store} {tid : String} (h : s.deleteFromStorage tid = some s') :
    s'.models = s.models ∧ (∀ t, cnt s'.counter t = if t = tid then 0 else cnt s.counter t) ∧
    (∀ t, readsIn s'.readIds t = if t = tid then [] else readsIn s.readIds t) ∧
    s'.readIds = amErase s.readIds tid := by
  unfold Store.deleteFromStorage at h
  simp only at h
  split at h
  · cases h
    exact ⟨rfl, fun t => cnt_amErase _ _ _, fun t => readsIn_amErase _ _ _, rfl⟩
  · cases h

theorem foldl_dec_cnt (l : List String) (rc : List (String × Int)) (r : String) :
    cnt (l.foldl (fun rc a => amSet rc a (cnt rc a - 1)) rc) r = cnt rc r - l.count r := by
  induction l generalizing rc with
  | nil => simp
  | cons a t ih =>
    rw [List.foldl_cons, ih, cnt_amSet, List.count_cons]
    by_cases h : r = a
    · rw [if_pos h, h, beq_self_eq_true, if_pos rfl, Int.natCast_add, Int.sub_sub, Int.add_comm]
      rfl
    · rw [if_neg h, if_neg (by simpa using Ne.symm h)]
      rfl

theorem delete_rcount {s s1 : Store} {tid : String} (h : s.deleteFromStorage tid = some s1) (r : String) :
    cnt s1.rcount r = cnt s.rcount r - (readsIn s.readIds tid).count r := by
  unfold Store.deleteFromStorage at h
  split at h
  · cases h
    exact foldl_dec_cnt _ _ r
  · cases h

/-- `s'` lists at least the reads `s` lists, for every transcript, and keeps the counter within the growth -/
structure Grow (s s' : Store) : Prop where
  models : s'.models = s.models
  reads : ∀ t, readsIn s.readIds t <+: readsIn s'.readIds t
  counter : ∀ t, cnt s'.counter t - cnt s.counter t ≤
    ((readsIn s'.readIds t).length : Int) - ((readsIn s.readIds t).length : Int)

theorem Grow.refl (s : Store) : Grow s s := ⟨rfl, fun _ => List.prefix_refl _, fun _ => by simp⟩

theorem Grow.trans {a b c : Store} (h1 : Grow a b) (h2 : Grow b c) : Grow a c :=
  ⟨h2.models.trans h1.models, fun t => (h1.reads t).trans (h2.reads t), fun t => by
    have := h1.counter t; have := h2.counter t; omega⟩

theorem Grow.counterLe {s s' : Store} (h : Grow s s') (hc : CounterLe s) : CounterLe s' := by
  intro t; have := h.counter t; have := hc t; omega

theorem grow_rcount (s : Store) (rc : List (String × Int)) : Grow s { s with rcount := rc } :=
  ⟨rfl, fun _ => List.prefix_refl _, fun _ => by simp⟩

theorem grow_append (s : Store) (rc c : List (String × Int)) (m r : String)
    (hc : ∀ t, cnt c t ≤ cnt s.counter t + if t = m then 1 else 0) :
    Grow s { s with rcount := rc, counter := c, readIds := amSet s.readIds m (readsOf s m ++ [r]) } := by
  refine ⟨rfl, fun t => ?_, fun t => ?_⟩
  · simp only [readsIn_amSet, readsOf_eq]
    split
    · rename_i h; subst h; exact List.prefix_append _ _
    · exact List.prefix_refl _
  · have := hc t
    simp only [readsIn_amSet, readsOf_eq]
    split
    · rename_i h; subst h; simp at this ⊢; omega
    · rename_i h; simp [h] at this ⊢; omega

theorem assignOne_grow (s : Store) (a : AssignIn) : Grow s (assignOne s a) := by
  unfold assignOne
  split
  · exact grow_rcount s _
  split
  · rcases a.matched with _ | ⟨m, _ | ⟨m2, t⟩⟩
    · exact grow_rcount s _
    · exact grow_append s _ _ m a.read fun t => by rw [cnt_amSet]; split <;> simp_all
    · exact (grow_rcount s _).trans <| List.foldlRecOn _ _ (Grow.refl _) fun x hx m _ =>
        hx.trans (grow_append x _ _ m a.read fun t => by split <;> omega)
  · exact grow_rcount s _

theorem assignReads_grow (s : Store) (ins : List AssignIn) : Grow s (s.assignReads ins) := by
  unfold Store.assignReads
  split
  · exact List.foldlRecOn _ _ (Grow.refl s) fun x hx _ _ => hx.trans (grow_rcount x _)
  · exact List.foldlRecOn _ _ (Grow.refl s) fun x hx a _ => hx.trans (assignOne_grow x a)


def ids (ms : List TModel) : List String := ms.map (·.tid)

/-- `s1` is `s` after defaultdict reads: same counters, same read lists, possibly new empty entries (`read_assignment_counts` is
    not mentioned: for that, `ReadsOnly` of Lemmas/SimilarIsoforms.lean) -/
structure Touched (s s1 : Store) : Prop where
  models : s1.models = s.models
  counter : ∀ t, cnt s1.counter t = cnt s.counter t
  reads : ∀ t, readsIn s1.readIds t = readsIn s.readIds t
  entries : ∀ p ∈ s1.readIds, p ∈ s.readIds ∨ p.2 = []

theorem Touched.refl (s : Store) : Touched s s := ⟨rfl, fun _ => rfl, fun _ => rfl, fun _ hp => Or.inl hp⟩

theorem mem_touchList {m : List (String × List String)} {k : String} {p : String × List String}
    (h : p ∈ touchList m k) : p ∈ m ∨ p.2 = [] := by
  unfold touchList at h
  split at h
  · exact Or.inl h
  · exact (mem_amSet h).elim (fun e => Or.inr (e ▸ rfl)) Or.inl

theorem touched_counter (s : Store) (k : String) : Touched s { s with counter := touchInt s.counter k } :=
  ⟨rfl, fun _ => cnt_touchInt _ _ _, fun _ => rfl, fun _ hp => Or.inl hp⟩

theorem touched_both (s : Store) (k : String) :
    Touched s { s with counter := touchInt s.counter k, readIds := touchList s.readIds k } :=
  ⟨rfl, fun _ => cnt_touchInt _ _ _, fun _ => readsIn_touchList _ _ _, fun _ hp => mem_touchList hp⟩

/-- `s'` is `s` with the transcripts `D` deleted (and possibly defaultdict reads) -/
structure Shrunk (D : List String) (s s' : Store) : Prop where
  counter : ∀ t, cnt s'.counter t = if t ∈ D then 0 else cnt s.counter t
  reads : ∀ t, readsIn s'.readIds t = if t ∈ D then [] else readsIn s.readIds t
  entries : ∀ p ∈ s'.readIds, p.2 = [] ∨ (p ∈ s.readIds ∧ p.1 ∉ D)

theorem Touched.shrunk {s s1 : Store} (h : Touched s s1) : Shrunk [] s s1 :=
  ⟨fun t => by simpa using h.counter t, fun t => by simpa using h.reads t,
    fun p hp => (h.entries p hp).symm.imp id fun hp' => ⟨hp', List.not_mem_nil⟩⟩

theorem deleteFromStorage_shrunk {s s' : Store} {tid : String} (h : s.deleteFromStorage tid = some s') :
    Shrunk [tid] s s' := by
  obtain ⟨_, hc, hr, he⟩ := deleteFromStorage_spec h
  refine ⟨fun t => by simpa using hc t, fun t => by simpa using hr t, fun p hp => Or.inr ?_⟩
  rw [he] at hp
  simpa using mem_amErase hp

theorem Shrunk.trans {D1 D2 : List String} {a b c : Store} (h1 : Shrunk D1 a b) (h2 : Shrunk D2 b c) :
    Shrunk (D1 ++ D2) a c := by
  refine ⟨fun t => ?_, fun t => ?_, fun p hp => ?_⟩
  · rw [h2.counter, h1.counter]
    by_cases y : t ∈ D2 <;> simp [y]
  · rw [h2.reads, h1.reads]
    by_cases y : t ∈ D2 <;> simp [y]
  · rcases h2.entries p hp with h | ⟨h, hn2⟩
    · exact Or.inl h
    · rcases h1.entries p h with h' | ⟨h', hn1⟩
      · exact Or.inl h'
      · exact Or.inr ⟨h', by simp [hn1, hn2]⟩

theorem Shrunk.counterLe {D : List String} {s s' : Store} (h : Shrunk D s s') (hc : CounterLe s) : CounterLe s' := by
  intro t
  rw [h.counter, h.reads]
  split
  · simp
  · exact hc t

theorem deleteFromStorage_counterLe {s s' : Store} {tid : String} (hc : CounterLe s)
    (h : s.deleteFromStorage tid = some s') : CounterLe s' :=
  (deleteFromStorage_shrunk h).counterLe hc

/-- Every run of a filtering loop whose body only reads (`hdec`): the kept models `new` in order, the deleted ids `D`,
    and the storage shrunk by `D`.  With distinct ids, kept models are not among the deleted and satisfy whatever
    keeping implies about their counter (`hQ`). -/
theorem filterLoopG_spec (dec : Store → TModel → Option (Bool × Store)) (Q : Int → TModel → Prop)
    (hdec : ∀ s m k s1, dec s m = some (k, s1) → Touched s s1)
    (hQ : ∀ s m s1, dec s m = some (true, s1) → Q (cnt s.counter m.tid) m)
    (ms : List TModel) (s : Store) (kept : List TModel) (s' : Store) (kept' : List TModel)
    (h : filterLoopG dec ms s kept = some (s', kept')) :
    ∃ new D, kept' = kept ++ new ∧ new.Sublist ms ∧ (∀ d ∈ D, d ∈ ids ms) ∧ (∀ m ∈ ms, m ∈ new ∨ m.tid ∈ D) ∧
      Shrunk D s s' ∧
      ((ids ms).Nodup → (∀ m ∈ new, m.tid ∉ D) ∧ (∀ m ∈ new, Q (cnt s.counter m.tid) m)) := by
  revert h
  fun_induction filterLoopG dec ms s kept
  case case1 =>
    rintro ⟨⟩
    exact ⟨[], [], by simp, .refl _, by simp, by simp, (Touched.refl _).shrunk, fun _ => ⟨by simp, by simp⟩⟩
  case case2 | case4 => nofun
  case case3 m t s kept s1 hd ih =>
    intro h
    have ht := hdec _ _ _ _ hd
    obtain ⟨new, D, rfl, hsub, hD, hcov, hsh, hB⟩ := ih h
    refine ⟨m :: new, D, by simp, hsub.cons_cons m, fun d hd' => List.mem_cons_of_mem _ (hD d hd'),
      List.forall_mem_cons.2 ⟨Or.inl List.mem_cons_self, fun x hx => (hcov x hx).imp (List.mem_cons_of_mem _) id⟩,
      ht.shrunk.trans hsh, fun hnd => ?_⟩
    obtain ⟨hm, hnd'⟩ := List.nodup_cons.1 hnd
    obtain ⟨hnD, hq⟩ := hB hnd'
    simp only [List.forall_mem_cons]
    exact ⟨⟨fun hc => hm (hD _ hc), hnD⟩, hQ _ _ _ hd, fun x hx => by rw [← ht.counter]; exact hq x hx⟩
  case case5 m t s kept s1 hd sd hdel ih =>
    intro h
    have hs := (hdec _ _ _ _ hd).shrunk.trans (deleteFromStorage_shrunk hdel)
    obtain ⟨new, D, rfl, hsub, hD, hcov, hsh, hB⟩ := ih h
    refine ⟨new, m.tid :: D, rfl, hsub.trans (List.sublist_cons_self _ _),
      List.forall_mem_cons.2 ⟨List.mem_cons_self, fun d hd' => List.mem_cons_of_mem _ (hD d hd')⟩,
      List.forall_mem_cons.2 ⟨Or.inr List.mem_cons_self, fun x hx => (hcov x hx).imp id (List.mem_cons_of_mem _)⟩,
      hs.trans hsh, fun hnd => ?_⟩
    obtain ⟨hm, hnd'⟩ := List.nodup_cons.1 hnd
    obtain ⟨hnD, hq⟩ := hB hnd'
    -- a kept model is not the deleted one: its id occurs in the tail
    have hne : ∀ x ∈ new, x.tid ≠ m.tid := fun x hx e => hm (List.mem_map.2 ⟨x, hsub.subset hx, e⟩)
    refine ⟨fun x hx hc => (List.mem_cons.1 hc).elim (hne x hx) (hnD x hx), fun x hx => ?_⟩
    have := hq x hx
    rwa [hs.counter, if_neg (by simpa using hne x hx)] at this

theorem filterLoopG_pure {dec : Store → TModel → Option (Bool × Store)} (f : TModel → Bool)
    (hdec : ∀ s m, dec s m = some (f m, s)) {ms : List TModel} {s : Store} {kept : List TModel} {s' : Store}
    {kept' : List TModel} (h : filterLoopG dec ms s kept = some (s', kept')) : kept' = kept ++ ms.filter f := by
  fun_induction filterLoopG dec ms s kept with
  | case1 s kept => cases h; simp
  | case2 m t s kept hd => cases h
  | case3 m t s kept s1 hd ih =>
    have hf : f m = true := (Prod.mk.inj (Option.some.inj ((hdec s m).symm.trans hd))).1
    simp [ih h, hf]
  | case4 m t s kept s1 hd hdel => cases h
  | case5 m t s kept s1 hd sd hdel ih =>
    have hf : f m = false := (Prod.mk.inj (Option.some.inj ((hdec s m).symm.trans hd))).1
    simp [ih h, hf]

/-! ### the three loop bodies only read: in every branch the returned store is `s` after defaultdict reads -/

theorem touched_of_some {s S s1 : Store} {b k : Bool} (hS : Touched s S) (h : some (b, S) = some (k, s1)) :
    Touched s s1 := by
  cases h; exact hS

theorem preFilterDec_touched {p : FilterParams} {mapq : String → Int} {cutoff : Int} {s s1 : Store} {m : TModel} {k : Bool}
    (h : preFilterDec p mapq cutoff s m = some (k, s1)) : Touched s s1 := by
  revert h
  fun_cases preFilterDec p mapq cutoff s m
  case case1 | case5 => exact touched_of_some (Touched.refl s)
  case case2 => exact touched_of_some (touched_counter s _)
  case case3 => nofun
  case case4 => exact touched_of_some (touched_both s _)

theorem filterDec1_touched {p : FilterParams} {mapq : String → Int} {toSub : List String} {cov : TModel → Int}
    {s s1 : Store} {m : TModel} {k : Bool} (h : filterDec1 p mapq toSub cov s m = some (k, s1)) : Touched s s1 := by
  revert h
  fun_cases filterDec1 p mapq toSub cov s m
  case case1 | case2 => exact touched_of_some (Touched.refl s)
  case case3 => exact touched_of_some (touched_counter s _)
  case case4 => nofun
  case case5 | case6 => exact touched_of_some (touched_both s _)

theorem filterDec1_keep {p : FilterParams} {mapq : String → Int} {toSub : List String} {cov : TModel → Int}
    {s s1 : Store} {m : TModel} (h : filterDec1 p mapq toSub cov s m = some (true, s1)) :
    m.ttype ≠ .known → p.minNovelCount ≤ cnt s.counter m.tid := by
  intro hk
  simp only [filterDec1, if_neg hk] at h
  obtain ⟨_, h⟩ := of_ite_ne (by simp) h
  obtain ⟨hc, _⟩ := of_ite_ne (by simp) h
  rw [cnt_touchInt] at hc
  have : max (p.minNovelCount * 1000) (cov m) ≥ p.minNovelCount * 1000 := Int.le_max_left _ _
  omega

theorem filterDec2_touched {toSub : List String} {s s1 : Store} {m : TModel} {k : Bool}
    (h : filterDec2 toSub s m = some (k, s1)) : Touched s s1 := by
  revert h
  fun_cases filterDec2 toSub s m <;> exact touched_of_some (Touched.refl s)

theorem sublist_ids_nodup {a b : List TModel} (h : a.Sublist b) (hb : (ids b).Nodup) : (ids a).Nodup :=
  (h.map _).nodup hb

theorem touchFold_cnt (l : List TModel) (c : List (String × Int)) (t : String) :
    cnt (l.foldl (fun c m => touchInt c m.tid) c) t = cnt c t :=
  List.foldlRecOn (motive := fun c' => cnt c' t = cnt c t) _ _ rfl fun _ hc _ _ => by rw [cnt_touchInt, hc]

theorem preFilter_spec {s s' : Store} {p : FilterParams} {mapq : String → Int} (h : s.preFilter p mapq = some s') :
    ∃ D, s'.models.Sublist s.models ∧ (∀ m ∈ s.models, m ∈ s'.models ∨ m.tid ∈ D) ∧ Shrunk D s s' := by
  simp only [Store.preFilter] at h
  split at h
  · cases h
  · rename_i sx kept hl
    cases h
    obtain ⟨new, D, rfl, hsub, _, hcov, hsh, _⟩ :=
      filterLoopG_spec _ (fun _ _ => True) (fun _ _ _ _ h => preFilterDec_touched h) (fun _ _ _ _ => trivial) _ _ _ _ _ hl
    -- the loop starts after the defaultdict reads of the cutoff computation
    exact ⟨D, hsub, hcov, fun t => by rw [hsh.counter]; simp only [touchFold_cnt], hsh.reads, hsh.entries⟩

/-- `filter_transcripts` with `detect_similar_isoforms` as an input: `D` = the ids deleted by either pass (`filterLoopG_spec` twice);
    the last conjunct needs distinct ids, as there -/
theorem filterTranscripts_spec {s s' : Store} {p : FilterParams} {mapq : String → Int}
    {similar : List TModel → List String} {covTerm : TModel → Int}
    (h : s.filterTranscripts p mapq similar covTerm = some s') :
    ∃ D, s'.models.Sublist s.models ∧ (∀ m ∈ s.models, m ∈ s'.models ∨ m.tid ∈ D) ∧ Shrunk D s s' ∧
      ((ids s.models).Nodup → ∀ m ∈ s'.models, m.tid ∉ D ∧ (m.ttype ≠ .known → p.minNovelCount ≤ cnt s.counter m.tid)) := by
  simp only [Store.filterTranscripts] at h
  split at h
  · cases h
  rename_i s1 pre hl1
  split at h
  · cases h
  rename_i s2 kept hl2
  cases h
  obtain ⟨_, D1, rfl, hsub1, _, hcov1, hsh1, hB1⟩ :=
    filterLoopG_spec _ (fun c m => m.ttype ≠ .known → p.minNovelCount ≤ c)
      (fun _ _ _ _ h => filterDec1_touched h) (fun _ _ _ h => filterDec1_keep h) _ _ _ _ _ hl1
  obtain ⟨_, D2, rfl, hsub2, _, hcov2, hsh2, hB2⟩ :=
    filterLoopG_spec _ (fun _ _ => True) (fun _ _ _ _ h => filterDec2_touched h) (fun _ _ _ _ => trivial) _ _ _ _ _ hl2
  have hs := hsh1.trans hsh2
  refine ⟨D1 ++ D2, hsub2.trans hsub1, fun m hm => ?_, ⟨hs.counter, hs.reads, hs.entries⟩, fun hnd m hm => ?_⟩
  · rcases hcov1 m hm with h1 | h1
    · exact (hcov2 m h1).imp id fun h2 => List.mem_append_right _ h2
    · exact Or.inr (List.mem_append_left _ h1)
  · obtain ⟨hd1, hq1⟩ := hB1 hnd
    have hm1 := hsub2.subset hm
    exact ⟨by simp [hd1 m hm1, (hB2 (sublist_ids_nodup hsub1 hnd)).1 m hm], hq1 m hm1⟩


theorem mem_dump_of_reads {s : Store} {r t : String} (h : r ∈ readsIn s.readIds t) : (r, t) ∈ s.dumpR2T :=
  let ⟨rs, hm, hr⟩ := mem_getD_amGet? h
  List.mem_append_left _ (List.mem_flatMap.2 ⟨(t, rs), hm, List.mem_map.2 ⟨r, hr, rfl⟩⟩)

/-- entries of `transcript_read_ids` that hold reads belong to stored models -/
def R2TInv (s : Store) : Prop := ∀ p ∈ s.readIds, p.2 ≠ [] → p.1 ∈ ids s.models

theorem r2tInv_amSet {s : Store} (h : R2TInv s) {tid : String} (ht : tid ∈ ids s.models) (v : List String)
    (c rc : List (String × Int)) : R2TInv { s with readIds := amSet s.readIds tid v, counter := c, rcount := rc } :=
  forall_mem_amSet (Q := fun p => p.2 ≠ [] → p.1 ∈ ids s.models) h fun _ => ht

theorem r2tInv_addModel {s : Store} (h : R2TInv s) (m : TModel) (reads : List String) : R2TInv (s.addModel m reads) :=
  (List.foldlRecOn (motive := fun x => R2TInv x ∧ m.tid ∈ ids x.models) _ _
    ⟨fun p hp hne => by simpa [ids] using Or.inl (h p hp hne), by simp [ids]⟩
    fun _ hx _ _ => ⟨r2tInv_amSet hx.1 hx.2 _ _ _, hx.2⟩).1

theorem r2tInv_assignOne {s : Store} {a : AssignIn} (h : R2TInv s) (hm : ∀ t ∈ a.matched, t ∈ ids s.models) :
    R2TInv (assignOne s a) := by
  unfold assignOne
  split
  · exact h
  split
  · refine (List.foldlRecOn (motive := fun x => R2TInv x ∧ x.models = s.models) _ _ ⟨?_, ?_⟩
      fun x hx t ht => ⟨r2tInv_amSet hx.1 (hx.2 ▸ hm t ht) _ _ _, hx.2⟩).1
    · split <;> exact h
    · split <;> rfl
  · exact h

theorem r2tInv_assignReads {s : Store} (h : R2TInv s) {ins : List AssignIn}
    (hsc : ∀ a ∈ ins, ∀ t ∈ a.matched, t ∈ ids s.models) : R2TInv (s.assignReads ins) := by
  unfold Store.assignReads
  split
  · exact List.foldlRecOn (motive := R2TInv) _ _ h fun _ hx _ _ => hx
  · exact (List.foldlRecOn (motive := fun x => R2TInv x ∧ x.models = s.models) _ _ ⟨h, rfl⟩ fun x hx a ha =>
      ⟨r2tInv_assignOne hx.1 (hx.2 ▸ hsc a ha), (assignOne_grow x a).models.trans hx.2⟩).1

theorem Shrunk.r2tInv {D : List String} {s s' : Store} (hsh : Shrunk D s s')
    (hcov : ∀ m ∈ s.models, m ∈ s'.models ∨ m.tid ∈ D) (h : R2TInv s) : R2TInv s' := by
  intro q hq hne
  rcases hsh.entries q hq with h1 | ⟨h1, h2⟩
  · exact absurd h1 hne
  · obtain ⟨m, hm, hmt⟩ := List.mem_map.1 (h q h1 hne)
    rcases hcov m hm with h3 | h3
    · exact List.mem_map.2 ⟨m, h3, hmt⟩
    · exact absurd (hmt ▸ h3) h2

end IsoVerif.Lemmas.C04
