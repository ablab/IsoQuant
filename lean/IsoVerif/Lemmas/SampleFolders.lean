/-
C10 (experiment name = folder name) — lemmas about `Model/SampleFolders.lean`: what a joined path means, what
`check_experiment_name` excludes, and the libraries a list file yields.
-/
import IsoVerif.Model.SampleFolders
import IsoVerif.Lemmas.SampleNames

namespace IsoVerif.Lemmas.C10
open IsoVerif.Model.C10

theorem splitSlash_ne_nil (p : List Char) : splitSlash p ≠ [] := by
  cases p with
  | nil => simp [splitSlash]
  | cons c cs =>
    simp only [splitSlash]
    split
    · simp
    · split <;> simp

theorem splitSlash_append_slash (a b : List Char) : splitSlash (a ++ '/' :: b) = splitSlash a ++ splitSlash b := by
  induction a with
  | nil => simp [splitSlash]
  | cons c cs ih =>
    by_cases hc : c = '/'
    · simp [splitSlash, hc, ih]
    · have hne := splitSlash_ne_nil cs
      simp only [List.cons_append, splitSlash, if_neg hc, ih]
      cases hs : splitSlash cs with
      | nil => exact absurd hs hne
      | cons h t => simp

theorem splitSlash_of_no_slash (n : List Char) (h : '/' ∉ n) : splitSlash n = [n] := by
  induction n with
  | nil => simp [splitSlash]
  | cons c cs ih =>
    have hc : c ≠ '/' := fun e => h (by simp [e])
    have hcs : '/' ∉ cs := fun e => h (by simp [e])
    simp [splitSlash, hc, ih hcs]

theorem resolveFrom_append_slash (base : List (List Char)) (a b : List Char) :
    resolveFrom base (a ++ '/' :: b) = resolveFrom (resolveFrom base a) b := by
  simp [resolveFrom, splitSlash_append_slash, List.foldl_append]

/-- an ordinary directory entry name: not empty, not `.`, not `..`, no slash -/
def PlainComp (c : List Char) : Prop := c ≠ [] ∧ c ≠ ['.'] ∧ c ≠ ['.', '.'] ∧ '/' ∉ c

theorem resolveFrom_plain (base : List (List Char)) (n : List Char) (h : PlainComp n) : resolveFrom base n = base ++ [n] := by
  obtain ⟨h0, h1, h2, hs⟩ := h
  simp [resolveFrom, splitSlash_of_no_slash n hs, walkStep, h0, h1, h2]

theorem resolveFrom_nil (base : List (List Char)) : resolveFrom base [] = base := by
  simp [resolveFrom, splitSlash, walkStep]

/-- `os.path.join(a, b)` with a relative `b` means: go to `a`, then walk `b` -/
theorem resolve_join (a b : List Char) (hb : b.head? ≠ some '/') :
    resolveL (pathJoinL a b) = resolveFrom (resolveL a) b := by
  unfold pathJoinL
  rw [if_neg hb]
  by_cases ha : a = [] ∨ a.getLast? = some '/'
  · rw [if_pos ha]
    rcases ha with ha | ha
    · subst ha
      simp [resolveL, resolveFrom_nil]
    · obtain ⟨a', rfl⟩ := List.getLast?_eq_some_iff.mp ha
      have e1 : a' ++ ['/'] ++ b = a' ++ '/' :: b := by simp
      have e2 : a' ++ ['/'] = a' ++ '/' :: [] := rfl
      rw [e1]
      unfold resolveL
      rw [resolveFrom_append_slash, e2, resolveFrom_append_slash, resolveFrom_nil]
  · rw [if_neg ha]
    unfold resolveL
    rw [resolveFrom_append_slash]

theorem plain_head (n : List Char) (h : PlainComp n) : n.head? ≠ some '/' := by
  obtain ⟨h0, _, _, hs⟩ := h
  cases n with
  | nil => simp
  | cons c cs =>
    intro e
    simp only [List.head?_cons, Option.some.injEq] at e
    exact hs (by simp [e])

theorem basename_eq_self (n : List Char) (h : basenameL n = n) : '/' ∉ n := by
  unfold basenameL at h
  have h' : n.reverse.takeWhile (fun c => c != '/') = n.reverse := by
    have := congrArg List.reverse h
    simpa using this
  have hall := takeWhile_eq_self _ _ h'
  intro hm
  have := hall '/' (by simpa using hm)
  simp at this

/-- a name that passes `check_experiment_name` is an ordinary directory entry name -/
theorem plain_of_not_bad (n : List Char) (h : badFolderNameL n = false) : PlainComp n := by
  simp only [badFolderNameL, Bool.or_eq_false_iff, bne_eq_false_iff_eq, beq_eq_false_iff_ne, ne_eq] at h
  obtain ⟨⟨⟨h0, h1⟩, h2⟩, hb⟩ := h
  exact ⟨h0, h1, h2, basename_eq_self n hb⟩

/-- … and so is the name followed by a suffix without a slash: the file prefix -/
theorem plain_append (n s : List Char) (h : PlainComp n) (hs : '/' ∉ s) : PlainComp (n ++ s) := by
  obtain ⟨h0, h1, h2, hsl⟩ := h
  refine ⟨by simp [h0], ?_, ?_, ?_⟩
  · intro e
    cases n with
    | nil => exact h0 rfl
    | cons c t =>
      simp only [List.cons_append, List.cons.injEq, List.append_eq_nil_iff] at e
      exact h1 (by rw [e.1, e.2.1])
  · intro e
    cases n with
    | nil => exact h0 rfl
    | cons c t =>
      cases t with
      | nil =>
        simp only [List.cons_append, List.nil_append, List.cons.injEq] at e
        exact h1 (by rw [e.1])
      | cons d u =>
        simp only [List.cons_append, List.cons.injEq, List.append_eq_nil_iff] at e
        exact h2 (by rw [e.1, e.2.1, e.2.2.1])
  · simp [hsl, hs]

/-- the folder of an accepted name is the entry `name` of the output folder, and its files are entries of that folder -/
theorem folder_of_plain (out n : List Char) (h : PlainComp n) : resolveL (outDirL out n) = resolveL out ++ [n] := by
  unfold outDirL
  rw [resolve_join out n (plain_head n h), resolveFrom_plain _ n h]

theorem file_of_plain (out n s : List Char) (h : PlainComp n) (hs : '/' ∉ s) :
    resolveL (outFileL out n s) = resolveL out ++ [n, n ++ s] := by
  unfold outFileL
  have hp := plain_append n s h hs
  rw [resolve_join _ _ (plain_head _ hp), resolveFrom_plain _ _ hp, folder_of_plain out n h]
  simp

/-! ### list files: one file per line ⇒ one file per library -/

/-- every library registered so far / pending holds exactly one file -/
def LibsInv (s : ListSt) : Prop :=
  (∀ t ∈ s.st.acc, ∀ lib ∈ t.2.1, lib.length = 1) ∧ ∀ lib ∈ s.cur, lib.length = 1

def _root_.IsoVerif.Model.C10.ListLine.oneFile : ListLine → Prop
  | .files fs _ => fs.length = 1
  | .header _ => True

theorem flush_libs (s : ListSt) (hI : LibsInv s) : ∀ t ∈ s.flush.acc, ∀ lib ∈ t.2.1, lib.length = 1 := by
  unfold ListSt.flush
  split
  · exact hI.1
  · intro t ht lib hl
    simp only [List.mem_append, List.mem_singleton] at ht
    rcases ht with ht | rfl
    · exact hI.1 t ht lib hl
    · exact hI.2 lib hl

theorem listStepR_libs (rc : Bool) (pfx : String) (s s' : ListSt) (l : ListLine) (hl : l.oneFile)
    (h : listStepR rc pfx s l = some s') (hI : LibsInv s) : LibsInv s' := by
  cases l with
  | header nm =>
    simp only [listStepR] at h
    generalize (if nm.isEmpty = true then pfx ++ toString s.flush.index else nm) = nm0 at h
    by_cases hc : (s.flush.names.contains nm0 && renameBlocked rc s.flush.names nm0 (pfx ++ toString s.flush.index)) = true
    · rw [if_pos hc] at h; simp at h
    · rw [if_neg hc] at h
      simp only [Option.some.injEq] at h
      subst h
      exact ⟨flush_libs s hI, by simp⟩
  | files fs label =>
    simp only [listStepR] at h
    cases ha : addFiles (dictGet s.st.dict s.curName) (fs.map (fun f => (f.path, lineLabel fs label))) with
    | none => simp [ha] at h
    | some d' =>
      simp only [ha, Option.some.injEq] at h
      subst h
      refine ⟨hI.1, ?_⟩
      intro lib hm
      simp only [List.mem_append, List.mem_singleton] at hm
      rcases hm with hm | rfl
      · exact hI.2 lib hm
      · simpa [ListLine.oneFile] using hl

theorem listLoopR_libs (rc : Bool) (pfx : String) (lines : List ListLine) (s s' : ListSt)
    (hl : ∀ l ∈ lines, l.oneFile) (h : listLoopR rc pfx s lines = some s') (hI : LibsInv s) : LibsInv s' := by
  induction lines generalizing s with
  | nil =>
    simp only [listLoopR, Option.some.injEq] at h
    exact h ▸ hI
  | cons l ls ih =>
    simp only [listLoopR] at h
    cases hs : listStepR rc pfx s l with
    | none => simp [hs] at h
    | some s1 =>
      simp only [hs] at h
      exact ih s1 (fun x hx => hl x (by simp [hx])) h (listStepR_libs rc pfx s s1 l (hl l (by simp)) hs hI)

end IsoVerif.Lemmas.C10
