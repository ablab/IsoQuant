/-
Helper lemmas for C16 (polyA finder characterisation): `find?` over `range`, the window scan for every window length
(including 0), the brute-force specification `findPolyaSpec`, "AA inside a dense window" (pigeonhole), the relations
`PolyAStart` / `TailStart` the characterisations are stated with.
-/
import IsoVerif.Model.FinderChar
import IsoVerif.Lemmas.FinderSpec

namespace IsoVerif.Lemmas.C16
open IsoVerif.Gen IsoVerif.Model IsoVerif.Model.C16

theorem find?_range_spec (p : Nat → Bool) (n : Nat) :
    match (List.range n).find? p with
    | some i => i < n ∧ p i = true ∧ ∀ j < i, p j = false
    | none => ∀ j < n, p j = false := by
  cases h : (List.range n).find? p with
  | some i =>
    obtain ⟨h1, h2, h3⟩ := List.find?_range_eq_some.1 h
    exact ⟨List.mem_range.1 h2, h1, fun j hj => by simpa using h3 j hj⟩
  | none => exact fun j hj => by simpa using List.find?_range_eq_none.1 h j hj

/-- both `seq[k]` and `seq[k+1]` are set -/
def AAat (seq : List Bool) (k : Nat) : Prop := seq[k]? = some true ∧ seq[k + 1]? = some true

theorem aaAt_iff (seq : List Bool) (k : Nat) : aaAt seq k = true ↔ AAat seq k := by
  simp [aaAt, AAat]

theorem aaAt_false_iff (seq : List Bool) (k : Nat) : aaAt seq k = false ↔ ¬ AAat seq k := by
  rw [← aaAt_iff]; simp

theorem AAat_lt {seq : List Bool} {k : Nat} (h : AAat seq k) : k + 1 < seq.length := by
  by_cases hlt : k + 1 < seq.length
  · exact hlt
  · have := h.2; rw [List.getElem?_eq_none (by omega)] at this; cases this

theorem AAat_drop (seq : List Bool) (i k : Nat) : AAat (seq.drop i) k ↔ AAat seq (i + k) := by
  simp [AAat, List.getElem?_drop, Nat.add_assoc]

theorem aCount_eq_winCount (seq : List Bool) (j w : Nat) : aCount seq j w = winCount seq j w := rfl

theorem FirstWindow_unique {seq : List Bool} {w c i i' : Nat} (h : FirstWindow seq w c i)
    (h' : FirstWindow seq w c i') : i = i' := by
  rcases Nat.lt_trichotomy i i' with hlt | heq | hgt
  · have := h'.2.2 i hlt; have := h.2.1; omega
  · exact heq
  · have := h.2.2 i' hgt; have := h'.2.1; omega

theorem denseAt_iff (w c : Nat) (seq : List Bool) (i : Nat) :
    denseAt w c seq i = true ↔ i + w < seq.length ∧ c ≤ winCount seq i w := by
  unfold denseAt
  rw [Bool.and_eq_true, decide_eq_true_eq, decide_eq_true_eq, aCount_eq_winCount]

theorem firstDense_spec (w c : Nat) (seq : List Bool) :
    match firstDense w c seq with
    | some i => FirstWindow seq w c i
    | none => ∀ j, j + w < seq.length → winCount seq j w < c := by
  have h := find?_range_spec (denseAt w c seq) seq.length
  unfold firstDense
  cases hf : (List.range seq.length).find? (denseAt w c seq) with
  | some i =>
    rw [hf] at h
    obtain ⟨_, h2, h3⟩ := h
    obtain ⟨g1, g2⟩ := (denseAt_iff w c seq i).1 h2
    refine ⟨g1, g2, fun j hj => ?_⟩
    have := h3 j hj
    by_cases hc : c ≤ winCount seq j w
    · have hd : denseAt w c seq j = true := (denseAt_iff w c seq j).2 ⟨by omega, hc⟩
      rw [hd] at this; cases this
    · omega
  | none =>
    rw [hf] at h
    intro j hj
    have := h j (by omega)
    by_cases hc : c ≤ winCount seq j w
    · have hd : denseAt w c seq j = true := (denseAt_iff w c seq j).2 ⟨hj, hc⟩
      rw [hd] at this; cases this
    · omega

theorem firstAAFrom_spec (seq : List Bool) (i : Nat) :
    match firstAAFrom seq i with
    | some k => i ≤ k ∧ AAat seq k ∧ ∀ j, i ≤ j → j < k → ¬ AAat seq j
    | none => ∀ j, i ≤ j → ¬ AAat seq j := by
  have h := find?_range_spec (fun k => decide (i ≤ k) && aaAt seq k) seq.length
  unfold firstAAFrom
  cases hf : (List.range seq.length).find? (fun k => decide (i ≤ k) && aaAt seq k) with
  | some k =>
    rw [hf] at h
    obtain ⟨_, h2, h3⟩ := h
    simp only [Bool.and_eq_true, decide_eq_true_eq] at h2
    refine ⟨h2.1, (aaAt_iff seq k).1 h2.2, fun j hij hjk => ?_⟩
    have := h3 j hjk
    simp only [Bool.and_eq_false_iff, decide_eq_false_iff_not] at this
    rcases this with h' | h'
    · omega
    · exact (aaAt_false_iff seq j).1 h'
  | none =>
    rw [hf] at h
    intro j hij haa
    have hlt := AAat_lt haa
    have := h j (by omega)
    simp only [Bool.and_eq_false_iff, decide_eq_false_iff_not] at this
    rcases this with h' | h'
    · omega
    · exact (aaAt_false_iff seq j).1 h' haa

/-- `max(0, seq[i:].find('AA'))` added to `i` = the first "AA" at or after `i`, `i` itself when there is none -/
theorem aa_offset_eq (seq : List Bool) (i : Nat) :
    i + (findAA (seq.drop i)).getD 0 = (firstAAFrom seq i).getD i := by
  have h1 := findAA_spec (seq.drop i)
  have h2 := firstAAFrom_spec seq i
  cases ha : findAA (seq.drop i) with
  | some a =>
    rw [ha] at h1
    obtain ⟨g1, g2, g3⟩ := h1
    have haa : AAat seq (i + a) := (AAat_drop seq i a).1 ⟨g1, g2⟩
    cases hk : firstAAFrom seq i with
    | some k =>
      rw [hk] at h2
      obtain ⟨k1, k2, k3⟩ := h2
      simp only [Option.getD_some]
      rcases Nat.lt_trichotomy (i + a) k with hlt | heq | hgt
      · exact absurd haa (k3 (i + a) (by omega) hlt)
      · exact heq
      · exfalso
        have := g3 (k - i) (by omega)
        apply this
        have hk2 : AAat seq (i + (k - i)) := by
          have : i + (k - i) = k := by omega
          rw [this]; exact k2
        exact (AAat_drop seq i (k - i)).2 hk2
    | none =>
      rw [hk] at h2
      exact absurd haa (h2 (i + a) (by omega))
  | none =>
    rw [ha] at h1
    cases hk : firstAAFrom seq i with
    | some k =>
      rw [hk] at h2
      obtain ⟨k1, k2, _⟩ := h2
      exfalso
      apply h1 (k - i)
      have hk2 : AAat seq (i + (k - i)) := by
        have : i + (k - i) = k := by omega
        rw [this]; exact k2
      exact (AAat_drop seq i (k - i)).2 hk2
    | none => simp

theorem findPolya_eq_spec (w c : Nat) (seq : List Bool) : findPolya w c seq = findPolyaSpec w c seq := by
  have h1 := findPolya_window w c seq
  have h2 := firstDense_spec w c seq
  unfold findPolyaSpec
  cases hf : findPolya w c seq with
  | none =>
    rw [hf] at h1
    cases hd : firstDense w c seq with
    | none => rfl
    | some i =>
      rw [hd] at h2
      have := h1 i h2.1
      have := h2.2.1
      omega
  | some p =>
    rw [hf] at h1
    obtain ⟨i, hi, hp⟩ := h1
    cases hd : firstDense w c seq with
    | none =>
      rw [hd] at h2
      have := h2 i hi.1
      have := hi.2.1
      omega
    | some i' =>
      rw [hd] at h2
      have := FirstWindow_unique hi h2
      subst this
      simp only [hp, aa_offset_eq]

/-! ### pigeonhole: a dense window contains an "AA" -/

theorem countTrue_le_length (l : List Bool) : countTrue l ≤ l.length := by
  unfold countTrue; exact List.countP_le_length

theorem no_aa_count : ∀ (n : Nat) (l : List Bool), l.length ≤ n → (∀ k, ¬ AAat l k) →
    2 * countTrue l ≤ l.length + 1 := by
  intro n
  induction n with
  | zero =>
    intro l hl _
    have : l = [] := List.length_eq_zero_iff.1 (by omega)
    subst this; simp [countTrue]
  | succ n ih =>
    intro l hl hno
    match l, hl, hno with
    | [], _, _ => simp [countTrue]
    | [a], _, _ => have := countTrue_le_length [a]; simp at this ⊢; omega
    | a :: b :: rest, hl, hno =>
      cases a with
      | false =>
        have := ih (b :: rest) (by simp at hl ⊢; omega) (fun k hk => hno (k + 1) (by simpa [AAat] using hk))
        rw [countTrue_cons]
        simp only [List.length_cons] at this ⊢
        simp
        omega
      | true =>
        cases b with
        | true => exact absurd (by simp [AAat]) (hno 0)
        | false =>
          have := ih rest (by simp at hl ⊢; omega) (fun k hk => hno (k + 2) (by simpa [AAat] using hk))
          rw [countTrue_cons, countTrue_cons]
          simp only [List.length_cons] at this ⊢
          simp
          omega

theorem aa_in_window (seq : List Bool) (w c i : Nat) (h : FirstWindow seq w c i) (hc : w + 2 ≤ 2 * c) :
    ∃ k, i ≤ k ∧ k + 2 ≤ i + w ∧ AAat seq k := by
  apply Classical.byContradiction
  intro hcon
  have hlen : ((seq.drop i).take w).length = w := by
    rw [List.length_take, List.length_drop]; have := h.1; omega
  have hno : ∀ k, ¬ AAat ((seq.drop i).take w) k := by
    intro k hk
    have hlt := AAat_lt hk
    rw [hlen] at hlt
    apply hcon
    refine ⟨i + k, by omega, by omega, ?_⟩
    obtain ⟨a1, a2⟩ := hk
    rw [List.getElem?_take_of_lt (by omega), List.getElem?_drop] at a1 a2
    exact ⟨a1, by rw [Nat.add_assoc]; exact a2⟩
  have := no_aa_count w _ (by omega) hno
  rw [hlen] at this
  have h2 := h.2.1
  unfold winCount at h2
  omega

theorem countTrue_take_all (l : List Bool) (p : Nat) : aCount l p l.length = countTrue (l.drop p) := by
  unfold aCount
  rw [List.take_of_length_le (by simp)]

theorem tailScan_eq_spec (w num den : Nat) (chk : Bool) (region : List Bool) :
    tailScan w num den chk region = tailScanSpec w num den chk region := by
  unfold tailScan tailScanSpec
  rw [findPolya_eq_spec]
  cases findPolyaSpec w (w * num / den) region with
  | none => rfl
  | some p =>
    simp only [countTrue_take_all, List.length_drop]
    cases chk <;> simp

/-- **what `find_polya` reports, as a relation**: `p` is the start `i` of the first window of `w` bases that ends
    strictly before the end of the sequence and holds at least `c` 'A', advanced to the least position `≥ i` at which an
    "AA" starts; `p = i` when no "AA" starts at or after `i` -/
def PolyAStart (w c : Nat) (seq : List Bool) (p : Nat) : Prop :=
  ∃ i, FirstWindow seq w c i ∧
    ((i ≤ p ∧ AAat seq p ∧ ∀ k, i ≤ k → k < p → ¬ AAat seq k) ∨ (p = i ∧ ∀ k, i ≤ k → ¬ AAat seq k))

theorem findPolyaSpec_sound (w c : Nat) (seq : List Bool) :
    match findPolyaSpec w c seq with
    | some p => PolyAStart w c seq p
    | none => ∀ j, j + w < seq.length → winCount seq j w < c := by
  have h1 := firstDense_spec w c seq
  unfold findPolyaSpec
  cases hd : firstDense w c seq with
  | none => rw [hd] at h1; exact h1
  | some i =>
    rw [hd] at h1
    have h2 := firstAAFrom_spec seq i
    show PolyAStart w c seq ((firstAAFrom seq i).getD i)
    cases hk : firstAAFrom seq i with
    | some k =>
      rw [hk] at h2
      exact ⟨i, h1, Or.inl ⟨h2.1, h2.2.1, h2.2.2⟩⟩
    | none =>
      rw [hk] at h2
      exact ⟨i, h1, Or.inr ⟨rfl, h2⟩⟩

theorem PolyAStart_unique {w c : Nat} {seq : List Bool} {p p' : Nat} (h : PolyAStart w c seq p)
    (h' : PolyAStart w c seq p') : p = p' := by
  obtain ⟨i, hi, hp⟩ := h
  obtain ⟨i', hi', hp'⟩ := h'
  have := FirstWindow_unique hi hi'
  subst this
  rcases hp with ⟨a1, a2, a3⟩ | ⟨a1, a2⟩ <;> rcases hp' with ⟨b1, b2, b3⟩ | ⟨b1, b2⟩
  · rcases Nat.lt_trichotomy p p' with hlt | heq | hgt
    · exact absurd a2 (b3 p a1 hlt)
    · exact heq
    · exact absurd b2 (a3 p' b1 hgt)
  · exact absurd a2 (b2 p a1)
  · exact absurd b2 (a2 p' b1)
  · omega

theorem PolyAStart_lt {w c : Nat} {seq : List Bool} {p : Nat} (h : PolyAStart w c seq p) :
    p < seq.length ∧ (1 ≤ w → p + 1 < seq.length) := by
  obtain ⟨i, hi, hp⟩ := h
  rcases hp with ⟨_, a2, _⟩ | ⟨a1, _⟩
  · have := AAat_lt a2; omega
  · have := hi.1; omega

/-- the relational specification of the query-level scan: `find_polya`'s answer, and for the internal finder the
    rest of the checked sequence from the reported base on holds at least the fraction `num/den` of 'A' -/
def TailStart (w num den : Nat) (chk : Bool) (region : List Bool) (p : Nat) : Prop :=
  PolyAStart w (w * num / den) region p ∧
    (chk = true → (region.length - p) * num ≤ countTrue (region.drop p) * den)

theorem tailScanSpec_sound (w num den : Nat) (chk : Bool) (region : List Bool) :
    match tailScanSpec w num den chk region with
    | some p => TailStart w num den chk region p
    | none => ∀ p, ¬ TailStart w num den chk region p := by
  have h := findPolyaSpec_sound w (w * num / den) region
  unfold tailScanSpec
  cases hf : findPolyaSpec w (w * num / den) region with
  | none =>
    rw [hf] at h
    intro p ⟨⟨i, hi, _⟩, _⟩
    have := h i hi.1
    have := hi.2.1
    omega
  | some p =>
    rw [hf] at h
    simp only [countTrue_take_all]
    by_cases hc : (chk && decide (countTrue (region.drop p) * den < (region.length - p) * num)) = true
    · simp only [hc, if_true]
      intro p' hp'
      have := PolyAStart_unique h hp'.1
      subst this
      simp only [Bool.and_eq_true, decide_eq_true_eq] at hc
      have := hp'.2 hc.1
      omega
    · simp only [hc]
      refine ⟨h, fun hchk => ?_⟩
      simp only [hchk, Bool.true_and, decide_eq_true_eq] at hc
      omega

theorem TailStart_unique {w num den : Nat} {chk : Bool} {region : List Bool} {p p' : Nat}
    (h : TailStart w num den chk region p) (h' : TailStart w num den chk region p') : p = p' :=
  PolyAStart_unique h.1 h'.1

theorem tailScan_spec (w num den : Nat) (chk : Bool) (region : List Bool) :
    match tailScan w num den chk region with
    | some p => ∃ i, FirstWindow region w (w * num / den) i ∧ p = i + (findAA (region.drop i)).getD 0 ∧
        p < region.length ∧
        (chk = true → (region.drop p).length * num ≤ countTrue (region.drop p) * den)
    | none => (∀ j, j + w < region.length → winCount region j w < w * num / den) ∨
        (chk = true ∧ ∃ i, FirstWindow region w (w * num / den) i ∧
          countTrue (region.drop (i + (findAA (region.drop i)).getD 0)) * den <
            (region.drop (i + (findAA (region.drop i)).getD 0)).length * num) := by
  have h := findPolya_window w (w * num / den) region
  unfold tailScan
  cases hf : findPolya w (w * num / den) region with
  | none =>
    rw [hf] at h
    simp only
    exact Or.inl h
  | some p =>
    rw [hf] at h
    obtain ⟨i, hi, h4⟩ := h
    have hp := findPolyaSpec_sound w (w * num / den) region
    rw [← findPolya_eq_spec, hf] at hp
    replace hp := (PolyAStart_lt hp).1
    simp only
    cases chk with
    | false => exact ⟨i, hi, h4, hp, by simp⟩
    | true =>
      simp only [if_true]
      by_cases hlt : countTrue (region.drop p) * den < (region.drop p).length * num
      · simp only [hlt, if_true]
        right
        refine ⟨trivial, i, hi, ?_⟩
        rw [← h4]; exact hlt
      · simp only [hlt, if_false]
        exact ⟨i, hi, h4, hp, fun _ => by omega⟩

end IsoVerif.Lemmas.C16
