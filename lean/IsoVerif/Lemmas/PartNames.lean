/-
Lemmas about the file-name arithmetic of `Model/PartNames.lean` (rreplace = last occurrence, posixpath split / join,
what refutes `auxCheck`).
-/
import IsoVerif.Model.PartNames

namespace IsoVerif.Lemmas.PartNames
open IsoVerif.Model.PartNames

/-- `old` occurs in `s` at index `i` -/
def OccursAt (old s : Str) (i : Nat) : Prop := old <+: s.drop i

theorem OccursAt.le_length {old s : Str} {i : Nat} (h : OccursAt old s i) : old.length ≤ s.length - i := by
  simpa using List.IsPrefix.length_le h

theorem rreplace?_none_iff (old new : Str) (hne : old ≠ []) :
    ∀ s : Str, rreplace? old new s = none ↔ ∀ i, ¬ OccursAt old s i := by
  intro s
  induction s with
  | nil =>
    simp only [rreplace?, OccursAt, List.drop_nil, List.prefix_nil, true_iff]
    intro _; exact hne
  | cons c cs ih =>
    -- an occurrence starts at the head or in the tail
    have : (∀ i, ¬ OccursAt old (c :: cs) i) ↔ ¬ old <+: c :: cs ∧ ∀ i, ¬ OccursAt old cs i :=
      ⟨fun h => ⟨h 0, fun i => h (i + 1)⟩, fun h i => by
        cases i with
        | zero => exact h.1
        | succ j => exact h.2 j⟩
    rw [rreplace?, this, ← ih, ← List.isPrefixOf_iff_prefix]
    cases rreplace? old new cs <;> cases old.isPrefixOf (c :: cs) <;> simp

theorem rreplace?_last (old new post : Str) (hne : old ≠ []) :
    ∀ pre : Str, (∀ i, pre.length < i → ¬ OccursAt old (pre ++ old ++ post) i) →
      rreplace? old new (pre ++ old ++ post) = some (pre ++ new ++ post) := by
  intro pre
  induction pre with
  | nil =>
    intro h
    cases old with
    | nil => exact absurd rfl hne
    | cons o os =>
      simp only [List.nil_append, List.cons_append, rreplace?]
      rw [(rreplace?_none_iff (o :: os) new hne (os ++ post)).2 fun j hj => h (j + 1) (Nat.succ_pos j) hj]
      have hp : (o :: os).isPrefixOf (o :: (os ++ post)) = true :=
        List.isPrefixOf_iff_prefix.2 (by simp)
      simp only [hp, if_true]
      have hdrop : (o :: (os ++ post)).drop (o :: os).length = post := by
        have := List.drop_left (l₁ := o :: os) (l₂ := post)
        simp at this ⊢
      rw [hdrop]
  | cons p ps ih =>
    intro h
    simp only [List.cons_append, rreplace?, ih fun i hi hocc => h (i + 1) (Nat.succ_lt_succ hi) hocc]

theorem rreplace_last (old new pre post : Str) (hne : old ≠ [])
    (h : ∀ i, pre.length < i → ¬ OccursAt old (pre ++ old ++ post) i) :
    rreplace (pre ++ old ++ post) old new = some (pre ++ new ++ post) := by
  unfold rreplace
  rw [if_neg hne, rreplace?_last old new post hne pre h]

theorem splitLast_noslash : ∀ s : Str, '/' ∉ s → splitLast s = ([], s) := by
  intro s
  induction s with
  | nil => intro _; rfl
  | cons c cs ih =>
    intro h
    have hc : c ≠ '/' := fun e => h (by simp [e])
    have hcs : '/' ∉ cs := fun e => h (by simp [e])
    simp [splitLast, ih hcs, hc]

theorem splitLast_slash (base : Str) (hb : '/' ∉ base) :
    ∀ xs : Str, splitLast (xs ++ '/' :: base) = (xs ++ ['/'], base) := by
  intro xs
  induction xs with
  | nil => simp [splitLast, splitLast_noslash base hb]
  | cons x xs ih => simp [splitLast, ih]

theorem rstripSlash_snoc : ∀ (dir : Str) (z : Char), z ≠ '/' → rstripSlash (dir ++ [z, '/']) = dir ++ [z] := by
  intro dir z hz
  induction dir with
  | nil => simp [rstripSlash, hz]
  | cons d ds ih => simp [rstripSlash, ih]

/-- a directory name as `os.path.join(args.output, prefix)` gives it: not empty, not ending with `/` -/
def DirOk (dir : Str) : Prop := ∃ d z, dir = d ++ [z] ∧ z ≠ '/'

theorem pathSplit_dir_base (dir base : Str) (hd : DirOk dir) (hb : '/' ∉ base) :
    pathSplit (dir ++ '/' :: base) = (dir, base) := by
  obtain ⟨d, z, rfl, hz⟩ := hd
  have h1 := splitLast_slash base hb (d ++ [z])
  have h2 : rstripSlash (d ++ [z] ++ ['/']) = d ++ [z] := by
    simpa using rstripSlash_snoc d z hz
  simp only [pathSplit, h1, h2]
  simp

theorem pathJoin_dir (dir x : Str) (hd : DirOk dir) (hx : x.head? ≠ some '/') :
    pathJoin dir x = dir ++ '/' :: x := by
  obtain ⟨d, z, rfl, hz⟩ := hd
  simp [pathJoin, hx, hz]

theorem self_mem_auxNamesOrig (c : Str) : c ∈ auxNamesOrig c :=
  List.mem_append_left _ (List.mem_map.2 ⟨[], List.mem_cons_self .., List.append_nil c⟩)

/-- `[a, b]` a sub-list (two DIFFERENT positions of `chrs`, also when `a = b`) rather than two memberships -/
theorem auxCheck_false_of_shared {chrs : List Str} {a b n : Str} (hs : List.Sublist [a, b] chrs)
    (ha : n ∈ auxNamesOrig a) (hb : n ∈ auxNamesOrig b) : auxCheck chrs = false := by
  have : ¬ (allAuxNames chrs).Nodup := fun h => by
    have hp := (List.pairwise_flatMap.1 (List.nodup_append.1 h).2.1).2.sublist hs
    simp only [List.pairwise_cons, List.mem_singleton, forall_eq] at hp
    exact hp.1 n ha n hb rfl
  simp [auxCheck, this]

theorem auxCheck_false_of_exp {chrs : List Str} {a n : Str} (hc : a ∈ chrs) (hn : n ∈ expNames)
    (ha : n ∈ auxNamesOrig a) : auxCheck chrs = false := by
  have : ¬ (allAuxNames chrs).Nodup := fun h =>
    (List.nodup_append.1 h).2.2 n hn n (List.mem_flatMap.2 ⟨a, hc, ha⟩) rfl
  simp [auxCheck, this]

end IsoVerif.Lemmas.PartNames
