/-
Invariants of `OverlappingFeaturesProfileConstructor.construct_profile_for_features` (Model/Profiles.lean
`ovSweep`, `ovEliminate`, `constructOverlapping`) needed by C01: what a `1` in the read / gene profile means and that an absent feature is marked (`OvSpec`); the
meaning of `−1` is in Lemmas/C13ProfileSound.lean (`TieLoser`, `InGap`).
Core Lean only.
-/
import IsoVerif.Lemmas.OvSweep
import IsoVerif.Lemmas.ListFacts

namespace IsoVerif.Lemmas.C01
open IsoVerif.Gen IsoVerif.Model IsoVerif.Lemmas.C13

/-- invariant of the sweep; `K`/`R` are the full known / read feature lists, `gi` the current gene position,
    `NZ` a fixed set of gene positions that are known to hold a non-zero mark -/
structure SweepInv (cmp : Iv → Iv → Bool) (K R : List Iv) (NZ : Nat → Prop) (gi : Nat) (st : OvState) : Prop where
  glen : st.gene.length = K.length
  rlen : st.read.length = R.length
  matched_ok : ∀ q ∈ st.matched, q.2 < gi ∧ st.gene[q.2]? = some 1 ∧
      ∃ r k, R[q.1]? = some r ∧ K[q.2]? = some k ∧ cmp r k = true
  read1 : ∀ j, st.read[j]? = some 1 → ∃ g, (j, g) ∈ st.matched
  gene1 : ∀ g, st.gene[g]? = some 1 → ∃ j, (j, g) ∈ st.matched
  dom : ∀ v ∈ st.read, v = -1 ∨ v = 0 ∨ v = 1
  sorted : st.matched.Pairwise (fun a b => a.2 < b.2)
  nz : ∀ g, NZ g → ∃ v, st.gene[g]? = some v ∧ v ≠ 0

/-- marking gene position `gi` with −1 keeps the invariant for the next position (with 1, together with the recorded
    match: `inv_match`) -/
theorem inv_set_gene_neg {cmp K R NZ gi} {st : OvState} (h : SweepInv cmp K R NZ gi st) :
    SweepInv cmp K R NZ (gi + 1) { st with gene := st.gene.set gi (-1) } := by
  refine ⟨by simp [h.glen], h.rlen, ?_, h.read1, ?_, h.dom, h.sorted, ?_⟩
  · intro q hq
    obtain ⟨h1, h2, h3⟩ := h.matched_ok q hq
    refine ⟨by omega, ?_, h3⟩
    show (st.gene.set gi (-1))[q.2]? = some 1
    rw [List.getElem?_set_ne (by omega)]; exact h2
  · intro g hg
    have hg' : (st.gene.set gi (-1))[g]? = some 1 := hg
    by_cases e : gi = g
    · subst e
      rw [List.getElem?_set] at hg'
      simp at hg'
    · rw [List.getElem?_set_ne e] at hg'; exact h.gene1 g hg'
  · intro g hg
    obtain ⟨v, hv, hv0⟩ := h.nz g hg
    show ∃ v, (st.gene.set gi (-1))[g]? = some v ∧ v ≠ 0
    by_cases e : gi = g
    · subst e
      exact ⟨-1, by rw [List.getElem?_set_self (getElem?_lt hv)], by omega⟩
    · exact ⟨v, by rw [List.getElem?_set_ne e]; exact hv, hv0⟩

theorem inv_step_gene {cmp K R NZ gi} {st : OvState} (h : SweepInv cmp K R NZ gi st) :
    SweepInv cmp K R NZ (gi + 1) st := by
  refine ⟨h.glen, h.rlen, ?_, h.read1, h.gene1, h.dom, h.sorted, h.nz⟩
  intro q hq
  obtain ⟨h1, h2, h3⟩ := h.matched_ok q hq
  exact ⟨by omega, h2, h3⟩

theorem inv_set_read_neg {cmp K R NZ gi} {st : OvState} (ri : Nat) (h : SweepInv cmp K R NZ gi st) :
    SweepInv cmp K R NZ gi { st with read := st.read.set ri (-1) } := by
  refine ⟨h.glen, by simp [h.rlen], h.matched_ok, ?_, h.gene1, ?_, h.sorted, h.nz⟩
  · intro j hj
    have hj' : (st.read.set ri (-1))[j]? = some 1 := hj
    by_cases e : ri = j
    · subst e
      rw [List.getElem?_set] at hj'
      simp at hj'
    · rw [List.getElem?_set_ne e] at hj'; exact h.read1 j hj'
  · intro v hv
    rcases List.mem_or_eq_of_mem_set hv with h1 | h1
    · exact h.dom v h1
    · left; exact h1

theorem inv_match {cmp K R NZ gi} {st : OvState} (ri : Nat) (r k : Iv) (h : SweepInv cmp K R NZ gi st)
    (hr : R[ri]? = some r) (hk : K[gi]? = some k) (hc : cmp r k = true) :
    SweepInv cmp K R NZ (gi + 1)
      { gene := st.gene.set gi 1, read := st.read.set ri 1, matched := st.matched ++ [(ri, gi)] } := by
  have hgi : gi < st.gene.length := by rw [h.glen]; exact getElem?_lt hk
  refine ⟨by simp [h.glen], by simp [h.rlen], ?_, ?_, ?_, ?_, ?_, ?_⟩
  · intro q hq
    simp only [List.mem_append, List.mem_singleton] at hq
    rcases hq with hq | hq
    · obtain ⟨h1, h2, h3⟩ := h.matched_ok q hq
      refine ⟨by omega, ?_, h3⟩
      show (st.gene.set gi 1)[q.2]? = some 1
      rw [List.getElem?_set_ne (by omega)]; exact h2
    · subst hq
      refine ⟨by simp, ?_, r, k, hr, hk, hc⟩
      show (st.gene.set gi 1)[gi]? = some 1
      exact List.getElem?_set_self hgi
  · intro j hj
    have hj' : (st.read.set ri 1)[j]? = some 1 := hj
    by_cases e : ri = j
    · subst e; exact ⟨gi, by simp⟩
    · rw [List.getElem?_set_ne e] at hj'
      obtain ⟨g, hg⟩ := h.read1 j hj'
      exact ⟨g, by simp [hg]⟩
  · intro g hg
    have hg' : (st.gene.set gi 1)[g]? = some 1 := hg
    by_cases e : gi = g
    · subst e; exact ⟨ri, by simp⟩
    · rw [List.getElem?_set_ne e] at hg'
      obtain ⟨j, hj⟩ := h.gene1 g hg'
      exact ⟨j, by simp [hj]⟩
  · intro v hv
    rcases List.mem_or_eq_of_mem_set hv with h1 | h1
    · exact h.dom v h1
    · right; right; exact h1
  · show (st.matched ++ [(ri, gi)]).Pairwise (fun a b => a.2 < b.2)
    rw [List.pairwise_append]
    refine ⟨h.sorted, by simp, ?_⟩
    intro a ha b hb
    simp at hb; subst hb
    exact (h.matched_ok a ha).1
  · intro g hg
    obtain ⟨v, hv, hv0⟩ := h.nz g hg
    show ∃ v, (st.gene.set gi 1)[g]? = some v ∧ v ≠ 0
    by_cases e : gi = g
    · subst e
      exact ⟨1, by rw [List.getElem?_set_self hgi], by omega⟩
    · exact ⟨v, by rw [List.getElem?_set_ne e]; exact hv, hv0⟩


theorem ovSweep_inv (cmp absent : Iv → Iv → Bool) (mapped : Iv) (K R : List Iv) (NZ : Nat → Prop)
    (ks : List Iv) (gi : Nat) (rs : List Iv) (ri : Nat) (st : OvState)
    (hK : K.drop gi = ks) (hR : R.drop ri = rs) (h : SweepInv cmp K R NZ gi st) :
    ∃ gi', SweepInv cmp K R NZ gi' (ovSweep cmp absent mapped ks gi rs ri st) := by
  induction ks, gi, rs, ri, st using ovSweep_ind cmp absent mapped with
  | stop ks gi rs ri st e _ => rw [e]; exact ⟨gi, h⟩
  | read k ks gi r rs ri st h1 ih =>
    rw [ovSweep_read _ _ _ _ _ _ _ _ h1]
    refine ih hK (drop_cons_get hR).2 ?_
    unfold readSt; split
    · exact inv_set_read_neg ri h
    · exact h
  | adv k ks gi r rs ri st h1 hj ih =>
    rw [ovSweep_adv _ _ _ _ _ _ _ _ h1 hj]
    obtain ⟨hk, hK'⟩ := drop_cons_get hK
    refine ih hK' hR ?_
    rcases advSt_cases cmp absent mapped k r gi ri st with e | ⟨_, e⟩ | ⟨hc, e⟩ <;> rw [e]
    · exact inv_step_gene h
    · exact inv_set_gene_neg h
    · exact inv_match ri r k h (drop_cons_get hR).1 hk hc


/-- the initial state of `construct_profile_for_features` satisfies the invariant; the gene positions that
    the absence test marks are the non-zero ones -/
theorem init_inv (cmp absent : Iv → Iv → Bool) (K R : List Iv) (mapped geneRegion : Iv) :
    SweepInv cmp K R (fun g => ∃ k, K[g]? = some k ∧ absent mapped k = true) 0
      { gene := K.map (fun k => if absent mapped k then -1 else 0),
        read := R.map (fun r => if absent geneRegion r then -1 else 0), matched := [] } := by
  refine ⟨by simp, by simp, by simp, ?_, ?_, ?_, by simp, ?_⟩
  · intro j hj
    simp only [List.getElem?_map] at hj
    cases hr : R[j]? with
    | none => simp [hr] at hj
    | some r => simp [hr] at hj; split at hj <;> omega
  · intro g hg
    simp only [List.getElem?_map] at hg
    cases hk : K[g]? with
    | none => simp [hk] at hg
    | some k => simp [hk] at hg; split at hg <;> omega
  · intro v hv
    simp only [List.mem_map] at hv
    obtain ⟨r, _, hv⟩ := hv
    split at hv <;> omega
  · rintro g ⟨k, hk, ha⟩
    refine ⟨-1, ?_, by omega⟩
    simp [List.getElem?_map, hk, ha]

theorem sweepState_inv (K : List Iv) (gr : Iv) (cmp absent : Iv → Iv → Bool) (R : List Iv) (M : Iv) :
    ∃ gi, SweepInv cmp K R (fun g => ∃ k, K[g]? = some k ∧ absent M k = true) gi (sweepState K gr cmp absent R M) :=
  ovSweep_inv cmp absent M K R _ K 0 R 0 _ (by simp) (by simp) (init_inv cmp absent K R M gr)

theorem leadingZeros_le (l : List Int) (i : Nat) (v : Int) (h : l[i]? = some v) (hv : v ≠ 0) :
    leadingZeros l ≤ i := by
  induction l generalizing i with
  | nil => simp at h
  | cons x xs ih =>
    cases i with
    | zero =>
      simp at h; subst h
      simp [leadingZeros, hv]
    | succ i =>
      simp at h
      have := ih i h
      simp only [leadingZeros]
      split <;> omega

theorem leadingZeros_le_length (l : List Int) : leadingZeros l ≤ l.length := by
  induction l with
  | nil => simp [leadingZeros]
  | cons x xs ih => simp only [leadingZeros]; split <;> simp <;> omega

theorem nonzero_in_range (l : List Int) (i : Nat) (v : Int) (h : l[i]? = some v) (hv : v ≠ 0) :
    (profileRange l).1 ≤ (i : Int) ∧ (i : Int) < (profileRange l).2 := by
  have hi : i < l.length := getElem?_lt h
  have h1 := leadingZeros_le l i v h hv
  have h2 : leadingZeros l.reverse ≤ l.length - 1 - i := by
    apply leadingZeros_le l.reverse (l.length - 1 - i) v _ hv
    rw [List.getElem?_reverse (by omega)]
    have : l.length - 1 - (l.length - 1 - i) = i := by omega
    rw [this]; exact h
  simp only [profileRange]
  omega

theorem exists_min_on (f : Nat → Int) : ∀ (l : List Nat), l ≠ [] → ∃ m ∈ l, ∀ x ∈ l, f m ≤ f x := by
  intro l
  induction l with
  | nil => intro h; exact absurd rfl h
  | cons a t ih =>
    intro _
    cases t with
    | nil => exact ⟨a, by simp, by simp⟩
    | cons b t' =>
      obtain ⟨m, hm, hmin⟩ := ih (by simp)
      by_cases hle : f a ≤ f m
      · refine ⟨a, by simp, ?_⟩
        intro x hx
        rcases List.mem_cons.mp hx with hx | hx
        · subst hx; omega
        · have := hmin x hx; omega
      · refine ⟨m, List.mem_cons_of_mem _ hm, ?_⟩
        intro x hx
        rcases List.mem_cons.mp hx with hx | hx
        · subst hx; omega
        · exact hmin x hx

theorem pairwise_snd_inj {l : List (Nat × Nat)} (h : l.Pairwise (fun a b => a.2 < b.2)) {a b g : Nat}
    (ha : (a, g) ∈ l) (hb : (b, g) ∈ l) : a = b := by
  induction l with
  | nil => simp at ha
  | cons x t ih =>
    rw [List.pairwise_cons] at h
    rcases List.mem_cons.mp ha with ha | ha <;> rcases List.mem_cons.mp hb with hb | hb
    · rw [← ha] at hb; simpa using hb.symm
    · have := h.1 _ hb; rw [← ha] at this; simp at this
    · have := h.1 _ ha; rw [← hb] at this; simp at this
    · exact ih h.2 ha hb

/-- masked by the polyA position (beyond it) or by the polyT position (before it) -/
def Masked (delta polya polyt : Int) (k : Iv) : Prop :=
  (polya ≠ -1 ∧ k.1 > polya + delta) ∨ (polyt ≠ -1 ∧ k.2 < polyt - delta)

/-- the gene profile against the sweep's: an entry is the sweep's, or −1 at a tie loser, or −2 at a masked known feature -/
theorem gene_rel (K : List Iv) (gr : Iv) (cmp absent : Iv → Iv → Bool) (δ : Int) (R : List Iv) (M : Iv) (pa pt : Int) (i : Nat) :
    (constructOverlapping K gr cmp absent δ R M pa pt).gene[i]? = (sweepState K gr cmp absent R M).gene[i]? ∨
    ((constructOverlapping K gr cmp absent δ R M pa pt).gene[i]? = some (-1) ∧
      LoserIdx K R (sweepState K gr cmp absent R M).matched i) ∨
    ((constructOverlapping K gr cmp absent δ R M pa pt).gene[i]? = some (-2) ∧
      ∃ k : Iv, K[i]? = some k ∧ Masked δ pa pt k) := by
  rw [constructOverlapping_gene_eq, List.getElem?_zipWith]
  have hlen := (ovEliminate_length K R (sweepState K gr cmp absent R M).matched (sweepState K gr cmp absent R M).gene).trans
    (sweepState_gene_length K gr cmp absent R M)
  have hsp := ovEliminate_spec K R (sweepState K gr cmp absent R M).matched (sweepState K gr cmp absent R M).gene i
  cases hk : K[i]? with
  | none =>
    have hi := List.getElem?_eq_none_iff.mp hk
    left
    rw [List.getElem?_eq_none_iff.mpr (by rw [hlen]; exact hi),
      List.getElem?_eq_none_iff.mpr (by rw [sweepState_gene_length]; exact hi)]
  | some k =>
    obtain ⟨v, hv⟩ : ∃ v, (ovEliminate K R (sweepState K gr cmp absent R M).matched (sweepState K gr cmp absent R M).gene)[i]? = some v :=
      ⟨_, List.getElem?_eq_getElem (by rw [hlen]; exact (List.getElem?_eq_some_iff.mp hk).1)⟩
    rw [hv] at hsp ⊢
    by_cases hm : (pa ≠ -1 ∧ k.1 > pa + δ) ∨ (pt ≠ -1 ∧ k.2 < pt - δ)
    · exact Or.inr (Or.inr ⟨by simp [hm], k, rfl, hm⟩)
    · rcases hsp with he | ⟨he, hl⟩
      · exact Or.inl (by simp [hm, he])
      · exact Or.inr (Or.inl ⟨by simp [hm, he], hl⟩)

/-- what C01 reads off a result of `construct_profile_for_features` -/
structure OvSpec (cmp absent : Iv → Iv → Bool) (K R : List Iv) (mapped : Iv) (delta polya polyt : Int)
    (res : ProfileResult) : Prop where
  glen : res.gene.length = K.length
  rlen : res.read.length = R.length
  dom : ∀ v ∈ res.read, v = -1 ∨ v = 0 ∨ v = 1
  /-- a read feature marked 1 matches a known feature that is marked 1, unless the polyA/T mask hides it -/
  read_one : ∀ (j : Nat) (r : Iv), R[j]? = some r → res.read[j]? = some 1 →
      ∃ (gi : Nat) (k : Iv), K[gi]? = some k ∧ cmp r k = true ∧
        (res.gene[gi]? = some 1 ∨ (res.gene[gi]? = some (-2) ∧ Masked delta polya polyt k))
  /-- a known feature for which the absence test holds never keeps a 0 -/
  absent_nonzero : ∀ (gi : Nat) (k : Iv), K[gi]? = some k → absent mapped k = true → ∃ v, res.gene[gi]? = some v ∧ v ≠ 0
  /-- a known feature marked 1 is matched by a read feature -/
  gene_one : ∀ (gi : Nat) (k : Iv), K[gi]? = some k → res.gene[gi]? = some 1 → ∃ (j : Nat) (r : Iv), R[j]? = some r ∧ cmp r k = true
  range_ok : ∀ (i : Nat) (v : Int), res.gene[i]? = some v → v ≠ 0 → res.range.1 ≤ (i : Int) ∧ (i : Int) < res.range.2

theorem constructOverlapping_spec (K : List Iv) (geneRegion : Iv) (cmp absent : Iv → Iv → Bool) (delta : Int)
    (R : List Iv) (mapped : Iv) (polya polyt : Int) :
    OvSpec cmp absent K R mapped delta polya polyt
      (constructOverlapping K geneRegion cmp absent delta R mapped polya polyt) := by
  obtain ⟨gi', hinv⟩ := sweepState_inv K geneRegion cmp absent R mapped
  have hrel := gene_rel K geneRegion cmp absent delta R mapped polya polyt
  have hglen := constructOverlapping_gene_length K geneRegion cmp absent delta R mapped polya polyt
  have hres : (constructOverlapping K geneRegion cmp absent delta R mapped polya polyt).read =
      (sweepState K geneRegion cmp absent R mapped).read := rfl
  have hrange : (constructOverlapping K geneRegion cmp absent delta R mapped polya polyt).range =
      profileRange (constructOverlapping K geneRegion cmp absent delta R mapped polya polyt).gene := rfl
  generalize constructOverlapping K geneRegion cmp absent delta R mapped polya polyt = res at hrel hres hrange hglen ⊢
  generalize sweepState K geneRegion cmp absent R mapped = st at hinv hrel hres
  have read_match : ∀ (j : Nat) (r : Iv), R[j]? = some r → st.read[j]? = some 1 →
      ∃ (gi : Nat) (k : Iv), K[gi]? = some k ∧ cmp r k = true ∧ st.gene[gi]? = some 1 ∧ (j, gi) ∈ st.matched ∧
        ¬ LoserIdx K R st.matched gi := by
    intro j r hr h1
    obtain ⟨g0, hg0⟩ := hinv.read1 j h1
    -- among the known positions recorded for `j`, the closest is no tie loser
    let cand := (st.matched.filter (fun q => q.1 == j)).map (·.2)
    have mem_c : ∀ g, g ∈ cand ↔ (j, g) ∈ st.matched := by
      intro g
      simp only [cand, List.mem_map, List.mem_filter, beq_iff_eq]
      exact ⟨fun ⟨q, ⟨hq, hq1⟩, hq2⟩ => by rw [← hq1, ← hq2]; exact hq, fun h => ⟨(j, g), ⟨h, rfl⟩, rfl⟩⟩
    obtain ⟨m, hm, hmin⟩ := exists_min_on (fun g => matchDelta (R.getD j (0, 0)) (K.getD g (0, 0))) cand
      (List.ne_nil_of_mem ((mem_c g0).mpr hg0))
    have hjm := (mem_c m).mp hm
    obtain ⟨_, hgm, r', k, hr', hk, hcmp⟩ := hinv.matched_ok (j, m) hjm
    simp only at hr' hk hgm
    rw [hr] at hr'; injection hr' with hr'; subst hr'
    refine ⟨m, k, hk, hcmp, hgm, hjm, ?_⟩
    rintro ⟨j', i', hj'm, hj'i', hlt⟩
    have : j' = j := pairwise_snd_inj hinv.sorted hj'm hjm
    subst this
    have := hmin i' ((mem_c i').mpr hj'i')
    omega
  refine ⟨hglen, by rw [hres]; exact hinv.rlen, by rw [hres]; exact hinv.dom, ?_, ?_, ?_, ?_⟩
  · -- read_one
    intro j r hr h1
    rw [hres] at h1
    obtain ⟨gi, k, hk, hcmp, hg, _, hnb⟩ := read_match j r hr h1
    refine ⟨gi, k, hk, hcmp, ?_⟩
    rcases hrel gi with e | ⟨_, hb⟩ | ⟨e, k', hk', hm⟩
    · left; rw [e]; exact hg
    · exact absurd hb hnb
    · right
      rw [hk] at hk'; injection hk' with hk'; subst hk'
      exact ⟨e, hm⟩
  · -- absent_nonzero
    intro gi k hk ha
    obtain ⟨v, hv, hv0⟩ := hinv.nz gi ⟨k, hk, ha⟩
    rcases hrel gi with e | ⟨e, _⟩ | ⟨e, _⟩
    · exact ⟨v, by rw [e]; exact hv, hv0⟩
    · exact ⟨-1, e, by omega⟩
    · exact ⟨-2, e, by omega⟩
  · -- gene_one
    intro gi k hk h1
    have h1' := h1
    have hs : st.gene[gi]? = some 1 := by
      rcases hrel gi with e | ⟨e, _⟩ | ⟨e, _⟩
      · rw [← e]; exact h1'
      · rw [e] at h1'; simp at h1'
      · rw [e] at h1'; simp at h1'
    obtain ⟨j, hj⟩ := hinv.gene1 gi hs
    obtain ⟨_, _, r, k', hr, hk', hcmp⟩ := hinv.matched_ok (j, gi) hj
    simp only at hr hk'
    rw [hk] at hk'; injection hk' with hk'; subst hk'
    exact ⟨j, r, hr, hcmp⟩
  · intro i v hv hv0
    rw [hrange]; exact nonzero_in_range _ i v hv hv0

end IsoVerif.Lemmas.C01
