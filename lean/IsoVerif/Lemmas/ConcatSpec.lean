/-
Helper lemmas for C16: `concat_gapless_blocks` on pysam's blocks against its specification (Model/TailSpec.lean).
-/
import IsoVerif.Model.TailSpec
import IsoVerif.Lemmas.Cigar
import IsoVerif.Lemmas.ListFacts

namespace IsoVerif.Lemmas.C16
open IsoVerif.Gen IsoVerif.Model IsoVerif.Model.C16

theorem inMatch_eq (k : CigarEvent) : k.in_cigar_match_events = isAligned k := by
  cases k <;> decide

/-! ### pysam blocks -/

theorem alignedBlocksAux_nil_of_none : ∀ (rest : List CigarOp) (pos : Int), hasAligned rest = false →
    alignedBlocksAux pos rest = [] := by
  intro rest
  induction rest with
  | nil => intro pos _; rfl
  | cons op rest ih =>
    intro pos h
    simp only [hasAligned, List.any_cons, Bool.or_eq_false_iff] at h
    simp only [alignedBlocksAux, h.1, Bool.false_eq_true, if_false]
    split <;> exact ih _ (by simpa [hasAligned] using h.2)

theorem alignedBlocksAux_cons_of_some : ∀ (rest : List CigarOp) (pos : Int), hasAligned rest = true →
    ∃ b bs, alignedBlocksAux pos rest = b :: bs := by
  intro rest
  induction rest with
  | nil => intro pos h; cases h
  | cons op rest ih =>
    intro pos h
    by_cases ha : isAligned op.1 = true
    · exact ⟨(pos, pos + op.2), alignedBlocksAux (pos + op.2) rest, by simp only [alignedBlocksAux, ha, if_true]⟩
    · have hr : hasAligned rest = true := by rw [hasAligned_cons] at h; simpa [ha] using h
      simp only [alignedBlocksAux, ha, Bool.false_eq_true, if_false]
      split <;> exact ih _ hr

theorem leadOf_snoc_of_aligned (seg : List CigarOp) (x : CigarOp) (h : hasAligned seg = true) :
    leadOf (seg ++ [x]) = leadOf seg := by
  induction seg with
  | nil => cases h
  | cons o seg ih =>
    by_cases ho : isAligned o.1 = true
    · simp [leadOf, ho]
    · have := ih (by rw [hasAligned_cons] at h; simpa [ho] using h)
      simp only [leadOf] at this ⊢
      simp [ho, this]

theorem leadOf_of_none (seg : List CigarOp) (h : hasAligned seg = false) : leadOf seg = seg := by
  induction seg with
  | nil => rfl
  | cons o seg ih =>
    simp only [hasAligned, List.any_cons, Bool.or_eq_false_iff] at h
    have := ih (by simpa [hasAligned] using h.2)
    simp only [leadOf] at this ⊢
    simp [h.1, this]

theorem leadOf_snoc_first (seg : List CigarOp) (x : CigarOp) (h : hasAligned seg = false)
    (hx : isAligned x.1 = true) : leadOf (seg ++ [x]) = seg := by
  induction seg with
  | nil => simp [leadOf, hx]
  | cons o seg ih =>
    simp only [hasAligned, List.any_cons, Bool.or_eq_false_iff] at h
    have := ih (by simpa [hasAligned] using h.2)
    simp only [leadOf] at this ⊢
    simp [h.1, this]

theorem aLA_snoc_al (l : List CigarOp) (x : CigarOp) (hx : isAligned x.1 = true) :
    afterLastAligned (l ++ [x]) = [] := by
  simp [afterLastAligned, hx]

theorem aLA_snoc_nal (l : List CigarOp) (x : CigarOp) (hx : isAligned x.1 = false) :
    afterLastAligned (l ++ [x]) = afterLastAligned l ++ [x] := by
  simp [afterLastAligned, hx]

theorem lastDel_snoc (l : List CigarOp) (x : CigarOp) :
    lastDel (l ++ [x]) = if x.1 = CigarEvent.deletion then x.2 else lastDel l := by
  unfold lastDel
  by_cases hx : x.1 = CigarEvent.deletion
  · simp [List.filter_append, hx]
  · simp [List.filter_append, hx]

/-- no block is open after `l` -/
def Closed (l : List CigarOp) : Prop :=
  hasAligned l = false ∨ (afterLastAligned l).any (fun o => o.1 == CigarEvent.skipped) = true

theorem sinceBlock_snoc_closed (l : List CigarOp) (x : CigarOp) (hc : Closed l) (hx : isAligned x.1 = false) :
    sinceBlock (l ++ [x]) = sinceBlock l ++ [x] := by
  unfold sinceBlock
  rw [hasAligned_append, aLA_snoc_nal l x hx]
  have hx' : hasAligned [x] = false := by simp [hasAligned, hx]
  rw [hx', Bool.or_false]
  rcases hc with h | h
  · simp [h]
  · by_cases hl : hasAligned l = true
    · simp only [hl, if_true]
      exact dropWhile_append_of_any _ _ _ (by simpa using h)
    · simp [hl]

theorem closed_snoc_nal (l : List CigarOp) (x : CigarOp) (hc : Closed l) (hx : isAligned x.1 = false) :
    Closed (l ++ [x]) := by
  rcases hc with h | h
  · left; rw [hasAligned_append, h]; simp [hasAligned, hx]
  · right; rw [aLA_snoc_nal l x hx, List.any_append, h]; rfl

theorem pendingDel_snoc_closed (l : List CigarOp) (x : CigarOp) (hc : Closed l) (hx : isAligned x.1 = false) :
    pendingDel (l ++ [x]) = if x.1 = CigarEvent.deletion then x.2 else pendingDel l := by
  unfold pendingDel
  rw [sinceBlock_snoc_closed l x hc hx, lastDel_snoc]

/-- a block is open after `l`: there is an aligned operation, and no `N` since the last one -/
theorem not_closed {l : List CigarOp} (ho : ¬ Closed l) :
    hasAligned l = true ∧ (afterLastAligned l).any (fun o => o.1 == CigarEvent.skipped) = false := by
  simpa only [Closed, not_or, Bool.not_eq_false, Bool.not_eq_true] using ho

theorem open_snoc_N (l : List CigarOp) (n : Int) (ho : ¬ Closed l) :
    Closed (l ++ [(CigarEvent.skipped, n)]) ∧ pendingDel (l ++ [(CigarEvent.skipped, n)]) = 0 := by
  obtain ⟨hal, hnoN⟩ := not_closed ho
  have hx : isAligned (CigarEvent.skipped, n).1 = false := rfl
  constructor
  · right; rw [aLA_snoc_nal l _ hx, List.any_append]; simp
  · unfold pendingDel sinceBlock
    rw [hasAligned_append, hal, aLA_snoc_nal l _ hx]
    simp only [Bool.true_or, if_true]
    have : (afterLastAligned l ++ [(CigarEvent.skipped, n)]).dropWhile (fun o => !(o.1 == CigarEvent.skipped))
        = [(CigarEvent.skipped, n)] := by
      have hall : (afterLastAligned l).dropWhile (fun o => !(o.1 == CigarEvent.skipped)) = [] :=
        dropWhile_all _ _ (by simpa using hnoN)
      rw [List.dropWhile_append, hall]
      simp
    rw [this]
    simp [lastDel]

theorem open_snoc_nonN (l : List CigarOp) (x : CigarOp) (ho : ¬ Closed l) (hx : x.1 ≠ CigarEvent.skipped) :
    ¬ Closed (l ++ [x]) := by
  obtain ⟨hal, hnoN⟩ := not_closed ho
  intro hc
  rcases hc with h | h
  · rw [hasAligned_append, hal] at h; cases h
  · by_cases ha : isAligned x.1 = true
    · rw [aLA_snoc_al l x ha] at h; cases h
    · rw [aLA_snoc_nal l x (by simpa using ha), List.any_append, hnoN] at h
      simp [hx] at h

theorem snoc_aligned_open (l : List CigarOp) (x : CigarOp) (hx : isAligned x.1 = true) : ¬ Closed (l ++ [x]) := by
  intro hc
  rcases hc with h | h
  · rw [hasAligned_append] at h; simp [hasAligned, hx] at h
  · rw [aLA_snoc_al l x hx] at h; cases h

/-- what the loop returns, flushed -/
def flush (p : List Iv × Option Iv) : List Iv := p.1 ++ p.2.toList

/-- `deletions_before_block` after `pre ++ seg` (`seg` the open `N`-free run) -/
def absDel (pre seg : List CigarOp) : Int := if hasAligned seg then 0 else pendingDel (pre ++ seg)

theorem truncAligned_cons_some (op : CigarOp) (rest : List CigarOp) (h : hasAligned (op :: rest) = true) :
    truncAligned (op :: rest) = op :: truncAligned rest := by simp [truncAligned, h]

theorem truncAligned_none (l : List CigarOp) (h : hasAligned l = false) : truncAligned l = [] := by
  cases l with
  | nil => rfl
  | cons op rest => simp [truncAligned, h]

theorem gaplessOf_none (s : Int) (pre seg : List CigarOp) (h : hasAligned seg = false) :
    gaplessOf s (pre, seg) = none := by simp [gaplessOf, h]

theorem alignedBlocksAux_cons_nal (pos : Int) (k : CigarEvent) (n : Int) (rest : List CigarOp)
    (hop : isAligned k = false) :
    alignedBlocksAux pos ((k, n) :: rest) = alignedBlocksAux (pos + if consumesRef k then n else 0) rest := by
  cases hc : consumesRef k <;> simp [alignedBlocksAux, hop, hc]

theorem gaplessOf_open (s : Int) (pre seg : List CigarOp) (hseg : hasAligned seg = true) :
    gaplessOf s (pre, seg) = some (s + refLen pre + refLen (leadOf seg) - pendingDel (pre ++ leadOf seg),
      s + refLen pre + refLen seg) := by simp [gaplessOf, hseg]

theorem gaplessOf_snoc_open (s : Int) (pre seg : List CigarOp) (op : CigarOp) (hseg : hasAligned seg = true) :
    gaplessOf s (pre, seg ++ [op]) = some (s + refLen pre + refLen (leadOf seg) - pendingDel (pre ++ leadOf seg),
      s + refLen pre + refLen seg + if consumesRef op.1 then op.2 else 0) := by
  rw [gaplessOf_open s pre _ (by rw [hasAligned_snoc, hseg]; rfl), leadOf_snoc_of_aligned seg op hseg, refLen_snoc,
    ← Int.add_assoc]

theorem consumesRef_of_nal {k : CigarEvent} (hop : isAligned k = false) (hN : k ≠ CigarEvent.skipped) :
    consumesRef k = decide (k = CigarEvent.deletion) := by
  revert hop hN; cases k <;> decide

/-- the loop from the state after `pre ++ seg` (`seg` the open `N`-free run) on pysam's remaining blocks; hypothesis: a
    block is open exactly when `seg` already holds an aligned operation -/
theorem concat_fold (s : Int) : ∀ (rest pre seg : List CigarOp) (res : List Iv),
    (Closed (pre ++ seg) ↔ hasAligned seg = false) →
    flush (concatGaplessAux (gaplessOf s (pre, seg)) (absDel pre seg) res rest
        (alignedBlocksAux (s + refLen pre + refLen seg) rest))
      = res ++ (cutsNAux pre seg (truncAligned rest)).filterMap (gaplessOf s) := by
  intro rest
  induction rest with
  | nil =>
    intro pre seg res _
    simp only [concatGaplessAux, truncAligned, cutsNAux, filterMap_single, flush]
  | cons op rest ih =>
    intro pre seg res hcl
    obtain ⟨k, n⟩ := op
    cases hA : hasAligned ((k, n) :: rest) with
    | false =>
      rw [alignedBlocksAux_nil_of_none _ _ hA, truncAligned_none _ hA]
      simp only [concatGaplessAux, cutsNAux, filterMap_single, flush]
    | true =>
      rw [truncAligned_cons_some _ _ hA]
      have hpos : s + refLen pre + refLen (seg ++ [(k, n)]) =
          s + refLen pre + refLen seg + if consumesRef k then n else 0 := by rw [refLen_snoc, ← Int.add_assoc]
      cases hop : isAligned k with
      | true =>
        -- an aligned operation: opens a block or extends the open one; consumes one pysam block
        have hnN : ¬ ((k, n).1 = CigarEvent.skipped) := by cases k <;> simp [isAligned] at hop <;> simp
        have hnD : ¬ (k = CigarEvent.deletion) := by cases k <;> simp [isAligned] at hop <;> simp
        have hcr : consumesRef k = true := (consumes_of_aligned hop).1
        have hseg' : hasAligned (seg ++ [(k, n)]) = true := by rw [hasAligned_snoc]; simp [hop]
        have hcl' : Closed (pre ++ (seg ++ [(k, n)])) ↔ hasAligned (seg ++ [(k, n)]) = false := by
          rw [hseg', ← List.append_assoc]
          exact ⟨fun h => absurd h (snoc_aligned_open _ _ hop), fun h => by cases h⟩
        have hih := ih pre (seg ++ [(k, n)]) res hcl'
        rw [hpos, hcr, if_pos rfl] at hih
        simp only [cutsNAux, hnN, if_false]
        rw [← hih, show alignedBlocksAux (s + refLen pre + refLen seg) ((k, n) :: rest) =
          (s + refLen pre + refLen seg, s + refLen pre + refLen seg + n) ::
            alignedBlocksAux (s + refLen pre + refLen seg + n) rest by simp only [alignedBlocksAux, hop, if_true]]
        cases hseg : hasAligned seg with
        | false =>
          have hg : gaplessOf s (pre, seg ++ [(k, n)]) =
              some (s + refLen pre + refLen seg - pendingDel (pre ++ seg), s + refLen pre + refLen seg + n) := by
            simp only [gaplessOf, hseg', if_true, leadOf_snoc_first seg (k, n) hseg hop]
            rw [refLen_snoc]; simp [hcr]; omega
          rw [gaplessOf_none s pre seg hseg, hg]
          simp only [concatGaplessAux, inMatch_eq, hop, if_true, absDel, hseg, hseg', Bool.false_eq_true, if_false]
        | true =>
          rw [gaplessOf_open s pre seg hseg, gaplessOf_snoc_open s pre seg (k, n) hseg, hcr, if_pos rfl]
          simp only [concatGaplessAux, inMatch_eq, hop, if_true, absDel, hseg, hseg', hnN, hnD, if_false]
      | false =>
        -- not aligned: no pysam block is consumed; more aligned operations follow
        have hrest : hasAligned rest = true := by rw [hasAligned_cons] at hA; simpa [hop] using hA
        rw [alignedBlocksAux_cons_nal _ k n rest hop]
        obtain ⟨b, bs, hbs⟩ := alignedBlocksAux_cons_of_some rest
          (s + refLen pre + refLen seg + if consumesRef k then n else 0) hrest
        by_cases hN : k = CigarEvent.skipped
        · -- `N`: the run ends; an open block is closed
          subst hN
          have hposN : s + refLen (pre ++ seg ++ [(CigarEvent.skipped, n)]) + refLen [] =
              s + refLen pre + refLen seg + if consumesRef CigarEvent.skipped then n else 0 := by
            simp only [refLen_append, refLen_cons, refLen_nil]; omega
          cases hseg : hasAligned seg with
          | false =>
            have hclosed : Closed (pre ++ seg) := hcl.2 hseg
            have hih := ih (pre ++ seg ++ [(CigarEvent.skipped, n)]) [] res (by
              simp only [List.append_nil]
              exact ⟨fun _ => rfl, fun _ => closed_snoc_nal _ _ hclosed rfl⟩)
            have hdel : absDel (pre ++ seg ++ [(CigarEvent.skipped, n)]) [] = absDel pre seg := by
              simp only [absDel, hseg, hasAligned_nil, Bool.false_eq_true, if_false, List.append_nil]
              rw [pendingDel_snoc_closed _ _ hclosed rfl]; simp
            rw [hposN, hdel, gaplessOf_none s _ [] hasAligned_nil, hbs] at hih
            simp only [cutsNAux, if_true, List.filterMap_cons, gaplessOf_none s pre seg hseg]
            rw [← hih, hbs]
            simp [concatGaplessAux, CigarEvent.in_cigar_match_events, cigar_match_events]
          | true =>
            have hopen : ¬ Closed (pre ++ seg) := fun h => by have := hcl.1 h; rw [hseg] at this; cases this
            obtain ⟨hc1, hp0⟩ := open_snoc_N (pre ++ seg) n hopen
            have hih := ih (pre ++ seg ++ [(CigarEvent.skipped, n)]) []
              (res ++ [(s + refLen pre + refLen (leadOf seg) - pendingDel (pre ++ leadOf seg),
                s + refLen pre + refLen seg)]) (by
              simp only [List.append_nil]
              exact ⟨fun _ => rfl, fun _ => hc1⟩)
            have hdel : absDel (pre ++ seg ++ [(CigarEvent.skipped, n)]) [] = 0 := by
              simp only [absDel, hasAligned_nil, Bool.false_eq_true, if_false, List.append_nil]
              exact hp0
            rw [hposN, hdel, gaplessOf_none s _ [] hasAligned_nil, hbs] at hih
            simp only [cutsNAux, if_true, List.filterMap_cons, gaplessOf_open s pre seg hseg]
            rw [hbs, show absDel pre seg = 0 by simp [absDel, hseg]]
            simp only [concatGaplessAux, if_true]
            rw [hih]
            simp [List.append_assoc]
        · -- `D` sets the pending deletion or extends the open block, anything else is ignored
          have hnN : ¬ ((k, n).1 = CigarEvent.skipped) := hN
          simp only [cutsNAux, hnN, if_false]
          cases hseg : hasAligned seg with
          | false =>
            have hclosed : Closed (pre ++ seg) := hcl.2 hseg
            have hseg' : hasAligned (seg ++ [(k, n)]) = false := by rw [hasAligned_snoc]; simp [hseg, hop]
            have hih := ih pre (seg ++ [(k, n)]) res (by
              rw [← List.append_assoc]
              exact ⟨fun _ => hseg', fun _ => closed_snoc_nal _ _ hclosed hop⟩)
            have hdel : absDel pre (seg ++ [(k, n)]) = if k = CigarEvent.deletion then n else absDel pre seg := by
              simp only [absDel, hseg, hseg', Bool.false_eq_true, if_false]
              rw [← List.append_assoc, pendingDel_snoc_closed _ _ hclosed hop]
            rw [hdel, gaplessOf_none s pre _ hseg', hpos, hbs] at hih
            rw [← hih, gaplessOf_none s pre seg hseg, hbs]
            by_cases hD : k = CigarEvent.deletion
            · subst hD; simp [concatGaplessAux, inMatch_eq, isAligned]
            · simp [concatGaplessAux, inMatch_eq, hop, hD]
          | true =>
            have hopen : ¬ Closed (pre ++ seg) := fun h => by have := hcl.1 h; rw [hseg] at this; cases this
            have hseg' : hasAligned (seg ++ [(k, n)]) = true := by rw [hasAligned_snoc]; simp [hseg]
            have hih := ih pre (seg ++ [(k, n)]) res (by
              rw [hseg', ← List.append_assoc]
              exact ⟨fun h => absurd h (open_snoc_nonN _ _ hopen hN), fun h => by cases h⟩)
            rw [show absDel pre (seg ++ [(k, n)]) = 0 by simp [absDel, hseg'], gaplessOf_snoc_open s pre seg (k, n) hseg,
              hpos, hbs] at hih
            rw [← hih, gaplessOf_open s pre seg hseg, hbs, show absDel pre seg = 0 by simp [absDel, hseg],
              consumesRef_of_nal hop hN]
            by_cases hD : k = CigarEvent.deletion
            · subst hD; simp [concatGaplessAux]
            · simp [concatGaplessAux, inMatch_eq, hop, hN, hD]

end IsoVerif.Lemmas.C16
