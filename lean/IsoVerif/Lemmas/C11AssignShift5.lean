/-
C11 helper lemmas — translation of the assignment model: the two paths of `assign_to_isoform`.  The long model
functions are cut into named stages (`splicedStage1/2`, `consistentTail`, `bestPick`, `inconsistentTail`, with
`selectSpliced_eq`, `matchConsistent_eq`, `selectBest_eq`, `matchInconsistent_eq`), so that the translation theorems of
Props/C11Assign.lean go stage by stage; classification of event lists does not see the shift.
-/
import IsoVerif.Lemmas.C11AssignShift

namespace IsoVerif.Lemmas.C11.AssignShift
open IsoVerif.Gen IsoVerif.Model IsoVerif.Model.C01 IsoVerif.Model.C11

def shPairM (k : Int) (Im : IsoInfo × IsoMatch) : IsoInfo × IsoMatch := (shiftIsoInfo k Im.1, shiftMatch k Im.2)
def shPairE (k : Int) (Ie : IsoInfo × List Event) : IsoInfo × List Event := (shiftIsoInfo k Ie.1, shiftEvents k Ie.2)

/-! ## events without positions: the categorisation and the elongation events (classes of Lemmas/C01Consistent.lean) -/

theorem elongationEvents_noPos (g : Gene) (p : Params) (rp : ReadProf) (I : IsoInfo) (el : List Event)
    (h : elongationEvents g p rp I = some el) : C01.AllTy (fun t => isPosEvent t = false) el :=
  (C01.elongationEvents_types g p rp I el h).mono (by decide)

theorem spliceMatch_noPos (rp : ReadProf) (I : IsoInfo) (m : IsoMatch) (h : spliceMatch rp I = some m) :
    C01.AllTy (fun t => isPosEvent t = false) m.events :=
  (C01.spliceMatch_spec rp I m h).2.mono (by decide)

theorem unsplicedMatch_noPos (I : IsoInfo) (m : IsoMatch) (h : unsplicedMatch I = some m) :
    C01.AllTy (fun t => isPosEvent t = false) m.events :=
  (C01.unsplicedMatch_spec I m h).2.mono (by decide)

/-! ## `check_read_ends`, `verify_read_ends_for_assignment` -/

theorem checkReadEnds_fst (g : Gene) (p : Params) (rp : ReadProf) (ms : List (IsoInfo × IsoMatch)) (ty : ReadAssignmentType)
    (r : List (IsoInfo × IsoMatch)) (t : ReadAssignmentType) (h : checkReadEnds g p rp ms ty = some (r, t)) :
    r.map (·.1) = ms.map (·.1) := by
  induction ms generalizing ty r t with
  | nil => simp only [checkReadEnds, Option.some.injEq, Prod.mk.injEq] at h; rw [← h.1]
  | cons Im ms ih =>
    obtain ⟨I, m⟩ := Im
    simp only [checkReadEnds] at h
    split at h
    · cases h
    · split at h
      · cases h
      · rename_i r' t' hr
        simp only [Option.some.injEq, Prod.mk.injEq] at h
        rw [← h.1]
        simp only [List.map_cons, ih _ r' t' hr]

theorem classifyAssignment_shift (k : Int) (l : List (List Event)) :
    classifyAssignment (l.map (shiftEvents k)) = classifyAssignment l := by
  have e : (l.map (shiftEvents k)).flatMap (fun evs => evs.map (·.ty)) = l.flatMap (fun evs => evs.map (·.ty)) := by
    induction l with
    | nil => rfl
    | cons x xs ih =>
      simp only [List.map_cons, List.flatMap_cons, ih]
      congr 1
      simp only [shiftEvents, List.map_map]
      apply List.map_congr_left
      intro e _
      simp only [Function.comp, shiftEvent_ty]
  simp only [classifyAssignment, List.length_map, e]

theorem anyOpt_map (sh : IsoInfo → IsoInfo) (f f' : IsoInfo → Option Bool) (hf : ∀ I, f' (sh I) = f I) (l : List IsoInfo) :
    selectSpliced.anyOpt f' (l.map sh) = selectSpliced.anyOpt f l := by
  induction l with
  | nil => rfl
  | cons x xs ih => simp only [List.map_cons, selectSpliced.anyOpt, hf, ih]

def splicedStage1 (rp : ReadProf) (cons : List IsoInfo) : Option (List IsoInfo) :=
  if cons.length > 1 then
    (findMatchingSplit rp cons).map (fun em => if em.length ≠ 0 then em else cons)
  else some cons

def splicedStage2 (p : Params) (rp : ReadProf) (matched : List IsoInfo) : Option (List IsoInfo) :=
  if matched.length > 1 then
    match p.resolve_ambiguous with
    | .all => resolveByScore (jaccardScore p rp) (some topScoredFactor) matched
    | .monoexon_and_fsm =>
      match selectSpliced.anyOpt (isFsm rp) matched with
      | none => none
      | some true => resolveByScore (jaccardScore p rp) (some topScoredFactor) matched
      | some false => some matched
    | _ => some matched
  else some matched

theorem selectSpliced_eq (p : Params) (rp : ReadProf) (cons : List IsoInfo) :
    selectSpliced p rp cons = (splicedStage1 rp cons).bind (splicedStage2 p rp) := by
  unfold selectSpliced splicedStage1
  simp only
  cases (if cons.length > 1 then
      (findMatchingSplit rp cons).map (fun em => if em.length ≠ 0 then em else cons) else some cons) with
  | none => rfl
  | some m => rfl

/-! ## `match_consistent` -/

/-- the categorisation match of one candidate of the consistent path -/
def firstMatch (rp : ReadProf) (spliced : Bool) (I : IsoInfo) : Option (IsoInfo × IsoMatch) :=
  ((if spliced then spliceMatch rp I else unsplicedMatch I)).map (fun m => (I, m))

def consistentTail (g : Gene) (p : Params) (rp : ReadProf) (spliced : Bool) (matched : List IsoInfo) :
    Option (Option Assignment) :=
  if matched.isEmpty then some none
  else
    match mapOpt (firstMatch rp spliced) matched with
    | none => none
    | some ms =>
      match checkReadEnds g p rp ms (if matched.length = 1 then ReadAssignmentType.unique else ReadAssignmentType.ambiguous) with
      | none => none
      | some (ms1, _) =>
        match verifyEndsForAssignment p rp ms1 with
        | none => none
        | some (ms2, ty2) =>
          if ty2.is_inconsistent then some none
          else some (some { ty := ty2, isoMatches := ms2.map (·.2) })

theorem matchConsistent_eq (g : Gene) (p : Params) (rp : ReadProf) :
    matchConsistent g p rp =
      match consistentIsoforms g p rp with
      | none => none
      | some none => some none
      | some (some consistent) =>
        (if !rp.intron.read.isEmpty then selectSpliced p rp consistent else selectUnspliced p rp consistent).bind
          (consistentTail g p rp (!rp.intron.read.isEmpty)) := by
  unfold matchConsistent consistentTail
  cases consistentIsoforms g p rp with
  | none => rfl
  | some oc =>
    cases oc with
    | none => rfl
    | some consistent =>
      simp only
      cases (if (!rp.intron.read.isEmpty) = true then selectSpliced p rp consistent else selectUnspliced p rp consistent) with
      | none => rfl
      | some matched => rfl

/-! ## `detect_inconsistensies` -/

theorem isUndefinedOnly_shift (k : Int) (evs : List Event) : isUndefinedOnly (shiftEvents k evs) = isUndefinedOnly evs := by
  cases evs with
  | nil => rfl
  | cons e es =>
    cases es with
    | nil => simp only [shiftEvents_cons, shiftEvents_nil, isUndefinedOnly, shiftEvent_ty]
    | cons y ys => rfl

/-! ## `select_best_among_inconsistent` -/

theorem any_id_map (k : Int) (keep : List IsoInfo) (i : Nat) :
    (keep.map (shiftIsoInfo k)).any (fun K => K.id = i) = keep.any (fun K => K.id = i) := by
  simp only [List.any_map]
  rfl

def bestPick (p : Params) (rp : ReadProf) (best : List (IsoInfo × List Event)) (mn : Rat) :
    Option (List (IsoInfo × List Event) × Rat) :=
  if best.length > 1 then
    match resolveByScore (coverageScore p rp) (some topScoredFactor) (best.map (·.1)) with
    | none => none
    | some keep => some (best.filter (fun Ie => keep.any (fun K => K.id = Ie.1.id)), mn)
  else some (best, mn)

theorem selectBest_eq (p : Params) (rp : ReadProf) (rm : List (IsoInfo × List Event)) :
    selectBestAmongInconsistent p rp rm =
      match mapOpt (fun (Ie : IsoInfo × List Event) => (penaltyOf p Ie.2).map (fun s => (Ie, s))) rm with
      | none => none
      | some scored =>
        match minRat (scored.map (·.2)) with
        | none => none
        | some mn => bestPick p rp ((scored.filter (fun x => x.2 - mn < penaltyTieEps)).map (·.1)) mn := by
  unfold selectBestAmongInconsistent bestPick
  rfl

/-! ## `match_inconsistent` -/

theorem mkMatchList_shift (k : Int) (c : MatchClassification) (id : Nat) (evs : List Event) :
    mkMatchList c id (shiftEvents k evs) = shiftMatch k (mkMatchList c id evs) := by
  simp only [mkMatchList, shiftMatch]
  congr 1
  exact filter_ty_shift k (fun t => t != MatchEventSubtype.none) evs

theorem monoExonClassification_shift (k : Int) (evs : List Event) :
    monoExonClassification (shiftEvents k evs) = monoExonClassification evs := by
  cases evs with
  | nil => rfl
  | cons e es =>
    simp only [monoExonClassification, shiftEvents, List.map_cons, List.any_cons, List.any_map, Function.comp_def,
      shiftEvent_ty]
    rfl

theorem inconsistencyClassification_shift (k : Int) (evs : List Event) :
    inconsistencyClassification (shiftEvents k evs) = inconsistencyClassification evs := by
  simp only [inconsistencyClassification, shiftEvents, List.any_map, Function.comp_def, shiftEvent_ty]

/-- the match reported for one selected isoform of the inconsistent path: for an unspliced read … -/
def monoMatch (Ie : IsoInfo × List Event) : Option IsoMatch :=
  (monoExonClassification Ie.2).map (fun c => mkMatchList c Ie.1.id Ie.2)

/-- … and for a spliced read whose events are all consistent after all -/
def splicedIncMatch (rp : ReadProf) (Ie : IsoInfo × List Event) : Option IsoMatch :=
  (spliceMatch rp Ie.1).map (fun m =>
    { m with events := (Ie.2.filter (fun e => e.ty != MatchEventSubtype.none)).foldl addSub m.events })

def inconsistentTail (rp : ReadProf) (best : List (IsoInfo × List Event)) (pen : Rat) : Option Assignment :=
  if rp.intron.read.isEmpty then
    (mapOpt monoMatch best).map
      (fun ms => { ty := classifyAssignment (best.map (·.2)), isoMatches := ms })
  else if (classifyAssignment (best.map (·.2))).is_inconsistent then
    some { ty := classifyAssignment (best.map (·.2)), isoMatches := best.map (fun Ie =>
      { mkMatchList (inconsistencyClassification Ie.2) Ie.1.id Ie.2 with
        penaltyNum := pen.num, penaltyDen := pen.den }) }
  else
    (mapOpt (splicedIncMatch rp) best).map
      (fun ms => { ty := classifyAssignment (best.map (·.2)), isoMatches := ms })

theorem matchInconsistent_eq (g : Gene) (p : Params) (rp : ReadProf) (cj : Nat → Option (List Event)) :
    matchInconsistent g p rp cj =
      match selectSimilar g p rp with
      | none => none
      | some cands =>
        if cands.isEmpty then
          some { ty := .noninformative, isoMatches := [{ iso := none, cls := .genic, events := [] }] }
        else
          match detectInconsistencies g p rp cj (g.isos.filter (fun I => cands.any (fun C => C.id = I.id))) with
          | none => none
          | some rm =>
            if rm.isEmpty then some { ty := .noninformative, isoMatches := [] }
            else
              match selectBestAmongInconsistent p rp rm with
              | none => none
              | some (best, pen) =>
                if best.isEmpty then some { ty := .noninformative, isoMatches := [] }
                else inconsistentTail rp best pen := by
  unfold matchInconsistent inconsistentTail
  rfl

/-! ## `assign_to_isoform`, `assignRead` -/

/-- the sentinel hypotheses of the whole assignment of one read, stated once on the INPUTS: no annotated exon border and
    no present polyA / polyT position is the code's sentinel −1 before or after the shift, nor is any position that
    `verify_polya` / `verify_polyt` derives from them for an isoform of the strand concerned -/
structure NoSentinel (k : Int) (ms : List Isoform) (blocks : List Iv) (pa : PolyA) : Prop where
  exons : ExonsSafe k ms
  extA : SafePos k pa.extA
  extT : SafePos k pa.extT
  plus : ∀ m ∈ ms, m.strand = Strand.plus → PolyaSafe k m.exons blocks pa.extA pa.intA
  minus : ∀ m ∈ ms, m.strand = Strand.minus → PolytSafe k m.exons blocks pa.extT pa.intT

theorem constructProfiles_fields (g : Gene) (p : Params) (blocks : List Iv) (pa : PolyA) (rp : ReadProf)
    (h : constructProfiles g p blocks pa = some rp) : rp.blocks = blocks ∧ rp.polya = pa := by
  unfold constructProfiles at h
  split at h
  · cases h
  · simp only at h
    split at h
    · cases h
    · obtain rfl := Option.some.inj h
      exact ⟨rfl, rfl⟩

end IsoVerif.Lemmas.C11.AssignShift
