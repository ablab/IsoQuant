/-
Helper definitions and lemmas for the read-level printers (Model/Printers.lean, Model/ReusePrint.lean):
the memo-free specification of the lines of one record, purity of the printers over the memo of
`check_sites_are_canonical` (from C18's `read_field_pure`), the match lines of a record as a `mapM` and what that gives
(`specMatchLines_eq_mapM`), the lines of a list of records likewise (`specRecords_eq_mapM`).
-/
import IsoVerif.Model.ReusePrint
import IsoVerif.Props.C18

namespace IsoVerif.Lemmas.Printers
open IsoVerif.Gen IsoVerif.Model IsoVerif.Model.Serial IsoVerif.Model.Printers
open IsoVerif.Model.C18 IsoVerif.Props.C18

/-- the `Canonical=` field: printed iff `--check_canonical` and the locus has a reference region; its value is C18's
    `pureFlag` (Unspliced / True / False from the reference window, the read's introns and its strand) -/
def canonField (P : Params) (gv : GeneView) (r : ReadAssignment) : Option String :=
  if P.checkCanonical = true ∧ gv.ref.refRegion ≠ [] then some (pureFlag gv.ref r.exons (strandOf r.strand)) else none

def infoTokens (P : Params) (gv : GeneView) (r : ReadAssignment) (m : IsoformMatch) : List String :=
  ["gene_assignment=" ++ r.geneAssignmentType.name ++ ";", "PolyA=" ++ boolStr r.polyAFound ++ ";"]
  ++ (if P.cage then ["CAGE=" ++ boolStr r.cageFound ++ ";"] else [])
  ++ (match canonField P gv r with
      | some c => ["Canonical=" ++ c ++ ";"]
      | none => [])
  ++ ["Classification=" ++ m.matchClassification.name ++ ";"]
  ++ attrTokens r.additionalAttributes

/-- `matchLine` without the memo -/
def specMatchLine (P : Params) (gv : GeneView) (r : ReadAssignment) (m : IsoformMatch) : Option TsvLine :=
  match m.assignedTranscript with
  | none => some (unmatchedLine r ["Classification=" ++ m.matchClassification.name ++ ";"])
  | some t =>
    match gv.isoformIntrons.lookup t, m.assignedGene with
    | some isoformIntrons, some g =>
      some { readId := r.readId, chr := r.chrId, strand := r.strand, isoformId := t, geneId := g,
             assignmentType := r.assignmentType.name,
             events := ",".intercalate (m.events.map (fun e =>
                         eventStr e r.strand (junctionsFromBlocks r.exons) isoformIntrons)),
             exons := rangeListToStr r.exons,
             info := infoColumn (infoTokens P gv r m) }
    | _, _ => none

/-- all matches, in order; `none` when one of them raises -/
def specMatchLines (P : Params) (gv : GeneView) (r : ReadAssignment) : List IsoformMatch → Option (List TsvLine)
  | [] => some []
  | m :: ms =>
    match specMatchLine P gv r m, specMatchLines P gv r ms with
    | some l, some ls => some (l :: ls)
    | _, _ => none

def specTsv (ck : Checker) (P : Params) (gv : GeneView) (r : ReadAssignment) : Option (List TsvLine) :=
  if !ck.check r then some []
  else if r.isoformMatches.isEmpty then some [unmatchedLine r []]
  else specMatchLines P gv r r.isoformMatches

def recordLines (C : PrinterCfg) (gv : GeneView) (r : ReadAssignment) : Option (List C14.BedRecord × List TsvLine) :=
  match bedOf C.bedChecker printer_bed_print_corrected gv r, specTsv C.tsvChecker C.params gv r with
  | some b, some ls => some (b.toList, ls)
  | _, _ => none

def specRecords (C : PrinterCfg) (gv : GeneView) : List ReadAssignment → Option Lines
  | [] => some { bed := [], tsv := [] }
  | r :: rs =>
    match recordLines C gv r, specRecords C gv rs with
    | some x, some rest => some { bed := x.1 ++ rest.bed, tsv := x.2 ++ rest.tsv }
    | _, _ => none

/-- `specRecords` is `mapM recordLines` with the two columns concatenated -/
theorem specRecords_eq_mapM (C : PrinterCfg) (gv : GeneView) (rs : List ReadAssignment) :
    specRecords C gv rs =
      (rs.mapM (recordLines C gv)).map fun xs => { bed := xs.flatMap (·.1), tsv := xs.flatMap (·.2) } := by
  induction rs with
  | nil => rfl
  | cons r rs ih =>
    rw [specRecords, ih, List.mapM_cons]
    cases recordLines C gv r <;> cases rs.mapM (recordLines C gv) <;> rfl

theorem matchLine_pure {gv : GeneView} {σ : CanonMemo} (h : Reachable gv.ref σ) (P : Params) (r : ReadAssignment)
    (m : IsoformMatch) :
    (matchLine P gv r m σ).map (·.1) = specMatchLine P gv r m ∧
    ∀ out, matchLine P gv r m σ = some out → Reachable gv.ref out.2 := by
  have hp := read_field_pure h P.checkCanonical r.exons (strandOf r.strand)
  unfold matchLine specMatchLine
  cases m.assignedTranscript with
  | none =>
    dsimp only
    refine ⟨rfl, ?_⟩
    intro out ho
    simp only [Option.some.injEq] at ho
    subst ho
    exact h
  | some t =>
    dsimp only
    cases gv.isoformIntrons.lookup t with
    | none => exact ⟨rfl, fun _ ho => by simp at ho⟩
    | some ii =>
      cases m.assignedGene with
      | none => exact ⟨rfl, fun _ ho => by simp at ho⟩
      | some g =>
        dsimp only
        refine ⟨?_, ?_⟩
        · simp only [Option.map_some, infoTokens, canonField, hp.1] <;> rfl
        · intro out ho
          simp only [Option.some.injEq] at ho
          subst ho
          exact hp.2

-- state-passing `mapM`: the value is that of the memo-free spec, the invariant `Reachable` is kept
theorem matchLines_pure {gv : GeneView} (P : Params) (r : ReadAssignment) :
    ∀ (ms : List IsoformMatch) (σ : CanonMemo), Reachable gv.ref σ →
      (matchLines P gv r ms σ).map (·.1) = specMatchLines P gv r ms ∧
      ∀ out, matchLines P gv r ms σ = some out → Reachable gv.ref out.2 := by
  intro ms
  induction ms with
  | nil =>
    intro σ h
    refine ⟨rfl, ?_⟩
    intro out ho
    simp only [matchLines, Option.some.injEq] at ho
    subst ho
    exact h
  | cons m ms ih =>
    intro σ h
    have h1 := matchLine_pure h P r m
    cases hm : matchLine P gv r m σ with
    | none =>
      rw [hm] at h1
      have e1 : specMatchLine P gv r m = none := h1.1.symm
      simp only [matchLines, specMatchLines, hm, e1]
      exact ⟨rfl, fun _ ho => by simp at ho⟩
    | some x =>
      obtain ⟨l, σ'⟩ := x
      rw [hm] at h1
      have e1 : specMatchLine P gv r m = some l := h1.1.symm
      have hr : Reachable gv.ref σ' := h1.2 _ rfl
      have h2 := ih σ' hr
      cases hms : matchLines P gv r ms σ' with
      | none =>
        rw [hms] at h2
        have e2 : specMatchLines P gv r ms = none := h2.1.symm
        simp only [matchLines, specMatchLines, hm, e1, hms, e2]
        exact ⟨rfl, fun _ ho => by simp at ho⟩
      | some y =>
        obtain ⟨ls, σ''⟩ := y
        rw [hms] at h2
        have e2 : specMatchLines P gv r ms = some ls := h2.1.symm
        simp only [matchLines, specMatchLines, hm, e1, hms, e2]
        refine ⟨rfl, ?_⟩
        intro out ho
        simp only [Option.some.injEq] at ho
        subst ho
        exact h2.2 (ls, σ'') rfl

theorem tsvOf_pure {gv : GeneView} {σ : CanonMemo} (h : Reachable gv.ref σ) (ck : Checker) (P : Params)
    (r : ReadAssignment) :
    (tsvOf ck P gv r σ).map (·.1) = specTsv ck P gv r ∧
    ∀ out, tsvOf ck P gv r σ = some out → Reachable gv.ref out.2 := by
  unfold tsvOf specTsv
  by_cases hc : ck.check r = true
  · simp only [hc, Bool.not_true, Bool.false_eq_true, if_false]
    by_cases he : r.isoformMatches.isEmpty = true
    · simp only [he, if_true]
      refine ⟨rfl, ?_⟩
      intro out ho
      simp only [Option.some.injEq] at ho
      subst ho
      exact h
    · simp only [he, Bool.false_eq_true, if_false]
      exact matchLines_pure P r r.isoformMatches σ h
  · have hc' : ck.check r = false := by simpa using hc
    simp only [hc', Bool.not_false, if_true]
    refine ⟨rfl, ?_⟩
    intro out ho
    simp only [Option.some.injEq] at ho
    subst ho
    exact h

theorem printRecords_pure (C : PrinterCfg) (gv : GeneView) :
    ∀ (rs : List ReadAssignment) (σ : CanonMemo), Reachable gv.ref σ → printRecords C gv rs σ = specRecords C gv rs := by
  intro rs
  induction rs with
  | nil => intro σ _; rfl
  | cons r rs ih =>
    intro σ h
    have ht := tsvOf_pure h C.tsvChecker C.params r
    cases hb : bedOf C.bedChecker printer_bed_print_corrected gv r with
    | none => simp only [printRecords, specRecords, recordLines, hb]
    | some b =>
      cases hts : tsvOf C.tsvChecker C.params gv r σ with
      | none =>
        rw [hts] at ht
        have e1 : specTsv C.tsvChecker C.params gv r = none := ht.1.symm
        simp only [printRecords, specRecords, recordLines, hb, hts, e1]
      | some x =>
        obtain ⟨ls, σ'⟩ := x
        rw [hts] at ht
        have e1 : specTsv C.tsvChecker C.params gv r = some ls := ht.1.symm
        simp only [printRecords, specRecords, recordLines, hb, hts, e1, ih σ' (ht.2 _ rfl)]
        cases specRecords C gv rs <;> rfl

theorem specMatchLines_eq_mapM (P : Params) (gv : GeneView) (r : ReadAssignment) :
    ∀ ms : List IsoformMatch, specMatchLines P gv r ms = ms.mapM (specMatchLine P gv r)
  | [] => rfl
  | m :: ms => by
    rw [specMatchLines, specMatchLines_eq_mapM P gv r ms, List.mapM_cons]
    cases specMatchLine P gv r m <;> cases ms.mapM (specMatchLine P gv r) <;> rfl

theorem specMatchLines_length (P : Params) (gv : GeneView) (r : ReadAssignment) (ms : List IsoformMatch)
    (ls : List TsvLine) (h : specMatchLines P gv r ms = some ls) : ls.length = ms.length := by
  obtain ⟨e, _⟩ := mapM_eq_some_map _ ⟨"", "", "", "", "", "", "", "", ""⟩ ms ls (specMatchLines_eq_mapM P gv r ms ▸ h)
  rw [e, List.length_map]

theorem specMatchLine_common {P : Params} {gv : GeneView} {r : ReadAssignment} {m : IsoformMatch} {l : TsvLine}
    (h : specMatchLine P gv r m = some l) :
    l.readId = r.readId ∧ l.chr = r.chrId ∧ l.strand = r.strand ∧
      l.assignmentType = r.assignmentType.name ∧ l.exons = rangeListToStr r.exons := by
  unfold specMatchLine at h
  cases ht : m.assignedTranscript with
  | none =>
    simp only [ht, Option.some.injEq] at h
    subst h
    exact ⟨rfl, rfl, rfl, rfl, rfl⟩
  | some t =>
    cases hk : gv.isoformIntrons.lookup t with
    | none => simp [ht, hk] at h
    | some ii =>
      cases hg : m.assignedGene with
      | none => simp [ht, hk, hg] at h
      | some g =>
        simp only [ht, hk, hg, Option.some.injEq] at h
        subst h
        exact ⟨rfl, rfl, rfl, rfl, rfl⟩

theorem specMatchLines_common (P : Params) (gv : GeneView) (r : ReadAssignment) (ms : List IsoformMatch)
    (ls : List TsvLine) (h : specMatchLines P gv r ms = some ls) :
    ∀ l ∈ ls, l.readId = r.readId ∧ l.chr = r.chrId ∧ l.strand = r.strand ∧
      l.assignmentType = r.assignmentType.name ∧ l.exons = rangeListToStr r.exons := fun l hl =>
  let ⟨_, _, hm⟩ := mapM_option_mem _ ms ls (specMatchLines_eq_mapM P gv r ms ▸ h) l hl
  specMatchLine_common hm

end IsoVerif.Lemmas.Printers
