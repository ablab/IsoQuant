/-
Helper lemmas for the end-to-end part of C12 (Model/BamPipeline.lean), in seven parts A–G (the section headings say
what each holds).  Part A is Lemmas/BamRecords (`blocksBy`, `collect_eq_blocks`, `blocks_forall2`: two representations
give block-wise permuted streams).
-/
import IsoVerif.Model.BamPipeline
import IsoVerif.Lemmas.BamRecords
import IsoVerif.Lemmas.C12Lists
import IsoVerif.Lemmas.C12Resolve
import IsoVerif.Lemmas.ListFacts
import IsoVerif.Lemmas.AssocList

namespace IsoVerif.Lemmas.C12
open IsoVerif.Gen IsoVerif.Model.C12 IsoVerif.Model.Resolver IsoVerif.Lemmas.Resolver IsoVerif.Lemmas.ResolverSpec
open IsoVerif.Lemmas.ResolverFlow IsoVerif.Props.C08 IsoVerif.Props.C08Flow
open List

/-! ## A. the records come in blocks

`collectBlocks split assign files` and `collectBlocksMem split assign files` (Model/BamPipeline.lean) unfold to
`blocksBy split g (clusters Prod.snd (merge files))` with `g = fun _ _ => regionRecords assign files` and
`g = fun r c sub => (memAlignments r c sub).filterMap (fun e => assign sub e.1 e.2)`: the equations hold by `rfl`, so
terms about `blocksBy` (`blocks_forall2`, `blocksMem_forall2`, Lemmas/BamRecords.lean) close statements about them, as
in `blocks_partition_invariant` of Props/C12EndToEnd.lean.  This file has no lemma of its own for part A. -/

/-! ## B. the loaded records of one read, position-free (`readOut`), and of one chromosome (`specRecords`) -/

/-- `BasicReadAssignment.__eq__` on the compact views -/
def eqP (a b : PRec) : Bool := recEq a.basic b.basic

/-- the records of one read (`T`, in processing order) the resolver keeps: the first of every `__eq__`-class of
    `Winner` records -/
noncomputable def keptP (T : List PRec) : List PRec :=
  open Classical in firstWins eqP (T.filter (fun p => decide (Winner (T.map (·.basic)) p.basic)))

-- `several_kept and ...` of `filter_assignments`: a read kept on ONE record is not re-flagged (`fix:` commit 95c08f6)
def cTP (K : List PRec) : Bool := decide (1 < K.length) && decide (1 < setSize (K.flatMap (fun p => p.basic.isoforms)))
def cGP (K : List PRec) : Bool := decide (1 < K.length) && decide (1 < setSize (K.flatMap (fun p => p.basic.genes)))

def flagged (a b : Bool) (p : PRec) : PRec := { p with basic := flag a b p.basic }

/-- what reaches the consumers of the records `T` of one read -/
noncomputable def readOut (T : List PRec) : List PRec :=
  if T.length ≤ 1 then T else (keptP T).map (flagged (cTP (keptP T)) (cGP (keptP T)))

def onChr (c : Nat) (p : PRec) : Bool := p.basic.chr == c
def ofRead (r : Nat) (p : PRec) : Bool := p.basic.readId == r

/-- what reaches the consumers on chromosome `c`, read by read (`S` = the records of the whole experiment) -/
noncomputable def specRecords (c : Nat) (S : List PRec) : List PRec :=
  (keysOf (fun p => p.basic.readId) (S.filter (onChr c))).flatMap (fun r =>
    (readOut (S.filter (ofRead r))).filter (onChr c))

/-! ## C. the loader on one record = membership in the resolver's kept records -/

theorem withVerdict_flag (a b : Bool) (p : PRec) :
    p.withVerdict { p.toFull with atype := (flag a b p.basic).atype, gtype := (flag a b p.basic).gtype,
                                  multimapper := (flag a b p.basic).multimapper } = flagged a b p := by
  cases a <;> cases b <;> rfl

theorem withVerdict_self (p : PRec) : p.withVerdict p.toFull = p := rfl

theorem nodup_of_distinct {l : List Rec} (h : l.Pairwise (fun a b => ¬ (a.aid = b.aid ∧ a.chr = b.chr))) : l.Nodup :=
  h.imp (fun hab e => hab (by subst e; exact ⟨rfl, rfl⟩))

theorem loadOne_multi (l : List Rec) (h2 : 2 ≤ l.length) (hin : NoSuspendedInput l)
    (huniq : l.Pairwise (fun a b => ¬ (a.aid = b.aid ∧ a.chr = b.chr)))
    (c : Nat) (dict : List (Nat × List Rec)) (p : PRec) (hp : p.basic ∈ l) (hc : p.basic.chr = c)
    (hdict : dict.lookup p.basic.readId = some ((applyKeep l (keptI l)).filter (fun r => r.chr == c))) :
    raisesFor dict p.toFull = false ∧
    (loadOne dict p.toFull).map p.withVerdict =
      if p.basic ∈ (keptI l).map Prod.fst then some (flagged (changeT (keptI l)) (changeG (keptI l)) p) else none := by
  obtain ⟨hres, hsub⟩ := keptI_spec l h2
  obtain ⟨i, hi⟩ := List.mem_iff_getElem?.mp hp
  constructor
  · -- no second verdict with the same (assignment id, chromosome)
    have hpw : (applyKeep l (keptI l)).Pairwise (fun a b => (a.aid, a.chr) ≠ (b.aid, b.chr)) := by
      have h : (l.map (fun r => (r.aid, r.chr))).Pairwise (· ≠ ·) :=
        List.pairwise_map.mpr (huniq.imp (fun hab e => hab (Prod.mk.inj e)))
      rw [← applyKeep_ids l (keptI l)] at h
      exact List.pairwise_map.mp h
    have hlen := length_le_one_of_pairwise
      ((hpw.filter (fun r => r.chr == c)).filter (fun a => a.aid == p.basic.aid && a.chr == p.basic.chr))
      (fun a ha b hb hne => by
        simp only [List.mem_filter, Bool.and_eq_true, beq_iff_eq] at ha hb
        exact hne (Prod.ext (ha.2.1.trans hb.2.1.symm) (ha.2.2.trans hb.2.2.symm)))
    simp only [raisesFor, PRec.toFull, hdict, dupVerdict]
    exact decide_eq_false (by omega)
  · have hout : (applyKeep l (keptI l))[i]? = some (if ((keptI l).map (·.2)).contains i
        then flag (changeT (keptI l)) (changeG (keptI l)) p.basic else suspend p.basic) := by
      rw [getElem?_applyKeep, hi]; rfl
    obtain ⟨hlose, hwin⟩ :=
      losers_never_loaded l h2 hin huniq _ hres c dict p.toFull hdict i p.basic _ hi hout hc ⟨rfl, rfl⟩
    -- the kept records carry their positions and `l` has no duplicates: kept as a record iff kept as a position
    have hiff : p.basic ∈ (keptI l).map Prod.fst ↔ ((keptI l).map (·.2)).contains i = true := by
      rw [List.contains_iff_mem]
      exact mem_fst_iff_mem_snd (fun y hy => List.mem_zipIdx_iff_getElem?.mp (hsub.subset hy))
        (nodup_of_distinct huniq) hi
    by_cases hk : ((keptI l).map (·.2)).contains i = true
    · simp only [hk, if_true] at hwin hout
      have hret : flag (changeT (keptI l)) (changeG (keptI l)) p.basic ∈ retained (applyKeep l (keptI l)) :=
        mem_retained.mpr ⟨List.mem_of_getElem? hout, flag_atype_ne_suspended _ _ _ (hin _ hp)⟩
      rw [hwin hret, if_pos (hiff.mpr hk), Option.map_some, withVerdict_flag]
    · simp only [hk] at hlose
      have hnr : suspend p.basic ∉ retained (applyKeep l (keptI l)) :=
        fun h => (mem_retained.mp h).2 (suspend_atype _)
      rw [hlose hnr, if_neg (mt hiff.mp hk)]; rfl

/-! ## D. the verdict dictionaries by look-up -/

/-- the list the resolver is called on for read `r`: its records in the stream, in processing order -/
def lr (recs : List Rec) (r : Nat) : List Rec := recs.filter (fun x => x.readId == r)

/-- what the resolver returns for the records `l` of one read with at least two records -/
def outOf (l : List Rec) : List Rec := applyKeep l (keptI l)

theorem resolveStream_spec (hm : Bool) (recs : List Rec) :
    ∃ resolved, resolveStream hm recs = some resolved ∧ (resolved.map Prod.fst).Nodup ∧
      (∀ r, 2 ≤ (lr recs r).length → (r, outOf (lr recs r)) ∈ resolved) ∧
      (∀ kv ∈ resolved, 2 ≤ (lr recs kv.1).length ∧ kv.2 = outOf (lr recs kv.1)) := by
  have hd : resolveAll .take_best (if hm then groupAll recs else groupMulti recs) =
      resolveAll .take_best (groupAll recs) := by
    cases hm with
    | true => rfl
    | false => exact memory_paths_agree .take_best recs
  have hvals := groupAll_vals recs
  refine ⟨((groupAll recs).filter (fun kv => 1 < kv.2.length)).map (fun kv => (kv.1, outOf kv.2)), ?_, ?_, ?_, ?_⟩
  · show (resolveAll .take_best (if hm then groupAll recs else groupMulti recs)).mapM _ = _
    rw [hd]
    simp only [resolveAll]
    rw [List.mapM_map]
    apply IsoVerif.Lemmas.mapM_all_some
    intro kv hkv
    have h2 : 2 ≤ kv.2.length := by
      have := (List.mem_filter.mp hkv).2
      simp only [decide_eq_true_eq] at this; omega
    simp only [Function.comp_apply, (keptI_spec kv.2 h2).1, Option.map_some, outOf]
  · have : (((groupAll recs).filter (fun kv => 1 < kv.2.length)).map (fun kv => (kv.1, outOf kv.2))).map Prod.fst =
        ((groupAll recs).filter (fun kv => 1 < kv.2.length)).map Prod.fst := by
      simp [List.map_map, Function.comp_def]
    rw [this]
    exact List.Nodup.sublist (List.filter_sublist.map _) (inv_groupAll recs).nodup
  · intro r hr
    have hne : lr recs r ≠ [] := by intro h; simp [h] at hr
    obtain ⟨x, hx⟩ := List.exists_mem_of_ne_nil _ hne
    obtain ⟨hx1, hx2⟩ := List.mem_filter.mp hx
    obtain ⟨kv, hkv, hk⟩ := groupAll_cover recs x hx1
    have hkr : kv.1 = r := by simpa using hk.trans (by simpa using hx2)
    have hv : kv.2 = lr recs r := by rw [hvals kv hkv, hkr]; rfl
    refine List.mem_map.mpr ⟨kv, List.mem_filter.mpr ⟨hkv, ?_⟩, ?_⟩
    · rw [hv]; simp only [decide_eq_true_eq]; omega
    · rw [hv, hkr]
  · intro kv hkv
    obtain ⟨kv0, hkv0, rfl⟩ := List.mem_map.mp hkv
    obtain ⟨h1, h2⟩ := List.mem_filter.mp hkv0
    have hv : kv0.2 = lr recs kv0.1 := hvals kv0 h1
    simp only
    rw [← hv]
    exact ⟨by simp only [decide_eq_true_eq] at h2; omega, rfl⟩

theorem verdictsFor_keys (c : Nat) (resolved : List (Nat × List Rec)) (h : (resolved.map Prod.fst).Nodup) :
    ((verdictsFor c resolved).map Prod.fst).Nodup := by
  unfold verdictsFor
  refine List.Nodup.sublist (List.filter_sublist.map _) ?_
  simpa [List.map_map, Function.comp_def] using h

theorem verdictsFor_lookup_multi (c : Nat) (recs : List Rec) (resolved : List (Nat × List Rec))
    (hnd : (resolved.map Prod.fst).Nodup) (hmem : ∀ r, 2 ≤ (lr recs r).length → (r, outOf (lr recs r)) ∈ resolved)
    (r : Nat) (h2 : 2 ≤ (lr recs r).length) (hne : (outOf (lr recs r)).filter (fun x => x.chr == c) ≠ []) :
    (verdictsFor c resolved).lookup r = some ((outOf (lr recs r)).filter (fun x => x.chr == c)) := by
  apply (IsoVerif.Lemmas.lookup_iff_mem_of_nodup (verdictsFor_keys c resolved hnd) _ _).2
  unfold verdictsFor
  refine List.mem_filter.mpr ⟨List.mem_map.mpr ⟨_, hmem r h2, rfl⟩, ?_⟩
  cases h : (outOf (lr recs r)).filter (fun x => x.chr == c) with
  | nil => exact absurd h hne
  | cons _ _ => rfl

theorem verdictsFor_lookup_single (c : Nat) (recs : List Rec) (resolved : List (Nat × List Rec))
    (hall : ∀ kv ∈ resolved, 2 ≤ (lr recs kv.1).length ∧ kv.2 = outOf (lr recs kv.1))
    (r : Nat) (h1 : (lr recs r).length ≤ 1) : (verdictsFor c resolved).lookup r = none := by
  apply IsoVerif.Lemmas.lookup_eq_none_iff_keys.mpr
  intro hmem
  obtain ⟨kv, hkv, hk⟩ := List.mem_map.mp hmem
  unfold verdictsFor at hkv
  obtain ⟨kv0, hkv0, rfl⟩ := List.mem_map.mp (List.mem_filter.mp hkv).1
  have := (hall kv0 hkv0).1
  simp only at hk
  rw [hk] at this
  omega

/-! ## E. loader ∘ resolver on a stamped stream = `specRecords` (as multisets) -/

/-- what the loader does with record `p` of the stream, as a function of the stream's compact records -/
def loadSpec (recs : List Rec) (p : PRec) : Option PRec :=
  let l := lr recs p.basic.readId
  if l.length ≤ 1 then some p
  else if p.basic ∈ (keptI l).map Prod.fst then some (flagged (changeT (keptI l)) (changeG (keptI l)) p)
  else none

theorem mem_lr_self {recs : List Rec} {x : Rec} (h : x ∈ recs) : x ∈ lr recs x.readId :=
  List.mem_filter.mpr ⟨h, by simp⟩

theorem loadChr_spec (hm : Bool) (S : List PRec)
    (hU : (S.map (·.basic)).Pairwise (fun a b => ¬ (a.aid = b.aid ∧ a.chr = b.chr)))
    (hNS : NoSuspendedInput (S.map (·.basic))) :
    ∃ resolved, resolveStream hm (S.map (·.basic)) = some resolved ∧
      ∀ c, loadChr (verdictsFor c resolved) (S.filter (onChr c)) =
        some ((S.filter (onChr c)).filterMap (loadSpec (S.map (·.basic)))) := by
  obtain ⟨resolved, hres, hnd, hmem, hall⟩ := resolveStream_spec hm (S.map (·.basic))
  refine ⟨resolved, hres, ?_⟩
  intro c
  have key : ∀ p ∈ S.filter (onChr c),
      raisesFor (verdictsFor c resolved) p.toFull = false ∧
      (loadOne (verdictsFor c resolved) p.toFull).map p.withVerdict = loadSpec (S.map (·.basic)) p := by
    intro p hp
    obtain ⟨hpS, hpc⟩ := List.mem_filter.mp hp
    have hpc' : p.basic.chr = c := by simpa [onChr] using hpc
    have hprec : p.basic ∈ S.map (·.basic) := List.mem_map.mpr ⟨p, hpS, rfl⟩
    have hpl := mem_lr_self hprec
    by_cases h1 : (lr (S.map (·.basic)) p.basic.readId).length ≤ 1
    · have hlk := verdictsFor_lookup_single c _ resolved hall p.basic.readId h1
      have hlk' : (verdictsFor c resolved).lookup p.toFull.readId = none := hlk
      refine ⟨by simp [raisesFor, hlk'], ?_⟩
      simp only [loadOne, hlk', loadSpec, h1, if_true, Option.map_some]
      rfl
    · have h2 : 2 ≤ (lr (S.map (·.basic)) p.basic.readId).length := by omega
      have hin : NoSuspendedInput (lr (S.map (·.basic)) p.basic.readId) :=
        fun x hx => hNS x (List.mem_filter.mp hx).1
      have huniq := List.Pairwise.filter (fun x : Rec => x.readId == p.basic.readId) hU
      -- the verdict of `p` itself lies on chromosome `c`, so the entry of the read is not empty
      have hne : (outOf (lr (S.map (·.basic)) p.basic.readId)).filter (fun x => x.chr == c) ≠ [] := by
        have hm : (p.basic.aid, p.basic.chr) ∈
            (outOf (lr (S.map (·.basic)) p.basic.readId)).map (fun r => (r.aid, r.chr)) := by
          rw [outOf, applyKeep_ids]; exact List.mem_map.mpr ⟨p.basic, hpl, rfl⟩
        obtain ⟨x, hx, hxe⟩ := List.mem_map.mp hm
        exact List.ne_nil_of_mem (List.mem_filter.mpr ⟨hx, by simp [(Prod.mk.inj hxe).2, hpc']⟩)
      have hlk := verdictsFor_lookup_multi c _ resolved hnd hmem p.basic.readId h2 hne
      obtain ⟨hr, hl⟩ := loadOne_multi _ h2 hin huniq c (verdictsFor c resolved) p hpl hpc' hlk
      refine ⟨hr, ?_⟩
      rw [hl]
      simp only [loadSpec, h1, if_false]
  unfold loadChr
  have hany : (S.filter (onChr c)).any (fun p => raisesFor (verdictsFor c resolved) p.toFull) = false := by
    rw [List.any_eq_false]
    intro p hp
    simp [(key p hp).1]
  rw [hany]
  simp only [Bool.false_eq_true, if_false, Option.some.injEq]
  exact IsoVerif.Lemmas.filterMap_congr_mem (fun p hp => (key p hp).2)

theorem onChr_flagged (c : Nat) (a b : Bool) (p : PRec) : onChr c (flagged a b p) = onChr c p := by
  simp [onChr, flagged, flag_chr]

theorem change_eq_of_map {K : List IRec} {P : List PRec} (h : K.map Prod.fst = P.map (·.basic)) :
    changeT K = cTP P ∧ changeG K = cGP P := by
  have hl : K.length = P.length := by simpa using congrArg List.length h
  have hf : ∀ f : Rec → List Nat, K.flatMap (fun x => f x.1) = P.flatMap (fun p => f p.basic) := by
    intro f
    simpa only [List.flatMap_map] using congrArg (fun l => l.flatMap f) h
  exact ⟨by unfold changeT cTP; rw [hl, hf (·.isoforms)], by unfold changeG cGP; rw [hl, hf (·.genes)]⟩

theorem keptP_spec (T : List PRec) (hT : (T.map (·.basic)).Nodup) :
    (keptP T).map (·.basic) = keptRecs (T.map (·.basic)) ∧
    keptP T = T.filter (fun p => decide (p.basic ∈ keptRecs (T.map (·.basic)))) := by
  classical
  have hmap : (keptP T).map (·.basic) = keptRecs (T.map (·.basic)) := by
    unfold keptP keptRecs winnersR eqP
    rw [← firstWins_map (fun p : PRec => p.basic) _ recEq (fun _ _ => rfl)]
    congr 1
    rw [List.filter_map]
    rfl
  refine ⟨hmap, ?_⟩
  have hTn : T.Nodup := List.Pairwise.of_map (fun p : PRec => p.basic) (fun a b h e => h (congrArg _ e)) hT
  apply sublist_eq_filter _ _ hTn
  · intro x hx
    simp only [decide_eq_true_eq]
    constructor
    · intro h
      rw [← hmap]
      exact List.mem_map.mpr ⟨x, h, rfl⟩
    · intro h
      rw [← hmap] at h
      obtain ⟨y, hy, hyx⟩ := List.mem_map.mp h
      have hyT : y ∈ T := (List.filter_sublist.subset (mem_of_mem_firstWins _ hy))
      have : y = x := eq_of_nodup_map (fun p : PRec => p.basic) hT hyT hx hyx
      rw [← this]; exact hy
  · exact (firstWins_sublist _ _).trans List.filter_sublist

theorem readOut_spec (S : List PRec)
    (hU : (S.map (·.basic)).Pairwise (fun a b => ¬ (a.aid = b.aid ∧ a.chr = b.chr))) (c r : Nat) :
    ((S.filter (onChr c)).filter (ofRead r)).filterMap (loadSpec (S.map (·.basic))) =
      (readOut (S.filter (ofRead r))).filter (onChr c) := by
  have hl : lr (S.map (·.basic)) r = (S.filter (ofRead r)).map (·.basic) := by
    unfold lr; rw [List.filter_map]; rfl
  have hTU : ((S.filter (ofRead r)).map (·.basic)).Pairwise (fun a b => ¬ (a.aid = b.aid ∧ a.chr = b.chr)) := by
    rw [← hl]; exact List.Pairwise.filter _ hU
  have hTn := nodup_of_distinct hTU
  have hrid : ∀ p ∈ S.filter (ofRead r), p.basic.readId = r := fun p hp => by
    simpa [ofRead] using (List.mem_filter.mp hp).2
  rw [filter_comm']
  -- on the read's records `loadSpec` only looks at the read's own list
  have hcongr : ((S.filter (ofRead r)).filter (onChr c)).filterMap (loadSpec (S.map (·.basic))) =
      ((S.filter (ofRead r)).filter (onChr c)).filterMap (fun p =>
        if ((S.filter (ofRead r)).map (·.basic)).length ≤ 1 then some p
        else if decide (p.basic ∈ (keptI ((S.filter (ofRead r)).map (·.basic))).map Prod.fst) then
          some (flagged (changeT (keptI ((S.filter (ofRead r)).map (·.basic))))
            (changeG (keptI ((S.filter (ofRead r)).map (·.basic)))) p)
        else none) := by
    apply IsoVerif.Lemmas.filterMap_congr_mem
    intro p hp
    simp only [loadSpec, hrid p (List.mem_filter.mp hp).1, hl, decide_eq_true_eq]
  rw [hcongr]
  by_cases h1 : ((S.filter (ofRead r)).map (·.basic)).length ≤ 1
  · have h1' : (S.filter (ofRead r)).length ≤ 1 := by simpa using h1
    simp only [h1, if_true, readOut, h1']
    simp
  · have h1' : ¬ (S.filter (ofRead r)).length ≤ 1 := by simpa using h1
    have hne : (S.filter (ofRead r)).map (·.basic) ≠ [] := by
      intro h; rw [h] at h1; simp at h1
    have hread : ∀ a ∈ (S.filter (ofRead r)).map (·.basic), ∀ b ∈ (S.filter (ofRead r)).map (·.basic),
        a.readId = b.readId := by
      intro a ha b hb
      obtain ⟨x, hx, rfl⟩ := List.mem_map.mp ha
      obtain ⟨y, hy, rfl⟩ := List.mem_map.mp hb
      rw [hrid x hx, hrid y hy]
    have hK := keptI_map_fst _ hne hread
    obtain ⟨hmap, hfilt⟩ := keptP_spec (S.filter (ofRead r)) hTn
    obtain ⟨hT, hG⟩ := change_eq_of_map (hK.trans hmap.symm)
    simp only [h1, if_false, readOut, h1']
    -- the loader keeps `p` iff `p.basic ∈ keptRecs` (`hK`); filtering by that is `keptP` (`keptP_spec`), flags agree (`hT`, `hG`)
    rw [filterMap_ite, hK, hT, hG, filter_comm', ← hfilt, List.filter_map]
    congr 1
    apply List.filter_congr
    intro p _
    exact (onChr_flagged c _ _ p).symm

theorem loadSpec_perm (S : List PRec)
    (hU : (S.map (·.basic)).Pairwise (fun a b => ¬ (a.aid = b.aid ∧ a.chr = b.chr))) (c : Nat) :
    (S.filter (onChr c)).filterMap (loadSpec (S.map (·.basic))) ~ specRecords c S := by
  have hg := perm_group_keys (fun p : PRec => p.basic.readId) (S.filter (onChr c))
  have h1 := hg.filterMap (loadSpec (S.map (·.basic)))
  rw [List.filterMap_flatMap] at h1
  refine h1.trans (Perm.of_eq ?_)
  unfold specRecords
  rw [List.flatMap_def, List.flatMap_def]
  congr 1
  apply List.map_congr_left
  intro r _
  exact readOut_spec S hU c r

/-! ## F. assignment ids are invisible -/

def eraseAidR (r : Rec) : Rec := { r with aid := 0 }

theorem eraseAid_basic (p : PRec) : p.eraseAid.basic = eraseAidR p.basic := rfl

theorem winner_eraseAid (l : List Rec) (r : Rec) : Winner (l.map eraseAidR) (eraseAidR r) ↔ Winner l r := by
  have hHas : ∀ (P : Rec → Prop), (∀ q, P (eraseAidR q) ↔ P q) → (Has P (l.map eraseAidR) ↔ Has P l) := by
    intro P hP
    simp only [Has, List.mem_map]
    constructor
    · rintro ⟨q, ⟨q0, hq0, rfl⟩, h⟩; exact ⟨q0, hq0, (hP q0).mp h⟩
    · rintro ⟨q, hq, h⟩; exact ⟨eraseAidR q, ⟨q, hq, rfl⟩, (hP q).mpr h⟩
  have hMin : ∀ (P : Rec → Prop), (∀ q, P (eraseAidR q) ↔ P q) →
      (MinPenaltyAmong P (l.map eraseAidR) (eraseAidR r) ↔ MinPenaltyAmong P l r) := by
    intro P hP
    simp only [MinPenaltyAmong, List.forall_mem_map]
    exact forall_congr' fun q => forall_congr' fun _ => imp_congr_left (hP q)
  unfold Winner
  rw [hHas PU (fun _ => Iff.rfl), hHas Cons (fun _ => Iff.rfl), hHas PInc (fun _ => Iff.rfl),
    hHas Inc (fun _ => Iff.rfl), hMin PInc (fun _ => Iff.rfl), hMin Inc (fun _ => Iff.rfl)]
  simp only [BestUninformative, List.forall_mem_map]
  exact Iff.rfl

theorem eqP_eraseAid (a b : PRec) : eqP a.eraseAid b.eraseAid = eqP a b := rfl

theorem flagged_eraseAid (a b : Bool) (p : PRec) : flagged a b p.eraseAid = (flagged a b p).eraseAid := by
  cases a <;> cases b <;> rfl

theorem keptP_eraseAid (T : List PRec) : keptP (T.map PRec.eraseAid) = (keptP T).map PRec.eraseAid := by
  classical
  unfold keptP
  have hfil : (T.map PRec.eraseAid).filter
        (fun p => decide (Winner ((T.map PRec.eraseAid).map (·.basic)) p.basic)) =
      (T.filter (fun p => decide (Winner (T.map (·.basic)) p.basic))).map PRec.eraseAid := by
    rw [List.filter_map]
    congr 1
    apply List.filter_congr
    intro p _
    have e : (T.map PRec.eraseAid).map (·.basic) = (T.map (·.basic)).map eraseAidR := by
      simp [List.map_map, Function.comp_def, eraseAid_basic]
    simp only [Function.comp, eraseAid_basic, e, winner_eraseAid]
  rw [hfil]
  rw [firstWins_map PRec.eraseAid _ eqP (fun _ _ => rfl)]
  rfl

theorem cTP_eraseAid (K : List PRec) : cTP (K.map PRec.eraseAid) = cTP K := by
  unfold cTP; rw [List.flatMap_map, List.length_map]; rfl
theorem cGP_eraseAid (K : List PRec) : cGP (K.map PRec.eraseAid) = cGP K := by
  unfold cGP; rw [List.flatMap_map, List.length_map]; rfl

theorem readOut_eraseAid (T : List PRec) : readOut (T.map PRec.eraseAid) = (readOut T).map PRec.eraseAid := by
  unfold readOut
  simp only [List.length_map, keptP_eraseAid, cTP_eraseAid, cGP_eraseAid]
  split
  · rfl
  · simp only [List.map_map]
    apply List.map_congr_left
    intro p _
    exact flagged_eraseAid _ _ p

theorem specRecords_eraseAid (c : Nat) (S : List PRec) :
    (specRecords c S).map PRec.eraseAid = specRecords c (S.map PRec.eraseAid) := by
  unfold specRecords
  have hk : keysOf (fun p : PRec => p.basic.readId) ((S.map PRec.eraseAid).filter (onChr c)) =
      keysOf (fun p : PRec => p.basic.readId) (S.filter (onChr c)) := by
    unfold keysOf
    rw [List.filter_map, List.map_map]
    rfl
  rw [hk, List.map_flatMap]
  rw [List.flatMap_def, List.flatMap_def]
  congr 1
  apply List.map_congr_left
  intro r _
  have hf : (S.map PRec.eraseAid).filter (ofRead r) = (S.filter (ofRead r)).map PRec.eraseAid := by
    rw [List.filter_map]; rfl
  rw [hf, readOut_eraseAid, List.filter_map]
  rfl

/-! ## G. `specRecords` is invariant under block-wise permutations -/

theorem setSize_gt_one_perm {xs ys : List Nat} (h : xs ~ ys) :
    decide (1 < setSize xs) = decide (1 < setSize ys) := by
  rw [decide_eq_decide, setSize_gt_one_iff, setSize_gt_one_iff]
  simp only [h.mem_iff]

theorem cTP_perm {K K' : List PRec} (h : K ~ K') : cTP K = cTP K' := by
  unfold cTP
  rw [h.length_eq, setSize_gt_one_perm (h.flatMap_right _)]

theorem cGP_perm {K K' : List PRec} (h : K ~ K') : cGP K = cGP K' := by
  unfold cGP
  rw [h.length_eq, setSize_gt_one_perm (h.flatMap_right _)]

/-- inside one block, records that `__eq__` identifies are identical -/
def BlockDupOK (B : List (List PRec)) : Prop := ∀ b ∈ B, ∀ x ∈ b, ∀ y ∈ b, eqP x y = true → x = y

theorem eqP_symm (a b : PRec) : eqP a b = eqP b a := recEq_symm _ _

theorem readOut_blocks {B B' : List (List PRec)} (hB : Forall2 (fun b b' => b ~ b') B B') (H : BlockDupOK B) :
    readOut B.flatten ~ readOut B'.flatten := by
  classical
  have hp := forall2_flatten_perm hB
  unfold readOut
  rw [hp.length_eq]
  split
  · exact hp
  · -- the winners are the same predicate on both sides
    have hW : (fun p : PRec => decide (Winner (B.flatten.map (·.basic)) p.basic)) =
        (fun p : PRec => decide (Winner (B'.flatten.map (·.basic)) p.basic)) := by
      funext p
      rw [decide_eq_decide]
      exact winner_perm (hp.map _) p.basic
    have hk : keptP B.flatten ~ keptP B'.flatten := by
      unfold keptP
      rw [← hW, List.filter_flatten, List.filter_flatten]
      apply firstWins_blocks eqP eqP_symm
      · exact forall2_map _ _ hB (fun a b hab => hab.filter _)
      · intro b hb x hx y hy hxy
        obtain ⟨b0, hb0, rfl⟩ := List.mem_map.mp hb
        exact H b0 hb0 x (List.mem_filter.mp hx).1 y (List.mem_filter.mp hy).1 hxy
    rw [cTP_perm hk, cGP_perm hk]
    exact hk.map _

theorem specRecords_blocks (c : Nat) {B B' : List (List PRec)} (hB : Forall2 (fun b b' => b ~ b') B B')
    (H : BlockDupOK B) : specRecords c B.flatten ~ specRecords c B'.flatten := by
  have hp := forall2_flatten_perm hB
  unfold specRecords
  apply flatMap_perm_keys (keysOf_perm _ (hp.filter _))
  intro r _
  refine Perm.filter _ ?_
  rw [List.filter_flatten, List.filter_flatten]
  apply readOut_blocks
  · exact forall2_map _ _ hB (fun a b hab => hab.filter _)
  · intro b hb x hx y hy hxy
    obtain ⟨b0, hb0, rfl⟩ := List.mem_map.mp hb
    exact H b0 hb0 x (List.mem_filter.mp hx).1 y (List.mem_filter.mp hy).1 hxy

end IsoVerif.Lemmas.C12
