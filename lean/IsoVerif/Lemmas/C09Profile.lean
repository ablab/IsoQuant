/-
Helper lemmas for C09, `ProfileFeatureCounter` part (core Lean only).  The profile loop is reduced to the `applyIncs`
machinery of Lemmas/C09.lean (`pLoop_eq`: the loop is `applyIncs gid (pIncs ±1 …)`), so `cell_applyIncs` gives the cells
(`pLoop_cells`).  Numeric ids are given on first sight and never change (`assign_spec`, `pRun_spec` third conjunct): that
is why `pRun_spec` may state the sum over the reads with the FINAL dictionary `c'.ids`.
-/
import IsoVerif.Model.C09
import IsoVerif.Lemmas.C09

namespace IsoVerif.Lemmas.C09Profile
open IsoVerif.Gen IsoVerif.Model.C09 IsoVerif.Lemmas.C09

/-- the `inc` statements of the loop for the table of `sign` (+1: inclusion, −1: exclusion): one per position of that value -/
def pIncs (sign : Int) : List Int → List String → List (String × Rat × Bool)
  | [], _ => []
  | p :: ps, fids =>
    (if p = sign then (match fids.head? with | some f => [(f, (1 : Rat), false)] | none => []) else []) ++ pIncs sign ps fids.tail

/-- the table of `sign`: inclusion counts for +1, exclusion counts otherwise -/
def tbl (c : PCounter) (sign : Int) : FC := if sign = 1 then c.incl else c.excl

theorem pLoop_eq (gid : Nat) : ∀ (prof : List Int) (fids : List String) (incl excl : FC) (names : List String)
    (incl' excl' : FC) (names' : List String), pLoop gid prof fids incl excl names = .ok (incl', excl', names') →
    incl' = (applyIncs gid (pIncs 1 prof fids) incl []).1 ∧ excl' = (applyIncs gid (pIncs (-1) prof fids) excl []).1
  | [], fids, incl, excl, names, incl', excl', names', h => by cases h; exact ⟨rfl, rfl⟩
  | p :: ps, fids, incl, excl, names, incl', excl', names', h => by
    simp only [pLoop] at h
    by_cases hp1 : p = 1
    · subst hp1
      cases fids with
      | nil => cases h
      | cons f0 fs =>
        obtain ⟨h1, h2⟩ := pLoop_eq gid ps fs _ _ _ _ _ _ h
        exact ⟨by rw [h1]; simp [pIncs, applyIncs], by rw [h2]; simp [pIncs]⟩
    · by_cases hp2 : p = -1
      · subst hp2
        cases fids with
        | nil => cases h
        | cons f0 fs =>
          obtain ⟨h1, h2⟩ := pLoop_eq gid ps fs _ _ _ _ _ _ (by simpa using h)
          exact ⟨by rw [h1]; simp [pIncs], by rw [h2]; simp [pIncs, applyIncs]⟩
      · simp only [hp1, hp2, if_false] at h
        obtain ⟨h1, h2⟩ := pLoop_eq gid ps fids.tail _ _ _ _ _ _ h
        exact ⟨by rw [h1]; simp [pIncs, hp1], by rw [h2]; simp [pIncs, hp2]⟩

/-- what a read adds to feature `f` in the table of `sign`: the number of its positions of value `sign` at `f` -/
def pVal (sign : Int) (prof : List Int) (fids : List String) (f : String) : Rat := incsVal (pIncs sign prof fids) f

theorem pLoop_cells (gid : Nat) (prof : List Int) (fids : List String) (incl excl : FC) (names : List String)
    (incl' excl' : FC) (names' : List String) (h : pLoop gid prof fids incl excl names = .ok (incl', excl', names')) (f : String) (k : Nat) :
    cell incl' f k = cell incl f k + (if gid = k then pVal 1 prof fids f else 0) ∧
    cell excl' f k = cell excl f k + (if gid = k then pVal (-1) prof fids f else 0) := by
  obtain ⟨h1, h2⟩ := pLoop_eq gid prof fids incl excl names incl' excl' names' h
  rw [h1, h2]
  exact ⟨cell_applyIncs .., cell_applyIncs ..⟩

theorem tbl_init (b : Bool) (sign : Int) (f : String) (k : Nat) : cell (tbl (initPCounter b) sign) f k = 0 := by
  unfold tbl; split <;> simp [initPCounter, cell, dataOf, getD]

/-! ### `group_numeric_ids` filled on first sight -/

/-- invariant of the id dictionary: unique names, unique numbers, all numbers below `current_group_id` -/
def PInv (c : PCounter) : Prop :=
  (c.ids.map Prod.fst).Nodup ∧ (c.ids.map Prod.snd).Nodup ∧ ∀ p ∈ c.ids, p.2 < c.next

theorem PInv.names_nodup {c : PCounter} (h : PInv c) : (c.ids.map Prod.fst).Nodup := h.1
theorem PInv.ids_nodup {c : PCounter} (h : PInv c) : (c.ids.map Prod.snd).Nodup := h.2.1
theorem PInv.lt_next {c : PCounter} (h : PInv c) : ∀ p ∈ c.ids, p.2 < c.next := h.2.2

theorem PInv_init (b : Bool) : PInv (initPCounter b) := by
  cases b <;> simp [PInv, initPCounter]

/-- two group names never share a numeric id -/
theorem lookup_inj {c : PCounter} (h : PInv c) {g1 g2 : String} {i : Nat}
    (h1 : c.ids.lookup g1 = some i) (h2 : c.ids.lookup g2 = some i) : g1 = g2 := by
  have m1 := mem_of_lookup h1
  have m2 := mem_of_lookup h2
  have hv := h.ids_nodup
  generalize c.ids = l at m1 m2 hv
  induction l with
  | nil => cases m1
  | cons p t ih =>
    simp only [List.map_cons, List.nodup_cons] at hv
    rcases List.mem_cons.mp m1 with e1 | e1 <;> rcases List.mem_cons.mp m2 with e2 | e2
    · rw [← e2] at e1; injection e1
    · exact absurd (List.mem_map.mpr ⟨_, e2, by rw [← e1]⟩) hv.1
    · exact absurd (List.mem_map.mpr ⟨_, e1, by rw [← e2]⟩) hv.1
    · exact ih e1 e2 hv.2

theorem assign_spec {c : PCounter} (h : PInv c) (g : String) :
    PInv (assign c g) ∧ (∃ gid, (assign c g).ids.lookup g = some gid) ∧
    (∀ g' i, c.ids.lookup g' = some i → (assign c g).ids.lookup g' = some i) ∧
    (assign c g).incl = c.incl ∧ (assign c g).excl = c.excl ∧ (assign c g).names = c.names ∧
    (assign c g).ignoreGroups = c.ignoreGroups := by
  unfold assign
  cases hl : c.ids.lookup g with
  | some i => exact ⟨h, ⟨i, hl⟩, fun _ _ h' => h', rfl, rfl, rfl, rfl⟩
  | none =>
    simp only
    refine ⟨⟨?_, ?_, ?_⟩, ⟨c.next, by simp [lookup_append_single, hl]⟩, ?_, trivial, trivial, trivial, trivial⟩
    · rw [List.map_append]
      refine List.nodup_append.mpr ⟨h.names_nodup, by simp, ?_⟩
      intro a ha b hb
      simp at hb; subst hb
      intro e; subst e
      obtain ⟨p, hp, hp1⟩ := List.mem_map.mp ha
      have : c.ids.lookup p.1 ≠ none := fun hn => by
        simpa using List.lookup_eq_none_iff.mp hn p hp
      rw [hp1] at this
      exact this hl
    · rw [List.map_append]
      refine List.nodup_append.mpr ⟨h.2.1, by simp, ?_⟩
      intro a ha b hb
      simp at hb; subst hb
      intro e; subst e
      obtain ⟨p, hp, hp2⟩ := List.mem_map.mp ha
      have := h.lt_next p hp
      omega
    · intro p hp
      show p.2 < c.next + 1
      rcases List.mem_append.mp hp with hp | hp
      · have := h.lt_next p hp; omega
      · simp at hp; subst hp; simp
    · intro g' i hg'
      simp [lookup_append_single, hg']

/-- the group name under which a read is counted -/
def pName (c : PCounter) (r : PRead) : String := if c.ignoreGroups then NA else r.group

theorem pStep_spec {c c' : PCounter} {r : PRead} (hi : PInv c) (h : pStep c r = .ok c') :
    PInv c' ∧ c'.ignoreGroups = c.ignoreGroups ∧
    (∀ g i, c.ids.lookup g = some i → c'.ids.lookup g = some i) ∧
    (r.valid = false → c' = c) ∧
    (r.valid = true → ∃ gid, c'.ids.lookup (pName c r) = some gid ∧
      ∀ sign, sign = 1 ∨ sign = -1 → ∀ f k,
        cell (tbl c' sign) f k = cell (tbl c sign) f k + (if gid = k then pVal sign r.profile r.fids f else 0)) := by
  unfold pStep at h
  cases hv : r.valid with
  | false =>
    simp only [hv, Bool.not_false, if_true] at h
    injection h with h; subst h
    exact ⟨hi, rfl, fun _ _ h' => h', fun _ => rfl, (fun h' => by cases h')⟩
  | true =>
    simp only [hv, Bool.not_true, Bool.false_eq_true, if_false] at h
    obtain ⟨hinv1, ⟨gid, hgid⟩, hmono, hincl, hexcl, hnames, hig⟩ := assign_spec hi (if c.ignoreGroups then NA else r.group)
    rw [hgid] at h
    simp only at h
    split at h
    · cases h
    · rename_i incl excl names hloop
      injection h with h; subst h
      refine ⟨hinv1, hig, hmono, (fun h' => by cases h'), fun _ => ⟨gid, hgid, fun sign hs f k => ?_⟩⟩
      have := pLoop_cells gid _ _ _ _ _ _ _ _ hloop f k
      rw [hincl, hexcl] at this
      rcases hs with rfl | rfl
      · exact this.1
      · exact this.2

theorem pRun_spec {c c' : PCounter} {rs : List PRead} (hi : PInv c) (h : pRun c rs = .ok c') :
    PInv c' ∧ c'.ignoreGroups = c.ignoreGroups ∧
    (∀ g i, c.ids.lookup g = some i → c'.ids.lookup g = some i) ∧
    (∀ r ∈ rs, r.valid = true → ∃ gid, c'.ids.lookup (pName c r) = some gid) ∧
    (∀ sign, sign = 1 ∨ sign = -1 → ∀ f k, cell (tbl c' sign) f k = cell (tbl c sign) f k +
        sumOver rs (fun r => if r.valid = true ∧ c'.ids.lookup (pName c r) = some k then pVal sign r.profile r.fids f else 0)) := by
  induction rs generalizing c with
  | nil =>
    simp only [pRun] at h; injection h with h; subst h
    exact ⟨hi, rfl, fun _ _ h' => h', by simp, by intro _ _ f k; simp [sumOver, Rat.add_zero]⟩
  | cons r rs ih =>
    simp only [pRun] at h
    split at h
    · cases h
    · rename_i c1 h1
      obtain ⟨hinv1, hig1, hmono1, hinvalid, hvalid⟩ := pStep_spec hi h1
      obtain ⟨hinv', hig', hmono', hall, hcells⟩ := ih hinv1 h
      have hname : ∀ r', pName c1 r' = pName c r' := by intro r'; simp [pName, hig1]
      refine ⟨hinv', by rw [hig', hig1], fun g i hg => hmono' g i (hmono1 g i hg), ?_, ?_⟩
      · intro r' hr' hv'
        rcases List.mem_cons.mp hr' with e | e
        · subst e
          obtain ⟨gid, hg, _⟩ := hvalid hv'
          exact ⟨gid, hmono' _ _ hg⟩
        · obtain ⟨gid, hg⟩ := hall r' e hv'
          exact ⟨gid, by rw [← hname]; exact hg⟩
      · intro sign hs f k
        rw [hcells sign hs f k]
        simp only [sumOver, hname]
        cases hv : r.valid with
        | false => rw [hinvalid hv]; simp [Rat.zero_add]
        | true =>
          obtain ⟨gid, hg, hcell⟩ := hvalid hv
          have hk : c'.ids.lookup (pName c r) = some k ↔ gid = k := by
            rw [hmono' _ _ hg]; exact ⟨Option.some.inj, congrArg some⟩
          rw [hcell sign hs f k]
          simp only [hk, true_and, Rat.add_assoc]

end IsoVerif.Lemmas.C09Profile
