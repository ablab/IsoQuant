/-
Helper lemmas for C12: the region clusters of `AlignmentCollector.process` (`clustersGo`) do not depend on the
order among alignments with equal start.  The pointwise relation `Forall2` of two lists, with what it gives for
`flatMap` up to permutation, is at the head of the file (what the end-to-end part adds — `forall2_imp`, `forall2_zipIdx`,
and with `OptRel` `forall2_getElem?`, `mapM_rel` — is at the head of Lemmas/C12Downstream.lean).
-/
import IsoVerif.Model.BamMerge
import IsoVerif.Lemmas.BamMerge
import IsoVerif.Lemmas.Interval

namespace IsoVerif.Lemmas.C12
open IsoVerif.Gen IsoVerif.Model.C12 IsoVerif.Lemmas.C12
open List

/-- pointwise relation of two lists of equal length -/
inductive Forall2 {α β : Type} (R : α → β → Prop) : List α → List β → Prop
  | nil : Forall2 R [] []
  | cons {a b l1 l2} : R a b → Forall2 R l1 l2 → Forall2 R (a :: l1) (b :: l2)

/-- same region, same alignments up to order -/
def CEq {E : Type} (x y : Iv × List E) : Prop := x.1 = y.1 ∧ x.2.Perm y.2

/-- two cluster lists are equivalent: same number of clusters, pairwise the same region and the same multiset
    of alignments -/
abbrev ClusterEquiv {E : Type} (c1 c2 : List (Iv × List E)) : Prop := Forall2 CEq c1 c2

theorem forall2_refl_of {α : Type} {R : α → α → Prop} (l : List α) (h : ∀ a ∈ l, R a a) : Forall2 R l l := by
  induction l with
  | nil => exact Forall2.nil
  | cons a t ih => exact Forall2.cons (h a (by simp)) (ih (fun b hb => h b (List.mem_cons_of_mem _ hb)))

theorem forall2_append {α β : Type} {R : α → β → Prop} {a1 a2 : List α} {b1 b2 : List β}
    (h1 : Forall2 R a1 b1) (h2 : Forall2 R a2 b2) : Forall2 R (a1 ++ a2) (b1 ++ b2) := by
  induction h1 with
  | nil => simpa using h2
  | cons hab _ ih => exact Forall2.cons hab ih

theorem forall2_map {α β γ δ : Type} {R : α → β → Prop} {S : γ → δ → Prop} (f : α → γ) (g : β → δ)
    {l1 : List α} {l2 : List β} (h : Forall2 R l1 l2) (hfg : ∀ a b, R a b → S (f a) (g b)) :
    Forall2 S (l1.map f) (l2.map g) := by
  induction h with
  | nil => exact Forall2.nil
  | cons hab _ ih => exact Forall2.cons (hfg _ _ hab) ih

theorem forall2_of_map {α β γ δ : Type} {S : γ → δ → Prop} (f : α → γ) (g : β → δ) {l1 : List α} {l2 : List β}
    (h : Forall2 S (l1.map f) (l2.map g)) : Forall2 (fun a b => S (f a) (g b)) l1 l2 := by
  induction l1 generalizing l2 with
  | nil => cases l2 with
    | nil => exact .nil
    | cons _ _ => cases h
  | cons a t ih => cases l2 with
    | nil => cases h
    | cons b u => cases h with
      | cons hab ht => exact .cons hab (ih ht)

theorem forall2_flatMap {α β γ δ : Type} {R : α → β → Prop} {S : γ → δ → Prop} (f : α → List γ) (g : β → List δ)
    {l1 : List α} {l2 : List β} (h : Forall2 R l1 l2) (hfg : ∀ a b, R a b → Forall2 S (f a) (g b)) :
    Forall2 S (l1.flatMap f) (l2.flatMap g) := by
  induction h with
  | nil => exact Forall2.nil
  | cons hab _ ih =>
    simp only [List.flatMap_cons]
    exact forall2_append (hfg _ _ hab) ih

theorem flatMap_perm_forall2 {α β γ : Type} {R : α → β → Prop} {l1 : List α} {l2 : List β} (g1 : α → List γ)
    (g2 : β → List γ) (h : Forall2 R l1 l2) (hg : ∀ x y, R x y → g1 x ~ g2 y) : l1.flatMap g1 ~ l2.flatMap g2 := by
  induction h with
  | nil => simp
  | cons hab _ ih =>
    simp only [List.flatMap_cons]
    exact Perm.append (hg _ _ hab) ih

theorem flatMap_perm_pointwise {α β : Type} (l : List α) (g1 g2 : α → List β) (h : ∀ x ∈ l, g1 x ~ g2 x) :
    l.flatMap g1 ~ l.flatMap g2 :=
  flatMap_perm_forall2 g1 g2 (forall2_refl_of (R := fun a b => g1 a ~ g2 b) l h) fun _ _ h => h

theorem forall2_flatten_perm {α : Type} {B B' : List (List α)} (h : Forall2 (fun b b' => b ~ b') B B') :
    B.flatten ~ B'.flatten := by
  simpa using flatMap_perm_forall2 id id h fun _ _ h => h

theorem forall2_length {α β : Type} {R : α → β → Prop} {l1 : List α} {l2 : List β} (h : Forall2 R l1 l2) :
    l1.length = l2.length := by
  induction h with
  | nil => rfl
  | cons _ _ ih => simp [ih]

theorem ce_refl {E : Type} (c : List (Iv × List E)) : ClusterEquiv c c :=
  forall2_refl_of c fun _ _ => ⟨rfl, Perm.refl _⟩

theorem ce_symm {E : Type} {c1 c2 : List (Iv × List E)} (h : ClusterEquiv c1 c2) : ClusterEquiv c2 c1 := by
  induction h with
  | nil => exact .nil
  | cons hab _ ih => exact .cons ⟨hab.1.symm, hab.2.symm⟩ ih

theorem ce_trans {E : Type} {c1 c2 c3 : List (Iv × List E)} (h1 : ClusterEquiv c1 c2) (h2 : ClusterEquiv c2 c3) :
    ClusterEquiv c1 c3 := by
  induction h1 generalizing c3 with
  | nil => cases h2; exact .nil
  | cons hab _ ih =>
    cases h2 with
    | cons hbc h2' => exact .cons ⟨hab.1.trans hbc.1, hab.2.trans hbc.2⟩ (ih h2')

theorem ce_append_left {E : Type} (p : List (Iv × List E)) {c1 c2 : List (Iv × List E)} (h : ClusterEquiv c1 c2) :
    ClusterEquiv (p ++ c1) (p ++ c2) :=
  forall2_append (ce_refl p) h

variable {E : Type} (al : E → Aln)

/-- the clusters emitted and the new storage state when one more alignment arrives -/
def cstep : Option (Iv × List E) → E → List (Iv × List E) × (Iv × List E)
  | none, a => ([], (alnIv (al a), [a]))
  | some (r, cur), a =>
    if overlaps r (alnIv (al a)) then
      ([], ((min r.1 (al a).start, max r.2 ((al a).stop - 1)), a :: cur))
    else
      ([(r, cur.reverse)], (alnIv (al a), [a]))

theorem go_cons (st : Option (Iv × List E)) (a : E) (t : List E) :
    clustersGo al st (a :: t) = (cstep al st a).1 ++ clustersGo al (some (cstep al st a).2) t := by
  cases st with
  | none => simp [clustersGo, cstep]
  | some rc =>
    obtain ⟨r, cur⟩ := rc
    by_cases h : overlaps r (alnIv (al a)) <;> simp [clustersGo, cstep, h]

/-- the running region starts at or before the start of `a` (true along a coordinate-sorted stream) -/
def LB (st : Option (Iv × List E)) (a : E) : Prop := ∀ r cur, st = some (r, cur) → r.1 ≤ (al a).start

/-- well-formed alignment: covers at least one reference base (pysam: `reference_end > reference_start`) -/
abbrev HasSpan (a : Aln) : Prop := a.start < a.stop

theorem overlaps_of_lb {r : Iv} {a : Aln} (hw : HasSpan a) (hl : r.1 ≤ a.start) :
    overlaps r (alnIv a) = decide (a.start ≤ r.2) := by
  rw [Bool.eq_iff_iff, overlaps_true_iff]
  simp only [alnIv, decide_eq_true_eq, HasSpan] at *
  omega

theorem overlaps_same_start {a b : Aln} (wa : HasSpan a) (wb : HasSpan b) (hs : a.start = b.start) :
    overlaps (alnIv a) (alnIv b) = true := by
  rw [overlaps_true_iff]
  simp only [alnIv, HasSpan] at *
  omega

theorem lb_cstep {st : Option (Iv × List E)} {a b : E} (hl : LB al st b) (hab : (al a).start ≤ (al b).start) :
    LB al (some (cstep al st a).2) b := by
  intro r cur h
  cases st with
  | none =>
    simp only [cstep, alnIv, Option.some.injEq, Prod.mk.injEq] at h
    rw [← h.1]; exact hab
  | some rc =>
    obtain ⟨r0, cur0⟩ := rc
    have h0 := hl r0 cur0 rfl
    by_cases ho : overlaps r0 (alnIv (al a)) = true
    · simp only [cstep, ho, if_true, Option.some.injEq, Prod.mk.injEq] at h
      rw [← h.1]
      simp only
      omega
    · have ho' : overlaps r0 (alnIv (al a)) = false := by simpa using ho
      simp only [cstep, ho', Bool.false_eq_true, if_false, Option.some.injEq, Prod.mk.injEq] at h
      rw [← h.1]; exact hab

theorem go_cur_perm (r : Iv) {cur cur' : List E} (h : cur ~ cur') (l : List E) :
    ClusterEquiv (clustersGo al (some (r, cur)) l) (clustersGo al (some (r, cur')) l) := by
  induction l generalizing r cur cur' with
  | nil =>
    simp only [clustersGo]
    exact .cons ⟨rfl, (reverse_perm cur).trans (h.trans (reverse_perm cur').symm)⟩ .nil
  | cons a t ih =>
    by_cases ho : overlaps r (alnIv (al a))
    · simp only [clustersGo, ho, if_true]
      exact ih _ (Perm.cons a h)
    · simp only [clustersGo, ho]
      exact .cons ⟨rfl, (reverse_perm cur).trans (h.trans (reverse_perm cur').symm)⟩ (ce_refl _)

theorem go_swap (st : Option (Iv × List E)) (a b : E) (t : List E) (hs : (al a).start = (al b).start)
    (wa : HasSpan (al a)) (wb : HasSpan (al b)) (hl : LB al st a) :
    ClusterEquiv (clustersGo al st (a :: b :: t)) (clustersGo al st (b :: a :: t)) := by
  have hnone : ClusterEquiv (clustersGo al none (a :: b :: t)) (clustersGo al none (b :: a :: t)) := by
    have h1 : overlaps (alnIv (al a)) (alnIv (al b)) = true := overlaps_same_start wa wb hs
    have h2 : overlaps (alnIv (al b)) (alnIv (al a)) = true := overlaps_same_start wb wa hs.symm
    simp only [clustersGo, h1, h2, if_true]
    have hr : ((min (alnIv (al a)).1 (al b).start, max (alnIv (al a)).2 ((al b).stop - 1)) : Iv) =
        (min (alnIv (al b)).1 (al a).start, max (alnIv (al b)).2 ((al a).stop - 1)) := by
      simp only [alnIv]
      rw [hs, Int.max_comm]
    rw [hr]
    exact go_cur_perm al _ (Perm.swap a b []) t
  cases st with
  | none => exact hnone
  | some rc =>
    obtain ⟨r, cur⟩ := rc
    have hla : r.1 ≤ (al a).start := hl r cur rfl
    have hlb : r.1 ≤ (al b).start := hs ▸ hla
    by_cases hc : (al a).start ≤ r.2
    · -- both join the running cluster
      have hcb : (al b).start ≤ r.2 := hs ▸ hc
      have oa : overlaps r (alnIv (al a)) = true := by rw [overlaps_of_lb wa hla]; simp [hc]
      have ob : overlaps r (alnIv (al b)) = true := by rw [overlaps_of_lb wb hlb]; simp [hcb]
      have oab : overlaps (min r.1 (al a).start, max r.2 ((al a).stop - 1)) (alnIv (al b)) = true := by
        rw [overlaps_of_lb wb (by simp only; omega)]; simp only [decide_eq_true_eq]; omega
      have oba : overlaps (min r.1 (al b).start, max r.2 ((al b).stop - 1)) (alnIv (al a)) = true := by
        rw [overlaps_of_lb wa (by simp only; omega)]; simp only [decide_eq_true_eq]; omega
      simp only [clustersGo, oa, ob, oab, oba, if_true]
      have hr : ((min (min r.1 (al a).start) (al b).start, max (max r.2 ((al a).stop - 1)) ((al b).stop - 1)) : Iv) =
          (min (min r.1 (al b).start) (al a).start, max (max r.2 ((al b).stop - 1)) ((al a).stop - 1)) := by
        rw [hs, Int.max_assoc, Int.max_assoc, Int.max_comm ((al a).stop - 1)]
      rw [hr]
      exact go_cur_perm al _ (Perm.swap a b cur) t
    · -- both are beyond the running cluster: it is emitted, they start the next one together
      have hcb : ¬ (al b).start ≤ r.2 := hs ▸ hc
      have oa : overlaps r (alnIv (al a)) = false := by rw [overlaps_of_lb wa hla]; simp [hc]
      have ob : overlaps r (alnIv (al b)) = false := by rw [overlaps_of_lb wb hlb]; simp [hcb]
      have e : ∀ x y, overlaps r (alnIv (al x)) = false → clustersGo al (some (r, cur)) (x :: y :: t) =
          (r, cur.reverse) :: clustersGo al none (x :: y :: t) := by
        intro x y h; simp only [clustersGo, h, Bool.false_eq_true, if_false]
      rw [e a b oa, e b a ob]
      exact .cons ⟨rfl, Perm.refl _⟩ hnone

theorem go_move_front (st : Option (Iv × List E)) (pre : List E) (a : E) (post : List E)
    (hpre : ∀ p ∈ pre, (al p).start = (al a).start ∧ HasSpan (al p)) (wa : HasSpan (al a)) (hl : LB al st a) :
    ClusterEquiv (clustersGo al st (pre ++ a :: post)) (clustersGo al st (a :: (pre ++ post))) := by
  induction pre generalizing st with
  | nil => exact ce_refl _
  | cons b pre' ih =>
    have hb := hpre b List.mem_cons_self
    have hlb : LB al st b := fun r cur h => hb.1 ▸ hl r cur h
    have hl' : LB al (some (cstep al st b).2) a := lb_cstep al hl (by rw [hb.1]; exact Int.le_refl _)
    have ih' := ih (some (cstep al st b).2) (fun p hp => hpre p (List.mem_cons_of_mem _ hp)) hl'
    have e1 : clustersGo al st ((b :: pre') ++ a :: post) =
        (cstep al st b).1 ++ clustersGo al (some (cstep al st b).2) (pre' ++ a :: post) := by
      rw [List.cons_append, go_cons]
    have e2 : clustersGo al st (b :: a :: (pre' ++ post)) =
        (cstep al st b).1 ++ clustersGo al (some (cstep al st b).2) (a :: (pre' ++ post)) := by
      rw [go_cons]
    rw [e1]
    have s1 : ClusterEquiv ((cstep al st b).1 ++ clustersGo al (some (cstep al st b).2) (pre' ++ a :: post))
        (clustersGo al st (b :: a :: (pre' ++ post))) := by
      rw [e2]; exact ce_append_left _ ih'
    exact ce_trans s1 (go_swap al st b a (pre' ++ post) hb.1 hb.2 wa hlb)

/-- coordinate-sorted (by start only) -/
abbrev SortedBy (l : List E) : Prop := l.Pairwise (fun x y => (al x).start ≤ (al y).start)

/-- the head `a` of `l1` is moved to the front of `l2` across a prefix of equal starts (`go_move_front`); then the
    tails, by induction -/
theorem go_perm_invariant (l1 l2 : List E) (st : Option (Iv × List E))
    (h1 : SortedBy al l1) (h2 : SortedBy al l2) (wf : ∀ x ∈ l1, HasSpan (al x)) (hp : l1 ~ l2)
    (hl : ∀ x ∈ l1, LB al st x) :
    ClusterEquiv (clustersGo al st l1) (clustersGo al st l2) := by
  induction l1 generalizing l2 st with
  | nil =>
    have : l2 = [] := by simpa using hp.symm.eq_nil
    subst this; exact ce_refl _
  | cons a t1 ih =>
    have ha2 : a ∈ l2 := hp.subset List.mem_cons_self
    obtain ⟨pre, post, rfl⟩ := List.append_of_mem ha2
    have hsa := List.pairwise_cons.mp h1
    have hpre : ∀ p ∈ pre, (al p).start = (al a).start ∧ HasSpan (al p) := by
      intro p hp'
      have hp1 : p ∈ a :: t1 := hp.symm.subset (List.mem_append_left _ hp')
      have hle : (al p).start ≤ (al a).start :=
        (List.pairwise_append.mp h2).2.2 p hp' a List.mem_cons_self
      have hge : (al a).start ≤ (al p).start := by
        rcases List.mem_cons.mp hp1 with h | h
        · subst h; exact Int.le_refl _
        · exact hsa.1 p h
      exact ⟨by omega, wf p hp1⟩
    have wa : HasSpan (al a) := wf a List.mem_cons_self
    have hla : LB al st a := hl a List.mem_cons_self
    have hmove := go_move_front al st pre a post hpre wa hla
    have hperm : t1 ~ pre ++ post := (hp.trans perm_middle).cons_inv
    have hs2 : SortedBy al (pre ++ post) :=
      List.Pairwise.sublist ((List.sublist_cons_self a post).append_left pre) h2
    have hl' : ∀ x ∈ t1, LB al (some (cstep al st a).2) x := fun x hx =>
      lb_cstep al (hl x (List.mem_cons_of_mem _ hx)) (hsa.1 x hx)
    have ih' := ih (pre ++ post) (some (cstep al st a).2) hsa.2 hs2
      (fun x hx => wf x (List.mem_cons_of_mem _ hx)) hperm hl'
    rw [go_cons al st a t1]
    have e2 := go_cons al st a (pre ++ post)
    have s1 : ClusterEquiv ((cstep al st a).1 ++ clustersGo al (some (cstep al st a).2) t1)
        (clustersGo al st (a :: (pre ++ post))) := by
      rw [e2]; exact ce_append_left _ ih'
    exact ce_trans s1 (ce_symm hmove)

end IsoVerif.Lemmas.C12
