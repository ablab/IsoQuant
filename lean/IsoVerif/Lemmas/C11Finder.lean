/-
C11 helper definitions / lemmas — Model/PolyAFinder.lean: the position reported by `find_polya_tail` / `find_polyt_head`
as an OFFSET from `reference_start` (`tailOffset`, `headOffset`: the function bodies with `reference_start = 0`, "not found"
kept apart from a found offset), so that "the result is reference_start + offset" can be stated for every start.
The four definitions are used only through `shift_equivariant_findPolyaTail` / `…findPolytHead` of Props/C11Finder.lean.
`findPolytHead` and with it `headOffset` have the head window BEFORE /repo 4c8b13d (`start − to_pos : start + from_pos + 1`);
the repaired function is `findPolytHeadWin` of Model/FinderMirror.lean (see the header of Props/C11Finder.lean).
-/
import IsoVerif.Model.PolyAFinder
import IsoVerif.Model.C11Symmetry

namespace IsoVerif.Lemmas.C11
open IsoVerif.Gen IsoVerif.Model IsoVerif.Model.C16

def renderTail (s : Int) : Option Int → Int
  | none => -1
  | some x => s + x
/-- `find_polyt_head` clamps the reported position at 1 -/
def renderHead (s : Int) : Option Int → Int
  | none => -1
  | some x => max 1 (s + x)

theorem referenceEnd_rel (s : Int) (c : List CigarOp) : referenceEnd s c = s + referenceEnd 0 c := by
  simp only [referenceEnd]; split <;> omega

/-- `find_polya_tail` relative to `reference_start`: outer `none` = raises, `some none` = not found (−1) -/
def tailOffset (window num den : Nat) (cigar : List CigarOp) (seq : List Char)
    (fromPos toPos : Int) (checkEntire : Bool) : Option (Option Int) :=
  if cigar = [] then none
  else if seq = [] then some none
  else
    let clip := softClipTail cigar
    let n : Int := seq.length
    if ¬ (clip < n) then none
    else
      let mappedEnd := n - clip
      let start := max 0 (mappedEnd - fromPos)
      let stop := min n (mappedEnd + toPos + 1)
      let region := (slice seq start stop).map (fun c => upperChar c == 'A')
      match tailScan window num den checkEntire region with
      | none => some none
      | some p =>
        let pos : Int := start + p
        let refEnd := referenceEnd 0 cigar
        if pos ≥ mappedEnd then some (some (refEnd + (pos - mappedEnd)))
        else do
          let refShift ← moveRefCoord cigar (pos - mappedEnd)
          some (some (refEnd - refShift))

def headOffset (window num den : Nat) (cigar : List CigarOp) (seq : List Char)
    (fromPos toPos : Int) (checkEntire : Bool) : Option (Option Int) :=
  if cigar = [] then none
  else if seq = [] then some none
  else
    let clip := softClipHead cigar
    let n : Int := seq.length
    if ¬ (clip < n) then none
    else
      let mappedStart := clip
      let start := max 0 (mappedStart - toPos)
      let stop := min n (mappedStart + fromPos + 1)
      let region := ((slice seq start stop).reverse).map (fun c => upperChar c == 'T')
      match tailScan window num den checkEntire region with
      | none => some none
      | some p =>
        let pos : Int := stop - p - 1
        if pos ≤ mappedStart then some (some (-(mappedStart - pos)))
        else do
          let refShift ← moveRefCoord cigar (pos - mappedStart)
          some (some refShift)

/-! ## clean tails: 15 A's right behind the aligned part (whatever follows), two non-A bases before them -/

def t15 : List Bool := [true, true, true, true, true, true, true, true, true, true, true, true, true, true, true]

theorem findPolya_clean2 (rest : List Bool) : findPolya 16 12 (false :: false :: (t15 ++ rest)) = some 2 := by
  simp [findPolya, t15, findPolyaLoop, countTrue, findAA]

theorem findPolya_clean3 (rest : List Bool) : findPolya 16 12 (false :: false :: false :: (t15 ++ rest)) = some 3 := by
  simp [findPolya, t15, findPolyaLoop, countTrue, findAA]

/-- without the entire-tail test the scan is the window scan with `min_count = 16 * 3 / 4 = 12` -/
theorem tailScan_false_16 (region : List Bool) : tailScan 16 3 4 false region = findPolya 16 12 region := by
  have h12 : 16 * 3 / 4 = 12 := by decide
  simp only [tailScan, h12]
  cases findPolya 16 12 region <;> simp

def a15 : List Char := ['A','A','A','A','A','A','A','A','A','A','A','A','A','A','A']

theorem clean_tail (pre : List Char) (c1 c2 : Char) (rest : List Char) (s : Int)
    (h1 : (upperChar c1 == 'A') = false) (h2 : (upperChar c2 == 'A') = false) :
    findPolyaTail 16 3 4 s [(CigarEvent.«match», (pre.length : Int) + 2), (CigarEvent.soft_clipping, 15 + (rest.length : Int))]
      (pre ++ (c1 :: c2 :: (a15 ++ rest))) 2 32 false = some (s + (pre.length : Int) + 2) := by
  -- the arithmetic first, each fact alone
  obtain ⟨e1, e2, e3⟩ :
      (pre.length : Int) + 2 + 15 + rest.length - (15 + (rest.length : Int)) = (pre.length : Int) + 2 ∧
      max 0 ((pre.length : Int) + 2 - 2) = (pre.length : Int) ∧
      min ((pre.length : Int) + 2 + 15 + rest.length) ((pre.length : Int) + 2 + 32 + 1)
        = ((pre.length + (17 + min rest.length 18) : Nat) : Int) := by
    refine ⟨?_, ?_, ?_⟩ <;> omega
  have hre : referenceEnd s [(CigarEvent.«match», (pre.length : Int) + 2), (CigarEvent.soft_clipping, 15 + (rest.length : Int))]
      = s + (pre.length : Int) + 2 := by
    simp [referenceEnd, refLen, consumesRef]; omega
  have hlen : ((pre ++ (c1 :: c2 :: (a15 ++ rest))).length : Int) = (pre.length : Int) + 2 + 15 + rest.length := by
    simp [a15]; omega
  have hclip : softClipTail [(CigarEvent.«match», (pre.length : Int) + 2), (CigarEvent.soft_clipping, 15 + (rest.length : Int))]
      = 15 + (rest.length : Int) := by simp [softClipTail]
  unfold findPolyaTail
  simp only [hclip, hlen, hre, e1, e2]
  have hslice : slice (pre ++ (c1 :: c2 :: (a15 ++ rest))) (pre.length : Int)
      (min ((pre.length : Int) + 2 + 15 + rest.length) ((pre.length : Int) + 2 + 32 + 1)) =
      c1 :: c2 :: (a15 ++ rest.take (min rest.length 18)) := by
    simp only [slice, e3, Int.toNat_natCast, List.drop_left', Nat.add_sub_cancel_left]
    rw [Nat.add_comm]
    simp [a15, List.take]
  have hmap : List.map (fun c => upperChar c == 'A') (c1 :: c2 :: (a15 ++ List.take (min rest.length 18) rest)) =
      false :: false :: (t15 ++ List.map (fun c => upperChar c == 'A') (List.take (min rest.length 18) rest)) := by
    have ha : List.map (fun c => upperChar c == 'A') a15 = t15 := by decide
    simp only [List.map_cons, List.map_append, h1, h2, ha]
  rw [hslice, hmap, tailScan_false_16, findPolya_clean2]
  simp
  omega

def tt15 : List Char := ['T','T','T','T','T','T','T','T','T','T','T','T','T','T','T']

theorem clean_head (rest : List Char) (d1 d2 d3 : Char) (post : List Char) (s : Int)
    (h1 : (upperChar d1 == 'T') = false) (h2 : (upperChar d2 == 'T') = false) (h3 : (upperChar d3 == 'T') = false) :
    findPolytHead 16 3 4 s [(CigarEvent.soft_clipping, (rest.length : Int) + 15), (CigarEvent.«match», 3 + (post.length : Int))]
      (rest ++ (tt15 ++ (d1 :: d2 :: d3 :: post))) 2 32 false = some (max 1 (s - 1)) := by
  -- the arithmetic first, each fact alone
  obtain ⟨e1, e2, e3, e5, e6, e7⟩ :
      min ((rest.length : Int) + 15 + 3 + post.length) ((rest.length : Int) + 15 + 2 + 1) = (rest.length : Int) + 18 ∧
      max 0 ((rest.length : Int) + 15 - 32) = ((rest.length - 17 : Nat) : Int) ∧
      ((rest.length : Int) + 18).toNat - (rest.length - 17) = (rest.length - (rest.length - 17)) + 18 ∧
      (rest.length : Int) + 18 - 3 - 1 ≤ (rest.length : Int) + 15 ∧
      s - ((rest.length : Int) + 15 - ((rest.length : Int) + 18 - 3 - 1)) = s - 1 ∧
      (rest.length : Int) + 15 < (rest.length : Int) + 15 + 3 + post.length := by
    refine ⟨?_, ?_, ?_, ?_, ?_, ?_⟩ <;> omega
  have hlen : ((rest ++ (tt15 ++ (d1 :: d2 :: d3 :: post))).length : Int) = (rest.length : Int) + 15 + 3 + post.length := by
    simp [tt15]; omega
  have hclip : softClipHead [(CigarEvent.soft_clipping, (rest.length : Int) + 15), (CigarEvent.«match», 3 + (post.length : Int))]
      = (rest.length : Int) + 15 := by simp [softClipHead]
  unfold findPolytHead
  simp only [hclip, hlen, e1, e2]
  have hslice : slice (rest ++ (tt15 ++ (d1 :: d2 :: d3 :: post))) ((rest.length - 17 : Nat) : Int) ((rest.length : Int) + 18) =
      rest.drop (rest.length - 17) ++ (tt15 ++ [d1, d2, d3]) := by
    simp only [slice, Int.toNat_natCast]
    rw [e3, ← List.length_drop, List.drop_append_of_le_length (Nat.sub_le _ _)]
    simp [List.take_append, tt15]
    apply List.take_of_length_le
    simp
  have hmap : List.map (fun c => upperChar c == 'T') (rest.drop (rest.length - 17) ++ (tt15 ++ [d1, d2, d3])).reverse =
      false :: false :: false :: (t15 ++ List.map (fun c => upperChar c == 'T') (rest.drop (rest.length - 17)).reverse) := by
    have ha : List.map (fun c => upperChar c == 'T') tt15.reverse = t15 := by decide
    simp only [List.reverse_append, List.map_append, List.reverse_cons, List.reverse_nil, List.nil_append,
      List.cons_append, List.map_cons, h1, h2, h3, ha]
  rw [hslice, hmap, tailScan_false_16, findPolya_clean3]
  simp [e5, e6, e7, tt15]

end IsoVerif.Lemmas.C11
