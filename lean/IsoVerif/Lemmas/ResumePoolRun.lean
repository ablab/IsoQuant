/-
C07 with a process pool: `runPool` is the run whose two per-chromosome parts are parallel stages with arbitrary schedules
(`runPool_via`, instance of `runVia`, Lemmas/ResumeVia.lean); the events of a parallel stage are events of its tasks.
-/
import IsoVerif.Lemmas.ResumePool
import IsoVerif.Lemmas.ResumeVia

namespace IsoVerif.Lemmas.Resume
open IsoVerif.Model.Resume

theorem phases_eq (cfg : Cfg) (ord : List Path) (rs sk : Bool) (s1 s2 : List Chr) :
    phases fixed cfg ord rs sk s1 s2 =
      .seq (paramsStage fixed rs) :: .seq (refStage fixed cfg rs) ::
        restPhases cfg ord rs (sk || cfg.fromSaves) (poolCollect cfg rs (sk || cfg.fromSaves) s1) (poolConstruct cfg rs s2) := by
  simp [phases, restPhases, fixed, unalOK]

theorem runPool_via (cfg : Cfg) (ord : List Path) (s1 s2 : List Chr) :
    (fun rs fs => runPool fixed cfg ord rs s1 s2 fs) =
      runVia cfg ord (fun rs skc => poolCollect cfg rs skc s1) (fun rs => poolConstruct cfg rs s2) := by
  funext rs fs
  rw [runPool, runVia, phases_eq]

theorem poolStage_evs_sub {task : Chr → Stage} {cs sc : List Chr} {fs : FS} {e : Ev} (h : e ∈ (poolStage task cs sc fs).evs) :
    ∃ c ∈ cs, e ∈ eventsOf (task c fs) := by
  obtain ⟨c, hc⟩ := mem_weave (show e ∈ weave _ (taskEvents task cs fs) from h)
  simp only [taskEvents] at hc
  split at hc
  · rename_i hcs; exact ⟨c, hcs, runActs_evs_sub _ _ e hc⟩
  · simp at hc

theorem runPool_fresh {cfg : Cfg} (wf : WF cfg) (ord : List Path) (s1 s2 : List Chr) :
    Fresh cfg (fun rs fs => runPool fixed cfg ord rs s1 s2 fs) := by
  rw [runPool_via]
  refine runVia_fresh wf ord (fun p hp fs e he => ?_) (fun p hp fs e he => ?_) <;>
    simp only [List.mem_singleton] at hp <;> subst hp <;> obtain ⟨c, _, hce⟩ := poolStage_evs_sub he
  · exact (task_notSaves cfg false c fs).1 e hce
  · exact (task_notSaves cfg false c fs).2 e hce

end IsoVerif.Lemmas.Resume
