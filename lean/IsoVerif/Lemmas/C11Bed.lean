/-
C11 helper lemmas — Model/Bed.lean under translation and reflection.
-/
import IsoVerif.Gen.Prims
import IsoVerif.Model.Bed
import IsoVerif.Model.C11Symmetry
import IsoVerif.Model.C11SymBedCorr
import IsoVerif.Lemmas.C11Shift
import IsoVerif.Lemmas.C11Mirror

namespace IsoVerif.Lemmas.C11
open IsoVerif.Gen IsoVerif.Model IsoVerif.Model.C14 IsoVerif.Model.C11

theorem bedRecord_lengths {chrom name strand : String} {exons : List Iv} {r : BedRecord}
    (h : bedRecord chrom name strand exons = some r) : r.blockStarts.length = r.blockSizes.length := by
  simp only [bedRecord] at h
  split at h
  · simp only [Option.some.injEq] at h; subst h; simp
  · simp at h

theorem bedRecord_shift (k : Int) (chrom name strand : String) (exons : List Iv) :
    bedRecord chrom name strand (shiftL k exons) = (bedRecord chrom name strand exons).map (shiftBed k) := by
  simp only [bedRecord, shiftL_head?, shiftL_getLast?, shiftL_length]
  cases h1 : exons.head? <;> cases h2 : exons.getLast? <;> simp only [Option.map_none, Option.map_some]
  rename_i f l
  simp only [shiftBed, shiftIv_fst, shiftIv_snd, shiftL, List.map_map, Option.some.injEq, BedRecord.mk.injEq,
    true_and]
  refine ⟨by omega, by omega, by omega, ?_, ?_⟩
  · apply List.map_congr_left; intro e _; simp only [Function.comp, shiftIv_fst, shiftIv_snd]; omega
  · apply List.map_congr_left; intro e _; simp only [Function.comp, shiftIv_fst]; omega

theorem bedRecord_mirror (L : Int) (chrom name strand strand' : String) (exons : List Iv) :
    bedRecord chrom name strand' (mirrorL L exons) = (bedRecord chrom name strand exons).map (mirrorBed L strand') := by
  cases exons with
  | nil => rfl
  | cons a t =>
    obtain ⟨l, hl⟩ : ∃ l, (a :: t).getLast? = some l :=
      ⟨_, List.getLast?_eq_some_getLast (List.cons_ne_nil a t)⟩
    simp only [bedRecord, mirrorL_head?, mirrorL_getLast?, mirrorL_length, hl, List.head?_cons, Option.map_some]
    simp only [mirrorBed, mirrorIv_fst, mirrorIv_snd, mirrorL, List.map_reverse, List.map_map, Option.some.injEq,
      BedRecord.mk.injEq, true_and, List.zip_map']
    refine ⟨by omega, by omega, by omega, by omega, ?_, ?_⟩
    · congr 1; apply List.map_congr_left; intro e _
      simp only [Function.comp, mirrorIv_fst, mirrorIv_snd]; omega
    · congr 1; apply List.map_congr_left; intro e _
      simp only [Function.comp, mirrorIv_fst]; omega

theorem bed_zip_map_fst_snd (g : Int × Int → Int) : ∀ (s z : List Int), s.length = z.length →
    List.zip ((List.zip s z).map g) z = (List.zip s z).map (fun q => (g q, q.2))
  | [], _, _ => by simp
  | _ :: _, [], h => by simp at h
  | a :: s, b :: z, h => by
    simp only [List.zip_cons_cons, List.map_cons, List.cons.injEq, true_and]
    exact bed_zip_map_fst_snd g s z (by simpa using h)

end IsoVerif.Lemmas.C11
