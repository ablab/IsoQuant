/-
Towards the converse clause of C01: a read intron that is marked −1 by the sweep of `compare_junctions` lies in one of
the contradictory region pairs (so an event is computed for it), one that is marked 0 lies in the leading or trailing run
of zeros that `add_extra_out_exon_events` turns into flanking events; the (decidable) tolerance conditions under which
the general and the extra-intron branch answer something that is not a major inconsistency (read off the outcomes of
Lemmas/C01CmpOutcome.lean); terminal exon lengths.  Core Lean only.
-/
import IsoVerif.Lemmas.C01CmpSpec
import IsoVerif.Lemmas.C01CmpEvents
import IsoVerif.Model.JunctionSpec

namespace IsoVerif.Lemmas.C01Cmp
open IsoVerif.Gen IsoVerif.Model IsoVerif.Model.C01 IsoVerif.Lemmas

/-- the pair concerns read intron `x` -/
def CoversRead (x : Nat) : CPair → Prop
  | .retention _ _ => False
  | .extra rp _ => rp = x
  | .both r0 r1 _ _ => r0 ≤ x ∧ x ≤ r1

/-- the open region contains read index `x` -/
def CurCovers (cur : Cur) (x : Nat) : Prop := ∃ r0 r1 i0 i1, cur = some (r0, r1, i0, i1) ∧ r0 ≤ x ∧ x ≤ r1

/-- the open region, if any, is a read index range ending at or before the read pointer `ri` -/
def CurBefore (cur : Cur) (ri : Nat) : Prop := ∀ r0 r1 i0 i1, cur = some (r0, r1, i0, i1) → r0 ≤ r1 ∧ r1 ≤ ri

theorem closeCur_covers {cur : Cur} {x : Nat} (rest : List CPair) (h : CurCovers cur x) :
    ∃ pr ∈ closeCur cur ++ rest, CoversRead x pr := by
  obtain ⟨r0, r1, i0, i1, rfl, h1, h2⟩ := h
  exact ⟨.both r0 r1 i0 i1, List.mem_append_left _ (List.mem_singleton.mpr rfl), h1, h2⟩

theorem extendCur_covers {cur : Cur} {ri ki x : Nat} (hb : CurBefore cur ri) (h : CurCovers cur x ∨ x = ri) :
    CurCovers (extendCur cur ri ki) x := by
  match cur, hb with
  | none, _ =>
    rcases h with ⟨_, _, _, _, h, _⟩ | rfl
    · cases h
    · exact ⟨x, x, ki, ki, rfl, Nat.le_refl _, Nat.le_refl _⟩
  | some (r0, r1, i0, i1), hb =>
    obtain ⟨hb1, hb2⟩ := hb r0 r1 i0 i1 rfl
    refine ⟨r0, ri, i0, ki, rfl, ?_⟩
    rcases h with ⟨a, b, c, d, h, h1, h2⟩ | rfl
    · cases h; omega
    · omega

theorem extendCur_before {cur : Cur} {ri ki ri' : Nat} (hb : CurBefore cur ri) (h : ri ≤ ri') :
    CurBefore (extendCur cur ri ki) ri' := by
  intro a b c d he
  match cur, hb with
  | none, _ => cases he; omega
  | some (r0, r1, i0, i1), hb =>
    obtain ⟨hb1, hb2⟩ := hb r0 r1 i0 i1 rfl
    cases he; omega

/-- a cover found for position `j` of the tail (counted from `ri + 1`, whose head value is 0) is a cover for position
    `j + 1` of the whole list, possibly among more pairs -/
theorem cover_succ {P Q : List CPair} {ri j : Nat} {rv : Int} (hPQ : ∀ pr ∈ P, pr ∈ Q)
    (h : (∃ pr ∈ P, CoversRead (ri + 1 + j) pr) ∨ (j = 0 ∧ (0 : Int) = -1)) :
    (∃ pr ∈ Q, CoversRead (ri + (j + 1)) pr) ∨ (j + 1 = 0 ∧ rv = -1) := by
  rcases h with ⟨pr, hpr, hc⟩ | ⟨_, h0⟩
  · exact Or.inl ⟨pr, hPQ pr hpr, by rw [← Nat.add_assoc, Nat.add_right_comm]; exact hc⟩
  · exact absurd h0 (by decide)

theorem trailRead_cover (ir : Iv) (ki : Nat) : ∀ (rs : List Iv) (ri : Nat) (rv : Int) (j : Nat),
    (trailRead ir ki rs ri rv).1[j]? = some (-1) →
    (∃ pr ∈ (trailRead ir ki rs ri rv).2, CoversRead (ri + j) pr) ∨ (j = 0 ∧ rv = -1) := by
  intro rs
  induction rs with
  | nil => intro ri rv j h; cases h
  | cons r rs ih =>
    intro ri rv j h
    by_cases hov : overlaps ir r = true
    · simp only [trailRead, hov, if_true] at h ⊢
      cases j with
      | zero =>
        by_cases hrv : rv = -1
        · exact Or.inr ⟨rfl, hrv⟩
        · exact Or.inl ⟨.extra ri ki, by simp [hrv], rfl⟩
      | succ j => exact cover_succ (fun _ => List.mem_append_right _) (ih (ri + 1) 0 j h)
    · simp only [trailRead, hov] at h ⊢
      cases j with
      | zero => exact Or.inr ⟨rfl, by simpa using h⟩
      | succ j =>
        have h' : (rs.map (fun _ => (0 : Int)))[j]? = some (-1) := by simp at h
        simp only [List.getElem?_map, Option.map_eq_some_iff] at h'
        obtain ⟨_, _, h'⟩ := h'
        exact absurd h' (by decide)

/-- (A) whatever the open region `cur` covers is covered by a pair of the result; (B) a −1 at position `j` of the read
    presence list is covered by a pair, unless it is the head's value `rv = −1` inherited from the caller -/
theorem sweep_cover (δ : Int) (rr ir : Iv) (rs : List Iv) (ri : Nat) (rv : Int) (ks : List Iv) (ki : Nat) (kv : Int)
    (cur : Cur) (hb : CurBefore cur ri) :
    (∀ x, CurCovers cur x → ∃ pr ∈ (sweep δ rr ir rs ri rv ks ki kv cur).pairs, CoversRead x pr) ∧
    (∀ j, (sweep δ rr ir rs ri rv ks ki kv cur).readProf[j]? = some (-1) →
      (∃ pr ∈ (sweep δ rr ir rs ri rv ks ki kv cur).pairs, CoversRead (ri + j) pr) ∨ (j = 0 ∧ rv = -1)) := by
  have none_before : ∀ n, CurBefore none n := fun _ _ _ _ _ h => nomatch h
  fun_induction sweep δ rr ir rs ri rv ks ki kv cur with
  | case1 ri rv ks ki kv cur t => exact ⟨fun x hx => closeCur_covers _ hx, fun j h => nomatch h⟩
  | case2 r rs ri rv ki kv cur t =>
    refine ⟨fun x hx => closeCur_covers _ hx, fun j h => ?_⟩
    exact (trailRead_cover ir ki (r :: rs) ri rv j h).imp_left fun ⟨pr, hpr, hc⟩ => ⟨pr, List.mem_append_right _ hpr, hc⟩
  | case3 r rs ri rv k ks ki kv cur heq o ih =>
    refine ⟨fun x hx => closeCur_covers _ hx, fun j h => ?_⟩
    cases j with
    | zero => cases h
    | succ j => exact cover_succ (fun _ => List.mem_append_right _) ((ih (none_before _)).2 j h)
  | case4 r rs ri rv k ks ki kv cur heq hov hlt o ih =>
    obtain ⟨ihA, ihB⟩ := ih (extendCur_before hb (Nat.le_succ _))
    refine ⟨fun x hx => ihA x (extendCur_covers hb (Or.inl hx)), fun j h => ?_⟩
    cases j with
    | zero => exact Or.inl (ihA ri (extendCur_covers hb (Or.inr rfl)))
    | succ j => exact cover_succ (fun _ h => h) (ihB j h)
  | case5 r rs ri rv k ks ki kv cur heq hov hlt o ih =>
    obtain ⟨ihA, ihB⟩ := ih (extendCur_before hb (Nat.le_refl _))
    refine ⟨fun x hx => ihA x (extendCur_covers hb (Or.inl hx)), fun j h => ?_⟩
    exact (ihB j h).elim Or.inl fun ⟨hj, _⟩ => Or.inl (hj ▸ ihA ri (extendCur_covers hb (Or.inr rfl)))
  | case6 r rs ri rv k ks ki kv cur heq hov hl flag o ih =>
    refine ⟨fun x hx => List.append_assoc .. ▸ closeCur_covers _ hx, fun j h => ?_⟩
    exact ((ih (none_before _)).2 j h).imp_left fun ⟨pr, hpr, hc⟩ => ⟨pr, List.mem_append_right _ hpr, hc⟩
  | case7 r rs ri rv k ks ki kv cur heq hov hl flag o ih =>
    refine ⟨fun x hx => List.append_assoc .. ▸ closeCur_covers _ hx, fun j h => ?_⟩
    cases j with
    | zero =>
      simp only [List.getElem?_cons_zero, Option.some.injEq] at h
      by_cases hrv : rv = -1
      · exact Or.inr ⟨rfl, hrv⟩
      · have hflag : flag = true := by
          by_cases hf : flag = true
          · exact hf
          · rw [if_neg hf] at h; exact absurd h hrv
        exact Or.inl ⟨.extra ri ki, by simp [hflag, hrv], rfl⟩
    | succ j => exact cover_succ (fun _ => List.mem_append_right _) ((ih (none_before _)).2 j h)

/-- position `i` lies in a run of zeros that starts at the beginning or ends at the end of the list -/
def ZeroStruct (prof : List Int) (i : Nat) : Prop :=
  (∀ j, j ≤ i → prof[j]? = some 0) ∨ (∀ j, i ≤ j → j < prof.length → prof[j]? = some 0)

theorem trailRead_zero_suffix (ir : Iv) (ki : Nat) : ∀ (rs : List Iv) (ri : Nat) (rv : Int) (i : Nat),
    (trailRead ir ki rs ri rv).1[i]? = some 0 →
    ∀ j, i ≤ j → j < rs.length → (trailRead ir ki rs ri rv).1[j]? = some 0 := by
  intro rs
  induction rs with
  | nil => intro ri rv i h; simp [trailRead] at h
  | cons r rs ih =>
    intro ri rv i h j hij hj
    by_cases hov : overlaps ir r = true
    · simp only [trailRead, hov, if_true] at h ⊢
      cases i with
      | zero => simp at h
      | succ i =>
        cases j with
        | zero => omega
        | succ j =>
          simp only [List.getElem?_cons_succ] at h ⊢
          simp only [List.length_cons] at hj
          exact ih (ri + 1) 0 i h j (by omega) (by omega)
    · simp only [trailRead, hov] at h ⊢
      cases j with
      | zero =>
        have : i = 0 := by omega
        subst this; exact h
      | succ j =>
        simp only [List.length_cons] at hj
        simp [List.getElem?_map, List.getElem?_eq_getElem (show j < rs.length by omega)]

/-- the zeros of the read presence list of `compare_junctions` lie in a leading or a trailing run -/
theorem sweep_zero_struct (δ : Int) (rr ir : Iv) (rj ij : List Iv) (g : Geo δ rr ir rj ij) (hr : rj ≠ [])
    (i : Nat) (h : (sweep δ rr ir rj 0 0 ij 0 0 none).readProf[i]? = some 0) :
    ZeroStruct (sweep δ rr ir rj 0 0 ij 0 0 none).readProf i := by
  cases ij with
  | nil =>
    cases rj with
    | nil => exact absurd rfl hr
    | cons r rs =>
      right
      have e : (sweep δ rr ir (r :: rs) 0 0 [] 0 0 none).readProf = (trailRead ir 0 (r :: rs) 0 0).1 := by
        rw [sweep]
      rw [e] at h ⊢
      intro j hij hj
      have hl := (trailRead_ok ir 0 0 (Nat.le_refl _) (r :: rs) 0 0 _ rfl).1
      exact trailRead_zero_suffix ir 0 (r :: rs) 0 0 i h j hij (by rw [← hl]; exact hj)
  | cons k0 ks0 =>
    have h1 : 0 < rj.length := List.length_pos_iff.mpr hr
    obtain ⟨e1, _⟩ := sweep_spec δ rr ir rj 0 0 (k0 :: ks0) 0 0 none g (Or.inl rfl) (Or.inl rfl)
      (fun h => absurd h (by omega)) (fun h => absurd h (by omega)) (by omega) (by simp)
    rw [e1] at h ⊢
    simp only [List.getElem?_map, Option.map_eq_some_iff] at h
    obtain ⟨r, hr', hs⟩ := h
    have hd := g.dpos
    -- r is unmatched and does not overlap the isoform region
    have hnov : overlaps ir r = false := by
      unfold specR at hs
      split at hs
      · cases hs
      · split at hs
        · cases hs
        · rename_i h; simpa using h
    have key : ∀ x ∈ rj, (x.2 < ir.1 ∨ ir.2 < x.1) → specR δ ir (k0 :: ks0) x = 0 := by
      intro x hx hout
      have hxl := g.rlong x hx
      have hm : matchedBy δ (k0 :: ks0) x = false := by
        apply matchedBy_false
        intro k hk
        have := g.kin k hk
        have := g.klong k hk
        exact eq_false_of _ _ _ (by intro ⟨⟨_, _⟩, ⟨_, _⟩⟩; omega)
      have ho : overlaps ir x = false := (overlaps_false_iff _ _).mpr (by omega)
      simp [specR, hm, ho]
    have hrl := g.rlong r (List.mem_of_getElem? hr')
    rcases (overlaps_false_iff _ _).mp hnov with hl | hl
    · -- r lies beyond the isoform region: so does every later read junction
      right
      intro j hij hj
      simp only [List.length_map] at hj
      simp only [List.getElem?_map, List.getElem?_eq_getElem hj, Option.map_some, Option.some.injEq]
      apply key _ (List.getElem_mem hj)
      right
      by_cases e : i = j
      · subst e
        have : rj[i]? = some rj[i] := List.getElem?_eq_getElem hj
        rw [this] at hr'; simp only [Option.some.injEq] at hr'; rw [hr']; exact hl
      · have := g.rsd.get_lt g.rwf hr' (List.getElem?_eq_getElem hj) (by omega)
        omega
    · -- r lies before the isoform region: so does every earlier read junction
      left
      intro j hji
      have hi : i < rj.length := (List.getElem?_eq_some_iff.mp hr').1
      have hj : j < rj.length := by omega
      simp only [List.getElem?_map, List.getElem?_eq_getElem hj, Option.map_some, Option.some.injEq]
      apply key _ (List.getElem_mem hj)
      left
      by_cases e : j = i
      · subst e
        have : rj[j]? = some rj[j] := List.getElem?_eq_getElem hj
        rw [this] at hr'; simp only [Option.some.injEq] at hr'; rw [hr']; exact hl
      · have := g.rsd.get_lt g.rwf (List.getElem?_eq_getElem hj) hr' (by omega)
        have := g.rlong rj[j] (List.getElem_mem hj)
        omega

/-! ### `add_extra_out_exon_events` reaches every zero of a leading / trailing run -/

theorem zeroRun_mem : ∀ (l : List Int) (a i : Nat), a ≤ i → (∀ j, a ≤ j → j ≤ i → l[j - a]? = some 0) → i ∈ zeroRun l a := by
  intro l
  induction l with
  | nil => intro a i hai h; have := h i hai (Nat.le_refl _); simp at this
  | cons v vs ih =>
    intro a i hai h
    have hv : v = 0 := by have := h a (Nat.le_refl _) hai; simpa using this
    simp only [zeroRun, hv, if_true]
    by_cases e : i = a
    · subst e; simp
    · apply List.mem_cons_of_mem
      apply ih (a + 1) i (by omega)
      intro j h1 h2
      have := h j (by omega) h2
      have e2 : j - a = (j - (a + 1)) + 1 := by omega
      rw [e2, List.getElem?_cons_succ] at this
      exact this

theorem zeroRunDown_mem (l : List Int) (i1 i : Nat) (hi : i < i1)
    (h : ∀ j, i ≤ j → j < i1 → l[i1 - 1 - j]? = some 0) : i ∈ zeroRunDown l i1 := by
  rw [← zeroRunDown_eq l i1 0]
  refine List.mem_map.mpr ⟨i1 - 1 - i, zeroRun_mem l 0 _ (Nat.zero_le _) fun j _ hj => ?_, by omega⟩
  have := h (i1 - 1 - j) (by omega) (by omega)
  rwa [show i1 - 1 - (i1 - 1 - j) = j by omega] at this

/-- what `add_extra_out_exon_events` does for a read intron marked 0: the four events of `FlankEvent`
    (Lemmas/C01CmpEvents.lean, which fixes the whole event) by TYPE, for the intron `i` one asks about -/
def FlankFor (c : CmpCtx) (prof : List Int) (rr : Iv) (rj : List Iv) (i : Nat) (e : Event) : Prop :=
  e.ty = .extra_intron_flanking_left ∨ e.ty = .extra_intron_flanking_right ∨
  (e.ty = .fake_terminal_exon_left ∧ i = 0 ∧
    ∃ ex, getExon rr rj 0 = some ex ∧ interval_len ex ≤ c.p.max_fake_terminal_exon_len) ∨
  (e.ty = .fake_terminal_exon_right ∧ i + 1 = prof.length ∧
    ∃ ex, getExon rr rj (prof.length : Int) = some ex ∧ interval_len ex ≤ c.p.max_fake_terminal_exon_len)

theorem leftFlank_complete {c prof rr rj evs} (h : leftFlank c prof rr rj = some evs) (i : Nat)
    (hz : ∀ j, j ≤ i → prof[j]? = some 0) : ∃ e ∈ evs, FlankFor c prof rr rj i e := by
  unfold leftFlank at h
  split at h
  · cases h
  · rename_i ex hex
    split at h
    · rename_i hs
      simp only [Option.some.injEq] at h; subst h
      by_cases e0 : i = 0
      · exact ⟨flankEvent .fake_terminal_exon_left extraLeftRegion 0, List.mem_cons_self,
          Or.inr (Or.inr (Or.inl ⟨rfl, e0, ex, hex, hs⟩))⟩
      · have hm : i ∈ zeroRun (prof.drop 1) 1 := by
          apply zeroRun_mem _ 1 i (by omega)
          intro j h1 h2
          rw [List.getElem?_drop]
          have e : 1 + (j - 1) = j := by omega
          rw [e]; exact hz j h2
        exact ⟨flankEvent .extra_intron_flanking_left extraLeftRegion i,
          List.mem_cons_of_mem _ (List.mem_map.mpr ⟨i, hm, rfl⟩), Or.inl rfl⟩
    · simp only [Option.some.injEq] at h; subst h
      have hm : i ∈ zeroRun prof 0 := by
        apply zeroRun_mem _ 0 i (by omega)
        intro j _ h2
        exact hz j h2
      exact ⟨flankEvent .extra_intron_flanking_left extraLeftRegion i, List.mem_map.mpr ⟨i, hm, rfl⟩, Or.inl rfl⟩

theorem rightFlank_complete {c prof rr rj evs} (h : rightFlank c prof rr rj = some evs) (i : Nat) (hi : i < prof.length)
    (hz : ∀ j, i ≤ j → j < prof.length → prof[j]? = some 0) : ∃ e ∈ evs, FlankFor c prof rr rj i e := by
  unfold rightFlank at h
  split at h
  · cases h
  · rename_i ex hex
    split at h
    · rename_i hs
      simp only [Option.some.injEq] at h; subst h
      by_cases e0 : i + 1 = prof.length
      · exact ⟨flankEvent .fake_terminal_exon_right extraRightRegion (prof.length - 1), List.mem_cons_self,
          Or.inr (Or.inr (Or.inr ⟨rfl, e0, ex, hex, hs⟩))⟩
      · have hm : i ∈ zeroRunDown (prof.reverse.drop 1) (prof.length - 1) := by
          apply zeroRunDown_mem _ _ i (by omega)
          intro j h1 h2
          rw [List.getElem?_drop, List.getElem?_reverse (by omega)]
          have e : prof.length - 1 - (1 + (prof.length - 1 - 1 - j)) = j := by omega
          rw [e]; exact hz j h1 (by omega)
        exact ⟨flankEvent .extra_intron_flanking_right extraRightRegion i,
          List.mem_cons_of_mem _ (List.mem_map.mpr ⟨i, hm, rfl⟩), Or.inr (Or.inl rfl)⟩
    · simp only [Option.some.injEq] at h; subst h
      have hm : i ∈ zeroRunDown prof.reverse prof.length := by
        apply zeroRunDown_mem _ _ i hi
        intro j h1 h2
        rw [List.getElem?_reverse (by omega)]
        have e : prof.length - 1 - (prof.length - 1 - j) = j := by omega
        rw [e]; exact hz j h1 h2
      exact ⟨flankEvent .extra_intron_flanking_right extraRightRegion i, List.mem_map.mpr ⟨i, hm, rfl⟩,
        Or.inr (Or.inl rfl)⟩

theorem addExtraOut_complete {c prof rr rj isoStart evs} (h : addExtraOut c prof rr rj isoStart = some evs) (i : Nat)
    (hi : prof[i]? = some 0) (hz : ZeroStruct prof i) : ∃ e ∈ evs, FlankFor c prof rr rj i e := by
  have hil : i < prof.length := (List.getElem?_eq_some_iff.mp hi).1
  unfold addExtraOut at h
  split at h
  · cases h
  · rename_i el er hs
    split at h
    · rename_i a b ha hb
      simp only [Option.some.injEq] at h; subst h
      -- which sides are processed
      have hsides : ((∀ j, j ≤ i → prof[j]? = some 0) ∧ el = true) ∨
          ((∀ j, i ≤ j → j < prof.length → prof[j]? = some 0) ∧ er = true) := by
        unfold extraSides at hs
        split at hs
        · rename_i f l hf hl
          have hf0 : (∀ j, j ≤ i → prof[j]? = some 0) → f = 0 := by
            intro hp
            have := hp 0 (by omega)
            rw [← List.head?_eq_getElem?, hf] at this
            simpa using this
          have hl0 : (∀ j, i ≤ j → j < prof.length → prof[j]? = some 0) → l = 0 := by
            intro hp
            have := hp (prof.length - 1) (by omega) (by omega)
            rw [List.getLast?_eq_getElem?] at hl
            rw [hl] at this
            simpa using this
          split at hs
          · rename_i hall
            -- all zeros: both runs are the whole list
            have hall' : ∀ j, j < prof.length → prof[j]? = some 0 := by
              intro j hj
              have := List.all_eq_true.mp hall prof[j] (List.getElem_mem hj)
              simp only [beq_iff_eq] at this
              rw [List.getElem?_eq_getElem hj, this]
            simp only [Option.map_eq_some_iff] at hs
            obtain ⟨j0, _, hs⟩ := hs
            split at hs
            · simp only [Prod.mk.injEq] at hs
              left; exact ⟨fun j hj => hall' j (by omega), hs.1.symm⟩
            · simp only [Prod.mk.injEq] at hs
              right; exact ⟨fun j _ hj => hall' j hj, hs.2.symm⟩
          · simp only [Option.some.injEq, Prod.mk.injEq] at hs
            rcases hz with hz | hz
            · left; exact ⟨hz, by rw [← hs.1]; simpa using hf0 hz⟩
            · right; exact ⟨hz, by rw [← hs.2]; simpa using hl0 hz⟩
        · cases hs
      rcases hsides with ⟨hp, hel⟩ | ⟨hp, her⟩
      · rw [hel] at ha
        simp only [if_true] at ha
        obtain ⟨e, he, hf⟩ := leftFlank_complete ha i hp
        exact ⟨e, List.mem_append_left _ he, hf⟩
      · rw [her] at hb
        simp only [if_true] at hb
        obtain ⟨e, he, hf⟩ := rightFlank_complete hb i hil hp
        exact ⟨e, List.mem_append_right _ he, hf⟩
    · cases h

/-- closes `some X = some t ⊢ t.is_major_inconsistency = true ∨ …` for a major `X`, and impossible leaves -/
macro "major_leaf" h:ident : tactic =>
  `(tactic| first
    | (cases $h:ident; done)
    | (simp only [Option.some.injEq] at $h:ident; subst $h:ident; left; decide)
    | (simp only [Option.some.injEq] at $h:ident; subst $h:ident; left; split <;> decide))

/-- the general branch: a major inconsistency, or one of the three tolerated classes (intron shift, terminal exon
    misalignment, exon misalignment) -/
theorem classifyBothTy_cases {c rr rj ir ij r0 r1 i0 i1 t} (h : classifyBothTy c rr rj ir ij r0 r1 i0 i1 = some t) :
    t.is_major_inconsistency = true ∨ BothTolerated c rr rj ir ij r0 r1 i0 i1 t :=
  (classifyBothTy_spec h).imp_left fun hp => (plain_iff.mp hp).2.1

theorem suspicious_true_short {c rr rj a b} (h : suspiciousIntrons c rr rj a b = some true) (i : Nat) (r : Iv)
    (hai : a ≤ i) (hib : i ≤ b) (hr : rj[i]? = some r) : interval_len r ≤ c.q.max_suspicious_intron_abs_len := by
  unfold suspiciousIntrons at h
  dsimp only at h
  split at h
  · cases h
  · rename_i hany
    have hmem : r ∈ (rj.drop a).take (b + 1 - a) := by
      apply List.mem_of_getElem? (i := i - a)
      rw [List.getElem?_take, if_pos (by omega), List.getElem?_drop]
      have : a + (i - a) = i := by omega
      rw [this]; exact hr
    have := hany
    simp only [Bool.not_eq_true, List.any_eq_false, decide_eq_true_eq] at this
    have := this r hmem
    omega

/-- the extra-intron branch: a major inconsistency, or the intron is short enough to be "suspicious", or it is next to a
    short terminal exon -/
theorem classifyExtra_cases {c rr rj i ip e r} (h : classifyExtra c rr rj i ip = some e) (hr : rj[i]? = some r) :
    e.ty.is_major_inconsistency = true ∨ interval_len r ≤ c.q.max_suspicious_intron_abs_len ∨
    (i = 0 ∧ ∃ ex, getExon rr rj 0 = some ex ∧ interval_len ex ≤ c.p.max_fake_terminal_exon_len) ∨
    ((i : Int) = (rj.length : Int) - 1 ∧
      ∃ ex, getExon rr rj (-1) = some ex ∧ interval_len ex ≤ c.p.max_fake_terminal_exon_len) := by
  rcases classifyExtra_spec h with ⟨t, rfl, rfl | rfl | ⟨rfl, hs⟩⟩ | ⟨_, hf⟩ | ⟨_, hf⟩
  · exact Or.inl (by decide : MatchEventSubtype.extra_intron_known.is_major_inconsistency = true)
  · exact Or.inl (by decide : MatchEventSubtype.extra_intron_novel.is_major_inconsistency = true)
  · exact Or.inr (Or.inl (suspicious_true_short hs i r (Nat.le_refl _) (Nat.le_refl _) hr))
  · exact Or.inr (Or.inr (Or.inl hf))
  · exact Or.inr (Or.inr (Or.inr hf))

theorem exonAt_zero_len {reg : Iv} {J : List Iv} {ex : Iv} (h : exonAt reg J 0 = some ex) (hn : 0 < J.length) :
    interval_len ex = firstExonLen reg J := by
  obtain ⟨j, hj⟩ : ∃ j, J.head? = some j := by cases J with | nil => simp at hn | cons a _ => exact ⟨a, rfl⟩
  rw [exonAt_first hj] at h; cases h
  simp only [interval_len, firstExonLen, hj]; omega

theorem exonAt_length_len {reg : Iv} {J : List Iv} {ex : Iv} (h : exonAt reg J J.length = some ex) (hn : 0 < J.length) :
    interval_len ex = lastExonLen reg J := by
  obtain ⟨j, hj⟩ : ∃ j, J.getLast? = some j := ⟨J.getLast (List.length_pos_iff.mp hn), List.getLast?_eq_some_getLast _⟩
  rw [exonAt_last hj] at h; cases h
  simp only [interval_len, lastExonLen, hj]; omega

theorem getExon_zero_len {reg : Iv} {J : List Iv} {ex : Iv} (h : getExon reg J 0 = some ex) :
    interval_len ex = firstExonLen reg J := by
  have hn : 0 < J.length := by cases J with | nil => simp [getExon, pyGet?] at h | cons _ _ => simp
  have e := getExon_nat reg J 0 (List.length_pos_iff.mp hn) (Nat.zero_le _)
  rw [Int.natCast_zero] at e
  exact exonAt_zero_len (e ▸ h) hn

theorem getExon_last_len {reg : Iv} {J : List Iv} {ex : Iv} (pos : Int) (hp : pos = -1 ∨ pos = (J.length : Int))
    (hn : 0 < J.length) (h : getExon reg J pos = some ex) : interval_len ex = lastExonLen reg J := by
  have hJ := List.length_pos_iff.mp hn
  rcases hp with rfl | rfl
  · exact exonAt_length_len (getExon_neg_one reg J hJ ▸ h) hn
  · exact exonAt_length_len (getExon_nat reg J J.length hJ (Nat.le_refl _) ▸ h) hn

theorem getPrecedingExon_zero_len {reg : Iv} {J : List Iv} {ex : Iv} (hn : 0 < J.length)
    (h : getPrecedingExon reg J 0 = some ex) : interval_len ex = firstExonLen reg J := by
  have e := getPrecedingExon_nat reg J 0 (Nat.zero_le _)
  rw [Int.natCast_zero] at e
  exact exonAt_zero_len (e ▸ h) hn

theorem getFollowingExon_neg1_len {reg : Iv} {J : List Iv} {ex : Iv} (hn : 0 < J.length)
    (h : getFollowingExon reg J (-1) = some ex) : interval_len ex = lastExonLen reg J :=
  exonAt_length_len (getFollowingExon_neg_one reg J (List.length_pos_iff.mp hn) ▸ h) hn

theorem skippedExonLen_first {ij : List Iv} (hsd : SD ij) (hwf : WFl ij) : ∀ (n i0 : Nat) (total : Int),
    skippedExonLen ij i0 n = some total → 0 ≤ total ∧
    (0 < n → ∃ a b, ij[i0]? = some a ∧ ij[i0 + 1]? = some b ∧ b.1 - a.2 + 1 ≤ total) := by
  intro n
  induction n with
  | zero => intro i0 total h; simp [skippedExonLen] at h; subst h; exact ⟨Int.le_refl _, fun h => absurd h (by omega)⟩
  | succ n ih =>
    intro i0 total h
    simp only [skippedExonLen] at h
    split at h
    · rename_i a b s ha hb hs
      simp only [Option.some.injEq] at h; subst h
      obtain ⟨hs0, _⟩ := ih (i0 + 1) s hs
      have := hsd.get_lt hwf ha hb (by omega)
      exact ⟨by omega, fun _ => ⟨a, b, ha, hb, by omega⟩⟩
    · cases h

theorem trailRead_vals (ir : Iv) (ki : Nat) : ∀ (rs : List Iv) (ri : Nat) (rv : Int),
    ∀ v ∈ (trailRead ir ki rs ri rv).1, v = -1 ∨ v = 0 ∨ v = rv := by
  intro rs
  induction rs with
  | nil => intro _ _ v hv; simp [trailRead] at hv
  | cons r rs ih =>
    intro ri rv v hv
    by_cases hov : overlaps ir r = true
    · simp only [trailRead, hov, if_true] at hv
      rcases List.mem_cons.mp hv with rfl | hv
      · left; rfl
      · rcases ih (ri + 1) 0 v hv with h | h | h
        · left; exact h
        · right; left; exact h
        · right; left; exact h
    · simp only [trailRead, hov] at hv
      rcases List.mem_cons.mp hv with rfl | hv
      · right; right; rfl
      · simp only [List.mem_map] at hv
        obtain ⟨_, _, rfl⟩ := hv
        right; left; rfl

/-- `cjModel` answers with the comparator's events for an isoform of the gene that carries the id -/
theorem cjModel_some {g : Gene} {p : Params} {q : CParams} {rp : ReadProf} {id : Nat} {ev : List Event}
    (h : cjModel g p q rp id = some ev) :
    ∃ I ∈ g.isos, I.id = id ∧ compareJunctions (cmpCtxOf g p q) rp.introns rp.region I.introns I.region = some ev := by
  unfold cjModel at h
  split at h
  · cases h
  · rename_i I hfind
    exact ⟨I, List.mem_of_find?_eq_some hfind, by simpa using List.find?_some hfind, h⟩

end IsoVerif.Lemmas.C01Cmp
