/-
Helper lemmas for the label dictionaries of file mode (Model/C09Labels.lean; C10's `addFiles` / `blockOwn`).
Core Lean only.
-/
import IsoVerif.Model.C09Labels
import IsoVerif.Lemmas.C09Split

namespace IsoVerif.Lemmas.C09Labels
open IsoVerif.Model.C09 IsoVerif.Lemmas.C09Split
open IsoVerif.Model.C10 (addFiles blockOwn ListLine lineLabel InFile)

theorem any_key_iff (d : List (String × String)) (k : String) :
    d.any (fun p => p.1 == k) = true ↔ k ∈ d.map Prod.fst := by
  simp only [List.any_eq_true, beq_iff_eq, List.mem_map]

theorem addFiles_eq_some (pairs cur d : List (String × String)) :
    addFiles cur pairs = some d ↔
      d = cur ++ pairs ∧ (pairs.map Prod.fst).Nodup ∧ ∀ k ∈ pairs.map Prod.fst, k ∉ cur.map Prod.fst := by
  induction pairs generalizing cur with
  | nil => simp [addFiles]; exact eq_comm
  | cons p ps ih =>
    obtain ⟨path, label⟩ := p
    simp only [addFiles]
    by_cases hany : cur.any (fun q => q.1 == path) = true
    · have hk := (any_key_iff cur path).mp hany
      simp only [hany, if_true, reduceCtorEq, false_iff]
      rintro ⟨_, _, h⟩
      exact h path (by simp) hk
    · have hk : path ∉ cur.map Prod.fst := fun h => hany ((any_key_iff cur path).mpr h)
      simp only [hany, Bool.false_eq_true, if_false, ih]
      simp only [List.map_cons, List.nodup_cons, List.mem_cons, List.append_assoc, List.singleton_append,
        List.map_append, List.mem_append, List.map_nil]
      constructor
      · rintro ⟨rfl, hnd, hdis⟩
        refine ⟨rfl, ⟨fun hm => (hdis path hm) (Or.inr (Or.inl rfl)), hnd⟩, ?_⟩
        rintro k (rfl | hkm)
        · exact hk
        · exact fun hc => hdis k hkm (Or.inl hc)
      · rintro ⟨rfl, ⟨hnp, hnd⟩, hdis⟩
        refine ⟨rfl, hnd, ?_⟩
        intro k hkm hc
        rcases hc with hc | hc | hc
        · exact hdis k (Or.inr hkm) hc
        · subst hc; exact hnp hkm
        · cases hc

/-- from the empty dictionary: the pairs themselves, unless a file is named twice -/
theorem addFiles_nil (pairs : List (String × String)) :
    addFiles [] pairs = if (pairs.map Prod.fst).Nodup then some pairs else none := by
  by_cases h : (pairs.map Prod.fst).Nodup
  · simp only [h, if_true]
    exact (addFiles_eq_some pairs [] pairs).mpr ⟨by simp, h, by simp⟩
  · simp only [h, if_false]
    cases ha : addFiles [] pairs with
    | none => rfl
    | some d => exact absurd ((addFiles_eq_some pairs [] d).mp ha).2.1 h

/-! ### `--bam` / `--labels` -/

/-- the pairs the loop registers from position `i` on -/
def pairsFrom (labels : Option (List String)) (i : Nat) (fs : List String) : List (String × String) :=
  match labels with
  | none => fs.map (fun f => (f, fileStem f))
  | some ls => fs.zip (ls.drop i)

theorem cmdLoop_eq (labels : Option (List String)) (fs : List String) (i : Nat) (d : List (String × String))
    (hl : ∀ ls, labels = some ls → i + fs.length ≤ ls.length) :
    cmdLoop labels fs i d = match addFiles d (pairsFrom labels i fs) with
      | none => .error (.exit (-2))
      | some d' => .ok d' := by
  induction fs generalizing i d with
  | nil => cases labels <;> simp [cmdLoop, pairsFrom, addFiles]
  | cons f fs ih =>
    cases labels with
    | none =>
      simp only [cmdLoop, pairsFrom, List.map_cons, addFiles]
      split
      · rfl
      · exact ih (i + 1) _ (by intro ls h; cases h)
    | some ls =>
      have hlen := hl ls rfl
      simp only [List.length_cons] at hlen
      have hi : i < ls.length := by omega
      have hdrop : ls.drop i = ls[i] :: ls.drop (i + 1) := (List.drop_eq_getElem_cons hi)
      simp only [cmdLoop, pairsFrom, hdrop, List.zip_cons_cons, addFiles, List.getElem?_eq_getElem hi]
      split
      · rfl
      · have := ih (i + 1) (d ++ [(f, ls[i])]) (by intro ls' h; cases h; omega)
        simpa [pairsFrom] using this

/-! ### the fall-back dictionary of `FileNameGrouper.__init__` -/

/-- the label the fall-back branch gives to file `f`: the stem of the first file of the LAST library that contains `f` -/
def fallbackLabel : List (List String) → String → Option String
  | [], _ => none
  | lib :: libs, f =>
    match fallbackLabel libs f with
    | some l => some l
    | none => if lib.contains f then lib.head?.map fileStem else none

theorem foldl_dictSet_lookup (lib : List String) (v : String) (d : List (String × String)) (f : String) :
    (lib.foldl (fun acc x => dictSet acc x v) d).lookup f = if lib.contains f then some v else d.lookup f := by
  induction lib generalizing d with
  | nil => simp
  | cons x xs ih =>
    simp only [List.foldl_cons, ih, lookup_dictSet, List.contains_cons]
    by_cases hx : f = x
    · subst hx; simp
    · have : (f == x) = false := by simp [hx]
      simp only [this, Bool.false_or]
      split <;> simp_all

theorem initLibs_lookup (libs : List (List String)) (d d' : List (String × String)) (h : initLibs d libs = .ok d')
    (f : String) :
    d'.lookup f = match fallbackLabel libs f with
      | some l => some l
      | none => d.lookup f := by
  induction libs generalizing d with
  | nil =>
    simp only [initLibs] at h
    injection h with h
    subst h
    rfl
  | cons lib libs ih =>
    simp only [initLibs] at h
    cases hl : initLib d lib with
    | error e => simp [hl] at h
    | ok d1 =>
      simp only [hl] at h
      rw [ih d1 h]
      simp only [fallbackLabel]
      cases hf : fallbackLabel libs f with
      | some l => rfl
      | none =>
        simp only
        cases lib with
        | nil => simp [initLib] at hl
        | cons f0 rest =>
          simp only [initLib] at hl
          injection hl with hl
          subst hl
          rw [foldl_dictSet_lookup]
          simp only [List.head?_cons, Option.map_some]
          split <;> rfl

/-! ### list-file blocks (C10's `blockOwn`) -/

/-- (file, label) pairs a line of a list file registers -/
def linePairs : ListLine → List (String × String)
  | .files fs label => fs.map (fun f => (f.path, lineLabel fs label))
  | .header _ => []

theorem blockOwn_spec (lines : List ListLine) (d : List (String × String)) (c : List (List String))
    (d' : List (String × String)) (c' : List (List String)) (h : blockOwn d c lines = some (d', c'))
    (hnd : (d.map Prod.fst).Nodup) :
    d' = d ++ lines.flatMap linePairs ∧ (d'.map Prod.fst).Nodup := by
  induction lines generalizing d c with
  | nil =>
    simp only [blockOwn, Option.some.injEq, Prod.mk.injEq] at h
    obtain ⟨rfl, _⟩ := h
    exact ⟨by simp, hnd⟩
  | cons l ls ih =>
    cases l with
    | header n => simp [blockOwn] at h
    | files fs label =>
      simp only [blockOwn] at h
      cases ha : addFiles d (fs.map (fun f => (f.path, lineLabel fs label))) with
      | none => simp [ha] at h
      | some d1 =>
        simp only [ha] at h
        obtain ⟨rfl, hnd1, hdis⟩ := (addFiles_eq_some _ d d1).mp ha
        have hnd' : ((d ++ fs.map (fun f => (f.path, lineLabel fs label))).map Prod.fst).Nodup := by
          rw [List.map_append]
          exact List.nodup_append.mpr ⟨hnd, hnd1, fun a ha b hb hab => by subst hab; exact hdis a hb ha⟩
        obtain ⟨hd', hn'⟩ := ih _ _ h hnd'
        refine ⟨?_, hn'⟩
        rw [hd']
        simp [linePairs, List.flatMap_cons]

end IsoVerif.Lemmas.C09Labels
