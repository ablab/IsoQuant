/-
A statement about every `MatchEventSubtype` is checked on the generated member list `MatchEventSubtype.allMembers`
(`forall_events`), so a table fact about the enum is one evaluation.  Core Lean only.
-/
import IsoVerif.Gen.Enums

namespace IsoVerif.Lemmas
open IsoVerif.Gen

/-- the generated `allMembers` lists the constructors in declaration order, so member `e` sits at index `e.ctorIdx`
    (an enum member generated out of order breaks this proof, not the statement) -/
theorem MatchEventSubtype.mem_allMembers (e : MatchEventSubtype) : e ∈ MatchEventSubtype.allMembers := by
  apply List.mem_of_getElem? (i := e.ctorIdx)
  cases e <;> rfl

theorem forall_events {P : MatchEventSubtype → Prop} (h : ∀ e ∈ MatchEventSubtype.allMembers, P e) (e : MatchEventSubtype) :
    P e :=
  h e (MatchEventSubtype.mem_allMembers e)

end IsoVerif.Lemmas
