/-
Python dicts as association lists (insertion ordered, first entry of a key wins in `List.lookup`): `lookup` against
membership, for any lawful `==` on the keys, and the update `upsert`, of which the dict updates of the model are
instances.
-/
import IsoVerif.Lemmas.ListFacts

namespace IsoVerif.Lemmas
universe u v

theorem mem_of_lookup {α β} [BEq α] [LawfulBEq α] {l : List (α × β)} {k : α} {v : β} (h : l.lookup k = some v) :
    (k, v) ∈ l := by
  obtain ⟨l1, l2, rfl, _⟩ := List.lookup_eq_some_iff.mp h
  exact List.mem_append_right _ List.mem_cons_self

theorem lookup_iff_mem_of_nodup {α β} [BEq α] [LawfulBEq α] {l : List (α × β)} (h : (l.map Prod.fst).Nodup) (k : α)
    (v : β) : l.lookup k = some v ↔ (k, v) ∈ l := by
  refine ⟨mem_of_lookup, fun hm => ?_⟩
  obtain ⟨l1, l2, rfl⟩ := List.append_of_mem hm
  refine List.lookup_eq_some_iff.mpr ⟨l1, l2, rfl, fun p hp => bne_iff_ne.2 fun e => ?_⟩
  rw [List.map_append, List.map_cons, List.nodup_append] at h
  exact h.2.2 p.1 (List.mem_map_of_mem hp) k List.mem_cons_self e.symm

/-- `d.get(k)` is `None` exactly when `k` is not a key -/
theorem lookup_eq_none_iff_keys {α β} [BEq α] [LawfulBEq α] {l : List (α × β)} {k : α} :
    l.lookup k = none ↔ k ∉ l.map Prod.fst := by
  rw [List.lookup_eq_none_iff, List.mem_map]
  exact ⟨fun h ⟨p, hp, e⟩ => (bne_iff_ne.1 (h p hp)) e.symm, fun h p hp => bne_iff_ne.2 fun e => h ⟨p, hp, e.symm⟩⟩

theorem lookup_cons_ite {α β} [BEq α] [LawfulBEq α] [DecidableEq α] (k k' : α) (v : β) (t : List (α × β)) :
    List.lookup k ((k', v) :: t) = if k = k' then some v else List.lookup k t := by
  rw [List.lookup_cons]
  by_cases h : k = k'
  · rw [if_pos h, beq_iff_eq.2 h]
  · rw [if_neg h, beq_false_of_ne h]

/-- `get` after `del d[p]` -/
theorem lookup_filter_ne {α β} [BEq α] [LawfulBEq α] [DecidableEq α] (k p : α) (l : List (α × β)) :
    List.lookup k (l.filter (fun kv => decide (kv.1 ≠ p))) = if k = p then none else List.lookup k l := by
  induction l with
  | nil => exact (ite_self _).symm
  | cons a t ih =>
    obtain ⟨k', v⟩ := a
    rw [List.filter_cons]
    by_cases hp : k' = p
    · rw [if_neg (by simpa using hp), ih, lookup_cons_ite]
      by_cases hk : k = p
      · rw [if_pos hk, if_pos hk]
      · rw [if_neg hk, if_neg hk, if_neg (hp ▸ hk)]
    · rw [if_pos (by simpa using hp), lookup_cons_ite, lookup_cons_ite, ih]
      by_cases hk : k = k'
      · rw [if_pos hk, if_pos hk, if_neg (hk ▸ hp)]
      · rw [if_neg hk, if_neg hk]

/-- the update `d[k] = g(d[k])`, with `(k, b0)` appended when `k` is absent.  It compares keys with `=` as the model's
    update functions do, hence `DecidableEq`.  Instances (each with its `*_eq_upsert` lemma): `incD` =
    `IncrementalDict.inc` (`g = (· + v)`, `b0 = v`), `incF` = `feature_counter[f].inc`, `bumpCount` = `gene_counts[g] += 1`,
    `incr`, `addName`, `ambAppend` = `ambiguous_assignments[read_id].append(t)`, `dictAppend`, and with `g = fun _ => v` the
    plain `d[k] = v` of `amSet`, `cset`, `Cache.set`, `assocSet`.  (`dictSet` of Model/Serial and of Model/Samples is the same
    update; their laws are proved on the definitions, in Lemmas/Serial and Lemmas/Samples.) -/
def upsert {κ : Type u} {β : Type v} [DecidableEq κ] (g : β → β) (b0 : β) : List (κ × β) → κ → List (κ × β)
  | [], k => [(k, b0)]
  | (k', x) :: t, k => if k' = k then (k', g x) :: t else (k', x) :: upsert g b0 t k

variable {κ : Type u} {β : Type v} [DecidableEq κ] (g : β → β) (b0 : β)

/- `lookup` compares with a `==` of its own, whichever lawful one the model's key type comes with -/
theorem lookup_upsert [BEq κ] [LawfulBEq κ] (l : List (κ × β)) (k k' : κ) :
    (upsert g b0 l k).lookup k' =
      if k = k' then some (match l.lookup k with | some x => g x | none => b0) else l.lookup k' := by
  have ne : ∀ {a b : κ}, ¬ a = b → (b == a) = false := fun h => by simpa using fun e => h e.symm
  induction l with
  | nil =>
    by_cases h : k = k'
    · subst h; simp [upsert, List.lookup]
    · simp [upsert, List.lookup, h, ne h]
  | cons p t ih =>
    obtain ⟨k0, x⟩ := p
    by_cases h0 : k0 = k
    · subst h0
      by_cases h : k0 = k'
      · subst h; simp [upsert, List.lookup]
      · simp [upsert, List.lookup, h, ne h]
    · simp only [upsert, h0, if_false, List.lookup_cons, ih, ne h0]
      by_cases h : k0 = k'
      · subst h; simp [show ¬ k = k0 from fun e => h0 e.symm]
      · simp [ne h]

/-- `get` after the plain assignment `d[k] = v` -/
theorem lookup_upsert_const [BEq κ] [LawfulBEq κ] (v : β) (l : List (κ × β)) (k k' : κ) :
    (upsert (fun _ => v) v l k).lookup k' = if k' = k then some v else l.lookup k' := by
  rw [lookup_upsert]
  by_cases h : k' = k
  · rw [if_pos h, if_pos h.symm]; cases l.lookup k <;> rfl
  · rw [if_neg h, if_neg (Ne.symm h)]

/-- a new entry appended at the end (`group_numeric_ids[g] = n` on first sight, the line lists of the group tables) -/
theorem lookup_append_single [BEq κ] [LawfulBEq κ] (l : List (κ × β)) (k : κ) (v : β) (k' : κ) :
    (l ++ [(k, v)]).lookup k' =
      match l.lookup k' with
      | some x => some x
      | none => if k' = k then some v else none := by
  rw [List.lookup_append]
  cases l.lookup k' with
  | some x => rfl
  | none =>
    by_cases h : k' = k
    · subst h; simp [List.lookup]
    · have hb : (k' == k) = false := by simpa using h
      simp [List.lookup, h, hb]

theorem keys_upsert (l : List (κ × β)) (k : κ) :
    (upsert g b0 l k).map Prod.fst = if k ∈ l.map Prod.fst then l.map Prod.fst else l.map Prod.fst ++ [k] := by
  induction l with
  | nil => simp [upsert]
  | cons p t ih =>
    obtain ⟨k0, x⟩ := p
    by_cases h0 : k0 = k
    · subst h0; simp [upsert]
    · have hne : ¬ k = k0 := fun e => h0 e.symm
      simp only [upsert, h0, if_false, List.map_cons, ih, List.mem_cons, hne, false_or]
      split <;> simp

/-- distinct keys, distinct entries -/
theorem nodup_of_nodup_keys {α β} (d : List (α × β)) (h : (d.map Prod.fst).Nodup) : d.Nodup :=
  (List.pairwise_map.1 h).imp fun h e => h (congrArg _ e)

theorem nodup_keys_upsert {l : List (κ × β)} (h : (l.map Prod.fst).Nodup) (k : κ) :
    ((upsert g b0 l k).map Prod.fst).Nodup := by
  rw [keys_upsert]
  split
  · exact h
  · rename_i hnot
    exact nodup_append_singleton h hnot

theorem forall_upsert {P : κ × β → Prop} (l : List (κ × β)) (k : κ) (hl : ∀ p ∈ l, P p) (h0 : P (k, b0))
    (hg : ∀ x, P (k, x) → P (k, g x)) : ∀ p ∈ upsert g b0 l k, P p := by
  induction l with
  | nil => simpa [upsert] using h0
  | cons q t ih =>
    obtain ⟨k0, x⟩ := q
    have ht := fun p hp => hl p (List.mem_cons_of_mem _ hp)
    have hq := hl (k0, x) List.mem_cons_self
    by_cases hk : k0 = k
    · subst hk
      simp only [upsert, if_true, List.forall_mem_cons]
      exact ⟨hg x hq, ht⟩
    · simp only [upsert, hk, if_false, List.forall_mem_cons]
      exact ⟨hq, ih ht⟩

theorem upsert_of_not_mem (l : List (κ × β)) (k : κ) (h : k ∉ l.map Prod.fst) :
    upsert g b0 l k = l ++ [(k, b0)] := by
  induction l with
  | nil => rfl
  | cons p t ih =>
    simp only [List.map_cons, List.mem_cons, not_or] at h
    simp only [upsert, if_neg (Ne.symm h.1), ih h.2, List.cons_append]

/-- `dict.get` after the keys went through an injective map and the values through any map -/
theorem lookup_map {α α' γ γ'} [BEq α] [LawfulBEq α] [BEq α'] [LawfulBEq α'] (f : α → α')
    (hf : Function.Injective f) (v : γ → γ') (l : List (α × γ)) (k : α) :
    (l.map (fun p => (f p.1, v p.2))).lookup (f k) = (l.lookup k).map v := by
  induction l with
  | nil => rfl
  | cons p t ih =>
    obtain ⟨a, b⟩ := p
    have e : (f k == f a) = (k == a) := by
      rw [Bool.eq_iff_iff, beq_iff_eq, beq_iff_eq]; exact ⟨fun h => hf h, congrArg f⟩
    simp only [List.map_cons, List.lookup_cons, e, ih]
    cases k == a <;> rfl

theorem upsert_map {α α' γ γ'} [DecidableEq α] [DecidableEq α'] (f : α → α') (hf : Function.Injective f)
    (v : γ → γ') (u : γ → γ) (u' : γ' → γ') (hu : ∀ x, u' (v x) = v (u x)) (c0 : γ) (l : List (α × γ)) (k : α) :
    upsert u' (v c0) (l.map (fun p => (f p.1, v p.2))) (f k) = (upsert u c0 l k).map (fun p => (f p.1, v p.2)) := by
  induction l with
  | nil => rfl
  | cons p t ih =>
    have e : (f p.1 = f k) = (p.1 = k) := propext ⟨fun h => hf h, congrArg f⟩
    simp only [List.map_cons, upsert, e, ih, hu]
    split <;> rfl

theorem lookup_none_iff {β} (l : List (String × β)) (k : String) : l.lookup k = none ↔ ∀ v, (k, v) ∉ l := by
  rw [lookup_eq_none_iff_keys, List.mem_map]
  exact ⟨fun h v hm => h ⟨_, hm, rfl⟩, fun h ⟨p, hp, e⟩ => h p.2 (e ▸ hp)⟩

theorem lookup_first {β} (pre post : List (String × β)) (k : String) (v : β) (h : ∀ v', (k, v') ∉ pre) :
    (pre ++ (k, v) :: post).lookup k = some v := by
  rw [List.lookup_append, (lookup_none_iff pre k).2 h, List.lookup_cons_self]; rfl

/-- for a duplicate-free list, `dict(enumerate-swapped)[g] == i` iff `l[i] == g` -/
theorem lookup_zipIdx {l : List String} (h : l.Nodup) (g : String) (i : Nat) :
    l.zipIdx.lookup g = some i ↔ l[i]? = some g := by
  rw [lookup_iff_mem_of_nodup (by simpa using h), List.mem_zipIdx_iff_getElem?]

theorem lookup_zipIdx_isSome {l : List String} (h : l.Nodup) {g : String} (hg : g ∈ l) :
    ∃ i, l.zipIdx.lookup g = some i ∧ l[i]? = some g := by
  obtain ⟨i, hi, hgi⟩ := List.getElem_of_mem hg
  exact ⟨i, (lookup_zipIdx h g i).mpr (by simp [List.getElem?_eq_getElem hi, hgi]), by simp [List.getElem?_eq_getElem hi, hgi]⟩

end IsoVerif.Lemmas
