/-
The loop of `junctions_from_blocks` of Gen/Loops.lean equals the model (`junctions_loop`, `junctions_from_blocks_eq`).
`get_exons` and the three single-exon getters are refined from it in Props/C19GenJunctions.lean.
-/
import IsoVerif.Gen.Loops
import IsoVerif.Lemmas.GenBase
import IsoVerif.Lemmas.Junctions

namespace IsoVerif.Lemmas.GenLoops
open IsoVerif.Gen IsoVerif.Model IsoVerif.Lemmas

theorem junctions_loop (l : List Iv) (n k : Nat) (acc : List Iv) (h : k + n + 1 = l.length) :
    junctions_from_blocks.loop1 l (pyRangeN (k : Int) n) acc = some (acc ++ junctionsFromBlocks (l.drop k)) := by
  obtain ⟨x, hx⟩ := exists_getElem? l (k := k) (by omega)
  have hd := drop_eq_cons_of_getElem l k _ hx
  induction n generalizing k acc x with
  | zero =>
    have : l.drop (k + 1) = [] := List.drop_eq_nil_of_le (by omega)
    simp [pyRangeN, junctions_from_blocks.loop1, junctions_from_blocks.after1, hd, this, junctionsFromBlocks]
  | succ n ih =>
    obtain ⟨y, hy⟩ := exists_getElem? l (k := k + 1) (by omega)
    have hd2 := drop_eq_cons_of_getElem l (k + 1) _ hy
    have hcast : ((k : Int) + 1) = ((k + 1 : Nat) : Int) := (Int.natCast_succ k).symm
    rw [pyRangeN_succ, junctions_from_blocks.loop1]
    simp only [pyIdx_natCast, hcast, hx, hy, hd, hd2, junctionsFromBlocks, decide_eq_true_eq]
    split <;> rw [ih (k + 1) _ (by omega) y hy hd2, hd2]
    simp

theorem junctions_from_blocks_eq (l : List Iv) :
    junctions_from_blocks l = some (junctionsFromBlocks l) := by
  unfold junctions_from_blocks
  simp only [pyLen, pyRange]
  by_cases h : (l.length : Int) ≥ 2
  · have hn : ((l.length : Int) - 1 - 0).toNat = l.length - 1 := by omega
    simp only [h, decide_true, if_true, hn]
    have := junctions_loop l (l.length - 1) 0 [] (by omega)
    simpa using this
  · simp only [h, decide_false, if_false, Bool.false_eq_true]
    match l, h with
    | [], _ => simp [junctionsFromBlocks]
    | [a], _ => simp [junctionsFromBlocks]
    | a :: b :: t, h => simp at h; omega

end IsoVerif.Lemmas.GenLoops
