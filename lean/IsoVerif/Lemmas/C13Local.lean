/-
Helper lemmas for Props/C13Local.lean: the ±1 entries of `construct_profile_for_features` do not depend
on known features the read does not touch; `sorted(set(..))` of the C13 gene model; what an exon / intron event says about a
row key, position-wise.
-/
import IsoVerif.Model.C13Chromosome
import IsoVerif.Lemmas.C13Counts
import IsoVerif.Lemmas.C13Features
import IsoVerif.Lemmas.C13Merge
import IsoVerif.Lemmas.Junctions
import IsoVerif.Lemmas.Profiles
import IsoVerif.Props.C13Profiles

namespace IsoVerif.Lemmas.C13Local
open IsoVerif.Gen IsoVerif.Model IsoVerif.Model.C13 IsoVerif.Lemmas.C13 IsoVerif.Props.C13Profiles

/-- `sorted(list(set(..)))` of coordinate pairs is the strictly increasing list with the same members (`sortSD`): on distinct
    pairs the test `ivLe` of the insertion is the strict order.  (The assigner's function of the same name, Model/Assign.lean,
    tests the strict order first; its twin of this lemma is in Lemmas/C01Assign.lean.) -/
theorem sortDedupIv_eq_sortSD (l : List Iv) : sortDedupIv l = sortSD lexLtB l := by
  have ins : ∀ (x : Iv) (l : List Iv), insertIv x l = insertSD lexLtB x l := by
    intro x l
    induction l with
    | nil => rfl
    | cons y ys ih =>
      simp only [insertIv, insertSD, ih, beq_iff_eq]
      by_cases e : x = y
      · simp [e]
      · have : ivLe x y = lexLtB x y := by
          have : x.1 ≠ y.1 ∨ x.2 ≠ y.2 := by
            by_cases h : x.1 = y.1
            · exact Or.inr fun h2 => e (Prod.ext h h2)
            · exact Or.inl h
          rw [Bool.eq_iff_iff]
          simp only [ivLe, lexLtB, Bool.or_eq_true, Bool.and_eq_true, decide_eq_true_eq, beq_iff_eq]
          omega
        simp [e, this]
  induction l with
  | nil => rfl
  | cons a t ih => simp only [sortDedupIv, sortSD, ins, ih]

theorem mem_sortDedupIv (l : List Iv) (y : Iv) : y ∈ sortDedupIv l ↔ y ∈ l := by
  rw [sortDedupIv_eq_sortSD]; exact mem_sortSD _ l y

theorem pairwise_sortDedupIv (l : List Iv) : (sortDedupIv l).Pairwise lexLt := by
  rw [sortDedupIv_eq_sortSD]
  exact (sortSD_incr lexLtB_lin l).imp (fun h => by simpa [lexLtB, lexLt] using h)

theorem sortedStarts_sortDedupIv (l : List Iv) : SortedStarts (sortDedupIv l) :=
  (pairwise_sortDedupIv l).imp (fun h => by unfold lexLt at h; omega)

theorem nodup_sortDedupIv (l : List Iv) : (sortDedupIv l).Nodup :=
  (pairwise_sortDedupIv l).imp (fun h e => by subst e; unfold lexLt at h; omega)

theorem junction_bounds (l : List Iv) : ∀ j ∈ junctionsFromBlocks l, (∃ c ∈ l, j.1 = c.2 + 1) ∧ (∃ d ∈ l, j.2 = d.1 - 1) ∧ j.1 ≤ j.2 :=
  fun j hj =>
  let ⟨a, ha, b, hb, e⟩ := Lemmas.C14.mem_junctions hj
  ⟨⟨a, ha, e ▸ rfl⟩, ⟨b, hb, e ▸ rfl⟩, Lemmas.C14.junctions_wf l j hj⟩

/-- the read touches the known feature `x`: a read feature equals it within δ, or the absence test of the mapped region holds
    for it, or it lies strictly inside a gap between two consecutive read features (the three ways a ±1 can arise) -/
def Touches (δ : Int) (absent : Iv → Iv → Bool) (R : List Iv) (M : Iv) (x : Iv) : Prop :=
  (∃ r ∈ R, equal_ranges r x δ = true) ∨ absent M x = true ∨ InGap R x

theorem best_mono (δ : Int) (K1 K2 R : List Iv) (h : ∀ x ∈ K2, (∃ r ∈ R, equal_ranges r x δ = true) → x ∈ K1) (k : Iv) :
    Best δ K1 R k → Best δ K2 R k := by
  rintro ⟨j, r, hr, hc, hb⟩
  refine ⟨j, r, hr, hc, ?_⟩
  intro i' k' hk' hc'
  obtain ⟨i'', hi''⟩ := List.getElem?_of_mem (h k' (List.mem_of_getElem? hk') ⟨r, List.mem_of_getElem? hr, hc'⟩)
  exact hb i'' k' hi'' hc'

theorem tieLoser_mono (δ : Int) (K1 K2 R : List Iv) (h : ∀ x ∈ K1, (∃ r ∈ R, equal_ranges r x δ = true) → x ∈ K2) (k : Iv) :
    TieLoser (fun a b => equal_ranges a b δ) K1 R k → TieLoser (fun a b => equal_ranges a b δ) K2 R k := by
  rintro ⟨j, r, i', k', hr, hk', hc, hc', hlt⟩
  obtain ⟨i'', hi''⟩ := List.getElem?_of_mem (h k' (List.mem_of_getElem? hk') ⟨r, List.mem_of_getElem? hr, hc'⟩)
  exact ⟨j, r, i'', k', hr, hi'', hc, hc', hlt⟩

/-- **the profile is local**: two known-feature lists that meet the hypotheses of the meaning theorems, the smaller one
    holding every feature of the larger one that the read touches, give every feature the same ±1 verdict - the features the
    read does not touch neither get a ±1 themselves nor change the verdict of another feature (as a tie competitor or by moving
    the sweep).  `gr1` / `gr2` (the gene regions, read only by the READ profile) are free. -/
theorem constructOverlapping_local_of_touches (K1 K2 : List Iv) (gr1 gr2 : Iv) (absent : Iv → Iv → Bool) (δ : Int) (R : List Iv) (M : Iv)
    (pa pt : Int) (hδ : 0 ≤ δ) (h1 : Hyp δ K1 R) (h2 : Hyp δ K2 R) (hsub : ∀ x ∈ K1, x ∈ K2)
    (hvis : ∀ x ∈ K2, Touches δ absent R M x → x ∈ K1) (v : Int) (hv : v = 1 ∨ v = -1) (x : Iv) :
    (∃ i : Nat, K1[i]? = some x ∧ (constructOverlapping K1 gr1 (fun a b => equal_ranges a b δ) absent δ R M pa pt).gene[i]? = some v) ↔
    (∃ i : Nat, K2[i]? = some x ∧ (constructOverlapping K2 gr2 (fun a b => equal_ranges a b δ) absent δ R M pa pt).gene[i]? = some v) := by
  have hnear : ∀ y ∈ K2, (∃ r ∈ R, equal_ranges r y δ = true) → y ∈ K1 := fun y hy h => hvis y hy (Or.inl h)
  have hb : ∀ k, Best δ K1 R k ↔ Best δ K2 R k := fun k =>
    ⟨best_mono δ K1 K2 R hnear k, best_mono δ K2 K1 R (fun y hy _ => hsub y hy) k⟩
  have ht : ∀ k, TieLoser (fun a b => equal_ranges a b δ) K1 R k ↔ TieLoser (fun a b => equal_ranges a b δ) K2 R k := fun k =>
    ⟨tieLoser_mono δ K1 K2 R (fun y hy _ => hsub y hy) k, tieLoser_mono δ K2 K1 R hnear k⟩
  rcases hv with rfl | rfl
  · constructor
    · rintro ⟨i, hk, hg⟩
      obtain ⟨i2, hk2⟩ := List.getElem?_of_mem (hsub x (List.mem_of_getElem? hk))
      obtain ⟨hbest, hm⟩ := (include_iff_best_partial K1 gr1 absent δ R M pa pt h1 i x hk).mp hg
      exact ⟨i2, hk2, (include_iff_best_partial K2 gr2 absent δ R M pa pt h2 i2 x hk2).mpr ⟨(hb x).mp hbest, hm⟩⟩
    · rintro ⟨i, hk, hg⟩
      obtain ⟨hbest, hm⟩ := (include_iff_best_partial K2 gr2 absent δ R M pa pt h2 i x hk).mp hg
      have hx1 : x ∈ K1 := by
        obtain ⟨j, r, hr, hc, _⟩ := hbest
        exact hnear x (List.mem_of_getElem? hk) ⟨r, List.mem_of_getElem? hr, hc⟩
      obtain ⟨i1, hk1⟩ := List.getElem?_of_mem hx1
      exact ⟨i1, hk1, (include_iff_best_partial K1 gr1 absent δ R M pa pt h1 i1 x hk1).mpr ⟨(hb x).mpr hbest, hm⟩⟩
  · constructor
    · rintro ⟨i, hk, hg⟩
      obtain ⟨i2, hk2⟩ := List.getElem?_of_mem (hsub x (List.mem_of_getElem? hk))
      obtain ⟨hnb, hor, hm⟩ := (exclude_iff_partial K1 gr1 absent δ R M pa pt hδ h1 i x hk).mp hg
      refine ⟨i2, hk2, (exclude_iff_partial K2 gr2 absent δ R M pa pt hδ h2 i2 x hk2).mpr ⟨fun h => hnb ((hb x).mpr h), ?_, hm⟩⟩
      rcases hor with h | h | h
      · exact Or.inl ((ht x).mp h)
      · exact Or.inr (Or.inl h)
      · exact Or.inr (Or.inr h)
    · rintro ⟨i, hk, hg⟩
      obtain ⟨hnb, hor, hm⟩ := (exclude_iff_partial K2 gr2 absent δ R M pa pt hδ h2 i x hk).mp hg
      have hx1 : x ∈ K1 := by
        apply hvis x (List.mem_of_getElem? hk)
        rcases hor with ⟨j, r, _, _, hr, _, hc, _⟩ | h | h
        · exact Or.inl ⟨r, List.mem_of_getElem? hr, hc⟩
        · exact Or.inr (Or.inl h)
        · exact Or.inr (Or.inr h)
      obtain ⟨i1, hk1⟩ := List.getElem?_of_mem hx1
      refine ⟨i1, hk1, (exclude_iff_partial K1 gr1 absent δ R M pa pt hδ h1 i1 x hk1).mpr ⟨fun h => hnb ((hb x).mp h), ?_, hm⟩⟩
      rcases hor with h | h | h
      · exact Or.inl ((ht x).mpr h)
      · exact Or.inr (Or.inl h)
      · exact Or.inr (Or.inr h)

theorem marks_iff (chr : String) (δ : Int) (K : List Iv) (isos : List IsoformFeatures) (n : Nat) (gene : List Int) (grp : String)
    (v : Int) (k : CoordKey) :
    marks coordKey v k { profile := gene, pmap := setFeatureProperties chr δ K isos n, group := grp } = true ↔
      k.1 = chr ∧ ∃ i : Nat, K[i]? = some (k.2.1, k.2.2) ∧ gene[i]? = some v := by
  simp only [marks, List.any_eq_true, Bool.and_eq_true, beq_iff_eq]
  constructor
  · rintro ⟨p, hp, hpv, hpk⟩
    obtain ⟨i, hi⟩ := List.mem_iff_getElem?.mp hp
    obtain ⟨hg, hm⟩ := List.getElem?_zip_eq_some.mp hi
    have hlt : i < K.length := by
      have := (List.getElem?_eq_some_iff.mp hm).1
      rwa [setFeatureProperties_length] at this
    obtain ⟨fi, hfi, _, hc, hs, he, _⟩ := setFeatureProperties_get chr δ K isos n i K[i] (List.getElem?_eq_getElem hlt)
    rw [hm] at hfi; cases hfi
    simp only [coordKey] at hpk
    refine ⟨by rw [← hpk, hc], i, ?_, by rw [hg, hpv]⟩
    rw [List.getElem?_eq_getElem hlt, ← hpk]
    simp only [Option.some.injEq]
    exact Prod.ext hs.symm he.symm
  · rintro ⟨hc, i, hk, hg⟩
    obtain ⟨fi, hfi, _, hc', hs, he, _⟩ := setFeatureProperties_get chr δ K isos n i _ hk
    refine ⟨(v, fi), ?_, rfl, ?_⟩
    · exact List.mem_iff_getElem?.mpr ⟨i, List.getElem?_zip_eq_some.mpr ⟨hg, hfi⟩⟩
    · simp only [coordKey, hc', hs, he]
      rw [← hc]

theorem says_iff (chr : String) (δ : Int) (K : List Iv) (isos : List IsoformFeatures) (n : Nat) (prof : Option ProfileResult)
    (grp : String) (ignore : Bool) (dflt : String) (v : Int) (k : CoordKey) (g : String) :
    (prof.map (fun p => ({ profile := p.gene, pmap := setFeatureProperties chr δ K isos n, group := grp } : ReadEv))).any
        (fun ev => groupOf ignore dflt ev == g && marks coordKey v k ev) = true ↔
      ∃ p, prof = some p ∧ (if ignore then dflt else grp) = g ∧ k.1 = chr ∧
        ∃ i : Nat, K[i]? = some (k.2.1, k.2.2) ∧ p.gene[i]? = some v := by
  cases prof with
  | none => simp
  | some p =>
    simp only [Option.map_some, Option.any_some, Bool.and_eq_true, beq_iff_eq, marks_iff, groupOf, Option.some.injEq, exists_eq_left']

end IsoVerif.Lemmas.C13Local
