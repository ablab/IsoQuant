/-
Lemmas about `match_genomic_features` and the fuzzy junction correction (C14).
-/
import IsoVerif.Lemmas.Corrector

namespace IsoVerif.Lemmas.C14
open IsoVerif.Gen IsoVerif.Model IsoVerif.Model.C14 IsoVerif.Lemmas

/-- position-wise relation between two lists of equal length -/
inductive Forall2 {α β : Type} (R : α → β → Prop) : List α → List β → Prop where
  | nil : Forall2 R [] []
  | cons {a : α} {b : β} {l1 : List α} {l2 : List β} : R a b → Forall2 R l1 l2 → Forall2 R (a :: l1) (b :: l2)

theorem Forall2.length_eq {α β : Type} {R : α → β → Prop} {l1 : List α} {l2 : List β} (h : Forall2 R l1 l2) :
    l1.length = l2.length := by
  induction h with
  | nil => rfl
  | cons _ _ ih => simp [ih]

/-- the candidate reference intron of a read intron: the read intron itself or an annotated intron that
    `equal_ranges` accepts within `delta` (both ends within `delta`) -/
def Candidate (known : List Iv) (δ : Int) (r q : Iv) : Prop :=
  q = r ∨ (q ∈ known ∧ (-δ ≤ r.1 - q.1 ∧ r.1 - q.1 ≤ δ) ∧ (-δ ≤ r.2 - q.2 ∧ r.2 - q.2 ≤ δ))

/-- an intron whose two sites are each the read's own site or the corresponding site of the candidate -/
def FuzzyOf (known : List Iv) (δ : Int) (readIntrons : List Iv) (n : Iv) : Prop :=
  ∃ r ∈ readIntrons, ∃ q, Candidate known δ r q ∧ (n.1 = r.1 ∨ n.1 = q.1) ∧ (n.2 = r.2 ∨ n.2 = q.2)

theorem match_sweep_sound (δ : Int) (ks rs : List Iv) (i0 : Nat) :
    ∀ q ∈ matchSweep δ ks rs i0, q.2 ∈ ks ∧ i0 ≤ q.1 ∧ ∃ r, rs[q.1 - i0]? = some r ∧ equal_ranges r q.2 δ = true := by
  fun_induction matchSweep δ ks rs i0 with
  | case1 => intro q hq; cases hq
  | case2 => intro q hq; cases hq
  | case3 k ks r rs ri heq ih =>
    intro q hq
    cases hq with
    | head => exact ⟨by simp, by simp, r, by simp, heq⟩
    | tail _ hq' =>
      obtain ⟨a, b, c⟩ := ih q hq'
      exact ⟨List.mem_cons_of_mem _ a, b, c⟩
  | case4 k ks r rs ri _ _ ih =>
    intro q hq
    obtain ⟨a, b, c⟩ := ih q hq
    exact ⟨List.mem_cons_of_mem _ a, b, c⟩
  | case5 k ks r rs ri _ _ _ ih =>
    intro q hq
    obtain ⟨a, b, r', c, d⟩ := ih q hq
    refine ⟨a, by omega, r', ?_, d⟩
    have : q.1 - ri = (q.1 - (ri + 1)) + 1 := by omega
    rw [this]; simpa using c
  | case6 k ks r rs ri _ _ _ ih =>
    intro q hq
    obtain ⟨a, b, c⟩ := ih q hq
    exact ⟨List.mem_cons_of_mem _ a, b, c⟩

theorem pickBest_mem {r : Iv} {cs : List Iv} {k : Iv} (h : pickBest r cs = some k) : k ∈ cs := by
  unfold pickBest at h
  split at h
  · cases hm : listMin (cs.map (siteDelta r)) with
    | none => simp [hm] at h
    | some best =>
      simp only [hm] at h
      have := List.mem_of_mem_head? h
      exact (List.mem_filter.mp this).1
  · exact List.mem_of_mem_head? h

theorem listMin_eq_none {l : List Int} (h : listMin l = none) : l = [] := by
  cases l with
  | nil => rfl
  | cons a t => rw [listMin] at h; cases h2 : listMin t <;> simp [h2] at h

theorem listMin_spec {l : List Int} {m : Int} (h : listMin l = some m) : m ∈ l ∧ ∀ x ∈ l, m ≤ x := by
  induction l generalizing m with
  | nil => simp [listMin] at h
  | cons a t ih =>
    rw [listMin] at h
    cases ht : listMin t with
    | none =>
      simp [ht] at h; subst h
      rw [listMin_eq_none ht]
      exact ⟨by simp, by intro x hx; simp at hx; omega⟩
    | some m' =>
      simp [ht] at h
      obtain ⟨h1, h2⟩ := ih ht
      by_cases hle : a ≤ m'
      · simp [hle] at h; subst h
        refine ⟨by simp, ?_⟩
        intro x hx
        cases hx with
        | head => omega
        | tail _ hx' => have := h2 x hx'; omega
      · simp [hle] at h; subst h
        refine ⟨List.mem_cons_of_mem _ h1, ?_⟩
        intro x hx
        cases hx with
        | head => omega
        | tail _ hx' => exact h2 x hx'

theorem pickAll_sound (known : List Iv) (δ : Int) (reads : List Iv) (m : List (Nat × Iv))
    (hm : ∀ q ∈ m, q.2 ∈ known ∧ ∃ r, reads[q.1]? = some r ∧ equal_ranges r q.2 δ = true) :
    ∀ (rs : List Iv) (i : Nat), rs = reads.drop i → Forall2 (Candidate known δ) rs (pickAll m rs i) := by
  intro rs
  induction rs with
  | nil => intro i _; exact Forall2.nil
  | cons r rs' ih =>
    intro i hi
    have hri : reads[i]? = some r := by
      have := congrArg List.head? hi
      simpa [List.head?_drop] using this.symm
    have htl : rs' = reads.drop (i + 1) := by
      have := congrArg List.tail hi
      simpa [List.tail_drop] using this
    simp only [pickAll]
    refine Forall2.cons ?_ (ih (i + 1) htl)
    cases hb : pickBest r (candidatesOf m i) with
    | none => exact Or.inl rfl
    | some k =>
      simp only
      have hk := pickBest_mem hb
      simp only [candidatesOf, List.mem_map, List.mem_filter] at hk
      obtain ⟨q, ⟨hq, hqi⟩, hqk⟩ := hk
      have hqi' : q.1 = i := by simpa using hqi
      obtain ⟨h1, r', h2, h3⟩ := hm q hq
      rw [hqi', hri] at h2
      cases h2
      subst hqk
      exact Or.inr ⟨h1, (equal_ranges_iff _ _ _).mp h3⟩

theorem fuzzySite_cases (own ref : Int) (e : Int × Int) : fuzzySite own ref e = own ∨ fuzzySite own ref e = ref := by
  unfold fuzzySite; split
  · exact Or.inl rfl
  · split
    · exact Or.inl rfl
    · exact Or.inr rfl

theorem fuzzyLoop_sound (known : List Iv) (δ : Int) (err : Nat → Bool → Int × Int) (rs qs : List Iv)
    (h : Forall2 (Candidate known δ) rs qs) :
    ∀ i, ∀ n ∈ fuzzyLoop err rs qs i, FuzzyOf known δ rs n := by
  induction h with
  | nil => intro i n hn; simp [fuzzyLoop] at hn
  | @cons r q rs' qs' hc _ ih =>
    intro i n hn
    rw [fuzzyLoop] at hn
    cases hn with
    | head => exact ⟨r, by simp, q, hc, fuzzySite_cases _ _ _, fuzzySite_cases _ _ _⟩
    | tail _ hn' =>
      obtain ⟨r', hr', q', a, b, c⟩ := ih (i + 1) n hn'
      exact ⟨r', List.mem_cons_of_mem _ hr', q', a, b, c⟩

end IsoVerif.Lemmas.C14
