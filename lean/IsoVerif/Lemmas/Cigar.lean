/-
Helper lemmas for C16 (CIGAR walk): the loop state of `get_read_blocks` after any prefix `pre ++ seg`
(`seg` the currently open separator-free run) is a closed-form function of `(pre, seg)` (`absState`);
one loop iteration, read off the SAM tables once (`stepBody_nonsep`, `stepBody_sep`), maps abstract states to abstract
states (`step_nonsep`, `step_sep`); the exons and query blocks of the specification form a chain (`ChainFrom`; one lemma
for the reference and the query axis: `blocks_chain`); `I`/`H`/`P` are transparent for the exons (`dropTransparent`);
every non-separator operation lies in the run of one cut (`cutsAux_covers`, `cutsAux_sub`).
-/
import IsoVerif.Model.Cigar

namespace IsoVerif.Lemmas.C16
open IsoVerif.Gen IsoVerif.Model IsoVerif.Model.C16

/-- all operation lengths are non-negative (BAM stores them as unsigned 28-bit numbers) -/
def NonNeg (ops : List CigarOp) : Prop := ∀ o ∈ ops, 0 ≤ o.2
/-- all operation lengths are positive (SAM: a CIGAR operation has length ≥ 1) -/
def Pos (ops : List CigarOp) : Prop := ∀ o ∈ ops, 0 < o.2
/-- no `N`/`S` -/
def SepFree (seg : List CigarOp) : Prop := ∀ o ∈ seg, isSep o.1 = false

/-- reference / query bases one operation consumes (the summands of `refLen` / `queryLen`) -/
def rOf (o : CigarOp) : Int := if consumesRef o.1 then o.2 else 0
def qOf (o : CigarOp) : Int := if consumesQuery o.1 then o.2 else 0

theorem refLen_nil : refLen [] = 0 := rfl
theorem queryLen_nil : queryLen [] = 0 := rfl
theorem refLen_cons (o : CigarOp) (l : List CigarOp) :
    refLen (o :: l) = (if consumesRef o.1 then o.2 else 0) + refLen l := by simp [refLen]
theorem queryLen_cons (o : CigarOp) (l : List CigarOp) :
    queryLen (o :: l) = (if consumesQuery o.1 then o.2 else 0) + queryLen l := by simp [queryLen]
theorem refLen_append (a b : List CigarOp) : refLen (a ++ b) = refLen a + refLen b := by
  simp [refLen, List.sum_append]
theorem queryLen_append (a b : List CigarOp) : queryLen (a ++ b) = queryLen a + queryLen b := by
  simp [queryLen, List.sum_append]
theorem NonNeg_reverse {l : List CigarOp} (h : NonNeg l) : NonNeg l.reverse := fun o ho => h o (List.mem_reverse.1 ho)

theorem refLen_reverse (l : List CigarOp) : refLen l.reverse = refLen l := by
  simp [refLen, List.sum_reverse]

/-- bases of one kind (`w` = `consumesRef` or `consumesQuery`) consumed by a list of operations -/
def opLen (w : CigarEvent → Bool) (ops : List CigarOp) : Int := (ops.map (fun o => if w o.1 then o.2 else 0)).sum

theorem refLen_eq : refLen = opLen consumesRef := rfl
theorem queryLen_eq : queryLen = opLen consumesQuery := rfl

section
variable (w : CigarEvent → Bool)

theorem opLen_nil : opLen w [] = 0 := rfl
theorem opLen_cons (o : CigarOp) (l : List CigarOp) : opLen w (o :: l) = (if w o.1 then o.2 else 0) + opLen w l := by
  simp [opLen]
theorem opLen_append (a b : List CigarOp) : opLen w (a ++ b) = opLen w a + opLen w b := by simp [opLen, List.sum_append]

theorem opLen_nonneg {l : List CigarOp} (h : NonNeg l) : 0 ≤ opLen w l := by
  induction l with
  | nil => simp [opLen_nil]
  | cons o l ih =>
    have h1 : 0 ≤ o.2 := h o (by simp)
    have h2 := ih (fun x hx => h x (by simp [hx]))
    rw [opLen_cons]; split <;> omega

end

theorem refLen_nonneg {l : List CigarOp} (h : NonNeg l) : 0 ≤ refLen l := opLen_nonneg consumesRef h
theorem queryLen_nonneg {l : List CigarOp} (h : NonNeg l) : 0 ≤ queryLen l := opLen_nonneg consumesQuery h

theorem refLen_takeWhile_le (p : CigarOp → Bool) {l : List CigarOp} (h : NonNeg l) : refLen (l.takeWhile p) ≤ refLen l := by
  have := List.takeWhile_append_dropWhile (p := p) (l := l)
  have h2 : NonNeg (l.dropWhile p) := fun o ho => h o ((List.dropWhile_sublist p).subset ho)
  have := refLen_nonneg h2
  calc refLen (l.takeWhile p) ≤ refLen (l.takeWhile p) + refLen (l.dropWhile p) := by omega
    _ = refLen l := by rw [← refLen_append, List.takeWhile_append_dropWhile]

theorem refLen_drop_le (n : Nat) {l : List CigarOp} (h : NonNeg l) : refLen (l.drop n) ≤ refLen l := by
  have h2 : NonNeg (l.take n) := fun o ho => h o (List.mem_of_mem_take ho)
  have := refLen_nonneg h2
  calc refLen (l.drop n) ≤ refLen (l.take n) + refLen (l.drop n) := by omega
    _ = refLen l := by rw [← refLen_append, List.take_append_drop]

/-- `H` and `P` consume nothing -/
theorem consumes_nothing_of_not_block {k : CigarEvent} (hs : isSep k = false) (hb : isBlockOp k = false) :
    consumesRef k = false ∧ consumesQuery k = false := by
  revert hs hb; cases k <;> decide

theorem no_block_consumes_nothing {seg : List CigarOp} (hs : SepFree seg)
    (hb : seg.any (fun o => isBlockOp o.1) = false) : refLen seg = 0 ∧ queryLen seg = 0 := by
  induction seg with
  | nil => exact ⟨refLen_nil, queryLen_nil⟩
  | cons o l ih =>
    rw [List.any_cons, Bool.or_eq_false_iff] at hb
    obtain ⟨hr, hq⟩ := consumes_nothing_of_not_block (hs o (by simp)) hb.1
    obtain ⟨h1, h2⟩ := ih (fun x hx => hs x (by simp [hx])) hb.2
    rw [refLen_cons, queryLen_cons, hr, hq, h1, h2]
    exact ⟨rfl, rfl⟩

/-- the open run contains a block operation (`M = X I D`) -/
def segHasBlock (seg : List CigarOp) : Bool := seg.any (fun o => isBlockOp o.1)
def firstBlockIdx (seg : List CigarOp) : Nat := seg.findIdx (fun o => isBlockOp o.1)

theorem segHasBlock_nil : segHasBlock [] = false := rfl
theorem hasAligned_nil : hasAligned [] = false := rfl
theorem segHasBlock_snoc (seg : List CigarOp) (op : CigarOp) :
    segHasBlock (seg ++ [op]) = (segHasBlock seg || isBlockOp op.1) := by simp [segHasBlock]
theorem hasAligned_append (a b : List CigarOp) : hasAligned (a ++ b) = (hasAligned a || hasAligned b) := by
  simp [hasAligned, List.any_append]
theorem hasAligned_snoc (seg : List CigarOp) (op : CigarOp) :
    hasAligned (seg ++ [op]) = (hasAligned seg || isAligned op.1) := by simp [hasAligned]
theorem hasAligned_cons (op : CigarOp) (rest : List CigarOp) :
    hasAligned (op :: rest) = (isAligned op.1 || hasAligned rest) := by simp [hasAligned]
theorem refLen_snoc (seg : List CigarOp) (op : CigarOp) :
    refLen (seg ++ [op]) = refLen seg + (if consumesRef op.1 then op.2 else 0) := by
  simp [refLen_append, refLen_cons, refLen_nil]
theorem queryLen_snoc (seg : List CigarOp) (op : CigarOp) :
    queryLen (seg ++ [op]) = queryLen seg + (if consumesQuery op.1 then op.2 else 0) := by
  simp [queryLen_append, queryLen_cons, queryLen_nil]
theorem firstBlockIdx_snoc_some (seg : List CigarOp) (op : CigarOp) (h : segHasBlock seg = true) :
    firstBlockIdx (seg ++ [op]) = firstBlockIdx seg := by
  unfold firstBlockIdx
  rw [List.findIdx_append, if_pos (List.findIdx_lt_length_of_exists (by simpa [segHasBlock] using h))]
theorem firstBlockIdx_snoc_none (seg : List CigarOp) (op : CigarOp) (h : segHasBlock seg = false)
    (ho : isBlockOp op.1 = true) : firstBlockIdx (seg ++ [op]) = seg.length := by
  have hfi : seg.findIdx (fun o => isBlockOp o.1) = seg.length :=
    List.findIdx_eq_length.2 (by simpa [segHasBlock] using h)
  unfold firstBlockIdx
  rw [List.findIdx_append, hfi]
  simp [List.findIdx_cons, ho]

theorem hasAligned_imp_block {seg : List CigarOp} (h : hasAligned seg = true) : segHasBlock seg = true := by
  rw [hasAligned, List.any_eq_true] at h
  obtain ⟨o, hm, ha⟩ := h
  rw [segHasBlock, List.any_eq_true]
  exact ⟨o, hm, by simp [isBlockOp, ha]⟩

theorem hasAligned_false_of_no_block {seg : List CigarOp} (h : segHasBlock seg = false) : hasAligned seg = false := by
  cases h' : hasAligned seg with
  | false => rfl
  | true => rw [hasAligned_imp_block h'] at h; cases h

/-! ### one iteration of the loop, in terms of the SAM tables

Where, for `get_read_blocks`, the generated operation classes (`in_cigar_match_events`, …) meet the specification's tables. -/

theorem stepBody_nonsep (st : RBState) (o : CigarOp) (h : isSep o.1 = false) :
    stepBody st o =
      { st with cur := if st.cur.isNone && isBlockOp o.1 then some (st.refPos, st.readPos, st.idx) else st.cur,
                readPos := st.readPos + qOf o, refPos := st.refPos + rOf o,
                hasMatch := st.hasMatch || isAligned o.1 } := by
  obtain ⟨k, n⟩ := o
  obtain ⟨rp, fp, idx, cur, hm, rb, rdb, cb⟩ := st
  cases cur <;> cases k <;>
    simp [stepBody, isSep, isBlockOp, isAligned, rOf, qOf, consumesRef, consumesQuery,
      CigarEvent.in_cigar_ins_del_match_events, CigarEvent.in_cigar_match_events, cigar_ins_del_match_events,
      cigar_match_events] at h ⊢

theorem stepBody_sep (st : RBState) (o : CigarOp) (h : isSep o.1 = true) :
    stepBody st o =
      { closeBlock st with readPos := (closeBlock st).readPos + qOf o, refPos := (closeBlock st).refPos + rOf o } := by
  obtain ⟨k, n⟩ := o
  cases k <;>
    simp [stepBody, isSep, rOf, qOf, consumesRef, consumesQuery,
      CigarEvent.in_cigar_ins_del_match_events, CigarEvent.in_cigar_match_events, cigar_ins_del_match_events,
      cigar_match_events] at h ⊢

theorem isAligned_imp_blockOp {k : CigarEvent} (h : isAligned k = true) : isBlockOp k = true := by
  simp [isBlockOp, h]

/-- the loop state after the operations `pre ++ seg`, `seg` the open `N`/`S`-free run, with the blocks `rb`, `qb`, `cb`
    already emitted -/
def absState (s : Int) (pre seg : List CigarOp) (rb qb cb : List Iv) : RBState :=
  { readPos := queryLen pre + queryLen seg,
    refPos := s + 1 + refLen pre + refLen seg,
    idx := (pre.length : Int) + (seg.length : Int),
    cur := if segHasBlock seg then
             some (s + 1 + refLen pre, queryLen pre, (pre.length : Int) + (firstBlockIdx seg : Nat))
           else none,
    hasMatch := hasAligned seg,
    refBlocks := rb, readBlocks := qb, cigarBlocks := cb }

theorem rbInit_abs (s : Int) : rbInit s = absState s [] [] [] [] [] := by
  simp [rbInit, absState, refLen_nil, queryLen_nil, hasAligned_nil, segHasBlock_nil]

theorem step_nonsep (s : Int) (pre seg : List CigarOp) (rb qb cb : List Iv) (op : CigarOp)
    (hs : SepFree seg) (ho : isSep op.1 = false) :
    step (absState s pre seg rb qb cb) op = absState s pre (seg ++ [op]) rb qb cb := by
  unfold step
  rw [stepBody_nonsep _ _ ho]
  unfold absState
  rw [segHasBlock_snoc, hasAligned_snoc, refLen_snoc, queryLen_snoc]
  cases hb : segHasBlock seg with
  | true =>
    rw [firstBlockIdx_snoc_some seg op hb]
    simp [rOf, qOf]; omega
  | false =>
    obtain ⟨hr, hq⟩ := no_block_consumes_nothing hs hb
    rw [hasAligned_false_of_no_block hb, hr, hq]
    cases ho' : isBlockOp op.1 with
    | true => rw [firstBlockIdx_snoc_none seg op hb ho']; simp [rOf, qOf]; omega
    | false =>
      have : isAligned op.1 = false := by
        cases h : isAligned op.1 with
        | false => rfl
        | true => rw [isAligned_imp_blockOp h] at ho'; cases ho'
      simp [rOf, qOf, this]; omega


theorem step_sep (s : Int) (pre seg : List CigarOp) (rb qb cb : List Iv) (op : CigarOp)
    (ho : isSep op.1 = true) (hpos : s + 1 + refLen pre ≠ 0) :
    step (absState s pre seg rb qb cb) op =
      absState s (pre ++ seg ++ [op]) [] (rb ++ (exonOf s (pre, seg)).toList)
        (qb ++ (queryBlockOf (pre, seg)).toList) (cb ++ (cigarBlockOf (pre, seg)).toList) := by
  have hfi : seg.findIdx (fun o : CigarOp => isBlockOp o.1) = firstBlockIdx seg := rfl
  unfold step
  rw [stepBody_sep _ _ ho]
  unfold absState exonOf queryBlockOf cigarBlockOf
  simp only [refLen_cons, queryLen_cons, refLen_append, queryLen_append, refLen_nil, queryLen_nil, hasAligned_nil,
    segHasBlock_nil, hfi, List.length_append, List.length_nil, List.length_cons]
  cases ha : hasAligned seg with
  | true =>
    rw [hasAligned_imp_block ha]
    simp [closeBlock, pushBlock, truthy, hpos, rOf, qOf]; omega
  | false =>
    cases hb : segHasBlock seg <;> simp [closeBlock, truthy, hpos, rOf, qOf] <;> omega

theorem NonNeg_of_append_left {a b : List CigarOp} (h : NonNeg (a ++ b)) : NonNeg a :=
  fun o ho => h o (by simp [ho])

theorem start_pos {s : Int} {pre : List CigarOp} (hs : 0 ≤ s) (hp : NonNeg pre) : s + 1 + refLen pre ≠ 0 := by
  have := refLen_nonneg hp; omega

/-- the flush after the loop -/
theorem finish_abs (s : Int) (pre seg : List CigarOp) (rb qb cb : List Iv) (hpos : s + 1 + refLen pre ≠ 0) :
    (finish (absState s pre seg rb qb cb)).refBlocks = rb ++ (exonOf s (pre, seg)).toList ∧
    (finish (absState s pre seg rb qb cb)).readBlocks = qb ++ (queryBlockOf (pre, seg)).toList ∧
    (finish (absState s pre seg rb qb cb)).cigarBlocks = cb ++ (cigarBlockOf (pre, seg)).toList := by
  have hfi : seg.findIdx (fun o : CigarOp => isBlockOp o.1) = firstBlockIdx seg := rfl
  unfold absState exonOf queryBlockOf cigarBlockOf
  simp only [hfi]
  cases ha : hasAligned seg with
  | true =>
    have hb := hasAligned_imp_block ha
    rw [hb]
    simp [finish, pushBlock, truthy, hpos] <;> omega
  | false =>
    cases hb : segHasBlock seg <;> simp [finish, truthy]

/-- the rest of the loop from a closed-form state appends what the specification lists for the remaining cuts (all
    three block lists at once); `0 ≤ s` and `NonNeg` keep a block's start non-zero, that is truthy -/
theorem fold_abs (s : Int) (hs : 0 ≤ s) :
    ∀ (rest pre seg : List CigarOp) (rb qb cb : List Iv), SepFree seg → NonNeg (pre ++ seg ++ rest) →
      (finish (rest.foldl step (absState s pre seg rb qb cb))).refBlocks
          = rb ++ (cutsAux pre seg rest).filterMap (exonOf s) ∧
      (finish (rest.foldl step (absState s pre seg rb qb cb))).readBlocks
          = qb ++ (cutsAux pre seg rest).filterMap queryBlockOf ∧
      (finish (rest.foldl step (absState s pre seg rb qb cb))).cigarBlocks
          = cb ++ (cutsAux pre seg rest).filterMap cigarBlockOf := by
  intro rest
  induction rest with
  | nil =>
    intro pre seg rb qb cb _ hn
    have hpos := start_pos hs (NonNeg_of_append_left (NonNeg_of_append_left hn))
    have h := finish_abs s pre seg rb qb cb hpos
    simp only [List.foldl_nil, cutsAux, List.filterMap_cons, List.filterMap_nil]
    refine ⟨?_, ?_, ?_⟩
    · rw [h.1]; cases exonOf s (pre, seg) <;> rfl
    · rw [h.2.1]; cases queryBlockOf (pre, seg) <;> rfl
    · rw [h.2.2]; cases cigarBlockOf (pre, seg) <;> rfl
  | cons op rest ih =>
    intro pre seg rb qb cb hsf hn
    have hpos := start_pos hs (NonNeg_of_append_left (NonNeg_of_append_left hn))
    rw [List.foldl_cons]
    cases ho : isSep op.1 with
    | true =>
      rw [step_sep s pre seg rb qb cb op ho hpos]
      have hn' : NonNeg (pre ++ seg ++ [op] ++ [] ++ rest) := by
        intro o hm; exact hn o (by simp at hm ⊢; exact hm)
      have h := ih (pre ++ seg ++ [op]) [] (rb ++ (exonOf s (pre, seg)).toList)
        (qb ++ (queryBlockOf (pre, seg)).toList) (cb ++ (cigarBlockOf (pre, seg)).toList)
        (by intro o hm; cases hm) hn'
      simp only [cutsAux, ho, if_true, List.filterMap_cons]
      refine ⟨?_, ?_, ?_⟩
      · rw [h.1]; cases exonOf s (pre, seg) <;> simp
      · rw [h.2.1]; cases queryBlockOf (pre, seg) <;> simp
      · rw [h.2.2]; cases cigarBlockOf (pre, seg) <;> simp
    | false =>
      rw [step_nonsep s pre seg rb qb cb op hsf ho]
      have hsf' : SepFree (seg ++ [op]) := by
        intro o hm
        rcases List.mem_append.1 hm with h1 | h1
        · exact hsf o h1
        · simp at h1; subst h1; exact ho
      have hn' : NonNeg (pre ++ (seg ++ [op]) ++ rest) := by
        intro o hm; exact hn o (by simp at hm ⊢; exact hm)
      have h := ih pre (seg ++ [op]) rb qb cb hsf' hn'
      simp only [cutsAux, ho]
      exact h

/-- every interval starts at or after `lo`, is non-empty, and the next one starts after its end -/
def ChainFrom : Int → List Iv → Prop
  | _, [] => True
  | lo, e :: es => lo ≤ e.1 ∧ e.1 ≤ e.2 ∧ ChainFrom (e.2 + 1) es

theorem ChainFrom.mono {lo lo' : Int} {l : List Iv} (h : ChainFrom lo' l) (hle : lo ≤ lo') : ChainFrom lo l := by
  cases l with
  | nil => trivial
  | cons e es => exact ⟨by have := h.1; omega, h.2.1, h.2.2⟩

theorem ChainFrom.all_ge {lo : Int} {l : List Iv} (h : ChainFrom lo l) : ∀ e ∈ l, lo ≤ e.1 ∧ e.1 ≤ e.2 := by
  induction l generalizing lo with
  | nil => intro e he; cases he
  | cons x xs ih =>
    intro e he
    rcases List.mem_cons.1 he with h1 | h1
    · subst h1; exact ⟨h.1, h.2.1⟩
    · have := ih h.2.2 e h1
      have := h.1; have := h.2.1
      omega

theorem ChainFrom.pairwise {lo : Int} {l : List Iv} (h : ChainFrom lo l) : l.Pairwise (fun a b => a.2 < b.1) := by
  induction l generalizing lo with
  | nil => exact List.Pairwise.nil
  | cons x xs ih =>
    refine List.Pairwise.cons ?_ (ih h.2.2)
    intro b hb
    have := (ChainFrom.all_ge h.2.2 b hb).1
    omega

theorem consumes_of_aligned {k : CigarEvent} (h : isAligned k = true) :
    consumesRef k = true ∧ consumesQuery k = true := by
  revert h; cases k <;> decide

theorem Pos.nonneg {l : List CigarOp} (h : Pos l) : NonNeg l := fun o ho => Int.le_of_lt (h o ho)

section
variable (w : CigarEvent → Bool)

theorem opLen_pos_of_aligned (hw : ∀ k, isAligned k = true → w k = true) {seg : List CigarOp} (hp : Pos seg)
    (ha : hasAligned seg = true) : 0 < opLen w seg := by
  induction seg with
  | nil => simp [hasAligned] at ha
  | cons o l ih =>
    have ho : 0 < o.2 := hp o (by simp)
    have hl : Pos l := fun x hx => hp x (by simp [hx])
    have hnn : 0 ≤ opLen w l := opLen_nonneg w hl.nonneg
    rw [opLen_cons]
    by_cases hao : isAligned o.1 = true
    · simp [hw _ hao]; omega
    · have hal : hasAligned l = true := by rw [hasAligned_cons] at ha; simpa [hao] using ha
      have := ih hl hal
      split <;> omega

/-- the block a run with read support spans on the axis that `w` measures, `b` = coordinate of the first base:
    `exonOf s` is `blockOf consumesRef (s + 1)`, `queryBlockOf` is `blockOf consumesQuery 0` (`exonOf_eq`, `queryBlockOf_eq`) -/
def blockOf (b : Int) (c : List CigarOp × List CigarOp) : Option Iv :=
  if hasAligned c.2 then some (b + opLen w c.1, b + opLen w c.1 + opLen w c.2 - 1) else none

/-- the one induction behind `exons_chain` (`w = consumesRef`) and `query_chain` (`w = consumesQuery`) -/
theorem blocks_chain (hw : ∀ k, isAligned k = true → w k = true) (b : Int) :
    ∀ (rest pre seg : List CigarOp), Pos seg → Pos rest →
    ChainFrom (b + opLen w pre) ((cutsAux pre seg rest).filterMap (blockOf w b)) ∧
    ∀ x ∈ (cutsAux pre seg rest).filterMap (blockOf w b), x.2 < b + opLen w (pre ++ seg ++ rest) := by
  intro rest
  induction rest with
  | nil =>
    intro pre seg hs _
    simp only [cutsAux, List.filterMap_cons, List.filterMap_nil, blockOf]
    cases ha : hasAligned seg with
    | false => simp [ChainFrom]
    | true =>
      have := opLen_pos_of_aligned w hw hs ha
      simp only [if_true, ChainFrom, List.append_nil, opLen_append]
      refine ⟨⟨Int.le_refl _, by omega, trivial⟩, fun x hx => ?_⟩
      simp at hx; subst hx
      show b + opLen w pre + opLen w seg - 1 < _
      omega
  | cons op rest ih =>
    intro pre seg hs hr
    have hop : 0 < op.2 := hr op (by simp)
    have hr' : Pos rest := fun x hx => hr x (by simp [hx])
    have hsn := opLen_nonneg w hs.nonneg
    have hrn := opLen_nonneg w hr'.nonneg
    have hge : 0 ≤ (if w op.1 then op.2 else 0) := by split <;> omega
    have htot : opLen w (pre ++ seg ++ op :: rest) = opLen w pre + opLen w seg + (if w op.1 then op.2 else 0) + opLen w rest := by
      simp only [opLen_append, opLen_cons]; omega
    cases ho : isSep op.1 with
    | true =>
      obtain ⟨h1, h2⟩ := ih (pre ++ seg ++ [op]) [] (by intro o hm; cases hm) hr'
      have hlen : opLen w (pre ++ seg ++ [op]) = opLen w pre + opLen w seg + (if w op.1 then op.2 else 0) := by
        simp only [opLen_append, opLen_cons, opLen_nil]; omega
      have h2' : ∀ x ∈ (cutsAux (pre ++ seg ++ [op]) [] rest).filterMap (blockOf w b),
          x.2 < b + opLen w (pre ++ seg ++ op :: rest) := fun x hx => by
        have := h2 x hx
        simp only [opLen_append, opLen_nil, hlen] at this
        rw [htot]; omega
      simp only [cutsAux, ho, if_true, List.filterMap_cons, blockOf]
      cases ha : hasAligned seg with
      | false =>
        simp only [Bool.false_eq_true, if_false]
        exact ⟨h1.mono (by rw [hlen]; omega), h2'⟩
      | true =>
        have := opLen_pos_of_aligned w hw hs ha
        simp only [if_true, ChainFrom]
        refine ⟨⟨Int.le_refl _, by omega, h1.mono (by rw [hlen]; omega)⟩, fun x hx => ?_⟩
        rcases List.mem_cons.1 hx with e | e
        · subst e; show b + opLen w pre + opLen w seg - 1 < _; rw [htot]; omega
        · exact h2' x e
    | false =>
      have hs' : Pos (seg ++ [op]) := by
        intro o hm
        rcases List.mem_append.1 hm with h1 | h1
        · exact hs o h1
        · simp at h1; subst h1; exact hop
      have h := ih pre (seg ++ [op]) hs' hr'
      rw [show pre ++ (seg ++ [op]) ++ rest = pre ++ seg ++ op :: rest by simp] at h
      simp only [cutsAux, ho]
      exact h

end

theorem exonOf_eq (s : Int) : exonOf s = blockOf consumesRef (s + 1) := by
  funext c
  simp only [exonOf, blockOf, ← refLen_eq]
  split
  · congr 2; omega
  · rfl

theorem queryBlockOf_eq : queryBlockOf = blockOf consumesQuery 0 := by
  funext c
  simp only [queryBlockOf, blockOf, ← queryLen_eq]
  split
  · congr 2 <;> omega
  · rfl

theorem exons_chain (s : Int) (rest pre seg : List CigarOp) (hs : Pos seg) (hr : Pos rest) :
    ChainFrom (s + 1 + refLen pre) ((cutsAux pre seg rest).filterMap (exonOf s)) := by
  rw [exonOf_eq]
  exact (blocks_chain consumesRef (fun k hk => (consumes_of_aligned hk).1) (s + 1) rest pre seg hs hr).1

theorem query_chain (rest pre seg : List CigarOp) (hs : Pos seg) (hr : Pos rest) :
    ChainFrom (queryLen pre) ((cutsAux pre seg rest).filterMap queryBlockOf) ∧
    ∀ b ∈ (cutsAux pre seg rest).filterMap queryBlockOf, b.2 < queryLen (pre ++ seg ++ rest) := by
  have := blocks_chain consumesQuery (fun k hk => (consumes_of_aligned hk).2) 0 rest pre seg hs hr
  simpa only [queryBlockOf_eq, Int.zero_add, queryLen_eq] using this

/-! ### what delimits a run of `cuts` (the characterisation itself, for any separator test: Lemmas/CutsN.lean, whose
`FreeOf isSep`, `EndsWith isSep`, `StartsWith isSep` are `SepFree`, `EndsWithSep`, `StartsWithSep` by `rfl`) -/

/-- `pre` is empty or ends with a separator -/
def EndsWithSep (pre : List CigarOp) : Prop := ∀ o, pre.getLast? = some o → isSep o.1 = true
/-- `post` is empty or starts with a separator -/
def StartsWithSep (post : List CigarOp) : Prop := ∀ o, post.head? = some o → isSep o.1 = true

theorem cutsAux_append_sepfree : ∀ (a pre seg rest : List CigarOp), SepFree a →
    cutsAux pre seg (a ++ rest) = cutsAux pre (seg ++ a) rest := by
  intro a
  induction a with
  | nil => intro pre seg rest _; simp
  | cons x xs ih =>
    intro pre seg rest ha
    have hx : isSep x.1 = false := ha x (by simp)
    have := ih pre (seg ++ [x]) rest (fun o ho => ha o (by simp [ho]))
    simp only [List.cons_append, cutsAux, hx]
    rw [this]; simp

/-! ### `I`, `H`, `P` can be dropped from a CIGAR without changing its exons -/

/-- operations that are transparent for the reference walk: `I`, `H`, `P` -/
def isRefTransparent (k : CigarEvent) : Bool := k == .insertion || k == .hard_clipping || k == .padding

def dropTransparent (ops : List CigarOp) : List CigarOp := ops.filter (fun o => !isRefTransparent o.1)

theorem not_consumesRef_of_transparent {k : CigarEvent} (h : isRefTransparent k = true) :
    consumesRef k = false ∧ isAligned k = false := by
  revert h; cases k <;> decide

theorem dropTransparent_cons (o : CigarOp) (l : List CigarOp) :
    dropTransparent (o :: l) = if isRefTransparent o.1 then dropTransparent l else o :: dropTransparent l := by
  unfold dropTransparent
  rw [List.filter_cons]
  cases isRefTransparent o.1 <;> rfl

theorem refLen_dropTransparent (l : List CigarOp) : refLen (dropTransparent l) = refLen l := by
  induction l with
  | nil => rfl
  | cons o l ih =>
    rw [dropTransparent_cons, refLen_cons]
    cases ht : isRefTransparent o.1
    · rw [if_neg (by simp), refLen_cons, ih]
    · rw [if_pos rfl, ih, (not_consumesRef_of_transparent ht).1]; simp

theorem hasAligned_dropTransparent (l : List CigarOp) : hasAligned (dropTransparent l) = hasAligned l := by
  induction l with
  | nil => rfl
  | cons o l ih =>
    rw [dropTransparent_cons]
    unfold hasAligned at ih ⊢
    cases ht : isRefTransparent o.1
    · rw [if_neg (by simp), List.any_cons, List.any_cons, ih]
    · rw [if_pos rfl, List.any_cons, ih, (not_consumesRef_of_transparent ht).2]; rfl

theorem dropTransparent_append (a b : List CigarOp) :
    dropTransparent (a ++ b) = dropTransparent a ++ dropTransparent b := by simp [dropTransparent]

/-- a transparent operation neither cuts nor changes `refLen` / `hasAligned` of its run -/
theorem exons_dropTransparent (s : Int) : ∀ (rest pre seg : List CigarOp),
    (cutsAux (dropTransparent pre) (dropTransparent seg) (dropTransparent rest)).filterMap (exonOf s)
      = (cutsAux pre seg rest).filterMap (exonOf s) := by
  intro rest
  induction rest with
  | nil =>
    intro pre seg
    have h1 := refLen_dropTransparent pre
    have h2 := refLen_dropTransparent seg
    have h3 := hasAligned_dropTransparent seg
    have hnil : dropTransparent [] = [] := rfl
    rw [hnil]
    simp only [cutsAux, List.filterMap_cons, List.filterMap_nil, exonOf, h1, h2, h3]
  | cons op rest ih =>
    intro pre seg
    obtain ⟨k, n⟩ := op
    cases ho : isSep k with
    | true =>
      have hk : isRefTransparent k = false := by cases k <;> simp_all [isSep, isRefTransparent]
      have hd : dropTransparent ((k, n) :: rest) = (k, n) :: dropTransparent rest := by
        simp [dropTransparent, hk]
      have hpre : dropTransparent (pre ++ seg ++ [(k, n)]) = dropTransparent pre ++ dropTransparent seg ++ [(k, n)] := by
        simp [dropTransparent, hk]
      have h := ih (pre ++ seg ++ [(k, n)]) []
      rw [hpre] at h
      have hnil : dropTransparent [] = [] := rfl
      rw [hnil] at h
      rw [hd]
      simp only [cutsAux, ho, if_true, List.filterMap_cons, h]
      have h1 := refLen_dropTransparent pre
      have h2 := refLen_dropTransparent seg
      have h3 := hasAligned_dropTransparent seg
      simp only [exonOf, h1, h2, h3]
    | false =>
      cases hk : isRefTransparent k with
      | true =>
        have hd : dropTransparent ((k, n) :: rest) = dropTransparent rest := by
          simp [dropTransparent, hk]
        have hseg : dropTransparent (seg ++ [(k, n)]) = dropTransparent seg := by
          simp [dropTransparent, hk]
        have h := ih pre (seg ++ [(k, n)])
        rw [hseg] at h
        rw [hd]
        simp only [cutsAux, ho]
        exact h
      | false =>
        have hd : dropTransparent ((k, n) :: rest) = (k, n) :: dropTransparent rest := by
          simp [dropTransparent, hk]
        have hseg : dropTransparent (seg ++ [(k, n)]) = dropTransparent seg ++ [(k, n)] := by
          simp [dropTransparent, hk]
        have h := ih pre (seg ++ [(k, n)])
        rw [hseg] at h
        rw [hd]
        simp only [cutsAux, ho]
        exact h

/-! ### every non-separator operation lies in the run of one cut, and the runs hold operations of the CIGAR only
(for Props/C16NoExon.lean) -/

theorem cutsAux_covers : ∀ (rest pre seg : List CigarOp) (o : CigarOp), o ∈ seg ++ rest → isSep o.1 = false →
    ∃ c, c ∈ cutsAux pre seg rest ∧ o ∈ c.2 := by
  intro rest
  induction rest with
  | nil => intro pre seg o ho _; exact ⟨(pre, seg), by simp [cutsAux], by simpa using ho⟩
  | cons op rest ih =>
    intro pre seg o ho hsep
    unfold cutsAux
    by_cases hop : isSep op.1 = true
    · simp only [hop, if_true]
      rcases List.mem_append.1 ho with h | h
      · exact ⟨(pre, seg), List.mem_cons_self, h⟩
      · rcases List.mem_cons.1 h with rfl | h
        · rw [hop] at hsep; cases hsep
        · obtain ⟨c, hc, hoc⟩ := ih (pre ++ seg ++ [op]) [] o (by simpa using h) hsep
          exact ⟨c, List.mem_cons_of_mem _ hc, hoc⟩
    · simp only [hop]
      exact ih pre (seg ++ [op]) o (by simpa [List.append_assoc] using ho) hsep

theorem cutsAux_sub : ∀ (rest pre seg : List CigarOp) (c : List CigarOp × List CigarOp), c ∈ cutsAux pre seg rest →
    ∀ o, o ∈ c.2 → o ∈ seg ++ rest := by
  intro rest
  induction rest with
  | nil => intro pre seg c hc o ho; simp [cutsAux] at hc; subst hc; simpa using ho
  | cons op rest ih =>
    intro pre seg c hc o ho
    unfold cutsAux at hc
    by_cases hop : isSep op.1 = true
    · simp only [hop, if_true] at hc
      rcases List.mem_cons.1 hc with rfl | hc
      · exact List.mem_append_left _ ho
      · have := ih _ _ c hc o ho
        simp at this
        exact List.mem_append_right _ (List.mem_cons_of_mem _ this)
    · simp only [hop] at hc
      have := ih _ _ c hc o ho
      simpa [List.append_assoc] using this

end IsoVerif.Lemmas.C16
