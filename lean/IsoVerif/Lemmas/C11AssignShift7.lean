/-
C11 helper lemmas — translation of the assignment model: when the sentinel hypotheses hold
(finite checks for concrete reads; the genomic domain: non-negative coordinates before and after the shift).
-/
import IsoVerif.Lemmas.C11AssignShift5

namespace IsoVerif.Lemmas.C11.AssignShift
open IsoVerif.Gen IsoVerif.Model IsoVerif.Model.C01 IsoVerif.Model.C11

/-- `shift_polya` raises for more fake exons than blocks: only the counts up to the read length matter -/
theorem movedSafeA_of_le (k : Int) (read : List Iv) (pos : Int)
    (h : ∀ c, c ≤ read.length → ∀ r, C01.shiftPolya read c pos = some r → r ≠ -1 ∧ r + k ≠ -1) :
    MovedSafeA k read pos := by
  intro c r hr hp
  by_cases hc : c ≤ read.length
  · exact h c hc r hr
  · exfalso
    have h1 : ¬ (c = 0 ∨ c = read.length ∨ pos = -1) := by omega
    have h2 : c > read.length := by omega
    simp [C01.shiftPolya, h1, h2] at hr

theorem movedSafeT_of_le (k : Int) (read : List Iv) (pos : Int)
    (h : ∀ c, c ≤ read.length → ∀ r, C01.shiftPolyt read c pos = some r → r ≠ -1 ∧ r + k ≠ -1) :
    MovedSafeT k read pos := by
  intro c r hr hp
  by_cases hc : c ≤ read.length
  · exact h c hc r hr
  · exfalso
    have h1 : ¬ (c = 0 ∨ c = read.length ∨ pos = -1) := by omega
    have h2 : c > read.length := by omega
    simp [C01.shiftPolyt, h1, h2] at hr

theorem movedSafeA_absent (k : Int) (read : List Iv) : MovedSafeA k read (-1) := fun _ _ _ hp => absurd rfl hp
theorem movedSafeT_absent (k : Int) (read : List Iv) : MovedSafeT k read (-1) := fun _ _ _ hp => absurd rfl hp
theorem safePos_absent (k : Int) : SafePos k (-1) := fun hp => absurd rfl hp


theorem c01_shiftPolyaLoop_ge (pos : Int) (l : List Iv) (d : Int) (hl : ∀ e ∈ l, e.1 ≤ e.2 + 1) :
    d ≤ C01.shiftPolyaLoop pos l d := by
  induction l generalizing d with
  | nil => exact Int.le_refl d
  | cons e es ih =>
    have ih' := fun d => ih d (fun x hx => hl x (List.mem_cons_of_mem _ hx))
    have he := hl e (by simp)
    simp only [C01.shiftPolyaLoop]
    split
    · exact ih' d
    · split
      · have := ih' (d + (pos - e.1)); omega
      · have := ih' (d + interval_len e); simp only [interval_len] at this ⊢; omega

theorem movedSafeA_of_nonneg (k : Int) (read : List Iv) (pos : Int)
    (hr : ∀ b ∈ read, 0 ≤ b.1 ∧ b.1 ≤ b.2 ∧ 0 ≤ b.1 + k) (hp : pos = -1 ∨ (0 ≤ pos ∧ 0 ≤ pos + k)) :
    MovedSafeA k read pos := by
  intro c r h hne
  have hpos : 0 ≤ pos ∧ 0 ≤ pos + k := by
    rcases hp with h1 | h1
    · exact absurd h1 hne
    · exact h1
  unfold C01.shiftPolya at h
  split at h
  · obtain rfl := Option.some.inj h; omega
  · split at h
    · cases h
    · split at h
      · cases h
      · rename_i b hb
        obtain rfl := Option.some.inj h
        have hbm := hr b (pyGet?_mem hb)
        have hloop := c01_shiftPolyaLoop_ge pos (read.reverse.take c) 0 (by
          intro e he
          have := hr e (List.mem_reverse.mp (List.mem_of_mem_take he))
          omega)
        omega

/-- the loop of `shift_polyt` over sorted disjoint blocks never counts more than the distance from the position to the
    end of the last block it visited (`X` = end of the last counted block) -/
theorem c01_shiftPolytLoop_bound (pos B : Int) (l : List Iv) (d X : Int)
    (hsd : l.Pairwise (fun a b => a.2 < b.1)) (hwf : ∀ e ∈ l, e.1 ≤ e.2) (hB : ∀ e ∈ l, e.2 < B)
    (hd : d = 0 ∨ (0 < d ∧ d ≤ X - pos ∧ (∀ e ∈ l, X < e.1) ∧ X < B)) :
    C01.shiftPolytLoop pos l d = 0 ∨
      (0 < C01.shiftPolytLoop pos l d ∧ C01.shiftPolytLoop pos l d ≤ B - 1 - pos) := by
  induction l generalizing d X with
  | nil =>
    simp only [C01.shiftPolytLoop]
    rcases hd with h | h
    · exact Or.inl h
    · right; omega
  | cons e es ih =>
    have hp := List.pairwise_cons.mp hsd
    have hwf' : ∀ x ∈ es, x.1 ≤ x.2 := fun x hx => hwf x (List.mem_cons_of_mem _ hx)
    have hB' : ∀ x ∈ es, x.2 < B := fun x hx => hB x (List.mem_cons_of_mem _ hx)
    have he := hwf e (by simp)
    have heB := hB e (by simp)
    simp only [C01.shiftPolytLoop]
    split
    · rename_i hlt
      rcases hd with h | h
      · exact ih d X hp.2 hwf' hB' (Or.inl h)
      · exfalso
        have := h.2.2.1 e (by simp)
        omega
    · rename_i hge
      split
      · rename_i hd0
        subst hd0
        by_cases hz : e.2 - pos = 0
        · have : (0 : Int) + (e.2 - pos) = 0 := by omega
          rw [this]
          exact ih 0 X hp.2 hwf' hB' (Or.inl rfl)
        · exact ih (0 + (e.2 - pos)) e.2 hp.2 hwf' hB'
            (Or.inr ⟨by omega, by omega, fun x hx => hp.1 x hx, heB⟩)
      · rename_i hd0
        rcases hd with h | h
        · exact absurd h hd0
        · have hX := h.2.2.1 e (by simp)
          exact ih (d + interval_len e) e.2 hp.2 hwf' hB'
            (Or.inr ⟨by simp only [interval_len]; omega, by simp only [interval_len]; omega,
              fun x hx => hp.1 x hx, heB⟩)

theorem movedSafeT_of_nonneg (k : Int) (read : List Iv) (pos : Int)
    (hr : ∀ b ∈ read, 0 ≤ b.1 ∧ b.1 ≤ b.2 ∧ 0 ≤ b.1 + k) (hs : read.Pairwise (fun a b => a.2 < b.1))
    (hp : pos = -1 ∨ (0 ≤ pos ∧ 0 ≤ pos + k)) :
    MovedSafeT k read pos := by
  intro c r h hne
  have hpos : 0 ≤ pos ∧ 0 ≤ pos + k := by
    rcases hp with h1 | h1
    · exact absurd h1 hne
    · exact h1
  unfold C01.shiftPolyt at h
  split at h
  · obtain rfl := Option.some.inj h; omega
  · split at h
    · cases h
    · split at h
      · cases h
      · rename_i b hb
        obtain rfl := Option.some.inj h
        have hbm := hr b (List.mem_of_getElem? hb)
        have hbound := c01_shiftPolytLoop_bound pos b.1 (read.take c) 0 0
          (List.Pairwise.sublist (List.take_sublist c read) hs)
          (fun e he => (hr e (List.mem_of_mem_take he)).2.1)
          (pairwise_take_lt _ read c b hs hb) (Or.inl rfl)
        omega

/-- the natural domain of the property: annotation and read at non-negative coordinates before and after the shift,
    well-formed exons, sorted disjoint read blocks, polyA / polyT positions absent or non-negative -/
structure Genomic (k : Int) (ms : List Isoform) (blocks : List Iv) (pa : PolyA) : Prop where
  exons : ∀ m ∈ ms, ∀ e ∈ m.exons, 0 ≤ e.1 ∧ e.1 ≤ e.2 ∧ 0 ≤ e.1 + k
  readBlocks : ∀ b ∈ blocks, 0 ≤ b.1 ∧ b.1 ≤ b.2 ∧ 0 ≤ b.1 + k
  readSorted : blocks.Pairwise (fun a b => a.2 < b.1)
  polya : ∀ x ∈ [pa.extA, pa.extT, pa.intA, pa.intT], x = -1 ∨ (0 ≤ x ∧ 0 ≤ x + k)

theorem safePos_of_nonneg (k x : Int) (h : x = -1 ∨ (0 ≤ x ∧ 0 ≤ x + k)) : SafePos k x := by
  intro hne
  rcases h with h | h
  · exact absurd h hne
  · omega

theorem noSentinel_of_genomic (k : Int) (ms : List Isoform) (blocks : List Iv) (pa : PolyA)
    (h : Genomic k ms blocks pa) : NoSentinel k ms blocks pa := by
  have hA := h.polya pa.extA (by simp)
  have hT := h.polya pa.extT (by simp)
  have hIA := h.polya pa.intA (by simp)
  have hIT := h.polya pa.intT (by simp)
  refine ⟨?_, safePos_of_nonneg k _ hA, safePos_of_nonneg k _ hT, ?_, ?_⟩
  · intro m hm e he
    have := h.exons m hm e he
    omega
  · intro m hm _
    refine ⟨safePos_of_nonneg k _ hA, safePos_of_nonneg k _ hIA, ?_, movedSafeA_of_nonneg k blocks _ h.readBlocks hA,
      movedSafeA_of_nonneg k blocks _ h.readBlocks hIA⟩
    intro e he
    have := h.exons m hm e (List.mem_of_getLast? he)
    omega
  · intro m hm _
    refine ⟨safePos_of_nonneg k _ hT, safePos_of_nonneg k _ hIT, ?_, movedSafeT_of_nonneg k blocks _ h.readBlocks h.readSorted hT,
      movedSafeT_of_nonneg k blocks _ h.readBlocks h.readSorted hIT⟩
    intro e he
    have := h.exons m hm e (List.mem_of_head? he)
    omega

end IsoVerif.Lemmas.C11.AssignShift
