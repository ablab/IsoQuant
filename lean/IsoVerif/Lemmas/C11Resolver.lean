/-
C11 helper lemmas — translation `x ↦ x + k` of Model/Resolver.lean (C08): every step of `MultimapResolver.resolve`
commutes with `shiftRec k` (start, end and gene region of every record shifted; everything else kept), and the
loader / graph-input functions commute with the shift of the introns.  The `if … else if …` cascades of the selectors
are not taken apart: the lemmas of the branches rewrite under them and `apply_ite` pushes the shift through.
-/
import IsoVerif.Model.Resolver
import IsoVerif.Lemmas.Resolver
import IsoVerif.Model.C11SymGraph
import IsoVerif.Lemmas.C11Shift
import IsoVerif.Lemmas.AssocList
import IsoVerif.Lemmas.MapComm

namespace IsoVerif.Lemmas.C11.ResolverShift
open IsoVerif.Lemmas IsoVerif.Lemmas.C11 IsoVerif.Lemmas.MapComm
open IsoVerif.Gen IsoVerif.Model IsoVerif.Model.C11 IsoVerif.Model.Resolver

@[simp] theorem shiftRec_aid (k : Int) (r : Rec) : (shiftRec k r).aid = r.aid := rfl
@[simp] theorem shiftRec_readId (k : Int) (r : Rec) : (shiftRec k r).readId = r.readId := rfl
@[simp] theorem shiftRec_chr (k : Int) (r : Rec) : (shiftRec k r).chr = r.chr := rfl
@[simp] theorem shiftRec_start (k : Int) (r : Rec) : (shiftRec k r).start = r.start + k := rfl
@[simp] theorem shiftRec_stop (k : Int) (r : Rec) : (shiftRec k r).stop = r.stop + k := rfl
@[simp] theorem shiftRec_region (k : Int) (r : Rec) : (shiftRec k r).region = shiftIv k r.region := rfl
@[simp] theorem shiftRec_multimapper (k : Int) (r : Rec) : (shiftRec k r).multimapper = r.multimapper := rfl
@[simp] theorem shiftRec_polyA (k : Int) (r : Rec) : (shiftRec k r).polyA = r.polyA := rfl
@[simp] theorem shiftRec_atype (k : Int) (r : Rec) : (shiftRec k r).atype = r.atype := rfl
@[simp] theorem shiftRec_gtype (k : Int) (r : Rec) : (shiftRec k r).gtype = r.gtype := rfl
@[simp] theorem shiftRec_penalty (k : Int) (r : Rec) : (shiftRec k r).penalty = r.penalty := rfl
@[simp] theorem shiftRec_isoforms (k : Int) (r : Rec) : (shiftRec k r).isoforms = r.isoforms := rfl
@[simp] theorem shiftRec_genes (k : Int) (r : Rec) : (shiftRec k r).genes = r.genes := rfl
@[simp] theorem shiftIRec_fst (k : Int) (x : IRec) : (shiftIRec k x).1 = shiftRec k x.1 := rfl
@[simp] theorem shiftIRec_snd (k : Int) (x : IRec) : (shiftIRec k x).2 = x.2 := rfl

theorem shiftRec_zero (r : Rec) : shiftRec 0 r = r := by
  cases r; simp [shiftRec, shiftIv]

theorem shiftRec_add (j k : Int) (r : Rec) : shiftRec j (shiftRec k r) = shiftRec (k + j) r := by
  cases r; simp only [shiftRec, shiftIv, Rec.mk.injEq, Prod.mk.injEq, true_and, and_true]; omega

/-! ## `__eq__`, `find_duplicates` -/

theorem add_beq_add (a b k : Int) : (a + k == b + k) = (a == b) := by
  rw [Bool.eq_iff_iff]; simp only [beq_iff_eq, Int.add_left_inj]

theorem recEq_shift (k : Int) (a b : Rec) : recEq (shiftRec k a) (shiftRec k b) = recEq a b := by
  simp only [recEq, shiftRec_readId, shiftRec_chr, shiftRec_start, shiftRec_stop, shiftRec_isoforms, add_beq_add]

theorem findDuplicates_shift (k : Int) (keep : List IRec) :
    findDuplicates (keep.map (shiftIRec k)) = (findDuplicates keep).map (shiftIRec k) := by
  unfold findDuplicates
  exact Resolver.firstWins_map (shiftIRec k) _ _ (fun a b => by simp only [shiftIRec_fst, recEq_shift]) keep

/-! ## `filter_assignments` -/

theorem suspend_shift (k : Int) (r : Rec) : suspend (shiftRec k r) = shiftRec k (suspend r) := rfl

theorem flag_shift (k : Int) (ct cg : Bool) (r : Rec) : flag ct cg (shiftRec k r) = shiftRec k (flag ct cg r) := by
  cases ct <;> cases cg <;> rfl

theorem zipIdx_shift (k : Int) (l : List Rec) (n : Nat) :
    (l.map (shiftRec k)).zipIdx n = (l.zipIdx n).map (shiftIRec k) :=
  List.zipIdx_map

theorem map_snd_shiftIRec (k : Int) (kept : List IRec) : (kept.map (shiftIRec k)).map (·.2) = kept.map (·.2) := by
  simp only [List.map_map]; rfl

theorem applyKeep_shift (k : Int) (l : List Rec) (kept : List IRec) :
    applyKeep (l.map (shiftRec k)) (kept.map (shiftIRec k)) = (applyKeep l kept).map (shiftRec k) := by
  simp only [applyKeep, List.flatMap_map, shiftIRec_fst, shiftRec_isoforms, shiftRec_genes, zipIdx_shift, List.map_map,
    List.length_map]
  apply List.map_congr_left
  intro x _
  simp only [Function.comp_def, shiftIRec_fst, shiftIRec_snd, apply_ite (shiftRec k), flag_shift, suspend_shift]

theorem filterAssignments_shift (k : Int) (l : List Rec) (keep : List IRec) :
    filterAssignments (l.map (shiftRec k)) (keep.map (shiftIRec k)) = (filterAssignments l keep).map (shiftRec k) := by
  simp only [filterAssignments, findDuplicates_shift, applyKeep_shift]

theorem isInc_shift (k : Int) (r : Rec) : isInc (shiftRec k r) = isInc r := rfl
theorem isCons_shift (k : Int) (r : Rec) : isCons (shiftRec k r) = isCons r := rfl
theorem isNoninf_shift (k : Int) (r : Rec) : isNoninf (shiftRec k r) = isNoninf r := rfl
theorem isPrimaryUnique_shift (k : Int) (r : Rec) : isPrimaryUnique (shiftRec k r) = isPrimaryUnique r := rfl
theorem isPrimaryInc_shift (k : Int) (r : Rec) : isPrimaryInc (shiftRec k r) = isPrimaryInc r := rfl

theorem classFilter_shift (k : Int) (p : Rec → Bool) (hp : ∀ r, p (shiftRec k r) = p r) (l : List Rec) :
    (l.map (shiftRec k)).zipIdx.filter (fun x => p x.1) = (l.zipIdx.filter (fun x => p x.1)).map (shiftIRec k) := by
  rw [zipIdx_shift, List.filter_map]
  congr 1
  simp only [Function.comp_def, shiftIRec_fst, hp]

theorem classPU_shift (k : Int) (l : List Rec) : classPU (l.map (shiftRec k)) = (classPU l).map (shiftIRec k) :=
  classFilter_shift k isPrimaryUnique (isPrimaryUnique_shift k) l
theorem classCons_shift (k : Int) (l : List Rec) : classCons (l.map (shiftRec k)) = (classCons l).map (shiftIRec k) :=
  classFilter_shift k isCons (isCons_shift k) l
theorem classPInc_shift (k : Int) (l : List Rec) : classPInc (l.map (shiftRec k)) = (classPInc l).map (shiftIRec k) :=
  classFilter_shift k isPrimaryInc (isPrimaryInc_shift k) l
theorem classInc_shift (k : Int) (l : List Rec) : classInc (l.map (shiftRec k)) = (classInc l).map (shiftIRec k) :=
  classFilter_shift k isInc (isInc_shift k) l
theorem classNon_shift (k : Int) (l : List Rec) : classNon (l.map (shiftRec k)) = (classNon l).map (shiftIRec k) :=
  classFilter_shift k isNoninf (isNoninf_shift k) l

/-! ## `select_best_inconsistent` -/

theorem minPenalty_shift (k : Int) (first : Int) (rest : List IRec) :
    minPenalty first (rest.map (shiftIRec k)) = minPenalty first rest := by
  unfold minPenalty
  rw [List.foldl_map]
  rfl

theorem bestInconsistent_shift (k : Int) (inc : List IRec) :
    bestInconsistent (inc.map (shiftIRec k)) = (bestInconsistent inc).map (shiftIRec k) := by
  match inc with
  | [] => rfl
  | [a] => rfl
  | a :: b :: rest =>
    have h := minPenalty_shift k a.1.penalty (b :: rest)
    simp only [List.map_cons] at h
    simp only [List.map_cons, bestInconsistent, shiftIRec_fst, shiftRec_penalty, h]
    rw [← List.map_cons, ← List.map_cons, List.filter_map]
    rfl

/-! ## `select_noninformative` -/

theorem overlapLen_shift (k : Int) (r : Rec) : overlapLen (shiftRec k r) = overlapLen r := by
  simp only [overlapLen, intersection_len, shiftRec_region, shiftRec_start, shiftRec_stop, shiftIv_fst, shiftIv_snd,
    Int.min_add_right, Int.max_add_right, Int.add_sub_add_right]

theorem maxOverlap_shift (k : Int) (non : List IRec) : maxOverlap (non.map (shiftIRec k)) = maxOverlap non := by
  simp only [maxOverlap, List.foldl_map, shiftIRec_fst, overlapLen_shift]

/-- lexicographic `<` on lists: a common head shift and an order-isomorphic tail -/
theorem tieKey_lt_shift (k : Int) (x y : Rec) :
    tieKey (shiftRec k x) < tieKey (shiftRec k y) ↔ tieKey x < tieKey y := by
  simp only [tieKey, List.cons_append, List.nil_append, List.cons_lt_cons_iff, shiftRec_region, shiftRec_chr,
    shiftRec_start, shiftRec_stop, shiftRec_isoforms, shiftIv_fst, Int.add_lt_add_iff_right, Int.add_left_inj]

theorem pickBest_shift (k : Int) (m : Int) (b : Option IRec) (non : List IRec) :
    pickBest m (b.map (shiftIRec k)) (non.map (shiftIRec k)) = (pickBest m b non).map (shiftIRec k) := by
  induction non generalizing b with
  | nil => cases b <;> rfl
  | cons x rest ih =>
    cases b <;>
      simp only [Option.map_none, Option.map_some, List.map_cons, pickBest, shiftIRec_fst, overlapLen_shift,
        tieKey_lt_shift, apply_ite (Option.map (shiftIRec k)), ← ih]

theorem pickBestBuggy_shift (k : Int) (m : Int) (b : Option IRec) (non : List IRec) :
    pickBestBuggy m (b.map (shiftIRec k)) (non.map (shiftIRec k)) = (pickBestBuggy m b non).map (shiftIRec k) := by
  induction non generalizing b with
  | nil => cases b <;> rfl
  | cons x rest ih =>
    cases b <;>
      simp only [Option.map_none, Option.map_some, List.map_cons, pickBestBuggy, shiftIRec_fst, overlapLen_shift,
        shiftRec_region, shiftIv_fst, Int.add_lt_add_iff_right, apply_ite (Option.map (shiftIRec k)), ← ih]

theorem bestNoninformative_shift (k : Int) (non : List IRec) :
    bestNoninformative (non.map (shiftIRec k)) = (bestNoninformative non).map (shiftIRec k) := by
  simp only [bestNoninformative, maxOverlap_shift]
  exact pickBest_shift k _ none non

theorem bestNoninformativeBuggy_shift (k : Int) (non : List IRec) :
    bestNoninformativeBuggy (non.map (shiftIRec k)) = (bestNoninformativeBuggy non).map (shiftIRec k) := by
  simp only [bestNoninformativeBuggy, maxOverlap_shift]
  exact pickBestBuggy_shift k _ none non

theorem map_filterSingle_shift (k : Int) (l : List Rec) (o : Option IRec) :
    (o.map (shiftIRec k)).map (fun x => filterAssignments (l.map (shiftRec k)) [x])
      = (o.map (fun x => filterAssignments l [x])).map (List.map (shiftRec k)) := by
  cases o with
  | none => rfl
  | some x => exact congrArg some (filterAssignments_shift k l [x])

theorem selectNoninformative_shift (k : Int) (l : List Rec) (non : List IRec) :
    selectNoninformative (l.map (shiftRec k)) (non.map (shiftIRec k))
      = (selectNoninformative l non).map (List.map (shiftRec k)) := by
  simp only [selectNoninformative, bestNoninformative_shift, map_filterSingle_shift]

theorem selectBestInconsistent_shift (k : Int) (l : List Rec) (inc : List IRec) :
    selectBestInconsistent (l.map (shiftRec k)) (inc.map (shiftIRec k))
      = (selectBestInconsistent l inc).map (shiftRec k) := by
  simp only [selectBestInconsistent, bestInconsistent_shift, filterAssignments_shift]

/-! ## `select_best_assignment`, `merge_assignments`, `resolve` -/

theorem selectBestAssignment_shift (k : Int) (l : List Rec) :
    selectBestAssignment (l.map (shiftRec k)) = (selectBestAssignment l).map (List.map (shiftRec k)) := by
  simp only [selectBestAssignment, classPU_shift, classCons_shift, classPInc_shift, classInc_shift, classNon_shift,
    List.isEmpty_map, filterAssignments_shift, selectBestInconsistent_shift, selectNoninformative_shift,
    apply_ite (Option.map (List.map (shiftRec k))), Option.map_some, Option.map_none, List.map_take]

theorem selectBestAssignmentBuggy_shift (k : Int) (l : List Rec) :
    selectBestAssignmentBuggy (l.map (shiftRec k)) = (selectBestAssignmentBuggy l).map (List.map (shiftRec k)) := by
  simp only [selectBestAssignmentBuggy, classPU_shift, classCons_shift, classPInc_shift, classInc_shift,
    classNon_shift, List.isEmpty_map, filterAssignments_shift, selectBestInconsistent_shift, bestNoninformativeBuggy_shift,
    map_filterSingle_shift, apply_ite (Option.map (List.map (shiftRec k))), Option.map_some, Option.map_none,
    List.map_take]

theorem mergeAssignments_shift (k : Int) (l : List Rec) :
    mergeAssignments (l.map (shiftRec k)) = (mergeAssignments l).map (List.map (shiftRec k)) := by
  have h := classFilter_shift k (fun r => !(r.atype == .noninformative)) (fun _ => rfl) l
  simp only [mergeAssignments, h, List.length_map, applyKeep_shift]
  split <;> rfl

theorem resolve_shift (k : Int) (s : MultimapResolvingStrategy) (l : List Rec) :
    resolve s (l.map (shiftRec k)) = (resolve s l).map (List.map (shiftRec k)) := by
  simp only [resolve, List.length_map]
  split
  · rfl
  · cases s with
    | ignore_multimapper => simp only [Option.map_some, List.map_map]; rfl
    | merge => exact mergeAssignments_shift k l
    | take_best => exact selectBestAssignment_shift k l

theorem candidates_shift (k : Int) (l : List Rec) :
    candidates (l.map (shiftRec k)) = (candidates l).map (List.map (shiftIRec k)) := by
  simp only [candidates, classPU_shift, classCons_shift, classPInc_shift, classInc_shift, classNon_shift,
    List.isEmpty_map, bestInconsistent_shift, bestNoninformative_shift, apply_ite (Option.map (List.map (shiftIRec k))),
    Option.map_some, Option.map_none, Option.map_map]
  rfl

theorem retained_shift (k : Int) (out : List Rec) :
    retained (out.map (shiftRec k)) = (retained out).map (shiftRec k) := by
  unfold retained
  rw [List.filter_map]
  rfl

@[simp] theorem shiftFull_introns (k : Int) (f : Full) : (shiftFull k f).introns = shiftL k f.introns := rfl

theorem shiftDict_lookup (k : Int) (d : List (Nat × List Rec)) (rid : Nat) :
    (shiftDict k d).lookup rid = (d.lookup rid).map (shiftRecs k) :=
  lookup_map id (fun _ _ h => h) (shiftRecs k) d rid

theorem lookupVerdict_shift (k : Int) (vs : List Rec) (ra : Full) :
    lookupVerdict (shiftRecs k vs) (shiftFull k ra) = (lookupVerdict vs ra).map (shiftRec k) :=
  foldl_map_comm (Option.map (shiftRec k)) (shiftRec k) _ _ (fun acc a => by
    show (if (a.aid == ra.aid && a.chr == ra.chr) = true then _ else _) = _
    split <;> rfl) vs none

theorem loadOne_shift (k : Int) (dict : List (Nat × List Rec)) (ra : Full) :
    loadOne (shiftDict k dict) (shiftFull k ra) = (loadOne dict ra).map (shiftFull k) := by
  have hl := shiftDict_lookup k dict ra.readId
  unfold loadOne
  show (match (shiftDict k dict).lookup ra.readId with | none => _ | some vs => _) = _
  rw [hl]
  cases dict.lookup ra.readId with
  | none => rfl
  | some vs =>
    simp only [Option.map_some, lookupVerdict_shift]
    cases lookupVerdict vs ra with
    | none => rfl
    | some a =>
      simp only [Option.map_some, shiftRec_atype]
      by_cases h : (a.atype == ReadAssignmentType.suspended) = true
      · simp only [h, ↓reduceIte]; rfl
      · simp only [h]; rfl

theorem dupVerdict_shift (k : Int) (vs : List Rec) (ra : Full) :
    dupVerdict (shiftRecs k vs) (shiftFull k ra) = dupVerdict vs ra := by
  unfold dupVerdict shiftRecs
  rw [List.filter_map, List.length_map]
  rfl

theorem raisesFor_shift (k : Int) (dict : List (Nat × List Rec)) (ra : Full) :
    raisesFor (shiftDict k dict) (shiftFull k ra) = raisesFor dict ra := by
  have hl := shiftDict_lookup k dict ra.readId
  unfold raisesFor
  show (match (shiftDict k dict).lookup ra.readId with | none => _ | some vs => _) = _
  rw [hl]
  cases dict.lookup ra.readId with
  | none => rfl
  | some vs => exact dupVerdict_shift k vs ra

theorem loadCore_shift (k : Int) (dict : List (Nat × List Rec)) (ras : List Full) :
    loadCore (shiftDict k dict) (ras.map (shiftFull k)) = (loadCore dict ras).map (shiftFull k) := by
  simp only [loadCore, List.filterMap_map, List.map_filterMap, Function.comp_def, loadOne_shift]

theorem shiftL_contains (k : Int) (d : List Iv) (i : Iv) : (shiftL k d).contains (shiftIv k i) = d.contains i := by
  rw [Bool.eq_iff_iff, List.contains_iff_mem, List.contains_iff_mem]
  exact mem_map_inj (shiftIv k) (fun _ _ h => shiftIv_injective k h) d i

theorem any_discarded_shift (k : Int) (d l : List Iv) :
    (shiftL k l).any (fun i => (shiftL k d).contains i) = l.any (fun i => d.contains i) := by
  simp only [shiftL, List.any_map, Function.comp_def]
  congr 1
  funext i
  exact shiftL_contains k d i

theorem zip_tail_shift (k : Int) (l : List Iv) :
    (shiftL k l).zip (shiftL k l).tail = (l.zip l.tail).map (mapPair (shiftIv k)) := by
  simp only [shiftL, ← List.map_tail, List.zip_map]
  rfl

end IsoVerif.Lemmas.C11.ResolverShift
