/-
C11 helper lemmas — Model/PolyA.lean (C16: `count_polya_exons`, `count_polyt_exons`, `shift_polya`, `shift_polyt`,
`PolyAFixer.correct_read_info`, `AlignmentInfo.add_polya_info`) under translation and reflection.
(The C16 definitions are referred to as `C16.f`; Model/C11Polya.lean has C11-local copies of four of them, whose loop
lemmas are at the end of this file.)  Under reflection the polyT function of the mirrored read is the polyA function of
the read; the converse direction is that statement applied to the mirrored read.  `trimPolyA` / `trimPolyT` are compared
on a state whose position fields are those of the original `PolyAInfo` `o` (`shiftAInfoBy o`, `mirrorAInfoBy o`).
-/
import IsoVerif.Model.PolyA
import IsoVerif.Model.C11SymPolyA
import IsoVerif.Lemmas.PolyA
import IsoVerif.Lemmas.C11Shift
import IsoVerif.Lemmas.C11Mirror
import IsoVerif.Model.C11Polya

namespace IsoVerif.Lemmas.C11
open IsoVerif.Gen IsoVerif.Model IsoVerif.Model.C11
open IsoVerif.Lemmas.C16 (flipIv countPolytLoop_flip shiftDistT_flip countPolytLoop_flipAt shiftDistT_flipAt)

/-- a real position is not moved onto the sentinel.  One notion under several names: `NoColl` is word for word `SafePos`
    (Lemmas/C11AssignShift.lean, with `shiftPos_of_ne`); `NoCollM` is word for word `NoCollM` of Props/C11Strand.lean and
    `PosOK` of Model/C11SymAssignMirror.lean; Props/C11Profiles.lean, Props/C11Polya.lean and Lemmas/C11MirrorTruncate.lean write
    the two bodies out as bare hypotheses. -/
def NoColl (k p : Int) : Prop := p ≠ -1 → p + k ≠ -1
def NoCollM (L p : Int) : Prop := p ≠ -1 → L + 1 - p ≠ -1

theorem shiftPos_eq_iff {k p : Int} (h : NoColl k p) : shiftPos k p = -1 ↔ p = -1 := by
  unfold shiftPos; split <;> simp_all [NoColl]

theorem mirrorPos_eq_iff {L p : Int} (h : NoCollM L p) : mirrorPos L p = -1 ↔ p = -1 := by
  unfold mirrorPos; split <;> simp_all [NoCollM]

/-! ## the clamp of the repaired `add_polya_info` (external position cut down to the internal one) commutes with
    both transformations: the test `both_found` reads the positions BEFORE the shift -/

/-- the clamp under a map `ψ` of the found positions (an absent one, `o = -1`, is kept): `op` is `min` for polyA and `max`
    for polyT; a translation keeps each, a reflection exchanges the two -/
theorem clamp_comm (op op' : Int → Int → Int) (ψ : Int → Int) (hψ : ∀ a b, op' (ψ a) (ψ b) = ψ (op a b))
    (oi oe oi' oe' ia ea : Int) (hi : oi' = -1 ↔ oi = -1) (he : oe' = -1 ↔ oe = -1) :
    (if oi' ≠ -1 ∧ oe' ≠ -1 then op' (if oe = -1 then ea else ψ ea) (if oi = -1 then ia else ψ ia)
      else (if oe = -1 then ea else ψ ea))
      = if oe = -1 then (if oi ≠ -1 ∧ oe ≠ -1 then op ea ia else ea) else ψ (if oi ≠ -1 ∧ oe ≠ -1 then op ea ia else ea) := by
  simp only [ne_eq, hi, he]
  by_cases h1 : oi = -1 <;> by_cases h2 : oe = -1 <;> simp only [h1, h2, not_true_eq_false, not_false_eq_true,
    and_self, and_false, false_and, if_true, if_false, hψ]

theorem pa16_clampA_shift (k oi oe ia ea : Int) (h1 : NoColl k oi) (h2 : NoColl k oe) :
    C16.clampA (shiftPos k oi) (shiftPos k oe) (shiftPosBy oi k ia) (shiftPosBy oe k ea) =
      shiftPosBy oe k (C16.clampA oi oe ia ea) :=
  clamp_comm min min (· + k) (fun a b => Int.min_add_right a b k) oi oe _ _ ia ea (shiftPos_eq_iff h1) (shiftPos_eq_iff h2)

theorem pa16_clampT_shift (k oi oe ia ea : Int) (h1 : NoColl k oi) (h2 : NoColl k oe) :
    C16.clampT (shiftPos k oi) (shiftPos k oe) (shiftPosBy oi k ia) (shiftPosBy oe k ea) =
      shiftPosBy oe k (C16.clampT oi oe ia ea) :=
  clamp_comm max max (· + k) (fun a b => Int.max_add_right a b k) oi oe _ _ ia ea (shiftPos_eq_iff h1) (shiftPos_eq_iff h2)

theorem pa16_clampA_mirror (L oi oe ia ea : Int) (h1 : NoCollM L oi) (h2 : NoCollM L oe) :
    C16.clampA (mirrorPos L oi) (mirrorPos L oe) (mirrorPosBy oi L ia) (mirrorPosBy oe L ea) =
      mirrorPosBy oe L (C16.clampT oi oe ia ea) :=
  clamp_comm max min (L + 1 - ·) (fun a b => by omega) oi oe _ _ ia ea (mirrorPos_eq_iff h1) (mirrorPos_eq_iff h2)

theorem pa16_clampT_mirror (L oi oe ia ea : Int) (h1 : NoCollM L oi) (h2 : NoCollM L oe) :
    C16.clampT (mirrorPos L oi) (mirrorPos L oe) (mirrorPosBy oi L ia) (mirrorPosBy oe L ea) =
      mirrorPosBy oe L (C16.clampA oi oe ia ea) :=
  clamp_comm min max (L + 1 - ·) (fun a b => by omega) oi oe _ _ ia ea (mirrorPos_eq_iff h1) (mirrorPos_eq_iff h2)

theorem pa16_isPolyaExon_shift (mf pos k : Int) (e : Iv) :
    C16.isPolyaExon mf (pos + k) (shiftIv k e) = C16.isPolyaExon mf pos e := by
  simp only [C16.isPolyaExon, shiftIv_fst, shiftIv_snd, Int.add_sub_add_right]

theorem pa16_countPolyaLoop_shift (mf pos k : Int) (l : List Iv) (c : Int) :
    C16.countPolyaLoop mf (pos + k) c (shiftL k l) = C16.countPolyaLoop mf pos c l := by
  induction l generalizing c with
  | nil => rfl
  | cons e es ih =>
    simp only [shiftL_cons, C16.countPolyaLoop, pa16_isPolyaExon_shift, ih, shiftIv_snd, Int.add_le_add_iff_right]

theorem pa16_shiftDistA_shift (pos k : Int) (l : List Iv) (d : Int) :
    C16.shiftDistA (pos + k) d (shiftL k l) = C16.shiftDistA pos d l := by
  induction l generalizing d with
  | nil => rfl
  | cons e es ih =>
    simp only [shiftL_cons, C16.shiftDistA, ih, shiftIv_fst, interval_len, shiftIv_snd, gt_iff_lt,
      Int.add_lt_add_iff_right, Int.add_sub_add_right]

/-! The polyT loops are the polyA loops on the intervals read backwards (`flipIv`, `flipAt c`, Lemmas/PolyA.lean).  Reading
backwards turns a translation by `k` into one by `-k`; the reflection `mirrorIv L` is reading backwards about the axis `L + 1`
(`flipAt (L + 1)`, by `rfl`), so the reflection laws are the flip laws of Lemmas/PolyA.lean at that axis. -/

theorem map_flipIv_shiftL (k : Int) (l : List Iv) : (shiftL k l).map flipIv = shiftL (-k) (l.map flipIv) := by
  simp only [shiftL, List.map_map, Function.comp_def, flipIv, shiftIv, Int.neg_add]

theorem pa16_countPolytLoop_shift (mf pos k : Int) (l : List Iv) (c : Int) :
    C16.countPolytLoop mf (pos + k) c (shiftL k l) = C16.countPolytLoop mf pos c l := by
  rw [countPolytLoop_flip, countPolytLoop_flip, map_flipIv_shiftL, Int.neg_add, pa16_countPolyaLoop_shift]

theorem pa16_shiftDistT_shift (pos k : Int) (l : List Iv) (d : Int) :
    C16.shiftDistT (pos + k) d (shiftL k l) = C16.shiftDistT pos d l := by
  rw [shiftDistT_flip, shiftDistT_flip, map_flipIv_shiftL, Int.neg_add, pa16_shiftDistA_shift]

theorem pa16_countPolytLoop_mirror (mf pos L : Int) (l : List Iv) (c : Int) :
    C16.countPolytLoop mf (L + 1 - pos) c (l.map (mirrorIv L)) = C16.countPolyaLoop mf pos c l := by
  rw [countPolytLoop_flipAt mf _ (L + 1), Int.sub_sub_self]
  exact congrArg _ (map_mirrorIv_mirrorIv L l)

theorem pa16_shiftDistT_mirror (pos L : Int) (l : List Iv) (d : Int) :
    C16.shiftDistT (L + 1 - pos) d (l.map (mirrorIv L)) = C16.shiftDistA pos d l := by
  rw [shiftDistT_flipAt _ (L + 1), Int.sub_sub_self]
  exact congrArg _ (map_mirrorIv_mirrorIv L l)

theorem pa16_countPolyaLoop_mirror (mf pos L : Int) (l : List Iv) (c : Int) :
    C16.countPolyaLoop mf (L + 1 - pos) c (l.map (mirrorIv L)) = C16.countPolytLoop mf pos c l := by
  rw [← pa16_countPolytLoop_mirror mf _ L, map_mirrorIv_mirrorIv, Int.sub_sub_self]

theorem pa16_shiftDistA_mirror (pos L : Int) (l : List Iv) (d : Int) :
    C16.shiftDistA (L + 1 - pos) d (l.map (mirrorIv L)) = C16.shiftDistT pos d l := by
  rw [← pa16_shiftDistT_mirror _ L, map_mirrorIv_mirrorIv, Int.sub_sub_self]

theorem pa16_countPolyaExons_shift (mf k : Int) (l : List Iv) (pos : Int) (h : NoColl k pos) :
    C16.countPolyaExons mf (shiftL k l) (shiftPos k pos) = C16.countPolyaExons mf l pos := by
  simp only [C16.countPolyaExons, shiftPos]
  by_cases c : pos = -1
  · simp [c]
  · simp only [c, if_false, h c, ← shiftL_reverse, pa16_countPolyaLoop_shift]

theorem pa16_countPolytExons_shift (mf k : Int) (l : List Iv) (pos : Int) (h : NoColl k pos) :
    C16.countPolytExons mf (shiftL k l) (shiftPos k pos) = C16.countPolytExons mf l pos := by
  simp only [C16.countPolytExons, shiftPos]
  by_cases c : pos = -1
  · simp [c]
  · simp only [c, if_false, h c, pa16_countPolytLoop_shift]

theorem pa16_correctReadInfo_shift (mf k : Int) (l : List Iv) (i : C16.PolyAInfo)
    (ha : NoColl k i.internalPolyA) (ht : NoColl k i.internalPolyT) :
    C16.correctReadInfo mf (shiftL k l) (shiftInfo k i) = C16.correctReadInfo mf l i := by
  simp only [C16.correctReadInfo, shiftL_length, shiftInfo, pa16_countPolyaExons_shift mf k l _ ha,
    pa16_countPolytExons_shift mf k l _ ht]

theorem shiftPosBy_of_ne (o k p : Int) (h : o ≠ -1) : shiftPosBy o k p = p + k := if_neg h

theorem pa16_shiftPolya_shift (k : Int) (l : List Iv) (c pos : Int) (h : NoColl k pos) :
    C16.shiftPolya (shiftL k l) c (shiftPos k pos) = (C16.shiftPolya l c pos).map (shiftPosBy pos k) := by
  by_cases hp : pos = -1
  · simp [C16.shiftPolya, shiftPos, shiftPosBy, hp]
  · simp only [C16.shiftPolya, shiftL_length, shiftPos, hp, h hp, if_false, or_false, pyGet?_shiftL,
      ← shiftL_reverse, ← shiftL_take, pa16_shiftDistA_shift, apply_ite (Option.map (shiftPosBy pos k)), Option.map_some,
      Option.map_none, shiftPosBy_of_ne _ _ _ hp]
    cases pyGet? l (-c - 1) with
    | none => rfl
    | some x => simp only [Option.map_some, Option.bind_eq_bind, Option.bind_some, shiftIv_snd, Int.add_right_comm,
        shiftPosBy_of_ne _ _ _ hp]

theorem pa16_shiftPolyt_shift (k : Int) (l : List Iv) (c pos : Int) (h : NoColl k pos) :
    C16.shiftPolyt (shiftL k l) c (shiftPos k pos) = (C16.shiftPolyt l c pos).map (shiftPosBy pos k) := by
  by_cases hp : pos = -1
  · simp [C16.shiftPolyt, shiftPos, shiftPosBy, hp]
  · simp only [C16.shiftPolyt, shiftL_length, shiftPos, hp, h hp, if_false, or_false, pyGet?_shiftL,
      ← shiftL_take, pa16_shiftDistT_shift, apply_ite (Option.map (shiftPosBy pos k)), Option.map_some,
      Option.map_none, shiftPosBy_of_ne _ _ _ hp]
    cases pyGet? l c with
    | none => rfl
    | some x =>
      have e (d : Int) : x.1 + k - d = x.1 - d + k := by omega
      simp only [Option.map_some, Option.bind_eq_bind, Option.bind_some, shiftIv_fst, e, shiftPosBy_of_ne _ _ _ hp]

theorem shiftPosBy_self (k p : Int) : shiftPosBy p k p = shiftPos k p := by
  unfold shiftPosBy shiftPos; split <;> simp_all


theorem shiftInfoBy_self (k : Int) (i : C16.PolyAInfo) : shiftInfoBy i k i = shiftInfo k i := by
  simp [shiftInfoBy, shiftInfo, shiftPosBy_self]

theorem pa16_ainfoInit_shift (k : Int) (ex rb cb : List Iv) (i : C16.PolyAInfo) :
    C16.ainfoInit (shiftL k ex) rb cb (shiftInfo k i) = (C16.ainfoInit ex rb cb i).map (shiftAInfoBy i k) := by
  unfold C16.ainfoInit
  rw [shiftL_head?, shiftL_getLast?]
  cases ex.head? <;> cases ex.getLast? <;> simp [shiftAInfoBy, shiftInfoBy_self]

theorem pa16_trimPolyA_shift (o : C16.PolyAInfo) (k : Int) (st : C16.AInfo) (a : Int)
    (hoA : st.info.internalPolyA = o.internalPolyA) (hoE : st.info.externalPolyA = o.externalPolyA)
    (h1 : NoColl k o.internalPolyA) (h2 : NoColl k o.externalPolyA) :
    C16.trimPolyA (shiftAInfoBy o k st) a = (C16.trimPolyA st a).map (shiftAInfoBy o k) := by
  obtain ⟨ex, rb, cb, ⟨eA, eT, iA, iT⟩, ch, rs, re⟩ := st
  dsimp only at hoA hoE
  subst hoA hoE
  simp only [C16.trimPolyA, shiftAInfoBy, shiftInfoBy, shiftPosBy_self, pa16_shiftPolya_shift k ex a _ h1,
    pa16_shiftPolya_shift k ex a _ h2, apply_ite (Option.map (shiftAInfoBy o k)), Option.map_some]
  cases C16.shiftPolya ex a o.internalPolyA <;> cases C16.shiftPolya ex a o.externalPolyA <;>
    simp only [Option.map_some, Option.map_none, Option.bind_eq_bind, Option.bind_some, Option.bind_none, shiftAInfoBy,
      shiftInfoBy, shiftL_take, shiftL_length, pa16_clampA_shift k _ _ _ _ h1 h2]

theorem pa16_trimPolyT_shift (o : C16.PolyAInfo) (k : Int) (st : C16.AInfo) (t : Int)
    (hoA : st.info.internalPolyT = o.internalPolyT) (hoE : st.info.externalPolyT = o.externalPolyT)
    (h1 : NoColl k o.internalPolyT) (h2 : NoColl k o.externalPolyT) :
    C16.trimPolyT (shiftAInfoBy o k st) t = (C16.trimPolyT st t).map (shiftAInfoBy o k) := by
  obtain ⟨ex, rb, cb, ⟨eA, eT, iA, iT⟩, ch, rs, re⟩ := st
  dsimp only at hoA hoE
  subst hoA hoE
  simp only [C16.trimPolyT, shiftAInfoBy, shiftInfoBy, shiftPosBy_self, pa16_shiftPolyt_shift k ex t _ h1,
    pa16_shiftPolyt_shift k ex t _ h2, apply_ite (Option.map (shiftAInfoBy o k)), Option.map_some]
  cases C16.shiftPolyt ex t o.internalPolyT <;> cases C16.shiftPolyt ex t o.externalPolyT <;>
    simp only [Option.map_some, Option.map_none, Option.bind_eq_bind, Option.bind_some, Option.bind_none, shiftAInfoBy,
      shiftInfoBy, shiftL_drop, pa16_clampT_shift k _ _ _ _ h1 h2]

theorem pa16_refreshEnds_shift (o : C16.PolyAInfo) (k : Int) (st : C16.AInfo) :
    C16.refreshEnds (shiftAInfoBy o k st) = (C16.refreshEnds st).map (shiftAInfoBy o k) := by
  unfold C16.refreshEnds
  have e3 : (shiftAInfoBy o k st).exons = shiftL k st.exons := rfl
  have e4 : (shiftAInfoBy o k st).exonsChanged = st.exonsChanged := rfl
  rw [e3, e4, shiftL_head?, shiftL_getLast?]
  by_cases hc : st.exonsChanged = true
  · simp only [hc, if_true]
    cases st.exons.head? <;> cases st.exons.getLast? <;> simp [shiftAInfoBy]
  · simp [hc]

theorem pa16_trimPolyA_keepsT (st st1 : C16.AInfo) (a : Int) (h : C16.trimPolyA st a = some st1) :
    st1.info.internalPolyT = st.info.internalPolyT ∧ st1.info.externalPolyT = st.info.externalPolyT := by
  simp only [C16.trimPolyA] at h
  split at h
  · cases ha : C16.shiftPolya st.exons a st.info.internalPolyA <;>
      cases hb : C16.shiftPolya st.exons a st.info.externalPolyA <;>
      simp only [ha, hb, Option.bind_eq_bind, Option.bind_some, Option.bind_none, Option.some.injEq, reduceCtorEq] at h
    subst h; exact ⟨rfl, rfl⟩
  · cases h; exact ⟨rfl, rfl⟩

theorem pa16_ainfoInit_info (ex rb cb : List Iv) (i : C16.PolyAInfo) (st : C16.AInfo)
    (h : C16.ainfoInit ex rb cb i = some st) : st.info = i ∧ st.exons = ex ∧ st.readBlocks = rb ∧ st.cigarBlocks = cb := by
  unfold C16.ainfoInit at h
  cases h1 : ex.head? <;> cases h2 : ex.getLast? <;> simp [h1, h2] at h
  subst h; simp

theorem pa16_countPolytExons_mirror (mf L : Int) (l : List Iv) (pos : Int) (h : NoCollM L pos) :
    C16.countPolytExons mf (mirrorL L l) (mirrorPos L pos) = C16.countPolyaExons mf l pos := by
  simp only [C16.countPolytExons, C16.countPolyaExons, mirrorPos]
  by_cases c : pos = -1
  · simp [c]
  · simp only [c, if_false, h c, mirrorL_eq_map_reverse, pa16_countPolytLoop_mirror]

theorem pa16_countPolyaExons_mirror (mf L : Int) (l : List Iv) (pos : Int) (h : NoCollM L pos) :
    C16.countPolyaExons mf (mirrorL L l) (mirrorPos L pos) = C16.countPolytExons mf l pos := by
  simp only [C16.countPolytExons, C16.countPolyaExons, mirrorPos]
  by_cases c : pos = -1
  · simp [c]
  · simp only [c, if_false, h c, mirrorL_reverse, pa16_countPolyaLoop_mirror]

theorem pa16_clampLoop_swap : ∀ (fuel : Nat) (n a t : Int),
    C16.clampLoop fuel n t a = (C16.clampLoop fuel n a t).map swapCounts := by
  intro fuel
  induction fuel with
  | zero => intro n a t; rfl
  | succ f ih =>
    intro n a t
    simp only [C16.clampLoop]
    have : (a + t ≥ n) ↔ (t + a ≥ n) := by omega
    simp only [this]
    split
    · exact ih n (a - 1) (t - 1)
    · rfl

theorem pa16_correctReadInfo_mirror (mf L : Int) (l : List Iv) (i : C16.PolyAInfo)
    (ha : NoCollM L i.internalPolyA) (ht : NoCollM L i.internalPolyT) :
    C16.correctReadInfo mf (mirrorL L l) (mirrorInfo L i) = (C16.correctReadInfo mf l i).map swapCounts := by
  simp only [C16.correctReadInfo, mirrorL_length, mirrorInfo, pa16_countPolyaExons_mirror mf L l _ ht,
    pa16_countPolytExons_mirror mf L l _ ha]
  split
  · rfl
  · exact pa16_clampLoop_swap _ _ _ _

theorem mirrorPosBy_of_ne (o L p : Int) (h : o ≠ -1) : mirrorPosBy o L p = L + 1 - p := if_neg h

theorem pa16_shiftPolyt_mirror (L : Int) (l : List Iv) (c pos : Int) (h : NoCollM L pos) :
    C16.shiftPolyt (mirrorL L l) c (mirrorPos L pos) = (C16.shiftPolya l c pos).map (mirrorPosBy pos L) := by
  by_cases hp : pos = -1
  · simp [C16.shiftPolyt, C16.shiftPolya, mirrorPos, mirrorPosBy, hp]
  · simp only [C16.shiftPolyt, C16.shiftPolya, mirrorL_length, mirrorPos, hp, h hp, if_false, or_false]
    simp only [mirrorL_eq_map_reverse, ← List.map_take, pa16_shiftDistT_mirror, pyGet?_map, pyGet?_reverse,
      apply_ite (Option.map (mirrorPosBy pos L)), Option.map_some, Option.map_none, mirrorPosBy_of_ne _ _ _ hp]
    cases pyGet? l (-c - 1) with
    | none => rfl
    | some x =>
      have e (d : Int) : L + 1 - x.2 - d = L + 1 - (x.2 + d) := by omega
      simp only [Option.map_some, Option.bind_eq_bind, Option.bind_some, mirrorIv_fst, e, mirrorPosBy_of_ne _ _ _ hp]

theorem pa16_shiftPolya_mirror (L : Int) (l : List Iv) (c pos : Int) (h : NoCollM L pos) :
    C16.shiftPolya (mirrorL L l) c (mirrorPos L pos) = (C16.shiftPolyt l c pos).map (mirrorPosBy pos L) := by
  by_cases hp : pos = -1
  · simp [C16.shiftPolyt, C16.shiftPolya, mirrorPos, mirrorPosBy, hp]
  · have e0 : - (-c - 1) - 1 = c := by omega
    simp only [C16.shiftPolyt, C16.shiftPolya, mirrorL_length, mirrorPos, hp, h hp, if_false, or_false,
      mirrorL_reverse, ← List.map_take, pa16_shiftDistA_mirror]
    simp only [mirrorL_eq_map_reverse, pyGet?_map, pyGet?_reverse, e0,
      apply_ite (Option.map (mirrorPosBy pos L)), Option.map_some, Option.map_none, mirrorPosBy_of_ne _ _ _ hp]
    cases pyGet? l c with
    | none => rfl
    | some x =>
      have e (d : Int) : L + 1 - x.1 + d = L + 1 - (x.1 - d) := by omega
      simp only [Option.map_some, Option.bind_eq_bind, Option.bind_some, mirrorIv_snd, e, mirrorPosBy_of_ne _ _ _ hp]

theorem mirrorPosBy_self (L p : Int) : mirrorPosBy p L p = mirrorPos L p := by
  unfold mirrorPosBy mirrorPos; split <;> simp_all

theorem mirrorInfoBy_self (L : Int) (i : C16.PolyAInfo) : mirrorInfoBy i L i = mirrorInfo L i := by
  simp [mirrorInfoBy, mirrorInfo, mirrorPosBy_self]

theorem pa16_ainfoInit_mirror (L : Int) (ex rb cb : List Iv) (i : C16.PolyAInfo) :
    C16.ainfoInit (mirrorL L ex) rb.reverse cb.reverse (mirrorInfo L i) =
      (C16.ainfoInit ex rb cb i).map (mirrorAInfoBy i L) := by
  unfold C16.ainfoInit
  rw [mirrorL_head?, mirrorL_getLast?]
  cases h1 : ex.head? <;> cases h2 : ex.getLast? <;> simp [mirrorAInfoBy, mirrorInfoBy_self]

theorem mirrorL_take_sub (L : Int) (l : List Iv) (j : Nat) : (mirrorL L l).take (l.length - j) = mirrorL L (l.drop j) := by
  simp only [mirrorL]
  have := (List.reverse_drop (l := l.map (mirrorIv L)) (i := j)).symm
  simpa [List.map_drop] using this

theorem mirrorL_drop_eq (L : Int) (l : List Iv) (j : Nat) : (mirrorL L l).drop j = mirrorL L (l.take (l.length - j)) := by
  simp only [mirrorL]
  have := List.drop_reverse (xs := l.map (mirrorIv L)) (i := j)
  simpa [List.map_take] using this

theorem pa16_trimPolyA_mirror (o : C16.PolyAInfo) (L : Int) (st : C16.AInfo) (t : Int)
    (hoA : st.info.internalPolyT = o.internalPolyT) (hoE : st.info.externalPolyT = o.externalPolyT)
    (h1 : NoCollM L o.internalPolyT) (h2 : NoCollM L o.externalPolyT) :
    C16.trimPolyA (mirrorAInfoBy o L st) t = (C16.trimPolyT st t).map (mirrorAInfoBy o L) := by
  obtain ⟨ex, rb, cb, ⟨eA, eT, iA, iT⟩, ch, rs, re⟩ := st
  dsimp only at hoA hoE
  subst hoA hoE
  simp only [C16.trimPolyA, C16.trimPolyT, mirrorAInfoBy, mirrorInfoBy, mirrorPosBy_self,
    pa16_shiftPolya_mirror L ex t _ h1, pa16_shiftPolya_mirror L ex t _ h2, apply_ite (Option.map (mirrorAInfoBy o L)),
    Option.map_some]
  cases C16.shiftPolyt ex t o.internalPolyT <;> cases C16.shiftPolyt ex t o.externalPolyT <;>
    simp only [Option.map_some, Option.map_none, Option.bind_eq_bind, Option.bind_some, Option.bind_none, mirrorAInfoBy,
      mirrorInfoBy, mirrorL_take_sub, mirrorL_length, List.length_reverse, ← List.reverse_drop,
      pa16_clampA_mirror L _ _ _ _ h1 h2]

theorem pa16_trimPolyT_mirror (o : C16.PolyAInfo) (L : Int) (st : C16.AInfo) (a : Int)
    (hoA : st.info.internalPolyA = o.internalPolyA) (hoE : st.info.externalPolyA = o.externalPolyA)
    (h1 : NoCollM L o.internalPolyA) (h2 : NoCollM L o.externalPolyA) :
    C16.trimPolyT (mirrorAInfoBy o L st) a = (C16.trimPolyA st a).map (mirrorAInfoBy o L) := by
  obtain ⟨ex, rb, cb, ⟨eA, eT, iA, iT⟩, ch, rs, re⟩ := st
  dsimp only at hoA hoE
  subst hoA hoE
  simp only [C16.trimPolyA, C16.trimPolyT, mirrorAInfoBy, mirrorInfoBy, mirrorPosBy_self,
    pa16_shiftPolyt_mirror L ex a _ h1, pa16_shiftPolyt_mirror L ex a _ h2, apply_ite (Option.map (mirrorAInfoBy o L)),
    Option.map_some]
  cases C16.shiftPolya ex a o.internalPolyA <;> cases C16.shiftPolya ex a o.externalPolyA <;>
    simp only [Option.map_some, Option.map_none, Option.bind_eq_bind, Option.bind_some, Option.bind_none, mirrorAInfoBy,
      mirrorInfoBy, mirrorL_drop_eq, List.drop_reverse, pa16_clampT_mirror L _ _ _ _ h1 h2]

theorem pa16_refreshEnds_mirror (o : C16.PolyAInfo) (L : Int) (st : C16.AInfo) :
    C16.refreshEnds (mirrorAInfoBy o L st) = (C16.refreshEnds st).map (mirrorAInfoBy o L) := by
  unfold C16.refreshEnds
  have e3 : (mirrorAInfoBy o L st).exons = mirrorL L st.exons := rfl
  have e4 : (mirrorAInfoBy o L st).exonsChanged = st.exonsChanged := rfl
  rw [e3, e4, mirrorL_head?, mirrorL_getLast?]
  by_cases hc : st.exonsChanged = true
  · simp only [hc, if_true]
    cases h1 : st.exons.head? <;> cases h2 : st.exons.getLast? <;> simp [mirrorAInfoBy]
  · simp [hc]

theorem pa16_shiftPolyt_take (ex : List Iv) (a t p : Int) (ht : 0 < t)
    (hlt : a.toNat + t.toNat < ex.length) :
    C16.shiftPolyt (ex.take (ex.length - a.toNat)) t p = C16.shiftPolyt ex t p :=
  IsoVerif.Lemmas.C16.shiftPolyt_take ex _ t p ht (by omega) (by omega)

theorem pa16_shiftPolya_drop (ex : List Iv) (a t p : Int) (ha : 0 < a)
    (hlt : a.toNat + t.toNat < ex.length) :
    C16.shiftPolya (ex.drop t.toNat) a p = C16.shiftPolya ex a p := by
  by_cases hp : p = -1
  · rw [hp, IsoVerif.Lemmas.C16.shiftPolya_none_found, IsoVerif.Lemmas.C16.shiftPolya_none_found]
  · rw [IsoVerif.Lemmas.C16.shiftPolya_eq _ a p ha (by rw [List.length_drop]; omega) hp,
      IsoVerif.Lemmas.C16.shiftPolya_eq ex a p ha (by omega) hp]
    simp only [List.getElem_drop, List.length_drop, List.reverse_drop, List.take_take,
      Nat.min_eq_left (show a.toNat ≤ ex.length - t.toNat by omega),
      show t.toNat + (ex.length - t.toNat - a.toNat - 1) = ex.length - a.toNat - 1 by omega]

theorem pa16_trims_commute (st : C16.AInfo) (a t : Int) (hlt : a.toNat + t.toNat < st.exons.length) :
    (C16.trimPolyA st a).bind (fun s => C16.trimPolyT s t) = (C16.trimPolyT st t).bind (fun s => C16.trimPolyA s a) := by
  by_cases ha : a > 0
  · by_cases ht : t > 0
    · -- neither half raises; each computes its positions on the list the other half has shortened
      obtain ⟨ia, hia⟩ := IsoVerif.Lemmas.C16.shiftPolya_some st.exons a st.info.internalPolyA ha (by omega)
      obtain ⟨ea, hea⟩ := IsoVerif.Lemmas.C16.shiftPolya_some st.exons a st.info.externalPolyA ha (by omega)
      obtain ⟨it, hit⟩ := IsoVerif.Lemmas.C16.shiftPolyt_some st.exons t st.info.internalPolyT ht (by omega)
      obtain ⟨et, het⟩ := IsoVerif.Lemmas.C16.shiftPolyt_some st.exons t st.info.externalPolyT ht (by omega)
      simp only [C16.trimPolyA, C16.trimPolyT, ha, ht, if_true, Option.bind_eq_bind, Option.bind_some,
        pa16_shiftPolyt_take st.exons a t _ ht hlt, pa16_shiftPolya_drop st.exons a t _ ha hlt, hia, hea, hit, het,
        List.length_drop, List.drop_take]
      rw [Nat.sub_right_comm st.exons.length, Nat.sub_right_comm st.readBlocks.length,
        Nat.sub_right_comm st.cigarBlocks.length]
    · have h1 : ∀ s, C16.trimPolyT s t = some s := by intro s; simp [C16.trimPolyT, ht]
      simp only [h1, Option.bind_some]
      cases C16.trimPolyA st a <;> rfl
  · have h1 : ∀ s, C16.trimPolyA s a = some s := by intro s; simp [C16.trimPolyA, ha]
    simp only [h1, Option.bind_some]
    cases C16.trimPolyT st t <;> rfl

theorem pa16_trimPolyT_keepsA (st st1 : C16.AInfo) (t : Int) (h : C16.trimPolyT st t = some st1) :
    st1.info.internalPolyA = st.info.internalPolyA ∧ st1.info.externalPolyA = st.info.externalPolyA := by
  simp only [C16.trimPolyT] at h
  split at h
  · cases ha : C16.shiftPolyt st.exons t st.info.internalPolyT <;>
      cases hb : C16.shiftPolyt st.exons t st.info.externalPolyT <;>
      simp only [ha, hb, Option.bind_eq_bind, Option.bind_some, Option.bind_none, Option.some.injEq, reduceCtorEq] at h
    subst h; exact ⟨rfl, rfl⟩
  · cases h; exact ⟨rfl, rfl⟩

end IsoVerif.Lemmas.C11

/-! The loops of the polyA / polyT code pairs of Model/C11Polya.lean under shift and reflection.
The same Python functions are modelled twice: Model/PolyA.lean (C16; lemmas above, prefix `pa16_`, theorems Props/C11PolyA16.lean)
and Model/C11Polya.lean (lemmas below, no prefix, theorems Props/C11Polya.lean).  Only the distance loops are tied together
(`shiftPolyaLoop_eq`, `shiftPolytLoop_eq`: they ARE those of C16, so their laws are those above); the counting loops return a
`Nat` by a different recursion, are treated directly, and no lemma equates the two `countPolyaExons` / `countPolytExons`. -/

namespace IsoVerif.Lemmas.C11
open IsoVerif.Gen IsoVerif.Model IsoVerif.Model.C11 IsoVerif.Lemmas

theorem shiftPolyaLoop_eq (pos : Int) (l : List Iv) (d : Int) : shiftPolyaLoop pos l d = C16.shiftDistA pos d l := by
  induction l generalizing d with
  | nil => rfl
  | cons e es ih => simp only [shiftPolyaLoop, C16.shiftDistA, ih]

theorem shiftPolytLoop_eq (pos : Int) (l : List Iv) (d : Int) : shiftPolytLoop pos l d = C16.shiftDistT pos d l := by
  induction l generalizing d with
  | nil => rfl
  | cons e es ih => simp only [shiftPolytLoop, C16.shiftDistT, ih]

theorem sub_sub_sub_left (a b c : Int) : c - a - (c - b) = b - a := by omega

theorem countPolytLoop_mirror (L mf pos : Int) (l : List Iv) :
    countPolytLoop mf (L + 1 - pos) (l.map (mirrorIv L)) = countPolyaLoop mf pos l := by
  induction l with
  | nil => rfl
  | cons e es ih =>
    simp only [List.map_cons, countPolytLoop, countPolyaLoop, ih, mirrorIv_fst, mirrorIv_snd, sub_sub_sub_left,
      ge_iff_le, gt_iff_lt, Int.sub_le_sub_left_iff]

theorem countPolyaLoop_mirror (L mf pos : Int) (l : List Iv) :
    countPolyaLoop mf (L + 1 - pos) (l.map (mirrorIv L)) = countPolytLoop mf pos l := by
  rw [← countPolytLoop_mirror L, map_mirrorIv_mirrorIv, Int.sub_sub_self]

theorem countPolyaLoop_shift (k mf pos : Int) (l : List Iv) :
    countPolyaLoop mf (pos + k) (shiftL k l) = countPolyaLoop mf pos l := by
  induction l with
  | nil => rfl
  | cons e es ih =>
    simp only [shiftL_cons, countPolyaLoop, ih, shiftIv_fst, shiftIv_snd, Int.add_le_add_iff_right,
      Int.add_sub_add_right]

theorem countPolytLoop_shift (k mf pos : Int) (l : List Iv) :
    countPolytLoop mf (pos + k) (shiftL k l) = countPolytLoop mf pos l := by
  induction l with
  | nil => rfl
  | cons e es ih =>
    simp only [shiftL_cons, countPolytLoop, ih, shiftIv_fst, shiftIv_snd, ge_iff_le, Int.add_le_add_iff_right,
      Int.add_sub_add_right]

theorem shiftPolytLoop_mirror (L pos : Int) (l : List Iv) (d : Int) :
    shiftPolytLoop (L + 1 - pos) (l.map (mirrorIv L)) d = shiftPolyaLoop pos l d := by
  rw [shiftPolytLoop_eq, shiftPolyaLoop_eq, pa16_shiftDistT_mirror]

theorem shiftPolyaLoop_mirror (L pos : Int) (l : List Iv) (d : Int) :
    shiftPolyaLoop (L + 1 - pos) (l.map (mirrorIv L)) d = shiftPolytLoop pos l d := by
  rw [shiftPolytLoop_eq, shiftPolyaLoop_eq, pa16_shiftDistA_mirror]

theorem shiftPolyaLoop_shift (k pos : Int) (l : List Iv) (d : Int) :
    shiftPolyaLoop (pos + k) (shiftL k l) d = shiftPolyaLoop pos l d := by
  rw [shiftPolyaLoop_eq, shiftPolyaLoop_eq, pa16_shiftDistA_shift]

theorem shiftPolytLoop_shift (k pos : Int) (l : List Iv) (d : Int) :
    shiftPolytLoop (pos + k) (shiftL k l) d = shiftPolytLoop pos l d := by
  rw [shiftPolytLoop_eq, shiftPolytLoop_eq, pa16_shiftDistT_shift]

end IsoVerif.Lemmas.C11
