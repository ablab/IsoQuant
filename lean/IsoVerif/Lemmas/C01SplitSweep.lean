/-
C01, forward clause, SPLIT-EXON half: invariants of `NonOverlappingFeaturesProfileConstructor.construct_profile`
(Model/Profiles.lean `noSweep`).  Core Lean only.
-/
import IsoVerif.Lemmas.C01Forward
import IsoVerif.Lemmas.Lists

namespace IsoVerif.Lemmas.C01
open IsoVerif.Gen IsoVerif.Model IsoVerif.Lemmas

/-- what a stretch of the sweep does to the two profiles -/
def NoTouch (st out : NoState) : Prop := Keeps1 st.gene out.gene ∧ Keeps1 st.read out.read

theorem NoTouch.refl (st : NoState) : NoTouch st st := ⟨Keeps1.refl _, Keeps1.refl _⟩

theorem NoTouch.trans {a b c : NoState} (h1 : NoTouch a b) (h2 : NoTouch b c) : NoTouch a c :=
  ⟨h1.1.trans h2.1, h1.2.trans h2.2⟩

theorem noTouch_mark (st : NoState) (c : Bool) (gi ri : Nat) :
    NoTouch st (if c = true then { gene := st.gene.set gi 1, read := st.read.set ri 1 } else st) := by
  split
  · exact ⟨keeps1_set _ _ _ (Or.inl rfl), keeps1_set _ _ _ (Or.inl rfl)⟩
  · exact NoTouch.refl st

theorem noSweep_touch (cmp : Iv → Iv → Bool) (ks : List Iv) (gi : Nat) (rs : List Iv) (ri : Nat) (st : NoState) :
    NoTouch st (noSweep cmp ks gi rs ri st) := by
  fun_induction noSweep cmp ks gi rs ri st with
  | case1 => exact NoTouch.refl _
  | case2 => exact NoTouch.refl _
  | case3 k ks gi r rs ri st hlt st' ih =>
    refine NoTouch.trans ?_ ih
    simp only [st']
    split
    · rename_i hc
      simp only [Bool.and_eq_true, beq_iff_eq] at hc
      exact ⟨Keeps1.refl _, keeps1_set _ _ _ (Or.inr hc.2)⟩
    · exact NoTouch.refl _
  | case4 k ks gi r rs ri st h1 hlt st' ih =>
    refine NoTouch.trans ?_ ih
    simp only [st']
    split
    · rename_i hc
      simp only [Bool.and_eq_true, beq_iff_eq] at hc
      exact ⟨keeps1_set _ _ _ (Or.inr hc.2), Keeps1.refl _⟩
    · exact NoTouch.refl _
  | case5 k ks gi r rs ri st h1 h2 st' hlt ih => exact (noTouch_mark st (cmp r k) gi ri).trans ih
  | case6 k ks gi r rs ri st h1 h2 st' hlt ih => exact (noTouch_mark st (cmp r k) gi ri).trans ih

theorem noSweep_gene_length (cmp : Iv → Iv → Bool) (ks : List Iv) (gi : Nat) (rs : List Iv) (ri : Nat) (st : NoState) :
    (noSweep cmp ks gi rs ri st).gene.length = st.gene.length := (noSweep_touch cmp ks gi rs ri st).1.1

theorem noSweep_read_length (cmp : Iv → Iv → Bool) (ks : List Iv) (gi : Nat) (rs : List Iv) (ri : Nat) (st : NoState) :
    (noSweep cmp ks gi rs ri st).read.length = st.read.length := (noSweep_touch cmp ks gi rs ri st).2.1

/-- COMPLETENESS of the sweep over two sorted, disjoint lists: every overlapping pair is visited, so a pair that also
    satisfies the comparator gets both of its members marked 1 -/
theorem noSweep_marks (cmp : Iv → Iv → Bool) (K R : List Iv) (hK : SD K) (hKw : WFl K) (hR : SD R) (hRw : WFl R)
    (i j : Nat) (k r : Iv) (hi : K[i]? = some k) (hj : R[j]? = some r) (hov : overlaps r k = true)
    (hc : cmp r k = true)
    (ks : List Iv) (gi : Nat) (rs : List Iv) (ri : Nat) (st : NoState)
    (hKd : K.drop gi = ks) (hRd : R.drop ri = rs) (hgl : st.gene.length = K.length) (hrl : st.read.length = R.length)
    (hgi : gi ≤ i) (hri : ri ≤ j) :
    (noSweep cmp ks gi rs ri st).gene[i]? = some 1 ∧ (noSweep cmp ks gi rs ri st).read[j]? = some 1 := by
  have hov' : ¬ r.2 < k.1 ∧ ¬ k.2 < r.1 := by
    simp [overlaps] at hov; omega
  fun_induction noSweep cmp ks gi rs ri st with
  | case1 gi rs ri st =>
    exfalso
    have : K.length ≤ gi := by
      have := congrArg List.length hKd; simp at this; omega
    have := getElem?_lt hi; omega
  | case2 k0 ks gi ri st =>
    exfalso
    have : R.length ≤ ri := by
      have := congrArg List.length hRd; simp at this; omega
    have := getElem?_lt hj; omega
  | case3 k0 ks gi r0 rs ri st hlt st' ih =>
    obtain ⟨hr0, hRd'⟩ := drop_cons_get hRd
    obtain ⟨hk0, _⟩ := drop_cons_get hKd
    have hne : ri ≠ j := by
      intro e; subst e
      rw [hj] at hr0; cases hr0
      have := (SD.get_le hK hKw hk0 hi hgi).1
      omega
    apply ih hKd hRd' _ _ hgi (by omega)
    · simp only [st']; split <;> simp [hgl]
    · simp only [st']; split <;> simp [hrl]
  | case4 k0 ks gi r0 rs ri st h1 hlt st' ih =>
    obtain ⟨hr0, _⟩ := drop_cons_get hRd
    obtain ⟨hk0, hKd'⟩ := drop_cons_get hKd
    have hne : gi ≠ i := by
      intro e; subst e
      rw [hi] at hk0; cases hk0
      have := (SD.get_le hR hRw hr0 hj hri).1
      omega
    apply ih hKd' hRd _ _ (by omega) hri
    · simp only [st']; split <;> simp [hgl]
    · simp only [st']; split <;> simp [hrl]
  | case5 k0 ks gi r0 rs ri st h1 h2 st' hlt ih =>
    obtain ⟨hr0, hRd'⟩ := drop_cons_get hRd
    obtain ⟨hk0, _⟩ := drop_cons_get hKd
    have hgl' : st'.gene.length = K.length := by simp only [st']; split <;> simp [hgl]
    have hrl' : st'.read.length = R.length := by simp only [st']; split <;> simp [hrl]
    by_cases e : ri = j
    · subst e
      rw [hj] at hr0; cases hr0
      by_cases e2 : gi = i
      · subst e2
        rw [hi] at hk0; cases hk0
        have hp := noSweep_touch cmp (k :: ks) gi rs (ri + 1) st'
        have hgil : gi < st.gene.length := by rw [hgl]; exact getElem?_lt hi
        have hril : ri < st.read.length := by rw [hrl]; exact getElem?_lt hj
        refine ⟨hp.1.2 gi ?_, hp.2.2 ri ?_⟩
        · simp only [st', hc]; exact List.getElem?_set_self hgil
        · simp only [st', hc]; exact List.getElem?_set_self hril
      · exfalso
        have := hK.get_lt hKw hk0 hi (by omega)
        omega
    · exact ih hKd hRd' hgl' hrl' hgi (by omega)
  | case6 k0 ks gi r0 rs ri st h1 h2 st' hlt ih =>
    obtain ⟨hr0, _⟩ := drop_cons_get hRd
    obtain ⟨hk0, hKd'⟩ := drop_cons_get hKd
    have hgl' : st'.gene.length = K.length := by simp only [st']; split <;> simp [hgl]
    have hrl' : st'.read.length = R.length := by simp only [st']; split <;> simp [hrl]
    by_cases e2 : gi = i
    · subst e2
      rw [hi] at hk0; cases hk0
      by_cases e : ri = j
      · subst e
        rw [hj] at hr0; cases hr0
        have hp := noSweep_touch cmp ks (gi + 1) (r :: rs) ri st'
        have hgil : gi < st.gene.length := by rw [hgl]; exact getElem?_lt hi
        have hril : ri < st.read.length := by rw [hrl]; exact getElem?_lt hj
        refine ⟨hp.1.2 gi ?_, hp.2.2 ri ?_⟩
        · simp only [st', hc]; exact List.getElem?_set_self hgil
        · simp only [st', hc]; exact List.getElem?_set_self hril
      · exfalso
        have := hR.get_lt hRw hr0 hj (by omega)
        omega
    · exact ih hKd' hRd hgl' hrl' (by omega) hri

/-- SOUNDNESS invariant of the sweep: what a 1 / a −1 of the gene profile means -/
structure NoInv (cmp : Iv → Iv → Bool) (K R : List Iv) (st : NoState) : Prop where
  glen : st.gene.length = K.length
  gene1 : ∀ i : Nat, st.gene[i]? = some 1 →
    ∃ (k : Iv) (j : Nat) (r : Iv), K[i]? = some k ∧ R[j]? = some r ∧ overlaps r k = true ∧ cmp r k = true
  geneN : ∀ i : Nat, st.gene[i]? = some (-1) →
    ∃ (k : Iv) (j : Nat) (r r' : Iv), K[i]? = some k ∧ R[j]? = some r ∧ R[j + 1]? = some r' ∧ r.2 < k.2 ∧ k.2 < r'.1
  dom : ∀ v ∈ st.gene, v = 0 ∨ v = 1 ∨ v = -1

theorem noInv_set_one {cmp K R} {st : NoState} (h : NoInv cmp K R st) (gi ri : Nat) (k r : Iv)
    (hk : K[gi]? = some k) (hr : R[ri]? = some r) (hov : overlaps r k = true) (hc : cmp r k = true) :
    NoInv cmp K R { gene := st.gene.set gi 1, read := st.read.set ri 1 } := by
  refine ⟨by simp [h.glen], ?_, ?_, ?_⟩
  · intro i hi
    by_cases e : gi = i
    · subst e; exact ⟨k, ri, r, hk, hr, hov, hc⟩
    · have hi' : (st.gene.set gi 1)[i]? = some 1 := hi
      rw [List.getElem?_set_ne e] at hi'; exact h.gene1 i hi'
  · intro i hi
    have hi' : (st.gene.set gi 1)[i]? = some (-1) := hi
    by_cases e : gi = i
    · subst e
      rw [List.getElem?_set] at hi'
      simp at hi'
    · rw [List.getElem?_set_ne e] at hi'; exact h.geneN i hi'
  · intro v hv
    rcases List.mem_or_eq_of_mem_set hv with h1 | h1
    · exact h.dom v h1
    · right; left; exact h1

/-- the sweep keeps `NoInv`.  `hside`: the read block just passed, `R[ri − 1]`, ends before the end of every known feature
    still to come — which is why a −1 written from here on sits on a feature in a gap between two read blocks -/
theorem noSweep_inv (cmp : Iv → Iv → Bool) (K R : List Iv) (hK : SD K) (hKw : WFl K)
    (ks : List Iv) (gi : Nat) (rs : List Iv) (ri : Nat) (st : NoState)
    (hKd : K.drop gi = ks) (hRd : R.drop ri = rs)
    (hside : ri > 0 → ∃ r', R[ri - 1]? = some r' ∧ ∀ k' ∈ ks, r'.2 < k'.2)
    (h : NoInv cmp K R st) : NoInv cmp K R (noSweep cmp ks gi rs ri st) := by
  fun_induction noSweep cmp ks gi rs ri st with
  | case1 => exact h
  | case2 => exact h
  | case3 k0 ks gi r0 rs ri st hlt st' ih =>
    obtain ⟨hr0, hRd'⟩ := drop_cons_get hRd
    apply ih hKd hRd'
    · intro _
      refine ⟨r0, by simpa using hr0, ?_⟩
      intro k' hk'
      have hsd : SD (k0 :: ks) := by rw [← hKd]; exact SD_drop K gi hK
      have hwf : WFl (k0 :: ks) := by rw [← hKd]; exact WFl_drop K gi hKw
      have := IsoVerif.Lemmas.SD_head_le hsd hwf k' hk'
      have := hwf k' hk'
      omega
    · simp only [st']
      split
      · exact ⟨h.glen, h.gene1, h.geneN, h.dom⟩
      · exact h
  | case4 k0 ks gi r0 rs ri st h1 hlt st' ih =>
    obtain ⟨hr0, _⟩ := drop_cons_get hRd
    obtain ⟨hk0, hKd'⟩ := drop_cons_get hKd
    apply ih hKd' hRd
    · intro hpos
      obtain ⟨r', hr', hall⟩ := hside hpos
      exact ⟨r', hr', fun k' hk' => hall k' (List.mem_cons_of_mem _ hk')⟩
    · simp only [st']
      split
      · rename_i hc
        simp only [Bool.and_eq_true, decide_eq_true_eq] at hc
        obtain ⟨r', hr', hall⟩ := hside hc.1
        refine ⟨by simp [h.glen], ?_, ?_, ?_⟩
        · intro i hi
          have hi' : (st.gene.set gi (-1))[i]? = some 1 := hi
          by_cases e : gi = i
          · subst e
            rw [List.getElem?_set] at hi'
            simp at hi'
          · rw [List.getElem?_set_ne e] at hi'; exact h.gene1 i hi'
        · intro i hi
          have hi' : (st.gene.set gi (-1))[i]? = some (-1) := hi
          by_cases e : gi = i
          · subst e
            refine ⟨k0, ri - 1, r', r0, hk0, hr', ?_, hall k0 (by simp), hlt⟩
            have e2 : ri - 1 + 1 = ri := by omega
            rw [e2]; exact hr0
          · rw [List.getElem?_set_ne e] at hi'; exact h.geneN i hi'
        · intro v hv
          rcases List.mem_or_eq_of_mem_set hv with h1 | h1
          · exact h.dom v h1
          · right; right; exact h1
      · exact h
  | case5 k0 ks gi r0 rs ri st h1 h2 st' hlt ih =>
    obtain ⟨hr0, hRd'⟩ := drop_cons_get hRd
    obtain ⟨hk0, _⟩ := drop_cons_get hKd
    apply ih hKd hRd'
    · intro _
      refine ⟨r0, by simpa using hr0, ?_⟩
      intro k' hk'
      have hsd : SD (k0 :: ks) := by rw [← hKd]; exact SD_drop K gi hK
      have hwf : WFl (k0 :: ks) := by rw [← hKd]; exact WFl_drop K gi hKw
      rcases List.mem_cons.mp hk' with e | e
      · subst e; exact hlt
      · have := SD_all_right hsd hwf k' e
        have := hwf k' hk'
        omega
    · simp only [st']
      split
      · rename_i hc
        exact noInv_set_one h gi ri k0 r0 hk0 hr0 (by simp [overlaps]; omega) hc
      · exact h
  | case6 k0 ks gi r0 rs ri st h1 h2 st' hlt ih =>
    obtain ⟨hr0, _⟩ := drop_cons_get hRd
    obtain ⟨hk0, hKd'⟩ := drop_cons_get hKd
    apply ih hKd' hRd
    · intro hpos
      obtain ⟨r', hr', hall⟩ := hside hpos
      exact ⟨r', hr', fun k' hk' => hall k' (List.mem_cons_of_mem _ hk')⟩
    · simp only [st']
      split
      · rename_i hc
        exact noInv_set_one h gi ri k0 r0 hk0 hr0 (by simp [overlaps]; omega) hc
      · exact h

theorem noSweep_init_inv (cmp : Iv → Iv → Bool) (K R : List Iv) :
    NoInv cmp K R { gene := K.map (fun _ => 0), read := R.map (fun _ => 0) } := by
  refine ⟨by simp, ?_, ?_, ?_⟩
  · intro i hi
    simp only [List.getElem?_map] at hi
    cases hk : K[i]? <;> simp [hk] at hi
  · intro i hi
    simp only [List.getElem?_map] at hi
    cases hk : K[i]? <;> simp [hk] at hi
  · intro v hv
    simp only [List.mem_map] at hv
    obtain ⟨_, _, e⟩ := hv
    left; exact e.symm

end IsoVerif.Lemmas.C01
