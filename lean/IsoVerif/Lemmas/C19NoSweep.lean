/-
C19: the split-exon read profile `NonOverlappingFeaturesProfileConstructor.construct_profile`
(Model/Profiles.lean `noSweep`) — the part of its exact characterisation that `Lemmas/C01SplitSweep.lean` does not give
(there: completeness of the mark 1, `noSweep_marks`; soundness of 1 and −1, `NoInv`):
  * a position the gene pointer has passed is never written again (`noSweep_gene_frozen`);
  * completeness of the mark −1: a block whose END lies strictly inside a gap between two consecutive read exons never
    keeps the initial 0 (`noSweep_gap_marked`).
Core Lean only.
-/
import IsoVerif.Lemmas.C01SplitSweep

namespace IsoVerif.Lemmas.C19NoSweep
open IsoVerif.Gen IsoVerif.Model IsoVerif.Lemmas IsoVerif.Lemmas.C01

theorem noSweep_gene_frozen (cmp : Iv → Iv → Bool) (ks : List Iv) (gi : Nat) (rs : List Iv) (ri : Nat) (st : NoState)
    (i : Nat) (hi : i < gi) : (noSweep cmp ks gi rs ri st).gene[i]? = st.gene[i]? := by
  fun_induction noSweep cmp ks gi rs ri st with
  | case1 => rfl
  | case2 => rfl
  | case3 k ks gi r rs ri st hlt st' ih =>
    rw [ih hi]; simp only [st']; split <;> rfl
  | case4 k ks gi r rs ri st h1 hlt st' ih =>
    rw [ih (by omega)]; simp only [st']
    split
    · show (st.gene.set gi (-1))[i]? = st.gene[i]?
      exact List.getElem?_set_ne (by omega)
    · rfl
  | case5 k ks gi r rs ri st h1 h2 st' hlt ih =>
    rw [ih hi]; simp only [st']
    split
    · show (st.gene.set gi 1)[i]? = st.gene[i]?
      exact List.getElem?_set_ne (by omega)
    · rfl
  | case6 k ks gi r rs ri st h1 h2 st' hlt ih =>
    rw [ih (by omega)]; simp only [st']
    split
    · show (st.gene.set gi 1)[i]? = st.gene[i]?
      exact List.getElem?_set_ne (by omega)
    · rfl

/-- the sweep reaches `K[i]` with the read pointer at `j+1 > 0` and takes the branch `gene_exon[1] < read_exon[0]`: the block
    is −1, or 1 if an earlier read exon matched it -/
theorem noSweep_gap_marked (cmp : Iv → Iv → Bool) (K R : List Iv) (hK : SD K) (hKw : WFl K) (hR : SD R) (hRw : WFl R)
    (i j : Nat) (k r r' : Iv) (hi : K[i]? = some k) (hj : R[j]? = some r) (hj' : R[j + 1]? = some r')
    (h1 : r.2 < k.2) (h2 : k.2 < r'.1)
    (ks : List Iv) (gi : Nat) (rs : List Iv) (ri : Nat) (st : NoState)
    (hKd : K.drop gi = ks) (hRd : R.drop ri = rs) (hgl : st.gene.length = K.length)
    (hgi : gi ≤ i) (hri : ri ≤ j + 1) :
    (noSweep cmp ks gi rs ri st).gene[i]? ≠ some 0 := by
  have hkw := hKw k (List.mem_of_getElem? hi)
  have hr'w := hRw r' (List.mem_of_getElem? hj')
  fun_induction noSweep cmp ks gi rs ri st with
  | case1 gi rs ri st =>
    exfalso
    have : K.length ≤ gi := by
      have := congrArg List.length hKd; simp at this; omega
    have := getElem?_lt hi; omega
  | case2 k0 ks gi ri st =>
    exfalso
    have : R.length ≤ ri := by
      have := congrArg List.length hRd; simp at this; omega
    have := getElem?_lt hj'; omega
  | case3 k0 ks gi r0 rs ri st hlt st' ih =>
    obtain ⟨hr0, hRd'⟩ := drop_cons_get hRd
    obtain ⟨hk0, _⟩ := drop_cons_get hKd
    have hne : ri ≠ j + 1 := by
      intro e; subst e
      rw [hj'] at hr0; cases hr0
      have := (SD.get_le hK hKw hk0 hi hgi).1
      omega
    apply ih hKd hRd' _ hgi (by omega)
    simp only [st']; split <;> simp [hgl]
  | case4 k0 ks gi r0 rs ri st h1' hlt st' ih =>
    obtain ⟨hr0, _⟩ := drop_cons_get hRd
    obtain ⟨hk0, hKd'⟩ := drop_cons_get hKd
    have hgl' : st'.gene.length = K.length := by simp only [st']; split <;> simp [hgl]
    by_cases e : gi = i
    · subst e
      rw [hi] at hk0; cases hk0
      have hpos : ri > 0 := by
        rcases Nat.eq_zero_or_pos ri with e0 | e0
        · subst e0
          have := (SD.get_le hR hRw hr0 hj (by omega)).1
          have := hRw r (List.mem_of_getElem? hj)
          omega
        · exact e0
      rw [noSweep_gene_frozen cmp ks (gi + 1) (r0 :: rs) ri st' gi (by omega)]
      have hgil : gi < st.gene.length := by rw [hgl]; exact getElem?_lt hi
      simp only [st']
      split
      · show (st.gene.set gi (-1))[gi]? ≠ some 0
        rw [List.getElem?_set_self hgil]; simp
      · rename_i hc
        simp only [Bool.and_eq_true, decide_eq_true_eq, beq_iff_eq, not_and] at hc
        have hv := hc hpos
        intro h0
        apply hv
        rw [List.getD_eq_getElem?_getD, h0]; rfl
    · exact ih hKd' hRd hgl' (by omega) hri
  | case5 k0 ks gi r0 rs ri st h1' h2' st' hlt ih =>
    obtain ⟨hr0, hRd'⟩ := drop_cons_get hRd
    obtain ⟨hk0, _⟩ := drop_cons_get hKd
    have hgl' : st'.gene.length = K.length := by simp only [st']; split <;> simp [hgl]
    have hne : ri ≠ j + 1 := by
      intro e; subst e
      rw [hj'] at hr0; cases hr0
      have := (SD.get_le hK hKw hk0 hi hgi).2
      omega
    exact ih hKd hRd' hgl' hgi (by omega)
  | case6 k0 ks gi r0 rs ri st h1' h2' st' hlt ih =>
    obtain ⟨hr0, _⟩ := drop_cons_get hRd
    obtain ⟨hk0, hKd'⟩ := drop_cons_get hKd
    have hgl' : st'.gene.length = K.length := by simp only [st']; split <;> simp [hgl]
    have hne : gi ≠ i := by
      intro e; subst e
      rw [hi] at hk0; cases hk0
      rcases Nat.lt_or_ge ri (j + 1) with hlt' | hge
      · have := (SD.get_le hR hRw hr0 hj (by omega)).2
        omega
      · have e2 : ri = j + 1 := by omega
        subst e2
        rw [hj'] at hr0; cases hr0
        omega
    exact ih hKd' hRd hgl' (by omega) hri

end IsoVerif.Lemmas.C19NoSweep
