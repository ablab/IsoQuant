/-
Helper lemmas for C16 (polyA/polyT terminal-exon trimming): the counting and distance loops, `shift_polya` /
`shift_polyt` as equations, and a run of `add_polya_info` as one record of facts (`TrimRun`, `addPolyaInfo_run`).
The loops of the 5' side are those of the 3' side on intervals read backwards (`flipIv`, the `…_flip` equations), so
their lemmas are the 3' ones transported.
-/
import IsoVerif.Model.PolyA
import IsoVerif.Lemmas.Interval

namespace IsoVerif.Lemmas.C16
open IsoVerif.Gen IsoVerif.Model IsoVerif.Model.C16

/-- every interval is well formed (`IsoVerif.Lemmas.WFl` of Lemmas/Interval.lean by `rfl`) -/
def WFs (l : List Iv) : Prop := ∀ e ∈ l, e.1 ≤ e.2
/-- sorted and pairwise disjoint: `a.2 < b.1` for `a` before `b`.  Includes well-formedness, unlike `IsoVerif.Lemmas.SD`
    (Lemmas/Interval.lean), which this name shadows inside the namespace -/
def SD (l : List Iv) : Prop := WFs l ∧ l.Pairwise (fun a b => a.2 < b.1)

instance (l : List Iv) : Decidable (SD l) := by unfold SD WFs; infer_instance

theorem countPolyaLoop_bounds (mf pos : Int) (l : List Iv) :
    ∀ cnt, cnt ≤ countPolyaLoop mf pos cnt l ∧ countPolyaLoop mf pos cnt l ≤ cnt + l.length := by
  induction l with
  | nil => intro cnt; simp [countPolyaLoop]
  | cons e rest ih =>
    intro cnt
    have h1 := ih cnt
    have h2 := ih (cnt + 1)
    simp only [countPolyaLoop, List.length_cons]
    split
    · omega
    · split <;> omega

/-- an interval on the axis reflected at `c/2`, `x ↦ c − x` (a position `pos` becomes `c − pos`) -/
def flipAt (c : Int) (e : Iv) : Iv := (c - e.2, c - e.1)

/-- the reflection `x ↦ −x`, which the 5' side of this file uses; the mirror image of C11 needs the centre `(L + 1)/2` -/
def flipIv (e : Iv) : Iv := (-e.2, -e.1)

theorem flipIv_eq : flipIv = flipAt 0 := by funext e; simp [flipIv, flipAt]

theorem isPolytExon_flipAt (mf pos c : Int) (e : Iv) :
    isPolytExon mf pos e = isPolyaExon mf (c - pos) (flipAt c e) := by
  simp only [isPolytExon, isPolyaExon, flipAt, show c - pos - (c - e.2) = e.2 - pos by omega,
    show (c - e.1 - (c - pos) > 2 * (e.2 - pos)) = (2 * (e.2 - pos) < pos - e.1) from propext (by omega)]

theorem countPolytLoop_flipAt (mf pos c : Int) : ∀ (l : List Iv) (cnt : Int),
    countPolytLoop mf pos cnt l = countPolyaLoop mf (c - pos) cnt (l.map (flipAt c))
  | [], _ => rfl
  | e :: l, cnt => by
    simp only [List.map_cons, countPolytLoop, countPolyaLoop, ← isPolytExon_flipAt, countPolytLoop_flipAt mf pos c l,
      show ((flipAt c e).2 ≤ c - pos) = (e.1 ≥ pos) from propext (by simp only [flipAt]; omega)]

theorem isPolytExon_flip (mf pos : Int) (e : Iv) : isPolytExon mf pos e = isPolyaExon mf (-pos) (flipIv e) := by
  rw [flipIv_eq, ← Int.zero_sub]; exact isPolytExon_flipAt mf pos 0 e

theorem countPolytLoop_flip (mf pos : Int) (l : List Iv) (cnt : Int) :
    countPolytLoop mf pos cnt l = countPolyaLoop mf (-pos) cnt (l.map flipIv) := by
  rw [flipIv_eq, ← Int.zero_sub]; exact countPolytLoop_flipAt mf pos 0 l cnt

theorem countPolytLoop_bounds (mf pos : Int) (l : List Iv) (cnt : Int) :
    cnt ≤ countPolytLoop mf pos cnt l ∧ countPolytLoop mf pos cnt l ≤ cnt + l.length := by
  have := countPolyaLoop_bounds mf (-pos) (l.map flipIv) cnt
  rwa [List.length_map, ← countPolytLoop_flip] at this

theorem countPolyaExons_bounds (mf : Int) (l : List Iv) (pos : Int) :
    0 ≤ countPolyaExons mf l pos ∧ countPolyaExons mf l pos ≤ l.length := by
  unfold countPolyaExons
  split
  · omega
  · have := countPolyaLoop_bounds mf pos l.reverse 0
    simp at this; omega

theorem countPolytExons_bounds (mf : Int) (l : List Iv) (pos : Int) :
    0 ≤ countPolytExons mf l pos ∧ countPolytExons mf l pos ≤ l.length := by
  unfold countPolytExons
  split
  · omega
  · have := countPolytLoop_bounds mf pos l 0
    omega

/-! ### the clamp loop of the fixed `correct_read_info` -/

theorem clampLoop_spec : ∀ (fuel : Nat) (n a t : Int), 1 ≤ fuel → a + t - n + 3 ≤ 2 * (fuel : Int) →
    ∃ k : Int, 0 ≤ k ∧ clampLoop fuel n a t = some (a - k, t - k) ∧ (a - k) + (t - k) < n ∧
      (k = 0 ∨ n ≤ (a - k) + (t - k) + 2) := by
  intro fuel
  induction fuel with
  | zero => intro n a t h0 h; omega
  | succ f ih =>
    intro n a t _ h
    by_cases hc : t + a ≥ n
    · obtain ⟨k, hk0, hk, hlt, hmin⟩ := ih n (a - 1) (t - 1) (by omega) (by omega)
      refine ⟨k + 1, by omega, ?_, by omega, by omega⟩
      simp only [clampLoop, hc, if_true]
      rw [hk]
      congr 2 <;> omega
    · refine ⟨0, by omega, ?_, by omega, by omega⟩
      simp [clampLoop, hc]

/-- the fixed `correct_read_info` always returns, and never asks to trim every exon -/
theorem correctReadInfo_spec (mf : Int) (exons : List Iv) (info : PolyAInfo) (hne : exons ≠ []) :
    ∃ a t : Int, correctReadInfo mf exons info = some (a, t) ∧
      (a.toNat + t.toNat < exons.length) ∧
      a ≤ countPolyaExons mf exons info.internalPolyA ∧ t ≤ countPolytExons mf exons info.internalPolyT ∧
      (countPolyaExons mf exons info.internalPolyA + countPolytExons mf exons info.internalPolyT < exons.length →
        a = countPolyaExons mf exons info.internalPolyA ∧ t = countPolytExons mf exons info.internalPolyT) := by
  have hlen : 0 < exons.length := List.length_pos_iff.2 hne
  unfold correctReadInfo
  by_cases h1 : exons.length = 1
  · simp only [h1, if_true]
    have ha := countPolyaExons_bounds mf exons info.internalPolyA
    have ht := countPolytExons_bounds mf exons info.internalPolyT
    refine ⟨0, 0, rfl, by simp, ha.1, ht.1, ?_⟩
    intro h; omega
  · simp only [h1, if_false]
    have ha := countPolyaExons_bounds mf exons info.internalPolyA
    have ht := countPolytExons_bounds mf exons info.internalPolyT
    obtain ⟨k, hk0, hk, hlt, hmin⟩ := clampLoop_spec (exons.length + 2) exons.length
      (countPolyaExons mf exons info.internalPolyA) (countPolytExons mf exons info.internalPolyT)
      (by omega) (by push_cast; omega)
    refine ⟨_, _, hk, ?_, by omega, by omega, ?_⟩
    · omega
    · intro h; rcases hmin with h0 | h0 <;> omega

theorem shiftPolya_none_found (exons : List Iv) (k : Int) : shiftPolya exons k (-1) = some (-1) := by
  simp [shiftPolya]

theorem shiftPolyt_none_found (exons : List Iv) (k : Int) : shiftPolyt exons k (-1) = some (-1) := by
  simp [shiftPolyt]

/-- the anchor is the end of the last retained exon -/
theorem shiftPolya_eq (exons : List Iv) (k pos : Int) (h0 : 0 < k) (h1 : k < exons.length) (hp : pos ≠ -1) :
    shiftPolya exons k pos =
      some ((exons[exons.length - k.toNat - 1]'(by omega)).2 + shiftDistA pos 0 (exons.reverse.take k.toNat)) := by
  obtain ⟨n, rfl⟩ : ∃ n : Nat, k = n := ⟨k.toNat, by omega⟩
  have hk : -(n : Int) - 1 = -((n + 1 : Nat) : Int) := by omega
  have hc : ¬ ((n : Int) = 0 ∨ (n : Int) = exons.length ∨ pos = -1) := by omega
  have hc2 : ¬ ((n : Int) > exons.length) := by omega
  simp only [shiftPolya, hc, hc2, if_false, hk, pyGet?_neg exons (n + 1) (by omega) (by omega), Int.toNat_natCast,
    List.getElem?_eq_getElem (show exons.length - (n + 1) < exons.length by omega), Option.bind_eq_bind,
    Option.bind_some]
  rfl

/-- the anchor is the start of the first retained exon -/
theorem shiftPolyt_eq (exons : List Iv) (k pos : Int) (h0 : 0 < k) (h1 : k < exons.length) (hp : pos ≠ -1) :
    shiftPolyt exons k pos =
      some ((exons[k.toNat]'(by omega)).1 - shiftDistT pos 0 (exons.take k.toNat)) := by
  obtain ⟨n, rfl⟩ : ∃ n : Nat, k = n := ⟨k.toNat, by omega⟩
  have hc : ¬ ((n : Int) = 0 ∨ (n : Int) = exons.length ∨ pos = -1) := by omega
  have hc2 : ¬ ((n : Int) > exons.length) := by omega
  simp only [shiftPolyt, hc, hc2, if_false, pyGet?_nat, Int.toNat_natCast,
    List.getElem?_eq_getElem (show n < exons.length by omega), Option.bind_eq_bind, Option.bind_some]

theorem shiftPolya_some (exons : List Iv) (k pos : Int) (h0 : 0 < k) (h1 : k < exons.length) :
    ∃ v, shiftPolya exons k pos = some v := by
  by_cases hp : pos = -1
  · exact ⟨-1, hp ▸ shiftPolya_none_found exons k⟩
  · exact ⟨_, shiftPolya_eq exons k pos h0 h1 hp⟩

theorem shiftPolyt_some (exons : List Iv) (k pos : Int) (h0 : 0 < k) (h1 : k < exons.length) :
    ∃ v, shiftPolyt exons k pos = some v := by
  by_cases hp : pos = -1
  · exact ⟨-1, hp ▸ shiftPolyt_none_found exons k⟩
  · exact ⟨_, shiftPolyt_eq exons k pos h0 h1 hp⟩

theorem shiftPolyt_take (exons : List Iv) (n : Nat) (k pos : Int) (h0 : 0 < k) (hk : k < n)
    (hn : n ≤ exons.length) : shiftPolyt (exons.take n) k pos = shiftPolyt exons k pos := by
  by_cases hp : pos = -1
  · rw [hp, shiftPolyt_none_found, shiftPolyt_none_found]
  · rw [shiftPolyt_eq _ k pos h0 (by rw [List.length_take]; omega) hp, shiftPolyt_eq _ k pos h0 (by omega) hp]
    simp only [List.getElem_take, List.take_take, Nat.min_eq_left (show k.toNat ≤ n by omega)]

theorem trimPolyA_spec (st : AInfo) (a : Int) (h : a < st.exons.length) :
    ∃ st1, trimPolyA st a = some st1 ∧
      st1.exons = st.exons.take (st.exons.length - a.toNat) ∧
      st1.readBlocks = st.readBlocks.take (st.readBlocks.length - a.toNat) ∧
      st1.cigarBlocks = st.cigarBlocks.take (st.cigarBlocks.length - a.toNat) ∧
      st1.info.internalPolyT = st.info.internalPolyT ∧ st1.info.externalPolyT = st.info.externalPolyT ∧
      (st1.exonsChanged = (st.exonsChanged || decide (a > 0))) ∧
      st1.readStart = st.readStart ∧ st1.readEnd = st.readEnd ∧
      (a ≤ 0 → st1 = st) ∧
      (0 < a → shiftPolya st.exons a st.info.internalPolyA = some st1.info.internalPolyA ∧
        ∃ ea, shiftPolya st.exons a st.info.externalPolyA = some ea ∧
          st1.info.externalPolyA = clampA st.info.internalPolyA st.info.externalPolyA st1.info.internalPolyA ea) := by
  unfold trimPolyA
  by_cases ha : a > 0
  · obtain ⟨v1, hv1⟩ := shiftPolya_some st.exons a st.info.internalPolyA ha h
    obtain ⟨v2, hv2⟩ := shiftPolya_some st.exons a st.info.externalPolyA ha h
    simp [ha, hv1, hv2]
    omega
  · have h0 : a.toNat = 0 := by omega
    simp [ha, h0]

theorem trimPolyT_spec (st : AInfo) (t : Int) (h : t < st.exons.length) :
    ∃ st1, trimPolyT st t = some st1 ∧
      st1.exons = st.exons.drop t.toNat ∧
      st1.readBlocks = st.readBlocks.drop t.toNat ∧
      st1.cigarBlocks = st.cigarBlocks.drop t.toNat ∧
      st1.info.internalPolyA = st.info.internalPolyA ∧ st1.info.externalPolyA = st.info.externalPolyA ∧
      (st1.exonsChanged = (st.exonsChanged || decide (t > 0))) ∧
      st1.readStart = st.readStart ∧ st1.readEnd = st.readEnd ∧
      (t ≤ 0 → st1 = st) ∧
      (0 < t → shiftPolyt st.exons t st.info.internalPolyT = some st1.info.internalPolyT ∧
        ∃ et, shiftPolyt st.exons t st.info.externalPolyT = some et ∧
          st1.info.externalPolyT = clampT st.info.internalPolyT st.info.externalPolyT st1.info.internalPolyT et) := by
  unfold trimPolyT
  by_cases ht : t > 0
  · obtain ⟨v1, hv1⟩ := shiftPolyt_some st.exons t st.info.internalPolyT ht h
    obtain ⟨v2, hv2⟩ := shiftPolyt_some st.exons t st.info.externalPolyT ht h
    simp [ht, hv1, hv2]
    omega
  · have h0 : t.toNat = 0 := by omega
    simp [ht, h0]

theorem refreshEnds_spec (st : AInfo) (hne : st.exons ≠ []) :
    ∃ r, refreshEnds st = some r ∧ r.exons = st.exons ∧ r.readBlocks = st.readBlocks ∧
      r.cigarBlocks = st.cigarBlocks ∧ r.info = st.info ∧ r.exonsChanged = st.exonsChanged := by
  unfold refreshEnds
  by_cases hch : st.exonsChanged = true
  · simp [hch, List.head?_eq_some_head hne, List.getLast?_eq_some_getLast hne]
  · simp [hch]

/-- a run of `add_polya_info` (fixed code) on `exons` that returned `r` after `correct_read_info` asked for `a`
    exons to be removed at the 3' end and `t` at the 5' end: fewer than all, no more than counted on either side,
    the three block lists cut in step, and each position pair the `shift_*` image (external one clamped) of the
    finder's on a side that lost exons, untouched on a side that did not -/
structure TrimRun (mf : Int) (exons rb cb : List Iv) (info : PolyAInfo) (a t : Int) (r : AInfo) : Prop where
  res : addPolyaInfo mf exons rb cb info = some r
  cri : correctReadInfo mf exons info = some (a, t)
  lt : a.toNat + t.toNat < exons.length
  le_countA : a ≤ countPolyaExons mf exons info.internalPolyA
  le_countT : t ≤ countPolytExons mf exons info.internalPolyT
  eq_counts : countPolyaExons mf exons info.internalPolyA + countPolytExons mf exons info.internalPolyT
      < exons.length →
    a = countPolyaExons mf exons info.internalPolyA ∧ t = countPolytExons mf exons info.internalPolyT
  exons_eq : r.exons = (exons.take (exons.length - a.toNat)).drop t.toNat
  readBlocks_eq : r.readBlocks = (rb.take (rb.length - a.toNat)).drop t.toNat
  cigarBlocks_eq : r.cigarBlocks = (cb.take (cb.length - a.toNat)).drop t.toNat
  keepA : a ≤ 0 → r.info.internalPolyA = info.internalPolyA ∧ r.info.externalPolyA = info.externalPolyA
  shiftA : 0 < a → shiftPolya exons a info.internalPolyA = some r.info.internalPolyA ∧
    ∃ ea, shiftPolya exons a info.externalPolyA = some ea ∧
      r.info.externalPolyA = clampA info.internalPolyA info.externalPolyA r.info.internalPolyA ea
  keepT : t ≤ 0 → r.info.internalPolyT = info.internalPolyT ∧ r.info.externalPolyT = info.externalPolyT
  shiftT : 0 < t → shiftPolyt exons t info.internalPolyT = some r.info.internalPolyT ∧
    ∃ et, shiftPolyt exons t info.externalPolyT = some et ∧
      r.info.externalPolyT = clampT info.internalPolyT info.externalPolyT r.info.internalPolyT et

/-- `add_polya_info` does not raise on a non-empty exon list -/
theorem addPolyaInfo_run (mf : Int) (exons rb cb : List Iv) (info : PolyAInfo) (hne : exons ≠ []) :
    ∃ r a t, TrimRun mf exons rb cb info a t r := by
  obtain ⟨a, t, hcri, hlt, hale, htle, heq⟩ := correctReadInfo_spec mf exons info hne
  -- the arithmetic first: `omega` fails on a context that holds the `let`-bound state and the `∃`s of the halves below
  have ha : a < exons.length := by omega
  have ht : t < (exons.length - a.toNat : Nat) := by omega
  have ht' : t.toNat < exons.length - a.toNat := by omega
  let st0 : AInfo := { exons := exons, readBlocks := rb, cigarBlocks := cb, info := info, exonsChanged := false,
                       readStart := (exons.head hne).1, readEnd := (exons.getLast hne).2 }
  have h0 : ainfoInit exons rb cb info = some st0 := by
    simp [ainfoInit, List.head?_eq_some_head hne, List.getLast?_eq_some_getLast hne, st0]
  obtain ⟨st1, h1, h1e, h1r, h1c, h1it, h1et, _, _, _, h1id, h1sh⟩ := trimPolyA_spec st0 a ha
  have h1len : st1.exons.length = exons.length - a.toNat := by rw [h1e]; simp [st0]
  obtain ⟨st2, h2, h2e, h2r, h2c, h2ia, h2ea, _, _, _, h2id, h2sh⟩ := trimPolyT_spec st1 t (h1len ▸ ht)
  obtain ⟨r, hr, hre, hrr, hrc, hri, _⟩ := refreshEnds_spec st2 (by
    apply List.ne_nil_of_length_pos; rw [h2e, List.length_drop, h1len]; exact Nat.sub_pos_of_lt ht')
  refine ⟨r, a, t, ?_, hcri, hlt, hale, htle, heq, by rw [hre, h2e, h1e], by rw [hrr, h2r, h1r],
    by rw [hrc, h2c, h1c], ?_, ?_, ?_, ?_⟩
  · simp [addPolyaInfo, addPolyaInfoWith, h0, hcri, h1, h2, hr]
  · intro h; rw [hri, h2ia, h2ea, h1id h]; exact ⟨rfl, rfl⟩
  · intro h; rw [hri, h2ia, h2ea]; exact h1sh h
  · intro h; rw [hri, h2id h, h1it, h1et]; exact ⟨rfl, rfl⟩
  · intro h
    have := h2sh h
    rw [h1it, h1et, h1e, shiftPolyt_take exons _ t _ h ht (Nat.sub_le _ _),
      shiftPolyt_take exons _ t _ h ht (Nat.sub_le _ _)] at this
    rw [hri]; exact this

namespace TrimRun
variable {mf : Int} {exons rb cb : List Iv} {info : PolyAInfo} {a t : Int} {r : AInfo}

theorem lastKept_lt (run : TrimRun mf exons rb cb info a t r) : exons.length - a.toNat - 1 < exons.length := by
  have := run.lt; omega

theorem firstRemoved_lt (run : TrimRun mf exons rb cb info a t r) (ha : 0 < a) :
    exons.length - a.toNat < exons.length := by
  have := run.lt; omega

theorem firstKept_lt (run : TrimRun mf exons rb cb info a t r) : t.toNat < exons.length := by
  have := run.lt; omega

theorem lastRemoved_lt (run : TrimRun mf exons rb cb info a t r) : t.toNat - 1 < exons.length := by
  have := run.lt; omega

theorem getLast?_exons (run : TrimRun mf exons rb cb info a t r) :
    r.exons.getLast? = some (exons[exons.length - a.toNat - 1]'run.lastKept_lt) := by
  have := run.lt
  rw [run.exons_eq, List.getLast?_drop, List.length_take,
    if_neg (show ¬ (min (exons.length - a.toNat) exons.length ≤ t.toNat) by omega), List.getLast?_take,
    if_neg (show ¬ (exons.length - a.toNat = 0) by omega)]
  simp [run.lastKept_lt]

theorem head?_exons (run : TrimRun mf exons rb cb info a t r) :
    r.exons.head? = some (exons[t.toNat]'run.firstKept_lt) := by
  have := run.lt
  rw [run.exons_eq, List.head?_drop, List.getElem?_take_of_lt (by omega), List.getElem?_eq_getElem]

/-- exons are removed at the 3' end only when the internal polyA position was found -/
theorem internalPolyA_ne (run : TrimRun mf exons rb cb info a t r) (ha : 0 < a) : info.internalPolyA ≠ -1 := by
  intro hc
  have := run.le_countA
  simp [countPolyaExons, hc] at this
  omega

theorem internalPolyT_ne (run : TrimRun mf exons rb cb info a t r) (ht : 0 < t) : info.internalPolyT ≠ -1 := by
  intro hc
  have := run.le_countT
  simp [countPolytExons, hc] at this
  omega

end TrimRun

/-- room left before the next exon to be processed by `shift_polya`'s loop -/
def boundA (pos lo : Int) : List Iv → Int
  | [] => pos - lo
  | e :: _ => pos - e.2 - 1

/-- `L` = the trimmed exons, last exon first; `lo` bounds their starts from below -/
theorem shiftDistA_bound (pos lo : Int) : ∀ (L : List Iv) (d : Int),
    (∀ e ∈ L, lo ≤ e.1 ∧ e.1 ≤ e.2) → L.Pairwise (fun a b => b.2 < a.1) → 0 ≤ d →
    d ≤ max 0 (boundA pos lo L) →
    d ≤ shiftDistA pos d L ∧ shiftDistA pos d L ≤ max 0 (pos - lo) := by
  intro L
  induction L with
  | nil => intro d _ _ _ h; simp only [shiftDistA]; exact ⟨Int.le_refl _, h⟩
  | cons e rest ih =>
    intro d hwf hp hd hb
    have he := hwf e (by simp)
    have hwf' : ∀ x ∈ rest, lo ≤ x.1 ∧ x.1 ≤ x.2 := fun x hx => hwf x (by simp [hx])
    have hp' := (List.pairwise_cons.1 hp).2
    have hlt := (List.pairwise_cons.1 hp).1
    simp only [boundA] at hb
    simp only [shiftDistA, interval_len]
    have key : ∀ d', d' ≤ max 0 (pos - e.1) → d' ≤ max 0 (boundA pos lo rest) := by
      intro d' hd'
      cases rest with
      | nil => simp only [boundA]; omega
      | cons e' r' =>
        have := hlt e' (by simp)
        simp only [boundA]; omega
    split
    · exact ih d hwf' hp' hd (key d (by omega))
    · split
      · have h := ih (d + (pos - e.1)) hwf' hp' (by omega) (key _ (by omega))
        omega
      · have h := ih (d + (e.2 - e.1 + 1)) hwf' hp' (by omega) (key _ (by omega))
        omega

theorem shiftDistT_flipAt (pos c : Int) : ∀ (l : List Iv) (d : Int),
    shiftDistT pos d l = shiftDistA (c - pos) d (l.map (flipAt c))
  | [], _ => rfl
  | e :: l, d => by
    simp only [List.map_cons, shiftDistT, shiftDistA, shiftDistT_flipAt pos c l, interval_len,
      show ((flipAt c e).1 > c - pos) = (e.2 < pos) from propext (by simp only [flipAt]; omega),
      show c - pos - (flipAt c e).1 = e.2 - pos by simp only [flipAt]; omega,
      show (flipAt c e).2 - (flipAt c e).1 = e.2 - e.1 by simp only [flipAt]; omega]

theorem shiftDistT_flip (pos : Int) (l : List Iv) (d : Int) :
    shiftDistT pos d l = shiftDistA (-pos) d (l.map flipIv) := by
  rw [flipIv_eq, ← Int.zero_sub]; exact shiftDistT_flipAt pos 0 l d

theorem SD.drop {l : List Iv} (h : SD l) (n : Nat) : SD (l.drop n) :=
  ⟨fun e he => h.1 e (List.mem_of_mem_drop he), List.Pairwise.sublist (List.drop_sublist n l) h.2⟩

theorem SD.take {l : List Iv} (h : SD l) (n : Nat) : SD (l.take n) :=
  ⟨fun e he => h.1 e (List.mem_of_mem_take he), List.Pairwise.sublist (List.take_sublist n l) h.2⟩


theorem shiftDistA_removed (exons : List Iv) (k : Nat) (pos : Int) (hsd : SD exons) (hk0 : 0 < k)
    (hk : k < exons.length) :
    0 ≤ shiftDistA pos 0 (exons.reverse.take k) ∧
      shiftDistA pos 0 (exons.reverse.take k) ≤ max 0 (pos - (exons[exons.length - k]'(by omega)).1) := by
  have hm : exons.length - k < exons.length := by omega
  have hdrop := List.drop_eq_getElem_cons hm
  have hsdd := hsd.drop (exons.length - k)
  rw [hdrop] at hsdd
  have hpw := List.pairwise_cons.1 hsdd.2
  refine shiftDistA_bound pos (exons[exons.length - k]).1 (exons.reverse.take k) 0 ?_ ?_ (Int.le_refl 0) (by omega)
  · intro e he
    rw [List.take_reverse, List.mem_reverse, hdrop] at he
    have hw := hsdd.1 e he
    rcases List.mem_cons.1 he with h | h
    · subst h; exact ⟨Int.le_refl _, hw⟩
    · have := hpw.1 e h
      have := hsdd.1 _ List.mem_cons_self
      omega
  · rw [List.take_reverse, List.pairwise_reverse]
    exact (hsd.drop _).2

theorem SD.flip_reverse {l : List Iv} (h : SD l) : SD (l.map flipIv).reverse :=
  ⟨fun x hx => by
      obtain ⟨e, he, rfl⟩ := List.mem_map.1 (List.mem_reverse.1 hx); have := h.1 e he; simp only [flipIv]; omega,
    List.pairwise_reverse.2 (List.pairwise_map.2 (h.2.imp fun {a b} hab => by simp only [flipIv]; omega))⟩

theorem shiftDistT_removed (exons : List Iv) (k : Nat) (pos : Int) (hsd : SD exons) (hk0 : 0 < k)
    (hk : k < exons.length) :
    0 ≤ shiftDistT pos 0 (exons.take k) ∧
      shiftDistT pos 0 (exons.take k) ≤ max 0 ((exons[k - 1]'(by omega)).2 - pos) := by
  have := shiftDistA_removed (exons.map flipIv).reverse k (-pos) hsd.flip_reverse hk0 (by simpa using hk)
  simp only [List.reverse_reverse, ← List.map_take, ← shiftDistT_flip, List.getElem_reverse, List.getElem_map,
    List.length_reverse, List.length_map, show exons.length - 1 - (exons.length - k) = k - 1 by omega, flipIv] at this
  omega

/-- `shift_polya` re-anchors a position at the end of the last retained exon, at a distance bounded by the
    genomic distance from the start of the trimmed part; an absent position stays absent -/
theorem shiftPolya_moved {exons : List Iv} {k old new : Int} (hsd : SD exons) (h0 : 0 < k)
    (h1 : k < exons.length) (h : shiftPolya exons k old = some new) :
    (old = -1 → new = -1) ∧
    (old ≠ -1 → (exons[exons.length - k.toNat - 1]'(by omega)).2 ≤ new ∧
      new ≤ (exons[exons.length - k.toNat - 1]'(by omega)).2 +
        max 0 (old - (exons[exons.length - k.toNat]'(by omega)).1)) := by
  refine ⟨fun ho => ?_, fun ho => ?_⟩
  · rw [ho, shiftPolya_none_found] at h; exact (Option.some.inj h).symm
  · rw [shiftPolya_eq exons k old h0 h1 ho] at h
    have := shiftDistA_removed exons k.toNat old hsd (by omega) (by omega)
    have := Option.some.inj h
    omega

/-- mirror image: `shift_polyt` re-anchors a position at the start of the first retained exon -/
theorem shiftPolyt_moved {exons : List Iv} {k old new : Int} (hsd : SD exons) (h0 : 0 < k)
    (h1 : k < exons.length) (h : shiftPolyt exons k old = some new) :
    (old = -1 → new = -1) ∧
    (old ≠ -1 → (exons[k.toNat]'(by omega)).1 - max 0 ((exons[k.toNat - 1]'(by omega)).2 - old) ≤ new ∧
      new ≤ (exons[k.toNat]'(by omega)).1) := by
  refine ⟨fun ho => ?_, fun ho => ?_⟩
  · rw [ho, shiftPolyt_none_found] at h; exact (Option.some.inj h).symm
  · rw [shiftPolyt_eq exons k old h0 h1 ho] at h
    have := shiftDistT_removed exons k.toNat old hsd (by omega) (by omega)
    have := Option.some.inj h
    omega

/-! ### counts as (upper bounds by) `countP` of a per-exon predicate -/

def polyaCounted (mf pos : Int) (e : Iv) : Bool := decide (e.2 > pos) && isPolyaExon mf pos e
def polytCounted (mf pos : Int) (e : Iv) : Bool := decide (e.1 < pos) && isPolytExon mf pos e

theorem countPolyaLoop_le_countP (mf pos : Int) (l : List Iv) :
    ∀ cnt, countPolyaLoop mf pos cnt l ≤ cnt + (l.countP (polyaCounted mf pos) : Nat) := by
  induction l with
  | nil => intro cnt; simp [countPolyaLoop]
  | cons e rest ih =>
    intro cnt
    have h1 := ih cnt
    have h2 := ih (cnt + 1)
    simp only [countPolyaLoop, List.countP_cons, polyaCounted]
    split
    · omega
    · rename_i hgt
      have hgt' : e.2 > pos := by omega
      split
      · rename_i hp; simp [hgt', hp]; omega
      · rename_i hp; simp [hp]; omega

theorem polytCounted_flip (mf pos : Int) (e : Iv) : polytCounted mf pos e = polyaCounted mf (-pos) (flipIv e) := by
  simp only [polytCounted, polyaCounted, isPolytExon_flip,
    show (flipIv e).2 > -pos ↔ e.1 < pos by simp only [flipIv]; omega]

theorem countP_polyt_flip (mf pos : Int) (l : List Iv) :
    (l.map flipIv).countP (polyaCounted mf (-pos)) = l.countP (polytCounted mf pos) := by
  rw [List.countP_map]; simp only [Function.comp_def, ← polytCounted_flip]

theorem countPolytLoop_le_countP (mf pos : Int) (l : List Iv) (cnt : Int) :
    countPolytLoop mf pos cnt l ≤ cnt + (l.countP (polytCounted mf pos) : Nat) := by
  rw [countPolytLoop_flip, ← countP_polyt_flip]
  exact countPolyaLoop_le_countP mf (-pos) _ cnt

/-! ### the internal position: the removed exons end after it (start before it) -/

theorem shiftDistA_append (pos : Int) : ∀ (A B : List Iv) (d : Int),
    shiftDistA pos d (A ++ B) = shiftDistA pos (shiftDistA pos d A) B := by
  intro A
  induction A with
  | nil => intro B d; rfl
  | cons e es ih =>
    intro B d
    simp only [List.cons_append, shiftDistA]
    split
    · exact ih B d
    · split <;> exact ih B _

theorem shiftDistA_all_skip (pos : Int) : ∀ (L : List Iv) (d : Int), (∀ e ∈ L, e.1 > pos) → shiftDistA pos d L = d := by
  intro L
  induction L with
  | nil => intro d _; rfl
  | cons e es ih =>
    intro d h
    have he := h e (by simp)
    simp only [shiftDistA, he, if_true]
    exact ih d (fun x hx => h x (by simp [hx]))

/-- when the removed exons all end after `pos` (as the counted ones do), only the first removed exon can
    contribute to the distance: it is `max 0 (pos - first.1)` -/
theorem shiftDistA_counted (exons : List Iv) (k : Nat) (pos : Int) (hsd : SD exons) (hk0 : 0 < k)
    (hk : k < exons.length) (hend : ∀ e ∈ exons.drop (exons.length - k), e.2 > pos) :
    shiftDistA pos 0 (exons.reverse.take k) = max 0 (pos - (exons[exons.length - k]'(by omega)).1) := by
  have hm : exons.length - k < exons.length := by omega
  have hdrop : exons.drop (exons.length - k) = exons[exons.length - k] :: exons.drop (exons.length - k + 1) :=
    List.drop_eq_getElem_cons hm
  have hsdd := (hsd.drop (exons.length - k)).2
  rw [hdrop] at hsdd
  have hpw := (List.pairwise_cons.1 hsdd).1
  have hf := hend (exons[exons.length - k]) (by rw [hdrop]; exact List.mem_cons_self)
  rw [List.take_reverse, hdrop, List.reverse_cons, shiftDistA_append,
    shiftDistA_all_skip pos _ 0 (by
      intro e he
      have he' := List.mem_reverse.1 he
      have := hpw e he'
      omega)]
  simp only [shiftDistA]
  split
  · omega
  · simp; omega

/-- mirror image: only the last removed exon can contribute, `max 0 (last.2 - pos)` -/
theorem shiftDistT_counted (exons : List Iv) (k : Nat) (pos : Int) (hsd : SD exons) (hk0 : 0 < k)
    (hk : k < exons.length) (hstart : ∀ e ∈ exons.take k, e.1 < pos) :
    shiftDistT pos 0 (exons.take k) = max 0 ((exons[k - 1]'(by omega)).2 - pos) := by
  have := shiftDistA_counted (exons.map flipIv).reverse k (-pos) hsd.flip_reverse hk0 (by simpa using hk) (by
    intro x hx
    rw [List.drop_reverse, List.mem_reverse, List.length_reverse, List.length_map,
      show exons.length - (exons.length - k) = k by omega, ← List.map_take] at hx
    obtain ⟨e, he, rfl⟩ := List.mem_map.1 hx
    have := hstart e he
    simp only [flipIv]; omega)
  simp only [List.reverse_reverse, ← List.map_take, ← shiftDistT_flip, List.getElem_reverse, List.getElem_map,
    List.length_reverse, List.length_map, show exons.length - 1 - (exons.length - k) = k - 1 by omega, flipIv] at this
  omega
/-! ### the clamp of the repaired `add_polya_info` -/

theorem clampA_le (oi oe ni ne : Int) : clampA oi oe ni ne ≤ ne := by
  unfold clampA; split <;> omega

theorem clampA_both (oi oe ni ne : Int) (h1 : oi ≠ -1) (h2 : oe ≠ -1) : clampA oi oe ni ne = min ne ni := by
  simp [clampA, h1, h2]

theorem clampT_ge (oi oe ni ne : Int) : ne ≤ clampT oi oe ni ne := by
  unfold clampT; split <;> omega

theorem clampT_both (oi oe ni ne : Int) (h1 : oi ≠ -1) (h2 : oe ≠ -1) : clampT oi oe ni ne = max ne ni := by
  simp [clampT, h1, h2]

end IsoVerif.Lemmas.C16
