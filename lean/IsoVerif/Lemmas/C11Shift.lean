/-
C11 helper lemmas — translation `x ↦ x + k` of the list functions of Model/Interval.lean.
The per-function lemmas are proved along the function's recursion by one rewriting set (`shift_simp`); `merge_ranges` is
treated for every strictly increasing map of the coordinates (`mapIv`, `mergeLoop_mapIv`), of which translation is one.
-/
import IsoVerif.Gen.Prims
import IsoVerif.Model.Interval
import IsoVerif.Model.C11Symmetry
import IsoVerif.Lemmas.Interval
import IsoVerif.Props.C11

namespace IsoVerif.Lemmas.C11
open IsoVerif.Gen IsoVerif.Model IsoVerif.Model.C11

theorem shiftL_nil (k : Int) : shiftL k [] = [] := rfl
theorem shiftL_cons (k : Int) (a : Iv) (l : List Iv) : shiftL k (a :: l) = shiftIv k a :: shiftL k l := rfl
theorem shiftL_append (k : Int) (l1 l2 : List Iv) : shiftL k (l1 ++ l2) = shiftL k l1 ++ shiftL k l2 := by
  simp [shiftL]
theorem shiftL_reverse (k : Int) (l : List Iv) : shiftL k l.reverse = (shiftL k l).reverse := by
  simp [shiftL]
theorem shiftL_length (k : Int) (l : List Iv) : (shiftL k l).length = l.length := by simp [shiftL]
theorem shiftL_head? (k : Int) (l : List Iv) : (shiftL k l).head? = l.head?.map (shiftIv k) := by
  simp [shiftL]
theorem shiftL_getLast? (k : Int) (l : List Iv) : (shiftL k l).getLast? = l.getLast?.map (shiftIv k) := by
  simp [shiftL]
theorem shiftL_getElem? (k : Int) (l : List Iv) (i : Nat) : (shiftL k l)[i]? = l[i]?.map (shiftIv k) := by
  simp [shiftL]
theorem shiftL_drop (k : Int) (l : List Iv) (n : Nat) : shiftL k (l.drop n) = (shiftL k l).drop n := by
  simp [shiftL]
theorem shiftL_take (k : Int) (l : List Iv) (n : Nat) : shiftL k (l.take n) = (shiftL k l).take n := by
  simp [shiftL]

theorem shiftL_shiftL (j k : Int) (l : List Iv) : shiftL j (shiftL k l) = shiftL (k + j) l := by
  simp [shiftL, Props.C11.shiftIv_add]

theorem shiftL_zero (l : List Iv) : shiftL 0 l = l := List.map_id'' Props.C11.shiftIv_zero l

theorem mem_shiftL (k : Int) (l : List Iv) (x : Iv) : x ∈ shiftL k l ↔ ∃ e ∈ l, x = shiftIv k e := by
  simp only [shiftL, List.mem_map, eq_comm]

theorem pyGet?_shiftL (k : Int) (l : List Iv) (i : Int) :
    pyGet? (shiftL k l) i = (pyGet? l i).map (shiftIv k) :=
  Lemmas.pyGet?_map (shiftIv k) l i

theorem pySlice_shiftL (k : Int) (l : List Iv) (a b : Int) :
    pySlice (shiftL k l) a b = shiftL k (pySlice l a b) := by
  simp only [pySlice, shiftL_length, shiftL_take, shiftL_drop]

@[simp] theorem shiftIv_fst (k : Int) (a : Iv) : (shiftIv k a).1 = a.1 + k := rfl
@[simp] theorem shiftIv_snd (k : Int) (a : Iv) : (shiftIv k a).2 = a.2 + k := rfl

theorem overlaps_shift (k : Int) (a b : Iv) : overlaps (shiftIv k a) (shiftIv k b) = overlaps a b :=
  Props.C11.shift_equivariant_overlaps k a b
theorem left_of_shift (k : Int) (a b : Iv) : left_of (shiftIv k a) (shiftIv k b) = left_of a b :=
  Props.C11.shift_equivariant_left_of k a b

theorem shiftIv_injective (k : Int) : Function.Injective (shiftIv k) := by
  intro a b h
  simp only [shiftIv, Prod.mk.injEq] at h
  ext <;> omega

theorem shiftIv_inj (k : Int) (a b : Iv) : shiftIv k a = shiftIv k b ↔ a = b :=
  ⟨fun h => shiftIv_injective k h, congrArg _⟩

/-- `shift_simp [f, g_shift, …]` abbreviates `simp_all only` with the fixed set below and the listed extras: `shiftL`,
    `shiftIv` through list constructors and projections (`shiftL_nil`, `shiftL_cons`, `shiftIv_fst`, `shiftIv_snd`), `+ k`
    out of `<`, `≤`, `−`, `min`, `max`, and the translation theorems of `interval_len`, `overlaps`, `left_of`.
    It proves `f (shifted arguments) = f arguments` (or `= shiftL k (f arguments)`) case by case after
    `induction` / `fun_induction` along `f`'s recursion: `f` is unfolded once, the induction hypotheses and the branch
    conditions in the context rewrite the rest.  It applies when `f` reads coordinates only through those operations;
    the translation lemmas of the functions `f` calls are passed as extras. -/
macro "shift_simp" "[" ls:Lean.Parser.Tactic.simpLemma,* "]" : tactic =>
  `(tactic| simp_all only [shiftL_nil, shiftL_cons, shiftIv_fst, shiftIv_snd, Int.add_lt_add_iff_right,
      Int.add_le_add_iff_right, Int.add_sub_add_right, Int.min_add_right, Int.max_add_right, overlaps_shift, left_of_shift,
      Props.C11.shift_equivariant_interval_len,
      if_true, if_false, Bool.false_eq_true, $ls,*])

theorem intervalsTotalLength_shift (k : Int) (l : List Iv) :
    intervalsTotalLength (shiftL k l) = intervalsTotalLength l := by
  induction l <;> shift_simp [intervalsTotalLength]

theorem sumToLoop_shift (k p : Int) (l : List Iv) : sumToLoop (p + k) (shiftL k l) = sumToLoop p l := by
  induction l <;> shift_simp [sumToLoop]

theorem sumFromLoop_shift (k p : Int) (l : List Iv) : sumFromLoop (p + k) (shiftL k l) = sumFromLoop p l := by
  induction l <;> shift_simp [sumFromLoop, gt_iff_lt]

theorem tailUnion_shift (k : Int) (inc : Bool) (l : List Iv) : tailUnion inc (shiftL k l) = tailUnion inc l := by
  induction l generalizing inc <;> shift_simp [tailUnion]

theorem ovInter_shift (k : Int) (a b : Iv) : ovInter (shiftIv k a) (shiftIv k b) = ovInter a b := by
  shift_simp [ovInter]

theorem ovUnion_shift (k : Int) (a b : Iv) (i1 i2 : Bool) :
    ovUnion (shiftIv k a) (shiftIv k b) i1 i2 = ovUnion a b i1 i2 := by
  shift_simp [ovUnion]

theorem readCoverageSweep_shift (k : Int) (l1 l2 : List Iv) :
    readCoverageSweep (shiftL k l1) (shiftL k l2) = readCoverageSweep l1 l2 := by
  fun_induction readCoverageSweep l1 l2 <;> shift_simp [readCoverageSweep]

theorem jaccardLoop_shift (k : Int) (l1 : List Iv) (i1 : Bool) (l2 : List Iv) (i2 : Bool) :
    jaccardLoop (shiftL k l1) i1 (shiftL k l2) i2 = jaccardLoop l1 i1 l2 i2 := by
  fun_induction jaccardLoop l1 i1 l2 i2
  case case2 a as i1 i2 => rw [shiftL_nil, shiftL_cons, jaccardLoop, ← shiftL_cons, tailUnion_shift]
  all_goals shift_simp [jaccardLoop, tailUnion_shift, ovInter_shift, ovUnion_shift]

/-! ### `merge_ranges` under a strictly increasing map of the coordinates

The loop only compares coordinates and takes minima and maxima of them, so it commutes with every strictly increasing
`f`; translation is the instance `f = (· + k)` (C11MirrorMerge uses `f = (2 * ·)`). -/

def mapIv (f : Int → Int) (r : Iv) : Iv := (f r.1, f r.2)

section
variable (f : Int → Int) (hf : ∀ x y, f x < f y ↔ x < y)
include hf

theorem map_min (x y : Int) : min (f x) (f y) = f (min x y) := by
  have := hf x y; have := hf y x
  by_cases c : x ≤ y
  · rw [Int.min_eq_left c, Int.min_eq_left (by omega)]
  · rw [Int.min_eq_right (by omega), Int.min_eq_right (by omega)]

theorem map_max (x y : Int) : max (f x) (f y) = f (max x y) := by
  have := hf x y; have := hf y x
  by_cases c : x ≤ y
  · rw [Int.max_eq_right c, Int.max_eq_right (by omega)]
  · rw [Int.max_eq_left (by omega), Int.max_eq_left (by omega)]

theorem overlaps_mapIv (a b : Iv) : overlaps (mapIv f a) (mapIv f b) = overlaps a b := by
  simp only [overlaps, mapIv, gt_iff_lt, hf]

theorem left_of_mapIv (a b : Iv) : left_of (mapIv f a) (mapIv f b) = left_of a b := by
  simp only [left_of, mapIv, hf]
omit hf in
theorem tailAppend_mapIv (inc : Bool) (acc l : List Iv) :
    tailAppend inc (acc.map (mapIv f)) (l.map (mapIv f)) = (tailAppend inc acc l).map (mapIv f) := by
  induction l generalizing inc acc with
  | nil => rfl
  | cons a t ih => cases inc <;> simp only [List.map_cons, tailAppend, ← ih, Bool.false_eq_true, if_false, if_true]

theorem ovAcc_mapIv (a b : Iv) (i1 i2 : Bool) (acc : List Iv) :
    ovAcc (mapIv f a) (mapIv f b) i1 i2 (acc.map (mapIv f)) = (ovAcc a b i1 i2 acc).map (List.map (mapIv f)) := by
  cases acc <;> cases i1 <;> cases i2 <;>
    simp [ovAcc, bumpLast, mapIv, map_min f hf, map_max f hf]

theorem mergeLoop_mapIv (l1 : List Iv) (i1 : Bool) (l2 : List Iv) (i2 : Bool) (acc : List Iv) :
    mergeLoop (l1.map (mapIv f)) i1 (l2.map (mapIv f)) i2 (acc.map (mapIv f))
      = (mergeLoop l1 i1 l2 i2 acc).map (List.map (mapIv f)) := by
  fun_induction mergeLoop l1 i1 l2 i2 acc with
  | case1 i1 l2 i2 acc => simp [mergeLoop, tailAppend_mapIv]
  | case2 a as i1 i2 acc =>
    rw [List.map_nil, List.map_cons, mergeLoop, ← List.map_cons, tailAppend_mapIv]; rfl
  | case3 a as i1 b bs i2 acc hov hboth =>
    simp only [List.map_cons, mergeLoop, overlaps_mapIv f hf, hov, hboth]; simp
  | case4 a as i1 b bs i2 acc hov hboth hacc =>
    simp only [List.map_cons, mergeLoop, overlaps_mapIv f hf, hov, hboth, ovAcc_mapIv f hf, hacc]; simp
  | case5 a as i1 b bs i2 acc hov hboth acc' hacc hlt ih =>
    simp only [List.map_cons, mergeLoop, overlaps_mapIv f hf, hov, hboth, ovAcc_mapIv f hf, hacc] at ih ⊢
    simpa only [Option.map_some, mapIv, hf, hlt, if_true, Bool.false_eq_true, if_false] using ih
  | case6 a as i1 b bs i2 acc hov hboth acc' hacc hlt ih =>
    simp only [List.map_cons, mergeLoop, overlaps_mapIv f hf, hov, hboth, ovAcc_mapIv f hf, hacc] at ih ⊢
    simpa only [Option.map_some, mapIv, hf, hlt, if_true, Bool.false_eq_true, if_false] using ih
  | case7 a as i1 b bs i2 acc hov hlo ih =>
    simp only [List.map_cons, mergeLoop, overlaps_mapIv f hf, left_of_mapIv f hf, hov, hlo] at ih ⊢
    cases i2 <;> simp_all
  | case8 a as i1 b bs i2 acc hov hlo ih =>
    simp only [List.map_cons, mergeLoop, overlaps_mapIv f hf, left_of_mapIv f hf, hov, hlo] at ih ⊢
    cases i1 <;> simp_all
end

theorem mergeLoop_shift (k : Int) (l1 : List Iv) (i1 : Bool) (l2 : List Iv) (i2 : Bool) (acc : List Iv) :
    mergeLoop (shiftL k l1) i1 (shiftL k l2) i2 (shiftL k acc) = (mergeLoop l1 i1 l2 i2 acc).map (shiftL k) :=
  mergeLoop_mapIv (· + k) (fun _ _ => Int.add_lt_add_iff_right k) l1 i1 l2 i2 acc

theorem extraExonLoop_shift (k : Int) (reg : Iv) (l : List Iv) :
    extraExonLoop (shiftIv k reg) (shiftL k l) = extraExonLoop reg l := by
  -- `e1`, `e2` are not named again: the `simp_all` inside `shift_simp` rewrites with them
  have e1 (x : Int) : x + k - 1 = x - 1 + k := by omega
  have e2 (x : Int) : x + k + 1 = x + 1 + k := by omega
  induction l <;> shift_simp [extraExonLoop, gt_iff_lt]

theorem junctionsFromBlocks_shift (k : Int) (l : List Iv) :
    junctionsFromBlocks (shiftL k l) = shiftL k (junctionsFromBlocks l) := by
  have e1 (x : Int) : x + k - 1 = x - 1 + k := by omega
  have e2 (x : Int) : x + k + 1 = x + 1 + k := by omega
  fun_induction junctionsFromBlocks l <;> shift_simp [junctionsFromBlocks, shiftIv]

theorem binSearchLoop_shift (k p : Int) (l : List Iv) (fuel ind step : Nat) :
    binSearchLoop (shiftL k l) (p + k) fuel ind step = binSearchLoop l p fuel ind step := by
  induction fuel generalizing ind step with
  | zero => rfl
  | succ f ih =>
    simp only [binSearchLoop, shiftL_getElem?]
    cases h1 : l[ind]? <;> cases h2 : l[ind + 1]? <;> simp only [Option.map_none, Option.map_some]
    rename_i a b
    simp only [shiftIv_fst, ih]
    grind

theorem binSearchRevLoop_shift (k p : Int) (l : List Iv) (fuel ind step : Nat) :
    binSearchRevLoop (shiftL k l) (p + k) fuel ind step = binSearchRevLoop l p fuel ind step := by
  induction fuel generalizing ind step with
  | zero => rfl
  | succ f ih =>
    simp only [binSearchRevLoop, shiftL_getElem?, pyGet?_shiftL]
    cases h1 : pyGet? l ((ind : Int) - 1) <;> cases h2 : l[ind]? <;> simp only [Option.map_none, Option.map_some]
    rename_i a b
    simp only [shiftIv_snd, ih]
    grind

end IsoVerif.Lemmas.C11
