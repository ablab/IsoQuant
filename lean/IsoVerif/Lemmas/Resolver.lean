/-
Helper lemmas for C08 (multimapper resolution), in this order: first-wins elimination of duplicates (`firstWinsAux_*`);
`__eq__` (`recEq`), keys and `len(set(..))` (`setSize_*`); `filter_assignments` record by record (`flag`, `suspend`, `applyKeep`:
what a retained / suspended record keeps); the priority classes (`consistent_inconsistent_disjoint`, `filter_zipIdx_isEmpty_iff`);
the two selectors `select_best_inconsistent` and `select_noninformative` (`maxOverlap_spec`, the fold invariant `PickInv`);
the weights a record is credited with (`featureWeight_cases`).  Core Lean only.
-/
import IsoVerif.Model.Resolver
import IsoVerif.Lemmas.ListFacts

namespace IsoVerif.Lemmas.Resolver
open IsoVerif.Gen IsoVerif.Model.Resolver

section FirstWins
variable {α : Type} (eq : α → α → Bool)

theorem firstWinsAux_prefix (kept l : List α) :
    ∃ s, firstWinsAux eq kept l = kept ++ s ∧ s.Sublist l := by
  induction l generalizing kept with
  | nil => exact ⟨[], by simp [firstWinsAux]⟩
  | cons x rest ih =>
    unfold firstWinsAux
    split
    · obtain ⟨s, h1, h2⟩ := ih kept
      exact ⟨s, h1, h2.cons x⟩
    · obtain ⟨s, h1, h2⟩ := ih (kept ++ [x])
      exact ⟨x :: s, by simp [h1], h2.cons_cons x⟩

theorem kept_subset_firstWinsAux (kept l : List α) : ∀ k ∈ kept, k ∈ firstWinsAux eq kept l := by
  obtain ⟨s, h, _⟩ := firstWinsAux_prefix eq kept l
  intro k hk; rw [h]; exact List.mem_append_left _ hk

theorem firstWins_sublist (l : List α) : (firstWins eq l).Sublist l := by
  obtain ⟨s, h, hs⟩ := firstWinsAux_prefix eq [] l
  unfold firstWins; rw [h]; simpa using hs

theorem mem_of_mem_firstWins {l : List α} {x : α} (h : x ∈ firstWins eq l) : x ∈ l :=
  (firstWins_sublist eq l).subset h

theorem firstWinsAux_repr (hrefl : ∀ a, eq a a = true) (kept l : List α) :
    ∀ x ∈ l, ∃ k ∈ firstWinsAux eq kept l, eq k x = true := by
  induction l generalizing kept with
  | nil => intro x hx; cases hx
  | cons y rest ih =>
    intro x hx
    unfold firstWinsAux
    rcases List.mem_cons.mp hx with rfl | hx
    · split
      · rename_i hany
        obtain ⟨k, hk, hkx⟩ := List.any_eq_true.mp hany
        exact ⟨k, kept_subset_firstWinsAux eq kept rest k hk, hkx⟩
      · exact ⟨x, kept_subset_firstWinsAux eq _ rest x (by simp), hrefl x⟩
    · split
      · exact ih kept x hx
      · exact ih _ x hx

theorem firstWins_repr (hrefl : ∀ a, eq a a = true) (l : List α) :
    ∀ x ∈ l, ∃ k ∈ firstWins eq l, eq k x = true := firstWinsAux_repr eq hrefl [] l

theorem firstWinsAux_pairwise (kept l : List α) (h : kept.Pairwise (fun a b => eq a b = false)) :
    (firstWinsAux eq kept l).Pairwise (fun a b => eq a b = false) := by
  induction l generalizing kept with
  | nil => simpa [firstWinsAux] using h
  | cons x rest ih =>
    unfold firstWinsAux
    split
    · exact ih kept h
    · rename_i hany
      apply ih
      rw [List.pairwise_append]
      refine ⟨h, by simp, ?_⟩
      intro a ha b hb
      simp only [List.mem_singleton] at hb; subst hb
      cases hab : eq a b with
      | false => rfl
      | true => exact absurd (List.any_eq_true.mpr ⟨a, ha, hab⟩) hany

theorem firstWins_pairwise (l : List α) : (firstWins eq l).Pairwise (fun a b => eq a b = false) :=
  firstWinsAux_pairwise eq [] l List.Pairwise.nil

theorem firstWinsAux_first (kept pre post : List α) (x : α)
    (hk : ∀ k ∈ kept, eq k x = false) (hpre : ∀ y ∈ pre, eq y x = false) :
    x ∈ firstWinsAux eq kept (pre ++ x :: post) := by
  induction pre generalizing kept with
  | nil =>
    simp only [List.nil_append]
    unfold firstWinsAux
    have : kept.any (fun k => eq k x) = false := by
      rw [List.any_eq_false]; intro k hk'; simp [hk k hk']
    simp only [this]
    exact kept_subset_firstWinsAux eq _ post x (by simp)
  | cons y pre ih =>
    simp only [List.cons_append]
    unfold firstWinsAux
    split
    · exact ih kept hk (fun z hz => hpre z (List.mem_cons_of_mem _ hz))
    · apply ih
      · intro k hk'
        rcases List.mem_append.mp hk' with h | h
        · exact hk k h
        · simp only [List.mem_singleton] at h; subst h; exact hpre _ (by simp)
      · exact fun z hz => hpre z (List.mem_cons_of_mem _ hz)

theorem firstWins_first (pre post : List α) (x : α) (hpre : ∀ y ∈ pre, eq y x = false) :
    x ∈ firstWins eq (pre ++ x :: post) :=
  firstWinsAux_first eq [] pre post x (by simp) hpre

theorem firstWinsAux_all_eq (k : α) (l : List α) (h : ∀ x ∈ l, eq k x = true) :
    firstWinsAux eq [k] l = [k] := by
  induction l with
  | nil => rfl
  | cons x t ih =>
    have hx : eq k x = true := h x (by simp)
    simp only [firstWinsAux, List.any_cons, hx, Bool.true_or, if_true]
    exact ih (fun y hy => h y (List.mem_cons_of_mem _ hy))

theorem firstWins_all_eq (k : α) (l : List α) (h : ∀ x ∈ l, eq k x = true) :
    firstWins eq (k :: l) = [k] := by
  simp only [firstWins, firstWinsAux, List.any_nil, Bool.false_eq_true, if_false, List.nil_append]
  exact firstWinsAux_all_eq eq k l h

/-- the converse: nothing is dropped from a list without two equal members -/
theorem firstWinsAux_of_pairwise (l kept : List α)
    (h : (kept ++ l).Pairwise (fun a b => eq a b = false)) : firstWinsAux eq kept l = kept ++ l := by
  induction l generalizing kept with
  | nil => simp [firstWinsAux]
  | cons x rest ih =>
    have hp := List.pairwise_append.mp h
    have hx : kept.any (fun k => eq k x) = false := by
      rw [List.any_eq_false]
      intro k hk
      simpa using hp.2.2 k hk x (by simp)
    simp only [firstWinsAux, hx, Bool.false_eq_true, ↓reduceIte]
    rw [ih (kept ++ [x]) (by simpa using h)]
    simp

end FirstWins

theorem firstWinsAux_map {α β : Type} (f : α → β) (eqa : α → α → Bool) (eqb : β → β → Bool)
    (h : ∀ a b, eqb (f a) (f b) = eqa a b) (kept l : List α) :
    firstWinsAux eqb (kept.map f) (l.map f) = (firstWinsAux eqa kept l).map f := by
  induction l generalizing kept with
  | nil => rfl
  | cons x rest ih =>
    simp only [List.map_cons, firstWinsAux, List.any_map, Function.comp_def, h]
    split
    · exact ih kept
    · have := ih (kept ++ [x])
      simpa only [List.map_append, List.map_cons, List.map_nil] using this

theorem firstWins_map {α β : Type} (f : α → β) (eqa : α → α → Bool) (eqb : β → β → Bool)
    (h : ∀ a b, eqb (f a) (f b) = eqa a b) (l : List α) :
    firstWins eqb (l.map f) = (firstWins eqa l).map f :=
  firstWinsAux_map f eqa eqb h [] l


/-! ### `__eq__`, keys, `len(set(..))` -/

theorem recEq_refl (a : Rec) : recEq a a = true := by simp [recEq]

theorem recEq_iff (a b : Rec) : recEq a b = true ↔ a.readId = b.readId ∧ key a = key b := by
  simp only [recEq, key, Bool.and_eq_true, beq_iff_eq, Prod.mk.injEq]
  constructor
  · rintro ⟨⟨⟨⟨h1, h2⟩, h3⟩, h4⟩, h5⟩; exact ⟨h1, h2, h3, h4, h5⟩
  · rintro ⟨h1, h2, h3, h4, h5⟩; exact ⟨⟨⟨⟨h1, h2⟩, h3⟩, h4⟩, h5⟩

theorem recEq_symm (a b : Rec) : recEq a b = recEq b a := by
  rw [Bool.eq_iff_iff, recEq_iff, recEq_iff]
  constructor <;> (rintro ⟨h1, h2⟩; exact ⟨h1.symm, h2.symm⟩)

theorem recEq_trans {a b c : Rec} (h1 : recEq a b = true) (h2 : recEq b c = true) : recEq a c = true := by
  rw [recEq_iff] at *; exact ⟨h1.1.trans h2.1, h1.2.trans h2.2⟩

theorem key_eq_of_recEq {a b : Rec} (h : recEq a b = true) : key a = key b := ((recEq_iff a b).mp h).2

theorem setSize_gt_one_iff (xs : List Nat) : 1 < setSize xs ↔ ∃ a ∈ xs, ∃ b ∈ xs, a ≠ b := by
  unfold setSize
  constructor
  · intro h
    have hp := firstWins_pairwise (fun a b : Nat => a == b) xs
    have hs := firstWins_sublist (fun a b : Nat => a == b) xs
    match hfw : firstWins (fun a b : Nat => a == b) xs, h with
    | a :: b :: rest, _ =>
      rw [hfw] at hp hs
      have hab : (a == b) = false := (List.pairwise_cons.mp hp).1 b (by simp)
      exact ⟨a, hs.subset (by simp), b, hs.subset (by simp), by simpa using hab⟩
  · rintro ⟨a, ha, b, hb, hab⟩
    obtain ⟨ka, hka, ea⟩ := firstWins_repr (fun a b : Nat => a == b) (by simp) xs a ha
    obtain ⟨kb, hkb, eb⟩ := firstWins_repr (fun a b : Nat => a == b) (by simp) xs b hb
    simp only [beq_iff_eq] at ea eb
    subst ea; subst eb
    exact length_gt_one_of_two_mem hka hkb hab

theorem setSize_flatMap_gt_one_iff {α : Type} (rs : List α) (f : α → List Nat) :
    1 < setSize (rs.flatMap f) ↔ ∃ r1 ∈ rs, ∃ r2 ∈ rs, ∃ a ∈ f r1, ∃ b ∈ f r2, a ≠ b := by
  simp only [setSize_gt_one_iff, List.mem_flatMap]
  constructor
  · rintro ⟨a, ⟨r1, hr1, ha⟩, b, ⟨r2, hr2, hb⟩, hab⟩; exact ⟨r1, hr1, r2, hr2, a, ha, b, hb, hab⟩
  · rintro ⟨r1, hr1, r2, hr2, a, ha, b, hb, hab⟩; exact ⟨a, ⟨r1, hr1, ha⟩, b, ⟨r2, hr2, hb⟩, hab⟩

theorem findDuplicates_sublist (cand : List IRec) : (findDuplicates cand).Sublist cand := firstWins_sublist _ cand

/-! ### `filter_assignments` record by record -/

theorem suspend_atype (r : Rec) : (suspend r).atype = .suspended := rfl
theorem suspend_gtype (r : Rec) : (suspend r).gtype = .suspended := rfl
theorem key_suspend (r : Rec) : key (suspend r) = key r := rfl
theorem key_flag (a b : Bool) (r : Rec) : key (flag a b r) = key r := by
  cases a <;> cases b <;> rfl

theorem flag_atype (a b : Bool) (r : Rec) :
    (flag a b r).atype = if a then (if r.atype.is_inconsistent then .inconsistent_ambiguous else .ambiguous) else r.atype := by
  cases a <;> cases b <;> rfl

theorem flag_gtype (a b : Bool) (r : Rec) :
    (flag a b r).gtype = if b then (if r.atype.is_inconsistent then .inconsistent_ambiguous else .ambiguous) else r.gtype := by
  cases a <;> cases b <;> rfl

theorem flag_multimapper (a b : Bool) (r : Rec) : (flag a b r).multimapper = (a || b || r.multimapper) := by
  cases a <;> cases b <;> simp [flag]

theorem flag_isoforms (a b : Bool) (r : Rec) : (flag a b r).isoforms = r.isoforms := by
  cases a <;> cases b <;> rfl

theorem flag_genes (a b : Bool) (r : Rec) : (flag a b r).genes = r.genes := by
  cases a <;> cases b <;> rfl


theorem flag_atype_ne_suspended (a b : Bool) (r : Rec) (h : r.atype ≠ .suspended) :
    (flag a b r).atype ≠ .suspended := by
  rw [flag_atype]; cases a <;> simp [h]
  split <;> simp

/-- every field the resolver does not own is left alone -/
def SameAlignment (r r' : Rec) : Prop :=
  r'.aid = r.aid ∧ r'.readId = r.readId ∧ r'.chr = r.chr ∧ r'.start = r.start ∧ r'.stop = r.stop ∧ r'.region = r.region ∧
  r'.polyA = r.polyA ∧ r'.penalty = r.penalty ∧ r'.isoforms = r.isoforms ∧ r'.genes = r.genes

theorem sameAlignment_suspend (r : Rec) : SameAlignment r (suspend r) := by simp [SameAlignment, suspend]
theorem sameAlignment_flag (a b : Bool) (r : Rec) : SameAlignment r (flag a b r) := by
  cases a <;> cases b <;> simp [SameAlignment, flag]

theorem recEq_flag (a b c d : Bool) (r s : Rec) : recEq (flag a b r) (flag c d s) = recEq r s := by
  rw [Bool.eq_iff_iff, recEq_iff, recEq_iff, key_flag, key_flag, (sameAlignment_flag a b r).2.1,
    (sameAlignment_flag c d s).2.1]

/-- `change_transcript_assignment_type` / `change_gene_assignment_type` of `filter_assignments`
    (`several_kept and len(all_isoforms) > 1`) -/
def changeT (kept : List IRec) : Bool :=
  decide (1 < kept.length) && decide (1 < setSize (kept.flatMap (fun x => x.1.isoforms)))
def changeG (kept : List IRec) : Bool :=
  decide (1 < kept.length) && decide (1 < setSize (kept.flatMap (fun x => x.1.genes)))

theorem changeT_of_length_le_one {kept : List IRec} (h : kept.length ≤ 1) : changeT kept = false := by
  have : ¬ 1 < kept.length := by omega
  simp [changeT, this]
theorem changeG_of_length_le_one {kept : List IRec} (h : kept.length ≤ 1) : changeG kept = false := by
  have : ¬ 1 < kept.length := by omega
  simp [changeG, this]

/-- the flag of `filter_assignments` for one name field `f` (`several_kept and len(all_<f>) > 1`), read off the retained
    records `ret`; `hf`: re-flagging changes no name.  `changeT` / `changeG` are the instances `isoforms` / `genes`. -/
theorem change_iff_of_retained (f : Rec → List Nat) (hf : ∀ a b r, f (flag a b r) = f r) {kept : List IRec} {a b : Bool}
    {ret : List Rec} (h : ret = kept.map (fun x => flag a b x.1)) :
    (decide (1 < kept.length) && decide (1 < setSize (kept.flatMap (fun x => f x.1)))) = true ↔
      2 ≤ ret.length ∧ ∃ r1 ∈ ret, ∃ r2 ∈ ret, ∃ i ∈ f r1, ∃ j ∈ f r2, i ≠ j := by
  have hflat : ret.flatMap f = kept.flatMap (fun x => f x.1) := by
    rw [h, List.flatMap_map]; simp only [hf]
  rw [← setSize_flatMap_gt_one_iff, hflat, h, List.length_map, Bool.and_eq_true, decide_eq_true_eq, decide_eq_true_eq]
  exact Iff.rfl

theorem changeT_iff_of_retained {kept : List IRec} {a b : Bool} {ret : List Rec}
    (h : ret = kept.map (fun x => flag a b x.1)) :
    changeT kept = true ↔
      2 ≤ ret.length ∧ ∃ r1 ∈ ret, ∃ r2 ∈ ret, ∃ i ∈ r1.isoforms, ∃ j ∈ r2.isoforms, i ≠ j :=
  change_iff_of_retained (·.isoforms) flag_isoforms h

theorem changeG_iff_of_retained {kept : List IRec} {a b : Bool} {ret : List Rec}
    (h : ret = kept.map (fun x => flag a b x.1)) :
    changeG kept = true ↔
      2 ≤ ret.length ∧ ∃ r1 ∈ ret, ∃ r2 ∈ ret, ∃ i ∈ r1.genes, ∃ j ∈ r2.genes, i ≠ j :=
  change_iff_of_retained (·.genes) flag_genes h

theorem flag_false_false (r : Rec) : flag false false r = r := rfl

theorem length_applyKeep (l : List Rec) (kept : List IRec) : (applyKeep l kept).length = l.length := by
  simp [applyKeep]

theorem applyKeep_eq (l : List Rec) (kept : List IRec) :
    applyKeep l kept = l.zipIdx.map (fun x =>
      if (kept.map (·.2)).contains x.2 then flag (changeT kept) (changeG kept) x.1 else suspend x.1) := rfl

theorem getElem?_applyKeep (l : List Rec) (kept : List IRec) (i : Nat) :
    (applyKeep l kept)[i]? =
      (l[i]?).map (fun r => if (kept.map (·.2)).contains i then flag (changeT kept) (changeG kept) r else suspend r) := by
  rw [applyKeep_eq, List.getElem?_map, List.getElem?_zipIdx, Option.map_map, Nat.zero_add]; rfl

theorem flag_aid (a b : Bool) (r : Rec) : (flag a b r).aid = r.aid := by cases a <;> cases b <;> rfl
theorem flag_chr (a b : Bool) (r : Rec) : (flag a b r).chr = r.chr := by cases a <;> cases b <;> rfl
theorem flag_readId (a b : Bool) (r : Rec) : (flag a b r).readId = r.readId := by cases a <;> cases b <;> rfl

theorem applyKeep_ids (l : List Rec) (kept : List IRec) :
    (applyKeep l kept).map (fun r => (r.aid, r.chr)) = l.map (fun r => (r.aid, r.chr)) := by
  apply List.ext_getElem?
  intro i
  simp only [List.getElem?_map, getElem?_applyKeep, Option.map_map]
  cases l[i]? with
  | none => rfl
  | some r =>
    simp only [Option.map_some, Function.comp, Option.some.injEq]
    split
    · rw [flag_aid, flag_chr]
    · rfl

theorem applyKeep_all (s : List Rec) :
    applyKeep s s.zipIdx = s.map (flag (changeT s.zipIdx) (changeG s.zipIdx)) := by
  rw [applyKeep_eq, ← List.zipIdx_map_fst 0 s, List.map_map, List.zipIdx_map_fst]
  apply List.map_congr_left
  intro x hx
  rw [if_pos (List.contains_iff_mem.mpr (List.mem_map_of_mem hx))]; rfl

theorem mem_applyKeep {l : List Rec} {kept : List IRec} {r' : Rec} (h : r' ∈ applyKeep l kept) :
    ∃ r i, (r, i) ∈ l.zipIdx ∧
      r' = if (kept.map (·.2)).contains i then flag (changeT kept) (changeG kept) r else suspend r := by
  rw [applyKeep_eq, List.mem_map] at h
  obtain ⟨x, hx, rfl⟩ := h
  exact ⟨x.1, x.2, hx, rfl⟩


/-- the generated `is_consistent` / `is_inconsistent` tables are disjoint (whole enum, by evaluation) -/
theorem consistent_inconsistent_disjoint :
    ∀ t : ReadAssignmentType, ¬ (t.is_consistent = true ∧ t.is_inconsistent = true) := by
  intro t; cases t <;> decide

theorem isCons_iff (r : Rec) : isCons r = true ↔ r.atype.is_consistent = true := by
  have := consistent_inconsistent_disjoint r.atype
  simp only [isCons, Bool.and_eq_true, Bool.not_eq_true']
  constructor
  · exact fun h => h.2
  · intro h; refine ⟨?_, h⟩
    cases hi : r.atype.is_inconsistent with
    | false => rfl
    | true => exact absurd ⟨h, hi⟩ this

theorem class_trichotomy (r : Rec) : isInc r = true ∨ isCons r = true ∨ isNoninf r = true := by
  simp only [isInc, isCons, isNoninf]
  cases r.atype.is_inconsistent <;> cases r.atype.is_consistent <;> simp

theorem mem_zipIdx_of_mem {l : List Rec} {r : Rec} (h : r ∈ l) : ∃ i, (r, i) ∈ l.zipIdx := by
  obtain ⟨i, hi, rfl⟩ := List.mem_iff_getElem.mp h
  exact ⟨i, List.mem_zipIdx_iff_getElem?.mpr (by simp [hi])⟩

theorem filter_zipIdx_isEmpty_iff (l : List Rec) (p : Rec → Bool) :
    (l.zipIdx.filter (fun x => p x.1)).isEmpty = true ↔ ∀ r ∈ l, p r = false := by
  rw [List.isEmpty_iff, List.filter_eq_nil_iff]
  constructor
  · intro h r hr
    obtain ⟨i, hi⟩ := mem_zipIdx_of_mem hr
    simpa using h (r, i) hi
  · intro h x hx
    simpa using h x.1 (List.fst_mem_of_mem_zipIdx hx)

/-! ### `select_best_inconsistent` -/

theorem minPenalty_spec (a : IRec) (rest : List IRec) :
    (∃ z ∈ a :: rest, z.1.penalty = minPenalty a.1.penalty rest) ∧
    ∀ y ∈ a :: rest, minPenalty a.1.penalty rest ≤ y.1.penalty := by
  have h : ((a :: rest).map (·.1.penalty)).min? = some (minPenalty a.1.penalty rest) := by
    rw [List.map_cons, List.min?_cons', List.foldl_map]; rfl
  obtain ⟨hmem, hle⟩ := List.min?_eq_some_iff.mp h
  exact ⟨List.mem_map.mp hmem, fun y hy => hle _ (List.mem_map_of_mem hy)⟩

theorem bestInconsistent_cons (a : IRec) (rest : List IRec) :
    bestInconsistent (a :: rest) = (a :: rest).filter (fun x => x.1.penalty == minPenalty a.1.penalty rest) := by
  cases rest with
  | nil => simp [bestInconsistent, minPenalty]
  | cons b rest => rfl

theorem mem_bestInconsistent (c : List IRec) (x : IRec) :
    x ∈ bestInconsistent c ↔ x ∈ c ∧ ∀ y ∈ c, x.1.penalty ≤ y.1.penalty := by
  cases c with
  | nil => simp [bestInconsistent]
  | cons a rest =>
    obtain ⟨⟨z, hz, hzm⟩, hle⟩ := minPenalty_spec a rest
    rw [bestInconsistent_cons, List.mem_filter, beq_iff_eq]
    constructor
    · rintro ⟨hx, hp⟩; exact ⟨hx, fun y hy => hp ▸ hle y hy⟩
    · rintro ⟨hx, hmin⟩; exact ⟨hx, Int.le_antisymm (hzm ▸ hmin z hz) (hle x hx)⟩

theorem bestInconsistent_sublist (c : List IRec) : (bestInconsistent c).Sublist c := by
  cases c with
  | nil => exact List.Sublist.refl _
  | cons a rest => rw [bestInconsistent_cons]; exact List.filter_sublist

theorem bestInconsistent_ne_nil (c : List IRec) (h : c ≠ []) : bestInconsistent c ≠ [] := by
  cases c with
  | nil => exact absurd rfl h
  | cons a rest =>
    obtain ⟨⟨z, hz, hzm⟩, hle⟩ := minPenalty_spec a rest
    exact List.ne_nil_of_mem ((mem_bestInconsistent _ z).mpr ⟨hz, fun y hy => hzm ▸ hle y hy⟩)

/-! ### `select_noninformative` -/

theorem overlapLen_nonneg (r : Rec) : 0 ≤ overlapLen r := by
  simp only [overlapLen, intersection_len]; omega

theorem maxOverlap_spec (non : List IRec) :
    (maxOverlap non = 0 ∨ ∃ z ∈ non, overlapLen z.1 = maxOverlap non) ∧ ∀ y ∈ non, overlapLen y.1 ≤ maxOverlap non := by
  have h : (0 :: non.map (fun x => overlapLen x.1)).max? = some (maxOverlap non) := by
    rw [List.max?_cons', List.foldl_map]; rfl
  obtain ⟨hmem, hle⟩ := List.max?_eq_some_iff.mp h
  refine ⟨?_, fun y hy => hle _ (List.mem_cons_of_mem _ (List.mem_map_of_mem hy))⟩
  rcases List.mem_cons.mp hmem with h0 | hm
  · exact Or.inl h0
  · exact Or.inr (List.mem_map.mp hm)

theorem maxOverlap_attained (non : List IRec) (h : non ≠ []) : ∃ x ∈ non, overlapLen x.1 = maxOverlap non := by
  rcases (maxOverlap_spec non).1 with h0 | h1
  · obtain ⟨y, hy⟩ := List.exists_mem_of_ne_nil _ h
    have := (maxOverlap_spec non).2 y hy
    have := overlapLen_nonneg y.1
    exact ⟨y, hy, by omega⟩
  · exact h1

/-- invariant of the second loop of `select_noninformative` after the records `seen`: `best_assignment` is unset while
    no record has overlap `m`; otherwise it is the first of the records of overlap `m` with the least tie key -/
def PickInv (m : Int) (seen : List IRec) : Option IRec → Prop
  | none => ∀ x ∈ seen, overlapLen x.1 ≠ m
  | some z => overlapLen z.1 = m ∧ ∃ pre post, seen = pre ++ z :: post ∧
      (∀ x ∈ pre, overlapLen x.1 = m → tieKey z.1 < tieKey x.1) ∧
      (∀ x ∈ post, overlapLen x.1 = m → tieKey z.1 ≤ tieKey x.1)

theorem PickInv.le {m : Int} {seen : List IRec} {z : IRec} (h : PickInv m seen (some z)) :
    ∀ x ∈ seen, overlapLen x.1 = m → tieKey z.1 ≤ tieKey x.1 := by
  obtain ⟨_, pre, post, rfl, hpre, hpost⟩ := h
  intro x hx hm
  rcases List.mem_append.mp hx with hx | hx
  · exact List.le_of_lt (hpre x hx hm)
  · rcases List.mem_cons.mp hx with rfl | hx
    · exact List.le_refl _
    · exact hpost x hx hm

theorem pickBest_inv (m : Int) (seen : List IRec) (b : Option IRec) (non : List IRec) (h : PickInv m seen b) :
    PickInv m (seen ++ non) (pickBest m b non) := by
  induction non generalizing seen b with
  | nil => cases b <;> simpa [pickBest] using h
  | cons x rest ih =>
    rw [List.append_cons]
    cases b with
    | none =>
      simp only [pickBest, beq_iff_eq]
      split
      · rename_i hx
        exact ih _ _ ⟨hx, seen, [], rfl, fun y hy hm => absurd hm (h y hy), by simp⟩
      · rename_i hx
        refine ih _ _ (fun y hy => ?_)
        rcases List.mem_append.mp hy with hy | hy
        · exact h y hy
        · rw [List.mem_singleton.mp hy]; exact hx
    | some z =>
      obtain ⟨hz, pre, post, rfl, hpre, hpost⟩ := h
      -- `z` stays the best when `x` does not beat it
      have keep : (overlapLen x.1 = m → tieKey z.1 ≤ tieKey x.1) → PickInv m (pre ++ z :: post ++ [x]) (some z) := by
        intro hzx
        refine ⟨hz, pre, post ++ [x], by simp, hpre, fun y hy hm => ?_⟩
        rcases List.mem_append.mp hy with hy | hy
        · exact hpost y hy hm
        · rw [List.mem_singleton.mp hy] at hm ⊢; exact hzx hm
      simp only [pickBest, beq_iff_eq]
      split
      · rename_i hx
        split
        · rename_i hlt
          refine ih _ _ ⟨hx, pre ++ z :: post, [], rfl, fun y hy hm => ?_, by simp⟩
          rcases List.mem_append.mp hy with hy | hy
          · exact List.lt_trans hlt (hpre y hy hm)
          · rcases List.mem_cons.mp hy with rfl | hy
            · exact hlt
            · exact Std.lt_of_lt_of_le hlt (hpost y hy hm)
        · rename_i hlt
          exact ih _ _ (keep fun _ => List.not_lt.mp hlt)
      · rename_i hx
        exact ih _ _ (keep fun hm => absurd hm hx)

theorem bestNoninformative_inv (non : List IRec) : PickInv (maxOverlap non) non (bestNoninformative non) := by
  simpa [bestNoninformative] using pickBest_inv (maxOverlap non) [] none non (by simp [PickInv])


/-- no input record carries `suspended` (only the resolver assigns it, see `Gen.suspended_assigned_at`) -/
def NoSuspendedInput (l : List Rec) : Prop := ∀ r ∈ l, r.atype ≠ .suspended
instance (l : List Rec) : Decidable (NoSuspendedInput l) := by unfold NoSuspendedInput; infer_instance

theorem mem_retained {out : List Rec} {r : Rec} : r ∈ retained out ↔ r ∈ out ∧ r.atype ≠ .suspended := by
  simp [retained]

theorem filter_contains_of_sublist {α β : Type} [BEq β] [LawfulBEq β] (f : α → β) {kept z : List α}
    (hs : kept.Sublist z) (hnd : (z.map f).Nodup) : z.filter (fun x => (kept.map f).contains (f x)) = kept :=
  (sublist_eq_filter _ hs ((List.pairwise_map.1 hnd).imp fun h e => h (congrArg _ e)) fun x hx => by
    rw [List.contains_iff_mem, List.mem_map]
    exact ⟨fun h => ⟨x, h, rfl⟩, fun ⟨y, hy, e⟩ => eq_of_nodup_map f hnd (hs.subset hy) hx e ▸ hy⟩).symm

theorem retained_applyKeep_eq {l : List Rec} {kept : List IRec} (hsub : kept.Sublist l.zipIdx)
    (hin : NoSuspendedInput l) :
    retained (applyKeep l kept) = kept.map (fun x => flag (changeT kept) (changeG kept) x.1) := by
  have hkept : l.zipIdx.filter (fun x => (kept.map (·.2)).contains x.2) = kept :=
    filter_contains_of_sublist (·.2) hsub (by rw [List.zipIdx_map_snd]; exact List.nodup_range' ..)
  rw [applyKeep_eq, retained, List.filter_map,
    List.filter_congr (q := fun x => (kept.map (·.2)).contains x.2), hkept]
  · apply List.map_congr_left
    intro x hx
    rw [if_pos (List.contains_iff_mem.mpr (List.mem_map_of_mem hx))]
  · -- a record of the output is retained iff its position is kept
    intro x hx
    simp only [Function.comp_apply]
    split
    · rename_i hc
      rw [hc]; simpa using flag_atype_ne_suspended (changeT kept) (changeG kept) _ (hin x.1 (List.fst_mem_of_mem_zipIdx hx))
    · rename_i hc
      rw [Bool.not_eq_true] at hc; rw [hc]; rfl


theorem natCast_mul_one_div (n : Nat) (h : n ≠ 0) : (n : Rat) * ((1 : Nat) / (n : Nat) : Rat) = 1 := by
  have hn : (n : Rat) ≠ 0 := by
    intro h'; apply h; exact_mod_cast h'
  grind

/-- `creditedFeatures` asks the questions of `featureWeight` in the same order -/
theorem featureWeight_cases {s : CountingStrategy} {t : ReadAssignmentType} {n : Nat} {w : Nat × Nat}
    (hw : featureWeight s t n = some w) :
    w = (0, 1) ∨ (w = (1, 1) ∧ creditedFeatures t n = 1) ∨ (w = (1, n) ∧ creditedFeatures t n = n ∧ n ≠ 0) := by
  unfold featureWeight at hw
  unfold creditedFeatures
  grind

theorem totalOf_zero_or_one (s : CountingStrategy) (t : ReadAssignmentType) (n : Nat) :
    totalOf s t n = 0 ∨ totalOf s t n = 1 := by
  unfold totalOf
  split
  · exact Or.inl rfl
  · rename_i hw
    rcases featureWeight_cases hw with h | ⟨h, hc⟩ | ⟨h, hc, hn⟩
    · cases h; left; grind
    · cases h; right; rw [hc]; grind
    · cases h; right; rw [hc]; exact natCast_mul_one_div n hn

theorem recordTotal_zero_or_one (s : CountingStrategy) (r : Rec) : recordTotal s r = 0 ∨ recordTotal s r = 1 :=
  totalOf_zero_or_one s _ _

theorem recordTotalG_zero_or_one (s : CountingStrategy) (r : Rec) : recordTotalG s r = 0 ∨ recordTotalG s r = 1 := by
  unfold recordTotalG; split
  · exact Or.inl rfl
  · exact totalOf_zero_or_one s _ _

theorem sumRat_map_zero_one {α : Type} (f : α → Rat) (h : ∀ a, f a = 0 ∨ f a = 1) (l : List α) :
    sumRat (l.map f) = ((l.filter (fun a => decide (f a = 1))).length : Rat) := by
  induction l with
  | nil => simp [sumRat]
  | cons a l ih =>
    rw [List.map_cons, sumRat, List.foldr_cons, ← sumRat, ih, List.filter_cons]
    rcases h a with h0 | h1
    · rw [h0, if_neg (by decide)]; grind
    · rw [h1, if_pos (by decide), List.length_cons]; grind

theorem natCast_le_one_iff (k : Nat) : (k : Rat) ≤ 1 ↔ k ≤ 1 := by
  constructor
  · intro h; exact_mod_cast h
  · intro h; exact_mod_cast h

end IsoVerif.Lemmas.Resolver
