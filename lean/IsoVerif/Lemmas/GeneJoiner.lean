/-
Helper lemmas for `TranscriptToGeneJoiner` (Model/GeneJoiner.lean): the strand invariant of the gene tables (`StrandInv`) and
of the scores (`ScoreInv`) through `__init__`, `count_scores`, `merge_genes` and the merge loop.  Each of the three steps with
several branches is described once (`joinerRegionStep_spec`, `rescore_spec`, `mergeLoop_step`); the invariants and the
irrelevance of the fuel follow from these.  Core Lean only.
-/
import IsoVerif.Model.GeneJoiner
import IsoVerif.Lemmas.IntronGraph

namespace IsoVerif.Lemmas.C04
open IsoVerif.Gen IsoVerif.Model IsoVerif.Model.C04

variable {heur : ScoreFn} {storage : List TModel}

theorem mem_setUnion {α} [DecidableEq α] {s l : List α} {x : α} : x ∈ setUnion s l ↔ x ∈ s ∨ x ∈ l := by
  unfold setUnion
  induction l generalizing s with
  | nil => exact (or_iff_left List.not_mem_nil).symm
  | cons a t ih => rw [List.foldl_cons, ih, mem_setAdd, List.mem_cons, or_assoc]

theorem zero_lt_cutoff : Score.lt Score.zero scoreCutoff = true := by decide

def novel (m : TModel) : Prop := m.ttype ≠ .known

/-- every novel model listed under a gene has the gene's strand, and such a gene has a region -/
def StrandInv (storage : List TModel) (j : Joiner) : Prop :=
  ∀ p ∈ j.g2t, ∀ m ∈ storage, novel m → m.tid ∈ p.2 → amGet? j.strands p.1 = some m.strand ∧ amHas j.regions p.1 = true

/-- a score at or above the merge cutoff relates two genes of one strand -/
def ScoreInv (strands : List (String × Strand)) (sc : List ((String × String) × Score)) : Prop :=
  ∀ p ∈ sc, Score.lt p.2 scoreCutoff = false → ∃ st, amGet? strands p.1.1 = some st ∧ amGet? strands p.1.2 = some st

theorem countScore_strands {j : Joiner} {a b : String} {s : Score}
    (h : j.countScore heur a b = some s) (hs : Score.lt s scoreCutoff = false) :
    ∃ st, amGet? j.strands a = some st ∧ amGet? j.strands b = some st := by
  unfold Joiner.countScore at h
  split at h
  · rename_i s1 s2 h1 h2
    by_cases hne : s1 ≠ s2
    · rw [if_pos hne] at h; cases h; rw [zero_lt_cutoff] at hs; cases hs
    · exact ⟨s1, h1, Decidable.not_not.1 hne ▸ h2⟩
  · cases h

theorem joinerRefGenes_fresh {gs : List RefGene} {j : Joiner} (h : joinerRefGenes gs = some j) :
    j.g2t = [] ∧ j.scores = [] := by
  refine foldlM_option_inv (fun j => j.g2t = [] ∧ j.scores = []) _ gs _ j ⟨rfl, rfl⟩ (fun x a y _ hx hf => ?_) h
  split at hf <;> cases hf
  exact hx

theorem joinerRefTranscripts_g2t (ts : List (String × String × List Iv)) (j : Joiner) :
    ∀ p ∈ (joinerRefTranscripts j ts).g2t, ∀ tid ∈ p.2, (∃ t ∈ ts, t.1 = tid) ∨ ∃ p0 ∈ j.g2t, tid ∈ p0.2 := by
  refine List.foldlRecOn (motive := fun j' : Joiner => ∀ p ∈ j'.g2t, ∀ tid ∈ p.2, (∃ t ∈ ts, t.1 = tid) ∨ ∃ p0 ∈ j.g2t, tid ∈ p0.2)
    ts _ (fun p hp tid ht => Or.inr ⟨p, hp, ht⟩) fun j' hj' t ht => forall_mem_amSet hj' fun tid htid => ?_
  rcases mem_setAdd.1 htid with h | rfl
  · obtain ⟨old, hold, h⟩ := mem_getD_amGet? h
    exact hj' _ hold tid h
  · exact Or.inl ⟨t, ht, rfl⟩

theorem joinerRefTranscripts_strands (ts : List (String × String × List Iv)) (j : Joiner) :
    (joinerRefTranscripts j ts).strands = j.strands ∧ (joinerRefTranscripts j ts).regions = j.regions :=
  List.foldlRecOn (motive := fun j' : Joiner => j'.strands = j.strands ∧ j'.regions = j.regions) ts _ ⟨rfl, rfl⟩ fun _ h _ _ => h

theorem joinerRefTranscripts_scores (ts : List (String × String × List Iv)) (j : Joiner) :
    (joinerRefTranscripts j ts).scores = j.scores :=
  List.foldlRecOn (motive := fun j' : Joiner => j'.scores = j.scores) ts _ rfl fun _ h _ _ => h

theorem joinerRegionStep_spec {j j1 : Joiner} {t : TModel} {f l : Iv} (h : joinerRegionStep j t f l = some j1) :
    j1.g2t = j.g2t ∧ j1.scores = j.scores ∧ amGet? j1.strands t.gene = some t.strand ∧ amHas j1.regions t.gene = true ∧
      ∀ a, amHas j.regions a = true → amHas j1.regions a = true ∧ amGet? j1.strands a = amGet? j.strands a := by
  have reg : ∀ (r : Iv) a, (a = t.gene ∨ amHas j.regions a = true) → amHas (amSet j.regions t.gene r) a = true := by
    intro r a ha; rw [amHas_amSet, Bool.or_eq_true, decide_eq_true_eq]; exact ha
  unfold joinerRegionStep at h
  split at h
  · rename_i hnone
    cases h
    refine ⟨rfl, rfl, amGet?_amSet_self _ _ _, reg _ _ (Or.inl rfl), fun a ha =>
      ⟨reg _ _ (Or.inr ha), amGet?_amSet_ne _ _ _ _ ?_⟩⟩
    rintro rfl; rw [amHas, hnone] at ha; cases ha
  · split at h
    · cases h
    · rename_i s hs
      by_cases hst : s = t.strand
      · rw [if_pos hst] at h; cases h
        exact ⟨rfl, rfl, hst ▸ hs, reg _ _ (Or.inl rfl), fun a ha => ⟨reg _ _ (Or.inr ha), rfl⟩⟩
      · rw [if_neg hst] at h; cases h

theorem joinerAddModel_inv {j j' : Joiner} {t : TModel} (ht : t ∈ storage)
    (hid : ∀ m1 ∈ storage, ∀ m2 ∈ storage, novel m1 → novel m2 → m1.tid = m2.tid → m1.strand = m2.strand)
    (hinv : StrandInv storage j) (h : joinerAddModel j t = some j') : StrandInv storage j' := by
  unfold joinerAddModel at h
  by_cases hk : t.ttype = .known
  · rw [if_pos hk] at h; cases h; exact hinv
  rw [if_neg hk] at h
  split at h
  · obtain ⟨j1, hj1, rfl⟩ := Option.map_eq_some_iff.1 h
    obtain ⟨hg2t, _, hown, hreg, hother⟩ := joinerRegionStep_spec hj1
    have hold : ∀ p ∈ j1.g2t, ∀ m ∈ storage, novel m → m.tid ∈ p.2 →
        amGet? j1.strands p.1 = some m.strand ∧ amHas j1.regions p.1 = true := by
      intro p hp m hm hn hmt
      obtain ⟨h1, h2⟩ := hinv p (hg2t ▸ hp) m hm hn hmt
      exact ⟨(hother _ h2).2.trans h1, (hother _ h2).1⟩
    refine forall_mem_amSet hold fun m hm hn hmt => ?_
    rcases mem_setAdd.1 hmt with hmt | hmt
    · obtain ⟨old, hmem, hmt⟩ := mem_getD_amGet? hmt
      exact hold _ hmem m hm hn hmt
    · -- the model itself: by `hid` its strand is that of `t`, which the step just recorded or checked
      exact ⟨hid m hm t ht hn hk hmt ▸ hown, hreg⟩
  · cases h

theorem init_inv {gs : List RefGene} {ts : List (String × String × List Iv)} {j : Joiner}
    (hid : ∀ m1 ∈ storage, ∀ m2 ∈ storage, novel m1 → novel m2 → m1.tid = m2.tid → m1.strand = m2.strand)
    (href : ∀ t ∈ ts, ∀ m ∈ storage, novel m → m.tid ≠ t.1)
    (h : Joiner.init gs ts storage = some j) : StrandInv storage j := by
  unfold Joiner.init at h
  split at h
  · cases h
  · rename_i j0 hj0
    refine foldlM_option_inv (StrandInv storage) joinerAddModel storage _ j (fun p hp m hm hn hmt => ?_)
      (fun x a y ha hx hf => joinerAddModel_inv ha hid hx hf) h
    -- after the first two loops only annotated transcripts are listed
    rcases joinerRefTranscripts_g2t ts j0 p hp m.tid hmt with ⟨t, ht, e⟩ | ⟨p0, hp0, _⟩
    · exact absurd e.symm (href t ht m hm hn)
    · rw [(joinerRefGenes_fresh hj0).1] at hp0; cases hp0

theorem init_scores {gs : List RefGene} {ts : List (String × String × List Iv)} {j : Joiner}
    (h : Joiner.init gs ts storage = some j) : j.scores = [] := by
  unfold Joiner.init at h
  split at h
  · cases h
  · rename_i jr hjr
    refine foldlM_option_inv (fun j => j.scores = []) joinerAddModel storage _ j
      ((joinerRefTranscripts_scores ts jr).trans (joinerRefGenes_fresh hjr).2) (fun x t y _ hx hf => ?_) h
    unfold joinerAddModel at hf
    split at hf
    · cases hf; exact hx
    · split at hf
      · obtain ⟨j1, hj1, rfl⟩ := Option.map_eq_some_iff.1 hf
        exact (joinerRegionStep_spec hj1).2.1.trans hx
      · cases hf

theorem countScoresStep_inv {j : Joiner} {sc sc' : List ((String × String) × Score)} {g1 g2 : String}
    (hsc : ScoreInv j.strands sc) (h : countScoresStep heur j sc g1 g2 = some sc') : ScoreInv j.strands sc' := by
  unfold countScoresStep at h
  split at h
  · cases h; exact hsc
  · split at h
    · cases h; exact hsc
    · obtain ⟨s, hs, rfl⟩ := Option.map_eq_some_iff.1 h
      refine forall_mem_amSet hsc fun hlt => ?_
      obtain ⟨st, h1, h2⟩ := countScore_strands hs hlt
      unfold sortedPair
      split
      · exact ⟨st, h1, h2⟩
      · exact ⟨st, h2, h1⟩

theorem countScores_spec {j j' : Joiner} (hsc : ScoreInv j.strands j.scores)
    (h : j.countScores heur = some j') : ∃ sc, j' = { j with scores := sc } ∧ ScoreInv j.strands sc := by
  obtain ⟨sc, hsc', rfl⟩ := Option.map_eq_some_iff.1 h
  refine ⟨sc, rfl, foldlM_option_inv (ScoreInv j.strands) _ (amKeys j.g2t) _ sc hsc (fun x g1 y _ hx hf => ?_) hsc'⟩
  exact foldlM_option_inv (ScoreInv j.strands) _ (amKeys j.g2t) _ y hx
    (fun x' g2 y' _ hx' hf' => countScoresStep_inv hx' hf') hf

theorem rescore_spec {j : Joiner} {g1 g2 : String} {sc sc' : List ((String × String) × Score)}
    (h : rescore heur j g1 g2 sc = some sc') :
    (∀ q ∈ sc', ¬(q.1.1 = g2 ∨ q.1.2 = g2) ∧ (q ∈ sc ∨ j.countScore heur q.1.1 q.1.2 = some q.2)) ∧
    sc'.length ≤ sc.length ∧ ((∃ p ∈ sc, p.1.1 = g2 ∨ p.1.2 = g2) → sc'.length < sc.length) := by
  induction sc generalizing sc' with
  | nil => cases h; exact ⟨List.forall_mem_nil _, Nat.le_refl _, fun ⟨_, hp, _⟩ => nomatch hp⟩
  | cons p t ih =>
    rw [rescore] at h
    split at h
    · cases h
    · rename_i t' ht'
      obtain ⟨i1, i2, i3⟩ := ih ht'
      have mem : ∀ q ∈ t', ¬(q.1.1 = g2 ∨ q.1.2 = g2) ∧ (q ∈ p :: t ∨ j.countScore heur q.1.1 q.1.2 = some q.2) :=
        fun q hq => (i1 q hq).imp_right (Or.imp_left (List.mem_cons_of_mem _))
      by_cases h2 : p.1.1 = g2 ∨ p.1.2 = g2
      · rw [if_pos h2] at h; cases h
        exact ⟨mem, Nat.le_succ_of_le i2, fun _ => Nat.lt_succ_of_le i2⟩
      rw [if_neg h2] at h
      have len : ∀ x : (String × String) × Score, (x :: t').length ≤ (p :: t).length ∧
          ((∃ q ∈ p :: t, q.1.1 = g2 ∨ q.1.2 = g2) → (x :: t').length < (p :: t).length) := fun x =>
        ⟨Nat.succ_le_succ i2, fun ⟨q, hq, hq2⟩ => Nat.succ_lt_succ
          (i3 ((List.mem_cons.1 hq).elim (fun e => absurd (e ▸ hq2) h2) fun hq => ⟨q, hq, hq2⟩))⟩
      by_cases h1 : p.1.1 = g1 ∨ p.1.2 = g1
      · rw [if_pos h1] at h
        obtain ⟨s, hs, rfl⟩ := Option.map_eq_some_iff.1 h
        exact ⟨List.forall_mem_cons.2 ⟨⟨h2, Or.inr hs⟩, mem⟩, len _⟩
      · rw [if_neg h1] at h; cases h
        exact ⟨List.forall_mem_cons.2 ⟨⟨h2, Or.inl List.mem_cons_self⟩, mem⟩, len _⟩

theorem mergeGenes_inv {j j' : Joiner} {g1 g2 : String}
    (hinv : StrandInv storage j) (hsc : ScoreInv j.strands j.scores)
    (hst : ∃ st, amGet? j.strands g1 = some st ∧ amGet? j.strands g2 = some st)
    (h : j.mergeGenes heur g1 g2 = some j') :
    StrandInv storage j' ∧ ScoreInv j'.strands j'.scores ∧
      (∀ g s, amGet? j'.strands g = some s → amGet? j.strands g = some s) := by
  unfold Joiner.mergeGenes at h
  split at h
  · rename_i r1 r2 _ _ hr1 hr2 _ _
    obtain ⟨sc, hsc', rfl⟩ := Option.map_eq_some_iff.1 h
    obtain ⟨st, hs1, hs2⟩ := hst
    -- only `g2` loses its strand and its region
    have hstr : ∀ a, a ≠ g2 → amGet? (amErase j.strands g2) a = amGet? j.strands a := fun a ha => by
      rw [amGet?_amErase, if_neg ha]
    have hreg : ∀ a r, a ≠ g2 → (a = g1 ∨ amHas j.regions a = true) → amHas (amErase (amSet j.regions g1 r) g2) a = true := by
      intro a r ha hh
      rw [amHas, amGet?_amErase, if_neg ha, ← amHas, amHas_amSet, Bool.or_eq_true, decide_eq_true_eq]; exact hh
    refine ⟨fun p hp m hm hn hmt => ?_, fun q hq hlt => ?_, fun g s hg => ?_⟩
    · obtain ⟨hp1, hpne⟩ := mem_amErase hp
      refine (hstr _ hpne).symm ▸ ?_
      rcases mem_amSet hp1 with rfl | hp1
      · refine ⟨?_, hreg g1 _ hpne (Or.inl rfl)⟩
        rcases mem_setUnion.1 hmt with hmt | hmt <;> obtain ⟨old, hold, hmt⟩ := mem_getD_amGet? hmt
        · exact (hinv _ hold m hm hn hmt).1
        · exact hs1.trans (hs2.symm.trans (hinv _ hold m hm hn hmt).1)
      · obtain ⟨h1, h2⟩ := hinv p hp1 m hm hn hmt
        exact ⟨h1, hreg _ _ hpne (Or.inr h2)⟩
    · obtain ⟨hq2, hq | hq⟩ := (rescore_spec hsc').1 q hq
      · obtain ⟨st', h1, h2⟩ := hsc q hq hlt
        exact ⟨st', (hstr _ fun e => hq2 (Or.inl e)).trans h1, (hstr _ fun e => hq2 (Or.inr e)).trans h2⟩
      · exact countScore_strands hq hlt
    · have hg : amGet? (amErase j.strands g2) g = some s := hg
      rw [amGet?_amErase] at hg
      split at hg
      · cases hg
      · exact hg
  · cases h

theorem mergeGenes_scores {j j' : Joiner} {g1 g2 : String} (h : j.mergeGenes heur g1 g2 = some j')
    (hp : ∃ p ∈ j.scores, p.1.1 = g2 ∨ p.1.2 = g2) : j'.scores.length < j.scores.length := by
  unfold Joiner.mergeGenes at h
  split at h
  · obtain ⟨sc, hsc, rfl⟩ := Option.map_eq_some_iff.1 h
    exact (rescore_spec hsc).2.2 hp
  · cases h

theorem bestPair_mem {sc : List ((String × String) × Score)} {p : (String × String) × Score}
    (h : bestPair sc = some p) : p ∈ sc := by
  fun_induction bestPair sc with
  | case1 => cases h
  | case2 => cases h; exact List.mem_cons_self
  | case3 _ _ _ hb _ ih => cases h; exact List.mem_cons_of_mem _ (ih hb)
  | case4 => cases h; exact List.mem_cons_self

/-- one iteration of the `while` loop of `join_transcripts`, whatever fuel is left: it returns, or it raises (two annotated
    genes), or it merges the two genes of a score entry that is not below the cutoff and goes on -/
theorem mergeLoop_step (heur : ScoreFn) (j : Joiner) :
    (∀ n, Joiner.mergeLoop heur (n + 1) j = some j) ∨ (∀ n, Joiner.mergeLoop heur (n + 1) j = none) ∨
    ∃ g1 g2 s, (((g1, g2), s) ∈ j.scores ∨ ((g2, g1), s) ∈ j.scores) ∧ Score.lt s scoreCutoff = false ∧
      ∀ n, Joiner.mergeLoop heur (n + 1) j = (j.mergeGenes heur g1 g2).bind (Joiner.mergeLoop heur n) := by
  by_cases h1 : j.scores.length ≤ 1
  · exact Or.inl fun n => by rw [Joiner.mergeLoop, if_pos h1]
  cases hb : bestPair j.scores with
  | none => exact Or.inl fun n => by rw [Joiner.mergeLoop, if_neg h1, hb]
  | some ps =>
    obtain ⟨pair, s⟩ := ps
    have hmem := bestPair_mem hb
    by_cases hlt : Score.lt s scoreCutoff = true
    · exact Or.inl fun n => by rw [Joiner.mergeLoop, if_neg h1, hb]; exact if_pos hlt
    have unf : ∀ n, Joiner.mergeLoop heur (n + 1) j =
        if pair.1 ∈ j.refGenes then
          (if pair.2 ∈ j.refGenes then none else j.mergeGenes heur pair.1 pair.2).bind (Joiner.mergeLoop heur n)
        else (j.mergeGenes heur pair.2 pair.1).bind (Joiner.mergeLoop heur n) := fun n => by
      rw [Joiner.mergeLoop, if_neg h1, hb]; exact if_neg hlt
    by_cases hr1 : pair.1 ∈ j.refGenes
    · by_cases hr2 : pair.2 ∈ j.refGenes
      · exact Or.inr (Or.inl fun n => by rw [unf, if_pos hr1, if_pos hr2]; rfl)
      · exact Or.inr (Or.inr ⟨pair.1, pair.2, s, Or.inl hmem, Bool.eq_false_iff.2 hlt, fun n => by
          rw [unf, if_pos hr1, if_neg hr2]⟩)
    · exact Or.inr (Or.inr ⟨pair.2, pair.1, s, Or.inr hmem, Bool.eq_false_iff.2 hlt, fun n => by rw [unf, if_neg hr1]⟩)

theorem mergeLoop_inv (fuel : Nat) {j j' : Joiner}
    (hinv : StrandInv storage j) (hsc : ScoreInv j.strands j.scores)
    (h : Joiner.mergeLoop heur fuel j = some j') :
    StrandInv storage j' ∧ (∀ g s, amGet? j'.strands g = some s → amGet? j.strands g = some s) := by
  induction fuel generalizing j with
  | zero => cases h
  | succ n ih =>
    rcases mergeLoop_step heur j with e | e | ⟨g1, g2, s, hmem, hlt, e⟩
    · cases (e n).symm.trans h; exact ⟨hinv, fun _ _ hg => hg⟩
    · cases (e n).symm.trans h
    · rw [e n] at h
      cases hm : j.mergeGenes heur g1 g2 with
      | none => rw [hm] at h; cases h
      | some j1 =>
        rw [hm] at h
        have hst : ∃ st, amGet? j.strands g1 = some st ∧ amGet? j.strands g2 = some st :=
          hmem.elim (fun hm => hsc _ hm hlt) fun hm => (hsc _ hm hlt).imp fun _ => And.symm
        obtain ⟨a1, a2, a4⟩ := mergeGenes_inv hinv hsc hst hm
        obtain ⟨b1, b2⟩ := ih a1 a2 h
        exact ⟨b1, fun g s' hg => a4 g s' (b2 g s' hg)⟩

/-- the merge loop ends: every merge removes at least the merged pair from `scores` -/
theorem mergeLoop_fuel (heur : ScoreFn) (f1 f2 : Nat) (j : Joiner) (h1 : j.scores.length < f1) (h2 : j.scores.length < f2) :
    Joiner.mergeLoop heur f1 j = Joiner.mergeLoop heur f2 j := by
  induction f1 generalizing f2 j with
  | zero => cases h1
  | succ n ih =>
    cases f2 with
    | zero => cases h2
    | succ m =>
      rcases mergeLoop_step heur j with e | e | ⟨g1, g2, s, hmem, _, e⟩
      · rw [e n, e m]
      · rw [e n, e m]
      · rw [e n, e m]
        cases hm : j.mergeGenes heur g1 g2 with
        | none => rfl
        | some j1 =>
          have := mergeGenes_scores hm (hmem.elim (fun h => ⟨_, h, Or.inr rfl⟩) fun h => ⟨_, h, Or.inl rfl⟩)
          exact ih m j1 (by omega) (by omega)

theorem geneOf_mem {j : Joiner} {tid g : String} (h : j.geneOf tid = some g) : ∃ l, (g, l) ∈ j.g2t ∧ tid ∈ l := by
  obtain ⟨p, hp, rfl⟩ := Option.map_eq_some_iff.1 h
  obtain ⟨h1, h2⟩ := List.mem_filter.1 (List.mem_of_getLast? hp)
  exact ⟨p.2, h1, of_decide_eq_true h2⟩

end IsoVerif.Lemmas.C04
