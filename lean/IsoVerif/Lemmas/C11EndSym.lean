/-
C11 helper lemmas — the polyA / polyT verification of src/polya_verification.py (as modelled in Model/Assign.lean) under
a symmetry of the positions: a distance-preserving map `φ` of the coordinates, applied to a possibly absent position
with the sentinel −1 kept (`pos`), together with a relabelling `ε` of the events that renames their types by `σ` and
moves the position carried by a polyA-site event by `φ`.  Each step (`check_if_close`, the last step `siteTail`, the
middle step `endStep`, `check_internal_*`, one strand of `verify_read_ends`) commutes with such a symmetry as long as no
present position is sent to the sentinel (`Ok`).  Translation (`σ = id`, Lemmas/C11AssignShift.lean) and reflection
(`σ = swapLR`, C11AssignMirror) are the two instances; what depends on the direction — the read's `shift_polya /
shift_polyt` and the isoform's detector — enters `endStep_sym` as hypotheses.
-/
import IsoVerif.Model.Assign
import IsoVerif.Model.C11SymAssign
import IsoVerif.Lemmas.C11AssignCommon

namespace IsoVerif.Lemmas.C11
open IsoVerif.Gen IsoVerif.Model IsoVerif.Model.C01 IsoVerif.Model.C11

structure EndSym where
  φ : Int → Int
  σ : MatchEventSubtype → MatchEventSubtype
  ε : Event → Event
  dist : ∀ x y, iabs (φ x - φ y) = iabs (x - y)
  ty : ∀ e t, (ε e).ty = σ t ↔ e.ty = t
  site : ∀ t, isPosEvent t = true → ∀ (ir : Int × Int) (x : Int), x ≠ -1 →
    ε { ty := t, isoRegion := ir, info := x } = { ty := σ t, isoRegion := ir, info := φ x }

namespace EndSym
variable (S : EndSym)

/-- a possibly absent position: the sentinel −1 is kept -/
def pos (x : Int) : Int := if x = -1 then -1 else S.φ x

/-- a present position is not moved onto the sentinel -/
def Ok (x : Int) : Prop := x ≠ -1 → S.φ x ≠ -1

/-- the triple (events, external, internal position) that the steps of the verification hand on -/
def out (r : List Event × Int × Int) : List Event × Int × Int := (r.1.map S.ε, S.pos r.2.1, S.pos r.2.2)

theorem pos_absent : S.pos (-1) = -1 := if_pos rfl
theorem pos_of_ne {x : Int} (h : x ≠ -1) : S.pos x = S.φ x := if_neg h
theorem pos_eq_absent_iff {x : Int} (h : S.Ok x) : S.pos x = -1 ↔ x = -1 := by
  by_cases c : x = -1
  · simp [pos, c]
  · simp [pos, c, h c]

theorem distOrInf_sym (stop x : Int) (h : S.Ok x) : distOrInf (S.φ stop) (S.pos x) = distOrInf stop x := by
  by_cases c : x = -1
  · subst c; simp [distOrInf, pos]
  · simp [distOrInf, pos, c, h c, S.dist]

/-- `dist_to_polya` of `detect_reference_exons_*` (an absent position is infinitely far) -/
theorem tailDist_sym (a ext int : Int) (hE : S.Ok ext) (hI : S.Ok int) :
    minInf (distOrInf (S.φ a) (S.pos ext)) (distOrInf (S.φ a) (S.pos int)) = minInf (distOrInf a ext) (distOrInf a int) := by
  rw [S.distOrInf_sym a ext hE, S.distOrInf_sym a int hI]

/-- the position the detectors start from: the internal one if present -/
theorem pickPresent_sym (ext int : Int) (hI : S.Ok int) (hP : ext ≠ -1 ∨ int ≠ -1) :
    (if S.pos int ≠ -1 then S.pos int else S.pos ext) = S.φ (if int ≠ -1 then int else ext) := by
  by_cases c : int = -1
  · have he : ext ≠ -1 := hP.resolve_right (fun h => h c)
    simp [c, pos_absent, S.pos_of_ne he]
  · simp [c, S.pos_of_ne c, hI c]

theorem countTy_sym (evs : List Event) (t : MatchEventSubtype) : countTy (evs.map S.ε) (S.σ t) = countTy evs t :=
  countTy_map S.ε S.σ S.ty evs t

theorem eraseLastOf_sym (evs : List Event) (t1 t2 : MatchEventSubtype) :
    eraseLastOf (evs.map S.ε) (S.σ t1) (S.σ t2) = (eraseLastOf evs t1 t2).map S.ε :=
  eraseLastOf_map S.ε S.σ S.ty evs t1 t2

/-- `check_if_close`: the distances are kept, the appended site event carries a present position -/
theorem checkIfClose_sym (p : Params) (stop ext int : Int) (evs : List Event) (ty : MatchEventSubtype)
    (hty : isPosEvent ty = true) (hE : S.Ok ext) (hI : S.Ok int) :
    checkIfClose p (S.φ stop) (S.pos ext) (S.pos int) (evs.map S.ε) (S.σ ty)
      = (checkIfClose p stop ext int evs ty).map (List.map S.ε) := by
  simp only [checkIfClose, S.distOrInf_sym stop ext hE, S.distOrInf_sym stop int hI]
  split
  · rename_i h1
    have hi : int ≠ -1 := by rintro rfl; simp [distOrInf, leInf] at h1
    simp only [Option.map_some, List.map_append, List.map_cons, List.map_nil, S.site ty hty _ int hi, S.pos_of_ne hi]
  · split
    · rename_i h2
      have he : ext ≠ -1 := by
        rintro rfl
        cases hd : distOrInf stop int <;> simp [distOrInf, leInf] at h2
      simp only [Option.map_some, List.map_append, List.map_cons, List.map_nil, S.site ty hty _ ext he, S.pos_of_ne he]
    · rfl

/-- the position the final decision of `verify_polya` / `verify_polyt` looks at -/
theorem pick_sym (ext int : Int) (hI : S.Ok int) (hP : ext ≠ -1 ∨ int ≠ -1) :
    (if S.pos int = -1 then S.pos ext else S.pos int) = S.φ (if int = -1 then ext else int) ∧
      (if int = -1 then ext else int) ≠ -1 := by
  by_cases c : int = -1
  · have he : ext ≠ -1 := hP.resolve_right (fun h => h c)
    simp [c, pos_absent, S.pos_of_ne he, he]
  · simp [c, S.pos_of_ne c, hI c]

theorem siteTail_sym (p : Params) (site : Int) (okTy altTy : MatchEventSubtype)
    (hok : isPosEvent okTy = true) (halt : isPosEvent altTy = true) (evs : List Event) (ext int : Int)
    (hE : S.Ok ext) (hI : S.Ok int) (hP : ext ≠ -1 ∨ int ≠ -1) :
    siteTail p (S.φ site) (S.σ okTy) (S.σ altTy) (evs.map S.ε, S.pos ext, S.pos int)
      = (siteTail p site okTy altTy (evs, ext, int)).map S.ε := by
  simp only [siteTail, S.checkIfClose_sym p site ext int evs okTy hok hE hI]
  cases checkIfClose p site ext int evs okTy with
  | some x => rfl
  | none =>
    obtain ⟨e1, e2⟩ := S.pick_sym ext int hI hP
    simp only [Option.map_none]
    rw [e1, S.dist]
    generalize (if int = -1 then ext else int) = q at e2 ⊢
    by_cases c : iabs (q - site) > p.apa_delta
    · rw [if_pos c, if_pos c, List.map_append, List.map_cons, List.map_nil, S.site _ halt _ _ e2]
    · rw [if_neg c, if_neg c, List.map_append, List.map_cons, List.map_nil, S.site _ hok _ _ e2]

/-- `x` a possibly absent position, `r` what `shift_polya` / `shift_polyt` made of it (absent iff `x` is) -/
theorem corrected_ok (x r : Int) (hs : x = -1 → r = -1) (hn : x ≠ -1 → r ≠ -1 ∧ S.φ r ≠ -1) :
    S.Ok r ∧ (if x = -1 then -1 else S.φ r) = S.pos r ∧ (x ≠ -1 → r ≠ -1) := by
  by_cases c : x = -1
  · have := hs c; simp [Ok, pos, c, this]
  · have := hn c; simp [Ok, pos, c, this]

/-- the middle step for one isoform end; `sh` / `det` are the read's position correction and the isoform's detector on
    the original data, `sh'` / `det'` on the image -/
theorem endStep_sym (readLen readLen' : Nat) (hlen : readLen' = readLen) (sh sh' : Nat → Int → Option Int)
    (det det' : Int → Int → List Event → Option (List Event × Int × Int)) (ext int : Int) (evs0 : List Event)
    (fakeT misT majT minT : MatchEventSubtype) (stop : Int)
    (hE : S.Ok ext) (hI : S.Ok int) (hP : ext ≠ -1 ∨ int ≠ -1) (hstop : stop ≠ -1 ∧ S.φ stop ≠ -1)
    (hsh : ∀ c x, S.Ok x → sh' c (S.pos x) = (sh c x).map (fun r => if x = -1 then -1 else S.φ r))
    (hs0 : ∀ c, sh c (-1) = some (-1))
    (hns : ∀ e1 i1, sh (countTy evs0 fakeT) ext = some e1 → sh (countTy evs0 fakeT) int = some i1 →
      (ext ≠ -1 → e1 ≠ -1 ∧ S.φ e1 ≠ -1) ∧ (int ≠ -1 → i1 ≠ -1 ∧ S.φ i1 ≠ -1))
    (hdet : ∀ e1 i1 evs, S.Ok e1 → S.Ok i1 → det' (S.pos e1) (S.pos i1) (evs.map S.ε) = (det e1 i1 evs).map S.out)
    (hout : ∀ e1 i1 evs r, det e1 i1 evs = some r → (r.2.1 = e1 ∧ r.2.2 = i1) ∨ (r.2.1 = stop ∧ r.2.2 = stop)) :
    endStep readLen' sh' det' (S.pos ext) (S.pos int) (evs0.map S.ε) (S.σ fakeT) (S.σ misT) (S.σ majT) (S.σ minT) (S.φ stop)
      = (endStep readLen sh det ext int evs0 fakeT misT majT minT stop).map S.out ∧
    ∀ r, endStep readLen sh det ext int evs0 fakeT misT majT minT stop = some r →
      S.Ok r.2.1 ∧ S.Ok r.2.2 ∧ (r.2.1 ≠ -1 ∨ r.2.2 ≠ -1) := by
  have hS : S.Ok stop := fun _ => hstop.2
  simp only [endStep, hlen, countTy_sym, eraseLastOf_sym, hsh _ ext hE, hsh _ int hI]
  by_cases hf : countTy evs0 fakeT ≥ readLen
  · simp [hf]
  · simp only [hf, if_false]
    cases hx : sh (countTy evs0 fakeT) ext with
    | none => simp
    | some ext1 =>
      cases hi : sh (countTy evs0 fakeT) int with
      | none => simp
      | some int1 =>
        have s1 : ext = -1 → ext1 = -1 := by
          intro c; rw [c, hs0] at hx; exact (Option.some.inj hx).symm
        have s2 : int = -1 → int1 = -1 := by
          intro c; rw [c, hs0] at hi; exact (Option.some.inj hi).symm
        obtain ⟨pe, me, ne⟩ := S.corrected_ok ext ext1 s1 (hns ext1 int1 hx hi).1
        obtain ⟨pi, mi, ni⟩ := S.corrected_ok int int1 s2 (hns ext1 int1 hx hi).2
        simp only [Option.map_some, me, mi]
        by_cases hm : countTy evs0 misT > 0
        · simp only [hm, if_true, Option.map_some, out, S.pos_of_ne hstop.1, true_and]
          intro r hr
          obtain rfl := Option.some.inj hr
          exact ⟨hS, hS, Or.inl hstop.1⟩
        · simp only [hm, if_false]
          refine ⟨hdet ext1 int1 _ pe pi, fun r hr => ?_⟩
          rcases hout ext1 int1 _ r hr with ⟨a, b⟩ | ⟨a, b⟩
          · rw [a, b]; exact ⟨pe, pi, hP.elim (fun c => Or.inl (ne c)) (fun c => Or.inr (ni c))⟩
          · rw [a, b]; exact ⟨hS, hS, Or.inl hstop.1⟩

/-- the two `check_if_close` calls around the step -/
theorem verifyTail_sym (p : Params) (stop ext int : Int) (evs0 : List Event)
    (majT minT okT altT : MatchEventSubtype) (step step' : Option (List Event × Int × Int))
    (hok : isPosEvent okT = true) (halt : isPosEvent altT = true) (hE : S.Ok ext) (hI : S.Ok int)
    (hstep : step' = step.map S.out ∧
      ∀ r, step = some r → S.Ok r.2.1 ∧ S.Ok r.2.2 ∧ (r.2.1 ≠ -1 ∨ r.2.2 ≠ -1)) :
    (match checkIfClose p (S.φ stop) (S.pos ext) (S.pos int) (eraseLastOf (evs0.map S.ε) (S.σ majT) (S.σ minT)) (S.σ okT) with
      | some r => some r
      | none => step'.map (siteTail p (S.φ stop) (S.σ okT) (S.σ altT)))
      = (match checkIfClose p stop ext int (eraseLastOf evs0 majT minT) okT with
        | some r => some r
        | none => step.map (siteTail p stop okT altT)).map (List.map S.ε) := by
  rw [eraseLastOf_sym, S.checkIfClose_sym p stop ext int _ okT hok hE hI, hstep.1]
  cases checkIfClose p stop ext int (eraseLastOf evs0 majT minT) okT with
  | some r => rfl
  | none =>
    cases hs : step with
    | none => rfl
    | some r =>
      obtain ⟨q1, q2, q3⟩ := hstep.2 r hs
      exact congrArg some (S.siteTail_sym p stop okT altT hok halt r.1 r.2.1 r.2.2 q1 q2 q3)

/-- `check_internal_polya / polyt` -/
theorem checkInternal_sym (x : Int) (evs : List Event) (incomplete internal : MatchEventSubtype)
    (hty : isPosEvent internal = true) (h : S.Ok x)
    (hreg : ∀ e, e.ty = incomplete → (S.ε e).isoRegion = e.isoRegion) :
    checkInternal (S.pos x) (evs.map S.ε) (S.σ incomplete) (S.σ internal)
      = ((checkInternal x evs incomplete internal).1.map S.ε, (checkInternal x evs incomplete internal).2) := by
  by_cases c : x = -1
  · subst c; simp [checkInternal, pos_absent]
  · have hf : ((fun (e : Event) => decide (e.ty = S.σ incomplete)) ∘ S.ε) = (fun (e : Event) => decide (e.ty = incomplete)) := by
      funext e; simp only [Function.comp, S.ty]
    have c' : ¬ S.pos x = -1 := fun h' => c ((S.pos_eq_absent_iff h).mp h')
    simp only [checkInternal, c, c', if_false, List.find?_map, hf]
    cases hfind : evs.find? (fun e => decide (e.ty = incomplete)) with
    | none => rfl
    | some e =>
      have hte : e.ty = incomplete := by simpa using List.find?_some hfind
      simp only [Option.map_some, List.map_append, List.map_cons, List.map_nil, S.site _ hty _ _ c, S.pos_of_ne c,
        hreg e hte]

end EndSym

theorem checkInternal_not_internal (x : Int) (evs : List Event) (a b : MatchEventSubtype)
    (h : (checkInternal x evs a b).2 = false) : (checkInternal x evs a b).1 = evs := by
  simp only [checkInternal] at *
  split at h
  · simp_all
  · split at h <;> simp_all

/-- `verify_read_ends` before the final "empty list → [none]" step -/
def verifyReadEndsCore (p : Params) (rp : ReadProf) (I : IsoInfo) (evs : List Event) : Option (List Event) :=
  match I.strand with
  | .plus =>
    let ci := checkInternal rp.polya.intA evs .incomplete_intron_retention_right .internal_polya_right
    if !ci.2 && (rp.polya.extA ≠ -1 || rp.polya.intA ≠ -1) then verifyPolya p I.exons rp.blocks rp.polya ci.1
    else some ci.1
  | .minus =>
    let ci := checkInternal rp.polya.intT evs .incomplete_intron_retention_left .internal_polya_left
    if !ci.2 && (rp.polya.extT ≠ -1 || rp.polya.intT ≠ -1) then verifyPolyt p I.exons rp.blocks rp.polya ci.1
    else some ci.1
  | .other => some evs

theorem verifyReadEnds_eq (p : Params) (rp : ReadProf) (I : IsoInfo) (evs : List Event) :
    verifyReadEnds p rp I evs = (verifyReadEndsCore p rp I evs).map
      (fun e => if e.isEmpty then [{ ty := MatchEventSubtype.none }] else e) := by
  simp only [verifyReadEnds, verifyReadEndsCore]
  cases I.strand <;> rfl

namespace EndSym
variable (S : EndSym)

/-- one strand of `verify_read_ends`: the internal check, then the strand's verifier `V` unless no position is known;
    `OK` = the sentinel hypotheses of that verifier -/
theorem verifySide_sym (ext int : Int) (evs : List Event) (inc internal : MatchEventSubtype)
    (V V' : List Event → Option (List Event)) (OK : Prop) (h : (ext = -1 ∧ int = -1) ∨ OK)
    (hOK : OK → S.Ok ext ∧ S.Ok int) (h1 : isPosEvent internal = true)
    (hreg : ∀ e, e.ty = inc → (S.ε e).isoRegion = e.isoRegion)
    (hV : OK → ext ≠ -1 ∨ int ≠ -1 → V' (evs.map S.ε) = (V evs).map (List.map S.ε)) :
    (if !(checkInternal (S.pos int) (evs.map S.ε) (S.σ inc) (S.σ internal)).2 && (S.pos ext ≠ -1 || S.pos int ≠ -1) then
        V' (checkInternal (S.pos int) (evs.map S.ε) (S.σ inc) (S.σ internal)).1
      else some (checkInternal (S.pos int) (evs.map S.ε) (S.σ inc) (S.σ internal)).1)
      = (if !(checkInternal int evs inc internal).2 && (ext ≠ -1 || int ≠ -1) then V (checkInternal int evs inc internal).1
          else some (checkInternal int evs inc internal).1).map (List.map S.ε) := by
  have hpe : S.Ok ext := h.elim (fun h c => absurd h.1 c) (fun h => (hOK h).1)
  have hpi : S.Ok int := h.elim (fun h c => absurd h.2 c) (fun h => (hOK h).2)
  simp only [S.checkInternal_sym int evs inc internal h1 hpi hreg, ne_eq, S.pos_eq_absent_iff hpe, S.pos_eq_absent_iff hpi]
  generalize hci : checkInternal int evs inc internal = cr
  by_cases hc : (!cr.2 && (decide (¬ ext = -1) || decide (¬ int = -1))) = true
  · simp only [hc, if_true]
    have hint : cr.2 = false := by simp_all
    have hev : cr.1 = evs := by rw [← hci] at hint ⊢; exact checkInternal_not_internal _ _ _ _ hint
    have hP : ext ≠ -1 ∨ int ≠ -1 := by simpa [hint] using hc
    rcases h with h | h
    · exact absurd h.1 (fun e => hP.elim (fun c => c e) (fun c => c h.2))
    · rw [hev]; exact hV h hP
  · simp only [hc]
    rfl

theorem map_none_default (hn : S.ε { ty := MatchEventSubtype.none } = { ty := MatchEventSubtype.none }) (r : Option (List Event)) :
    (r.map (List.map S.ε)).map (fun e => if e.isEmpty then [({ ty := MatchEventSubtype.none } : Event)] else e)
      = (r.map (fun e => if e.isEmpty then [({ ty := MatchEventSubtype.none } : Event)] else e)).map (List.map S.ε) := by
  cases r with
  | none => rfl
  | some e => cases e <;> simp [hn]

end EndSym
end IsoVerif.Lemmas.C11
