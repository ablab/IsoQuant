/-
Well-formedness of the events `compare_junctions` emits (Model/JunctionCompare.lean): every event type is one of the
members the comparator names (generated list `comparator_event_types`), `event_info` is 0, the regions index the two
junction lists (or are the sentinels the code uses).  `FlankEvent` says what an event of `add_extra_out_exon_events` is;
`Source` says where an event of a spliced read comes from (a classified region pair, the flanking events):
`compareJunctions_spliced` is the exact statement, `compareJunctions_forall` and `mem_of_source` its two directions.
Core Lean only.
-/
import IsoVerif.Lemmas.C01CmpOutcome

namespace IsoVerif.Lemmas.C01Cmp
open IsoVerif.Gen IsoVerif.Model IsoVerif.Model.C01 IsoVerif.Lemmas

/-- a region over a list of `n` features: undefined, (absent, position ≤ n), or a non-empty index range -/
def RegionOK (n : Nat) (reg : Int × Int) : Prop :=
  reg = undefRegion ∨ (reg.1 = absentPos ∧ 0 ≤ reg.2 ∧ reg.2 ≤ n) ∨ (0 ≤ reg.1 ∧ reg.1 ≤ reg.2 ∧ reg.2 < n)

/-- what every event of `compare_junctions` looks like (read list of length `n`, isoform list of length `m`): a comparator
    type, no `event_info`, regions that index into the two lists (or the two flank markers on the isoform side) -/
def EventOK (n m : Nat) (e : Event) : Prop :=
  e.ty ∈ comparator_event_types ∧ e.info = 0 ∧ RegionOK n e.readRegion ∧
  (RegionOK m e.isoRegion ∨ e.isoRegion = extraLeftRegion ∨ e.isoRegion = extraRightRegion)

/-- closes `some X = some t ⊢ t ∈ comparator_event_types` and impossible leaves -/
macro "ty_leaf" h:ident : tactic =>
  `(tactic| first
    | (cases $h:ident; done)
    | (simp only [Option.some.injEq] at $h:ident; subst $h:ident; decide)
    | (simp only [Option.some.injEq] at $h:ident; subst $h:ident; split <;> decide))

theorem classifyBothTy_mem {c rr rj ir ij r0 r1 i0 i1 t} (h : classifyBothTy c rr rj ir ij r0 r1 i0 i1 = some t) :
    t ∈ comparator_event_types := by
  rcases classifyBothTy_spec h with hp | ⟨_, ⟨rfl, _⟩ | ⟨_, _, _, ⟨rfl, _⟩ | ⟨rfl, _⟩⟩ | ⟨rfl, _⟩⟩
  · exact (plain_iff.mp hp).1
  all_goals decide

theorem mkEvent_ok {n m : Nat} {t : MatchEventSubtype} {isoReg readReg : Int × Int} (ht : t ∈ comparator_event_types)
    (hr : RegionOK n readReg) (hi : RegionOK m isoReg ∨ isoReg = extraLeftRegion ∨ isoReg = extraRightRegion) :
    EventOK n m (mkEvent t isoReg readReg) := ⟨ht, rfl, hr, hi⟩

theorem region_range {n a b : Nat} (h1 : a ≤ b) (h2 : b < n) : RegionOK n ((a : Int), (b : Int)) :=
  Or.inr (Or.inr ⟨by simp, by simp; omega, by simp; omega⟩)

theorem region_absent {n b : Nat} (h : b ≤ n) : RegionOK n (absentPos, (b : Int)) :=
  Or.inr (Or.inl ⟨rfl, by simp, by simp; omega⟩)

theorem classifyRetention_ok {c rr rj ij rp ip e} (h1 : rp ≤ rj.length) (h2 : ip < ij.length)
    (h : classifyRetention c rr rj ij rp ip = some (some e)) : EventOK rj.length ij.length e := by
  obtain ⟨t, _, rfl, _, ht⟩ := classifyRetention_spec h
  refine mkEvent_ok ?_ (region_absent h1) (Or.inl (region_range (Nat.le_refl _) h2))
  rcases ht with rfl | rfl | ⟨⟨rfl, _⟩ | ⟨rfl, _⟩, _⟩ <;> decide

theorem classifyExtra_ok {c rr rj rp ip n m e} (h1 : rp < n) (h2 : ip ≤ m)
    (h : classifyExtra c rr rj rp ip = some e) : EventOK n m e := by
  have hr := region_range (Nat.le_refl rp) h1
  rcases classifyExtra_spec h with ⟨t, rfl, ht⟩ | ⟨rfl, _⟩ | ⟨rfl, _⟩
  · refine mkEvent_ok ?_ hr (Or.inl (region_absent h2))
    rcases ht with rfl | rfl | ⟨rfl, _⟩ <;> decide
  · exact mkEvent_ok (by decide) hr (Or.inr (Or.inl rfl))
  · exact mkEvent_ok (by decide) hr (Or.inr (Or.inr rfl))

theorem classifyPair_ok {c rr rj ir ij pr e} (hp : PairOK rj.length ij.length pr)
    (h : classifyPair c rr rj ir ij pr = some (some e)) : EventOK rj.length ij.length e := by
  cases pr with
  | retention rp ip => exact classifyRetention_ok hp.1 hp.2 h
  | extra rp ip =>
    simp only [classifyPair, Option.map_eq_some_iff, Option.some.injEq] at h
    obtain ⟨a, ha, rfl⟩ := h
    exact classifyExtra_ok hp.1 hp.2 ha
  | both r0 r1 i0 i1 =>
    simp only [classifyPair, Option.map_eq_some_iff, Option.some.injEq] at h
    obtain ⟨t, ht, rfl⟩ := h
    exact mkEvent_ok (classifyBothTy_mem ht) (region_range hp.1 hp.2.1) (Or.inl (region_range hp.2.2.1 hp.2.2.2))

/-- the events of `detect_contradiction_type` are exactly the events the classified pairs answer -/
theorem mem_detect {c rr rj ir ij} : ∀ {prs : List CPair} {evs : List Event},
    detectContradictions c rr rj ir ij prs = some evs →
    ∀ e, e ∈ evs ↔ ∃ pr ∈ prs, classifyPair c rr rj ir ij pr = some (some e)
  | [], evs, h, e => by cases h; simp
  | pr :: rest, evs, h, e => by
    simp only [detectContradictions] at h
    split at h
    · cases h
    · rename_i oe hoe
      split at h
      · cases h
      · rename_i es hes
        cases h
        have ih := mem_detect hes e
        cases oe with
        | none => simp [ih, hoe]
        | some e0 =>
          simp only [List.mem_cons, ih, exists_eq_or_imp, hoe, Option.some.injEq]
          exact or_congr_left eq_comm

theorem zeroRun_lt : ∀ (l : List Int) (i : Nat), ∀ j ∈ zeroRun l i, j < i + l.length := by
  intro l
  induction l with
  | nil => intro i j hj; simp [zeroRun] at hj
  | cons v vs ih =>
    intro i j hj
    simp only [zeroRun] at hj
    split at hj
    · rcases List.mem_cons.mp hj with rfl | hj
      · simp
      · have := ih (i + 1) j hj; simp; omega
    · cases hj

theorem zeroRun_ge : ∀ (l : List Int) (a : Nat), ∀ i ∈ zeroRun l a, a ≤ i
  | [], _, _, h => nomatch h
  | v :: vs, a, i, h => by
    simp only [zeroRun] at h
    split at h
    · rcases List.mem_cons.mp h with rfl | h
      · exact Nat.le_refl _
      · exact Nat.le_of_succ_le (zeroRun_ge vs (a + 1) i h)
    · cases h

/-- counting down from `n` over a list is counting up over it, reflected -/
theorem zeroRunDown_eq : ∀ (l : List Int) (n a : Nat), (zeroRun l a).map (fun i => n + a - 1 - i) = zeroRunDown l n
  | [], _, _ => rfl
  | v :: vs, n, a => by
    simp only [zeroRun, zeroRunDown]
    split
    · simp only [List.map_cons, List.cons.injEq]
      refine ⟨by omega, ?_⟩
      rw [← zeroRunDown_eq vs (n - 1) (a + 1)]
      exact List.map_congr_left fun i hi => by have := zeroRun_ge vs (a + 1) i hi; omega
    · rfl

theorem zeroRunDown_lt (l : List Int) (i1 : Nat) (hl : l.length ≤ i1) : ∀ j ∈ zeroRunDown l i1, j < i1 := by
  rw [← zeroRunDown_eq l i1 0]
  intro j hj
  obtain ⟨i, hi, rfl⟩ := List.mem_map.mp hj
  have := zeroRun_lt l 0 i hi
  omega

/-- the event types `add_extra_out_exon_events` can append -/
def flank_types : List MatchEventSubtype :=
  [.fake_terminal_exon_left, .extra_intron_flanking_left, .fake_terminal_exon_right, .extra_intron_flanking_right]

/-- an event `add_extra_out_exon_events` emits: a flanking intron `i`, or a fake terminal exon next to a short first /
    last exon -/
def FlankEvent (c : CmpCtx) (prof : List Int) (rr : Iv) (rj : List Iv) (e : Event) : Prop :=
  (∃ i < prof.length, e = flankEvent .extra_intron_flanking_left extraLeftRegion i ∨
    e = flankEvent .extra_intron_flanking_right extraRightRegion i) ∨
  (e = flankEvent .fake_terminal_exon_left extraLeftRegion 0 ∧
    ∃ ex, getExon rr rj 0 = some ex ∧ interval_len ex ≤ c.p.max_fake_terminal_exon_len) ∨
  (e = flankEvent .fake_terminal_exon_right extraRightRegion (prof.length - 1) ∧
    ∃ ex, getExon rr rj (prof.length : Int) = some ex ∧ interval_len ex ≤ c.p.max_fake_terminal_exon_len)

theorem extraSides_pos {prof rj isoStart v} (h : extraSides prof rj isoStart = some v) : 0 < prof.length := by
  cases prof with
  | nil => simp [extraSides] at h
  | cons _ _ => simp

theorem leftFlank_sound {c prof rr rj evs} (h : leftFlank c prof rr rj = some evs) :
    ∀ e ∈ evs, FlankEvent c prof rr rj e := by
  have run : ∀ (l : List Int) (a : Nat), a + l.length ≤ prof.length ∨ l = [] →
      ∀ e ∈ (zeroRun l a).map (flankEvent .extra_intron_flanking_left extraLeftRegion), FlankEvent c prof rr rj e :=
    fun l a hl e he => by
      obtain ⟨j, hj, rfl⟩ := List.mem_map.mp he
      rcases hl with hl | rfl
      · exact Or.inl ⟨j, by have := zeroRun_lt l a j hj; omega, Or.inl rfl⟩
      · cases hj
  revert h
  fun_cases leftFlank c prof rr rj <;> intro h <;> cases h
  case case2 ex hex hlen =>
    exact List.forall_mem_cons.mpr ⟨Or.inr (Or.inl ⟨rfl, ex, hex, hlen⟩),
      run _ 1 (by cases prof with | nil => exact Or.inr rfl | cons _ t => exact Or.inl (by simp; omega))⟩
  case case3 => exact run _ 0 (Or.inl (by omega))

theorem rightFlank_sound {c prof rr rj evs} (h : rightFlank c prof rr rj = some evs) :
    ∀ e ∈ evs, FlankEvent c prof rr rj e := by
  have run : ∀ (l : List Int) (a : Nat), l.length ≤ a → a ≤ prof.length →
      ∀ e ∈ (zeroRunDown l a).map (flankEvent .extra_intron_flanking_right extraRightRegion), FlankEvent c prof rr rj e :=
    fun l a hl ha e he => by
      obtain ⟨j, hj, rfl⟩ := List.mem_map.mp he
      exact Or.inl ⟨j, by have := zeroRunDown_lt l a hl j hj; omega, Or.inr rfl⟩
  revert h
  fun_cases rightFlank c prof rr rj <;> intro h <;> cases h
  case case2 ex hex hlen =>
    exact List.forall_mem_cons.mpr ⟨Or.inr (Or.inr ⟨rfl, ex, hex, hlen⟩),
      run _ _ (by rw [List.length_drop, List.length_reverse]; exact Nat.le_refl _) (by omega)⟩
  case case3 => exact run _ _ (by rw [List.length_reverse]; exact Nat.le_refl _) (Nat.le_refl _)

theorem addExtraOut_sound {c prof rr rj isoStart evs} (h : addExtraOut c prof rr rj isoStart = some evs) :
    0 < prof.length ∧ ∀ e ∈ evs, FlankEvent c prof rr rj e := by
  revert h
  fun_cases addExtraOut c prof rr rj isoStart <;> intro h <;> cases h
  case case2 el er hs a b hb ha =>
    refine ⟨extraSides_pos hs, fun e he => ?_⟩
    rcases List.mem_append.mp he with he | he
    · split at ha
      · exact leftFlank_sound ha e he
      · cases ha; cases he
    · split at hb
      · exact rightFlank_sound hb e he
      · cases hb; cases he

theorem addExtraOut_ok {c prof rr rj isoStart evs} {m : Nat} (h : addExtraOut c prof rr rj isoStart = some evs) :
    ∀ e ∈ evs, EventOK prof.length m e ∧ e.ty ∈ flank_types := by
  obtain ⟨hpos, hs⟩ := addExtraOut_sound h
  have ok : ∀ {t reg} {i : Nat}, t ∈ comparator_event_types ∧ t ∈ flank_types → i < prof.length →
      reg = extraLeftRegion ∨ reg = extraRightRegion →
      EventOK prof.length m (flankEvent t reg i) ∧ (flankEvent t reg i).ty ∈ flank_types := fun ht hi hreg =>
    ⟨mkEvent_ok ht.1 (region_range (Nat.le_refl _) hi) (Or.inr hreg), ht.2⟩
  intro e he
  rcases hs e he with ⟨i, hi, rfl | rfl⟩ | ⟨rfl, _⟩ | ⟨rfl, _⟩
  · exact ok (by decide) hi (Or.inl rfl)
  · exact ok (by decide) hi (Or.inr rfl)
  · exact ok (by decide) hpos (Or.inl rfl)
  · exact ok (by decide) (by omega) (Or.inr rfl)

theorem monoExonEvents_ok (c : CmpCtx) (rr : Iv) : ∀ (l : List Iv) (i m : Nat), i + l.length = m →
    ∀ e ∈ monoExonEvents c rr l i, EventOK 0 m e := by
  intro l
  induction l with
  | nil => intro i m _ e he; simp [monoExonEvents] at he
  | cons k ks ih =>
    intro i m hm e he
    simp only [List.length_cons] at hm
    have hrec := ih (i + 1) m (by omega)
    have hreg : RegionOK 0 (absentPos, (0 : Int)) := Or.inr (Or.inl ⟨rfl, by simp, by simp⟩)
    have hiso : RegionOK m ((i : Int), (i : Int)) := region_range (Nat.le_refl _) (by omega)
    simp only [monoExonEvents] at he
    repeat' split at he
    all_goals first
      | exact hrec e he
      | (rcases List.mem_cons.mp he with rfl | he
         · exact ⟨by dsimp only; decide, rfl, hreg, Or.inl hiso⟩
         · exact hrec e he)

theorem monoExonSubtype_ok (c : CmpCtx) (rr : Iv) (ij : List Iv) :
    monoExonSubtype c rr ij ≠ [] ∧ ∀ e ∈ monoExonSubtype c rr ij, EventOK 0 ij.length e := by
  unfold monoExonSubtype
  split
  · refine ⟨by simp, ?_⟩
    intro e he
    simp only [List.mem_singleton] at he; subst he
    exact ⟨by decide, rfl, Or.inl rfl, Or.inl (Or.inl rfl)⟩
  · dsimp only
    split
    · refine ⟨by simp, ?_⟩
      intro e he
      simp only [List.mem_singleton] at he; subst he
      exact ⟨by decide, rfl, Or.inl rfl, Or.inl (Or.inl rfl)⟩
    · rename_i hne
      refine ⟨by intro e; simp [e] at hne, ?_⟩
      exact monoExonEvents_ok c rr ij 0 ij.length (by simp)

/-- where an event of `compare_junctions` for a spliced read comes from: a classified region pair (the pairs are consulted
    only when a −1 was written) or the flanking events (computed when the read's presence list starts or ends with 0) -/
def Source (c : CmpCtx) (rj : List Iv) (rr : Iv) (ij : List Iv) (ir : Iv) (e : Event) : Prop :=
  ((hasNeg (sweepOf c rj rr ij ir).readProf || hasNeg (sweepOf c rj rr ij ir).isoProf) = true ∧
    ∃ pr ∈ (sweepOf c rj rr ij ir).pairs, classifyPair c rr rj ir ij pr = some (some e)) ∨
  (((sweepOf c rj rr ij ir).readProf.head? = some 0 ∨ (sweepOf c rj rr ij ir).readProf.getLast? = some 0) ∧
    ∃ x, addExtraOut c (sweepOf c rj rr ij ir).readProf rr rj ir.1 = some x ∧ e ∈ x)

/-- the events of a spliced read are those of the sources; an empty list is reported as the lone `none` -/
theorem compareJunctions_spliced {c rj rr ij ir evs} (hr : rj ≠ []) (h : compareJunctions c rj rr ij ir = some evs) :
    ∃ ev, evs = (if ev.isEmpty then [{ ty := MatchEventSubtype.none }] else ev) ∧ ∀ e, e ∈ ev ↔ Source c rj rr ij ir e := by
  unfold compareJunctions at h
  rw [if_neg (by simpa using hr)] at h
  dsimp only at h
  split at h
  · cases h
  · rename_i ev1 hev1
    obtain ⟨ev2, hev2, rfl⟩ := Option.map_eq_some_iff.mp h
    refine ⟨ev2, rfl, fun e => ?_⟩
    have h1 : e ∈ ev1 ↔ (hasNeg (sweepOf c rj rr ij ir).readProf || hasNeg (sweepOf c rj rr ij ir).isoProf) = true ∧
        ∃ pr ∈ (sweepOf c rj rr ij ir).pairs, classifyPair c rr rj ir ij pr = some (some e) := by
      split at hev1
      · rename_i hn; simp only [mem_detect hev1 e, hn, true_and]
      · rename_i hn; cases hev1; simp [hn]
    unfold Source
    split at hev2
    · rename_i hc
      obtain ⟨x, hx, rfl⟩ := Option.map_eq_some_iff.mp hev2
      simp only [List.mem_append, h1, hc, true_and, hx, Option.some.injEq, exists_eq_left']
    · rename_i hc
      cases hev2
      simp only [h1, hc, false_and, or_false]

theorem mem_of_source {c rj rr ij ir evs e} (hr : rj ≠ []) (h : compareJunctions c rj rr ij ir = some evs)
    (hs : Source c rj rr ij ir e) : e ∈ evs := by
  obtain ⟨ev, rfl, hev⟩ := compareJunctions_spliced hr h
  have he : e ∈ ev := (hev e).mpr hs
  rw [if_neg (by cases ev with | nil => cases he | cons _ _ => simp)]
  exact he

theorem compareJunctions_forall {P : Event → Prop} {c : CmpCtx} {rj : List Iv} {rr : Iv} {ij : List Iv} {ir : Iv}
    {evs : List Event} (h : compareJunctions c rj rr ij ir = some evs)
    (hmono : rj = [] → ∀ e ∈ monoExonSubtype c rr ij, P e)
    (hsrc : rj ≠ [] → ∀ e, Source c rj rr ij ir e → P e)
    (hnone : P { ty := MatchEventSubtype.none }) : evs ≠ [] ∧ ∀ e ∈ evs, P e := by
  by_cases hr : rj = []
  · subst hr
    cases h
    exact ⟨(monoExonSubtype_ok c rr ij).1, hmono rfl⟩
  · obtain ⟨ev, rfl, hev⟩ := compareJunctions_spliced hr h
    split
    · exact ⟨List.cons_ne_nil _ _, fun e he => by rw [List.mem_singleton.mp he]; exact hnone⟩
    · rename_i hne
      exact ⟨fun e => hne (by rw [e]; rfl), fun e he => hsrc hr e ((hev e).mp he)⟩

end IsoVerif.Lemmas.C01Cmp
