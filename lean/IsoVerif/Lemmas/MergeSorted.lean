import IsoVerif.Lemmas.Lists

/-!
The main loop of `merge_ranges` in one pass (`mergeLoop_inv`): from every state of the sweep (`MergeInv`) it succeeds, and
its result is sorted and covers what the accumulator and the two remaining lists cover.  The accumulator is kept
reversed, so sortedness is stated with `RSD` (reverse of `SD`).  Meaning of the flags: when the head of a list is marked
"included", the last block of the accumulator ends exactly at that head's end; when no head is marked, the last block
ends strictly before both heads.
-/
namespace IsoVerif.Lemmas
open IsoVerif.Gen IsoVerif.Model

/-- `SD` read from the right: the reversed accumulator of `merge_ranges` is sorted and disjoint -/
def RSD : List Iv → Prop
  | [] => True
  | [_] => True
  | l :: m :: t => m.2 < l.1 ∧ RSD (m :: t)

/-- the last block of the (reversed) accumulator ends before `x` -/
def Front (acc : List Iv) (x : Int) : Prop := ∀ l ∈ acc.head?, l.2 < x

/-- the last block of the accumulator starts at or before `a` and ends exactly where `a` ends -/
def HeadIs (acc : List Iv) (a : Iv) : Prop := ∃ l t, acc = l :: t ∧ l.1 ≤ a.1 ∧ l.2 = a.2

theorem RSD_cons {a : Iv} {acc : List Iv} (h : RSD acc) (hf : Front acc a.1) : RSD (a :: acc) := by
  cases acc with
  | nil => trivial
  | cons m t => exact ⟨hf m (by simp), h⟩

theorem RSD_bump {l l' : Iv} {t : List Iv} (h : RSD (l :: t)) (e : l'.1 = l.1) : RSD (l' :: t) := by
  cases t with
  | nil => trivial
  | cons m t' => exact ⟨by rw [e]; exact h.1, h.2⟩

theorem SD_reverse_of_RSD (acc : List Iv) (h : RSD acc) : SD acc.reverse := by
  induction acc with
  | nil => trivial
  | cons l t ih =>
    rw [List.reverse_cons]
    refine (SD_append_singleton _ _).2 ⟨ih (by cases t with | nil => trivial | cons m t' => exact h.2), fun m hm => ?_⟩
    rw [List.getLast?_reverse] at hm
    cases t with
    | nil => simp at hm
    | cons m' t' => simp at hm; subst hm; exact h.1

theorem push_inv (inc : Bool) (acc : List Iv) (b : Iv) (hr : RSD acc) (hw : WFl acc) (hb : b.1 ≤ b.2)
    (hI : inc = true → HeadIs acc b) (hF : inc = false → Front acc b.1) :
    RSD (if inc then acc else b :: acc) ∧ WFl (if inc then acc else b :: acc) ∧
      (∀ x, b.2 < x → Front (if inc then acc else b :: acc) x) ∧
      ∀ p, cov (if inc then acc else b :: acc) p ↔ cov acc p ∨ (b.1 ≤ p ∧ p ≤ b.2) := by
  cases inc with
  | true =>
    obtain ⟨l, t, rfl, hl1, hl2⟩ := hI rfl
    exact ⟨hr, hw, fun x hx m hm => by cases hm; omega,
      fun p => ⟨.inl, fun h => h.elim id fun hp => ⟨l, by simp, by omega, by omega⟩⟩⟩
  | false =>
    exact ⟨RSD_cons hr (hF rfl), WFl_cons.2 ⟨hb, hw⟩, fun x hx m hm => by cases hm; exact hx,
      fun p => by rw [if_neg (by simp), cov_cons, or_comm]⟩

theorem tailAppend_inv (inc : Bool) (acc l : List Iv) (hs : SD l) (hw : WFl l) (hr : RSD acc) (hwa : WFl acc)
    (hI : inc = true → ∀ a ∈ l.head?, HeadIs acc a)
    (hF : inc = false → ∀ a ∈ l.head?, Front acc a.1) :
    RSD (tailAppend inc acc l) ∧ WFl (tailAppend inc acc l) ∧
      ∀ p, cov (tailAppend inc acc l) p ↔ cov acc p ∨ cov l p := by
  induction l generalizing inc acc with
  | nil => exact ⟨hr, hwa, fun p => by simp [tailAppend, cov_nil]⟩
  | cons a t ih =>
    obtain ⟨hr', hw', hfr, hc⟩ := push_inv inc acc a hr hwa (WFl_head hw) (fun hi => hI hi a rfl) (fun hi => hF hi a rfl)
    obtain ⟨h1, h2, h3⟩ := ih false _ (SD_tail hs) (WFl_tail hw) hr' hw' (fun h => nomatch h)
      (fun _ y hy => hfr _ (SD_head_lt hs hy))
    exact ⟨h1, h2, fun p => by rw [tailAppend, h3 p, hc p, cov_cons, or_assoc]⟩

/-- an overlapping pair always finds the accumulator block it extends; afterwards that block is the hull of the pair -/
theorem ovAcc_inv {a b : Iv} {i1 i2 : Bool} {acc : List Iv} (hov : overlaps a b = true) (ha : a.1 ≤ a.2) (hb : b.1 ≤ b.2)
    (hr : RSD acc) (hw : WFl acc) (hn : ¬(i1 = true ∧ i2 = true))
    (hF : i1 = false → i2 = false → Front acc a.1 ∧ Front acc b.1)
    (hI1 : i1 = true → HeadIs acc a ∧ a.1 < b.1) (hI2 : i2 = true → HeadIs acc b ∧ b.1 < a.1) :
    ∃ l t, ovAcc a b i1 i2 acc = some (l :: t) ∧ RSD (l :: t) ∧ WFl (l :: t) ∧
      l.1 ≤ a.1 ∧ l.1 ≤ b.1 ∧ l.2 = max a.2 b.2 ∧
      ∀ p, cov (l :: t) p ↔ cov acc p ∨ (a.1 ≤ p ∧ p ≤ a.2) ∨ (b.1 ≤ p ∧ p ≤ b.2) := by
  simp [overlaps] at hov
  cases i1 <;> cases i2
  · obtain ⟨f1, f2⟩ := hF rfl rfl
    refine ⟨_, _, rfl, RSD_cons hr (fun l hl => ?_), WFl_cons.2 ⟨by simp only; omega, hw⟩, by simp only; omega,
      by simp only; omega, rfl, fun p => ?_⟩
    · have := f1 l hl; have := f2 l hl; simp only; omega
    · rw [cov_cons]
      have : (min a.1 b.1 ≤ p ∧ p ≤ max a.2 b.2) ↔ (a.1 ≤ p ∧ p ≤ a.2) ∨ (b.1 ≤ p ∧ p ≤ b.2) := by omega
      rw [this]; exact or_comm
  · obtain ⟨⟨l, t, rfl, hl1, hl2⟩, hlt⟩ := hI2 rfl
    have := hw l (by simp)
    refine ⟨_, _, rfl, RSD_bump hr rfl, WFl_cons.2 ⟨by simp only; omega, WFl_tail hw⟩, by simp only; omega,
      by simp only; omega, by simp only; omega, fun p => ?_⟩
    rw [cov_cons, cov_cons]
    have : (l.1 ≤ p ∧ p ≤ max l.2 a.2) ↔ (l.1 ≤ p ∧ p ≤ l.2) ∨ (a.1 ≤ p ∧ p ≤ a.2) ∨ (b.1 ≤ p ∧ p ≤ b.2) := by omega
    rw [this]; exact or_right_comm
  · obtain ⟨⟨l, t, rfl, hl1, hl2⟩, hlt⟩ := hI1 rfl
    have := hw l (by simp)
    refine ⟨_, _, rfl, RSD_bump hr rfl, WFl_cons.2 ⟨by simp only; omega, WFl_tail hw⟩, by simp only; omega,
      by simp only; omega, by simp only; omega, fun p => ?_⟩
    rw [cov_cons, cov_cons]
    have : (l.1 ≤ p ∧ p ≤ max l.2 b.2) ↔ (l.1 ≤ p ∧ p ≤ l.2) ∨ (a.1 ≤ p ∧ p ≤ a.2) ∨ (b.1 ≤ p ∧ p ≤ b.2) := by omega
    rw [this]; exact or_right_comm
  · exact absurd ⟨rfl, rfl⟩ hn

/-- state of the sweep of `merge_ranges` between two steps -/
structure MergeInv (l1 : List Iv) (i1 : Bool) (l2 : List Iv) (i2 : Bool) (acc : List Iv) : Prop where
  sd1 : SD l1
  sd2 : SD l2
  wf1 : WFl l1
  wf2 : WFl l2
  rsd : RSD acc
  wfa : WFl acc
  one : ¬(i1 = true ∧ i2 = true)
  ne1 : i1 = true → l1 ≠ []
  ne2 : i2 = true → l2 ≠ []
  front : i1 = false → i2 = false → (∀ a ∈ l1.head?, Front acc a.1) ∧ (∀ b ∈ l2.head?, Front acc b.1)
  inc1 : i1 = true → ∀ a ∈ l1.head?, HeadIs acc a ∧ ∀ b ∈ l2.head?, a.1 < b.1
  inc2 : i2 = true → ∀ b ∈ l2.head?, HeadIs acc b ∧ ∀ a ∈ l1.head?, b.1 < a.1

theorem MergeInv.init {l1 l2 : List Iv} (h1 : SD l1) (h2 : SD l2) (w1 : WFl l1) (w2 : WFl l2) :
    MergeInv l1 false l2 false [] :=
  ⟨h1, h2, w1, w2, trivial, nofun, nofun, nofun, nofun, fun _ _ => ⟨fun _ _ => nofun, fun _ _ => nofun⟩, nofun, nofun⟩

theorem mergeLoop_inv (l1 : List Iv) (i1 : Bool) (l2 : List Iv) (i2 : Bool) (acc : List Iv)
    (h : MergeInv l1 i1 l2 i2 acc) :
    ∃ res, mergeLoop l1 i1 l2 i2 acc = some res ∧ RSD res ∧ WFl res ∧
      ∀ p, cov res p ↔ cov acc p ∨ cov l1 p ∨ cov l2 p := by
  fun_induction mergeLoop l1 i1 l2 i2 acc with
  | case1 i1 l2 i2 acc =>
    have hi1 : i1 = false := by cases i1 with | false => rfl | true => exact absurd rfl (h.ne1 rfl)
    obtain ⟨hr, hw, hc⟩ := tailAppend_inv i2 acc l2 h.sd2 h.wf2 h.rsd h.wfa (fun hi b hb => (h.inc2 hi b hb).1)
      (fun hi b hb => (h.front hi1 hi).2 b hb)
    exact ⟨_, rfl, hr, hw, fun p => by rw [hc p]; simp [cov_nil]⟩
  | case2 a as i1 i2 acc =>
    have hi2 : i2 = false := by cases i2 with | false => rfl | true => exact absurd rfl (h.ne2 rfl)
    obtain ⟨hr, hw, hc⟩ := tailAppend_inv i1 acc (a :: as) h.sd1 h.wf1 h.rsd h.wfa (fun hi x hx => (h.inc1 hi x hx).1)
      (fun hi x hx => (h.front hi hi2).1 x hx)
    exact ⟨_, rfl, hr, hw, fun p => by rw [hc p]; simp [cov_nil]⟩
  | case3 a as i1 b bs i2 acc hov hboth =>
    exfalso; apply h.one; simpa using hboth
  | case4 a as i1 b bs i2 acc hov hboth hacc =>
    obtain ⟨l, t, he, -⟩ := ovAcc_inv hov (WFl_head h.wf1) (WFl_head h.wf2) h.rsd h.wfa h.one
      (fun e1 e2 => ⟨(h.front e1 e2).1 a rfl, (h.front e1 e2).2 b rfl⟩)
      (fun e => ⟨(h.inc1 e a rfl).1, (h.inc1 e a rfl).2 b rfl⟩) (fun e => ⟨(h.inc2 e b rfl).1, (h.inc2 e b rfl).2 a rfl⟩)
    cases hacc.symm.trans he
  | case5 a as i1 b bs i2 acc hov hboth acc' hacc hlt ih =>
    obtain ⟨l, t, he, hr', hw', hl1, hl2, hl3, key⟩ := ovAcc_inv hov (WFl_head h.wf1) (WFl_head h.wf2) h.rsd h.wfa h.one
      (fun e1 e2 => ⟨(h.front e1 e2).1 a rfl, (h.front e1 e2).2 b rfl⟩)
      (fun e => ⟨(h.inc1 e a rfl).1, (h.inc1 e a rfl).2 b rfl⟩) (fun e => ⟨(h.inc2 e b rfl).1, (h.inc2 e b rfl).2 a rfl⟩)
    cases hacc.symm.trans he
    simp [overlaps] at hov
    -- `a` ends last: it stays, flagged, and the accumulator's last block ends with it
    obtain ⟨res, hres, hr, hw, hcov⟩ := ih
      { sd1 := h.sd1, sd2 := SD_tail h.sd2, wf1 := h.wf1, wf2 := WFl_tail h.wf2, rsd := hr', wfa := hw',
        one := (fun h => nomatch h.2), ne1 := fun _ => List.cons_ne_nil _ _, ne2 := nofun, front := nofun,
        inc1 := fun _ x hx => by
          cases hx
          exact ⟨⟨l, t, rfl, hl1, by omega⟩, fun y hy => by have := SD_head_lt h.sd2 hy; omega⟩,
        inc2 := nofun }
    refine ⟨res, hres, hr, hw, fun p => ?_⟩
    rw [hcov p, key p, cov_cons a as, cov_cons b bs]
    -- both sides are the same disjuncts, reordered and with repetitions
    simp only [or_assoc, or_left_comm, or_comm, or_self_left]
  | case6 a as i1 b bs i2 acc hov hboth acc' hacc hlt ih =>
    obtain ⟨l, t, he, hr', hw', hl1, hl2, hl3, key⟩ := ovAcc_inv hov (WFl_head h.wf1) (WFl_head h.wf2) h.rsd h.wfa h.one
      (fun e1 e2 => ⟨(h.front e1 e2).1 a rfl, (h.front e1 e2).2 b rfl⟩)
      (fun e => ⟨(h.inc1 e a rfl).1, (h.inc1 e a rfl).2 b rfl⟩) (fun e => ⟨(h.inc2 e b rfl).1, (h.inc2 e b rfl).2 a rfl⟩)
    cases hacc.symm.trans he
    simp [overlaps] at hov
    obtain ⟨res, hres, hr, hw, hcov⟩ := ih
      { sd1 := SD_tail h.sd1, sd2 := h.sd2, wf1 := WFl_tail h.wf1, wf2 := h.wf2, rsd := hr', wfa := hw',
        one := (fun h => nomatch h.1), ne1 := nofun, ne2 := fun _ => List.cons_ne_nil _ _, front := nofun,
        inc1 := nofun,
        inc2 := fun _ y hy => by
          cases hy
          exact ⟨⟨l, t, rfl, hl2, by omega⟩, fun x hx => by have := SD_head_lt h.sd1 hx; omega⟩ }
    refine ⟨res, hres, hr, hw, fun p => ?_⟩
    rw [hcov p, key p, cov_cons a as, cov_cons b bs]
    simp only [or_assoc, or_left_comm, or_comm, or_self_left]
  | case7 a as i1 b bs i2 acc hov hlo ih =>
    simp [left_of] at hlo
    -- `b` lies left of `a`: `a` cannot be flagged, `b` is passed
    have hni1 : i1 = false := by
      cases i1 with
      | false => rfl
      | true => have := (h.inc1 rfl a rfl).2 b rfl; have := WFl_head h.wf2; omega
    subst hni1
    obtain ⟨hr', hw', hfr, hc⟩ := push_inv i2 acc b h.rsd h.wfa (WFl_head h.wf2) (fun hi => (h.inc2 hi b rfl).1)
      (fun hi => (h.front rfl hi).2 b rfl)
    simp only [dite_eq_ite] at ih ⊢
    obtain ⟨res, hres, hr, hw, hcov⟩ := ih
      { sd1 := h.sd1, sd2 := SD_tail h.sd2, wf1 := h.wf1, wf2 := WFl_tail h.wf2, rsd := hr', wfa := hw',
        one := (fun h => nomatch h.1), ne1 := nofun, ne2 := nofun,
        front := fun _ _ => ⟨fun x hx => by cases hx; exact hfr _ hlo, fun y hy => hfr _ (SD_head_lt h.sd2 hy)⟩,
        inc1 := nofun, inc2 := nofun }
    refine ⟨res, hres, hr, hw, fun p => ?_⟩
    rw [hcov p, hc p, cov_cons b bs]
    simp only [or_assoc, or_left_comm, or_comm]
  | case8 a as i1 b bs i2 acc hov hlo ih =>
    have ha := WFl_head h.wf1
    have hb := WFl_head h.wf2
    simp [left_of] at hlo
    simp [overlaps] at hov
    have hni2 : i2 = false := by
      cases i2 with
      | false => rfl
      | true => have := (h.inc2 rfl b rfl).2 a rfl; omega
    subst hni2
    obtain ⟨hr', hw', hfr, hc⟩ := push_inv i1 acc a h.rsd h.wfa ha (fun hi => (h.inc1 hi a rfl).1)
      (fun hi => (h.front hi rfl).1 a rfl)
    simp only [dite_eq_ite] at ih ⊢
    obtain ⟨res, hres, hr, hw, hcov⟩ := ih
      { sd1 := SD_tail h.sd1, sd2 := h.sd2, wf1 := WFl_tail h.wf1, wf2 := h.wf2, rsd := hr', wfa := hw',
        one := (fun h => nomatch h.1), ne1 := nofun, ne2 := nofun,
        front := fun _ _ => ⟨fun x hx => hfr _ (SD_head_lt h.sd1 hx), fun y hy => by cases hy; exact hfr _ (by omega)⟩,
        inc1 := nofun, inc2 := nofun }
    refine ⟨res, hres, hr, hw, fun p => ?_⟩
    rw [hcov p, hc p, cov_cons a as]
    simp only [or_assoc, or_left_comm, or_comm]

/-- `merge_ranges` on sorted disjoint lists, not both empty: neither assertion fires, the accumulator is never indexed
    while empty, and the returned blocks are sorted, disjoint, well formed and cover the union of the positions -/
theorem mergeRanges_sorted_cov (l1 l2 : List Iv) (h1 : SD l1) (h2 : SD l2) (w1 : WFl l1) (w2 : WFl l2)
    (hne : l1 ≠ [] ∨ l2 ≠ []) :
    ∃ res, mergeRanges l1 l2 = some res ∧ SD res ∧ WFl res ∧ ∀ p, cov res p ↔ cov l1 p ∨ cov l2 p := by
  obtain ⟨acc, hacc, hr, hw, hcov⟩ := mergeLoop_inv l1 false l2 false [] (.init h1 h2 w1 w2)
  simp only [cov_nil, false_or] at hcov
  -- the first position of a non-empty list is covered, so the accumulator is not empty
  have hne' : acc ≠ [] := by
    rintro rfl
    obtain ⟨a, ha, hw⟩ : ∃ a, (a ∈ l1 ∨ a ∈ l2) ∧ a.1 ≤ a.2 := by
      rcases hne with h | h
      · obtain ⟨a, t, rfl⟩ := List.exists_cons_of_ne_nil h; exact ⟨a, .inl (by simp), WFl_head w1⟩
      · obtain ⟨a, t, rfl⟩ := List.exists_cons_of_ne_nil h; exact ⟨a, .inr (by simp), WFl_head w2⟩
    exact cov_nil _ ((hcov a.1).mpr (ha.imp (fun h => ⟨a, h, Int.le_refl _, hw⟩) (fun h => ⟨a, h, Int.le_refl _, hw⟩)))
  refine ⟨acc.reverse, by simp [mergeRanges, hacc, hne'], SD_reverse_of_RSD acc hr,
    fun r hr' => hw r (by simpa using hr'), fun p => by rw [cov_reverse, hcov p]⟩

end IsoVerif.Lemmas
