/-
Helper lemmas for Props/C02MergeOrder.lean and Props/C02Combine.lean (merge order of the part files, the files read by
combine_counts).
Core Lean only.
-/
import IsoVerif.Model.CounterCombine
import IsoVerif.Lemmas.Counter
import IsoVerif.Lemmas.CounterSteps
import IsoVerif.Lemmas.CounterPerm
import IsoVerif.Lemmas.Schedule
import IsoVerif.Lemmas.C06Merge
import IsoVerif.Lemmas.Samples

namespace IsoVerif.Lemmas.C02
open IsoVerif.Gen IsoVerif.Model.C02
open List

theorem orderParts_names {α : Type} (named : List (String × α)) :
    (orderParts named).map Prod.fst = IsoVerif.Model.C06.mergeOrder (named.map Prod.fst) :=
  IsoVerif.Lemmas.InsertionSort.map Prod.fst (IsoVerif.Lemmas.C06.isort_is _) (IsoVerif.Lemmas.C06.isort_is _)
    (fun _ _ => rfl) named

/-- the visiting order through the total comparison of the keys (the form in which a concrete order is computed) -/
theorem orderParts_eq {α : Type} (named : List (String × α)) :
    orderParts named = IsoVerif.Model.C06.isort
      (fun a b => IsoVerif.Lemmas.C06.cmpKeyT (IsoVerif.Model.C06.naturalKey a.1) (IsoVerif.Model.C06.naturalKey b.1) != .gt)
      named := by
  unfold orderParts; simp only [IsoVerif.Lemmas.C06.keyLe_eq]

theorem orderParts_perm {α : Type} (named : List (String × α)) : (orderParts named) ~ named :=
  IsoVerif.Lemmas.C06.isort_perm _ named

theorem natSum_map_perm {α : Type} {l l' : List α} (h : l ~ l') (g : α → Nat) :
    natSum (l.map g) = natSum (l'.map g) := natSum_perm (h.map g)

/-! ### code-point order of the feature ids (row order of the combined tables) -/

theorem strLeB_trans (a b c : String) (h1 : strLeB a b = true) (h2 : strLeB b c = true) : strLeB a c = true := by
  simp only [strLeB, decide_eq_true_eq] at *
  exact String.le_trans h1 h2

theorem strLeB_total (a b : String) : strLeB a b = true ∨ strLeB b a = true := by
  simp only [strLeB, decide_eq_true_eq]
  exact String.le_total a b

open IsoVerif.Model.C10 (Table transformCounts combineTable) in
theorem combined_keys (full : Bool) (ts : List (String × Table)) (k : String) :
    k ∈ (combineTable full ts).2.map Prod.fst ↔ ∃ p ∈ ts, k ∈ (transformCounts full p.2).map Prod.fst := by
  constructor
  · intro h
    obtain ⟨row, hrow, rfl⟩ := List.mem_map.mp h
    exact ((IsoVerif.Lemmas.C10.mem_combineTable full ts row).mp hrow).1
  · intro h
    have hrow : (k, ts.map (fun p => (transformCounts full p.2).lookup k)) ∈ (combineTable full ts).2 :=
      (IsoVerif.Lemmas.C10.mem_combineTable full ts (k, _)).mpr ⟨h, rfl⟩
    exact List.mem_map.mpr ⟨_, hrow, rfl⟩

end IsoVerif.Lemmas.C02
