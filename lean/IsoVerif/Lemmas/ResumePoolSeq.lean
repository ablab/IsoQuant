/-
C07: the `--threads 1` run (Model/Resume.lean `run`) and the pool run with the empty schedules.  For independent tasks (`Indep`)
the loop completes iff every task completes on its own (`seq_tasks`, `seq_ok_of_solo`), and then loop and parallel stage are the
same run (`poolStage_nil_eq`, `seqTasks_eq_pool`); when a task raises the two differ by design: a lazy `map` stops at the raise,
a pool lets the other tasks finish.  Hence the two loops meet `CollectSpec` / `ConstructSpec` because the parallel stages do
(`collect_seq_spec`, `construct_seq_spec`, `rest_run`), and, for every variant of the model, `runPool … [] []` is `run` whenever
the run completes (`runPhases_eq_runStages`, `phases_seqLike`; Props/C07Pool.lean `threads1_is_empty_schedule`).
-/
import IsoVerif.Lemmas.ResumePoolIndep
import IsoVerif.Lemmas.ListFacts

namespace IsoVerif.Lemmas.Resume
open IsoVerif.Model.Resume

/-- the tasks of a parallel stage do not depend on each other: each writes only inside its footprint `T c`, and
    behaves the same after other tasks have performed any of their events -/
def Indep (task : Chr → Stage) : Prop :=
  ∃ T : Chr → Path → Bool,
    (∀ c fs, ∀ e ∈ (runActs (task c fs) fs).evs, T c e.path = true) ∧
    (∀ c fs es, (∀ e ∈ es, ∃ c', c' ≠ c ∧ T c' e.path = true) →
      (runActs (task c (applyAll fs es)) (applyAll fs es)).evs = (runActs (task c fs) fs).evs ∧
      (runActs (task c (applyAll fs es)) (applyAll fs es)).ok = (runActs (task c fs) fs).ok)

theorem weave_blocks (cs : List Chr) (nd : cs.Nodup) (n : Chr → Nat) (rest : List Chr) (rem : Chr → List Ev) :
    weave (cs.flatMap (fun c => List.replicate (n c) c) ++ rest) rem =
      cs.flatMap (fun c => (rem c).take (n c)) ++ weave rest (fun x => if x ∈ cs then (rem x).drop (n x) else rem x) := by
  induction cs generalizing rem with
  | nil => simp
  | cons c cs ih =>
    have nd' := List.nodup_cons.mp nd
    simp only [List.flatMap_cons, List.append_assoc]
    rw [weave_replicate, ih nd'.2]
    congr 2
    · apply flatMap_congr_mem
      intro x hx
      have : x ≠ c := fun e => nd'.1 (e ▸ hx)
      simp [this]
    · congr 1
      funext x
      by_cases hx : x = c
      · subst hx; simp [nd'.1]
      · by_cases hm : x ∈ cs <;> simp [hx, hm]

/-- the empty schedule: the barrier lets the tasks run one after the other -/
theorem weave_fill (cs : List Chr) (nd : cs.Nodup) (rem : Chr → List Ev) : weave (fill cs rem) rem = cs.flatMap rem := by
  have := weave_blocks cs nd (fun c => (rem c).length) [] rem
  simpa [fill, weave] using this

theorem seq_tasks {task : Chr → Stage} (hi : Indep task) (cs : List Chr) (nd : cs.Nodup) (fs : FS)
    (hok : (runStages (cs.map task) fs).ok = true) :
    (runStages (cs.map task) fs).evs = cs.flatMap (fun c => (runActs (task c fs) fs).evs) ∧
      ∀ c ∈ cs, (runActs (task c fs) fs).ok = true := by
  obtain ⟨T, hT, hind⟩ := hi
  induction cs generalizing fs with
  | nil => exact ⟨rfl, fun c hc => by simp at hc⟩
  | cons c cs ih =>
    have nd' := List.nodup_cons.mp nd
    simp only [List.map_cons, runStages] at hok ⊢
    by_cases h1 : (runActs (task c fs) fs).ok = true
    · simp only [h1, if_true] at hok ⊢
      have hfs : (runActs (task c fs) fs).fs = applyAll fs (runActs (task c fs) fs).evs := runActs_fs _ _
      obtain ⟨e2, o2⟩ := ih nd'.2 _ hok
      have hother : ∀ c' ∈ cs, ∀ e ∈ (runActs (task c fs) fs).evs, ∃ c'', c'' ≠ c' ∧ T c'' e.path = true :=
        fun c' hc' e he => ⟨c, fun e' => nd'.1 (e' ▸ hc'), hT c fs e he⟩
      refine ⟨?_, ?_⟩
      · simp only [List.flatMap_cons]
        rw [e2]
        congr 1
        apply flatMap_congr_mem
        intro c' hc'
        rw [hfs]
        exact (hind c' fs _ (hother c' hc')).1
      · intro c' hc'
        simp only [List.mem_cons] at hc'
        rcases hc' with rfl | hc'
        · exact h1
        · have := o2 c' hc'
          rw [hfs, (hind c' fs _ (hother c' hc')).2] at this
          exact this
    · simp only [h1] at hok
      exact absurd hok h1

theorem seq_ok_of_solo {task : Chr → Stage} (hi : Indep task) (cs : List Chr) (nd : cs.Nodup) (fs : FS)
    (ho : ∀ c ∈ cs, (runActs (task c fs) fs).ok = true) : (runStages (cs.map task) fs).ok = true := by
  obtain ⟨T, hT, hind⟩ := hi
  induction cs generalizing fs with
  | nil => rfl
  | cons c cs ih =>
    have nd' := List.nodup_cons.mp nd
    simp only [List.map_cons, runStages, ho c (by simp), if_true]
    refine ih nd'.2 _ (fun c' hc' => ?_)
    rw [runActs_fs, (hind c' fs _ (fun e he => ⟨c, fun e' => nd'.1 (e' ▸ hc'), hT c fs e he⟩)).2]
    exact ho c' (by simp [hc'])

theorem Res_ext {a b : Res} (h1 : a.evs = b.evs) (h2 : a.fs = b.fs) (h3 : a.ok = b.ok) : a = b := by
  cases a; cases b; simp_all

theorem poolStage_nil_eq {task : Chr → Stage} (hi : Indep task) (cs : List Chr) (nd : cs.Nodup) (fs : FS)
    (hok : (runStages (cs.map task) fs).ok = true) : poolStage task cs [] fs = runStages (cs.map task) fs := by
  obtain ⟨e, o⟩ := seq_tasks hi cs nd fs hok
  have hev : (poolStage task cs [] fs).evs = (runStages (cs.map task) fs).evs := by
    show weave ([] ++ fill cs (taskEvents task cs fs)) (taskEvents task cs fs) = _
    rw [List.nil_append, weave_fill cs nd, e]
    apply flatMap_congr_mem
    intro c hc
    simp [taskEvents, hc]
  apply Res_ext hev
  · show applyAll fs (poolStage task cs [] fs).evs = _
    rw [hev, ← runStages_fs]
  · rw [hok]
    simp only [poolStage, List.all_eq_true]
    exact o

/-- the stages a list of phases stands for when the tasks of every parallel stage are executed one after the other -/
def flattenPhases : List Phase → List Stage
  | [] => []
  | .seq s :: ps => s :: flattenPhases ps
  | .pool task cs _ :: ps => cs.map task ++ flattenPhases ps

/-- every parallel stage has independent tasks, distinct chromosomes and the empty schedule -/
def SeqLike : List Phase → Prop
  | [] => True
  | .seq _ :: ps => SeqLike ps
  | .pool task cs sc :: ps => Indep task ∧ cs.Nodup ∧ sc = [] ∧ SeqLike ps

theorem runPhases_eq_runStages (ps : List Phase) (h : SeqLike ps) (fs : FS)
    (hok : (runStages (flattenPhases ps) fs).ok = true) : runPhases ps fs = runStages (flattenPhases ps) fs := by
  induction ps generalizing fs with
  | nil => rfl
  | cons p ps ih =>
    cases p with
    | seq s =>
      simp only [flattenPhases, runStages, runPhases, runPhase] at hok ⊢
      by_cases h1 : (runActs (s fs) fs).ok = true
      · simp only [h1, if_true] at hok ⊢
        rw [ih h _ hok]
      · simp only [h1] at hok
        exact absurd hok h1
    | pool task cs sc =>
      obtain ⟨hi, nd, rfl, hrest⟩ := h
      simp only [flattenPhases] at hok ⊢
      rw [runStages_append] at hok ⊢
      by_cases h1 : (runStages (cs.map task) fs).ok = true
      · simp only [h1, if_true] at hok ⊢
        simp only [runPhases, runPhase, poolStage_nil_eq hi cs nd fs h1, h1, if_true]
        rw [ih hrest _ hok]
      · simp only [h1] at hok
        exact absurd hok h1

theorem collect_indep (v : Variant) (cfg : Cfg) (rs sk : Bool) : Indep (collectChr v cfg rs sk) := by
  exact ⟨Tcol, fun c fs => (collectChr_T v cfg rs sk c fs).run fs,
    fun c fs es hes => collect_start_indep v cfg rs sk c fs es hes⟩

theorem construct_indep (v : Variant) (cfg : Cfg) (rs : Bool) : Indep (constructChr v cfg rs) := by
  exact ⟨Tcon, fun c fs => (constructChr_T v cfg rs c fs).run fs,
    fun c fs es hes => construct_start_indep v cfg rs c fs es hes⟩

theorem seqTasks_eq_pool {cfg : Cfg} {task : Chr → Stage} (hi : Indep task) (nd : cfg.chrs.Nodup) {fs : FS}
    (h : (runPhases [.pool task cfg.chrs []] fs).ok = true) :
    runPhases (seqTasks cfg task) fs = runPhases [.pool task cfg.chrs []] fs := by
  have hp : runPhases [.pool task cfg.chrs []] fs = poolStage task cfg.chrs [] fs := by
    simp only [runPhases, runPhase, List.append_nil]
    split
    · rename_i hq; exact Res_ext rfl rfl hq.symm
    · rfl
  rw [hp] at h ⊢
  have ho : ∀ c ∈ cfg.chrs, (runActs (task c fs) fs).ok = true := by
    simpa only [poolStage, List.all_eq_true] using h
  rw [seqTasks, runPhases_seq, poolStage_nil_eq hi _ nd fs (seq_ok_of_solo hi _ nd fs ho)]

theorem collect_seq_spec {cfg : Cfg} (nd : cfg.chrs.Nodup) (rs skc : Bool) :
    CollectSpec cfg rs skc (seqTasks cfg (collectChr fixed cfg rs skc)) := by
  intro fs h hrg hnl hnc href
  have hp := collect_pool cfg rs skc [] h hrg hnl hnc href
  rwa [seqTasks_eq_pool (collect_indep fixed cfg rs skc) nd hp.1.1]

theorem construct_seq_spec {cfg : Cfg} (nd : cfg.chrs.Nodup) (rs : Bool) :
    ConstructSpec cfg rs (seqTasks cfg (constructChr fixed cfg rs)) := by
  intro fs h hsv hnp href
  have hp := construct_pool cfg rs [] h hsv hnp href
  rwa [seqTasks_eq_pool (construct_indep fixed cfg rs) nd hp.1.1]

theorem rest_run {cfg : Cfg} (wf : WF cfg) (ord : List Path) (hord : ord.Nodup) (rs sk : Bool) {fs : FS} (h : J cfg fs)
    (hst : Start cfg rs sk fs)
    (href : refOK cfg fs = true) :
    Good cfg fs (runStages (restStages cfg ord rs (sk || cfg.fromSaves)) fs) ∧
      FinOK cfg (runStages (restStages cfg ord rs (sk || cfg.fromSaves)) fs).fs := by
  rw [← runPhases_seq, restStages_phases]
  exact rest_phases wf ord hord rs sk (collect_seq_spec wf.nd rs _) (construct_seq_spec wf.nd rs) h hst href

theorem stages_flatten (v : Variant) (cfg : Cfg) (ord : List Path) (rs sk : Bool) :
    flattenPhases (phases v cfg ord rs sk [] []) = stages v cfg ord rs sk := by
  simp only [phases, stages, List.cons_append, List.nil_append, flattenPhases, List.append_assoc]
  split <;> simp [flattenPhases]

theorem phases_seqLike (v : Variant) (cfg : Cfg) (nd : cfg.chrs.Nodup) (ord : List Path) (rs sk : Bool) :
    SeqLike (phases v cfg ord rs sk [] []) := by
  simp only [phases, List.cons_append, List.nil_append, SeqLike]
  refine ⟨collect_indep _ _ _ _, nd, trivial, construct_indep _ _ _, nd, trivial, ?_⟩
  split <;> simp [SeqLike]

end IsoVerif.Lemmas.Resume
