/-
C07: what crash consistency and the resume theorems use of a run, whichever way its per-chromosome work is scheduled
(`run`, `runPool`): its shape from a consistent folder (`Shaped`) and its lock-removal step (`Fresh`).  From these alone:
the invariant in every crash state, and a resumed run — under the options of its own command line — that completes with
the final files of the uninterrupted run.
-/
import IsoVerif.Lemmas.ResumeHistory

namespace IsoVerif.Lemmas.Resume
open IsoVerif.Model.Resume

theorem sameFinals_of_finOK {cfg : Cfg} {a b : FS} (ha : FinOK cfg a) (hb : FinOK cfg b) : sameFinals cfg a b = true := by
  simp only [sameFinals, List.all_eq_true, beq_iff_eq]
  intro p hp
  have h1 := ha p hp
  have h2 := hb p hp
  simp only [FS.good, beq_iff_eq] at h1 h2
  rw [h1, h2]

theorem verdict_equal {ok same : Bool} (h1 : ok = true) (h2 : same = true) :
    (if (!ok) = true then Verdict.fail else if same = true then .equal else .diff) = .equal := by
  simp [h1, h2]

def afterParams (fs : FS) : FS := applyAll fs (paramsEvs fixed)

theorem afterParams_other (fs : FS) {p : Path} (h : p ≠ .params) (h' : p ≠ .paramsTmp) : afterParams fs p = fs p := by
  simp [afterParams, paramsEvs, fixed, applyAll, apply, Ev.path, Ev.val, set_other _ _ h, set_other _ _ h']

/-- the lock part of `J` does not see `.params` / `.paramsTmp`: they are neither locks that vouch for anything nor vouched for -/
theorem lockPart_frame {cfg : Cfg} {fs fs' : FS} (hf : ∀ p, p ≠ .params → p ≠ .paramsTmp → fs' p = fs p)
    (h : ∀ l, fs.has l = true → ∀ d ∈ guarded cfg l, fs.good d = true) :
    ∀ l, fs'.has l = true → ∀ d ∈ guarded cfg l, fs'.good d = true := by
  intro l hl d hd
  have hdne : d ≠ .params := fun e => not_mem_guarded rfl (e ▸ hd)
  have hdne' : d ≠ .paramsTmp := fun e => not_mem_guarded rfl (e ▸ hd)
  have hlne : l ≠ .params := by
    intro e; subst e; simp [guarded] at hd
  have hlne' : l ≠ .paramsTmp := by
    intro e; subst e; simp [guarded] at hd
  simp only [FS.has, FS.good, hf _ hdne hdne', hf _ hlne hlne'] at hl ⊢
  exact h l hl d hd

theorem J_afterParams {cfg : Cfg} {fs : FS} (h : ∀ l, fs.has l = true → ∀ d ∈ guarded cfg l, fs.good d = true) :
    J cfg (afterParams fs) :=
  ⟨by simp [afterParams, paramsEvs, fixed, applyAll, apply, FS.good, FS.set, Ev.path, Ev.val],
    lockPart_frame (fun _ => afterParams_other fs) h⟩

/-- a run of one configuration as a function of "resumed?" and the folder it starts in -/
abbrev Runner := Bool → FS → Res

/-- the shape of a run started in a consistent folder: `save_params`, then events that keep `J` at every prefix, final files
    complete (Props/C07.lean `run_shape` says what this means for `run`).  The first hypothesis on the folder, "what an existing
    lock vouches for is complete", is the lock part `(J cfg fs).2` of `J`; Props/C07.lean names it `J0` -/
def Shaped (cfg : Cfg) (R : Runner) : Prop :=
  ∀ (rs : Bool) (fs : FS), (∀ l, fs.has l = true → ∀ d ∈ guarded cfg l, fs.good d = true) →
    (rs = true → fs.good .params = true) → (rs = false → lockList cfg fs = []) →
    (cfg.fromSaves = true → SavesOK cfg fs) →
    ∃ rest : List Ev, (R rs fs).evs = paramsEvs fixed ++ rest ∧ (R rs fs).ok = true ∧
      AllP (J cfg) (afterParams fs) rest ∧ FinOK cfg (R rs fs).fs

/-- a fresh run removes the lock files it finds and goes on as on the cleaned folder; with `--read_assignments` it never
    writes the save files it reads -/
structure Fresh (cfg : Cfg) (R : Runner) : Prop where
  split : ∀ fs, (R false fs).evs = (lockList cfg fs).map Ev.remove ++ (R false (cleaned cfg fs)).evs ∧
    (R false fs).fs = (R false (cleaned cfg fs)).fs
  saves : cfg.fromSaves = true → ∀ fs, ∀ e ∈ (R false fs).evs, notSaves e.path = true

theorem paramsEvs_fixed_length : (paramsEvs fixed).length = 4 := rfl

/-- the four events of `save_params` keep the invariant at every prefix when `.params` was intact before (a resumed run):
    the old file stays in place until the complete new one is renamed over it -/
theorem params_prefix_J {cfg : Cfg} {fs : FS} (h : J cfg fs) : AllP (J cfg) fs (paramsEvs fixed) := by
  have h3 : AllP (J cfg) fs [.create .paramsTmp, .commit .paramsTmp .good, .remove .paramsTmp] := by
    apply allJ_body h
    · intro e he; simp only [List.mem_cons, List.not_mem_nil, or_false] at he
      rcases he with rfl | rfl | rfl <;> simp [Ev.path]
    · intro e he hl; simp only [List.mem_cons, List.not_mem_nil, or_false] at he
      rcases he with rfl | rfl | rfl <;> simp [Ev.path, isLock] at hl
    · intro e he _ l hm; simp only [List.mem_cons, List.not_mem_nil, or_false] at he
      have hn : Path.paramsTmp ∉ guarded cfg l := not_mem_guarded rfl
      rcases he with rfl | rfl | rfl <;> exact absurd hm hn
  have hJ3 := AllP_last h3
  have h4 : J cfg (apply (applyAll fs [.create .paramsTmp, .commit .paramsTmp .good, .remove .paramsTmp])
      (.commit .params .good)) := by
    exact ⟨by simp [apply, FS.good, FS.set, Ev.path, Ev.val],
      lockPart_frame (fun p hp _ => by simp only [apply, Ev.path, Ev.val, set_other _ _ hp]) hJ3.2⟩
  have : paramsEvs fixed = [.create .paramsTmp, .commit .paramsTmp .good, .remove .paramsTmp] ++ [.commit .params .good] := rfl
  rw [this, AllP_append]
  exact ⟨h3, AllP_single hJ3 h4⟩

theorem lockList_nil_processed {cfg : Cfg} {fs : FS} (h : lockList cfg fs = []) :
    ∀ c ∈ cfg.chrs, fs.has (.processed c) = false := by
  intro c hc
  cases hq : fs.has (.processed c) with
  | false => rfl
  | true =>
    have : Path.processed c ∈ lockList cfg fs := by
      simp only [lockList, List.mem_append, List.mem_map, List.mem_filter]; exact Or.inr ⟨c, ⟨hc, hq⟩, rfl⟩
    rw [h] at this; simp at this

theorem lockList_empty (cfg : Cfg) : lockList cfg FS.empty = [] := by
  simp [lockList]

theorem shaped_of_rest {cfg : Cfg} {R : Runner} {rest : Bool → Bool → List Phase}
    (hR : ∀ rs fs, (rs = false → lockList cfg fs = []) →
      R rs fs = runPhases (.seq (paramsStage fixed rs) :: rest rs (rs && fs.has .lock)) fs)
    (hrest : ∀ (rs sk : Bool) {fs : FS}, J cfg fs → Start cfg rs sk fs →
      Good cfg fs (runPhases (rest rs sk) fs) ∧ FinOK cfg (runPhases (rest rs sk) fs).fs) : Shaped cfg R := by
  intro rs fs h hp hcl hsv
  have hst : Start cfg rs (rs && fs.has .lock) fs :=
    ⟨fun e => (Bool.and_eq_true _ _ ▸ e).1, fun e => (Bool.and_eq_true _ _ ▸ e).2, fun e _ e' => by subst e'; simpa using e, hsv,
     fun _ e => lockList_nil_processed (hcl e)⟩
  have ho : ∀ p, p ≠ .params → p ≠ .paramsTmp → afterParams fs p = fs p := fun p => afterParams_other fs
  obtain ⟨hg, hfin⟩ := hrest rs (rs && fs.has .lock) (J_afterParams h)
    (hst.frame (ho _ (by simp) (by simp)) (ho _ (by simp) (by simp)) (fun _ => ho _ (by simp) (by simp))
      (fun _ => ho _ (by simp) (by simp)) (fun _ => ho _ (by simp) (by simp)))
  have hck : ChecksOK (paramsStage fixed rs fs) fs := by
    unfold paramsStage
    cases rs with
    | false => exact checks_evs _ _
    | true => exact ⟨hp rfl, checks_evs _ _⟩
  have hev : eventsOf (paramsStage fixed rs fs) = paramsEvs fixed := by
    unfold paramsStage; cases rs <;> simp [eventsOf]
  obtain ⟨hok0, hevs0⟩ := runActs_of_checks hck
  have hfs0 : (runActs (paramsStage fixed rs fs) fs).fs = afterParams fs := by
    rw [runActs_fs, hevs0, hev]; rfl
  refine ⟨(runPhases (rest rs (rs && fs.has .lock)) (afterParams fs)).evs, ?_, ?_, hg.2, ?_⟩
  · simp only [hR rs fs hcl, runPhases, runPhase, hok0, if_true, hevs0, hev, hfs0]
  · simp only [hR rs fs hcl, runPhases, runPhase, hok0, if_true, hfs0]; exact hg.1
  · simp only [hR rs fs hcl, runPhases, runPhase, hok0, if_true, hfs0]; exact hfin

theorem savesOK_cleaned {cfg : Cfg} {fs : FS} (h : SavesOK cfg fs) : SavesOK cfg (cleaned cfg fs) :=
  savesOK_frame h (cleaned_other cfg fs rfl) (fun _ => cleaned_other cfg fs rfl) (fun _ => cleaned_other cfg fs rfl)

/-- the lemma every crash theorem is an instance of: `J` holds after any `k` events of a `Shaped` run, except inside the
    `.params` events of a fresh run (`4 = (paramsEvs fixed).length`, `paramsEvs_fixed_length`; a resumed run starts with
    `.params` complete) -/
theorem Shaped.crash_invariant {cfg : Cfg} {R : Runner} (hR : Shaped cfg R) (rs : Bool) {fs : FS}
    (h : ∀ l, fs.has l = true → ∀ d ∈ guarded cfg l, fs.good d = true) (hp : rs = true → fs.good .params = true)
    (hcl : rs = false → lockList cfg fs = []) (hsv : cfg.fromSaves = true → SavesOK cfg fs) (k : Nat)
    (hk : 4 ≤ k ∨ rs = true) : J cfg (applyAll fs ((R rs fs).evs.take k)) := by
  obtain ⟨rest, hevs, _, hall, _⟩ := hR rs fs h hp hcl hsv
  rw [hevs]
  by_cases h4 : 4 ≤ k
  · obtain ⟨k', rfl⟩ : ∃ k', k = (paramsEvs fixed).length + k' := ⟨k - 4, by rw [paramsEvs_fixed_length]; omega⟩
    rw [List.take_length_add_append, applyAll_append]
    exact AllP_take hall k'
  · -- a resumed run killed inside save_params: `.params` of the interrupted run is still in place
    have hrs : rs = true := hk.resolve_left h4
    have hlt : k ≤ (paramsEvs fixed).length := by rw [paramsEvs_fixed_length]; omega
    rw [List.take_append_of_le_length hlt]
    exact AllP_take (params_prefix_J ⟨hp hrs, h⟩) k

/-- the folder after a chain of killed runs (runner and kill point of each): the first one is a resumed run iff `rs`, every
    later one is a `--resume` -/
def crashChain : List (Runner × Nat) → Bool → FS → FS
  | [], _, fs => fs
  | (R, k) :: rest, rs, fs => crashChain rest true (applyAll fs ((R rs fs).evs.take k))

/-- any number of interruptions: a first run killed after its parameters were saved, every resumed run killed anywhere -/
theorem crashChain_J {cfg : Cfg} (hm : cfg.fromSaves = false) (chain : List (Runner × Nat)) (hc : ∀ x ∈ chain, Shaped cfg x.1)
    (rs : Bool) (h0 : rs = false → ∀ x ∈ chain.head?, 4 ≤ x.2) {fs : FS}
    (h : ∀ l, fs.has l = true → ∀ d ∈ guarded cfg l, fs.good d = true) (hp : rs = true → fs.good .params = true)
    (hcl : rs = false → lockList cfg fs = []) (hne : chain ≠ []) : J cfg (crashChain chain rs fs) := by
  induction chain generalizing rs fs with
  | nil => exact absurd rfl hne
  | cons x chain ih =>
    obtain ⟨R, k⟩ := x
    have hk : 4 ≤ k ∨ rs = true := by
      cases rs with
      | true => exact Or.inr rfl
      | false => exact Or.inl (h0 rfl (R, k) (by simp))
    have hJ := (hc (R, k) (by simp)).crash_invariant rs h hp hcl (fun e => by rw [hm] at e; exact absurd e (by simp)) k hk
    cases chain with
    | nil => exact hJ
    | cons y chain =>
      exact ih (fun z hz => hc z (by simp [hz])) true (fun e => absurd e (by simp)) hJ.2 (fun _ => hJ.1) (by simp) (by simp)

/-- **kill and resume**: a run `R` started on any folder `fs0` whose cleaned state is consistent, killed after any `k`
    events once its own parameters are saved (the lock removal comes first), and resumed by `R'` under the options of the
    resume command line (`resumeCfg`: same locks, same guarded files, same final files): `R'` completes and every final
    file equals that of the uninterrupted `R` on `fs0` -/
theorem resume_equal {cfg : Cfg} {R R' : Runner} (hm kt : Bool) (hR : Shaped cfg R) (hF : Fresh cfg R)
    (hR' : Shaped (resumeCfg cfg hm kt) R') (fs0 : FS)
    (hJ0 : ∀ l, (cleaned cfg fs0).has l = true → ∀ d ∈ guarded cfg l, (cleaned cfg fs0).good d = true)
    (hsv : cfg.fromSaves = true → SavesOK cfg (cleaned cfg fs0)) (k : Nat) (hk : (lockList cfg fs0).length + 4 ≤ k) :
    (R' true (applyAll fs0 ((R false fs0).evs.take k))).ok = true ∧
      sameFinals cfg (R' true (applyAll fs0 ((R false fs0).evs.take k))).fs (R false fs0).fs = true := by
  obtain ⟨hevs, hfs0⟩ := hF.split fs0
  have hcl := lockList_cleaned cfg fs0
  obtain ⟨k', rfl⟩ : ∃ k', k = (lockList cfg fs0).length + k' := ⟨k - (lockList cfg fs0).length, by omega⟩
  -- the crash state is a crash state of the run on the cleaned folder
  have hcrash : applyAll fs0 ((R false fs0).evs.take ((lockList cfg fs0).length + k')) =
      applyAll (cleaned cfg fs0) ((R false (cleaned cfg fs0)).evs.take k') := by
    have := List.take_length_add_append (l₁ := (lockList cfg fs0).map Ev.remove) (l₂ := (R false (cleaned cfg fs0)).evs) k'
    rw [List.length_map] at this
    rw [hevs, this, applyAll_append]; rfl
  rw [hcrash, hfs0]
  have hJ := hR.crash_invariant false hJ0 (by simp) (fun _ => hcl) hsv k' (Or.inl (by omega))
  have hsvc : cfg.fromSaves = true → SavesOK cfg (applyAll (cleaned cfg fs0) ((R false (cleaned cfg fs0)).evs.take k')) := by
    intro e
    have hunt : ∀ p, notSaves p = false →
        applyAll (cleaned cfg fs0) ((R false (cleaned cfg fs0)).evs.take k') p = cleaned cfg fs0 p := fun p hp =>
      applyAll_untouched _ _ _ fun ev hev hpe => by
        have := hF.saves e _ ev (List.mem_of_mem_take hev)
        rw [hpe, hp] at this; exact absurd this (by simp)
    exact savesOK_frame (hsv e) (hunt _ rfl) (fun _ => hunt _ rfl) (fun _ => hunt _ rfl)
  have hJ' := (J_resumeCfg hm kt).mpr hJ
  obtain ⟨_, _, hok, _, hfin⟩ := hR' true _ hJ'.2 (fun _ => hJ'.1) (by simp) hsvc
  obtain ⟨_, _, _, _, hfin1⟩ := hR false _ hJ0 (by simp) (fun _ => hcl) hsv
  exact ⟨hok, sameFinals_of_finOK hfin hfin1⟩

end IsoVerif.Lemmas.Resume
