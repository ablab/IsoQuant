/-
Helper lemmas for C05: a file WITHOUT records inserted into the experiment only shifts the file indices
behind it — for the merger (`C12.merge`), both storages, `forward_alignments` and the whole collector.
-/
import IsoVerif.Model.RegionsMulti
import IsoVerif.Lemmas.RegionsMulti

namespace IsoVerif.Lemmas.RegionsMulti
open IsoVerif.Gen IsoVerif.Model IsoVerif.Model.Regions IsoVerif.Model.RegionsMulti IsoVerif.Lemmas.Regions
open List

/-- the list of files with an empty file inserted at position `j` -/
def insEmpty {α : Type} : Nat → List (List α) → List (List α)
  | 0, l => [] :: l
  | _ + 1, [] => [[]]
  | j + 1, f :: fs => f :: insEmpty j fs

/-- the index of a file after the insertion at `j` -/
def shift (j i : Nat) : Nat := if i < j then i else i + 1

def shiftE (j : Nat) (e : C12.Entry) : C12.Entry := (shift j e.1, e.2)
def shiftF (j : Nat) (e : FAln) : FAln := (shift j e.1, e.2)

theorem shift_le_iff (j a b : Nat) : shift j a ≤ shift j b ↔ a ≤ b := by
  unfold shift; split <;> split <;> omega

theorem shift_succ (j i : Nat) : shift (j + 1) (i + 1) = shift j i + 1 := by
  unfold shift; split <;> split <;> omega

theorem getElem?_insEmpty {α : Type} (j : Nat) (its : List (List α)) (hj : j ≤ its.length) (i : Nat) :
    (insEmpty j its)[shift j i]? = its[i]? := by
  induction j generalizing its i with
  | zero => simp [insEmpty, shift]
  | succ j ih =>
    cases its with
    | nil => simp at hj
    | cons f fs =>
      cases i with
      | zero => simp [insEmpty, shift]
      | succ i =>
        rw [shift_succ]
        simp only [insEmpty, List.getElem?_cons_succ]
        exact ih fs (by simpa using hj) i

theorem getD_insEmpty_self {α : Type} (j : Nat) (files : List (List α)) : (insEmpty j files)[j]?.getD [] = [] := by
  induction j generalizing files with
  | zero => rfl
  | succ j ih => cases files with
    | nil => cases j <;> rfl
    | cons f fs => exact ih fs

theorem merge_insEmpty (j : Nat) (files : List (List C12.Aln)) (hj : j ≤ files.length) :
    C12.merge (insEmpty j files) = (C12.merge files).map (shiftE j) := by
  refine (Lemmas.C12.merge_merges _).unique
    ((Lemmas.C12.merge_merges files).reindex (g := shift j) (shift_le_iff j) (fun i => ?_) fun k hk => ?_)
  · show (insEmpty j files)[shift j i]?.getD [] = _
    rw [getElem?_insEmpty j files hj]
  · -- `j` is the one number `shift j` does not reach
    have : k = j := by
      by_cases h : k < j
      · exact absurd (by simp [shift, h]) (hk k)
      · by_cases h' : k = j
        · exact h'
        · exact absurd (by simp only [shift]; rw [if_neg (by omega)]; omega) (hk (k - 1))
    rw [this]; exact getD_insEmpty_self j files

theorem map_insEmpty {α β : Type} (g : List α → List β) (hg : g [] = []) (j : Nat) (files : List (List α)) :
    (insEmpty j files).map g = insEmpty j (files.map g) := by
  induction j generalizing files with
  | zero => simp [insEmpty, hg]
  | succ j ih =>
    cases files with
    | nil => simp [insEmpty, hg]
    | cons f fs => simp [insEmpty, ih]

theorem regionStream_insEmpty (rest : Nat → Aln) (files : List (List C12.Aln)) (r : Iv) (j : Nat)
    (hj : j ≤ files.length) :
    regionStream rest (insEmpty j files) r = (regionStream rest files r).map (shiftF j) := by
  unfold regionStream
  rw [map_insEmpty (C12.fetch r) rfl, merge_insEmpty j _ (by simpa using hj), List.map_map, List.map_map]
  rfl

/-- the simulation of this file: the same run with every file index shifted past the inserted empty file `j`
    (`relabel` on a storage, `relSt` on a loop state, `relOut` on what is forwarded) -/
def relabel (j : Nat) (ms : MStore) : MStore := ⟨ms.base, ms.pairs.map (shiftF j)⟩

def relSt (j : Nat) (st : MPState) : MPState := ⟨relabel j st.store, st.out.map (relabel j), st.stats⟩

theorem step_relabel (j : Nat) (st : MPState) (e : FAln) :
    mProcessStep (relSt j st) (shiftF j e) = relSt j (mProcessStep st e) := by
  unfold mProcessStep relSt
  by_cases h : notAdjacent st.store.base.region e.2 = true
  · simp [h, relabel, MStore.add, MStore.empty, shiftF]
  · simp [h, relabel, MStore.add, shiftF]

theorem foldl_relabel (j : Nat) (l : List FAln) (st : MPState) :
    (l.map (shiftF j)).foldl mProcessStep (relSt j st) = relSt j (l.foldl mProcessStep st) := by
  rw [List.foldl_map]
  exact List.foldl_hom (relSt j) fun st e => step_relabel j st e

theorem relSt_init (j : Nat) : relSt j MPState.init = MPState.init := rfl

theorem stores_relabel (j : Nat) (l : List FAln) :
    mProcessStores (l.map (shiftF j)) = (mProcessStores l).map (relabel j) := by
  have hf := foldl_relabel j l MPState.init
  rw [relSt_init] at hf
  unfold mProcessStores
  rw [hf]
  generalize l.foldl mProcessStep MPState.init = st
  unfold mProcessFinish relSt
  by_cases h : st.store.base.region.isSome = true
  · simp [h, relabel]
  · simp [h, relabel]

theorem memGet_relabel (j : Nat) (ms : MStore) (r : Option Iv) :
    (relabel j ms).memGet r = (ms.memGet r).map (List.map (shiftF j)) := by
  unfold MStore.memGet
  cases r with
  | none => rfl
  | some r =>
    simp only [relabel]
    by_cases heq : some r = ms.base.region
    · simp [heq]
    · simp only [heq, if_false]
      cases ms.base.fillIndex with
      | none => rfl
      | some s' =>
        simp only
        cases s'.endIdx.get (bin r.1) with
        | none => rfl
        | some si =>
          cases s'.startIdx.get (bin r.2 + 1) with
          | none => rfl
          | some ei =>
            simp only [List.length_map]
            by_cases hle : ei ≤ ms.pairs.length
            · simp only [hle, if_true, Option.map_some]
              rw [← List.map_take, ← List.map_drop, List.filter_map]
              rfl
            · simp [hle]

def relOut (j : Nat) (out : List (Iv × List FAln)) : List (Iv × List FAln) :=
  out.map (fun p => (p.1, p.2.map (shiftF j)))

theorem getAlignmentsM_relabel (m : Mode) (rest : Nat → Aln) (files : List (List C12.Aln)) (j : Nat)
    (hj : j ≤ files.length) (ms : MStore) (r : Option Iv) :
    getAlignmentsM m rest (insEmpty j files) (relabel j ms) r =
      (getAlignmentsM m rest files ms r).map (List.map (shiftF j)) := by
  cases m with
  | memory => exact memGet_relabel j ms r
  | bam =>
    simp only [getAlignmentsM, relabel]
    cases r with
    | none =>
      cases ms.base.region with
      | none => rfl
      | some R => simp only [Option.map_some, regionStream_insEmpty rest files R j hj]
    | some r' => simp only [Option.map_some, regionStream_insEmpty rest files r' j hj]

theorem mapRegionsM_relabel (j : Nat) (get : Iv → Option (List FAln)) (regs : List Iv) :
    mapRegionsM (fun r => (get r).map (List.map (shiftF j))) regs = (mapRegionsM get regs).map (relOut j) := by
  induction regs with
  | nil => rfl
  | cons r rs ih =>
    simp only [mapRegionsM, ih]
    cases get r with
    | none => rfl
    | some x =>
      cases mapRegionsM get rs with
      | none => rfl
      | some xs => rfl

theorem forwardM_relabel (m : Mode) (rest : Nat → Aln) (files : List (List C12.Aln)) (j : Nat)
    (hj : j ≤ files.length) (ms : MStore) :
    forwardM m rest (insEmpty j files) (relabel j ms) = (forwardM m rest files ms).map (relOut j) := by
  unfold forwardM
  have hb : (relabel j ms).base = ms.base := rfl
  rw [hb]
  cases ms.base.region with
  | none => rfl
  | some R =>
    simp only
    cases splitCoverageRegions R ms.base.alns.length ms.base.cov with
    | none => rfl
    | some regs =>
      match regs with
      | [] => rfl
      | [r0] =>
        simp only [getAlignmentsM_relabel m rest files j hj, Option.map_map]
        rfl
      | r0 :: r1 :: rs =>
        simp only [getAlignmentsM_relabel m rest files j hj]
        exact mapRegionsM_relabel j (fun r => getAlignmentsM m rest files ms (some r)) (r0 :: r1 :: rs)

theorem collectStoresM_relabel (j : Nat) (f f' : MStore → Option (List (Iv × List FAln)))
    (h : ∀ ms, f' (relabel j ms) = (f ms).map (relOut j)) (ss : List MStore) :
    collectStoresM f' (ss.map (relabel j)) = (collectStoresM f ss).map (relOut j) := by
  induction ss with
  | nil => rfl
  | cons s ss ih =>
    simp only [List.map_cons, collectStoresM, h, ih]
    cases f s with
    | none => rfl
    | some x =>
      cases collectStoresM f ss with
      | none => rfl
      | some xs => simp [relOut]

end IsoVerif.Lemmas.RegionsMulti
