/-
C11 helper lemmas — reverse complement is an involution; filters under a map; the
majority vote of the strand functions with the two counts exchanged (`vote_flip`).
-/
import IsoVerif.Model.C11Canonical
import IsoVerif.Lemmas.MapComm

namespace IsoVerif.Lemmas.C11
open IsoVerif.Gen IsoVerif.Model.C11

theorem compBase_involutive (c : Char) : compBase (compBase c) = c := by
  unfold compBase
  by_cases h1 : c = 'A' <;> by_cases h2 : c = 'T' <;> by_cases h3 : c = 'C' <;> by_cases h4 : c = 'G' <;> simp_all

theorem rcList_involutive (l : List Char) : rcList (rcList l) = l := by
  have : (compBase ∘ compBase) = id := by funext c; exact compBase_involutive c
  simp [rcList, List.map_reverse, this]

theorem rcSeq_involutive (s : String) : rcSeq (rcSeq s) = s := by
  show String.ofList (rcList (String.ofList (rcList s.toList)).toList) = s
  rw [String.toList_ofList, rcList_involutive, String.ofList_toList]

theorem filter_length_map {α : Type} (l : List α) (m : α → α) (f g : α → Bool) (h : ∀ x, f (m x) = g x) :
    ((l.map m).filter f).length = (l.filter g).length := by
  rw [MapComm.filter_map_comm m g f h, List.length_map]

theorem intronStrand_cases (p : Sites) :
    intronStrandOfSites p = "." ∨ intronStrandOfSites p = "+" ∨ intronStrandOfSites p = "-" := by
  simp only [intronStrandOfSites]
  cases isFwdSite p <;> cases isRevSite p <;> simp

theorem vote_flip (f r : Nat) (t t' : String) (ht : t' = flipStrand t) :
    (if r = f then t' else if f < r then "+" else "-") = flipStrand (if f = r then t else if r < f then "+" else "-") := by
  rcases Nat.lt_trichotomy f r with h | h | h
  · rw [if_neg (by omega), if_pos h, if_neg (by omega), if_neg (by omega)]; rfl
  · rw [if_pos h.symm, if_pos h, ht]
  · rw [if_neg (by omega), if_neg (by omega), if_neg (by omega), if_pos h]; rfl

end IsoVerif.Lemmas.C11
