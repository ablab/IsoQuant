/-
C11 helper lemmas — reflection `x ↦ L + 1 − x` of the list functions of Model/Interval.lean, the part that rests on
the primitives of Props/C11 or serves the sorted-list specifications: common positions of two lists, the extra-exon
fraction.  The algebra of `mirrorL` and the theorems that hold for all lists by a
direct induction are in Lemmas/MirrorBase.lean.
-/
import IsoVerif.Gen.Prims
import IsoVerif.Model.Interval
import IsoVerif.Model.C11Symmetry
import IsoVerif.Lemmas.Interval
import IsoVerif.Lemmas.C11Shift
import IsoVerif.Lemmas.MirrorBase

namespace IsoVerif.Lemmas.C11
open IsoVerif.Gen IsoVerif.Model IsoVerif.Model.C11 IsoVerif.Lemmas

theorem drop_take_reverse {α} (xs : List α) (a c x : Nat) (h : a + c + x = xs.length) :
    (xs.reverse.drop x).take c = ((xs.drop a).take c).reverse := by
  have := slice_reverse xs a (a + c) (by omega)
  rwa [Nat.add_sub_cancel_left, show xs.length - (a + c) = x by omega] at this

theorem mirrorL_shiftL (L k j : Int) (l : List Iv) : mirrorL (L + k + j) (shiftL k l) = shiftL j (mirrorL L l) := by
  simp only [mirrorL, shiftL, List.map_reverse, List.map_map]
  congr 1
  apply List.map_congr_left
  intro a _; simp only [Function.comp, shiftIv, mirrorIv]; ext <;> simp <;> omega

theorem intersection_len_mirror (L : Int) (a b : Iv) :
    intersection_len (mirrorIv L a) (mirrorIv L b) = intersection_len a b :=
  Props.C11.mirror_dual_intersection_len L a b

theorem rowSum_append (a : Iv) (l1 l2 : List Iv) : rowSum a (l1 ++ l2) = rowSum a l1 + rowSum a l2 := by
  simp [rowSum, List.sum_append]

theorem rowSum_mirror (L : Int) (a : Iv) (l : List Iv) : rowSum (mirrorIv L a) (mirrorL L l) = rowSum a l := by
  induction l with
  | nil => rfl
  | cons b t ih =>
    rw [mirrorL_cons, rowSum_append, ih]
    simp only [rowSum, List.map_cons, List.map_nil, List.sum_cons, List.sum_nil, intersection_len_mirror]
    omega

theorem inter_append_left (l1 l1' l2 : List Iv) : inter (l1 ++ l1') l2 = inter l1 l2 + inter l1' l2 := by
  simp [inter, List.sum_append]

theorem inter_mirror (L : Int) (l1 l2 : List Iv) : inter (mirrorL L l1) (mirrorL L l2) = inter l1 l2 := by
  induction l1 with
  | nil => simp [mirrorL_nil, inter]
  | cons a t ih =>
    rw [mirrorL_cons, inter_append_left, ih]
    simp only [inter, List.map_cons, List.map_nil, List.sum_cons, List.sum_nil, rowSum_mirror]
    omega

/-! ### extra_exon_percentage -/

theorem extraExonLoop_append (reg : Iv) (l1 l2 : List Iv) :
    extraExonLoop reg (l1 ++ l2) =
      ((extraExonLoop reg l1).1 + (extraExonLoop reg l2).1, (extraExonLoop reg l1).2 + (extraExonLoop reg l2).2) := by
  induction l1 with
  | nil => simp [extraExonLoop]
  | cons e es ih =>
    simp only [List.cons_append, extraExonLoop, ih]
    ext <;> simp <;> omega

theorem extraExonLoop_mirror (L : Int) (reg : Iv) (l : List Iv) :
    extraExonLoop (mirrorIv L reg) (mirrorL L l) = extraExonLoop reg l := by
  induction l with
  | nil => rfl
  | cons e es ih =>
    rw [mirrorL_cons, extraExonLoop_append, ih]
    simp only [extraExonLoop, mirrorIv_fst, mirrorIv_snd]
    ext <;> simp <;> grind

end IsoVerif.Lemmas.C11
