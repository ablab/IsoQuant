/-
C11 helper lemmas — Model/Regions.lean (C05) under translation: by whole bins (`k = COVERAGE_BIN * j`) for everything
that looks at the coverage dictionary, by any k for the clustering of adjacent alignments.
-/
import IsoVerif.Model.Regions
import IsoVerif.Model.C11SymRegions
import IsoVerif.Lemmas.C11Shift

namespace IsoVerif.Lemmas.C11
open IsoVerif.Gen IsoVerif.Model IsoVerif.Model.C11 IsoVerif.Model.Regions

theorem rg_bin_shift (x j : Int) : bin (x + ap_COVERAGE_BIN * j) = bin x + j := by
  simp only [bin, ap_COVERAGE_BIN]; omega

theorem rg_covGet_shift (j : Int) (d : CovDict) (k : Int) : covGet (shiftCov j d) (k + j) = covGet d k := by
  induction d with
  | nil => rfl
  | cons p ps ih =>
    simp only [shiftCov, List.map_cons, covGet] at ih ⊢
    have : (p.1 + j = k + j) ↔ (p.1 = k) := by omega
    simp only [this, ih]

theorem rg_covBump_shift (j : Int) (d : CovDict) (k : Int) : covBump (shiftCov j d) (k + j) = shiftCov j (covBump d k) := by
  induction d with
  | nil => rfl
  | cons p ps ih =>
    simp only [shiftCov, List.map_cons, covBump] at ih ⊢
    have : (p.1 + j = k + j) ↔ (p.1 = k) := by omega
    simp only [this]
    split
    · rfl
    · simp only [List.map_cons, ih]

theorem rg_covBumpRange_shift (j : Int) (n : Nat) : ∀ (d : CovDict) (lo : Int),
    covBumpRange (shiftCov j d) (lo + j) n = shiftCov j (covBumpRange d lo n) := by
  induction n with
  | zero => intro d lo; rfl
  | succ n ih =>
    intro d lo
    simp only [covBumpRange, rg_covBump_shift]
    have : lo + j + 1 = lo + 1 + j := by omega
    rw [this, ih]

theorem rg_minKey_shift (j : Int) (d : CovDict) : minKey (shiftCov j d) = (minKey d).map (· + j) := by
  induction d with
  | nil => rfl
  | cons p ps ih =>
    simp only [shiftCov, List.map_cons, minKey] at ih ⊢
    rw [ih]
    cases minKey ps with
    | none => rfl
    | some m => simp only [Option.map_some]; congr 1; omega

theorem rg_maxKey_shift (j : Int) (d : CovDict) : maxKey (shiftCov j d) = (maxKey d).map (· + j) := by
  induction d with
  | nil => rfl
  | cons p ps ih =>
    simp only [shiftCov, List.map_cons, maxKey] at ih ⊢
    rw [ih]
    cases maxKey ps with
    | none => rfl
    | some m => simp only [Option.map_some]; congr 1; omega

theorem rg_splitInner_shift (j : Int) (d : CovDict) (last cs : Int) (fuel : Nat) : ∀ (pos maxCov : Int),
    splitInner (shiftCov j d) (last + j) (cs + j) fuel (pos + j) maxCov =
      (splitInner d last cs fuel pos maxCov).map (fun r => (r.1 + j, r.2)) := by
  induction fuel with
  | zero => intro pos maxCov; rfl
  | succ f ih =>
    intro pos maxCov
    simp only [splitInner, rg_covGet_shift]
    have c1 : (pos + j ≤ last + j ∧ pos + j - (cs + j) < minBins) ↔ (pos ≤ last ∧ pos - cs < minBins) := by
      constructor <;> (intro h; constructor <;> omega)
    simp only [c1]
    split
    · have : pos + j + 1 = pos + 1 + j := by omega
      rw [this, ih]
    · rfl

theorem rg_splitOuter_shift (j : Int) (d : CovDict) (R : Iv) (last : Int) (innerFuel : Nat) (fuel : Nat) :
    ∀ (cs pos maxCov : Int),
      splitOuter (shiftCov j d) (shiftIv (ap_COVERAGE_BIN * j) R) (last + j) innerFuel fuel (cs + j) (pos + j) maxCov =
        (splitOuter d R last innerFuel fuel cs pos maxCov).map (shiftL (ap_COVERAGE_BIN * j)) := by
  induction fuel with
  | zero => intro cs pos maxCov; rfl
  | succ f ih =>
    intro cs pos maxCov
    simp only [splitOuter, rg_splitInner_shift]
    have c1 : (pos + j ≤ last + j) ↔ (pos ≤ last) := by omega
    simp only [c1]
    split
    · cases hI : splitInner d last cs innerFuel pos maxCov with
      | none => rfl
      | some pm =>
        obtain ⟨p, m⟩ := pm
        simp only [Option.map_some]
        have e1 : min (p + j + 1) (last + j + 1) = min (p + 1) (last + 1) + j := by omega
        rw [e1, rg_covGet_shift, ih]
        cases splitOuter d R last innerFuel f p (min (p + 1) (last + 1)) (covGet d p) with
        | none => rfl
        | some rest =>
          simp only [Option.map_some, shiftL_cons, shiftIv, ap_COVERAGE_BIN]
          congr 2
          ext <;> dsimp only <;> omega
    · rfl

theorem rg_splitLoop_shift (j : Int) (R : Iv) (d : CovDict) :
    splitLoop (shiftIv (ap_COVERAGE_BIN * j) R) (shiftCov j d) = (splitLoop R d).map (shiftL (ap_COVERAGE_BIN * j)) := by
  simp only [splitLoop, rg_minKey_shift, rg_maxKey_shift]
  cases minKey d with
  | none => rfl
  | some first =>
    cases maxKey d with
    | none => rfl
    | some last =>
      simp only [Option.map_some]
      have e1 : last + j + 2 - (first + j) = last + 2 - first := by omega
      have e2 : first + j + 1 = first + 1 + j := by omega
      rw [e1, e2, rg_covGet_shift, rg_splitOuter_shift]

theorem rg_setFirstStart_shift (k x : Int) (l : List Iv) :
    setFirstStart (x + k) (shiftL k l) = shiftL k (setFirstStart x l) := by
  cases l with
  | nil => rfl
  | cons r rs => simp [setFirstStart, shiftL_cons, shiftIv]

theorem rg_setLastEnd_shift (k x : Int) (l : List Iv) :
    setLastEnd (x + k) (shiftL k l) = shiftL k (setLastEnd x l) := by
  induction l with
  | nil => rfl
  | cons r rs ih =>
    cases rs with
    | nil => simp [setLastEnd, shiftL, shiftIv]
    | cons r' rs' =>
      simp only [shiftL_cons, setLastEnd] at ih ⊢
      rw [ih]

theorem rg_retile_shift (k : Int) (R : Iv) (l : List Iv) :
    retile (shiftIv k R) (shiftL k l) = shiftL k (retile R l) := by
  cases l with
  | nil => rfl
  | cons r rs =>
    simp only [retile, shiftL_cons, shiftIv_fst, shiftIv_snd]
    rw [← shiftL_cons, rg_setFirstStart_shift, rg_setLastEnd_shift]

theorem rg_smallRegion_shift (k : Int) (R : Iv) (count : Nat) : smallRegion (shiftIv k R) count = smallRegion R count := by
  have : interval_len (shiftIv k R) = interval_len R := by simp only [interval_len, shiftIv]; omega
  simp only [smallRegion, this]

theorem rg_splitCoverageRegions_shift (j : Int) (R : Iv) (count : Nat) (d : CovDict) :
    splitCoverageRegions (shiftIv (ap_COVERAGE_BIN * j) R) count (shiftCov j d) =
      (splitCoverageRegions R count d).map (shiftL (ap_COVERAGE_BIN * j)) := by
  simp only [splitCoverageRegions, rg_smallRegion_shift, rg_splitLoop_shift]
  split
  · rfl
  · cases splitLoop R d with
    | none => rfl
    | some regs => simp only [Option.map_some, rg_retile_shift]

theorem rg_binS_shift (j : Int) (a : Aln) : (shiftAln (ap_COVERAGE_BIN * j) a).binS = a.binS + j := by
  simp only [Aln.binS, shiftAln, rg_bin_shift]

theorem rg_binE_shift (j : Int) (a : Aln) : (shiftAln (ap_COVERAGE_BIN * j) a).binE = a.binE + j := by
  simp only [Aln.binE, shiftAln]
  have : a.stop + ap_COVERAGE_BIN * j - 1 = a.stop - 1 + ap_COVERAGE_BIN * j := by omega
  rw [this, rg_bin_shift]

theorem rg_hullAdd_shift (k : Int) (reg : Option Iv) (a : Aln) :
    hullAdd (reg.map (shiftIv k)) (shiftAln k a) = shiftIv k (hullAdd reg a) := by
  cases reg with
  | none => simp only [Option.map_none, hullAdd, shiftAln, shiftIv]; ext <;> simp <;> omega
  | some r => simp only [Option.map_some, hullAdd, shiftAln, shiftIv]; ext <;> simp <;> omega

/-- what a storage holds apart from the two index dictionaries: region, coverage, alignments (the dictionaries are
    read by `Store.memGet` only, the `--high_memory` path, which these lemmas leave out) -/
def storeView (s : Store) : Option Iv × CovDict × List Aln := (s.region, s.cov, s.alns)

def shiftView (j : Int) (v : Option Iv × CovDict × List Aln) : Option Iv × CovDict × List Aln :=
  (v.1.map (shiftIv (ap_COVERAGE_BIN * j)), shiftCov j v.2.1, v.2.2.map (shiftAln (ap_COVERAGE_BIN * j)))

theorem rg_add_view (j : Int) (s s' : Store) (a : Aln) (h : storeView s' = shiftView j (storeView s)) :
    storeView (s'.add (shiftAln (ap_COVERAGE_BIN * j) a)) = shiftView j (storeView (s.add a)) := by
  simp only [storeView, shiftView, Prod.mk.injEq] at h
  obtain ⟨h1, h2, h3⟩ := h
  simp only [storeView, shiftView, Store.add, h1, h2, h3, rg_hullAdd_shift, rg_binS_shift, rg_binE_shift, Option.map_some,
    List.map_append, List.map_cons, List.map_nil, Prod.mk.injEq, true_and]
  have e : a.binE + j + 1 - (a.binS + j) = a.binE + 1 - a.binS := by omega
  rw [e, rg_covBumpRange_shift]
  simp

theorem rg_foldl_add_view (j : Int) (l : List Aln) : ∀ (s s' : Store), storeView s' = shiftView j (storeView s) →
    storeView ((l.map (shiftAln (ap_COVERAGE_BIN * j))).foldl Store.add s') = shiftView j (storeView (l.foldl Store.add s)) := by
  induction l with
  | nil => intro s s' h; exact h
  | cons a t ih =>
    intro s s' h
    simp only [List.map_cons, List.foldl_cons]
    exact ih _ _ (rg_add_view j s s' a h)

theorem rg_buildStore_view (j : Int) (l : List Aln) :
    storeView (buildStore (l.map (shiftAln (ap_COVERAGE_BIN * j)))) = shiftView j (storeView (buildStore l)) :=
  rg_foldl_add_view j l Store.empty Store.empty rfl

/-! ### clustering of adjacent alignments and the default-mode (`BAMAlignmentStorage`) forwarding -/

theorem rg_iv_shift (k : Int) (a : Aln) : (shiftAln k a).iv = shiftIv k a.iv := by
  simp only [Aln.iv, shiftAln, shiftIv]; ext <;> simp <;> omega

theorem rg_notAdjacent_shift (k : Int) (reg : Option Iv) (a : Aln) :
    notAdjacent (reg.map (shiftIv k)) (shiftAln k a) = notAdjacent reg a := by
  cases reg with
  | none => rfl
  | some r => simp only [Option.map_some, notAdjacent, rg_iv_shift, overlaps_shift]

/-- two runs of the clustering loop over `l` and over the shifted `l`: if a view `v` of the open storage that fixes
    its region (which decides adjacency) stays related by `T` when an alignment is added, the forwarded storages are
    related by `T` -/
theorem rg_processStores_map {β} (k : Int) (v : Store → β) (T : β → β)
    (hreg : ∀ s s', v s' = T (v s) → s'.region = s.region.map (shiftIv k))
    (hadd : ∀ s s' a, v s' = T (v s) → v (s'.add (shiftAln k a)) = T (v (s.add a)))
    (h0 : v Store.empty = T (v Store.empty)) (l : List Aln) :
    (processStores (l.map (shiftAln k))).map v = (processStores l).map (fun s => T (v s)) := by
  have aux : ∀ (l : List Aln) (st st' : PState), v st'.store = T (v st.store) →
      st'.out.map v = st.out.map (fun s => T (v s)) →
      (processFinish ((l.map (shiftAln k)).foldl processStep st')).map v
        = (processFinish (l.foldl processStep st)).map (fun s => T (v s)) := by
    intro l
    induction l with
    | nil =>
      intro st st' h1 h2
      have hk := hreg _ _ h1
      simp only [List.map_nil, List.foldl_nil, processFinish, hk, Option.isSome_map]
      split <;> rename_i hc <;> simp [h1, h2, hc]
    | cons a t ih =>
      intro st st' h1 h2
      simp only [List.map_cons, List.foldl_cons, processStep, hreg _ _ h1, rg_notAdjacent_shift]
      split
      · exact ih _ _ (hadd _ _ a h0) (by simp [h1, h2])
      · exact ih _ _ (hadd _ _ a h1) h2
  exact aux l PState.init PState.init h0 rfl

theorem rg_processStores_view (j : Int) (l : List Aln) :
    (processStores (l.map (shiftAln (ap_COVERAGE_BIN * j)))).map storeView =
      (processStores l).map (fun s => shiftView j (storeView s)) :=
  rg_processStores_map _ storeView (shiftView j) (fun _ _ h => congrArg Prod.fst h) (rg_add_view j) rfl l

theorem rg_bamGet_shift (k : Int) (all : List Aln) (r : Iv) :
    bamGet (all.map (shiftAln k)) (shiftIv k r) = (bamGet all r).map (shiftAln k) := by
  simp only [bamGet, List.filter_map]
  congr 1
  apply List.filter_congr
  intro a _
  simp only [Function.comp, rg_iv_shift, overlaps_shift]

/-- image of the `(region, alignments)` pairs handed to `process_alignments_in_region` -/
def shiftOut (k : Int) (o : List (Iv × List Aln)) : List (Iv × List Aln) :=
  o.map (fun p => (shiftIv k p.1, p.2.map (shiftAln k)))

theorem rg_mapRegions_shift (k : Int) (all : List Aln) (regs : List Iv) :
    mapRegions (fun r => some (bamGet (all.map (shiftAln k)) r)) (shiftL k regs) =
      (mapRegions (fun r => some (bamGet all r)) regs).map (shiftOut k) := by
  induction regs with
  | nil => rfl
  | cons r rs ih =>
    simp only [shiftL_cons, mapRegions, ih, rg_bamGet_shift]
    cases mapRegions (fun r => some (bamGet all r)) rs <;> simp [shiftOut]

theorem rg_forward_bam_view (j : Int) (all : List Aln) (s s' : Store)
    (h : storeView s' = shiftView j (storeView s)) :
    forward .bam (all.map (shiftAln (ap_COVERAGE_BIN * j))) s' =
      (forward .bam all s).map (shiftOut (ap_COVERAGE_BIN * j)) := by
  simp only [storeView, shiftView, Prod.mk.injEq] at h
  obtain ⟨h1, h2, h3⟩ := h
  simp only [forward, forwardWith, h1, h2, h3, List.length_map]
  cases hr : s.region with
  | none => rfl
  | some R =>
    simp only [Option.map_some, rg_splitCoverageRegions_shift]
    cases hs : splitCoverageRegions R s.alns.length s.cov with
    | none => rfl
    | some regs =>
      simp only [Option.map_some]
      match regs with
      | [] => simp [shiftL, mapRegions, shiftOut]
      | [x] =>
        simp only [shiftL, List.map_cons, List.map_nil, getAlignments, h1, hr, Option.map_some, rg_bamGet_shift]
        simp [shiftOut]
      | x :: y :: t =>
        simp only [shiftL, List.map_cons, getAlignments]
        have := rg_mapRegions_shift (ap_COVERAGE_BIN * j) all (x :: y :: t)
        simpa [shiftL] using this

theorem rg_collectStores_bam (j : Int) (all : List Aln) : ∀ (ss ss' : List Store),
    ss'.map storeView = ss.map (fun s => shiftView j (storeView s)) →
    collectStores (forward .bam (all.map (shiftAln (ap_COVERAGE_BIN * j)))) ss' =
      (collectStores (forward .bam all) ss).map (shiftOut (ap_COVERAGE_BIN * j)) := by
  intro ss
  induction ss with
  | nil =>
    intro ss' h
    have : ss' = [] := by simpa using h
    subst this; rfl
  | cons s t ih =>
    intro ss' h
    cases ss' with
    | nil => simp at h
    | cons s' t' =>
      simp only [List.map_cons, List.cons.injEq] at h
      simp only [collectStores, rg_forward_bam_view j all s s' h.1, ih t' h.2]
      cases forward .bam all s <;> cases collectStores (forward .bam all) t <;> simp [shiftOut]

/-! ### the clusters themselves do not depend on the bin grid: ANY k -/

/-- what the clustering reads and writes of a storage: region and alignments -/
def rview (s : Store) : Option Iv × List Aln := (s.region, s.alns)
def shiftRView (k : Int) (v : Option Iv × List Aln) : Option Iv × List Aln :=
  (v.1.map (shiftIv k), v.2.map (shiftAln k))

theorem rg_add_rview (k : Int) (s s' : Store) (a : Aln) (h : rview s' = shiftRView k (rview s)) :
    rview (s'.add (shiftAln k a)) = shiftRView k (rview (s.add a)) := by
  simp only [rview, shiftRView, Prod.mk.injEq] at h
  obtain ⟨h1, h2⟩ := h
  simp only [rview, shiftRView, Store.add, h1, h2, rg_hullAdd_shift, Option.map_some, List.map_append, List.map_cons,
    List.map_nil]

theorem rg_processStores_rview (k : Int) (l : List Aln) :
    (processStores (l.map (shiftAln k))).map rview = (processStores l).map (fun s => shiftRView k (rview s)) :=
  rg_processStores_map k rview (shiftRView k) (fun _ _ h => congrArg Prod.fst h) (rg_add_rview k) rfl l

theorem rg_statKey_shift (k : Int) (a : Aln) : statKey (shiftAln k a) = statKey a := rfl

end IsoVerif.Lemmas.C11
