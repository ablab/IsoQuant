/-
C07, several experiments in one invocation (Model/ResumeMulti.lean): the invariant "every experiment's folder, seen together
with the shared `.params`, satisfies `J`" holds at every prefix of the invocation's event list; a (first or resumed)
invocation from such a state completes with the final files of every experiment complete and correct.
-/
import IsoVerif.Lemmas.ResumePoolSeq
import IsoVerif.Model.ResumeMulti

/-! C07: nothing after the reference stage writes a file of the reference stage.

Every stage of a run after `refStage` (`restStages`: read-group split, read collection, model construction, merging,
clean-up — for every configuration, every directory order, first run or resumed) performs no event on the unpacked copy of
a plain-gzip reference, on the index inside the folder (file / content) or on a temporary index (`isRefAux`).  This is a
fact about the stage definitions of Model/Resume.lean (no hypothesis on the file system), read off their footprints
(`restStages_within`, Lemmas/ResumeRun.lean).  It is what lets several
experiments of one invocation share the files of the reference stage (Model/ResumeMulti.lean): the stages of one experiment
leave them as the reference stage wrote them. -/

namespace IsoVerif.Lemmas.Resume
open IsoVerif.Model.Resume

theorem restStages_noref (cfg : Cfg) (ord : List Path) (rs skc : Bool) (fs : FS) :
    ∀ e ∈ (runStages (restStages cfg ord rs skc) fs).evs, isRefAux e.path = false := by
  have := runStages_within (T := fun p => !isRefAux p) (restStages_within cfg ord rs skc
    (by intro p hp; cases p <;> first | rfl | cases hp) (by intro p hp; cases p <;> first | rfl | cases hp)
    (by intro _ c p hp; cases p <;> first | rfl | cases hp) (by intro _ p hp; cases p <;> first | rfl | cases hp)
    (by intro p hp; cases p <;> first | rfl | cases hp) (by intro c p hp; cases p <;> first | rfl | cases hp)
    (by intro p hp; cases p <;> first | rfl | cases hp) (by intro _ p hp; cases p <;> first | rfl | cases hp)) fs
  simpa using this

theorem restStages_ref_frame (cfg : Cfg) (ord : List Path) (rs skc : Bool) (fs : FS) {p : Path} (hp : isRefAux p = true) :
    (runStages (restStages cfg ord rs skc) fs).fs p = fs p := by
  rw [runStages_fs]
  exact frame isRefAux (restStages_noref cfg ord rs skc fs) hp

end IsoVerif.Lemmas.Resume

namespace IsoVerif.Lemmas.Resume
open IsoVerif.Model.Resume

theorem isRefPath_eq (p : Path) : isRefPath p = isRefAux p := by cases p <;> rfl

theorem view_apply (m : MFS) (i j : Nat) (e : Ev) (p : Path) :
    (m.apply i e).view j p =
      if p = e.path ∧ (e.path = .params ∨ isRefPath e.path = true ∨ j = i) then e.val else m.view j p := by
  by_cases he : e.path = .params
  · by_cases hp : p = .params <;> simp [MFS.apply, MFS.view, he, hp]
  · by_cases hr : isRefPath e.path = true
    · by_cases hp : p = .params
      · subst hp; simp [MFS.apply, MFS.view, he, hr, Ne.symm he]
      · by_cases hpe : p = e.path
        · subst hpe; simp [MFS.apply, MFS.view, he, hr, apply, FS.set]
        · simp [MFS.apply, MFS.view, he, hr, hp, hpe, apply, FS.set]
    · by_cases hp : p = .params
      · subst hp; simp [MFS.apply, MFS.view, he, hr, Ne.symm he]
      · by_cases hpe : p = e.path
        · subst hpe; by_cases hj : j = i <;> simp [MFS.apply, MFS.view, he, hr, hj, apply, FS.set]
        · by_cases hj : j = i <;> simp [MFS.apply, MFS.view, he, hr, hp, hpe, hj, apply, FS.set]

theorem view_apply_self (m : MFS) (i : Nat) (e : Ev) : (m.apply i e).view i = apply (m.view i) e := by
  funext p; simp [view_apply, apply, FS.set]

theorem view_apply_ref (m : MFS) (i j : Nat) (e : Ev) (hr : isRefPath e.path = true) :
    (m.apply i e).view j = apply (m.view j) e := by
  funext p; simp [view_apply, hr, apply, FS.set]

theorem view_apply_other (m : MFS) {i j : Nat} (e : Ev) (hne : j ≠ i) (hr : isRefPath e.path = false)
    (h0 : m.params = some .good) (h1 : (m.apply i e).params = some .good) : (m.apply i e).view j = m.view j := by
  funext p
  by_cases hp : p = .params
  · subst hp; simp only [MFS.view, if_true, h0, h1]
  · rw [view_apply, if_neg]
    rintro ⟨rfl, h | h | h⟩
    · exact hp h
    · rw [hr] at h; cases h
    · exact hne h

theorem view_apply_priv (m : MFS) (i j : Nat) (e : Ev) {p : Path} (hp : p ≠ e.path) : (m.apply i e).view j p = m.view j p := by
  rw [view_apply, if_neg (fun h => hp h.1)]

theorem view_shared (m : MFS) (i j : Nat) {p : Path} (hp : p = .params ∨ isRefPath p = true) : m.view i p = m.view j p := by
  rcases hp with rfl | hp
  · simp [MFS.view]
  · by_cases h : p = .params
    · subst h; simp [MFS.view]
    · simp [MFS.view, h, hp]

theorem view_params (m : MFS) (i : Nat) : (m.view i).good .params = (m.params == some .good) := by
  simp [MFS.view, FS.good]

def MInv (all : List Exp) (m : MFS) : Prop := ∀ x ∈ all, J x.2.1 (m.view x.1)

def IdxNodup (all : List Exp) : Prop := (all.map (fun x => x.1)).Nodup

/-- `AllP` for the folders of several experiments (`MFS`); `MAllP_head/last/append/take`, `mApplyAll_append` below are the same
    five lemmas as `AllP_head/last/append/take`, `applyAll_append` of Lemmas/Resume.lean -/
def MAllP (P : MFS → Prop) : MFS → List MEv → Prop
  | m, [] => P m
  | m, (i, e) :: es => P m ∧ MAllP P (m.apply i e) es

theorem MAllP_head {P : MFS → Prop} {m : MFS} {es : List MEv} (h : MAllP P m es) : P m := by
  cases es with
  | nil => exact h
  | cons x es => exact h.1

theorem MAllP_last {P : MFS → Prop} {m : MFS} {es : List MEv} (h : MAllP P m es) : P (mApplyAll m es) := by
  induction es generalizing m with
  | nil => exact h
  | cons x es ih => obtain ⟨i, e⟩ := x; exact ih h.2

theorem MAllP_append {P : MFS → Prop} {m : MFS} {a b : List MEv} :
    MAllP P m (a ++ b) ↔ MAllP P m a ∧ MAllP P (mApplyAll m a) b := by
  induction a generalizing m with
  | nil => simp only [List.nil_append, mApplyAll, MAllP]; exact ⟨fun h => ⟨MAllP_head h, h⟩, fun h => h.2⟩
  | cons x a ih =>
    obtain ⟨i, e⟩ := x
    simp only [List.cons_append, MAllP, mApplyAll, ih]
    exact ⟨fun ⟨h1, h2, h3⟩ => ⟨⟨h1, h2⟩, h3⟩, fun ⟨⟨h1, h2⟩, h3⟩ => ⟨h1, h2, h3⟩⟩

theorem MAllP_take {P : MFS → Prop} {m : MFS} {es : List MEv} (h : MAllP P m es) (k : Nat) :
    P (mApplyAll m (es.take k)) := by
  induction es generalizing m k with
  | nil => simp only [List.take_nil, mApplyAll]; exact h
  | cons x es ih =>
    obtain ⟨i, e⟩ := x
    cases k with
    | zero => simpa [mApplyAll] using h.1
    | succ k => simpa [mApplyAll] using ih h.2 k

theorem mApplyAll_append (m : MFS) (a b : List MEv) : mApplyAll m (a ++ b) = mApplyAll (mApplyAll m a) b := by
  induction a generalizing m with
  | nil => rfl
  | cons x a ih => obtain ⟨i, e⟩ := x; simp [mApplyAll, ih]

theorem J_params {cfg : Cfg} {m : MFS} {i : Nat} (h : J cfg (m.view i)) : m.params = some .good := by
  have := h.1
  rw [view_params] at this
  simpa using this

/-- the events of ONE experiment `i`, none of them on a file of the reference stage, lifted to the invocation: `J` at every prefix
    on experiment `i`'s view gives `MInv all` at every prefix, and the other experiments' views do not move -/
theorem mall_exp {all : List Exp} {i : Nat} {cfg : Cfg} (hmem : ∀ x ∈ all, x.1 = i → x.2.1 = cfg)
    (es : List Ev) (hnr : ∀ e ∈ es, isRefPath e.path = false) {m : MFS} (hinv : MInv all m)
    (hJ : AllP (J cfg) (m.view i) es) :
    MAllP (MInv all) m (es.map (fun e => (i, e))) ∧
      (mApplyAll m (es.map (fun e => (i, e)))).view i = applyAll (m.view i) es ∧
      ∀ j, j ≠ i → (mApplyAll m (es.map (fun e => (i, e)))).view j = m.view j := by
  induction es generalizing m with
  | nil => exact ⟨hinv, rfl, fun _ _ => rfl⟩
  | cons e es ih =>
    have hJ' : AllP (J cfg) ((m.apply i e).view i) es := by rw [view_apply_self]; exact hJ.2
    have hp0 : m.params = some .good := J_params (AllP_head hJ)
    have hp1 : (m.apply i e).params = some .good := J_params (AllP_head hJ')
    have hre : isRefPath e.path = false := hnr e (by simp)
    have hinv' : MInv all (m.apply i e) := by
      intro x hx
      by_cases hxi : x.1 = i
      · rw [hxi, hmem x hx hxi]; exact AllP_head hJ'
      · rw [view_apply_other m e hxi hre hp0 hp1]; exact hinv x hx
    obtain ⟨a, b, c⟩ := ih (fun e' he' => hnr e' (by simp [he'])) hinv' hJ'
    refine ⟨⟨hinv, a⟩, ?_, ?_⟩
    · simp only [List.map_cons, mApplyAll, applyAll]; rw [b, view_apply_self]
    · intro j hj
      simp only [List.map_cons, mApplyAll]
      rw [c j hj, view_apply_other m e hj hre hp0 hp1]

/-- the events of the reference stage (all on shared files, seen by every experiment), lifted to the invocation -/
theorem mall_ref {all : List Exp} (es : List Ev) (hr : ∀ e ∈ es, isRefPath e.path = true) {m : MFS}
    (hJ : ∀ x ∈ all, AllP (J x.2.1) (m.view x.1) es) :
    MAllP (MInv all) m (es.map (fun e => (0, e))) ∧
      ∀ j, (mApplyAll m (es.map (fun e => (0, e)))).view j = applyAll (m.view j) es := by
  induction es generalizing m with
  | nil => exact ⟨fun x hx => hJ x hx, fun _ => rfl⟩
  | cons e es ih =>
    have hre := hr e (by simp)
    obtain ⟨a, b⟩ := ih (m := m.apply 0 e) (fun e' he' => hr e' (by simp [he']))
      (fun x hx => by rw [view_apply_ref m 0 x.1 e hre]; exact (hJ x hx).2)
    refine ⟨⟨fun x hx => AllP_head (hJ x hx), a⟩, fun j => ?_⟩
    simp only [List.map_cons, mApplyAll, applyAll]
    rw [b j, view_apply_ref m 0 j e hre]

theorem refEvents_congr {cfg cfg' : Cfg} {fs fs' : FS} (h1 : cfg.gzRef = cfg'.gzRef) (h2 : cfg.idx = cfg'.idx)
    (h3 : fs .refFai = fs' .refFai) : refEvents cfg fs = refEvents cfg' fs' := by
  simp only [refEvents, copyEvents, indexEvents, idxTrusted, FS.has, h1, h2, h3]
  rfl

/-- the experiments read one reference: the same two reference flags in every configuration -/
def SameRef (all : List Exp) : Prop := ∀ x ∈ all, ∀ y ∈ all, x.2.1.gzRef = y.2.1.gzRef ∧ x.2.1.idx = y.2.1.idx

theorem mwf_of_check {exps : List Exp}
    (h : (decide (exps.map (fun x => x.1)).Nodup
          && exps.all (fun x => wfCheck x.2.1 && !x.2.1.fromSaves && decide x.2.2.Nodup)
          && exps.all (fun x => exps.all fun y => x.2.1.gzRef == y.2.1.gzRef && x.2.1.idx == y.2.1.idx)) = true) :
    (exps.map (fun x => x.1)).Nodup ∧ (∀ x ∈ exps, WF x.2.1 ∧ x.2.1.fromSaves = false ∧ x.2.2.Nodup) ∧ SameRef exps := by
  simp only [Bool.and_eq_true, decide_eq_true_eq, List.all_eq_true, Bool.not_eq_true', beq_iff_eq] at h
  exact ⟨h.1.1, fun x hx => ⟨.of_check (h.1.2 x hx).1.1, (h.1.2 x hx).1.2, (h.1.2 x hx).2⟩, fun x hx y hy => h.2 x hx y hy⟩

theorem runRef_good {all : List Exp} (rs : Bool) (hsr : SameRef all) {m : MFS} (hinv : MInv all m) :
    (runRef fixed rs all m).ok = true ∧
      MAllP (MInv all) m ((runRef fixed rs all m).evs.map (fun e => (0, e))) ∧
      ∀ x ∈ all, refOK x.2.1 ((mApplyAll m ((runRef fixed rs all m).evs.map (fun e => (0, e)))).view x.1) = true := by
  cases all with
  | nil => exact ⟨rfl, hinv, fun x hx => by simp at hx⟩
  | cons x l =>
    obtain ⟨gx, ex, _, _⟩ := ref_stage rs (hinv x (by simp))
    have hev : (runRef fixed rs (x :: l) m).evs = refEvents x.2.1 (m.view x.1) := ex
    have hsame : ∀ y ∈ x :: l, refEvents y.2.1 (m.view y.1) = refEvents x.2.1 (m.view x.1) := fun y hy =>
      refEvents_congr (hsr y hy x (by simp)).1 (hsr y hy x (by simp)).2 (view_shared m y.1 x.1 (Or.inr rfl))
    have hpaths : ∀ e ∈ refEvents x.2.1 (m.view x.1), isRefPath e.path = true := by
      intro e he
      rw [isRefPath_eq]
      rw [← ex] at he
      exact (refStage_T fixed x.2.1 rs (m.view x.1)).run _ e he
    obtain ⟨a, b⟩ := mall_ref (all := x :: l) (refEvents x.2.1 (m.view x.1)) hpaths (m := m) (fun y hy => by
      obtain ⟨gy, ey, _, _⟩ := ref_stage rs (hinv y hy)
      rw [← hsame y hy, ← ey]; exact gy.2)
    rw [hev]
    refine ⟨gx.1, a, fun y hy => ?_⟩
    obtain ⟨_, ey, _, ry⟩ := ref_stage rs (hinv y hy)
    rw [b y.1, ← hsame y hy, ← ey, ← runActs_fs]; exact ry

/-- the loop over the experiments: one experiment is `rest_run` on its own view; `mall_exp` lifts its events (they are off the
    shared reference files: `restStages_noref`), and by the same frame `refOK` of every other experiment survives -/
theorem runExps_good {all : List Exp} (rs : Bool) (exps : List Exp)
    (hsub : ∀ x ∈ exps, x ∈ all) (hnd : (exps.map (fun x => x.1)).Nodup)
    (hwf : ∀ x ∈ all, WF x.2.1 ∧ x.2.1.fromSaves = false ∧ x.2.2.Nodup)
    (hcfg : ∀ x ∈ all, ∀ y ∈ all, x.1 = y.1 → x.2.1 = y.2.1)
    {m : MFS} (hinv : MInv all m) (href : ∀ x ∈ all, refOK x.2.1 (m.view x.1) = true) :
    (runExps fixed rs exps m).ok = true ∧ MAllP (MInv all) m (runExps fixed rs exps m).evs ∧
      (runExps fixed rs exps m).fs = mApplyAll m (runExps fixed rs exps m).evs ∧
      (∀ x ∈ exps, FinOK x.2.1 ((runExps fixed rs exps m).fs.view x.1)) ∧
      (∀ j, (∀ x ∈ exps, x.1 ≠ j) → (runExps fixed rs exps m).fs.view j = m.view j) := by
  induction exps generalizing m with
  | nil => exact ⟨rfl, hinv, rfl, fun x hx => by simp at hx, fun _ _ => rfl⟩
  | cons x exps ih =>
    obtain ⟨i, cfg, ord⟩ := x
    have hx := hsub (i, cfg, ord) (by simp)
    obtain ⟨wf, hm, hord⟩ := hwf _ hx
    simp only at wf hm hord
    have hJ : J cfg (m.view i) := hinv _ hx
    have hnd' := List.nodup_cons.mp hnd
    have hst : (stages fixed cfg ord rs (rs && (m.view i).has .lock)).drop 2 =
        restStages cfg ord rs ((rs && (m.view i).has .lock) || cfg.fromSaves) := by rw [stages_eq]; rfl
    obtain ⟨hg, hfin⟩ := rest_run wf ord hord rs (rs && (m.view i).has .lock) hJ
      ⟨by intro e; simp only [Bool.and_eq_true] at e; exact e.1, by intro e; simp only [Bool.and_eq_true] at e; exact e.2,
       by intro e _ e'; subst e'; simpa using e, by intro e; rw [hm] at e; exact absurd e (by simp),
       by intro e; rw [hm] at e; exact absurd e (by simp)⟩
      (href _ hx)
    have hnr := restStages_noref cfg ord rs ((rs && (m.view i).has .lock) || cfg.fromSaves) (m.view i)
    rw [← hst] at hg hfin hnr
    generalize hr : runStages ((stages fixed cfg ord rs (rs && (m.view i).has .lock)).drop 2) (m.view i) = r at hg hfin hnr
    obtain ⟨a, b, c⟩ := mall_exp (cfg := cfg) (fun y hy e => hcfg y hy _ hx e) r.evs
      (fun e he => by rw [isRefPath_eq]; exact hnr e he) hinv hg.2
    have hfs : r.fs = applyAll (m.view i) r.evs := by rw [← hr]; exact runStages_fs _ _
    have hinv' : MInv all (mApplyAll m (r.evs.map (fun e => (i, e)))) := MAllP_last a
    have href' : ∀ y ∈ all, refOK y.2.1 ((mApplyAll m (r.evs.map (fun e => (i, e)))).view y.1) = true := by
      intro y hy
      have hfr : ∀ p, isRefAux p = true → (mApplyAll m (r.evs.map (fun e => (i, e)))).view y.1 p = m.view y.1 p := by
        intro p hp
        have hp' : isRefPath p = true := by rw [isRefPath_eq]; exact hp
        rw [view_shared _ y.1 i (Or.inr hp'), b, view_shared m y.1 i (Or.inr hp')]
        exact frame isRefAux hnr hp
      rw [refOK_frame (hfr _ rfl) (hfr _ rfl)]; exact href y hy
    obtain ⟨ok2, all2, fs2, fin2, fr2⟩ := ih (fun y hy => hsub y (by simp [hy])) hnd'.2 hinv' href'
    simp only [runExps, hr, hg.1, if_true]
    refine ⟨ok2, ?_, ?_, ?_, ?_⟩
    · rw [MAllP_append]; exact ⟨a, all2⟩
    · rw [mApplyAll_append]; exact fs2
    · intro y hy
      simp only [List.mem_cons] at hy
      rcases hy with rfl | hy
      · simp only
        rw [fr2 i (fun z hz e => hnd'.1 (by simp only [List.mem_map]; exact ⟨z, hz, e⟩)), b, ← hfs]
        exact hfin
      · exact fin2 y hy
    · intro j hj
      rw [fr2 j (fun z hz => hj z (by simp [hz])), c j (fun e => hj (i, cfg, ord) (by simp) e.symm)]

end IsoVerif.Lemmas.Resume
