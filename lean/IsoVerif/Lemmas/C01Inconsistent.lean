/-
Helper lemmas about the inconsistent path (`matchInconsistent`): the type is `classify_assignment` of the events of the
selected isoforms, and those events are the comparator's events (input `cj`) plus elongation events, after polyA
verification; `path_of_dispatch`: the five ways `assign_to_isoform` answers.  Core Lean only.
-/
import IsoVerif.Lemmas.C01Consistent

namespace IsoVerif.Lemmas.C01
open IsoVerif.Gen IsoVerif.Model IsoVerif.Model.C01 IsoVerif.Lemmas

/-- the events recorded for isoform `I` on the inconsistent path: comparator events `ev0` (not the lone `undefined`),
    followed by the elongation events, passed through polyA verification -/
def SelectedEvents (g : Gene) (p : Params) (rp : ReadProf) (cj : Nat → Option (List Event))
    (Ie : IsoInfo × List Event) : Prop :=
  ∃ ev0 el, cj Ie.1.id = some ev0 ∧ isUndefinedOnly ev0 = false ∧ elongationEvents g p rp Ie.1 = some el ∧
    verifyReadEnds p rp Ie.1 (ev0 ++ el) = some Ie.2

theorem detectInconsistencies_spec (g : Gene) (p : Params) (rp : ReadProf) (cj : Nat → Option (List Event)) :
    ∀ (l : List IsoInfo) (rm : List (IsoInfo × List Event)), detectInconsistencies g p rp cj l = some rm →
      ∀ Ie ∈ rm, Ie.1 ∈ l ∧ SelectedEvents g p rp cj Ie := by
  intro l
  induction l with
  | nil => intro rm h; simp [detectInconsistencies] at h; subst h; simp
  | cons I t ih =>
    intro rm h
    simp only [detectInconsistencies] at h
    split at h
    · simp at h
    · rename_i ev hev
      split at h
      · intro Ie hIe
        obtain ⟨h1, h2⟩ := ih rm h Ie hIe
        exact ⟨List.mem_cons_of_mem _ h1, h2⟩
      · rename_i hund
        split at h
        · simp at h
        · rename_i el hel
          split at h
          · rename_i evs r hv hr
            simp at h; subst h
            intro Ie hIe
            rcases List.mem_cons.mp hIe with hIe | hIe
            · subst hIe
              exact ⟨by simp, ev, el, hev, by simpa using hund, hel, hv⟩
            · obtain ⟨h1, h2⟩ := ih r hr Ie hIe
              exact ⟨List.mem_cons_of_mem _ h1, h2⟩
          · simp at h

/-- `select_best_among_inconsistent` inverted: every candidate was scored by `penaltyOf`, the answer's penalty is the least
    score, and every isoform it answers is one of the scored ones -/
theorem selectBest_inv (p : Params) (rp : ReadProf) (rm best : List (IsoInfo × List Event)) (pen : Rat)
    (h : selectBestAmongInconsistent p rp rm = some (best, pen)) :
    ∃ scored, mapOpt (fun (Ie : IsoInfo × List Event) => (penaltyOf p Ie.2).map (fun s => (Ie, s))) rm = some scored ∧
      minRat (scored.map (·.2)) = some pen ∧ ∀ Ie ∈ best, ∃ s, (Ie, s) ∈ scored := by
  revert h
  fun_cases selectBestAmongInconsistent p rp rm <;> intro h
  case case1 | case2 | case3 => cases h
  case case4 scored hsc mn hmn _ _ keep _ =>
    cases h
    exact ⟨scored, hsc, hmn, fun Ie hIe => by
      obtain ⟨x, hx, rfl⟩ := List.mem_map.mp (List.mem_filter.mp hIe).1
      exact ⟨x.2, (List.mem_filter.mp hx).1⟩⟩
  case case5 scored hsc mn hmn _ _ =>
    obtain ⟨hb, rfl⟩ := Prod.mk.inj (Option.some.inj h)
    subst hb
    exact ⟨scored, hsc, hmn, fun Ie hIe => by
      obtain ⟨x, hx, rfl⟩ := List.mem_map.mp hIe
      exact ⟨x.2, (List.mem_filter.mp hx).1⟩⟩

theorem scored_mem {p : Params} {rm : List (IsoInfo × List Event)} {scored : List ((IsoInfo × List Event) × Rat)}
    (hsc : mapOpt (fun (Ie : IsoInfo × List Event) => (penaltyOf p Ie.2).map (fun s => (Ie, s))) rm = some scored)
    {y : (IsoInfo × List Event) × Rat} (hy : y ∈ scored) : y.1 ∈ rm ∧ penaltyOf p y.1.2 = some y.2 := by
  obtain ⟨x, hx, hxy⟩ := forall₂_mem_right (mapOpt_spec _ rm scored hsc) y hy
  obtain ⟨s, hs, rfl⟩ := Option.map_eq_some_iff.mp hxy
  exact ⟨hx, hs⟩

theorem selectBest_sub (p : Params) (rp : ReadProf) (rm best : List (IsoInfo × List Event)) (mn : Rat)
    (h : selectBestAmongInconsistent p rp rm = some (best, mn)) : ∀ Ie ∈ best, Ie ∈ rm := by
  obtain ⟨scored, hsc, _, hb⟩ := selectBest_inv p rp rm best mn h
  intro Ie hIe
  obtain ⟨s, hs⟩ := hb Ie hIe
  exact (scored_mem hsc hs).1

/-- `match_inconsistent`: either `noninformative`, or the type is `classify_assignment` of the event lists of a non-empty
    selection of isoforms, each carrying its `SelectedEvents` -/
theorem matchInconsistent_spec (g : Gene) (p : Params) (rp : ReadProf) (cj : Nat → Option (List Event)) (a : Assignment)
    (h : matchInconsistent g p rp cj = some a) :
    a.ty = .noninformative ∨
    ∃ best : List (IsoInfo × List Event), best ≠ [] ∧ a.ty = classifyAssignment (best.map (·.2)) ∧
      ∀ Ie ∈ best, Ie.1 ∈ g.isos ∧ SelectedEvents g p rp cj Ie := by
  have sel : ∀ {isos : List IsoInfo} {rm best pen}, detectInconsistencies g p rp cj
        (List.filter (fun I => isos.any fun C => decide (C.id = I.id)) g.isos) = some rm →
      selectBestAmongInconsistent p rp rm = some (best, pen) → ¬ best.isEmpty = true →
      best ≠ [] ∧ ∀ Ie ∈ best, Ie.1 ∈ g.isos ∧ SelectedEvents g p rp cj Ie := fun hrm hbest hne =>
    ⟨fun e => hne (by rw [e]; rfl), fun Ie hIe => by
      obtain ⟨h2, h3⟩ := detectInconsistencies_spec g p rp cj _ _ hrm Ie (selectBest_sub p rp _ _ _ hbest Ie hIe)
      exact ⟨(List.mem_filter.mp h2).1, h3⟩⟩
  revert h
  fun_cases matchInconsistent g p rp cj <;> intro h
  case case1 | case3 | case5 => cases h
  case case2 | case4 | case6 => cases h; exact Or.inl rfl
  case case8 hrm _ _ _ hbest hne _ _ _ => cases h; exact Or.inr ⟨_, (sel hrm hbest hne).1, rfl, (sel hrm hbest hne).2⟩
  case case7 hrm _ _ _ hbest hne _ _ | case9 hrm _ _ _ hbest hne _ _ _ =>
    obtain ⟨ms, _, rfl⟩ := Option.map_eq_some_iff.mp h
    exact Or.inr ⟨_, (sel hrm hbest hne).1, rfl, (sel hrm hbest hne).2⟩

theorem dispatch_ne_fallback (g : Gene) (rp : ReadProf) : dispatch g rp ≠ .fallback := by
  fun_cases dispatch g rp <;> exact Path.noConfusion

/-- the five ways `assign_to_isoform` produces an assignment: the path, the value of `dispatch`, and the function whose
    answer is reported (the two paths that call no matcher carry their own type) -/
theorem path_of_dispatch (g : Gene) (p : Params) (rp : ReadProf) (cj : Nat → Option (List Event)) (a : Assignment)
    (path : Path) (h : assignToIsoform g p rp cj = some (a, path)) :
    (path = .intergenic ∧ dispatch g rp = .intergenic ∧ a.ty = .intergenic) ∨
    (path = .noninformative ∧ dispatch g rp = .noninformative ∧ a.ty = .noninformative) ∨
    (path = .inconsistent ∧ dispatch g rp = .inconsistent ∧ matchInconsistent g p rp cj = some a) ∨
    (path = .consistent ∧ dispatch g rp = .consistent ∧ matchConsistent g p rp = some (some a)) ∨
    (path = .fallback ∧ dispatch g rp = .consistent ∧ matchConsistent g p rp = some none ∧
      matchInconsistent g p rp cj = some a) := by
  have hc : ∀ {P : Prop}, (dispatch g rp = .intergenic → False) → (dispatch g rp = .noninformative → False) →
      (dispatch g rp = .inconsistent → False) → (dispatch g rp = .consistent → P) → P := fun h1 h2 h3 hP => by
    cases hd : dispatch g rp with
    | intergenic => exact (h1 hd).elim
    | noninformative => exact (h2 hd).elim
    | inconsistent => exact (h3 hd).elim
    | consistent => exact hP hd
    | fallback => exact (dispatch_ne_fallback g rp hd).elim
  revert h
  fun_cases assignToIsoform g p rp cj <;> intro h
  case case1 hd => cases h; exact .inl ⟨rfl, hd, rfl⟩
  case case2 hd =>
    obtain ⟨a', ha, he⟩ := Option.map_eq_some_iff.mp h
    cases he
    refine .inr (.inl ⟨rfl, hd, ?_⟩)
    unfold noninformativeAssignment at ha
    split at ha <;> cases ha
    rfl
  case case3 hd =>
    obtain ⟨a', ha, he⟩ := Option.map_eq_some_iff.mp h
    cases he; exact .inr (.inr (.inl ⟨rfl, hd, ha⟩))
  case case4 => cases h
  case case5 a' hmc h1 h2 h3 => cases h; exact hc h1 h2 h3 fun hd => .inr (.inr (.inr (.inl ⟨rfl, hd, hmc⟩)))
  case case6 hmc h1 h2 h3 =>
    obtain ⟨a', ha, he⟩ := Option.map_eq_some_iff.mp h
    cases he; exact hc h1 h2 h3 fun hd => .inr (.inr (.inr (.inr ⟨rfl, hd, hmc, ha⟩)))

theorem path_of_consistent {g : Gene} {p : Params} {rp : ReadProf} {cj : Nat → Option (List Event)} {a : Assignment}
    {path : Path} (hd : dispatch g rp = .consistent) (h : assignToIsoform g p rp cj = some (a, path)) :
    (path = .consistent ∧ matchConsistent g p rp = some (some a)) ∨
    (path = .fallback ∧ matchConsistent g p rp = some none ∧ matchInconsistent g p rp cj = some a) := by
  rcases path_of_dispatch g p rp cj a path h with ⟨_, hd', _⟩ | ⟨_, hd', _⟩ | ⟨_, hd', _⟩ | ⟨hp, _, hm⟩ | ⟨hp, _, hm⟩
  · rw [hd] at hd'; cases hd'
  · rw [hd] at hd'; cases hd'
  · rw [hd] at hd'; cases hd'
  · exact .inl ⟨hp, hm⟩
  · exact .inr ⟨hp, hm⟩

end IsoVerif.Lemmas.C01
