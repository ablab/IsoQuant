/-
Facts about the run-time helpers of `Gen/LoopsRt.lean` (`pyIdx`, `pyRange`, …), shared by the refinement
proofs of C19 (`Lemmas/GenLoops.lean`) and C16 (`Lemmas/GenCigar.lean`).
-/
import IsoVerif.Gen.LoopsRt
import IsoVerif.Lemmas.Interval

namespace IsoVerif.Lemmas.GenLoops
open IsoVerif.Gen IsoVerif.Model IsoVerif.Lemmas

@[simp] theorem pyIdx_natCast {α} (l : List α) (k : Nat) : pyIdx l (k : Int) = l[k]? := by
  simp [pyIdx]

@[simp] theorem pyIdx_zero {α} (l : List α) : pyIdx l 0 = l.head? := by
  simp [pyIdx, List.head?_eq_getElem?]

theorem pyIdx_neg_one {α} (l : List α) : pyIdx l (-1) = l.getLast? := by
  cases l with
  | nil => simp [pyIdx]
  | cons a t =>
    have h : ((((a :: t).length : Nat) : Int) + -1).toNat = t.length := by
      simp only [List.length_cons]; omega
    simp only [pyIdx]
    rw [if_neg (by omega), if_pos (by simp only [List.length_cons]; omega), h, List.getLast?_eq_getElem?]
    simp

theorem pyIdx_eq_pyGet {α} (l : List α) (i : Int) : pyIdx l i = pyGet? l i := rfl

theorem pyRangeN_succ (a : Int) (n : Nat) : pyRangeN a (n + 1) = a :: pyRangeN (a + 1) n := rfl

/-- An index variable `k` of a generated `while k < len(l)` loop, read as the rest `l.drop k` of the list: either the
    rest is empty and the loop condition fails, or it has a head, which `l[k]` reads, and `k + 1` stands for its tail. -/
theorem cursor_cases {α} (l : List α) (k : Nat) :
    (l.drop k = [] ∧ ¬ (k : Int) < pyLen l) ∨
      ∃ x, l.drop k = x :: l.drop (k + 1) ∧ pyIdx l (k : Int) = some x ∧ (k : Int) < pyLen l ∧
        (k : Int) + 1 = ((k + 1 : Nat) : Int) := by
  by_cases h : k < l.length
  · exact .inr ⟨l[k], List.drop_eq_getElem_cons h, by simp [h], by simp only [pyLen]; omega, rfl⟩
  · exact .inl ⟨List.drop_eq_nil_of_le (by omega), by simp only [pyLen]; omega⟩

theorem take_succ_reverse {α} (l : List α) (k : Nat) (h : k < l.length) :
    (l.take (k + 1)).reverse = l[k] :: (l.take k).reverse := by
  rw [List.take_succ_eq_append_getElem h]; simp

end IsoVerif.Lemmas.GenLoops
