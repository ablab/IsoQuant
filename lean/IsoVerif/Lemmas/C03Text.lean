/-
Helper lemmas for the text level of C03 (Model/GtfText.lean): the generated format literals as segments
(`*_fmt_segs`, `pyFormat_of_segs`), the attribute-column reader (`ReadsAs`), tab splitting, the nine columns of a line
(`lineCols`, `renderLine_eq`), and the form in which closed calls are evaluated (`textLines`, texts compared as character
lists).
-/
import IsoVerif.Model.GtfText
import IsoVerif.Lemmas.Ids

namespace IsoVerif.Lemmas.C03T
open IsoVerif.Gen IsoVerif.Model.C17 IsoVerif.Model.C03T IsoVerif.Lemmas.C17

/-- To the kernel a string literal is `String.ofList` of its characters; evaluating `String.toList` on it instead
    costs far more than the parse that follows (Lemmas/StringLit.lean). -/
theorem parseFmt_lit {l : List Char} {segs : Option (List Seg)} (h : parseFmt l [] = segs) :
    parseFmt (String.ofList l).toList [] = segs := by
  rwa [String.toList_ofList]

def q : Str := ['"']

theorem gene_fmt_segs : parseFmt gtf_gene_fmt.toList [] = some
    [Seg.str, Seg.lit ['\t'], Seg.str, Seg.lit ['\t', 'g', 'e', 'n', 'e', '\t'], Seg.int, Seg.lit ['\t'], Seg.int,
     Seg.lit ['\t', '.', '\t'], Seg.str, Seg.lit ['\t', '.', '\t', 'g', 'e', 'n', 'e', '_', 'i', 'd', ' ', '"'], Seg.str, Seg.lit ['"', ';', ' ', 't', 'r', 'a', 'n', 's', 'c', 'r', 'i', 'p', 't', 's', ' ', '"'],
     Seg.int, Seg.lit ['"', ';', ' '], Seg.str, Seg.lit ['\n']] := parseFmt_lit (by decide +kernel)

theorem transcript_fmt_segs : parseFmt gtf_transcript_fmt.toList [] = some
    [Seg.str, Seg.lit ['\t'], Seg.str, Seg.lit ['\t', 't', 'r', 'a', 'n', 's', 'c', 'r', 'i', 'p', 't', '\t'], Seg.int, Seg.lit ['\t'], Seg.int,
     Seg.lit ['\t', '.', '\t'], Seg.str, Seg.lit ['\t', '.', '\t', 'g', 'e', 'n', 'e', '_', 'i', 'd', ' ', '"'], Seg.str, Seg.lit ['"', ';', ' ', 't', 'r', 'a', 'n', 's', 'c', 'r', 'i', 'p', 't', '_', 'i', 'd', ' ', '"'],
     Seg.str, Seg.lit ['"', ';', ' '], Seg.str, Seg.lit ['\n']] := parseFmt_lit (by decide +kernel)

theorem prefix_fmt_segs : parseFmt gtf_prefix_fmt.toList [] = some
    [Seg.str, Seg.lit ['\t'], Seg.str, Seg.lit ['\t']] := parseFmt_lit (by decide +kernel)

theorem coord_fmt_segs : parseFmt gtf_feature_coord_fmt.toList [] = some
    [Seg.str, Seg.lit ['\t'], Seg.int, Seg.lit ['\t'], Seg.int, Seg.lit ['\t']] := parseFmt_lit (by decide +kernel)

theorem suffix_fmt_segs : parseFmt gtf_suffix_fmt.toList [] = some
    [Seg.lit ['.', '\t'], Seg.str, Seg.lit ['\t', '.', '\t', 'g', 'e', 'n', 'e', '_', 'i', 'd', ' ', '"'], Seg.str, Seg.lit ['"', ';', ' ', 't', 'r', 'a', 'n', 's', 'c', 'r', 'i', 'p', 't', '_', 'i', 'd', ' ', '"'],
     Seg.str, Seg.lit ['"', ';']] := parseFmt_lit (by decide +kernel)

theorem feature_attr_fmt_segs : parseFmt gtf_feature_attr_fmt.toList [] = some
    [Seg.lit [' ', 'e', 'x', 'o', 'n', '_', 'n', 'u', 'm', 'b', 'e', 'r', ' ', '"'], Seg.int, Seg.lit ['"', ';', ' ', 'e', 'x', 'o', 'n', '_', 'i', 'd', ' ', '"'], Seg.str, Seg.lit ['"', ';', ' '], Seg.str,
     Seg.lit ['\n']] := parseFmt_lit (by decide +kernel)

theorem exon_key_fmt_segs : parseFmt gtf_exon_key_fmt.toList [] = some
    [Seg.lit ['_'], Seg.int, Seg.lit ['_'], Seg.int, Seg.lit ['_'], Seg.str] := parseFmt_lit (by decide +kernel)

theorem gi_exon_key_fmt_segs : parseFmt gi_exon_key_fmt.toList [] = some
    [Seg.lit ['_'], Seg.int, Seg.lit ['_'], Seg.int, Seg.lit ['_'], Seg.str] := parseFmt_lit (by decide +kernel)

theorem tm_attr_fmt_segs : parseFmt tm_attr_fmt.toList [] = some
    [Seg.str, Seg.lit [' ', '"'], Seg.str, Seg.lit ['"', ';']] := parseFmt_lit (by decide +kernel)

theorem gi_gene_attr_fmt_segs : parseFmt gi_gene_attr_fmt.toList [] = some
    [Seg.str, Seg.lit [' ', '"'], Seg.str, Seg.lit ['"', ';', ' ']] := parseFmt_lit (by decide +kernel)
theorem gi_transcript_attr_fmt_segs : parseFmt gi_transcript_attr_fmt.toList [] = some
    [Seg.str, Seg.lit [' ', '"'], Seg.str, Seg.lit ['"', ';', ' ']] := parseFmt_lit (by decide +kernel)
theorem gi_exon_attr_fmt_segs : parseFmt gi_exon_attr_fmt.toList [] = some
    [Seg.str, Seg.lit [' ', '"'], Seg.str, Seg.lit ['"', ';', ' ']] := parseFmt_lit (by decide +kernel)

/-- `simp`/`unfold` of `pyFormat` followed by one of the segment lemmas leaves a term on which the kernel evaluates
    `String.toList` of the literal after all; rewriting through this lemma does not. -/
theorem pyFormat_of_segs {fmt : String} {segs : List Seg} (h : parseFmt fmt.toList [] = some segs) (args : List FArg) :
    pyFormat fmt args = applyFmt segs args := by
  rw [pyFormat, h]

/-- one rendered attribute `key "value";` -/
def item (k v : Str) : Str := k ++ ' ' :: '"' :: (v ++ ['"', ';'])

theorem tm_attr_format (k v : Str) : pyFormat tm_attr_fmt [FArg.s k, FArg.s v] = some (item k v) := by
  simp [pyFormat_of_segs tm_attr_fmt_segs, applyFmt, item]

theorem gi_gene_attr_format (k v : Str) : pyFormat gi_gene_attr_fmt [FArg.s k, FArg.s v] = some (item k v ++ [' ']) := by
  simp [pyFormat_of_segs gi_gene_attr_fmt_segs, applyFmt, item]
theorem gi_transcript_attr_format (k v : Str) :
    pyFormat gi_transcript_attr_fmt [FArg.s k, FArg.s v] = some (item k v ++ [' ']) := by
  simp [pyFormat_of_segs gi_transcript_attr_fmt_segs, applyFmt, item]
theorem gi_exon_attr_format (k v : Str) : pyFormat gi_exon_attr_fmt [FArg.s k, FArg.s v] = some (item k v ++ [' ']) := by
  simp [pyFormat_of_segs gi_exon_attr_fmt_segs, applyFmt, item]

theorem exon_key_format (s e : Int) (strand : Str) :
    pyFormat gtf_exon_key_fmt [FArg.d s, FArg.d e, FArg.s strand]
      = some ('_' :: (pyStrInt s ++ '_' :: (pyStrInt e ++ '_' :: strand))) := by
  simp [pyFormat_of_segs exon_key_fmt_segs, applyFmt]

theorem gi_exon_key_format (s e : Int) (strand : Str) :
    pyFormat gi_exon_key_fmt [FArg.d s, FArg.d e, FArg.s strand]
      = some ('_' :: (pyStrInt s ++ '_' :: (pyStrInt e ++ '_' :: strand))) := by
  simp [pyFormat_of_segs gi_exon_key_fmt_segs, applyFmt]

/-! ### `additional_attributes_str` -/

theorem additionalStr_eq (a : Attrs) :
    additionalStr a = some (pyJoin [' '] (a.map (fun kv => item kv.1 kv.2))) := by
  have hj : tm_attr_join.toList = [' '] := String.toList_ofList
  simp [additionalStr, hj, mapM_all_some _ _ _ (fun (kv : Str × Str) _ => tm_attr_format kv.1 kv.2)]

abbrev keyChar (c : Char) : Prop := c ≠ ' ' ∧ c ≠ '"'

def CleanKey (k : Str) : Prop := (∃ c r, k = c :: r ∧ c ≠ ';') ∧ ∀ c ∈ k, keyChar c

abbrev CleanVal (v : Str) : Prop := '"' ∉ v

def CleanAttrs (a : Attrs) : Prop := ∀ kv ∈ a, CleanKey kv.1 ∧ CleanVal kv.2

theorem go_key (acc : Attrs) (rest : Str) : ∀ (k' k : Str), (∀ c ∈ k', keyChar c) →
    parseAttrsGo (PS.key k) acc (k' ++ ' ' :: rest) = parseAttrsGo (PS.preq (k ++ k')) acc rest
  | [], k, _ => by simp [parseAttrsGo]
  | c :: cs, k, h => by
      have hc := h c (by simp)
      have := go_key acc rest cs (k ++ [c]) (fun x hx => h x (by simp [hx]))
      simp only [List.cons_append, parseAttrsGo, hc.1, hc.2, if_false]
      rw [this]; simp

theorem go_val (acc : Attrs) (rest k : Str) : ∀ (v' v : Str), '"' ∉ v' →
    parseAttrsGo (PS.val k v) acc (v' ++ '"' :: rest) = parseAttrsGo (PS.post k (v ++ v')) acc rest
  | [], v, _ => by simp [parseAttrsGo]
  | c :: cs, v, h => by
      have hc : c ≠ '"' := fun e => h (by simp [e])
      have := go_val acc rest k cs (v ++ [c]) (fun hx => h (by simp [hx]))
      simp only [List.cons_append, parseAttrsGo, hc, if_false]
      rw [this]; simp

theorem go_blanks (acc : Attrs) (rest : Str) : ∀ n : Nat,
    parseAttrsGo PS.start acc (List.replicate n ' ' ++ rest) = parseAttrsGo PS.start acc rest
  | 0 => by simp
  | n + 1 => by
      simp [List.replicate_succ, parseAttrsGo, go_blanks acc rest n]

theorem go_item (acc : Attrs) (rest k v : Str) (hk : CleanKey k) (hv : CleanVal v) :
    parseAttrsGo PS.start acc (item k v ++ rest) = parseAttrsGo PS.start ((k, v) :: acc) rest := by
  obtain ⟨⟨c, r, rfl, hsemi⟩, hall⟩ := hk
  have hc := hall c (by simp)
  have hr : ∀ x ∈ r, keyChar x := fun x hx => hall x (by simp [hx])
  have h1 : item (c :: r) v ++ rest = c :: (r ++ ' ' :: ('"' :: (v ++ '"' :: (';' :: rest)))) := by
    simp [item]
  rw [h1]
  simp only [parseAttrsGo, hc.1, hc.2, hsemi, if_false, or_self]
  rw [go_key acc _ r [c] hr]
  simp only [parseAttrsGo, if_true]
  rw [go_val ((acc)) _ _ v [] hv]
  simp [parseAttrsGo]

def ReadsAs (t : Str) (ps : Attrs) : Prop := ∀ acc, parseAttrsGo PS.start acc t = some (acc.reverse ++ ps)

theorem readsAs_nil : ReadsAs [] [] := by intro acc; simp [parseAttrsGo]

theorem readsAs_blank {t : Str} {ps : Attrs} (h : ReadsAs t ps) : ReadsAs (' ' :: t) ps := by
  intro acc
  have := go_blanks acc t 1
  simp only [List.replicate_one, List.singleton_append] at this
  rw [this]; exact h acc

theorem readsAs_item {t : Str} {ps : Attrs} {k v : Str} (hk : CleanKey k) (hv : CleanVal v) (h : ReadsAs t ps) :
    ReadsAs (item k v ++ t) ((k, v) :: ps) := by
  intro acc
  rw [go_item acc t k v hk hv, h]
  simp

theorem readsAs_append_blank {t : Str} {ps : Attrs} {k v : Str} (hk : CleanKey k) (hv : CleanVal v) (h : ReadsAs t ps) :
    ReadsAs (item k v ++ ' ' :: t) ((k, v) :: ps) := readsAs_item hk hv (readsAs_blank h)

theorem readsAs_parse {t : Str} {ps : Attrs} (h : ReadsAs t ps) : parseAttrs t = some ps := by
  simpa [parseAttrs] using h []

/-- the text `set_gene_attributes` assembles from pairs: `key "value"; ` each -/
def giText (ps : Attrs) : Str := ps.flatMap (fun kv => item kv.1 kv.2 ++ [' '])

theorem readsAs_giText_append : ∀ (ps : Attrs) {t : Str} {qs : Attrs}, CleanAttrs ps → ReadsAs t qs →
    ReadsAs (giText ps ++ t) (ps ++ qs)
  | [], _, _, _, h => by simpa [giText] using h
  | (k, v) :: r, t, qs, hc, h => by
      have h1 := hc (k, v) (by simp)
      have ih := readsAs_giText_append r (fun kv hkv => hc kv (by simp [hkv])) h
      have : giText ((k, v) :: r) ++ t = item k v ++ ' ' :: (giText r ++ t) := by simp [giText]
      rw [this]
      exact readsAs_append_blank h1.1 h1.2 ih

theorem readsAs_giText (ps : Attrs) (hc : CleanAttrs ps) : ReadsAs (giText ps) ps := by
  simpa using readsAs_giText_append ps hc readsAs_nil

theorem readsAs_join : ∀ (ps : Attrs) {t : Str} {qs : Attrs}, CleanAttrs ps → ReadsAs t qs →
    ReadsAs (pyJoin [' '] (ps.map (fun kv => item kv.1 kv.2)) ++ t) (ps ++ qs)
  | [], _, _, _, h => by simpa [pyJoin] using h
  | [(k, v)], t, qs, hc, h => by
      have h1 := hc (k, v) (by simp)
      simpa [pyJoin] using readsAs_item h1.1 h1.2 h
  | (k, v) :: kv2 :: r, t, qs, hc, h => by
      have h1 := hc (k, v) (by simp)
      have ih := readsAs_join (kv2 :: r) (fun kv hkv => hc kv (by simp at hkv ⊢; exact Or.inr hkv)) h
      have : pyJoin [' '] (((k, v) :: kv2 :: r).map (fun kv => item kv.1 kv.2)) ++ t
          = item k v ++ ' ' :: (pyJoin [' '] ((kv2 :: r).map (fun kv => item kv.1 kv.2)) ++ t) := by
        simp [pyJoin]
      rw [this]
      exact readsAs_append_blank h1.1 h1.2 ih

theorem pySplitGo_cons (sep : Char) : ∀ (a cur b : Str), sep ∉ a →
    pySplitGo sep cur (a ++ sep :: b) = (cur ++ a) :: pySplitGo sep [] b
  | [], cur, b, _ => by simp [pySplitGo]
  | c :: cs, cur, b, h => by
      have hc : c ≠ sep := fun e => h (by simp [e])
      have := pySplitGo_cons sep cs (cur ++ [c]) b (fun hx => h (by simp [hx]))
      simp only [List.cons_append, pySplitGo, hc, if_false]
      rw [this]; simp

theorem pySplit_cons (sep : Char) (a b : Str) (h : sep ∉ a) : pySplit sep (a ++ sep :: b) = a :: pySplit sep b := by
  simpa [pySplit] using pySplitGo_cons sep a [] b h

theorem pySplit_no_sep (sep : Char) (a : Str) (h : sep ∉ a) : pySplit sep a = [a] := by
  simpa [pySplit] using pySplitGo_no_sep sep a [] h

theorem tab_not_mem_pyStrNat (n : Nat) : '\t' ∉ pyStrNat n := not_digit_not_mem (by decide) n

theorem tab_not_mem_pyStrInt (n : Int) : '\t' ∉ pyStrInt n := by
  unfold pyStrInt
  split
  · simp only [List.mem_cons, not_or]; exact ⟨by decide, tab_not_mem_pyStrNat _⟩
  · exact tab_not_mem_pyStrNat _

theorem quote_not_mem_pyStrNat (n : Nat) : '"' ∉ pyStrNat n := not_digit_not_mem (by decide) n

abbrev NoTab (s : Str) : Prop := '\t' ∉ s

theorem pySplit_join_tabs : ∀ (cols : List Str), cols ≠ [] → (∀ c ∈ cols, NoTab c) →
    pySplit '\t' (pyJoin ['\t'] cols) = cols
  | [], h, _ => absurd rfl h
  | [x], _, hc => by simpa [pyJoin] using pySplit_no_sep '\t' x (hc x (by simp))
  | x :: y :: r, _, hc => by
      have ih := pySplit_join_tabs (y :: r) (by simp) (fun c h => hc c (by simp at h ⊢; exact Or.inr h))
      have : pyJoin ['\t'] (x :: y :: r) = x ++ '\t' :: pyJoin ['\t'] (y :: r) := by simp [pyJoin]
      rw [this, pySplit_cons '\t' _ _ (hc x (by simp)), ih]

def kGeneId : Str := ['g', 'e', 'n', 'e', '_', 'i', 'd']
def kTranscripts : Str := ['t', 'r', 'a', 'n', 's', 'c', 'r', 'i', 'p', 't', 's']
def kTranscriptId : Str := ['t', 'r', 'a', 'n', 's', 'c', 'r', 'i', 'p', 't', '_', 'i', 'd']
def kExonNumber : Str := ['e', 'x', 'o', 'n', '_', 'n', 'u', 'm', 'b', 'e', 'r']
def kExonId : Str := ['e', 'x', 'o', 'n', '_', 'i', 'd']
def wGene : Str := ['g', 'e', 'n', 'e']
def wTranscript : Str := ['t', 'r', 'a', 'n', 's', 'c', 'r', 'i', 'p', 't']

theorem cleanKey_cons {c : Char} {r : Str} (h : c ≠ ';' ∧ ∀ x ∈ c :: r, keyChar x) : CleanKey (c :: r) :=
  ⟨⟨c, r, rfl, h.1⟩, h.2⟩

theorem cleanKey_geneId : CleanKey kGeneId := cleanKey_cons (by decide)
theorem cleanKey_transcripts : CleanKey kTranscripts := cleanKey_cons (by decide)
theorem cleanKey_transcriptId : CleanKey kTranscriptId := cleanKey_cons (by decide)
theorem cleanKey_exonNumber : CleanKey kExonNumber := cleanKey_cons (by decide)
theorem cleanKey_exonId : CleanKey kExonId := cleanKey_cons (by decide)

theorem pyStrInt_ofNat (n : Nat) : pyStrInt (n : Int) = pyStrNat n := by
  simp [pyStrInt]

theorem noTab_item {k v : Str} (hk : NoTab k) (hv : NoTab v) : NoTab (item k v) := by
  simp only [NoTab, item, List.mem_append, List.mem_cons, not_or] at *
  refine ⟨hk, by decide, by decide, hv, by decide, by decide, ?_⟩
  simp

/-- the nine columns of a line; `none` = a feature line without id -/
def lineCols : OutT → Option (List Str)
  | (.gene chr source s e strand gid ntx extra, _) => some
      [chr, source, wGene, pyStrInt s, pyStrInt e, ['.'], strand, ['.'],
       item kGeneId gid ++ ' ' :: (item kTranscripts (pyStrNat ntx) ++ ' ' :: extra)]
  | (.transcript chr source s e strand gid tid additional extra, _) => some
      [chr, source, wTranscript, pyStrInt s, pyStrInt e, ['.'], strand, ['.'],
       item kGeneId gid ++ ' ' :: (item kTranscriptId tid ++ ' ' ::
         (pyJoin [' '] (additional.map (fun kv => item kv.1 kv.2)) ++ extra))]
  | (.feature chr source ftype s e strand gid tid num extra, some eid) => some
      [chr, source, ftype, pyStrInt s, pyStrInt e, ['.'], strand, ['.'],
       item kGeneId gid ++ ' ' :: (item kTranscriptId tid ++ ' ' :: (item kExonNumber (pyStrNat num) ++ ' ' ::
         (item kExonId eid ++ ' ' :: extra)))]
  | (.feature .., none) => none

/-- The line formats write the columns of `lineCols` joined by tabs.  A function equation, because `dumpText` uses
    `renderLine` unapplied (under `mapM`). -/
theorem renderLine_eq : renderLine = fun o => (lineCols o).map (pyJoin ['\t'] · ++ ['\n']) := by
  funext ⟨l, id⟩
  cases l with
  | feature chr source ftype s e strand gid tid num extra =>
    cases id with
    | none => rfl
    | some eid =>
      -- `rw`, not `simp`, on the four formats inside the `match` (see `pyFormat_of_segs`)
      rw [renderLine, pyFormat_of_segs prefix_fmt_segs, pyFormat_of_segs coord_fmt_segs, pyFormat_of_segs suffix_fmt_segs,
        pyFormat_of_segs feature_attr_fmt_segs]
      simp only [lineCols, applyFmt, Option.map_some, pyJoin, item, kGeneId, kTranscriptId, kExonNumber, kExonId,
        pyStrInt_ofNat, Int.ofNat_eq_natCast, List.append_assoc, List.cons_append, List.nil_append]
  | _ =>
    simp only [renderLine, lineCols, additionalStr_eq, pyFormat_of_segs gene_fmt_segs, pyFormat_of_segs transcript_fmt_segs,
      applyFmt, Option.map_some, pyJoin, item, kGeneId, kTranscripts, kTranscriptId, wGene, wTranscript, pyStrInt_ofNat,
      Int.ofNat_eq_natCast, List.append_assoc, List.cons_append, List.nil_append]

/-- the text of a call, with the lines taken from `lineCols`.  A closed call is evaluated in this form: rewriting
    `renderLine_eq` inside a closed `dumpText` costs more than the evaluation itself. -/
def textLines (st : FeatureIdStorage) (printed : List Str) (gi : GInfo) (models : List AModel) : Option (List Str) :=
  (dumpLines st printed gi models).bind fun r => r.1.mapM fun o => (lineCols o).map (pyJoin ['\t'] · ++ ['\n'])

theorem dumpText_fst (st : FeatureIdStorage) (printed : List Str) (gi : GInfo) (models : List AModel) :
    (dumpText st printed gi models).map (·.1) = textLines st printed gi models := by
  unfold dumpText textLines
  rw [renderLine_eq]
  cases dumpLines st printed gi models with
  | none => rfl
  | some r =>
    obtain ⟨out, p, s⟩ := r
    simp only [Option.bind_some]
    split <;> simp_all

/-! ### texts as character lists

`String.ofList` and equality of `String`s are slow to evaluate; the texts of closed calls are compared before the lines
are turned into `String`s (a string literal unifies with `String.ofList` of its characters). -/

theorem map_ofList_eq {o : Option (List Str)} {ls : List Str} (h : o = some ls) :
    o.map (List.map String.ofList) = some (ls.map String.ofList) := by
  subst h; rfl

theorem map_ofList_injective : Function.Injective (Option.map (List.map String.ofList)) :=
  Option.map_injective fun _ _ => (List.map_inj_right fun _ _ => String.ofList_injective).1

end IsoVerif.Lemmas.C03T
