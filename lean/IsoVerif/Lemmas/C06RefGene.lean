/-
Lemmas for C06: `select_reference_gene` — an insertion-ordered count dict filled from set iterations, consumed by a
sort whose key is a total order on the items.
-/
import IsoVerif.Model.Schedule
import IsoVerif.Lemmas.AssocList

namespace IsoVerif.Lemmas.C06
open IsoVerif.Model.C06

/-- the count dict is the insertion-ordered update `d[g] = d.get(g, 0) + 1` -/
theorem bumpCount_eq_upsert (d : List (String × Nat)) (g : String) : bumpCount d g = upsert (· + 1) 1 d g := by
  fun_induction bumpCount d g <;> simp_all [upsert]

theorem lookup_bumpCount (g k : String) (d : List (String × Nat)) :
    (bumpCount d g).lookup k = if k = g then some ((d.lookup g).getD 0 + 1) else d.lookup k := by
  rw [bumpCount_eq_upsert, lookup_upsert]
  by_cases h : k = g
  · subst h; cases d.lookup k <;> simp
  · simp [h, Ne.symm h]

theorem lookup_foldl_bumpCount (k : String) : ∀ (l : List String) (d : List (String × Nat)),
    (l.foldl bumpCount d).lookup k
      = if l.count k = 0 then d.lookup k else some ((d.lookup k).getD 0 + l.count k)
  | [], d => by simp
  | g :: gs, d => by
    rw [List.foldl_cons, lookup_foldl_bumpCount k gs (bumpCount d g), lookup_bumpCount]
    by_cases h : k = g
    · subst h
      simp only [if_true, List.count_cons_self, Option.getD_some]
      by_cases h0 : gs.count k = 0
      · simp [h0]
      · simp [h0]; omega
    · have hgk : g ≠ k := fun e => h e.symm
      simp only [h, if_false, List.count_cons_of_ne hgk]

theorem nodup_keys_foldl : ∀ (l : List String) (d : List (String × Nat)), (d.map Prod.fst).Nodup →
    ((l.foldl bumpCount d).map Prod.fst).Nodup
  | [], _, h => h
  | g :: gs, d, h => nodup_keys_foldl gs _ (bumpCount_eq_upsert d g ▸ nodup_keys_upsert _ _ h g)

theorem geneCounts_perm {iter iter' : List (List String)} (h : iter.flatten.Perm iter'.flatten) :
    (geneCounts iter).Perm (geneCounts iter') := by
  unfold geneCounts
  have n1 := nodup_keys_foldl iter.flatten [] List.nodup_nil
  have n2 := nodup_keys_foldl iter'.flatten [] List.nodup_nil
  rw [List.perm_ext_iff_of_nodup (nodup_of_nodup_keys _ n1) (nodup_of_nodup_keys _ n2)]
  rintro ⟨k, v⟩
  rw [← lookup_iff_mem_of_nodup n1, ← lookup_iff_mem_of_nodup n2, lookup_foldl_bumpCount, lookup_foldl_bumpCount,
    h.count_eq k]

theorem refGeneBefore_total (a b : String × Nat) : refGeneBefore a b = true ∨ refGeneBefore b a = true := by
  unfold refGeneBefore
  rcases Nat.lt_trichotomy a.2 b.2 with h | h | h
  · right; simp [h]
  · rcases String.le_total a.1 b.1 with h' | h'
    · right; simp [h, h']
    · left; simp [h, h']
  · left; simp [h]

theorem refGeneBefore_cases (a b : String × Nat) :
    refGeneBefore a b = true ↔ b.2 < a.2 ∨ (a.2 = b.2 ∧ b.1 ≤ a.1) := by
  simp [refGeneBefore]

theorem refGeneBefore_trans (a b c : String × Nat) (h1 : refGeneBefore a b = true) (h2 : refGeneBefore b c = true) :
    refGeneBefore a c = true := by
  rw [refGeneBefore_cases] at *
  rcases h1 with h1 | ⟨e1, l1⟩ <;> rcases h2 with h2 | ⟨e2, l2⟩
  · left; omega
  · left; omega
  · left; omega
  · right; exact ⟨by omega, String.le_trans l2 l1⟩

theorem refGeneBefore_antisymm (a b : String × Nat) (h1 : refGeneBefore a b = true) (h2 : refGeneBefore b a = true) :
    a = b := by
  rw [refGeneBefore_cases] at *
  rcases h1 with h1 | ⟨e1, l1⟩ <;> rcases h2 with h2 | ⟨e2, l2⟩
  · omega
  · omega
  · omega
  · exact Prod.ext (String.le_antisymm l2 l1) e1

end IsoVerif.Lemmas.C06
