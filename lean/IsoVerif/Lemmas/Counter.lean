/-
Helper lemmas for C02 (count tables): the association-list dictionary, set insertion, `dedup`, occurrence counts,
sums of rationals, `isort` as an instance of Lemmas/InsertionSort.lean.  Core Lean only.
-/
import IsoVerif.Model.Counter
import IsoVerif.Model.CounterSpec
import IsoVerif.Lemmas.InsertionSort

namespace IsoVerif.Lemmas.C02
open IsoVerif.Gen IsoVerif.Model.C02

variable {F : Type} [DecidableEq F]

@[simp] theorem ratSum_nil : ratSum [] = 0 := rfl
@[simp] theorem ratSum_cons (x : Rat) (xs : List Rat) : ratSum (x :: xs) = x + ratSum xs := rfl

theorem ratSum_append (a b : List Rat) : ratSum (a ++ b) = ratSum a + ratSum b := by
  induction a with
  | nil => simp [Rat.zero_add]
  | cons x xs ih => simp [ih]; grind

theorem ratSum_map_add {α} (l : List α) (g h : α → Rat) :
    ratSum (l.map (fun x => g x + h x)) = ratSum (l.map g) + ratSum (l.map h) := by
  induction l with
  | nil => simp [Rat.zero_add]
  | cons x xs ih => simp [ih]; grind

theorem ratSum_map_mul_left {α} (l : List α) (c : Rat) (g : α → Rat) :
    ratSum (l.map (fun x => c * g x)) = c * ratSum (l.map g) := by
  induction l with
  | nil => simp
  | cons x xs ih => simp [ih]; grind

theorem ratSum_map_mul_right {α} (l : List α) (c : Rat) (g : α → Rat) :
    ratSum (l.map (fun x => g x * c)) = ratSum (l.map g) * c := by
  induction l with
  | nil => simp
  | cons x xs ih => simp [ih]; grind

theorem ratSum_nonneg (l : List Rat) (h : ∀ x ∈ l, 0 ≤ x) : 0 ≤ ratSum l := by
  induction l with
  | nil => simp
  | cons x xs ih =>
    have h1 := h x (by simp)
    have h2 := ih (fun y hy => h y (by simp [hy]))
    simp; grind

theorem ratSum_map_zero {α} (l : List α) (g : α → Rat) (h : ∀ x ∈ l, g x = 0) : ratSum (l.map g) = 0 := by
  induction l with
  | nil => simp
  | cons x xs ih =>
    have h1 := h x (by simp)
    have h2 := ih (fun y hy => h y (by simp [hy]))
    simp [h1, h2, Rat.zero_add]

theorem le_ratSum_of_mem {α} (l : List α) (g : α → Rat) (hg : ∀ x ∈ l, 0 ≤ g x) (a : α) (ha : a ∈ l) :
    g a ≤ ratSum (l.map g) := by
  induction l with
  | nil => simp at ha
  | cons x xs ih =>
    have hx := hg x (by simp)
    have hrest : 0 ≤ ratSum (xs.map g) :=
      ratSum_nonneg _ (by intro y hy; simp at hy; obtain ⟨z, hz, rfl⟩ := hy; exact hg z (by simp [hz]))
    simp at ha
    rcases ha with rfl | ha
    · simp; grind
    · have := ih (fun y hy => hg y (by simp [hy])) ha
      simp; grind

@[simp] theorem natSum_nil : natSum [] = 0 := rfl
@[simp] theorem natSum_cons (x : Nat) (xs : List Nat) : natSum (x :: xs) = x + natSum xs := rfl
theorem natSum_append (a b : List Nat) : natSum (a ++ b) = natSum a + natSum b := by
  induction a with
  | nil => simp
  | cons x xs ih => simp [ih]; omega

theorem get_inc (m : List (F × Rat)) (k k' : F) (v : Rat) :
    cget (inc m k v) k' = cget m k' + (if k = k' then v else 0) := by
  induction m with
  | nil => grind [inc, cget]
  | cons p rest ih => grind [inc, cget]

theorem cnt_nil (f : F) : cnt ([] : List F) f = 0 := by simp [cnt]
theorem cnt_cons (x : F) (xs : List F) (f : F) : cnt (x :: xs) f = (if x = f then 1 else 0) + cnt xs f := by
  simp only [cnt, List.count_cons]
  split
  · rename_i h; simp at h; subst h; simp [Rat.natCast_add]; grind
  · rename_i h; simp at h; simp [h, Rat.zero_add]

theorem get_incAll (fs : List F) (m : List (F × Rat)) (w : Rat) (f : F) :
    cget (incAll m fs w) f = cget m f + cnt fs f * w := by
  induction fs generalizing m with
  | nil => simp [incAll, cnt_nil, Rat.zero_mul, Rat.add_zero]
  | cons x xs ih =>
    have := ih (inc m x w)
    simp only [incAll, List.foldl_cons] at this ⊢
    rw [this, get_inc, cnt_cons]
    split <;> grind

theorem get_setZero (m : List (F × Rat)) (k k' : F) :
    cget (setZero m k) k' = if k = k' then 0 else cget m k' := by
  induction m with
  | nil => grind [setZero, cget]
  | cons p rest ih => grind [setZero, cget]

theorem get_zeroUnconfirmed (conf feats : List F) (m : List (F × Rat)) (f : F) :
    cget (zeroUnconfirmed conf feats m) f = if f ∈ feats ∧ f ∉ conf then 0 else cget m f := by
  induction feats generalizing m with
  | nil => simp [zeroUnconfirmed]
  | cons x xs ih =>
    simp only [zeroUnconfirmed, List.foldl_cons]
    have h := ih (if x ∈ conf then m else setZero m x)
    simp only [zeroUnconfirmed] at h
    rw [h]
    by_cases hx : x ∈ conf
    · simp only [hx, if_true]
      by_cases hf : f = x
      · subst hf; simp [hx]
      · simp [hf]
    · simp only [hx, if_false]
      by_cases hf : f = x
      · subst hf; simp [hx, get_setZero]
      · have hf' : ¬ x = f := fun h => hf h.symm
        simp [hf, get_setZero, hf']

theorem mem_setAdd (l : List F) (x y : F) : y ∈ setAdd l x ↔ y ∈ l ∨ y = x := by
  grind [setAdd]

theorem mem_addAll (fs l : List F) (y : F) : y ∈ addAll l fs ↔ y ∈ l ∨ y ∈ fs := by
  induction fs generalizing l with
  | nil => simp [addAll]
  | cons x xs ih =>
    have := ih (setAdd l x)
    simp only [addAll, List.foldl_cons] at this ⊢
    rw [this, mem_setAdd]; grind

theorem mem_dedup (l : List F) (x : F) : x ∈ dedup l ↔ x ∈ l := by
  induction l with
  | nil => simp [dedup]
  | cons y ys ih =>
    simp only [dedup, List.mem_cons, List.mem_filter, ih]
    by_cases h : x = y <;> simp [h]

theorem nodup_dedup (l : List F) : (dedup l).Nodup := by
  induction l with
  | nil => simp [dedup]
  | cons y ys ih =>
    simp only [dedup, List.nodup_cons, List.mem_filter]
    refine ⟨by simp, ?_⟩
    exact List.Nodup.sublist List.filter_sublist ih

theorem head_dedup (l : List F) : (dedup l).head? = l.head? := by
  cases l <;> simp [dedup]

theorem cnt_of_nodup (l : List F) (h : l.Nodup) (f : F) : cnt l f = if f ∈ l then 1 else 0 := by
  unfold cnt
  rw [h.count]
  split <;> simp

theorem cnt_dedup (ts : List F) (f : F) : cnt (dedup ts) f = if f ∈ ts then 1 else 0 := by
  rw [cnt_of_nodup (dedup ts) (nodup_dedup ts) f]
  simp [mem_dedup]

theorem cnt_pos_of_mem (ts : List F) (f : F) (h : f ∈ ts) : cnt ts f ≠ 0 := by
  unfold cnt
  have : 0 < ts.count f := List.count_pos_iff.mpr h
  intro h0
  have : ((ts.count f : Nat) : Rat) = ((0 : Nat) : Rat) := by simpa using h0
  have := Rat.natCast_inj.mp this
  omega

theorem cnt_zero_of_not_mem (ts : List F) (f : F) (h : f ∉ ts) : cnt ts f = 0 := by
  unfold cnt
  rw [List.count_eq_zero.mpr h]; rfl

theorem mem_of_cnt_ne_zero {fs : List F} {f : F} (h : cnt fs f ≠ 0) : f ∈ fs :=
  Classical.byContradiction fun hm => h (cnt_zero_of_not_mem fs f hm)

theorem one_div_nat_pos (k : Nat) (h : 0 < k) : (0 : Rat) < 1 / (k : Rat) := by
  rw [Rat.div_def, Rat.one_mul]
  exact Rat.inv_pos.mpr (Rat.natCast_pos.mpr h)

theorem one_div_nat_mul (k : Nat) (h : 0 < k) : (1 / (k : Rat)) * (k : Rat) = 1 := by
  have : (k : Rat) ≠ 0 := by
    have := Rat.natCast_pos.mpr h
    grind
  exact Rat.div_mul_cancel this

theorem one_div_nat_le_one (k : Nat) (h : 0 < k) : 1 / (k : Rat) ≤ 1 := by
  have h1 := one_div_nat_mul k h
  have h2 := one_div_nat_pos k h
  have h3 : (1 : Rat) ≤ (k : Rat) := by
    have : ((1:Nat) : Rat) ≤ (k : Rat) := Rat.natCast_le_natCast.mpr h
    simpa using this
  have : 1 / (k : Rat) * 1 ≤ 1 / (k : Rat) * (k : Rat) := Rat.mul_le_mul_of_nonneg_left h3 (Rat.le_of_lt h2)
  grind

theorem indicator_sum (L : List F) (hL : L.Nodup) (g : F) :
    ratSum (L.map (fun f => if g = f then (1 : Rat) else 0)) = if g ∈ L then 1 else 0 := by
  induction L with
  | nil => simp
  | cons x xs ih =>
    simp only [List.nodup_cons] at hL
    have := ih hL.2
    simp only [List.map_cons, ratSum_cons, this, List.mem_cons]
    by_cases hx : g = x
    · subst hx; simp [hL.1, Rat.add_zero]
    · by_cases hm : g ∈ xs <;> simp [hx, hm, Rat.zero_add]

theorem cnt_sum_le (L : List F) (hL : L.Nodup) (fs : List F) :
    ratSum (L.map (cnt fs)) ≤ (fs.length : Rat) := by
  induction fs with
  | nil =>
    have : ratSum (L.map (cnt ([] : List F))) = 0 := ratSum_map_zero _ _ (fun x _ => cnt_nil x)
    rw [this]; simp
  | cons g gs ih =>
    have h1 : L.map (cnt (g :: gs)) = L.map (fun f => (if g = f then (1:Rat) else 0) + cnt gs f) := by
      apply List.map_congr_left; intro f _; exact cnt_cons g gs f
    rw [h1, ratSum_map_add, indicator_sum L hL g]
    have : ((g :: gs).length : Rat) = 1 + (gs.length : Rat) := by
      simp [Rat.natCast_add]; grind
    rw [this]
    split <;> grind

theorem cnt_nonneg (fs : List F) (f : F) : 0 ≤ cnt fs f := by
  unfold cnt
  exact_mod_cast Nat.zero_le _

omit [DecidableEq F] in
theorem isort_is (le : F → F → Bool) : IsoVerif.Lemmas.InsertionSort le (insertSorted le) (isort le) :=
  ⟨fun _ => rfl, fun _ _ _ => rfl, rfl, fun _ _ => rfl⟩

omit [DecidableEq F] in
theorem mem_isort (le : F → F → Bool) (l : List F) (y : F) : y ∈ isort le l ↔ y ∈ l := (isort_is le).mem_iff

omit [DecidableEq F] in
theorem nodup_isort (le : F → F → Bool) (l : List F) (hl : l.Nodup) : (isort le l).Nodup :=
  ((isort_is le).perm l).nodup_iff.mpr hl

end IsoVerif.Lemmas.C02
