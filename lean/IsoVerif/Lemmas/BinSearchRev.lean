import IsoVerif.Lemmas.Lists

/-!
`interval_bin_search_rev` by reduction to the forward loop on the keys `end + 1` (`rev_of_fwd`), and its result on a
sorted disjoint list for every position, as a count of keys (`bin_search_rev_total`, beside `bin_search_total` of Lists).
-/
namespace IsoVerif.Lemmas
open IsoVerif.Gen IsoVerif.Model

/-- the reversed search at index `ind ≥ 1` follows the forward loop at `ind − 1` on the list `ends + 1`
    (`e[j] < pos ≤ e[j+1]` ⟺ `e[j]+1 ≤ pos < e[j+1]+1`), as long as that forward run succeeds -/
theorem rev_of_fwd (l : List Iv) (pos : Int) (hinc : StrictInc (l.map (fun r => r.2 + 1))) :
    ∀ fuel ind step t, 1 ≤ ind →
      loopStarts (l.map (fun r => r.2 + 1)) pos fuel (ind - 1) step = some t →
      binSearchRevLoop l pos fuel ind step = some (t + 1) := by
  intro fuel
  induction fuel with
  | zero => intro ind step t _ h; simp [loopStarts] at h
  | succ fuel ih =>
    intro ind step t hind h
    obtain ⟨j, rfl⟩ : ∃ j, ind = j + 1 := ⟨ind - 1, by omega⟩
    simp only [Nat.add_sub_cancel] at h
    unfold loopStarts at h
    unfold binSearchRevLoop
    have hcast : ((j + 1 : Nat) : Int) - 1 = (j : Int) := by omega
    rw [hcast, pyGet?_nat]
    simp only [List.getElem?_map] at h
    cases h1 : l[j]? with
    | none => simp [h1] at h
    | some a =>
      cases h2 : l[j + 1]? with
      | none => simp [h1, h2] at h
      | some b =>
        simp only [h1, h2, Option.map_some] at h ⊢
        have hab : a.2 + 1 < b.2 + 1 :=
          strictInc_mono hinc j (j + 1) (by omega) _ _ (by simp [h1]) (by simp [h2])
        by_cases hit : a.2 + 1 ≤ pos ∧ pos < b.2 + 1
        · simp only [hit, and_self, if_true] at h
          have hit' : a.2 < pos ∧ pos ≤ b.2 := by omega
          simp only [hit', and_self, if_true]
          injection h with h; subst h; rfl
        · simp only [hit, if_false] at h
          have hit' : ¬ (a.2 < pos ∧ pos ≤ b.2) := by omega
          simp only [hit', if_false]
          by_cases hlt : pos < a.2 + 1
          · simp only [hlt, if_true] at h
            have hgt : ¬ pos > b.2 := by omega
            simp only [hgt, if_false]
            by_cases hs : max 1 (step / 2) ≤ j
            · simp only [hs, if_true] at h
              have hs' : max 1 (step / 2) ≤ j + 1 := by omega
              simp only [hs', if_true]
              have := ih (j + 1 - max 1 (step / 2)) (max 1 (step / 2)) t (by omega)
                (by rw [show j + 1 - max 1 (step / 2) - 1 = j - max 1 (step / 2) by omega]; exact h)
              exact this
            · simp [hs] at h
          · simp only [hlt, if_false] at h
            have hgt : pos > b.2 := by omega
            simp only [hgt, if_true]
            have := ih (j + 1 + max 1 (step / 2)) (max 1 (step / 2)) t (by omega)
              (by rw [show j + 1 + max 1 (step / 2) - 1 = j + max 1 (step / 2) by omega]; exact h)
            exact this

theorem bin_search_rev_aux (l : List Iv) (pos : Int) (hinc : StrictInc (l.map (fun r => r.2 + 1)))
    (f tl : Iv) (hf : l.head? = some f) (ht : l.getLast? = some tl)
    (t : Nat) (a b : Iv) (hta : l[t]? = some a) (htb : l[t + 1]? = some b)
    (hpa : a.2 < pos) (hpb : pos ≤ b.2) (hin : f.1 ≤ pos) :
    intervalBinSearchRev l pos = some ((t : Int) + 1) := by
  have hlen : t + 1 < l.length := (List.getElem?_eq_some_iff.mp htb).1
  have hmta : (l.map (fun r => r.2 + 1))[t]? = some (a.2 + 1) := by simp [hta]
  have hmtb : (l.map (fun r => r.2 + 1))[t + 1]? = some (b.2 + 1) := by simp [htb]
  have hf0 : l[0]? = some f := by rw [← List.head?_eq_getElem?]; exact hf
  have hlast := getElem?_last l tl ht
  have hfa : f.2 + 1 ≤ a.2 + 1 := strictInc_le hinc (Nat.zero_le t) (by simp [hf0]) hmta
  have hbt : b.2 + 1 ≤ tl.2 + 1 :=
    strictInc_le hinc (show t + 1 ≤ l.length - 1 by omega) hmtb (by simp [hlast])
  simp only [intervalBinSearchRev, hf, ht]
  have hno : ¬ (pos > tl.2 ∨ pos < f.1) := by omega
  have hnl : ¬ (pos ≤ f.2) := by omega
  simp only [hno, hnl, if_false]
  have hlm : (l.map (fun r => r.2 + 1)).length = l.length := by simp
  -- `rev_of_fwd` needs a start index ≥ 1, and `(len − 1) / 2 ≥ 1` exactly when `len ≥ 3`
  by_cases h3 : 3 ≤ l.length
  · have hr := rem_le ((l.length - 1) / 2)
    have hfw := loop_correct (l.map (fun r => r.2 + 1)) pos hinc t (a.2 + 1) (b.2 + 1) hmta hmtb (by omega) (by omega)
      (2 * l.length + 2) ((l.length - 1) / 2 - 1) ((l.length - 1) / 2)
      (by omega) (by omega) (by rw [hlm]; omega) (by split <;> omega)
    rw [rev_of_fwd l pos hinc _ ((l.length - 1) / 2) _ t (by omega) hfw]
    simp
  · -- two intervals: one step from index 0 (Python's l[-1] wrap is harmless) to index 1
    have h2 : l.length = 2 := by omega
    have ht0 : t = 0 := by omega
    subst ht0
    match l, h2, hf0, htb, hlast with
    | [x, y], _, hf0, htb, hlast =>
      simp at hf0 htb hlast
      subst hf0; subst htb
      have e1 : ¬ (y.2 < pos ∧ pos ≤ x.2) := by omega
      have e2 : x.2 < pos := by omega
      simp [binSearchRevLoop, pyGet?, e1, e2, hpb]

/-- `interval_bin_search_rev`: `−1` outside the span, else the number of blocks ending before the position -/
theorem bin_search_rev_total (l : List Iv) (pos : Int) (h : SD l) (w : WFl l) (f tl : Iv)
    (hf : l.head? = some f) (ht : l.getLast? = some tl) :
    intervalBinSearchRev l pos = some (if pos > tl.2 ∨ pos < f.1 then -1
      else (l.countP (fun r => decide (r.2 + 1 ≤ pos)) : Int)) := by
  have hinc := h.strictInc_ends w
  split
  · rename_i hout; simp [intervalBinSearchRev, hf, ht, hout]
  · rename_i hout
    by_cases hl : pos ≤ f.2
    · rw [countP_le_eq_zero (fun r => r.2 + 1) pos l hinc (fun x hx => by cases hf.symm.trans hx; omega)]
      simp [intervalBinSearchRev, hf, ht, hout, hl]
    · obtain ⟨t, a, b, hta, htb, hpa, hpb⟩ := exists_gap (fun r => r.2 + 1) l f tl hf ht pos (by omega) (by omega)
      rw [bin_search_rev_aux l pos hinc f tl hf ht t a b hta htb (by omega) (by omega) (by omega),
        countP_le_of_gap (fun r => r.2 + 1) pos l t a b hinc hta htb hpa hpb]
      congr 1

end IsoVerif.Lemmas
