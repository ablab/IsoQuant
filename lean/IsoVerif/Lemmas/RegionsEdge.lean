/-
C05 — helper lemmas for Props/C05Edge.lean (records without reference span, the repaired BED printer).
-/
import IsoVerif.Model.RegionsEdge
import IsoVerif.Lemmas.Regions

namespace IsoVerif.Lemmas.RegionsEdge
open IsoVerif.Gen IsoVerif.Model.Regions IsoVerif.Lemmas.Regions

theorem mem_skipNoSpan (all : List RawAln) (a : Aln) :
    a ∈ skipNoSpan all ↔ ∃ r, r ∈ all ∧ r.toAln? = some a := by
  simp [skipNoSpan, List.mem_filterMap]

theorem toAln_cases (r : RawAln) :
    (r.stop = none ∧ r.toAln? = none) ∨
    ∃ e, r.stop = some e ∧ r.toAln? = some ⟨r.start, e, r.secondary, r.supplementary, r.mapped, r.mapq, r.rid⟩ := by
  unfold RawAln.toAln?; cases r.stop <;> simp

theorem filter_skip_length (all : List RawAln) (p : Aln → Bool) (q : RawAln → Bool)
    (hpq : ∀ r e, p ⟨r.start, e, r.secondary, r.supplementary, r.mapped, r.mapq, r.rid⟩ = q r) :
    ((skipNoSpan all).filter p).length = (all.filter (fun r => r.stop.isSome && q r)).length := by
  induction all with
  | nil => rfl
  | cons r t ih =>
    simp only [skipNoSpan] at ih ⊢
    rcases toAln_cases r with ⟨hs, h1⟩ | ⟨e, hs, h1⟩
    · simp [h1, hs, ih]
    · simp only [List.filterMap_cons, h1, List.filter_cons, hs, Option.isSome_some, Bool.true_and, hpq r e]
      split <;> simp [ih]

theorem foldl_orig_none (l : List RawAln) : l.foldl processStepOrig none = none := by
  induction l with
  | nil => rfl
  | cons _ _ ih => simpa [List.foldl_cons, processStepOrig] using ih

theorem foldl_orig (l : List RawAln) (st : PState) :
    l.foldl processStepOrig (some st) =
      if l.all (fun r => r.stop.isSome) then some ((skipNoSpan l).foldl processStep st) else none := by
  induction l generalizing st with
  | nil => rfl
  | cons r t ih =>
    rw [List.foldl_cons]
    rcases toAln_cases r with ⟨hs, h1⟩ | ⟨e, hs, h1⟩
    · simp [processStepOrig, h1, foldl_orig_none, hs]
    · simp only [processStepOrig, h1, ih, List.all_cons, hs, Option.isSome_some, Bool.true_and, skipNoSpan,
        List.filterMap_cons, List.foldl_cons]

/-- one iteration: the record is skipped (a multimapper whose key is printed), or its line is written and a
    multimapper's key is remembered -/
theorem bedKeepLoop_cons (printed : List (Nat × Nat × List Iv)) (x : BedRec) (xs : List BedRec) :
    (x.multi = true ∧ x.key ∈ printed ∧ bedKeepLoop printed (x :: xs) = bedKeepLoop printed xs) ∨
    ∃ printed', bedKeepLoop printed (x :: xs) = x :: bedKeepLoop printed' xs ∧ (x.multi = true → x.key ∉ printed) ∧
      ∀ k, k ∈ printed' ↔ k ∈ printed ∨ (x.multi = true ∧ k = x.key) := by
  by_cases hm : x.multi = true
  · by_cases hc : x.key ∈ printed
    · exact Or.inl ⟨hm, hc, by simp [bedKeepLoop, hm, hc]⟩
    · exact Or.inr ⟨x.key :: printed, by simp [bedKeepLoop, hm, hc], fun _ => hc, by simp [hm, or_comm]⟩
  · exact Or.inr ⟨printed, by simp [bedKeepLoop, hm], fun h => absurd h hm, by simp [hm]⟩

theorem bedKeepLoop_spec (recs : List BedRec) : ∀ printed : List (Nat × Nat × List Iv),
    (bedKeepLoop printed recs).Sublist recs ∧
    (∀ x, x ∈ bedKeepLoop printed recs → x.multi = true → x.key ∉ printed) ∧
    (bedKeepLoop printed recs).Pairwise (fun a b => a.multi = true → b.multi = true → a.key ≠ b.key) ∧
    (∀ x, x ∈ recs → x ∈ bedKeepLoop printed recs ∨
      (x.multi = true ∧ (x.key ∈ printed ∨ ∃ y, y ∈ bedKeepLoop printed recs ∧ y.multi = true ∧ y.key = x.key))) := by
  induction recs with
  | nil => intro printed; simp [bedKeepLoop]
  | cons x xs ih =>
    intro printed
    rcases bedKeepLoop_cons printed x xs with ⟨hm, hc, he⟩ | ⟨pr, he, hx, hpr⟩
    · rw [he]
      obtain ⟨h1, h2, h3, h4⟩ := ih printed
      refine ⟨h1.cons _, h2, h3, ?_⟩
      intro y hy
      rcases List.mem_cons.1 hy with rfl | hy
      · exact Or.inr ⟨hm, Or.inl hc⟩
      · exact h4 y hy
    · rw [he]
      obtain ⟨h1, h2, h3, h4⟩ := ih pr
      refine ⟨h1.cons_cons _, ?_, ?_, ?_⟩
      · intro y hy hym
        rcases List.mem_cons.1 hy with rfl | hy
        · exact hx hym
        · exact fun hin => h2 y hy hym ((hpr _).2 (Or.inl hin))
      · rw [List.pairwise_cons]
        exact ⟨fun y hy hxm hym heq => h2 y hy hym ((hpr _).2 (Or.inr ⟨hxm, heq.symm⟩)), h3⟩
      · intro y hy
        rcases List.mem_cons.1 hy with rfl | hy
        · exact Or.inl List.mem_cons_self
        · rcases h4 y hy with h | ⟨hym, h | ⟨z, hz, hzm, hzk⟩⟩
          · exact Or.inl (List.mem_cons_of_mem _ h)
          · rcases (hpr _).1 h with h | ⟨hxm, h⟩
            · exact Or.inr ⟨hym, Or.inl h⟩
            · exact Or.inr ⟨hym, Or.inr ⟨x, List.mem_cons_self, hxm, h.symm⟩⟩
          · exact Or.inr ⟨hym, Or.inr ⟨z, List.mem_cons_of_mem _ hz, hzm, hzk⟩⟩

end IsoVerif.Lemmas.RegionsEdge
