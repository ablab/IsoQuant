/-
Lemmas about the event loop of `process_events` (C14): behaviour with all flags off, one specification of the event
step (`StepSpec`: region change and provenance of the appended introns), region invariants, provenance of the accumulated
introns, termination.
-/
import IsoVerif.Lemmas.Corrector
import IsoVerif.Lemmas.AssocList

namespace IsoVerif.Lemmas.C14
open IsoVerif.Gen IsoVerif.Model IsoVerif.Model.C14 IsoVerif.Lemmas

-- the concrete runs of the property files compare whole results (`.ok …`, `.error .fuel`) by `decide`
deriving instance DecidableEq for Except

def allOff : CorrectionPreset := ⟨false, false, false, false, false, false⟩

/-- every binding of the event map has key = first read-intron index of the event, and the event names a
    non-empty index range of the `n` read introns -/
def MapWF (n : Nat) (m : List (Int × MEvent)) : Prop :=
  ∀ q ∈ m, q.1 = q.2.read.1 ∧ 0 ≤ q.1 ∧ q.1 ≤ q.2.read.2 ∧ q.2.read.2 < n

theorem misalignmentSet_off {p : CParams} (hp : p.fl = allOff) : misalignmentSet p = [] := by
  simp [misalignmentSet, hp, allOff]

theorem eventStep_off {p : CParams} (hp : p.fl = allOff) (rr : Iv) (ri corr : List Iv) (isoR : Iv) (isoI : List Iv)
    (e : MEvent) (reg : Iv) (acc : List Iv) :
    eventStep p rr ri corr isoR isoI e reg acc = keepStep ri corr e reg acc := by
  unfold eventStep
  simp [hp, allOff, misalignmentSet]

theorem keepStep_same (l : List Iv) (e : MEvent) (reg : Iv) (acc : List Iv)
    (h0 : 0 ≤ e.read.1) (h1 : e.read.1 ≤ e.read.2) (h2 : e.read.2 < l.length) :
    keepStep l l e reg acc = .ok (reg, acc ++ (l.drop e.read.1.toNat).take (e.read.2 + 1 - e.read.1).toNat) := by
  unfold keepStep
  rw [sliceIncl_inrange l _ _ h0 h1 h2]
  split <;> rfl

theorem microStep_nil (isoI : List Iv) (i : Int) (acc : List Iv) : microStep [] isoI i acc = .ok acc := by
  simp [microStep, microAt, getAll]

theorem eventLoop_off {p : CParams} (hp : p.fl = allOff) (emap : List (Int × MEvent)) (rr : Iv) (l : List Iv)
    (isoR : Iv) (isoI : List Iv) (hm : MapWF l.length emap) :
    ∀ (fuel : Nat) (i : Int) (reg : Iv) (acc : List Iv), 0 ≤ i → i ≤ l.length → (l.length : Int) - i < fuel →
      eventLoop p emap [] rr l l isoR isoI fuel i reg acc = .ok (reg, acc ++ l.drop i.toNat) := by
  intro fuel
  induction fuel with
  | zero => intro i reg acc _ _ hf; omega
  | succ fuel ih =>
    intro i reg acc h0 h1 hf
    rw [eventLoop]
    by_cases hlt : i < (l.length : Int)
    · rw [if_pos hlt, microStep_nil]
      cases hlk : emap.lookup i with
      | none =>
        obtain ⟨x, hx, hd⟩ := drop_pyGet l i h0 hlt
        simp only [hx]
        rw [ih (i + 1) reg (acc ++ [x]) (by omega) (by omega) (by omega), hd, List.append_assoc]
        rfl
      | some e =>
        obtain ⟨hk, _, hle, hlen⟩ := hm (i, e) (mem_of_lookup hlk)
        simp only at hk hle hlen
        simp only [eventStep_off hp, keepStep_same l e reg acc (by omega) (by omega) hlen]
        rw [ih (e.read.2 + 1) reg _ (by omega) (by omega) (by omega)]
        have e1 : e.read.1.toNat = i.toNat := by omega
        have e2 : (e.read.2 + 1).toNat = i.toNat + (e.read.2 + 1 - e.read.1).toNat := by omega
        rw [e1, e2, List.append_assoc, ← List.drop_drop, List.take_append_drop]
    · rw [if_neg hlt, microStep_nil, show i.toNat = l.length by omega, List.drop_length, List.append_nil]

/-- events as the comparator is supposed to emit them: the read region is the undefined sentinel, or starts with
    the absent sentinel, or is a non-empty index range of the `n` read introns -/
def WellFormedRegions (n : Nat) (evs : List MEvent) : Prop :=
  ∀ e ∈ evs, e.read = undefinedRegion ∨ (e.read.1 = absentPosition ∧ 0 ≤ e.read.2) ∨
    (0 ≤ e.read.1 ∧ e.read.1 ≤ e.read.2 ∧ e.read.2 < n)

theorem addEvent_mem {m : List (Int × MEvent)} {e : MEvent} {q : Int × MEvent}
    (h : q ∈ addEvent m e) :
    q ∈ m ∨ (q.2 = e ∧ e.read ≠ undefinedRegion ∧ e.read.1 ≠ absentPosition ∧ q.1 = e.read.1) := by
  unfold addEvent at h
  split at h
  · exact Or.inl h
  · rename_i hne
    split at h
    · exact Or.inl h
    · rename_i hab
      cases h with
      | head => exact Or.inr ⟨rfl, hne, hab, rfl⟩
      | tail _ h' => exact Or.inl h'

theorem foldl_addEvent_mem (evs : List MEvent) (m : List (Int × MEvent)) {q : Int × MEvent}
    (h : q ∈ evs.foldl addEvent m) :
    q ∈ m ∨ (q.2 ∈ evs ∧ q.2.read ≠ undefinedRegion ∧ q.2.read.1 ≠ absentPosition ∧ q.1 = q.2.read.1) := by
  induction evs generalizing m with
  | nil => exact Or.inl h
  | cons e t ih =>
    simp only [List.foldl_cons] at h
    rcases ih (addEvent m e) h with h1 | ⟨h1, h2, h3⟩
    · rcases addEvent_mem h1 with h4 | ⟨h4, h5, h6⟩
      · exact Or.inl h4
      · subst h4
        exact Or.inr ⟨by simp, h5, h6⟩
    · exact Or.inr ⟨List.mem_cons_of_mem _ h1, h2, h3⟩

/-- every binding of `buildEventMap` comes from an event of the list, keyed as `correct_misalignments` does -/
theorem buildEventMap_mem {evs : List MEvent} {q : Int × MEvent} (h : q ∈ buildEventMap evs) :
    q.2 ∈ evs ∧ q.2.read ≠ undefinedRegion ∧ q.2.read.1 ≠ absentPosition ∧ q.1 = q.2.read.1 := by
  rcases foldl_addEvent_mem evs [] h with h1 | h1
  · cases h1
  · exact h1

/-- every binding of `buildMicroMap` comes from a `fake_micro_intron_retention` event of the list (flag on) -/
theorem buildMicroMap_mem {micro : Bool} {evs : List MEvent} {q : Int × Int} (h : q ∈ buildMicroMap micro evs) :
    ∃ e ∈ evs, e.read ≠ undefinedRegion ∧ e.read.1 = absentPosition ∧ micro = true ∧
      e.etype = corrector_micro_intron_test.1 ∧ q = (e.read.2, e.iso.1) := by
  simp only [buildMicroMap, List.mem_filterMap] at h
  obtain ⟨e, he, hq⟩ := h
  unfold microEntry at hq
  split at hq
  · cases hq
  · rename_i hne
    split at hq
    · rename_i hc
      exact ⟨e, he, hne, hc.1, hc.2.2, hc.2.1, (Option.some.inj hq).symm⟩
    · cases hq

theorem buildMicroMap_off (evs : List MEvent) : buildMicroMap false evs = [] := by
  simp [buildMicroMap, microEntry]

theorem buildEventMap_wf {n : Nat} {evs : List MEvent} (h : WellFormedRegions n evs) :
    MapWF n (buildEventMap evs) := by
  intro q hq
  obtain ⟨h1, h2, h4, h5⟩ := buildEventMap_mem hq
  rcases h q.2 h1 with h6 | h6 | h6
  · exact absurd h6 h2
  · exact absurd h6.1 h4
  · exact ⟨h5, by omega, by omega, h6.2.2⟩

/-- the four ways an event may move an end of the region, each guarded by its flag; otherwise the region is kept -/
inductive RegionChange (p : CParams) (ri : List Iv) (isoR : Iv) (e : MEvent) (reg reg' : Iv) : Prop where
  | keep : reg' = reg → RegionChange p ri isoR e reg reg'
  | fakeLeft (x : Iv) : p.fl.fake_terminal_exons = true → e.etype = MatchEventSubtype.fake_terminal_exon_left →
      pyGet? ri e.read.1 = some x → reg' = (x.2 + 1, reg.2) → RegionChange p ri isoR e reg reg'
  | fakeRight (x : Iv) : p.fl.fake_terminal_exons = true → e.etype = MatchEventSubtype.fake_terminal_exon_right →
      pyGet? ri e.read.1 = some x → reg' = (reg.1, x.1 - 1) → RegionChange p ri isoR e reg reg'
  | termLeft : p.fl.terminal_exons = true → e.etype = MatchEventSubtype.terminal_exon_misalignment_left →
      reg' = (isoR.1, reg.2) → RegionChange p ri isoR e reg reg'
  | termRight : p.fl.terminal_exons = true → e.etype = MatchEventSubtype.terminal_exon_misalignment_right →
      reg' = (reg.1, isoR.2) → RegionChange p ri isoR e reg reg'

/-- where the introns appended by one event come from -/
def StepProv (ri corr isoI : List Iv) (e : MEvent) (x : Iv) : Prop :=
  (∃ j, e.read.1 ≤ j ∧ j ≤ e.read.2 ∧ (pyGet? ri j = some x ∨ pyGet? corr j = some x)) ∨
  (∃ j, ((e.iso.1 ≤ j ∧ j ≤ e.iso.2) ∨ j = e.iso.1) ∧ pyGet? isoI j = some x)

theorem sliceIncl_err {l : List Iv} {a b : Int} {x : CErr} (h : sliceIncl l a b = .error x) : x = .index := by
  unfold sliceIncl at h
  split at h
  · cases h
  · injection h with h; exact h.symm

/-- what one event may do: fail with an index error or a failed assertion (never "out of fuel"), or move an end
    of the region as `RegionChange` allows and append introns of known provenance -/
def StepSpec (p : CParams) (ri corr : List Iv) (isoR : Iv) (isoI : List Iv) (e : MEvent) (reg : Iv) (acc : List Iv) :
    Except CErr (Iv × List Iv) → Prop
  | .error x => x = .index ∨ x = .assertion
  | .ok (reg', acc') =>
    RegionChange p ri isoR e reg reg' ∧ ∃ xs, acc' = acc ++ xs ∧ ∀ x ∈ xs, StepProv ri corr isoI e x

theorem StepSpec.slice {p : CParams} {ri corr : List Iv} {isoR : Iv} {isoI : List Iv} {e : MEvent} {reg : Iv}
    {acc l : List Iv} {a b : Int}
    (hl : ∀ j x, a ≤ j → j ≤ b → pyGet? l j = some x → StepProv ri corr isoI e x) :
    StepSpec p ri corr isoR isoI e reg acc
      (match sliceIncl l a b with
       | .ok xs => .ok (reg, acc ++ xs)
       | .error x => .error x) := by
  cases hs : sliceIncl l a b with
  | error x => exact Or.inl (sliceIncl_err hs)
  | ok xs => exact ⟨.keep rfl, xs, rfl, fun x hx => let ⟨j, h1, h2, h3⟩ := sliceIncl_mem hs x hx; hl j x h1 h2 h3⟩

theorem keepStep_spec (p : CParams) (ri corr : List Iv) (isoR : Iv) (isoI : List Iv) (e : MEvent) (reg : Iv)
    (acc : List Iv) : StepSpec p ri corr isoR isoI e reg acc (keepStep ri corr e reg acc) := by
  unfold keepStep
  split
  · exact .slice fun j _ h1 h2 h3 => Or.inl ⟨j, h1, h2, Or.inr h3⟩
  · exact .slice fun j _ h1 h2 h3 => Or.inl ⟨j, h1, h2, Or.inl h3⟩

/-- the if/elif chain, branch by branch -/
theorem eventStep_spec (p : CParams) (rr : Iv) (ri corr : List Iv) (isoR : Iv) (isoI : List Iv) (e : MEvent)
    (reg : Iv) (acc : List Iv) :
    StepSpec p ri corr isoR isoI e reg acc (eventStep p rr ri corr isoR isoI e reg acc) := by
  unfold eventStep
  by_cases hc : e.etype = MatchEventSubtype.fake_terminal_exon_left ∧ p.fl.fake_terminal_exons
  · rw [if_pos hc]
    split
    · exact Or.inr rfl
    cases hx : pyGet? ri e.read.1 with
    | none => exact Or.inl rfl
    | some x => exact ⟨.fakeLeft x hc.2 hc.1 hx rfl, [], (List.append_nil _).symm, nofun⟩
  rw [if_neg hc]
  by_cases hc : e.etype = MatchEventSubtype.fake_terminal_exon_right ∧ p.fl.fake_terminal_exons
  · rw [if_pos hc]
    split
    · exact Or.inr rfl
    cases hx : pyGet? ri e.read.1 with
    | none => exact Or.inl rfl
    | some x => exact ⟨.fakeRight x hc.2 hc.1 hx rfl, [], (List.append_nil _).symm, nofun⟩
  rw [if_neg hc]
  have hiso : ∀ x, pyGet? isoI e.iso.1 = some x → ∀ y ∈ [x], StepProv ri corr isoI e y := fun x hx y hy =>
    Or.inr ⟨e.iso.1, Or.inr rfl, by rw [List.mem_singleton.mp hy]; exact hx⟩
  by_cases hc : e.etype = MatchEventSubtype.terminal_exon_misalignment_left ∧ p.fl.terminal_exons
  · rw [if_pos hc]
    cases hx : pyGet? isoI e.iso.1 with
    | none => exact Or.inl rfl
    | some x => exact ⟨.termLeft hc.2 hc.1 rfl, [x], rfl, hiso x hx⟩
  rw [if_neg hc]
  by_cases hc : e.etype = MatchEventSubtype.terminal_exon_misalignment_right ∧ p.fl.terminal_exons
  · rw [if_pos hc]
    cases hx : pyGet? isoI e.iso.1 with
    | none => exact Or.inl rfl
    | some x => exact ⟨.termRight hc.2 hc.1 rfl, [x], rfl, hiso x hx⟩
  rw [if_neg hc]
  by_cases hc : (misalignmentSet p).contains e.etype = true
  · rw [if_pos hc]
    cases pyGet? isoI e.iso.1 with
    | none => exact Or.inl rfl
    | some a =>
      cases pyGet? isoI e.iso.2 with
      | none => exact Or.inl rfl
      | some b =>
        show StepSpec p ri corr isoR isoI e reg acc (if _ then _ else _)
        split
        · split
          · exact Or.inr rfl
          · exact .slice fun j _ h1 h2 h3 => Or.inr ⟨j, Or.inl ⟨h1, h2⟩, h3⟩
        · exact keepStep_spec ..
  · rw [if_neg hc]; exact keepStep_spec ..

theorem eventStep_ok {p : CParams} {rr : Iv} {ri corr : List Iv} {isoR : Iv} {isoI : List Iv} {e : MEvent}
    {reg reg' : Iv} {acc acc' : List Iv}
    (h : eventStep p rr ri corr isoR isoI e reg acc = .ok (reg', acc')) :
    RegionChange p ri isoR e reg reg' ∧ ∃ xs, acc' = acc ++ xs ∧ ∀ x ∈ xs, StepProv ri corr isoI e x := by
  have := eventStep_spec p rr ri corr isoR isoI e reg acc
  rwa [h] at this

theorem eventStep_err {p : CParams} {rr : Iv} {ri corr : List Iv} {isoR : Iv} {isoI : List Iv} {e : MEvent}
    {reg : Iv} {acc : List Iv} {x : CErr}
    (h : eventStep p rr ri corr isoR isoI e reg acc = .error x) : x = .index ∨ x = .assertion := by
  have := eventStep_spec p rr ri corr isoR isoI e reg acc
  rwa [h] at this

theorem getAll_mem {l : List Iv} {js : List Int} {xs : List Iv} (h : getAll l js = some xs) :
    ∀ x ∈ xs, ∃ j ∈ js, pyGet? l j = some x := by
  induction js generalizing xs with
  | nil => cases h; nofun
  | cons j js ih =>
    rw [getAll] at h
    split at h
    · rename_i y ys hj hr
      cases h
      refine List.forall_mem_cons.mpr ⟨⟨j, List.mem_cons_self, hj⟩, fun x hx => ?_⟩
      obtain ⟨j', hj', hg⟩ := ih hr x hx
      exact ⟨j', List.mem_cons_of_mem _ hj', hg⟩
    · cases h

theorem microStep_ok {mm : List (Int × Int)} {isoI : List Iv} {i : Int} {acc acc' : List Iv}
    (h : microStep mm isoI i acc = .ok acc') :
    ∃ xs, getAll isoI (microAt mm i) = some xs ∧ acc' = acc ++ xs := by
  unfold microStep at h
  cases hg : getAll isoI (microAt mm i) with
  | none => simp [hg] at h
  | some xs => simp [hg] at h; exact ⟨xs, rfl, h.symm⟩

theorem microStep_err {mm : List (Int × Int)} {isoI : List Iv} {i : Int} {acc : List Iv} {x : CErr}
    (h : microStep mm isoI i acc = .error x) : x = .index := by
  unfold microStep at h
  cases hg : getAll isoI (microAt mm i) with
  | none => simp [hg] at h; exact h.symm
  | some xs => simp [hg] at h

/-- whatever the micro step, the plain step and the event step each preserve holds of the loop's result: the region
    and provenance theorems are instances -/
theorem eventLoop_invariant (p : CParams) (emap : List (Int × MEvent)) (mm : List (Int × Int)) (rr : Iv)
    (ri corr : List Iv) (isoR : Iv)
    (isoI : List Iv) (Inv : Iv → List Iv → Prop)
    (hmicro : ∀ i reg acc acc', microStep mm isoI i acc = .ok acc' → Inv reg acc → Inv reg acc')
    (hplain : ∀ i c reg acc, pyGet? corr i = some c → Inv reg acc → Inv reg (acc ++ [c]))
    (hevent : ∀ i e reg acc reg' acc', emap.lookup i = some e →
      eventStep p rr ri corr isoR isoI e reg acc = .ok (reg', acc') → Inv reg acc → Inv reg' acc') :
    ∀ (fuel : Nat) (i : Int) (reg : Iv) (acc : List Iv) (reg' : Iv) (ni : List Iv), Inv reg acc →
      eventLoop p emap mm rr ri corr isoR isoI fuel i reg acc = .ok (reg', ni) → Inv reg' ni := by
  intro fuel
  induction fuel with
  | zero => intro i reg acc reg' ni _ h; simp [eventLoop] at h
  | succ fuel ih =>
    intro i reg acc reg' ni hinv h
    rw [eventLoop] at h
    split at h
    · cases hm : microStep mm isoI i acc with
      | error x => simp [hm] at h
      | ok acc1 =>
        simp only [hm] at h
        have hinv1 := hmicro i reg acc acc1 hm hinv
        cases hl : emap.lookup i with
        | none =>
          simp only [hl] at h
          cases hg : pyGet? corr i with
          | none => simp [hg] at h
          | some c =>
            simp only [hg] at h
            exact ih _ _ _ _ _ (hplain i c reg acc1 hg hinv1) h
        | some e =>
          simp only [hl] at h
          cases hs : eventStep p rr ri corr isoR isoI e reg acc1 with
          | error x => simp [hs] at h
          | ok q =>
            obtain ⟨r2, a2⟩ := q
            simp only [hs] at h
            exact ih _ _ _ _ _ (hevent i e reg acc1 r2 a2 hl hs hinv1) h
    · cases hm : microStep mm isoI (corr.length : Int) acc with
      | error x => simp [hm] at h
      | ok acc1 =>
        simp [hm] at h
        obtain ⟨h1, h2⟩ := h
        subst h1; subst h2
        exact hmicro _ reg acc acc1 hm hinv

/-- termination: if every event found at a non-negative key ends at or after that key, the loop index strictly
    increases and `len − i + 1` units of fuel suffice -/
theorem eventLoop_no_fuel_error (p : CParams) (emap : List (Int × MEvent)) (mm : List (Int × Int)) (rr : Iv)
    (ri corr : List Iv) (isoR : Iv) (isoI : List Iv) (hprog : ∀ k e, 0 ≤ k → emap.lookup k = some e → k ≤ e.read.2) :
    ∀ (fuel : Nat) (i : Int) (reg : Iv) (acc : List Iv), 0 ≤ i → ((corr.length : Int) - i).toNat + 1 ≤ fuel →
      eventLoop p emap mm rr ri corr isoR isoI fuel i reg acc ≠ .error .fuel := by
  intro fuel
  induction fuel with
  | zero => intro i reg acc _ hf; omega
  | succ fuel ih =>
    intro i reg acc h0 hf
    rw [eventLoop]
    split
    · rename_i hlt
      cases hm : microStep mm isoI i acc with
      | error x =>
        simp only
        have := microStep_err hm
        subst this; simp
      | ok acc1 =>
        simp only
        cases hl : emap.lookup i with
        | none =>
          simp only
          cases hg : pyGet? corr i with
          | none => simp
          | some c => simp only; exact ih _ _ _ (by omega) (by omega)
        | some e =>
          simp only
          have hle := hprog i e h0 hl
          cases hs : eventStep p rr ri corr isoR isoI e reg acc1 with
          | error x =>
            simp only
            intro hx
            have : x = CErr.fuel := by injection hx
            subst this
            rcases eventStep_err hs with h1 | h1 <;> cases h1
          | ok q =>
            obtain ⟨r2, a2⟩ := q
            simp only
            exact ih _ _ _ (by omega) (by omega)
    · cases hm : microStep mm isoI (corr.length : Int) acc with
      | error x =>
        simp only
        have := microStep_err hm
        subst this; simp
      | ok acc1 => simp

end IsoVerif.Lemmas.C14
