/-
C01, forward clause, INTRON half: the geometric ⇒ profile direction for
`OverlappingFeaturesProfileConstructor.construct_profile_for_features` (Model/Profiles.lean `constructOverlapping`).
A read whose introns are each matched (within δ, strictly closest) by an intron of the transcript `TI`, that skips no
intron of `TI` inside its span, gets an all-1 read profile and a gene profile whose non-zero marks are exactly
"1 on the introns of TI, −1 on introns that are not in TI and overlap the read span".
Built on the completeness lemmas of C13 (Lemmas/C13ProfileComplete.lean, Props/C13Profiles.lean).
-/
import IsoVerif.Props.C13Profiles
import IsoVerif.Lemmas.C01Forward

namespace IsoVerif.Lemmas.C01
open IsoVerif.Gen IsoVerif.Model IsoVerif.Lemmas IsoVerif.Lemmas.C13 IsoVerif.Props.C13Profiles

/-- `t` is a known feature within δ of the read feature `r`, and strictly closer (sum of the two site distances) than
    every other known feature within δ (DESIGN §6 tie-loser rule; for an exact match the distance is 0) -/
def StrictBest (δ : Int) (K : List Iv) (r t : Iv) : Prop :=
  t ∈ K ∧ equal_ranges r t δ = true ∧
    ∀ k ∈ K, k ≠ t → equal_ranges r k δ = true → matchDelta r t < matchDelta r k

/-- the read features `R` (span `M`) follow the transcript features `TI` -/
structure IntronFollow (δ : Int) (K TI R : List Iv) (M : Iv) : Prop where
  each : ∀ r ∈ R, ∃ t ∈ TI, StrictBest δ K r t
  none_skipped : ∀ t ∈ TI, t.2 < M.1 ∨ M.2 < t.1 ∨ ∃ r ∈ R, StrictBest δ K r t
  span : ∀ r ∈ R, M.1 < r.1 ∧ r.2 < M.2

theorem matchDelta_self (r : Iv) : matchDelta r r = 0 := by
  simp [matchDelta, iabs]

theorem matchDelta_pos (r k : Iv) (h : k ≠ r) : 0 < matchDelta r k := by
  have : r.1 ≠ k.1 ∨ r.2 ≠ k.2 := by
    by_cases e1 : r.1 = k.1
    · right; intro e2; exact h (Prod.ext e1.symm e2.symm)
    · left; exact e1
  simp only [matchDelta, iabs]
  split <;> split <;> omega

theorem strictBest_exact (δ : Int) (hδ : 0 ≤ δ) (K : List Iv) (r : Iv) (h : r ∈ K) : StrictBest δ K r r := by
  refine ⟨h, ?_, ?_⟩
  · simp only [equal_ranges, Bool.and_eq_true, decide_eq_true_eq, iabs_le]; omega
  · intro k _ hne _
    rw [matchDelta_self]; exact matchDelta_pos r k hne

theorem strictBest_best (δ : Int) (K R : List Iv) (j : Nat) (r t : Iv) (hr : R[j]? = some r)
    (h : StrictBest δ K r t) : Best δ K R t := by
  refine ⟨j, r, hr, h.2.1, ?_⟩
  intro i' k' hk' hc'
  by_cases e : k' = t
  · subst e; omega
  · have := h.2.2 k' (List.mem_of_getElem? hk') e hc'; omega

theorem constructOverlapping_nopolya (K : List Iv) (gr : Iv) (cmp absent : Iv → Iv → Bool) (δ : Int) (R : List Iv) (M : Iv) :
    (constructOverlapping K gr cmp absent δ R M (-1) (-1)).gene =
      ovEliminate K R (sweepState K gr cmp absent R M).matched (sweepState K gr cmp absent R M).gene ∧
    (constructOverlapping K gr cmp absent δ R M (-1) (-1)).read = (sweepState K gr cmp absent R M).read := by
  simp [constructOverlapping, sweepState]

theorem constructOverlapping_nopolya_dom (K : List Iv) (gr : Iv) (cmp absent : Iv → Iv → Bool) (δ : Int) (R : List Iv)
    (M : Iv) (i : Nat) (v : Int)
    (h : (constructOverlapping K gr cmp absent δ R M (-1) (-1)).gene[i]? = some v) : v = 0 ∨ v = 1 ∨ v = -1 := by
  rw [(constructOverlapping_nopolya K gr cmp absent δ R M).1] at h
  rcases IsoVerif.Lemmas.C13.ovEliminate_spec K R (sweepState K gr cmp absent R M).matched
      (sweepState K gr cmp absent R M).gene i with he | ⟨he, _⟩
  · rw [he] at h
    rcases ovSweep_gene_tri cmp absent M K 0 R 0
      { gene := K.map (fun k => if absent M k then -1 else 0), read := R.map (fun r => if absent gr r then -1 else 0),
        matched := [] } i with h' | h' | h'
    · have h2 : (sweepState K gr cmp absent R M).gene[i]? = some v := h
      unfold sweepState at h2
      rw [h'] at h2
      simp only [List.getElem?_map] at h2
      cases hk : K[i]? with
      | none => simp [hk] at h2
      | some k => simp [hk] at h2; split at h2 <;> omega
    · have h2 : (sweepState K gr cmp absent R M).gene[i]? = some v := h
      unfold sweepState at h2
      rw [h'] at h2; simp at h2; omega
    · have h2 : (sweepState K gr cmp absent R M).gene[i]? = some v := h
      unfold sweepState at h2
      rw [h'] at h2; simp at h2; omega
  · rw [he] at h; simp at h; omega

theorem follow_read_marked (K : List Iv) (gr : Iv) (absent : Iv → Iv → Bool) (δ : Int) (R : List Iv) (M : Iv)
    (hyp : Hyp δ K R) (j : Nat) (r t : Iv) (hr : R[j]? = some r) (ht : t ∈ K) (hc : equal_ranges r t δ = true) :
    (constructOverlapping K gr (fun a b => equal_ranges a b δ) absent δ R M (-1) (-1)).read[j]? = some 1 := by
  rw [(constructOverlapping_nopolya K gr _ absent δ R M).2]
  obtain ⟨i, hi⟩ := List.mem_iff_getElem?.mp ht
  have hm := (sweepState_complete K gr absent δ R M hyp.sorted hyp.long hyp.sep hyp.wf j i r t hr hi hc).1
  exact sweepState_matched_read K gr _ absent R M (j, i) hm

theorem follow_gene_marks (K : List Iv) (gr : Iv) (mio : Int) (δ : Int) (R TI : List Iv) (M : Iv)
    (hδ : 0 ≤ δ) (hyp : Hyp δ K R) (hf : IntronFollow δ K TI R M)
    (i : Nat) (k : Iv) (v : Int) (hk : K[i]? = some k)
    (hv : (constructOverlapping K gr (fun a b => equal_ranges a b δ) (fun a b => overlaps_at_least a b mio) δ R M
      (-1) (-1)).gene[i]? = some v) (hv0 : v ≠ 0) :
    (v = 1 ∧ k ∈ TI) ∨ (v = -1 ∧ k ∉ TI ∧ overlaps k M = true) := by
  have hkl := hyp.long k (List.mem_of_getElem? hk)
  rcases constructOverlapping_nopolya_dom K gr _ _ δ R M i v hv with h0 | h1 | hn
  · exact absurd h0 hv0
  · -- present: a best match; the read feature's own strict best match is the only candidate
    subst h1
    left
    refine ⟨rfl, ?_⟩
    obtain ⟨⟨j, r, hr, hc, hbest⟩, _, _⟩ := (include_iff_best_partial K gr _ δ R M (-1) (-1) hyp i k hk).mp hv
    obtain ⟨t, htT, htK, hct, hstrict⟩ := hf.each r (List.mem_of_getElem? hr)
    by_cases e : k = t
    · subst e; exact htT
    · exfalso
      have h1 := hstrict k (List.mem_of_getElem? hk) e hc
      obtain ⟨it, hit⟩ := List.mem_iff_getElem?.mp htK
      have h2 := hbest it t hit hct
      omega
  · subst hn
    right
    obtain ⟨hnb, hor, _, _⟩ := (exclude_iff_partial K gr _ δ R M (-1) (-1) hδ hyp i k hk).mp hv
    -- whatever the reason for the −1, the intron overlaps the read span
    have hov : overlaps k M = true := by
      rcases hor with ⟨j, r, _, _, hr, _, hc, _⟩ | ha | ⟨j, r, r', hr, hr', hlt, hlt'⟩
      · have hs := hf.span r (List.mem_of_getElem? hr)
        have hc' := (equal_ranges_iff r k δ).mp hc
        have := hyp.wf r (List.mem_of_getElem? hr)
        simp only [overlaps_true_iff]
        omega
      · simp only [overlaps_at_least] at ha
        split at ha
        · cases ha
        · rename_i hno
          simp at hno
          simp only [overlaps_true_iff]
          omega
      · have hs := hf.span r (List.mem_of_getElem? hr)
        have hs' := hf.span r' (List.mem_of_getElem? hr')
        have := hyp.wf r (List.mem_of_getElem? hr)
        have := hyp.wf r' (List.mem_of_getElem? hr')
        simp only [overlaps_true_iff]
        omega
    refine ⟨rfl, fun hin => ?_, hov⟩
    -- so an intron of the transcript would have been matched: it is not one
    simp only [overlaps_true_iff] at hov
    rcases hf.none_skipped k hin with hl | hr | ⟨r, hrR, hsb⟩
    · omega
    · omega
    · obtain ⟨j, hj⟩ := List.mem_iff_getElem?.mp hrR
      exact hnb (strictBest_best δ K R j r k hj hsb)

end IsoVerif.Lemmas.C01
