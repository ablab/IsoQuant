/-
C07: the model-construction stages of a run of the repaired code.  The recomputation of a chromosome writes only that
chromosome's files (`Tout c`) and leaves every file of `chrOutputs` complete (`constructTail_closing`,
`commit_mem_constructTail`): what the `_processed` lock then vouches for.
-/
import IsoVerif.Lemmas.ResumeCollect

namespace IsoVerif.Lemmas.Resume
open IsoVerif.Model.Resume

def Tfin : Path → Bool
  | .final _ => true
  | .finalLin _ => true
  | .tpm _ => true
  | .finalGz _ => true
  | _ => false

theorem Tfin_finalOf (cfg : Cfg) (s : Stream) : Tfin (finalOf cfg s) = true := by
  unfold finalOf; split <;> rfl

theorem finalOf_cases (cfg : Cfg) (s : Stream) : finalOf cfg s = .final s ∨ finalOf cfg s = .finalGz s := by
  unfold finalOf; split <;> simp

theorem aggInit_all {P : Ev → Bool} {cfg : Cfg} {main lin : Stream → Path}
    (h : ∀ s, P (.create (main s)) = true ∧ P (.create (lin s)) = true) : (aggInit cfg main lin).all P = true := by
  simp [aggInit, List.all_flatMap, h]

def SavesOK (cfg : Cfg) (fs : FS) : Prop :=
  fs.good .info = true ∧ ∀ c ∈ cfg.chrs, fs.good (.multimap c) = true ∧ fs.good (.save c) = true

theorem savesOK_of_lock {cfg : Cfg} {fs : FS} (h : J cfg fs) (hlock : fs.has .lock = true) : SavesOK cfg fs := by
  have hgl := h.2 .lock hlock
  refine ⟨hgl .info (by simp [guarded]), fun c hc => ⟨?_, ?_⟩⟩
  · exact hgl _ (by simp only [guarded, List.mem_cons, List.mem_flatMap, List.not_mem_nil, or_false]; exact Or.inr ⟨c, hc, Or.inl rfl⟩)
  · exact hgl _ (by simp only [guarded, List.mem_cons, List.mem_flatMap, List.not_mem_nil, or_false]; exact Or.inr ⟨c, hc, Or.inr rfl⟩)

theorem savesOK_frame {cfg : Cfg} {fs fs' : FS} (h : SavesOK cfg fs) (hi : fs' .info = fs .info)
    (hm : ∀ c, fs' (.multimap c) = fs (.multimap c)) (hs : ∀ c, fs' (.save c) = fs (.save c)) : SavesOK cfg fs' := by
  refine ⟨by simp only [FS.good, hi]; exact h.1, fun c hc => ⟨?_, ?_⟩⟩
  · simp only [FS.good, hm]; exact (h.2 c hc).1
  · simp only [FS.good, hs]; exact (h.2 c hc).2

theorem constructPre_T (cfg : Cfg) (fs : FS) : Within Tfin (constructPre cfg fs) := by
  intro e he
  simp only [constructPre, eventsOf, eventsOf_evs] at he
  exact List.all_eq_true.mp (aggInit_all (P := fun e => Tfin e.path) fun s => ⟨Tfin_finalOf cfg s, rfl⟩) e he

-- `AllP` stays folded, as for `constructChr_stage` below
attribute [local irreducible] AllP in
theorem constructPre_stage {cfg : Cfg} {fs : FS} (h : J cfg fs) (hsv : SavesOK cfg fs) :
    Good cfg fs (runActs (constructPre cfg fs) fs) := by
  unfold constructPre
  have hinfo : fs.good .info = true := hsv.1
  have hck : ChecksOK (Act.exist .info :: evs (aggInit cfg (finalOf cfg) Path.finalLin)) fs :=
    ⟨good_has hinfo, checks_evs _ _⟩
  have hev : eventsOf (Act.exist .info :: evs (aggInit cfg (finalOf cfg) Path.finalLin)) = aggInit cfg (finalOf cfg) Path.finalLin := by
    simp [eventsOf]
  have h1 : AllP (J cfg) fs (aggInit cfg (finalOf cfg) Path.finalLin) := by
    apply allJ_of_bodyOK (L := []) h
    · refine aggInit_all fun s => ⟨?_, by simp [Ev.path, isLock, locksOf]⟩
      rcases finalOf_cases cfg s with e | e <;> simp [Ev.path, e, isLock, locksOf]
    · intro l hl; simp at hl
  exact (good_of_checks hck (by rw [hev]; exact h1)).1

/-- the files a task opens before it reads the save file (aggregator, GFF printers, its own SQANTI-like printer) -/
def constructHead (cfg : Cfg) (c : Chr) : List Ev :=
  aggInit cfg (fun s => .part s c) (fun s => .partLin s c) ++ (sqStreams cfg).map (fun s => Ev.create (.part s c))

/-- what the recomputation of chromosome `c` writes after it read the save file, up to (excluding) the `_processed` lock -/
def constructTail (cfg : Cfg) (c : Chr) (t : Tok) : List Ev :=
  (ungroupedGlobal cfg).flatMap (dumpUngrouped c t) ++ (profileGlobal cfg).flatMap (dumpProfile c t)
            ++ (groupedGlobal cfg).flatMap (dumpGrouped c t) ++ (profileGrouped cfg).flatMap (dumpProfile c t)
            ++ [.create (.readStat c), .commit (.readStat c) t]
            ++ (modelUngrouped cfg).flatMap (dumpUngrouped c t) ++ (modelGrouped cfg).flatMap (dumpGrouped c t)
            ++ (trStatPaths cfg c).flatMap (fun p => [Ev.create p, Ev.commit p t])
            ++ (printerStreams cfg).map (fun s => Ev.commit (.part s c) t)

def constructBody (cfg : Cfg) (c : Chr) (t : Tok) : List Ev := constructHead cfg c ++ constructTail cfg c t

theorem constructChr_fixed (cfg : Cfg) (rs : Bool) (c : Chr) (fs : FS) (hb : (rs && fs.has (.processed c)) = false) :
    constructChr fixed cfg rs c fs =
      Act.load (.multimap c) :: evs (constructHead cfg c) ++ [Act.load (.save c)] ++
        evs (constructTail cfg c (tokOf (fs.good .info && refOK cfg fs)) ++ [Ev.create (.processed c)]) := by
  have h1 (l : List Stream) : l.filter (fun _ => true) = l := List.filter_eq_self.mpr fun _ _ => rfl
  have h2 (l : List Stream) : l.filter (fun _ => false) = [] := List.filter_eq_nil_iff.mpr fun _ _ => Bool.false_ne_true
  simp [constructChr, hb, fixed, constructHead, constructTail, h1, h2]

/-- paths written by the model construction of chromosome `c` -/
def Tcon (c : Chr) : Path → Bool
  | .part _ c' => c' == c
  | .partLin _ c' => c' == c
  | .partStats _ c' => c' == c
  | .readStat c' => c' == c
  | .trStat c' => c' == c
  | .processed c' => c' == c
  | _ => false

/-- the per-chromosome files of chromosome `c`: what the `_processed` lock of `c` may vouch for -/
def Tout (c : Chr) : Path → Bool
  | .part _ c' | .partLin _ c' | .partStats _ c' | .readStat c' | .trStat c' => c' == c
  | _ => false

theorem Tcon_of_Tout {c : Chr} {p : Path} (h : Tout c p = true) : Tcon c p = true := by
  cases p <;> first | exact h | cases h

theorem bodyOK_of_Tout {c : Chr} {es : List Ev} (h : es.all (fun e => Tout c e.path) = true) :
    bodyOK [.processed c] es = true := by
  rw [List.all_eq_true] at h
  rw [bodyOK, List.all_eq_true]
  intro e he
  have := h e he
  revert this
  cases e.path <;> simp [Tout, isLock, locksOf]

theorem constructBody_out (cfg : Cfg) (c : Chr) (t : Tok) :
    (constructBody cfg c t).all (fun e => Tout c e.path) = true := by
  simp only [constructBody, constructHead, constructTail, List.all_append, List.all_flatMap, List.all_map, Bool.and_eq_true]
  simp [aggInit_all, dumpUngrouped, dumpGrouped, dumpProfile, Tout, Ev.path]
  exact fun p hp => by rw [mem_trStatPaths hp]; simp

theorem constructBody_T (cfg : Cfg) (c : Chr) (t : Tok) : (constructBody cfg c t).all (fun e => Tcon c e.path) = true :=
  List.all_eq_true.mpr fun e he => Tcon_of_Tout (List.all_eq_true.mp (constructBody_out cfg c t) e he)

/-- everything the model-construction task of chromosome `c` reads, checks or writes -/
def Rcon (c : Chr) : Path → Bool
  | .info => true
  | .multimap c' => c' == c
  | .save c' => c' == c
  | .part _ c' => c' == c
  | .partLin _ c' => c' == c
  | .partStats _ c' => c' == c
  | .readStat c' => c' == c
  | .trStat c' => c' == c
  | .processed c' => c' == c
  | .refFa => true
  | .refFaiData => true
  | _ => false

theorem Rcon_of_Tcon {c : Chr} (p : Path) (h : Tcon c p = true) : Rcon c p = true := by
  cases p <;> first | exact h | cases h

theorem constructChr_acts (v : Variant) (cfg : Cfg) (rs : Bool) (c : Chr) (fs : FS) :
    (constructChr v cfg rs c fs).all (actIn (Tcon c) (Rcon c)) = true := by
  unfold constructChr
  split
  · simp only [List.all_append, List.all_cons, List.all_nil, List.all_map, Bool.and_eq_true, List.all_eq_true]
    exact ⟨⟨by simp [actIn, Rcon], by simp [actIn, Rcon], trivial⟩, fun p hp => by simp [mem_trStatPaths hp, actIn, Rcon]⟩
  · simp only [List.all_cons, List.all_append, actIn_evs, List.all_nil, List.all_flatMap, List.all_map, List.all_filter, Bool.and_eq_true]
    simp [aggInit_all, dumpUngrouped, dumpGrouped, dumpProfile, Tcon, Rcon, actIn, Ev.path]
    intro p hp; simp [mem_trStatPaths hp]

theorem constructChr_T (v : Variant) (cfg : Cfg) (rs : Bool) (c : Chr) (fs : FS) :
    Within (Tcon c) (constructChr v cfg rs c fs) := within_of_actIn (constructChr_acts v cfg rs c fs)

theorem closing_dumpUngrouped (c : Chr) (s : Stream) : Closing (dumpUngrouped c .good s) := by
  intro fs e he
  simp only [dumpUngrouped, List.mem_cons, List.not_mem_nil, or_false] at he
  rcases he with rfl | rfl | rfl | rfl <;> simp [dumpUngrouped, applyAll, apply, FS.good, FS.set, Ev.path, Ev.val]

theorem closing_dumpGrouped (c : Chr) (s : Stream) : Closing (dumpGrouped c .good s) := by
  intro fs e he
  simp only [dumpGrouped, List.mem_cons, List.not_mem_nil, or_false] at he
  rcases he with rfl | rfl | rfl | rfl <;> simp [dumpGrouped, applyAll, apply, FS.good, FS.set, Ev.path, Ev.val]

theorem constructTail_closing (cfg : Cfg) (c : Chr) : Closing (constructTail cfg c .good) :=
  have hp (l : List Stream) : Closing (l.flatMap (dumpProfile c .good)) := closing_flatMap fun _ => closing_create_commit _
  closing_append (closing_append (closing_append (closing_append (closing_append (closing_append (closing_append
    (closing_append (closing_flatMap (closing_dumpUngrouped c)) (hp _)) (closing_flatMap (closing_dumpGrouped c))) (hp _))
    (closing_create_commit _)) (closing_flatMap (closing_dumpUngrouped c))) (closing_flatMap (closing_dumpGrouped c)))
    (closing_flatMap fun _ => closing_create_commit _)) (closing_map fun _ => closing_commit _)

theorem commit_mem_constructTail (cfg : Cfg) (c : Chr) (t : Tok) :
    ∀ d ∈ chrOutputs cfg c, Ev.commit d t ∈ constructTail cfg c t := by
  intro d hd
  simp only [chrOutputs, ungrouped, grouped, profile, List.mem_append, List.mem_map, List.mem_flatMap, List.mem_cons,
    List.not_mem_nil, or_false] at hd
  simp only [constructTail, dumpUngrouped, dumpGrouped, dumpProfile, List.mem_append, List.mem_map, List.mem_flatMap,
    List.mem_cons, List.not_mem_nil, or_false]
  rcases hd with (((⟨s, hs, rfl⟩ | ⟨s, hs | hs, rfl | rfl⟩) | ⟨s, hs | hs, rfl | rfl⟩) | ⟨s, hs | hs, rfl⟩) | rfl | hd
  all_goals simp [*]

theorem constructBody_good (cfg : Cfg) (c : Chr) (fs : FS) :
    ∀ d ∈ chrOutputs cfg c, (applyAll fs (constructBody cfg c .good)).good d = true := by
  intro d hd
  rw [constructBody, applyAll_append]
  exact (constructTail_closing cfg c).good_of_commit (commit_mem_constructTail cfg c .good d hd) _

theorem readStat_mem_chrOutputs (cfg : Cfg) (c : Chr) : Path.readStat c ∈ chrOutputs cfg c := by simp [chrOutputs]
theorem trStat_mem_chrOutputs (cfg : Cfg) (c : Chr) : ∀ p ∈ trStatPaths cfg c, p ∈ chrOutputs cfg c := by
  intro p hp; simp only [chrOutputs, List.mem_append, List.mem_cons]; exact Or.inr (Or.inr hp)

theorem checks_loads_nil {ps : List Path} {fs : FS} (h : ∀ p ∈ ps, fs.good p = true) : ChecksOK (ps.map Act.load) fs :=
  List.append_nil (ps.map Act.load) ▸ checks_loads (f := id) h trivial

theorem eventsOf_loads_nil (ps : List Path) : eventsOf (ps.map Act.load) = [] :=
  List.append_nil (ps.map Act.load) ▸ eventsOf_loads ps id []

-- `AllP` stays folded (unfolding it along the symbolic event list is what is slow)
attribute [local irreducible] AllP in
theorem constructChr_stage {cfg : Cfg} (rs : Bool) {fs : FS} (h : J cfg fs) {c : Chr} (hc : c ∈ cfg.chrs)
    (hsv : SavesOK cfg fs) (hnp : rs = false → fs.has (.processed c) = false) (href : refOK cfg fs = true) :
    Good cfg fs (runActs (constructChr fixed cfg rs c fs) fs) ∧
      (runActs (constructChr fixed cfg rs c fs) fs).fs.has (.processed c) = true := by
  have hinfo : fs.good .info = true := hsv.1
  have hmm : fs.good (.multimap c) = true := (hsv.2 c hc).1
  have hsave : fs.good (.save c) = true := (hsv.2 c hc).2
  by_cases hb : (rs && fs.has (.processed c)) = true
  · simp only [constructChr, hb, if_true]
    simp only [Bool.and_eq_true] at hb
    have hg := h.2 (.processed c) hb.2
    simp only [guarded, hc, if_true] at hg
    have hck : ChecksOK ([Act.load (.multimap c), Act.load (.readStat c)] ++ (trStatPaths cfg c).map Act.load) fs :=
      ⟨hmm, hg _ (readStat_mem_chrOutputs cfg c), checks_loads_nil (fun p hp => hg _ (trStat_mem_chrOutputs cfg c p hp))⟩
    have hev0 : eventsOf ([Act.load (.multimap c), Act.load (.readStat c)] ++ (trStatPaths cfg c).map Act.load) = [] := by
      simp [eventsOf, eventsOf_loads_nil]
    obtain ⟨hgood, hfs⟩ := good_of_checks hck (by rw [hev0]; exact AllP_nil h)
    simp only [hev0, applyAll] at hfs
    exact ⟨hgood, by rw [hfs]; exact hb.2⟩
  · have hb' : (rs && fs.has (.processed c)) = false := by simpa using hb
    have hnproc : fs.has (.processed c) = false := by
      cases rs with
      | false => exact hnp rfl
      | true => simpa using hb
    rw [constructChr_fixed cfg rs c fs hb']
    have ht : tokOf (fs.good .info && refOK cfg fs) = .good := by simp [tokOf, hinfo, href]
    rw [ht]
    generalize hA : constructHead cfg c = A
    generalize hX : constructTail cfg c .good = X
    have hbody : constructBody cfg c .good = A ++ X := by subst hA; subst hX; rfl
    have hAT : A.all (fun e => Tcon c e.path) = true := by
      have := constructBody_T cfg c .good; rw [hbody, List.all_append, Bool.and_eq_true] at this; exact this.1
    have hck : ChecksOK (Act.load (.multimap c) :: evs A ++ [Act.load (.save c)] ++ evs (X ++ [Ev.create (.processed c)])) fs := by
      refine ⟨hmm, ?_⟩
      show ChecksOK ((evs A ++ [Act.load (.save c)]) ++ evs (X ++ [Ev.create (.processed c)])) fs
      rw [checks_append, checks_append]
      refine ⟨⟨checks_evs _ _, ?_, trivial⟩, checks_evs _ _⟩
      simp only [eventsOf_evs, FS.good]; rw [frame (Tcon c) (List.all_eq_true.mp hAT) rfl]; exact hsave
    have hev : eventsOf (Act.load (.multimap c) :: evs A ++ [Act.load (.save c)] ++ evs (X ++ [Ev.create (.processed c)]))
        = constructBody cfg c .good ++ [Ev.create (.processed c)] := by
      simp [eventsOf, eventsOf_append, hbody]
    obtain ⟨hall, hhas⟩ := allJ_body_lock h (L := [.processed c]) (lk := .processed c)
      (bodyOK_of_Tout (constructBody_out cfg c .good))
      (by intro l hl; simp only [List.mem_cons, List.not_mem_nil, or_false] at hl; subst hl; exact hnproc) rfl
      (by intro d hd; simp only [guarded, hc, if_true] at hd; exact constructBody_good cfg c fs d hd)
    obtain ⟨hgood, hfs⟩ := good_of_checks hck (by rw [hev]; exact hall)
    rw [hev] at hfs
    exact ⟨hgood, by rw [hfs]; exact hhas⟩

theorem dropStage_T (v : Variant) (cfg : Cfg) (fs : FS) : Within isStageLock (dropStage v cfg fs) := by
  unfold dropStage; split
  · exact within_rmAll fun p hp => by obtain ⟨c, _, rfl⟩ := List.mem_map.mp hp; rfl
  · exact within_nil _

theorem drop_stage {cfg : Cfg} (wf : WF cfg) {fs : FS} (h : J cfg fs) :
    Good cfg fs (runActs (dropStage fixed cfg fs) fs) ∧
      (∀ c ∈ cfg.chrs, (runActs (dropStage fixed cfg fs) fs).fs.has (.processed c) = false) ∧
      (∀ p, (∀ c, p ≠ .processed c) → (runActs (dropStage fixed cfg fs) fs).fs p = fs p) := by
  unfold dropStage
  rw [if_pos (by simp [fixed])]
  obtain ⟨hg, hval, _⟩ := removeLocks_stage h (L := (cfg.chrs.filter (fun c => fs.has (.processed c))).map Path.processed)
    (nodup_map_inj (wf.nd.sublist List.filter_sublist) (fun a b e => by injection e))
    (by simp only [List.mem_map, List.mem_filter]; rintro _ ⟨c, ⟨_, hh⟩, rfl⟩; exact hh)
    (by simp only [List.mem_map]; rintro _ ⟨c, _, rfl⟩; rfl)
  refine ⟨hg, fun c hc => gone_of_removed hval fun hq => List.mem_map.mpr ⟨c, List.mem_filter.mpr ⟨hc, hq⟩, rfl⟩,
    fun p hp => ?_⟩
  rw [hval, if_neg]; simp only [List.mem_map]; rintro ⟨c, _, rfl⟩; exact hp c rfl

end IsoVerif.Lemmas.Resume
