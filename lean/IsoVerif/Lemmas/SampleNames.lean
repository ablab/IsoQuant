/-
C10 (experiment names) — lemmas about the renaming of duplicate / missing experiment names by the description
parsers (`Model/Samples.lean`: `yamlStepR`, `listStepR` with the repaired test `recheck = true`).
-/
import IsoVerif.Model.Samples
import IsoVerif.Lemmas.Samples
import Std.Data.String.ToNat

namespace IsoVerif.Lemmas.C10
open IsoVerif.Model.C10

/-- the name an entry ends up with is not registered yet, whenever the repaired test lets it pass -/
theorem chosen_name_fresh (pfx : String) (st : ParseSt) (nm0 : String)
    (h : (st.names.contains nm0 && renameBlocked true st.names nm0 (pfx ++ toString st.index)) = false) :
    chosenName pfx st nm0 ∉ st.names := by
  simp only [renameBlocked, if_true, Bool.and_eq_false_iff] at h
  unfold chosenName
  by_cases hc : st.names.contains nm0 = true
  · simp only [hc, if_true]
    rcases h with h | h
    · rw [hc] at h; exact absurd h (by decide)
    · intro hm
      have : st.names.contains (pfx ++ toString st.index) = true := by simpa using hm
      rw [this] at h; exact absurd h (by decide)
  · simp only [hc, Bool.false_eq_true, if_false]
    intro hm; exact hc (by simpa using hm)

theorem finishParse_names (st : ParseSt) (hI : NamesInv st) :
    (finishParse st).map ParsedSample.name = st.names := by
  rw [← hI.acc]
  simp [finishParse, Function.comp_def]

/-- the whole YAML loop, arbitrary given names: whenever the repaired parser accepts the description there is a name
    per entry – the entry's own `name`, or `<prefix><position>` – such that the result is the concatenation of what
    each entry yields BY ITSELF under that name -/
theorem yamlLoopR_own_any (pfx : String) (entries : List YamlEntry) (st st' : ParseSt) (outs : List ParsedSample)
    (hI : OwnInv st outs) (h : yamlLoopR true pfx st entries = some st') :
    ∃ ns : List String, ns.length = entries.length ∧
      (parseEachOwn (entries.zip ns)).map (fun rs => outs ++ rs) = some (finishParse st') ∧
      NamesInv st' ∧
      ∀ (i : Nat) (hi : i < entries.length) (hn : i < ns.length),
        entries[i].name = some ns[i] ∨ ns[i] = pfx ++ toString (st.index + i) := by
  induction entries generalizing st outs with
  | nil =>
    simp only [yamlLoopR, Option.some.injEq] at h
    subst h
    exact ⟨[], rfl, by simp [parseEachOwn, hI.fin], hI.names, by intro i hi; simp at hi⟩
  | cons e es ih =>
    simp only [yamlLoopR] at h
    cases hs : yamlStepR true pfx st e with
    | none => simp [hs] at h
    | some st1 =>
      simp only [hs] at h
      rw [yamlStepR_eq] at hs
      have hc : (st.names.contains (startName pfx st e) &&
          renameBlocked true st.names (startName pfx st e) (pfx ++ toString st.index)) = false := by
        cases hb : (st.names.contains (startName pfx st e) &&
          renameBlocked true st.names (startName pfx st e) (pfx ++ toString st.index)) with
        | false => rfl
        | true =>
          unfold yamlBody at hs
          dsimp only at hs
          rw [hb] at hs
          simp at hs
      have hstep := yamlBody_own true pfx st outs e (startName pfx st e) hI hc (chosen_name_fresh _ _ _ hc)
      cases hp : parseOwnYaml e (chosenName pfx st (startName pfx st e)) with
      | none =>
        simp only [hp] at hstep
        rw [hstep] at hs; simp at hs
      | some r =>
        simp only [hp] at hstep
        obtain ⟨st1', hb, hI1, hidx, _⟩ := hstep
        rw [hb] at hs
        simp only [Option.some.injEq] at hs
        subst hs
        obtain ⟨ns, hlen, hpe, hni, hnm⟩ := ih st1' (outs ++ r.toList) hI1 h
        refine ⟨chosenName pfx st (startName pfx st e) :: ns, by simp [hlen], ?_, hni, ?_⟩
        · simp only [List.zip_cons_cons, parseEachOwn, hp]
          cases hq : parseEachOwn (es.zip ns) with
          | none => simp [hq] at hpe
          | some rs =>
            simp only [hq, Option.map_some, Option.some.injEq] at hpe ⊢
            rw [← hpe, List.append_assoc]
        · intro i hi hn
          cases i with
          | zero =>
            simp only [List.getElem_cons_zero, Nat.add_zero]
            unfold chosenName
            by_cases hcn : st.names.contains (startName pfx st e) = true
            · right; rw [if_pos hcn]
            · simp only [hcn, Bool.false_eq_true, if_false]
              unfold startName
              cases hname : e.name with
              | none => right; rfl
              | some n => left; rfl
          | succ j =>
            simp only [List.getElem_cons_succ]
            have := hnm j (by simpa using hi) (by simpa using hn)
            rw [hidx] at this
            have he : st.index + 1 + j = st.index + (j + 1) := by omega
            rw [he] at this
            exact this

/-- invariant of the line loop: the registered names, and the name of the pending experiment is not among them -/
structure ListNamesInv (s : ListSt) : Prop where
  st : NamesInv s.st
  cur : s.curName ∉ s.st.names

theorem flush_namesInv (s : ListSt) (hI : ListNamesInv s) : NamesInv s.flush := by
  unfold ListSt.flush
  split
  · exact hI.st
  · exact namesInv_push s.st s.curName (s.cur, none) _ _ hI.st hI.cur

theorem listStepR_names (pfx : String) (s s' : ListSt) (l : ListLine)
    (h : listStepR true pfx s l = some s') (hI : ListNamesInv s) : ListNamesInv s' := by
  cases l with
  | header nm =>
    simp only [listStepR] at h
    generalize (if nm.isEmpty = true then pfx ++ toString s.flush.index else nm) = nm0 at h
    by_cases hc : (s.flush.names.contains nm0 && renameBlocked true s.flush.names nm0 (pfx ++ toString s.flush.index)) = true
    · rw [if_pos hc] at h; simp at h
    · rw [if_neg hc] at h
      have hfresh := chosen_name_fresh pfx s.flush nm0 (by simpa using hc)
      simp only [Option.some.injEq] at h
      subst h
      have hfl := flush_namesInv s hI
      exact ⟨⟨hfl.nodup, hfl.acc⟩, hfresh⟩
  | files fs label =>
    simp only [listStepR] at h
    cases ha : addFiles (dictGet s.st.dict s.curName) (fs.map (fun f => (f.path, lineLabel fs label))) with
    | none => simp [ha] at h
    | some d' =>
      simp only [ha, Option.some.injEq] at h
      subst h
      exact ⟨⟨hI.st.nodup, hI.st.acc⟩, hI.cur⟩

theorem listLoopR_names (pfx : String) (lines : List ListLine) (s s' : ListSt)
    (h : listLoopR true pfx s lines = some s') (hI : ListNamesInv s) : ListNamesInv s' := by
  induction lines generalizing s with
  | nil =>
    simp only [listLoopR, Option.some.injEq] at h
    exact h ▸ hI
  | cons l ls ih =>
    simp only [listLoopR] at h
    cases hs : listStepR true pfx s l with
    | none => simp [hs] at h
    | some s1 =>
      simp only [hs] at h
      exact ih s1 h (listStepR_names pfx s s1 l hs hI)

theorem positional_inj (pfx : String) (i j : Nat) (h : pfx ++ toString i = pfx ++ toString j) : i = j := by
  have h1 := congrArg String.toList h
  simp only [String.toList_append, List.append_cancel_left_eq] at h1
  exact Nat.repr_inj.mp (String.toList_inj.mp h1)

end IsoVerif.Lemmas.C10
