/-
`Char.toUpper` on ASCII letters: which characters `.upper()` sends to a given upper-case letter.  Core Lean only.
-/
namespace IsoVerif.Lemmas

/-- `c.upper() == X` for an upper-case ASCII letter `X` whose lower-case form is `x`: exactly `X` and `x` -/
theorem toUpper_eq_iff {c X x : Char} (hX : 65 ≤ X.val.toNat ∧ X.val.toNat ≤ 90) (hx : x.val.toNat = X.val.toNat + 32) :
    c.toUpper = X ↔ c = X ∨ c = x := by
  have ext : ∀ {a b : Char}, a = b ↔ a.val.toNat = b.val.toNat :=
    ⟨fun e => by rw [e], fun e => Char.ext (UInt32.toNat_inj.1 e)⟩
  have ha : 'a'.val.toNat = 97 := by decide
  have hz : 'z'.val.toNat = 122 := by decide
  unfold Char.toUpper
  split
  · rename_i hl
    obtain ⟨l1, l2⟩ := hl
    rw [UInt32.le_iff_toNat_le] at l1 l2
    have key : (c.val + ('A'.val - 'a'.val)).toNat = c.val.toNat - 32 := by
      rw [UInt32.toNat_add, show ('A'.val - 'a'.val).toNat = 4294967264 by decide]; omega
    rw [ext, ext, ext]
    show (c.val + ('A'.val - 'a'.val)).toNat = _ ↔ _
    rw [key]; omega
  · rename_i hl
    rw [UInt32.le_iff_toNat_le, UInt32.le_iff_toNat_le] at hl
    refine ⟨Or.inl, fun h => h.resolve_right fun e => ?_⟩
    rw [ext] at e; omega

theorem toUpper_A (c : Char) : c.toUpper = 'A' ↔ c = 'A' ∨ c = 'a' := toUpper_eq_iff (by decide) (by decide)
theorem toUpper_C (c : Char) : c.toUpper = 'C' ↔ c = 'C' ∨ c = 'c' := toUpper_eq_iff (by decide) (by decide)
theorem toUpper_G (c : Char) : c.toUpper = 'G' ↔ c = 'G' ∨ c = 'g' := toUpper_eq_iff (by decide) (by decide)
theorem toUpper_T (c : Char) : c.toUpper = 'T' ↔ c = 'T' ∨ c = 't' := toUpper_eq_iff (by decide) (by decide)

end IsoVerif.Lemmas
