/-
Helper lemmas for C15 (serialisation round trips): big-endian ints, writer sequences, the generic
"reader undoes writer" predicate `RT` and its closure under lists, one `RT` lemma per primitive of
src/serialization.py, and `Reads`: a statement sequence of writers against the `do` block of the matching reader,
consumed one statement at a time (how the object and stream round trips are composed).  Core Lean only.
The domain of `RT_writeStringOrNone` is `IdOk` of Props/C15Objects.lean (bridge: `idOk_utf8`), that of `RT_writePenalty` is `PenaltyExact`.
-/
import IsoVerif.Model.Serial
import IsoVerif.Lemmas.AssocList

namespace IsoVerif.Lemmas.Serial
open IsoVerif.Gen IsoVerif.Model IsoVerif.Model.Serial

theorem toBE_length (k n : Nat) : (toBE k n).length = k := by
  induction k generalizing n with
  | zero => rfl
  | succ k ih => simp [toBE, ih]

theorem fromBE_append (a b : Bytes) :
    fromBE (a ++ b) = b.foldl (fun acc x => acc * 256 + x.toNat) (fromBE a) := by
  simp [fromBE, List.foldl_append]

theorem fromBE_toBE (k n : Nat) (h : n < 256 ^ k) : fromBE (toBE k n) = n := by
  induction k generalizing n with
  | zero => simp [toBE, fromBE] at *; omega
  | succ k ih =>
    have h' : n / 256 < 256 ^ k := by
      rw [Nat.pow_succ] at h
      exact Nat.div_lt_of_lt_mul (by omega)
    have hb : (UInt8.ofNat (n % 256)).toNat = n % 256 := by simp
    simp only [toBE, fromBE_append, ih _ h', List.foldl_cons, List.foldl_nil, hb]
    omega

theorem intToBytes_eq_some {k : Nat} {v : Int} {bs : Bytes} (h : intToBytes k v = some bs) :
    0 ≤ v ∧ v.toNat < 256 ^ k ∧ bs = toBE k v.toNat := by
  unfold intToBytes at h
  split at h
  · rename_i hv; cases h; exact ⟨hv.1, hv.2, rfl⟩
  · cases h

theorem intToBytes_isSome_iff (k : Nat) (v : Int) :
    (intToBytes k v).isSome ↔ (0 ≤ v ∧ v.toNat < 256 ^ k) := by
  unfold intToBytes
  split <;> rename_i h <;> simp [h]

theorem intToBytes_length {k : Nat} {v : Int} {bs : Bytes} (h : intToBytes k v = some bs) : bs.length = k := by
  obtain ⟨_, _, rfl⟩ := intToBytes_eq_some h
  exact toBE_length _ _

@[simp] theorem seqW_nil : seqW [] = some [] := rfl

theorem seqW_cons (a : Option Bytes) (l : List (Option Bytes)) :
    seqW (a :: l) = a.bind fun x => (seqW l).map (x ++ ·) := by
  cases a <;> cases h : seqW l <;> simp [seqW, h]

theorem seqW_append (l₁ l₂ : List (Option Bytes)) :
    seqW (l₁ ++ l₂) = (seqW l₁).bind fun x => (seqW l₂).map (x ++ ·) := by
  induction l₁ with
  | nil => simp
  | cons a t ih =>
    rw [List.cons_append, seqW_cons, seqW_cons, ih]
    cases a <;> cases seqW t <;> cases seqW l₂ <;> simp

theorem seqW_seqW_cons (l l' : List (Option Bytes)) : seqW (seqW l :: l') = seqW (l ++ l') := by
  rw [seqW_cons, seqW_append]

theorem seqW_cons_eq_some_iff {a : Option Bytes} {l : List (Option Bytes)} {bs : Bytes} :
    seqW (a :: l) = some bs ↔ ∃ x y, a = some x ∧ seqW l = some y ∧ bs = x ++ y := by
  rw [seqW_cons]
  cases a <;> cases seqW l <;> simp [eq_comm]

theorem seqW_nil_eq_some_iff {bs : Bytes} : seqW [] = some bs ↔ bs = [] := by
  simp [seqW, eq_comm]

theorem seqW_append_eq_some_iff {l₁ l₂ : List (Option Bytes)} {bs : Bytes} :
    seqW (l₁ ++ l₂) = some bs ↔ ∃ x y, seqW l₁ = some x ∧ seqW l₂ = some y ∧ bs = x ++ y := by
  rw [seqW_append]
  cases seqW l₁ <;> cases seqW l₂ <;> simp [eq_comm]

/-- writers that never write nothing: as many bytes at least as statements (fuel of the loaders) -/
theorem seqW_map_length_le {α} {w : α → Option Bytes} (hw : ∀ x b, w x = some b → 0 < b.length) :
    ∀ (l : List α) (b : Bytes), seqW (l.map w) = some b → l.length ≤ b.length
  | [], _, _ => Nat.zero_le _
  | x :: t, b, h => by
    obtain ⟨b1, b2, h1, h2, rfl⟩ := seqW_cons_eq_some_iff.mp h
    have := hw x b1 h1
    have := seqW_map_length_le hw t b2 h2
    simp only [List.length_cons, List.length_append]
    omega

theorem seqW_isSome_cons (a : Option Bytes) (l : List (Option Bytes)) :
    (seqW (a :: l)).isSome ↔ a.isSome ∧ (seqW l).isSome := by
  rw [seqW_cons]
  cases a <;> cases seqW l <;> simp

theorem seqW_isSome_iff (l : List (Option Bytes)) : (seqW l).isSome ↔ ∀ o ∈ l, o.isSome := by
  induction l with
  | nil => simp
  | cons a t ih => simp [seqW_isSome_cons, ih]

@[simp] theorem raise_run {α} (bs : Bytes) : (raise : Rd α).run bs = none := rfl

theorem readBytes_append (a rest : Bytes) (k : Nat) (h : a.length = k) :
    (readBytes k).run (a ++ rest) = some (a, rest) := by
  subst h
  simp [readBytes, StateT.run]

theorem readNat_toBE (k n : Nat) (rest : Bytes) (h : n < 256 ^ k) :
    (readNat k).run (toBE k n ++ rest) = some (n, rest) := by
  simp [readNat, readBytes_append _ _ _ (toBE_length k n), fromBE_toBE _ _ h]

theorem readNat_write {k n : Nat} {bs : Bytes} (rest : Bytes) (h : intToBytes k (n : Int) = some bs) :
    (readNat k).run (bs ++ rest) = some (n, rest) := by
  obtain ⟨_, h2, rfl⟩ := intToBytes_eq_some h
  simpa using readNat_toBE k n rest (by simpa using h2)

theorem readInt_write {k : Nat} {v : Int} {bs : Bytes} (rest : Bytes) (h : intToBytes k v = some bs) :
    (readInt k).run (bs ++ rest) = some (v, rest) := by
  obtain ⟨h1, h2, rfl⟩ := intToBytes_eq_some h
  simp [readInt, readNat_toBE _ _ rest h2]
  omega

/-- for every `x` satisfying `P` on which the writer succeeds, the reader applied to the written bytes followed by
    anything returns `x` and leaves exactly what followed -/
def RT {α} (w : α → Option Bytes) (r : Rd α) (P : α → Prop) : Prop :=
  ∀ x bs rest, P x → w x = some bs → r.run (bs ++ rest) = some (x, rest)

theorem RT.mono {α} {w : α → Option Bytes} {r : Rd α} {P Q : α → Prop} (h : RT w r P) (hq : ∀ x, Q x → P x) :
    RT w r Q := fun x bs rest hx hw => h x bs rest (hq x hx) hw

/-- the same up to a normalisation of the value (used for penalties, which are stored with 20 fractional bits) -/
def RTn {α} (w : α → Option Bytes) (r : Rd α) (norm : α → α) (P : α → Prop) : Prop :=
  ∀ x bs rest, P x → w x = some bs → r.run (bs ++ rest) = some (norm x, rest)

theorem RT.toRTn {α} {w : α → Option Bytes} {r : Rd α} {P : α → Prop} (h : RT w r P) : RTn w r id P := h

theorem RTn.toRT {α} {w : α → Option Bytes} {r : Rd α} {P : α → Prop} {norm : α → α} (h : RTn w r norm P)
    (hid : ∀ x, P x → norm x = x) : RT w r P := by
  intro x bs rest hx hw
  rw [h x bs rest hx hw, hid x hx]

/-- the reader `rd`, run on what the statement sequence `ws` wrote followed by anything, returns `y` and leaves exactly
    what followed -/
def Reads {β} (ws : List (Option Bytes)) (rd : Rd β) (y : β) : Prop :=
  ∀ bs rest, seqW ws = some bs → rd.run (bs ++ rest) = some (y, rest)

theorem Reads.nil {β} {y y' : β} (h : y = y') : Reads [] (pure y) y' := by
  intro bs rest hbs
  cases seqW_nil_eq_some_iff.mp hbs
  subst h
  rfl

/-- one statement of the writer against one `let x ← reader` of the reader, the reader returning `g x` (`Reads.cons`: `g = id`) -/
theorem Reads.consN {α β γ} {w : α → Option Bytes} {r : Rd β} {g : α → β} {P : α → Prop}
    (hrt : ∀ x bs rest, P x → w x = some bs → r.run (bs ++ rest) = some (g x, rest))
    {x : α} (hx : P x) {l : List (Option Bytes)} {f : β → Rd γ} {y : γ} (hk : Reads l (f (g x)) y) :
    Reads (w x :: l) (r >>= f) y := by
  intro bs rest h
  obtain ⟨b1, b2, h1, h2, rfl⟩ := seqW_cons_eq_some_iff.mp h
  rw [List.append_assoc, StateT.run_bind, hrt x b1 _ hx h1]
  exact hk b2 rest h2

theorem Reads.cons {α β} {w : α → Option Bytes} {r : Rd α} {P : α → Prop} (hrt : RT w r P)
    {x : α} (hx : P x) {l : List (Option Bytes)} {f : α → Rd β} {y : β} (hk : Reads l (f x) y) :
    Reads (w x :: l) (r >>= f) y :=
  Reads.consN hrt.toRTn hx hk

/-- a reader step that does not touch the stream (e.g. `bool_arr[0]`) -/
theorem Reads.skip {α β} {r : Rd α} {x : α} (hr : ∀ s, r.run s = some (x, s)) {l : List (Option Bytes)}
    {f : α → Rd β} {y : β} (hk : Reads l (f x) y) : Reads l (r >>= f) y := by
  intro bs rest h
  rw [StateT.run_bind, hr]
  exact hk bs rest h

/-- a statement sequence called as one statement runs in line -/
theorem Reads.flat {β} {l l' : List (Option Bytes)} {rd : Rd β} {y : β} (h : Reads (l ++ l') rd y) :
    Reads (seqW l :: l') rd y :=
  fun bs rest hbs => h bs rest (by rwa [seqW_seqW_cons] at hbs)

theorem Reads.congr_right {β} {l₁ l₂ l₂' : List (Option Bytes)} {rd : Rd β} {y : β} (h : seqW l₂ = seqW l₂')
    (hr : Reads (l₁ ++ l₂') rd y) : Reads (l₁ ++ l₂) rd y :=
  fun bs rest hbs => hr bs rest (by rwa [seqW_append, h, ← seqW_append] at hbs)

theorem Reads.append {β γ} {l₁ l₂ : List (Option Bytes)} {rd : Rd β} {k : β → Rd γ} {y₁ : β} {y : γ}
    (h₁ : Reads l₁ rd y₁) (h₂ : Reads l₂ (k y₁) y) : Reads (l₁ ++ l₂) (rd >>= k) y := by
  intro bs rest hbs
  obtain ⟨b1, b2, hb1, hb2, rfl⟩ := seqW_append_eq_some_iff.mp hbs
  rw [List.append_assoc, StateT.run_bind, h₁ b1 _ hb1]
  exact h₂ b2 rest hb2

/-- a marker already consumed: the rest of the sequence against the rest of the reader -/
theorem Reads.tail {β} {k c : Nat} {l : List (Option Bytes)} {g : Nat → Rd β} {y : β} (hc : c < 256 ^ k)
    (h : Reads (intToBytes k (c : Nat) :: l) (readNat k >>= g) y) : Reads l (g c) y := by
  intro bs rest hbs
  have := h (toBE k c ++ bs) rest (by rw [seqW_cons, hbs]; simp [intToBytes, hc])
  rwa [List.append_assoc, StateT.run_bind, readNat_toBE _ _ _ hc] at this

theorem Reads.map {β γ} {ws : List (Option Bytes)} {rd : Rd β} {y : β} (h : Reads ws rd y) (g : β → γ) :
    Reads ws (rd >>= fun a => pure (g a)) (g y) := by
  intro bs rest hbs
  rw [StateT.run_bind, h bs rest hbs]
  rfl

theorem RT_writeNat (k : Nat) : RT (fun n : Nat => intToBytes k (n : Int)) (readNat k) (fun _ => True) :=
  fun _ _ rest _ h => readNat_write rest h

theorem readN_writes_n {α} {w : α → Option Bytes} {r : Rd α} {norm : α → α} {P : α → Prop} (hrt : RTn w r norm P) :
    ∀ l : List α, (∀ x ∈ l, P x) → Reads (l.map w) (readN r l.length) (l.map norm)
  | [], _ => Reads.nil rfl
  | x :: t, hP =>
    Reads.consN hrt (hP x (by simp)) ((readN_writes_n hrt t fun y hy => hP y (by simp [hy])).map _)

theorem readN_writes {α} {w : α → Option Bytes} {r : Rd α} {P : α → Prop} (hrt : RT w r P)
    (l : List α) (hP : ∀ x ∈ l, P x) : Reads (l.map w) (readN r l.length) l := by
  simpa using readN_writes_n hrt.toRTn l hP

theorem RTn_writeList {α} {w : α → Option Bytes} {r : Rd α} {norm : α → α} {P : α → Prop} (hrt : RTn w r norm P) :
    RTn (fun l => writeList l w) (readList r) (List.map norm) (fun l => ∀ x ∈ l, P x) := by
  intro l bs rest hP
  apply Reads.cons (RT_writeNat _) trivial
  exact readN_writes_n hrt l hP

theorem RT_writeList {α} {w : α → Option Bytes} {r : Rd α} {P : α → Prop} (hrt : RT w r P) :
    RT (fun l => writeList l w) (readList r) (fun l => ∀ x ∈ l, P x) := by
  intro l bs rest hP h
  simpa using RTn_writeList hrt.toRTn l bs rest hP h

theorem writeList_length {α} {w : α → Option Bytes} {l : List α} {bs : Bytes} (h : writeList l w = some bs) :
    l.length < 256 ^ ser_LONG_INT_BYTES := by
  simp only [writeList, seqW_cons_eq_some_iff] at h
  obtain ⟨b1, _, h1, _, _⟩ := h
  have := (intToBytes_eq_some h1).2.1
  simpa using this

theorem RT_pair {w : Int → Option Bytes} {r : Rd Int} {P : Int → Prop} (hrt : RT w r P) :
    RT (fun v : Int × Int => seqW [w v.1, w v.2]) (do let a ← r; let b ← r; pure (a, b))
      (fun v => P v.1 ∧ P v.2) := by
  intro v bs rest hP
  apply Reads.cons hrt hP.1
  apply Reads.cons hrt hP.2
  exact Reads.nil rfl

theorem RT_writeListOfPairs {w : Int → Option Bytes} {r : Rd Int} {P : Int → Prop} (hrt : RT w r P) :
    RT (fun l => writeListOfPairs l w) (readListOfPairs r) (fun l => ∀ v ∈ l, P v.1 ∧ P v.2) := by
  intro l bs rest hP
  apply Reads.cons (RT_writeNat _) trivial
  exact readN_writes (RT_pair hrt) l hP

theorem RT_writeInt (k : Nat) : RT (fun v => writeInt v k) (readInt k) (fun _ => True) :=
  fun _ _ rest _ h => readInt_write rest h

theorem RT_writeShortInt : RT writeShortInt readShortInt (fun _ => True) :=
  fun _ _ rest _ h => readInt_write rest h

theorem decodeUtf8_utf8 (s : String) : decodeUtf8 (utf8 s) = some s := by
  simp [decodeUtf8, utf8, String.fromUTF8?, String.toUTF8, s.isValidUTF8, String.fromUTF8]

theorem utf8_length (s : String) : (utf8 s).length = s.utf8ByteSize := by
  unfold utf8 String.toUTF8
  rw [Array.length_toList]
  rfl

theorem RT_writeString : RT writeString readString (fun _ => True) := by
  intro s bs rest _ h
  simp only [writeString, seqW_cons_eq_some_iff, seqW_nil_eq_some_iff] at h
  obtain ⟨b1, _, h1, ⟨b2, _, h2, rfl, rfl⟩, rfl⟩ := h
  cases h2
  simp [readString, StateT.run_bind, readNat_write _ h1, readBytes_append _ _ _ rfl, decodeUtf8_utf8]

theorem RT_writeStringOrNone :
    RT writeStringOrNone readStringOrNone (fun o => ∀ s, o = some s → (utf8 s).length ≠ ser_NONE_STR_LEN) := by
  intro o bs rest hP h
  cases o with
  | none =>
    simp only [writeStringOrNone] at h
    simp [readStringOrNone, StateT.run_bind, readNat_write _ h]
  | some s =>
    simp only [writeStringOrNone, seqW_cons_eq_some_iff, seqW_nil_eq_some_iff] at h
    obtain ⟨b1, _, h1, ⟨b2, _, h2, rfl, rfl⟩, rfl⟩ := h
    cases h2
    have hne := hP s rfl
    simp [readStringOrNone, StateT.run_bind, readNat_write _ h1, hne, readBytes_append _ _ _ rfl, decodeUtf8_utf8]

theorem and_two_pow_eq_zero_iff (x i : Nat) : x &&& 2 ^ i = 0 ↔ x.testBit i = false := by
  constructor
  · intro h
    have := congrArg (fun y => y.testBit i) h
    simpa [Nat.testBit_and, Nat.testBit_two_pow_self] using this
  · intro h
    apply Nat.eq_of_testBit_eq
    intro j
    by_cases hj : i = j
    · subst hj; simp [Nat.testBit_and, h]
    · simp [Nat.testBit_and, Nat.testBit_two_pow_of_ne hj]

/-- arithmetic reading of the three bit operations of `write_int_neg` / `read_int_neg` on naturals: `or_bit31`, `mask31`,
    `bit31_clear_iff` -/
theorem or_bit31 (a : Nat) (h : a < 2 ^ 31) : a ||| (1 <<< 31) = a + 2 ^ 31 := by
  rw [Nat.one_shiftLeft]; exact Nat.or_two_pow_eq_add_of_lt h

theorem mask31 (x : Nat) : x &&& ((1 <<< 31) - 1) = x % 2 ^ 31 := by
  rw [Nat.one_shiftLeft]; exact Nat.and_two_pow_sub_one_eq_mod x 31

theorem pow4 : 256 ^ ser_LONG_INT_BYTES = 2 ^ 32 := by decide

theorem bit31_clear_iff (x : Nat) : x &&& (1 <<< 31) = 0 ↔ x / 2 ^ 31 % 2 = 0 := by
  rw [Nat.one_shiftLeft, and_two_pow_eq_zero_iff, Nat.testBit_eq_decide_div_mod_eq]
  simp only [decide_eq_false_iff_not]
  omega

theorem and_bit31_ne_zero_of_ge (x : Nat) (h1 : 2 ^ 31 ≤ x) (h2 : x < 2 ^ 32) : x &&& (1 <<< 31) ≠ 0 := by
  rw [ne_eq, bit31_clear_iff]
  omega

theorem writeIntNeg_eq (v : Int) :
    writeIntNeg v =
      if -(2 ^ 31 : Int) < v ∧ v < 2 ^ 31 then
        some (toBE ser_LONG_INT_BYTES (if v < 0 then v.natAbs + 2 ^ 31 else v.toNat))
      else none := by
  unfold writeIntNeg intToBytes
  simp only [pow4, ne_eq, bit31_clear_iff, ite_not]
  by_cases hv : v < 0
  · simp only [hv, if_true]
    by_cases hs : v.natAbs < 2 ^ 31
    · rw [or_bit31 _ hs, if_pos (by omega), if_pos (by omega), if_pos (by omega), Int.toNat_natCast]
    · have := @Nat.left_le_or v.natAbs (1 <<< 31)
      rw [if_neg (show ¬(-(2 ^ 31 : Int) < v ∧ v < 2 ^ 31) by omega)]
      split
      · exact if_neg (by omega)
      · rfl
  · simp only [hv, if_false]
    by_cases hs : v < 2 ^ 31
    · rw [if_pos (by omega), if_pos (by omega), if_pos (by omega)]
    · rw [if_neg (show ¬(-(2 ^ 31 : Int) < v ∧ v < 2 ^ 31) by omega)]
      split
      · exact if_neg (by omega)
      · rfl

theorem writeIntNeg_isSome_iff (v : Int) : (writeIntNeg v).isSome ↔ (-(2 ^ 31 : Int) < v ∧ v < 2 ^ 31) := by
  rw [writeIntNeg_eq]
  split <;> rename_i h
  · simpa using h
  · simp only [Option.isSome_none, Bool.false_eq_true, false_iff]; exact h

theorem readIntNeg_run (bs : Bytes) :
    readIntNeg.run bs =
      let v := fromBE (bs.take ser_LONG_INT_BYTES)
      some (if v &&& (1 <<< 31) ≠ 0 then -((v &&& ((1 <<< 31) - 1) : Nat) : Int) else (v : Int),
            bs.drop ser_LONG_INT_BYTES) := by
  simp only [readIntNeg, readNat, readBytes, StateT.run, bind, StateT.bind, pure, StateT.pure,
    Option.bind]
  split <;> rfl

theorem readIntNeg_nonneg (n : Nat) (rest : Bytes) (h : n < 2 ^ 31) :
    readIntNeg.run (toBE ser_LONG_INT_BYTES n ++ rest) = some ((n : Int), rest) := by
  have hlt : n < 256 ^ ser_LONG_INT_BYTES := by rw [pow4]; omega
  have hbit : n &&& (1 <<< 31) = 0 := by
    rw [bit31_clear_iff]; omega
  rw [readIntNeg_run]
  have hl := toBE_length ser_LONG_INT_BYTES n
  simp only [List.take_left' hl, List.drop_left' hl, fromBE_toBE _ _ hlt]
  rw [if_neg (by simpa using hbit)]

theorem readIntNeg_neg (a : Nat) (rest : Bytes) (h : a < 2 ^ 31) :
    readIntNeg.run (toBE ser_LONG_INT_BYTES (a + 2 ^ 31) ++ rest) = some (-(a : Int), rest) := by
  have hlt : a + 2 ^ 31 < 256 ^ ser_LONG_INT_BYTES := by rw [pow4]; omega
  have hne := and_bit31_ne_zero_of_ge (a + 2 ^ 31) (by omega) (by omega)
  have hmod : (a + 2 ^ 31) % 2 ^ 31 = a := by omega
  rw [readIntNeg_run]
  have hl := toBE_length ser_LONG_INT_BYTES (a + 2 ^ 31)
  simp only [List.take_left' hl, List.drop_left' hl, fromBE_toBE _ _ hlt]
  rw [if_pos hne, mask31, hmod]

theorem RT_writeIntNeg : RT writeIntNeg readIntNeg (fun _ => True) := by
  intro v bs rest _ h
  rw [writeIntNeg_eq] at h
  split at h
  · rename_i hr
    cases h
    by_cases hv : v < 0
    · rw [if_pos hv, readIntNeg_neg _ rest (by omega)]
      congr 2; omega
    · rw [if_neg hv, readIntNeg_nonneg _ rest (by omega)]
      congr 2; omega
  · cases h

theorem testBit_boolBits (l : List Bool) (i acc j : Nat) :
    (boolBits l i acc).testBit j = (acc.testBit j || (decide (i ≤ j) && l.getD (j - i) false)) := by
  induction l generalizing i acc with
  | nil => simp [boolBits]
  | cons b t ih =>
    rw [boolBits, ih]
    by_cases hji : j = i
    · subst hji
      have h1 : ¬ (j + 1 ≤ j) := by omega
      cases b <;> simp [Nat.testBit_or, Nat.one_shiftLeft, Nat.testBit_two_pow_self, h1]
    · have hne : (2 ^ i).testBit j = false := Nat.testBit_two_pow_of_ne (Ne.symm hji)
      by_cases hlt : i ≤ j
      · have h1 : i + 1 ≤ j := by omega
        have h2 : j - i = (j - (i + 1)) + 1 := by omega
        cases b <;> simp [Nat.testBit_or, Nat.one_shiftLeft, hne, hlt, h1, h2]
      · have h1 : ¬ (i + 1 ≤ j) := by omega
        cases b <;> simp [Nat.testBit_or, Nat.one_shiftLeft, hne, hlt, h1]

theorem mask_test (v i : Nat) : (v &&& (1 <<< i) != 0) = v.testBit i := by
  rw [Nat.one_shiftLeft]
  cases hb : v.testBit i
  · have := (and_two_pow_eq_zero_iff v i).mpr hb
    simp [this]
  · have : v &&& 2 ^ i ≠ 0 := fun h => by
      have := (and_two_pow_eq_zero_iff v i).mp h
      simp [hb] at this
    simp [this]

theorem map_range_getD (l : List Bool) : (List.range l.length).map (fun i => l.getD i false) = l := by
  apply List.ext_getElem
  · simp
  · intro i h1 h2
    simp at h1
    simp [h1]

theorem RT_writeBoolArray (n : Nat) : RT writeBoolArray (readBoolArray n) (fun l => l.length = n) := by
  intro l bs rest hn h
  subst hn
  unfold writeBoolArray at h
  split at h
  · simp only [readBoolArray, StateT.run_bind, readNat_write rest h, Option.bind_eq_bind, Option.bind_some,
      StateT.run_pure, Option.pure_def, Option.some.injEq, Prod.mk.injEq, and_true]
    have : (fun i => (boolBits l 0 0 &&& (1 <<< i) != 0)) = (fun i => l.getD i false) := by
      funext i
      rw [mask_test, testBit_boolBits]
      simp
    rw [this, map_range_getD]
  · cases h

theorem RT_writeDictEntry : RT writeDictEntry readDictEntry (fun _ => True) := by
  intro ⟨k, v⟩ bs rest _
  cases v with
  | int v =>
    apply Reads.cons RT_writeString trivial
    apply Reads.cons (RT_writeNat _) trivial
    apply Reads.cons RT_writeIntNeg trivial
    exact Reads.nil rfl
  | str s =>
    apply Reads.cons RT_writeString trivial
    apply Reads.cons (RT_writeNat _) trivial
    apply Reads.cons RT_writeString trivial
    exact Reads.nil rfl
  | pair a b =>
    apply Reads.cons RT_writeString trivial
    apply Reads.cons (RT_writeNat _) trivial
    apply Reads.cons RT_writeIntNeg trivial
    apply Reads.cons RT_writeIntNeg trivial
    exact Reads.nil rfl

theorem dictSet_eq_upsert (d : Dict) (k : String) (v : DictVal) : dictSet d k v = upsert (fun _ => v) v d k := by
  induction d with
  | nil => rfl
  | cons kv t ih => simp only [dictSet, upsert, ih]

theorem dictSet_new (d : Dict) (k : String) (v : DictVal) (h : k ∉ d.map (·.1)) :
    dictSet d k v = d ++ [(k, v)] := by
  rw [dictSet_eq_upsert, upsert_of_not_mem _ _ d k h]

theorem readDictLoop_writes (l d : Dict) (hnd : ((d ++ l).map (·.1)).Nodup) :
    Reads (l.map writeDictEntry) (readDictLoop readDictEntry l.length d) (d ++ l) := by
  induction l generalizing d with
  | nil => exact Reads.nil (by simp)
  | cons kv t ih =>
    have hk : kv.1 ∉ d.map (·.1) := by
      simp only [List.map_append, List.map_cons, List.nodup_append, List.mem_cons] at hnd
      exact fun hmem => hnd.2.2 _ hmem _ (Or.inl rfl) rfl
    apply Reads.cons RT_writeDictEntry trivial
    rw [dictSet_new d kv.1 kv.2 hk]
    simpa using ih (d ++ [kv]) (by simpa using hnd)

theorem RT_writeDict : RT writeDict readDict (fun d => (d.map (·.1)).Nodup) := by
  intro d bs rest hnd
  apply Reads.cons (RT_writeNat _) trivial
  simpa using readDictLoop_writes d [] (by simpa using hnd)

theorem RT_enum {ε} (value : ε → Nat) (ofValue? : Nat → Option ε) (k : Nat)
    (hov : ∀ e, ofValue? (value e) = some e) :
    RT (fun e => writeInt (value e : Nat) k) (readEnum ofValue? k) (fun _ => True) := by
  intro e bs rest _ h
  simp [readEnum, StateT.run_bind, readNat_write rest h, hov]

/-! facts about the generated enum tables, re-checked whenever /repo changes them -/

theorem MatchEventSubtype.ofValue_value (e : MatchEventSubtype) : MatchEventSubtype.ofValue? e.value = some e := by
  cases e <;> decide +kernel
theorem MatchClassification.ofValue_value (e : MatchClassification) :
    MatchClassification.ofValue? e.value = some e := by
  cases e <;> decide +kernel
theorem ReadAssignmentType.ofValue_value (e : ReadAssignmentType) :
    ReadAssignmentType.ofValue? e.value = some e := by
  cases e <;> decide +kernel

theorem MatchEventSubtype.value_lt (e : MatchEventSubtype) : e.value < 256 ^ ser_SHORT_INT_BYTES := by
  cases e <;> decide
theorem MatchClassification.value_lt (e : MatchClassification) : e.value < 256 ^ ser_SHORT_INT_BYTES := by
  cases e <;> decide
theorem ReadAssignmentType.value_lt (e : ReadAssignmentType) : e.value < 256 ^ ser_SHORT_INT_BYTES := by
  cases e <;> decide

theorem penaltyToInt_of_multiple (n : Int) :
    penaltyToInt ((n : Rat) / ((ser_SHORT_FLOAT_MULTIPLIER : Nat) : Rat)) = n := by
  unfold penaltyToInt
  have hne : ((ser_SHORT_FLOAT_MULTIPLIER : Nat) : Rat) ≠ 0 := by decide
  simp only [Rat.div_mul_cancel hne, Rat.num_intCast, Rat.den_intCast]
  simp

/-- what a stored penalty reads back as: the value truncated to 20 fractional bits -/
def quantPenalty (q : Rat) : Rat := ((penaltyToInt q : Int) : Rat) / ((ser_SHORT_FLOAT_MULTIPLIER : Nat) : Rat)

theorem quantPenalty_of_multiple (n : Int) :
    quantPenalty ((n : Rat) / ((ser_SHORT_FLOAT_MULTIPLIER : Nat) : Rat)) = (n : Rat) / ((ser_SHORT_FLOAT_MULTIPLIER : Nat) : Rat) := by
  unfold quantPenalty; rw [penaltyToInt_of_multiple]

theorem penaltyToInt_quantPenalty (q : Rat) : penaltyToInt (quantPenalty q) = penaltyToInt q :=
  penaltyToInt_of_multiple _

theorem quantPenalty_nonneg (q : Rat) (h : 0 ≤ q) : ¬ quantPenalty q < 0 := by
  have hx : 0 ≤ q * ((ser_SHORT_FLOAT_MULTIPLIER : Nat) : Rat) := Rat.mul_nonneg h (by decide)
  have hn : 0 ≤ penaltyToInt q := by
    unfold penaltyToInt
    exact Int.tdiv_nonneg (Rat.num_nonneg.mpr hx) (by exact_mod_cast Nat.zero_le _)
  unfold quantPenalty
  rw [Rat.not_lt, Rat.div_def]
  apply Rat.mul_nonneg
  · exact_mod_cast hn
  · exact Rat.le_of_lt (Rat.inv_pos.mpr (by decide))

theorem RTn_writePenalty : RTn writePenalty readPenalty quantPenalty (fun _ => True) := by
  intro q bs rest _ h
  simp only [writePenalty, writeInt] at h
  obtain ⟨h0, _, _⟩ := intToBytes_eq_some h
  have hn : penaltyToInt q = ((penaltyToInt q).toNat : Int) := by omega
  rw [hn] at h
  simp only [readPenalty, StateT.run_bind, readNat_write rest h, Option.bind_eq_bind, Option.bind_some,
    StateT.run_pure, Option.pure_def]
  rw [← hn]; rfl

theorem RT_writePenalty :
    RT writePenalty readPenalty (fun q => ∃ n : Int, q = (n : Rat) / ((ser_SHORT_FLOAT_MULTIPLIER : Nat) : Rat)) := by
  intro q bs rest hq hw
  obtain ⟨n, rfl⟩ := hq
  rw [RTn_writePenalty _ bs rest trivial hw, quantPenalty_of_multiple]

/-- `RT_enum` at the enum a record holds twice (`assignmentType`, `geneAssignmentType`), met by each record reader of
    Props/C15Objects.lean; the other two enums occur once each and are instantiated at that place -/
theorem RT_enumRAT (k : Nat) :
    RT (fun e : ReadAssignmentType => writeInt (e.value : Nat) k) (readEnum ReadAssignmentType.ofValue? k) (fun _ => True) :=
  RT_enum ReadAssignmentType.value ReadAssignmentType.ofValue? k ReadAssignmentType.ofValue_value

theorem boolAt_run {l : List Bool} {i : Nat} {b : Bool} (h : l[i]? = some b) (rest : Bytes) :
    (boolAt l i).run rest = some (b, rest) := by
  simp [boolAt, h]

theorem RT_writeGeneHeader : RT writeGeneHeader readGeneHeader (fun _ => True) := by
  intro x bs rest _
  apply Reads.cons (RT_writeInt _) trivial
  apply Reads.cons (RT_writeList RT_writeString) (fun _ _ => trivial)
  apply Reads.cons RT_writeString trivial
  apply Reads.cons (RT_writeInt _) trivial
  apply Reads.cons (RT_writeInt _) trivial
  exact Reads.nil rfl

end IsoVerif.Lemmas.Serial
