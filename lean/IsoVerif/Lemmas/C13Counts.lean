/-
Helper lemmas for C13: association-list counters, the `add_read_info_from_profile` loop, counter invariants, a history
from the initial state (`countAll_counts`: one statement for the mark +1 / −1, proved by numeric group id; `countAll_spec`),
the dumped table and the sums of its columns.
Core Lean only.
-/
import IsoVerif.Model.FeatureCounts
import IsoVerif.Lemmas.AssocList
import IsoVerif.Lemmas.InsertionSort

namespace IsoVerif.Lemmas.C13
open IsoVerif.Model IsoVerif.Model.C13

section assoc
variable {α : Type} [BEq α] [LawfulBEq α]

omit [LawfulBEq α] in
theorem getCount_cons (b : α) (n : Nat) (m : List (α × Nat)) (a : α) :
    getCount ((b, n) :: m) a = if a == b then n else getCount m a := by
  simp only [getCount, List.lookup_cons]
  cases h : (a == b) <;> simp

open Classical in
/-- `incr` is the dictionary update `upsert` (Lemmas/AssocList.lean) -/
theorem incr_eq_upsert (m : List (α × Nat)) (a : α) : incr m a = IsoVerif.Lemmas.upsert (· + 1) 1 m a := by
  induction m with
  | nil => rfl
  | cons p m ih => simp only [incr, IsoVerif.Lemmas.upsert, ih, beq_iff_eq, eq_comm (a := a)]

theorem getCount_incr (m : List (α × Nat)) (a b : α) :
    getCount (incr m a) b = getCount m b + (if b == a then 1 else 0) := by
  simp only [getCount, incr_eq_upsert, IsoVerif.Lemmas.lookup_upsert, beq_iff_eq]
  by_cases h : a = b
  · subst h; cases m.lookup a <;> simp
  · simp [h, Ne.symm h]

theorem getCount_foldl_incr (L : List α) : ∀ (m : List (α × Nat)) (b : α),
    getCount (L.foldl incr m) b = getCount m b + L.count b := by
  induction L with
  | nil => intro m b; simp
  | cons a L ih =>
    intro m b
    rw [List.foldl_cons, ih, getCount_incr, List.count_cons]
    by_cases h : a = b
    · subst h; simp; omega
    · have : ¬ b = a := fun e => h e.symm
      simp [h, this]

end assoc

section loop
variable {κ : Type} [BEq κ] [LawfulBEq κ] {upd : FeatureInfo → FeatureInfo → FeatureInfo}

/-- number of positions `i` with `profile[i] = v` whose feature `pmap[i]` has key `k` -/
def hits (key : FeatureInfo → κ) (v : Int) (k : κ) (prof : List Int) (pm : List FeatureInfo) : Nat :=
  (prof.zip pm).countP (fun p => p.1 == v && key p.2 == k)

theorem hits_nil_right (key : FeatureInfo → κ) (v : Int) (k : κ) (prof : List Int) : hits key v k prof [] = 0 := by
  simp [hits]

omit [LawfulBEq κ] in
theorem hits_cons_cons (key : FeatureInfo → κ) (v : Int) (k : κ) (x : Int) (xs : List Int) (f : FeatureInfo) (fs : List FeatureInfo) :
    hits key v k (x :: xs) (f :: fs) = hits key v k xs fs + (if x = v ∧ key f == k then 1 else 0) := by
  simp only [hits, List.zip_cons_cons, List.countP_cons]
  congr 1
  by_cases h1 : x = v <;> by_cases h2 : key f == k <;> simp [h1, h2]

/-- the counter keys the loop increments for the mark `v` (+1: inclusion counter, −1: exclusion counter), in order -/
def keysAt (key : FeatureInfo → κ) (v : Int) (gid : Nat) (prof : List Int) (pm : List FeatureInfo) : List (κ × Nat) :=
  ((prof.zip pm).filter (fun p => p.1 == v)).map (fun p => (key p.2, gid))

theorem count_keysAt (key : FeatureInfo → κ) (v : Int) (gid : Nat) (prof : List Int) (pm : List FeatureInfo) (k : κ) (n : Nat) :
    (keysAt key v gid prof pm).count (k, n) = if n = gid then hits key v k prof pm else 0 := by
  have pair_beq : ∀ (a : κ) (m : Nat), ((a, m) == (k, n)) = (a == k && m == n) := fun _ _ => rfl
  simp only [keysAt, hits, List.count_eq_countP, List.countP_map, List.countP_filter]
  by_cases hn : n = gid
  · subst hn
    rw [if_pos rfl]
    congr 1; funext p
    by_cases h1 : p.1 = v <;> by_cases h2 : key p.2 = k <;> simp [pair_beq, h1, h2, Bool.and_comm]
  · rw [if_neg hn]
    apply List.countP_eq_zero.mpr
    intro p _
    simp only [pair_beq, Function.comp, Bool.and_eq_true, beq_iff_eq, not_and]
    exact fun h => absurd h.2.symm hn

open Classical in
/-- `addName` is the dictionary update `upsert` -/
theorem addName_eq_upsert (nm : List (κ × FeatureInfo)) (k : κ) (fi : FeatureInfo) :
    addName upd nm k fi = IsoVerif.Lemmas.upsert (fun f => upd f fi) fi nm k := by
  induction nm with
  | nil => rfl
  | cons p m ih => simp only [addName, IsoVerif.Lemmas.upsert, ih, beq_iff_eq, eq_comm (a := k)]

open Classical in
theorem addName_keys (names : List (κ × FeatureInfo)) (k : κ) (fi : FeatureInfo) :
    (addName upd names k fi).map (·.1) = if k ∈ names.map (·.1) then names.map (·.1) else names.map (·.1) ++ [k] := by
  rw [addName_eq_upsert, IsoVerif.Lemmas.keys_upsert]; congr

theorem addName_key_mem (names : List (κ × FeatureInfo)) (k : κ) (fi : FeatureInfo) :
    k ∈ (addName upd names k fi).map (·.1) := by
  rw [addName_keys]; split
  · assumption
  · simp

theorem addName_keys_old (names : List (κ × FeatureInfo)) (k : κ) (fi : FeatureInfo) (k' : κ)
    (h : k' ∈ names.map (·.1)) : k' ∈ (addName upd names k fi).map (·.1) := by
  rw [addName_keys]; split
  · exact h
  · exact List.mem_append_left _ h

theorem addName_nodup (names : List (κ × FeatureInfo)) (k : κ) (fi : FeatureInfo)
    (h : (names.map (·.1)).Nodup) : ((addName upd names k fi).map (·.1)).Nodup := by
  rw [addName_keys]; split
  · exact h
  · rename_i hk
    rw [List.nodup_append]
    refine ⟨h, by simp, ?_⟩
    intro a ha b hb
    simp at hb
    subst hb
    intro e; subst e; exact hk ha

theorem addName_keys_prefix (names : List (κ × FeatureInfo)) (k : κ) (fi : FeatureInfo) :
    names.map (·.1) <+: (addName upd names k fi).map (·.1) := by
  rw [addName_keys]; split
  · exact List.prefix_refl _
  · exact List.prefix_append _ _

omit [LawfulBEq κ] in
theorem addName_names_key (key : FeatureInfo → κ) (hupd : ∀ a b, key (upd a b) = key a)
    (names : List (κ × FeatureInfo)) (fi : FeatureInfo) (h : ∀ p ∈ names, key p.2 = p.1) :
    ∀ p ∈ addName upd names (key fi) fi, key p.2 = p.1 := by
  induction names with
  | nil => intro p hp; simp [addName] at hp; subst hp; rfl
  | cons q rest ih =>
    obtain ⟨k', f'⟩ := q
    intro p hp
    unfold addName at hp
    by_cases hk : key fi == k'
    · simp only [hk, if_true] at hp
      rcases List.mem_cons.mp hp with e | e
      · subst e; simp only; rw [hupd]; exact h (k', f') (List.mem_cons_self ..)
      · exact h p (List.mem_cons_of_mem _ e)
    · simp only [hk, Bool.false_eq_true, if_false] at hp
      rcases List.mem_cons.mp hp with e | e
      · subst e; exact h (k', f') (List.mem_cons_self ..)
      · exact ih (fun p hp => h p (List.mem_cons_of_mem _ hp)) p e

open Classical in
theorem lookup_addName (names : List (κ × FeatureInfo)) (k : κ) (fi : FeatureInfo) (k' : κ) :
    (addName upd names k fi).lookup k' =
      if k' == k then some (match names.lookup k with | some a => upd a fi | none => fi) else names.lookup k' := by
  rw [addName_eq_upsert, IsoVerif.Lemmas.lookup_upsert]
  by_cases h : k = k'
  · subst h; simp; cases names.lookup k <;> rfl
  · simp [h, Ne.symm h]

/-- the name table after `add_read_info` registered the features `l`, in order -/
def nameFold (key : FeatureInfo → κ) (upd : FeatureInfo → FeatureInfo → FeatureInfo) (names : List (κ × FeatureInfo))
    (l : List FeatureInfo) : List (κ × FeatureInfo) :=
  l.foldl (fun nm fi => addName upd nm (key fi) fi) names

theorem lookup_nameFold (key : FeatureInfo → κ) (l : List FeatureInfo) : ∀ (names : List (κ × FeatureInfo)) (k : κ),
    (nameFold key upd names l).lookup k =
      match names.lookup k with
      | some a => some ((l.filter (fun fi => key fi == k)).foldl upd a)
      | none =>
        match l.filter (fun fi => key fi == k) with
        | [] => none
        | f :: r => some (r.foldl upd f) := by
  induction l with
  | nil => intro names k; simp [nameFold]; cases names.lookup k <;> rfl
  | cons fi rest ih =>
    intro names k
    have hunf : nameFold key upd names (fi :: rest) = nameFold key upd (addName upd names (key fi) fi) rest := rfl
    rw [hunf, ih, lookup_addName]
    by_cases hk : k = key fi
    · subst hk
      simp only [BEq.rfl, if_true, List.filter_cons]
      cases names.lookup (key fi) <;> simp
    · have hk' : (key fi == k) = false := by
        simp only [beq_eq_false_iff_ne, ne_eq]; exact fun e => hk e.symm
      have hk2 : (k == key fi) = false := by
        simp only [beq_eq_false_iff_ne, ne_eq]; exact hk
      simp only [hk2, Bool.false_eq_true, if_false, List.filter_cons, hk']

/-- the descriptions at the positions of a property map where the profile is +1 or −1, in order -/
def touchedOf (prof : List Int) (pm : List FeatureInfo) : List FeatureInfo :=
  ((prof.zip pm).filter (fun x => x.1 == 1 || x.1 == -1)).map (·.2)

/-- the table of row descriptions: every entry is filed under its own key, one entry per key, and every key with a
    positive count has an entry -/
structure NInv (key : FeatureInfo → κ) (st : PCounter κ) : Prop where
  names_key : ∀ p ∈ st.names, key p.2 = p.1
  names_nodup : (st.names.map (·.1)).Nodup
  counted_named : ∀ k n, 0 < getCount st.incl (k, n) + getCount st.excl (k, n) → k ∈ st.names.map (·.1)

theorem nameFold_inv (key : FeatureInfo → κ) (hupd : ∀ a b, key (upd a b) = key a) (l : List FeatureInfo) :
    ∀ names : List (κ × FeatureInfo), (∀ p ∈ names, key p.2 = p.1) → (names.map (·.1)).Nodup →
      (∀ p ∈ nameFold key upd names l, key p.2 = p.1) ∧ ((nameFold key upd names l).map (·.1)).Nodup ∧
      (∀ k ∈ names.map (·.1), k ∈ (nameFold key upd names l).map (·.1)) ∧
      ∀ fi ∈ l, key fi ∈ (nameFold key upd names l).map (·.1) := by
  induction l with
  | nil => intro names h1 h2; exact ⟨h1, h2, fun _ h => h, fun _ h => absurd h List.not_mem_nil⟩
  | cons f fs ih =>
    intro names h1 h2
    obtain ⟨a, b, c, d⟩ := ih (addName upd names (key f) f) (addName_names_key key hupd _ _ h1) (addName_nodup _ _ _ h2)
    refine ⟨a, b, fun k hk => c k (addName_keys_old _ _ _ _ hk), fun fi hfi => ?_⟩
    rcases List.mem_cons.mp hfi with rfl | hfi
    · exact c _ (addName_key_mem _ _ _)
    · exact d fi hfi

omit [LawfulBEq κ] in
/-- the loop in closed form: a successful run is three independent folds — the inclusion counter over the +1 positions, the
    exclusion counter over the −1 positions, the name table over both; the group table is untouched -/
theorem addLoop_eq (key : FeatureInfo → κ) (gid : Nat) (prof : List Int) :
    ∀ (pm : List FeatureInfo) (st st' : PCounter κ), addLoop key upd gid prof pm st = some st' →
      st' = { st with incl := (keysAt key 1 gid prof pm).foldl incr st.incl,
                      excl := (keysAt key (-1) gid prof pm).foldl incr st.excl,
                      names := nameFold key upd st.names (touchedOf prof pm) } := by
  induction prof with
  | nil => intro pm st st' h; simp [addLoop] at h; subst h; rfl
  | cons v vs ih =>
    intro pm st st' h
    unfold addLoop at h
    cases pm with
    | nil =>
      -- a ±1 past the end of the property map raises; any other value is skipped
      split at h
      · simp at h
      · split at h
        · simp at h
        · rw [ih _ _ _ h]; simp [keysAt, touchedOf]
    | cons fi rest =>
      split at h
      · rename_i h1; rw [ih _ _ _ h]; simp [keysAt, touchedOf, nameFold, h1]
      · split at h
        · rename_i h1 h2; rw [ih _ _ _ h]; simp [keysAt, touchedOf, nameFold, h2]
        · rename_i h1 h2; rw [ih _ _ _ h]; simp [keysAt, touchedOf, h1, h2]

theorem addLoop_counts (key : FeatureInfo → κ) (gid : Nat) (prof : List Int)
    (pm : List FeatureInfo) (st st' : PCounter κ) (h : addLoop key upd gid prof pm st = some st') :
      st'.groupIds = st.groupIds ∧ st'.nextGroup = st.nextGroup ∧
      (∀ k n, getCount st'.incl (k, n) = getCount st.incl (k, n) + (if n = gid then hits key 1 k prof pm else 0)) ∧
      (∀ k n, getCount st'.excl (k, n) = getCount st.excl (k, n) + (if n = gid then hits key (-1) k prof pm else 0)) := by
  rw [addLoop_eq key gid prof pm st st' h]
  exact ⟨rfl, rfl, fun k n => by rw [getCount_foldl_incr, count_keysAt], fun k n => by rw [getCount_foldl_incr, count_keysAt]⟩

theorem addLoop_names (key : FeatureInfo → κ) (hupd : ∀ a b, key (upd a b) = key a) (gid : Nat) (prof : List Int)
    (pm : List FeatureInfo) (st st' : PCounter κ) (h : addLoop key upd gid prof pm st = some st') (hN : NInv key st) :
    NInv key st' ∧ st'.names = nameFold key upd st.names (touchedOf prof pm) := by
  obtain ⟨hc1, hc2⟩ := (addLoop_counts key gid prof pm st st' h).2.2
  rw [addLoop_eq key gid prof pm st st' h] at hc1 hc2 ⊢
  obtain ⟨a, b, c, d⟩ := nameFold_inv key hupd (touchedOf prof pm) st.names hN.names_key hN.names_nodup
  refine ⟨⟨a, b, fun k n hpos => ?_⟩, rfl⟩
  simp only at hc1 hc2 hpos ⊢
  rw [hc1, hc2] at hpos
  by_cases hold : 0 < getCount st.incl (k, n) + getCount st.excl (k, n)
  · exact c k (hN.counted_named k n hold)
  · -- a new count: some position of the profile holds ±1 at a description with key `k`
    have : 0 < hits key 1 k prof pm + hits key (-1) k prof pm := by split at hpos <;> omega
    have hex : ∃ p ∈ prof.zip pm, (p.1 = 1 ∨ p.1 = -1) ∧ key p.2 = k := by
      by_cases h1 : 0 < hits key 1 k prof pm
      · obtain ⟨p, hp, hq⟩ := List.countP_pos_iff.mp h1
        simp only [Bool.and_eq_true, beq_iff_eq] at hq
        exact ⟨p, hp, Or.inl hq.1, hq.2⟩
      · obtain ⟨p, hp, hq⟩ := List.countP_pos_iff.mp (show 0 < hits key (-1) k prof pm by omega)
        simp only [Bool.and_eq_true, beq_iff_eq] at hq
        exact ⟨p, hp, Or.inr hq.1, hq.2⟩
    obtain ⟨p, hp, hv, rfl⟩ := hex
    refine d p.2 ?_
    simp only [touchedOf, List.mem_map, List.mem_filter, Bool.or_eq_true, beq_iff_eq]
    exact ⟨p, ⟨hp, hv⟩, rfl⟩

/-- the counter a mark goes to: the inclusion counter for +1, the exclusion counter for −1 -/
def cnt (v : Int) (st : PCounter κ) : List ((κ × Nat) × Nat) := if v = 1 then st.incl else st.excl

/-- … read by group name: `inclOf` for +1, `exclOf` for −1 -/
def cntOf (v : Int) (st : PCounter κ) (k : κ) (g : String) : Nat := if v = 1 then st.inclOf k g else st.exclOf k g

omit [LawfulBEq κ] in
theorem cntOf_eq (v : Int) (st : PCounter κ) (k : κ) (g : String) :
    cntOf v st k g = match st.groupIds.lookup g with | some n => getCount (cnt v st) (k, n) | none => 0 := by
  unfold cntOf cnt PCounter.inclOf PCounter.exclOf; split <;> rfl

/-- the numeric group ids: handed out on first sight, below `nextGroup`, one per name -/
structure GInv (st : PCounter κ) : Prop where
  ids_lt : ∀ p ∈ st.groupIds, p.2 < st.nextGroup
  ids_inj : ∀ p ∈ st.groupIds, ∀ q ∈ st.groupIds, p.2 = q.2 → p.1 = q.1
  grp_nodup : (st.groupIds.map (·.1)).Nodup

omit [BEq κ] [LawfulBEq κ] in
theorem GInv_init (ignore : Bool) (dflt : String) : GInv (PCounter.init ignore dflt : PCounter κ) := by
  cases ignore <;> constructor <;> simp [PCounter.init]

omit [LawfulBEq κ] in
theorem NInv_init (key : FeatureInfo → κ) (ignore : Bool) (dflt : String) :
    NInv key (PCounter.init ignore dflt : PCounter κ) := by
  constructor <;> simp [PCounter.init, getCount]

omit [BEq κ] [LawfulBEq κ] in
/-- after `ensureGroup` the group has an id (whatever the state was) -/
theorem ensureGroup_lookup (st : PCounter κ) (g : String) : ∃ gid, (ensureGroup st g).groupIds.lookup g = some gid := by
  unfold ensureGroup
  split
  · rename_i n hn; exact ⟨n, hn⟩
  · rename_i hn; exact ⟨st.nextGroup, by simp [lookup_append_single, hn]⟩

omit [BEq κ] [LawfulBEq κ] in
theorem ensureGroup_spec (st : PCounter κ) (g : String) (hG : GInv st) :
    GInv (ensureGroup st g) ∧ (ensureGroup st g).incl = st.incl ∧ (ensureGroup st g).excl = st.excl ∧
    (∀ g' m, st.groupIds.lookup g' = some m → (ensureGroup st g).groupIds.lookup g' = some m) ∧
    (∀ g', g' ∈ (ensureGroup st g).groupIds.map (·.1) ↔ g' ∈ st.groupIds.map (·.1) ∨ g' = g) := by
  unfold ensureGroup
  split
  · rename_i n hn
    exact ⟨hG, rfl, rfl, fun _ _ h => h,
      fun g' => ⟨Or.inl, fun h => h.elim id fun e => e ▸ List.mem_map.mpr ⟨(g, n), mem_of_lookup hn, rfl⟩⟩⟩
  · rename_i hn
    have hg : g ∉ st.groupIds.map (·.1) := IsoVerif.Lemmas.lookup_eq_none_iff_keys.mp hn
    have hlook := fun g' => IsoVerif.Lemmas.lookup_append_single st.groupIds g st.nextGroup g'
    refine ⟨⟨?_, ?_, ?_⟩, rfl, rfl, fun g' m h => by simp only [hlook, h], fun g' => by simp⟩
    · intro p hp
      simp only [List.mem_append, List.mem_singleton] at hp
      rcases hp with hp | hp
      · have := hG.ids_lt p hp; simp only; omega
      · subst hp; simp
    · intro p hp q hq hpq
      simp only [List.mem_append, List.mem_singleton] at hp hq
      rcases hp with hp | hp <;> rcases hq with hq | hq
      · exact hG.ids_inj p hp q hq hpq
      · subst hq; have := hG.ids_lt p hp; simp at hpq; omega
      · subst hp; have := hG.ids_lt q hq; simp at hpq; omega
      · subst hp; subst hq; rfl
    · simp only [List.map_append, List.map_cons, List.map_nil]
      rw [List.nodup_append]
      refine ⟨hG.grp_nodup, by simp, ?_⟩
      intro a ha b hb
      simp at hb; subst hb
      intro e; subst e; exact hg ha

/-- one call of `add_read_info_from_profile`, by numeric group id -/
theorem addRead_counts (key : FeatureInfo → κ) (st st' : PCounter κ) (prof : List Int) (pm : List FeatureInfo) (g : String)
    (hG : GInv st) (h : addReadInfoFromProfile key upd st prof pm g = some st') :
    GInv st' ∧ (∀ g' m, st.groupIds.lookup g' = some m → st'.groupIds.lookup g' = some m) ∧
    (∀ g', g' ∈ st'.groupIds.map (·.1) ↔ g' ∈ st.groupIds.map (·.1) ∨ g' = g) ∧
    ∃ gid, st'.groupIds.lookup g = some gid ∧ ∀ v, v = 1 ∨ v = -1 → ∀ k n,
      getCount (cnt v st') (k, n) = getCount (cnt v st) (k, n) + if n = gid then hits key v k prof pm else 0 := by
  obtain ⟨hG1, hi1, he1, hmono, hgrp⟩ := ensureGroup_spec st g hG
  obtain ⟨gid, hgid⟩ := ensureGroup_lookup st g
  simp only [addReadInfoFromProfile, hgid] at h
  obtain ⟨hgr, hnx, hic, hec⟩ := addLoop_counts key gid prof pm _ st' h
  refine ⟨⟨by rw [hgr, hnx]; exact hG1.ids_lt, by rw [hgr]; exact hG1.ids_inj, by rw [hgr]; exact hG1.grp_nodup⟩,
    by rw [hgr]; exact hmono, by rw [hgr]; exact hgrp, gid, by rw [hgr]; exact hgid, ?_⟩
  rintro v (rfl | rfl) k n
  · simpa [cnt, hi1] using hic k n
  · simpa [cnt, he1] using hec k n

theorem addRead_names (key : FeatureInfo → κ) (hupd : ∀ a b, key (upd a b) = key a) (st st' : PCounter κ) (prof : List Int)
    (pm : List FeatureInfo) (g : String)
    (hN : NInv key st) (h : addReadInfoFromProfile key upd st prof pm g = some st') :
    NInv key st' ∧ st'.names = nameFold key upd st.names (touchedOf prof pm) := by
  unfold addReadInfoFromProfile at h
  simp only at h
  split at h
  · simp at h
  · rename_i gid hgid
    have hN1 : NInv key (ensureGroup st g) := by
      unfold ensureGroup; split
      · exact hN
      · exact ⟨hN.names_key, hN.names_nodup, hN.counted_named⟩
    have hnm : (ensureGroup st g).names = st.names := by
      unfold ensureGroup; split <;> rfl
    have := addLoop_names key hupd gid prof pm _ st' h hN1
    rw [hnm] at this
    exact this

/-- the descriptions a history counts, in order -/
def touched (evs : List ReadEv) : List FeatureInfo := evs.flatMap (fun ev => touchedOf ev.profile ev.pmap)

theorem mem_touched (evs : List ReadEv) (x : FeatureInfo) :
    x ∈ touched evs ↔ ∃ ev ∈ evs, ∃ p ∈ ev.profile.zip ev.pmap, (p.1 = 1 ∨ p.1 = -1) ∧ p.2 = x := by
  simp only [touched, touchedOf, List.mem_flatMap, List.mem_map, List.mem_filter, Bool.or_eq_true, beq_iff_eq]
  constructor
  · rintro ⟨ev, hev, p, ⟨hp, hv⟩, hx⟩; exact ⟨ev, hev, p, hp, hv, hx⟩
  · rintro ⟨ev, hev, p, hp, hv, hx⟩; exact ⟨ev, hev, p, ⟨hp, hv⟩, hx⟩

theorem touched_mem_pmap {evs : List ReadEv} {x : FeatureInfo} (hx : x ∈ touched evs) : ∃ ev ∈ evs, x ∈ ev.pmap := by
  obtain ⟨ev, hev, p, hp, _, rfl⟩ := (mem_touched evs x).mp hx
  exact ⟨ev, hev, (List.of_mem_zip hp).2⟩

/-- the read group a counter files an event under -/
def groupOf (ignore : Bool) (dflt : String) (ev : ReadEv) : String := if ignore then dflt else ev.group

/-- a history, by numeric group id: the id table only grows, so the final table says in which column an event was
    counted -/
theorem run_counts (key : FeatureInfo → κ) (ignore : Bool) (dflt : String) :
    ∀ (evs : List ReadEv) (st st' : PCounter κ), GInv st → runCounter key upd ignore dflt st evs = some st' →
      GInv st' ∧ (∀ g m, st.groupIds.lookup g = some m → st'.groupIds.lookup g = some m) ∧
      (∀ ev ∈ evs, ∃ gid, st'.groupIds.lookup (groupOf ignore dflt ev) = some gid) ∧
      (∀ g, g ∈ st'.groupIds.map (·.1) ↔ g ∈ st.groupIds.map (·.1) ∨ ∃ ev ∈ evs, groupOf ignore dflt ev = g) ∧
      ∀ v, v = 1 ∨ v = -1 → ∀ k n, getCount (cnt v st') (k, n) = getCount (cnt v st) (k, n) +
        ((evs.filter (fun ev => st'.groupIds.lookup (groupOf ignore dflt ev) == some n)).map
          (fun ev => hits key v k ev.profile ev.pmap)).sum := by
  intro evs
  induction evs with
  | nil => intro st st' hG h; simp [runCounter] at h; subst h; exact ⟨hG, fun _ _ h => h, by simp, by simp, by simp⟩
  | cons ev evs ih =>
    intro st st' hG h
    unfold runCounter at h
    split at h
    · simp at h
    · rename_i st1 h1
      obtain ⟨hG1, hm1, hg1, gid, hgid, hc1⟩ := addRead_counts key st st1 ev.profile ev.pmap _ hG h1
      obtain ⟨hG', hm', hall, hg, hc⟩ := ih st1 st' hG1 h
      have hgid' : st'.groupIds.lookup (groupOf ignore dflt ev) = some gid := hm' _ _ hgid
      refine ⟨hG', fun g m hg => hm' g m (hm1 g m hg), ?_, ?_, fun v hv k n => ?_⟩
      · intro e he
        rcases List.mem_cons.mp he with rfl | he
        · exact ⟨gid, hgid'⟩
        · exact hall e he
      · intro g
        rw [hg g, hg1 g]
        simp only [List.mem_cons, exists_eq_or_imp, groupOf, or_assoc]
        exact or_congr_right (or_congr_left eq_comm)
      · rw [hc v hv k n, hc1 v hv k n, List.filter_cons, hgid']
        by_cases hn : n = gid
        · subst hn; simp; omega
        · have : ¬ gid = n := fun e => hn e.symm
          simp [hn, this]

theorem run_names (key : FeatureInfo → κ) (hupd : ∀ a b, key (upd a b) = key a) (ignore : Bool) (dflt : String) :
    ∀ (evs : List ReadEv) (st st' : PCounter κ), NInv key st → runCounter key upd ignore dflt st evs = some st' →
      NInv key st' ∧ st'.names = nameFold key upd st.names (touched evs) := by
  intro evs
  induction evs with
  | nil => intro st st' hN h; simp [runCounter] at h; subst h; exact ⟨hN, by simp [touched, nameFold]⟩
  | cons ev evs ih =>
    intro st st' hN h
    unfold runCounter at h
    split at h
    · simp at h
    · rename_i st1 h1
      obtain ⟨hN1, hn1⟩ := addRead_names key hupd st st1 ev.profile ev.pmap _ hN h1
      obtain ⟨hN', hn⟩ := ih st1 st' hN1 h
      exact ⟨hN', by rw [hn, hn1]; simp [touched, nameFold, List.foldl_append]⟩

/-- **a counter fed with a whole history from its initial state**: the count of the mark `v` (+1: include, −1: exclude)
    under a group NAME is the number of hits of `v` over the events filed under that name -/
theorem countAll_counts (key : FeatureInfo → κ) (ignore : Bool) (dflt : String) (evs : List ReadEv) (st : PCounter κ)
    (h : countAll key upd ignore dflt evs = some st) (v : Int) (hv : v = 1 ∨ v = -1) (k : κ) (g : String) :
    cntOf v st k g =
      ((evs.filter (fun ev => groupOf ignore dflt ev == g)).map (fun ev => hits key v k ev.profile ev.pmap)).sum := by
  obtain ⟨hG, _, hall, _, hc⟩ := run_counts key ignore dflt evs _ st (GInv_init ignore dflt) h
  have h0 : ∀ n, getCount (cnt v (PCounter.init ignore dflt : PCounter κ)) (k, n) = 0 := by
    intro n; cases ignore <;> simp [cnt, PCounter.init, getCount] <;> split <;> rfl
  rw [cntOf_eq]
  cases hl : st.groupIds.lookup g with
  | none =>
    -- no event is filed under a name without an id
    rw [List.filter_eq_nil_iff.mpr]; · rfl
    intro ev hev hg
    obtain ⟨gid, hgid⟩ := hall ev hev
    rw [beq_iff_eq.mp hg, hl] at hgid; cases hgid
  | some n =>
    -- the id table is injective: the events counted in column `n` are those filed under `g`
    simp only
    rw [hc v hv k n, h0, Nat.zero_add]
    congr 2
    apply List.filter_congr
    intro ev _
    rw [Bool.eq_iff_iff, beq_iff_eq, beq_iff_eq]
    exact ⟨fun he => hG.ids_inj _ (mem_of_lookup he) _ (mem_of_lookup hl) rfl, fun he => he ▸ hl⟩

theorem countAll_spec (key : FeatureInfo → κ) (hupd : ∀ a b, key (upd a b) = key a) {ignore : Bool} {dflt : String}
    {evs : List ReadEv} {st : PCounter κ} (h : countAll key upd ignore dflt evs = some st) :
    GInv st ∧ NInv key st ∧
    (∀ g, g ∈ st.groupIds.map (·.1) ↔ (ignore = true ∧ g = dflt) ∨ ∃ ev ∈ evs, groupOf ignore dflt ev = g) ∧
    st.names = nameFold key upd [] (touched evs) := by
  obtain ⟨hG, _, _, hg, _⟩ := run_counts key ignore dflt evs _ st (GInv_init ignore dflt) h
  obtain ⟨hN, hn⟩ := run_names key hupd ignore dflt evs _ st (NInv_init key ignore dflt) h
  refine ⟨hG, hN, fun g => ?_, by rw [hn]; cases ignore <;> rfl⟩
  rw [hg g]; cases ignore <;> simp [PCounter.init]

theorem sortStrs_is : InsertionSort (fun a b : String => decide (a ≤ b)) insertStr sortStrs :=
  ⟨fun _ => rfl, fun x y ys => by simp only [insertStr, decide_eq_true_eq], rfl, fun _ _ => rfl⟩

theorem sortStrs_perm (l : List String) : (sortStrs l).Perm l := sortStrs_is.perm l

theorem mem_sortStrs (l : List String) (x : String) : x ∈ sortStrs l ↔ x ∈ l := (sortStrs_perm l).mem_iff

theorem sortStrs_nodup (l : List String) (h : l.Nodup) : (sortStrs l).Nodup := (sortStrs_perm l).nodup_iff.mpr h

/-- the row `dump` writes for one feature and one group name, if any -/
def rowOpt (st : PCounter κ) (p : κ × FeatureInfo) (g : String) : Option CountRow :=
  match st.groupIds.lookup g with
  | none => none
  | some gid =>
    let i := getCount st.incl (p.1, gid)
    let e := getCount st.excl (p.1, gid)
    if i > 0 ∨ e > 0 then some { fi := p.2, group := g, incl := i, excl := e } else none

/-- the rows `dump` writes for one feature -/
def rowsFor (st : PCounter κ) (G : List String) (p : κ × FeatureInfo) : List CountRow :=
  G.filterMap (rowOpt st p)

omit [LawfulBEq κ] in
theorem dumpRows_eq (st : PCounter κ) :
    dumpRows st = st.names.flatMap (rowsFor st (sortStrs (st.groupIds.map (·.1)))) := by
  unfold dumpRows rowsFor rowOpt
  rfl

omit [LawfulBEq κ] in
/-- when `dump` writes a row for a feature and a group name, and which -/
theorem rowOpt_eq_some (st : PCounter κ) (p : κ × FeatureInfo) (g : String) (r : CountRow) :
    rowOpt st p g = some r ↔ ∃ gid, st.groupIds.lookup g = some gid ∧
      r = { fi := p.2, group := g, incl := getCount st.incl (p.1, gid), excl := getCount st.excl (p.1, gid) } ∧
      (0 < getCount st.incl (p.1, gid) ∨ 0 < getCount st.excl (p.1, gid)) := by
  unfold rowOpt
  cases st.groupIds.lookup g with
  | none => simp
  | some gid =>
    by_cases hpos : getCount st.incl (p.1, gid) > 0 ∨ getCount st.excl (p.1, gid) > 0 <;> simp [hpos, eq_comm]

omit [LawfulBEq κ] in
theorem mem_dumpRows (st : PCounter κ) (r : CountRow) :
    r ∈ dumpRows st ↔ ∃ k, (k, r.fi) ∈ st.names ∧ ∃ gid, st.groupIds.lookup r.group = some gid ∧
      r.incl = getCount st.incl (k, gid) ∧ r.excl = getCount st.excl (k, gid) ∧ (0 < r.incl ∨ 0 < r.excl) := by
  simp only [dumpRows_eq, rowsFor, List.mem_flatMap, List.mem_filterMap, rowOpt_eq_some, mem_sortStrs]
  constructor
  · rintro ⟨⟨k, fi⟩, hkf, g, _, gid, hgid, rfl, hpos⟩
    exact ⟨k, hkf, gid, hgid, rfl, rfl, hpos⟩
  · rintro ⟨k, hkf, gid, hgid, hi, he, hpos⟩
    refine ⟨(k, r.fi), hkf, r.group, List.mem_map.mpr ⟨(r.group, gid), mem_of_lookup hgid, rfl⟩, gid, hgid, ?_,
      hi ▸ he ▸ hpos⟩
    cases r; simp only at hi he; rw [hi, he]

omit [LawfulBEq κ] in
theorem dumpRows_nodup (key : FeatureInfo → κ) (st : PCounter κ) (hG : GInv st) (hN : NInv key st) :
    ((dumpRows st).map (fun r => (key r.fi, r.group))).Pairwise (· ≠ ·) := by
  rw [dumpRows_eq, List.pairwise_map, List.pairwise_flatMap]
  constructor
  · -- the rows of one feature: one per group name
    intro p _
    rw [rowsFor, List.pairwise_filterMap]
    refine (sortStrs_nodup _ hG.grp_nodup).imp fun hne b hb b' hb' e => hne ?_
    obtain ⟨_, _, rfl, _⟩ := (rowOpt_eq_some ..).mp hb
    obtain ⟨_, _, rfl, _⟩ := (rowOpt_eq_some ..).mp hb'
    exact (Prod.mk.inj e).2
  · -- the rows of two features: their keys are the two names
    have hk := hN.names_nodup
    rw [List.Nodup, List.pairwise_map] at hk
    refine hk.imp_of_mem fun hm hm' hne x hx y hy e => hne ?_
    obtain ⟨_, _, hx⟩ := List.mem_filterMap.mp hx
    obtain ⟨_, _, hy⟩ := List.mem_filterMap.mp hy
    obtain ⟨_, _, rfl, _⟩ := (rowOpt_eq_some ..).mp hx
    obtain ⟨_, _, rfl, _⟩ := (rowOpt_eq_some ..).mp hy
    rw [← hN.names_key _ hm, ← hN.names_key _ hm']
    exact (Prod.mk.inj e).1

/-! ### one read contributes at most once to a feature when the keys of its property map are distinct -/

/-- the read's profile holds `v` at (a position whose feature has) key `k` -/
def marks (key : FeatureInfo → κ) (v : Int) (k : κ) (ev : ReadEv) : Bool :=
  (ev.profile.zip ev.pmap).any (fun p => p.1 == v && key p.2 == k)

theorem hits_le_one (key : FeatureInfo → κ) (v : Int) (k : κ) (prof : List Int) :
    ∀ pm : List FeatureInfo, (pm.map key).Nodup → hits key v k prof pm ≤ 1 ∧
      (hits key v k prof pm = 1 ↔ (prof.zip pm).any (fun p => p.1 == v && key p.2 == k) = true) := by
  induction prof with
  | nil => intro pm _; simp [hits]
  | cons x xs ih =>
    intro pm hnd
    cases pm with
    | nil => simp [hits]
    | cons f fs =>
      have hnd' : (fs.map key).Nodup := (List.nodup_cons.mp (by simpa using hnd)).2
      have hf : key f ∉ fs.map key := (List.nodup_cons.mp (by simpa using hnd)).1
      obtain ⟨ih1, ih2⟩ := ih fs hnd'
      rw [hits_cons_cons]
      by_cases hc : x = v ∧ key f == k
      · have hk : key f = k := by simpa using hc.2
        have hz : hits key v k xs fs = 0 := by
          unfold hits
          rw [List.countP_eq_zero]
          intro p hp
          have : p.2 ∈ fs := (List.of_mem_zip hp).2
          have : key p.2 ≠ k := by
            intro e; apply hf; rw [hk, ← e]; exact List.mem_map.mpr ⟨p.2, this, rfl⟩
          simp [this]
        simp [hc, hz, hk]
      · simp only [hc, if_false, Nat.add_zero]
        refine ⟨ih1, ?_⟩
        rw [ih2]
        simp only [List.zip_cons_cons, List.any_cons]
        have : (x == v && key f == k) = false := by
          by_cases hx : x = v
          · have : ¬ (key f == k) = true := fun h => hc ⟨hx, h⟩
            simp [this]
          · simp [hx]
        simp [this]

theorem hits_eq_marks (key : FeatureInfo → κ) (v : Int) (k : κ) (ev : ReadEv) (h : (ev.pmap.map key).Nodup) :
    hits key v k ev.profile ev.pmap = if marks key v k ev then 1 else 0 := by
  obtain ⟨h1, h2⟩ := hits_le_one key v k ev.profile ev.pmap h
  unfold marks
  by_cases hm : (ev.profile.zip ev.pmap).any (fun p => p.1 == v && key p.2 == k) = true
  · simp [hm, h2.mpr hm]
  · have : hits key v k ev.profile ev.pmap ≠ 1 := fun e => hm (h2.mp e)
    simp [hm]; omega

/-- the column of a dumped row that belongs to the mark `v` -/
def colOf (v : Int) (r : CountRow) : Nat := if v = 1 then r.incl else r.excl

theorem colOf_neg_one : colOf (-1) = fun r => r.excl := by funext r; simp [colOf]

omit [LawfulBEq κ] in
theorem rowOpt_spec (st : PCounter κ) (p : κ × FeatureInfo) (g : String) (v : Int) :
    ((rowOpt st p g).map (colOf v)).getD 0 = cntOf v st p.1 g := by
  simp only [cntOf_eq]
  unfold rowOpt
  cases hl : st.groupIds.lookup g with
  | none => simp
  | some gid =>
    simp only
    by_cases hpos : getCount st.incl (p.1, gid) > 0 ∨ getCount st.excl (p.1, gid) > 0
    · simp only [hpos, if_true, Option.map_some, Option.getD_some, colOf, cnt]; split <;> rfl
    · simp only [hpos, if_false, Option.map_none, Option.getD_none, cnt]
      split <;> omega

omit [LawfulBEq κ] in
theorem rowsFor_fi (st : PCounter κ) (G : List String) (p : κ × FeatureInfo) (r : CountRow) (h : r ∈ rowsFor st G p) :
    r.fi = p.2 := by
  obtain ⟨g, _, hg⟩ := List.mem_filterMap.mp h
  obtain ⟨_, _, rfl, _⟩ := (rowOpt_eq_some ..).mp hg
  rfl

theorem dumpRows_sum_col (key : FeatureInfo → κ) (st : PCounter κ) (hN : NInv key st) (k : κ)
    (h : CountRow → Nat) (c : κ → String → Nat)
    (hrow : ∀ p g, ((rowOpt st p g).map h).getD 0 = c p.1 g)
    (hzero : k ∉ st.names.map (·.1) → ∀ g, c k g = 0) :
    (((dumpRows st).filter (fun r => key r.fi == k)).map h).sum = ((st.groupIds.map (·.1)).map (c k)).sum := by
  -- induction over the name table: by `NInv` the rows of one name either all pass the filter `key r.fi == k` or all fail it;
  -- the sorted group list is a permutation of the registered groups
  rw [← ((sortStrs_perm (st.groupIds.map (·.1))).map (c k)).sum_nat, dumpRows_eq]
  generalize sortStrs (st.groupIds.map (·.1)) = G
  have hfor : ∀ p, ((rowsFor st G p).map h).sum = (G.map (c p.1)).sum := by
    intro p
    unfold rowsFor
    rw [sum_filterMap]
    exact congrArg List.sum (List.map_congr_left fun g _ => hrow p g)
  have main : ∀ (N : List (κ × FeatureInfo)), (∀ p ∈ N, key p.2 = p.1) → (N.map (·.1)).Nodup →
      (((N.flatMap (rowsFor st G)).filter (fun r => key r.fi == k)).map h).sum =
        (if k ∈ N.map (·.1) then (G.map (c k)).sum else 0) := by
    intro N
    induction N with
    | nil => intro _ _; rfl
    | cons p N ih =>
      intro hkey hnd
      rw [List.map_cons, List.nodup_cons] at hnd
      obtain ⟨hp, hnd'⟩ := hnd
      have hpk : key p.2 = p.1 := hkey p (by simp)
      simp only [List.flatMap_cons, List.filter_append, List.map_append, List.sum_append,
        ih (fun q hq => hkey q (by simp [hq])) hnd', List.map_cons, List.mem_cons]
      by_cases hk : p.1 = k
      · subst hk
        have hall : (rowsFor st G p).filter (fun r => key r.fi == p.1) = rowsFor st G p :=
          List.filter_eq_self.mpr fun r hr => by rw [rowsFor_fi st G p r hr, hpk]; simp
        rw [hall, hfor p]
        simp [hp]
      · have hnone : (rowsFor st G p).filter (fun r => key r.fi == k) = [] :=
          List.filter_eq_nil_iff.mpr fun r hr => by rw [rowsFor_fi st G p r hr, hpk]; simpa using hk
        have hk' : ¬ k = p.1 := fun e => hk e.symm
        have hmem : k ∈ List.map (fun x => x.1) (p :: N) ↔ k ∈ List.map (fun x => x.1) N := by
          simp [hk']
        simp only [hnone, hmem, List.map_nil, List.sum_nil, Nat.zero_add]
  rw [main st.names hN.names_key hN.names_nodup]
  split
  · rfl
  · rename_i hmem
    rw [List.map_congr_left (fun g _ => hzero hmem g)]
    exact (sum_map_zero G).symm

omit [LawfulBEq κ] in
theorem counts_zero_of_not_named (key : FeatureInfo → κ) (st : PCounter κ) (hN : NInv key st) (k : κ)
    (hmem : k ∉ st.names.map (·.1)) (g : String) (v : Int) : cntOf v st k g = 0 := by
  rw [cntOf_eq]
  cases st.groupIds.lookup g with
  | none => rfl
  | some gid =>
    have : ¬ 0 < getCount st.incl (k, gid) + getCount st.excl (k, gid) := fun h => hmem (hN.counted_named k gid h)
    simp only [cnt]
    split <;> omega

theorem dumpRows_sum (key : FeatureInfo → κ) (st : PCounter κ) (hN : NInv key st) (k : κ) (v : Int) :
    (((dumpRows st).filter (fun r => key r.fi == k)).map (colOf v)).sum =
      ((st.groupIds.map (·.1)).map (fun g => cntOf v st k g)).sum :=
  dumpRows_sum_col key st hN k (colOf v) (cntOf v st) (fun p g => rowOpt_spec st p g v)
    (fun hm g => counts_zero_of_not_named key st hN k hm g v)

/-- the ungrouped counter never registers another group: its table stays `{default: 0}` -/
theorem run_groupIds_ungrouped_aux (key : FeatureInfo → κ) (dflt : String) :
    ∀ (evs : List ReadEv) (st st' : PCounter κ), st.groupIds = [(dflt, 0)] →
      runCounter key upd true dflt st evs = some st' → st'.groupIds = [(dflt, 0)] := by
  intro evs
  induction evs with
  | nil => intro st st' h0 h; simp [runCounter] at h; subst h; exact h0
  | cons ev evs ih =>
    intro st st' h0 h
    unfold runCounter at h
    split at h
    · simp at h
    · rename_i st1 h1
      apply ih st1 st' ?_ h
      unfold addReadInfo addReadInfoFromProfile at h1
      simp only [if_true] at h1
      have he : ensureGroup st dflt = st := by
        unfold ensureGroup; rw [h0]; simp [List.lookup]
      rw [he] at h1
      split at h1
      · simp at h1
      · rename_i gid _
        rw [(addLoop_counts key gid ev.profile ev.pmap st st1 h1).1, h0]

theorem run_groupIds_ungrouped (key : FeatureInfo → κ) (dflt : String) (evs : List ReadEv) (st : PCounter κ)
    (h : countAll key upd true dflt evs = some st) : st.groupIds = [(dflt, 0)] :=
  run_groupIds_ungrouped_aux key dflt evs _ st (by simp [PCounter.init]) h

/-! ### no IndexError on a well-formed feed -/

omit [LawfulBEq κ] in
theorem addLoop_isSome (key : FeatureInfo → κ) (gid : Nat) (prof : List Int) :
    ∀ (pm : List FeatureInfo) (st : PCounter κ), prof.length ≤ pm.length → (addLoop key upd gid prof pm st).isSome := by
  induction prof with
  | nil => intro pm st _; simp [addLoop]
  | cons v vs ih =>
    intro pm st h
    cases pm with
    | nil => simp at h
    | cons f fs =>
      have h' : vs.length ≤ fs.length := by simpa using h
      unfold addLoop
      split
      · exact ih fs _ h'
      · split
        · exact ih fs _ h'
        · exact ih fs _ h'

omit [LawfulBEq κ] in
theorem addRead_isSome (key : FeatureInfo → κ) (st : PCounter κ) (prof : List Int) (pm : List FeatureInfo) (g : String)
    (h : prof.length ≤ pm.length) : (addReadInfoFromProfile key upd st prof pm g).isSome := by
  obtain ⟨gid, hgid⟩ := ensureGroup_lookup st g
  simp only [addReadInfoFromProfile, hgid]
  exact addLoop_isSome key gid prof pm _ h

omit [LawfulBEq κ] in
theorem runCounter_isSome (key : FeatureInfo → κ) (ignore : Bool) (dflt : String) :
    ∀ (evs : List ReadEv) (st : PCounter κ), (∀ ev ∈ evs, ev.profile.length ≤ ev.pmap.length) →
      (runCounter key upd ignore dflt st evs).isSome := by
  intro evs
  induction evs with
  | nil => intro st _; simp [runCounter]
  | cons ev evs ih =>
    intro st h
    unfold runCounter
    have h1 := addRead_isSome (upd := upd) key st ev.profile ev.pmap (if ignore then dflt else ev.group) (h ev (by simp))
    unfold addReadInfo
    cases hc : addReadInfoFromProfile key upd st ev.profile ev.pmap (if ignore then dflt else ev.group) with
    | none => rw [hc] at h1; simp at h1
    | some st' => exact ih st' (fun e he => h e (by simp [he]))

end loop

/-- a counted position has exactly one strand string in `strands`, so the indicator over `strands` sums to 1 -/
theorem hits_sum_strands (v : Int) (c : CoordKey) (strands : List String) (hnd : strands.Nodup) (prof : List Int)
    (pm : List FeatureInfo)
    (hcov : ∀ p ∈ prof.zip pm, p.1 = v → coordKey p.2 = c → p.2.strand ∈ strands) :
    hits coordKey v c prof pm = (strands.map (fun s => hits strandKey v (c.1, c.2.1, c.2.2, s) prof pm)).sum := by
  unfold hits
  generalize prof.zip pm = l at hcov
  induction l with
  | nil => simp only [List.countP_nil]; exact (sum_map_zero strands).symm
  | cons p ps ih =>
    have ih' := ih (fun q hq => hcov q (List.mem_cons_of_mem _ hq))
    simp only [List.countP_cons, ih']
    rw [sum_map_add]
    congr 1
    obtain ⟨c1, c2, c3⟩ := c
    by_cases hp : (p.1 == v && coordKey p.2 == (c1, c2, c3)) = true
    · have hp' := hp
      simp only [Bool.and_eq_true, beq_iff_eq] at hp'
      have hs := hcov p (List.mem_cons_self ..) hp'.1 hp'.2
      have hk : ∀ s, (p.1 == v && strandKey p.2 == (c1, c2, c3, s)) = decide (p.2.strand = s) := by
        intro s
        have h2 := hp'.2
        simp only [coordKey, Prod.mk.injEq] at h2
        rw [Bool.eq_iff_iff]
        simp only [Bool.and_eq_true, beq_iff_eq, strandKey, Prod.mk.injEq, decide_eq_true_eq]
        constructor
        · rintro ⟨_, _, _, _, h⟩; exact h
        · intro h; exact ⟨hp'.1, h2.1, h2.2.1, h2.2.2, h⟩
      simp only [hp, if_true, hk, decide_eq_true_eq]
      exact (sum_indicator strands hnd p.2.strand 1 hs).symm
    · have hk : ∀ s, (p.1 == v && strandKey p.2 == (c1, c2, c3, s)) = false := by
        intro s
        rw [Bool.eq_false_iff]
        intro h
        apply hp
        simp only [Bool.and_eq_true, beq_iff_eq, strandKey, coordKey, Prod.mk.injEq] at h ⊢
        exact ⟨h.1, h.2.1, h.2.2.1, h.2.2.2.1⟩
      simp only [hp, hk, Bool.false_eq_true, if_false]
      exact (sum_map_zero strands).symm

end IsoVerif.Lemmas.C13
