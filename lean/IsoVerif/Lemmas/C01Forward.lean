/-
The read profile of the intron sweep (C01): what the sweep does to it (`ReadTouch`), and the forward direction for exact
matches: a read intron that IS an annotated intron is marked 1.  Core Lean only.
-/
import IsoVerif.Lemmas.C01Sweep
import IsoVerif.Lemmas.Profiles

namespace IsoVerif.Lemmas.C01
open IsoVerif.Gen IsoVerif.Model IsoVerif.Lemmas IsoVerif.Lemmas.C13

theorem LexSorted_SortedStarts (K : List Iv) (h : LexSorted K) : SortedStarts K :=
  (LexSorted_pairwise h).imp fun h => by unfold lexLt at h; omega

/-- a profile after some writes: same length, every 1 still there -/
def Keeps1 (l out : List Int) : Prop := out.length = l.length ∧ ∀ i : Nat, l[i]? = some 1 → out[i]? = some 1

theorem Keeps1.refl (l : List Int) : Keeps1 l l := ⟨rfl, fun _ h => h⟩

theorem Keeps1.trans {a b c : List Int} (h1 : Keeps1 a b) (h2 : Keeps1 b c) : Keeps1 a c :=
  ⟨h2.1.trans h1.1, fun i h => h2.2 i (h1.2 i h)⟩

/-- the two kinds of write of the sweeps: a 1, or anything over an entry that is 0 -/
theorem keeps1_set (l : List Int) (i : Nat) (v : Int) (h : v = 1 ∨ l.getD i 0 = 0) : Keeps1 l (l.set i v) := by
  refine ⟨List.length_set, fun j hj => ?_⟩
  by_cases e : i = j
  · subst e
    rcases h with rfl | h
    · exact List.getElem?_set_self (getElem?_lt hj)
    · rw [List.getD_eq_getElem?_getD, hj] at h; cases h
  · rwa [List.getElem?_set_ne e]

/-- a stretch of the sweep keeps the length of the read profile and its 1s, and a match it records is for a read feature
    it marks 1 -/
def ReadTouch (st out : OvState) : Prop :=
  Keeps1 st.read out.read ∧ ∀ q ∈ out.matched, q ∈ st.matched ∨ (q.1 < st.read.length → out.read[q.1]? = some 1)

theorem ReadTouch.refl (st : OvState) : ReadTouch st st := ⟨Keeps1.refl _, fun _ h => Or.inl h⟩

theorem ReadTouch.trans {a b c : OvState} (h1 : ReadTouch a b) (h2 : ReadTouch b c) : ReadTouch a c := by
  refine ⟨h1.1.trans h2.1, fun q hq => ?_⟩
  rcases h2.2 q hq with hb | hb
  · exact (h1.2 q hb).imp_right fun h hl => h2.1.2 _ (h hl)
  · exact Or.inr fun hl => hb (by rw [h1.1.1]; exact hl)

theorem ovSweep_readTouch (cmp absent : Iv → Iv → Bool) (M : Iv) :
    ∀ ks gi rs ri st, ReadTouch st (ovSweep cmp absent M ks gi rs ri st) := by
  intro ks gi rs ri st
  induction ks, gi, rs, ri, st using ovSweep_ind cmp absent M with
  | stop ks gi rs ri st h _ => rw [h]; exact ReadTouch.refl st
  | read k ks gi r rs ri st h1 ih =>
    rw [ovSweep_read _ _ _ _ _ _ _ _ h1]
    refine ReadTouch.trans ?_ ih
    unfold readSt
    split
    · rename_i hc
      simp only [Bool.and_eq_true, beq_iff_eq] at hc
      exact ⟨keeps1_set _ _ _ (Or.inr hc.1), fun _ h => Or.inl h⟩
    · exact ReadTouch.refl st
  | adv k ks gi r rs ri st h1 hj ih =>
    rw [ovSweep_adv _ _ _ _ _ _ _ _ h1 hj]
    refine ReadTouch.trans ?_ ih
    rcases advSt_cases cmp absent M k r gi ri st with e | ⟨_, e⟩ | ⟨_, e⟩ <;> rw [e]
    · exact ReadTouch.refl st
    · exact ⟨Keeps1.refl _, fun _ h => Or.inl h⟩
    · refine ⟨keeps1_set _ _ _ (Or.inl rfl), fun q hq => ?_⟩
      rcases List.mem_append.mp hq with hq | hq
      · exact Or.inl hq
      · rw [List.mem_singleton.mp hq]
        exact Or.inr fun hl => List.getElem?_set_self hl

theorem ovSweep_read_length (cmp absent : Iv → Iv → Bool) (mapped : Iv)
    (ks : List Iv) (gi : Nat) (rs : List Iv) (ri : Nat) (st : OvState) :
    (ovSweep cmp absent mapped ks gi rs ri st).read.length = st.read.length :=
  (ovSweep_readTouch cmp absent mapped ks gi rs ri st).1.1

theorem sweepState_matched_read (K : List Iv) (gr : Iv) (cmp absent : Iv → Iv → Bool) (R : List Iv) (M : Iv) :
    ∀ q ∈ (sweepState K gr cmp absent R M).matched, (sweepState K gr cmp absent R M).read[q.1]? = some 1 := by
  intro q hq
  obtain ⟨_, hinv⟩ := sweepState_inv K gr cmp absent R M
  obtain ⟨_, _, r, _, hr, _⟩ := hinv.matched_ok q hq
  refine ((ovSweep_readTouch cmp absent M K 0 R 0 _).2 q hq).elim (fun h => nomatch h) fun h => h ?_
  rw [List.length_map]; exact getElem?_lt hr

/-- `construct_profile_for_features` marks with 1 every read feature that is exactly a known feature (known features in
    `sorted(set)` order, read features sorted / disjoint / well-formed): among sorted disjoint read
    features it is the first that does not end before itself, so the known feature is judged against it and matches -/
theorem constructOverlapping_exact_marked (K : List Iv) (geneRegion : Iv) (absent : Iv → Iv → Bool) (delta : Int)
    (R : List Iv) (mapped : Iv) (polya polyt : Int) (hδ : 0 ≤ delta)
    (hK : LexSorted K) (hR : SD R) (hRw : WFl R) (j : Nat) (r : Iv) (hj : R[j]? = some r) (hin : r ∈ K) :
    (constructOverlapping K geneRegion (fun a b => equal_ranges a b delta) absent delta R mapped polya polyt).read[j]?
      = some 1 := by
  obtain ⟨t, ht⟩ := List.mem_iff_getElem?.mp hin
  have hrw : r.1 ≤ r.2 := hRw r (List.mem_of_getElem? hj)
  have hmem : (j, t) ∈ (sweepState K geneRegion (fun a b => equal_ranges a b delta) absent R mapped).matched := by
    rcases sweepState_mark K geneRegion (fun a b => equal_ranges a b delta) absent R mapped (LexSorted_SortedStarts K hK)
      t r ht with ⟨j', r', ⟨hr', hn, hbef⟩, _, hm⟩ | ⟨hall, _⟩
    · obtain rfl : j' = j := by
        rcases Nat.lt_trichotomy j' j with h | h | h
        · exact absurd (hR.get_lt hRw hr' hj h) (by omega)
        · exact h
        · exact absurd (hbef j r h hj) (by omega)
      obtain rfl : r = r' := Option.some.inj (hj.symm.trans hr')
      refine (hm j').mpr ⟨rfl, by omega, ?_⟩
      simp only [equal_ranges, Bool.and_eq_true, decide_eq_true_eq, iabs_le]; omega
    · exact absurd (hall r (List.mem_of_getElem? hj)) (by omega)
  exact sweepState_matched_read K geneRegion _ absent R mapped (j, t) hmem

end IsoVerif.Lemmas.C01
