/-
String literals under kernel evaluation.  A `String` is a `ByteArray`; what the kernel pays for in `decide +kernel` on `f x = "text"`
is not the comparison and not `++` but turning every literal into its bytes (`String.ofList cs` runs `List.toByteArray.loop`, a `push`
per byte: ≈ 7 k heartbeats per character), and `"text".toList` decodes those bytes again.  A literal unifies with `String.ofList cs`,
so a rewrite can hand the kernel the character list `cs` instead:
* `"text".toList`: `rw [String.toList_ofList]` (core) leaves `cs`;
* `f x = "text"`: compare byte lists (`bytesOf_inj`) and `rw [bytesOf_ofList]`: the literal's bytes are `cs.flatMap String.utf8EncodeChar`,
  which the kernel computes without building a `ByteArray`.
One `rw` per distinct literal (`repeat rw […]`; `simp only` does not unify a literal with `String.ofList _`).  The literals inside the
function `f` itself are not reached by this.  Core Lean only.
-/
namespace IsoVerif.Lemmas

/-- the UTF-8 bytes of a string, as a list -/
def bytesOf (s : String) : List UInt8 := s.toByteArray.data.toList

theorem bytesOf_inj : Function.Injective bytesOf := fun s t h => by
  apply String.toByteArray_inj.mp
  cases hs : s.toByteArray with | mk a => cases ht : t.toByteArray with | mk b =>
  simp only [bytesOf, hs, ht] at h
  congr 1
  exact Array.ext' h

/-- the bytes of a literal without running the loop that builds its `ByteArray` -/
theorem bytesOf_ofList (cs : List Char) : bytesOf (String.ofList cs) = cs.flatMap String.utf8EncodeChar := by
  simp only [bytesOf, String.toByteArray_ofList, List.utf8Encode, List.data_toByteArray]

/-- an optional pair compared through injective maps of its components (the shape of most printed outputs) -/
theorem opt_pair_inj {α β γ δ : Type} {f : α → γ} {g : β → δ} (hf : Function.Injective f) (hg : Function.Injective g)
    {x y : Option (α × β)} (h : x.map (fun p => (f p.1, g p.2)) = y.map (fun p => (f p.1, g p.2))) : x = y := by
  cases x <;> cases y <;> simp only [Option.map_some, Option.map_none, Option.some.injEq, Prod.mk.injEq, reduceCtorEq] at h ⊢
  exact Prod.ext (hf h.1) (hg h.2)

end IsoVerif.Lemmas
