/-
C07: clean-up stages, the reference stage, the footprints of all stages after it in one statement (`restStages_within`), and the
composition of everything after `.params` of a run of the repaired code,
as phases (`rest_phases`): from what is known of the folder at that point (`Start`), with the per-chromosome work left open —
anything that meets `CollectSpec` / `ConstructSpec` (`--threads 1` loops: `seqTasks`; parallel stages: Lemmas/ResumePool.lean).
-/
import IsoVerif.Lemmas.ResumeMerge

namespace IsoVerif.Lemmas.Resume
open IsoVerif.Model.Resume

/-- no STAGE lock exists (`isStageLock`: `_lock`, the read-group lock, `_collected c`, `_processed c`); the index `refFai`, which
    vouches for `refFaiData`, may exist: hence `d ≠ .refFaiData` in `noLocks_guard` -/
def NoLocks (cfg : Cfg) (fs : FS) : Prop :=
  fs.has .lock = false ∧ fs.has .rgLock = false ∧
    ∀ c ∈ cfg.chrs, fs.has (.collected c) = false ∧ fs.has (.processed c) = false

theorem noLocks_guard {cfg : Cfg} {fs : FS} (h : NoLocks cfg fs) {l d : Path} (hm : d ∈ guarded cfg l)
    (hd : d ≠ .refFaiData) : fs.has l = false := by
  rcases guarded_lock_cases hm with rfl | rfl | ⟨c, hc, rfl⟩ | ⟨c, hc, rfl⟩ | ⟨_, e, _⟩
  · exact h.1
  · exact h.2.1
  · exact (h.2.2 c hc).1
  · exact (h.2.2 c hc).2
  · exact absurd e hd

theorem globStage_T (sel : Path → Bool) (ord : List Path) (fs : FS) : Within sel (globStage sel ord fs) :=
  within_rmAll fun p hp => by
    have := (List.mem_filter.mp hp).2
    simp only [Bool.and_eq_true] at this
    exact this.1

theorem glob_stage {cfg : Cfg} {fs : FS} (h : J cfg fs) (hn : NoLocks cfg fs) (sel : Path → Bool) (hsel : sel .params = false)
    (hsel2 : sel .refFaiData = false) (ord : List Path) (nd : ord.Nodup) :
    Good cfg fs (runActs (globStage sel ord fs) fs) ∧ NoLocks cfg (runActs (globStage sel ord fs) fs).fs := by
  unfold globStage
  have hL : ∀ p ∈ ord.filter (fun p => sel p && fs.has p), sel p = true ∧ fs.has p = true := fun p hp => by
    simpa only [List.mem_filter, Bool.and_eq_true] using (List.mem_filter.mp hp).2
  -- once no lock is left, removing any existing files keeps the invariant
  obtain ⟨hg, hv⟩ := rmAll_stage (cfg := cfg) (nd.sublist List.filter_sublist) (fun p hp => (hL p hp).2) (by
    apply allJ_body h
    · intro e he; simp only [List.mem_map] at he; obtain ⟨p, hp, rfl⟩ := he
      intro e; have := (hL p hp).1; rw [show p = Path.params from e, hsel] at this; cases this
    · intro e he _; simp only [List.mem_map] at he; obtain ⟨p, _, rfl⟩ := he; rfl
    · intro e he _ l hm; simp only [List.mem_map] at he; obtain ⟨p, hp, rfl⟩ := he
      exact noLocks_guard hn hm (fun e => by have := (hL p hp).1; rw [show p = Path.refFaiData from e, hsel2] at this; cases this))
  have hfalse : ∀ p, fs.has p = false → (runActs (rmAll (ord.filter (fun p => sel p && fs.has p))) fs).fs.has p = false :=
    fun p hp => gone_of_removed hv fun hq => absurd hq (by rw [hp]; simp)
  exact ⟨hg, hfalse _ hn.1, hfalse _ hn.2.1, fun c hc => ⟨hfalse _ (hn.2.2 c hc).1, hfalse _ (hn.2.2 c hc).2⟩⟩

theorem cleanupLocks_T (v : Variant) (cfg : Cfg) (fs : FS) : Within isStageLock (cleanupLocks v cfg fs) := by
  unfold cleanupLocks; split
  · exact within_rmAll (lockFilter_stageLock (fun p hp => by
      simp only [List.mem_filter, List.mem_cons, List.not_mem_nil, or_false] at hp; rcases hp.1 with rfl | rfl <;> rfl) _ _)
  · exact within_nil _

theorem cleanupLocks_stage {cfg : Cfg} (wf : WF cfg) {fs : FS} (h : J cfg fs) :
    Good cfg fs (runActs (cleanupLocks fixed cfg fs) fs) ∧ NoLocks cfg (runActs (cleanupLocks fixed cfg fs) fs).fs ∧
      (∀ p, isLock p = false → (runActs (cleanupLocks fixed cfg fs) fs).fs p = fs p) := by
  unfold cleanupLocks
  simp only [fixed, if_true]
  obtain ⟨hg, hval, hkeep⟩ := removeLocks_stage h (nodup_lock_list wf _ List.filter_sublist _ _)
    (L := [Path.lock, Path.rgLock].filter fs.has ++ (cfg.chrs.filter (fun c => fs.has (.collected c))).map Path.collected
      ++ (cfg.chrs.filter (fun c => fs.has (.processed c))).map Path.processed)
    (by simp only [List.mem_append, List.mem_map, List.mem_filter]
        rintro p ((⟨_, hh⟩ | ⟨c, ⟨_, hh⟩, rfl⟩) | ⟨c, ⟨_, hh⟩, rfl⟩) <;> exact hh)
    (by simp only [List.mem_append, List.mem_map, List.mem_filter, List.mem_cons, List.not_mem_nil, or_false]
        rintro p ((⟨rfl | rfl, _⟩ | ⟨c, _, rfl⟩) | ⟨c, _, rfl⟩) <;> rfl)
  refine ⟨hg, ⟨gone_of_removed hval fun hq => ?_, gone_of_removed hval fun hq => ?_, fun c hc =>
    ⟨gone_of_removed hval fun hq => ?_, gone_of_removed hval fun hq => ?_⟩⟩, hkeep⟩
  · simp [hq]
  · simp [hq]
  · simp only [List.mem_append, List.mem_map, List.mem_filter]; exact Or.inl (Or.inr ⟨c, ⟨hc, hq⟩, rfl⟩)
  · simp only [List.mem_append, List.mem_map, List.mem_filter]; exact Or.inr ⟨c, ⟨hc, hq⟩, rfl⟩

theorem finalPaths_Tfin {cfg : Cfg} {p : Path} (h : p ∈ finalPaths cfg) : Tfin p = true := by
  simp only [finalPaths, List.mem_append, List.mem_map, List.mem_flatMap, List.mem_cons, List.not_mem_nil, or_false] at h
  rcases h with ((⟨s, _, rfl⟩ | ⟨s, _, rfl | rfl⟩) | ⟨s, _, rfl | rfl | rfl⟩) | ⟨s, _, rfl⟩ <;>
    first | exact Tfin_finalOf cfg s | rfl

def FinOK (cfg : Cfg) (fs : FS) : Prop := ∀ p ∈ finalPaths cfg, fs.good p = true

theorem finOK_frame {cfg : Cfg} {fs fs' : FS} (T : Path → Bool) (hT : ∀ p, Tfin p = true → T p = false)
    (hf : ∀ p, T p = false → fs' p = fs p) (h : FinOK cfg fs) : FinOK cfg fs' := fun p hp => by
  rw [FS.good, hf p (hT p (finalPaths_Tfin hp))]; exact h p hp

/-- all stages after `.params` (repaired code), right-nested; `skc` = no read collection in this run
    (stage lock found by a resumed run, or `--read_assignments`) -/
def restStages (cfg : Cfg) (ord : List Path) (rs skc : Bool) : List Stage :=
  rgStage cfg rs :: collectPre cfg rs skc :: (cfg.chrs.map (collectChr fixed cfg rs skc)
    ++ (collectPost cfg skc :: constructPre cfg :: (cfg.chrs.map (constructChr fixed cfg rs)
      ++ (dropStage fixed cfg :: mergeStage cfg true ::
        (if cfg.keepTmp || cfg.fromSaves then []
         else [cleanupLocks fixed cfg, globStage isSaveAux ord, globStage isRgAux ord])))))

theorem stages_eq (cfg : Cfg) (ord : List Path) (rs sk : Bool) :
    stages fixed cfg ord rs sk = paramsStage fixed rs :: refStage fixed cfg rs :: restStages cfg ord rs (sk || cfg.fromSaves) := by
  simp [stages, restStages, fixed, unalOK]

/-- a class of paths that contains the footprint of every stage that can act (no collection footprints when no reads are
    collected, no clean-up of the save files when nothing is cleaned up) contains every event of every stage -/
theorem restStages_within {Q : Path → Bool} (cfg : Cfg) (ord : List Path) (rs skc : Bool)
    (hRg : ∀ p, isRgAux p = true → Q p = true) (hLock : ∀ p, isStageLock p = true → Q p = true)
    (hCol : skc = false → ∀ c p, Tcol c p = true → Q p = true) (hPost : skc = false → ∀ p, Tpost p = true → Q p = true)
    (hFin : ∀ p, Tfin p = true → Q p = true) (hCon : ∀ c p, Tcon c p = true → Q p = true)
    (hMerge : ∀ p, Tmerge p = true → Q p = true)
    (hGlob : (cfg.keepTmp || cfg.fromSaves) = false → ∀ p, isSaveAux p = true → Q p = true) :
    ∀ s ∈ restStages cfg ord rs skc, ∀ fs, Within Q (s fs) := by
  intro s hs fs
  simp only [restStages, List.mem_cons, List.mem_append, List.mem_map] at hs
  rcases hs with rfl | rfl | ⟨c, _, rfl⟩ | rfl | rfl | ⟨c, _, rfl⟩ | rfl | rfl | hs
  · exact (rgStage_T cfg rs fs).mono hRg
  · exact (collectPre_T cfg rs skc fs).mono hLock
  · cases skc with
    | true => simp only [collectChr, if_true]; exact within_nil _
    | false => exact (collectChr_T fixed cfg rs false c fs).mono (hCol rfl c)
  · cases skc with
    | true => simp only [collectPost, if_true]; exact within_nil _
    | false => exact (collectPost_T cfg false fs).mono (hPost rfl)
  · exact (constructPre_T cfg fs).mono hFin
  · exact (constructChr_T fixed cfg rs c fs).mono (hCon c)
  · exact (dropStage_T fixed cfg fs).mono hLock
  · exact (mergeStage_T cfg true fs).mono hMerge
  · split at hs
    · simp at hs
    · rename_i hk
      simp only [List.mem_cons, List.not_mem_nil, or_false] at hs
      rcases hs with rfl | rfl | rfl
      · exact (cleanupLocks_T fixed cfg fs).mono hLock
      · exact (globStage_T _ ord fs).mono (hGlob (by simpa using hk))
      · exact (globStage_T _ ord fs).mono hRg

/-- the paths of the reference stage: the unpacked copy, the index (file and content), the temporary index; the same function as
    `isRefPath` of Model/ResumeMulti.lean (Lemmas/ResumeMulti.lean `isRefPath_eq`) -/
def isRefAux : Path → Bool
  | .refFa | .refFai | .refFaiData | .refFaiTmp => true
  | _ => false

/-- the events of the copy part of the reference stage (repaired code): every run unpacks the reference again -/
def copyEvents (cfg : Cfg) : List Ev :=
  if cfg.gzRef then [.create .refFa, .commit .refFa .stale, .commit .refFa .good] else []

/-- the events of load_indexed_reference (repaired code) for an index inside the output folder: nothing when an index that
    is trusted exists; otherwise the index is built under the temporary name and renamed -/
def indexEvents (cfg : Cfg) (fs : FS) : List Ev :=
  if !cfg.idx then []
  else if idxTrusted cfg && fs.has .refFai then []
  else [.create .refFaiTmp, .commit .refFaiTmp .good, .remove .refFaiTmp, .commit .refFaiData .good, .commit .refFai .good]

def refEvents (cfg : Cfg) (fs : FS) : List Ev := copyEvents cfg ++ indexEvents cfg fs

theorem refFaiTmp_not_guarded {cfg : Cfg} {l : Path} : Path.refFaiTmp ∉ guarded cfg l := not_mem_guarded rfl

theorem copy_part {cfg : Cfg} (rs : Bool) {fs : FS} (h : J cfg fs) :
    ChecksOK (refCopyActs fixed cfg rs fs) fs ∧ eventsOf (refCopyActs fixed cfg rs fs) = copyEvents cfg ∧
      AllP (J cfg) fs (copyEvents cfg) ∧
      (∀ p, p ≠ .refFa → applyAll fs (copyEvents cfg) p = fs p) ∧
      (cfg.gzRef = true → (applyAll fs (copyEvents cfg)).good .refFa = true) := by
  unfold refCopyActs copyEvents
  cases hg : cfg.gzRef with
  | false =>
    simp only [Bool.not_false, if_true, Bool.false_eq_true, if_false]
    exact ⟨trivial, rfl, h, fun _ _ => rfl, fun e => absurd e (by simp)⟩
  | true =>
    simp only [fixed, Bool.not_true, Bool.false_and, Bool.false_eq_true, if_false, if_true]
    refine ⟨by simp [evs, ChecksOK, apply, Ev.path, Ev.val, good_set], by simp [evs, eventsOf], ?_, fun p hp => ?_, fun _ => ?_⟩
    · exact allJ_of_bodyOK (L := []) h (by simp [bodyOK, isLock, locksOf, Ev.path]) (by simp)
    · simp [applyAll, apply, Ev.path, FS.set, hp]
    · simp [applyAll, apply, Ev.path, Ev.val, good_set]

theorem index_part {cfg : Cfg} {fs : FS} (h : J cfg fs) :
    ChecksOK (refIndexActs fixed cfg fs) fs ∧ eventsOf (refIndexActs fixed cfg fs) = indexEvents cfg fs ∧
      AllP (J cfg) fs (indexEvents cfg fs) ∧
      (∀ p, isRefAux p = false → applyAll fs (indexEvents cfg fs) p = fs p) ∧
      applyAll fs (indexEvents cfg fs) .refFa = fs .refFa ∧
      (cfg.idx = true → (applyAll fs (indexEvents cfg fs)).good .refFaiData = true) := by
  unfold refIndexActs indexEvents
  cases hi : cfg.idx with
  | false =>
    simp only [Bool.not_false, if_true]
    exact ⟨trivial, rfl, h, fun _ _ => rfl, rfl, fun e => absurd e (by simp)⟩
  | true =>
    simp only [Bool.not_true, Bool.false_eq_true, if_false]
    by_cases ht : (idxTrusted cfg && fs.has .refFai) = true
    · simp only [ht, if_true]
      simp only [Bool.and_eq_true] at ht
      have hd : fs.good .refFaiData = true := h.2 .refFai ht.2 _ (by simp [guarded, ht.1])
      exact ⟨⟨ht.2, trivial⟩, rfl, h, fun _ _ => rfl, rfl, fun _ => hd⟩
    · simp only [ht, fixed, if_true, Bool.false_eq_true, if_false]
      have h4 : AllP (J cfg) fs [.create .refFaiTmp, .commit .refFaiTmp .good, .remove .refFaiTmp, .commit .refFaiData .good] := by
        apply allJ_body h
        · intro e he; simp only [List.mem_cons, List.not_mem_nil, or_false] at he
          rcases he with rfl | rfl | rfl | rfl <;> simp [Ev.path]
        · intro e he hl; simp only [List.mem_cons, List.not_mem_nil, or_false] at he
          rcases he with rfl | rfl | rfl | rfl <;> simp [Ev.path, isLock] at hl
        · intro e he hv l hm; simp only [List.mem_cons, List.not_mem_nil, or_false] at he
          rcases he with rfl | rfl | rfl | rfl
          · exact absurd hm refFaiTmp_not_guarded
          · simp [Ev.val] at hv
          · exact absurd hm refFaiTmp_not_guarded
          · simp [Ev.val] at hv
      have h5 : J cfg (apply (applyAll fs [.create .refFaiTmp, .commit .refFaiTmp .good, .remove .refFaiTmp,
          .commit .refFaiData .good]) (.commit .refFai .good)) := by
        show J cfg (FS.set _ .refFai (some .good))
        apply J_set (AllP_last h4) (by simp)
        · intro hv; exact absurd rfl hv
        · intro _ d hd
          simp only [guarded] at hd
          split at hd
          · simp only [List.mem_cons, List.not_mem_nil, or_false] at hd; subst hd
            simp [applyAll, apply, Ev.path, Ev.val, good_set]
          · simp at hd
      refine ⟨?_, by simp [evs, eventsOf], ?_, fun p hp => ?_, ?_, fun _ => ?_⟩
      · simp [evs, ChecksOK, apply, Ev.path, Ev.val, has_set]
      · have : ([.create .refFaiTmp, .commit .refFaiTmp .good, .remove .refFaiTmp, .commit .refFaiData .good, .commit .refFai .good] : List Ev)
            = [.create .refFaiTmp, .commit .refFaiTmp .good, .remove .refFaiTmp, .commit .refFaiData .good] ++ [.commit .refFai .good] := rfl
        rw [this, AllP_append]
        exact ⟨h4, AllP_single (AllP_last h4) h5⟩
      · cases p <;> simp [isRefAux] at hp <;> simp [applyAll, apply, Ev.path, FS.set]
      · simp [applyAll, apply, Ev.path, FS.set]
      · simp [applyAll, apply, Ev.path, Ev.val, good_set]

theorem refStage_T (v : Variant) (cfg : Cfg) (rs : Bool) (fs : FS) : Within isRefAux (refStage v cfg rs fs) := by
  intro e he
  unfold refStage refCopyActs refIndexActs at he
  rw [eventsOf_append] at he
  simp only [List.mem_append] at he
  rcases he with he | he
  · split at he
    · simp [eventsOf] at he
    · split at he <;> simp [evs, eventsOf] at he
      rcases he with rfl | rfl | rfl <;> rfl
  · split at he
    · simp [eventsOf] at he
    · split at he
      · simp [eventsOf] at he
      · split at he <;> simp [evs, eventsOf] at he
        · rcases he with rfl | rfl | rfl | rfl | rfl <;> rfl
        · rcases he with rfl | rfl <;> rfl

/-- the reference stage (repaired code): whatever file carries the name of the unpacked copy — nothing, the complete copy
    of this run, a partial copy left by a kill, the copy of another reference left by an earlier run — is rewritten
    before it is read; an index inside the folder is read only if it exists (then it is complete: `J`), otherwise it is
    built under a temporary name and renamed; the stage completes, keeps the invariant at every prefix, touches no other
    file and leaves the reference the run reads in order (`refOK`) -/
theorem ref_stage {cfg : Cfg} (rs : Bool) {fs : FS} (h : J cfg fs) :
    Good cfg fs (runActs (refStage fixed cfg rs fs) fs) ∧
      (runActs (refStage fixed cfg rs fs) fs).evs = refEvents cfg fs ∧
      (∀ p, isRefAux p = false → (runActs (refStage fixed cfg rs fs) fs).fs p = fs p) ∧
      refOK cfg (runActs (refStage fixed cfg rs fs) fs).fs = true := by
  obtain ⟨c1, e1, a1, f1, g1⟩ := copy_part (cfg := cfg) rs h
  have hsame : fs.has .refFai = (applyAll fs (copyEvents cfg)).has .refFai := by
    simp only [FS.has]; rw [f1 _ (by simp)]
  have hidx : refIndexActs fixed cfg fs = refIndexActs fixed cfg (applyAll fs (copyEvents cfg)) := by
    simp only [refIndexActs, hsame]
  have hie : indexEvents cfg fs = indexEvents cfg (applyAll fs (copyEvents cfg)) := by
    simp only [indexEvents, hsame]
  obtain ⟨c2, e2, a2, f2, r2, g2⟩ := index_part (cfg := cfg) (AllP_last a1)
  have hck : ChecksOK (refStage fixed cfg rs fs) fs := by
    unfold refStage; rw [checks_append, e1, hidx]; exact ⟨c1, c2⟩
  have hev : eventsOf (refStage fixed cfg rs fs) = refEvents cfg fs := by
    unfold refStage refEvents; rw [eventsOf_append, e1, hidx, e2, hie]
  obtain ⟨g, hfs⟩ := good_of_checks hck (by rw [hev]; unfold refEvents; rw [AllP_append, hie]; exact ⟨a1, a2⟩)
  rw [hev] at hfs
  refine ⟨g, by rw [(runActs_of_checks hck).2, hev], fun p hp => ?_, ?_⟩
  · rw [hfs]; unfold refEvents; rw [applyAll_append, hie, f2 p hp, f1 p (by intro e; subst e; simp [isRefAux] at hp)]
  · rw [hfs]; unfold refEvents; rw [applyAll_append, hie]
    simp only [refOK, Bool.and_eq_true, Bool.or_eq_true, Bool.not_eq_true']
    constructor
    · cases hg : cfg.gzRef with
      | false => exact Or.inl rfl
      | true => right; simp only [FS.good]; rw [r2]; exact g1 hg
    · cases hi : cfg.idx with
      | false => exact Or.inl rfl
      | true => exact Or.inr (g2 hi)

theorem seq_cons_seq {cfg : Cfg} {fs : FS} {s : Stage} {ps : List Phase} {Q : FS → Prop}
    (h1 : Good cfg fs (runActs (s fs) fs))
    (h2 : Good cfg (runActs (s fs) fs).fs (runPhases ps (runActs (s fs) fs).fs) ∧ Q (runPhases ps (runActs (s fs) fs).fs).fs) :
    Good cfg fs (runPhases (.seq s :: ps) fs) ∧ Q (runPhases (.seq s :: ps) fs).fs := by
  obtain ⟨g, e⟩ := good_cons_phase (p := .seq s) h1 h2.1
  exact ⟨g, e ▸ h2.2⟩

theorem good_J_phases {cfg : Cfg} {fs : FS} {ps : List Phase} (h : Good cfg fs (runPhases ps fs)) : J cfg (runPhases ps fs).fs := by
  rw [runPhases_fs]; exact AllP_last h.2

theorem runPhases_single {cfg : Cfg} {fs : FS} {p : Phase} (h : Good cfg fs (runPhase p fs)) :
    Good cfg fs (runPhases [p] fs) ∧ (runPhases [p] fs).fs = (runPhase p fs).fs :=
  good_cons_phase (ps := []) h ⟨rfl, by rw [runPhase_fs]; exact AllP_last h.2⟩

theorem seq_append_phases {cfg : Cfg} {fs : FS} {a b : List Phase} {Q : FS → Prop}
    (h1 : Good cfg fs (runPhases a fs))
    (h2 : Good cfg (runPhases a fs).fs (runPhases b (runPhases a fs).fs) ∧ Q (runPhases b (runPhases a fs).fs).fs) :
    Good cfg fs (runPhases (a ++ b) fs) ∧ Q (runPhases (a ++ b) fs).fs := by
  rw [runPhases_append]
  simp only [h1.1, if_true]
  refine ⟨⟨h2.1.1, ?_⟩, h2.2⟩
  rw [AllP_append, ← runPhases_fs]
  exact ⟨h1.2, h2.1.2⟩

/-- all phases after `.params` (repaired code); `skc` = no read collection in this run; `P1` / `P2` = the read collection /
    the model construction of all chromosomes: main-process stages one after the other, or a parallel stage -/
def restPhases (cfg : Cfg) (ord : List Path) (rs skc : Bool) (P1 P2 : List Phase) : List Phase :=
  .seq (rgStage cfg rs) :: .seq (collectPre cfg rs skc) :: (P1 ++
  (.seq (collectPost cfg skc) :: .seq (constructPre cfg) :: (P2 ++
  (.seq (dropStage fixed cfg) :: .seq (mergeStage cfg true) ::
  (if cfg.keepTmp || cfg.fromSaves then []
   else [.seq (cleanupLocks fixed cfg), .seq (globStage isSaveAux ord), .seq (globStage isRgAux ord)])))))

/-- what the run needs of the read collection of all chromosomes, however it is scheduled -/
def CollectSpec (cfg : Cfg) (rs skc : Bool) (P : List Phase) : Prop :=
  ∀ {fs : FS}, J cfg fs → fs.has .rgLock = true → (skc = false → fs.has .lock = false) →
    (rs = false → skc = false → ∀ c ∈ cfg.chrs, fs.has (.collected c) = false) → refOK cfg fs = true →
    Good cfg fs (runPhases P fs) ∧
      (skc = false → ∀ c ∈ cfg.chrs, (runPhases P fs).fs.has (.collected c) = true) ∧
      (∀ p, (∀ c ∈ cfg.chrs, Tcol c p = false) → (runPhases P fs).fs p = fs p) ∧
      (skc = true → (runPhases P fs).fs = fs)

/-- … and of the model construction -/
def ConstructSpec (cfg : Cfg) (rs : Bool) (P : List Phase) : Prop :=
  ∀ {fs : FS}, J cfg fs → SavesOK cfg fs → (rs = false → ∀ c ∈ cfg.chrs, fs.has (.processed c) = false) →
    refOK cfg fs = true →
    Good cfg fs (runPhases P fs) ∧ ∀ c ∈ cfg.chrs, (runPhases P fs).fs.has (.processed c) = true

/-- what is known of the folder when the stages after `.params` start (`sk`: a resumed run finds the stage lock) -/
structure Start (cfg : Cfg) (rs sk : Bool) (fs : FS) : Prop where
  resumed : sk = true → rs = true
  lock : sk = true → fs.has .lock = true
  noLock : sk = false → cfg.fromSaves = false → rs = true → fs.has .lock = false
  saves : cfg.fromSaves = true → SavesOK cfg fs
  noProcessed : cfg.fromSaves = true → rs = false → ∀ c ∈ cfg.chrs, fs.has (.processed c) = false

theorem Start.frame {cfg : Cfg} {rs sk : Bool} {fs fs' : FS} (hs : Start cfg rs sk fs) (hl : fs' .lock = fs .lock)
    (hi : fs' .info = fs .info) (hm : ∀ c, fs' (.multimap c) = fs (.multimap c)) (hv : ∀ c, fs' (.save c) = fs (.save c))
    (hp : ∀ c, fs' (.processed c) = fs (.processed c)) : Start cfg rs sk fs' :=
  ⟨hs.resumed, fun e => by rw [FS.has, hl]; exact hs.lock e, fun e e' e'' => by rw [FS.has, hl]; exact hs.noLock e e' e'',
   fun e => savesOK_frame (hs.saves e) hi hm hv, fun e e' c hc => by rw [FS.has, hp]; exact hs.noProcessed e e' c hc⟩

theorem rest_phases {cfg : Cfg} (wf : WF cfg) (ord : List Path) (hord : ord.Nodup) (rs sk : Bool) {P1 P2 : List Phase}
    (h1 : CollectSpec cfg rs (sk || cfg.fromSaves) P1) (h2 : ConstructSpec cfg rs P2) {fs : FS} (h : J cfg fs)
    (hst : Start cfg rs sk fs)
    (href : refOK cfg fs = true) :
    Good cfg fs (runPhases (restPhases cfg ord rs (sk || cfg.fromSaves) P1 P2) fs) ∧
      FinOK cfg (runPhases (restPhases cfg ord rs (sk || cfg.fromSaves) P1 P2) fs).fs := by
  -- stage by stage: the stage's lemma, then the facts the later stages need are carried over the stage's footprint and the
  -- state is generalized.  Carried up to the model construction: `J` (j), `.rgLock` exists (rg: for the collection), a skipped
  -- collection has its stage lock (hsk) and a collection to do has none (hnl) — `collectPost` turns both into `SavesOK` (sv),
  -- which `--read_assignments` has from the start (hsv) —, a fresh run sees no `_processed` lock (hnp), `refOK` (href).
  -- After it: the per-chromosome files are complete (hout); after the merge `FinOK` (fin); in the clean-up `NoLocks` (nl).
  unfold restPhases
  generalize hskc : (sk || cfg.fromSaves) = skc at h1 ⊢
  have hskc_f : skc = false → sk = false ∧ cfg.fromSaves = false := by
    intro e; subst hskc; simpa using e
  have hskc_t : skc = true → sk = true ∨ cfg.fromSaves = true := by
    intro e; subst hskc; simpa using e
  obtain ⟨g1, rg1⟩ := rg_stage wf rs h
  have f1 := fun p hp => (rgStage_T cfg rs fs).frame fs (p := p) hp
  have j1 := good_J_acts g1
  refine seq_cons_seq (Q := FinOK cfg) g1 ?_
  obtain ⟨hskrs, hsk1, hnsk1, hsv1, hnp1⟩ :=
    hst.frame (f1 _ rfl) (f1 _ rfl) (fun _ => f1 _ rfl) (fun _ => f1 _ rfl) (fun _ => f1 _ rfl)
  have href1 : refOK cfg (runActs (rgStage cfg rs fs) fs).fs = true := by
    rw [refOK_frame (f1 _ rfl) (f1 _ rfl)]; exact href
  clear g1 f1 hst h href
  generalize (runActs (rgStage cfg rs fs) fs).fs = fs1 at *
  -- stale locks
  obtain ⟨g2, f2, r2, e2, n2⟩ := collectPre_stage wf rs skc j1
  have j2 := good_J_acts g2
  refine seq_cons_seq (Q := FinOK cfg) g2 ?_
  have rg2 : (runActs (collectPre cfg rs skc fs1) fs1).fs.has .rgLock = true := by rw [FS.has, r2]; exact rg1
  have hsk2 : sk = true → (runActs (collectPre cfg rs skc fs1) fs1).fs.has .lock = true := by
    intro e; rw [e2 (by subst hskc; simp [e])]; exact hsk1 e
  have hnl2 : skc = false → (runActs (collectPre cfg rs skc fs1) fs1).fs.has .lock = false := by
    intro e
    by_cases hrs : rs = true
    · rw [e2 (by simp [hrs])]; exact hnsk1 (hskc_f e).1 (hskc_f e).2 hrs
    · have hrs' : rs = false := by simpa using hrs
      exact (n2 (by simp [e, hrs'])).1
  have hnc2 : rs = false → skc = false → ∀ c ∈ cfg.chrs,
      (runActs (collectPre cfg rs skc fs1) fs1).fs.has (.collected c) = false := by
    intro e e' c hc
    exact ((n2 (by simp [e, e'])).2 c hc).1
  have hnp2 : rs = false → ∀ c ∈ cfg.chrs, (runActs (collectPre cfg rs skc fs1) fs1).fs.has (.processed c) = false := by
    intro e c hc
    by_cases hq : skc = true
    · rcases hskc_t hq with hs | hf
      · rw [hskrs hs] at e; exact absurd e (by simp)
      · rw [e2 (by simp [hq])]; exact hnp1 hf e c hc
    · have hq' : skc = false := by simpa using hq
      exact ((n2 (by simp [e, hq'])).2 c hc).2
  have hsv2 : cfg.fromSaves = true → SavesOK cfg (runActs (collectPre cfg rs skc fs1) fs1).fs := by
    intro e; rw [e2 (by subst hskc; simp [e])]; exact hsv1 e
  have href2 : refOK cfg (runActs (collectPre cfg rs skc fs1) fs1).fs = true := by
    rw [refOK_frame (f2 _ rfl) (f2 _ rfl)]; exact href1
  clear g2 f2 r2 e2 n2 rg1 hsk1 hnsk1 j1 hsv1 hnp1 href1
  generalize (runActs (collectPre cfg rs skc fs1) fs1).fs = fs2 at *
  obtain ⟨g3, p3, f3, e3⟩ := h1 j2 rg2 hnl2 hnc2 href2
  have j3 := good_J_phases g3
  refine seq_append_phases (Q := FinOK cfg) g3 ?_
  have hsk3 : sk = true → (runPhases P1 fs2).fs.has .lock = true := by
    intro e; rw [FS.has, f3 _ (fun _ _ => rfl)]; exact hsk2 e
  have hnl3 : skc = false → (runPhases P1 fs2).fs.has .lock = false := by
    intro e; rw [FS.has, f3 _ (fun _ _ => rfl)]; exact hnl2 e
  have hnp3 : rs = false → ∀ c ∈ cfg.chrs,
      (runPhases P1 fs2).fs.has (.processed c) = false := by
    intro e c hc; rw [FS.has, f3 _ (fun _ _ => rfl)]; exact hnp2 e c hc
  have hsv3 : cfg.fromSaves = true → SavesOK cfg (runPhases P1 fs2).fs := by
    intro e
    have hq : skc = true := by subst hskc; simp [e]
    rw [e3 hq]; exact hsv2 e
  have href3 : refOK cfg (runPhases P1 fs2).fs = true := by
    rw [refOK_frame (f3 _ (fun _ _ => rfl)) (f3 _ (fun _ _ => rfl))]; exact href2
  clear g3 f3 e3 rg2 hsk2 hnl2 hnc2 hnp2 j2 hsv2 href2
  generalize (runPhases P1 fs2).fs = fs3 at *
  -- multimappers, info, stage lock
  obtain ⟨g4, l4, e4⟩ := collectPost_stage skc j3 hnl3 p3
  have f4 := fun p hp => (collectPost_T cfg skc fs3).frame fs3 (p := p) hp
  have j4 := good_J_acts g4
  refine seq_cons_seq (Q := FinOK cfg) g4 ?_
  have hnp4 : rs = false → ∀ c ∈ cfg.chrs, (runActs (collectPost cfg skc fs3) fs3).fs.has (.processed c) = false := by
    intro e c hc; rw [FS.has, f4 _ rfl]; exact hnp3 e c hc
  have sv4 : SavesOK cfg (runActs (collectPost cfg skc fs3) fs3).fs := by
    by_cases hq : skc = true
    · rcases hskc_t hq with hs | hf
      · apply savesOK_of_lock j4; rw [e4 hq]; exact hsk3 hs
      · rw [e4 hq]; exact hsv3 hf
    · have hq' : skc = false := by simpa using hq
      exact savesOK_of_lock j4 (l4 hq')
  have href4 : refOK cfg (runActs (collectPost cfg skc fs3) fs3).fs = true := by
    rw [refOK_frame (f4 _ rfl) (f4 _ rfl)]; exact href3
  clear g4 f4 hsk3 hnl3 hnp3 p3 j3 l4 e4 hsv3 href3
  generalize (runActs (collectPost cfg skc fs3) fs3).fs = fs4 at *
  -- final files opened
  have g5 := constructPre_stage j4 sv4
  have f5 := fun p hp => (constructPre_T cfg fs4).frame fs4 (p := p) hp
  have j5 := good_J_acts g5
  refine seq_cons_seq (Q := FinOK cfg) g5 ?_
  have sv5 : SavesOK cfg (runActs (constructPre cfg fs4) fs4).fs :=
    savesOK_frame sv4 (f5 _ rfl) (fun _ => f5 _ rfl) (fun _ => f5 _ rfl)
  have hnp5 : rs = false → ∀ c ∈ cfg.chrs, (runActs (constructPre cfg fs4) fs4).fs.has (.processed c) = false := by
    intro e c hc; rw [FS.has, f5 _ rfl]; exact hnp4 e c hc
  have href5 : refOK cfg (runActs (constructPre cfg fs4) fs4).fs = true := by
    rw [refOK_frame (f5 _ rfl) (f5 _ rfl)]; exact href4
  clear g5 f5 sv4 hnp4 j4 href4
  generalize (runActs (constructPre cfg fs4) fs4).fs = fs5 at *
  obtain ⟨g6, p6⟩ := h2 j5 sv5 hnp5 href5
  have j6 := good_J_phases g6
  refine seq_append_phases (Q := FinOK cfg) g6 ?_
  have hout6 : ∀ c ∈ cfg.chrs, ∀ d ∈ chrOutputs cfg c,
      (runPhases P2 fs5).fs.good d = true := by
    intro c hc d hd
    exact j6.2 (.processed c) (p6 c hc) d (by simp only [guarded, hc, if_true]; exact hd)
  clear g6 p6 sv5 hnp5 j5
  generalize (runPhases P2 fs5).fs = fs6 at *
  obtain ⟨g7, n7, f7⟩ := drop_stage wf j6
  have j7 := good_J_acts g7
  refine seq_cons_seq (Q := FinOK cfg) g7 ?_
  have hout7 : ∀ c ∈ cfg.chrs, ∀ d ∈ chrOutputs cfg c, (runActs (dropStage fixed cfg fs6) fs6).fs.good d = true := by
    intro c hc d hd
    rw [FS.good, f7 d]
    · exact hout6 c hc d hd
    · intro c' e; subst e
      rcases mem_chrOutputs hd with ⟨s, e⟩ | ⟨s, e⟩ | ⟨s, e⟩ | e | e <;> cases e
  clear g7 f7 hout6 j6
  generalize (runActs (dropStage fixed cfg fs6) fs6).fs = fs7 at *
  obtain ⟨g8, fin8⟩ := merge_stage wf j7 hout7 n7
  have j8 := good_J_acts g8
  refine seq_cons_seq (Q := FinOK cfg) g8 ?_
  clear g8 hout7 n7 j7
  generalize (runActs (mergeStage cfg true fs7) fs7).fs = fs8 at *
  cases hk : (cfg.keepTmp || cfg.fromSaves) with
  | true => exact ⟨⟨rfl, j8⟩, fin8⟩
  | false =>
    simp only [Bool.false_eq_true, if_false]
    obtain ⟨g9, nl9, f9⟩ := cleanupLocks_stage wf j8
    have j9 := good_J_acts g9
    refine seq_cons_seq (Q := FinOK cfg) g9 ?_
    have fin9 := finOK_frame isLock (fun p hp => by cases p <;> first | rfl | cases hp) f9 fin8
    clear g9 f9 fin8 j8
    generalize (runActs (cleanupLocks fixed cfg fs8) fs8).fs = fs9 at *
    obtain ⟨g10, nl10⟩ := glob_stage j9 nl9 isSaveAux rfl rfl ord hord
    have f10 := fun p hp => (globStage_T isSaveAux ord fs9).frame fs9 (p := p) hp
    have j10 := good_J_acts g10
    refine seq_cons_seq (Q := FinOK cfg) g10 ?_
    have fin10 := finOK_frame isSaveAux (fun p hp => by cases p <;> first | rfl | cases hp) f10 fin9
    clear g10 f10 fin9 j9 nl9
    generalize (runActs (globStage isSaveAux ord fs9) fs9).fs = fs10 at *
    obtain ⟨g11, nl11⟩ := glob_stage j10 nl10 isRgAux rfl rfl ord hord
    have f11 := fun p hp => (globStage_T isRgAux ord fs10).frame fs10 (p := p) hp
    have j11 := good_J_acts g11
    refine seq_cons_seq (Q := FinOK cfg) g11 ?_
    exact ⟨⟨rfl, j11⟩, finOK_frame isRgAux (fun p hp => by cases p <;> first | rfl | cases hp) f11 fin10⟩

/-- the per-chromosome work of a `--threads 1` run: the tasks one after the other, as main-process stages -/
abbrev seqTasks (cfg : Cfg) (task : Chr → Stage) : List Phase := (cfg.chrs.map task).map Phase.seq

theorem restStages_phases (cfg : Cfg) (ord : List Path) (rs skc : Bool) :
    (restStages cfg ord rs skc).map Phase.seq =
      restPhases cfg ord rs skc (seqTasks cfg (collectChr fixed cfg rs skc)) (seqTasks cfg (constructChr fixed cfg rs)) := by
  simp only [restStages, restPhases, List.map_cons, List.map_append]
  split <;> rfl

end IsoVerif.Lemmas.Resume
