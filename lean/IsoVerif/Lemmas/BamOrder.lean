/-
Helper lemmas for C12: the queue machine is observed through `pending i s` (what is still to come from file `i`).
`Merges P L` says what a run of the merger can be when `P i` is pending from file `i`; it determines `L`
(`Merges.unique`) and the machine satisfies it (`run_merges`, the one induction over `run` besides `run_perm`).
The facts about the order of the merged stream are inductions on `Merges`: every file's own order is kept and each
record carries the index of its file (`file_order`), the stream is sorted by start when every file is (`sorted`),
renumbering the files renumbers the stream (`reindex`).
-/
import IsoVerif.Model.BamMerge
import IsoVerif.Lemmas.BamMerge

namespace IsoVerif.Lemmas.C12
open IsoVerif.Gen IsoVerif.Model.C12
open List

/-- what is still to come from file `i`: its queue entry (if any), then the rest of its iterator -/
def pending (i : Nat) (s : MState) : List Aln :=
  (s.queue.filter (fun e => e.1 == i)).map Prod.snd ++ (s.its[i]?.getD [])

theorem filter_idx_none {q : List Entry} {i : Nat} (h : i ∉ q.map Prod.fst) : q.filter (fun e => e.1 == i) = [] :=
  List.filter_eq_nil_iff.mpr fun e he hi => h (List.mem_map.mpr ⟨e, he, beq_iff_eq.mp hi⟩)

theorem filter_idx_self {q : List Entry} {m : Entry} (hn : (q.map Prod.fst).Nodup) (hm : m ∈ q) :
    q.filter (fun e => e.1 == m.1) = [m] := by
  induction q with
  | nil => cases hm
  | cons x t ih =>
    simp only [List.map_cons, List.nodup_cons] at hn
    rcases List.mem_cons.mp hm with rfl | hmt
    · simp [filter_idx_none hn.1]
    · have hne : x.1 ≠ m.1 := by
        intro e; exact hn.1 (e ▸ List.mem_map_of_mem hmt)
      have hx : (x.1 == m.1) = false := by simpa using hne
      simp [hx, ih hn.2 hmt]

theorem filter_idx_erase_self {q : List Entry} {m : Entry} (hn : (q.map Prod.fst).Nodup) (hm : m ∈ q) :
    (q.erase m).filter (fun e => e.1 == m.1) = [] := by
  have hp : q.map Prod.fst ~ m.1 :: (q.erase m).map Prod.fst := by
    simpa using (perm_cons_erase hm).map Prod.fst
  exact filter_idx_none (List.nodup_cons.mp (hp.nodup_iff.mp hn)).1

theorem filter_idx_erase_other {q : List Entry} {m : Entry} {i : Nat} (hne : m.1 ≠ i) :
    (q.erase m).filter (fun e => e.1 == i) = q.filter (fun e => e.1 == i) := by
  induction q with
  | nil => rfl
  | cons x t ih =>
    by_cases hx : x = m
    · subst hx
      have : (x.1 == i) = false := by simpa using hne
      simp [this]
    · have hb : (x == m) = false := by simpa using hx
      simp only [List.erase_cons, hb, Bool.false_eq_true, if_false, List.filter_cons, ih]

theorem pending_step_same {s : MState} {m : Entry} (hn : (s.queue.map Prod.fst).Nodup) (hm : m ∈ s.queue) :
    pending m.1 s = m.2 :: pending m.1 (stepState s m) := by
  have h1 := filter_idx_self hn hm
  have h2 := filter_idx_erase_self hn hm
  unfold pending stepState advance
  split
  · rename_i b t hb
    simp only at hb
    obtain ⟨hlt, _⟩ := List.getElem?_eq_some_iff.mp hb
    simp only [h1, h2, List.filter_cons, beq_self_eq_true, if_true, List.map_cons, List.map_nil, hb,
      Option.getD_some, List.cons_append, List.nil_append]
    rw [List.getElem?_set]
    simp [hlt]
  · rename_i hb
    simp only at hb
    have : s.its[m.1]?.getD [] = [] := by
      cases h : s.its[m.1]? with
      | none => rfl
      | some f =>
        cases f with
        | nil => rfl
        | cons b t => exact absurd h (hb b t)
    simp [h1, h2, this]

theorem pending_step_other {s : MState} {m : Entry} {i : Nat} (hne : m.1 ≠ i) :
    pending i (stepState s m) = pending i s := by
  have h3 := filter_idx_erase_other (q := s.queue) hne
  have hx : (m.1 == i) = false := by simpa using hne
  unfold pending stepState advance
  split
  · rename_i b t hb
    simp only [List.filter_cons, hx, Bool.false_eq_true, if_false, h3]
    rw [List.getElem?_set]
    simp [hne]
  · simp only [h3]

theorem pending_nil_of_queue_nil {s : MState} (hc : Covered s) (hq : s.queue = []) (i : Nat) : pending i s = [] := by
  have : s.its[i]?.getD [] = [] := by
    cases h : s.its[i]? with
    | none => rfl
    | some f => exact its_nil_of_queue_nil hc hq f (List.mem_of_getElem? h)
  simp [pending, hq, this]

theorem initGo_pending (k : Nat) (files : List (List Aln)) (j : Nat) :
    ((initGo k files).1.filter (fun e => e.1 == k + j)).map Prod.snd ++ ((initGo k files).2[j]?.getD []) =
      files[j]?.getD [] := by
  rw [initGo_snd, List.getElem?_map]
  by_cases h : ∃ b t, files[j]? = some (b :: t)
  · obtain ⟨b, t, h⟩ := h
    have hf : (initGo k files).1.filter (fun e => e.1 == k + j) = [(k + j, b)] :=
      filter_idx_self (initGo_nodup k files) (mem_initGo.mpr ⟨j, t, rfl, h⟩)
    rw [hf, h]; rfl
  · rw [filter_idx_none]
    · cases hf : files[j]? with
      | none => rfl
      | some f =>
        cases f with
        | nil => rfl
        | cons b t => exact absurd ⟨b, t, hf⟩ h
    · intro hmem
      obtain ⟨e, he, hek⟩ := List.mem_map.mp hmem
      obtain ⟨k', t, h1, h2⟩ := mem_initGo.mp he
      have : k' = j := by omega
      exact h ⟨_, _, this ▸ h2⟩

theorem init_pending (files : List (List Aln)) (i : Nat) : pending i (initState files) = files[i]?.getD [] := by
  simpa [pending, initState] using initGo_pending 0 files i

/-- the queue holds exactly one entry for every non-exhausted iterator -/
structure Good (s : MState) : Prop where
  cov : Covered s
  nodup : (s.queue.map Prod.fst).Nodup

theorem good_step {s : MState} {m : Entry} (h : Good s) (hm : m ∈ s.queue) : Good (stepState s m) :=
  ⟨covered_step h.cov, nodup_step hm h.nodup⟩

theorem good_init (files : List (List Aln)) : Good (initState files) :=
  ⟨init_covered files, init_nodup files⟩

theorem mem_of_pending {s : MState} (h : Good s) {i : Nat} {a : Aln} {t : List Aln}
    (hp : pending i s = a :: t) : (i, a) ∈ s.queue := by
  unfold pending at hp
  cases hq : s.queue.filter (fun e => e.1 == i) with
  | nil =>
    rw [hq] at hp
    simp only [List.map_nil, List.nil_append] at hp
    cases hi : s.its[i]? with
    | none => rw [hi] at hp; simp at hp
    | some f =>
      rw [hi] at hp
      simp only [Option.getD_some] at hp
      subst hp
      obtain ⟨b, hb⟩ := h.cov i a t hi
      have : (i, b) ∈ s.queue.filter (fun e => e.1 == i) := List.mem_filter.2 ⟨hb, by simp⟩
      rw [hq] at this; cases this
  | cons e rest =>
    rw [hq] at hp
    obtain ⟨heq, hei⟩ := List.mem_filter.1 (show e ∈ s.queue.filter (fun e => e.1 == i) by rw [hq]; simp)
    simp only [List.map_cons, List.cons_append, List.cons.injEq] at hp
    simp only [beq_iff_eq] at hei
    rw [← hei, ← hp.1]
    exact heq

/-- `L` is what the merger yields when `P i` is what is still to come from file `i`: every yielded entry is the head of
    its stream and its key is minimal among the heads of all streams -/
inductive Merges : (Nat → List Aln) → List Entry → Prop
  | nil {P} : (∀ i, P i = []) → Merges P []
  | cons {P P' i a t L} : P i = a :: t → (∀ j b u, P j = b :: u → keyLe (i, a) (j, b) = true) →
      (∀ k, P' k = if k = i then t else P k) → Merges P' L → Merges P ((i, a) :: L)

theorem Merges.unique {P : Nat → List Aln} {L L' : List Entry} (h : Merges P L) (h' : Merges P L') : L = L' := by
  induction h generalizing L' with
  | nil hP =>
    cases h' with
    | nil _ => rfl
    | cons hi _ _ _ => rw [hP] at hi; cases hi
  | @cons P P' i a t L hi hmin hP' _ ih =>
    cases h' with
    | nil hP => rw [hP] at hi; cases hi
    | @cons _ P'' i' a' t' L' hi' hmin' hP'' hL' =>
      -- two minimal heads have the same file index, so they are the same head
      have hidx : i = i' := keyLe_antisymm_idx (hmin _ _ _ hi') (hmin' _ _ _ hi)
      subst hidx
      rw [hi] at hi'
      injection hi' with ha ht
      subst ha ht
      have : P'' = P' := funext fun k => (hP'' k).trans (hP' k).symm
      rw [ih (this ▸ hL')]

theorem run_merges (n : Nat) (s : MState) (hg : Good s) (hn : (content s).length ≤ n) :
    Merges (fun i => pending i s) (run n s) := by
  induction n generalizing s with
  | zero =>
    have hc : content s = [] := List.eq_nil_of_length_eq_zero (by omega)
    have hq : s.queue = [] := by
      simp only [content, List.append_eq_nil_iff, List.map_eq_nil_iff] at hc
      exact hc.1
    exact .nil (pending_nil_of_queue_nil hg.cov hq)
  | succ n ih =>
    simp only [run]
    cases hm : minEntry s.queue with
    | none => exact .nil (pending_nil_of_queue_nil hg.cov (minEntry_none.mp hm))
    | some m =>
      have hmem := minEntry_mem hm
      have hlen : (content s).length = (content (stepState s m)).length + 1 := by
        simpa using (content_step (s := s) hmem).length_eq
      refine .cons (i := m.1) (a := m.2) (pending_step_same hg.nodup hmem)
        (fun j b u hp => minEntry_le hm _ (mem_of_pending hg hp)) (fun k => ?_)
        (ih (stepState s m) (good_step hg hmem) (by omega))
      by_cases hk : k = m.1
      · rw [if_pos hk, hk]
      · rw [if_neg hk]; exact pending_step_other (fun e => hk e.symm)

theorem merge_merges (files : List (List Aln)) : Merges (fun i => files[i]?.getD []) (Model.C12.merge files) := by
  have := run_merges files.flatten.length (initState files) (good_init files)
    (Nat.le_of_eq (init_content files).length_eq)
  simp only [init_pending] at this
  exact this

theorem Merges.file_order {P : Nat → List Aln} {L : List Entry} (h : Merges P L) (i : Nat) :
    (L.filter (fun e => e.1 == i)).map Prod.snd = P i := by
  induction h with
  | nil hP => rw [hP]; rfl
  | @cons P P' j a t L hj _ hP' _ ih =>
    by_cases hi : j = i
    · subst hi
      simp only [List.filter_cons, beq_self_eq_true, if_true, List.map_cons, ih, hP', hj]
    · have hx : (j == i) = false := by simpa using hi
      simp only [List.filter_cons, hx, Bool.false_eq_true, if_false, ih, hP']
      exact if_neg fun e : i = j => hi e.symm

theorem Merges.mem {P : Nat → List Aln} {L : List Entry} (h : Merges P L) {e : Entry} (he : e ∈ L) : e.2 ∈ P e.1 := by
  rw [← h.file_order e.1]
  exact List.mem_map_of_mem (List.mem_filter.2 ⟨he, by simp⟩)

theorem sorted_pop {P P' : Nat → List Aln} {i : Nat} {a : Aln} {t : List Aln} (hi : P i = a :: t)
    (hP' : ∀ k, P' k = if k = i then t else P k) (hs : ∀ k, SortedStart (P k)) (k : Nat) : SortedStart (P' k) := by
  rw [hP']; split
  · have := hs i; rw [hi] at this; exact (List.pairwise_cons.1 this).2
  · exact hs k

theorem Merges.sorted {P : Nat → List Aln} {L : List Entry} (h : Merges P L) (hs : ∀ i, SortedStart (P i)) :
    L.Pairwise (fun x y => x.2.start ≤ y.2.start) := by
  induction h with
  | nil => exact .nil
  | @cons P P' i a t L hi hmin hP' hL ih =>
    refine List.pairwise_cons.2 ⟨fun y hy => ?_, ih (sorted_pop hi hP' hs)⟩
    -- `y` is pending from its file, behind that file's head, and the head's key is above `(i, a)`'s
    have hy' : y.2 ∈ P y.1 := by
      have := hL.mem hy
      rw [hP'] at this
      split at this
      · rename_i hk; rw [hk, hi]; exact List.mem_cons_of_mem _ this
      · exact this
    cases hp : P y.1 with
    | nil => rw [hp] at hy'; cases hy'
    | cons c u =>
      have h1 := keyLe_start (hmin _ _ _ hp)
      have h2 := hs y.1
      rw [hp] at hy' h2
      rcases List.mem_cons.1 hy' with h | h
      · rw [h]; exact h1
      · exact Int.le_trans h1 ((List.pairwise_cons.1 h2).1 _ h)

/-- `Q` is the renumbered family, empty at the numbers `g` does not reach -/
theorem Merges.reindex {P : Nat → List Aln} {L : List Entry} (h : Merges P L) {g : Nat → Nat}
    (hg : ∀ a b, g a ≤ g b ↔ a ≤ b) {Q : Nat → List Aln} (hQ1 : ∀ i, Q (g i) = P i)
    (hQ2 : ∀ k, (∀ i, g i ≠ k) → Q k = []) : Merges Q (L.map fun e => (g e.1, e.2)) := by
  have ginj : ∀ {a b}, g a = g b → a = b := fun h =>
    Nat.le_antisymm ((hg _ _).1 (Nat.le_of_eq h)) ((hg _ _).1 (Nat.le_of_eq h.symm))
  induction h generalizing Q with
  | nil hP =>
    refine .nil fun k => ?_
    by_cases hk : ∃ i, g i = k
    · obtain ⟨i, rfl⟩ := hk; rw [hQ1, hP]
    · exact hQ2 k fun i hi => hk ⟨i, hi⟩
  | @cons P P' i a t L hi hmin hP' _ ih =>
    refine .cons (P' := fun k => if k = g i then t else Q k) (by rw [hQ1, hi]) (fun k b u hb => ?_) (fun _ => rfl)
      (ih (fun i' => ?_) (fun k hk => ?_))
    · by_cases hk : ∃ j, g j = k
      · obtain ⟨j, rfl⟩ := hk
        have := hmin j b u (by rw [← hQ1, hb])
        simp only [keyLe, Bool.or_eq_true, Bool.and_eq_true, decide_eq_true_eq, hg] at this ⊢
        exact this
      · rw [hQ2 k fun j hj => hk ⟨j, hj⟩] at hb; cases hb
    · show (if g i' = g i then t else Q (g i')) = P' i'
      rw [hP', hQ1]
      by_cases he : i' = i
      · rw [if_pos he, if_pos (by rw [he])]
      · rw [if_neg he, if_neg fun e => he (ginj e)]
    · show (if k = g i then t else Q k) = []
      rw [if_neg fun e => hk i e.symm]; exact hQ2 k hk

theorem merge_file_order_aux (files : List (List Aln)) (i : Nat) :
    ((Model.C12.merge files).filter (fun e => e.1 == i)).map Prod.snd = files[i]?.getD [] :=
  (merge_merges files).file_order i

theorem sorted_getD {files : List (List Aln)} (hs : ∀ f ∈ files, SortedStart f) (i : Nat) :
    SortedStart (files[i]?.getD []) := by
  cases h : files[i]? with
  | none => exact List.Pairwise.nil
  | some f => exact hs f (List.mem_of_getElem? h)

theorem merge_sorted_aux (files : List (List Aln)) (hs : ∀ f ∈ files, SortedStart f) :
    (Model.C12.merge files).Pairwise (fun x y => x.2.start ≤ y.2.start) :=
  (merge_merges files).sorted (sorted_getD hs)

end IsoVerif.Lemmas.C12
