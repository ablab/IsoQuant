/-
Helper lemmas for Props/C13Chromosome.lean: the extent of a sub-region's alignments, the gene view of an alignment, the
resolver on the records one alignment gets in several sub-regions (twins), sums over the reads of a chromosome.
-/
import IsoVerif.Model.C13Chromosome
import IsoVerif.Lemmas.C13Counts
import IsoVerif.Lemmas.Interval
import IsoVerif.Lemmas.Resolver
import IsoVerif.Props.C08

namespace IsoVerif.Lemmas.C13Chr
open IsoVerif.Gen IsoVerif.Model IsoVerif.Model.Resolver IsoVerif.Model.C13 IsoVerif.Model.C13Chr
open IsoVerif.Lemmas.Resolver IsoVerif.Lemmas.C13
open IsoVerif.Model.Regions (Aln)

theorem geneRegion_spec (as : List Aln) : ∀ r : Iv,
    (geneRegion r as).1 ≤ r.1 ∧ r.2 ≤ (geneRegion r as).2 ∧
    ∀ a ∈ as, (geneRegion r as).1 ≤ a.start ∧ a.stop - 1 ≤ (geneRegion r as).2 := by
  induction as with
  | nil => intro r; simp [geneRegion]
  | cons x xs ih =>
    intro r
    have h := ih (min r.1 x.start, max r.2 (x.stop - 1))
    simp only [geneRegion, List.foldl_cons] at h ⊢
    obtain ⟨h1, h2, h3⟩ := h
    refine ⟨by omega, by omega, ?_⟩
    intro a ha
    rcases List.mem_cons.mp ha with rfl | ha
    · constructor <;> omega
    · exact h3 a ha

/-- the genes an alignment overlaps (its 1-based interval against the 1-based gene records), among a list of genes -/
def view (a : Aln) (G : List GeneRec) : List GeneRec := G.filter (fun g => overlaps (iv1 a) g.span)

theorem view_loadGenes (genes : List GeneRec) (R : Iv) (a : Aln) (h1 : R.1 ≤ a.start) (h2 : a.stop - 1 ≤ R.2) :
    view a (loadGenes genes R) = view a genes := by
  unfold view loadGenes
  rw [List.filter_filter]
  apply List.filter_congr
  intro g _
  cases hov : overlaps (iv1 a) g.span with
  | false => simp
  | true =>
    have := (overlaps_true_iff (iv1 a) g.span).mp hov
    simp only [iv1] at this
    have : overlaps (R.1 + 1, R.2 + 1) g.span = true := (overlaps_true_iff _ g.span).mpr ⟨by simp only; omega, by simp only; omega⟩
    simp [this]

/-- repaired loading: in every sub-region the alignment is handed to, its gene view is its view of the whole annotation -/
theorem view_repaired (genes : List GeneRec) (ra : Iv × List Aln) (a : Aln) (ha : a ∈ ra.2) :
    view a (loadGenes genes (loadRegion true ra)) = view a genes := by
  obtain ⟨_, _, h⟩ := geneRegion_spec ra.2 ra.1
  have := h a ha
  exact view_loadGenes genes _ a (by simpa [loadRegion] using this.1) (by simpa [loadRegion] using this.2)

theorem firstWins_length_one {α : Type} (eq : α → α → Bool) (l : List α) (hne : l ≠ []) (h : ∀ x ∈ l, ∀ y ∈ l, eq x y = true) :
    (firstWins eq l).length = 1 := by
  cases l with
  | nil => exact absurd rfl hne
  | cons x rest =>
    rw [firstWins_all_eq eq x rest (fun y hy => h x (by simp) y (by simp [hy]))]
    rfl

/-- **twins**: a non-empty list of records that are pairwise equal under `__eq__`, none suspended (the records ONE alignment
    gets in the sub-regions it overlaps, under the repaired loading): the resolver answers, returns at most as many verdicts
    as records, and exactly ONE of them is not suspended -/
theorem resolve_twins (l : List Rec) (hne : l ≠ []) (hin : NoSuspendedInput l)
    (heq : ∀ x ∈ l, ∀ y ∈ l, recEq x y = true) :
    ∃ out, resolve .take_best l = some out ∧ out.length ≤ l.length ∧ (retained out).length = 1 := by
  by_cases h1 : l.length ≤ 1
  · refine ⟨l, by simp [resolve, h1], Nat.le_refl _, ?_⟩
    have hl : l.length = 1 := by
      cases l with
      | nil => exact absurd rfl hne
      | cons x xs => simp at h1 ⊢; exact h1
    have : retained l = l := by
      unfold retained
      apply List.filter_eq_self.mpr
      intro r hr
      have := hin r hr
      simp only [Bool.not_eq_eq_eq_not, Bool.not_true, beq_eq_false_iff_ne, ne_eq]
      exact this
    rw [this, hl]
  · have h2 : 2 ≤ l.length := by omega
    obtain ⟨cand, _, hsel, hsub, hcne, _, _, _⟩ := IsoVerif.Props.C08.priority_candidates l hne
    have hres : resolve .take_best l = some (applyKeep l (findDuplicates cand)) := by
      simp only [resolve, h1, ↓reduceIte]; exact hsel
    have hk1 : (findDuplicates cand).length = 1 := by
      unfold findDuplicates
      apply firstWins_length_one _ cand hcne
      intro x hx y hy
      exact heq x.1 (List.fst_mem_of_mem_zipIdx (hsub.subset hx)) y.1 (List.fst_mem_of_mem_zipIdx (hsub.subset hy))
    have hksub : (findDuplicates cand).Sublist l.zipIdx := (firstWins_sublist _ cand).trans hsub
    refine ⟨_, hres, by simp [applyKeep], ?_⟩
    rw [retained_applyKeep_eq hksub hin, List.length_map, hk1]

end IsoVerif.Lemmas.C13Chr
