/-
Helper lemmas for C10 (Model/Samples.lean): assignment ids, the description parsers (every
experiment is parsed from its own entry: `OwnInv` for the YAML loop and, through `ListSt.flush`, for the line loop of a
list file; `OwnInv.extend` is the one registration step), outer join.
-/
import IsoVerif.Model.Samples
import IsoVerif.Lemmas.AssocList

namespace IsoVerif.Lemmas.C10
open IsoVerif.Model.C10

/-! ### assignment ids: loading a chromosome does not depend on the number its ids start from -/

def shiftId (d : Nat) (e : Entry) : Entry := { e with id := e.id + d }

theorem entriesFrom_chr (c : String) (k : Nat) (recs : List Rec) : ∀ e ∈ entriesFrom c k recs, e.chr = c := by
  induction recs generalizing k with
  | nil => simp [entriesFrom]
  | cons r rs ih =>
    intro e he
    simp only [entriesFrom] at he
    split at he
    · rcases List.mem_cons.mp he with rfl | h
      · rfl
      · exact ih _ e h
    · exact ih _ e he

theorem entriesFrom_shift (c : String) (k d : Nat) (recs : List Rec) :
    entriesFrom c (k + d) recs = (entriesFrom c k recs).map (shiftId d) := by
  induction recs generalizing k with
  | nil => rfl
  | cons r rs ih =>
    simp only [entriesFrom]
    have h : k + d + 1 = k + 1 + d := by omega
    split
    · simp [h, ih, shiftId]
    · simp [h, ih]

theorem foldl_lookup_shift (c : String) (d : Nat) (rid : String) (id : Nat) (es : List Entry) (acc : Option Nat) :
    (es.map (shiftId d)).foldl
        (fun acc e => if e.readId == rid && e.id == id + d && e.chr == c then some e.verdict else acc) acc
      = es.foldl (fun acc e => if e.readId == rid && e.id == id && e.chr == c then some e.verdict else acc) acc := by
  induction es generalizing acc with
  | nil => rfl
  | cons e es ih =>
    simp only [List.map_cons, List.foldl_cons]
    have : ((shiftId d e).id == id + d) = (e.id == id) := by
      simp only [shiftId]
      rw [Bool.eq_iff_iff]
      simp
    simp only [this]
    exact ih _

theorem lookupLast_shift (c : String) (d : Nat) (es : List Entry) (rid : String) (id : Nat) :
    lookupLast c (es.map (shiftId d)) rid (id + d) = lookupLast c es rid id :=
  foldl_lookup_shift c d rid id es none

theorem any_shift (d : Nat) (es : List Entry) (rid : String) :
    (es.map (shiftId d)).any (fun e => e.readId == rid) = es.any (fun e => e.readId == rid) := by
  induction es with
  | nil => rfl
  | cons e es ih =>
    simp only [List.map_cons, List.any_cons, ih]
    rfl

theorem loadFrom_shift (c : String) (d : Nat) (es : List Entry) (k : Nat) (recs : List Rec) :
    loadFrom c (es.map (shiftId d)) (k + d) recs = loadFrom c es k recs := by
  induction recs generalizing k with
  | nil => rfl
  | cons r rs ih =>
    simp only [loadFrom]
    have h : k + d + 1 = k + 1 + d := by omega
    rw [h, ih, any_shift, lookupLast_shift]

theorem filter_own (c : String) (es : List Entry) (h : ∀ e ∈ es, e.chr = c) :
    es.filter (fun e => e.chr == c) = es := by
  apply List.filter_eq_self.mpr
  intro e he
  simp [h e he]

theorem filter_foreign (c : String) (foreign : List Entry) (h : ∀ e ∈ foreign, e.chr ≠ c) :
    foreign.filter (fun e => e.chr == c) = [] := by
  apply List.filter_eq_nil_iff.mpr
  intro e he
  simp [h e he]

theorem loadChr_base_zero (c : String) (base : Nat) (recs : List Rec) (foreign : List Entry)
    (hf : ∀ e ∈ foreign, e.chr ≠ c) :
    loadChr c base recs foreign = loadChr c 0 recs [] := by
  unfold loadChr
  rw [List.filter_append, filter_foreign c foreign hf, List.nil_append, List.nil_append,
    filter_own c _ (entriesFrom_chr c base recs), filter_own c _ (entriesFrom_chr c 0 recs)]
  have h1 : entriesFrom c base recs = (entriesFrom c 0 recs).map (shiftId base) := by
    have := entriesFrom_shift c 0 base recs
    simpa using this
  rw [h1]
  have h2 := loadFrom_shift c base (entriesFrom c 0 recs) 0 recs
  simpa using h2

theorem lookup_none_of_any_false (d : NameDict) (k : String) (h : (d.any fun p => p.1 == k) = false) : d.lookup k = none := by
  refine lookup_eq_none_iff_keys.mpr fun hm => ?_
  obtain ⟨p, hp, e⟩ := List.mem_map.mp hm
  have : (d.any fun p => p.1 == k) = true := List.any_eq_true.mpr ⟨p, hp, by simp [e]⟩
  rw [h] at this; cases this

theorem dictSet_fresh (d : NameDict) (k : String) (v : List (String × String)) (h : (d.any fun p => p.1 == k) = false) :
    dictSet d k v = d ++ [(k, v)] := by
  simp [dictSet, h]

theorem lookup_map_replace (d : NameDict) (k : String) (v : List (String × String)) (h : (d.any fun p => p.1 == k) = true) :
    (d.map (fun p => if p.1 == k then (k, v) else p)).lookup k = some v := by
  induction d with
  | nil => simp at h
  | cons p d ih =>
    obtain ⟨a, b⟩ := p
    by_cases ha : a = k
    · subst ha
      simp
    · have h1 : (a == k) = false := by simpa using ha
      have h2 : (k == a) = false := by simpa using fun e : k = a => ha e.symm
      simp only [List.any_cons, h1, Bool.false_or] at h
      simp only [List.map_cons, h1, Bool.false_eq_true, if_false, List.lookup, h2]
      exact ih h

theorem lookup_map_replace_other (d : NameDict) (k k' : String) (v : List (String × String)) (hne : k' ≠ k) :
    (d.map (fun p => if p.1 == k then (k, v) else p)).lookup k' = d.lookup k' := by
  induction d with
  | nil => rfl
  | cons p d ih =>
    obtain ⟨a, b⟩ := p
    have hk : (k' == k) = false := by simpa using hne
    by_cases ha : a = k
    · subst ha
      simp only [List.map_cons, beq_self_eq_true, if_true, List.lookup, hk]
      exact ih
    · have h1 : (a == k) = false := by simpa using ha
      simp only [List.map_cons, h1, Bool.false_eq_true, if_false, List.lookup]
      cases hka : (k' == a)
      · exact ih
      · rfl

theorem dictGet_set_same (d : NameDict) (k : String) (v : List (String × String)) :
    dictGet (dictSet d k v) k = v := by
  cases h : (d.any fun p => p.1 == k) with
  | false => simp [dictSet_fresh d k v h, dictGet, List.lookup_append, lookup_none_of_any_false d k h, List.lookup]
  | true =>
    unfold dictGet dictSet
    rw [if_pos h, lookup_map_replace d k v h]

theorem dictGet_set_other (d : NameDict) (k k' : String) (v : List (String × String)) (hne : k' ≠ k) :
    dictGet (dictSet d k v) k' = dictGet d k' := by
  cases h : (d.any fun p => p.1 == k) with
  | false =>
    have hb : (k' == k) = false := by simpa using hne
    rw [dictSet_fresh d k v h]
    cases hl : d.lookup k' <;> simp [dictGet, List.lookup_append, hl, List.lookup, hb]
  | true =>
    unfold dictGet dictSet
    rw [if_pos h, lookup_map_replace_other d k k' v hne]

/-- invariant of both parser loops under the repaired test: the names registered so far are pairwise different
    and they are the names of the experiments accepted so far, in order -/
structure NamesInv (st : ParseSt) : Prop where
  nodup : st.names.Nodup
  acc : st.acc.map (fun t => t.1) = st.names

theorem namesInv_init : NamesInv ParseSt.init := ⟨by simp [ParseSt.init], by simp [ParseSt.init]⟩

theorem namesInv_push (st : ParseSt) (nm : String) (x : List (List String) × Option (List String)) (i : Nat) (d : NameDict)
    (hI : NamesInv st) (hf : nm ∉ st.names) :
    NamesInv { names := st.names ++ [nm], index := i, dict := d, acc := st.acc ++ [(nm, x)] } := by
  constructor
  · exact nodup_append_singleton hI.nodup hf
  · show List.map _ (st.acc ++ [(nm, x)]) = st.names ++ [nm]
    simp [hI.acc]

/-- the body of `yamlStepR` after the name of the entry (given, or positional when the key is absent) is fixed;
    `rc` is the `recheck` of `renameBlocked`: `false` the rename test of the tree before the repair, `true` the repaired one -/
def yamlBody (rc : Bool) (pfx : String) (st : ParseSt) (e : YamlEntry) (nm0 : String) : Option ParseSt :=
  let auto := pfx ++ toString st.index
  if st.names.contains nm0 && renameBlocked rc st.names nm0 auto then none
  else
    let nm := if st.names.contains nm0 then auto else nm0
    match e.files with
    | none => none
    | some fs =>
      match labelled fs e.labels with
      | none => none
      | some pairs =>
        match addFiles (dictGet st.dict nm) pairs with
        | none => none
        | some d' =>
          if fs.isEmpty then some { st with index := st.index + 1, dict := dictSet st.dict nm d' }
          else some { names := st.names ++ [nm], index := st.index + 1, dict := dictSet st.dict nm d',
                      acc := st.acc ++ [(nm, fs.map (fun f => [f.path]), e.illumina)] }

/-- the name the parser starts from: the `name` key, or `<prefix><position>` when the key is absent -/
def startName (pfx : String) (st : ParseSt) (e : YamlEntry) : String :=
  match e.name with
  | some n => n
  | none => pfx ++ toString st.index

theorem yamlStepR_eq (rc : Bool) (pfx : String) (st : ParseSt) (e : YamlEntry) :
    yamlStepR rc pfx st e = yamlBody rc pfx st e (startName pfx st e) := by
  unfold yamlStepR yamlBody startName
  cases e.name <;> rfl

/-- loop invariant for arbitrary given names (repaired test): finished samples, distinct registered names, and no
    labels stored under a name that is not registered (entries without files leave an empty slot at most) -/
structure OwnInv (st : ParseSt) (outs : List ParsedSample) : Prop where
  fin : finishParse st = outs
  names : NamesInv st
  clean : ∀ k, k ∉ st.names → dictGet st.dict k = []

theorem ownInv_init : OwnInv ParseSt.init [] :=
  ⟨rfl, namesInv_init, by intro k _; simp [ParseSt.init, dictGet]⟩

def finishWith (d : NameDict) (acc : List (String × List (List String) × Option (List String))) : List ParsedSample :=
  acc.map (fun t => ⟨t.1, t.2.1, dictGet d t.1, t.2.2⟩)

theorem finishParse_eq (st : ParseSt) : finishParse st = finishWith st.dict st.acc := rfl

theorem finishWith_congr (d d' : NameDict) (acc : List (String × List (List String) × Option (List String)))
    (h : ∀ t ∈ acc, dictGet d' t.1 = dictGet d t.1) : finishWith d' acc = finishWith d acc := by
  unfold finishWith
  apply List.map_congr_left
  intro t ht
  rw [h t ht]

/-- Registering what an entry yields by itself (`r`) under a name that is not registered yet: the finished samples grow
    by exactly `r`.  The state is described by what can be read from it, so the lemma serves the YAML step (one
    `dictSet`) and a block of a list file (one `dictSet` per line) alike. -/
theorem OwnInv.extend {st st' : ParseSt} {outs : List ParsedSample} (hI : OwnInv st outs) {nm : String}
    (hf : nm ∉ st.names) (r : Option ParsedSample)
    (hother : ∀ k, k ≠ nm → dictGet st'.dict k = dictGet st.dict k)
    (hr : match r with
      | none => st'.names = st.names ∧ st'.acc = st.acc ∧ dictGet st'.dict nm = []
      | some p => p.name = nm ∧ st'.names = st.names ++ [nm] ∧ st'.acc = st.acc ++ [(nm, p.libs, p.illumina)] ∧
          dictGet st'.dict nm = p.readable) :
    OwnInv st' (outs ++ r.toList) := by
  have hold : finishWith st'.dict st.acc = outs := by
    rw [← hI.fin, finishParse_eq]
    refine finishWith_congr _ _ _ fun t ht => hother _ fun e => hf ?_
    rw [← e, ← hI.names.acc]; exact List.mem_map.mpr ⟨t, ht, rfl⟩
  have hclean : ∀ k, k ∉ st.names → k ≠ nm → dictGet st'.dict k = [] := fun k hk hne => by
    rw [hother k hne]; exact hI.clean k hk
  cases r with
  | none =>
    obtain ⟨hn, ha, hd⟩ := hr
    refine ⟨by rw [finishParse_eq, ha, hold]; simp, ⟨hn ▸ hI.names.nodup, by rw [ha, hn]; exact hI.names.acc⟩, ?_⟩
    intro k hk
    rw [hn] at hk
    by_cases hkn : k = nm
    · rw [hkn]; exact hd
    · exact hclean k hk hkn
  | some p =>
    obtain ⟨hp, hn, ha, hd⟩ := hr
    have hpush := namesInv_push st nm (p.libs, p.illumina) st'.index st'.dict hI.names hf
    refine ⟨?_, ⟨hn ▸ hpush.nodup, by rw [ha, hn]; exact hpush.acc⟩, ?_⟩
    · rw [finishParse_eq, ha]
      simp only [finishWith, List.map_append, List.map_cons, List.map_nil, Option.toList, hd]
      have := hold; simp only [finishWith] at this
      rw [this, ← hp]
    · intro k hk
      rw [hn] at hk
      exact hclean k (fun h => hk (List.mem_append_left _ h))
        (fun h => hk (h ▸ List.mem_append_right _ (List.mem_singleton.mpr rfl)))


/-- the name an entry ends up with: its own, or `<prefix><position>` when that one is registered already -/
def chosenName (pfx : String) (st : ParseSt) (nm0 : String) : String :=
  if st.names.contains nm0 then pfx ++ toString st.index else nm0

theorem labelled_nil (ls : Option (List String)) (pairs : List (String × String))
    (h : labelled [] ls = some pairs) : pairs = [] := by
  cases ls with
  | none => simp [labelled] at h; exact h
  | some l =>
    simp only [labelled] at h
    split at h
    · simp at h
    · simp at h; exact h

/-- one step under `OwnInv`, for either rename test: that the chosen name is fresh is the caller's to show
    (`chosen_name_fresh` for `rc = true`, the hypothesis on the given names otherwise) -/
theorem yamlBody_own (rc : Bool) (pfx : String) (st : ParseSt) (outs : List ParsedSample) (e : YamlEntry) (nm0 : String)
    (hI : OwnInv st outs)
    (hc : (st.names.contains nm0 && renameBlocked rc st.names nm0 (pfx ++ toString st.index)) = false)
    (hfresh : chosenName pfx st nm0 ∉ st.names) :
    match parseOwnYaml e (chosenName pfx st nm0) with
    | none => yamlBody rc pfx st e nm0 = none
    | some r => ∃ st', yamlBody rc pfx st e nm0 = some st' ∧ OwnInv st' (outs ++ r.toList) ∧ st'.index = st.index + 1 ∧
        ∀ m ∈ st'.names, m ∈ st.names ∨ m = chosenName pfx st nm0 := by
  have hdict : dictGet st.dict (chosenName pfx st nm0) = [] := hI.clean _ hfresh
  unfold chosenName at hdict hfresh
  unfold yamlBody parseOwnYaml chosenName
  dsimp only
  rw [hc]
  simp only [Bool.false_eq_true, if_false]
  generalize (if st.names.contains nm0 = true then pfx ++ toString st.index else nm0) = nm at hfresh hdict ⊢
  cases hf : e.files with
  | none => simp
  | some fs =>
    dsimp only
    cases hl : labelled fs e.labels with
    | none => simp
    | some pairs =>
      dsimp only
      rw [hdict]
      cases ha : addFiles [] pairs with
      | none => simp
      | some d =>
        dsimp only
        -- either way the step is one `dictSet` under `nm`
        have hother : ∀ k, k ≠ nm → dictGet (dictSet st.dict nm d) k = dictGet st.dict k :=
          fun k hk => dictGet_set_other _ _ _ _ hk
        by_cases hemp : fs.isEmpty = true
        · rw [if_pos hemp, if_pos hemp]
          have hfs : fs = [] := by simpa using hemp
          subst hfs
          have hp := labelled_nil _ _ hl
          subst hp
          have hd : d = [] := by simp [addFiles] at ha; exact ha
          subst hd
          exact ⟨_, rfl, hI.extend hfresh none hother ⟨rfl, rfl, dictGet_set_same _ _ _⟩, rfl, fun m hm => Or.inl hm⟩
        · rw [if_neg hemp, if_neg hemp]
          exact ⟨_, rfl, hI.extend hfresh (some _) hother ⟨rfl, rfl, rfl, dictGet_set_same _ _ _⟩, rfl,
            fun m hm => (List.mem_append.mp hm).imp_right List.mem_singleton.mp⟩

theorem yamlLoopR_own (rc : Bool) (pfx : String) (entries : List YamlEntry) (ns : List String) (st : ParseSt)
    (outs : List ParsedSample) (hI : OwnInv st outs)
    (hnames : entries.map YamlEntry.name = ns.map some) (hnd : ns.Nodup) (hfresh : ∀ n ∈ ns, n ∉ st.names) :
    (yamlLoopR rc pfx st entries).map finishParse = (parseEachOwn (entries.zip ns)).map (fun rs => outs ++ rs) := by
  induction entries generalizing ns st outs with
  | nil =>
    cases ns with
    | nil => simp [yamlLoopR, parseEachOwn, hI.fin]
    | cons n ns => simp at hnames
  | cons e es ih =>
    cases ns with
    | nil => simp at hnames
    | cons n ns =>
      simp only [List.map_cons, List.cons.injEq] at hnames
      have hnd' := List.nodup_cons.mp hnd
      have hn : n ∉ st.names := hfresh n List.mem_cons_self
      have hcn : st.names.contains n = false := by simpa using hn
      have hstart : startName pfx st e = n := by simp [startName, hnames.1]
      have hstep := yamlBody_own rc pfx st outs e n hI (by rw [hcn]; rfl) (by simp only [chosenName, hcn, Bool.false_eq_true, if_false]; exact hn)
      simp only [chosenName, hcn, Bool.false_eq_true, if_false] at hstep
      simp only [List.zip_cons_cons, parseEachOwn, yamlLoopR, yamlStepR_eq, hstart]
      cases hp : parseOwnYaml e n with
      | none =>
        simp only [hp] at hstep
        simp [hstep]
      | some r =>
        simp only [hp] at hstep
        obtain ⟨st', hs, hI', _, hsub⟩ := hstep
        simp only [hs]
        rw [ih ns st' (outs ++ r.toList) hI' hnames.2 hnd'.2 fun m hm hm' =>
          (hsub m hm').elim (hfresh m (List.mem_cons_of_mem _ hm)) fun e => hnd'.1 (e ▸ hm)]
        cases parseEachOwn (es.zip ns) <;> simp [List.append_assoc]

/-- what a run of file lines does to the locals: only the pending sample and the labels under its name change -/
structure FilesFrame (s s' : ListSt) (d' : List (String × String)) (c' : List (List String)) : Prop where
  cur : s'.cur = c'
  curName : s'.curName = s.curName
  names : s'.st.names = s.st.names
  acc : s'.st.acc = s.st.acc
  own : dictGet s'.st.dict s.curName = d'
  other : ∀ k, k ≠ s.curName → dictGet s'.st.dict k = dictGet s.st.dict k

theorem listLoopR_files (rc : Bool) (pfx : String) (lines : List ListLine) (hl : ∀ l ∈ lines, l.isFiles = true) (s : ListSt) :
    match blockOwn (dictGet s.st.dict s.curName) s.cur lines with
    | none => listLoopR rc pfx s lines = none
    | some r => ∃ s', listLoopR rc pfx s lines = some s' ∧ FilesFrame s s' r.1 r.2 := by
  induction lines generalizing s with
  | nil =>
    simp only [blockOwn, listLoopR]
    exact ⟨s, rfl, ⟨rfl, rfl, rfl, rfl, rfl, fun _ _ => rfl⟩⟩
  | cons l ls ih =>
    cases l with
    | header n => simp [ListLine.isFiles] at hl
    | files fs label =>
      have hls : ∀ l ∈ ls, l.isFiles = true := fun l h => hl l (List.mem_cons_of_mem _ h)
      simp only [blockOwn, listLoopR, listStepR]
      cases ha : addFiles (dictGet s.st.dict s.curName) (fs.map (fun f => (f.path, lineLabel fs label))) with
      | none => simp
      | some d1 =>
        simp only
        have := ih hls { s with st := { s.st with dict := dictSet s.st.dict s.curName d1 },
                                cur := s.cur ++ [fs.map InFile.path] }
        simp only [dictGet_set_same] at this
        cases hb : blockOwn d1 (s.cur ++ [fs.map InFile.path]) ls with
        | none => simp only [hb] at this; simpa using this
        | some r =>
          simp only [hb] at this
          obtain ⟨s', hs', fr⟩ := this
          refine ⟨s', hs', ?_⟩
          exact ⟨fr.cur, fr.curName, fr.names, fr.acc, fr.own,
            fun k hk => by rw [fr.other k hk]; exact dictGet_set_other _ _ _ _ hk⟩

theorem flush_index (s : ListSt) : s.flush.index = s.st.index := by
  unfold ListSt.flush; split <;> rfl

theorem blockOwn_length : ∀ (lines : List ListLine) (d : List (String × String)) (c : List (List String))
    (r : List (String × String) × List (List String)), blockOwn d c lines = some r → r.2.length = c.length + lines.length
  | [], d, c, r, h => by simp only [blockOwn, Option.some.injEq] at h; subst h; rfl
  | .header _ :: _, d, c, r, h => by simp [blockOwn] at h
  | .files fs label :: rest, d, c, r, h => by
    simp only [blockOwn] at h
    split at h
    · cases h
    · rw [blockOwn_length rest _ _ r h]; simp; omega

/-- a `#name` header and its file lines under a name that is not registered yet, seen through `flush` (the pending
    experiment counted as registered): the block fails or yields exactly what it yields by itself -/
theorem listBlock_own (rc : Bool) (pfx : String) (s : ListSt) (outs : List ParsedSample)
    (n : String) (lines : List ListLine) (hI : OwnInv s.flush outs) (hne : n.isEmpty = false)
    (hfresh : n ∉ s.flush.names) (hl : ∀ l ∈ lines, l.isFiles = true) :
    match ownBlock n lines with
    | none => listLoopR rc pfx s (ListLine.header n :: lines) = none
    | some r => ∃ s', listLoopR rc pfx s (ListLine.header n :: lines) = some s' ∧ OwnInv s'.flush (outs ++ r.toList) ∧
        ∀ m ∈ s'.flush.names, m ∈ s.flush.names ∨ m = n := by
  have hhead : listStepR rc pfx s (ListLine.header n)
      = some ⟨{ s.flush with index := s.flush.index + 1 }, [], n⟩ := by
    simp [listStepR, hne, hfresh]
  simp only [listLoopR, hhead]
  have hfiles := listLoopR_files rc pfx lines hl ⟨{ s.flush with index := s.flush.index + 1 }, [], n⟩
  dsimp only at hfiles
  rw [hI.clean n hfresh] at hfiles
  unfold ownBlock
  cases hb : blockOwn [] [] lines with
  | none => simp only [hb] at hfiles; simpa using hfiles
  | some r =>
    obtain ⟨d, c⟩ := r
    simp only [hb] at hfiles
    obtain ⟨s', hs', fr⟩ := hfiles
    have hcur := fr.cur; have hcn := fr.curName; have hnm := fr.names; have hacc := fr.acc
    have hown := fr.own; have hoth := fr.other
    dsimp only at hcur hcn hnm hacc hown hoth
    by_cases hemp : c.isEmpty = true
    · simp only [hemp, if_true]
      have hfl : s'.flush = s'.st := by simp [ListSt.flush, hcur, hemp]
      -- no library: the block has no file line, so nothing was stored under `n`
      have hd : d = [] := by
        have hlen := blockOwn_length lines [] [] (d, c) hb
        have hc : c = [] := by simpa using hemp
        have : lines = [] := by simpa [hc] using hlen.symm
        subst this
        simp only [blockOwn, Option.some.injEq, Prod.mk.injEq] at hb
        exact hb.1.symm
      refine ⟨s', hs', ?_⟩
      rw [hfl]
      exact ⟨hI.extend hfresh none hoth ⟨hnm, hacc, by rw [hown, hd]⟩, fun m hm => Or.inl (hnm ▸ hm)⟩
    · simp only [hemp, Bool.false_eq_true, if_false]
      have hfl : s'.flush = { s'.st with names := s'.st.names ++ [n], acc := s'.st.acc ++ [(n, c, none)] } := by
        simp [ListSt.flush, hcur, hcn, hemp]
      refine ⟨s', hs', ?_⟩
      rw [hfl]
      exact ⟨hI.extend hfresh (some ⟨n, c, d, none⟩) hoth ⟨rfl, by simp [hnm], by simp [hacc], hown⟩,
        fun m hm => by
          simp only [hnm] at hm
          exact (List.mem_append.mp hm).imp_right List.mem_singleton.mp⟩

theorem listLoopR_append (rc : Bool) (pfx : String) (l1 l2 : List ListLine) (s : ListSt) :
    listLoopR rc pfx s (l1 ++ l2) = (listLoopR rc pfx s l1).bind (fun s' => listLoopR rc pfx s' l2) := by
  induction l1 generalizing s with
  | nil => simp [listLoopR]
  | cons l ls ih =>
    simp only [List.cons_append, listLoopR]
    cases listStepR rc pfx s l with
    | none => simp
    | some s' => simpa using ih s'

theorem listLoopR_blocks (rc : Bool) (pfx : String) (blocks : List (String × List ListLine)) (s : ListSt)
    (outs : List ParsedSample) (hI : OwnInv s.flush outs)
    (hne : ∀ b ∈ blocks, b.1.isEmpty = false ∧ ∀ l ∈ b.2, l.isFiles = true)
    (hnd : (blocks.map Prod.fst).Nodup) (hfresh : ∀ b ∈ blocks, b.1 ∉ s.flush.names) :
    (listLoopR rc pfx s (renderBlocks blocks)).map (fun s' => finishParse s'.flush)
      = (parseEachOwnBlock blocks).map (fun rs => outs ++ rs) := by
  induction blocks generalizing s outs with
  | nil => simp [renderBlocks, listLoopR, parseEachOwnBlock, hI.fin]
  | cons b bs ih =>
    obtain ⟨n, lines⟩ := b
    have hb := hne (n, lines) List.mem_cons_self
    simp only [List.map_cons, List.nodup_cons] at hnd
    have hstep := listBlock_own rc pfx s outs n lines hI hb.1 (hfresh (n, lines) List.mem_cons_self) hb.2
    have hr : renderBlocks ((n, lines) :: bs) = (ListLine.header n :: lines) ++ renderBlocks bs := by
      simp [renderBlocks]
    rw [hr, listLoopR_append]
    simp only [parseEachOwnBlock]
    cases hp : ownBlock n lines with
    | none =>
      simp only [hp] at hstep
      simp [hstep]
    | some r =>
      simp only [hp] at hstep
      obtain ⟨s', hs, hI', hsub⟩ := hstep
      simp only [hs, Option.bind]
      rw [ih s' (outs ++ r.toList) hI' (fun b hb' => hne b (List.mem_cons_of_mem _ hb')) hnd.2 fun b hb' hm =>
        (hsub _ hm).elim (hfresh b (List.mem_cons_of_mem _ hb')) fun e => hnd.1 (List.mem_map.mpr ⟨b, hb', e⟩)]
      cases parseEachOwnBlock bs <;> simp [List.append_assoc]

theorem mem_unionKeys (acc ks : List String) (x : String) :
    x ∈ unionKeys acc ks ↔ x ∈ acc ∨ x ∈ ks := by
  induction ks generalizing acc with
  | nil => simp [unionKeys]
  | cons k ks ih =>
    simp only [unionKeys]
    split
    · rename_i hk
      rw [ih]
      have : k ∈ acc := by simpa using hk
      constructor
      · rintro (h | h)
        · exact Or.inl h
        · exact Or.inr (List.mem_cons_of_mem _ h)
      · rintro (h | h)
        · exact Or.inl h
        · rcases List.mem_cons.mp h with rfl | h
          · exact Or.inl this
          · exact Or.inr h
    · rw [ih]
      simp [or_assoc]

theorem nodup_unionKeys (acc ks : List String) (h : acc.Nodup) : (unionKeys acc ks).Nodup := by
  induction ks generalizing acc with
  | nil => simpa [unionKeys]
  | cons k ks ih =>
    simp only [unionKeys]
    split
    · exact ih acc h
    · rename_i hk
      apply ih
      exact nodup_append_singleton h (by simpa using hk)

def allKeys (tabs : List Table) (acc : List String) : List String :=
  tabs.foldl (fun acc t => unionKeys acc (t.map Prod.fst)) acc

theorem mem_allKeys (tabs : List Table) (acc : List String) (x : String) :
    x ∈ allKeys tabs acc ↔ x ∈ acc ∨ ∃ t ∈ tabs, x ∈ t.map Prod.fst := by
  induction tabs generalizing acc with
  | nil => simp [allKeys]
  | cons t tabs ih =>
    simp only [allKeys, List.foldl_cons] at ih ⊢
    rw [ih, mem_unionKeys]
    constructor
    · rintro ((h | h) | ⟨t', ht', h⟩)
      · exact Or.inl h
      · exact Or.inr ⟨t, List.mem_cons_self, h⟩
      · exact Or.inr ⟨t', List.mem_cons_of_mem _ ht', h⟩
    · rintro (h | ⟨t', ht', h⟩)
      · exact Or.inl (Or.inl h)
      · rcases List.mem_cons.mp ht' with rfl | ht'
        · exact Or.inl (Or.inr h)
        · exact Or.inr ⟨t', ht', h⟩

theorem nodup_allKeys (tabs : List Table) (acc : List String) (h : acc.Nodup) : (allKeys tabs acc).Nodup := by
  induction tabs generalizing acc with
  | nil => simpa [allKeys]
  | cons t tabs ih =>
    simp only [allKeys, List.foldl_cons] at ih ⊢
    exact ih _ (nodup_unionKeys acc _ h)

theorem nodup_take_keys (t : Table) (n : Nat) (h : (t.map Prod.fst).Nodup) : ((t.take n).map Prod.fst).Nodup := by
  rw [List.map_take]
  exact List.Sublist.nodup (List.take_sublist n _) h

theorem transformCounts_nodup (full : Bool) (t : Table) (h : (t.map Prod.fst).Nodup) :
    ((transformCounts full t).map Prod.fst).Nodup := by
  unfold transformCounts
  split
  · exact h
  · exact nodup_take_keys t _ h

theorem combineTable_rows (full : Bool) (ts : List (String × Table)) :
    (combineTable full ts).2 =
      (allKeys (ts.map (fun p => transformCounts full p.2)) []).map
        (fun k => (k, (ts.map (fun p => transformCounts full p.2)).map (fun t => t.lookup k))) := rfl

theorem combine_keys_nodup (full : Bool) (ts : List (String × Table)) :
    ((combineTable full ts).2.map Prod.fst).Nodup := by
  rw [combineTable_rows, List.map_map]
  have : (Prod.fst ∘ fun k => (k, (ts.map (fun p => transformCounts full p.2)).map (fun t => List.lookup k t)))
      = (id : String → String) := by
    funext k; rfl
  rw [this, List.map_id]
  exact nodup_allKeys _ [] List.nodup_nil

theorem mem_combineTable (full : Bool) (ts : List (String × Table)) (row : String × List (Option String)) :
    row ∈ (combineTable full ts).2 ↔
      (∃ p ∈ ts, row.1 ∈ (transformCounts full p.2).map Prod.fst) ∧
      row.2 = ts.map (fun p => (transformCounts full p.2).lookup row.1) := by
  rw [combineTable_rows, List.mem_map]
  simp only [mem_allKeys, List.not_mem_nil, false_or, List.mem_map, List.map_map, Function.comp_def]
  constructor
  · rintro ⟨k, ⟨t, ⟨p, hp, rfl⟩, hk⟩, rfl⟩
    exact ⟨⟨p, hp, hk⟩, rfl⟩
  · rintro ⟨⟨p, hp, hk⟩, h2⟩
    exact ⟨row.1, ⟨_, ⟨p, hp, rfl⟩, hk⟩, Prod.ext rfl h2.symm⟩

theorem combineTable_cell {full : Bool} {ts : List (String × Table)} {row : String × List (Option String)}
    (hrow : row ∈ (combineTable full ts).2) {i : Nat} {p : String × Table} (hi : ts[i]? = some p) :
    row.2[i]? = some ((transformCounts full p.2).lookup row.1) := by
  rw [((mem_combineTable full ts row).mp hrow).2, List.getElem?_map, hi]; rfl

theorem combine_cell_iff (full : Bool) (ts : List (String × Table))
    (hnd : ∀ p ∈ ts, (p.2.map Prod.fst).Nodup) (i : Nat) (p : String × Table) (hi : ts[i]? = some p)
    (k v : String) :
    (∃ row ∈ (combineTable full ts).2, row.1 = k ∧ row.2[i]? = some (some v))
      ↔ (k, v) ∈ transformCounts full p.2 := by
  have hp : p ∈ ts := List.mem_of_getElem? hi
  -- unique keys: the lookup is membership
  have hl := lookup_iff_mem_of_nodup (transformCounts_nodup full p.2 (hnd p hp)) k v
  constructor
  · rintro ⟨row, hrow, rfl, hc⟩
    rw [combineTable_cell hrow hi] at hc
    exact hl.mp (Option.some.inj hc)
  · intro hmem
    have hrow : (k, ts.map (fun p => (transformCounts full p.2).lookup k)) ∈ (combineTable full ts).2 :=
      (mem_combineTable full ts (k, _)).mpr ⟨⟨p, hp, List.mem_map.mpr ⟨(k, v), hmem, rfl⟩⟩, rfl⟩
    exact ⟨_, hrow, rfl, by rw [combineTable_cell hrow hi, hl.mpr hmem]⟩

end IsoVerif.Lemmas.C10
