import IsoVerif.Lemmas.Interval

/-!
The halving loop of `interval_bin_search` on the list of starts.  `rem step` is the distance the remaining halvings can
still cover (`rem_halve`: one halving uses up exactly its step); `loop_correct`: from any state whose reach
`[ind − rem step, ind + rem step + 1]` stays inside the list, the loop finds the gap that holds the position within the fuel.
`countP_le_of_gap`: the index of that gap is the number of keys at or before the position, less one.
-/

namespace IsoVerif.Lemmas
open IsoVerif.Gen IsoVerif.Model

def StrictInc : List Int → Prop
  | [] => True
  | [_] => True
  | a :: b :: t => a < b ∧ StrictInc (b :: t)

/-- the distance the remaining halvings of a step can still cover (not a remainder) -/
def rem : Nat → Nat
  | 0 => 0
  | 1 => 0
  | (c + 2) => (c + 2) / 2 + rem ((c + 2) / 2)

theorem rem_le (c : Nat) : rem c ≤ c - 1 := by
  induction c using Nat.strongRecOn with
  | _ c ih =>
    match c with
    | 0 => simp [rem]
    | 1 => simp [rem]
    | c + 2 =>
      have := ih ((c + 2) / 2) (by omega)
      simp only [rem]
      omega

/-- `max 1` on the right: `rem step` is `0` only from step `≤ 1` on, where the unit steps begin -/
theorem rem_halve (step : Nat) : rem (max 1 (step / 2)) + max 1 (step / 2) = max 1 (rem step) := by
  match step with
  | 0 => simp [rem]
  | 1 => simp [rem]
  | c + 2 =>
    have : max 1 ((c + 2) / 2) = (c + 2) / 2 := by omega
    rw [this]; simp only [rem]; omega

theorem strictInc_pairwise : ∀ {lo : List Int}, StrictInc lo → lo.Pairwise (· < ·)
  | [], _ => .nil
  | [_], _ => List.pairwise_singleton _ _
  | a :: b :: t, h => by
    have ih := strictInc_pairwise h.2
    exact List.pairwise_cons.2 ⟨fun x hx => by
      rcases List.mem_cons.1 hx with rfl | hx
      · exact h.1
      · exact Int.lt_trans h.1 ((List.pairwise_cons.1 ih).1 x hx), ih⟩

theorem strictInc_mono {lo : List Int} (h : StrictInc lo) :
    ∀ (i j : Nat), i < j → ∀ (a b : Int), lo[i]? = some a → lo[j]? = some b → a < b := by
  intro i j hij a b ha hb
  obtain ⟨hi, rfl⟩ := List.getElem?_eq_some_iff.mp ha
  obtain ⟨hj, rfl⟩ := List.getElem?_eq_some_iff.mp hb
  exact List.pairwise_iff_getElem.mp (strictInc_pairwise h) i j hi hj hij

theorem strictInc_le {lo : List Int} (h : StrictInc lo) {i j : Nat} (hij : i ≤ j) {a b : Int}
    (ha : lo[i]? = some a) (hb : lo[j]? = some b) : a ≤ b := by
  rcases Nat.lt_or_eq_of_le hij with h' | rfl
  · exact Int.le_of_lt (strictInc_mono h i j h' a b ha hb)
  · cases ha.symm.trans hb; exact Int.le_refl _

theorem SD.strictInc_starts : ∀ {l : List Iv}, SD l → WFl l → StrictInc (l.map (·.1))
  | [], _, _ => trivial
  | [_], _, _ => trivial
  | a :: b :: t, hsd, hw => by
    have := hw a (by simp)
    have := hsd.1
    exact ⟨show a.1 < b.1 by omega, SD.strictInc_starts hsd.2 (WFl_tail hw)⟩

/-- `end + 1`: the keys of the reverse search -/
theorem SD.strictInc_ends : ∀ {l : List Iv}, SD l → WFl l → StrictInc (l.map (fun r => r.2 + 1))
  | [], _, _ => trivial
  | [_], _, _ => trivial
  | a :: b :: t, hsd, hw => by
    have := hw b (by simp)
    have := hsd.1
    exact ⟨show a.2 + 1 < b.2 + 1 by omega, SD.strictInc_ends hsd.2 (WFl_tail hw)⟩

theorem countP_le_eq_zero (g : Iv → Int) (pos : Int) : ∀ l : List Iv, StrictInc (l.map g) → (∀ x ∈ l.head?, pos < g x) →
    l.countP (fun r => decide (g r ≤ pos)) = 0
  | [], _, _ => rfl
  | [x], _, h => by have := h x rfl; simp; omega
  | x :: y :: t, hinc, h => by
    have hx := h x rfl
    have := countP_le_eq_zero g pos (y :: t) hinc.2 (fun z hz => by cases hz; have := hinc.1; omega)
    rw [List.countP_cons_of_neg (by simp; omega), this]

theorem countP_le_of_gap (g : Iv → Int) (pos : Int) : ∀ (l : List Iv) (t : Nat) (a b : Iv), StrictInc (l.map g) →
    l[t]? = some a → l[t + 1]? = some b → g a ≤ pos → pos < g b → l.countP (fun r => decide (g r ≤ pos)) = t + 1
  | [], _, _, _, _, ha, _, _, _ => by simp at ha
  | [_], _, _, _, _, _, hb, _, _ => by simp at hb
  | x :: y :: rest, 0, a, b, hinc, ha, hb, h1, h2 => by
    simp at ha hb; subst ha; subst hb
    rw [List.countP_cons_of_pos (by simpa using h1),
      countP_le_eq_zero g pos (y :: rest) hinc.2 (fun z hz => by cases hz; exact h2)]
  | x :: y :: rest, t + 1, a, b, hinc, ha, hb, h1, h2 => by
    have ih := countP_le_of_gap g pos (y :: rest) t a b hinc.2 (by simpa using ha) (by simpa using hb) h1 h2
    have : g x < g a := strictInc_mono hinc 0 (t + 1) (by omega) _ _ (by simp) (by rw [List.getElem?_map, ha]; rfl)
    rw [List.countP_cons_of_pos (by simp; omega), ih]

/-- `binSearchLoop` on the list of starts (`binSearchLoop_eq`) -/
def loopStarts (lo : List Int) (pos : Int) : Nat → Nat → Nat → Option Nat
  | 0, _, _ => none
  | fuel + 1, ind, step =>
    match lo[ind]?, lo[ind + 1]? with
    | some a, some b =>
      if a ≤ pos ∧ pos < b then some ind
      else
        let step' := max 1 (step / 2)
        if pos < a then
          if step' ≤ ind then loopStarts lo pos fuel (ind - step') step' else none
        else loopStarts lo pos fuel (ind + step') step'
    | _, _ => none

theorem binSearchLoop_eq (l : List Iv) (pos : Int) (fuel ind step : Nat) :
    binSearchLoop l pos fuel ind step = loopStarts (l.map (·.1)) pos fuel ind step := by
  induction fuel generalizing ind step with
  | zero => rfl
  | succ fuel ih =>
    unfold binSearchLoop loopStarts
    simp only [List.getElem?_map]
    cases h1 : l[ind]? <;> cases h2 : l[ind + 1]? <;> simp [ih]

/-- One halving step towards a target `t` on the left: the new step fits below `ind`, the reach invariant
    (`rem` of the step on either side stays inside the list) is kept, and the fuel measure decreases. -/
theorem halve_left {ind t step fuel len : Nat} (hs : 1 ≤ step) (hlow : rem step ≤ ind)
    (hhigh : ind + rem step + 2 ≤ len) (hfuel : 2 * step + (if ind ≤ t then t - ind else ind - t) < fuel + 1)
    (ht : t < ind) :
    max 1 (step / 2) ≤ ind ∧ 1 ≤ max 1 (step / 2) ∧ rem (max 1 (step / 2)) ≤ ind - max 1 (step / 2) ∧
      ind - max 1 (step / 2) + rem (max 1 (step / 2)) + 2 ≤ len ∧
      2 * max 1 (step / 2) +
        (if ind - max 1 (step / 2) ≤ t then t - (ind - max 1 (step / 2)) else ind - max 1 (step / 2) - t) < fuel := by
  have hr := rem_halve step
  have hs2 : 2 * max 1 (step / 2) ≤ step ∨ step = 1 ∧ max 1 (step / 2) = 1 := by omega
  have hs' : 1 ≤ max 1 (step / 2) := Nat.le_max_left ..
  generalize max 1 (step / 2) = s' at *
  rw [if_neg (by omega)] at hfuel
  obtain ⟨j, rfl⟩ : ∃ j, ind = j + s' := Nat.exists_eq_add_of_le' (by omega)
  rw [Nat.add_sub_cancel]
  refine ⟨by omega, hs', by omega, by omega, ?_⟩
  split <;> omega

theorem halve_right {ind t step fuel len : Nat} (hs : 1 ≤ step) (hlow : rem step ≤ ind)
    (hhigh : ind + rem step + 2 ≤ len) (hfuel : 2 * step + (if ind ≤ t then t - ind else ind - t) < fuel + 1)
    (ht : ind < t) (hlen : t + 1 < len) :
    1 ≤ max 1 (step / 2) ∧ rem (max 1 (step / 2)) ≤ ind + max 1 (step / 2) ∧
      ind + max 1 (step / 2) + rem (max 1 (step / 2)) + 2 ≤ len ∧
      2 * max 1 (step / 2) +
        (if ind + max 1 (step / 2) ≤ t then t - (ind + max 1 (step / 2)) else ind + max 1 (step / 2) - t) < fuel := by
  have hr := rem_halve step
  have hs2 : 2 * max 1 (step / 2) ≤ step ∨ step = 1 ∧ max 1 (step / 2) = 1 := by omega
  have hs' : 1 ≤ max 1 (step / 2) := Nat.le_max_left ..
  generalize max 1 (step / 2) = s' at *
  rw [if_pos (by omega)] at hfuel
  refine ⟨hs', by omega, by omega, ?_⟩
  split <;> omega

theorem loop_correct (lo : List Int) (pos : Int) (hinc : StrictInc lo) (t : Nat)
    (a b : Int) (hta : lo[t]? = some a) (htb : lo[t + 1]? = some b) (hpa : a ≤ pos) (hpb : pos < b) :
    ∀ fuel ind step, 1 ≤ step ∨ ind = t →
      rem step ≤ ind → ind + rem step + 2 ≤ lo.length →
      2 * step + (if ind ≤ t then t - ind else ind - t) < fuel →
      loopStarts lo pos fuel ind step = some t := by
  have hlen : t + 1 < lo.length := (List.getElem?_eq_some_iff.mp htb).1
  intro fuel
  induction fuel with
  | zero => intro ind step _ _ _ h; omega
  | succ fuel ih =>
    intro ind step hstep hlow hhigh hfuel
    obtain ⟨x, hx⟩ := exists_getElem? lo (k := ind) (by omega)
    obtain ⟨y, hy⟩ := exists_getElem? lo (k := ind + 1) (by omega)
    -- the window `[x, y)` at `ind` lies left of `[a, b)` if `ind < t`, right of it if `t < ind`
    have hxy : x < y := strictInc_mono hinc ind (ind + 1) (by omega) x y hx hy
    have hleft : ind < t → y ≤ a := fun h => strictInc_le hinc (by omega) hy hta
    have hright : t < ind → b ≤ x := fun h => strictInc_le hinc (by omega) htb hx
    unfold loopStarts
    simp only [hx, hy]
    split
    · have : ind = t := by omega
      rw [this]
    · have hne : ind ≠ t := by
        rintro rfl
        cases hx.symm.trans hta; cases hy.symm.trans htb
        omega
      have hs1 : 1 ≤ step := hstep.resolve_right hne
      split
      · have htlt : t < ind := by false_or_by_contra; have := hleft (by omega); omega
        obtain ⟨h1, h2, h3, h4, h5⟩ := halve_left hs1 hlow hhigh hfuel htlt
        rw [if_pos h1]
        exact ih _ _ (.inl h2) h3 h4 h5
      · have htgt : ind < t := by false_or_by_contra; have := hright (by omega); omega
        obtain ⟨h2, h3, h4, h5⟩ := halve_right hs1 hlow hhigh hfuel htgt hlen
        exact ih _ _ (.inl h2) h3 h4 h5

end IsoVerif.Lemmas
