/-
C07: concrete runs as the kernel evaluates them (the witnesses and examples of Props/C07*.lean on configurations with more than
one chromosome).  A folder of the model is a function `Path → Option Tok`: after n events a chain of n closures
`fun q => if q = p then v else …`, and every look-up walks the chain and pays the derived `DecidableEq Path` at each link — dear
exactly when both paths have the same constructor (a dependent match on `ctorIdx x = ctorIdx y` comes before the fields are
compared).  A list or a tree in place of the chain does not help: the kernel evaluates lazily and goes through the unevaluated
updates again at every look-up.  Here a folder is two numbers (`Store`): bit `pathCode p` of the pair says what `p` holds.  The
kernel computes `|||`, `^^^`, `2 ^ n` and `testBit` on numerals in one step and strictly, so after every event the store is a
numeral again and a look-up does not depend on what happened before.  `den st` is the folder a store stands for; `sActs`,
`sPhase`, `sPhases` are `runActs`, `runPhase`, `runPhases` on stores — the stages are those of the model, applied to `den st` —
and `run_den`, `runPool_den`, `cleanEventsFrom_den`, `crashFSFrom_den` turn the runs of the model into them.
-/
import IsoVerif.Lemmas.Resume

namespace IsoVerif.Lemmas.Resume
open IsoVerif.Model.Resume

def chrOf : Path → Nat
  | .rgSplit c | .save c | .groups c | .bamstat c | .collected c | .multimap c | .part _ c | .partLin _ c
  | .partStats _ c | .readStat c | .trStat c | .processed c => c
  | _ => 0

def strOf : Path → Stream
  | .part s _ | .partLin s _ | .partStats s _ | .final s | .finalLin s | .tpm s | .finalGz s => s
  | _ => .bed

/-- constructor (25 < 32), stream (16) and chromosome of a path in one number -/
def pathCode (p : Path) : Nat := 32 * (16 * chrOf p + (strOf p).ctorIdx) + p.ctorIdx

def pathOf (i : Nat) (s : Stream) (c : Nat) : Path :=
  match i with
  | 0 => .params | 1 => .rgSplit c | 2 => .rgLock | 3 => .save c | 4 => .groups c | 5 => .bamstat c | 6 => .collected c
  | 7 => .multimap c | 8 => .info | 9 => .lock | 10 => .part s c | 11 => .partLin s c | 12 => .partStats s c
  | 13 => .readStat c | 14 => .trStat c | 15 => .processed c | 16 => .final s | 17 => .finalLin s | 18 => .tpm s
  | 19 => .finalGz s | 20 => .refFa | 21 => .refFai | 22 => .refFaiData | 23 => .refFaiTmp | _ => .paramsTmp

theorem pathOf_parts (p : Path) : pathOf p.ctorIdx (strOf p) (chrOf p) = p := by cases p <;> rfl

theorem pathCode_inj {p q : Path} : pathCode p = pathCode q ↔ p = q := by
  refine ⟨fun h => ?_, fun h => h ▸ rfl⟩
  have bs : ∀ s : Stream, s.ctorIdx < 16 := fun s => by cases s <;> decide
  have bi : ∀ p : Path, p.ctorIdx < 32 := fun p => by cases p <;> exact Nat.lt_of_sub_eq_succ rfl
  have := bs (strOf p); have := bs (strOf q); have := bi p; have := bi q
  unfold pathCode at h
  rw [← pathOf_parts p, ← pathOf_parts q, show p.ctorIdx = q.ctorIdx by omega, show chrOf p = chrOf q by omega,
    ← Stream.ofNat_ctorIdx (strOf p), show (strOf p).ctorIdx = (strOf q).ctorIdx by omega, Stream.ofNat_ctorIdx]

def setBit (a n : Nat) (c : Bool) : Nat := if c then a ||| 2 ^ n else (a ||| 2 ^ n) ^^^ 2 ^ n

theorem testBit_setBit (a n m : Nat) (c : Bool) : (setBit a n c).testBit m = if m = n then c else a.testBit m := by
  by_cases h : m = n
  · subst h; cases c <;> simp [setBit]
  · have h' : n ≠ m := Ne.symm h
    cases c <;> simp [setBit, h, h']

/-- what a file holds, as two bits -/
def ofBits : Bool → Bool → Option Tok
  | false, false => none | true, false => some .bad | false, true => some .good | true, true => some .stale
def lowBit : Option Tok → Bool
  | some .bad | some .stale => true | _ => false
def highBit : Option Tok → Bool
  | some .good | some .stale => true | _ => false

theorem ofBits_bits (v : Option Tok) : ofBits (lowBit v) (highBit v) = v := by
  rcases v with _ | _ | _ | _ <;> rfl

abbrev Store := Nat × Nat

def Store.get (st : Store) (n : Nat) : Option Tok := ofBits (st.1.testBit n) (st.2.testBit n)

def Store.put (st : Store) (n : Nat) (v : Option Tok) : Store := (setBit st.1 n (lowBit v), setBit st.2 n (highBit v))

theorem Store.get_put (st : Store) (n m : Nat) (v : Option Tok) : (st.put n v).get m = if m = n then v else st.get m := by
  simp only [Store.get, Store.put, testBit_setBit]
  split
  · exact ofBits_bits v
  · rfl

def den (st : Store) : FS := fun p => st.get (pathCode p)

theorem den_zero : den (0, 0) = FS.empty := by funext p; simp [den, Store.get, ofBits, FS.empty]

theorem den_put (st : Store) (p : Path) (v : Option Tok) : den (st.put (pathCode p) v) = (den st).set p v := by
  funext q; simp only [den, Store.get_put, FS.set, pathCode_inj]

def Store.apply (st : Store) (e : Ev) : Store := st.put (pathCode e.path) e.val

def Store.applyAll (st : Store) : List Ev → Store
  | [] => st
  | e :: es => Store.applyAll (st.apply e) es

theorem den_apply (st : Store) (e : Ev) : den (st.apply e) = apply (den st) e := den_put _ _ _

theorem den_applyAll (st : Store) (es : List Ev) : den (st.applyAll es) = applyAll (den st) es := by
  induction es generalizing st with
  | nil => rfl
  | cons e es ih => simp only [Store.applyAll, applyAll, ih, den_apply]

/-- a folder given as a list of files (Props/C07.lean `fsOf`) -/
def storeOf (l : List (Path × Tok)) : Store := l.foldl (fun st x => st.put (pathCode x.1) (some x.2)) (0, 0)

theorem den_storeOf (l : List (Path × Tok)) : l.foldl (fun fs x => fs.set x.1 (some x.2)) FS.empty = den (storeOf l) := by
  have h : ∀ st, l.foldl (fun fs x => fs.set x.1 (some x.2)) (den st) =
      den (l.foldl (fun st x => st.put (pathCode x.1) (some x.2)) st) := by
    induction l with
    | nil => intro _; rfl
    | cons x l ih => intro st; rw [List.foldl_cons, List.foldl_cons, ← den_put, ih]
  rw [← den_zero]; exact h _

structure SRes where
  evs : List Ev
  st : Store
  ok : Bool

def SRes.res (r : SRes) : Res := ⟨r.evs, den r.st, r.ok⟩

def sActs : List Act → Store → SRes
  | [], st => ⟨[], st, true⟩
  | .ev e :: as, st =>
      let r := sActs as (st.apply e)
      ⟨e :: r.evs, r.st, r.ok⟩
  | .exist p :: as, st => if (den st).has p then sActs as st else ⟨[], st, false⟩
  | .load p :: as, st => if (den st).loadable p then sActs as st else ⟨[], st, false⟩
  | .rm p :: as, st =>
      if (den st).has p then
        let r := sActs as (st.apply (.remove p))
        ⟨.remove p :: r.evs, r.st, r.ok⟩
      else ⟨[], st, false⟩

theorem runActs_den (as : List Act) (st : Store) : runActs as (den st) = (sActs as st).res := by
  induction as generalizing st with
  | nil => rfl
  | cons a as ih =>
    cases a with
    | ev e => simp only [runActs, sActs, ← den_apply, ih, SRes.res]
    | exist p =>
      simp only [runActs, sActs]
      split
      · exact ih st
      · rfl
    | load p =>
      simp only [runActs, sActs]
      split
      · exact ih st
      · rfl
    | rm p =>
      simp only [runActs, sActs]
      split
      · rw [← den_apply, ih]; rfl
      · rfl

def sPhase : Phase → Store → SRes
  | .seq s, st => sActs (s (den st)) st
  | .pool task cs sched, st =>
      let rem : Chr → List Ev := fun c => if c ∈ cs then (sActs (task c (den st)) st).evs else []
      let es := weave (sched ++ fill cs rem) rem
      ⟨es, st.applyAll es, cs.all (fun c => (sActs (task c (den st)) st).ok)⟩

theorem runPhase_den (p : Phase) (st : Store) : runPhase p (den st) = (sPhase p st).res := by
  cases p with
  | seq s => exact runActs_den _ _
  | pool task cs sched =>
    have h : taskEvents task cs (den st) = fun c => if c ∈ cs then (sActs (task c (den st)) st).evs else [] := by
      funext c; simp only [taskEvents, runActs_den, SRes.res]
    simp only [runPhase, poolStage, h, runActs_den, SRes.res, sPhase, den_applyAll]

def sPhases : List Phase → Store → SRes
  | [], st => ⟨[], st, true⟩
  | p :: ps, st =>
      let r := sPhase p st
      if r.ok then
        let r2 := sPhases ps r.st
        ⟨r.evs ++ r2.evs, r2.st, r2.ok⟩
      else r

theorem runPhases_den (ps : List Phase) (st : Store) : runPhases ps (den st) = (sPhases ps st).res := by
  induction ps generalizing st with
  | nil => rfl
  | cons p ps ih =>
    simp only [runPhases, sPhases, runPhase_den, SRes.res]
    split
    · rw [ih]; rfl
    · rfl

def sRun (v : Variant) (cfg : Cfg) (ord : List Path) (rs : Bool) (st : Store) : SRes :=
  sPhases ((forceClean v cfg rs :: stages v cfg ord rs (rs && (den st).has .lock)).map .seq) st

def sRunPool (v : Variant) (cfg : Cfg) (ord : List Path) (rs : Bool) (s1 s2 : List Chr) (st : Store) : SRes :=
  sPhases (.seq (forceClean v cfg rs) :: phases v cfg ord rs (rs && (den st).has .lock) s1 s2) st

theorem run_den (v : Variant) (cfg : Cfg) (ord : List Path) (rs : Bool) (st : Store) :
    run v cfg ord rs (den st) = (sRun v cfg ord rs st).res := by
  rw [run, ← runPhases_seq, runPhases_den]; rfl

theorem runPool_den (v : Variant) (cfg : Cfg) (ord : List Path) (rs : Bool) (s1 s2 : List Chr) (st : Store) :
    runPool v cfg ord rs s1 s2 (den st) = (sRunPool v cfg ord rs s1 s2 st).res := runPhases_den _ _

theorem cleanEventsFrom_den (v : Variant) (cfg : Cfg) (ord : List Path) (st : Store) :
    cleanEventsFrom v cfg ord (den st) = (sRun v cfg ord false st).evs := by rw [cleanEventsFrom, run_den]; rfl

theorem crashFSFrom_den (v : Variant) (cfg : Cfg) (ord : List Path) (st : Store) (k : Nat) :
    crashFSFrom v cfg ord (den st) k = den (st.applyAll ((sRun v cfg ord false st).evs.take k)) := by
  rw [crashFSFrom, cleanEventsFrom_den, den_applyAll]

end IsoVerif.Lemmas.Resume
