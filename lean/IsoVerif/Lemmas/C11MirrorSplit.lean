/-
C11 helper lemmas — reflection of `GeneInfo.split_exons` (Model/Profiles.lean).

C19's `split_exons_spec` (sorted disjoint blocks, same positions as the exons, no block straddles an exon border, every
block ENDS at a border) is turned into a left/right symmetric description: two neighbouring positions lie in one block
iff both are exon positions and no exon border (`cut`) lies between them.  Together with `SD_ext` (Lemmas/C11MirrorMerge)
this determines the blocks, and the description is mirror-symmetric.
-/
import IsoVerif.Gen.Prims
import IsoVerif.Model.Interval
import IsoVerif.Model.Profiles
import IsoVerif.Model.C11Symmetry
import IsoVerif.Lemmas.C11Mirror
import IsoVerif.Lemmas.C11MirrorMerge

namespace IsoVerif.Lemmas.C11.Lists
open IsoVerif.Gen IsoVerif.Model IsoVerif.Model.C11 IsoVerif.Lemmas

/-- an exon border between positions `p` and `p + 1`: an exon starts at `p + 1` or ends at `p` -/
def cut (l : List Iv) (p : Int) : Prop := ∃ e ∈ l, e.1 = p + 1 ∨ e.2 = p

/-- what C19's `split_exons_spec` says of the blocks `split_exons` returns -/
structure Atoms (exons blocks : List Iv) : Prop where
  sd : SD blocks
  wf : WFl blocks
  hc : ∀ p, cov blocks p ↔ cov exons p
  hn : ∀ b ∈ blocks, ∀ e ∈ exons, contains e b = true ∨ overlaps e b = false
  he : ∀ b ∈ blocks, ∃ e ∈ exons, e.1 = b.2 + 1 ∨ e.2 = b.2

/-- … read symmetrically -/
theorem atoms_lnk (exons blocks : List Iv) (w : WFl exons) (h : Atoms exons blocks) (p : Int) :
    lnk blocks p ↔ cov exons p ∧ cov exons (p + 1) ∧ ¬ cut exons p := by
  obtain ⟨-, -, hc, hn, he⟩ := h
  constructor
  · rintro ⟨b, hb, x1, x2⟩
    refine ⟨(hc p).mp ⟨b, hb, x1, by omega⟩, (hc (p + 1)).mp ⟨b, hb, by omega, x2⟩, ?_⟩
    rintro ⟨e, hee, hcut⟩
    have hwe := w e hee
    rcases hn b hb e hee with h | h
    · simp only [contains, Bool.and_eq_true, decide_eq_true_eq] at h; omega
    · simp only [overlaps, Bool.not_eq_false', Bool.or_eq_true, decide_eq_true_eq] at h; omega
  · rintro ⟨h1, _, h3⟩
    obtain ⟨b, hb, x1, x2⟩ := (hc p).mpr h1
    by_cases c : p + 1 ≤ b.2
    · exact ⟨b, hb, x1, c⟩
    · exfalso
      have e : b.2 = p := by omega
      obtain ⟨ex, hex, hcut⟩ := he b hb
      exact h3 ⟨ex, hex, by omega⟩

theorem cut_mirrorL (L : Int) (l : List Iv) (p : Int) : cut (mirrorL L l) p ↔ cut l (L - p) := by
  simp only [cut, mirrorL, List.mem_reverse, List.mem_map]
  constructor
  · rintro ⟨r, ⟨a, ha, rfl⟩, h⟩
    simp only [mirrorIv_fst, mirrorIv_snd] at h
    exact ⟨a, ha, by omega⟩
  · rintro ⟨a, ha, h⟩
    exact ⟨mirrorIv L a, ⟨a, ha, rfl⟩, by simp only [mirrorIv_fst, mirrorIv_snd]; omega⟩

theorem atoms_mirror_unique (L : Int) (exons blocks blocks' : List Iv) (w : WFl exons)
    (h : Atoms exons blocks) (h' : Atoms (mirrorL L exons) blocks') : blocks' = mirrorL L blocks := by
  apply SD_ext _ _ h'.sd (SD_mirror L blocks h.sd) h'.wf (WFl_mirror L blocks h.wf)
  · intro p; rw [h'.hc p, cov_mirrorL, cov_mirrorL, h.hc]
  · intro p
    rw [atoms_lnk (mirrorL L exons) blocks' (WFl_mirror L exons w) h' p, lnk_mirrorL,
      atoms_lnk exons blocks w h (L - p), cov_mirrorL, cov_mirrorL, cut_mirrorL]
    have e1 : L + 1 - (p + 1) = L - p := by omega
    have e2 : L + 1 - p = L - p + 1 := by omega
    rw [e1, e2]
    constructor
    · rintro ⟨a, b, c⟩; exact ⟨b, a, c⟩
    · rintro ⟨a, b, c⟩; exact ⟨b, a, c⟩

theorem exists_shift_nonneg (l : List Iv) : ∃ k : Int, 0 ≤ k ∧ ∀ e ∈ l, 0 ≤ e.1 + k := by
  induction l with
  | nil => exact ⟨0, by omega, fun e he => by cases he⟩
  | cons a t ih =>
    obtain ⟨k, hk, hall⟩ := ih
    refine ⟨max k (-a.1), by omega, fun e he => ?_⟩
    rcases List.mem_cons.mp he with rfl | he'
    · omega
    · have := hall e he'; omega

end IsoVerif.Lemmas.C11.Lists
