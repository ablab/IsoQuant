/-
C04 — helper lemmas: `assign_reads_to_models` as a RELATION (`mem_readsIn_assignReads`: which read ends up
under which id, an iff, not only the forward direction of `assignReads_lists`), the content-based assigner of
IsoVerif/Model/ChainAssigner.lean (`assignContent_chains`), the read counts after the deletion loop of
`drop_novel_chains_reported_elsewhere` (`CountAfterDrop`: unchanged outside the withheld copies, smaller on their reads), and
the chromosome run with the computed assigner (`processRegionC_pair`: one record under the current code and under the code
before the fixes, side by side; `runChromosomeC_is_run`: it is a run of `runChromosome`).
-/
import IsoVerif.Model.ChainAssigner
import IsoVerif.Lemmas.ChromosomeModels

namespace IsoVerif.Lemmas.C04
open IsoVerif.Gen IsoVerif.Model IsoVerif.Model.C04

theorem mem_readsIn_foldl_assignOne (ins : List AssignIn) (hnd : (ins.map (·.read)).Nodup) (s : Store) (r t : String) :
    r ∈ readsIn (ins.foldl assignOne s).readIds t ↔
      r ∈ readsIn s.readIds t ∨ ∃ a ∈ ins, a.read = r ∧ ¬ cnt s.rcount r > 0 ∧ a.consistent = true ∧ t ∈ a.matched := by
  induction ins generalizing s with
  | nil => simp
  | cons a rest ih =>
    simp only [List.map_cons, List.nodup_cons] at hnd
    simp only [List.foldl_cons]
    rw [ih hnd.2, mem_readsIn_assignOne]
    have hne : ∀ b ∈ rest, b.read = r → r ≠ a.read := by
      intro b hb hbr he
      apply hnd.1
      rw [← he, ← hbr]
      exact List.mem_map.2 ⟨b, hb, rfl⟩
    constructor
    · rintro ((h | ⟨h1, h2, h3, h4⟩) | ⟨b, hb, hbr, hc, h3, h4⟩)
      · exact Or.inl h
      · subst h1
        exact Or.inr ⟨a, by simp, rfl, h2, h3, h4⟩
      · rw [assignOne_rcount_other s a r (hne b hb hbr)] at hc
        exact Or.inr ⟨b, List.mem_cons_of_mem _ hb, hbr, hc, h3, h4⟩
    · rintro (h | ⟨b, hb, hbr, hc, h3, h4⟩)
      · exact Or.inl (Or.inl h)
      · rcases List.mem_cons.1 hb with rfl | hb'
        · exact Or.inl (Or.inr ⟨hbr.symm, by rw [hbr]; exact hc, h3, h4⟩)
        · exact Or.inr ⟨b, hb', hbr, by rw [assignOne_rcount_other s a r (hne b hb' hbr)]; exact hc, h3, h4⟩

theorem mem_readsIn_assignReads (s : Store) (ins : List AssignIn) (hnd : (ins.map (·.read)).Nodup) (r t : String) :
    r ∈ readsIn (s.assignReads ins).readIds t ↔
      r ∈ readsIn s.readIds t ∨
      (s.models ≠ [] ∧ ∃ a ∈ ins, a.read = r ∧ ¬ cnt s.rcount r > 0 ∧ a.consistent = true ∧ t ∈ a.matched) := by
  unfold Store.assignReads
  by_cases hm : s.models = []
  · rw [if_pos (by rw [hm]; rfl), List.foldlRecOn (motive := fun s' : Store => s'.readIds = s.readIds) ins
      (fun s a => { s with rcount := amSet s.rcount a.read 0 }) rfl fun _ ih _ _ => ih]
    exact (or_iff_left fun h => h.1 hm).symm
  · rw [if_neg (by simpa using hm), mem_readsIn_foldl_assignOne ins hnd]
    exact or_congr_right (and_iff_right hm).symm

theorem mem_modelsAt {ms : List TModel} {ix : List Nat} {m : TModel} (h : m ∈ modelsAt ms ix) : m ∈ ms := by
  simp only [modelsAt, List.mem_filterMap] at h
  obtain ⟨i, _, hi⟩ := h
  exact List.mem_of_getElem? hi

theorem insOf_reads (A : CAssigner) (reads : List String) (ms : List TModel) : (insOf A reads ms).map (·.read) = reads := by
  simp [insOf, relabel, Function.comp_def]

/-- the answers name models of the storage only (`sopScoped`): the real assigner is built from the storage -/
theorem insOf_scoped (A : CAssigner) (reads : List String) (ms : List TModel) :
    ∀ a ∈ insOf A reads ms, ∀ t ∈ a.matched, t ∈ ids ms := by
  intro a ha t ht
  simp only [insOf, List.mem_map] at ha
  obtain ⟨r, _, rfl⟩ := ha
  simp only [relabel, List.mem_map] at ht
  obtain ⟨m, hm, rfl⟩ := ht
  exact List.mem_map.2 ⟨m, mem_modelsAt hm, rfl⟩

/-- the second assignment as a relation read → (strand, chain), for an assigner that is a function of (read, contents); the
    relation `∃ m ∈ ms, …` here and below is `ListedUnderChain` of Props/C04Chain.lean written out -/
theorem assignContent_chains (A : CAssigner) (s : Store) (reads : List String) (hnd : reads.Nodup) (hids : (ids s.models).Nodup)
    (r : String) (k : ChainKey) :
    (∃ m ∈ s.models, isSplicedNovel m = true ∧ chainKey m = k ∧
        r ∈ readsIn (s.assignReads (insOf A reads s.models)).readIds m.tid) ↔
      (∃ m ∈ s.models, isSplicedNovel m = true ∧ chainKey m = k ∧ r ∈ readsIn s.readIds m.tid) ∨
      (r ∈ reads ∧ ¬ cnt s.rcount r > 0 ∧ k ∈ ansChains s.models (A r (s.models.map TModel.content))) := by
  have hnd' : ((insOf A reads s.models).map (·.read)).Nodup := by rw [insOf_reads]; exact hnd
  constructor
  · rintro ⟨m, hm, hsn, hk, hr⟩
    rw [mem_readsIn_assignReads _ _ hnd'] at hr
    rcases hr with hr | ⟨_, a, ha, har, hc, hcons, ht⟩
    · exact Or.inl ⟨m, hm, hsn, hk, hr⟩
    · refine Or.inr ?_
      simp only [insOf, List.mem_map] at ha
      obtain ⟨r', hr', rfl⟩ := ha
      simp only [relabel] at har hcons ht
      subst har
      refine ⟨hr', hc, ?_⟩
      unfold ansChains
      rw [if_pos hcons]
      obtain ⟨m', hm', hmt⟩ := List.mem_map.1 ht
      have := eq_of_nodup_map TModel.tid hids (mem_modelsAt hm') hm hmt
      subst this
      exact mem_reportKeys.2 ⟨m', hm', hsn, hk⟩
  · rintro (⟨m, hm, hsn, hk, hr⟩ | ⟨hr, hc, hk⟩)
    · exact ⟨m, hm, hsn, hk, by rw [mem_readsIn_assignReads _ _ hnd']; exact Or.inl hr⟩
    · unfold ansChains at hk
      split at hk
      · rename_i hcons
        obtain ⟨m, hm, hsn, hkk⟩ := mem_reportKeys.1 hk
        have hms := mem_modelsAt hm
        refine ⟨m, hms, hsn, hkk, ?_⟩
        rw [mem_readsIn_assignReads _ _ hnd']
        refine Or.inr ⟨List.ne_nil_of_mem hms, relabel s.models r (A r (s.models.map TModel.content)), ?_, rfl, hc, hcons,
          List.mem_map.2 ⟨m, hm, rfl⟩⟩
        exact List.mem_map.2 ⟨r, hr, rfl⟩
      · simp at hk

/-- `read_assignment_counts` of one read after the deletion loop of `drop_novel_chains_reported_elsewhere` over `ms` (`rc'`; before:
    the storage `s`) -/
structure CountAfterDrop (keys : List ChainKey) (ms : List TModel) (s : Store) (rc' : List (String × Int)) (r : String) :
    Prop where
  le : cnt rc' r ≤ cnt s.rcount r
  /-- unchanged for a read of no withheld copy -/
  same : (∀ m ∈ ms, keepModel keys m = false → r ∉ readsIn s.readIds m.tid) → cnt rc' r = cnt s.rcount r
  /-- at least one smaller for every read of a withheld copy -/
  less : (ids ms).Nodup → ∀ m ∈ ms, keepModel keys m = false → r ∈ readsIn s.readIds m.tid → cnt rc' r ≤ cnt s.rcount r - 1

theorem dropLoop_rcount (reported : List ChainKey) (ms : List TModel) (s : Store) (kept : List TModel) (s' : Store)
    (kept' : List TModel) (h : filterLoopG (dropDec reported) ms s kept = some (s', kept')) (r : String) :
    CountAfterDrop reported ms s s'.rcount r := by
  induction ms generalizing s kept with
  | nil =>
    simp only [filterLoopG, Option.some.injEq, Prod.mk.injEq] at h
    obtain ⟨rfl, _⟩ := h
    exact ⟨Int.le_refl _, fun _ => rfl, fun _ m hm => by simp at hm⟩
  | cons m t ih =>
    rw [dropLoop_cons] at h
    split at h
    · rename_i hk
      have i := ih _ _ h
      refine ⟨i.le, fun hall => i.same fun x hx => hall x (List.mem_cons_of_mem _ hx), fun hnd x hx hkx hrx => ?_⟩
      rcases List.mem_cons.1 hx with rfl | hx'
      · rw [hk] at hkx
        cases hkx
      · exact i.less (List.nodup_cons.1 hnd).2 x hx' hkx hrx
    · rename_i hk
      obtain ⟨s1, hd, h⟩ := Option.bind_eq_some_iff.1 h
      have i := ih _ _ h
      have d := delete_rcount hd r
      have dl : cnt s1.rcount r ≤ cnt s.rcount r := d ▸ Int.sub_le_self _ (Int.natCast_nonneg _)
      have d4 := (deleteFromStorage_spec hd).2.2.1
      have hk : keepModel reported m = false := by simpa using hk
      refine ⟨Int.le_trans i.le dl, fun hall => ?_, fun hnd x hx hkx hrx => ?_⟩
      · rw [i.same fun x hx hkx => ?_, d, List.count_eq_zero.2 (hall m List.mem_cons_self hk)]
        · simp
        · rw [d4]
          split
          · simp
          · exact hall x (List.mem_cons_of_mem _ hx) hkx
      · rcases List.mem_cons.1 hx with rfl | hx'
        · exact Int.le_trans i.le (d ▸ Int.sub_le_sub_left (Int.ofNat_le.2 (List.count_pos_iff.2 hrx)) _)
        · have hne : x.tid ≠ m.tid := fun e => (List.nodup_cons.1 hnd).1 (List.mem_map.2 ⟨x, hx', e⟩)
          exact Int.le_trans (i.less (List.nodup_cons.1 hnd).2 x hx' hkx (by rw [d4, if_neg hne]; exact hrx))
            (Int.sub_le_sub_right dl 1)

theorem dropReported_rcount {s s' : Store} {reported rep' : List ChainKey} (h : s.dropReported reported = some (s', rep'))
    (r : String) : CountAfterDrop reported s.models s s'.rcount r := by
  unfold Store.dropReported at h
  split at h
  · cases h
  · rename_i s1 kept hl
    simp only [Option.some.injEq, Prod.mk.injEq] at h
    obtain ⟨rfl, _⟩ := h
    exact dropLoop_rcount _ _ _ _ _ _ hl r

theorem dropJoin_rcount {s5 s6 : Store} {reported rep' : ModelMap} {span : Option (Int × Int)} {final : List TModel}
    (h : s5.dropJoin reported span = some (s6, final, rep')) (r : String) :
    CountAfterDrop (modelKeys reported) s5.models s5 s6.rcount r := by
  obtain ⟨_, _, _, _, _, _, hd, _, _, _, h3⟩ := dropJoin_spec h
  exact h3 ▸ dropReported_rcount hd r

/-- a line of the storage handed to the second assignment is a line of a model that stays: the copies of the earlier models
    join without reads (ids pairwise different, lines name stored models) -/
theorem dropJoin_listed_back {s5 s6 : Store} {reported rep' : ModelMap} {span : Option (Int × Int)} {final : List TModel}
    (h : s5.dropJoin reported span = some (s6, final, rep')) (hids6 : (ids s6.models).Nodup)
    (hinv : ∀ t, t ∉ ids s5.models → readsIn s5.readIds t = []) {m : TModel} (hm : m ∈ s6.models) {r : String}
    (hr : r ∈ readsIn s6.readIds m.tid) : m ∈ final ∧ r ∈ readsIn s5.readIds m.tid := by
  obtain ⟨_, _, em, _, _, hms, _⟩ := dropJoin_spec h
  obtain ⟨D, hcov, hsh, _⟩ := dropJoin_shrunk h
  rw [hsh.reads] at hr
  split at hr
  · simp at hr
  · rename_i hD
    refine ⟨?_, hr⟩
    by_cases hin : m.tid ∈ ids s5.models
    · obtain ⟨m0, hm0, hmt⟩ := List.mem_map.1 hin
      rcases hcov m0 hm0 with c1 | c2
      · exact eq_of_nodup_map TModel.tid hids6 (hms ▸ List.mem_append_left _ c1) hm hmt ▸ c1
      · exact absurd (hmt ▸ c2) hD
    · rw [hinv _ hin] at hr
      simp at hr

theorem regionHead_congr (next : Nat → Nat) (cs cs' : ChrState) (r : RegionIn) (h1 : cs.detected = cs'.detected)
    (h2 : cs.idv = cs'.idv) : regionHead next cs r = regionHead next cs' r := by
  unfold regionHead
  rw [h1, h2]

theorem processRegionC_eq_some {v : Repair} {A : CAssigner} {next : Nat → Nat} {cs cs' : ChrState} {r : RegionIn} {s : Store}
    (h : processRegionC v A next cs r = some (cs', s)) :
    ∃ st2 s5 rep, regionHead next cs r = some (st2, s5) ∧ regionTailC v A cs.reported r s5 = some (s, rep) ∧
      cs' = ⟨st2.detected, st2.idv, rep⟩ := by
  unfold processRegionC at h
  split at h
  · cases h
  · rename_i st2 s5 hh
    split at h
    · cases h
    · rename_i s0 rep ht
      simp only [Option.some.injEq, Prod.mk.injEq] at h
      exact ⟨st2, s5, rep, hh, h.2 ▸ ht, h.1.symm⟩

/-- the joiner rewrites gene ids only: id, novelty, chain of a model stay -/
theorem exists_mem_map_gene (g : TModel → String) (ms : List TModel) (s : Store) (r : String) (k : ChainKey) :
    (∃ m ∈ ms.map (fun m => { m with gene := g m }), isSplicedNovel m = true ∧ chainKey m = k ∧ r ∈ readsIn s.readIds m.tid) ↔
    (∃ m ∈ ms, isSplicedNovel m = true ∧ chainKey m = k ∧ r ∈ readsIn s.readIds m.tid) := by
  constructor
  · rintro ⟨m, hm, h⟩
    obtain ⟨m0, hm0, rfl⟩ := List.mem_map.1 hm
    exact ⟨m0, hm0, h⟩
  · rintro ⟨m, hm, h⟩
    exact ⟨{ m with gene := g m }, List.mem_map.2 ⟨m, hm, rfl⟩, h⟩

/-- one record under the current code and under the code before the fixes, from shared states with the same
    `detected_known_isoforms` and id counter: both work on the same storage `s5` after `filter_transcripts`, and what each dumps
    under a (strand, chain) is what its second assignment listed (for the current code: over the kept models and the copies `em`) -/
theorem processRegionC_pair {A : CAssigner} {next : Nat → Nat} {csF csO csF' csO' : ChrState} {r : RegionIn} {sF sO : Store}
    (hdet : csF.detected = csO.detected) (hidv : csF.idv = csO.idv)
    (hF : processRegionC .joinEarlier A next csF r = some (csF', sF))
    (hO : processRegionC .none A next csO r = some (csO', sO)) :
    ∃ st2 s5 s6 final rep em, regionHead next csF r = some (st2, s5) ∧
      s5.dropJoin csF.reported r.span = some (s6, final, rep) ∧ earlierModels csF.reported r.span = some em ∧
      csF' = ⟨st2.detected, st2.idv, rep⟩ ∧ csO'.detected = st2.detected ∧ csO'.idv = st2.idv ∧
      (∀ rd k, (∃ m ∈ sO.models, isSplicedNovel m = true ∧ chainKey m = k ∧ rd ∈ readsIn sO.readIds m.tid) ↔
        ∃ m ∈ s5.models, isSplicedNovel m = true ∧ chainKey m = k ∧
          rd ∈ readsIn (s5.assignReads (insOf A (r.ins2.map (·.read)) s5.models)).readIds m.tid) ∧
      (∀ rd k, (∃ m ∈ s6.models, isSplicedNovel m = true ∧ chainKey m = k ∧
          rd ∈ readsIn (s6.assignReads (insOf A (r.ins2.map (·.read)) s6.models)).readIds m.tid) ↔
        ∃ m ∈ sF.models ++ em, isSplicedNovel m = true ∧ chainKey m = k ∧ rd ∈ readsIn sF.readIds m.tid) := by
  obtain ⟨st2, s5, rep, hh, htF, rfl⟩ := processRegionC_eq_some hF
  obtain ⟨_, _, _, hhO, htO, rfl⟩ := processRegionC_eq_some hO
  cases (hh.symm.trans (regionHead_congr next csF csO r hdet hidv)).trans hhO
  simp only [regionTailC] at htF htO
  split at htF
  · cases htF
  · rename_i s6 final rep6 hd
    simp only [regionTail, hd, Option.some.injEq, Prod.mk.injEq] at htF htO
    obtain ⟨rfl, rfl⟩ := htF
    obtain ⟨rfl, rfl⟩ := htO
    obtain ⟨_, _, em, _, he, hms, _⟩ := dropJoin_spec hd
    refine ⟨st2, s5, s6, final, _, em, hh, hd, he, rfl, rfl, rfl, fun rd k => ?_, fun rd k => ?_⟩
    · simp only [assignReads_models]
      exact exists_mem_map_gene _ _ _ _ _
    · rw [exists_mem_append (List.map _ _), exists_mem_map_gene, ← exists_mem_append, ← hms]

/-- the tail with the computed assigner is `regionTail` on the record that carries the computed answers `ins` (when the drop
    step raises, both sides are `none` whatever `ins` is) -/
theorem regionTailC_eq (v : Repair) (A : CAssigner) (reported : ModelMap) (r : RegionIn) (s5 : Store) :
    ∃ ins, regionTailC v A reported r s5 = regionTail v reported { r with ins2 := ins } s5 := by
  cases v <;> simp only [regionTailC]
  · exact ⟨_, rfl⟩
  all_goals
    split
    · exact ⟨r.ins2, by simp only [regionTail, *]⟩
    · exact ⟨_, rfl⟩

theorem processRegionC_eq (v : Repair) (A : CAssigner) (next : Nat → Nat) (cs : ChrState) (r : RegionIn) :
    ∃ ins, processRegionC v A next cs r = processRegion v next cs { r with ins2 := ins } := by
  unfold processRegionC processRegion
  cases hh : regionHead next cs r with
  | none => exact ⟨r.ins2, by rw [show regionHead next cs { r with ins2 := r.ins2 } = regionHead next cs r from rfl, hh]⟩
  | some p =>
    obtain ⟨st2, s5⟩ := p
    obtain ⟨ins, hins⟩ := regionTailC_eq v A cs.reported r s5
    refine ⟨ins, ?_⟩
    rw [show regionHead next cs { r with ins2 := ins } = regionHead next cs r from rfl, hh]
    simp only []
    rw [hins]
    rfl

/-- the run with the computed assigner IS a run of `runChromosome` (on records that carry the computed answers): every theorem of
    Props/C04Chromosome.lean about `runChromosomeFixed` speaks about it -/
theorem runChromosomeC_is_run (v : Repair) (A : CAssigner) (next : Nat → Nat) (regs : List RegionIn) (cs : ChrState)
    (acc : List Store) :
    ∃ regs', regs'.length = regs.length ∧ runChromosome v next regs' cs acc = runChromosomeC v A next regs cs acc := by
  induction regs generalizing cs acc with
  | nil => exact ⟨[], rfl, rfl⟩
  | cons r t ih =>
    obtain ⟨ins, hins⟩ := processRegionC_eq v A next cs r
    cases hp : processRegionC v A next cs r with
    | none =>
      refine ⟨{ r with ins2 := ins } :: t, by simp, ?_⟩
      simp only [runChromosome, runChromosomeC, hp, ← hins]
    | some p =>
      obtain ⟨cs', s⟩ := p
      obtain ⟨regs', hl, hr⟩ := ih cs' (acc ++ [s])
      refine ⟨{ r with ins2 := ins } :: regs', by simp [hl], ?_⟩
      simp only [runChromosome, runChromosomeC, hp, ← hins, hr]

/-! ### decidable pieces of the residual predicate of Props/C04Chain.lean -/

/-- equality of two key lists as sets -/
def sameKeys (a b : List ChainKey) : Bool := a.all (fun k => decide (k ∈ b)) && b.all (fun k => decide (k ∈ a))

theorem sameKeys_iff {a b : List ChainKey} (h : sameKeys a b = true) (k : ChainKey) : k ∈ a ↔ k ∈ b := by
  simp only [sameKeys, Bool.and_eq_true, List.all_eq_true, decide_eq_true_eq] at h
  exact ⟨h.1 k, h.2 k⟩

/-- the local copies the step withholds -/
def withheld (keys : List ChainKey) (s5 : Store) : List TModel := s5.models.filter (fun m => !keepModel keys m)

/-- the reads listed under a withheld copy -/
def freedReads (keys : List ChainKey) (s5 : Store) : List String := (withheld keys s5).flatMap (fun m => readsIn s5.readIds m.tid)

theorem mem_freedReads {keys : List ChainKey} {s5 : Store} {r : String} :
    r ∈ freedReads keys s5 ↔ ∃ m ∈ s5.models, keepModel keys m = false ∧ r ∈ readsIn s5.readIds m.tid := by
  simp [freedReads, withheld, List.mem_flatMap, List.mem_filter, and_assoc]

/-- `transcript_read_ids` names stored models only (the decidable form of `R2TInv`) -/
def listsOnlyModels (s : Store) : Bool := s.readIds.all (fun p => p.2.isEmpty || decide (p.1 ∈ ids s.models))

theorem listsOnlyModels_spec {s : Store} (h : listsOnlyModels s = true) :
    ∀ t, t ∉ ids s.models → readsIn s.readIds t = [] := by
  intro t ht
  unfold readsIn
  cases hg : amGet? s.readIds t with
  | none => rfl
  | some l =>
    have hmem := amGet?_mem hg
    simp only [listsOnlyModels, List.all_eq_true, Bool.or_eq_true, decide_eq_true_eq, List.isEmpty_iff] at h
    rcases h _ hmem with e | e
    · simpa using e
    · exact absurd e ht

end IsoVerif.Lemmas.C04
