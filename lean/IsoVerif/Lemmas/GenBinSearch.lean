/-
Loop lemmas for `interval_bin_search(_rev)` of Gen/Loops.lean (`bin_search_loop_eq`, `bin_search_rev_loop_eq`); the refinement
theorems are stated and proved from them in Props/C19GenBinSearch.lean.
-/
import IsoVerif.Gen.Loops
import IsoVerif.Lemmas.GenBase
import IsoVerif.Lemmas.BinSearch

namespace IsoVerif.Lemmas.GenLoops
open IsoVerif.Gen IsoVerif.Model IsoVerif.Lemmas

/-! ### the two binary searches
The generated loops follow Python exactly (short-circuit evaluation of the chained comparison, negative indices wrap);
the hand model reads both intervals eagerly and flags a negative index.  They agree on ALL inputs because the index stays
inside `[0, len-2]` (`[0, len-1]` for `_rev`) for every list, sorted or not: the invariant `rem step ≤ ind`,
`ind + rem step + 2 ≤ len` only needs the three early exits of the function. -/

theorem halve_natCast (step : Nat) : max 1 ((step : Int) / 2) = ((max 1 (step / 2) : Nat) : Int) := by omega

theorem mid_natCast (n : Nat) (h : 0 < n) : ((n : Int) - 1) / 2 = (((n - 1) / 2 : Nat) : Int) := by omega

theorem bin_search_loop_eq (l : List Iv) (pos : Int) (f t : Iv) (hf : l[0]? = some f) (ht : l[l.length - 1]? = some t)
    (hpf : f.1 ≤ pos) (hpt : pos < t.1) (fuel ind step : Nat) (s : Int)
    (hlo : rem step ≤ ind) (hhi : ind + rem step + 2 ≤ l.length) :
    interval_bin_search.loop3 l pos fuel s (ind : Int) (step : Int)
      = (binSearchLoop l pos fuel ind step).map (fun (i : Nat) => (i : Int)) := by
  induction fuel generalizing ind step with
  | zero => rfl
  | succ fuel ih =>
    obtain ⟨x, hx⟩ : ∃ x, l[ind]? = some x := exists_getElem? l (by omega)
    obtain ⟨y, hy⟩ : ∃ y, l[ind + 1]? = some y := exists_getElem? l (by omega)
    have hc : ((ind : Int) + 1) = ((ind + 1 : Nat) : Int) := (Int.natCast_succ ind).symm
    have hstep := halve_natCast step
    have hr := rem_halve step
    have h1 : 1 ≤ max 1 (step / 2) := by omega
    unfold interval_bin_search.loop3 binSearchLoop
    simp only [pyIdx_natCast, hx, hc, hy, hstep]
    generalize max 1 (step / 2) = s' at *
    by_cases h1 : x.1 ≤ pos
    · by_cases h2 : pos < y.1
      · simp [h1, h2, interval_bin_search.after3]
      · have hnlt : ¬ pos < x.1 := by omega
        -- a step to the right from `len - 2` would need `pos ≥ l[len-1].1`
        have : ind + 2 ≠ l.length := by
          rintro he
          have : l[ind + 1]? = some t := by rw [← ht]; congr 1; omega
          cases hy.symm.trans this
          exact h2 hpt
        have hadd : (ind : Int) + (s' : Int) = ((ind + s' : Nat) : Int) := by omega
        simp only [h1, h2, hnlt, decide_true, decide_false, if_true, if_false, Bool.not_false, and_false, hadd,
          Bool.false_eq_true]
        apply ih <;> omega
    · have hlt : pos < x.1 := by omega
      have hind : ind ≠ 0 := by
        intro h0; subst h0
        cases hf.symm.trans hx
        exact h1 hpf
      have hle : s' ≤ ind := by omega
      have hsub : (ind : Int) - (s' : Int) = ((ind - s' : Nat) : Int) := by omega
      simp only [h1, hlt, hle, decide_true, decide_false, if_true, if_false, Bool.not_false, false_and, hsub,
        Bool.false_eq_true]
      apply ih <;> omega

theorem bin_search_rev_loop_eq (l : List Iv) (pos : Int) (f t : Iv) (hf : l[0]? = some f) (ht : l[l.length - 1]? = some t)
    (hpf : f.2 < pos) (hpt : pos ≤ t.2) (fuel ind step : Nat) (s : Int)
    (hlo : rem step ≤ ind) (hhi : ind + rem step + 1 ≤ l.length) :
    interval_bin_search_rev.loop3 l pos fuel s (ind : Int) (step : Int)
      = (binSearchRevLoop l pos fuel ind step).map (fun (i : Nat) => (i : Int)) := by
  induction fuel generalizing ind step with
  | zero => rfl
  | succ fuel ih =>
    obtain ⟨y, hy⟩ : ∃ y, l[ind]? = some y := exists_getElem? l (by omega)
    have hstep := halve_natCast step
    have hr := rem_halve step
    have h1 : 1 ≤ max 1 (step / 2) := by omega
    unfold interval_bin_search_rev.loop3 binSearchRevLoop
    simp only [pyIdx_eq_pyGet]
    cases hA : pyGet? l ((ind : Int) - 1) with
    | none => rfl
    | some a =>
      have hyy : pyGet? l (ind : Int) = some y := by rw [← pyIdx_eq_pyGet, pyIdx_natCast]; exact hy
      simp only [hy, hyy, hstep]
      generalize max 1 (step / 2) = s' at *
      by_cases hgt : pos > y.2
      · -- a step to the right from `len - 1` would need `pos > l[len-1].2`
        have : ind + 1 ≠ l.length := by
          rintro he
          have : l[ind]? = some t := by rw [← ht]; congr 1; omega
          cases hy.symm.trans this
          omega
        have h2 : ¬ pos ≤ y.2 := by omega
        have hadd : (ind : Int) + (s' : Int) = ((ind + s' : Nat) : Int) := by omega
        by_cases h1 : a.2 < pos <;>
          simp only [h1, h2, hgt, decide_true, decide_false, if_true, if_false, Bool.not_false, and_false, hadd,
            Bool.false_eq_true]
        all_goals apply ih <;> omega
      · have h2 : pos ≤ y.2 := by omega
        by_cases h1 : a.2 < pos
        · simp [h1, h2, interval_bin_search_rev.after3]
        · have hind : ind ≠ 0 := by
            intro h0; subst h0
            cases hf.symm.trans hy
            omega
          have hle : s' ≤ ind := by omega
          have hsub : (ind : Int) - (s' : Int) = ((ind - s' : Nat) : Int) := by omega
          simp only [h1, hgt, hle, decide_false, if_true, if_false, Bool.not_false, false_and, hsub,
            Bool.false_eq_true]
          apply ih <;> omega

end IsoVerif.Lemmas.GenLoops
