/-
C01, forward clause: helper lemmas about the gene model (`Gene.fromModels`): the profile ranges `set_profiles` records, the
split-exon atoms, what a mark of an isoform's profiles means.
-/
import IsoVerif.Lemmas.C01Assign
import IsoVerif.Lemmas.Lists
import IsoVerif.Props.C19Split
import IsoVerif.Lemmas.Exons

namespace IsoVerif.Lemmas.C01
open IsoVerif.Gen IsoVerif.Model IsoVerif.Model.C01 IsoVerif.Lemmas

theorem leadingLt1_le (l : List Int) (i : Nat) (v : Int) (h : l[i]? = some v) (hv : 1 ≤ v) : leadingLt1 l ≤ i := by
  induction l generalizing i with
  | nil => simp at h
  | cons x xs ih =>
    cases i with
    | zero =>
      simp at h; subst h
      have : ¬ x < 1 := by omega
      simp [leadingLt1, this]
    | succ i =>
      simp at h
      have := ih i h
      simp only [leadingLt1]
      split <;> omega

theorem leadingLt1_le_length (l : List Int) : leadingLt1 l ≤ l.length := by
  induction l with
  | nil => simp [leadingLt1]
  | cons x xs ih => simp only [leadingLt1]; split <;> simp <;> omega

/-- a mark 1 of an isoform profile lies inside the profile range `set_profiles` records -/
theorem setProfiles_range (cmp : Iv → Iv → Bool) (features tf : List Iv) (region : Iv) (i : Nat)
    (h : (setProfiles features tf region cmp).1[i]? = some 1) :
    (setProfiles features tf region cmp).2.1 ≤ (i : Int) ∧ (i : Int) < (setProfiles features tf region cmp).2.2 := by
  have hi : i < (setProfiles features tf region cmp).1.length := getElem?_lt h
  have h1 := leadingLt1_le _ i 1 h (by omega)
  have h2 : leadingLt1 (setProfiles features tf region cmp).1.reverse ≤
      (setProfiles features tf region cmp).1.length - 1 - i := by
    apply leadingLt1_le _ _ 1 _ (by omega)
    rw [List.getElem?_reverse (by omega)]
    have e : (setProfiles features tf region cmp).1.length - 1 -
        ((setProfiles features tf region cmp).1.length - 1 - i) = i := by omega
    rw [e]; exact h
  have e1 : (setProfiles features tf region cmp).2.1 = (leadingLt1 (setProfiles features tf region cmp).1 : Int) := rfl
  have e2 : (setProfiles features tf region cmp).2.2 = ((setProfiles features tf region cmp).1.length : Int) - 1 -
      (leadingLt1 (setProfiles features tf region cmp).1.reverse : Int) + 1 := rfl
  rw [e1, e2]
  omega

theorem setProfiles_range_bounds (cmp : Iv → Iv → Bool) (features tf : List Iv) (region : Iv) :
    0 ≤ (setProfiles features tf region cmp).2.1 ∧
    (setProfiles features tf region cmp).2.2 ≤ ((setProfiles features tf region cmp).1.length : Int) := by
  have e1 : (setProfiles features tf region cmp).2.1 = (leadingLt1 (setProfiles features tf region cmp).1 : Int) := rfl
  have e2 : (setProfiles features tf region cmp).2.2 = ((setProfiles features tf region cmp).1.length : Int) - 1 -
      (leadingLt1 (setProfiles features tf region cmp).1.reverse : Int) + 1 := rfl
  rw [e1, e2]
  omega

theorem profileRange_bounds (l : List Int) : 0 ≤ (profileRange l).1 ∧ (profileRange l).2 ≤ (l.length : Int) := by
  simp only [profileRange]; omega

/-- coordinates are non-negative (genomic coordinates are ≥ 1; `split_exons` uses −1 as a marker) -/
def NonNeg (ms : List Isoform) : Prop := ∀ m ∈ ms, ∀ e ∈ m.exons, 0 ≤ e.1

/-- the atoms of the exon arrangement -/
structure Atoms (g : Gene) : Prop where
  sd : SD g.splitExons
  wf : WFl g.splitExons
  cover : ∀ p, cov g.splitExons p ↔ cov g.exons p
  atom : ∀ b ∈ g.splitExons, ∀ e ∈ g.exons, contains e b = true ∨ overlaps e b = false

theorem atoms_of_fromModels (ms : List Isoform) (g : Gene) (h : Gene.fromModels ms = some g) (hwf : WellFormed ms)
    (hnn : NonNeg ms) : Atoms g := by
  obtain ⟨_, hex, _⟩ := fromModels_spec ms g h
  obtain ⟨hsp, _⟩ := fromModels_spec2 ms g h
  have hmem : ∀ e ∈ g.exons, ∃ m ∈ ms, e ∈ m.exons := by
    intro e he
    rw [hex, mem_sortDedupIv] at he
    simpa [List.mem_flatMap] using he
  have w : WFl g.exons := by
    intro e he
    obtain ⟨m, hm, hem⟩ := hmem e he
    exact (hwf m hm).2 e hem
  have hpos : ∀ e ∈ g.exons, 0 ≤ e.1 := by
    intro e he
    obtain ⟨m, hm, hem⟩ := hmem e he
    exact hnn m hm e hem
  obtain ⟨blocks, hb, h1, h2, h3, h4, _⟩ := IsoVerif.Props.C19Split.split_exons_spec g.exons w hpos
  rw [hsp] at hb; cases hb
  exact ⟨h1, h2, h3, h4⟩

theorem exon_mem_gene (ms : List Isoform) (g : Gene) (h : Gene.fromModels ms = some g) (m : Isoform) (hm : m ∈ ms)
    (e : Iv) (he : e ∈ m.exons) : e ∈ g.exons := by
  obtain ⟨_, hex, _⟩ := fromModels_spec ms g h
  rw [hex, mem_sortDedupIv]
  simp only [List.mem_flatMap]
  exact ⟨m, hm, he⟩

theorem atom_in_exon {g : Gene} (ha : Atoms g) (e : Iv) (he : e ∈ g.exons) (k : Iv) (hk : k ∈ g.splitExons)
    (hov : overlaps e k = true) : e.1 ≤ k.1 ∧ k.2 ≤ e.2 := by
  rcases ha.atom k hk e he with h | h
  · simp [contains] at h; omega
  · rw [h] at hov; cases hov

theorem atom_at {g : Gene} (ha : Atoms g) (e : Iv) (he : e ∈ g.exons) (p : Int) (hp : e.1 ≤ p ∧ p ≤ e.2) :
    ∃ k ∈ g.splitExons, k.1 ≤ p ∧ p ≤ k.2 ∧ e.1 ≤ k.1 ∧ k.2 ≤ e.2 := by
  obtain ⟨k, hk, hkp⟩ := (ha.cover p).mpr ⟨e, he, hp⟩
  have hov : overlaps e k = true := by
    simp [overlaps]; omega
  obtain ⟨h1, h2⟩ := atom_in_exon ha e he k hk hov
  exact ⟨k, hk, hkp.1, hkp.2, h1, h2⟩

theorem splitProf_one_iff (ms : List Isoform) (g : Gene) (h : Gene.fromModels ms = some g) (hwf : WellFormed ms)
    (hnn : NonNeg ms) (I : IsoInfo) (hI : I ∈ g.isos) (i : Nat) (k : Iv) (hk : g.splitExons[i]? = some k) :
    I.splitProf[i]? = some 1 ↔ ∃ e ∈ I.exons, contains e k = true := by
  obtain ⟨_, hisos⟩ := fromModels_spec2 ms g h
  obtain ⟨m, hm, hio⟩ := hisos I hI
  have ha := atoms_of_fromModels ms g h hwf hnn
  rw [hio.base.splitProf, hio.base.exons]
  constructor
  · intro h1
    exact setProfiles_sound _ _ _ _ i k hk h1
  · rintro ⟨e, he, hc⟩
    obtain ⟨mk, hmk, hv⟩ := setProfiles_get (fun a b => contains a b) g.splitExons m.exons I.region i k hk
    have hB : ∀ e' ∈ m.exons, ∃ k' ∈ g.splitExons, contains e' k' = true := fun e' he' => by
      have hw := (hwf m hm).2 e' he'
      obtain ⟨k', hk', _, _, h1, h2⟩ := atom_at ha e' (exon_mem_gene ms g h m hm e' he') e'.1 ⟨by omega, hw⟩
      exact ⟨k', hk', by simp [contains]; omega⟩
    rw [markLoop_contains_spec m.exons g.splitExons false ha.sd ha.wf (hwf m hm).1 (hwf m hm).2 (by simpa using hB)
      (by simp), List.getElem?_map, hk] at hmk
    obtain rfl := Option.some.inj hmk
    have hany : (m.exons.any fun f => contains f k) = true := List.any_eq_true.mpr ⟨e, he, hc⟩
    simpa [hany] using hv

theorem splitProf_length (ms : List Isoform) (g : Gene) (h : Gene.fromModels ms = some g)
    (I : IsoInfo) (hI : I ∈ g.isos) : I.splitProf.length = g.splitExons.length := by
  obtain ⟨_, hisos⟩ := fromModels_spec2 ms g h
  obtain ⟨m, hm, hio⟩ := hisos I hI
  rw [hio.base.splitProf, setProfiles_length]

theorem intronProf_length (ms : List Isoform) (g : Gene) (h : Gene.fromModels ms = some g)
    (I : IsoInfo) (hI : I ∈ g.isos) : I.intronProf.length = g.introns.length := by
  obtain ⟨_, hisos⟩ := fromModels_spec2 ms g h
  obtain ⟨m, hm, hio⟩ := hisos I hI
  rw [hio.base.intronProf, setProfiles_length]

/-- an entry of a `set_profiles` profile that is not 1, at a feature overlapping the region, is −1 -/
theorem prof_values (features tf : List Iv) (region : Iv) (cmp : Iv → Iv → Bool) (i : Nat) (k : Iv)
    (hk : features[i]? = some k) (hn1 : (setProfiles features tf region cmp).1[i]? ≠ some 1)
    (hov : overlaps k region = true) : (setProfiles features tf region cmp).1[i]? = some (-1) := by
  have hlen : i < (setProfiles features tf region cmp).1.length := by
    rw [setProfiles_length]; exact getElem?_lt hk
  have hv : (setProfiles features tf region cmp).1[i]? = some ((setProfiles features tf region cmp).1[i]) := by
    simp [hlen]
  rcases setProfiles_values cmp features tf region i k _ hk hv with h1 | ⟨h1, _⟩ | ⟨_, h2⟩
  · rw [h1] at hv; exact absurd hv hn1
  · rw [hv, h1]
  · rw [h2] at hov; cases hov

end IsoVerif.Lemmas.C01
