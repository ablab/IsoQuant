/-
Interval lists, the base of the interval lemmas: Python indexing and slicing (`pyGet?`, `pySlice`), the predicates
`WFl` / `SD` (well formed; sorted and disjoint), the number of common positions `inter`, and why a two-pointer sweep
over two sorted disjoint lists may drop a block once the other list's head ends no earlier (`inter_skip_right/left`).
-/
import IsoVerif.Gen.Prims
import IsoVerif.Model.Interval
import IsoVerif.Lemmas.ListFacts

namespace IsoVerif.Lemmas
open IsoVerif.Gen IsoVerif.Model

theorem pyGet?_nat {α} (l : List α) (i : Nat) : pyGet? l (i : Int) = l[i]? := by
  simp [pyGet?]

theorem pyGet?_pred {α} (l : List α) (i : Nat) (h : i ≠ 0) : pyGet? l ((i : Int) - 1) = l[i - 1]? := by
  rw [show (i : Int) - 1 = ((i - 1 : Nat) : Int) by omega, pyGet?_nat]

theorem pyGet_nonneg {α} (l : List α) (i : Int) (h0 : 0 ≤ i) : pyGet? l i = l[i.toNat]? := by
  simp [pyGet?, h0]

theorem pyGet_inrange {α} (l : List α) (i : Int) (h0 : 0 ≤ i) (h1 : i < l.length) :
    ∃ x, pyGet? l i = some x ∧ l[i.toNat]? = some x := by
  rw [pyGet_nonneg l i h0]
  have : i.toNat < l.length := by omega
  exact ⟨l[i.toNat], by simp [this], by simp [this]⟩

theorem drop_pyGet {α} (l : List α) (i : Int) (h0 : 0 ≤ i) (h1 : i < l.length) :
    ∃ x, pyGet? l i = some x ∧ l.drop i.toNat = x :: l.drop (i + 1).toNat := by
  have hlt : i.toNat < l.length := by omega
  refine ⟨l[i.toNat], by rw [pyGet_nonneg l i h0]; exact List.getElem?_eq_getElem hlt, ?_⟩
  rw [show (i + 1).toNat = i.toNat + 1 by omega]
  exact List.drop_eq_getElem_cons hlt

theorem pyGet?_mem {α} {l : List α} {i : Int} {x : α} (h : pyGet? l i = some x) : x ∈ l := by
  unfold pyGet? at h
  split at h
  · exact List.mem_of_getElem? h
  · split at h
    · exact List.mem_of_getElem? h
    · cases h

theorem pyGet?_neg {α} (l : List α) (k : Nat) (h0 : 0 < k) (hk : k ≤ l.length) :
    pyGet? l (-(k : Int)) = l[l.length - k]? := by
  have h1 : ¬ (0 : Int) ≤ -(k : Int) := by omega
  have h2 : -(l.length : Int) ≤ -(k : Int) := by omega
  have h3 : ((l.length : Int) + -(k : Int)).toNat = l.length - k := by omega
  simp only [pyGet?, h1, h2, if_true, if_false, h3]

theorem pyGet?_reverse_nat {α} (l : List α) (n : Nat) : pyGet? l.reverse (n : Int) = pyGet? l (-(n : Int) - 1) := by
  have h0 : ¬ (0 ≤ -(n : Int) - 1) := by omega
  simp only [pyGet?, List.length_reverse, Int.natCast_nonneg, h0, if_true, if_false, Int.toNat_natCast]
  by_cases h : n < l.length
  · have h1 : -(l.length : Int) ≤ -(n : Int) - 1 := by omega
    have h2 : ((l.length : Int) + (-(n : Int) - 1)).toNat = l.length - 1 - n := by omega
    rw [if_pos h1, h2, List.getElem?_reverse h]
  · have h1 : ¬ (-(l.length : Int) ≤ -(n : Int) - 1) := by omega
    rw [if_neg h1, List.getElem?_eq_none (by simpa using h)]

/-- Python indexing from the other end; a negative index is the non-negative case read on the reversed list -/
theorem pyGet?_reverse {α} (l : List α) (i : Int) : pyGet? l.reverse i = pyGet? l (-i - 1) := by
  by_cases h : 0 ≤ i
  · obtain ⟨n, rfl⟩ := Int.eq_ofNat_of_zero_le h
    exact pyGet?_reverse_nat l n
  · obtain ⟨n, hn⟩ := Int.eq_ofNat_of_zero_le (show 0 ≤ -i - 1 by omega)
    have := pyGet?_reverse_nat l.reverse n
    rw [List.reverse_reverse, ← hn, show -(-i - 1) - 1 = i by omega] at this
    exact this.symm

theorem pyGet?_map {α β} (f : α → β) (l : List α) (i : Int) : pyGet? (l.map f) i = (pyGet? l i).map f := by
  simp only [pyGet?, List.length_map, List.getElem?_map, apply_ite (Option.map f), Option.map_none]

/-- between non-negative indices a Python slice is `drop`/`take`, whatever the length of the list: an index beyond the
    end is clamped by Python, and `drop`/`take` clamp alike -/
theorem pySlice_natCast {α} (l : List α) (a b : Nat) : pySlice l (a : Int) (b : Int) = (l.drop a).take (b - a) := by
  have h (i : Nat) : ¬ ((i : Int) < 0) := by omega
  have hm (i j : Nat) : (min (i : Int) (j : Int)).toNat = min i j := by omega
  simp only [pySlice, h, if_false, hm]
  by_cases hlen : l.length ≤ a
  · rw [List.drop_eq_nil_of_le hlen, List.drop_eq_nil_of_le (by omega), List.take_nil, List.take_nil]
  · rw [show min a l.length = a by omega, List.take_eq_take_iff, List.length_drop]; omega

theorem overlaps_true_iff (a b : Iv) : overlaps a b = true ↔ b.1 ≤ a.2 ∧ a.1 ≤ b.2 := by
  simp only [overlaps, Bool.not_eq_true', Bool.or_eq_false_iff, decide_eq_false_iff_not]; omega

theorem overlaps_false_iff (a b : Iv) : overlaps a b = false ↔ a.2 < b.1 ∨ b.2 < a.1 := by
  rw [← Bool.not_eq_true, overlaps_true_iff]; omega

theorem iabs_le (x d : Int) : iabs x ≤ d ↔ (-d ≤ x ∧ x ≤ d) := by
  unfold iabs; split <;> omega

theorem equal_ranges_iff (a b : Iv) (d : Int) :
    equal_ranges a b d = true ↔ (-d ≤ a.1 - b.1 ∧ a.1 - b.1 ≤ d) ∧ (-d ≤ a.2 - b.2 ∧ a.2 - b.2 ≤ d) := by
  simp only [equal_ranges, Bool.and_eq_true, decide_eq_true_eq, iabs_le]

theorem eq0_iff (a b : Iv) : equal_ranges a b 0 = true ↔ a = b := by
  simp only [equal_ranges, Bool.and_eq_true, decide_eq_true_eq, iabs_le]
  constructor
  · intro h; ext <;> omega
  · intro h; subst h; omega

theorem iabs_sub_comm (a b : Int) : iabs (a - b) = iabs (b - a) := by
  unfold iabs; split <;> split <;> omega

theorem iabs_nonneg (x : Int) : 0 ≤ iabs x := by
  unfold iabs; split <;> omega

/-- every interval of the list is well formed -/
def WFl (l : List Iv) : Prop := ∀ r ∈ l, r.1 ≤ r.2

/-- each interval ends strictly before the NEXT one starts.  Sorted and pairwise disjoint only together with `WFl`
    (`SD_pairwise`, `SD_all_right`), which is why the lemmas carry the pair `(h : SD l) (w : WFl l)`.  Not `C16.SD` of
    Lemmas/PolyA.lean, which includes well-formedness. -/
def SD : List Iv → Prop
  | [] => True
  | [_] => True
  | a :: b :: t => a.2 < b.1 ∧ SD (b :: t)

-- `SD` is a structural match, so `decide` needs the instance written out (the examples of Props/C19* evaluate it)
def SD.dec : (l : List Iv) → Decidable (SD l)
  | [] => isTrue trivial
  | [_] => isTrue trivial
  | a :: b :: t =>
    match SD.dec (b :: t) with
    | isTrue h => if h' : a.2 < b.1 then isTrue ⟨h', h⟩ else isFalse (fun x => h' x.1)
    | isFalse h => isFalse (fun x => h x.2)

instance : DecidablePred SD := SD.dec

instance (l : List Iv) : Decidable (WFl l) := by unfold WFl; infer_instance

theorem SD_tail {a : Iv} {l : List Iv} (h : SD (a :: l)) : SD l := by
  cases l with
  | nil => trivial
  | cons b t => exact h.2

theorem WFl_tail {a : Iv} {l : List Iv} (h : WFl (a :: l)) : WFl l :=
  fun r hr => h r (List.mem_cons_of_mem _ hr)

theorem WFl_head {a : Iv} {l : List Iv} (h : WFl (a :: l)) : a.1 ≤ a.2 := h a (by simp)

theorem WFl_cons {a : Iv} {t : List Iv} : WFl (a :: t) ↔ a.1 ≤ a.2 ∧ WFl t := List.forall_mem_cons

theorem WFl_append {l1 l2 : List Iv} (h1 : WFl l1) (h2 : WFl l2) : WFl (l1 ++ l2) := by
  intro r hr
  rcases List.mem_append.mp hr with h | h
  · exact h1 r h
  · exact h2 r h

theorem SD_cons_of {a : Iv} {res : List Iv} (h : SD res) (hlt : ∀ b ∈ res, a.2 < b.1) : SD (a :: res) := by
  cases res with
  | nil => trivial
  | cons b t => exact ⟨hlt b (by simp), h⟩

theorem SD_append_singleton (l : List Iv) (x : Iv) :
    SD (l ++ [x]) ↔ SD l ∧ (∀ t, l.getLast? = some t → t.2 < x.1) := by
  induction l with
  | nil => simp [SD]
  | cons a t ih =>
    cases t with
    | nil => simp [SD]
    | cons b t' =>
      simp only [List.cons_append, SD] at ih ⊢
      rw [ih]
      simp only [List.getLast?_cons_cons, and_assoc]

theorem SD_all_right {a : Iv} {l : List Iv} (h : SD (a :: l)) (hw : WFl (a :: l)) :
    ∀ r ∈ l, a.2 < r.1 := by
  induction l generalizing a with
  | nil => intro r hr; cases hr
  | cons b t ih =>
    intro r hr
    have hb : a.2 < b.1 := h.1
    cases hr with
    | head => exact hb
    | tail _ hr' =>
      have hwb : b.1 ≤ b.2 := hw b (by simp)
      have := ih (a := b) h.2 (WFl_tail hw) r hr'
      omega

theorem SD_pairwise (l : List Iv) (h : SD l) (w : WFl l) : l.Pairwise (fun x y => x.2 < y.1) := by
  induction l with
  | nil => exact List.Pairwise.nil
  | cons a t ih =>
    exact List.pairwise_cons.mpr ⟨SD_all_right h w, ih (SD_tail h) (WFl_tail w)⟩

theorem SD.get_lt {l : List Iv} (h : SD l) (w : WFl l) {i j : Nat} {x y : Iv} (hx : l[i]? = some x) (hy : l[j]? = some y)
    (hij : i < j) : x.2 < y.1 := by
  obtain ⟨hi, rfl⟩ := List.getElem?_eq_some_iff.mp hx
  obtain ⟨hj, rfl⟩ := List.getElem?_eq_some_iff.mp hy
  exact List.pairwise_iff_getElem.mp (SD_pairwise l h w) i j hi hj hij

theorem SD.get_le {l : List Iv} (h : SD l) (w : WFl l) {i j : Nat} {x y : Iv} (hx : l[i]? = some x) (hy : l[j]? = some y)
    (hij : i ≤ j) : x.1 ≤ y.1 ∧ x.2 ≤ y.2 := by
  rcases Nat.lt_or_eq_of_le hij with hlt | rfl
  · have := h.get_lt w hx hy hlt
    have := w x (List.mem_of_getElem? hx)
    have := w y (List.mem_of_getElem? hy)
    omega
  · cases hx.symm.trans hy; omega

theorem SD_drop : ∀ (l : List Iv) (n : Nat), SD l → SD (l.drop n)
  | _, 0, h => h
  | [], _ + 1, _ => trivial
  | _ :: t, n + 1, h => SD_drop t n (SD_tail h)

theorem WFl_drop (l : List Iv) (n : Nat) (h : WFl l) : WFl (l.drop n) :=
  fun r hr => h r (List.mem_of_mem_drop hr)

theorem SD_head_lt {a x : Iv} {l : List Iv} (h : SD (a :: l)) (hx : x ∈ l.head?) : a.2 < x.1 := by
  cases l with
  | nil => cases hx
  | cons c t => cases hx; exact h.1

/-- number of common positions of two lists, as the double sum of pairwise common lengths -/
def rowSum (a : Iv) (l : List Iv) : Int := (l.map (intersection_len a)).sum
def inter (l1 l2 : List Iv) : Int := (l1.map (fun a => rowSum a l2)).sum
def colSum (l : List Iv) (b : Iv) : Int := (l.map (fun a => intersection_len a b)).sum

theorem inter_cons_cons (a b : Iv) (as bs : List Iv) :
    inter (a :: as) (b :: bs) = intersection_len a b + rowSum a bs + colSum as b + inter as bs := by
  simp only [inter, rowSum, colSum, List.map_cons, List.sum_cons]
  induction as with
  | nil => simp
  | cons c cs ih => simp only [List.map_cons, List.sum_cons]; omega

theorem inter_cons_left (a : Iv) (as bs : List Iv) :
    inter (a :: as) bs = rowSum a bs + inter as bs := by
  simp [inter]

theorem inter_cons_right (b : Iv) (as bs : List Iv) :
    inter as (b :: bs) = colSum as b + inter as bs := by
  induction as with
  | nil => simp [inter, colSum]
  | cons c cs ih =>
    rw [inter_cons_left, inter_cons_left, ih]
    simp [rowSum, colSum]; omega

theorem inter_nil_right (as : List Iv) : inter as [] = 0 := by
  induction as with
  | nil => rfl
  | cons c cs ih => rw [inter_cons_left, ih]; simp [rowSum]

theorem inter_nil_left (bs : List Iv) : inter [] bs = 0 := by simp [inter]

theorem rowSum_zero {a : Iv} {l : List Iv} (h : ∀ r ∈ l, intersection_len a r = 0) : rowSum a l = 0 :=
  sum_map_eq_zero l _ h

theorem colSum_zero {b : Iv} {l : List Iv} (h : ∀ r ∈ l, intersection_len r b = 0) : colSum l b = 0 :=
  sum_map_eq_zero l _ h

theorem intersection_len_nonneg (a b : Iv) : 0 ≤ intersection_len a b := by
  simp only [intersection_len]; omega

theorem rowSum_nonneg (a : Iv) (l : List Iv) : 0 ≤ rowSum a l :=
  sum_map_nonneg l _ fun b _ => intersection_len_nonneg a b

theorem inter_nonneg (l1 l2 : List Iv) : 0 ≤ inter l1 l2 := by
  induction l1 with
  | nil => simp [inter]
  | cons a t ih => rw [inter_cons_left]; have := rowSum_nonneg a l2; omega

theorem intersection_len_comm (a b : Iv) : intersection_len a b = intersection_len b a := by
  simp only [intersection_len, Int.min_comm, Int.max_comm]

theorem inter_comm (l1 l2 : List Iv) : inter l1 l2 = inter l2 l1 := by
  induction l1 generalizing l2 with
  | nil => rw [inter_nil_left, inter_nil_right]
  | cons a t ih =>
    rw [inter_cons_left, inter_cons_right, ih]
    congr 1
    simp only [rowSum, colSum]
    congr 1
    apply List.map_congr_left
    intro b _; exact intersection_len_comm a b

theorem inter_skip_right {a b : Iv} {as : List Iv} (bs : List Iv) (h : SD (a :: as)) (w : WFl (a :: as))
    (hab : b.2 ≤ a.2) : inter (a :: as) (b :: bs) = intersection_len a b + inter (a :: as) bs := by
  have : colSum as b = 0 := colSum_zero fun r hr => by
    have := SD_all_right h w r hr
    simp only [intersection_len]; omega
  rw [inter_cons_cons, inter_cons_left]; omega

theorem inter_skip_left {a b : Iv} (as : List Iv) {bs : List Iv} (h : SD (b :: bs)) (w : WFl (b :: bs))
    (hab : a.2 ≤ b.2) : inter (a :: as) (b :: bs) = intersection_len a b + inter as (b :: bs) := by
  have : rowSum a bs = 0 := rowSum_zero fun r hr => by
    have := SD_all_right h w r hr
    simp only [intersection_len]; omega
  rw [inter_cons_cons, inter_cons_right]; omega

/-- the two-pointer sweep of `read_coverage_fraction` computes the number of common positions -/
theorem sweep_eq_inter (l1 l2 : List Iv) (h1 : SD l1) (h2 : SD l2) (w1 : WFl l1) (w2 : WFl l2) :
    readCoverageSweep l1 l2 = inter l1 l2 := by
  fun_induction readCoverageSweep l1 l2 with
  | case1 l => simp [inter]
  | case2 a as => exact (inter_nil_right _).symm
  | case3 a as b bs hov hlt ih =>
    have ha := WFl_head w1
    have hb := WFl_head w2
    simp [overlaps] at hov
    rw [ih h1 (SD_tail h2) w1 (WFl_tail w2), inter_skip_right bs h1 w1 (by omega), intersection_len]
    omega
  | case4 a as b bs hov hlt ih =>
    have ha := WFl_head w1
    have hb := WFl_head w2
    simp [overlaps] at hov
    rw [ih (SD_tail h1) h2 (WFl_tail w1) w2, inter_skip_left as h2 w2 (by omega), intersection_len]
    omega
  | case5 a as b bs hov hlt ih =>
    have ha := WFl_head w1
    simp [left_of] at hlt
    rw [ih h1 (SD_tail h2) w1 (WFl_tail w2), inter_skip_right bs h1 w1 (by omega), intersection_len]
    omega
  | case6 a as b bs hov hlt ih =>
    have hb := WFl_head w2
    simp [left_of] at hlt
    simp [overlaps] at hov
    rw [ih (SD_tail h1) h2 (WFl_tail w1) w2, inter_skip_left as h2 w2 (by omega), intersection_len]
    omega

theorem SD_head_le {a : Iv} {l : List Iv} (h : SD (a :: l)) (w : WFl (a :: l)) : ∀ r ∈ a :: l, a.1 ≤ r.1 := by
  intro r hr
  cases hr with
  | head => omega
  | tail _ hr' => have := SD_all_right h w r hr'; have := WFl_head w; omega

theorem SD_le_last {l : List Iv} (h : SD l) (w : WFl l) (t : Iv) (ht : l.getLast? = some t) :
    ∀ r ∈ l, r.2 ≤ t.2 := by
  intro r hr
  obtain ⟨i, hi⟩ := List.mem_iff_getElem?.mp hr
  exact (h.get_le w hi (getElem?_last l t ht) (by have := getElem?_lt hi; omega)).2

theorem SD_split {pre post : List Iv} {e : Iv} (h : SD (pre ++ e :: post)) (w : WFl (pre ++ e :: post)) :
    WFl pre ∧ SD (e :: post) ∧ WFl (e :: post) ∧ (∀ x ∈ post, e.2 < x.1) ∧ ∀ x ∈ pre, x.2 < e.1 := by
  have hw := List.forall_mem_append.1 w
  have hp := List.pairwise_append.1 (SD_pairwise _ h w)
  exact ⟨hw.1, by simpa using SD_drop _ pre.length h, hw.2, (List.pairwise_cons.1 hp.2.1).1,
    fun x hx => hp.2.2 x hx e (by simp)⟩

theorem SD_append_replace (pre post : List Iv) (e e' : Iv) (h : SD (pre ++ e :: post)) (he : e'.1 = e.1) :
    SD (pre ++ [e']) := by
  induction pre with
  | nil => trivial
  | cons x t ih =>
    cases t with
    | nil => exact ⟨by rw [he]; exact h.1, trivial⟩
    | cons y t' => exact ⟨h.1, ih h.2⟩

end IsoVerif.Lemmas
