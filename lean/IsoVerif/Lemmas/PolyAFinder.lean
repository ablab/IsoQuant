/-
Helper lemmas for C16 (polyA window scan: `find_polya` in terms of the first dense window, `FirstWindow`).
-/
import IsoVerif.Model.PolyAFinder

namespace IsoVerif.Lemmas.C16
open IsoVerif.Gen IsoVerif.Model IsoVerif.Model.C16

/-- number of 'A' in the window of length `w` that starts at `j` -/
def winCount (seq : List Bool) (j w : Nat) : Nat := countTrue ((seq.drop j).take w)

/-- `i` is the start of the first window of `w` flags that ends strictly before the end of `seq` and holds at
    least `c` set flags -/
def FirstWindow (seq : List Bool) (w c i : Nat) : Prop :=
  i + w < seq.length ∧ c ≤ winCount seq i w ∧ ∀ j < i, winCount seq j w < c

theorem countTrue_cons (b : Bool) (l : List Bool) : countTrue (b :: l) = (if b then 1 else 0) + countTrue l := by
  cases b <;> simp [countTrue] <;> omega

theorem countTrue_append (a b : List Bool) : countTrue (a ++ b) = countTrue a + countTrue b := by
  simp [countTrue, List.countP_append]

/-- sliding the window by one: drop the first flag, add the one that enters -/
theorem slide (f b : Bool) (front back : List Bool) (w : Nat)
    (h : (f :: front).drop w = b :: back) :
    front.drop w = back ∧
    (countTrue (front.take w) : Int) = countTrue ((f :: front).take w) - (if f then 1 else 0) + (if b then 1 else 0) := by
  cases w with
  | zero =>
    -- window 0: the two cursors coincide
    obtain ⟨rfl, rfl⟩ := List.cons.inj h
    exact ⟨rfl, by cases f <;> simp [countTrue]⟩
  | succ w' =>
  simp only [List.drop_succ_cons] at h
  have hd : front.drop (w' + 1) = back := by
    have := congrArg (List.drop 1) h
    simpa [List.drop_drop, Nat.add_comm] using this
  refine ⟨hd, ?_⟩
  have ht : front.take (w' + 1) = front.take w' ++ [b] := by
    have h1 : front.take (w' + 1) = front.take w' ++ (front.drop w').take 1 := by
      rw [← List.take_append_drop w' (front.take (w' + 1))]
      simp [List.take_take, List.drop_take]
    rw [h1, h]; simp
  rw [ht, List.take_succ_cons, countTrue_append, countTrue_cons, countTrue_cons]
  simp [countTrue]
  cases f <;> cases b <;> simp <;> omega

theorem findPolyaLoop_spec (c w : Nat) : ∀ (front back : List Bool) (i : Nat) (a : Int),
    back = front.drop w → a = (countTrue (front.take w) : Int) →
    match findPolyaLoop c a i front back with
    | some r => ∃ k, r = i + k ∧ FirstWindow front w c k
    | none => ∀ j, j + w < front.length → winCount front j w < c := by
  intro front
  induction front with
  | nil =>
    intro back i a hb _
    simp at hb; subst hb
    simp [findPolyaLoop]
  | cons f front ih =>
    intro back i a hb ha
    cases back with
    | nil =>
      simp only [findPolyaLoop]
      intro j hj
      have : ((f :: front).drop w).length = 0 := by rw [← hb]; rfl
      simp at this
      simp at hj; omega
    | cons b back =>
      have hlen : w < (f :: front).length := by
        have : ((f :: front).drop w).length = (b :: back).length := by rw [← hb]
        simp at this; simp; omega
      by_cases hc : a ≥ (c : Int)
      · simp only [findPolyaLoop, hc, if_true]
        refine ⟨0, rfl, by simpa using hlen, ?_, by intro j hj; omega⟩
        simp only [winCount, List.drop_zero]
        omega
      · simp only [findPolyaLoop, hc, if_false]
        obtain ⟨hd, hcount⟩ := slide f b front back w hb.symm
        have ha' : (if (f && !b) = true then a - 1 else if (!f && b) = true then a + 1 else a)
            = (countTrue (front.take w) : Int) := by
          rw [hcount, ← ha]
          cases f <;> cases b <;> simp <;> omega
        have h := ih back (i + 1) _ hd.symm ha'
        have h0 : winCount (f :: front) 0 w < c := by
          simp only [winCount, List.drop_zero]; omega
        split at h
        · rename_i r hr
          obtain ⟨k, hk1, hk2, hk3, hk4⟩ := h
          refine ⟨k + 1, by omega, by simp; omega, by simpa [winCount] using hk3, ?_⟩
          intro j hj
          cases j with
          | zero => exact h0
          | succ j' => simpa [winCount] using hk4 j' (by omega)
        · rename_i hr
          intro j hj
          cases j with
          | zero => exact h0
          | succ j' => simpa [winCount] using h j' (by simp at hj; omega)

/-- `find_polya` in terms of window counts, for every window length (0 included): −1 iff no window that starts
    strictly before `len − w` holds `c` A's; otherwise the start of the first such window, advanced to the first "AA" -/
theorem findPolya_window (w c : Nat) (seq : List Bool) :
    match findPolya w c seq with
    | none => ∀ j, j + w < seq.length → winCount seq j w < c
    | some p => ∃ i, FirstWindow seq w c i ∧ p = i + (findAA (seq.drop i)).getD 0 := by
  unfold findPolya
  by_cases hl : seq.length < w
  · simp only [hl, if_true]
    intro j hj; omega
  · simp only [hl, if_false]
    have h := findPolyaLoop_spec c w seq (seq.drop w) 0 _ rfl rfl
    split at h
    · rename_i r hr
      obtain ⟨k, hk1, hk⟩ := h
      simp only [hr]
      exact ⟨k, hk, by rw [hk1, Nat.zero_add]⟩
    · rename_i hr
      simp only [hr]
      exact h

end IsoVerif.Lemmas.C16
