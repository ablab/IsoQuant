/-
Bridge lemmas between the C02 counter model and the C09 counter model (grouped tables): C09's `add_read_info` adds
`codeWeight` to the targets of a record (`readEffect_counted`), so what a C02 call is worth in the C09 model
(`callVal`) is its documented contribution; which calls confirm a feature.  Core Lean only.
-/
import IsoVerif.Model.CounterGrouped
import IsoVerif.Lemmas.Counter
import IsoVerif.Lemmas.CounterSteps
import IsoVerif.Lemmas.C09

namespace IsoVerif.Lemmas.C02
open IsoVerif.Gen IsoVerif.Model.C02
open IsoVerif.Model.C09 (Call ReadInfo RawInfo Effect callEffect readEffect rawEffect Counter)
open IsoVerif.Lemmas.C09 (callVal incsVal sumOver)

/-! ### the two copies of the weight functions -/

theorem processAmbiguous_c09 (s : CountingStrategy) (k : Nat) :
    IsoVerif.Model.C09.processAmbiguous s k = processAmbiguous s k := rfl

theorem processInconsistent_c09 (s : CountingStrategy) (t : ReadAssignmentType) (k : Nat) :
    IsoVerif.Model.C09.processInconsistent s t k =
      (match processInconsistent s t k with
       | some v => .ok v
       | none => .error .zeroDivision) := by
  unfold IsoVerif.Model.C09.processInconsistent processInconsistent
  by_cases h1 : t = ReadAssignmentType.inconsistent_ambiguous ∨ k > 1
  · simp only [h1, if_true]
    cases ha : s.ambiguous <;> cases hi : s.inconsistent <;> simp
    by_cases hk : k = 0 <;> simp [hk]
  · simp only [h1, if_false]
    cases hi : s.inconsistent <;> cases hm : s.inconsistent_minor <;> simp
    by_cases ht : t = ReadAssignmentType.inconsistent_non_intronic <;> simp [ht]

theorem ambiguous_flags : ReadAssignmentType.ambiguous.is_unique = false ∧
    ReadAssignmentType.ambiguous.is_inconsistent = false := by decide

theorem incsVal_map (fs : List String) (v : Rat) (b : String → Bool) (f : String) :
    incsVal (fs.map (fun f' => (f', v, b f'))) f = cnt fs f * v := by
  induction fs with
  | nil => simp [incsVal, cnt, Rat.zero_mul]
  | cons x xs ih =>
    simp only [List.map_cons, incsVal, ih, cnt_cons]
    by_cases h : x = f <;> simp [h] <;> grind

theorem sumOver_eq_ratSum {α : Type} (l : List α) (v : α → Rat) : sumOver l v = ratSum (l.map v) := by
  induction l with
  | nil => rfl
  | cons x xs ih => simp [sumOver, ih]

/-- the three guards of C09's `add_read_info`: nothing is counted, nothing confirmed -/
theorem readEffect_guarded (s : CountingStrategy) (r : ReadInfo) (hp : r.present = true)
    (h : r.rawType.is_unassigned = true ∨ r.hasMatches = false ∨ r.firstTranscriptNone = true) :
    readEffect s r = .ok { Effect.none with dNotAssigned := 1 } := by
  simp only [readEffect, hp, Bool.not_true, Bool.false_eq_true, if_false]
  by_cases h0 : r.rawType.is_unassigned = true ∨ (!r.hasMatches) = true
  · rw [if_pos h0]
  · rw [if_neg h0, if_pos]
    simp only [Bool.not_eq_true', not_or, Bool.not_eq_false] at h0
    exact ⟨h0.2, by simpa [h0.1, h0.2] using h⟩

/-- C09 `add_read_info` on a record that passes the three guards, for ANY answers of the extractor: it raises exactly
    when `codeWeight` does; otherwise it adds `codeWeight` to every target, and confirms the first feature of a unique
    record whose extractor says so -/
theorem readEffect_counted (s : CountingStrategy) (r : ReadInfo) (hp : r.present = true)
    (hg : r.rawType.is_unassigned = false) (hm : r.hasMatches = true) (hft : r.firstTranscriptNone = false) :
    match codeWeight s r.atype r.features.length with
    | none => ∃ err, readEffect s r = .error err
    | some w => ∃ e, readEffect s r = .ok e ∧ (∀ f, incsVal e.incs f = cnt (targets r.atype r.features) f * w) ∧
        e.confirm = (if r.atype.is_unique = true ∧ r.confirms = true then r.features.head? else none) := by
  simp only [readEffect, hp, hg, hm, hft, Bool.not_true, Bool.false_eq_true, if_false, false_or, and_false, codeWeight,
    targets]
  by_cases hamb : r.atype = .ambiguous
  · simp only [hamb, if_true, ambiguous_flags.1, Bool.false_eq_true, if_false, false_and]
    exact ⟨_, rfl, fun f => incsVal_map _ _ (fun _ => _) f, rfl⟩
  · simp only [hamb, if_false]
    by_cases hinc : r.atype.is_inconsistent = true
    · have hu := inconsistent_not_unique _ hinc
      simp only [hinc, if_true, hu, Bool.false_eq_true, if_false, false_and, processInconsistent_c09]
      cases hpi : processInconsistent s r.atype r.features.length with
      | none => exact ⟨_, rfl⟩
      | some v =>
        simp only
        by_cases hv : v > 0
        · simp only [hv, if_true]
          exact ⟨_, rfl, fun f => incsVal_map _ _ (fun _ => true) f, rfl⟩
        · simp only [hv, if_false]
          refine ⟨_, rfl, fun f => ?_, rfl⟩
          have h0 : 0 ≤ v := IsoVerif.Lemmas.C09.processInconsistent_nonneg (by rw [processInconsistent_c09, hpi])
          have : v = 0 := by grind
          simp [Effect.none, incsVal, this, Rat.mul_zero]
    · simp only [hinc, Bool.false_eq_true, if_false]
      by_cases hu : r.atype.is_unique = true
      · simp only [hu, if_true, true_and]
        cases hfs : r.features with
        | nil => exact ⟨_, rfl⟩
        | cons g rest =>
          refine ⟨_, rfl, fun f => ?_, by simp⟩
          simp [incsVal, cnt_cons, cnt_nil, Rat.mul_one, Rat.add_zero]
      · simp only [hu, Bool.false_eq_true, if_false, false_and]
        exact ⟨_, rfl, fun f => by simp [Effect.none, incsVal, Rat.mul_zero], rfl⟩

/-- the answers the C02 extractor model gives the counter for a record: the `ReadInfo` of `toCall` -/
def bridged (lvl : Level) (a : Assignment String) (g : String) : ReadInfo :=
  { present := true, rawType := a.atype, hasMatches := !a.isoMatches.isEmpty,
    firstTranscriptNone := firstTranscriptNone a, features := features lvl a, atype := typeOf lvl a,
    confirms := confirms lvl a == some true, group := g }

theorem readEffect_of_skipped (s : CountingStrategy) (lvl : Level) (a : Assignment String) (g : String)
    (hsk : skipped a = true) : readEffect s (bridged lvl a g) = .ok { Effect.none with dNotAssigned := 1 } := by
  refine readEffect_guarded s _ rfl ?_
  simpa [skipped, bridged, or_assoc] using hsk

theorem readEffect_of_counted (s : CountingStrategy) (lvl : Level) (a : Assignment String) (g : String)
    (hsk : skipped a = false) :
    match codeWeight s (typeOf lvl a) (features lvl a).length with
    | none => ∃ err, readEffect s (bridged lvl a g) = .error err
    | some w => ∃ e, readEffect s (bridged lvl a g) = .ok e ∧
        (∀ f, incsVal e.incs f = cnt (targets (typeOf lvl a) (features lvl a)) f * w) ∧
        e.confirm = (if (typeOf lvl a).is_unique = true ∧ (confirms lvl a == some true) = true
                     then (features lvl a).head? else none) := by
  simp only [skipped, Bool.or_eq_false_iff] at hsk
  exact readEffect_counted s (bridged lvl a g) rfl hsk.1.1 (by simp [bridged, hsk.1.2]) hsk.2

/-- **the bridge**: whatever the call, what the C09 counter adds to feature `f` for it is the documented
    contribution of the C02 specification -/
theorem callVal_toCall (s : CountingStrategy) (lvl : Level) (te : Tagged) (c : Call) (h : toCall lvl te = some c)
    (f : String) : callVal s c f = contribution s lvl te.1 f := by
  obtain ⟨e, g⟩ := te
  cases e with
  | unassigned n => simp [toCall] at h
  | unaligned n => simp [toCall] at h
  | confirm fs =>
    simp only [toCall, Option.some.injEq] at h
    subst h
    simp [callVal, callEffect, Effect.none, incsVal, contribution]
  | raw noId fs =>
    simp only [toCall, Option.some.injEq] at h
    subst h
    cases noId with
    | true => simp [callVal, callEffect, rawEffect, Effect.none, incsVal, contribution]
    | false =>
      match fs with
      | [] => simp [callVal, callEffect, rawEffect, Effect.none, incsVal, contribution, cnt, Rat.zero_mul]
      | [f1] =>
        have hd : docWeight s .ambiguous 1 = 1 := by
          rw [← processAmbiguous_eq_doc]; simp [processAmbiguous]
        simp only [callVal, callEffect, rawEffect, Effect.none, Bool.not_false, Bool.not_true, Bool.false_eq_true,
          if_false, incsVal, contribution, List.length_singleton, hd, Rat.mul_one, cnt_cons, cnt_nil, Rat.add_zero]
      | f1 :: f2 :: rest =>
        have hd := (processAmbiguous_eq_doc s (f1 :: f2 :: rest).length).symm
        simp only [callVal, callEffect, rawEffect, Effect.none, Bool.not_false, Bool.not_true, Bool.false_eq_true,
          if_false, contribution, hd]
        rw [incsVal_map (f1 :: f2 :: rest) _ (fun _ => true) f, processAmbiguous_c09]
  | read ra =>
    simp only [toCall] at h
    cases ra with
    | none =>
      simp only [Option.some.injEq] at h
      subst h
      simp [callVal, callEffect, readEffect, Effect.none, incsVal, contribution]
    | some a =>
      simp only [Option.some.injEq] at h
      subst h
      rw [contribution_read]
      show (match readEffect s (bridged lvl a g) with | .ok e => incsVal e.incs f | .error _ => 0) = _
      by_cases hsk : skipped a = true
      · simp [readEffect_of_skipped s lvl a g hsk, Effect.none, incsVal, hsk]
      · have := readEffect_of_counted s lvl a g (by simpa using hsk)
        rw [if_neg hsk, ← codeWeight_targets]
        cases hw : codeWeight s (typeOf lvl a) (features lvl a).length with
        | none => rw [hw] at this; obtain ⟨err, he⟩ := this; rw [he]
        | some w => rw [hw] at this; obtain ⟨e, he, hv, _⟩ := this; rw [he]; exact hv f

theorem contribution_of_no_call (s : CountingStrategy) (lvl : Level) (te : Tagged) (h : toCall lvl te = none)
    (f : String) : contribution s lvl te.1 f = 0 := by
  obtain ⟨e, g⟩ := te
  cases e with
  | unassigned n => simp [contribution]
  | unaligned n => simp [contribution]
  | confirm fs => simp [toCall] at h
  | raw noId fs => simp [toCall] at h
  | read ra => cases ra <;> simp [toCall] at h

theorem toCall_group (lvl : Level) (te : Tagged) (c : Call) (h : toCall lvl te = some c) :
    c.group = some te.2 ∨ (c.group = none ∧ ∀ s f, contribution s lvl te.1 f = 0) := by
  obtain ⟨e, g⟩ := te
  cases e with
  | unassigned n => simp [toCall] at h
  | unaligned n => simp [toCall] at h
  | confirm fs =>
    simp only [toCall, Option.some.injEq] at h
    subst h
    exact Or.inr ⟨rfl, fun s f => by simp [contribution]⟩
  | raw noId fs =>
    simp only [toCall, Option.some.injEq] at h
    subst h
    exact Or.inl rfl
  | read ra =>
    cases ra <;>
    · simp only [toCall, Option.some.injEq] at h
      subst h
      exact Or.inl rfl

theorem sumOver_toCalls (lvl : Level) (tes : List Tagged) (v : Call → Rat) :
    sumOver (toCalls lvl tes) v =
      ratSum (tes.map (fun te => match toCall lvl te with | some c => v c | none => 0)) := by
  induction tes with
  | nil => rfl
  | cons te rest ih =>
    unfold toCalls at ih ⊢
    cases hc : toCall lvl te with
    | none => simp [hc, ih, Rat.zero_add]
    | some c => simp [hc, sumOver, ih]

/-- Σ over the calls of a history, in C02 terms: the documented contributions of the tagged events, restricted by any
    condition `P` on the read group (a call without group contributes nothing) -/
theorem sumOver_toCalls_contribution (s : CountingStrategy) (lvl : Level) (tes : List Tagged) (f : String)
    (P : Option String → Prop) [DecidablePred P] :
    sumOver (toCalls lvl tes) (fun x => if P x.group then callVal s x f else 0) =
      ratSum (tes.map (fun te => if P (some te.2) then contribution s lvl te.1 f else 0)) := by
  rw [sumOver_toCalls]
  congr 1
  apply List.map_congr_left
  intro te _
  cases hc : toCall lvl te with
  | none => simp [contribution_of_no_call s lvl te hc f]
  | some x =>
    simp only
    rcases toCall_group lvl te x hc with hgx | ⟨hgx, h0⟩
    · rw [hgx, callVal_toCall s lvl te x hc f]
    · rw [callVal_toCall s lvl te x hc f, h0 s f]; simp

/-- the call puts `f` into `confirmed_features` of the C09 counter -/
def callConfirms (s : CountingStrategy) (x : Call) (f : String) : Prop :=
  match x with
  | .confirmFeatures fs => f ∈ fs
  | x => ∃ e, callEffect s x = .ok e ∧ e.confirm = some f

theorem applyEffect_confirmed {c c' : Counter} {g : String} {e : Effect}
    (h : IsoVerif.Model.C09.applyEffect c g e = .ok c') (f : String) :
    f ∈ c'.confirmed ↔ f ∈ c.confirmed ∨ e.confirm = some f := by
  obtain ⟨_, _, hc, _⟩ := IsoVerif.Lemmas.C09.applyEffect_spec h
  rw [hc]
  cases e.confirm with
  | none => simp
  | some f0 => simp [IsoVerif.Lemmas.C09.mem_setInsert, eq_comm]

theorem step_confirmed09 {c c' : Counter} {x : Call} (h : IsoVerif.Model.C09.step c x = .ok c') (f : String) :
    f ∈ c'.confirmed ↔ f ∈ c.confirmed ∨ callConfirms c.strategy x f := by
  cases x with
  | confirmFeatures fs =>
    cases h
    exact IsoVerif.Lemmas.C09.foldl_setInsert_mem fs c.confirmed f
  | raw r =>
    rw [applyEffect_confirmed h]
    simp [callConfirms, callEffect]
  | info r =>
    simp only [IsoVerif.Model.C09.step, IsoVerif.Model.C09.addReadInfo] at h
    split at h
    · cases h
    · rename_i e he
      rw [applyEffect_confirmed h]
      simp [callConfirms, callEffect, he]

theorem run_confirmed09 {c c' : Counter} {calls : List Call} (h : IsoVerif.Model.C09.run c calls = .ok c') (f : String) :
    f ∈ c'.confirmed ↔ f ∈ c.confirmed ∨ ∃ x ∈ calls, callConfirms c.strategy x f := by
  induction calls generalizing c with
  | nil =>
    simp only [IsoVerif.Model.C09.run] at h
    injection h with h; subst h; simp
  | cons x xs ih =>
    obtain ⟨c1, h1, h⟩ := IsoVerif.Lemmas.C09.run_cons_ok.mp h
    have hs : c1.strategy = c.strategy := (IsoVerif.Lemmas.C09.step_spec h1).1.strategy
    rw [ih h, step_confirmed09 h1 f, hs]
    simp only [List.mem_cons, exists_eq_or_imp]
    grind

theorem rawEffect_confirm (s : CountingStrategy) (r : RawInfo) : (rawEffect s r).confirm = none := by
  unfold rawEffect
  split
  · rfl
  · split <;> rfl

theorem callConfirms_toCall (s : CountingStrategy) (lvl : Level) (te : Tagged) (c : Call) (h : toCall lvl te = some c)
    (f : String) : callConfirms s c f ↔ confirmsFeature lvl te.1 f := by
  obtain ⟨e, g⟩ := te
  cases e with
  | unassigned n => simp [toCall] at h
  | unaligned n => simp [toCall] at h
  | confirm fs =>
    simp only [toCall, Option.some.injEq] at h
    subst h
    simp [callConfirms, confirmsFeature]
  | raw noId fs =>
    simp only [toCall, Option.some.injEq] at h
    subst h
    simp only [callConfirms, callEffect, confirmsFeature]
    constructor
    · rintro ⟨e, he, hc⟩
      injection he with he
      subst he
      rw [rawEffect_confirm] at hc
      cases hc
    · exact False.elim
  | read ra =>
    cases ra with
    | none =>
      simp only [toCall, Option.some.injEq] at h
      subst h
      simp only [callConfirms, callEffect, readEffect, confirmsFeature]
      constructor
      · rintro ⟨e, he, hc⟩
        simp only [Bool.not_false, if_true] at he
        injection he with he
        subst he
        simp [Effect.none] at hc
      · exact False.elim
    | some a =>
      simp only [toCall, Option.some.injEq] at h
      subst h
      show (∃ e, readEffect s (bridged lvl a g) = .ok e ∧ e.confirm = some f) ↔ _
      simp only [confirmsFeature]
      by_cases hsk : skipped a = true
      · simp [readEffect_of_skipped s lvl a g hsk, Effect.none, hsk]
      · have hsk' : skipped a = false := by simpa using hsk
        have := readEffect_of_counted s lvl a g hsk'
        cases hw : codeWeight s (typeOf lvl a) (features lvl a).length with
        | none =>
          -- the call raises: the record has no feature, so the specification confirms nothing either
          rw [hw] at this; obtain ⟨err, he⟩ := this
          simp only [he, reduceCtorEq, false_and, exists_false, false_iff, not_and]
          intro _ _ _ hh
          have hk : 0 < (features lvl a).length := by
            cases hfs : features lvl a with
            | nil => simp [hfs] at hh
            | cons _ _ => simp
          rw [weight_table_aux s _ _ hk] at hw; cases hw
        | some w =>
          rw [hw] at this; obtain ⟨e, he, _, hc⟩ := this
          simp only [he, Except.ok.injEq, exists_eq_left', hc, hsk', true_and]
          constructor
          · intro h
            split at h
            · rename_i hu; exact ⟨(unique_not_other _ hu.1).1, hu.1, h, by simpa using hu.2⟩
            · cases h
          · rintro ⟨_, hu, hh, hcf⟩
            rw [if_pos ⟨hu, by simp [hcf]⟩, hh]

end IsoVerif.Lemmas.C02
