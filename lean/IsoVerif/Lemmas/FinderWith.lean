/-
C16 — the two tail finders of src/polya_finder.py for ANY projection function `move` (`findPolyaTailWith`,
`findPolytHeadWith` of Model/FinderPad.lean).  Every finder (either side, either head window, code or specification) is
one shape, `scanThen`: the two guards, the query-level scan of a region, a position function applied to the scan's
answer; found / raises / monotonicity are proved about that shape once.  The position functions `tailPos`, `headPos` are
the two readings of one function `depthProj` (reference offset of the read base `d` bases inside the alignment); the
position law read ↔ mirror image is one statement about it (`mirror_pos`).  What is proved here about `move` as a
variable is instantiated with the projection before the `P` repair (`moveRefCoord`: `find_polya_tail`, `find_polyt_head`
of Model/PolyAFinder.lean are these functions at `moveRefCoord`) and after it (`moveRefCoordFix`); the head finder with
the repaired window is the one with the window before the repair at shifted arguments (`findPolytHeadWinWith`,
`detectPolyaWinWith` of Model/FinderMirror.lean; `findPolytHeadWinWith_eq`).
-/
import IsoVerif.Model.FinderMirror
import IsoVerif.Lemmas.FinderChar

namespace IsoVerif.Lemmas.C16
open IsoVerif.Gen IsoVerif.Model IsoVerif.Model.C16

/-- `find_polya_tail`: position reported for a tail whose first base is the read base `q`; `m` = number of read bases
    before the soft-clipped tail.  In the soft clip: extrapolated from `reference_end`; inside the alignment: projected -/
def tailPos (move : List CigarOp → Int → Option Int) (s : Int) (cigar : List CigarOp) (m q : Int) : Option Int :=
  if m ≤ q then some (referenceEnd s cigar + (q - m)) else (move cigar (q - m)).map (referenceEnd s cigar - ·)

/-- `find_polyt_head`: position reported for a head whose last base is the read base `q`; `c` = length of the
    soft-clipped head -/
def headPos (move : List CigarOp → Int → Option Int) (s : Int) (cigar : List CigarOp) (c q : Int) : Option Int :=
  if q ≤ c then some (max 1 (s - (c - q))) else (move cigar (q - c)).map (fun k => max 1 (s + k))


/-- both position functions have this shape: a value in the clip, a mapped projection inside the alignment -/
theorem ite_some_map_eq_some_iff {α β} {c : Prop} [Decidable c] {a r : β} {o : Option α} {f : α → β} :
    (if c then some a else o.map f) = some r ↔ (c ∧ r = a) ∨ (¬ c ∧ ∃ k, o = some k ∧ r = f k) := by
  split
  · rename_i h
    rw [Option.some.injEq]
    exact ⟨fun e => Or.inl ⟨h, e.symm⟩, fun e => e.elim (·.2.symm) (fun e => absurd h e.1)⟩
  · rename_i h
    rw [Option.map_eq_some_iff]
    exact ⟨fun ⟨k, hk, e⟩ => Or.inr ⟨h, k, hk, e.symm⟩,
      fun e => e.elim (fun e => absurd e.1 h) (fun ⟨_, k, hk, e⟩ => ⟨k, hk, e.symm⟩)⟩

theorem ite_some_map_eq_none_iff {α β} {c : Prop} [Decidable c] {a : β} {o : Option α} {f : α → β} :
    (if c then some a else o.map f) = none ↔ ¬ c ∧ o = none := by
  split
  · rename_i h; exact ⟨(fun e => nomatch e), fun e => absurd h e.1⟩
  · rename_i h; rw [Option.map_eq_none_iff]; exact ⟨fun e => ⟨h, e⟩, (·.2)⟩

theorem ite_some_map_mono {α β} {c : Prop} [Decidable c] {a r : β} {o o' : Option α} {f : α → β}
    (hm : ∀ k, o = some k → o' = some k) (h : (if c then some a else o.map f) = some r) :
    (if c then some a else o'.map f) = some r := by
  by_cases hc : c
  · rwa [if_pos hc] at h ⊢
  · rw [if_neg hc] at h ⊢
    obtain ⟨k, hk, e⟩ := Option.map_eq_some_iff.1 h
    rw [hm k hk]; exact congrArg some e

theorem tailPos_eq_some_iff {move : List CigarOp → Int → Option Int} {s : Int} {cigar : List CigarOp} {m q r : Int} :
    tailPos move s cigar m q = some r ↔
      (m ≤ q ∧ r = referenceEnd s cigar + (q - m)) ∨
      (q < m ∧ ∃ k, move cigar (q - m) = some k ∧ r = referenceEnd s cigar - k) := by
  rw [tailPos, ite_some_map_eq_some_iff, Int.not_le]

theorem headPos_eq_some_iff {move : List CigarOp → Int → Option Int} {s : Int} {cigar : List CigarOp} {c q r : Int} :
    headPos move s cigar c q = some r ↔
      (q ≤ c ∧ r = max 1 (s - (c - q))) ∨
      (c < q ∧ ∃ k, move cigar (q - c) = some k ∧ r = max 1 (s + k)) := by
  rw [headPos, ite_some_map_eq_some_iff, Int.not_le]

theorem tailPos_eq_none_iff {move : List CigarOp → Int → Option Int} {s : Int} {cigar : List CigarOp} {m q : Int} :
    tailPos move s cigar m q = none ↔ q < m ∧ move cigar (q - m) = none := by
  rw [tailPos, ite_some_map_eq_none_iff, Int.not_le]

theorem headPos_eq_none_iff {move : List CigarOp → Int → Option Int} {s : Int} {cigar : List CigarOp} {c q : Int} :
    headPos move s cigar c q = none ↔ c < q ∧ move cigar (q - c) = none := by
  rw [headPos, ite_some_map_eq_none_iff, Int.not_le]

/-- what the theorems about reported positions need of a projection function on `cigar`: an answer to a non-zero
    shift is the base-by-base projection, within `[-1, reference length - 1]`, and not `-1` when the walk starts on a
    reference base -/
def Projects (move : List CigarOp → Int → Option Int) (cigar : List CigarOp) : Prop :=
  ∀ sh k, sh ≠ 0 → move cigar sh = some k →
    ProjectsTo (expand (walkCore cigar (decide (sh > 0)))) sh.natAbs k ∧ -1 ≤ k ∧ k ≤ refLen cigar - 1 ∧
      (WalkOnRef cigar (decide (sh > 0)) → 0 ≤ k)

theorem moveRefCoord_projects {cigar : List CigarOp} (hnn : NonNeg cigar) : Projects moveRefCoord cigar :=
  fun sh k h0 h => moveRefCoord_some cigar sh k hnn h0 h

theorem tailPos_range {move : List CigarOp → Int → Option Int} {cigar : List CigarOp} (hmove : Projects move cigar)
    (hnn : NonNeg cigar) (s : Int) {n q r : Int} (hq : q < n)
    (h : tailPos move s cigar (n - softClipTail cigar) q = some r) :
    s + 1 ≤ r ∧ r ≤ referenceEnd s cigar + max 1 (softClipTail cigar) ∧
    (WalkOnRef cigar false → r ≤ referenceEnd s cigar + softClipTail cigar) := by
  have hc0 := softClipTail_nonneg hnn
  obtain ⟨g1, g2⟩ := referenceEnd_ge s cigar hnn
  rcases tailPos_eq_some_iff.1 h with ⟨hge, rfl⟩ | ⟨hlt, k, hk, rfl⟩
  · omega
  · obtain ⟨_, h2, h3, h4⟩ := hmove _ k (by omega) hk
    rw [decide_eq_false (by omega)] at h4
    refine ⟨by omega, by omega, fun hw => ?_⟩
    have := h4 hw
    omega

theorem headPos_range {move : List CigarOp → Int → Option Int} {cigar : List CigarOp} (hmove : Projects move cigar)
    (hnn : NonNeg cigar) (s : Int) {q r : Int} (hq : 0 ≤ q)
    (h : headPos move s cigar (softClipHead cigar) q = some r) :
    max 1 (s - max 1 (softClipHead cigar)) ≤ r ∧ r ≤ max 1 (referenceEnd s cigar - 1) ∧
    (WalkOnRef cigar true → max 1 (s - softClipHead cigar) ≤ r) := by
  have hc0 := softClipHead_nonneg hnn
  obtain ⟨g1, g2⟩ := referenceEnd_ge s cigar hnn
  rcases headPos_eq_some_iff.1 h with ⟨hle, rfl⟩ | ⟨hlt, k, hk, rfl⟩
  · omega
  · obtain ⟨_, h2, h3, h4⟩ := hmove _ k (by omega) hk
    rw [decide_eq_true (by omega)] at h4
    refine ⟨by omega, by omega, fun hw => ?_⟩
    have := h4 hw
    omega


/-- what `find_polya_tail`, `find_polyt_head` (either window) and their specifications share: the two guards, the scan
    of `region`, and a position function applied to the scan's answer; `clip` is the soft clip the `assert` looks at -/
def scanThen (w num den : Nat) (chk : Bool) (cigar : List CigarOp) (seq : List Char) (clip : Int)
    (region : List Bool) (pos : Nat → Option Int) : Option Int :=
  if cigar = [] then none else if seq = [] then some (-1)
  else if ¬ clip < seq.length then none
  else match tailScan w num den chk region with
    | none => some (-1)
    | some p => pos p

theorem findPolyaTailWith_eq (move : List CigarOp → Int → Option Int) (w num den : Nat) (s : Int)
    (cigar : List CigarOp) (seq : List Char) (fromPos toPos : Int) (chk : Bool) :
    findPolyaTailWith move w num den s cigar seq fromPos toPos chk =
      scanThen w num den chk cigar seq (softClipTail cigar) (regionA cigar seq fromPos toPos)
        (fun p => tailPos move s cigar ((seq.length : Int) - softClipTail cigar) (startA cigar seq fromPos + p)) := by
  unfold findPolyaTailWith scanThen regionA startA tailPos
  by_cases hne : cigar = []
  · simp only [hne, if_true]
  by_cases hseq : seq = []
  · simp only [hne, hseq, if_true, if_false]
  by_cases hclip : softClipTail cigar < seq.length
  · simp only [hne, hseq, if_false, hclip, not_true_eq_false]
    cases tailScan w num den chk _ with
    | none => rfl
    | some p =>
      simp only [ge_iff_le]
      split
      · rfl
      · cases move cigar _ <;> rfl
  · simp only [hne, hseq, hclip, if_false, not_false_eq_true, if_true]

theorem findPolytHeadWith_eq (move : List CigarOp → Int → Option Int) (w num den : Nat) (s : Int)
    (cigar : List CigarOp) (seq : List Char) (fromPos toPos : Int) (chk : Bool) :
    findPolytHeadWith move w num den s cigar seq fromPos toPos chk =
      scanThen w num den chk cigar seq (softClipHead cigar) (regionT cigar seq fromPos toPos)
        (fun p => headPos move s cigar (softClipHead cigar) (stopT cigar seq fromPos - p - 1)) := by
  unfold findPolytHeadWith scanThen regionT stopT headPos
  by_cases hne : cigar = []
  · simp only [hne, if_true]
  by_cases hseq : seq = []
  · simp only [hne, hseq, if_true, if_false]
  by_cases hclip : softClipHead cigar < seq.length
  · simp only [hne, hseq, if_false, hclip, not_true_eq_false]
    cases tailScan w num den chk _ with
    | none => rfl
    | some p =>
      simp only
      split
      · rfl
      · cases move cigar _ <;> rfl
  · simp only [hne, hseq, hclip, if_false, not_false_eq_true, if_true]

theorem tailScan_char (w num den : Nat) (chk : Bool) (region : List Bool) :
    (∀ p, tailScan w num den chk region = some p ↔ TailStart w num den chk region p) ∧
    (tailScan w num den chk region = none ↔ ∀ p, ¬ TailStart w num den chk region p) := by
  have h := tailScanSpec_sound w num den chk region
  rw [← tailScan_eq_spec] at h
  constructor
  · intro p
    constructor
    · intro hp; rw [hp] at h; exact h
    · intro hp
      cases hf : tailScan w num den chk region with
      | none => rw [hf] at h; exact absurd hp (h p)
      | some p' => rw [hf] at h; rw [TailStart_unique hp h]
  · constructor
    · intro hn; rw [hn] at h; exact h
    · intro hall
      cases hf : tailScan w num den chk region with
      | none => rfl
      | some p' => rw [hf] at h; exact absurd h (hall p')

theorem tailScan_lt (w num den : Nat) (chk : Bool) (region : List Bool) (p : Nat)
    (h : tailScan w num den chk region = some p) : p < region.length :=
  (PolyAStart_lt (((tailScan_char w num den chk region).1 p).1 h).1).1

section scanThen
variable {w num den : Nat} {chk : Bool} {cigar : List CigarOp} {seq : List Char} {clip : Int} {region : List Bool}
  {pos pos' : Nat → Option Int}

theorem scanThen_pass (hne : cigar ≠ []) (hseq : seq ≠ []) (hclip : clip < seq.length) :
    scanThen w num den chk cigar seq clip region pos =
      match tailScan w num den chk region with
      | none => some (-1)
      | some p => pos p := by
  rw [scanThen, if_neg hne, if_neg hseq, if_neg (fun h => h hclip)]

theorem scanThen_some_iff (hne : cigar ≠ []) (hseq : seq ≠ []) (hclip : clip < seq.length) (r : Int) :
    scanThen w num den chk cigar seq clip region pos = some r ↔
      ((∀ p, ¬ TailStart w num den chk region p) ∧ r = -1) ∨
      (∃ p, TailStart w num den chk region p ∧ pos p = some r) := by
  rw [scanThen_pass hne hseq hclip]
  obtain ⟨hsome, hnone⟩ := tailScan_char w num den chk region
  cases hts : tailScan w num den chk region with
  | none =>
    have hno := hnone.1 hts
    exact ⟨fun h => Or.inl ⟨hno, (Option.some.inj h).symm⟩,
      fun h => h.elim (fun h => h.2 ▸ rfl) (fun ⟨p, hp, _⟩ => absurd hp (hno p))⟩
  | some p =>
    have hp := (hsome p).1 hts
    exact ⟨fun h => Or.inr ⟨p, hp, h⟩,
      fun h => h.elim (fun h => absurd hp (h.1 p)) (fun ⟨p', hp', h⟩ => TailStart_unique hp hp' ▸ h)⟩

theorem scanThen_none_iff :
    scanThen w num den chk cigar seq clip region pos = none ↔
      cigar = [] ∨ (seq ≠ [] ∧ ¬ clip < seq.length) ∨
      (cigar ≠ [] ∧ seq ≠ [] ∧ clip < seq.length ∧ ∃ p, TailStart w num den chk region p ∧ pos p = none) := by
  by_cases hne : cigar = []
  · simp [scanThen, hne]
  by_cases hseq : seq = []
  · simp [scanThen, hne, hseq]
  by_cases hclip : clip < seq.length
  · rw [scanThen_pass hne hseq hclip]
    simp only [hne, hseq, hclip, not_true_eq_false, false_or, and_false, ne_eq, not_false_eq_true, true_and]
    obtain ⟨hsome, hnone⟩ := tailScan_char w num den chk region
    cases hts : tailScan w num den chk region with
    | none => exact ⟨(fun h => nomatch h), fun ⟨p, hp, _⟩ => absurd hp (hnone.1 hts p)⟩
    | some p =>
      have hp := (hsome p).1 hts
      exact ⟨fun h => ⟨p, hp, h⟩, fun ⟨p', hp', h⟩ => TailStart_unique hp' hp ▸ h⟩
  · simp [scanThen, hne, hseq, hclip]

theorem scanThen_found {r : Int} (h : scanThen w num den chk cigar seq clip region pos = some r) (hr : r ≠ -1) :
    cigar ≠ [] ∧ seq ≠ [] ∧ clip < seq.length ∧ ∃ p, TailStart w num den chk region p ∧ pos p = some r := by
  have hne : cigar ≠ [] := fun e => by simp [scanThen, e] at h
  have hseq : seq ≠ [] := fun e => by simp [scanThen, hne, e] at h; omega
  have hclip : clip < seq.length := Decidable.not_not.1 fun e => by simp [scanThen, hne, hseq, e] at h
  exact ⟨hne, hseq, hclip, ((scanThen_some_iff hne hseq hclip r).1 h).resolve_left fun e => hr e.2⟩

theorem scanThen_mono (hm : ∀ p r, pos p = some r → pos' p = some r) {r : Int}
    (h : scanThen w num den chk cigar seq clip region pos = some r) :
    scanThen w num den chk cigar seq clip region pos' = some r := by
  by_cases hne : cigar = []
  · simp [scanThen, hne] at h
  by_cases hseq : seq = []
  · simpa [scanThen, hne, hseq] using h
  by_cases hclip : clip < seq.length
  · rw [scanThen_some_iff hne hseq hclip] at h ⊢
    exact h.imp_right fun ⟨p, hp, e⟩ => ⟨p, hp, hm p r e⟩
  · simp [scanThen, hne, hseq, hclip] at h

theorem scanThen_found_iff (hne : cigar ≠ []) (hseq : seq ≠ []) (hclip : clip < seq.length)
    (hpos : ∀ p, TailStart w num den chk region p → pos p ≠ some (-1)) :
    scanThen w num den chk cigar seq clip region pos = some (-1) ↔ ∀ p, ¬ TailStart w num den chk region p := by
  rw [scanThen_some_iff hne hseq hclip]
  exact ⟨fun h => h.elim (·.1) fun ⟨p, hp, hr⟩ => absurd hr (hpos p hp), fun h => Or.inl ⟨h, rfl⟩⟩

end scanThen

variable (move : List CigarOp → Int → Option Int) (w num den : Nat) (s : Int) (cigar : List CigarOp)
  (seq : List Char) (fromPos toPos : Int) (chk : Bool)

theorem startA_add_lt (p : Nat)
    (hts : tailScan w num den chk (regionA cigar seq fromPos toPos) = some p) :
    0 ≤ startA cigar seq fromPos ∧ startA cigar seq fromPos + p < seq.length := by
  have hp := tailScan_lt w num den chk _ p hts
  have hlen : (regionA cigar seq fromPos toPos).length ≤
      (min (seq.length : Int) ((seq.length : Int) - softClipTail cigar + toPos + 1)).toNat -
        (startA cigar seq fromPos).toNat := by
    unfold regionA startA; rw [List.length_map]; exact slice_length_le _ _ _
  have hs0 : 0 ≤ startA cigar seq fromPos := by unfold startA; omega
  exact ⟨hs0, by omega⟩

theorem stopT_sub_nonneg (p : Nat)
    (hts : tailScan w num den chk (regionT cigar seq fromPos toPos) = some p) :
    0 ≤ stopT cigar seq fromPos - p - 1 := by
  have hp := tailScan_lt w num den chk _ p hts
  have hlen : (regionT cigar seq fromPos toPos).length ≤
      (stopT cigar seq fromPos).toNat - (max 0 (softClipHead cigar - toPos)).toNat := by
    unfold regionT stopT; rw [List.length_map, List.length_reverse]; exact slice_length_le _ _ _
  omega

theorem findPolyaTailWith_range {move} {cigar} (hmove : Projects move cigar) (hne : cigar ≠ [])
    (hseq : seq ≠ []) (hclip : softClipTail cigar < seq.length) (hnn : NonNeg cigar) (p : Nat)
    (hts : tailScan w num den chk (regionA cigar seq fromPos toPos) = some p) (r : Int)
    (hr : findPolyaTailWith move w num den s cigar seq fromPos toPos chk = some r) :
    s + 1 ≤ r ∧ r ≤ referenceEnd s cigar + max 1 (softClipTail cigar) ∧
    (WalkOnRef cigar false → r ≤ referenceEnd s cigar + softClipTail cigar) := by
  rw [findPolyaTailWith_eq, scanThen_pass hne hseq hclip, hts] at hr
  exact tailPos_range hmove hnn s (startA_add_lt w num den cigar seq fromPos toPos chk p hts).2 hr

theorem findPolytHeadWith_range {move} {cigar} (hmove : Projects move cigar) (hne : cigar ≠ [])
    (hseq : seq ≠ []) (hclip : softClipHead cigar < seq.length) (hnn : NonNeg cigar) (p : Nat)
    (hts : tailScan w num den chk (regionT cigar seq fromPos toPos) = some p) (r : Int)
    (hr : findPolytHeadWith move w num den s cigar seq fromPos toPos chk = some r) :
    max 1 (s - max 1 (softClipHead cigar)) ≤ r ∧ r ≤ max 1 (referenceEnd s cigar - 1) ∧
    (WalkOnRef cigar true → max 1 (s - softClipHead cigar) ≤ r) := by
  rw [findPolytHeadWith_eq, scanThen_pass hne hseq hclip, hts] at hr
  exact headPos_range hmove hnn s (stopT_sub_nonneg w num den cigar seq fromPos toPos chk p hts) hr

/-- **`find_polya_tail` for a projection that answers `k` exactly when `G` holds and `k` is the base-by-base backward
    projection**: the call returns `r` ⇔ no position of the checked sequence satisfies `TailStart` and `r = −1`, or `p`
    is the position with `TailStart`, `q = to_check_start + p`, and `r = reference_end + (q − mapped end)` when `q` lies
    in the soft clip, `r = reference_end − k` otherwise -/
theorem findPolyaTailWith_char (G : Nat → Prop)
    (hmove : ∀ sh k, sh < 0 → (move cigar sh = some k ↔
      G sh.natAbs ∧ ProjectsTo (expand (walkCore cigar false)) sh.natAbs k))
    (hne : cigar ≠ []) (hseq : seq ≠ []) (hclip : softClipTail cigar < seq.length) (r : Int) :
    findPolyaTailWith move w num den s cigar seq fromPos toPos chk = some r ↔
      ((∀ p, ¬ TailStart w num den chk (regionA cigar seq fromPos toPos) p) ∧ r = -1) ∨
      (∃ p, TailStart w num den chk (regionA cigar seq fromPos toPos) p ∧
        (((seq.length : Int) - softClipTail cigar ≤ startA cigar seq fromPos + p ∧
            r = referenceEnd s cigar + (startA cigar seq fromPos + p - ((seq.length : Int) - softClipTail cigar))) ∨
         (startA cigar seq fromPos + p < (seq.length : Int) - softClipTail cigar ∧
            G ((seq.length : Int) - softClipTail cigar - (startA cigar seq fromPos + p)).toNat ∧
            ∃ k, ProjectsTo (expand (walkCore cigar false))
                ((seq.length : Int) - softClipTail cigar - (startA cigar seq fromPos + p)).toNat k ∧
              r = referenceEnd s cigar - k))) := by
  rw [findPolyaTailWith_eq, scanThen_some_iff hne hseq hclip]
  refine or_congr_right (exists_congr fun p => and_congr_right fun _ => ?_)
  rw [tailPos_eq_some_iff]
  refine or_congr_right (and_congr_right fun hlt => ?_)
  have hnat : (startA cigar seq fromPos + p - ((seq.length : Int) - softClipTail cigar)).natAbs =
      ((seq.length : Int) - softClipTail cigar - (startA cigar seq fromPos + p)).toNat := by omega
  rw [← hnat]
  exact ⟨fun ⟨k, hk, e⟩ => have ⟨g, pr⟩ := (hmove _ k (by omega)).1 hk; ⟨g, k, pr, e⟩,
    fun ⟨g, k, pr, e⟩ => ⟨k, (hmove _ k (by omega)).2 ⟨g, pr⟩, e⟩⟩

/-- mirror statement for `find_polyt_head` (forward projection) -/
theorem findPolytHeadWith_char (G : Nat → Prop)
    (hmove : ∀ sh k, 0 < sh → (move cigar sh = some k ↔
      G sh.toNat ∧ ProjectsTo (expand (walkCore cigar true)) sh.toNat k))
    (hne : cigar ≠ []) (hseq : seq ≠ []) (hclip : softClipHead cigar < seq.length) (r : Int) :
    findPolytHeadWith move w num den s cigar seq fromPos toPos chk = some r ↔
      ((∀ p, ¬ TailStart w num den chk (regionT cigar seq fromPos toPos) p) ∧ r = -1) ∨
      (∃ p, TailStart w num den chk (regionT cigar seq fromPos toPos) p ∧
        ((stopT cigar seq fromPos - p - 1 ≤ softClipHead cigar ∧
            r = max 1 (s - (softClipHead cigar - (stopT cigar seq fromPos - p - 1)))) ∨
         (softClipHead cigar < stopT cigar seq fromPos - p - 1 ∧
            G (stopT cigar seq fromPos - p - 1 - softClipHead cigar).toNat ∧
            ∃ k, ProjectsTo (expand (walkCore cigar true)) (stopT cigar seq fromPos - p - 1 - softClipHead cigar).toNat k ∧
              r = max 1 (s + k)))) := by
  rw [findPolytHeadWith_eq, scanThen_some_iff hne hseq hclip]
  refine or_congr_right (exists_congr fun p => and_congr_right fun _ => ?_)
  rw [headPos_eq_some_iff]
  refine or_congr_right (and_congr_right fun hlt => ?_)
  exact ⟨fun ⟨k, hk, e⟩ => have ⟨g, pr⟩ := (hmove _ k (by omega)).1 hk; ⟨g, k, pr, e⟩,
    fun ⟨g, k, pr, e⟩ => ⟨k, (hmove _ k (by omega)).2 ⟨g, pr⟩, e⟩⟩

theorem findPolyaTailWith_found_iff {move} {cigar} (hmove : Projects move cigar) (hs : 0 ≤ s)
    (hne : cigar ≠ []) (hseq : seq ≠ []) (hclip : softClipTail cigar < seq.length) (hnn : NonNeg cigar) :
    findPolyaTailWith move w num den s cigar seq fromPos toPos chk = some (-1) ↔
      ∀ p, ¬ TailStart w num den chk (regionA cigar seq fromPos toPos) p := by
  rw [findPolyaTailWith_eq]
  refine scanThen_found_iff hne hseq hclip fun p hp hr => ?_
  have hts := ((tailScan_char w num den chk _).1 p).2 hp
  have := (tailPos_range hmove hnn s (startA_add_lt w num den cigar seq fromPos toPos chk p hts).2 hr).1
  omega

theorem findPolytHeadWith_found_iff {move} {cigar} (hmove : Projects move cigar)
    (hne : cigar ≠ []) (hseq : seq ≠ []) (hclip : softClipHead cigar < seq.length) (hnn : NonNeg cigar) :
    findPolytHeadWith move w num den s cigar seq fromPos toPos chk = some (-1) ↔
      ∀ p, ¬ TailStart w num den chk (regionT cigar seq fromPos toPos) p := by
  rw [findPolytHeadWith_eq]
  refine scanThen_found_iff hne hseq hclip fun p hp hr => ?_
  have hts := ((tailScan_char w num den chk _).1 p).2 hp
  have := (headPos_range hmove hnn s (stopT_sub_nonneg w num den cigar seq fromPos toPos chk p hts) hr).1
  omega

/-- the head finder with the repaired window is the one before the window repair called with `from_pos − 1`, `to_pos + 1` -/
theorem findPolytHeadWinWith_eq (f t : Int) :
    findPolytHeadWinWith move w num den s cigar seq f t chk =
      findPolytHeadWith move w num den s cigar seq (f - 1) (t + 1) chk := by
  unfold findPolytHeadWinWith findPolytHeadWith
  have e1 : softClipHead cigar - (t + 1) = softClipHead cigar - t - 1 := by omega
  have e2 : softClipHead cigar + (f - 1) + 1 = softClipHead cigar + f := by omega
  simp only [e1, e2]
  rfl

theorem polya_found_tailStart (r : Int)
    (h : findPolyaTailWith move w num den s cigar seq fromPos toPos chk = some r) (hr : r ≠ -1) :
    ∃ p, TailStart w num den chk (regionA cigar seq fromPos toPos) p :=
  have ⟨_, _, _, p, hp, _⟩ := scanThen_found (findPolyaTailWith_eq .. ▸ h) hr
  ⟨p, hp⟩

theorem polyt_found_tailStart (r : Int)
    (h : findPolytHeadWith move w num den s cigar seq fromPos toPos chk = some r) (hr : r ≠ -1) :
    ∃ p, TailStart w num den chk (regionT cigar seq fromPos toPos) p :=
  have ⟨_, _, _, p, hp, _⟩ := scanThen_found (findPolytHeadWith_eq .. ▸ h) hr
  ⟨p, hp⟩

theorem polya_found_range {move} {cigar} (hmove : Projects move cigar) (hnn : NonNeg cigar) {r : Int}
    (h : findPolyaTailWith move w num den s cigar seq fromPos toPos chk = some r) (hr : r ≠ -1) :
    s + 1 ≤ r ∧ r ≤ referenceEnd s cigar + max 1 (softClipTail cigar) :=
  have ⟨_, _, _, p, hp, hpos⟩ := scanThen_found (findPolyaTailWith_eq .. ▸ h) hr
  have hts := ((tailScan_char w num den chk _).1 p).2 hp
  have := tailPos_range hmove hnn s (startA_add_lt w num den cigar seq fromPos toPos chk p hts).2 hpos
  ⟨this.1, this.2.1⟩

theorem polyt_found_range {move} {cigar} (hmove : Projects move cigar) (hnn : NonNeg cigar) {r : Int}
    (h : findPolytHeadWith move w num den s cigar seq fromPos toPos chk = some r) (hr : r ≠ -1) :
    max 1 (s - max 1 (softClipHead cigar)) ≤ r ∧ r ≤ max 1 (referenceEnd s cigar - 1) :=
  have ⟨_, _, _, p, hp, hpos⟩ := scanThen_found (findPolytHeadWith_eq .. ▸ h) hr
  have hts := ((tailScan_char w num den chk _).1 p).2 hp
  have := headPos_range hmove hnn s (stopT_sub_nonneg w num den cigar seq fromPos toPos chk p hts) hpos
  ⟨this.1, this.2.1⟩

/-- every position `detect_polya` reports is −1 or lies next to the alignment: polyA in `[reference_start + 1,
    reference_end + max 1 clip₃]`, polyT in `[max 1 (reference_start − max 1 clip₅), max 1 (reference_end − 1)]` -/
theorem detectPolyaWith_ranges {move} {cigar} (hmove : Projects move cigar) (hnn : NonNeg cigar)
    (info : PolyAInfo) (h : detectPolyaWith move w num den s cigar seq = some info) :
    (∀ x, (x = info.internalPolyA ∨ x = info.externalPolyA) → x ≠ -1 →
      s + 1 ≤ x ∧ x ≤ referenceEnd s cigar + max 1 (softClipTail cigar)) ∧
    (∀ x, (x = info.internalPolyT ∨ x = info.externalPolyT) → x ≠ -1 →
      max 1 (s - max 1 (softClipHead cigar)) ≤ x ∧ x ≤ max 1 (referenceEnd s cigar - 1)) := by
  unfold detectPolyaWith at h
  simp only [Option.bind_eq_bind, Option.bind_eq_some_iff, Option.some.injEq] at h
  obtain ⟨ea, hea, et, het, ia, hia, it, hit, rfl⟩ := h
  constructor
  · rintro x (rfl | rfl) hx
    · exact polya_found_range w num den s seq _ _ _ hmove hnn hia hx
    · exact polya_found_range w num den s seq _ _ _ hmove hnn hea hx
  · rintro x (rfl | rfl) hx
    · exact polyt_found_range w num den s seq _ _ _ hmove hnn hit hx
    · exact polyt_found_range w num den s seq _ _ _ hmove hnn het hx

/-- the same with the repaired head window: the ranges do not depend on the window -/
theorem detectPolyaWinWith_ranges {move} {cigar} (hmove : Projects move cigar) (hnn : NonNeg cigar)
    (info : PolyAInfo) (h : detectPolyaWinWith move w num den s cigar seq = some info) :
    (∀ x, (x = info.internalPolyA ∨ x = info.externalPolyA) → x ≠ -1 →
      s + 1 ≤ x ∧ x ≤ referenceEnd s cigar + max 1 (softClipTail cigar)) ∧
    (∀ x, (x = info.internalPolyT ∨ x = info.externalPolyT) → x ≠ -1 →
      max 1 (s - max 1 (softClipHead cigar)) ≤ x ∧ x ≤ max 1 (referenceEnd s cigar - 1)) := by
  unfold detectPolyaWinWith at h
  simp only [Option.bind_eq_bind, Option.bind_eq_some_iff, Option.some.injEq, findPolytHeadWinWith_eq] at h
  obtain ⟨ea, hea, et, het, ia, hia, it, hit, rfl⟩ := h
  constructor
  · rintro x (rfl | rfl) hx
    · exact polya_found_range w num den s seq _ _ _ hmove hnn hia hx
    · exact polya_found_range w num den s seq _ _ _ hmove hnn hea hx
  · rintro x (rfl | rfl) hx
    · exact polyt_found_range w num den s seq _ _ _ hmove hnn hit hx
    · exact polyt_found_range w num den s seq _ _ _ hmove hnn het hx

theorem findPolyaTailWith_eq_spec (moveSpec : List CigarOp → Int → Option Int)
    (hm : ∀ sh, move cigar sh = moveSpec cigar sh) :
    findPolyaTailWith move w num den s cigar seq fromPos toPos chk =
      findPolyaTailSpecWith moveSpec w num den s cigar seq fromPos toPos chk := by
  rw [findPolyaTailWith_eq, scanThen, tailScan_eq_spec]
  unfold findPolyaTailSpecWith tailPos
  simp only [Int.not_lt, hm]
  rfl

theorem findPolytHeadWith_eq_spec (moveSpec : List CigarOp → Int → Option Int)
    (hm : ∀ sh, move cigar sh = moveSpec cigar sh) :
    findPolytHeadWith move w num den s cigar seq fromPos toPos chk =
      findPolytHeadSpecWith moveSpec w num den s cigar seq fromPos toPos chk := by
  rw [findPolytHeadWith_eq, scanThen, tailScan_eq_spec]
  unfold findPolytHeadSpecWith headPos
  simp only [Int.not_lt, hm]
  rfl

theorem findPolyaTail_eq_with : findPolyaTail = findPolyaTailWith moveRefCoord := rfl
theorem findPolytHead_eq_with : findPolytHead = findPolytHeadWith moveRefCoord := rfl
theorem detectPolya_eq_with : detectPolya = detectPolyaWith moveRefCoord := rfl


/-! ### read and mirror image: the two finders report bases one apart

Mirror of a position: `L + 1 − p` (`mirrorP` of Model/C11Symmetry.lean). -/

/-- the reference offset of the read base `d` bases inside the alignment, counted from the walked end (`fwd`: from the
    start); a base in the soft clip (`d ≤ 0`) is its own offset: the code extrapolates linearly there -/
def depthProj (move : List CigarOp → Int → Option Int) (cigar : List CigarOp) (fwd : Bool) (d : Int) : Option Int :=
  if d ≤ 0 then some d else move cigar (if fwd then d else -d)

theorem tailPos_eq_depthProj (move : List CigarOp → Int → Option Int) (s : Int) (cigar : List CigarOp) (m q : Int) :
    tailPos move s cigar m q = (depthProj move cigar false (m - q)).map (referenceEnd s cigar - ·) := by
  unfold tailPos depthProj
  by_cases h : m ≤ q
  · rw [if_pos h, if_pos (by omega)]; simp; omega
  · rw [if_neg h, if_neg (by omega)]; simp only [Bool.false_eq_true, if_false]; congr 2; omega

theorem headPos_eq_depthProj (move : List CigarOp → Int → Option Int) (s : Int) (cigar : List CigarOp) (c q : Int) :
    headPos move s cigar c q = (depthProj move cigar true (q - c)).map (fun k => max 1 (s + k)) := by
  unfold headPos depthProj
  by_cases h : q ≤ c
  · rw [if_pos h, if_pos (by omega)]; simp; omega
  · rw [if_neg h, if_neg (by omega)]; rfl

/-- **the position law, for any two projections**: read `(s, cigar, seq)`, mirror image `(L − reference_end, reversed
    CIGAR, seq')`; the polyA scan of the read and the polyT scan of the mirror image settle on the same read base, `d`
    bases inside the alignment.  `find_polya_tail` reports the base at depth `d` from the alignment end, `find_polyt_head`
    of the mirror image the base at depth `d − 1`: the two conventions differ by one base, whatever the projection. -/
theorem mirror_pos (move move' : List CigarOp → Int → Option Int) (w num den : Nat) (s L : Int) (cigar : List CigarOp)
    (seq seq' : List Char) (fromPos toPos fT tT : Int) (chk : Bool) (hne : cigar ≠ []) (hseq : seq ≠ [])
    (hclip : softClipTail cigar < seq.length) (hlen : seq'.length = seq.length) (pA pT : Nat)
    (hA : tailScan w num den chk (regionA cigar seq fromPos toPos) = some pA)
    (hT : tailScan w num den chk (regionT cigar.reverse seq' fT tT) = some pT)
    (hsame : stopT cigar.reverse seq' fT - pT - 1 = (seq.length : Int) - 1 - (startA cigar seq fromPos + pA))
    (d : Int) (hd : d = (seq.length : Int) - softClipTail cigar - (startA cigar seq fromPos + pA)) :
    findPolyaTailWith move w num den s cigar seq fromPos toPos chk =
      (depthProj move cigar false d).map (referenceEnd s cigar - ·) ∧
    findPolytHeadWith move' w num den (L - referenceEnd s cigar) cigar.reverse seq' fT tT chk =
      (depthProj move' cigar.reverse true (d - 1)).map (fun k => max 1 (L - referenceEnd s cigar + k)) := by
  have hseq' : seq' ≠ [] := fun h => by rw [h] at hlen; exact hseq (List.length_eq_zero_iff.1 hlen.symm)
  rw [findPolyaTailWith_eq, scanThen_pass hne hseq hclip, hA, findPolytHeadWith_eq,
    scanThen_pass (by simpa using hne) hseq' (by rw [softClipHead_reverse, hlen]; exact hclip), hT]
  simp only [tailPos_eq_depthProj, headPos_eq_depthProj, softClipHead_reverse, hsame]
  rw [← hd, show (seq.length : Int) - 1 - (startA cigar seq fromPos + pA) - softClipTail cigar = d - 1 by omega]
  exact ⟨rfl, rfl⟩

/-- the instance "the tail starts in the soft clip or inside the last match operation" for the projection before the `P`
    repair, any window arguments on the two sides: `find_polyt_head(mirror) = max 1 (L − 1 − find_polya_tail(read))`, the
    mirror image minus 2.  Inside a match operation the projection is the identity on both sides; the two scans are
    hypotheses, and of `hrc` only `seq'.length = seq.length` is used. -/
theorem mirror_law (w num den : Nat) (s L : Int) (cigar : List CigarOp)
    (seq seq' : List Char) (fromPos toPos fT tT : Int) (chk : Bool) (hne : cigar ≠ []) (hseq : seq ≠ [])
    (hclip : softClipTail cigar < seq.length)
    (hrc : seq'.map (fun c => upperChar c == 'T') = (seq.map (fun c => upperChar c == 'A')).reverse)
    (pA pT : Nat)
    (hA : tailScan w num den chk (regionA cigar seq fromPos toPos) = some pA)
    (hT : tailScan w num den chk (regionT cigar.reverse seq' fT tT) = some pT)
    (hsame : stopT cigar.reverse seq' fT - pT - 1 = (seq.length : Int) - 1 - (startA cigar seq fromPos + pA))
    (hclean : (seq.length : Int) - softClipTail cigar ≤ startA cigar seq fromPos + pA ∨
      ∃ k0 l rest, walkCore cigar false = (k0, l) :: rest ∧ isAligned k0 = true ∧
        (seq.length : Int) - softClipTail cigar - (startA cigar seq fromPos + pA) < l) :
    ∃ ra, findPolyaTail w num den s cigar seq fromPos toPos chk = some ra ∧
      findPolytHead w num den (L - referenceEnd s cigar) cigar.reverse seq' fT tT chk
        = some (max 1 (L - 1 - ra)) := by
  have hlen : seq'.length = seq.length := by simpa using congrArg List.length hrc
  obtain ⟨h1, h2⟩ := mirror_pos moveRefCoord moveRefCoord w num den s L cigar seq seq' fromPos toPos fT tT chk hne hseq
    hclip hlen pA pT hA hT hsame _ rfl
  rw [findPolyaTail_eq_with, findPolytHead_eq_with, h1, h2]
  have hclean' : (seq.length : Int) - softClipTail cigar - (startA cigar seq fromPos + pA) ≤ 0 ∨ _ :=
    hclean.imp_left (by omega)
  clear hclean
  generalize (seq.length : Int) - softClipTail cigar - (startA cigar seq fromPos + pA) = d at hclean' ⊢
  have hA' : depthProj moveRefCoord cigar false d = some d := by
    unfold depthProj
    split
    · rfl
    · obtain ⟨k0, l, rest, hc, hk, hlt⟩ := hclean'.resolve_left (by omega)
      simpa using moveRefCoord_in_first_match cigar false k0 l rest hc hk d (by omega) hlt
  have hT' : depthProj moveRefCoord cigar.reverse true (d - 1) = some (d - 1) := by
    unfold depthProj
    split
    · rfl
    · obtain ⟨k0, l, rest, hc, hk, hlt⟩ := hclean'.resolve_left (by omega)
      simpa using moveRefCoord_in_first_match cigar.reverse true k0 l rest (by rw [walkCore_reverse]; exact hc) hk
        (d - 1) (by omega) (by omega)
  rw [hA', hT']
  exact ⟨_, rfl, by simp only [Option.map_some]; congr 2; omega⟩

end IsoVerif.Lemmas.C16
