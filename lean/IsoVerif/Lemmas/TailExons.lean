/-
Helper lemmas for C16: on a sorted disjoint exon list the loops of `count_polya_exons` / `count_polyt_exons`
(src/polya_verification.py) count exactly the exons that satisfy a per-exon predicate, and those exons are the last
(first) ones of the list; what that means for a run of `add_polya_info` (`TrimRun.onRetainedA`, `TrimRun.onRetainedT`);
a zero count puts the position on the terminal exon or beyond it (`count_zero_on_last`, `count_zero_on_first`).
-/
import IsoVerif.Model.PolyA
import IsoVerif.Lemmas.PolyA

namespace IsoVerif.Lemmas.C16
open IsoVerif.Gen IsoVerif.Model IsoVerif.Model.C16

/-- list in descending genomic order (the order in which `count_polya_exons` visits the exons) -/
def Desc (l : List Iv) : Prop := WFs l ∧ l.Pairwise (fun a b => b.2 < a.1)

theorem Desc.tail {e : Iv} {l : List Iv} (h : Desc (e :: l)) : Desc l :=
  ⟨fun x hx => h.1 x (by simp [hx]), (List.pairwise_cons.1 h.2).2⟩

theorem SD.desc_reverse {l : List Iv} (h : SD l) : Desc l.reverse :=
  ⟨fun x hx => h.1 x (List.mem_reverse.1 hx), List.pairwise_reverse.2 h.2⟩

/-- On a descending list the exons that pass the test form a prefix, and the loop counts that prefix: an exon that ends after
    `pos` and fails the test starts before `pos`, so every later exon ends at or before `pos`, where the loop stops. -/
theorem countPolyaLoop_prefix (mf pos : Int) : ∀ (l : List Iv) (cnt : Int), Desc l →
    countPolyaLoop mf pos cnt l = cnt + (l.countP (polyaCounted mf pos) : Nat) ∧
      ∀ e ∈ l.take (l.countP (polyaCounted mf pos)), polyaCounted mf pos e = true
  | [], cnt, _ => by simp [countPolyaLoop]
  | e :: rest, cnt, hd => by
    have hpw := (List.pairwise_cons.1 hd.2).1
    have hwf := hd.1 e (by simp)
    by_cases hp : polyaCounted mf pos e = true
    · obtain ⟨h1, h2⟩ := countPolyaLoop_prefix mf pos rest (cnt + 1) hd.tail
      have hp' := hp
      simp only [polyaCounted, Bool.and_eq_true, decide_eq_true_eq] at hp'
      simp only [countPolyaLoop, Int.not_le.2 hp'.1, if_false, hp'.2, if_true, h1, List.countP_cons_of_pos hp,
        List.take_succ_cons, List.forall_mem_cons]
      exact ⟨by push_cast; omega, hp, h2⟩
    · have hrest : ∀ x ∈ rest, x.2 ≤ pos := fun x hx => by
        have := hpw x hx
        simp only [polyaCounted, isPolyaExon, Bool.and_eq_true, Bool.or_eq_true, decide_eq_true_eq] at hp
        omega
      rw [List.countP_eq_zero.2 <| List.forall_mem_cons.2 ⟨hp, fun x hx => by
        simp only [polyaCounted, Bool.and_eq_true, decide_eq_true_eq]; have := hrest x hx; omega⟩]
      refine ⟨?_, by simp⟩
      simp only [polyaCounted, Bool.and_eq_true, decide_eq_true_eq, not_and, Bool.not_eq_true] at hp
      have hstop : countPolyaLoop mf pos cnt rest = cnt := by
        cases rest with
        | nil => rfl
        | cons y r => simp only [countPolyaLoop, hrest y List.mem_cons_self, if_true]
      simp only [countPolyaLoop, hstop, Int.natCast_zero, Int.add_zero]
      split
      · rfl
      · rw [hp (by omega)]; rfl

theorem countPolyaLoop_eq_countP (mf pos : Int) (l : List Iv) (cnt : Int) (hd : Desc l) :
    countPolyaLoop mf pos cnt l = cnt + (l.countP (polyaCounted mf pos) : Nat) :=
  (countPolyaLoop_prefix mf pos l cnt hd).1

theorem counted_take_polya (mf pos : Int) (l : List Iv) (cnt : Int) (k : Nat) (hd : Desc l)
    (hk : cnt + k ≤ countPolyaLoop mf pos cnt l) : ∀ e ∈ l.take k, polyaCounted mf pos e = true := fun e he =>
  have ⟨h1, h2⟩ := countPolyaLoop_prefix mf pos l cnt hd
  h2 e (List.take_subset_take_left l (by omega) he)

/-! ### mirror image: `count_polyt_exons` on the ascending list -/

theorem SD.desc_flip {l : List Iv} (h : SD l) : Desc (l.map flipIv) :=
  ⟨fun x hx => by obtain ⟨e, he, rfl⟩ := List.mem_map.1 hx; have := h.1 e he; simp only [flipIv]; omega,
    List.pairwise_map.2 (h.2.imp fun {a b} hab => by simp only [flipIv]; omega)⟩

theorem countPolytLoop_eq_countP (mf pos : Int) (l : List Iv) (cnt : Int) (h : SD l) :
    countPolytLoop mf pos cnt l = cnt + (l.countP (polytCounted mf pos) : Nat) := by
  rw [countPolytLoop_flip, countPolyaLoop_eq_countP mf (-pos) _ cnt h.desc_flip, countP_polyt_flip]

theorem counted_take_polyt (mf pos : Int) (l : List Iv) (cnt : Int) (k : Nat) (h : SD l)
    (hk : cnt + k ≤ countPolytLoop mf pos cnt l) : ∀ e ∈ l.take k, polytCounted mf pos e = true := fun e he => by
  rw [countPolytLoop_flip] at hk
  rw [polytCounted_flip]
  exact counted_take_polya mf (-pos) _ cnt k h.desc_flip hk _ (by rw [← List.map_take]; exact List.mem_map_of_mem he)

/-- the last `k ≤ count_polya_exons` exons pass the test; in particular the position was found -/
theorem counted_last (mf : Int) {exons : List Iv} {pos : Int} {k : Nat} (hsd : SD exons)
    (hk : (k : Int) ≤ countPolyaExons mf exons pos) (hk0 : 0 < k) :
    pos ≠ -1 ∧ ∀ e ∈ exons.drop (exons.length - k), polyaCounted mf pos e = true := by
  unfold countPolyaExons at hk
  split at hk
  · omega
  · rename_i hx
    refine ⟨hx, fun e he => counted_take_polya mf pos exons.reverse 0 k hsd.desc_reverse (by omega) e ?_⟩
    rw [List.take_reverse, List.mem_reverse]; exact he

theorem counted_first (mf : Int) {exons : List Iv} {pos : Int} {k : Nat} (hsd : SD exons)
    (hk : (k : Int) ≤ countPolytExons mf exons pos) (hk0 : 0 < k) :
    pos ≠ -1 ∧ ∀ e ∈ exons.take k, polytCounted mf pos e = true := by
  unfold countPolytExons at hk
  split at hk
  · omega
  · rename_i hx
    exact ⟨hx, counted_take_polyt mf pos exons 0 k hsd (by omega)⟩

theorem shiftPolya_counted (mf : Int) {exons : List Iv} {k pos : Int} (hsd : SD exons) (h0 : 0 < k)
    (h1 : k < exons.length) (hk : k ≤ countPolyaExons mf exons pos) :
    pos < (exons[exons.length - k.toNat]'(by omega)).2 ∧
    shiftPolya exons k pos = some ((exons[exons.length - k.toNat - 1]'(by omega)).2 +
      max 0 (pos - (exons[exons.length - k.toNat]'(by omega)).1)) := by
  obtain ⟨hp, hall⟩ := counted_last mf (pos := pos) (k := k.toNat) hsd (by omega) (by omega)
  have hend : ∀ e ∈ exons.drop (exons.length - k.toNat), e.2 > pos := fun e he => by
    have := hall e he
    simp only [polyaCounted, Bool.and_eq_true, decide_eq_true_eq] at this
    exact this.1
  refine ⟨hend _ (by rw [List.drop_eq_getElem_cons (by omega)]; exact List.mem_cons_self), ?_⟩
  rw [shiftPolya_eq exons k pos h0 h1 hp, shiftDistA_counted exons k.toNat pos hsd (by omega) (by omega) hend]

theorem shiftPolyt_counted (mf : Int) {exons : List Iv} {k pos : Int} (hsd : SD exons) (h0 : 0 < k)
    (h1 : k < exons.length) (hk : k ≤ countPolytExons mf exons pos) :
    (exons[k.toNat - 1]'(by omega)).1 < pos ∧
    shiftPolyt exons k pos = some ((exons[k.toNat]'(by omega)).1 -
      max 0 ((exons[k.toNat - 1]'(by omega)).2 - pos)) := by
  obtain ⟨hp, hall⟩ := counted_first mf (pos := pos) (k := k.toNat) hsd (by omega) (by omega)
  have hstart : ∀ e ∈ exons.take k.toNat, e.1 < pos := fun e he => by
    have := hall e he
    simp only [polytCounted, Bool.and_eq_true, decide_eq_true_eq] at this
    exact this.1
  refine ⟨hstart _ (List.mem_take_iff_getElem.2 ⟨k.toNat - 1, by omega, rfl⟩), ?_⟩
  rw [shiftPolyt_eq exons k pos h0 h1 hp, shiftDistT_counted exons k.toNat pos hsd (by omega) (by omega) hstart]

namespace TrimRun
variable {mf : Int} {exons rb cb : List Iv} {info : PolyAInfo} {a t : Int} {r : AInfo}

/-- 3' end, exons removed: the internal position was found before the end of the first removed exon and is
    recorded at the end of the last retained exon plus the bases of the first removed exon before it; the external
    one, when found, is recorded between that end and the recorded internal position -/
theorem onRetainedA (run : TrimRun mf exons rb cb info a t r) (hsd : SD exons) (ha : 0 < a) :
    info.internalPolyA ≠ -1 ∧ info.internalPolyA < (exons[exons.length - a.toNat]'(run.firstRemoved_lt ha)).2 ∧
    r.info.internalPolyA = (exons[exons.length - a.toNat - 1]'run.lastKept_lt).2 +
      max 0 (info.internalPolyA - (exons[exons.length - a.toNat]'(run.firstRemoved_lt ha)).1) ∧
    (info.externalPolyA = -1 → r.info.externalPolyA = -1) ∧
    (info.externalPolyA ≠ -1 → (exons[exons.length - a.toNat - 1]'run.lastKept_lt).2 ≤ r.info.externalPolyA ∧
      r.info.externalPolyA ≤ r.info.internalPolyA) := by
  have hal : a < exons.length := by have := run.lt; omega
  have hp := run.internalPolyA_ne ha
  obtain ⟨hlt, hs⟩ := shiftPolya_counted mf hsd ha hal run.le_countA
  obtain ⟨hi, ea, he, hx⟩ := run.shiftA ha
  rw [hi] at hs
  have hs := Option.some.inj hs
  have hme := shiftPolya_moved hsd ha hal he
  refine ⟨hp, hlt, hs, fun h => ?_, fun h => ?_⟩
  · rw [hx, hme.1 h]; simp [clampA, h]
  · have := hme.2 h
    rw [hx, clampA_both _ _ _ _ hp h]
    omega

/-- mirror image at the 5' end -/
theorem onRetainedT (run : TrimRun mf exons rb cb info a t r) (hsd : SD exons) (ht : 0 < t) :
    info.internalPolyT ≠ -1 ∧ (exons[t.toNat - 1]'run.lastRemoved_lt).1 < info.internalPolyT ∧
    r.info.internalPolyT = (exons[t.toNat]'run.firstKept_lt).1 -
      max 0 ((exons[t.toNat - 1]'run.lastRemoved_lt).2 - info.internalPolyT) ∧
    (info.externalPolyT = -1 → r.info.externalPolyT = -1) ∧
    (info.externalPolyT ≠ -1 → r.info.internalPolyT ≤ r.info.externalPolyT ∧
      r.info.externalPolyT ≤ (exons[t.toNat]'run.firstKept_lt).1) := by
  have htl : t < exons.length := by have := run.lt; omega
  have hp := run.internalPolyT_ne ht
  obtain ⟨hlt, hs⟩ := shiftPolyt_counted mf hsd ht htl run.le_countT
  obtain ⟨hi, et, he, hx⟩ := run.shiftT ht
  rw [hi] at hs
  have hs := Option.some.inj hs
  have hme := shiftPolyt_moved hsd ht htl he
  refine ⟨hp, hlt, hs, fun h => ?_, fun h => ?_⟩
  · rw [hx, hme.1 h]; simp [clampT, h]
  · have := hme.2 h
    rw [hx, clampT_both _ _ _ _ hp h]
    omega

end TrimRun

/-! ### what a zero exon count says about the position (for Props/C16TailRecord.lean) -/

theorem countPolyaLoop_zero_head (mf pos : Int) (e : Iv) (rest : List Iv)
    (h0 : countPolyaLoop mf pos 0 (e :: rest) = 0) : e.2 ≤ pos ∨ e.1 < pos := by
  simp only [countPolyaLoop] at h0
  by_cases h1 : e.2 ≤ pos
  · exact Or.inl h1
  · simp only [h1, if_false] at h0
    by_cases h2 : isPolyaExon mf pos e = true
    · simp only [h2, if_true] at h0
      have := (countPolyaLoop_bounds mf pos rest (0 + 1)).1
      omega
    · right
      simp only [isPolyaExon, Bool.or_eq_true, decide_eq_true_eq, Bool.and_eq_true, not_or] at h2
      omega

/-- no terminal exon looks like a polyA tail: the position is on the last exon or after it -/
theorem count_zero_on_last (mf : Int) (exons : List Iv) (pos : Int) (last : Iv)
    (h0 : countPolyaExons mf exons pos = 0) (hp : pos ≠ -1) (hl : exons.getLast? = some last) :
    last.2 ≤ pos ∨ last.1 < pos := by
  unfold countPolyaExons at h0
  simp only [hp, if_false] at h0
  rw [List.getLast?_eq_head?_reverse] at hl
  cases hr : exons.reverse with
  | nil => rw [hr] at hl; cases hl
  | cons a t =>
    rw [hr] at hl h0
    cases hl
    exact countPolyaLoop_zero_head mf pos last t h0

theorem count_zero_on_first (mf : Int) (exons : List Iv) (pos : Int) (first : Iv)
    (h0 : countPolytExons mf exons pos = 0) (hp : pos ≠ -1) (hf : exons.head? = some first) :
    pos ≤ first.1 ∨ pos < first.2 := by
  unfold countPolytExons at h0
  simp only [hp, if_false] at h0
  cases exons with
  | nil => cases hf
  | cons a rest =>
    cases hf
    rw [countPolytLoop_flip] at h0
    have := countPolyaLoop_zero_head mf (-pos) (flipIv first) _ h0
    simp only [flipIv] at this
    omega

end IsoVerif.Lemmas.C16
