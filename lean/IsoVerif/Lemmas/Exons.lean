import IsoVerif.Lemmas.Lists

/-!
`get_exon`, `get_preceding_exon_from_junctions`, `get_following_exon_from_junctions` all return `exonAt region J i`, exon `i`
read off the junction list, which on the junctions of a gapped exon list is that list's exon `i` (`exonAt_junctions`);
`extra_exon_percentage` as sums of `lenBelow` / `lenAbove`.
-/
namespace IsoVerif.Lemmas
open IsoVerif.Gen IsoVerif.Model

theorem junctions_length (ex : List Iv) (h : Gapped ex) : (junctionsFromBlocks ex).length = ex.length - 1 := by
  induction ex with
  | nil => rfl
  | cons a t ih =>
    cases t with
    | nil => rfl
    | cons b t' =>
      have := ih h.2.2
      simp only [junctionsFromBlocks, h.2.1, if_true, List.length_cons] at this ⊢
      omega

theorem junctions_getElem (ex : List Iv) (h : Gapped ex) (k : Nat) (a b : Iv)
    (ha : ex[k]? = some a) (hb : ex[k + 1]? = some b) :
    (junctionsFromBlocks ex)[k]? = some (a.2 + 1, b.1 - 1) := by
  induction ex generalizing k with
  | nil => simp at ha
  | cons x t ih =>
    cases t with
    | nil => simp at hb
    | cons y t' =>
      simp only [junctionsFromBlocks, h.2.1, if_true]
      cases k with
      | zero => simp at ha hb; subst ha; subst hb; rfl
      | succ k =>
        simp only [List.getElem?_cons_succ] at ha hb ⊢
        exact ih h.2.2 k ha hb

theorem junctions_gapped_aux (l : List Iv) (hsd : SD l) (hw : WFl l) :
    Gapped (junctionsFromBlocks l) ∧
      ∀ a, l.head? = some a → ∀ j, (junctionsFromBlocks l).head? = some j → a.2 < j.1 := by
  induction l with
  | nil => simp [junctionsFromBlocks, Gapped]
  | cons a t ih =>
    cases t with
    | nil => simp [junctionsFromBlocks, Gapped]
    | cons b t' =>
      obtain ⟨ihg, ihf⟩ := ih (SD_tail hsd) (WFl_tail hw)
      have hab : a.2 < b.1 := hsd.1
      have hb : b.1 ≤ b.2 := hw b (by simp)
      by_cases hlt : a.2 + 1 < b.1
      · rw [junctions_cons_cons_of_lt hlt]
        constructor
        · cases hj : junctionsFromBlocks (b :: t') with
          | nil => simp [Gapped]; omega
          | cons j js =>
            rw [hj] at ihg
            have := ihf b (by simp) j (by simp [hj])
            exact ⟨by simp; omega, by simp; omega, ihg⟩
        · intro a' ha' j hj; simp at ha' hj; subst ha'; subst hj; simp; omega
      · rw [junctions_cons_cons_of_not_lt hlt]
        refine ⟨ihg, ?_⟩
        intro a' ha' j hj; simp at ha'; subst ha'
        have := ihf b (by simp) j hj
        omega

/-- the introns of a sorted disjoint block list are themselves well formed and spaced -/
theorem junctions_gapped {l : List Iv} (hsd : SD l) (hw : WFl l) : Gapped (junctionsFromBlocks l) :=
  (junctions_gapped_aux l hsd hw).1

/-- every junction of a gapped list is the gap between two consecutive elements -/
theorem junctions_mem_index (l : List Iv) (h : Gapped l) (r : Iv) (hr : r ∈ junctionsFromBlocks l) :
    ∃ (j : Nat) (a b : Iv), l[j]? = some a ∧ l[j + 1]? = some b ∧ r = (a.2 + 1, b.1 - 1) ∧
      (junctionsFromBlocks l)[j]? = some r := by
  obtain ⟨j, hj⟩ := List.mem_iff_getElem?.mp hr
  have hjl : j < (junctionsFromBlocks l).length := getElem?_lt hj
  rw [junctions_length l h] at hjl
  have h1 : j < l.length := by omega
  have h2 : j + 1 < l.length := by omega
  have ha : l[j]? = some l[j] := by simp [h1]
  have hb : l[j + 1]? = some l[j + 1] := by simp [h2]
  have := junctions_getElem l h j _ _ ha hb
  rw [hj] at this
  exact ⟨j, l[j], l[j + 1], ha, hb, Option.some.inj this, hj⟩

theorem junction_of_index (l : List Iv) (h : Gapped l) (j : Nat) (a b : Iv) (ha : l[j]? = some a)
    (hb : l[j + 1]? = some b) : (a.2 + 1, b.1 - 1) ∈ junctionsFromBlocks l :=
  List.mem_of_getElem? (junctions_getElem l h j a b ha hb)

/-- exon `i` of `region` read off the junction list `J`: from the end of junction `i - 1` (or the region start) to the start
    of junction `i` (or the region end) -/
def exonAt (region : Iv) (J : List Iv) (i : Nat) : Option Iv :=
  (if i = 0 then some region.1 else J[i - 1]?.map (·.2 + 1)).bind fun s =>
    (if i = J.length then some region.2 else J[i]?.map (·.1 - 1)).map fun e => (s, e)

theorem getPrecedingExon_nat (region : Iv) (J : List Iv) (i : Nat) (hi : i ≤ J.length) :
    getPrecedingExon region J (i : Int) = exonAt region J i := by
  have h1 : ¬ ((i : Int) > (J.length : Int)) := by omega
  simp only [getPrecedingExon, exonAt, h1, if_false, Int.natCast_eq_zero, Int.natCast_inj, pyGet?_nat]
  by_cases h0 : i = 0
  · simp only [h0, if_true, Option.bind_some]
    split <;> simp [Option.map_map, Function.comp_def]
  · simp only [h0, if_false, pyGet?_pred J i h0]
    cases J[i - 1]? <;> simp only [Option.map_none, Option.map_some, Option.bind_none, Option.bind_some]
    split <;> simp [Option.map_map, Function.comp_def]

theorem getFollowingExon_nat (region : Iv) (J : List Iv) (i : Nat) :
    getFollowingExon region J (i : Int) = exonAt region J (i + 1) := by
  have h1 : ¬ ((i : Int) = -1) := by omega
  have h2 : ((i : Int) = (J.length : Int) - 1) ↔ i + 1 = J.length := by omega
  simp only [getFollowingExon, exonAt, h1, or_false, h2, Nat.add_one_ne_zero, if_false, Nat.add_sub_cancel, pyGet?_nat,
    show (i : Int) + 1 = ((i + 1 : Nat) : Int) from rfl]
  by_cases hl : i + 1 = J.length
  · simp only [hl, if_true]
    cases J[i]? <;> rfl
  · simp only [hl, if_false]
    cases J[i]? <;> cases J[i + 1]? <;> rfl

theorem getExon_nat (region : Iv) (J : List Iv) (i : Nat) (hJ : J ≠ []) (hi : i ≤ J.length) :
    getExon region J (i : Int) = exonAt region J i := by
  have hpos : 0 < J.length := List.length_pos_iff.mpr hJ
  have h1 : ¬ ((i : Int) > (J.length : Int)) := by omega
  have h2 : ¬ ((i : Int) < 0) := by omega
  simp only [getExon, exonAt, h1, h2, if_false, Int.natCast_eq_zero, Int.natCast_inj]
  by_cases h0 : i = 0
  · subst h0
    have : ¬ (0 = J.length) := by omega
    have e0 : pyGet? J 0 = J[0]? := pyGet?_nat J 0
    simp [this, e0, Option.map_map, Function.comp_def]
  · simp only [h0, if_false, pyGet?_pred J i h0]
    by_cases hn : i = J.length
    · subst hn
      have := pyGet?_neg J 1 (by omega) (by omega)
      simp only [Int.natCast_one] at this
      simp only [if_true, this]
      cases J[J.length - 1]? <;> simp
    · simp only [hn, if_false, pyGet?_nat]
      cases J[i - 1]? <;> cases J[i]? <;> simp

theorem exonAt_junctions (ex : List Iv) (f t : Iv) (h : Gapped ex) (hf : ex.head? = some f) (ht : ex.getLast? = some t)
    (i : Nat) (hi : i < ex.length) : exonAt (f.1, t.2) (junctionsFromBlocks ex) i = ex[i]? := by
  obtain ⟨b, hb⟩ := exists_getElem? ex hi
  have hs : (if i = 0 then some (f.1, t.2).1 else (junctionsFromBlocks ex)[i - 1]?.map (·.2 + 1)) = some b.1 := by
    split
    · rename_i h0; subst h0; rw [← List.head?_eq_getElem?, hf] at hb; cases hb; rfl
    · obtain ⟨a, ha⟩ := exists_getElem? ex (k := i - 1) (by omega)
      rw [junctions_getElem ex h (i - 1) a b ha (by rw [← hb]; congr 1; omega)]
      simp
  have he : (if i = (junctionsFromBlocks ex).length then some (f.1, t.2).2
      else (junctionsFromBlocks ex)[i]?.map (·.1 - 1)) = some b.2 := by
    rw [junctions_length ex h]
    split
    · rename_i hl; rw [hl, getElem?_last ex t ht] at hb; cases hb; rfl
    · obtain ⟨c, hc⟩ := exists_getElem? ex (k := i + 1) (by omega)
      rw [junctions_getElem ex h i b c hb hc]; simp
  rw [exonAt, hs, he, hb]; rfl

theorem exonAt_some (reg : Iv) (J : List Iv) (i : Nat) (hJ : J ≠ []) (hi : i ≤ J.length) : ∃ e, exonAt reg J i = some e := by
  have hpos : 0 < J.length := List.length_pos_iff.mpr hJ
  obtain ⟨s, hs⟩ : ∃ s, (if i = 0 then some reg.1 else J[i - 1]?.map (·.2 + 1)) = some s := by
    split
    · exact ⟨_, rfl⟩
    · rw [List.getElem?_eq_getElem (by omega)]; exact ⟨_, rfl⟩
  obtain ⟨e, he⟩ : ∃ e, (if i = J.length then some reg.2 else J[i]?.map (·.1 - 1)) = some e := by
    split
    · exact ⟨_, rfl⟩
    · rw [List.getElem?_eq_getElem (by omega)]; exact ⟨_, rfl⟩
  rw [exonAt, hs, he]; exact ⟨_, rfl⟩

theorem exonAt_first {reg : Iv} {J : List Iv} {j : Iv} (h : J.head? = some j) : exonAt reg J 0 = some (reg.1, j.1 - 1) := by
  obtain ⟨t, rfl⟩ := List.head?_eq_some_iff.mp h
  simp [exonAt]

theorem exonAt_last {reg : Iv} {J : List Iv} {j : Iv} (h : J.getLast? = some j) :
    exonAt reg J J.length = some (j.2 + 1, reg.2) := by
  have hpos : 0 < J.length := by cases J with | nil => simp at h | cons _ _ => simp
  rw [List.getLast?_eq_getElem?] at h
  rw [exonAt, if_neg (by omega), h, if_pos rfl]; rfl

/-! the three branches of `get_exon` -/

theorem getExon_first (region : Iv) (J : List Iv) (j : Iv) (hJ : J[0]? = some j) :
    getExon region J 0 = some (region.1, j.1 - 1) := by
  have hlen : 0 < J.length := (List.getElem?_eq_some_iff.mp hJ).1
  have := getExon_nat region J 0 (List.length_pos_iff.mp hlen) (Nat.zero_le _)
  rw [Int.natCast_zero] at this
  rw [this, exonAt, if_pos rfl, if_neg (by omega), hJ]; rfl

theorem getExon_last (region : Iv) (J : List Iv) (j : Iv) (hpos : 0 < J.length) (hJ : J[J.length - 1]? = some j) :
    getExon region J (J.length : Int) = some (j.2 + 1, region.2) := by
  rw [getExon_nat region J J.length (List.length_pos_iff.mp hpos) (Nat.le_refl _), exonAt, if_neg (by omega), hJ,
    if_pos rfl]; rfl

theorem getExon_mid (region : Iv) (J : List Iv) (i : Nat) (x y : Iv) (hi0 : 0 < i)
    (hx : J[i - 1]? = some x) (hy : J[i]? = some y) :
    getExon region J (i : Int) = some (x.2 + 1, y.1 - 1) := by
  have hlen : i < J.length := (List.getElem?_eq_some_iff.mp hy).1
  rw [getExon_nat region J i (List.length_pos_iff.mp (by omega)) (by omega), exonAt, if_neg (by omega), hx,
    if_neg (by omega), hy]; rfl

/-- `get_exon` with the negative-index convention: position `−k` (1 ≤ k ≤ n + 1) is position `n + 1 − k` -/
theorem getExon_neg (region : Iv) (J : List Iv) (k : Nat) (h0 : 0 < k) (hk : k ≤ J.length + 1) :
    getExon region J (-(k : Int)) = getExon region J ((J.length + 1 - k : Nat) : Int) := by
  have h1 : ¬ (-(k : Int) > (J.length : Int)) := by omega
  have h2 : (-(k : Int) < 0) := by omega
  have h3 : ¬ (((J.length + 1 - k : Nat) : Int) > (J.length : Int)) := by omega
  have h4 : ¬ (((J.length + 1 - k : Nat) : Int) < 0) := by omega
  have e : (J.length : Int) + -(k : Int) + 1 = ((J.length + 1 - k : Nat) : Int) := by omega
  simp only [getExon, h1, h2, h3, h4, if_true, if_false, e]

theorem getExon_neg_one (reg : Iv) (J : List Iv) (hJ : J ≠ []) : getExon reg J (-1) = exonAt reg J J.length := by
  have := getExon_neg reg J 1 (by omega) (by omega)
  simp only [Int.natCast_one, Nat.add_sub_cancel] at this
  rw [this, getExon_nat reg J J.length hJ (Nat.le_refl _)]

theorem getFollowingExon_neg_one (reg : Iv) (J : List Iv) (hJ : J ≠ []) :
    getFollowingExon reg J (-1) = exonAt reg J J.length := by
  have hpos : 0 < J.length := List.length_pos_iff.mpr hJ
  have h := pyGet?_neg J 1 (by omega) (by omega)
  simp only [Int.natCast_one] at h
  simp only [getFollowingExon, or_true, if_true, h, exonAt, if_neg (show J.length ≠ 0 by omega)]
  cases J[J.length - 1]? <;> rfl

/-! ### extra_exon_percentage -/

theorem lenBelow_eq {a : Iv} (ha : a.1 ≤ a.2) (p : Int) :
    lenBelow a p = if a.1 < p then min a.2 (p - 1) - a.1 + 1 else 0 := by
  simp only [lenBelow]; split <;> omega

theorem lenAbove_eq {a : Iv} (ha : a.1 ≤ a.2) (p : Int) :
    lenAbove a p = if a.2 > p then a.2 - max a.1 (p + 1) + 1 else 0 := by
  simp only [lenAbove]; split <;> omega

theorem extraExonLoop_eq (reg : Iv) (exons : List Iv) (w : WFl exons) :
    extraExonLoop reg exons =
      ((exons.map (fun e => lenBelow e reg.1 + lenAbove e reg.2)).sum, intervalsTotalLength exons) := by
  induction exons with
  | nil => rfl
  | cons a t ih =>
    have ha := WFl_head w
    simp only [extraExonLoop, ih (WFl_tail w), List.map_cons, List.sum_cons, intervalsTotalLength, interval_len,
      lenBelow_eq ha, lenAbove_eq ha]
    ext <;> simp only <;> omega

theorem total_length_pos (l : List Iv) (w : WFl l) (hne : l ≠ []) : 0 < intervalsTotalLength l := by
  induction l with
  | nil => exact absurd rfl hne
  | cons a t ih =>
    have ha := WFl_head w
    simp only [intervalsTotalLength, interval_len]
    cases t with
    | nil => simp [intervalsTotalLength]; omega
    | cons b t' => have := ih (WFl_tail w) (by simp); omega

end IsoVerif.Lemmas
