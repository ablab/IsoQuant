/-
Helper lemmas for the internal text files of C09 (`Model/C09Files.lean`): file iteration, terminators, `set.add` folds,
`split('\t', 1)`, characters of table fields.  Core Lean only.
-/
import IsoVerif.Model.C09Files
import IsoVerif.Lemmas.C09Split

namespace IsoVerif.Lemmas.C09Files
open IsoVerif.Model.C09 IsoVerif.Lemmas.C09Split

theorem fileLines_flatten : ∀ t : List Char, (fileLines t).flatten = t
  | [] => rfl
  | c :: s => by
    have ih := fileLines_flatten s
    simp only [fileLines]
    split
    · rename_i h
      subst h
      simp [ih]
    · split
      · rename_i h0
        rw [h0] at ih
        simp only [List.flatten_nil] at ih
        subst ih
        rfl
      · rename_i l ls h0
        rw [h0] at ih
        simp only [List.flatten_cons] at ih
        simp [← ih]

theorem fileLines_ne_nil : ∀ (t : List Char) (l : List Char), l ∈ fileLines t → l ≠ []
  | [], l, h => by simp [fileLines] at h
  | c :: s, l, h => by
    have ih := fileLines_ne_nil s
    simp only [fileLines] at h
    split at h
    · rcases List.mem_cons.mp h with rfl | h
      · simp
      · exact ih l h
    · split at h
      · simp only [List.mem_singleton] at h
        subst h
        simp
      · rename_i l0 ls h0
        rcases List.mem_cons.mp h with rfl | h
        · simp
        · exact ih l (by rw [h0]; exact List.mem_cons_of_mem _ h)

theorem fileLines_line (rest : List Char) : ∀ (l : List Char), '\n' ∉ l →
    fileLines (l ++ '\n' :: rest) = (l ++ ['\n']) :: fileLines rest
  | [], _ => by simp [fileLines]
  | c :: l, h => by
    have hc : ¬ c = '\n' := fun e => h (by rw [e]; exact List.mem_cons_self)
    have ih := fileLines_line rest l (fun hm => h (List.mem_cons_of_mem _ hm))
    simp only [List.cons_append, fileLines, hc, if_false, ih]

theorem fileLines_linesText : ∀ (items : List (List Char)), (∀ l ∈ items, '\n' ∉ l) →
    fileLines (linesText items) = items.map (fun l => l ++ ['\n'])
  | [], _ => rfl
  | l :: t, h => by
    have ih := fileLines_linesText t (fun x hx => h x (List.mem_cons_of_mem _ hx))
    have e : linesText (l :: t) = l ++ '\n' :: linesText t := by simp [linesText]
    rw [e, fileLines_line _ l (h l List.mem_cons_self), ih]
    rfl

theorem chomp_line (l : List Char) : chomp (l ++ ['\n']) = l := by
  simp [chomp]

theorem chomp_no_newline (l : List Char) (h : l.getLast? ≠ some '\n') : chomp l = l := by
  simp [chomp, h]

theorem foldl_setInsert_nodup_eq : ∀ (π acc : List String), (acc ++ π).Nodup → π.foldl setInsert acc = acc ++ π
  | [], acc, _ => by simp
  | x :: t, acc, h => by
    have hx : x ∉ acc := by
      intro hm
      have := (List.nodup_append.mp h).2.2 x hm x List.mem_cons_self
      exact this rfl
    have e : setInsert acc x = acc ++ [x] := by simp [setInsert, hx]
    rw [List.foldl_cons, e, foldl_setInsert_nodup_eq t (acc ++ [x]) (by simpa using h)]
    simp

/-- the `_groups` file read back: the `set.add` fold over the written names -/
theorem readGroupsFile_written (π : List String) (hnl : ∀ g ∈ π, '\n' ∉ g.toList) :
    readGroupsFile (groupsFileText π) = π.foldl setInsert [] := by
  unfold readGroupsFile groupsFileText
  rw [fileLines_linesText _ (by
    intro l hl
    obtain ⟨g, hg, rfl⟩ := List.mem_map.mp hl
    exact hnl g hg), List.map_map, List.foldl_map]
  congr 1
  funext s g
  simp [chomp_line, String.ofList_toList]

theorem splitFirstTab_spec (g : List Char) : ∀ (r : List Char), '\t' ∉ r → splitFirstTab (r ++ '\t' :: g) = some (r, g)
  | [], _ => by simp [splitFirstTab]
  | c :: r, h => by
    have hc : ¬ c = '\t' := fun e => h (by rw [e]; exact List.mem_cons_self)
    have ih := splitFirstTab_spec g r (fun hm => h (List.mem_cons_of_mem _ hm))
    simp only [List.cons_append, splitFirstTab, hc, if_false, ih]

theorem splitFirstTab_none : ∀ (l : List Char), '\t' ∉ l → splitFirstTab l = none
  | [], _ => rfl
  | c :: l, h => by
    have hc : ¬ c = '\t' := fun e => h (by rw [e]; exact List.mem_cons_self)
    simp only [splitFirstTab, hc, if_false, splitFirstTab_none l (fun hm => h (List.mem_cons_of_mem _ hm))]

theorem loadSplitLine_entry (m : List (String × String)) (r g : String) (hr : '\t' ∉ r.toList) :
    loadSplitLine m ((r.toList ++ ['\t'] ++ g.toList) ++ ['\n']) = .ok (dictSet m r g) := by
  have e : r.toList ++ ['\t'] ++ g.toList = r.toList ++ '\t' :: g.toList := by simp
  simp only [loadSplitLine, chomp_line, e, splitFirstTab_spec g.toList r.toList hr, String.ofList_toList]

theorem loadSplitLines_entries : ∀ (es : List (String × String)) (m0 : List (String × String)),
    (∀ e ∈ es, '\t' ∉ e.1.toList) →
    loadSplitLines (es.map (fun e => (e.1.toList ++ ['\t'] ++ e.2.toList) ++ ['\n'])) m0 = .ok (dictOf es m0)
  | [], _, _ => rfl
  | e :: t, m0, h => by
    simp only [List.map_cons, loadSplitLines, loadSplitLine_entry m0 e.1 e.2 (h e List.mem_cons_self)]
    exact loadSplitLines_entries t _ (fun x hx => h x (List.mem_cons_of_mem _ hx))

theorem mem_joinWith (d : List Char) : ∀ (pieces : List (List Char)) (p : List Char), p ∈ pieces →
    ∀ c ∈ p, c ∈ joinWith d pieces
  | [], _, h, _, _ => by simp at h
  | [a], p, h, c, hc => by
    simp only [List.mem_singleton] at h
    subst h
    simpa [joinWith] using hc
  | a :: b :: rest, p, h, c, hc => by
    simp only [joinWith, List.mem_append]
    rcases List.mem_cons.mp h with rfl | h
    · exact Or.inl (Or.inl hc)
    · exact Or.inr (mem_joinWith d (b :: rest) p h c hc)

theorem mem_pyStrip (l : List Char) (c : Char) (h : c ∈ pyStrip l) : c ∈ l := by
  unfold pyStrip at h
  rw [List.mem_reverse] at h
  have h1 := (List.dropWhile_suffix isPySpace).subset h
  rw [List.mem_reverse] at h1
  exact (List.dropWhile_suffix isPySpace).subset h1

theorem rowEntry_chars (rc gc : Nat) (delim line : List Char) (e : String × String)
    (h : rowEntry rc gc delim line = some e) : (∀ c ∈ e.1.toList, c ∈ line) ∧ (∀ c ∈ e.2.toList, c ∈ line) := by
  unfold rowEntry at h
  simp only at h
  split at h
  · cases h
  · cases delim with
    | nil => simp [pySplit] at h
    | cons d0 dt =>
      simp only [pySplit] at h
      split at h
      · cases h
      · have hj := splitGo_join d0 dt (pyStrip line)
        generalize hcols : (splitGo d0 dt (pyStrip line)).1 :: (splitGo d0 dt (pyStrip line)).2 = cols at h hj
        split at h
        · rename_i r g hr hg
          injection h with h
          subst h
          have hrm : r ∈ cols := List.mem_of_getElem? hr
          have hgm : g ∈ cols := List.mem_of_getElem? hg
          constructor
          · intro c hc
            rw [String.toList_ofList] at hc
            exact mem_pyStrip line c (hj ▸ mem_joinWith (d0 :: dt) cols r hrm c hc)
          · intro c hc
            rw [String.toList_ofList] at hc
            exact mem_pyStrip line c (hj ▸ mem_joinWith (d0 :: dt) cols g hgm c hc)
        · cases h

theorem loadTable_chars (rc gc : Nat) (delim : List Char) (hd : delim ≠ []) (x : Char)
    (lines : List (List Char)) (m0 m : List (String × String)) (hl : ∀ l ∈ lines, x ∉ l)
    (h0 : ∀ k v, m0.lookup k = some v → x ∉ v.toList) (hm : loadTable rc gc delim lines m0 = .ok m)
    (k v : String) (hk : m.lookup k = some v) : x ∉ v.toList := by
  rw [loadTable_eq_dictOf rc gc delim hd] at hm
  injection hm with hm
  subst hm
  rcases dictOf_value _ _ k v hk with he | h
  · obtain ⟨l, hlm, hle⟩ := List.mem_filterMap.mp he
    exact fun hx => hl l hlm ((rowEntry_chars rc gc delim l (k, v) hle).2 x hx)
  · exact h0 k v h

end IsoVerif.Lemmas.C09Files
