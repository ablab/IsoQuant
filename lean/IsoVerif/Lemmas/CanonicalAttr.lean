/-
Helper lemmas for Props/C18Attr.lean: the values a key carries on a printed attribute list (`attrValues`), `OrderedDict`
assignment (`setAttr`), the copy loop of `GeneInfo.set_gene_attributes` (`copyLoop`).
-/
import IsoVerif.Model.Canonical

namespace IsoVerif.Lemmas.C18
open IsoVerif.Gen IsoVerif.Model IsoVerif.Model.C18

/-- every value the key `k` carries on the attribute list, in line order (what a GTF reader that keeps all values of a
    repeated key sees) -/
def attrValues (l : AttrList) (k : String) : List String := (l.filter fun e => e.1 == k).map (·.2)

theorem attrValues_append (a b : AttrList) (k : String) :
    attrValues (a ++ b) k = attrValues a k ++ attrValues b k := by
  simp [attrValues]

theorem attrValues_cons_ne (e : String × String) (l : AttrList) (k : String) (h : e.1 ≠ k) :
    attrValues (e :: l) k = attrValues l k := by
  simp [attrValues, h]

theorem attrValues_cons_eq (v : String) (l : AttrList) (k : String) :
    attrValues ((k, v) :: l) k = v :: attrValues l k := by
  simp [attrValues]

theorem attrValues_nil_of_check {info : AttrList} {k : String} (h : checkAdditional info k = false) :
    attrValues info k = [] := by
  unfold checkAdditional at h
  rw [List.any_eq_false] at h
  unfold attrValues
  rw [List.map_eq_nil_iff, List.filter_eq_nil_iff]
  exact h

theorem check_of_attrValues {info : AttrList} {k : String} (h : attrValues info k ≠ []) :
    checkAdditional info k = true := by
  cases hc : checkAdditional info k with
  | true => rfl
  | false => exact absurd (attrValues_nil_of_check hc) h

/-- assigning a key the `OrderedDict` does not hold appends the item -/
theorem setAttr_fresh {info : AttrList} {k v : String} (h : checkAdditional info k = false) :
    setAttr info k v = info ++ [(k, v)] := by
  induction info with
  | nil => rfl
  | cons e rest ih =>
    simp only [checkAdditional, List.any_cons, Bool.or_eq_false_iff, beq_eq_false_iff_ne, ne_eq] at h
    have hr : checkAdditional rest k = false := h.2
    simp only [setAttr, h.1, if_false, ih hr, List.cons_append]

theorem attrValues_setAttr_other (info : AttrList) (k v k' : String) (hne : k ≠ k') :
    attrValues (setAttr info k v) k' = attrValues info k' := by
  induction info with
  | nil => simp [setAttr, attrValues, hne]
  | cons e rest ih =>
    simp only [setAttr]
    split
    · rename_i he
      rw [attrValues_cons_ne _ _ _ (by simpa using hne), attrValues_cons_ne _ _ _ (by rw [he]; exact hne)]
    · by_cases hk : e.1 = k'
      · have : e = (k', e.2) := by rw [← hk]
        rw [this, attrValues_cons_eq, attrValues_cons_eq, ih]
      · rw [attrValues_cons_ne _ _ _ hk, attrValues_cons_ne _ _ _ hk, ih]

theorem copyLoop_mem (skip : List String) (ref : RefAttrs) (k v : String) :
    (k, v) ∈ copyLoop skip ref ↔ skip.contains k = false ∧ ∃ vs, (k, v :: vs) ∈ ref := by
  induction ref with
  | nil => simp [copyLoop]
  | cons e rest ih =>
    obtain ⟨k0, vs0⟩ := e
    unfold copyLoop
    split
    · rename_i hs
      rw [ih]
      constructor
      · rintro ⟨h1, vs, h2⟩; exact ⟨h1, vs, List.mem_cons_of_mem _ h2⟩
      · rintro ⟨h1, vs, h2⟩
        refine ⟨h1, vs, ?_⟩
        rcases List.mem_cons.mp h2 with h | h
        · simp only [Prod.mk.injEq] at h
          rw [h.1] at h1
          rw [h1] at hs
          exact absurd hs (by decide)
        · exact h
    · rename_i hs
      cases vs0 with
      | nil =>
        simp only
        rw [ih]
        constructor
        · rintro ⟨h1, vs, h2⟩; exact ⟨h1, vs, List.mem_cons_of_mem _ h2⟩
        · rintro ⟨h1, vs, h2⟩
          refine ⟨h1, vs, ?_⟩
          rcases List.mem_cons.mp h2 with h | h
          · simp at h
          · exact h
      | cons v0 vt =>
        simp only [List.mem_cons, Prod.mk.injEq]
        rw [ih]
        constructor
        · rintro (⟨rfl, rfl⟩ | ⟨h1, vs, h2⟩)
          · exact ⟨by simpa using hs, vt, Or.inl ⟨rfl, rfl⟩⟩
          · exact ⟨h1, vs, Or.inr h2⟩
        · rintro ⟨h1, vs, h2 | h2⟩
          · simp only [List.cons.injEq] at h2
            exact Or.inl ⟨h2.1, h2.2.1⟩
          · exact Or.inr ⟨h1, vs, h2⟩

theorem attrValues_copyLoop_skipped (skip : List String) (ref : RefAttrs) (k : String) (h : skip.contains k = true) :
    attrValues (copyLoop skip ref) k = [] := by
  unfold attrValues
  rw [List.map_eq_nil_iff, List.filter_eq_nil_iff]
  intro e he
  have := (copyLoop_mem skip ref e.1 e.2).mp he
  intro hk
  have hk' : e.1 = k := by simpa using hk
  rw [hk', h] at this
  exact absurd this.1 (by decide)

/-- what a key of the transcript skip list (other than the two ids and `exons`) carries on the printed line is what the
    model's own `additional_info` carries -/
theorem line_values_of_skipped_key (skip : List String) (m : PModel) (ref : Option RefAttrs) (k : String)
    (hk1 : k ≠ "gene_id") (hk2 : k ≠ "transcript_id") (hk3 : EXONS_KEY ≠ k) (hskip : skip.contains k = true) :
    attrValues (transcriptLineAttrs skip m ref) k = attrValues m.info k := by
  have hinfo : attrValues (if checkAdditional m.info EXONS_KEY then m.info
      else setAttr m.info EXONS_KEY (toString m.exons.length)) k = attrValues m.info k := by
    split
    · rfl
    · exact attrValues_setAttr_other _ _ _ _ hk3
  cases ref with
  | none =>
    simp only [transcriptLineAttrs, List.append_nil]
    rw [attrValues_append, attrValues_cons_ne _ _ _ (by simpa using hk1.symm),
      attrValues_cons_ne _ _ _ (by simpa using hk2.symm), hinfo]
    simp [attrValues]
  | some r =>
    simp only [transcriptLineAttrs]
    rw [attrValues_append, attrValues_append, attrValues_cons_ne _ _ _ (by simpa using hk1.symm),
      attrValues_cons_ne _ _ _ (by simpa using hk2.symm), hinfo, attrValues_copyLoop_skipped skip r k hskip]
    simp [attrValues]

end IsoVerif.Lemmas.C18
