import IsoVerif.Lemmas.Interval
import IsoVerif.Model.Profiles

/-!
`FeatureProfiles.set_profiles`: the mark loop is sound for every comparator (`markLoop_sound`), and for the two comparators
the pipeline passes its value is known exactly (`markLoop_eq_spec`, `markLoop_contains_spec`).  The flag `m` of `markLoop` says
that the head transcript feature has already matched an earlier known feature.
-/
namespace IsoVerif.Lemmas
open IsoVerif.Gen IsoVerif.Model

theorem markLoop_length (cmp : Iv → Iv → Bool) (tf ks : List Iv) (m : Bool) :
    (markLoop cmp tf ks m).length = ks.length := by
  fun_induction markLoop cmp tf ks m <;> simp_all

theorem markLoop_sound (cmp : Iv → Iv → Bool) (tf ks : List Iv) (m : Bool) (i : Nat) (k : Iv)
    (hk : ks[i]? = some k) (h : (markLoop cmp tf ks m)[i]? = some true) : ∃ f ∈ tf, cmp f k = true := by
  fun_induction markLoop cmp tf ks m generalizing i with
  | case1 feats m => simp at h
  | case2 f tf m => simp at hk
  | case3 f tf k0 ks m hc ih =>
    cases i with
    | zero => simp at hk; subst hk; exact ⟨f, by simp, hc⟩
    | succ i => simp at hk h; exact ih i hk h
  | case4 f tf k0 ks hc ih =>
    obtain ⟨g, hg, hgk⟩ := ih i hk h
    exact ⟨g, by simp [hg], hgk⟩
  | case5 f tf k0 ks m hc hm ih =>
    cases i with
    | zero => simp at h
    | succ i => simp at hk h; exact ih i hk h

theorem setProfiles_length (cmp : Iv → Iv → Bool) (features tf : List Iv) (region : Iv) :
    (setProfiles features tf region cmp).1.length = features.length := by
  simp [setProfiles, markLoop_length]

theorem setProfiles_get (cmp : Iv → Iv → Bool) (features tf : List Iv) (region : Iv) (i : Nat) (k : Iv)
    (hk : features[i]? = some k) :
    ∃ m, (markLoop cmp tf features false)[i]? = some m ∧
      (setProfiles features tf region cmp).1[i]? = some (if m then 1 else (if overlaps k region then -1 else -2)) := by
  have hlen : i < features.length := (List.getElem?_eq_some_iff.mp hk).1
  have hm : i < (markLoop cmp tf features false).length := by rw [markLoop_length]; exact hlen
  refine ⟨(markLoop cmp tf features false)[i], by simp [hm], ?_⟩
  simp only [setProfiles, List.getElem?_zipWith, List.getElem?_map, hk, Option.map_some]
  simp [hm]

theorem setProfiles_sound (cmp : Iv → Iv → Bool) (features tf : List Iv) (region : Iv) (i : Nat) (k : Iv)
    (hk : features[i]? = some k) (h1 : (setProfiles features tf region cmp).1[i]? = some 1) :
    ∃ f ∈ tf, cmp f k = true := by
  obtain ⟨m, hm, hv⟩ := setProfiles_get cmp features tf region i k hk
  rw [hv] at h1
  cases m with
  | true => exact markLoop_sound cmp tf features false i k hk hm
  | false => simp at h1; split at h1 <;> omega

theorem setProfiles_values (cmp : Iv → Iv → Bool) (features tf : List Iv) (region : Iv) (i : Nat) (k : Iv) (v : Int)
    (hk : features[i]? = some k) (hv : (setProfiles features tf region cmp).1[i]? = some v) :
    v = 1 ∨ (v = -1 ∧ overlaps k region = true) ∨ (v = -2 ∧ overlaps k region = false) := by
  obtain ⟨m, _, hv'⟩ := setProfiles_get cmp features tf region i k hk
  rw [hv'] at hv
  cases m with
  | true => simp at hv; left; omega
  | false =>
    simp at hv
    cases ho : overlaps k region
    · right; right; simp [ho] at hv; exact ⟨by omega, rfl⟩
    · right; left; simp [ho] at hv; exact ⟨by omega, rfl⟩

def lexLt (a b : Iv) : Prop := a.1 < b.1 ∨ (a.1 = b.1 ∧ a.2 < b.2)

def LexSorted : List Iv → Prop
  | [] => True
  | [_] => True
  | a :: b :: t => lexLt a b ∧ LexSorted (b :: t)

theorem LexSorted_tail {a : Iv} {l : List Iv} (h : LexSorted (a :: l)) : LexSorted l := by
  cases l with
  | nil => trivial
  | cons b t => exact h.2

theorem lexLt_trans {a b c : Iv} (h1 : lexLt a b) (h2 : lexLt b c) : lexLt a c := by
  unfold lexLt at *; omega

theorem LexSorted_head_lt {a : Iv} {l : List Iv} (h : LexSorted (a :: l)) : ∀ r ∈ l, lexLt a r := by
  induction l generalizing a with
  | nil => intro r hr; cases hr
  | cons b t ih =>
    intro r hr
    cases hr with
    | head => exact h.1
    | tail _ hr' => exact lexLt_trans h.1 (ih h.2 r hr')

theorem lexLt_irrefl (a : Iv) : ¬ lexLt a a := by unfold lexLt; omega

theorem lexLt_ne {a b : Iv} (h : lexLt a b) : a ≠ b := by
  intro e; subst e; exact lexLt_irrefl a h

/-! ## the exact value of the sweep for the two comparators the pipeline passes -/

/-! ### exact comparator (`equal_ranges · · 0`): transcript features = a sub-list of the duplicate-free known features -/

/-- `m`: the head of `tf` was matched by an earlier block.  `hsub`: the unmatched transcript features are a sub-list of the remaining
    blocks; `hH`: a matched head does not occur again. -/
theorem markLoop_eq_spec (tf ks : List Iv) (m : Bool)
    (hsub : (if m then tf.tail else tf).Sublist ks) (hnd : ks.Nodup)
    (hH : m = true → ∀ f ∈ tf.head?, f ∉ ks) :
    markLoop (fun a b => equal_ranges a b 0) tf ks m = ks.map (fun k => decide (k ∈ tf)) := by
  fun_induction markLoop (fun a b => equal_ranges a b 0) tf ks m with
  | case1 feats m => simp
  | case2 f tf m => rfl
  | case3 f tf k0 ks m hc ih =>
    have hfk : f = k0 := (eq0_iff f k0).mp hc
    subst hfk
    have hm : m = false := by
      cases m with
      | false => rfl
      | true => exact absurd (List.mem_cons_self) (hH rfl f (by simp))
    subst hm
    simp only [Bool.false_eq_true, if_false] at hsub
    have hnd' := List.nodup_cons.mp hnd
    rw [ih (by simpa using List.cons_sublist_cons.mp hsub) hnd'.2 (by intro _ g hg; simp at hg; subst hg; exact hnd'.1)]
    simp
  | case4 f tf k0 ks hc ih =>
    simp only [if_true, List.tail_cons] at hsub
    have hf := hH rfl f (by simp)
    rw [ih (by simpa using hsub) hnd (by simp)]
    apply List.map_congr_left
    intro k hk
    have : k ≠ f := fun e => hf (e ▸ hk)
    simp [this]
  | case5 f tf k0 ks m hc hm ih =>
    have hmf : m = false := by cases m <;> simp_all
    subst hmf
    simp only [Bool.false_eq_true, if_false] at hsub
    have hfne : f ≠ k0 := fun e => hc ((eq0_iff f k0).mpr e)
    have hsub' : (f :: tf).Sublist ks := by
      rcases List.sublist_cons_iff.mp hsub with h | ⟨r, hr, _⟩
      · exact h
      · injection hr with h1 _; exact absurd h1 hfne
    have hnd' := List.nodup_cons.mp hnd
    have hk0 : k0 ∉ f :: tf := fun hmem => hnd'.1 (hsub'.subset hmem)
    rw [ih (by simpa using hsub') hnd'.2 (by simp)]
    have : decide (k0 ∈ f :: tf) = false := by simpa using hk0
    simp only [List.map_cons, this]

theorem LexSorted_pairwise : ∀ {l : List Iv}, LexSorted l → l.Pairwise lexLt
  | [], _ => List.Pairwise.nil
  | _ :: _, h => List.Pairwise.cons (LexSorted_head_lt h) (LexSorted_pairwise (LexSorted_tail h))

theorem sublist_of_lexSorted : ∀ (tf ks : List Iv), LexSorted tf → LexSorted ks → (∀ f ∈ tf, f ∈ ks) → tf.Sublist ks
  | [], ks, _, _, _ => List.nil_sublist ks
  | f :: tf, [], _, _, h => absurd (h f (by simp)) (by simp)
  | f :: tf, k :: ks, ht, hs, h => by
    by_cases e : f = k
    · subst e
      refine (sublist_of_lexSorted tf ks (LexSorted_tail ht) (LexSorted_tail hs) fun g hg => ?_).cons_cons f
      rcases List.mem_cons.mp (h g (by simp [hg])) with e | h'
      · exact absurd (LexSorted_head_lt ht g hg) (e ▸ lexLt_irrefl f)
      · exact h'
    · refine (sublist_of_lexSorted (f :: tf) ks ht (LexSorted_tail hs) fun g hg => ?_).cons k
      rcases List.mem_cons.mp (h g hg) with e' | h'
      · -- `g = k` is the least member of `k :: ks`, but `f ≤ g` and `f ∈ ks`
        subst e'
        have hfk : f ∈ ks := (List.mem_cons.mp (h f (by simp))).resolve_left e
        have h1 := LexSorted_head_lt hs f hfk
        rcases List.mem_cons.mp hg with e2 | hg'
        · exact absurd e2.symm e
        · exact absurd (lexLt_trans h1 (LexSorted_head_lt ht g hg')) (lexLt_irrefl g)
      · exact h'

theorem markLoop_complete_eq (tf ks : List Iv) (hs : LexSorted ks) (ht : LexSorted tf) (hB : ∀ g ∈ tf, g ∈ ks)
    (i : Nat) (k : Iv) (hk : ks[i]? = some k) (hin : k ∈ tf) :
    (markLoop (fun a b => equal_ranges a b 0) tf ks false)[i]? = some true := by
  rw [markLoop_eq_spec tf ks false (by simpa using sublist_of_lexSorted tf ks ht hs hB)
    ((LexSorted_pairwise hs).imp (fun h => lexLt_ne h)) (by simp), List.getElem?_map, hk]
  simpa using hin

theorem setProfiles_complete_eq (features tf : List Iv) (region : Iv)
    (hs : LexSorted features) (ht : LexSorted tf) (hsub : ∀ f ∈ tf, f ∈ features)
    (i : Nat) (k : Iv) (hk : features[i]? = some k) (hin : k ∈ tf) :
    (setProfiles features tf region (fun a b => equal_ranges a b 0)).1[i]? = some 1 := by
  obtain ⟨m, hm, hv⟩ := setProfiles_get (fun a b => equal_ranges a b 0) features tf region i k hk
  have := markLoop_complete_eq tf features hs ht hsub i k hk hin
  rw [this] at hm
  injection hm with hm
  subst hm
  simpa using hv

/-! ### containment comparator (`contains`): known features = sorted disjoint blocks, every transcript exon holds one -/

/-- `m`: the head of `tf` already holds an earlier block.  `hM`: every transcript exon not yet matched holds some remaining
    block; `hH`: a matched head starts at or before every remaining block.  The step: while the head exon still has its block
    behind `k0`, no transcript exon holds `k0`. -/
theorem markLoop_contains_spec (tf ks : List Iv) (m : Bool)
    (hK : SD ks) (wK : WFl ks) (hT : SD tf) (wT : WFl tf)
    (hM : ∀ g ∈ (if m then tf.tail else tf), ∃ k ∈ ks, contains g k = true)
    (hH : m = true → ∀ f ∈ tf.head?, ∀ k ∈ ks, f.1 ≤ k.1) :
    markLoop (fun a b => contains a b) tf ks m = ks.map (fun k => tf.any (fun f => contains f k)) := by
  fun_induction markLoop (fun a b => contains a b) tf ks m with
  | case1 feats m => simp
  | case2 f tf m => rfl
  | case3 f tf k0 ks m hc ih =>
    have hk0 := WFl_head wK
    have hc' : f.1 ≤ k0.1 ∧ k0.2 ≤ f.2 := by
      simp only [contains, Bool.and_eq_true, decide_eq_true_eq] at hc; omega
    have hafter := SD_all_right hK wK
    have hfafter := SD_all_right hT wT
    have hno : ∀ g ∈ tf, contains g k0 = false := by
      intro g hg
      have := hfafter g hg
      simp only [contains, Bool.and_eq_false_iff, decide_eq_false_iff_not]
      omega
    rw [ih (SD_tail hK) (WFl_tail wK) hT wT ?_ ?_]
    · simp [hc]
    · intro g hg
      simp only [if_true, List.tail_cons] at hg
      have hg' : g ∈ (if m = true then (f :: tf).tail else f :: tf) := by
        cases m <;> simp [hg]
      obtain ⟨k, hk, hgk⟩ := hM g hg'
      rcases List.mem_cons.mp hk with e | hk'
      · subst e; rw [hno g hg] at hgk; cases hgk
      · exact ⟨k, hk', hgk⟩
    · intro _ f' hf' k hk
      simp at hf'; subst hf'
      have := hafter k hk
      omega
  | case4 f tf k0 ks hc ih =>
    have hk0 := WFl_head wK
    have hafter := SD_all_right hK wK
    have hf1 := hH rfl f (by simp)
    have hc' : ¬ (f.1 ≤ k0.1 ∧ k0.2 ≤ f.2) := by
      simp only [contains, Bool.and_eq_true, decide_eq_true_eq] at hc; omega
    have hf0 := hf1 k0 (by simp)
    rw [ih hK wK (SD_tail hT) (WFl_tail wT) (by simpa using hM) (by simp)]
    apply List.map_congr_left
    intro k hk
    have hfk : contains f k = false := by
      simp only [contains, Bool.and_eq_false_iff, decide_eq_false_iff_not]
      rcases List.mem_cons.mp hk with e | hk'
      · subst e; omega
      · have := hafter k hk'; have := wK k hk; omega
    simp [hfk]
  | case5 f tf k0 ks m hc hm ih =>
    have hmf : m = false := by cases m <;> simp_all
    subst hmf
    simp only [Bool.false_eq_true, if_false] at hM
    have hk0 := WFl_head wK
    have hafter := SD_all_right hK wK
    have hfafter := SD_all_right hT wT
    -- f still has its block behind k0, so no transcript exon holds k0
    obtain ⟨kf, hkf, hfkf⟩ := hM f (by simp)
    have hkf' : kf ∈ ks := by
      rcases List.mem_cons.mp hkf with e | h
      · subst e; rw [hfkf] at hc; exact absurd rfl hc
      · exact h
    have hfk : f.1 ≤ kf.1 ∧ kf.2 ≤ f.2 := by
      simp only [contains, Bool.and_eq_true, decide_eq_true_eq] at hfkf; omega
    have hno : ∀ g ∈ f :: tf, contains g k0 = false := by
      intro g hg
      rcases List.mem_cons.mp hg with e | hg'
      · subst e; simpa using hc
      · have := hfafter g hg'
        have := hafter kf hkf'
        have := wK kf hkf
        simp only [contains, Bool.and_eq_false_iff, decide_eq_false_iff_not]
        omega
    rw [ih (SD_tail hK) (WFl_tail wK) hT wT ?_ (by simp)]
    · have : (f :: tf).any (fun g => contains g k0) = false := by
        rw [List.any_eq_false]; intro g hg; simp [hno g hg]
      simp only [List.map_cons, this]
    · intro g hg
      simp only [Bool.false_eq_true, if_false] at hg
      obtain ⟨k, hk, hgk⟩ := hM g hg
      rcases List.mem_cons.mp hk with e | hk'
      · subst e; rw [hno g hg] at hgk; cases hgk
      · exact ⟨k, hk', hgk⟩

end IsoVerif.Lemmas
