/-
Reflection `x ↦ L + 1 − x` of interval lists (intervals swap their ends, lists are reversed): the algebra of `mirrorL`,
sorted disjoint / well-formed lists stay so, and the reflection theorems of Model/Interval.lean that hold for ALL lists
by a direct induction — total length, sums to / from a point, junctions, exon before / after an intron.  Over the model
files, Lemmas/Interval and Lemmas/Junctions only, so that the specifications of the "from the right" functions can be
derived from their "from the left" partners.
-/
import IsoVerif.Gen.Prims
import IsoVerif.Model.Interval
import IsoVerif.Model.C11Symmetry
import IsoVerif.Lemmas.Interval
import IsoVerif.Lemmas.Junctions

namespace IsoVerif.Lemmas.C11
open IsoVerif.Gen IsoVerif.Model IsoVerif.Model.C11 IsoVerif.Lemmas

@[simp] theorem mirrorIv_fst (L : Int) (a : Iv) : (mirrorIv L a).1 = L + 1 - a.2 := rfl
@[simp] theorem mirrorIv_snd (L : Int) (a : Iv) : (mirrorIv L a).2 = L + 1 - a.1 := rfl

theorem mirrorIv_mirrorIv (L : Int) (a : Iv) : mirrorIv L (mirrorIv L a) = a := by
  ext <;> simp only [mirrorIv] <;> omega

theorem mirrorIv_injective (L : Int) : Function.Injective (mirrorIv L) :=
  fun a b h => by rw [← mirrorIv_mirrorIv L a, h, mirrorIv_mirrorIv]

theorem map_mirrorIv_mirrorIv (L : Int) (l : List Iv) : (l.map (mirrorIv L)).map (mirrorIv L) = l := by
  rw [List.map_map]
  exact List.map_id'' (mirrorIv_mirrorIv L) l

theorem mirrorL_nil (L : Int) : mirrorL L [] = [] := rfl
theorem mirrorL_cons (L : Int) (a : Iv) (l : List Iv) : mirrorL L (a :: l) = mirrorL L l ++ [mirrorIv L a] := by
  simp [mirrorL]
theorem mirrorL_append (L : Int) (l1 l2 : List Iv) : mirrorL L (l1 ++ l2) = mirrorL L l2 ++ mirrorL L l1 := by
  simp [mirrorL]
theorem mirrorL_singleton (L : Int) (a : Iv) : mirrorL L [a] = [mirrorIv L a] := rfl
theorem mirrorL_eq_map_reverse (L : Int) (l : List Iv) : mirrorL L l = l.reverse.map (mirrorIv L) := by
  simp [mirrorL]
theorem mirrorL_reverse (L : Int) (l : List Iv) : (mirrorL L l).reverse = l.map (mirrorIv L) := by
  simp [mirrorL]
theorem mirrorL_length (L : Int) (l : List Iv) : (mirrorL L l).length = l.length := by simp [mirrorL]
theorem mirrorL_mirrorL (L : Int) (l : List Iv) : mirrorL L (mirrorL L l) = l := by
  simp only [mirrorL, List.map_reverse, List.reverse_reverse, List.map_map]
  have : (mirrorIv L ∘ mirrorIv L) = id := by funext a; exact mirrorIv_mirrorIv L a
  simp [this]
theorem mirrorL_head? (L : Int) (l : List Iv) : (mirrorL L l).head? = l.getLast?.map (mirrorIv L) := by
  simp [mirrorL]
theorem mirrorL_getLast? (L : Int) (l : List Iv) : (mirrorL L l).getLast? = l.head?.map (mirrorIv L) := by
  simp [mirrorL]
theorem mirrorL_getElem? (L : Int) (l : List Iv) (i : Nat) (h : i < l.length) :
    (mirrorL L l)[i]? = l[l.length - 1 - i]?.map (mirrorIv L) := by
  simp only [mirrorL]
  rw [List.getElem?_reverse (by simpa using h)]
  simp

theorem mem_mirrorL (L : Int) (a : Iv) (l : List Iv) : mirrorIv L a ∈ mirrorL L l ↔ a ∈ l := by
  simp only [mirrorL, List.mem_reverse, List.mem_map]
  constructor
  · rintro ⟨b, hb, e⟩; rw [← mirrorIv_injective L e]; exact hb
  · intro h; exact ⟨a, h, rfl⟩

theorem mem_mirrorL' (L : Int) (l : List Iv) (x : Iv) : x ∈ mirrorL L l ↔ ∃ e ∈ l, x = mirrorIv L e := by
  simp only [mirrorL, List.mem_reverse, List.mem_map, eq_comm]

theorem pyGet?_mirror (L : Int) (l : List Iv) (i : Nat) (h : i < l.length) :
    pyGet? (mirrorL L l) ((l.length : Int) - 1 - (i : Int)) = (pyGet? l (i : Int)).map (mirrorIv L) := by
  have e : (l.length : Int) - 1 - (i : Int) = ((l.length - 1 - i : Nat) : Int) := by omega
  rw [e, pyGet?_nat, pyGet?_nat, mirrorL_getElem? L l _ (by omega)]
  congr 2; omega

theorem pyGet?_mirror_int (L : Int) (l : List Iv) (a : Int) (h0 : 0 ≤ a) (h1 : a < l.length) :
    pyGet? (mirrorL L l) ((l.length : Int) - 1 - a) = (pyGet? l a).map (mirrorIv L) := by
  have := pyGet?_mirror L l a.toNat (by omega)
  rwa [show ((a.toNat : Nat) : Int) = a by omega] at this

theorem intervalsTotalLength_append (l1 l2 : List Iv) :
    intervalsTotalLength (l1 ++ l2) = intervalsTotalLength l1 + intervalsTotalLength l2 := by
  induction l1 with
  | nil => simp [intervalsTotalLength]
  | cons a t ih => simp only [List.cons_append, intervalsTotalLength, ih]; omega

theorem intervalsTotalLength_mirror (L : Int) (l : List Iv) :
    intervalsTotalLength (mirrorL L l) = intervalsTotalLength l := by
  induction l with
  | nil => rfl
  | cons a t ih =>
    simp only [mirrorL_cons, intervalsTotalLength_append, ih, intervalsTotalLength, interval_len, mirrorIv_fst,
      mirrorIv_snd]
    omega

theorem sumToLoop_mirror (L p : Int) (l : List Iv) :
    sumToLoop (mirrorP L p) (l.map (mirrorIv L)) = sumFromLoop p l := by
  induction l with
  | nil => rfl
  | cons a t ih =>
    simp only [mirrorP] at ih
    simp only [List.map_cons, sumToLoop, sumFromLoop, ih, mirrorIv_fst, mirrorIv_snd, mirrorP]
    grind

theorem SD_mirror (L : Int) (l : List Iv) (h : SD l) : SD (mirrorL L l) := by
  induction l with
  | nil => trivial
  | cons a t ih =>
    rw [mirrorL_cons, SD_append_singleton]
    refine ⟨ih (SD_tail h), ?_⟩
    intro x hx
    rw [mirrorL_getLast?] at hx
    cases t with
    | nil => simp at hx
    | cons b t' =>
      simp only [List.head?_cons, Option.map_some, Option.some.injEq] at hx
      subst hx
      have := h.1
      simp only [mirrorIv_fst, mirrorIv_snd]; omega

theorem WFl_mirror (L : Int) (l : List Iv) (h : WFl l) : WFl (mirrorL L l) := by
  intro r hr
  simp only [mirrorL, List.mem_reverse, List.mem_map] at hr
  obtain ⟨a, ha, rfl⟩ := hr
  have := h a ha
  simp only [mirrorIv_fst, mirrorIv_snd]; omega

/-- number of covered positions left of `p` in the mirror image = number right of `p` in the original, when the first
    block does not start after the last one ends (without that the two guards of the code are tested in a different
    order) -/
theorem sumIntervalsToPoint_mirror (L : Int) (l : List Iv) (p : Int)
    (hs : ∀ f t, l.head? = some f → l.getLast? = some t → f.1 ≤ t.2) :
    sumIntervalsToPoint (mirrorL L l) (mirrorP L p) = sumIntervalsFromPoint l p := by
  simp only [sumIntervalsToPoint, sumIntervalsFromPoint, mirrorL_head?, mirrorL_getLast?]
  cases hf : l.head? <;> cases ht : l.getLast? <;> simp only [Option.map_none, Option.map_some]
  rename_i f t
  have hsp := hs f t hf ht
  rw [intervalsTotalLength_mirror, mirrorL_eq_map_reverse, sumToLoop_mirror]
  have h0 : t.2 ≤ p → sumFromLoop p l.reverse = 0 := by
    intro h
    have hh : l.reverse.head? = some t := by simpa using ht
    cases hr : l.reverse with
    | nil => rfl
    | cons a r =>
      rw [hr] at hh; simp only [List.head?_cons, Option.some.injEq] at hh; subst hh
      simp only [sumFromLoop]; split <;> omega
  simp only [mirrorIv_fst, mirrorIv_snd, mirrorP]
  by_cases c1 : t.2 ≤ p
  · have c1' : L + 1 - p ≤ L + 1 - t.2 := by omega
    simp only [c1', if_true]
    by_cases c2 : p < f.1
    · omega
    · simp only [c2, if_false]
      by_cases c3 : p > t.2
      · simp [c3]
      · simp [c3, h0 c1]
  · have c1' : ¬ (L + 1 - p ≤ L + 1 - t.2) := by omega
    have c3 : ¬ (p > t.2) := by omega
    simp only [c1', c3, if_false]
    by_cases c2 : p < f.1
    · have : L + 1 - p > L + 1 - f.1 := by omega
      simp [c2, this]
    · have : ¬ (L + 1 - p > L + 1 - f.1) := by omega
      simp [c2, this]

/-! ### junctions_from_blocks -/

theorem junctionsFromBlocks_mirror (L : Int) (l : List Iv) :
    junctionsFromBlocks (mirrorL L l) = mirrorL L (junctionsFromBlocks l) := by
  fun_induction junctionsFromBlocks l with
  | case1 => rfl
  | case2 a => rfl
  | case3 a b t h ih =>
    have e : mirrorL L (a :: b :: t) = mirrorL L t ++ [mirrorIv L b, mirrorIv L a] := by
      simp [mirrorL]
    rw [e, C14.junctions_snoc]
    have e2 : mirrorL L t ++ [mirrorIv L b] = mirrorL L (b :: t) := by simp [mirrorL]
    rw [e2, ih, mirrorL_cons]
    have hc : L + 1 - b.1 + 1 < L + 1 - a.2 := by omega
    simp only [hc, if_true, mirrorIv]
    congr 2; ext <;> simp <;> omega
  | case4 a b t h ih =>
    have e : mirrorL L (a :: b :: t) = mirrorL L t ++ [mirrorIv L b, mirrorIv L a] := by
      simp [mirrorL]
    rw [e, C14.junctions_snoc]
    have e2 : mirrorL L t ++ [mirrorIv L b] = mirrorL L (b :: t) := by simp [mirrorL]
    rw [e2, ih]
    have hc : ¬ (L + 1 - b.1 + 1 < L + 1 - a.2) := by omega
    simp only [mirrorIv_fst, mirrorIv_snd, hc, if_false, List.append_nil]

/-! ### exon before / after an intron: partners, intron index i ↔ n−1−i (0 ≤ i < n) -/

theorem getFollowingExon_mirror (L : Int) (region : Iv) (introns : List Iv) (i : Nat) (h : i < introns.length) :
    getPrecedingExon (mirrorIv L region) (mirrorL L introns) ((introns.length : Int) - 1 - (i : Int))
      = (getFollowingExon region introns (i : Int)).map (mirrorIv L) := by
  simp only [getFollowingExon, getPrecedingExon, mirrorL_length]
  have hn : ¬ ((introns.length : Int) - 1 - (i : Int) > (introns.length : Int)) := by omega
  have hn2 : ¬ ((introns.length : Int) - 1 - (i : Int) = (introns.length : Int)) := by omega
  have hi1 : ¬ ((i : Int) = -1) := by omega
  simp only [hn, hn2, if_false, pyGet?_mirror L introns i h, hi1, or_false]
  obtain ⟨x, hx⟩ := exists_getElem? introns h
  rw [pyGet?_nat, hx]
  by_cases hl : i = introns.length - 1
  · have c1 : (introns.length : Int) - 1 - (i : Int) = 0 := by omega
    have c2 : (i : Int) = (introns.length : Int) - 1 := by omega
    simp only [c2, if_true]
    simp [mirrorIv]; omega
  · have c1 : ¬ ((introns.length : Int) - 1 - (i : Int) = 0) := by omega
    have c2 : ¬ ((i : Int) = (introns.length : Int) - 1) := by omega
    simp only [c1, c2, if_false]
    have e : (introns.length : Int) - 1 - (i : Int) - 1 = (introns.length : Int) - 1 - ((i + 1 : Nat) : Int) := by omega
    have e2 : (i : Int) + 1 = ((i + 1 : Nat) : Int) := by omega
    rw [e, pyGet?_mirror L introns (i + 1) (by omega), e2, pyGet?_nat]
    obtain ⟨y, hy⟩ := exists_getElem? introns (k := i + 1) (by omega)
    rw [hy]
    simp [mirrorIv]; omega

end IsoVerif.Lemmas.C11
