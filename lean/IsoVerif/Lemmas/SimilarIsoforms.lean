/-
Helper lemmas for Props/C04Similar.lean: the two loops of `detect_similar_isoforms` (`simInner_spec`, `simOuter_spec`: keys
only grow, every entry is justified by a verdict, models that stay unsubstituted were compared and did not match), the
second loop of `filter_transcripts` as a list filter (`filterDec2_eq`), `filterLoopC` against `filterLoopG`
(`filterLoopC_spec`, for every end correction that is `PostOK`), `read_assignment_counts` against `transcript_read_ids`
(`CountsConsistent`, kept by every loop body that only reads: `ReadsOnly`).
-/
import IsoVerif.Model.SimilarIsoforms
import IsoVerif.Lemmas.IntronGraph
import IsoVerif.Lemmas.ModelConstruction

namespace IsoVerif.Lemmas.C04
open IsoVerif.Gen IsoVerif.Model IsoVerif.Model.C04

/-- `m` is compared with `model` whenever it is not substituted yet (the static part of the inner guard) -/
def Comparable (model m : TModel) : Prop :=
  m.ttype ≠ .known ∧ m.tid ≠ model.tid ∧ m.exons.length ≠ 1 ∧ m.intronPath ≠ [] ∧ m.exons.length ≤ model.exons.length

theorem simSkip_false_iff (sub : List (String × String)) (model m : TModel) :
    simSkip sub model m = false ↔ (Comparable model m ∧ amHas sub m.tid = false) := by
  unfold simSkip Comparable
  simp only [Bool.or_eq_false_iff, decide_eq_false_iff_not, List.isEmpty_eq_false_iff, Nat.not_lt, ne_eq]
  constructor
  · rintro ⟨⟨⟨⟨⟨h1, h2⟩, h3⟩, h4⟩, h5⟩, h6⟩; exact ⟨⟨h1, h2, h4, h5, h6⟩, h3⟩
  · rintro ⟨⟨h1, h2, h4, h5, h6⟩, h3⟩; exact ⟨⟨⟨⟨⟨h1, h2⟩, h3⟩, h4⟩, h5⟩, h6⟩

section loops
variable {γ : Type} (prep : TModel → Option γ) (verdict : γ → TModel → Option Bool)

theorem simInner_spec {g : γ} {model : TModel} {l : List TModel} {sub sub' : List (String × String)}
    (h : simInner verdict g model l sub = some sub') :
    (∀ k, amHas sub' k = false → amHas sub k = false) ∧
    (∀ kv ∈ sub', kv ∈ sub ∨ ∃ m ∈ l, kv = (m.tid, model.tid) ∧ Comparable model m ∧ verdict g m = some true) ∧
    (∀ m ∈ l, Comparable model m → amHas sub' m.tid = false → verdict g m = some false) := by
  fun_induction simInner verdict g model l sub with
  | case1 sub => cases h; exact ⟨fun _ hk => hk, fun _ hkv => Or.inl hkv, fun _ hm => nomatch hm⟩
  | case3 => cases h
  | case2 m t sub hskip ih | case5 m t sub hskip hv ih =>
    -- `sub` is passed on: `m` was not to be compared, or got the verdict `False`
    obtain ⟨mono, snd, cmp⟩ := ih h
    refine ⟨mono, fun kv hkv => (snd kv hkv).imp_right fun ⟨x, hx, hr⟩ => ⟨x, List.mem_cons_of_mem _ hx, hr⟩, ?_⟩
    intro x hx hcx hno
    rcases List.mem_cons.1 hx with rfl | hx
    · first
      | exact hv
      | rw [(simSkip_false_iff sub model x).2 ⟨hcx, mono _ hno⟩] at hskip; cases hskip
    · exact cmp x hx hcx hno
  | case4 m t sub hskip hv ih =>
    -- `m` is entered, after the verdict `True`
    obtain ⟨mono, snd, cmp⟩ := ih h
    refine ⟨fun k hk => (amHas_amSet_false (mono k hk)).2, fun kv hkv => ?_, fun x hx hcx hno => ?_⟩
    · rcases snd kv hkv with h2 | ⟨x, hx, hr⟩
      · rcases mem_amSet h2 with rfl | h3
        · exact Or.inr ⟨m, List.mem_cons_self, rfl, ((simSkip_false_iff sub model m).1 (Bool.eq_false_iff.2 hskip)).1, hv⟩
        · exact Or.inl h3
      · exact Or.inr ⟨x, List.mem_cons_of_mem _ hx, hr⟩
    · rcases List.mem_cons.1 hx with rfl | hx
      · exact absurd rfl (amHas_amSet_false (mono _ hno)).1
      · exact cmp x hx hcx hno

/-- the two loops together (`detect_similar_sound` and `detect_similar_complete` are the second and third clause for the
    whole storage and the empty dict) -/
theorem simOuter_spec {storage l : List TModel} {sub sub' : List (String × String)}
    (h : simOuter prep verdict storage l sub = some sub') :
    (∀ k, amHas sub' k = false → amHas sub k = false) ∧
    (∀ kv ∈ sub', kv ∈ sub ∨ ∃ model ∈ l, ∃ g, ∃ m ∈ storage, 3 ≤ model.exons.length ∧ prep model = some g ∧
      kv = (m.tid, model.tid) ∧ Comparable model m ∧ verdict g m = some true) ∧
    (∀ model ∈ l, 3 ≤ model.exons.length → amHas sub' model.tid = false →
      ∃ g, prep model = some g ∧
        ∀ m ∈ storage, Comparable model m → amHas sub' m.tid = false → verdict g m = some false) := by
  fun_induction simOuter prep verdict storage l sub with
  | case1 sub => cases h; exact ⟨fun _ hk => hk, fun _ hkv => Or.inl hkv, fun _ hm => nomatch hm⟩
  | case3 => cases h
  | case4 => cases h
  | case2 a t sub hguard ih =>
    -- `a` is passed over: too short, or substituted already
    obtain ⟨mono, snd, cmp⟩ := ih h
    refine ⟨mono, fun kv hkv => (snd kv hkv).imp_right fun ⟨x, hx, hr⟩ => ⟨x, List.mem_cons_of_mem _ hx, hr⟩, ?_⟩
    intro model hm hl hno
    rcases List.mem_cons.1 hm with rfl | hm
    · rcases hguard with hs | hs
      · exact absurd hl (Nat.not_lt.2 hs)
      · rw [mono _ hno] at hs; cases hs
    · exact cmp model hm hl hno
  | case5 a t sub hguard g hg sub1 hin ih =>
    -- the gene of `a` is built and the inner loop runs against it
    obtain ⟨mono, snd, cmp⟩ := ih h
    obtain ⟨imono, isnd, icmp⟩ := simInner_spec verdict hin
    have hlen : 3 ≤ a.exons.length := Nat.lt_of_not_le fun hc => hguard (Or.inl hc)
    refine ⟨fun k hk => imono k (mono k hk), fun kv hkv => ?_, fun model hm hl hno => ?_⟩
    · rcases snd kv hkv with h2 | ⟨x, hx, hr⟩
      · exact (isnd kv h2).imp_right fun ⟨m, hm, hr⟩ => ⟨a, List.mem_cons_self, g, m, hm, hlen, hg, hr⟩
      · exact Or.inr ⟨x, List.mem_cons_of_mem _ hx, hr⟩
    · rcases List.mem_cons.1 hm with rfl | hm
      · exact ⟨g, hg, fun m hms hc hnm => icmp m hms hc (mono _ hnm)⟩
      · exact cmp model hm hl hno

end loops

/-! ### the second loop of `filter_transcripts` is a list filter -/

theorem filterDec2_eq (toSub : List String) (s : Store) (m : TModel) :
    filterDec2 toSub s m = some (decide (m.ttype = .known) || !decide (m.tid ∈ toSub), s) := by
  fun_cases filterDec2 toSub s m <;> simp [*]

section
variable {dec : Store → TModel → Option (Bool × Store)} {post : Store → TModel → Option TModel}

/-- what the end correction may do to a kept model: nothing to a known one, only `exon_blocks` otherwise -/
def PostOK (post : Store → TModel → Option TModel) : Prop :=
  ∀ s m m', post s m = some m' → (m.ttype = .known → m' = m) ∧ m' = { m with exons := m'.exons }

theorem correctModel_postOK (apa : Int) (readSpan : String → Iv) : PostOK (correctModel apa readSpan) := by
  intro s m m' h
  unfold correctModel at h
  split at h
  · cases h; exact ⟨fun _ => rfl, rfl⟩
  · rename_i hk
    obtain ⟨ex, _, rfl⟩ := Option.map_eq_some_iff.1 h
    exact ⟨fun hkn => absurd hkn hk, rfl⟩

theorem PostOK.tid (hp : PostOK post) {s : Store} {m m' : TModel}
    (h : post s m = some m') : m'.tid = m.tid ∧ m'.ttype = m.ttype := by
  rw [(hp s m m' h).2]; exact ⟨rfl, rfl⟩

/-- `filterLoopC` takes the decisions of `filterLoopG` and ends in the same storage; `prs` pairs each kept model with its
    corrected version -/
theorem filterLoopC_spec {ms : List TModel} {s : Store} {kept : List TModel} (keptG : List TModel) {s' : Store} {kept' : List TModel}
    (h : filterLoopC dec post ms s kept = some (s', kept')) :
    ∃ prs : List (TModel × TModel), filterLoopG dec ms s keptG = some (s', keptG ++ prs.map (·.1)) ∧
      kept' = kept ++ prs.map (·.2) ∧ ∀ p ∈ prs, ∃ sx, post sx p.1 = some p.2 := by
  fun_induction filterLoopC dec post ms s kept generalizing keptG with
  | case1 s kept => cases h; exact ⟨[], by simp [filterLoopG], by simp, fun _ hp => nomatch hp⟩
  | case2 m t s kept hd => cases h
  | case3 m t s kept s1 hd hpost => cases h
  | case4 m t s kept s1 hd m' hpost ih =>
    obtain ⟨prs, hG, hk, hp⟩ := ih (keptG ++ [m]) h
    simp only [List.append_assoc, List.singleton_append] at hG hk
    exact ⟨(m, m') :: prs, by simp only [filterLoopG, hd]; exact hG, hk, List.forall_mem_cons.2 ⟨⟨s1, hpost⟩, hp⟩⟩
  | case5 m t s kept s1 hd hdel => cases h
  | case6 m t s kept s1 hd sd hdel ih =>
    obtain ⟨prs, hG, r⟩ := ih keptG h
    exact ⟨prs, by simp only [filterLoopG, hd, hdel]; exact hG, r⟩

theorem filterLoopG_keeps (P : TModel → Prop)
    (hdec : ∀ s m s1, dec s m = some (false, s1) → ¬ P m) {ms : List TModel} {s : Store} {kept : List TModel} {s' : Store}
    {kept' : List TModel} (h : filterLoopG dec ms s kept = some (s', kept')) {m : TModel}
    (hm : m ∈ kept ∨ m ∈ ms ∧ P m) : m ∈ kept' := by
  fun_induction filterLoopG dec ms s kept with
  | case1 s kept => cases h; exact hm.resolve_right fun hn => nomatch hn.1
  | case2 a t s kept hd => cases h
  | case3 a t s kept s1 hd ih =>
    refine ih h ?_
    rcases hm with hm | ⟨_ | ⟨_, hm⟩, hP⟩
    · exact Or.inl (List.mem_append_left _ hm)
    · exact Or.inl (by simp)
    · exact Or.inr ⟨hm, hP⟩
  | case4 a t s kept s1 hd hdel => cases h
  | case5 a t s kept s1 hd sd hdel ih =>
    refine ih h ?_
    rcases hm with hm | ⟨_ | ⟨_, hm⟩, hP⟩
    · exact Or.inl hm
    · exact absurd hP (hdec _ _ _ hd)
    · exact Or.inr ⟨hm, hP⟩

end

theorem preFilterDec_known {p : FilterParams} {mapq : String → Int} {cutoff : Int} {s s1 : Store} {m : TModel}
    (h : preFilterDec p mapq cutoff s m = some (false, s1)) : m.ttype ≠ .known := by
  revert h
  -- the deleting branches (count below the cutoff, low mapping quality) are guarded by "not known"
  fun_cases preFilterDec p mapq cutoff s m with
  | case2 _ hc => exact fun _ => hc.1
  | case3 _ _ hc | case4 _ _ hc => exact fun _ => hc
  | _ => exact fun h => nomatch h

theorem filterDec1_known {p : FilterParams} {mapq : String → Int} {toSub : List String} {cov : TModel → Int}
    {s s1 : Store} {m : TModel} (h : filterDec1 p mapq toSub cov s m = some (false, s1)) : m.ttype ≠ .known := by
  intro hk
  rw [filterDec1, if_pos hk] at h
  cases h

/-- number of times read `r` is listed in `transcript_read_ids` -/
def occ (rm : List (String × List String)) (r : String) : Int := (rm.map (fun p => (p.2.count r : Int))).sum

/-- `read_assignment_counts[r]` (0 when absent) is the number of listings of `r`; the dict has one entry per key -/
def CountsConsistent (s : Store) : Prop := (amKeys s.readIds).Nodup ∧ ∀ r, cnt s.rcount r = occ s.readIds r

theorem occ_cons (a : String × List String) (t : List (String × List String)) (r : String) :
    occ (a :: t) r = (a.2.count r : Int) + occ t r := by
  simp only [occ, List.map_cons, List.sum_cons]

theorem occ_nonneg (rm : List (String × List String)) (r : String) : 0 ≤ occ rm r := by
  induction rm with
  | nil => simp [occ]
  | cons a t ih => rw [occ_cons]; omega

theorem count_le_occ {rm : List (String × List String)} {p : String × List String} (h : p ∈ rm) (r : String) :
    (p.2.count r : Int) ≤ occ rm r := by
  induction rm with
  | nil => cases h
  | cons a t ih =>
    rw [occ_cons]
    rcases List.mem_cons.1 h with rfl | h
    · have := occ_nonneg t r; omega
    · have := ih h; omega

theorem readsIn_cons (k' : String) (v : List String) (t : List (String × List String)) (k : String) :
    readsIn ((k', v) :: t) k = if k' = k then v else readsIn t k := by
  simp only [readsIn, amGet?]
  split <;> rfl

theorem readsIn_of_not_mem (rm : List (String × List String)) (k : String) (h : k ∉ amKeys rm) : readsIn rm k = [] := by
  unfold readsIn
  cases hg : amGet? rm k with
  | none => rfl
  | some v => exact absurd (key_of_amGet? hg) h

theorem occ_amSet (r : String) (k : String) (v : List String) (rm : List (String × List String)) :
    occ (amSet rm k v) r = occ rm r - ((readsIn rm k).count r : Int) + (v.count r : Int) := by
  induction rm with
  | nil => simp [amSet, occ, readsIn, amGet?]
  | cons a t ih =>
    obtain ⟨k', v'⟩ := a
    by_cases hk : k' = k
    · simp only [amSet, hk, if_true, occ_cons, readsIn_cons]; omega
    · simp only [amSet, hk, if_false, occ_cons, readsIn_cons, ih]; omega

theorem occ_amErase (r : String) (k : String) {rm : List (String × List String)} (hnd : (amKeys rm).Nodup) :
    occ (amErase rm k) r = occ rm r - ((readsIn rm k).count r : Int) := by
  induction rm with
  | nil => simp [amErase, occ, readsIn, amGet?]
  | cons a t ih =>
    obtain ⟨k', v⟩ := a
    simp only [amKeys, List.map_cons, List.nodup_cons] at hnd
    have := ih hnd.2
    by_cases hk : k' = k
    · -- the entry goes; no further entry has this key
      subst hk
      rw [readsIn_of_not_mem t k' hnd.1] at this
      simp only [amErase, List.filter_cons, ne_eq, not_true_eq_false, decide_false, Bool.false_eq_true, if_false,
        occ_cons, readsIn_cons, if_true] at this ⊢
      simp only [List.count_nil] at this
      omega
    · simp only [amErase, List.filter_cons, ne_eq, hk, not_false_eq_true, decide_true, if_true, occ_cons, readsIn_cons,
        if_false] at this ⊢
      omega

theorem keys_amSet_nodup (k : String) (v : List String) {rm : List (String × List String)} (h : (amKeys rm).Nodup) :
    (amKeys (amSet rm k v)).Nodup :=
  amSet_eq_upsert rm k v ▸ IsoVerif.Lemmas.nodup_keys_upsert _ _ h k

theorem countsConsistent_empty : CountsConsistent Store.empty := by
  refine ⟨by simp [Store.empty, amKeys], fun r => ?_⟩
  simp [Store.empty, cnt, amGet?, occ]

theorem saveRead_counts {s : Store} (hc : CountsConsistent s) (read tid : String) : CountsConsistent (s.saveRead read tid) := by
  refine ⟨keys_amSet_nodup _ _ hc.1, fun r => ?_⟩
  simp only [Store.saveRead, cnt_amSet, occ_amSet, readsOf_eq]
  have := hc.2 r
  by_cases h : r = read
  · subst h; simp [List.count_append]; omega
  · have h' : ¬ read = r := fun e => h e.symm
    simp [h, List.count_append, h']; omega

theorem addModel_counts {s : Store} (hc : CountsConsistent s) (m : TModel) (reads : List String) :
    CountsConsistent (s.addModel m reads) :=
  List.foldlRecOn reads _ (motive := CountsConsistent) ⟨hc.1, hc.2⟩ fun _ h r _ => saveRead_counts h r m.tid

theorem deleteFromStorage_counts {s s' : Store} {tid : String} (hc : CountsConsistent s)
    (h : s.deleteFromStorage tid = some s') : CountsConsistent s' := by
  obtain ⟨_, _, _, he⟩ := deleteFromStorage_spec h
  refine ⟨he ▸ (List.Sublist.map _ List.filter_sublist).nodup hc.1, fun r => ?_⟩
  rw [delete_rcount h, he, occ_amErase r _ hc.1, hc.2 r]

/-- a defaultdict read is an assignment of `[]` to a key that lists nothing -/
theorem touchList_counts (rm : List (String × List String)) (k : String) (h : (amKeys rm).Nodup) :
    (amKeys (touchList rm k)).Nodup ∧ ∀ r, occ (touchList rm k) r = occ rm r := by
  unfold touchList
  split
  · exact ⟨h, fun _ => rfl⟩
  · rename_i hh
    have hnk : k ∉ amKeys rm := fun hm => hh (amHas_iff_key.2 hm)
    exact ⟨keys_amSet_nodup k [] h, fun r => by rw [occ_amSet, readsIn_of_not_mem rm k hnk]; simp⟩

/-- a loop body that only reads: `rcount` untouched, `transcript_read_ids` at most touched (defaultdict read).  A property of the
    decision function that speaks of `rcount`; `Touched` (Lemmas/ModelConstruction.lean) relates the two stores of ONE step and
    says nothing of `rcount` -/
def ReadsOnly (dec : Store → TModel → Option (Bool × Store)) : Prop :=
  ∀ s m k s1, dec s m = some (k, s1) → s1.rcount = s.rcount ∧ (s1.readIds = s.readIds ∨ ∃ t, s1.readIds = touchList s.readIds t)

theorem ReadsOnly.counts {dec : Store → TModel → Option (Bool × Store)} (hd : ReadsOnly dec) {s s1 : Store} {m : TModel} {k : Bool}
    (h : dec s m = some (k, s1)) (hc : CountsConsistent s) : CountsConsistent s1 := by
  obtain ⟨h1, h2⟩ := hd s m k s1 h
  rcases h2 with h2 | ⟨t, h2⟩
  · exact ⟨by rw [h2]; exact hc.1, fun r => by rw [h1, h2]; exact hc.2 r⟩
  · obtain ⟨hn, ho⟩ := touchList_counts s.readIds t hc.1
    exact ⟨by rw [h2]; exact hn, fun r => by rw [h1, h2, ho]; exact hc.2 r⟩

theorem filterLoopG_counts {dec : Store → TModel → Option (Bool × Store)} (hd : ReadsOnly dec) {ms : List TModel} {s : Store}
    {kept : List TModel} {s' : Store} {kept' : List TModel} (h : filterLoopG dec ms s kept = some (s', kept'))
    (hc : CountsConsistent s) : CountsConsistent s' := by
  fun_induction filterLoopG dec ms s kept with
  | case1 s kept => cases h; exact hc
  | case2 m t s kept hdm => cases h
  | case3 m t s kept s1 hdm ih => exact ih h (hd.counts hdm hc)
  | case4 m t s kept s1 hdm hdel => cases h
  | case5 m t s kept s1 hdm sd hdel ih => exact ih h (deleteFromStorage_counts (hd.counts hdm hc) hdel)

theorem preFilterDec_readsOnly (p : FilterParams) (mapq : String → Int) (cutoff : Int) : ReadsOnly (preFilterDec p mapq cutoff) := by
  intro s m
  fun_cases preFilterDec p mapq cutoff s m with
  | case3 => exact fun _ _ h => nomatch h
  -- the one branch that reads `transcript_read_ids[m.tid]` (for the mapping quality)
  | case4 => exact fun _ _ h => by cases h; exact ⟨rfl, Or.inr ⟨_, rfl⟩⟩
  | _ => exact fun _ _ h => by cases h; exact ⟨rfl, Or.inl rfl⟩

theorem filterDec1_readsOnly (p : FilterParams) (mapq : String → Int) (toSub : List String) (cov : TModel → Int) :
    ReadsOnly (filterDec1 p mapq toSub cov) := by
  intro s m
  fun_cases filterDec1 p mapq toSub cov s m with
  | case4 => exact fun _ _ h => nomatch h
  -- past the count test `transcript_read_ids[m.tid]` is read
  | case5 | case6 => exact fun _ _ h => by cases h; exact ⟨rfl, Or.inr ⟨_, rfl⟩⟩
  | _ => exact fun _ _ h => by cases h; exact ⟨rfl, Or.inl rfl⟩

theorem filterDec2_readsOnly (toSub : List String) : ReadsOnly (filterDec2 toSub) := by
  intro s m k s1 h
  rw [filterDec2_eq] at h
  cases h; exact ⟨rfl, Or.inl rfl⟩

section
variable {s s' : Store} {p : FilterParams} {mapq : String → Int} {similar : List TModel → Option (List String)}
  {post : Store → TModel → Option TModel} {covTerm : TModel → Int}

theorem filterTranscriptsG_inv (h : s.filterTranscriptsG p mapq similar post covTerm = some s') :
    ∃ sub1 s1 pre sub2 s2 kept,
      filterLoopC (filterDec1 p mapq sub1 covTerm) post s.models s [] = some (s1, pre) ∧ similar pre = some sub2 ∧
      filterLoopG (filterDec2 sub2) pre s1 [] = some (s2, kept) ∧ s' = { s2 with models := kept } := by
  revert h
  fun_cases Store.filterTranscriptsG s p mapq similar post covTerm with
  | case5 sub1 h1 s1 pre h2 sub2 h3 s2 kept h4 =>
    exact fun h => ⟨sub1, s1, pre, sub2, s2, kept, h2, h3, h4, (Option.some.inj h).symm⟩
  | _ => exact fun h => nomatch h

/-- the computed `filter_transcripts`, both passes with the end correction between them: `D` = the ids deleted by either pass,
    the storage shrunk by `D`; ids kept in order; every model returned is the corrected form of an input model; known models
    stay; with distinct ids a returned model is not among the deleted and, if novel, had the count the first pass asks for
    (`filterLoopG_spec` twice, as in `filterTranscripts_spec`, Lemmas/ModelConstruction.lean) -/
theorem filterTranscriptsG_spec (hp : PostOK post) (h : s.filterTranscriptsG p mapq similar post covTerm = some s') :
    ∃ D, Shrunk D s s' ∧ (ids s'.models).Sublist (ids s.models) ∧
      (∀ b ∈ s'.models, ∃ a ∈ s.models, ∃ sx, post sx a = some b) ∧
      (∀ m ∈ s.models, m.ttype = .known → m ∈ s'.models) ∧
      ((ids s.models).Nodup → ∀ b ∈ s'.models, b.tid ∉ D ∧ (b.ttype ≠ .known → p.minNovelCount ≤ cnt s.counter b.tid)) := by
  obtain ⟨sub1, s1, pre, sub2, s2, kept, h2, _, h4, rfl⟩ := filterTranscriptsG_inv h
  obtain ⟨prs, hG, hk, hpost⟩ := filterLoopC_spec [] h2
  simp only [List.nil_append] at hG hk
  subst hk
  obtain ⟨new1, D1, hk1, hsub1, _, _, hsh1, hB1⟩ :=
    filterLoopG_spec _ (fun c m => m.ttype ≠ .known → p.minNovelCount ≤ c)
      (fun _ _ _ _ h => filterDec1_touched h) (fun _ _ _ h => filterDec1_keep h) _ _ _ _ _ hG
  simp only [List.nil_append] at hk1; subst hk1
  obtain ⟨new2, D2, hk2, hsub2, _, _, hsh2, hB2⟩ :=
    filterLoopG_spec _ (fun _ _ => True) (fun _ _ _ _ h => filterDec2_touched h) (fun _ _ _ _ => trivial) _ _ _ _ _ h4
  simp only [List.nil_append] at hk2; subst hk2
  -- every corrected model comes from a model the first loop kept, with the same id and type
  have hids : ids (prs.map (·.2)) = ids (prs.map (·.1)) := by
    simp only [ids, List.map_map]
    exact List.map_congr_left fun q hq => by obtain ⟨sx, hq⟩ := hpost q hq; exact (hp.tid hq).1
  have horig : ∀ b ∈ prs.map (·.2), ∃ a ∈ s.models, ∃ sx, post sx a = some b ∧ a ∈ prs.map (·.1) := by
    intro b hb
    obtain ⟨q, hq, rfl⟩ := List.mem_map.1 hb
    obtain ⟨sx, hqp⟩ := hpost q hq
    have hq1 : q.1 ∈ prs.map (·.1) := List.mem_map.2 ⟨q, hq, rfl⟩
    exact ⟨q.1, hsub1.subset hq1, sx, hqp, hq1⟩
  refine ⟨D1 ++ D2, hsh1.trans ⟨hsh2.counter, hsh2.reads, hsh2.entries⟩, ?_, ?_, ?_, ?_⟩
  · have : (ids kept).Sublist (ids (prs.map (·.2))) := hsub2.map _
    rw [hids] at this
    exact this.trans (hsub1.map _)
  · intro b hbk
    obtain ⟨a, ha, sx, r, _⟩ := horig b (hsub2.subset hbk)
    exact ⟨a, ha, sx, r⟩
  · intro m hm hkn
    have hm0 : m ∈ prs.map (·.1) := filterLoopG_keeps (fun m => m.ttype = .known) (fun _ _ _ h => filterDec1_known h) hG
      (Or.inr ⟨hm, hkn⟩)
    obtain ⟨q, hq, rfl⟩ := List.mem_map.1 hm0
    obtain ⟨sx, hqp⟩ := hpost q hq
    have hb : q.2 ∈ prs.map (·.2) := List.mem_map.2 ⟨q, hq, rfl⟩
    rw [← (hp sx _ _ hqp).1 hkn]
    rw [filterLoopG_pure _ (filterDec2_eq sub2) h4, List.nil_append, List.mem_filter]
    exact ⟨hb, by simp [(hp.tid hqp).2, hkn]⟩
  · intro hnd b hbk
    obtain ⟨hd1, hq1⟩ := hB1 hnd
    obtain ⟨hd2, _⟩ := hB2 (by rw [hids]; exact sublist_ids_nodup hsub1 hnd)
    obtain ⟨a, _, sx, hpa, ha⟩ := horig b (hsub2.subset hbk)
    obtain ⟨ht, hty⟩ := hp.tid hpa
    rw [ht, hty]
    have := hd2 b hbk
    rw [ht] at this
    exact ⟨by simp [hd1 a ha, this], hq1 a ha⟩

theorem filterTranscriptsG_counts (hc : CountsConsistent s)
    (h : s.filterTranscriptsG p mapq similar post covTerm = some s') : CountsConsistent s' := by
  obtain ⟨sub1, s1, pre, sub2, s2, kept, h2, _, h4, rfl⟩ := filterTranscriptsG_inv h
  obtain ⟨_, hG, _⟩ := filterLoopC_spec [] h2
  have c := filterLoopG_counts (filterDec2_readsOnly _) h4 (filterLoopG_counts (filterDec1_readsOnly _ _ _ _) hG hc)
  exact ⟨c.1, c.2⟩

theorem preFilter_inv (h : s.preFilter p mapq = some s') :
    ∃ c cutoff sx kept, filterLoopG (preFilterDec p mapq cutoff) s.models { s with counter := c } [] = some (sx, kept) ∧
      s' = { sx with models := kept } := by
  revert h
  fun_cases Store.preFilter s p mapq with
  | case2 small s0 vals cutoff sx kept hl => exact fun h => ⟨_, _, sx, kept, hl, (Option.some.inj h).symm⟩
  | _ => exact fun h => nomatch h

theorem preFilter_counts (hc : CountsConsistent s)
    (h : s.preFilter p mapq = some s') : CountsConsistent s' := by
  obtain ⟨c, cutoff, sx, kept, hl, rfl⟩ := preFilter_inv h
  have c := filterLoopG_counts (preFilterDec_readsOnly _ _ _) hl ⟨hc.1, hc.2⟩
  exact ⟨c.1, c.2⟩

theorem preFilter_known (h : s.preFilter p mapq = some s') :
    ∀ m ∈ s.models, m.ttype = .known → m ∈ s'.models := by
  obtain ⟨c, cutoff, sx, kept, hl, rfl⟩ := preFilter_inv h
  exact fun m hm hk => filterLoopG_keeps (fun m => m.ttype = .known) (fun _ _ _ h => preFilterDec_known h) hl
    (Or.inr ⟨hm, hk⟩)

end

end IsoVerif.Lemmas.C04
