/-
Helper lemmas for C18: the canonical-site memo, Python slices as `drop`/`take` (a slice of a slice: `pySlice_pySlice`), the
strand detector and its vote, the window the loader cuts (`loadRegion_window`).
-/
import IsoVerif.Model.Canonical
import IsoVerif.Lemmas.AssocList
import IsoVerif.Lemmas.Interval

namespace IsoVerif.Lemmas.C18
open IsoVerif.Gen IsoVerif.Model IsoVerif.Model.C18

/-- every stored answer is the pure function of (sequence, intron, strand) -/
def MemoOK (g : GeneRef) (σ : CanonMemo) : Prop :=
  ∀ e ∈ σ, e.2 = canonCompute g e.1.1 e.1.2

theorem memoOK_nil (g : GeneRef) : MemoOK g [] := by
  intro e he; cases he

theorem memoOK_cons {g : GeneRef} {σ : CanonMemo} (h : MemoOK g σ) (it : Iv) (st : Strand) :
    MemoOK g (((it, st), canonCompute g it st) :: σ) := by
  intro e he
  rcases List.mem_cons.mp he with rfl | he
  · rfl
  · exact h e he

theorem checkSitesStrand_spec (g : GeneRef) (st : Strand) :
    ∀ (introns : List Iv) (σ : CanonMemo), MemoOK g σ →
      (checkSitesStrand g introns st σ).1 = introns.all (fun it => canonCompute g it st) ∧
      MemoOK g (checkSitesStrand g introns st σ).2 := by
  intro introns
  induction introns with
  | nil => intro σ h; exact ⟨by simp [checkSitesStrand], by simpa [checkSitesStrand] using h⟩
  | cons it rest ih =>
    intro σ h
    simp only [checkSitesStrand, List.all_cons]
    split
    · rename_i v hv
      have hv' : v = canonCompute g it st := h _ (mem_of_lookup hv)
      split
      · rename_i hvt
        have := ih σ h
        rw [← hv', hvt]; simpa using this
      · rename_i hvf
        have hvf' : v = false := by simpa using hvf
        rw [← hv', hvf']; exact ⟨by simp, h⟩
    · split
      · rename_i hvt
        have := ih _ (memoOK_cons h it st)
        rw [hvt] at this ⊢; simpa using this
      · rename_i hvf
        have hvf' : canonCompute g it st = false := by simpa using hvf
        refine ⟨by simp [hvf'], ?_⟩
        exact memoOK_cons h it st


/-- the answer the statement demands for (sequence, introns, strand): every intron canonical on the strand; for the
    unknown strand `.`: the whole chain canonical on `+`, or the whole chain canonical on `-` -/
def pureAll (g : GeneRef) (introns : List Iv) (st : Strand) : Bool :=
  if st = .dot then (introns.all fun it => canonCompute g it .plus) || (introns.all fun it => canonCompute g it .minus)
  else introns.all fun it => canonCompute g it st

theorem checkSites_spec (g : GeneRef) (st : Strand) (introns : List Iv) (σ : CanonMemo) (h : MemoOK g σ) :
    (checkSites g introns st σ).1 = pureAll g introns st ∧ MemoOK g (checkSites g introns st σ).2 := by
  unfold checkSites pureAll
  by_cases hd : st = .dot
  · simp only [hd, if_true]
    have h1 := checkSitesStrand_spec g .plus introns σ h
    have h2 := checkSitesStrand_spec g .minus introns _ h1.2
    cases hb : (checkSitesStrand g introns .plus σ).1 with
    | true =>
      rw [hb] at h1
      simp only [if_true]
      exact ⟨by rw [← h1.1]; rfl, h1.2⟩
    | false =>
      rw [hb] at h1
      simp only [Bool.false_eq_true, if_false]
      exact ⟨by rw [h2.1, ← h1.1]; rfl, h2.2⟩
  · simp only [hd, if_false]
    exact checkSitesStrand_spec g st introns σ h

/-- a Python slice between non-negative indices is `drop`/`take`; an end beyond the end of the list is clamped by
    Python (and by pyfaidx), `take` clamps alike -/
theorem pySlice_range_clamp {α} (s : List α) (a b : Int) (ha : 0 ≤ a) (hab : a ≤ b) :
    pySlice s a b = (s.drop a.toNat).take (b - a).toNat := by
  obtain ⟨a, rfl⟩ := Int.eq_ofNat_of_zero_le ha
  obtain ⟨b, rfl⟩ := Int.eq_ofNat_of_zero_le (Int.le_trans ha hab)
  rw [pySlice_natCast]; congr 1; omega

theorem pySlice_two {α} (s : List α) (a : Int) (ha : 0 ≤ a) :
    pySlice s a (a + 2) = (s.drop a.toNat).take 2 := by
  rw [pySlice_range_clamp s a (a + 2) ha (by omega), show (a + 2 - a).toNat = 2 by omega]

theorem pySlice_pySlice {α} (l : List α) (k E a b : Int) (hk : 0 ≤ k) (ha : 0 ≤ a) (hab : a ≤ b) (hE : k + b ≤ E) :
    pySlice (pySlice l k E) a b = pySlice l (k + a) (k + b) := by
  obtain ⟨k, rfl⟩ := Int.eq_ofNat_of_zero_le hk
  obtain ⟨a, rfl⟩ := Int.eq_ofNat_of_zero_le ha
  obtain ⟨b, rfl⟩ := Int.eq_ofNat_of_zero_le (Int.le_trans ha hab)
  obtain ⟨E, rfl⟩ := Int.eq_ofNat_of_zero_le (show 0 ≤ E by omega)
  rw [← Int.natCast_add, ← Int.natCast_add]
  simp only [pySlice_natCast, List.drop_take, List.take_take, List.drop_drop]
  congr 1; omega

/-- the strand the detector attributes to an intron in state `σ`: the stored one (annotation seed or an earlier
    computation) or, on a miss, the splice-site strand of the sequence -/
def eff (σ : StrandDict) (seq : Seq) (it : Iv) : Strand :=
  (σ.lookup it).getD (getIntronStrand it seq)

def nPlus (σ : StrandDict) (seq : Seq) (introns : List Iv) : Nat :=
  introns.countP fun it => decide (eff σ seq it = .plus)
def nMinus (σ : StrandDict) (seq : Seq) (introns : List Iv) : Nat :=
  introns.countP fun it => decide (eff σ seq it = .minus)

theorem eff_nil (seq : Seq) (it : Iv) : eff [] seq it = getIntronStrand it seq := by
  simp [eff, List.lookup]

theorem eff_cons (σ : StrandDict) (seq : Seq) (it it' : Iv) (s : Strand) :
    eff ((it, s) :: σ) seq it' = if it' = it then s else eff σ seq it' := by
  unfold eff
  by_cases hh : it' = it
  · subst hh; simp [List.lookup]
  · have : (it' == it) = false := by simpa using hh
    simp [List.lookup, this, hh]

theorem eff_cons_miss {σ : StrandDict} {seq : Seq} {it : Iv} (h : σ.lookup it = none) (it' : Iv) :
    eff ((it, getIntronStrand it seq) :: σ) seq it' = eff σ seq it' := by
  rw [eff_cons]
  split
  · rename_i hh; subst hh; simp [eff, h]
  · rfl

/-- both counts read the dictionary only through `eff` -/
theorem counts_congr {σ σ' : StrandDict} {seq : Seq} (h : ∀ it, eff σ' seq it = eff σ seq it) (introns : List Iv) :
    nPlus σ' seq introns = nPlus σ seq introns ∧ nMinus σ' seq introns = nMinus σ seq introns := by
  simp only [nPlus, nMinus, h, and_self]

theorem countLoop_spec (seq : Seq) :
    ∀ (introns : List Iv) (σ : StrandDict) (f r : Nat),
      (countLoop seq introns σ f r).1 = (f + nPlus σ seq introns, r + nMinus σ seq introns) ∧
      ∀ it, eff (countLoop seq introns σ f r).2 seq it = eff σ seq it := by
  intro introns
  induction introns with
  | nil => intro σ f r; simp [countLoop, nPlus, nMinus]
  | cons it rest ih =>
    intro σ f r
    simp only [countLoop]
    split
    · rename_i st hst
      have he : eff σ seq it = st := by simp [eff, hst]
      have := ih σ (f + if st = .plus then 1 else 0) (r + if st = .minus then 1 else 0)
      refine ⟨?_, this.2⟩
      rw [this.1]
      simp only [nPlus, nMinus, List.countP_cons, he]
      by_cases h1 : st = .plus <;> by_cases h2 : st = .minus <;> simp [h1, h2] <;> omega
    · rename_i hnone
      have he : eff σ seq it = getIntronStrand it seq := by simp [eff, hnone]
      have hσ := eff_cons_miss (seq := seq) hnone
      have := ih ((it, getIntronStrand it seq) :: σ) (f + if getIntronStrand it seq = .plus then 1 else 0)
        (r + if getIntronStrand it seq = .minus then 1 else 0)
      refine ⟨?_, fun it' => by rw [this.2 it', hσ it']⟩
      rw [this.1]
      rw [(counts_congr hσ rest).1, (counts_congr hσ rest).2]
      simp only [nPlus, nMinus, List.countP_cons, he]
      by_cases h1 : getIntronStrand it seq = .plus <;> by_cases h2 : getIntronStrand it seq = .minus <;>
        simp [h1, h2] <;> omega

theorem count_spec (seq : Seq) (introns : List Iv) (σ : StrandDict) :
    (countCanonicalSites seq introns σ).1 = (nPlus σ seq introns, nMinus σ seq introns) ∧
    ∀ it, eff (countCanonicalSites seq introns σ).2 seq it = eff σ seq it := by
  have := countLoop_spec seq introns σ 0 0
  simpa [countCanonicalSites] using this

theorem voteOf_spec (f r : Nat) (pa pt : Bool) :
    (voteOf f r pa pt = .plus ↔ r < f ∨ (f = r ∧ pa = true ∧ pt = false)) ∧
    (voteOf f r pa pt = .minus ↔ f < r ∨ (f = r ∧ pt = true ∧ pa = false)) ∧
    (voteOf f r pa pt = .dot ↔ f = r ∧ pa = pt) := by
  unfold voteOf
  by_cases h1 : f = r
  · cases pa <;> cases pt <;> simp [h1]
  · by_cases h2 : r < f
    · simp [h1, h2]; omega
    · simp [h1, h2]; omega

theorem nPlus_pos {σ : StrandDict} {seq : Seq} {introns : List Iv} :
    0 < nPlus σ seq introns ↔ ∃ it ∈ introns, eff σ seq it = .plus := by
  simp [nPlus, List.countP_pos_iff]

theorem nMinus_pos {σ : StrandDict} {seq : Seq} {introns : List Iv} :
    0 < nMinus σ seq introns ↔ ∃ it ∈ introns, eff σ seq it = .minus := by
  simp [nMinus, List.countP_pos_iff]

/-- what the loader guarantees, whichever branch it takes: the region of a storage with reads is a window
    `set_reference_sequence(S, E)` of the chromosome that holds the span of the reads and `flank` bases on either side of
    it (as far as the contig reaches to the left) -/
theorem loadRegion_window (chr : Seq) (hdr : Iv) (reads : List ReadSpan) (flank : Int) (hne : reads ≠ []) :
    ∃ S E, loadRegion chr hdr reads flank = setReferenceSequence chr S E ∧
      max 1 S ≤ max 1 ((extendedWindow (max 1 hdr.1, hdr.2) reads).1 - flank) ∧
      (extendedWindow (max 1 hdr.1, hdr.2) reads).2 + flank ≤ E := by
  have hemp : reads.isEmpty = false := by
    cases reads with
    | nil => exact absurd rfl hne
    | cons _ _ => rfl
  unfold loadRegion
  simp only [hemp, Bool.false_eq_true, if_false]
  split
  · exact ⟨_, _, rfl, Int.le_refl _, Int.le_refl _⟩
  · exact ⟨_, _, rfl, by omega, by omega⟩

end IsoVerif.Lemmas.C18
