/-
C11 helper lemmas — reflection of `FeatureProfiles.set_profiles` (Model/Profiles.lean).  The declarative value of the
greedy sweep `markLoop` for the two comparators the pipeline passes (`markLoop_eq_spec`, `markLoop_contains_spec` of
Lemmas/Profiles.lean) is symmetric, hence so is the sweep; here: from reversed marks to the mirrored result.
-/
import IsoVerif.Gen.Prims
import IsoVerif.Model.Interval
import IsoVerif.Model.Profiles
import IsoVerif.Model.C11Symmetry
import IsoVerif.Lemmas.C11Mirror
import IsoVerif.Lemmas.Profiles

namespace IsoVerif.Lemmas.C11.Lists
open IsoVerif.Gen IsoVerif.Model IsoVerif.Model.C11 IsoVerif.Lemmas

theorem setProfiles_mirror_of_marks (L : Int) (cmp : Iv → Iv → Bool) (features tf : List Iv) (region : Iv)
    (hm : markLoop cmp (mirrorL L tf) (mirrorL L features) false = (markLoop cmp tf features false).reverse) :
    setProfiles (mirrorL L features) (mirrorL L tf) (mirrorIv L region) cmp =
      ((setProfiles features tf region cmp).1.reverse,
        (((setProfiles features tf region cmp).1.length : Int) - (setProfiles features tf region cmp).2.2,
         ((setProfiles features tf region cmp).1.length : Int) - (setProfiles features tf region cmp).2.1)) := by
  simp only [setProfiles, hm]
  have hi : (mirrorL L features).map (fun f => if overlaps f (mirrorIv L region) then (-1 : Int) else -2)
      = (features.map (fun f => if overlaps f region then (-1 : Int) else -2)).reverse := by
    simp only [mirrorL, List.map_reverse, List.map_map]
    congr 2; funext f; simp only [Function.comp, Props.C11.mirror_dual_overlaps]
  rw [hi, ← List.reverse_zipWith (by simp [markLoop_length])]
  simp only [List.reverse_reverse, List.length_reverse]
  ext <;> simp <;> omega

end IsoVerif.Lemmas.C11.Lists
