/-
Refinement lemmas for the CIGAR walkers of src/common.py regenerated into `Gen/LoopsCigar.lean` (`get_read_blocks`,
`concat_gapless_blocks`) against the hand model `Model/Cigar.lean`: the loop lemmas `concat_loop`, `rb_loop`.  The refinement
theorems are stated and proved from them in `Props/C16Gen.lean`.
-/
import IsoVerif.Gen.LoopsCigar
import IsoVerif.Lemmas.GenBase
import IsoVerif.Model.Cigar

namespace IsoVerif.Lemmas.GenCigar
open IsoVerif.Gen IsoVerif.Model IsoVerif.Model.C16 IsoVerif.Lemmas.GenLoops

/-- the CIGAR as pysam hands it over — `(code, length)` pairs — decoded to the model's operations;
    `none` = some code is not a `CigarEvent` value (`CigarEvent(code)` raises ValueError) -/
def decodeOps : List Iv → Option (List CigarOp)
  | [] => some []
  | t :: ts =>
    match pyCigarEvent t.1 with
    | none => none
    | some ev => (decodeOps ts).map (fun ops => (ev, t.2) :: ops)

theorem decodeOps_drop {tuples : List Iv} {ops : List CigarOp} (h : decodeOps tuples = some ops) (k : Nat) :
    decodeOps (tuples.drop k) = some (ops.drop k) := by
  induction k generalizing tuples ops with
  | zero => simpa using h
  | succ k ih =>
    cases tuples with
    | nil => simp only [decodeOps, Option.some.injEq] at h; subst h; rfl
    | cons t ts =>
      simp only [decodeOps] at h
      cases hev : pyCigarEvent t.1 with
      | none => simp [hev] at h
      | some ev =>
        cases hd : decodeOps ts with
        | none => simp [hev, hd] at h
        | some os =>
          simp only [hev, hd, Option.map_some, Option.some.injEq] at h
          subst h
          exact ih hd

/-- what `concat_gapless_blocks` returns for the model's final `(resulting_blocks, current_block)` -/
def cfin : List Iv × Option Iv → List Iv
  | (res, some c) => res ++ [c]
  | (res, none) => res

theorem concat_after1 (blocks tuples : List Iv) (ci bi : Int) (res : List Iv) (cur : Option Iv) (del : Int) :
    concat_gapless_blocks.after1 blocks tuples ci bi res cur del = some (cfin (res, cur)) := by
  unfold concat_gapless_blocks.after1
  cases cur <;> simp [cfin]

theorem concat_loop (blocks tuples : List Iv) (ops : List CigarOp) (hdec : decodeOps tuples = some ops)
    (fuel kc kb : Nat) (res : List Iv) (cur : Option Iv) (del : Int) (hf : (tuples.drop kc).length < fuel) :
    concat_gapless_blocks.loop1 blocks tuples fuel (kc : Int) (kb : Int) res cur del
      = some (cfin (concatGaplessAux cur del res (ops.drop kc) (blocks.drop kb))) := by
  induction fuel generalizing kc kb res cur del with
  | zero => omega
  | succ fuel ih =>
    unfold concat_gapless_blocks.loop1
    rcases cursor_cases tuples kc with ⟨hn1, hl1⟩ | ⟨t, hd1, hx, hl1, hc1⟩
    · have hnil : ops.drop kc = [] := by
        simpa only [hn1, decodeOps, Option.some.injEq, eq_comm] using decodeOps_drop hdec kc
      simp only [hl1, decide_false, Bool.false_and, Bool.false_eq_true, if_false, concat_after1, hnil,
        concatGaplessAux]
    · rcases cursor_cases blocks kb with ⟨hn2, hl2⟩ | ⟨b, hd2, hy, hl2, hc2⟩
      · simp only [hl2, decide_false, Bool.and_false, Bool.false_eq_true, if_false, concat_after1, hn2]
        cases ops.drop kc <;> simp [concatGaplessAux]
      · simp only [hd1, List.length_cons] at hf
        have hop := decodeOps_drop hdec kc
        rw [hd1, decodeOps, decodeOps_drop hdec (kc + 1)] at hop
        cases hev : pyCigarEvent t.1 with
        | none => simp [hev] at hop
        | some ev =>
        simp only [hev, Option.map_some, Option.some.injEq] at hop
        simp only [hl1, hl2, decide_true, Bool.and_self, if_true, hx, hev, hy, hc1, hc2]
        rw [← hop, hd2]
        have ih0 := fun res cur del => ih (kc + 1) kb res cur del (by omega)
        have ih1 := fun res cur del => ih (kc + 1) (kb + 1) res cur del (by omega)
        rw [hd2] at ih0
        cases cur with
        | none =>
          simp only [Option.isNone_none, if_true, concatGaplessAux]
          by_cases hm : ev.in_cigar_match_events = true
          · simp only [hm, if_true, ih1]
          · by_cases hdl : ev = CigarEvent.deletion
            · subst hdl; simp only [hm, decide_true, Bool.false_eq_true, if_true, if_false, ih0]
            · simp only [hm, hdl, decide_false, Bool.false_eq_true, if_false, ih0]
        | some c =>
          simp only [Option.isNone_some, Bool.false_eq_true, if_false, concatGaplessAux]
          by_cases hs : ev = CigarEvent.skipped
          · simp only [hs, decide_true, if_true, ih0]
          · by_cases hdl : ev = CigarEvent.deletion
            · subst hdl; simp only [hs, decide_true, decide_false, Bool.false_eq_true, if_true, if_false, ih0]
            · by_cases hm : ev.in_cigar_match_events = true <;>
                simp only [hs, hdl, hm, decide_false, Bool.false_eq_true, if_true, if_false, ih0, ih1]

/-- the returned triple -/
def rbOut (st : RBState) : List Iv × List Iv × List Iv := (st.refBlocks, st.readBlocks, st.cigarBlocks)

/-- the three None-able locals of the Python code carry the components of the model's one `Option` triple -/
def Link (cur : Option (Int × Int × Int)) (a b c : Option Int) : Prop :=
  a = cur.map (·.1) ∧ b = cur.map (·.2.1) ∧ c = cur.map (·.2.2)

theorem rb_after1 (s : Int) (tuples : List Iv) (rp fp idx : Int) (cur : Option (Int × Int × Int)) (a b c : Option Int)
    (hl : Link cur a b c) (hm : Bool) (rb cb rdb : List Iv) :
    get_read_blocks.after1 s tuples rp fp idx a b c hm rb cb rdb
      = some (rbOut (finish ⟨rp, fp, idx, cur, hm, rb, rdb, cb⟩)) := by
  obtain ⟨rfl, rfl, rfl⟩ := hl
  unfold get_read_blocks.after1 finish rbOut
  cases cur with
  | none => simp [pyTruthyOptInt, truthy]
  | some t =>
    obtain ⟨x, y, z⟩ := t
    by_cases hx : x = 0 <;> cases hm <;> simp [pyTruthyOptInt, truthy, pushBlock, hx]

theorem rb_bind_cons (ev : CigarEvent) (n : Int) (o : Option (List CigarOp)) (st : RBState) :
    (o.map (fun ops => (ev, n) :: ops)).bind (fun ops => some (rbOut (finish (ops.foldl step st))))
      = o.bind (fun ops => some (rbOut (finish (ops.foldl step (step st (ev, n)))))) := by
  cases o <;> rfl

theorem rb_loop (s : Int) (tuples : List Iv) (fuel k : Nat) (rp fp : Int) (cur : Option (Int × Int × Int))
    (a b c : Option Int) (hl : Link cur a b c) (hm : Bool) (rb cb rdb : List Iv)
    (hf : (tuples.drop k).length < fuel) :
    get_read_blocks.loop1 s tuples fuel rp fp (k : Int) a b c hm rb cb rdb
      = (decodeOps (tuples.drop k)).bind
          (fun ops => some (rbOut (finish (ops.foldl step ⟨rp, fp, (k : Int), cur, hm, rb, rdb, cb⟩)))) := by
  induction fuel generalizing k rp fp cur a b c hm rb cb rdb with
  | zero => omega
  | succ fuel ih =>
    unfold get_read_blocks.loop1
    rcases cursor_cases tuples k with ⟨hnil, hl1⟩ | ⟨t, hd, hx, hl1, hc1⟩
    · simp only [hl1, decide_false, Bool.false_eq_true, if_false, hnil, decodeOps, Option.bind_some, List.foldl_nil]
      exact rb_after1 s tuples rp fp k cur a b c hl hm rb cb rdb
    · simp only [hd, List.length_cons] at hf
      simp only [hl1, decide_true, if_true, hx, hd, decodeOps]
      cases hev : pyCigarEvent t.1 with
      | none => rfl
      | some ev =>
        simp only [rb_bind_cons, step]
        obtain ⟨rfl, rfl, rfl⟩ := hl
        generalize t.2 = n
        -- every branch of the loop body ends in the recursive call, with the locals of the model's next state
        have next0 : ∀ (rp fp : Int) (hm : Bool) (rb cb rdb : List Iv),
            get_read_blocks.loop1 s tuples fuel rp fp ((k : Int) + 1) none none none hm rb cb rdb =
            (decodeOps (tuples.drop (k + 1))).bind (fun ops =>
              some (rbOut (finish (ops.foldl step ⟨rp, fp, (k : Int) + 1, none, hm, rb, rdb, cb⟩)))) := by
          rw [hc1]; exact fun rp fp hm rb cb rdb => ih (k + 1) rp fp none _ _ _ ⟨rfl, rfl, rfl⟩ hm rb cb rdb (by omega)
        have next1 : ∀ (rp fp x y z : Int) (hm : Bool) (rb cb rdb : List Iv),
            get_read_blocks.loop1 s tuples fuel rp fp ((k : Int) + 1) (some x) (some y) (some z) hm rb cb rdb =
            (decodeOps (tuples.drop (k + 1))).bind (fun ops =>
              some (rbOut (finish (ops.foldl step ⟨rp, fp, (k : Int) + 1, some (x, y, z), hm, rb, rdb, cb⟩)))) := by
          rw [hc1]
          exact fun rp fp x y z hm rb cb rdb => ih (k + 1) rp fp (some (x, y, z)) _ _ _ ⟨rfl, rfl, rfl⟩ hm rb cb rdb (by omega)
        rcases cur with _ | ⟨x, y, z⟩ <;> cases ev <;>
          simp [stepBody, closeBlock, truthy, pushBlock, pyTruthyOptInt, next0, next1,
            CigarEvent.in_cigar_ins_del_match_events, CigarEvent.in_cigar_match_events, cigar_ins_del_match_events,
            cigar_match_events]
        -- left: `N` / `S` on an open block, where the truthiness of its start and `has_match` decide
        all_goals by_cases hx0 : x = 0 <;> cases hm <;> simp [hx0]

end IsoVerif.Lemmas.GenCigar
