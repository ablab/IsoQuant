import IsoVerif.Lemmas.Lists

/-! Invariant of the main loop of `jaccard_similarity` (`jaccardLoop_spec`), from what one overlapping pair adds to
intersection and union under the two `included` flags (`ovInter_eq`, `ovUnion_eq`).  A flag says that the head of its list
is in the union already (the closed form subtracts `headLen`); a flagged head was overlapped by a block of the other list
that has been passed, so it starts before the other head (`hI1`, `hI2`), and both heads are never flagged at once (`hn`,
the `assert` of the loop). -/

namespace IsoVerif.Lemmas
open IsoVerif.Gen IsoVerif.Model

def headLen : List Iv → Int
  | [] => 0
  | a :: _ => a.2 - a.1 + 1

@[simp] theorem headLen_cons (a : Iv) (l : List Iv) : headLen (a :: l) = a.2 - a.1 + 1 := rfl
@[simp] theorem headLen_nil : headLen [] = 0 := rfl

theorem tailUnion_false (l : List Iv) : tailUnion false l = intervalsTotalLength l := by
  induction l with
  | nil => rfl
  | cons a t ih => simp [tailUnion, intervalsTotalLength, interval_len, ih]

theorem tailUnion_eq (inc : Bool) (l : List Iv) :
    tailUnion inc l = intervalsTotalLength l - (if inc then headLen l else 0) := by
  cases l with
  | nil => simp [tailUnion, intervalsTotalLength, headLen]
  | cons a t =>
    simp only [tailUnion, tailUnion_false, intervalsTotalLength, interval_len, headLen]
    split <;> simp <;> omega

theorem ite_zero_eq_sub (c : Bool) (x : Int) : (if c then 0 else x) = x - (if c then x else 0) := by
  cases c <;> simp

theorem ovInter_eq {a b : Iv} (h : overlaps a b = true) (ha : a.1 ≤ a.2) (hb : b.1 ≤ b.2) : ovInter a b = intersection_len a b := by
  simp [overlaps] at h
  rw [ovInter, intersection_len]; omega

theorem ovUnion_eq {a b : Iv} {i1 i2 : Bool} (h : overlaps a b = true) (ha : a.1 ≤ a.2) (hb : b.1 ≤ b.2)
    (hn : ¬(i1 = true ∧ i2 = true)) (h1 : i1 = true → a.1 < b.1) (h2 : i2 = true → b.1 < a.1) :
    ovUnion a b i1 i2 = (a.2 - a.1 + 1) + (b.2 - b.1 + 1) - intersection_len a b
      - (if i1 then a.2 - a.1 + 1 else 0) - (if i2 then b.2 - b.1 + 1 else 0) := by
  simp only [overlaps_true_iff] at h
  simp only [ovUnion, intersection_len]
  cases i1 <;> cases i2 <;> simp at hn h1 h2 ⊢ <;> omega

theorem jaccardLoop_spec (l1 : List Iv) (i1 : Bool) (l2 : List Iv) (i2 : Bool)
    (h1 : SD l1) (h2 : SD l2) (w1 : WFl l1) (w2 : WFl l2)
    (hn : ¬(i1 = true ∧ i2 = true))
    (hI1 : i1 = true → ∀ a ∈ l1.head?, ∀ b ∈ l2.head?, a.1 < b.1)
    (hI2 : i2 = true → ∀ a ∈ l1.head?, ∀ b ∈ l2.head?, b.1 < a.1) :
    jaccardLoop l1 i1 l2 i2 = some (inter l1 l2,
      intervalsTotalLength l1 + intervalsTotalLength l2 - inter l1 l2
        - (if i1 then headLen l1 else 0) - (if i2 then headLen l2 else 0)) := by
  fun_induction jaccardLoop l1 i1 l2 i2 with
  | case1 i1 l2 i2 =>
    simp only [inter_nil_left, tailUnion_eq, intervalsTotalLength, headLen_nil]
    congr 2; split <;> simp
  | case2 a as i1 i2 =>
    simp only [inter_nil_right, tailUnion_eq, intervalsTotalLength, headLen_nil]
    congr 2; split <;> simp
  | case3 a as i1 b bs i2 hov hboth =>
    exfalso; apply hn; simpa using hboth
  | case4 a as i1 b bs i2 hov hboth hlt ih =>
    have ha := WFl_head w1
    have hb := WFl_head w2
    have hA : i1 = true → a.1 < b.1 := fun hi => hI1 hi a rfl b rfl
    have hB : i2 = true → b.1 < a.1 := fun hi => hI2 hi a rfl b rfl
    have hov' := hov
    simp only [overlaps_true_iff] at hov'
    rw [ih h1 (SD_tail h2) w1 (WFl_tail w2) (fun h => nomatch h.2)
      (fun _ x hx y hy => by cases hx; have := SD_head_lt h2 hy; omega) (fun h => nomatch h),
      ovInter_eq hov ha hb, ovUnion_eq hov ha hb hn hA hB, inter_skip_right bs h1 w1 (by omega)]
    simp only [Option.map_some, intervalsTotalLength, interval_len, headLen_cons, ↓reduceIte, Bool.false_eq_true,
      Option.some.injEq, Prod.mk.injEq]
    omega
  | case5 a as i1 b bs i2 hov hboth hlt ih =>
    have ha := WFl_head w1
    have hb := WFl_head w2
    have hA : i1 = true → a.1 < b.1 := fun hi => hI1 hi a rfl b rfl
    have hB : i2 = true → b.1 < a.1 := fun hi => hI2 hi a rfl b rfl
    have hov' := hov
    simp only [overlaps_true_iff] at hov'
    rw [ih (SD_tail h1) h2 (WFl_tail w1) w2 (fun h => nomatch h.1) (fun h => nomatch h)
      (fun _ x hx y hy => by cases hy; have := SD_head_lt h1 hx; omega),
      ovInter_eq hov ha hb, ovUnion_eq hov ha hb hn hA hB, inter_skip_left as h2 w2 (by omega)]
    simp only [Option.map_some, intervalsTotalLength, interval_len, headLen_cons, ↓reduceIte, Bool.false_eq_true,
      Option.some.injEq, Prod.mk.injEq]
    omega
  | case6 a as i1 b bs i2 hov hlo ih =>
    have ha := WFl_head w1
    have hb := WFl_head w2
    have hA : i1 = true → a.1 < b.1 := fun hi => hI1 hi a rfl b rfl
    simp only [left_of, decide_eq_true_eq] at hlo
    have hab : intersection_len a b = 0 := by simp only [intersection_len]; omega
    rw [ih h1 (SD_tail h2) w1 (WFl_tail w2) (fun h => nomatch h.2)
      (fun hi x hx y hy => by cases hx; have := SD_head_lt h2 hy; have := hA hi; omega) (fun h => nomatch h),
      inter_skip_right bs h1 w1 (by omega), ite_zero_eq_sub]
    simp only [Option.map_some, intervalsTotalLength, interval_len, headLen_cons, ↓reduceIte, Bool.false_eq_true,
      Option.some.injEq, Prod.mk.injEq]
    omega
  | case7 a as i1 b bs i2 hov hlo ih =>
    have ha := WFl_head w1
    have hb := WFl_head w2
    have hB : i2 = true → b.1 < a.1 := fun hi => hI2 hi a rfl b rfl
    simp only [left_of, decide_eq_true_eq] at hlo
    simp [overlaps] at hov
    have hab : intersection_len a b = 0 := by simp only [intersection_len]; omega
    rw [ih (SD_tail h1) h2 (WFl_tail w1) w2 (fun h => nomatch h.1) (fun h => nomatch h)
      (fun hi x hx y hy => by cases hy; have := SD_head_lt h1 hx; have := hB hi; omega),
      inter_skip_left as h2 w2 (by omega), ite_zero_eq_sub]
    simp only [Option.map_some, intervalsTotalLength, interval_len, headLen_cons, ↓reduceIte, Bool.false_eq_true,
      Option.some.injEq, Prod.mk.injEq]
    omega
end IsoVerif.Lemmas
