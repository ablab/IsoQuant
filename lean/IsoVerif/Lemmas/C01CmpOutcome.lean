/-
What each classifier of `compare_overlapping_contradictional_regions` (Model/JunctionCompare.lean) can answer, and what it
tested when the answer is not a plain major inconsistency.  Every later fact about the event types of the comparator
(membership in `comparator_event_types`, the converse clause, the end artifacts) is read off these statements: `plain t`
marks an answer that needs no explanation, `BothTolerated`, `FakeTerminalAt` record what was tested for the others.
`fun_cases f` numbers the branches of `f` in the order of its definition in Model/JunctionCompare.lean (`case1` = first
`if` / first `match` arm, then depth first); every case used below is labelled with the branch it is, the catch-all lines
close the branches that raise (`none`) and those that answer a plain type.  Core Lean only.
-/
import IsoVerif.Lemmas.C01CmpTotal

namespace IsoVerif.Lemmas.C01Cmp
open IsoVerif.Gen IsoVerif.Model IsoVerif.Model.C01 IsoVerif.Lemmas

/-- one of the six end-artifact types -/
def isArt (t : MatchEventSubtype) : Bool :=
  decide (t = .fake_terminal_exon_right ∨ t = .fake_terminal_exon_left ∨ t = .terminal_exon_misalignment_right ∨
    t = .terminal_exon_misalignment_left ∨ t = .incomplete_intron_retention_right ∨ t = .incomplete_intron_retention_left)

/-- a type the comparator names that is a major inconsistency and no end artifact: an answer that needs no explanation -/
def plain (t : MatchEventSubtype) : Bool :=
  comparator_event_types.contains t && t.is_major_inconsistency && !isArt t

theorem plain_iff {t : MatchEventSubtype} :
    plain t = true ↔ t ∈ comparator_event_types ∧ t.is_major_inconsistency = true ∧ isArt t = false := by
  simp [plain, and_assoc]

theorem alternative_sites_plain {s : String} {k : Bool} {t : MatchEventSubtype} (h : alternative_sites s k = some t) :
    plain t = true := by
  obtain ⟨p, hp, rfl⟩ := Option.map_eq_some_iff.mp h
  exact (by decide : ∀ q ∈ alternative_sites_table, plain q.2 = true) p (List.mem_of_find?_eq_some hp)

theorem altSiteEvent_plain {c rr rj ir ij rc ic r k known t} (h : altSiteEvent c rr rj ir ij rc ic r k known = some t) :
    plain t = true := by
  revert h
  fun_cases altSiteEvent c rr rj ir ij rc ic r k known <;> intro h
  -- left sites (case1) / right sites (case4) within δ and the neighbouring exons overlap: `alternative_sites[…]`
  case case1 | case4 => exact alternative_sites_plain h
  -- an exon look-up raised
  case case3 | case6 => cases h
  -- otherwise `intron_alternation_known / _novel`
  all_goals rw [← Option.some.inj h]; cases known <;> rfl

theorem relabelSuspicious_plain {c rr rj rc ev t} (hev : plain ev = true) (h : relabelSuspicious c rr rj rc ev = some t) :
    plain t = true := by
  revert h
  fun_cases relabelSuspicious c rr rj rc ev <;> intro h <;> cases h <;> first | exact hev | rfl

/-- `classify_single_intron_alternation`: plain, or `intron_shift` (similar total length, left sites within
    max_intron_shift) -/
theorem classifySingle_spec {c rr rj ir ij rc ic s k t} (h : classifySingle c rr rj ir ij rc ic s k = some t) :
    plain t = true ∨ (t = .intron_shift ∧ s = true ∧
      ∃ r kk, rj[rc]? = some r ∧ ij[ic]? = some kk ∧ iabs (kk.1 - r.1) ≤ c.q.max_intron_shift) := by
  revert h
  fun_cases classifySingle c rr rj ir ij rc ic s k <;> intro h
  -- similar lengths, left sites within `max_intron_shift`: `intron_shift`
  case case1 r kk hk hr hs hsh => cases h; exact Or.inr ⟨rfl, hs, r, kk, hr, hk, hsh⟩
  -- lengths not similar: alternative site / intron alternation, possibly relabelled `intron_retention`
  case case5 hev => exact Or.inl (relabelSuspicious_plain (altSiteEvent_plain hev) h)
  -- `intron_migration`, `intron_alternation_novel`; a look-up raised
  all_goals cases h
  all_goals exact Or.inl rfl

/-- the terminal-exon branch: plain, or `terminal_exon_misalignment_*` (left iff `r0 = 0`; the two outermost exons at the
    end chosen by `r0 = 0 ∧ i0 = 0` have similar lengths) -/
theorem classifyTerminal_spec {c rr rj ir ij r0 i0 k t} (h : classifyTerminal c rr rj ir ij r0 i0 k = some t) :
    plain t = true ∨
    (t = (if r0 = 0 then .terminal_exon_misalignment_left else .terminal_exon_misalignment_right) ∧
     ((r0 = 0 ∧ i0 = 0 ∧ ∃ a b, getPrecedingExon rr rj 0 = some a ∧ getPrecedingExon ir ij 0 = some b ∧
        iabs (interval_len a - interval_len b) < 2 * c.p.delta) ∨
      (¬ (r0 = 0 ∧ i0 = 0) ∧ ∃ a b, getFollowingExon rr rj (-1) = some a ∧ getFollowingExon ir ij (-1) = some b ∧
        iabs (interval_len a - interval_len b) < 2 * c.p.delta))) := by
  have key : ∀ re ie, (if r0 = 0 ∧ i0 = 0 then
        match getPrecedingExon rr rj 0, getPrecedingExon ir ij 0 with
        | some a, some b => some (a, b)
        | _, _ => none
      else
        match getFollowingExon rr rj (-1), getFollowingExon ir ij (-1) with
        | some a, some b => some (a, b)
        | _, _ => none) = some (re, ie) →
      iabs (interval_len re - interval_len ie) < 2 * c.p.delta →
      ((r0 = 0 ∧ i0 = 0 ∧ ∃ a b, getPrecedingExon rr rj 0 = some a ∧ getPrecedingExon ir ij 0 = some b ∧
        iabs (interval_len a - interval_len b) < 2 * c.p.delta) ∨
      (¬ (r0 = 0 ∧ i0 = 0) ∧ ∃ a b, getFollowingExon rr rj (-1) = some a ∧ getFollowingExon ir ij (-1) = some b ∧
        iabs (interval_len a - interval_len b) < 2 * c.p.delta)) := by
    intro re ie hex hlen
    by_cases h00 : r0 = 0 ∧ i0 = 0
    · rw [if_pos h00] at hex
      cases ha : getPrecedingExon rr rj 0 <;> cases hb : getPrecedingExon ir ij 0 <;> rw [ha, hb] at hex <;> cases hex
      exact Or.inl ⟨h00.1, h00.2, _, _, rfl, rfl, hlen⟩
    · rw [if_neg h00] at hex
      cases ha : getFollowingExon rr rj (-1) <;> cases hb : getFollowingExon ir ij (-1) <;> rw [ha, hb] at hex <;> cases hex
      exact Or.inr ⟨h00, _, _, rfl, rfl, hlen⟩
  revert h
  fun_cases classifyTerminal c rr rj ir ij r0 i0 k <;> intro h
  -- terminal exons of similar length: `terminal_exon_misalignment_left` (case2, `r0 = 0`) / `_right` (case3)
  case case2 exons re ie hex hlen h0 => cases h; exact Or.inr ⟨(if_pos h0).symm, key re ie hex hlen⟩
  case case3 exons re ie hex hlen h0 => cases h; exact Or.inr ⟨(if_neg h0).symm, key re ie hex hlen⟩
  -- an exon look-up raised; `terminal_exon_shift_known / _novel`
  all_goals cases h
  all_goals exact Or.inl rfl

/-- `classify_skipped_exons`: plain, or `exon_misalignment` (the skipped exons are short) -/
theorem classifySkipped_spec {c ij i0 i1 s k sb t} (h : classifySkipped c ij i0 i1 s k sb = some (some t)) :
    plain t = true ∨ (t = .exon_misalignment ∧
      ∃ total, skippedExonLen ij i0 (i1 - i0) = some total ∧ total ≤ c.p.max_missed_exon_len) := by
  revert h
  fun_cases classifySkipped c ij i0 i1 s k sb <;> intro h
  -- similar lengths and short skipped exons: `exon_misalignment`
  case case2 total htot _ hle => cases h; exact Or.inr ⟨rfl, total, htot, hle⟩
  -- the sum raised; `exon_merge_*`, `exon_skipping_*`; no event
  all_goals cases h
  all_goals exact Or.inl rfl

/-- the answers of the general branch that are not major inconsistencies, each with what the code tested -/
def BothTolerated (c : CmpCtx) (rr : Iv) (rj : List Iv) (ir : Iv) (ij : List Iv) (r0 r1 i0 i1 : Nat)
    (t : MatchEventSubtype) : Prop :=
  r1 = r0 ∧
  ((t = .intron_shift ∧ i1 = i0 ∧ ∃ r k, rj[r0]? = some r ∧ ij[i0]? = some k ∧ iabs (k.1 - r.1) ≤ c.q.max_intron_shift ∧
      iabs (interval_len r - interval_len k) ≤ c.q.max_intron_abs_diff) ∨
   (i1 = i0 ∧ rj.length > 1 ∧ i0 < ij.length ∧
     ((t = .terminal_exon_misalignment_left ∧ r0 = 0 ∧ i0 = 0 ∧
        ∃ a b, getPrecedingExon rr rj 0 = some a ∧ getPrecedingExon ir ij 0 = some b ∧
          iabs (interval_len a - interval_len b) < 2 * c.p.delta) ∨
      (t = .terminal_exon_misalignment_right ∧ (r0 : Int) = (rj.length : Int) - 1 ∧ (i0 : Int) = (ij.length : Int) - 1 ∧
        ∃ a b, getFollowingExon rr rj (-1) = some a ∧ getFollowingExon ir ij (-1) = some b ∧
          iabs (interval_len a - interval_len b) < 2 * c.p.delta))) ∨
   (t = .exon_misalignment ∧ i0 < i1 ∧
      ∃ total, skippedExonLen ij i0 (i1 - i0) = some total ∧ total ≤ c.p.max_missed_exon_len))

theorem sliceIncl_single {α} (l : List α) (a : Nat) (x : α) (h : l[a]? = some x) : sliceIncl l a a = some [x] := by
  obtain ⟨hlt, rfl⟩ := List.getElem?_eq_some_iff.mp h
  have e : a + 1 - a = 1 := by omega
  rw [sliceIncl, if_neg (Nat.lt_irrefl a), if_pos hlt, e, List.drop_eq_getElem_cons hlt]; rfl

theorem gatherBoth_single {c rr rj ir ij r0 i0 d} (h : gatherBoth c rr rj ir ij r0 r0 i0 i0 = some d) :
    ∃ r k, rj[r0]? = some r ∧ ij[i0]? = some k ∧ d.rt = interval_len r ∧ d.it = interval_len k := by
  revert h
  fun_cases gatherBoth c rr rj ir ij r0 r0 i0 i0 <;> intro h
  -- every look-up succeeds; the names kept: the two slices (`hrs`, `his`) and the introns `ra = rj[r0]`, `ia = ij[i0]`
  case case1 rsel isel known _ his hrs _ _ _ _ _ _ _ _ ra _ ia _ _ hia _ hra =>
    cases h
    rw [sliceIncl_single rj r0 ra hra] at hrs
    rw [sliceIncl_single ij i0 ia hia] at his
    cases hrs; cases his
    exact ⟨ra, ia, hra, hia, by simp [intervalsTotalLength], by simp [intervalsTotalLength]⟩
  -- a look-up raised
  all_goals cases h

theorem cascadeBoth_spec {c rr rj ir ij r0 r1 i0 i1 d t} (hg : gatherBoth c rr rj ir ij r0 r1 i0 i1 = some d)
    (h : cascadeBoth c rr rj ir ij r0 r1 i0 i1 d = some (some t)) :
    plain t = true ∨ BothTolerated c rr rj ir ij r0 r1 i0 i1 t := by
  revert h
  fun_cases cascadeBoth c rr rj ir ij r0 r1 i0 i1 d <;> intro h
  -- surrounded, one intron against one: `classify_single_intron_alternation`
  case case1 similar hc =>
    obtain ⟨a, ha, hat⟩ := Option.map_eq_some_iff.mp h
    cases hat
    obtain ⟨_, rfl, rfl⟩ := hc
    refine (classifySingle_spec ha).imp id fun ⟨ht, hs, r, k, hr, hk, hsh⟩ => ?_
    obtain ⟨r', k', hr', hk', hrt, hit⟩ := gatherBoth_single hg
    rw [hr] at hr'; rw [hk] at hk'; cases hr'; cases hk'
    simp only [similar, intronLengthSimilar, Bool.and_eq_true, decide_eq_true_eq, hrt, hit] at hs
    exact ⟨rfl, Or.inl ⟨by simpa using ht, rfl, r, k, hr, hk, hsh, hs.1⟩⟩
  -- first / last intron of a read with ≥ 2 introns, far site similar: the terminal-exon branch
  case case2 hc =>
    obtain ⟨a, ha, hat⟩ := Option.map_eq_some_iff.mp h
    cases hat
    obtain ⟨hn, rfl, rfl, hdis⟩ := hc
    refine (classifyTerminal_spec ha).imp id fun ⟨ht, hcase⟩ => ?_
    obtain ⟨_, k', _, hk', _⟩ := gatherBoth_single hg
    have hi0 := (List.getElem?_eq_some_iff.mp hk').1
    refine ⟨rfl, Or.inr (Or.inl ⟨rfl, hn, hi0, ?_⟩)⟩
    rcases hcase with ⟨h0, h1, hx⟩ | ⟨hne, hx⟩
    · exact Or.inl ⟨by rw [ht, if_pos h0], h0, h1, hx⟩
    · rcases hdis with ⟨a0, b0, _⟩ | ⟨a0, b0, _⟩
      · exact absurd ⟨a0, b0⟩ hne
      · exact Or.inr ⟨by rw [ht, if_neg (by omega)], a0, b0, hx⟩
  -- one read intron inside several isoform introns: `classify_skipped_exons`
  case case5 hc =>
    exact (classifySkipped_spec h).imp id fun ⟨ht, hx⟩ => ⟨hc.2.2.1, Or.inr (Or.inr ⟨ht, hc.2.2.2, hx⟩)⟩
  -- mutually exclusive exons, exon gain (or `intron_retention` / `suspiciousIntrons` raised), exon detach; no event
  all_goals cases h
  all_goals exact Or.inl rfl

/-- the general branch: a plain major inconsistency, or one of the tolerated classes (intron shift, terminal exon
    misalignment, exon misalignment) -/
theorem classifyBothTy_spec {c rr rj ir ij r0 r1 i0 i1 t} (h : classifyBothTy c rr rj ir ij r0 r1 i0 i1 = some t) :
    plain t = true ∨ BothTolerated c rr rj ir ij r0 r1 i0 i1 t := by
  revert h
  fun_cases classifyBothTy c rr rj ir ij r0 r1 i0 i1 <;> intro h
  -- the cascade answered
  case case3 d hd t' hc => cases h; exact cascadeBoth_spec hd hc
  -- something raised; the cascade left `event = None`: `alternative_structure_*` or `intron_retention`
  all_goals cases h
  all_goals exact Or.inl rfl

/-- the missed-intron branch: the event, the isoform intron it is about, and what was tested for the two end artifacts -/
theorem classifyRetention_spec {c rr rj ij rp ip e} (h : classifyRetention c rr rj ij rp ip = some (some e)) :
    ∃ t k, e = mkEvent t ((ip : Int), (ip : Int)) (absentPos, (rp : Int)) ∧ ij[ip]? = some k ∧
      (t = .fake_micro_intron_retention ∨ t = .intron_retention ∨
       ((t = .incomplete_intron_retention_left ∧ k.1 ≤ rr.1 ∨ t = .incomplete_intron_retention_right ∧ rr.1 < k.1) ∧
         contains rr k = false ∧ overlaps_at_least rr k c.p.minor_exon_extension = true)) := by
  revert h
  fun_cases classifyRetention c rr rj ij rp ip <;> intro h <;> cases h
  -- case1, case2 raise and case8 returns None (closed by `cases h`); intron inside the read region:
  -- micro intron well inside the preceding exon (case3), not well inside (case4), longer intron (case5)
  case case3 k hk _ _ _ _ _ => exact ⟨_, k, rfl, hk, Or.inl rfl⟩
  case case4 k hk _ _ _ _ _ => exact ⟨_, k, rfl, hk, Or.inr (Or.inl rfl)⟩
  case case5 k hk _ _ => exact ⟨_, k, rfl, hk, Or.inr (Or.inl rfl)⟩
  -- not inside but overlapping by `minor_exon_extension`: incomplete retention left (case6) / right (case7)
  case case6 k hk hnc hov hle => exact ⟨_, k, rfl, hk, Or.inr (Or.inr ⟨Or.inl ⟨rfl, hle⟩, by simpa using hnc, hov⟩)⟩
  case case7 k hk hnc hov hle =>
    exact ⟨_, k, rfl, hk, Or.inr (Or.inr ⟨Or.inr ⟨rfl, by omega⟩, by simpa using hnc, hov⟩)⟩

/-- a fake terminal exon next to read intron `rp`: the first (last) intron with a short first (last) exon -/
def FakeTerminalAt (c : CmpCtx) (rr : Iv) (rj : List Iv) (rp : Nat) (e : Event) : Prop :=
  (e = mkEvent .fake_terminal_exon_left extraLeftRegion ((rp : Int), (rp : Int)) ∧ rp = 0 ∧
    ∃ ex, getExon rr rj 0 = some ex ∧ interval_len ex ≤ c.p.max_fake_terminal_exon_len) ∨
  (e = mkEvent .fake_terminal_exon_right extraRightRegion ((rp : Int), (rp : Int)) ∧ (rp : Int) = (rj.length : Int) - 1 ∧
    ∃ ex, getExon rr rj (-1) = some ex ∧ interval_len ex ≤ c.p.max_fake_terminal_exon_len)

theorem fakeTerminalOfExtra_spec {c rr rj rp e}
    (h : fakeTerminalOfExtra c rr rj rp ((rp : Int), (rp : Int)) = some (some e)) : FakeTerminalAt c rr rj rp e := by
  revert h
  fun_cases fakeTerminalOfExtra c rr rj rp ((rp : Int), (rp : Int)) <;> intro h
  -- the left test raised (case1), applies (case2), does not apply: the right test decides (case3)
  case case1 => cases h
  case case2 e' hl =>
    cases h; revert hl
    fun_cases fakeLeftOfExtra c rr rj rp ((rp : Int), (rp : Int)) <;> intro hl <;> cases hl
    next h0 ex hex hlen => exact Or.inl ⟨rfl, h0, ex, hex, hlen⟩
  case case3 =>
    revert h
    fun_cases fakeRightOfExtra c rr rj rp ((rp : Int), (rp : Int)) <;> intro h <;> cases h
    next h0 ex hex hlen => exact Or.inr ⟨rfl, h0, ex, hex, hlen⟩

/-- the extra-intron branch: a known / novel extra intron, `none` for a suspicious intron, or a fake terminal exon -/
theorem classifyExtra_spec {c rr rj rp ip e} (h : classifyExtra c rr rj rp ip = some e) :
    (∃ t, e = mkEvent t (absentPos, (ip : Int)) ((rp : Int), (rp : Int)) ∧
      (t = .extra_intron_known ∨ t = .extra_intron_novel ∨
       (t = .none ∧ suspiciousIntrons c rr rj rp rp = some true))) ∨ FakeTerminalAt c rr rj rp e := by
  revert h
  fun_cases classifyExtra c rr rj rp ip <;> intro h <;> cases h
  -- case1, case3, case5: a helper raised.  Known intron (case2), suspicious (case4), fake terminal exon (case6), novel (case7)
  case case2 => exact Or.inl ⟨_, rfl, Or.inl rfl⟩
  case case4 hs => exact Or.inl ⟨_, rfl, Or.inr (Or.inr ⟨rfl, hs⟩)⟩
  case case6 hf => exact Or.inr (fakeTerminalOfExtra_spec hf)
  case case7 => exact Or.inl ⟨_, rfl, Or.inr (Or.inl rfl)⟩

end IsoVerif.Lemmas.C01Cmp
