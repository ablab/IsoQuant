/-
C11 helper lemmas — reflection of the assigner model (Model/Assign.lean, property C01): event tables and penalties,
the two index loops of `categorize_exon_elongation_subtype`, the polyA / polyT pair of src/polya_verification.py as
modelled for C01, candidate selection.  Most names carry the prefix `am_` (assigner, mirror).

For the polyA / polyT pair this file holds the symmetry `mirrorSym L n` (an instance of Lemmas/C11EndSym.lean) and what the
two directions read of the lists (`shift_polyt` loop, the counting loops, the misalignment events); the theorems of the pair
are proved where they are stated, in Props/C11AssignMirror.lean.  The loops over an index range of a profile are reflected
by `am_rangeLoop_mirror`.
-/
import IsoVerif.Model.C11SymAssignMirror
import IsoVerif.Lemmas.C11Mirror
import IsoVerif.Lemmas.C11AssignCommon
import IsoVerif.Lemmas.C11EndSym
import IsoVerif.Lemmas.EventEnum
import IsoVerif.Props.C11

namespace IsoVerif.Lemmas.C11
open IsoVerif.Gen IsoVerif.Model IsoVerif.Model.C01 IsoVerif.Model.C11 IsoVerif.Lemmas
open IsoVerif.Props.C11 (swapLR_involutive swapLR_eq_iff mirror_dual_is_major_elongation mirror_dual_is_minor_elongation)

theorem swapLR_inj (a b : MatchEventSubtype) : swapLR a = swapLR b ↔ a = b := by
  rw [swapLR_eq_iff, swapLR_involutive]

@[simp] theorem am_mirrorEvent_ty (L : Int) (n : Nat) (e : Event) : (mirrorEvent L n e).ty = swapLR e.ty := rfl

theorem isTermMisTy_swapLR (t : MatchEventSubtype) : isTermMisTy (swapLR t) = isTermMisTy t :=
  Lemmas.forall_events (P := fun t => isTermMisTy (swapLR t) = isTermMisTy t) (by decide +kernel) t

theorem isPolyaSiteTy_swapLR (t : MatchEventSubtype) : isPolyaSiteTy (swapLR t) = isPolyaSiteTy t :=
  Lemmas.forall_events (P := fun t => isPolyaSiteTy (swapLR t) = isPolyaSiteTy t) (by decide +kernel) t

theorem isTermMisTy_of_polyaSite (t : MatchEventSubtype) (h : isPolyaSiteTy t = true) : isTermMisTy t = false :=
  Lemmas.forall_events (P := fun t => isPolyaSiteTy t = true → isTermMisTy t = false) (by decide +kernel) t h

theorem mirrorEvent_plain (L : Int) (n : Nat) (e : Event) (h1 : isTermMisTy e.ty = false)
    (h2 : isPolyaSiteTy e.ty = false) : mirrorEvent L n e = { e with ty := swapLR e.ty } := by
  simp only [mirrorEvent, h1, h2, Bool.false_eq_true, if_false]

/-- `eventCount` reads the type only through three sets closed under the swap, and the index range that
    `mirrorEvent` rewrites only for types outside the first of them -/
theorem am_eventCount_mirror (L : Int) (n : Nat) (e : Event) : eventCount (mirrorEvent L n e) = eventCount e := by
  have key := Lemmas.forall_events (P := fun t =>
    ((swapLR t = .exon_skipping_known ∨ swapLR t = .exon_skipping_novel) ↔
      (t = .exon_skipping_known ∨ t = .exon_skipping_novel)) ∧
    ((swapLR t = .exon_gain_novel ∨ swapLR t = .exon_gain_known ∨ swapLR t = .mutually_exclusive_exons_novel ∨
        swapLR t = .mutually_exclusive_exons_known ∨ swapLR t = .exon_detach_known ∨ swapLR t = .exon_detach_novel) ↔
      (t = .exon_gain_novel ∨ t = .exon_gain_known ∨ t = .mutually_exclusive_exons_novel ∨
        t = .mutually_exclusive_exons_known ∨ t = .exon_detach_known ∨ t = .exon_detach_novel)) ∧
    ((swapLR t = .intron_retention ∨ swapLR t = .unspliced_intron_retention ∨ swapLR t = .fake_micro_intron_retention ∨
        swapLR t = .incomplete_intron_retention_left ∨ swapLR t = .incomplete_intron_retention_right) ↔
      (t = .intron_retention ∨ t = .unspliced_intron_retention ∨ t = .fake_micro_intron_retention ∨
        t = .incomplete_intron_retention_left ∨ t = .incomplete_intron_retention_right)) ∧
    (isTermMisTy t = true → ¬ (t = .exon_skipping_known ∨ t = .exon_skipping_novel))) (by decide +kernel) e.ty
  simp only [eventCount, mirrorEvent, key.1, key.2.1, key.2.2.1]
  cases ht : isTermMisTy e.ty with
  | false => simp only [Bool.false_eq_true, if_false]
  | true => simp only [key.2.2.2 ht, and_false, if_false]

/-! ## `categorize_exon_elongation_subtype` -/

theorem endEvents_map_mirror (p : Params) (L : Int) (n : Nat) (terminal : Bool) (extra : Int)
    (pr pl ma mi : MatchEventSubtype) (h : ∀ t ∈ [pr, pl, ma, mi], isTermMisTy t = false ∧ isPolyaSiteTy t = false) :
    (endEvents p terminal extra pr pl ma mi).map (mirrorEvent L n)
      = endEvents p terminal extra (swapLR pr) (swapLR pl) (swapLR ma) (swapLR mi) := by
  have me : ∀ t ∈ [pr, pl, ma, mi], ∀ x : Int,
      mirrorEvent L n { ty := t, info := x } = { ty := swapLR t, info := x } :=
    fun t ht x => mirrorEvent_plain L n _ (h t ht).1 (h t ht).2
  simp only [List.mem_cons, List.not_mem_nil, or_false, forall_eq_or_imp, forall_eq] at me
  by_cases c : iabs extra ≤ p.delta <;>
    simp only [endEvents, c, if_true, if_false, apply_ite (List.map (mirrorEvent L n)), List.map_append, List.map_cons,
      List.map_nil, me]

theorem am_elongLeftOf_mirror (p : Params) (L : Int) (n nEx : Nat) (isoLast cl : Int) (lr sl : Iv) :
    elongLeftOf p ((n : Int) - (isoLast + 1)) ((n : Int) - 1 - cl) (mirrorIv L lr) (mirrorIv L sl)
      = (elongRightOf p isoLast cl lr sl).map (mirrorEvent L nEx) := by
  simp only [elongLeftOf, elongRightOf, Props.C11.mirror_dual_overlaps]
  split
  · rw [endEvents_map_mirror p L nEx _ _ _ _ _ _ (by decide)]
    have e1 : decide ((n : Int) - 1 - cl = (n : Int) - (isoLast + 1)) = decide (cl = isoLast) := by
      apply decide_eq_decide.mpr; omega
    have e2 : (mirrorIv L sl).1 - (mirrorIv L lr).1 = lr.2 - sl.2 := by simp only [mirrorIv]; omega
    rw [e1, e2]; rfl
  · rfl

theorem am_elongRightOf_mirror (p : Params) (L : Int) (n nEx : Nat) (isoFirst cf : Int) (fr sf : Iv) :
    elongRightOf p ((n : Int) - isoFirst - 1) ((n : Int) - 1 - cf) (mirrorIv L fr) (mirrorIv L sf)
      = (elongLeftOf p isoFirst cf fr sf).map (mirrorEvent L nEx) := by
  simp only [elongLeftOf, elongRightOf, Props.C11.mirror_dual_overlaps]
  split
  · rw [endEvents_map_mirror p L nEx _ _ _ _ _ _ (by decide)]
    have e1 : decide ((n : Int) - 1 - cf = (n : Int) - isoFirst - 1) = decide (cf = isoFirst) := by
      apply decide_eq_decide.mpr; omega
    have e2 : (mirrorIv L fr).2 - (mirrorIv L sf).2 = sf.1 - fr.1 := by simp only [mirrorIv]; omega
    rw [e1, e2]; rfl
  · rfl

theorem am_commonFirst_nil_left (B : List Int) (i : Int) : commonFirst [] B i = -1 := by
  cases B <;> rfl

/-- the downward loop over `A`, `B` is the upward loop over the reversed prefixes, index seen from the other end -/
theorem am_commonLast_rev (A B : List Int) (h : A.length = B.length) (m : Nat) (hm : m ≤ A.length) :
    ∃ cl, commonLast A B m ((m : Int) - 1) = some cl ∧
      commonFirst (A.take m).reverse (B.take m).reverse ((A.length : Int) - m) = dualIdx A.length cl ∧
      (cl = -1 ∨ (0 ≤ cl ∧ cl < m)) := by
  induction m with
  | zero => exact ⟨-1, rfl, by simp [commonFirst, dualIdx], Or.inl rfl⟩
  | succ m ih =>
    obtain ⟨cl, h1, h2, h3⟩ := ih (by omega)
    have ha : m < A.length := by omega
    have hb : m < B.length := by omega
    have e1 : (((m + 1 : Nat) : Int) - 1) = (m : Int) := by omega
    have ta : (A.take (m + 1)).reverse = A[m] :: (A.take m).reverse := by
      rw [List.take_add_one, List.reverse_append]; simp [ha]
    have tb : (B.take (m + 1)).reverse = B[m] :: (B.take m).reverse := by
      rw [List.take_add_one, List.reverse_append]; simp [hb]
    rw [e1, ta, tb]
    simp only [commonLast, pyGet?_nat, List.getElem?_eq_getElem ha, List.getElem?_eq_getElem hb, commonFirst]
    by_cases c : A[m] = 1 ∧ B[m] = 1
    · refine ⟨m, by simp [c], ?_, Or.inr ⟨by omega, by omega⟩⟩
      simp only [c, and_self, if_true, dualIdx]
      have : ¬ ((m : Int) = -1) := by omega
      simp only [this, if_false]; omega
    · refine ⟨cl, by simp only [c, if_false]; exact h1, ?_, by omega⟩
      simp only [c, if_false]
      have e2 : (A.length : Int) - ((m + 1 : Nat) : Int) + 1 = (A.length : Int) - m := by omega
      rw [e2]; exact h2

theorem am_dualIdx_dualIdx (n : Nat) (x : Int) (h : x = -1 ∨ (0 ≤ x ∧ x < n)) : dualIdx n (dualIdx n x) = x := by
  simp only [dualIdx]; split <;> (try split) <;> omega

theorem am_commonFirst_of_length_le (A B : List Int) (f : Nat) (i : Int) (hf : A.length ≤ f) :
    commonFirst (A.drop f) (B.drop f) i = -1 := by
  rw [List.drop_eq_nil_of_le hf, am_commonFirst_nil_left]

theorem am_commonLast_dual (A B : List Int) (hAB : A.length = B.length) (y : Int) (hy : y < A.length) :
    ∃ cl, commonLast A B (y + 1).toNat y = some cl ∧
      commonFirst (A.reverse.drop ((A.length : Int) - 1 - y).toNat) (B.reverse.drop ((A.length : Int) - 1 - y).toNat)
        ((A.length : Int) - 1 - y) = dualIdx A.length cl ∧
      (cl = -1 ∨ (0 ≤ cl ∧ cl < A.length)) := by
  obtain ⟨cl, l1, l2, l3⟩ := am_commonLast_rev A B hAB (y + 1).toNat (by omega)
  by_cases h1 : 0 ≤ y + 1
  · refine ⟨cl, ?_, ?_, by omega⟩
    · have e : (((y + 1).toNat : Nat) : Int) - 1 = y := by omega
      rw [e] at l1; exact l1
    · have e : (A.length : Int) - ((y + 1).toNat : Nat) = (A.length : Int) - 1 - y := by omega
      have e' : ((A.length : Int) - 1 - y).toNat = A.length - (y + 1).toNat := by omega
      rw [e] at l2
      rw [e', ← l2, List.drop_reverse, List.drop_reverse]
      congr 3 <;> omega
  · have e : (y + 1).toNat = 0 := by omega
    rw [e] at l1 ⊢
    obtain rfl : -1 = cl := by simpa [commonLast] using l1
    exact ⟨-1, rfl, by rw [am_commonFirst_of_length_le _ _ _ _ (by simp; omega)]; rfl, Or.inl rfl⟩

/-- by the downward lemma for `A`, `B` and for the reversed profiles -/
theorem am_commonEnds_dual (A B : List Int) (hAB : A.length = B.length) (x y : Int) (hx : 0 ≤ x) (hy : y < A.length) :
    ∃ cf cl,
      commonFirst (A.drop x.toNat) (B.drop x.toNat) x = cf ∧
      commonLast A B (y + 1).toNat y = some cl ∧
      commonFirst (A.reverse.drop ((A.length : Int) - 1 - y).toNat) (B.reverse.drop ((A.length : Int) - 1 - y).toNat)
        ((A.length : Int) - 1 - y) = dualIdx A.length cl ∧
      commonLast A.reverse B.reverse ((A.length : Int) - 1 - x + 1).toNat ((A.length : Int) - 1 - x)
        = some (dualIdx A.length cf) ∧
      (cf = -1 ∨ (0 ≤ cf ∧ cf < A.length)) ∧ (cl = -1 ∨ (0 ≤ cl ∧ cl < A.length)) := by
  obtain ⟨cl, l1, l2, l3⟩ := am_commonLast_dual A B hAB y hy
  obtain ⟨c, k1, k2, k3⟩ := am_commonLast_dual A.reverse B.reverse (by simp [hAB]) ((A.length : Int) - 1 - x)
    (by simp; omega)
  simp only [List.length_reverse, List.reverse_reverse] at k1 k2 k3
  have e : (A.length : Int) - 1 - ((A.length : Int) - 1 - x) = x := by omega
  rw [e] at k2
  refine ⟨_, cl, k2, l1, l2, ?_, ?_, l3⟩
  · rw [am_dualIdx_dualIdx _ _ k3]; exact k1
  · simp only [dualIdx]; split <;> omega

theorem am_commonEnds_core (A B : List Int) (n : Nat) (hA : A.length = n) (hB : B.length = n) (a b c d : Int)
    (ha : 0 ≤ a) (hb : b ≤ n) (hc : 0 ≤ c) (hd : d ≤ n) :
    ∃ cf cl,
      commonFirst (A.drop (max a c).toNat) (B.drop (max a c).toNat) (max a c) = cf ∧
      commonLast A B (min (b - 1) (d - 1) + 1).toNat (min (b - 1) (d - 1)) = some cl ∧
      commonFirst (A.reverse.drop (max ((n : Int) - b) ((n : Int) - d)).toNat)
        (B.reverse.drop (max ((n : Int) - b) ((n : Int) - d)).toNat) (max ((n : Int) - b) ((n : Int) - d)) = dualIdx n cl ∧
      commonLast A.reverse B.reverse (min ((n : Int) - a - 1) ((n : Int) - c - 1) + 1).toNat
        (min ((n : Int) - a - 1) ((n : Int) - c - 1)) = some (dualIdx n cf) ∧
      (cf = -1 ∨ (0 ≤ cf ∧ cf < n)) ∧ (cl = -1 ∨ (0 ≤ cl ∧ cl < n)) := by
  subst hA
  have e1 : max ((A.length : Int) - b) ((A.length : Int) - d) = (A.length : Int) - 1 - min (b - 1) (d - 1) := by omega
  have e2 : min ((A.length : Int) - a - 1) ((A.length : Int) - c - 1) = (A.length : Int) - 1 - max a c := by omega
  rw [e1, e2]
  exact am_commonEnds_dual A B hB.symm _ _ (by omega) (by omega)

theorem am_pyGet?_mirror_dual (L : Int) (l : List Iv) (i : Int) (h0 : 0 ≤ i) (h1 : i < l.length) :
    pyGet? (mirrorL L l) (dualIdx l.length i) = (pyGet? l i).map (mirrorIv L) := by
  rw [dualIdx, if_neg (by omega)]
  exact pyGet?_mirror_int L l i h0 h1

theorem am_mirrorL_getElem?_one (L : Int) (l : List Iv) : (mirrorL L l)[1]? = (l.reverse[1]?).map (mirrorIv L) := by
  simp only [mirrorL, ← List.map_reverse, List.getElem?_map]

theorem am_mirrorL_reverse_getElem?_one (L : Int) (l : List Iv) : (mirrorL L l).reverse[1]? = (l[1]?).map (mirrorIv L) := by
  simp only [mirrorL_reverse, List.getElem?_map]

/-- the exon measured by `categorize_exon_elongation_subtype` (outermost, or the next one behind a short fake terminal
    exon) is reflected with the locus -/
theorem am_measuredExon_mirror (L : Int) (p : Params) (o : Iv) (nx : Option Iv) (s : Iv) :
    measuredExon p (mirrorIv L o) (nx.map (mirrorIv L)) (mirrorIv L s) = mirrorIv L (measuredExon p o nx s) := by
  have hl := Props.C11.mirror_dual_interval_len L o
  cases nx with
  | none => rfl
  | some n =>
    simp only [measuredExon, Option.map_some, Props.C11.mirror_dual_overlaps, hl]
    split <;> rfl

theorem am_commonEnds_mirror (L : Int) (g : Gene) (rp : ReadProf) (I : IsoInfo) (ni : Nat) (wf : ElongWF g rp I) :
    ∃ cf cl, commonEnds rp I = some (cf, cl) ∧
      commonEnds (mirrorReadProf L g rp) (mirrorIsoInfo L ni g.splitExons.length I)
        = some (dualIdx g.splitExons.length cl, dualIdx g.splitExons.length cf) ∧
      (cf = -1 ∨ (0 ≤ cf ∧ cf < g.splitExons.length)) ∧ (cl = -1 ∨ (0 ≤ cl ∧ cl < g.splitExons.length)) := by
  obtain ⟨hA, hB, ha, hb, hc, hd⟩ := wf
  obtain ⟨cf, cl, k1, k2, k3, k4, k5, k6⟩ :=
    am_commonEnds_core I.splitProf rp.split.gene g.splitExons.length hA hB I.splitRange.1 I.splitRange.2
      rp.split.range.1 rp.split.range.2 ha hb hc hd
  refine ⟨cf, cl, ?_, ?_, k5, k6⟩
  · simp only [commonEnds, k1, k2, Option.map_some]
  · simp only [commonEnds, mirrorReadProf, mirrorIsoInfo, mirrorProfRes, mirrorRange, k3, k4, Option.map_some]

theorem endFrame_mirror (L : Int) (g : Gene) (p : Params) (rp : ReadProf) (cf cl : Int)
    (hf : 0 ≤ cf ∧ cf < g.splitExons.length) (hl : 0 ≤ cl ∧ cl < g.splitExons.length) :
    endFrame (mirrorGene L g) p (mirrorReadProf L g rp) (dualIdx g.splitExons.length cl, dualIdx g.splitExons.length cf)
      = (endFrame g p rp (cf, cl)).map (fun F => ((mirrorIv L F.2.1, mirrorIv L F.2.2), (mirrorIv L F.1.1, mirrorIv L F.1.2))) := by
  simp only [endFrame, mirrorGene, mirrorReadProf, mirrorL_head?, mirrorL_getLast?, am_mirrorL_getElem?_one,
    am_mirrorL_reverse_getElem?_one, am_pyGet?_mirror_dual L _ _ hf.1 hf.2, am_pyGet?_mirror_dual L _ _ hl.1 hl.2]
  cases rp.blocks.head? <;> cases rp.blocks.getLast? <;> cases pyGet? g.splitExons cf <;>
    cases pyGet? g.splitExons cl <;> simp only [Option.map_none, Option.map_some, am_measuredExon_mirror]

/-! ## `check_read_ends` -/

theorem am_elongTypeStep_mirror (L : Int) (n : Nat) (l r : List Event) (ty : ReadAssignmentType) :
    elongTypeStep (r.map (mirrorEvent L n) ++ l.map (mirrorEvent L n)) ty = elongTypeStep (l ++ r) ty := by
  simp only [elongTypeStep, List.any_append, List.any_map, Function.comp_def, am_mirrorEvent_ty,
    mirror_dual_is_major_elongation, mirror_dual_is_minor_elongation, Bool.or_comm]

theorem am_checkReadEndsMirrored_type (L : Int) (g : Gene) (p : Params) (rp : ReadProf) (ms : List (IsoInfo × IsoMatch))
    (ty : ReadAssignmentType) :
    (checkReadEndsMirrored L g p rp ms ty).map (fun r => (r.1.map (fun Im => Im.1.id), r.2))
      = (checkReadEnds g p rp ms ty).map (fun r => (r.1.map (fun Im => Im.1.id), r.2)) := by
  induction ms generalizing ty with
  | nil => rfl
  | cons Im rest ih =>
    obtain ⟨I, m⟩ := Im
    simp only [checkReadEnds_step, checkReadEndsMirrored, elongationEvents_sides]
    cases elongSides g p rp I with
    | none => rfl
    | some s =>
      simp only [Option.map_some]
      have ih' := ih (elongTypeStep (s.1 ++ s.2) ty)
      cases h1 : checkReadEndsMirrored L g p rp rest (elongTypeStep (s.1 ++ s.2) ty) <;>
        cases h2 : checkReadEnds g p rp rest (elongTypeStep (s.1 ++ s.2) ty) <;>
        simp_all [mirrorIsoInfo]

/-! ## the polyA / polyT pair (C01 copies) -/

theorem am_shiftPolytLoop_mirror (L pos : Int) (l : List Iv) (d : Int) :
    C01.shiftPolytLoop (L + 1 - pos) (l.map (mirrorIv L)) d = C01.shiftPolyaLoop pos l d := by
  induction l generalizing d with
  | nil => rfl
  | cons e es ih =>
    simp only [List.map_cons, C01.shiftPolytLoop, C01.shiftPolyaLoop, ih, mirrorIv_fst, mirrorIv_snd, interval_len]
    grind

theorem am_countBefore_mirror (L pos : Int) (l : List Iv) :
    countBefore (L + 1 - pos) (l.map (mirrorIv L)) = countBeyond pos l := by
  induction l with
  | nil => rfl
  | cons e es ih =>
    simp only [List.map_cons, countBefore, countBeyond, ih, mirrorIv_snd]
    grind

theorem am_countBeyond_mirror (L pos : Int) (l : List Iv) :
    countBeyond (L + 1 - pos) (l.map (mirrorIv L)) = countBefore pos l := by
  rw [← am_countBefore_mirror L, map_mirrorIv_mirrorIv, Int.sub_sub_self]

theorem am_mirrorEvent_ty_iff (L : Int) (n : Nat) (e : Event) (t : MatchEventSubtype) :
    (mirrorEvent L n e).ty = swapLR t ↔ e.ty = t := by
  rw [am_mirrorEvent_ty, swapLR_inj]

theorem isPolyaSiteTy_eq (t : MatchEventSubtype) : isPolyaSiteTy t = isPosEvent t :=
  Lemmas.forall_events (P := fun t => isPolyaSiteTy t = isPosEvent t) (by decide +kernel) t

/-- reflection of a chromosome of length `L`, events of an isoform with `n` exons, as a symmetry of the polyA
    verification.  `Ok` and `pos` of this instance are `PosOK L` and `mirrorPos L` by `rfl`; the statements of
    Props/C11AssignMirror.lean are written with those. -/
def mirrorSym (L : Int) (n : Nat) : EndSym where
  φ := mirrorP L
  σ := swapLR
  ε := mirrorEvent L n
  dist := fun x y => by simp only [mirrorP, iabs]; grind
  ty := am_mirrorEvent_ty_iff L n
  site := fun t ht ir x _ => by
    have h1 : isPolyaSiteTy t = true := (isPolyaSiteTy_eq t).trans ht
    simp [mirrorEvent, h1, isTermMisTy_of_polyaSite t h1]

theorem am_mirrorL_take (L : Int) (l : List Iv) (c : Nat) :
    (mirrorL L l).take c = mirrorL L (l.drop (l.length - c)) := by
  simp only [mirrorL]
  rw [List.take_reverse, List.map_drop, List.length_map]

theorem am_termMis_events_left (L : Int) (n c : Nat) :
    (List.range c).map (fun (i : Nat) => ({ ty := .terminal_exon_misalignment_left, isoRegion := ((i : Int), (i : Int)) } : Event))
      = ((List.range c).map (fun (i : Nat) =>
          ({ ty := .terminal_exon_misalignment_right, isoRegion := ((n : Int) - 2 - i, (n : Int) - 2 - i) } : Event))).map
          (mirrorEvent L n) := by
  rw [List.map_map]
  apply List.map_congr_left
  intro i _
  simp only [Function.comp, mirrorEvent, swapLR, isTermMisTy, isPolyaSiteTy, if_true]
  congr 1
  ext <;> simp <;> omega

theorem am_mirrorL_drop (L : Int) (l : List Iv) (c : Nat) (h : c ≤ l.length) :
    (mirrorL L l).drop (l.length - c) = mirrorL L (l.take c) := by
  simp only [mirrorL]
  rw [List.drop_reverse, List.map_take, List.length_map]
  congr 2; omega

theorem am_termMis_events_right (L : Int) (n c : Nat) :
    (List.range c).map (fun (i : Nat) =>
          ({ ty := .terminal_exon_misalignment_right, isoRegion := ((n : Int) - 2 - i, (n : Int) - 2 - i) } : Event))
      = ((List.range c).map (fun (i : Nat) =>
          ({ ty := .terminal_exon_misalignment_left, isoRegion := ((i : Int), (i : Int)) } : Event))).map (mirrorEvent L n) := by
  rw [List.map_map]
  apply List.map_congr_left
  intro i _
  simp only [Function.comp, mirrorEvent, swapLR, isTermMisTy, isPolyaSiteTy, if_true]
  rfl

theorem am_mirrorPolyA_extA (L : Int) (pa : PolyA) : (mirrorPolyA L pa).extA = mirrorPos L pa.extT := rfl
theorem am_mirrorPolyA_extT (L : Int) (pa : PolyA) : (mirrorPolyA L pa).extT = mirrorPos L pa.extA := rfl
theorem am_mirrorPolyA_intA (L : Int) (pa : PolyA) : (mirrorPolyA L pa).intA = mirrorPos L pa.intT := rfl
theorem am_mirrorPolyA_intT (L : Int) (pa : PolyA) : (mirrorPolyA L pa).intT = mirrorPos L pa.intA := rfl

theorem am_regionOf_mirror (L : Int) (l : List Iv) : regionOf (mirrorL L l) = (regionOf l).map (mirrorIv L) := by
  simp only [regionOf, mirrorL_head?, mirrorL_getLast?]
  cases l.head? <;> cases l.getLast? <;> simp [mirrorIv]

theorem am_anyRange_slice {α} (p : Int → Option Bool) (Z : List α) (f : α → Bool) (s n : Nat) (h : s + n ≤ Z.length)
    (hp : ∀ (i : Nat) (hi : i < Z.length), p (i : Int) = some (f Z[i])) :
    anyRange p (s : Int) n = some (((Z.drop s).take n).any f) := by
  induction n generalizing s with
  | zero => simp [anyRange]
  | succ n ih =>
    have hs : s < Z.length := by omega
    have e : ((s : Int) + 1) = ((s + 1 : Nat) : Int) := by omega
    simp only [anyRange, hp s hs]
    rw [List.drop_eq_getElem_cons hs, List.take_succ_cons, List.any_cons]
    cases hf : f Z[s] with
    | true => simp
    | false =>
      simp only [Bool.false_or]
      rw [e, ih (s + 1) (by omega)]

theorem am_profile_pair_get (p1 p2 : List Int) (i : Nat) (hi : i < (p1.zip p2).length) :
    pyGet? p1 (i : Int) = some (p1.zip p2)[i].1 ∧ pyGet? p2 (i : Int) = some (p1.zip p2)[i].2 := by
  have h1 : i < p1.length := by simp only [List.length_zip] at hi; omega
  have h2 : i < p2.length := by simp only [List.length_zip] at hi; omega
  simp only [pyGet?_nat, List.getElem?_eq_getElem h1, List.getElem?_eq_getElem h2, List.getElem_zip, and_self]

/-- a loop `F` over the index range `rng` of a list `Z` of length `n` that only depends on the slice it runs over, through
    a function `G` that does not see the order: the loop `F'` over the reversed list and the mirrored range gives the same -/
theorem am_rangeLoop_mirror {α β} (Z : List α) (n : Nat) (hz : Z.length = n) (F F' : Int → Nat → β) (G : List α → β)
    (hF : ∀ s m : Nat, s + m ≤ n → F s m = G ((Z.drop s).take m))
    (hF' : ∀ s m : Nat, s + m ≤ n → F' s m = G ((Z.reverse.drop s).take m))
    (hG : ∀ l, G l.reverse = G l) (hF0 : ∀ s s' : Int, F' s' 0 = F s 0)
    (rng : Int × Int) (ha : 0 ≤ rng.1) (hb : rng.2 ≤ n) :
    F' ((n : Int) - rng.2) ((n : Int) - rng.1 - ((n : Int) - rng.2)).toNat = F rng.1 (rng.2 - rng.1).toNat := by
  obtain ⟨a, b⟩ := rng
  obtain ⟨s, rfl⟩ : ∃ s : Nat, a = s := ⟨a.toNat, by omega⟩
  have em : ((n : Int) - s - ((n : Int) - b)).toNat = (b - s).toNat := by omega
  simp only [em]
  generalize hm : (b - (s : Int)).toNat = m
  by_cases c : m = 0
  · subst c; exact hF0 _ _
  · have e2 : (n : Int) - b = ((n - s - m : Nat) : Int) := by omega
    rw [e2, hF' _ _ (by omega), hF _ _ (by omega), ← hG ((Z.drop s).take m), ← drop_take_reverse Z s m (Z.length - s - m) (by omega), hz]

theorem am_overlap_intervals_mirrorRange (n : Nat) (r1 r2 : Int × Int) :
    overlap_intervals (mirrorRange n r1) (mirrorRange n r2) = mirrorRange n (overlap_intervals r1 r2) := by
  simp only [overlap_intervals, mirrorRange]; ext <;> simp <;> omega

/-- weight of one position in `difference_in_present_features` -/
def diffWeight (ab : Int × Int) : Int :=
  if ab.2 = 0 then 0 else if ab.1 = 0 then 0 else if ab.1 ≠ ab.2 then 1 else 0

theorem am_diffLoop_slice (p1 p2 : List Int) (s n : Nat) (h : s + n ≤ (p1.zip p2).length) :
    diffLoop p1 p2 (s : Int) n = some ((((p1.zip p2).drop s).take n).map diffWeight).sum := by
  induction n generalizing s with
  | zero => simp [diffLoop]
  | succ n ih =>
    have hs : s < (p1.zip p2).length := by omega
    have h1 : s < p1.length := by simp only [List.length_zip] at hs; omega
    have h2 : s < p2.length := by simp only [List.length_zip] at hs; omega
    have e : ((s : Int) + 1) = ((s + 1 : Nat) : Int) := by omega
    simp only [diffLoop, pyGet?_nat, List.getElem?_eq_getElem h1, List.getElem?_eq_getElem h2]
    rw [List.drop_eq_getElem_cons hs, List.take_succ_cons, List.map_cons, List.sum_cons, List.getElem_zip, e,
      ih (s + 1) (by omega)]
    simp only [diffWeight]
    by_cases c1 : p2[s] = 0
    · simp [c1]
    · by_cases c2 : p1[s] = 0
      · simp [c1, c2]
      · simp only [c1, c2, if_false, Option.map_some]
        congr 1; omega

end IsoVerif.Lemmas.C11
