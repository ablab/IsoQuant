/-
Helper lemmas for the stream framing of C15: the two nested loops of the `.save` loaders and the loop of the
multimapper files, as `Reads` statements of the uniform shape "read the next marker, then loop", which is how the model's
loops recurse (get_object reads a record and then the next marker).
-/
import IsoVerif.Lemmas.Serial

namespace IsoVerif.Lemmas.Serial
open IsoVerif.Gen IsoVerif.Model IsoVerif.Model.Serial

/-- a record reader that undoes `writeReadAssignment` up to a projection `f` (the full reader with `f = quantRA`,
    the abridged reader with `f = basicOf ∘ quantRA`) -/
def ReadsRecords {β} (rd : Rd β) (f : ReadAssignment → β) (P : ReadAssignment → Prop) : Prop :=
  ∀ r bs rest, P r → writeReadAssignment r = some bs → rd.run (bs ++ rest) = some (f r, rest)

theorem writeShortInt_marker {m : Nat} {b : Bytes} (h : writeShortInt (m : Nat) = some b) :
    b = toBE ser_SHORT_INT_BYTES m ∧ m < 256 ^ ser_SHORT_INT_BYTES := by
  obtain ⟨_, h2, rfl⟩ := intToBytes_eq_some h
  exact ⟨by simp, by simpa using h2⟩

theorem RT_marker : RT (fun m : Nat => writeShortInt (m : Nat)) (readNat ser_SHORT_INT_BYTES) (fun _ => True) :=
  RT_writeNat _

theorem loadReads_writes {β} {rd : Rd β} {f : ReadAssignment → β} {P : ReadAssignment → Prop}
    (hrd : ReadsRecords rd f P) {c : Nat} (hc : c ≠ tmp_READ_ASSIGNMENT) :
    ∀ (rs : List ReadAssignment) (fuel : Nat), rs.length < fuel → (∀ r ∈ rs, P r) →
      Reads (rs.map (fun r => writeItem (.read r)) ++ [writeShortInt (c : Nat)])
        (readNat ser_SHORT_INT_BYTES >>= loadReads rd fuel) (rs.map f, c)
  | _, 0, h, _ => by omega
  | [], fuel + 1, _, _ => by
    apply Reads.cons RT_marker trivial
    rw [loadReads, if_neg hc]
    exact Reads.nil rfl
  | r :: t, fuel + 1, hf, hP => by
    apply Reads.flat
    apply Reads.cons RT_marker trivial
    rw [loadReads, if_pos rfl]
    apply Reads.consN hrd (hP r (by simp))
    exact (loadReads_writes hrd hc t fuel (by simpa using hf) fun x hx => hP x (by simp [hx])).map
      (fun p => (f r :: p.1, p.2))

theorem ungroup_cons (g : Group ReadAssignment) (t : List (Group ReadAssignment)) :
    ungroup (g :: t) = Item.gene g.1 :: (g.2.map Item.read ++ ungroup t) := by
  simp [ungroup]

theorem loadGroups_writes {β} {rd : Rd β} {f : ReadAssignment → β} {P : ReadAssignment → Prop}
    (hrd : ReadsRecords rd f P) :
    ∀ (gs : List (Group ReadAssignment)) (fuel : Nat), (ungroup gs).length < fuel → (∀ g ∈ gs, ∀ r ∈ g.2, P r) →
      Reads ((ungroup gs).map writeItem ++ [writeShortInt (ser_SHORT_TERMINATION_INT : Nat)])
        (readNat ser_SHORT_INT_BYTES >>= loadGroups rd fuel) (gs.map (fun g => (g.1, g.2.map f)))
  | _, 0, h, _ => by omega
  | [], fuel + 1, _, _ => by
    apply Reads.cons RT_marker trivial
    exact Reads.nil rfl
  | g :: t, fuel + 1, hf, hP => by
    rw [ungroup_cons] at hf ⊢
    simp only [List.length_cons, List.length_append, List.length_map] at hf
    have ih := loadGroups_writes hrd t fuel (by omega) fun g' hg' => hP g' (by simp [hg'])
    rw [List.map_cons, List.map_append, List.map_map, List.cons_append, List.append_assoc]
    apply Reads.flat
    apply Reads.cons RT_marker trivial
    rw [loadGroups, if_neg (by decide), if_pos rfl]
    apply Reads.cons RT_writeGeneHeader trivial
    -- the marker that ends this group's reads opens what follows: `loadReads` consumes it and hands it on, so the rest is
    -- rewritten to start with that marker (`Reads.congr_right`) and the induction hypothesis is used with it cut off (`Reads.tail`)
    obtain ⟨c, l, hc, hclt, hl⟩ : ∃ c l, c ≠ tmp_READ_ASSIGNMENT ∧ c < 256 ^ ser_SHORT_INT_BYTES ∧
        seqW ((ungroup t).map writeItem ++ [writeShortInt (ser_SHORT_TERMINATION_INT : Nat)]) =
          seqW (writeShortInt (c : Nat) :: l) := by
      cases t with
      | nil => exact ⟨_, [], by decide, by decide, rfl⟩
      | cons g' t' => exact ⟨tmp_GENE_INFO, _, by decide, by decide, by rw [ungroup_cons]; exact seqW_seqW_cons _ _⟩
    apply Reads.congr_right hl
    rw [List.append_cons, ← bind_assoc]
    refine Reads.append (loadReads_writes hrd hc g.2 fuel (by omega) (hP g (by simp))) ?_
    exact (Reads.tail hclt (Reads.congr_right (l₁ := []) hl.symm ih)).map _

/-- every item starts with its two marker bytes, so the loaders' fuel (stream length + 1) never runs out -/
theorem items_le_bytes : ∀ (items : List Item) (b : Bytes), seqW (items.map writeItem) = some b →
    items.length ≤ b.length :=
  seqW_map_length_le fun it b h => by
    cases it <;>
    · obtain ⟨bm, b3, hm, _, rfl⟩ := seqW_cons_eq_some_iff.mp h
      rw [List.length_append, (writeShortInt_marker hm).1, toBE_length]
      exact Nat.succ_le_of_lt (Nat.lt_add_right _ (by decide))

theorem loadStream_writes {β} {rd : Rd β} {f : ReadAssignment → β} {P : ReadAssignment → Prop}
    (hrd : ReadsRecords rd f P) (gs : List (Group ReadAssignment)) (bs rest : Bytes)
    (hP : ∀ g ∈ gs, ∀ r ∈ g.2, P r) (h : writeStream (ungroup gs) = some bs) :
    (loadStream rd).run (bs ++ rest) = some (gs.map (fun g => (g.1, g.2.map f)), rest) := by
  obtain ⟨b, t, hb, _, rfl⟩ := seqW_append_eq_some_iff.mp h
  have := items_le_bytes _ _ hb
  exact loadGroups_writes hrd gs _ (by simp only [List.length_append]; omega) hP _ rest h

theorem loadMultimapLoop_writes {norm : BasicReadAssignment → BasicReadAssignment}
    (hrt : RTn writeBasic readBasic norm (fun _ => True)) :
    ∀ (ls : List (List BasicReadAssignment)) (fuel : Nat), ls.length < fuel →
      (∀ l ∈ ls, l.length ≠ ser_TERMINATION_INT) →
      Reads (ls.map (fun l => writeList l writeBasic) ++ [writeInt (ser_TERMINATION_INT : Nat)])
        (readNat ser_LONG_INT_BYTES >>= loadMultimapLoop fuel) (ls.map (List.map norm))
  | _, 0, h, _ => by omega
  | [], fuel + 1, _, _ => by
    apply Reads.cons (RT_writeNat _) trivial (x := ser_TERMINATION_INT)
    exact Reads.nil rfl
  | l :: t, fuel + 1, hf, hne => by
    apply Reads.flat
    apply Reads.cons (RT_writeNat _) trivial
    rw [loadMultimapLoop, if_neg (hne l (by simp))]
    refine Reads.append (readN_writes_n hrt l fun _ _ => trivial) ?_
    rw [← bind_assoc]
    exact (loadMultimapLoop_writes hrt t fuel (by simpa using hf) fun x hx => hne x (by simp [hx])).map _

end IsoVerif.Lemmas.Serial
