/-
C11 helper lemmas — Model/Gtf.lean (`validate_exons`, `GFFPrinter.dump`, the novel-exon constructors) under
translation, and the feature lines of one transcript under reflection.
-/
import IsoVerif.Gen.Prims
import IsoVerif.Model.Interval
import IsoVerif.Model.Gtf
import IsoVerif.Model.C11Symmetry
import IsoVerif.Model.C11SymBedCorr
import IsoVerif.Lemmas.Interval
import IsoVerif.Lemmas.C03Sort
import IsoVerif.Lemmas.C11Shift
import IsoVerif.Lemmas.C11Mirror
import IsoVerif.Lemmas.AssocList
import IsoVerif.Lemmas.MapComm

namespace IsoVerif.Lemmas.C11
open IsoVerif.Gen IsoVerif.Model IsoVerif.Model.C03 IsoVerif.Model.C11 IsoVerif.Lemmas IsoVerif.Lemmas.C03 IsoVerif.Lemmas.MapComm

theorem gtf_isortBy_map {α β} (lt : α → α → Bool) (lt' : β → β → Bool) (f : α → β)
    (h : ∀ a b, lt' (f a) (f b) = lt a b) (l : List α) : isortBy lt' (l.map f) = (isortBy lt l).map f :=
  ((isortBy_is lt).map f (isortBy_is lt') (fun a b => congrArg (!·) (h b a)) l).symm

theorem gtf_ivLt_shift (k : Int) (a b : Iv) : ivLt (shiftIv k a) (shiftIv k b) = ivLt a b := by
  simp only [ivLt, shiftIv]; grind

theorem gtf_featLt_shift (k : Int) (a b : Feat) : featLt (shiftFeat k a) (shiftFeat k b) = featLt a b := by
  simp only [featLt, shiftFeat]; grind

theorem gtf_intLt_shift (k a b : Int) : intLt (a + k) (b + k) = intLt a b := by
  simp only [intLt]; grind

/-! ## `validate_exons` -/

/-- the `0 < x[0]` test gives the same answer on every exon before and after the shift -/
def PosStable (k : Int) (l : List Iv) : Prop := ∀ x ∈ l, (0 < x.1 ↔ 0 < x.1 + k)

theorem sorted_test_shift (k : Int) (l : List Iv) :
    (shiftL k l == isortBy ivLt (shiftL k l)) = (l == isortBy ivLt l) := by
  have e : isortBy ivLt (shiftL k l) = shiftL k (isortBy ivLt l) :=
    gtf_isortBy_map ivLt ivLt (shiftIv k) (gtf_ivLt_shift k) l
  rw [e]
  have hi : (shiftL k l = shiftL k (isortBy ivLt l)) ↔ l = isortBy ivLt l := by
    simp only [shiftL]
    exact List.map_inj_right (fun _ _ h => shiftIv_injective k h)
  rw [Bool.eq_iff_iff]
  simp only [beq_iff_eq]
  exact hi

theorem all_pos_shift (k : Int) (l : List Iv) (h : PosStable k l) :
    (shiftL k l).all (fun x => decide (0 < x.1) && decide (x.1 ≤ x.2))
      = l.all (fun x => decide (0 < x.1) && decide (x.1 ≤ x.2)) := by
  induction l with
  | nil => rfl
  | cons x t ih =>
    simp only [shiftL_cons, List.all_cons, shiftIv_fst, shiftIv_snd, ← h x (List.mem_cons_self ..),
      Int.add_le_add_iff_right, ih (fun y hy => h y (List.mem_cons_of_mem _ hy))]

theorem validateExons_shift (k : Int) (l : List Iv) (h : PosStable k l) :
    validateExons (shiftL k l) = validateExons l := by
  simp only [validateExons, sorted_test_shift, all_pos_shift k l h]

/-- `featLines` with the fields of the model as separate arguments -/
def featLinesOf (chr : Id) (strand : Strand) (gid tid : Id) (fs : List Feat) : List Line :=
  (if strand = strandMinus then (isortBy featLt fs).reverse else isortBy featLt fs).zipIdx.map
    (fun p => Line.feat chr p.1.2.2 p.1.1 p.1.2.1 strand gid tid (p.2 + 1))

def exonFeat (e : Iv) : Feat := (e.1, e.2, (0 : Int))

theorem featLines_eq_of (m : TModel) :
    featLines m = featLinesOf m.chr m.strand m.gid m.tid (m.other ++ m.exons.map exonFeat) := rfl

theorem featLinesOf_shift (k : Int) (chr : Id) (strand : Strand) (gid tid : Id) (fs : List Feat) :
    featLinesOf chr strand gid tid (fs.map (shiftFeat k)) = (featLinesOf chr strand gid tid fs).map (shiftLine k) := by
  simp only [featLinesOf, gtf_isortBy_map featLt featLt (shiftFeat k) (gtf_featLt_shift k)]
  split
  · rw [← List.map_reverse, List.zipIdx_map, List.map_map, List.map_map]
    apply List.map_congr_left; intro p _
    simp only [Function.comp, Prod.map, shiftFeat, shiftLine, id]
  · rw [List.zipIdx_map, List.map_map, List.map_map]
    apply List.map_congr_left; intro p _
    simp only [Function.comp, Prod.map, shiftFeat, shiftLine, id]

theorem featLines_shift (k : Int) (m : TModel) : featLines (shiftTM k m) = (featLines m).map (shiftLine k) := by
  rw [featLines_eq_of, featLines_eq_of, ← featLinesOf_shift]
  show featLinesOf m.chr m.strand m.gid m.tid (m.other.map (shiftFeat k) ++ (shiftL k m.exons).map exonFeat) = _
  congr 1
  simp only [shiftL, List.map_append, List.map_map]
  congr 1

theorem txBlock_shift (k : Int) (p : TModel × Iv) :
    txBlock (shiftTM k p.1, shiftIv k p.2) = (txBlock p).map (shiftLine k) := by
  simp only [txBlock, featLines_shift, List.map_cons]
  rfl

/-! ## `dump`: the accumulator contains functions, so the relation is stated extensionally -/

def shiftEntry (k : Int) (q : TModel × Iv) : TModel × Iv := (shiftTM k q.1, shiftIv k q.2)

structure AccShift (k : Int) (a a' : Acc) : Prop where
  keys : a'.keys = a.keys
  info : ∀ g, a'.info g = (a.info g).map (shiftGRec k)
  mods : ∀ g, a'.mods g = (a.mods g).map (shiftEntry k)

def OptAccShift (k : Int) : Option Acc → Option Acc → Prop
  | none, none => True
  | some a, some a' => AccShift k a a'
  | _, _ => False

theorem accShift_empty (k : Int) : AccShift k Acc.empty Acc.empty := ⟨rfl, fun _ => rfl, fun _ => rfl⟩

theorem lookup_regions_shift (k : Int) (rs : List (Id × Iv)) (g : Id) :
    (rs.map (fun q => (q.1, shiftIv k q.2))).lookup g = (rs.lookup g).map (shiftIv k) :=
  lookup_map id (fun _ _ h => h) (shiftIv k) rs g

/-- one model through phase 1 of `dump`: every branch of the step keeps `AccShift` (same keys; the two functions of the
    accumulator are compared gene by gene, the gene of `m` apart from the others) -/
theorem phase1Step_shift (k : Int) (ctx : GeneCtx) (a a' : Acc) (m : TModel) (h : AccShift k a a')
    (hv : validateExons (shiftL k m.exons) = validateExons m.exons) :
    OptAccShift k (phase1Step ctx a m) (phase1Step (shiftCtx k ctx) a' (shiftTM k m)) := by
  unfold phase1Step
  have e1 : (shiftTM k m).exons = shiftL k m.exons := rfl
  have e2 : (shiftTM k m).gid = m.gid := rfl
  have e3 : (shiftTM k m).chr = m.chr := rfl
  have e4 : (shiftCtx k ctx).chr = ctx.chr := rfl
  have e5 : (shiftTM k m).strand = m.strand := rfl
  have e6 : (shiftCtx k ctx).regions = ctx.regions.map (fun q => (q.1, shiftIv k q.2)) := rfl
  rw [e1, hv]
  cases hval : validateExons m.exons
  · simp only [if_true]; exact h
  · simp only [Bool.true_eq_false, if_false, shiftL_head?, shiftL_getLast?, e2, e3, e4, e5, e6]
    cases hf : m.exons.head? <;> cases hl : m.exons.getLast? <;>
      simp only [Option.map_none, Option.map_some] <;> try exact trivial
    rename_i f l
    rw [h.info m.gid]
    cases hi : a.info m.gid with
    | none =>
      simp only [Option.map_none]
      by_cases hc : m.chr ≠ ctx.chr
      · rw [if_pos hc, if_pos hc]; exact trivial
      · rw [if_neg hc, if_neg hc]
        refine ⟨by simp only [h.keys], ?_, ?_⟩
        · intro g
          by_cases hg : g = m.gid
          · simp only [hg, if_true, Option.map_some, shiftGRec, lookup_regions_shift]
            cases ctx.regions.lookup m.gid with
            | none => simp only [Option.map_none, shiftIv]
            | some r =>
              simp only [Option.map_some]
              have := IsoVerif.Props.C11.shift_equivariant_max_range k r (f.1, l.2)
              simp only [shiftIv] at this ⊢
              rw [this]
          · simp only [hg, if_false]; exact h.info g
        · intro g
          by_cases hg : g = m.gid
          · simp only [hg, if_true, h.mods m.gid, List.map_append, List.map_cons, List.map_nil, shiftEntry, shiftIv]
          · simp only [hg, if_false]; exact h.mods g
    | some r =>
      simp only [Option.map_some, shiftGRec]
      by_cases hc : m.chr ≠ r.chr
      · rw [if_pos hc, if_pos hc]; exact trivial
      · rw [if_neg hc, if_neg hc]
        refine ⟨by simp only [h.keys], ?_, ?_⟩
        · intro g
          by_cases hg : g = m.gid
          · simp only [hg, if_true, Option.map_some, shiftGRec]
            have := IsoVerif.Props.C11.shift_equivariant_max_range k r.range (f.1, l.2)
            simp only [shiftIv] at this ⊢
            rw [this]
          · simp only [hg, if_false]; exact h.info g
        · intro g
          by_cases hg : g = m.gid
          · simp only [hg, if_true, h.mods m.gid, List.map_append, List.map_cons, List.map_nil, shiftEntry, shiftIv]
          · simp only [hg, if_false]; exact h.mods g

theorem phase1_shift (k : Int) (ctx : GeneCtx) (ms : List TModel) (a a' : Acc) (h : AccShift k a a')
    (hv : ∀ m ∈ ms, validateExons (shiftL k m.exons) = validateExons m.exons) :
    OptAccShift k (phase1 ctx ms a) (phase1 (shiftCtx k ctx) (ms.map (shiftTM k)) a') := by
  induction ms generalizing a a' with
  | nil => exact h
  | cons m ms ih =>
    simp only [List.map_cons, phase1]
    have hs := phase1Step_shift k ctx a a' m h (hv m (by simp))
    cases h1 : phase1Step ctx a m <;> cases h2 : phase1Step (shiftCtx k ctx) a' (shiftTM k m) <;>
      simp only [h1, h2, OptAccShift] at hs ⊢
    exact ih _ _ hs (fun m' hm' => hv m' (by simp [hm']))

def shiftOrderEntry (k : Int) (q : Id × GRec) : Id × GRec := (q.1, shiftGRec k q.2)

theorem geneOrder_shift (k : Int) (a a' : Acc) (h : AccShift k a a') :
    geneOrder a' = (geneOrder a).map (shiftOrderEntry k) := by
  simp only [geneOrder, h.keys]
  have e : a.keys.filterMap (fun g => (a'.info g).map (fun r => (g, r)))
      = (a.keys.filterMap (fun g => (a.info g).map (fun r => (g, r)))).map (shiftOrderEntry k) := by
    rw [List.map_filterMap]
    have : (fun g => (a'.info g).map (fun r => (g, r)))
        = (fun g => ((a.info g).map (fun r => (g, r))).map (shiftOrderEntry k)) := by
      funext g
      rw [h.info g]
      cases a.info g <;> rfl
    rw [this]
  rw [e]
  exact gtf_isortBy_map _ _ (shiftOrderEntry k) (fun x y => gtf_ivLt_shift k x.2.range y.2.range) _

def shiftDumpRes (k : Int) (r : List Id × List Line) : List Id × List Line := (r.1, r.2.map (shiftLine k))

theorem emitGenes_shift (k : Int) (a a' : Acc) (h : AccShift k a a') (order : List (Id × GRec)) (printed : List Id) :
    emitGenes a' (order.map (shiftOrderEntry k)) printed = shiftDumpRes k (emitGenes a order printed) := by
  induction order generalizing printed with
  | nil => rfl
  | cons q rest ih =>
    obtain ⟨g, r⟩ := q
    simp only [List.map_cons, shiftOrderEntry, emitGenes, ih, h.mods g, List.length_map, shiftDumpRes,
      List.map_append, List.map_flatMap, List.flatMap_map]
    congr 2
    · congr 1
      · split <;> rfl
      · have : (fun p => txBlock (shiftEntry k p)) = (fun p => (txBlock p).map (shiftLine k)) := by
          funext p; exact txBlock_shift k p
        rw [this]

theorem dump_shift (k : Int) (printed : List Id) (ctx : GeneCtx) (models : List TModel)
    (hv : ∀ m ∈ models, validateExons (shiftL k m.exons) = validateExons m.exons) :
    dump printed (shiftCtx k ctx) (models.map (shiftTM k)) = (dump printed ctx models).map (shiftDumpRes k) := by
  simp only [dump, List.isEmpty_map]
  split
  · rfl
  · have hp := phase1_shift k ctx models Acc.empty Acc.empty (accShift_empty k) hv
    cases h1 : phase1 ctx models Acc.empty <;> cases h2 : phase1 (shiftCtx k ctx) (models.map (shiftTM k)) Acc.empty <;>
      simp only [h1, h2, OptAccShift] at hp ⊢
    · rfl
    · rename_i a a'
      simp only [Option.map_some, geneOrder_shift k a a' hp, emitGenes_shift k a a' hp]

theorem runCalls_shift (k : Int) (calls : List Call) (printed : List Id)
    (hv : ∀ c ∈ calls, ∀ m ∈ c.models, validateExons (shiftL k m.exons) = validateExons m.exons) :
    runCalls printed (calls.map (shiftCall k)) = (runCalls printed calls).map (shiftDumpRes k) := by
  induction calls generalizing printed with
  | nil => rfl
  | cons c cs ih =>
    simp only [List.map_cons, runCalls, shiftCall, dump_shift k printed c.ctx c.models (hv c (by simp))]
    cases dump printed c.ctx c.models with
    | none => rfl
    | some r =>
      obtain ⟨p1, l1⟩ := r
      simp only [Option.map_some, shiftDumpRes]
      rw [ih p1 (fun c' hc' => hv c' (by simp [hc']))]
      cases runCalls p1 cs with
      | none => rfl
      | some r2 =>
        obtain ⟨p2, l2⟩ := r2
        simp only [Option.map_some, shiftDumpRes, List.map_append]

theorem gtf_listMin_shift (k : Int) (l : List Int) :
    C03.listMin (l.map (· + k)) = (C03.listMin l).map (· + k) := by
  induction l with
  | nil => rfl
  | cons x xs ih =>
    simp only [List.map_cons, C03.listMin, ih]
    cases C03.listMin xs with
    | none => rfl
    | some m => simp only [Option.map_some, Int.min_add_right]

theorem gtf_listMax_shift (k : Int) (l : List Int) :
    C03.listMax (l.map (· + k)) = (C03.listMax l).map (· + k) := by
  induction l with
  | nil => rfl
  | cons x xs ih =>
    simp only [List.map_cons, C03.listMax, ih]
    cases C03.listMax xs with
    | none => rfl
    | some m => simp only [Option.map_some, Int.max_add_right]

def shiftEndState (k : Int) (st : EndState) : EndState :=
  { st with readStarts := st.readStarts.map (· + k), readEnds := st.readEnds.map (· + k) }

theorem gtf_iabs_sub_shift (k a b : Int) : iabs (a + k - (b + k)) = iabs (a - b) := by
  rw [Int.add_sub_add_right]

theorem gtf_endStep_shift (k apa ts te : Int) (first last : Iv) (st : EndState) (rd : Iv) :
    endStep apa (ts + k) (te + k) (shiftIv k first) (shiftIv k last) (shiftEndState k st) (shiftIv k rd)
      = shiftEndState k (endStep apa ts te first last st rd) := by
  simp only [endStep, shiftEndState, shiftIv_fst, shiftIv_snd, gtf_iabs_sub_shift, gt_iff_lt,
    Int.add_lt_add_iff_right, EndState.mk.injEq, true_and]
  constructor
  · split <;> simp
  · split <;> simp

theorem gtf_foldl_endStep_shift (k apa ts te : Int) (first last : Iv) (reads : List Iv) (st : EndState) :
    (shiftL k reads).foldl (endStep apa (ts + k) (te + k) (shiftIv k first) (shiftIv k last)) (shiftEndState k st)
      = shiftEndState k (reads.foldl (endStep apa ts te first last) st) :=
  foldl_map_comm (shiftEndState k) (shiftIv k) _ _ (gtf_endStep_shift k apa ts te first last) reads st

theorem gtf_foldl_endStep_mem (apa ts te : Int) (first last : Iv) (reads : List Iv) (st : EndState) :
    (∀ s ∈ (reads.foldl (endStep apa ts te first last) st).readStarts, s ∈ st.readStarts ∨ ∃ rd ∈ reads, rd.1 = s) ∧
    (∀ e ∈ (reads.foldl (endStep apa ts te first last) st).readEnds, e ∈ st.readEnds ∨ ∃ rd ∈ reads, rd.2 = e) := by
  induction reads generalizing st with
  | nil => exact ⟨fun s hs => Or.inl hs, fun e he => Or.inl he⟩
  | cons r rs ih =>
    simp only [List.foldl_cons]
    obtain ⟨i1, i2⟩ := ih (endStep apa ts te first last st r)
    constructor
    · intro s hs
      rcases i1 s hs with h | ⟨rd, hrd, h⟩
      · simp only [endStep] at h
        split at h
        · rcases List.mem_cons.mp h with h | h
          · exact Or.inr ⟨r, by simp, h.symm⟩
          · exact Or.inl h
        · exact Or.inl h
      · exact Or.inr ⟨rd, List.mem_cons_of_mem _ hrd, h⟩
    · intro e he
      rcases i2 e he with h | ⟨rd, hrd, h⟩
      · simp only [endStep] at h
        split at h
        · rcases List.mem_cons.mp h with h | h
          · exact Or.inr ⟨r, by simp, h.symm⟩
          · exact Or.inl h
        · exact Or.inl h
      · exact Or.inr ⟨rd, List.mem_cons_of_mem _ hrd, h⟩

theorem setHead_shift (k : Int) (l : List Iv) (x : Iv) :
    setHead (shiftL k l) (shiftIv k x) = shiftL k (setHead l x) := by
  cases l <;> rfl

theorem setLast_shift (k : Int) (l : List Iv) (x : Iv) :
    setLast (shiftL k l) (shiftIv k x) = shiftL k (setLast l x) := by
  fun_induction setLast l x with
  | case1 => rfl
  | case2 a => rfl
  | case3 a b t ih =>
    simp only [shiftL_cons] at ih ⊢
    simp only [setLast, ih]

/-- Python truthiness of the new coordinate is the same before and after the shift -/
def ZeroStableAt (k : Int) (o : Option Int) : Prop := ∀ s, o = some s → (s = 0 ↔ s + k = 0)

theorem applyStart_shift (k : Int) (exons : List Iv) (first : Iv) (o : Option Int) (hz : ZeroStableAt k o) :
    applyStart (shiftL k exons) (shiftIv k first) (o.map (· + k)) = shiftL k (applyStart exons first o) := by
  cases o with
  | none => rfl
  | some s =>
    simp only [Option.map_some, applyStart, shiftIv_snd, Int.add_lt_add_iff_right, ne_eq, ← hz s rfl]
    split
    · have : ((s + k, first.2 + k) : Iv) = shiftIv k (s, first.2) := rfl
      rw [this, setHead_shift]
    · rfl

theorem applyEnd_shift (k : Int) (exons1 : List Iv) (o : Option Int) (hz : ZeroStableAt k o) :
    applyEnd (shiftL k exons1) (o.map (· + k)) = (applyEnd exons1 o).map (shiftL k) := by
  cases o with
  | none => cases h : exons1.getLast? <;> simp [applyEnd, shiftL_getLast?, h]
  | some e =>
    simp only [Option.map_some, applyEnd, shiftL_getLast?]
    cases exons1.getLast? with
    | none => rfl
    | some last1 =>
      simp only [Option.map_some, shiftIv_fst, gt_iff_lt, Int.add_lt_add_iff_right, ne_eq, ← hz e rfl,
        Option.some.injEq]
      split
      · have : ((last1.1 + k, e + k) : Iv) = shiftIv k (last1.1, e) := rfl
        rw [this, setLast_shift]
      · rfl

theorem isortBy_intLt_shift (k : Int) (l : List Int) :
    isortBy intLt (l.map (· + k)) = (isortBy intLt l).map (· + k) :=
  gtf_isortBy_map intLt intLt (· + k) (fun a b => gtf_intLt_shift k a b) l

theorem exonFeats_sorted (l : List Iv) (hsd : SD l) (hw : WFl l) :
    isortBy featLt (l.map exonFeat) = l.map exonFeat := by
  apply isortBy_eq_self
  induction l with
  | nil => exact List.Pairwise.nil
  | cons a t ih =>
    simp only [List.map_cons, List.pairwise_cons]
    refine ⟨?_, ih (SD_tail hsd) (WFl_tail hw)⟩
    intro f hf
    obtain ⟨b, hb, rfl⟩ := List.mem_map.mp hf
    have h1 := SD_all_right hsd hw b hb
    have h2 := WFl_head hw
    simp only [featLt, exonFeat]
    grind

theorem flipStrandCode_minus_iff (s : Strand) (h : s = 0 ∨ s = 1) : (flipStrandCode s = strandMinus ↔ ¬ s = strandMinus) := by
  rcases h with h | h <;> subst h <;> decide

theorem zipIdx_map_feat_mirror (L : Int) (chr : Id) (strand : Strand) (gid tid : Id) (l : List Iv) (n : Nat) :
    (((l.map (mirrorIv L)).map exonFeat).zipIdx n).map
        (fun p => Line.feat chr p.1.2.2 p.1.1 p.1.2.1 (flipStrandCode strand) gid tid (p.2 + 1))
      = (((l.map exonFeat).zipIdx n).map
          (fun p => Line.feat chr p.1.2.2 p.1.1 p.1.2.1 strand gid tid (p.2 + 1))).map (mirrorLine L) := by
  induction l generalizing n with
  | nil => rfl
  | cons a t ih =>
    simp only [List.map_cons, List.zipIdx_cons, ih, List.cons.injEq, and_true]
    simp only [exonFeat, mirrorIv, mirrorLine]

theorem featLines_mirror (L : Int) (m : TModel) (ho : m.other = []) (hsd : SD m.exons) (hw : WFl m.exons)
    (hs : m.strand = 0 ∨ m.strand = 1) :
    featLines (mirrorTM L m) = (featLines m).map (mirrorLine L) := by
  rw [featLines_eq_of, featLines_eq_of]
  show featLinesOf m.chr (flipStrandCode m.strand) m.gid m.tid
      ((m.other.map (mirrorFeat L)).reverse ++ (mirrorL L m.exons).map exonFeat) = _
  rw [ho]
  simp only [List.map_nil, List.reverse_nil, List.nil_append, featLinesOf,
    exonFeats_sorted _ (SD_mirror L _ hsd) (WFl_mirror L _ hw), exonFeats_sorted _ hsd hw]
  have hflip := flipStrandCode_minus_iff m.strand hs
  by_cases hm : m.strand = strandMinus
  · have hf : ¬ flipStrandCode m.strand = strandMinus := fun c => (hflip.mp c) hm
    rw [if_neg hf, if_pos hm]
    have e : (mirrorL L m.exons).map exonFeat = ((m.exons.reverse).map (mirrorIv L)).map exonFeat := by
      rw [mirrorL_eq_map_reverse]
    rw [e, ← List.map_reverse, zipIdx_map_feat_mirror]
  · have hf : flipStrandCode m.strand = strandMinus := hflip.mpr hm
    rw [if_pos hf, if_neg hm]
    have e : ((mirrorL L m.exons).map exonFeat).reverse = ((m.exons).map (mirrorIv L)).map exonFeat := by
      rw [← List.map_reverse, mirrorL_reverse]
    rw [e, zipIdx_map_feat_mirror]

end IsoVerif.Lemmas.C11
