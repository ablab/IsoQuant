/-
Lemmas about the constructors of novel exon lists (`get_exons`, `correct_novel_transcript_ends`).
-/
import IsoVerif.Model.Gtf
import IsoVerif.Lemmas.Interval
import IsoVerif.Lemmas.Junctions

namespace IsoVerif.Lemmas.C03
open IsoVerif.Gen IsoVerif.Model IsoVerif.Model.C03 IsoVerif.Lemmas

/-- intron starts do not decrease along the path: the assumption on intron paths that the oracle monitors (the introns
    may touch, overlap or nest) -/
def StartsMono (l : List Iv) : Prop := l.Pairwise (fun a b => a.1 ≤ b.1)

theorem SD_startsMono (l : List Iv) (hs : SD l) (hw : WFl l) : StartsMono l :=
  (SD_pairwise l hs hw).imp_of_mem fun ha _ h => by have := hw _ ha; omega

/-- core of `get_exons`: `getExons r introns` is `junctionsFromBlocks ((0, r.1 - 1) :: introns ++ [(r.2 + 1, 0)])` by
    definition - the exons are the gaps between the introns, padded by two sentinel blocks `a`, `z` -/
theorem junctions_between (z : Iv) : ∀ (introns : List Iv) (a : Iv), StartsMono introns → WFl introns →
    let E := junctionsFromBlocks (a :: introns ++ [z])
    WFl E ∧ SD E ∧
    (∀ x ∈ E, x.1 = a.2 + 1 ∨ ∃ c ∈ introns, x.1 = c.2 + 1) ∧
    (∀ x ∈ E, x.2 = z.1 - 1 ∨ ∃ c ∈ introns, x.2 = c.1 - 1) := by
  intro introns a hsm hw
  have ht : introns.Pairwise C14.TouchOrdered :=
    hsm.imp_of_mem fun {p q} _ hq h => by have := hw q hq; show p.1 ≤ q.2 + 1; omega
  have hv := C14.junctions_valid z introns a (fun c hc => by have := hw c hc; omega) ht
  exact ⟨hv.2, hv.1, fun x hx => (C14.junctions_sites z introns a x hx).1,
    fun x hx => (C14.junctions_sites z introns a x hx).2⟩

/-! ### the length guard of `construct_fl_isoforms`

`len(novel_exons) == len(intron_path) + 1` holds only if no two neighbouring blocks touch (`GapsAll`). -/

/-- every block ends at least two positions before the next one starts: what the length guard enforces -/
def GapsAll : List Iv → Prop
  | [] => True
  | [_] => True
  | a :: b :: t => a.2 + 1 < b.1 ∧ GapsAll (b :: t)

theorem junctions_full_gaps : ∀ l : List Iv, (junctionsFromBlocks l).length = l.length - 1 → GapsAll l
  | [], _ => trivial
  | [_], _ => trivial
  | a :: b :: t, h => by
    obtain ⟨hg, h'⟩ := C14.length_junctions_full (a := a) (b := b) (t := t) (by simpa using h)
    exact ⟨hg, junctions_full_gaps (b :: t) (by simpa using h')⟩

theorem gaps_inner (z : Iv) : ∀ (introns : List Iv) (a : Iv), GapsAll (a :: introns ++ [z]) → WFl introns →
    SD introns ∧ ∀ c ∈ introns, a.2 + 1 < c.1 ∧ c.2 + 1 < z.1
  | [], _, _, _ => ⟨trivial, List.forall_mem_nil _⟩
  | i :: rest, a, h, hw => by
    obtain ⟨hs, hb⟩ := gaps_inner z rest i h.2 (WFl_tail hw)
    have hi := WFl_head hw
    have hz : i.2 + 1 < z.1 := by
      cases rest with
      | nil => exact (show GapsAll [i, z] from h.2).1
      | cons j t =>
        have := (hb j List.mem_cons_self).2
        have := (show GapsAll (i :: j :: (t ++ [z])) from h.2).1
        have := hw j (by simp)
        omega
    refine ⟨?_, fun c hc => ?_⟩
    · cases rest with
      | nil => trivial
      | cons j t => exact ⟨by have := (show GapsAll (i :: j :: (t ++ [z])) from h.2).1; omega, hs⟩
    · rcases List.mem_cons.mp hc with rfl | hc
      · exact ⟨h.1, hz⟩
      · have hc' := hb c hc
        have := h.1
        exact ⟨by omega, hc'.2⟩

theorem flNovelExons_eq_some {r : Iv} {path ex : List Iv} :
    flNovelExons r path = some ex ↔ ex = getExons r path ∧ ex.length = path.length + 1 := by
  unfold flNovelExons
  simp only
  split
  · next h => exact ⟨nofun, fun ⟨e, hl⟩ => absurd (e ▸ hl) h⟩
  · next h => exact ⟨fun e => by cases e; exact ⟨rfl, Classical.not_not.mp h⟩, fun ⟨e, _⟩ => by rw [e]⟩

theorem setHead_length (l : List Iv) (x : Iv) : (setHead l x).length = l.length := by
  cases l <;> rfl

theorem setLast_length : ∀ (l : List Iv) (x : Iv), (setLast l x).length = l.length
  | [], _ => rfl
  | [_], _ => rfl
  | a :: b :: t, x => by simp [setLast, setLast_length (b :: t) x]

theorem junctions_setHead (a : Iv) (t : List Iv) (s : Int) :
    junctionsFromBlocks (setHead (a :: t) (s, a.2)) = junctionsFromBlocks (a :: t) := by
  cases t with
  | nil => simp [setHead, junctionsFromBlocks]
  | cons b t' => simp [setHead, junctionsFromBlocks]

theorem SD_setHead (a : Iv) (t : List Iv) (s : Int) (h : SD (a :: t)) : SD (setHead (a :: t) (s, a.2)) := by
  cases t with
  | nil => trivial
  | cons b t' => exact ⟨h.1, h.2⟩

theorem setLast_spec : ∀ (l : List Iv) (t : Iv) (e : Int), l.getLast? = some t →
    junctionsFromBlocks (setLast l (t.1, e)) = junctionsFromBlocks l ∧
    (SD l → SD (setLast l (t.1, e))) ∧
    (setLast l (t.1, e)).getLast? = some (t.1, e) ∧
    (setLast l (t.1, e)).head?.map (·.1) = l.head?.map (·.1) ∧
    (∀ x ∈ setLast l (t.1, e), x ∈ l ∨ x = (t.1, e))
  | [], _, _, h => by simp at h
  | [a], t, e, h => by
    simp at h; subst h
    simp [setLast, junctionsFromBlocks, SD]
  | a :: b :: rest, t, e, h => by
    have h' : (b :: rest).getLast? = some t := by simpa [List.getLast?_cons_cons] using h
    obtain ⟨j, s, g, hd, m⟩ := setLast_spec (b :: rest) t e h'
    have hne : ∃ b' r', setLast (b :: rest) (t.1, e) = b' :: r' ∧ b'.1 = b.1 := by
      cases rest with
      | nil =>
        simp at h'; subst h'
        exact ⟨_, _, rfl, rfl⟩
      | cons c r => exact ⟨b, _, rfl, rfl⟩
    obtain ⟨b', r', hb', hb1⟩ := hne
    refine ⟨?_, ?_, ?_, ?_, ?_⟩
    · simp only [setLast]
      rw [hb'] at j ⊢
      simp only [junctionsFromBlocks, hb1]
      rw [j]
    · intro hsd
      simp only [setLast]
      have := s hsd.2
      rw [hb'] at this ⊢
      exact ⟨by rw [hb1]; exact hsd.1, this⟩
    · simp only [setLast]
      rw [hb'] at g ⊢
      simpa [List.getLast?_cons_cons] using g
    · simp [setLast]
    · intro x hx
      simp only [setLast, List.mem_cons] at hx
      rcases hx with hx | hx
      · left; simp [hx]
      · rcases m x (by simpa using hx) with h1 | h1
        · left; exact List.mem_cons_of_mem _ h1
        · right; exact h1

/-- what `correct_novel_transcript_ends` may do to a transcript (not the `Shrunk` of Lemmas/ModelConstruction, a
    structure on stores in namespace `Lemmas.C04`) -/
def Shrunk (orig r : List Iv) : Prop :=
  SD r ∧ WFl r ∧ r.length = orig.length ∧ junctionsFromBlocks r = junctionsFromBlocks orig ∧
  ∀ f t, orig.head? = some f → orig.getLast? = some t →
    ∃ f' t', r.head? = some f' ∧ r.getLast? = some t' ∧ f.1 ≤ f'.1 ∧ t'.2 ≤ t.2

theorem Shrunk.sd {orig r : List Iv} (h : Shrunk orig r) : SD r := h.1
theorem Shrunk.wf {orig r : List Iv} (h : Shrunk orig r) : WFl r := h.2.1
theorem Shrunk.length_eq {orig r : List Iv} (h : Shrunk orig r) : r.length = orig.length := h.2.2.1
theorem Shrunk.junctions_eq {orig r : List Iv} (h : Shrunk orig r) : junctionsFromBlocks r = junctionsFromBlocks orig :=
  h.2.2.2.1
theorem Shrunk.ends {orig r : List Iv} (h : Shrunk orig r) {f t : Iv} (hf : orig.head? = some f)
    (ht : orig.getLast? = some t) : ∃ f' t', r.head? = some f' ∧ r.getLast? = some t' ∧ f.1 ≤ f'.1 ∧ t'.2 ≤ t.2 :=
  h.2.2.2.2 f t hf ht

theorem Shrunk.refl (l : List Iv) (hsd : SD l) (hw : WFl l) : Shrunk l l :=
  ⟨hsd, hw, rfl, rfl, fun f t hf ht => ⟨f, t, hf, ht, Int.le_refl _, Int.le_refl _⟩⟩

theorem Shrunk.set_head {orig : List Iv} {a : Iv} {t : List Iv} (h : Shrunk orig (a :: t)) (s : Int)
    (h1 : a.1 ≤ s) (h2 : s ≤ a.2) : Shrunk orig (setHead (a :: t) (s, a.2)) := by
  obtain ⟨hsd, hw, hlen, hj, hb⟩ := h
  refine ⟨SD_setHead a t s hsd, ?_, by rw [setHead_length, hlen], by rw [junctions_setHead, hj], ?_⟩
  · intro r hr
    simp only [setHead, List.mem_cons] at hr
    rcases hr with hr | hr
    · subst hr; exact h2
    · exact hw r (List.mem_cons_of_mem _ hr)
  · intro f tl hf htl
    obtain ⟨f', t', hf', ht', b1, b2⟩ := hb f tl hf htl
    have hf'' : a = f' := by simpa using hf'
    subst hf''
    cases t with
    | nil =>
      simp at ht'; subst ht'
      exact ⟨(s, a.2), (s, a.2), rfl, rfl, by simp; omega, by simpa using b2⟩
    | cons b t'' =>
      refine ⟨(s, a.2), t', rfl, ?_, by simp; omega, b2⟩
      simpa [setHead, List.getLast?_cons_cons] using ht'

theorem Shrunk.set_last {orig l : List Iv} (h : Shrunk orig l) (tl : Iv) (e : Int) (hl : l.getLast? = some tl)
    (h1 : tl.1 ≤ e) (h2 : e ≤ tl.2) : Shrunk orig (setLast l (tl.1, e)) := by
  obtain ⟨hsd, hw, hlen, hj, hb⟩ := h
  obtain ⟨sj, ssd, sg, shd, sm⟩ := setLast_spec l tl e hl
  refine ⟨ssd hsd, ?_, by rw [setLast_length, hlen], by rw [sj, hj], ?_⟩
  · intro r hr
    rcases sm r hr with hr | hr
    · exact hw r hr
    · subst hr; exact h1
  · intro f t hf ht
    obtain ⟨f', t', hf', ht', b1, b2⟩ := hb f t hf ht
    rw [hl] at ht'
    simp only [Option.some.injEq] at ht'
    subst ht'
    rw [hf'] at shd
    cases hh : (setLast l (tl.1, e)).head? with
    | none => simp [hh] at shd
    | some f'' =>
      simp only [hh, Option.map_some, Option.some.injEq] at shd
      exact ⟨f'', (tl.1, e), rfl, sg, by omega, by simp; omega⟩

theorem applyStart_shrunk (a : Iv) (t : List Iv) (last : Iv) (hlast : (a :: t).getLast? = some last)
    (hsd : SD (a :: t)) (hw : WFl (a :: t)) (ns : Option Int) (hns : ∀ s, ns = some s → s > a.1) :
    Shrunk (a :: t) (applyStart (a :: t) a ns) ∧
    (∀ tl, (applyStart (a :: t) a ns).getLast? = some tl → tl.2 = last.2) := by
  have hrefl := Shrunk.refl (a :: t) hsd hw
  have hsame : ∀ tl, (a :: t).getLast? = some tl → tl.2 = last.2 := by
    intro tl h; rw [hlast] at h; simp at h; rw [h]
  unfold applyStart
  cases ns with
  | none => exact ⟨hrefl, hsame⟩
  | some s =>
    simp only
    split
    · rename_i hc
      have hgt := hns s rfl
      refine ⟨hrefl.set_head s (by omega) (by omega), ?_⟩
      intro tl htl
      cases t with
      | nil =>
        simp [setHead] at htl
        simp at hlast
        subst hlast; subst htl; rfl
      | cons b t' =>
        have : (setHead (a :: b :: t') (s, a.2)).getLast? = (a :: b :: t').getLast? := by
          simp [setHead, List.getLast?_cons_cons]
        rw [this] at htl
        exact hsame tl htl
    · exact ⟨hrefl, hsame⟩

theorem applyEnd_shrunk {orig l1 : List Iv} (hsh : Shrunk orig l1) (hne : l1 ≠ []) (bound : Int)
    (hb : ∀ tl, l1.getLast? = some tl → tl.2 = bound) (ne : Option Int) (hne2 : ∀ e, ne = some e → e < bound) :
    ∃ r, applyEnd l1 ne = some r ∧ Shrunk orig r := by
  obtain ⟨last1, hlast1⟩ : ∃ x, l1.getLast? = some x := by
    obtain ⟨a, t, rfl⟩ := List.exists_cons_of_ne_nil hne
    exact getLast?_cons_some a t
  unfold applyEnd
  rw [hlast1]
  cases ne with
  | none => exact ⟨l1, rfl, hsh⟩
  | some e =>
    simp only
    have hlt := hne2 e rfl
    have := hb last1 hlast1
    split
    · exact ⟨_, rfl, hsh.set_last last1 e hlast1 (by omega) (by omega)⟩
    · exact ⟨l1, rfl, hsh⟩

end IsoVerif.Lemmas.C03
