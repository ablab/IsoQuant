/-
C11 helper lemmas — the `while` loop of `process_events` WITH index-keyed events under reflection
(`ProcessEventsMirror`, Props/C11Corrector.lean).

The loop walks the read introns left to right; an event keyed by `i` consumes the introns `i … e.read.2`.  The mirrored
run walks the same tiling from the other end.  Both are compared with `backS c k`: the SUMMARY (region update +
new introns) of the segments that tile `[0, k)`, defined by recursion from the RIGHT end (`findEnd`: the event whose
range ends at `k − 1`).

  * `loop_eq_back`     the forward loop on the data = `backS c n`           (segmentation read left to right)
  * `mirror_loop_back` the forward loop on the MIRRORED data = mirror image of `backS c n`   (read right to left)

A summary (`Summ`, Lemmas/C11CorrectorEvent.lean) is what one event / a run of segments does to `corrected_read_region`
(set the left end, set the right end, or nothing) and the introns it appends.  Updates of different ends commute
(`RegUpd.comp_comm`); `EmapWF` allows one event per end and an end of a prefix summary was set by an event of that
prefix (`SetBy`, `backS_props`), so the order in which the two runs meet the events does not matter.  On an in-range
event the only exception is the failed `assert` (`evOut_inrange`), so neither does the order in which they meet it.
-/
import IsoVerif.Gen.Prims
import IsoVerif.Model.Interval
import IsoVerif.Model.Corrector
import IsoVerif.Model.C11Symmetry
import IsoVerif.Model.C11SymBedCorr
import IsoVerif.Lemmas.Corrector
import IsoVerif.Lemmas.CorrectorLoop
import IsoVerif.Lemmas.AssocList
import IsoVerif.Lemmas.C11Mirror
import IsoVerif.Lemmas.C11CorrectorMirror

namespace IsoVerif.Lemmas.C11
open IsoVerif.Gen IsoVerif.Model IsoVerif.Model.C14 IsoVerif.Model.C11 IsoVerif.Lemmas IsoVerif.Lemmas.C14

def LeftT (t : MatchEventSubtype) : Prop :=
  t = MatchEventSubtype.fake_terminal_exon_left ∨ t = MatchEventSubtype.terminal_exon_misalignment_left
def RightT (t : MatchEventSubtype) : Prop :=
  t = MatchEventSubtype.fake_terminal_exon_right ∨ t = MatchEventSubtype.terminal_exon_misalignment_right

theorem sliceIncl_ok_of (l : List Iv) (a b : Int) (h : a ≤ b → 0 ≤ a ∧ b < l.length) :
    ∃ xs, sliceIncl l a b = .ok xs := by
  by_cases hab : a ≤ b
  · obtain ⟨h0, h1⟩ := h hab
    exact ⟨_, sliceIncl_inrange l a b h0 hab h1⟩
  · have e1 : (b + 1 - a).toNat = 0 := by omega
    exact ⟨[], by simp only [sliceIncl, e1, rangeGet]⟩

theorem keepOut_inrange (ri corr : List Iv) (e : MEvent) (hn : corr.length = ri.length)
    (hr : 0 ≤ e.read.1 ∧ e.read.1 < ri.length ∧ 0 ≤ e.read.2 ∧ e.read.2 < ri.length) :
    ∃ xs, addOut (keepOut ri corr e) = .ok ((none, none), xs) := by
  unfold keepOut
  split
  · obtain ⟨xs, h⟩ := sliceIncl_ok_of corr e.read.1 e.read.2 fun _ => ⟨hr.1, by omega⟩
    exact ⟨xs, by rw [h]; rfl⟩
  · obtain ⟨xs, h⟩ := sliceIncl_ok_of ri e.read.1 e.read.2 fun _ => ⟨hr.1, hr.2.2.2⟩
    exact ⟨xs, by rw [h]; rfl⟩

theorem fakeOut_inrange (ri : List Iv) (e : MEvent) (f : Iv → RegUpd) (h0 : 0 ≤ e.read.1) (h1 : e.read.1 < ri.length) :
    fakeOut ri e f = .error .assertion ∨ ∃ x, fakeOut ri e f = .ok (f x, []) := by
  obtain ⟨x, hx, _⟩ := pyGet_inrange ri e.read.1 h0 h1
  unfold fakeOut
  rw [hx]
  split
  · exact .inl rfl
  · exact .inr ⟨x, rfl⟩

theorem termOut_inrange (isoI : List Iv) (e : MEvent) (u : RegUpd) (h0 : 0 ≤ e.iso.1) (h1 : e.iso.1 < isoI.length) :
    ∃ x, termOut isoI e u = .ok (u, [x]) := by
  obtain ⟨x, hx, _⟩ := pyGet_inrange isoI e.iso.1 h0 h1
  exact ⟨x, by rw [termOut, hx]⟩

theorem misOut_inrange (p : CParams) (rr : Iv) (ri corr isoI : List Iv) (e : MEvent) (hn : corr.length = ri.length)
    (hr : 0 ≤ e.read.1 ∧ e.read.1 < ri.length ∧ 0 ≤ e.read.2 ∧ e.read.2 < ri.length)
    (hi : 0 ≤ e.iso.1 ∧ e.iso.1 < isoI.length ∧ 0 ≤ e.iso.2 ∧ e.iso.2 < isoI.length) :
    misOut p rr ri corr isoI e = .error .assertion ∨ ∃ xs, misOut p rr ri corr isoI e = .ok ((none, none), xs) := by
  obtain ⟨a, ha, _⟩ := pyGet_inrange isoI e.iso.1 hi.1 hi.2.1
  obtain ⟨b, hb, _⟩ := pyGet_inrange isoI e.iso.2 hi.2.2.1 hi.2.2.2
  obtain ⟨ss, hss⟩ := sliceIncl_ok_of isoI e.iso.1 e.iso.2 fun _ => ⟨hi.1, hi.2.2.2⟩
  unfold misOut
  rw [ha, hb, hss]
  simp only
  split
  · split
    · exact .inl rfl
    · exact .inr ⟨ss, rfl⟩
  · exact .inr (keepOut_inrange ri corr e hn hr)

theorem evOut_inrange (p : CParams) (rr : Iv) {ri corr : List Iv} (isoR : Iv) {isoI : List Iv} {e : MEvent}
    (hn : corr.length = ri.length) (h : EventInRange ri.length isoI.length e) :
    evOut p rr ri corr isoR isoI e = .error .assertion ∨
    ∃ u xs, evOut p rr ri corr isoR isoI e = .ok (u, xs) ∧
      (u.1 ≠ none → LeftT e.etype) ∧ (u.2 ≠ none → RightT e.etype) := by
  obtain ⟨hr, hi, _⟩ := h
  have ht := evKind_type p e.etype
  unfold evOut
  cases hk : evKind p e.etype <;> rw [hk] at ht <;> simp only at ht ⊢
  · exact (fakeOut_inrange ri e _ hr.1 hr.2.1).imp_right fun ⟨x, hx⟩ =>
      ⟨_, _, hx, fun _ => .inl ht, fun h => absurd rfl h⟩
  · exact (fakeOut_inrange ri e _ hr.1 hr.2.1).imp_right fun ⟨x, hx⟩ =>
      ⟨_, _, hx, fun h => absurd rfl h, fun _ => .inl ht⟩
  · obtain ⟨x, hx⟩ := termOut_inrange isoI e (some isoR.1, none) (hi (.inl ht)).1 (hi (.inl ht)).2.1
    exact .inr ⟨_, _, hx, fun _ => .inr ht, fun h => absurd rfl h⟩
  · obtain ⟨x, hx⟩ := termOut_inrange isoI e (none, some isoR.2) (hi (.inr (.inl ht))).1 (hi (.inr (.inl ht))).2.1
    exact .inr ⟨_, _, hx, fun h => absurd rfl h, fun _ => .inr ht⟩
  · exact (misOut_inrange p rr ri corr isoI e hn hr (hi (.inr (.inr ht)))).imp_right fun ⟨xs, hx⟩ =>
      ⟨_, _, hx, fun h => absurd rfl h, fun h => absurd rfl h⟩
  · obtain ⟨xs, hx⟩ := keepOut_inrange ri corr e hn hr
    exact .inr ⟨_, _, hx, fun h => absurd rfl h, fun h => absurd rfl h⟩

/-- the arguments of `eventLoop` that the loop never changes -/
structure LCtx where
  p : CParams
  emap : List (Int × MEvent)
  mm : List (Int × Int)
  rr : Iv
  ri : List Iv
  corr : List Iv
  isoR : Iv
  isoI : List Iv

def LCtx.loop (c : LCtx) : Nat → Int → Iv → List Iv → Except CErr (Iv × List Iv) :=
  eventLoop c.p c.emap c.mm c.rr c.ri c.corr c.isoR c.isoI

def LCtx.out (c : LCtx) (e : MEvent) : Summ := evOut c.p c.rr c.ri c.corr c.isoR c.isoI e

def LCtx.mic (c : LCtx) (i : Nat) : List Iv := microOf c.mm c.isoI i

def LCtx.mirror (L : Int) (c : LCtx) : LCtx :=
  ⟨c.p, mirrorEmap c.ri.length c.isoI.length c.emap, mirrorMicroMap c.ri.length c.isoI.length c.mm, mirrorIv L c.rr,
   mirrorL L c.ri, mirrorL L c.corr, mirrorIv L c.isoR, mirrorL L c.isoI⟩

/-- the event whose read range ENDS at intron `k` (the mirrored run finds it under the key `n − 1 − k`:
    `lookup_mirrorEmap`) -/
def findEnd (emap : List (Int × MEvent)) (k : Int) : Option MEvent :=
  (emap.find? (fun q => q.2.read.2 == k)).map (·.2)

/-- looking a key up in the mirrored event map = looking for the event that ENDS at the mirrored index -/
theorem lookup_mirrorEmap (n m : Nat) (emap : List (Int × MEvent)) (j : Int) :
    (mirrorEmap n m emap).lookup j = (findEnd emap ((n : Int) - 1 - j)).map (mirrorMEvent n m) := by
  induction emap with
  | nil => rfl
  | cons q t ih =>
    simp only [mirrorEmap, List.map_cons, findEnd, List.find?_cons, List.lookup_cons] at ih ⊢
    by_cases hq : q.2.read.2 = (n : Int) - 1 - j
    · have e1 : (j == (n : Int) - 1 - q.2.read.2) = true := by simp; omega
      have e2 : (q.2.read.2 == (n : Int) - 1 - j) = true := by simp [hq]
      simp only [e1, e2, Option.map_some]
    · have e1 : (j == (n : Int) - 1 - q.2.read.2) = false := by simp; omega
      have e2 : (q.2.read.2 == (n : Int) - 1 - j) = false := by simp [hq]
      simp only [e1, e2]
      exact ih

/-- summary of the segments that tile the read introns `[0, k)`, read from the right end: the last segment is the
    event that ends at `k − 1` (preceded by the micro introns restored in the exon before its first intron), or the
    read intron `k − 1` itself.  `min … (k − 1)` is there for the termination proof only: on a well-formed map
    `e.read.1 ≤ e.read.2 = k − 1` (`backS_ev`) -/
def backS (c : LCtx) (k : Nat) : Summ :=
  if _hk : k = 0 then .ok ((none, none), [])
  else
    match findEnd c.emap ((k : Int) - 1) with
    | none =>
      match backS c (k - 1), pyGet? c.corr ((k : Int) - 1) with
      | .error x, _ => .error x
      | .ok _, none => .error .index
      | .ok (u, xs), some x => .ok (u, xs ++ c.mic (k - 1) ++ [x])
    | some e =>
      match backS c (min e.read.1.toNat (k - 1)) with
      | .error x => .error x
      | .ok (u, xs) =>
        match c.out e with
        | .error x => .error x
        | .ok (v, ys) => .ok (u.comp v, xs ++ c.mic (min e.read.1.toNat (k - 1)) ++ ys)
termination_by k
decreasing_by all_goals omega


theorem backS_zero (c : LCtx) : backS c 0 = .ok ((none, none), []) := by
  rw [backS]; simp

theorem backS_plain (c : LCtx) (i : Nat) (h : findEnd c.emap (i : Int) = none) :
    backS c (i + 1) = match backS c i, pyGet? c.corr (i : Int) with
      | .error x, _ => .error x
      | .ok _, none => .error .index
      | .ok (u, xs), some x => .ok (u, xs ++ c.mic i ++ [x]) := by
  have e : ((i + 1 : Nat) : Int) - 1 = i := by omega
  conv => lhs; rw [backS]
  rw [dif_neg (by omega), e, h]
  rfl

theorem backS_ev (c : LCtx) (i : Nat) (e : MEvent) (h : findEnd c.emap (i : Int) = some e) (a : Nat)
    (ha : e.read.1 = a) (hai : a ≤ i) :
    backS c (i + 1) = match backS c a with
      | .error x => .error x
      | .ok (u, xs) =>
        match c.out e with
        | .error x => .error x
        | .ok (v, ys) => .ok (u.comp v, xs ++ c.mic a ++ ys) := by
  have e' : ((i + 1 : Nat) : Int) - 1 = i := by omega
  have hm : min e.read.1.toNat (i + 1 - 1) = a := by omega
  conv => lhs; rw [backS]
  rw [dif_neg (by omega), e', h]
  simp only [hm]

/-- the part of `EmapWF` the two runs need -/
structure EmapOK (n m : Nat) (emap : List (Int × MEvent)) : Prop where
  nodup : (emap.map (·.1)).Nodup
  key : ∀ q ∈ emap, q.2.read.1 = q.1 ∧ q.2.read.1 ≤ q.2.read.2
  inr : ∀ q ∈ emap, EventInRange n m q.2
  disj : ∀ q ∈ emap, ∀ q' ∈ emap, q.1 < q'.1 → q.2.read.2 < q'.1
  left1 : ∀ q ∈ emap, ∀ q' ∈ emap, LeftT q.2.etype → LeftT q'.2.etype → q = q'
  right1 : ∀ q ∈ emap, ∀ q' ∈ emap, RightT q.2.etype → RightT q'.2.etype → q = q'

theorem emapOK_of_wf {n m : Nat} {emap : List (Int × MEvent)} (h : EmapWF n m emap) : EmapOK n m emap := by
  obtain ⟨h1, h2, h3, h4, h5, h6⟩ := h
  refine ⟨h1, fun q hq => ⟨(h2 q hq (h4 q hq)).1, (h2 q hq (h4 q hq)).2.1⟩, fun q hq => (h2 q hq (h4 q hq)).2.2,
    fun q hq q' hq' hlt => h3 q hq q' hq' (h4 q hq) hlt, ?_, ?_⟩
  · intro q hq q' hq' hl hl'
    exact filter_le_one_unique _ emap h5 q hq q' hq' (by simpa [LeftT] using hl) (by simpa [LeftT] using hl')
  · intro q hq q' hq' hl hl'
    exact filter_le_one_unique _ emap h6 q hq q' hq' (by simpa [RightT] using hl) (by simpa [RightT] using hl')

theorem nodup_keys_eq {emap : List (Int × MEvent)} (h : (emap.map (·.1)).Nodup) :
    ∀ q ∈ emap, ∀ q' ∈ emap, q.1 = q'.1 → q = q' := by
  intro q hq q' hq' he
  have h1 := (lookup_iff_mem_of_nodup h q.1 q.2).mpr hq
  rw [he, (lookup_iff_mem_of_nodup h q'.1 q'.2).mpr hq'] at h1
  exact Prod.ext he (Option.some.inj h1).symm

theorem findEnd_some {emap : List (Int × MEvent)} {k : Int} {e : MEvent} (h : findEnd emap k = some e) :
    ∃ q ∈ emap, q.2 = e ∧ e.read.2 = k := by
  unfold findEnd at h
  cases hf : emap.find? (fun q => q.2.read.2 == k) with
  | none => simp [hf] at h
  | some q =>
    simp only [hf, Option.map_some, Option.some.injEq] at h
    have hp := List.find?_some hf
    simp only [beq_iff_eq] at hp
    exact ⟨q, List.mem_of_find?_eq_some hf, h, by rw [← h]; exact hp⟩

theorem findEnd_none {emap : List (Int × MEvent)} {k : Int} (h : findEnd emap k = none) :
    ∀ q ∈ emap, q.2.read.2 ≠ k := by
  unfold findEnd at h
  simp only [Option.map_eq_none_iff, List.find?_eq_none, beq_iff_eq] at h
  exact h

theorem lookup_none_keys {k : Int} {m : List (Int × MEvent)} (h : m.lookup k = none) : ∀ q ∈ m, q.1 ≠ k :=
  fun q hq hk => lookup_eq_none_iff_keys.mp h (List.mem_map.mpr ⟨q, hq, hk⟩)

/-- no event range straddles the position `i` -/
def Bd (emap : List (Int × MEvent)) (i : Int) : Prop := ∀ q ∈ emap, ¬ (q.1 < i ∧ i ≤ q.2.read.2)

theorem bd_zero {n m : Nat} {emap : List (Int × MEvent)} (ho : EmapOK n m emap) : Bd emap 0 := by
  intro q hq hc
  have := (ho.inr q hq).read
  have := ho.key q hq
  omega

theorem bd_succ {emap : List (Int × MEvent)} {i : Int} (hb : Bd emap i)
    (hl : emap.lookup i = none) : Bd emap (i + 1) := by
  intro q hq hc
  have h1 := lookup_none_keys hl q hq
  have h2 := hb q hq
  omega

theorem EmapOK.meet {n m : Nat} {emap : List (Int × MEvent)} (ho : EmapOK n m emap) {q q' : Int × MEvent}
    (hq : q ∈ emap) (hq' : q' ∈ emap) (h1 : q.1 ≤ q'.2.read.2) (h2 : q'.1 ≤ q.2.read.2) : q = q' := by
  by_cases h : q.1 < q'.1
  · have := ho.disj q hq q' hq' h; omega
  · by_cases h' : q'.1 < q.1
    · have := ho.disj q' hq' q hq h'; omega
    · exact nodup_keys_eq ho.nodup q hq q' hq' (by omega)

theorem bd_after {n m : Nat} {emap : List (Int × MEvent)} (ho : EmapOK n m emap) {i : Int} {e : MEvent}
    (hl : emap.lookup i = some e) : Bd emap (e.read.2 + 1) := by
  intro q hq hc
  have hm := mem_of_lookup hl
  have k1 := ho.key _ hm
  simp only at k1
  have := ho.meet hq hm (by simp only; omega) (by simp only; omega)
  subst this
  simp only at hc
  omega

theorem findEnd_of_lookup {n m : Nat} {emap : List (Int × MEvent)} (ho : EmapOK n m emap) {i : Int} {e : MEvent}
    (hl : emap.lookup i = some e) : findEnd emap e.read.2 = some e := by
  have hm := mem_of_lookup hl
  have k1 := ho.key _ hm
  simp only at k1
  cases hf : findEnd emap e.read.2 with
  | none => exact absurd rfl (findEnd_none hf _ hm)
  | some e' =>
    obtain ⟨q, hq, hqe, hr⟩ := findEnd_some hf
    have k2 := ho.key q hq
    rw [← hqe] at hr
    rw [← hqe, ho.meet hq hm (by simp only; omega) (by simp only; omega)]

theorem findEnd_none_of_bd {n m : Nat} {emap : List (Int × MEvent)} (ho : EmapOK n m emap) {i : Int} (hb : Bd emap i)
    (hl : emap.lookup i = none) : findEnd emap i = none := by
  cases hf : findEnd emap i with
  | none => rfl
  | some e =>
    obtain ⟨q, hq, hqe, hr⟩ := findEnd_some hf
    have h1 := lookup_none_keys hl q hq
    have h2 := hb q hq
    have k2 := ho.key q hq
    rw [← hqe] at hr
    omega


theorem LCtx.loop_plain (c : LCtx) {n' : Nat} (hw : MicroWF n' c.isoI.length c.mm) (fuel i : Nat) (reg : Iv)
    (acc : List Iv) (x : Iv) (hi : i < c.corr.length) (hl : c.emap.lookup (i : Int) = none)
    (hx : pyGet? c.corr (i : Int) = some x) :
    c.loop (fuel + 1) (i : Int) reg acc = c.loop fuel ((i + 1 : Nat) : Int) reg (acc ++ c.mic i ++ [x]) := by
  have hlt : (i : Int) < (c.corr.length : Int) := by omega
  unfold LCtx.loop
  conv => lhs; rw [eventLoop]
  simp only [hlt, if_true, microStep_wf hw, hl, hx, LCtx.mic]
  rfl

theorem LCtx.loop_ev (c : LCtx) {n' : Nat} (hw : MicroWF n' c.isoI.length c.mm) (fuel i : Nat) (reg : Iv)
    (acc : List Iv) (e : MEvent) (hi : i < c.corr.length) (hl : c.emap.lookup (i : Int) = some e) :
    c.loop (fuel + 1) (i : Int) reg acc
      = match c.out e with
        | .error x => .error x
        | .ok (v, ys) => c.loop fuel (e.read.2 + 1) (v.app reg) (acc ++ c.mic i ++ ys) := by
  have hlt : (i : Int) < (c.corr.length : Int) := by omega
  unfold LCtx.loop LCtx.out
  conv => lhs; rw [eventLoop]
  simp only [hlt, if_true, microStep_wf hw, hl, eventStep_evOut, LCtx.mic]
  cases evOut c.p c.rr c.ri c.corr c.isoR c.isoI e with
  | error x => rfl
  | ok q => rfl

theorem LCtx.loop_end (c : LCtx) {n' : Nat} (hw : MicroWF n' c.isoI.length c.mm) (fuel : Nat) (reg : Iv)
    (acc : List Iv) :
    c.loop (fuel + 1) (c.corr.length : Int) reg acc = .ok (reg, acc ++ c.mic c.corr.length) := by
  unfold LCtx.loop
  rw [eventLoop]
  simp only [Int.lt_irrefl, if_false, microStep_wf hw, LCtx.mic]

/-- an end of the region, if set at all, was set by an event of kind `T` whose range ends before intron `k` -/
def SetBy (T : MatchEventSubtype → Prop) (emap : List (Int × MEvent)) (k : Nat) (o : Option Int) : Prop :=
  o ≠ none → ∃ q ∈ emap, q.2.read.2 < k ∧ T q.2.etype

theorem SetBy.mono {T : MatchEventSubtype → Prop} {emap : List (Int × MEvent)} {k k' : Nat} {o : Option Int}
    (h : SetBy T emap k o) (hk : k ≤ k') : SetBy T emap k' o := fun ho =>
  let ⟨q, hq, hlt, ht⟩ := h ho
  ⟨q, hq, by omega, ht⟩

theorem SetBy.or {T : MatchEventSubtype → Prop} {emap : List (Int × MEvent)} {k : Nat} {u v : Option Int}
    (hu : SetBy T emap k u) (hv : SetBy T emap k v) : SetBy T emap k (v.or u) := by
  cases v with
  | none => exact hu
  | some x => exact fun _ => hv (by simp)

theorem SetBy.disjoint {T : MatchEventSubtype → Prop} {emap : List (Int × MEvent)} {k : Nat} {u v : Option Int}
    (uniq : ∀ q ∈ emap, ∀ q' ∈ emap, T q.2.etype → T q'.2.etype → q = q') (hu : SetBy T emap k u)
    {q : Int × MEvent} (hq : q ∈ emap) (hk : (k : Int) ≤ q.2.read.2) (hv : v ≠ none → T q.2.etype) :
    u = none ∨ v = none := by
  by_cases h1 : u = none
  · exact .inl h1
  · by_cases h2 : v = none
    · exact .inr h2
    · obtain ⟨q0, hq0, hlt, ht⟩ := hu h1
      rw [uniq q0 hq0 q hq ht (hv h2)] at hlt
      omega

theorem backS_props (c : LCtx) (hn : c.corr.length = c.ri.length) (ho : EmapOK c.ri.length c.isoI.length c.emap) :
    ∀ k, k ≤ c.corr.length →
      (∀ x, backS c k = .error x → x = .assertion) ∧
      (∀ u xs, backS c k = .ok (u, xs) → SetBy LeftT c.emap k u.1 ∧ SetBy RightT c.emap k u.2) := by
  intro k
  induction k using Nat.strongRecOn with
  | ind k ih =>
    intro hk
    cases k with
    | zero =>
      rw [backS_zero]
      refine ⟨(fun x h => nomatch h), fun u xs h => ?_⟩
      cases h
      exact ⟨fun h => absurd rfl h, fun h => absurd rfl h⟩
    | succ i =>
      cases hf : findEnd c.emap (i : Int) with
      | none =>
        obtain ⟨y, hy, _⟩ := pyGet_inrange c.corr (i : Int) (by omega) (by omega)
        obtain ⟨i1, i2⟩ := ih i (by omega) (by omega)
        rw [backS_plain c i hf, hy]
        cases hb : backS c i with
        | error z => exact ⟨fun x h => by cases h; exact i1 _ hb, fun u xs h => nomatch h⟩
        | ok q =>
          obtain ⟨u0, xs0⟩ := q
          refine ⟨(fun x h => nomatch h), fun u xs h => ?_⟩
          cases h
          exact ⟨(i2 _ _ hb).1.mono (by omega), (i2 _ _ hb).2.mono (by omega)⟩
      | some e =>
        obtain ⟨q, hq, hqe, hr⟩ := findEnd_some hf
        have k1 := ho.key q hq
        have k2 := (ho.inr q hq).read
        rw [hqe] at k1 k2
        obtain ⟨a, ha⟩ : ∃ a : Nat, e.read.1 = a := ⟨e.read.1.toNat, by omega⟩
        obtain ⟨i1, i2⟩ := ih a (by omega) (by omega)
        rw [backS_ev c i e hf a ha (by omega)]
        cases hb : backS c a with
        | error z => exact ⟨fun x h => by cases h; exact i1 _ hb, fun u xs h => nomatch h⟩
        | ok q0 =>
          obtain ⟨u0, xs0⟩ := q0
          obtain ⟨j1, j2⟩ := i2 _ _ hb
          simp only
          rcases evOut_inrange c.p c.rr c.isoR hn (hqe ▸ ho.inr q hq) with ho' | ⟨v, ys, ho', s1, s2⟩ <;>
            rw [show c.out e = _ from ho']
          · exact ⟨fun x h => by cases h; rfl, fun u xs h => nomatch h⟩
          · refine ⟨(fun x h => nomatch h), fun u xs h => ?_⟩
            cases h
            exact ⟨(j1.mono (by omega)).or fun hv => ⟨q, hq, by rw [hqe]; omega, hqe ▸ s1 hv⟩,
              (j2.mono (by omega)).or fun hv => ⟨q, hq, by rw [hqe]; omega, hqe ▸ s2 hv⟩⟩

/-- what the loop returns from the state `(0, reg, acc)`: the summary of all read introns applied to `reg` and `acc`,
    then the micro introns restored in the last read exon -/
def totalS (c : LCtx) (reg : Iv) (acc : List Iv) : Except CErr (Iv × List Iv) :=
  match backS c c.corr.length with
  | .error x => .error x
  | .ok (u, xs) => .ok (u.app reg, acc ++ xs ++ c.mic c.corr.length)

/-- invariant of the forward loop at a segment boundary `i`: running on from the state that `backS c i` describes
    gives `totalS`; at `i = 0` this is `c.loop fuel 0 reg acc = totalS c reg acc` -/
theorem loop_eq_back (c : LCtx) {n' : Nat} (hn : c.corr.length = c.ri.length) (hw : MicroWF n' c.isoI.length c.mm)
    (ho : EmapOK c.ri.length c.isoI.length c.emap) :
    ∀ (fuel i : Nat) (reg : Iv) (acc : List Iv), i ≤ c.corr.length → c.corr.length - i + 1 ≤ fuel → Bd c.emap (i : Int) →
      (match backS c i with
       | .error x => .error x
       | .ok (u, xs) => c.loop fuel (i : Int) (u.app reg) (acc ++ xs)) = totalS c reg acc := by
  intro fuel
  induction fuel with
  | zero => intro i reg acc _ hf; omega
  | succ fuel ih =>
    intro i reg acc hi hf hb
    by_cases hlt : i < c.corr.length
    · cases hl : c.emap.lookup (i : Int) with
      | none =>
        obtain ⟨x, hx, _⟩ := pyGet_inrange c.corr (i : Int) (by omega) (by omega)
        have hI := ih (i + 1) reg acc (by omega) (by omega) (bd_succ hb hl)
        rw [backS_plain c i (findEnd_none_of_bd ho hb hl), hx] at hI
        cases hbk : backS c i with
        | error y => rw [hbk] at hI; exact hI
        | ok q =>
          obtain ⟨u, xs⟩ := q
          rw [hbk] at hI
          simp only at hI ⊢
          rw [c.loop_plain hw fuel i _ _ x hlt hl hx, ← hI]
          simp only [List.append_assoc]
      | some e =>
        have hm := mem_of_lookup hl
        have k1 := ho.key _ hm
        have k2 := (ho.inr _ hm).read
        simp only at k1 k2
        obtain ⟨b, hb2⟩ : ∃ b : Nat, e.read.2 = b := ⟨e.read.2.toNat, by omega⟩
        have hI := ih (b + 1) reg acc (by omega) (by omega) (by have := bd_after ho hl; rwa [hb2] at this)
        rw [backS_ev c b e (hb2 ▸ findEnd_of_lookup ho hl) i k1.1 (by omega)] at hI
        cases hbk : backS c i with
        | error y => rw [hbk] at hI; exact hI
        | ok q =>
          obtain ⟨u, xs⟩ := q
          rw [hbk] at hI
          simp only at hI ⊢
          rw [c.loop_ev hw fuel i _ _ e hlt hl]
          cases hoe : c.out e with
          | error y => rw [hoe] at hI; exact hI
          | ok q1 =>
            obtain ⟨v, ys⟩ := q1
            rw [hoe] at hI
            simp only at hI ⊢
            rw [← hI, hb2, RegUpd.app_comp]
            simp only [List.append_assoc]
            rfl
    · have hie : i = c.corr.length := by omega
      subst hie
      unfold totalS
      cases backS c c.corr.length with
      | error y => rfl
      | ok q =>
        obtain ⟨u, xs⟩ := q
        simp only
        rw [c.loop_end hw]


theorem mirror_loop_back (L : Int) (c : LCtx) (hn : c.corr.length = c.ri.length)
    (hw : MicroWF c.ri.length c.isoI.length c.mm) (ho : EmapOK c.ri.length c.isoI.length c.emap) :
    ∀ (fuel j : Nat) (reg' : Iv) (acc' : List Iv), j ≤ c.ri.length → c.ri.length - j + 1 ≤ fuel →
      (c.mirror L).loop fuel (j : Int) reg' acc'
        = match backS c (c.ri.length - j) with
          | .error x => .error x
          | .ok (u, xs) => .ok ((mirrorUpd L u).app reg', acc' ++ mirrorL L (xs ++ c.mic (c.ri.length - j))) := by
  have hw' : MicroWF c.ri.length (c.mirror L).isoI.length (c.mirror L).mm := by
    show MicroWF c.ri.length (mirrorL L c.isoI).length (mirrorMicroMap c.ri.length c.isoI.length c.mm)
    rw [mirrorL_length]; exact microWF_mirror hw
  have hcl : (c.mirror L).corr.length = c.ri.length := by
    show (mirrorL L c.corr).length = _
    rw [mirrorL_length, hn]
  have hmic : ∀ j, j ≤ c.ri.length → (c.mirror L).mic j = mirrorL L (c.mic (c.ri.length - j)) :=
    fun j hj => microOf_mirror L hw j hj
  have hprops := backS_props c hn ho
  intro fuel
  induction fuel with
  | zero => intro j _ _ _ hf; omega
  | succ fuel ih =>
    intro j reg' acc' hj hfu
    by_cases hlt : j < c.ri.length
    · have hlk : (c.mirror L).emap.lookup (j : Int)
          = (findEnd c.emap ((c.ri.length : Int) - 1 - j)).map (mirrorMEvent c.ri.length c.isoI.length) :=
        lookup_mirrorEmap c.ri.length c.isoI.length c.emap (j : Int)
      obtain ⟨k, hk⟩ : ∃ k, c.ri.length - j = k + 1 := ⟨c.ri.length - j - 1, by omega⟩
      have ek : (c.ri.length : Int) - 1 - j = k := by omega
      rw [ek] at hlk
      rw [hk]
      cases hf : findEnd c.emap (k : Int) with
      | none =>
        rw [hf] at hlk
        obtain ⟨x, hx, _⟩ := pyGet_inrange c.corr (k : Int) (by omega) (by omega)
        have hx' : pyGet? (c.mirror L).corr (j : Int) = some (mirrorIv L x) := by
          have := pyGet?_mirror_int L c.corr (k : Int) (by omega) (by omega)
          rw [hx, hn, show (c.ri.length : Int) - 1 - k = j by omega] at this
          exact this
        rw [(c.mirror L).loop_plain hw' fuel j _ _ _ (by omega) hlk hx', ih (j + 1) _ _ (by omega) (by omega),
          backS_plain c k hf, hx, show c.ri.length - (j + 1) = k by omega]
        cases backS c k with
        | error y => rfl
        | ok q =>
          obtain ⟨u, xs⟩ := q
          simp only [hmic j hj, hk, mirrorL_append, mirrorL_singleton, List.append_assoc]
      | some e =>
        rw [hf] at hlk
        obtain ⟨q, hq, hqe, hr⟩ := findEnd_some hf
        have k1 := ho.key q hq
        have hinr := ho.inr q hq
        rw [hqe] at k1 hinr
        have k2 := hinr.read
        have hout : (c.mirror L).out (mirrorMEvent c.ri.length c.isoI.length e) = mirrorSumm L (c.out e) :=
          evOut_mirror L c.p c.rr c.ri c.corr c.isoR c.isoI e hn hinr
        obtain ⟨a, ha⟩ : ∃ a : Nat, e.read.1 = a := ⟨e.read.1.toNat, by omega⟩
        have enext : (mirrorMEvent c.ri.length c.isoI.length e).read.2 + 1
            = ((c.ri.length - a : Nat) : Int) := by
          simp only [mirrorMEvent, mirrorIdx]; omega
        rw [(c.mirror L).loop_ev hw' fuel j _ _ _ (by omega) hlk, hout, enext, backS_ev c k e hf a ha (by omega)]
        have hpa := hprops a (by omega)
        have hI := fun r ac => ih (c.ri.length - a) r ac (by omega) (by omega)
        rw [show c.ri.length - (c.ri.length - a) = a by omega] at hI
        rcases evOut_inrange c.p c.rr c.isoR hn hinr with hoe | ⟨v, ys, hoe, s1, s2⟩ <;>
          rw [show c.out e = _ from hoe] <;> simp only [mirrorSumm]
        · cases hb : backS c a with
          | error z => rw [hpa.1 z hb]
          | ok q0 => rfl
        · rw [hI]
          cases hb : backS c a with
          | error z => rfl
          | ok q0 =>
            obtain ⟨u, xs⟩ := q0
            simp only
            obtain ⟨p1, p2⟩ := hpa.2 u xs hb
            have hle : (a : Int) ≤ q.2.read.2 := by rw [hqe]; omega
            have h1 := p1.disjoint ho.left1 hq hle fun hv => hqe ▸ s1 hv
            have h2 := p2.disjoint ho.right1 hq hle fun hv => hqe ▸ s2 hv
            rw [RegUpd.comp_comm u v h1 h2, mirrorUpd_comp, RegUpd.app_comp]
            simp only [hmic j hj, hk, mirrorL_append, List.append_assoc]
    · have hje : j = c.ri.length := by omega
      subst hje
      have e0 : ((c.ri.length : Nat) : Int) = (((c.mirror L).corr.length : Nat) : Int) := by rw [hcl]
      rw [e0, (c.mirror L).loop_end hw', hcl, hmic _ (Nat.le_refl _), Nat.sub_self, backS_zero]
      simp only [mirrorUpd, Option.map_none, RegUpd.app, Option.getD_none, List.nil_append]


end IsoVerif.Lemmas.C11
