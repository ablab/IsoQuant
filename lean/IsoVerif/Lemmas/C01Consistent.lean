/-
The consistent path (`matchConsistent`): which isoforms can be reported, which events can occur.
`AllTy Q` = every event of a list has a type of the class `Q` (instances: classified types, no end artifact);
`Upd K evs r` = what polyA verification does to an event list (keeps the events of class `K`, adds `polyaTypes` only);
`matchConsistent_steps` = the steps `match_consistent` went through when it answers.  Core Lean only.
-/
import IsoVerif.Lemmas.C01Assign

namespace IsoVerif.Lemmas.C01
open IsoVerif.Gen IsoVerif.Model IsoVerif.Model.C01 IsoVerif.Lemmas

def AllTy (Q : MatchEventSubtype → Prop) (evs : List Event) : Prop := ∀ e ∈ evs, Q e.ty

variable {Q : MatchEventSubtype → Prop}

theorem AllTy.mono {Q' : MatchEventSubtype → Prop} {evs : List Event} (h : AllTy Q evs) (hq : ∀ t, Q t → Q' t) :
    AllTy Q' evs := fun e he => hq _ (h e he)

theorem allTy_nil : AllTy Q [] := fun _ h => nomatch h

theorem allTy_append {a b : List Event} (ha : AllTy Q a) (hb : AllTy Q b) : AllTy Q (a ++ b) := fun e he =>
  (List.mem_append.mp he).elim (ha e) (hb e)

theorem allTy_single (e : Event) (h : Q e.ty) : AllTy Q [e] := fun x hx => by
  rw [List.mem_singleton.mp hx]; exact h

theorem allTy_sublist {a b : List Event} (h : a.Sublist b) (hb : AllTy Q b) : AllTy Q a :=
  fun e he => hb e (h.subset he)

theorem allTy_addSub {evs : List Event} {e : Event} (h1 : AllTy Q evs) (h2 : Q e.ty) : AllTy Q (addSub evs e) := by
  unfold addSub
  split
  · split
    · exact allTy_single e h2
    · exact allTy_append h1 (allTy_single e h2)
  · exact allTy_append h1 (allTy_single e h2)

theorem allTy_foldl_addSub : ∀ (el evs : List Event), AllTy Q evs → AllTy Q el → AllTy Q (el.foldl addSub evs)
  | [], _, h, _ => h
  | e :: t, _, h1, h2 =>
    allTy_foldl_addSub t _ (allTy_addSub h1 (h2 e List.mem_cons_self)) (fun x hx => h2 x (List.mem_cons_of_mem _ hx))

/-- an event type that `classify_assignment` knows how to classify -/
def knownTy (t : MatchEventSubtype) : Bool := t.is_consistent || t.is_minor_error || t.is_major_inconsistency

abbrev AllKnown : List Event → Prop := AllTy (fun t => knownTy t = true)

/-- the types of the one categorisation event a consistent match starts from -/
def categoryTypes : List MatchEventSubtype :=
  [.mono_exon_match, .fsm, .ism_internal, .ism_left, .ism_right, .none, .mono_exonic]

theorem spliceMatch_spec (rp : ReadProf) (I : IsoInfo) (m : IsoMatch) (h : spliceMatch rp I = some m) :
    m.iso = some I.id ∧ AllTy (· ∈ categoryTypes) m.events := by
  obtain ⟨ce, hc, rfl⟩ := Option.map_eq_some_iff.mp h
  refine ⟨rfl, allTy_single _ ?_⟩
  revert hc
  fun_cases categorizeSplice rp I <;> intro hc
  case case1 | case3 => cases hc; decide
  case case2 => cases hc
  case case4 =>
    obtain ⟨t, ht, rfl⟩ := Option.map_eq_some_iff.mp hc
    obtain ⟨r, _, rfl⟩ := Option.map_eq_some_iff.mp ht
    dsimp only
    repeat' split
    all_goals decide

theorem unsplicedMatch_spec (I : IsoInfo) (m : IsoMatch) (h : unsplicedMatch I = some m) :
    m.iso = some I.id ∧ AllTy (· ∈ categoryTypes) m.events := by
  obtain ⟨c, _, rfl⟩ := Option.map_eq_some_iff.mp h
  refine ⟨rfl, allTy_sublist List.filter_sublist ?_⟩
  split <;> exact allTy_single _ (by decide)

def elongationTypes : List MatchEventSubtype :=
  [.terminal_site_match_left_precise, .terminal_site_match_left, .major_exon_elongation_left, .exon_elongation_left,
   .terminal_site_match_right_precise, .terminal_site_match_right, .major_exon_elongation_right, .exon_elongation_right]

theorem endEvents_types (p : Params) (terminal : Bool) (extra : Int) (a b c d : MatchEventSubtype) :
    AllTy (· ∈ [a, b, c, d]) (endEvents p terminal extra a b c d) := by
  have hm : ∀ t, t = a ∨ t = b ∨ t = c ∨ t = d → t ∈ [a, b, c, d] := fun t h => by simpa using h
  unfold endEvents
  split
  · refine allTy_append ?_ ?_
    · split
      · exact allTy_single _ (hm _ (by dsimp only; split <;> simp))
      · exact allTy_nil
    · split
      · exact allTy_single _ (hm _ (.inr (.inr (.inl rfl))))
      · split
        · exact allTy_single _ (hm _ (.inr (.inr (.inr rfl))))
        · exact allTy_nil
  · split
    · exact allTy_single _ (hm _ (.inr (.inr (.inr rfl))))
    · exact allTy_nil

theorem elongationEvents_types (g : Gene) (p : Params) (rp : ReadProf) (I : IsoInfo) (el : List Event)
    (h : elongationEvents g p rp I = some el) : AllTy (· ∈ elongationTypes) el := by
  revert h
  fun_cases elongationEvents g p rp I <;> intro h <;> cases h
  rename_i left right
  refine allTy_append ?_ ?_ <;> simp only [left, right] <;> split <;>
    first | exact allTy_nil | exact (endEvents_types _ _ _ _ _ _ _).mono (by decide)

/-! ### polyA verification

`verify_read_ends` and everything below it only delete one exon-elongation event and append events of a few types; what
survives and what is new is followed through the functions by one relation. -/

/-- not one of the four exon-elongation types (the only events `verify_polya` / `verify_polyt` delete) -/
def NotElongation (t : MatchEventSubtype) : Prop :=
  t ≠ .major_exon_elongation_right ∧ t ≠ .exon_elongation_right ∧ t ≠ .major_exon_elongation_left ∧
  t ≠ .exon_elongation_left

/-- the types of the events polyA verification can add -/
def polyaTypes : List MatchEventSubtype :=
  [.correct_polya_site_right, .correct_polya_site_left, .alternative_polya_site_right, .alternative_polya_site_left,
   .terminal_exon_misalignment_right, .terminal_exon_misalignment_left, .internal_polya_right, .internal_polya_left, .none]

/-- `r` keeps every event of `evs` whose type is in the class `K`; every event of `r` is one of `evs` or has a type of
    `polyaTypes` -/
def Upd (K : MatchEventSubtype → Prop) (evs r : List Event) : Prop :=
  (∀ e ∈ evs, K e.ty → e ∈ r) ∧ ∀ e ∈ r, e ∈ evs ∨ e.ty ∈ polyaTypes

variable {K : MatchEventSubtype → Prop}

theorem Upd.refl (evs : List Event) : Upd K evs evs := ⟨fun _ h _ => h, fun _ h => Or.inl h⟩

theorem Upd.trans {a b c : List Event} (h1 : Upd K a b) (h2 : Upd K b c) : Upd K a c :=
  ⟨fun e he hk => h2.1 e (h1.1 e he hk) hk, fun e he => (h2.2 e he).elim (h1.2 e) Or.inr⟩

theorem Upd.append {a b : List Event} (h : Upd K a b) {news : List Event} (hn : ∀ e ∈ news, e.ty ∈ polyaTypes) :
    Upd K a (b ++ news) :=
  h.trans ⟨fun _ he _ => List.mem_append_left _ he, fun e he => (List.mem_append.mp he).imp id (hn e)⟩

theorem Upd.add {a b : List Event} (h : Upd K a b) (e : Event) (he : e.ty ∈ polyaTypes) : Upd K a (b ++ [e]) :=
  h.append fun x hx => by rw [List.mem_singleton.mp hx]; exact he

theorem mem_eraseLastOf {evs : List Event} {t1 t2 : MatchEventSubtype} {e : Event} (he : e ∈ evs)
    (h1 : e.ty ≠ t1) (h2 : e.ty ≠ t2) : e ∈ eraseLastOf evs t1 t2 := by
  unfold eraseLastOf
  split
  · exact he
  · rename_i i hi
    unfold lastIndexOf at hi
    simp only [Option.map_eq_some_iff] at hi
    obtain ⟨⟨x, i'⟩, hx, rfl⟩ := hi
    have hm := List.mem_of_getLast? hx
    simp only [List.mem_filter, List.mem_zipIdx_iff_getElem?, decide_eq_true_eq] at hm
    obtain ⟨hxi, hty⟩ := hm
    obtain ⟨j, hj⟩ := List.mem_iff_getElem?.mp he
    rw [List.mem_eraseIdx_iff_getElem?]
    refine ⟨j, ?_, hj⟩
    intro e'
    subst e'
    rw [hj] at hxi
    simp only [Option.some.injEq] at hxi
    subst hxi
    rcases hty with h | h
    · exact h1 h
    · exact h2 h

theorem mem_of_mem_eraseLastOf {evs : List Event} {t1 t2 : MatchEventSubtype} {e : Event}
    (h : e ∈ eraseLastOf evs t1 t2) : e ∈ evs := by
  unfold eraseLastOf at h
  split at h
  · exact h
  · exact List.mem_of_mem_eraseIdx h

theorem upd_eraseLastOf {evs : List Event} {t1 t2 : MatchEventSubtype} (hK : ∀ t, K t → t ≠ t1 ∧ t ≠ t2) :
    Upd K evs (eraseLastOf evs t1 t2) :=
  ⟨fun _ he hk => mem_eraseLastOf he (hK _ hk).1 (hK _ hk).2, fun _ he => Or.inl (mem_of_mem_eraseLastOf he)⟩

theorem checkIfClose_upd {p stop ext int evs r ty} {evs0 : List Event} (hevs : Upd K evs0 evs) (hty : ty ∈ polyaTypes)
    (h : checkIfClose p stop ext int evs ty = some r) : Upd K evs0 r := by
  unfold checkIfClose at h
  simp only at h
  split at h
  · cases h; exact hevs.add _ hty
  · split at h
    · cases h; exact hevs.add _ hty
    · cases h

theorem detectBeyondPolya_upd {p iso ext int evs} {r : List Event × Int × Int} {evs0 : List Event} (hevs : Upd K evs0 evs)
    (h : detectBeyondPolya p iso ext int evs = some r) : Upd K evs0 r.1 := by
  revert h
  fun_cases detectBeyondPolya p iso ext int evs <;> intro h <;> cases h
  case case2 =>
    exact hevs.append fun e he => by
      obtain ⟨_, _, rfl⟩ := List.mem_map.mp he
      exact (by decide : MatchEventSubtype.terminal_exon_misalignment_right ∈ polyaTypes)
  all_goals exact hevs

theorem detectBeforePolyt_upd {p iso ext int evs} {r : List Event × Int × Int} {evs0 : List Event} (hevs : Upd K evs0 evs)
    (h : detectBeforePolyt p iso ext int evs = some r) : Upd K evs0 r.1 := by
  revert h
  fun_cases detectBeforePolyt p iso ext int evs <;> intro h <;> cases h
  case case2 =>
    exact hevs.append fun e he => by
      obtain ⟨_, _, rfl⟩ := List.mem_map.mp he
      exact (by decide : MatchEventSubtype.terminal_exon_misalignment_left ∈ polyaTypes)
  all_goals exact hevs

theorem verifyPolya_upd {p iso read pa evs0 r}
    (hK : ∀ t, K t → t ≠ .major_exon_elongation_right ∧ t ≠ .exon_elongation_right)
    (h : verifyPolya p iso read pa evs0 = some r) : Upd K evs0 r := by
  have hk : Upd K evs0 (eraseLastOf evs0 .major_exon_elongation_right .exon_elongation_right) := upd_eraseLastOf hK
  have step : ∀ {c : Prop} [Decidable c] {isoEnd ext1 int1 : Int} {s : List Event × Int × Int},
      (if c then some (eraseLastOf evs0 .major_exon_elongation_right .exon_elongation_right, isoEnd, isoEnd)
       else detectBeyondPolya p iso ext1 int1 (eraseLastOf evs0 .major_exon_elongation_right .exon_elongation_right))
        = some s → Upd K evs0 s.1 := fun hs => by
    split at hs
    · cases hs; exact hk
    · exact detectBeyondPolya_upd hk hs
  revert h
  fun_cases verifyPolya p iso read pa evs0 <;> intro h <;> cases h
  · rename_i hc; exact checkIfClose_upd hk (by decide) hc
  · rename_i hstep hc; exact checkIfClose_upd (step hstep) (by decide) hc
  · rename_i hstep _ _ _; exact (step hstep).add _ (by dsimp only; decide)
  · rename_i hstep _ _ _; exact (step hstep).add _ (by dsimp only; decide)

theorem verifyPolyt_upd {p iso read pa evs0 r}
    (hK : ∀ t, K t → t ≠ .major_exon_elongation_left ∧ t ≠ .exon_elongation_left)
    (h : verifyPolyt p iso read pa evs0 = some r) : Upd K evs0 r := by
  have hk : Upd K evs0 (eraseLastOf evs0 .major_exon_elongation_left .exon_elongation_left) := upd_eraseLastOf hK
  have step : ∀ {c : Prop} [Decidable c] {isoStart ext1 int1 : Int} {s : List Event × Int × Int},
      (if c then some (eraseLastOf evs0 .major_exon_elongation_left .exon_elongation_left, isoStart, isoStart)
       else detectBeforePolyt p iso ext1 int1 (eraseLastOf evs0 .major_exon_elongation_left .exon_elongation_left))
        = some s → Upd K evs0 s.1 := fun hs => by
    split at hs
    · cases hs; exact hk
    · exact detectBeforePolyt_upd hk hs
  revert h
  fun_cases verifyPolyt p iso read pa evs0 <;> intro h <;> cases h
  · rename_i hc; exact checkIfClose_upd hk (by decide) hc
  · rename_i hstep hc; exact checkIfClose_upd (step hstep) (by decide) hc
  · rename_i hstep _ _ _; exact (step hstep).add _ (by dsimp only; decide)
  · rename_i hstep _ _ _; exact (step hstep).add _ (by dsimp only; decide)

theorem checkInternal_upd (pos : Int) (evs : List Event) (a b : MatchEventSubtype) (hb : b ∈ polyaTypes) :
    Upd K evs (checkInternal pos evs a b).1 := by
  unfold checkInternal
  split
  · exact Upd.refl _
  · split
    · exact (Upd.refl _).add _ hb
    · exact Upd.refl _

/-- `verify_read_ends` keeps every event that is not an exon elongation and adds events of `polyaTypes` only -/
theorem verifyReadEnds_upd {p rp I evs r} (h : verifyReadEnds p rp I evs = some r) : Upd NotElongation evs r := by
  unfold verifyReadEnds at h
  simp only at h
  obtain ⟨r0, hr0, rfl⟩ := Option.map_eq_some_iff.mp h
  have key : Upd NotElongation evs r0 := by
    split at hr0
    · have hk : Upd NotElongation evs _ :=
        checkInternal_upd rp.polya.intA evs .incomplete_intron_retention_right .internal_polya_right (by decide)
      split at hr0
      · exact hk.trans (verifyPolya_upd (fun _ ht => ⟨ht.1, ht.2.1⟩) hr0)
      · cases hr0; exact hk
    · have hk : Upd NotElongation evs _ :=
        checkInternal_upd rp.polya.intT evs .incomplete_intron_retention_left .internal_polya_left (by decide)
      split at hr0
      · exact hk.trans (verifyPolyt_upd (fun _ ht => ⟨ht.2.2.1, ht.2.2.2⟩) hr0)
      · cases hr0; exact hk
    · cases hr0; exact Upd.refl _
  split
  · rename_i hem
    rw [List.isEmpty_iff.mp hem] at key
    exact ⟨fun e he hk => absurd (key.1 e he hk) List.not_mem_nil,
      fun e he => Or.inr (by rw [List.mem_singleton.mp he]; decide)⟩
  · exact key

theorem verifyReadEnds_has {p rp I evs r} {e : Event} (he : e ∈ evs) (hne : NotElongation e.ty)
    (h : verifyReadEnds p rp I evs = some r) : e ∈ r :=
  (verifyReadEnds_upd h).1 e he hne

theorem verifyReadEnds_known (p : Params) (rp : ReadProf) (I : IsoInfo) (evs r : List Event)
    (hevs : AllKnown evs) (h : verifyReadEnds p rp I evs = some r) : AllKnown r := fun e he =>
  ((verifyReadEnds_upd h).2 e he).elim (hevs e) ((by decide : ∀ t ∈ polyaTypes, knownTy t = true) _)

/-- a match of an isoform of `S` whose events all have a type of the class `Q` -/
def MatchOK (Q : MatchEventSubtype → Prop) (S : List IsoInfo) (p : IsoInfo × IsoMatch) : Prop :=
  p.1 ∈ S ∧ p.2.iso = some p.1.id ∧ AllTy Q p.2.events

/-- `check_read_ends` match by match: each match gets the elongation events of its isoform added, nothing else changes -/
theorem checkReadEnds_spec (g : Gene) (p : Params) (rp : ReadProf) :
    ∀ (ms : List (IsoInfo × IsoMatch)) (ty : ReadAssignmentType) (r : List (IsoInfo × IsoMatch)) (ty' : ReadAssignmentType),
      checkReadEnds g p rp ms ty = some (r, ty') →
      Zip2 (fun q q' => ∃ el, elongationEvents g p rp q.1 = some el ∧
        q' = (q.1, { q.2 with events := el.foldl addSub q.2.events })) ms r
  | [], ty, r, ty', h => by
    simp only [checkReadEnds, Option.some.injEq, Prod.mk.injEq] at h
    rw [← h.1]; exact Zip2.nil
  | (I, m) :: t, ty, r, ty', h => by
    simp only [checkReadEnds] at h
    cases hel : elongationEvents g p rp I with
    | none => rw [hel] at h; cases h
    | some el =>
      simp only [hel] at h
      split at h
      · cases h
      · rename_i r' t' hrec
        simp only [Option.some.injEq, Prod.mk.injEq] at h
        rw [← h.1]
        exact Zip2.cons ⟨el, hel, rfl⟩ (checkReadEnds_spec g p rp t _ r' t' hrec)

theorem checkReadEnds_ok (g : Gene) (p : Params) (rp : ReadProf) (S : List IsoInfo) (hQ : ∀ t ∈ elongationTypes, Q t)
    (ms : List (IsoInfo × IsoMatch)) (ty : ReadAssignmentType) (r : List (IsoInfo × IsoMatch)) (ty' : ReadAssignmentType)
    (h : checkReadEnds g p rp ms ty = some (r, ty')) (hok : ∀ q ∈ ms, MatchOK Q S q) :
    (∀ q ∈ r, MatchOK Q S q) ∧ r.length = ms.length := by
  have hz := checkReadEnds_spec g p rp ms ty r ty' h
  refine ⟨fun q' hq' => ?_, (forall₂_length hz).symm⟩
  obtain ⟨q, hq, el, hel, rfl⟩ := forall₂_mem_right hz q' hq'
  obtain ⟨hS, hiso, hkn⟩ := hok q hq
  exact ⟨hS, hiso, allTy_foldl_addSub el q.2.events hkn ((elongationEvents_types g p rp q.1 el hel).mono hQ)⟩

theorem checkReadEnds_left (g : Gene) (p : Params) (rp : ReadProf)
    (ms : List (IsoInfo × IsoMatch)) (ty : ReadAssignmentType) (r : List (IsoInfo × IsoMatch)) (ty' : ReadAssignmentType)
    (h : checkReadEnds g p rp ms ty = some (r, ty')) :
    ∀ q ∈ ms, ∃ q' ∈ r, q'.1 = q.1 ∧ q'.2.iso = q.2.iso := fun q hq => by
  obtain ⟨q', hq', el, _, rfl⟩ := forall₂_mem_left (checkReadEnds_spec g p rp ms ty r ty' h) q hq
  exact ⟨_, hq', rfl, rfl⟩

/-- `verify_read_ends_for_assignment` verifies match by match and classifies the result -/
theorem verifyEnds_spec (p : Params) (rp : ReadProf) (ms r : List (IsoInfo × IsoMatch)) (ty : ReadAssignmentType)
    (h : verifyEndsForAssignment p rp ms = some (r, ty)) :
    Zip2 (fun q q' => ∃ e, verifyReadEnds p rp q.1 q.2.events = some e ∧ q' = (q.1, { q.2 with events := e })) ms r ∧
    ty = classifyAssignment (r.map (·.2.events)) := by
  unfold verifyEndsForAssignment at h
  split at h
  · cases h
  · rename_i ms' hms
    cases h
    refine ⟨(mapOpt_spec _ _ _ hms).imp fun q q' hp => ?_, rfl⟩
    obtain ⟨e, he, rfl⟩ := Option.map_eq_some_iff.mp hp
    exact ⟨e, he, rfl⟩

/-- the steps `match_consistent` went through when it returns an assignment -/
theorem matchConsistent_steps (g : Gene) (p : Params) (rp : ReadProf) (a : Assignment)
    (h : matchConsistent g p rp = some (some a)) :
    ∃ cons matched ms ms1 ty1 ms2, consistentIsoforms g p rp = some (some cons) ∧
      (if (!rp.intron.read.isEmpty) = true then selectSpliced p rp cons else selectUnspliced p rp cons) = some matched ∧
      matched ≠ [] ∧
      Zip2 (fun I q => (if (!rp.intron.read.isEmpty) = true then spliceMatch rp I else unsplicedMatch I) = some q.2 ∧
        q.1 = I) matched ms ∧
      checkReadEnds g p rp ms (if matched.length = 1 then .unique else .ambiguous) = some (ms1, ty1) ∧
      verifyEndsForAssignment p rp ms1 = some (ms2, a.ty) ∧ a.ty.is_inconsistent = false ∧
      a.isoMatches = ms2.map (·.2) := by
  revert h
  fun_cases matchConsistent g p rp <;> intro h <;> cases h
  rename_i cons hcons spliced matched hsel hne ms hms ty0 ms1 ty1 hcre ms2 ty2 hver hninc
  refine ⟨cons, matched, ms, ms1, ty1, ms2, hcons, hsel, fun e => hne (by rw [e]; rfl),
    (mapOpt_spec _ _ _ hms).imp fun I q hp => ?_, hcre, hver, Bool.eq_false_iff.mpr hninc, rfl⟩
  obtain ⟨m, hm, rfl⟩ := Option.map_eq_some_iff.mp hp
  exact ⟨hm, rfl⟩

/-- the matches `match_consistent` starts from: one categorisation event for each selected isoform -/
theorem initialMatches_ok {rp : ReadProf} {matched : List IsoInfo} {ms : List (IsoInfo × IsoMatch)}
    (hz : Zip2 (fun I q => (if (!rp.intron.read.isEmpty) = true then spliceMatch rp I else unsplicedMatch I) = some q.2 ∧
      q.1 = I) matched ms) (q : IsoInfo × IsoMatch) (hq : q ∈ ms) : MatchOK (· ∈ categoryTypes) matched q := by
  obtain ⟨I, hI, hm, rfl⟩ := forall₂_mem_right hz q hq
  split at hm
  · exact ⟨hI, spliceMatch_spec rp _ _ hm⟩
  · exact ⟨hI, unsplicedMatch_spec _ _ hm⟩

theorem matchConsistent_spec (g : Gene) (p : Params) (rp : ReadProf) (a : Assignment)
    (h : matchConsistent g p rp = some (some a)) :
    ∃ cons matched, consistentIsoforms g p rp = some (some cons) ∧
      (if (!rp.intron.read.isEmpty) = true then selectSpliced p rp cons else selectUnspliced p rp cons) = some matched ∧
      matched ≠ [] ∧ a.isoMatches.length = matched.length ∧
      (∀ m ∈ a.isoMatches, ∃ I ∈ matched, m.iso = some I.id ∧ AllKnown m.events) ∧
      a.ty = classifyAssignment (a.isoMatches.map (·.events)) ∧ a.ty.is_inconsistent = false ∧
      (∀ I ∈ matched, ∃ m ∈ a.isoMatches, m.iso = some I.id) := by
  obtain ⟨cons, matched, ms, ms1, ty1, ms2, hcons, hsel, hne, hz, hcre, hver, hninc, hiso⟩ := matchConsistent_steps g p rp a h
  have hok0 : ∀ q ∈ ms, MatchOK (fun t => knownTy t = true) matched q := fun q hq =>
    have ⟨h1, h2, h3⟩ := initialMatches_ok hz q hq
    ⟨h1, h2, h3.mono (by decide)⟩
  obtain ⟨hok1, l1⟩ := checkReadEnds_ok g p rp matched (by decide) ms _ ms1 ty1 hcre hok0
  obtain ⟨hv, hty⟩ := verifyEnds_spec p rp ms1 ms2 a.ty hver
  have hok2 : ∀ q ∈ ms2, MatchOK (fun t => knownTy t = true) matched q := fun q hq => by
    obtain ⟨q1, hq1, e, he, rfl⟩ := forall₂_mem_right hv q hq
    obtain ⟨hS, hi, hkn⟩ := hok1 q1 hq1
    exact ⟨hS, hi, verifyReadEnds_known p rp q1.1 q1.2.events e hkn he⟩
  refine ⟨cons, matched, hcons, hsel, hne, ?_, ?_, ?_, hninc, ?_⟩
  · rw [hiso, List.length_map, ← forall₂_length hv, l1, ← forall₂_length hz]
  · intro m hm
    rw [hiso] at hm
    obtain ⟨q, hq, rfl⟩ := List.mem_map.mp hm
    exact ⟨q.1, hok2 q hq⟩
  · rw [hty, hiso, List.map_map]; rfl
  · intro I hI
    obtain ⟨q, hq, hm, rfl⟩ := forall₂_mem_left hz I hI
    obtain ⟨_, hi, _⟩ := initialMatches_ok hz q hq
    obtain ⟨q1, hq1m, h11, h12⟩ := checkReadEnds_left g p rp ms _ ms1 ty1 hcre q hq
    obtain ⟨q2, hq2m, e, _, rfl⟩ := forall₂_mem_left hv q1 hq1m
    have hm2 := List.mem_map_of_mem (f := (·.2)) hq2m
    exact ⟨(q1.1, { q1.2 with events := e }).2, hiso ▸ hm2, h12.trans hi⟩

theorem mkIsos_ids (introns split : List Iv) : ∀ (ms : List Isoform) (i : Nat) (isos : List IsoInfo),
    mkIsos introns split ms i = some isos → isos.Pairwise (fun a b => a.id < b.id) ∧ ∀ I ∈ isos, i ≤ I.id := by
  intro ms
  induction ms with
  | nil => intro i isos h; simp [mkIsos] at h; subst h; simp
  | cons m t ih =>
    intro i isos h
    simp only [mkIsos] at h
    cases h1 : mkIso introns split m i with
    | none => simp [h1] at h
    | some a =>
      cases h2 : mkIsos introns split t (i + 1) with
      | none => simp [h1, h2] at h
      | some r =>
        simp [h1, h2] at h; subst h
        obtain ⟨ihp, ihl⟩ := ih (i + 1) r h2
        have ha : a.id = i := by
          unfold mkIso at h1
          split at h1
          · simp at h1
          · simp at h1; subst h1; rfl
        constructor
        · rw [List.pairwise_cons]
          exact ⟨fun b hb => by have := ihl b hb; omega, ihp⟩
        · intro I hI
          rcases List.mem_cons.mp hI with hI | hI
          · subst hI; omega
          · have := ihl I hI; omega

theorem isos_pairwise (ms : List Isoform) (g : Gene) (h : Gene.fromModels ms = some g) :
    g.isos.Pairwise (fun a b => a.id < b.id) :=
  (mkIsos_ids _ _ ms 0 g.isos (fromModels_shape ms g h).2.2.2).1

theorem pairwise_id_inj : ∀ (l : List IsoInfo), l.Pairwise (fun a b => a.id < b.id) →
    ∀ a ∈ l, ∀ b ∈ l, a.id = b.id → a = b := by
  intro l
  induction l with
  | nil => intro _ a ha; cases ha
  | cons x t ih =>
    intro hp a ha b hb hab
    rw [List.pairwise_cons] at hp
    rcases List.mem_cons.mp ha with ea | ha'
    · rcases List.mem_cons.mp hb with eb | hb'
      · rw [ea, eb]
      · have := hp.1 b hb'; rw [ea] at hab; omega
    · rcases List.mem_cons.mp hb with eb | hb'
      · have := hp.1 a ha'; rw [eb] at hab; omega
      · exact ih hp.2 a ha' b hb' hab

theorem all_eq_length_le_one {l : List IsoInfo} (hp : l.Pairwise (fun a b => a.id < b.id)) (T : IsoInfo)
    (hT : ∀ I ∈ l, I = T) : l.length ≤ 1 := by
  match l, hp, hT with
  | [], _, _ => simp
  | [_], _, _ => simp
  | a :: b :: t, hp, hT =>
    exfalso
    rw [List.pairwise_cons] at hp
    have h1 := hp.1 b (by simp)
    have ea := hT a (by simp)
    have eb := hT b (by simp)
    rw [ea, eb] at h1
    omega

theorem cons_length_le_one (ms : List Isoform) (g : Gene) (hg : Gene.fromModels ms = some g) (p : Params)
    (rp : ReadProf) (cons : List IsoInfo) (hcons : consistentIsoforms g p rp = some (some cons)) (T : IsoInfo)
    (hT : ∀ I ∈ cons, I = T) : cons.length ≤ 1 :=
  all_eq_length_le_one ((isos_pairwise ms g hg).sublist (consistentIsoforms_sublist g p rp cons hcons)) T hT

theorem selectSpliced_small (p : Params) (rp : ReadProf) (cons matched : List IsoInfo)
    (h : selectSpliced p rp cons = some matched) (hc : cons.length ≤ 1) : matched = cons := by
  obtain ⟨m, hm, hr⟩ := selectSpliced_shape p rp cons matched h
  rcases hm with ⟨_, rfl⟩ | ⟨h1, _⟩
  · rcases hr with rfl | ⟨h2, _⟩
    · rfl
    · omega
  · omega

theorem selectUnspliced_small (p : Params) (rp : ReadProf) (cons matched : List IsoInfo)
    (h : selectUnspliced p rp cons = some matched) (hc : cons.length ≤ 1) : matched = cons := by
  unfold selectUnspliced at h
  have h1 : ¬ (cons.length > 1 ∧ p.resolve_ambiguous ≠ Resolve.none) := by omega
  simp only [h1, if_false] at h
  simpa using h.symm

/-! ### the selection keeps a well-scoring isoform -/

theorem maxRat_mem : ∀ (l : List Rat) (m : Rat), maxRat l = some m → m ∈ l := by
  intro l
  induction l with
  | nil => intro m hm; simp [maxRat] at hm
  | cons x xs ih =>
    intro m hm
    simp only [maxRat] at hm
    cases hx : maxRat xs with
    | none => simp [hx] at hm; subst hm; simp
    | some m' =>
      simp [hx] at hm
      split at hm
      · subst hm; simp
      · subst hm; exact List.mem_cons_of_mem _ (ih m' hx)

theorem resolveByScore_keeps (score : IsoInfo → Option Rat) (matched r : List IsoInfo) (T : IsoInfo) (sT : Rat)
    (h : resolveByScore score (some topScoredFactor) matched = some r) (hT : T ∈ matched) (hs : score T = some sT)
    (hbest : ∀ I ∈ matched, ∀ s, score I = some s → s ≤ sT * topScoredFactor) (hmin : minimalScore ≤ sT) : T ∈ r := by
  unfold resolveByScore at h
  split at h
  · rename_i he
    simp [List.isEmpty_iff] at he
    rw [he] at hT; cases hT
  · split at h
    · simp at h
    · rename_i scores hsc
      have hz := mapOpt_spec _ _ _ hsc
      split at h
      · simp at h
      · rename_i best hb
        simp only at h
        simp at h; subst h
        obtain ⟨y, hy, hTy⟩ := forall₂_mem_left hz T hT
        rw [hs] at hTy; simp at hTy; subst hTy
        simp only [List.mem_map, List.mem_filter]
        refine ⟨(T, sT), ⟨hy, ?_⟩, rfl⟩
        have hbin := maxRat_mem _ best hb
        simp only [List.mem_map] at hbin
        obtain ⟨q, hq, hqb⟩ := hbin
        obtain ⟨I, hI, hIq⟩ := forall₂_mem_right hz q hq
        cases hsI : score I with
        | none => simp [hsI] at hIq
        | some s =>
          simp [hsI] at hIq
          subst hIq
          simp only at hqb
          subst hqb
          have := hbest I hI s hsI
          simp only [Bool.and_eq_true, decide_eq_true_eq]
          exact ⟨this, hmin⟩

theorem selectSpliced_keeps (p : Params) (rp : ReadProf) (cons r : List IsoInfo) (T : IsoInfo) (sT : Rat)
    (h : selectSpliced p rp cons = some r) (hT : T ∈ cons)
    (hsplit : equalProfilesInRange T.splitProf rp.split.gene rp.split.range = some true)
    (hs : jaccardScore p rp T = some sT)
    (hbest : ∀ I ∈ cons, ∀ s, jaccardScore p rp I = some s → s ≤ sT * topScoredFactor) (hmin : minimalScore ≤ sT) :
    T ∈ r := by
  obtain ⟨m, hm, hr⟩ := selectSpliced_shape p rp cons r h
  rcases hr with rfl | ⟨_, hr⟩
  · exact hm.spec.2 T hT hsplit
  · exact resolveByScore_keeps _ _ _ T sT hr (hm.spec.2 T hT hsplit) hs
      (fun I hI s hsI => hbest I (hm.spec.1 I hI) s hsI) hmin

theorem selectUnspliced_keeps (p : Params) (rp : ReadProf) (cons r : List IsoInfo) (T : IsoInfo) (sT : Rat)
    (h : selectUnspliced p rp cons = some r) (hT : T ∈ cons)
    (hs : jaccardScore p rp T = some sT)
    (hbest : ∀ I ∈ cons, ∀ s, jaccardScore p rp I = some s → s ≤ sT * topScoredFactor) (hmin : minimalScore ≤ sT) :
    T ∈ r := by
  unfold selectUnspliced at h
  split at h
  · exact resolveByScore_keeps _ _ _ T sT h hT hs hbest hmin
  · simp at h; subst h; exact hT

end IsoVerif.Lemmas.C01
