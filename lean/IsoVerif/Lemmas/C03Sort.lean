/-
Lemmas about the structural stable insertion sort `isortBy` that models Python's `sorted` (Model/Gtf.lean).
-/
import IsoVerif.Model.Gtf
import IsoVerif.Lemmas.InsertionSort

namespace IsoVerif.Lemmas.C03
open IsoVerif.Gen IsoVerif.Model IsoVerif.Model.C03 IsoVerif.Lemmas

/-- what the sort needs from a strict comparison (`a ≤ b` is `lt b a = false`) -/
structure StrictOrd {α} (lt : α → α → Bool) : Prop where
  asymm : ∀ a b, lt a b = true → lt b a = false
  le_trans : ∀ a b c, lt b a = false → lt c b = false → lt c a = false

/-- `isortBy lt` inserts before the first element that is not strictly smaller: the insertion sort by `!lt y x` -/
theorem isortBy_is {α} (lt : α → α → Bool) : InsertionSort (fun x y => !lt y x) (insBy lt) (isortBy lt) :=
  ⟨fun _ => rfl, fun x y ys => by cases h : lt y x <;> simp [insBy, h], rfl, fun _ _ => rfl⟩

theorem isortBy_perm {α} (lt : α → α → Bool) (l : List α) : (isortBy lt l).Perm l := (isortBy_is lt).perm l

theorem mem_isortBy {α} (lt : α → α → Bool) (l : List α) (a : α) : a ∈ isortBy lt l ↔ a ∈ l := (isortBy_is lt).mem_iff

theorem isortBy_sorted {α} {lt : α → α → Bool} (h : StrictOrd lt) (l : List α) :
    (isortBy lt l).Pairwise (fun a b => lt b a = false) :=
  ((isortBy_is lt).pairwise
    (fun a b c hab hbc => Bool.not_eq_true' _ ▸ h.le_trans a b c (Bool.not_eq_true' _ ▸ hab) (Bool.not_eq_true' _ ▸ hbc))
    (fun a b => by
      cases hba : lt b a
      · exact Or.inl rfl
      · exact Or.inr (congrArg (!·) (h.asymm b a hba))) l).imp fun hab => Bool.not_eq_true' _ ▸ hab

theorem isortBy_eq_self {α} (lt : α → α → Bool) (l : List α)
    (hs : l.Pairwise (fun a b => lt b a = false)) : isortBy lt l = l :=
  (isortBy_is lt).eq_self l (hs.imp fun h => congrArg (!·) h)

/-- Python tuple order on pairs (non-strict), as a `Prop` (the Boolean `ivLe` of Model/IntronGraph and
    Model/FeatureCounts is the same order); `ivLt_false_iff` is the bridge to the comparison the sort uses -/
def ivLe (a b : Iv) : Prop := a.1 < b.1 ∨ (a.1 = b.1 ∧ a.2 ≤ b.2)

theorem ivLt_false_iff (a b : Iv) : ivLt b a = false ↔ ivLe a b := by
  simp only [ivLt, ivLe]
  by_cases h1 : b.1 < a.1 <;> by_cases h2 : b.1 = a.1 <;> by_cases h3 : b.2 < a.2 <;> simp [h1, h2, h3] <;> omega

theorem ivLt_strict : StrictOrd ivLt where
  asymm a b h := by
    simp only [ivLt, Bool.or_eq_true, Bool.and_eq_true, decide_eq_true_eq] at h
    simp only [ivLt, Bool.or_eq_false_iff, Bool.and_eq_false_iff, decide_eq_false_iff_not]
    omega
  le_trans a b c h1 h2 := by
    rw [ivLt_false_iff] at *
    unfold ivLe at *
    omega

theorem intLt_strict : StrictOrd intLt where
  asymm a b h := by simp [intLt] at *; omega
  le_trans a b c h1 h2 := by simp [intLt] at *; omega

theorem featLt_strict : StrictOrd featLt where
  asymm a b h := by
    simp only [featLt, Bool.or_eq_true, Bool.and_eq_true, decide_eq_true_eq] at h
    simp only [featLt, Bool.or_eq_false_iff, Bool.and_eq_false_iff, decide_eq_false_iff_not]
    omega
  le_trans a b c h1 h2 := by
    simp only [featLt, Bool.or_eq_false_iff, Bool.and_eq_false_iff, decide_eq_false_iff_not] at *
    omega

end IsoVerif.Lemmas.C03
