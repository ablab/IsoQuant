/-
C07: runs that do not start in an empty output folder (leftovers of an earlier run; `--read_assignments` save files):
the folder after the lock-removal step of a fresh run (`cleaned`), and that no stage of a `--read_assignments` run writes the save
files it reads (`stages_notSaves`); at the end: the options a resume command line may change (`resumeCfg`).
-/
import IsoVerif.Lemmas.ResumeRun

namespace IsoVerif.Lemmas.Resume
open IsoVerif.Model.Resume

/-- every path except the save files a `--read_assignments` run reads -/
def notSaves : Path → Bool
  | .info => false
  | .multimap _ => false
  | .save _ => false
  | _ => true

theorem allP_frame (T : Path → Bool) (fs0 : FS) {fs : FS} {es : List Ev} (h : ∀ e ∈ es, T e.path = true)
    (h0 : ∀ p, T p = false → fs p = fs0 p) : AllP (fun fs' => ∀ p, T p = false → fs' p = fs0 p) fs es := by
  induction es generalizing fs with
  | nil => exact h0
  | cons e es ih =>
    refine ⟨h0, ih (fun e' he' => h e' (by simp [he'])) ?_⟩
    intro p hp
    have hne : p ≠ e.path := by intro e'; have := h e (by simp); rw [← e', hp] at this; exact absurd this (by simp)
    simp only [apply]; rw [set_other _ _ hne]; exact h0 p hp

theorem lockList_isLock (cfg : Cfg) (fs : FS) : ∀ p ∈ lockList cfg fs, isLock p = true := by
  intro p hp
  simp only [lockList, List.mem_append, List.mem_map, List.mem_filter] at hp
  rcases hp with (⟨hp, _⟩ | ⟨c, _, rfl⟩) | ⟨c, _, rfl⟩
  · split at hp <;> simp only [List.mem_cons, List.not_mem_nil, or_false] at hp
    · subst hp; rfl
    · rcases hp with rfl | rfl <;> rfl
  · rfl
  · rfl

theorem isLock_notSaves {p : Path} (h : isLock p = true) : notSaves p = true := by
  cases p <;> simp_all [isLock, notSaves]

theorem stages_notSaves {cfg : Cfg} (hm : cfg.fromSaves = true) (ord : List Path) (rs sk : Bool) :
    ∀ s ∈ forceClean fixed cfg rs :: stages fixed cfg ord rs sk, ∀ fs, Within notSaves (s fs) := by
  intro s hs fs
  rw [stages_eq, hm, Bool.or_true] at hs
  simp only [List.mem_cons] at hs
  rcases hs with rfl | rfl | rfl | hs
  · unfold forceClean; split
    · exact within_nil _
    · exact within_rmAll fun p hp => isLock_notSaves (lockList_isLock cfg fs p hp)
  · intro e he; unfold paramsStage paramsEvs at he
    cases rs <;> simp [fixed, eventsOf, evs] at he <;> rcases he with rfl | rfl | rfl | rfl <;> rfl
  · exact (refStage_T fixed cfg rs fs).mono fun p hp => by cases p <;> first | rfl | cases hp
  · -- no reads are collected and nothing is cleaned up: the footprints left are disjoint from the save files
    exact restStages_within (Q := notSaves) cfg ord rs true
      (by intro p hp; cases p <;> first | rfl | cases hp) (by intro p hp; cases p <;> first | rfl | cases hp)
      (fun e => by cases e) (fun e => by cases e)
      (by intro p hp; cases p <;> first | rfl | cases hp) (by intro c p hp; cases p <;> first | rfl | cases hp)
      (by intro p hp; cases p <;> first | rfl | cases hp) (fun e => by simp [hm] at e) s hs fs

theorem lockList_nodup {cfg : Cfg} (wf : WF cfg) (fs : FS) : (lockList cfg fs).Nodup := by
  unfold lockList
  apply nodup_lock_list wf
  refine List.Sublist.trans List.filter_sublist ?_
  split
  · exact List.Sublist.cons _ (List.Sublist.refl _)
  · exact List.Sublist.refl _

theorem lockList_has (cfg : Cfg) (fs : FS) : ∀ p ∈ lockList cfg fs, fs.has p = true := by
  intro p hp
  simp only [lockList, List.mem_append, List.mem_map, List.mem_filter, Bool.and_eq_true] at hp
  rcases hp with (⟨_, hh⟩ | ⟨c, ⟨_, _, hh⟩, rfl⟩) | ⟨c, ⟨_, hh⟩, rfl⟩ <;> exact hh

def cleaned (cfg : Cfg) (fs : FS) : FS := applyAll fs ((lockList cfg fs).map Ev.remove)

theorem cleaned_val (cfg : Cfg) (fs : FS) (p : Path) : cleaned cfg fs p = if p ∈ lockList cfg fs then none else fs p := by
  unfold cleaned; split
  · rename_i h; exact applyAll_remove_mem h
  · rename_i h; exact applyAll_remove_not_mem h

theorem cleaned_other (cfg : Cfg) (fs : FS) {p : Path} (h : isLock p = false) : cleaned cfg fs p = fs p := by
  rw [cleaned_val]; split
  · rename_i hm; have := lockList_isLock cfg fs p hm; simp [h] at this
  · rfl

theorem cleaned_has_le (cfg : Cfg) (fs : FS) (p : Path) (h : (cleaned cfg fs).has p = true) : fs.has p = true :=
  has_of_removed (cleaned_val cfg fs) h

theorem cleaned_processed {cfg : Cfg} (fs : FS) {c : Chr} (hc : c ∈ cfg.chrs) : (cleaned cfg fs).has (.processed c) = false :=
  gone_of_removed (cleaned_val cfg fs) fun hq => by
    simp only [lockList, List.mem_append, List.mem_map, List.mem_filter]; exact Or.inr ⟨c, ⟨hc, hq⟩, rfl⟩

theorem cleaned_rgLock (cfg : Cfg) (fs : FS) : (cleaned cfg fs).has .rgLock = false :=
  gone_of_removed (cleaned_val cfg fs) fun hq => by
    simp only [lockList, List.mem_append, List.mem_filter]
    refine Or.inl (Or.inl ⟨?_, hq⟩)
    split <;> simp

theorem cleaned_bam_locks {cfg : Cfg} (hm : cfg.fromSaves = false) (fs : FS) :
    (cleaned cfg fs).has .lock = false ∧ ∀ c ∈ cfg.chrs, (cleaned cfg fs).has (.collected c) = false :=
  ⟨gone_of_removed (cleaned_val cfg fs) fun hq => by
      simp only [lockList, hm, List.mem_append, List.mem_filter]; exact Or.inl (Or.inl ⟨by simp, hq⟩),
   fun c hc => gone_of_removed (cleaned_val cfg fs) fun hq => by
      simp only [lockList, hm, List.mem_append, List.mem_map, List.mem_filter]
      exact Or.inl (Or.inr ⟨c, ⟨hc, by simp [hq]⟩, rfl⟩)⟩

theorem lockList_cleaned (cfg : Cfg) (fs : FS) : lockList cfg (cleaned cfg fs) = [] := by
  have hno : ∀ p ∈ lockList cfg (cleaned cfg fs), False := by
    intro p hp
    have h1 := lockList_has cfg _ p hp
    have h2 := cleaned_has_le cfg fs p h1
    -- p is a candidate that existed in fs, hence was removed
    have hin : p ∈ lockList cfg fs := by
      simp only [lockList, List.mem_append, List.mem_map, List.mem_filter, Bool.and_eq_true] at hp ⊢
      rcases hp with (⟨hp, _⟩ | ⟨c, ⟨hc, hf, _⟩, rfl⟩) | ⟨c, ⟨hc, _⟩, rfl⟩
      · exact Or.inl (Or.inl ⟨hp, h2⟩)
      · exact Or.inl (Or.inr ⟨c, ⟨hc, hf, h2⟩, rfl⟩)
      · exact Or.inr ⟨c, ⟨hc, h2⟩, rfl⟩
    rw [FS.has, cleaned_val, if_pos hin] at h1
    simp at h1
  cases hq : lockList cfg (cleaned cfg fs) with
  | nil => rfl
  | cons a l => exact absurd (hno a (by rw [hq]; simp)) id

end IsoVerif.Lemmas.Resume

/-! C07: the options a resume command line may change (`resumeCfg`, Model/Resume.lean: `--high_memory`, `--keep_tmp`) do not
touch anything the lock/data invariant, the save files or the final files depend on. -/

namespace IsoVerif.Lemmas.Resume
open IsoVerif.Model.Resume

theorem guarded_resumeCfg (cfg : Cfg) (hm kt : Bool) (l : Path) : guarded (resumeCfg cfg hm kt) l = guarded cfg l := by
  cases l <;> rfl

theorem finalPaths_resumeCfg (cfg : Cfg) (hm kt : Bool) : finalPaths (resumeCfg cfg hm kt) = finalPaths cfg := rfl

theorem WF_resumeCfg {cfg : Cfg} (hm kt : Bool) (wf : WF cfg) : WF (resumeCfg cfg hm kt) :=
  ⟨wf.nd, wf.mnd, wf.bnd, wf.m_iff, wf.b_sub⟩

theorem J_resumeCfg {cfg : Cfg} (hm kt : Bool) {fs : FS} : J (resumeCfg cfg hm kt) fs ↔ J cfg fs := by
  simp only [J, guarded_resumeCfg]

/-- a resume command line that repeats `--high_memory` exactly when the killed run had it and adds no `--keep_tmp` changes
    nothing (Props/C07Ref.lean `resume_alone_same_options` is the same fact for a killed run that had neither: `--resume` alone) -/
theorem resumeCfg_same (cfg : Cfg) : resumeCfg cfg cfg.highMemory false = cfg := by
  cases cfg; simp [resumeCfg]

end IsoVerif.Lemmas.Resume
