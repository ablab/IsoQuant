/-
C07: merging of the per-chromosome files in a run of the repaired code: single merge steps, the steps of a configuration
(a selection among `allSteps`; the counters are exactly the streams with a step of their kind), the footprint `Tmerge`.
-/
import IsoVerif.Lemmas.ResumeConstruct

namespace IsoVerif.Lemmas.Resume
open IsoVerif.Model.Resume

def stepStream : MStep → Stream
  | .parts s => s
  | .ungrouped s => s
  | .grouped s => s
  | .profile s => s

/-- paths a merge step of stream `s` may touch -/
def Tstep (s : Stream) : Path → Bool
  | .part s' _ => s' == s
  | .partLin s' _ => s' == s
  | .partStats s' _ => s' == s
  | .final s' => s' == s
  | .finalLin s' => s' == s
  | .tpm s' => s' == s
  | .finalGz s' => s' == s
  | _ => false

/-- the per-chromosome files a merge step consumes -/
def stepFiles (c : Chr) : MStep → List Path
  | .parts s => [.part s c]
  | .ungrouped s => [.part s c, .partStats s c]
  | .grouped s => [.part s c, .partLin s c]
  | .profile s => [.part s c]

/-- the final files a merge step completes -/
def stepFinals : MStep → List Path
  | .parts _ => []
  | .ungrouped s => [.final s, .tpm s]
  | .grouped s => [.final s, .finalLin s, .tpm s]
  | .profile s => [.final s]

def notStats : Path → Bool
  | .partStats _ _ => false
  | _ => true
def notLin : Path → Bool
  | .partLin _ _ => false
  | _ => true

theorem checks_exist_rm {l : List Chr} {f : Chr → Path} {fs : FS} (nd : l.Nodup) (inj : ∀ a b, f a = f b → a = b)
    (h : ∀ c ∈ l, fs.has (f c) = true) : ChecksOK (l.flatMap (fun c => [Act.exist (f c), Act.rm (f c)])) fs := by
  induction l generalizing fs with
  | nil => trivial
  | cons a l ih =>
    have nd' := List.nodup_cons.mp nd
    simp only [List.flatMap_cons, List.cons_append, List.nil_append, ChecksOK]
    refine ⟨h a (by simp), h a (by simp), ih nd'.2 ?_⟩
    intro c hc
    simp only [apply, Ev.path, Ev.val]; rw [has_set]
    have : f c ≠ f a := fun e => nd'.1 (inj _ _ e ▸ hc)
    simp [this, h c (by simp [hc])]

theorem eventsOf_exist_rm (l : List Chr) (f : Chr → Path) :
    eventsOf (l.flatMap (fun c => [Act.exist (f c), Act.rm (f c)])) = l.map (fun c => Ev.remove (f c)) := by
  induction l with
  | nil => rfl
  | cons a l ih => simp only [List.flatMap_cons, List.cons_append, List.nil_append, eventsOf, List.map_cons]; rw [ih]

theorem eventsOf_cons_ev (e : Ev) (as : List Act) : eventsOf (Act.ev e :: as) = e :: eventsOf as := rfl

theorem step_events (cfg : Cfg) (unal : Bool) (fs0 : FS) (st : MStep) :
    eventsOf (stepActs cfg unal fs0 st) =
      match st with
      | .parts s => cfg.mchrs.map (fun c => Ev.remove (.part s c))
      | .ungrouped s =>
          .append (.final s) :: cfg.mchrs.map (fun c => Ev.remove (.part s c))
          ++ cfg.chrs.map (fun c => Ev.remove (.partStats s c))
          ++ [.commit (.final s) (tokOf (allGood fs0 (cfg.mchrs.map (Path.part s)) && allGood fs0 (cfg.chrs.map (Path.partStats s))
                  && (unal || !cfg.unmapped))), .create (.tpm s),
              .commit (.tpm s) (tokOf (allGood fs0 (cfg.mchrs.map (Path.part s)) && allGood fs0 (cfg.chrs.map (Path.partStats s))
                  && (unal || !cfg.unmapped)))]
      | .grouped s =>
          .append (.final s) :: cfg.mchrs.map (fun c => Ev.remove (.part s c))
          ++ .append (.finalLin s) :: cfg.mchrs.map (fun c => Ev.remove (.partLin s c))
          ++ [.commit (.final s) (tokOf (allGood fs0 (cfg.mchrs.map (Path.part s)))),
              .commit (.finalLin s) (tokOf (allGood fs0 (cfg.mchrs.map (Path.partLin s)))), .create (.tpm s),
              .commit (.tpm s) (tokOf (allGood fs0 (cfg.mchrs.map (Path.part s))))]
      | .profile s =>
          .append (.final s) :: cfg.mchrs.map (fun c => Ev.remove (.part s c))
          ++ [.commit (.final s) (tokOf (allGood fs0 (cfg.mchrs.map (Path.part s))))] := by
  cases st with
  | parts s => simp [stepActs, rmParts, eventsOf_rmAll, List.map_map, Function.comp_def]
  | ungrouped s =>
    simp [stepActs, mergeUngrouped, rmParts, eventsOf_cons_ev, eventsOf_append, eventsOf_rmAll, eventsOf_exist_rm,
      List.map_map, Function.comp_def]
  | grouped s =>
    simp [stepActs, mergeGrouped, rmParts, eventsOf_cons_ev, eventsOf_append, eventsOf_rmAll, List.map_map,
      Function.comp_def]
  | profile s =>
    simp [stepActs, mergeProfile, rmParts, eventsOf_cons_ev, eventsOf_append, eventsOf_rmAll, List.map_map,
      Function.comp_def]

theorem step_T (cfg : Cfg) (unal : Bool) (fs0 : FS) (st : MStep) :
    (eventsOf (stepActs cfg unal fs0 st)).all (fun e => Tstep (stepStream st) e.path) = true := by
  rw [step_events]
  cases st <;> simp [List.all_append, List.all_map, Function.comp_def, Tstep, stepStream, Ev.path]

theorem step_checks {cfg : Cfg} (wf : WF cfg) (unal : Bool) (fs0 : FS) {fs : FS} (st : MStep)
    (hf : ∀ c ∈ cfg.chrs, ∀ d ∈ stepFiles c st, fs.has d = true) : ChecksOK (stepActs cfg unal fs0 st) fs := by
  have hpart : ∀ s, (∀ c ∈ cfg.chrs, fs.has (.part s c) = true) → ∀ fs', (∀ c, fs' (.part s c) = fs (.part s c)) →
      ChecksOK (rmParts cfg (Path.part s)) fs' := by
    intro s h fs' heq
    apply checks_rmAll (nodup_map_inj wf.mnd (fun a b e => by injection e))
    intro p hp; simp only [List.mem_map] at hp; obtain ⟨c, hc, rfl⟩ := hp
    simp only [FS.has, heq]; exact h c ((wf.m_iff c).mp hc)
  cases st with
  | parts s => exact hpart s (fun c hc => hf c hc _ (by simp [stepFiles])) fs (fun _ => rfl)
  | ungrouped s =>
    simp only [stepActs, mergeUngrouped]
    refine (checks_append.mpr ⟨checks_append.mpr ⟨?_, ?_⟩, checks_evs _ _⟩ : ChecksOK ((Act.ev (.append (.final s)) :: rmParts cfg (Path.part s) ++ _) ++ _) fs)
    · show ChecksOK (rmParts cfg (Path.part s)) (apply fs (.append (.final s)))
      exact hpart s (fun c hc => hf c hc _ (by simp [stepFiles])) _ (fun c => set_other _ _ (by simp [Ev.path]))
    · apply checks_exist_rm wf.nd (fun a b e => by injection e)
      intro c hc
      have hT : (eventsOf (Act.ev (.append (.final s)) :: rmParts cfg (Path.part s))).all
          (fun e => notStats e.path) = true := by
        simp [eventsOf_cons_ev, rmParts, eventsOf_rmAll, List.all_map, Function.comp_def, Ev.path, notStats]
      simp only [FS.has]; rw [frame notStats (List.all_eq_true.mp hT) rfl]; exact hf c hc _ (by simp [stepFiles])
  | grouped s =>
    simp only [stepActs, mergeGrouped]
    refine (checks_append.mpr ⟨checks_append.mpr ⟨?_, ?_⟩, checks_evs _ _⟩ :
      ChecksOK ((Act.ev (.append (.final s)) :: rmParts cfg (Path.part s) ++ Act.ev (.append (.finalLin s)) :: rmParts cfg (Path.partLin s)) ++ _) fs)
    · show ChecksOK (rmParts cfg (Path.part s)) (apply fs (.append (.final s)))
      exact hpart s (fun c hc => hf c hc _ (by simp [stepFiles])) _ (fun c => set_other _ _ (by simp [Ev.path]))
    · show ChecksOK (rmParts cfg (Path.partLin s)) (apply (applyAll fs (eventsOf (Act.ev (.append (.final s)) :: rmParts cfg (Path.part s)))) (.append (.finalLin s)))
      apply checks_rmAll (nodup_map_inj wf.mnd (fun a b e => by injection e))
      intro p hp; simp only [List.mem_map] at hp; obtain ⟨c, hc, rfl⟩ := hp
      have hT : (eventsOf (Act.ev (.append (.final s)) :: rmParts cfg (Path.part s))).all
          (fun e => notLin e.path) = true := by
        simp [eventsOf_cons_ev, rmParts, eventsOf_rmAll, List.all_map, Function.comp_def, Ev.path, notLin]
      simp only [FS.has, apply]; rw [set_other _ _ (by simp [Ev.path]), frame notLin (List.all_eq_true.mp hT) rfl]
      exact hf c ((wf.m_iff c).mp hc) _ (by simp [stepFiles])
  | profile s =>
    simp only [stepActs, mergeProfile]
    refine (checks_append.mpr ⟨?_, checks_evs _ _⟩ : ChecksOK ((Act.ev (.append (.final s)) :: rmParts cfg (Path.part s)) ++ _) fs)
    show ChecksOK (rmParts cfg (Path.part s)) (apply fs (.append (.final s)))
    exact hpart s (fun c hc => hf c hc _ (by simp [stepFiles])) _ (fun c => set_other _ _ (by simp [Ev.path]))

theorem eventsOf_flatMap {α : Type} (l : List α) (f : α → List Act) :
    eventsOf (l.flatMap f) = l.flatMap (fun a => eventsOf (f a)) := by
  induction l with
  | nil => rfl
  | cons a l ih => simp only [List.flatMap_cons, eventsOf_append, ih]

theorem Tstep_disjoint {s s' : Stream} {p : Path} (h : Tstep s p = true) (h' : Tstep s' p = true) : s = s' := by
  cases p <;> simp_all [Tstep]

theorem stepFiles_T {c : Chr} {st : MStep} {d : Path} (h : d ∈ stepFiles c st) : Tstep (stepStream st) d = true := by
  cases st <;> simp only [stepFiles, List.mem_cons, List.not_mem_nil, or_false] at h
  · subst h; simp [Tstep, stepStream]
  · rcases h with rfl | rfl <;> simp [Tstep, stepStream]
  · rcases h with rfl | rfl <;> simp [Tstep, stepStream]
  · subst h; simp [Tstep, stepStream]

theorem stepFinals_T {st : MStep} {d : Path} (h : d ∈ stepFinals st) : Tstep (stepStream st) d = true := by
  cases st <;> simp only [stepFinals, List.mem_cons, List.not_mem_nil, or_false] at h
  · rcases h with rfl | rfl <;> simp [Tstep, stepStream]
  · rcases h with rfl | rfl | rfl <;> simp [Tstep, stepStream]
  · subst h; simp [Tstep, stepStream]

theorem steps_frame (cfg : Cfg) (unal : Bool) (fs0 : FS) (steps : List MStep) (s : Stream)
    (hne : ∀ st ∈ steps, stepStream st ≠ s) {p : Path} (hp : Tstep s p = true) (fs : FS) :
    applyAll fs (eventsOf (steps.flatMap (stepActs cfg unal fs0))) p = fs p := by
  apply applyAll_untouched
  intro e he hpe
  rw [eventsOf_flatMap] at he
  simp only [List.mem_flatMap] at he
  obtain ⟨st, hst, he⟩ := he
  have := step_T cfg unal fs0 st
  simp only [List.all_eq_true] at this
  have h1 := this e he
  rw [hpe] at h1
  exact hne st hst (Tstep_disjoint h1 hp)

theorem steps_checks {cfg : Cfg} (wf : WF cfg) (unal : Bool) (fs0 : FS) (steps : List MStep)
    (hnd : (steps.map stepStream).Nodup) {fs : FS}
    (hf : ∀ st ∈ steps, ∀ c ∈ cfg.chrs, ∀ d ∈ stepFiles c st, fs.has d = true) :
    ChecksOK (steps.flatMap (stepActs cfg unal fs0)) fs := by
  induction steps generalizing fs with
  | nil => trivial
  | cons st steps ih =>
    simp only [List.map_cons, List.nodup_cons] at hnd
    simp only [List.flatMap_cons]
    rw [checks_append]
    refine ⟨step_checks wf unal fs0 st (hf st (by simp)), ih hnd.2 ?_⟩
    intro st' hst' c hc d hd
    have hT := stepFiles_T hd
    have hne : stepStream st' ≠ stepStream st := fun e => hnd.1 (by rw [← e]; exact List.mem_map_of_mem hst')
    have h1 : Tstep (stepStream st) d = false := by
      cases hq : Tstep (stepStream st) d with
      | false => rfl
      | true => exact absurd (Tstep_disjoint hT hq) hne
    simp only [FS.has]; rw [frame _ (List.all_eq_true.mp (step_T cfg unal fs0 st)) h1]
    exact hf st' (by simp [hst']) c hc d hd

/-- the boolean conditions under which a step writes `good` final files -/
def stepTokOK (cfg : Cfg) (unal : Bool) (fs0 : FS) : MStep → Prop
  | .parts _ => True
  | .ungrouped s => (allGood fs0 (cfg.mchrs.map (Path.part s)) && allGood fs0 (cfg.chrs.map (Path.partStats s))
                      && (unal || !cfg.unmapped)) = true
  | .grouped s => allGood fs0 (cfg.mchrs.map (Path.part s)) = true ∧ allGood fs0 (cfg.mchrs.map (Path.partLin s)) = true
  | .profile s => allGood fs0 (cfg.mchrs.map (Path.part s)) = true

theorem step_finals (cfg : Cfg) (unal : Bool) (fs0 fs : FS) (st : MStep) (htok : stepTokOK cfg unal fs0 st) :
    ∀ p ∈ stepFinals st, (applyAll fs (eventsOf (stepActs cfg unal fs0 st))).good p = true := by
  intro p hp
  rw [step_events]
  cases st with
  | parts s => simp [stepFinals] at hp
  | ungrouped s =>
    simp only [stepTokOK] at htok
    simp only [stepFinals, List.mem_cons, List.not_mem_nil, or_false] at hp
    simp only [htok, tokOf, if_true, applyAll_append, FS.good]
    rcases hp with rfl | rfl <;> simp [applyAll, apply, FS.set, Ev.path, Ev.val]
  | grouped s =>
    simp only [stepTokOK] at htok
    simp only [stepFinals, List.mem_cons, List.not_mem_nil, or_false] at hp
    simp only [htok.1, htok.2, tokOf, if_true, applyAll_append, FS.good]
    rcases hp with rfl | rfl | rfl <;> simp [applyAll, apply, FS.set, Ev.path, Ev.val]
  | profile s =>
    simp only [stepTokOK] at htok
    simp only [stepFinals, List.mem_cons, List.not_mem_nil, or_false] at hp
    simp only [htok, tokOf, if_true, applyAll_append, FS.good]
    subst hp; simp [applyAll, apply, FS.set, Ev.path, Ev.val]

theorem steps_finals (cfg : Cfg) (unal : Bool) (fs0 : FS) (steps : List MStep) (hnd : (steps.map stepStream).Nodup)
    (htok : ∀ st ∈ steps, stepTokOK cfg unal fs0 st) (fs : FS) :
    ∀ st ∈ steps, ∀ p ∈ stepFinals st,
      (applyAll fs (eventsOf (steps.flatMap (stepActs cfg unal fs0)))).good p = true := by
  induction steps generalizing fs with
  | nil => intro st hst; simp at hst
  | cons st0 steps ih =>
    simp only [List.map_cons, List.nodup_cons] at hnd
    intro st hst p hp
    simp only [List.flatMap_cons, eventsOf_append, applyAll_append]
    simp only [List.mem_cons] at hst
    rcases hst with rfl | hst
    · simp only [FS.good]
      rw [steps_frame cfg unal fs0 steps (stepStream st) _ (stepFinals_T hp)]
      · exact step_finals cfg unal fs0 fs st (htok st (by simp)) p hp
      · intro st' hst' e; exact hnd.1 (by rw [← e]; exact List.mem_map_of_mem hst')
    · exact ih hnd.2 (fun st' hst' => htok st' (by simp [hst'])) _ st hst p hp

def Tmerge : Path → Bool
  | .part _ _ => true
  | .partLin _ _ => true
  | .partStats _ _ => true
  | .final _ => true
  | .finalLin _ => true
  | .tpm _ => true
  | .finalGz _ => true
  | _ => false

theorem Tmerge_of_Tfin {p : Path} (h : Tfin p = true) : Tmerge p = true := by
  cases p <;> first | rfl | cases h

theorem Tmerge_of_Tstep {s : Stream} {p : Path} (h : Tstep s p = true) : Tmerge p = true := by
  cases p <;> first | rfl | cases h

/-- the merge steps of a run with every option on, in their order -/
def allSteps : List MStep :=
  [.parts .gtf, .parts .r2t, .ungrouped .model, .grouped .modelG, .parts .ext, .parts .assign, .parts .bed,
   .ungrouped .gene, .ungrouped .tr, .profile .exon, .profile .intron, .grouped .geneG, .grouped .trG,
   .profile .exonG, .profile .intronG]

theorem mergeSteps_sublist (cfg : Cfg) : (mergeSteps cfg).Sublist allSteps := by
  have hm : (if cfg.noModel then []
      else [MStep.parts .gtf, .parts .r2t, .ungrouped .model] ++ (modelGrouped cfg).map MStep.grouped
        ++ (if cfg.genedb then [.parts .ext] else [])).Sublist
      ([MStep.parts .gtf, .parts .r2t, .ungrouped .model] ++ [Stream.modelG].map MStep.grouped ++ [.parts .ext]) := by
    split
    · exact List.nil_sublist _
    · exact .append (.append (.refl _) ((ite_sublist _ _).map _)) (ite_sublist _ _)
  exact .append (.append (.append (.append (.append (.append hm (ite_sublist _ _)) (.refl _))
    ((ite_sublist _ [Stream.gene, .tr]).map _)) ((ite_sublist _ [Stream.exon, .intron]).map _))
    ((ite_sublist _ [Stream.geneG, .trG]).map _)) ((ite_sublist _ [Stream.exonG, .intronG]).map _)

theorem mergeSteps_nodup (cfg : Cfg) : ((mergeSteps cfg).map stepStream).Nodup :=
  ((mergeSteps_sublist cfg).map stepStream).nodup (by decide)

/-- no merge step works on the SQANTI-like table (it is merged by `sqMerge`) -/
theorem mergeSteps_not_sq (cfg : Cfg) : ∀ st ∈ mergeSteps cfg, stepStream st ≠ .sq :=
  fun st hst => (by decide : ∀ st ∈ allSteps, stepStream st ≠ .sq) st ((mergeSteps_sublist cfg).subset hst)

theorem ungrouped_step_mem (cfg : Cfg) (s : Stream) : MStep.ungrouped s ∈ mergeSteps cfg ↔ s ∈ ungrouped cfg := by
  cases hn : cfg.noModel <;> cases hg : cfg.genedb <;>
    simp [mergeSteps, ungrouped, modelUngrouped, ungroupedGlobal, hn, hg, or_comm, or_left_comm]

theorem grouped_step_mem (cfg : Cfg) (s : Stream) : MStep.grouped s ∈ mergeSteps cfg ↔ s ∈ grouped cfg := by
  cases hn : cfg.noModel <;> cases hg : cfg.genedb <;>
    simp [mergeSteps, grouped, modelGrouped, groupedGlobal, hn, hg, or_comm]

theorem profile_step_mem (cfg : Cfg) (s : Stream) : MStep.profile s ∈ mergeSteps cfg ↔ s ∈ profile cfg := by
  cases hn : cfg.noModel <;> cases hg : cfg.genedb <;>
    simp [mergeSteps, profile, profileGlobal, profileGrouped, hn, hg]

theorem parts_step_mem (cfg : Cfg) (s : Stream) (h : MStep.parts s ∈ mergeSteps cfg) : s ∈ printerStreams cfg := by
  revert h
  cases hn : cfg.noModel <;> cases hg : cfg.genedb <;>
    simp [mergeSteps, printerStreams, aggPrinters, gffStreams, hn, hg] <;> rintro (rfl | rfl | rfl | rfl | rfl) <;> simp

theorem printer_parts (cfg : Cfg) (c : Chr) : ∀ s ∈ printerStreams cfg, Path.part s c ∈ chrOutputs cfg c := by
  intro s hs; simp only [chrOutputs, List.mem_append, List.mem_map]
  exact Or.inl (Or.inl (Or.inl (Or.inl ⟨s, hs, rfl⟩)))

theorem mergeSteps_files (cfg : Cfg) (c : Chr) : ∀ st ∈ mergeSteps cfg, ∀ d ∈ stepFiles c st, d ∈ chrOutputs cfg c := by
  intro st hst d hd
  cases st with
  | parts s => rw [List.mem_singleton.mp hd]; exact printer_parts cfg c s (parts_step_mem cfg s hst)
  | ungrouped s =>
    have := (ungrouped_step_mem cfg s).mp hst
    simp only [stepFiles, List.mem_cons, List.not_mem_nil, or_false] at hd
    rcases hd with rfl | rfl <;> simp [chrOutputs, this]
  | grouped s =>
    have := (grouped_step_mem cfg s).mp hst
    simp only [stepFiles, List.mem_cons, List.not_mem_nil, or_false] at hd
    rcases hd with rfl | rfl <;> simp [chrOutputs, this]
  | profile s =>
    have := (profile_step_mem cfg s).mp hst
    rw [List.mem_singleton.mp hd]; simp [chrOutputs, this]

theorem finalPaths_cases (cfg : Cfg) : ∀ p ∈ finalPaths cfg,
    (∃ s ∈ printerStreams cfg, p = finalOf cfg s) ∨ ∃ st ∈ mergeSteps cfg, p ∈ stepFinals st := by
  intro p hp
  simp only [finalPaths, List.mem_append, List.mem_map, List.mem_flatMap] at hp
  rcases hp with ((⟨s, hs, rfl⟩ | ⟨s, hs, hp⟩) | ⟨s, hs, hp⟩) | ⟨s, hs, rfl⟩
  · exact Or.inl ⟨s, hs, rfl⟩
  · exact Or.inr ⟨.ungrouped s, (ungrouped_step_mem cfg s).mpr hs, hp⟩
  · exact Or.inr ⟨.grouped s, (grouped_step_mem cfg s).mpr hs, hp⟩
  · exact Or.inr ⟨.profile s, (profile_step_mem cfg s).mpr hs, by simp [stepFinals]⟩

theorem sqMerge_events (cfg : Cfg) :
    eventsOf (sqMerge cfg) = (sqStreams cfg).flatMap (fun s => Ev.create (.final s) :: cfg.mchrs.map (fun c => Ev.remove (.part s c))) := by
  simp only [sqMerge, sqStreams]
  split <;> simp [eventsOf_cons_ev, rmParts, eventsOf_rmAll, List.map_map, Function.comp_def, eventsOf]

theorem mergeStage_T (cfg : Cfg) (unal : Bool) (fs : FS) : Within Tmerge (mergeStage cfg unal fs) := by
  intro e he
  unfold mergeStage at he
  simp only [eventsOf_append, eventsOf_evs, eventsOf_flatMap, sqMerge_events, List.mem_append, List.mem_flatMap, List.mem_map,
    List.mem_cons] at he
  rcases he with (⟨st, _, he⟩ | ⟨s, _, rfl | ⟨c, _, rfl⟩⟩) | ⟨s, _, rfl⟩
  · exact Tmerge_of_Tstep (List.all_eq_true.mp (step_T cfg unal fs st) e he)
  · rfl
  · rfl
  · exact Tmerge_of_Tfin (Tfin_finalOf cfg s)

theorem sqMerge_checks {cfg : Cfg} (wf : WF cfg) {fs : FS}
    (h : sqOn cfg = true → ∀ c ∈ cfg.chrs, fs.has (.part .sq c) = true) : ChecksOK (sqMerge cfg) fs := by
  simp only [sqMerge, sqStreams]
  split
  · rename_i hq
    simp only [List.flatMap_cons, List.flatMap_nil, List.append_nil]
    show ChecksOK (rmParts cfg (Path.part .sq)) (apply fs (.create (.final .sq)))
    apply checks_rmAll (nodup_map_inj wf.mnd (fun a b e => by injection e))
    intro p hp; simp only [List.mem_map] at hp; obtain ⟨c, hc, rfl⟩ := hp
    simp only [FS.has, apply]; rw [set_other _ _ (by simp [Ev.path])]
    exact h hq c ((wf.m_iff c).mp hc)
  · trivial

theorem sq_part_mem (cfg : Cfg) (hq : sqOn cfg = true) (c : Chr) : Path.part .sq c ∈ chrOutputs cfg c := by
  apply printer_parts
  simp [printerStreams, sqStreams, hq]

-- `AllP` and `ChecksOK` stay folded: `apply` / `exact` would otherwise try to unfold them along the symbolic action list
attribute [local irreducible] AllP ChecksOK in
theorem merge_stage {cfg : Cfg} (wf : WF cfg) {fs : FS} (h : J cfg fs)
    (hout : ∀ c ∈ cfg.chrs, ∀ d ∈ chrOutputs cfg c, fs.good d = true)
    (hnp : ∀ c ∈ cfg.chrs, fs.has (.processed c) = false) :
    Good cfg fs (runActs (mergeStage cfg true fs) fs) ∧
      (∀ p ∈ finalPaths cfg, (runActs (mergeStage cfg true fs) fs).fs.good p = true) := by
  unfold mergeStage
  have hall : ∀ (f : Chr → Path), (∀ c, f c ∈ chrOutputs cfg c) → ∀ l : List Chr, (∀ c ∈ l, c ∈ cfg.chrs) →
      allGood fs (l.map f) = true := by
    intro f hf l hl
    simp only [allGood, List.all_map, List.all_eq_true, Function.comp]
    intro c hc; exact hout c (hl c hc) _ (hf c)
  have hseg : (printerStreams cfg).map (fun s => Ev.commit (finalOf cfg s) (tokOf (allGood fs (cfg.mchrs.map (Path.part s)))))
      = (printerStreams cfg).map (fun s => Ev.commit (finalOf cfg s) .good) := by
    apply List.map_congr_left
    intro s hs
    rw [hall (Path.part s) (fun c => printer_parts cfg c s hs) cfg.mchrs (fun c hc => (wf.m_iff c).mp hc)]
    rfl
  rw [hseg]
  generalize hS : (printerStreams cfg).map (fun s => Ev.commit (finalOf cfg s) .good) = S
  have htok : ∀ st ∈ mergeSteps cfg, stepTokOK cfg true fs st := by
    intro st hst
    have hfiles := fun c => mergeSteps_files cfg c st hst
    cases st with
    | parts s => trivial
    | ungrouped s =>
      simp only [stepTokOK]
      rw [hall (Path.part s) (fun c => hfiles c _ (by simp [stepFiles])) cfg.mchrs (fun c hc => (wf.m_iff c).mp hc),
          hall (Path.partStats s) (fun c => hfiles c _ (by simp [stepFiles])) cfg.chrs (fun c hc => hc)]
      rfl
    | grouped s =>
      exact ⟨hall (Path.part s) (fun c => hfiles c _ (by simp [stepFiles])) cfg.mchrs (fun c hc => (wf.m_iff c).mp hc),
             hall (Path.partLin s) (fun c => hfiles c _ (by simp [stepFiles])) cfg.mchrs (fun c hc => (wf.m_iff c).mp hc)⟩
    | profile s =>
      exact hall (Path.part s) (fun c => hfiles c _ (by simp [stepFiles])) cfg.mchrs (fun c hc => (wf.m_iff c).mp hc)
  have hck : ChecksOK ((mergeSteps cfg).flatMap (stepActs cfg true fs) ++ sqMerge cfg ++ evs S) fs := by
    rw [checks_append, checks_append]
    refine ⟨⟨steps_checks wf true fs _ (mergeSteps_nodup cfg) ?_, sqMerge_checks wf ?_⟩, checks_evs _ _⟩
    · intro st hst c hc d hd
      exact good_has (hout c hc d (mergeSteps_files cfg c st hst d hd))
    · intro hq c hc
      simp only [FS.has]
      rw [steps_frame cfg true fs (mergeSteps cfg) .sq (mergeSteps_not_sq cfg) (by simp [Tstep])]
      exact good_has (hout c hc _ (sq_part_mem cfg hq c))
  have hev : eventsOf ((mergeSteps cfg).flatMap (stepActs cfg true fs) ++ sqMerge cfg ++ evs S)
      = (eventsOf ((mergeSteps cfg).flatMap (stepActs cfg true fs)) ++ eventsOf (sqMerge cfg)) ++ S := by
    rw [eventsOf_append, eventsOf_append, eventsOf_evs]
  have hT : ∀ e ∈ (eventsOf ((mergeSteps cfg).flatMap (stepActs cfg true fs)) ++ eventsOf (sqMerge cfg)) ++ S,
      Tmerge e.path = true := by
    have := mergeStage_T cfg true fs
    unfold Within mergeStage at this
    rwa [hseg, hS, hev] at this
  have hJ : AllP (J cfg) fs ((eventsOf ((mergeSteps cfg).flatMap (stepActs cfg true fs)) ++ eventsOf (sqMerge cfg)) ++ S) := by
    apply allJ_body h
    · intro e he hp
      have := hT e he; rw [hp] at this; cases this
    · intro e he hl
      have := hT e he
      revert hl this; cases e.path <;> simp [isLock, Tmerge]
    · -- the only locks that vouch for a file touched by merging are the `_processed` locks, and those are gone
      intro e he _ l hm
      have hl := mem_guarded_locksOf hm
      have ht := hT e he
      generalize e.path = p at hm hl ht
      cases p <;> first | cases ht | skip
      all_goals simp only [locksOf, List.mem_cons, List.not_mem_nil, or_false] at hl
      all_goals subst hl; exact hnp _ (guarded_processed_mem hm)
  obtain ⟨hgood, hfs⟩ := good_of_checks hck (by rw [hev]; exact hJ)
  rw [hev] at hfs
  refine ⟨hgood, fun p hp => ?_⟩
  · rw [hfs, applyAll_append]
    rcases finalPaths_cases cfg p hp with ⟨s, hs, rfl⟩ | ⟨st, hst, hpst⟩
    · subst hS; simp only [FS.good]; rw [applyAll_commit_mem (f := finalOf cfg) hs]; rfl
    · -- the printers' final files are only closed afterwards
      refine good_of_good_vals (fun e he => ?_) ?_
      · subst hS; simp only [List.mem_map] at he; obtain ⟨s, _, rfl⟩ := he; rfl
      simp only [FS.good]
      rw [applyAll_append, applyAll_untouched]
      · exact steps_finals cfg true fs _ (mergeSteps_nodup cfg) htok fs st hst p hpst
      · -- the SQANTI-like merge touches files of stream `sq` only
        intro e he hpe
        rw [sqMerge_events] at he
        simp only [List.mem_flatMap, List.mem_cons, List.mem_map, sqStreams] at he
        obtain ⟨s, hs, he⟩ := he
        have hsq : s = .sq := by split at hs <;> simp_all
        subst hsq
        have hT := stepFinals_T hpst
        have hne := mergeSteps_not_sq cfg st hst
        rcases he with rfl | ⟨c, _, rfl⟩ <;> (simp only [Ev.path] at hpe; subst hpe; simp [Tstep] at hT; exact hne hT.symm)

end IsoVerif.Lemmas.Resume
