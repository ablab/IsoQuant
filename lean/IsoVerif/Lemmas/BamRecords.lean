/-
Helper lemmas for C12: from cluster equivalence to the multiset of records.  `blocksBy` is the common form of what
both memory modes hand over (one block per cluster and sub-region); `blocksBy_forall2` is the one congruence for it.
-/
import IsoVerif.Model.BamMerge
import IsoVerif.Lemmas.BamMerge
import IsoVerif.Lemmas.BamClusters
import IsoVerif.Lemmas.BamOrder

namespace IsoVerif.Lemmas.C12
open IsoVerif.Gen IsoVerif.Model.C12
open List

theorem clustersGo_map {E F : Type} (f : E → F) (al : F → Aln) (st : Option (Iv × List E)) (l : List E) :
    (clustersGo (fun e => al (f e)) st l).map (fun rc => (rc.1, rc.2.map f)) =
      clustersGo al (st.map (fun rc => (rc.1, rc.2.map f))) (l.map f) := by
  induction l generalizing st with
  | nil =>
    cases st with
    | none => simp [clustersGo]
    | some rc => obtain ⟨r, cur⟩ := rc; simp [clustersGo]
  | cons a t ih =>
    cases st with
    | none =>
      simp only [clustersGo, List.map_cons, Option.map_none]
      rw [ih]; simp
    | some rc =>
      obtain ⟨r, cur⟩ := rc
      by_cases ho : overlaps r (alnIv (al (f a))) = true
      · simp only [clustersGo, ho, if_true, List.map_cons, Option.map_some]
        rw [ih]; simp
      · have ho' : overlaps r (alnIv (al (f a))) = false := by simpa using ho
        simp only [clustersGo, ho', Bool.false_eq_true, if_false, List.map_cons, Option.map_some]
        rw [ih]; simp

/-- a cluster with the bam indices dropped -/
def strip (rc : Iv × List Entry) : Iv × List Aln := (rc.1, rc.2.map Prod.snd)

theorem clusters_strip (l : List Entry) :
    (clusters Prod.snd l).map strip = clusters id (l.map Prod.snd) :=
  clustersGo_map (E := Entry) (F := Aln) Prod.snd id none l

/-! ### what depends on a cluster only as a multiset -/

theorem cov_perm {c c' : List Aln} (h : c ~ c') : cov c = cov c' := by
  funext b
  exact h.countP_eq _

theorem subRegions_perm (split : SplitFn) (r : Iv) {c c' : List Aln} (h : c ~ c') :
    subRegions split r c = subRegions split r c' := by
  simp only [subRegions, cov_perm h, h.length_eq]

/-! ### the states the merger goes through (Props/C12: the queue never holds two entries of one iterator) -/

/-- the merger state after `n` rounds of `get` (`none` once the queue has run empty) -/
def stateAfter (files : List (List Aln)) : Nat → Option MState
  | 0 => some (initState files)
  | n + 1 =>
    match stateAfter files n with
    | none => none
    | some s =>
      match minEntry s.queue with
      | none => none
      | some m => some (stepState s m)

/-! ### two representations of one experiment: the same records per region, equivalent clusters -/

theorem clustersGo_flatten {E : Type} (al : E → Aln) (st : Option (Iv × List E)) (l : List E) :
    (clustersGo al st l).flatMap (·.2) =
      (match st with | none => [] | some rc => rc.2.reverse) ++ l := by
  induction l generalizing st with
  | nil =>
    cases st with
    | none => simp [clustersGo]
    | some rc => obtain ⟨r, cur⟩ := rc; simp [clustersGo]
  | cons a t ih =>
    cases st with
    | none => simp [clustersGo, ih]
    | some rc =>
      obtain ⟨r, cur⟩ := rc
      by_cases ho : overlaps r (alnIv (al a)) = true
      · simp [clustersGo, ho, ih]
      · have ho' : overlaps r (alnIv (al a)) = false := by simpa using ho
        simp [clustersGo, ho', ih]

theorem fetch_merge_perm (files : List (List Aln)) (sub : Iv) :
    (Model.C12.merge (files.map (fetch sub))).map Prod.snd ~ fetch sub files.flatten := by
  have := merge_perm_aux (files.map (fetch sub))
  have e : fetch sub files.flatten = (files.map (fetch sub)).flatten := by
    unfold fetch; exact List.filter_flatten
  rw [e]; exact this

theorem filterMap_assign {R : Type} (assign : Assign R) (hidx : ∀ r i j a, assign r i a = assign r j a) (sub : Iv)
    (l : List Entry) : l.filterMap (fun e => assign sub e.1 e.2) = (l.map Prod.snd).filterMap (assign sub 0) := by
  rw [List.filterMap_map]
  exact congrArg (List.filterMap · l) (funext fun e => hidx sub e.1 0 e.2)

theorem regionRecords_perm {R : Type} (assign : Assign R) (files1 files2 : List (List Aln))
    (hp : files1.flatten ~ files2.flatten) (hidx : ∀ r i j a, assign r i a = assign r j a) (sub : Iv) :
    regionRecords assign files1 sub ~ regionRecords assign files2 sub := by
  simp only [regionRecords, filterMap_assign assign hidx]
  have hf : fetch sub files1.flatten ~ fetch sub files2.flatten := Perm.filter _ hp
  exact ((fetch_merge_perm files1 sub).trans (hf.trans (fetch_merge_perm files2 sub).symm)).filterMap _

theorem clusters_equiv_of_perm (l1 l2 : List Entry)
    (h1 : l1.Pairwise (fun x y => x.2.start ≤ y.2.start)) (h2 : l2.Pairwise (fun x y => x.2.start ≤ y.2.start))
    (wf : ∀ e ∈ l1, e.2.start < e.2.stop) (hp : (l1.map Prod.snd).Perm (l2.map Prod.snd)) :
    ClusterEquiv ((clusters Prod.snd l1).map strip) ((clusters Prod.snd l2).map strip) := by
  rw [clusters_strip, clusters_strip]
  refine go_perm_invariant id _ _ none (List.pairwise_map.mpr h1) (List.pairwise_map.mpr h2) ?_ hp ?_
  · intro x hx
    obtain ⟨e, he, rfl⟩ := List.mem_map.mp hx
    exact wf e he
  · intro x _ r cur h; cases h

theorem merged_cluster_equiv (files1 files2 : List (List Aln))
    (s1 : ∀ f ∈ files1, SortedStart f) (s2 : ∀ f ∈ files2, SortedStart f)
    (wf : ∀ a ∈ files1.flatten, a.start < a.stop) (hp : files1.flatten ~ files2.flatten) :
    ClusterEquiv ((clusters Prod.snd (Model.C12.merge files1)).map strip)
      ((clusters Prod.snd (Model.C12.merge files2)).map strip) :=
  clusters_equiv_of_perm _ _ (merge_sorted_aux files1 s1) (merge_sorted_aux files2 s2)
    (fun _ he => wf _ ((merge_perm_aux files1).subset (List.mem_map_of_mem he)))
    ((merge_perm_aux files1).trans (hp.trans (merge_perm_aux files2).symm))

/-- `memAlignments` on bare alignments -/
def memAlns (r : Iv) (c : List Aln) (sub : Iv) : List Aln :=
  if sub = r then c else c.filter (fun a => overlaps sub (alnIv a))

theorem memAlignments_strip (r : Iv) (c : List Entry) (sub : Iv) :
    (memAlignments r c sub).map Prod.snd = memAlns r (c.map Prod.snd) sub := by
  unfold memAlignments memAlns
  split
  · rfl
  · simp [List.filter_map, Function.comp_def]

theorem memAlns_perm (r sub : Iv) {c c' : List Aln} (h : c ~ c') : memAlns r c sub ~ memAlns r c' sub := by
  unfold memAlns
  split
  · exact h
  · exact h.filter _

/-- cluster by cluster, sub-region by sub-region, the block `g region cluster sub`; both memory modes are of this
    form (`regionRecords` re-fetches, `memAlignments` filters the stored cluster): `Model.C12.collectBlocks` and
    `collectBlocksMem` unfold to it (by `rfl`; the two `g` are written out in Lemmas/C12Pipeline.lean, part A) -/
def blocksBy {R : Type} (split : SplitFn) (g : Iv → List Entry → Iv → List R) (C : List (Iv × List Entry)) :
    List (List R) :=
  C.flatMap (fun rc => (subRegions split rc.1 (rc.2.map Prod.snd)).map (g rc.1 rc.2))

theorem blocksBy_flatten {R : Type} (split : SplitFn) (g : Iv → List Entry → Iv → List R) (C : List (Iv × List Entry)) :
    (blocksBy split g C).flatten =
      C.flatMap (fun rc => (subRegions split rc.1 (rc.2.map Prod.snd)).flatMap (g rc.1 rc.2)) := by
  simp only [blocksBy, List.flatMap_def, List.flatten_flatten, List.map_map, Function.comp_def]

theorem blocksBy_forall2 {R : Type} (split : SplitFn) (g1 g2 : Iv → List Entry → Iv → List R)
    {C1 C2 : List (Iv × List Entry)} (hce : ClusterEquiv (C1.map strip) (C2.map strip))
    (hg : ∀ r c c' sub, c.map Prod.snd ~ c'.map Prod.snd → g1 r c sub ~ g2 r c' sub) :
    Forall2 (fun b b' => b ~ b') (blocksBy split g1 C1) (blocksBy split g2 C2) := by
  refine forall2_flatMap _ _ (forall2_of_map strip strip hce) ?_
  rintro x y ⟨hr, hc⟩
  simp only [strip] at hr hc
  rw [hr, subRegions_perm split y.1 hc]
  exact forall2_map _ _ (forall2_refl_of _ (fun _ _ => rfl)) (fun a b hab => hab ▸ hg _ _ _ a hc)

theorem collect_eq_blocks {R : Type} (split : SplitFn) (assign : Assign R) (files : List (List Aln)) :
    collect split assign files =
      (blocksBy split (fun _ _ => regionRecords assign files) (clusters Prod.snd (merge files))).flatten :=
  (blocksBy_flatten split (fun _ _ => regionRecords assign files) _).symm

theorem collectMem_eq_blocks {R : Type} (split : SplitFn) (assign : Assign R) (files : List (List Aln)) :
    collectMem split assign files =
      (blocksBy split (fun r c sub => (memAlignments r c sub).filterMap (fun e : Entry => assign sub e.1 e.2))
        (clusters Prod.snd (merge files))).flatten :=
  (blocksBy_flatten split (fun r c sub => (memAlignments r c sub).filterMap (fun e : Entry => assign sub e.1 e.2)) _).symm

section
variable {R : Type} (split : SplitFn) (assign : Assign R) (files1 files2 : List (List Aln))
  (s1 : ∀ f ∈ files1, SortedStart f) (s2 : ∀ f ∈ files2, SortedStart f)
  (wf : ∀ a ∈ files1.flatten, a.start < a.stop) (hp : files1.flatten ~ files2.flatten)
  (hidx : ∀ r i j a, assign r i a = assign r j a)
include s1 s2 wf hp hidx

/-- the blocks of the default mode: every sub-region re-fetched and re-merged -/
theorem blocks_forall2 :
    Forall2 (fun b b' => b ~ b') (blocksBy split (fun _ _ => regionRecords assign files1) (clusters Prod.snd (merge files1)))
      (blocksBy split (fun _ _ => regionRecords assign files2) (clusters Prod.snd (merge files2))) :=
  blocksBy_forall2 split _ _ (merged_cluster_equiv files1 files2 s1 s2 wf hp)
    (fun _ _ _ sub _ => regionRecords_perm assign files1 files2 hp hidx sub)

/-- the blocks of `--high_memory`: the stored cluster filtered by overlap -/
theorem blocksMem_forall2 :
    Forall2 (fun b b' => b ~ b')
      (blocksBy split (fun r c sub => (memAlignments r c sub).filterMap (fun e : Entry => assign sub e.1 e.2))
        (clusters Prod.snd (merge files1)))
      (blocksBy split (fun r c sub => (memAlignments r c sub).filterMap (fun e : Entry => assign sub e.1 e.2))
        (clusters Prod.snd (merge files2))) :=
  blocksBy_forall2 split _ _ (merged_cluster_equiv files1 files2 s1 s2 wf hp) (fun r c c' sub h => by
    rw [filterMap_assign assign hidx, filterMap_assign assign hidx, memAlignments_strip, memAlignments_strip]
    exact (memAlns_perm r sub h).filterMap _)

end

theorem collect_map {R S : Type} (proj : R → S) (split : SplitFn) (assign : Assign R) (files : List (List Aln)) :
    (collect split assign files).map proj = collect split (fun r i a => (assign r i a).map proj) files := by
  simp only [collect, List.map_flatMap]
  congr 1; funext rc; congr 1; funext sub
  simp only [regionRecords, List.map_filterMap]

end IsoVerif.Lemmas.C12
