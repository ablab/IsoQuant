/-
Helper lemmas for the end-to-end part of C12: assembling `downstream` (Model/BamPipeline.lean) from the stamped stream
(assignment ids, chromosome ids), the per-chromosome loader / counters and the merge.
-/
import IsoVerif.Model.BamPipeline
import IsoVerif.Lemmas.C12Pipeline
import IsoVerif.Lemmas.CounterPerm

namespace IsoVerif.Lemmas.C12
open IsoVerif.Gen IsoVerif.Model.C12 IsoVerif.Model.Resolver IsoVerif.Model.C02 IsoVerif.Lemmas.Resolver
open IsoVerif.Lemmas.C02
open List

/-- both runs raise (`none`) or neither does and the results are related -/
def OptRel {α β : Type} (R : α → β → Prop) : Option α → Option β → Prop
  | none, none => True
  | some a, some b => R a b
  | _, _ => False

/-- same loaded records up to order and assignment ids, same dumped tables -/
def ChrEq (o o' : ChrOut) : Prop :=
  o.records.map PRec.eraseAid ~ o'.records.map PRec.eraseAid ∧ o.gene = o'.gene ∧ o.transcript = o'.transcript

/-- the conclusion of the end-to-end theorem: chromosome by chromosome `ChrEq`, and the same merged tables and TPMs -/
def OutEq (x x' : Output) : Prop :=
  Forall2 ChrEq x.chrs x'.chrs ∧ x.geneCounts = x'.geneCounts ∧ x.transcriptCounts = x'.transcriptCounts ∧
  x.geneTpm = x'.geneTpm ∧ x.transcriptTpm = x'.transcriptTpm

theorem OptRel.cases {α β : Type} {R : α → β → Prop} {o : Option α} {o' : Option β} (h : OptRel R o o') :
    (o = none ∧ o' = none) ∨ ∃ a b, o = some a ∧ o' = some b ∧ R a b := by
  match o, o', h with
  | none, none, _ => exact Or.inl ⟨rfl, rfl⟩
  | some a, some b, h => exact Or.inr ⟨a, b, rfl, rfl, h⟩

theorem mapM_rel {α α' β β' : Type} {R : β → β' → Prop} (f : α → Option β) (f' : α' → Option β')
    {l : List α} {l' : List α'} (h : Forall2 (fun x x' => OptRel R (f x) (f' x')) l l') :
    OptRel (Forall2 R) (l.mapM f) (l'.mapM f') := by
  induction h with
  | nil => exact Forall2.nil
  | cons hab _ ih =>
    rw [List.mapM_cons, List.mapM_cons]
    rcases hab.cases with ⟨h1, h2⟩ | ⟨x, y, h1, h2, hxy⟩
    · rw [h1, h2]; exact True.intro
    · rcases ih.cases with ⟨e1, e2⟩ | ⟨xs, ys, e1, e2, hs⟩
      · rw [h1, h2, e1, e2]; exact True.intro
      · rw [h1, h2, e1, e2]; exact Forall2.cons hxy hs

theorem forall2_getElem? {α β : Type} {R : α → β → Prop} {l : List α} {l' : List β} (h : Forall2 R l l') (i : Nat) :
    OptRel R l[i]? l'[i]? := by
  induction h generalizing i with
  | nil => exact True.intro
  | cons hab _ ih =>
    cases i with
    | zero => exact hab
    | succ n => simpa using ih n

theorem forall2_zipIdx {α β : Type} {R : α → β → Prop} {l : List α} {l' : List β} (h : Forall2 R l l') (k : Nat) :
    Forall2 (fun x x' => R x.1 x'.1 ∧ x.2 = x'.2) (l.zipIdx k) (l'.zipIdx k) := by
  induction h generalizing k with
  | nil => exact Forall2.nil
  | cons hab _ ih => exact Forall2.cons ⟨hab, rfl⟩ (ih (k + 1))

theorem forall2_imp_mem {α β : Type} {R S : α → β → Prop} {l : List α} {l' : List β} (h : Forall2 R l l')
    (hRS : ∀ a b, a ∈ l → b ∈ l' → R a b → S a b) : Forall2 S l l' := by
  induction h with
  | nil => exact Forall2.nil
  | cons hab _ ih =>
    exact Forall2.cons (hRS _ _ (by simp) (by simp) hab)
      (ih (fun a b ha hb => hRS a b (List.mem_cons_of_mem _ ha) (List.mem_cons_of_mem _ hb)))

theorem forall2_imp {α β : Type} {R S : α → β → Prop} {l : List α} {l' : List β} (h : Forall2 R l l')
    (hRS : ∀ a b, R a b → S a b) : Forall2 S l l' :=
  forall2_imp_mem h (fun a b _ _ => hRS a b)

theorem stamp_eraseAid (c a : Nat) (p : PRec) : (p.stamp c a).eraseAid = p.stamp c 0 := rfl

theorem stampChr_eraseAid (c : Nat) (ids : Nat → Nat) (l : List PRec) :
    (stampChr c ids l).map PRec.eraseAid = l.map (fun p => p.stamp c 0) := by
  unfold stampChr
  rw [List.map_map]
  have : (PRec.eraseAid ∘ fun x : PRec × Nat => x.1.stamp c (ids x.2)) = (fun p => p.stamp c 0) ∘ Prod.fst := by
    funext x; rfl
  rw [this, ← List.map_map]
  simp

theorem stampChr_chr (c : Nat) (ids : Nat → Nat) (l : List PRec) : ∀ p ∈ stampChr c ids l, p.basic.chr = c := by
  intro p hp
  obtain ⟨x, _, rfl⟩ := List.mem_map.mp hp
  rfl

theorem stampChr_distinct (c : Nat) (ids : Nat → Nat) (hinj : ∀ i j, ids i = ids j → i = j) (l : List PRec) :
    (stampChr c ids l).Pairwise (fun a b => ¬ (a.basic.aid = b.basic.aid ∧ a.basic.chr = b.basic.chr)) := by
  unfold stampChr
  rw [List.pairwise_map]
  refine (zipIdx_snd_pairwise l).imp ?_
  intro a b hab h
  exact hab (hinj _ _ h.1)

/-- every record of entry `x` carries the chromosome number `x.2`, and the chromosome numbers are pairwise different
    (what `flatten_filter_tagged` and `stream_distinct` rest on) -/
structure Tagged (L : List (List PRec × Nat)) : Prop where
  chr : ∀ x ∈ L, ∀ y ∈ x.1, y.basic.chr = x.2
  distinct : L.Pairwise (fun a b => a.2 ≠ b.2)

theorem tagged_stamped (ids : Nat → Nat → Nat) (chroms : List (List PRec)) :
    Tagged (stampedOf ids chroms) := by
  unfold stampedOf
  constructor
  · intro x hx y hy
    obtain ⟨x0, _, rfl⟩ := List.mem_map.mp hx
    exact stampChr_chr _ _ _ y hy
  · rw [List.pairwise_map]
    exact zipIdx_snd_pairwise chroms

theorem flatten_filter_tagged {L : List (List PRec × Nat)} (hL : Tagged L) :
    ∀ x ∈ L, ((L.map (·.1)).flatten).filter (onChr x.2) = x.1 := by
  induction L with
  | nil => intro x hx; cases hx
  | cons a t ih =>
    have ht : Tagged t :=
      ⟨fun x hx => hL.chr x (List.mem_cons_of_mem _ hx), (List.pairwise_cons.mp hL.distinct).2⟩
    have hat := (List.pairwise_cons.mp hL.distinct).1
    intro x hx
    simp only [List.map_cons, List.flatten_cons, List.filter_append]
    rcases List.mem_cons.mp hx with rfl | hx
    · have h1 : x.1.filter (onChr x.2) = x.1 := by
        rw [List.filter_eq_self]
        intro y hy
        simp [onChr, hL.chr x (by simp) y hy]
      have h2 : ((t.map (·.1)).flatten).filter (onChr x.2) = [] := by
        rw [List.filter_eq_nil_iff]
        intro y hy
        obtain ⟨l, hl, hyl⟩ := List.mem_flatten.mp hy
        obtain ⟨z, hz, rfl⟩ := List.mem_map.mp hl
        have := ht.chr z hz y hyl
        simp only [onChr, beq_iff_eq, this]
        exact fun e => hat z hz e.symm
      rw [h1, h2, List.append_nil]
    · have h1 : a.1.filter (onChr x.2) = [] := by
        rw [List.filter_eq_nil_iff]
        intro y hy
        have := hL.chr a (by simp) y hy
        simp only [onChr, beq_iff_eq, this]
        exact hat x hx
      rw [h1, List.nil_append]
      exact ih ht x hx

theorem stream_distinct {L : List (List PRec × Nat)} (hL : Tagged L)
    (hin : ∀ x ∈ L, x.1.Pairwise (fun a b => ¬ (a.basic.aid = b.basic.aid ∧ a.basic.chr = b.basic.chr))) :
    (((L.map (·.1)).flatten).map (·.basic)).Pairwise (fun a b => ¬ (a.aid = b.aid ∧ a.chr = b.chr)) := by
  rw [List.pairwise_map, List.pairwise_flatten]
  constructor
  · intro l hl
    obtain ⟨x, hx, rfl⟩ := List.mem_map.mp hl
    exact hin x hx
  · rw [List.pairwise_map]
    refine (List.Pairwise.and_mem.mp hL.distinct).imp ?_
    rintro a b ⟨ha, hb, hab⟩ x hx y hy h
    rw [hL.chr a ha x hx, hL.chr b hb y hy] at h
    exact hab h.2

theorem toAssignment_eraseAid (p : PRec) : p.eraseAid.toAssignment = p.toAssignment := rfl

theorem countChr_perm (s : CountingStrategy) (lvl : Level) (le : Nat → Nat → Bool) (ho : TotalOrder le)
    (complete : List Nat) {loaded loaded' : List PRec}
    (h : loaded.map PRec.eraseAid ~ loaded'.map PRec.eraseAid) :
    countChr s lvl le complete loaded = countChr s lvl le complete loaded' := by
  unfold countChr
  have e : ∀ l : List PRec, l.map (fun p => Event.read (some p.toAssignment)) =
      (l.map PRec.eraseAid).map (fun p => Event.read (some p.toAssignment)) := by
    intro l; rw [List.map_map]; rfl
  rw [e loaded, e loaded']
  exact counter_perm_invariant_aux s lvl le ho true _ (h.map _)

theorem chrOutOf_rel (cfg : Config) (ho : TotalOrder cfg.le) (c : Nat) {loaded loaded' : List PRec}
    (h : loaded.map PRec.eraseAid ~ loaded'.map PRec.eraseAid) :
    OptRel ChrEq (chrOutOf cfg c loaded) (chrOutOf cfg c loaded') := by
  unfold chrOutOf
  rw [countChr_perm cfg.geneStrategy .gene cfg.le ho (cfg.completeGenes c) h,
    countChr_perm cfg.transcriptStrategy .transcript cfg.le ho (cfg.completeTranscripts c) h]
  cases countChr cfg.geneStrategy .gene cfg.le (cfg.completeGenes c) loaded' with
  | none => exact True.intro
  | some g =>
    cases countChr cfg.transcriptStrategy .transcript cfg.le (cfg.completeTranscripts c) loaded' with
    | none => exact True.intro
    | some t => exact ⟨h, rfl, rfl⟩

theorem merged_parts_eq {outs outs' : List ChrOut} (h : Forall2 ChrEq outs outs') (order : List Nat) :
    (order.filterMap (fun c => outs[c]?)).map (·.gene) = (order.filterMap (fun c => outs'[c]?)).map (·.gene) ∧
    (order.filterMap (fun c => outs[c]?)).map (·.transcript) =
      (order.filterMap (fun c => outs'[c]?)).map (·.transcript) := by
  induction order with
  | nil => exact ⟨rfl, rfl⟩
  | cons c cs ih =>
    simp only [List.filterMap_cons]
    rcases (forall2_getElem? h c).cases with ⟨h1, h2⟩ | ⟨x, y, h1, h2, hc⟩
    · rw [h1, h2]; exact ih
    · rw [h1, h2]
      simp only [List.map_cons, hc.2.1, hc.2.2, ih.1, ih.2, and_self]

theorem forall2_mem_right {α β : Type} {R : α → β → Prop} {l : List α} {l' : List β} (h : Forall2 R l l') {b : β}
    (hb : b ∈ l') : ∃ a ∈ l, R a b := by
  induction h with
  | nil => cases hb
  | cons hab _ ih =>
    rcases List.mem_cons.mp hb with rfl | hb
    · exact ⟨_, List.mem_cons_self, hab⟩
    · obtain ⟨a, ha, hab'⟩ := ih hb
      exact ⟨a, List.mem_cons_of_mem _ ha, hab'⟩

/-- all blocks of the experiment in processing order, records stamped with their chromosome, assignment ids forgotten -/
def globalBlocks (CB : List (List (List PRec))) : List (List PRec) :=
  CB.zipIdx.flatMap (fun x => x.1.map (fun b => b.map (fun p => p.stamp x.2 0)))

theorem stream_eraseAid (ids : Nat → Nat → Nat) (CB : List (List (List PRec))) :
    (((stampedOf ids (CB.map List.flatten)).map (·.1)).flatten).map PRec.eraseAid = (globalBlocks CB).flatten := by
  unfold stampedOf globalBlocks
  rw [List.map_flatten, List.map_map, List.map_map, List.zipIdx_map, List.map_map, List.flatMap_def,
    List.flatten_flatten, List.map_map]
  congr 1
  apply List.map_congr_left
  intro x _
  simp only [Function.comp, Prod.map, id, stampChr_eraseAid, List.map_flatten]

theorem globalBlocks_forall2 {CB CB' : List (List (List PRec))}
    (hF : Forall2 (Forall2 (fun b b' => b ~ b')) CB CB') :
    Forall2 (fun b b' => b ~ b') (globalBlocks CB) (globalBlocks CB') := by
  unfold globalBlocks
  refine forall2_flatMap _ _ (forall2_zipIdx hF 0) ?_
  rintro x x' ⟨h1, h2⟩
  rw [h2]
  exact forall2_map _ _ h1 (fun a b hab => hab.map _)

/-! ### statements' vocabulary and glue used by Props/C12EndToEnd.lean -/

def blocksOf (cfg : Config) (split : SplitFn) (assign : Nat → Assign PRec) (genome : List (List (List Aln))) :
    List (List (List PRec)) :=
  genome.zipIdx.map (fun x =>
    if cfg.highMemory then collectBlocksMem split (assign x.2) x.1 else collectBlocks split (assign x.2) x.1)

theorem endToEnd_eq (cfg : Config) (split : SplitFn) (assign : Nat → Assign PRec) (ids : Nat → Nat → Nat)
    (u : List Nat) (genome : List (List (List Aln))) :
    endToEnd cfg split assign ids u genome = downstream cfg ids u ((blocksOf cfg split assign genome).map List.flatten) := by
  unfold endToEnd blocksOf
  congr 1
  rw [List.map_map]
  apply List.map_congr_left
  intro x _
  simp only [Function.comp]
  split
  · exact collectMem_eq_blocks _ _ _
  · exact collect_eq_blocks _ _ _

theorem mem_block_of_assign {R : Type} (split : SplitFn) (assign : Assign R) (files : List (List Aln)) :
    (∀ b ∈ collectBlocks split assign files, ∃ sub, ∀ p ∈ b, ∃ i a, assign sub i a = some p) ∧
    (∀ b ∈ collectBlocksMem split assign files, ∃ sub, ∀ p ∈ b, ∃ i a, assign sub i a = some p) := by
  constructor
  · intro b hb
    simp only [collectBlocks, List.mem_flatMap, List.mem_map] at hb
    obtain ⟨rc, _, sub, _, rfl⟩ := hb
    refine ⟨sub, ?_⟩
    intro p hp
    simp only [regionRecords, List.mem_filterMap] at hp
    obtain ⟨e, _, he⟩ := hp
    exact ⟨e.1, e.2, he⟩
  · intro b hb
    simp only [collectBlocksMem, List.mem_flatMap, List.mem_map] at hb
    obtain ⟨rc, _, sub, _, rfl⟩ := hb
    refine ⟨sub, ?_⟩
    intro p hp
    simp only [List.mem_filterMap] at hp
    obtain ⟨e, _, he⟩ := hp
    exact ⟨e.1, e.2, he⟩

theorem mem_blocksOf {cfg : Config} {split : SplitFn} {assign : Nat → Assign PRec} {genome : List (List (List Aln))}
    {c : Nat} {blocks : List (List PRec)} (h : (blocksOf cfg split assign genome)[c]? = some blocks)
    {b : List PRec} (hb : b ∈ blocks) : ∃ sub, ∀ p ∈ b, ∃ i a, assign c sub i a = some p := by
  unfold blocksOf at h
  rw [List.getElem?_map, List.getElem?_zipIdx] at h
  cases hg : genome[c]? with
  | none => rw [hg] at h; cases h
  | some files =>
    rw [hg] at h
    simp only [Option.map_some, Nat.zero_add, Option.some.injEq] at h
    subst h
    have hm := mem_block_of_assign split (assign c) files
    by_cases hmode : cfg.highMemory = true
    · rw [if_pos hmode] at hb; exact hm.2 b hb
    · rw [if_neg hmode] at hb; exact hm.1 b hb

theorem optRel_tables {o o' : Option Output} (h : OptRel OutEq o o') :
    o.map (fun o => (o.geneCounts, o.transcriptCounts, o.geneTpm, o.transcriptTpm)) =
    o'.map (fun o => (o.geneCounts, o.transcriptCounts, o.geneTpm, o.transcriptTpm)) := by
  rcases h.cases with ⟨rfl, rfl⟩ | ⟨x, y, rfl, rfl, _, h1, h2, h3, h4⟩
  · rfl
  · simp [h1, h2, h3, h4]

def natLe (a b : Nat) : Bool := decide (a ≤ b)

theorem natLe_total : TotalOrder natLe :=
  ⟨fun a b c h1 h2 => by simp only [natLe, decide_eq_true_eq] at *; omega,
   fun a b => by simp only [natLe, decide_eq_true_eq]; omega,
   fun a b h1 h2 => by simp only [natLe, decide_eq_true_eq] at *; omega⟩


end IsoVerif.Lemmas.C12
