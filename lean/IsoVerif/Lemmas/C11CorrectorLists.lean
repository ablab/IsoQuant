/-
C11 helper lemmas — `correct_misalignments` (event LIST → event map + retained micro introns) under reflection.

`mirrorEventList n m evs` = every event seen from the other end (`mirrorMEventS`: the two sentinels of `read_region` are
kept), in the opposite order.  Its event map is the mirrored event map of `evs` in the opposite order of insertion
(`buildEventMap_mirror`), its micro bindings are `mirrorMicroMap` of the bindings of `evs` (`buildMicroMap_mirror`).
The loop reads the event map through `lookup` only, so the order of insertion does not matter when the keys are
distinct (`processEvents_reverse`).
-/
import IsoVerif.Gen.Prims
import IsoVerif.Model.Interval
import IsoVerif.Model.Corrector
import IsoVerif.Model.C11Symmetry
import IsoVerif.Model.C11SymBedCorr
import IsoVerif.Lemmas.Corrector
import IsoVerif.Lemmas.CorrectorLoop
import IsoVerif.Lemmas.C11Mirror
import IsoVerif.Lemmas.C11CorrectorMirror

namespace IsoVerif.Lemmas.C11
open IsoVerif.Gen IsoVerif.Model IsoVerif.Model.C14 IsoVerif.Model.C11 IsoVerif.Lemmas IsoVerif.Lemmas.C14

theorem nodup_reverse' {α} {l : List α} (h : l.Nodup) : l.reverse.Nodup :=
  h.perm (List.reverse_perm l).symm

/-- an event that enters the event map: neither sentinel in its read region -/
def normalB (e : MEvent) : Bool := !(decide (e.read = undefinedRegion)) && !(decide (e.read.1 = absentPosition))

def keyed (e : MEvent) : Int × MEvent := (e.read.1, e)

theorem addEvent_eq (m : List (Int × MEvent)) (e : MEvent) :
    addEvent m e = if normalB e then keyed e :: m else m := by
  unfold addEvent normalB keyed
  by_cases h1 : e.read = undefinedRegion
  · simp [h1]
  · by_cases h2 : e.read.1 = absentPosition
    · simp [h1, h2]
    · simp [h1, h2]

theorem foldl_addEvent_eq (evs : List MEvent) (acc : List (Int × MEvent)) :
    evs.foldl addEvent acc = ((evs.filter normalB).map keyed).reverse ++ acc := by
  induction evs generalizing acc with
  | nil => rfl
  | cons e t ih =>
    rw [List.foldl_cons, ih, addEvent_eq, List.filter_cons]
    by_cases h : normalB e = true
    · simp [h]
    · simp [h]

theorem buildEventMap_eq (evs : List MEvent) : buildEventMap evs = ((evs.filter normalB).map keyed).reverse := by
  unfold buildEventMap
  rw [foldl_addEvent_eq, List.append_nil]

theorem buildEventMap_mem_of {evs : List MEvent} {e : MEvent} (he : e ∈ evs) (hn : normalB e = true) :
    (e.read.1, e) ∈ buildEventMap evs := by
  rw [buildEventMap_eq, List.mem_reverse, List.mem_map]
  exact ⟨e, List.mem_filter.mpr ⟨he, hn⟩, rfl⟩

theorem absent_eq : absentPosition = 2147483647 := by decide
theorem undefined_eq : undefinedRegion = (2147483648, 2147483648) := by decide

theorem normalB_mirrorS_of_not (n m : Nat) (e : MEvent) (h : normalB e = false) :
    normalB (mirrorMEventS n m e) = false := by
  unfold normalB at h ⊢
  unfold mirrorMEventS
  by_cases h1 : e.read = undefinedRegion
  · simp [h1]
  · by_cases h2 : e.read.1 = absentPosition
    · simp only [h1, h2, if_false, if_true]
      simp
    · simp [h1, h2] at h

theorem mirrorS_of_normal (n m : Nat) (e : MEvent) (h : normalB e = true) :
    mirrorMEventS n m e = mirrorMEvent n m e := by
  unfold normalB at h
  unfold mirrorMEventS
  by_cases h1 : e.read = undefinedRegion
  · simp [h1] at h
  · by_cases h2 : e.read.1 = absentPosition
    · simp [h1, h2] at h
    · simp [h1, h2]

theorem normalB_mirror_of_inrange (n m : Nat) (e : MEvent) (hsz : (n : Int) ≤ absentPosition)
    (hr : 0 ≤ e.read.1 ∧ e.read.1 < n ∧ 0 ≤ e.read.2 ∧ e.read.2 < n) : normalB (mirrorMEvent n m e) = true := by
  rw [absent_eq] at hsz
  unfold normalB mirrorMEvent mirrorIdx
  simp only [absent_eq, undefined_eq, Bool.and_eq_true, Bool.not_eq_true', decide_eq_false_iff_not, Prod.mk.injEq]
  constructor
  · intro h; omega
  · omega

theorem buildEventMap_mirror (n m : Nat) (evs : List MEvent)
    (hns : ∀ e ∈ evs, normalB e = true → normalB (mirrorMEvent n m e) = true) :
    buildEventMap (mirrorEventList n m evs) = mirrorEmap n m (buildEventMap evs).reverse := by
  rw [buildEventMap_eq, buildEventMap_eq, List.reverse_reverse]
  unfold mirrorEventList mirrorEmap
  rw [List.filter_reverse, List.map_reverse, List.reverse_reverse, List.filter_map, List.map_map, List.map_map]
  have hfil : evs.filter (normalB ∘ mirrorMEventS n m) = evs.filter normalB := by
    apply List.filter_congr
    intro e he
    simp only [Function.comp]
    cases hb : normalB e with
    | false => exact normalB_mirrorS_of_not n m e hb
    | true => rw [mirrorS_of_normal n m e hb]; exact hns e he hb
  rw [hfil]
  apply List.map_congr_left
  intro e he
  have hb := (List.mem_filter.mp he).2
  simp only [Function.comp, keyed, mirrorS_of_normal n m e hb]
  rfl

theorem swapLR_micro (t : MatchEventSubtype) :
    swapLR t = MatchEventSubtype.fake_micro_intron_retention ↔ t = MatchEventSubtype.fake_micro_intron_retention := by
  rw [Props.C11.swapLR_eq_iff]; rfl

/-- `hsingle`: a `fake_micro_intron_retention` event names ONE isoform intron (`isoform_region = (i, i)`,
    junction_comparator.py) -/
theorem buildMicroMap_mirror (n m : Nat) (micro : Bool) (evs : List MEvent)
    (hns : ∀ e ∈ evs, normalB e = true → normalB (mirrorMEvent n m e) = true)
    (hsingle : ∀ e ∈ evs, e.read.1 = absentPosition → e.iso.1 = e.iso.2) :
    buildMicroMap micro (mirrorEventList n m evs) = mirrorMicroMap n m (buildMicroMap micro evs) := by
  unfold buildMicroMap mirrorEventList mirrorMicroMap
  rw [List.filterMap_reverse, List.filterMap_map, List.map_filterMap]
  congr 1
  apply filterMap_congr_mem
  intro e he
  simp only [Function.comp]
  by_cases h1 : e.read = undefinedRegion
  · simp [microEntry, mirrorMEventS, h1]
  · by_cases h2 : e.read.1 = absentPosition
    · have hs := hsingle e he h2
      have hne : ¬ ((absentPosition, (n : Int) - e.read.2) = undefinedRegion) := by
        rw [absent_eq, undefined_eq]; simp
      simp only [microEntry, mirrorMEventS, h1, h2, if_false, if_true, hne, true_and, mirrorIdx,
        corrector_micro_intron_test, swapLR_micro]
      split
      · simp only [Option.map_some, hs]
      · rfl
    · have hb : normalB e = true := by simp [normalB, h1, h2]
      have hb' := hns e he hb
      rw [mirrorS_of_normal n m e hb]
      have g1 : ¬ ((mirrorMEvent n m e).read = undefinedRegion) := by
        intro hc; simp [normalB, hc] at hb'
      have g2 : ¬ ((mirrorMEvent n m e).read.1 = absentPosition) := by
        intro hc; simp [normalB, hc] at hb'
      simp [microEntry, h1, h2, g1, g2]

theorem eventLoop_congr_emap (p : CParams) (emap emap' : List (Int × MEvent)) (mm : List (Int × Int)) (rr : Iv)
    (ri corr : List Iv) (isoR : Iv) (isoI : List Iv) (h : ∀ i, emap.lookup i = emap'.lookup i) :
    ∀ (fuel : Nat) (i : Int) (reg : Iv) (acc : List Iv),
      eventLoop p emap mm rr ri corr isoR isoI fuel i reg acc = eventLoop p emap' mm rr ri corr isoR isoI fuel i reg acc := by
  intro fuel
  induction fuel with
  | zero => intro i reg acc; rfl
  | succ fuel ih =>
    intro i reg acc
    rw [eventLoop, eventLoop]
    simp only [h, ih]

theorem lookup_reverse {m : List (Int × MEvent)} (hnd : (m.map (·.1)).Nodup) (k : Int) :
    m.reverse.lookup k = m.lookup k := by
  have hnd' : (m.reverse.map (·.1)).Nodup := by rw [List.map_reverse]; exact nodup_reverse' hnd
  exact Option.ext fun e => by
    rw [lookup_iff_mem_of_nodup hnd', lookup_iff_mem_of_nodup hnd, List.mem_reverse]

theorem processEvents_reverse (p : CParams) (err : Nat → Bool → Int × Int) (known : List Iv) (emap : List (Int × MEvent))
    (mm : List (Int × Int)) (rr : Iv) (ri : List Iv) (isoR : Iv) (isoI : List Iv) (hnd : (emap.map (·.1)).Nodup) :
    processEvents p err known emap.reverse mm rr ri isoR isoI = processEvents p err known emap mm rr ri isoR isoI := by
  simp only [processEvents, eventFuel, List.length_reverse]
  exact eventLoop_congr_emap p _ _ mm rr ri _ isoR isoI (lookup_reverse hnd) _ _ _ _

theorem emapWF_reverse {n m : Nat} {emap : List (Int × MEvent)} (h : EmapWF n m emap) : EmapWF n m emap.reverse := by
  obtain ⟨h1, h2, h3, h4, h5, h6⟩ := h
  refine ⟨by rw [List.map_reverse]; exact nodup_reverse' h1,
    fun q hq => h2 q (List.mem_reverse.mp hq),
    fun q hq q' hq' => h3 q (List.mem_reverse.mp hq) q' (List.mem_reverse.mp hq'),
    fun q hq => h4 q (List.mem_reverse.mp hq), ?_, ?_⟩
  · rw [List.filter_reverse, List.length_reverse]; exact h5
  · rw [List.filter_reverse, List.length_reverse]; exact h6

end IsoVerif.Lemmas.C11
