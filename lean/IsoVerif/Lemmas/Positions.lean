import IsoVerif.Lemmas.Lists

/-!
Grounding of the interval-arithmetic specifications in *sets of positions*: inside any window
`[lo, lo + n)` that contains the lists, `intervalsTotalLength` is the number of covered positions and
`inter` is the number of positions covered by both lists.
-/
namespace IsoVerif.Lemmas
open IsoVerif.Gen IsoVerif.Model

def covb (l : List Iv) (p : Int) : Bool := l.any (fun r => decide (r.1 ≤ p) && decide (p ≤ r.2))

theorem covb_iff (l : List Iv) (p : Int) : covb l p = true ↔ cov l p := by
  simp [covb, cov]

/-- number of positions `lo + i`, `i < n`, satisfying `f` -/
def countWin (f : Int → Bool) (lo : Int) (n : Nat) : Nat := ((List.range n).filter (fun (i : Nat) => f (lo + (i : Int)))).length

theorem countWin_succ (f : Int → Bool) (lo : Int) (n : Nat) :
    countWin f lo (n + 1) = countWin f lo n + (if f (lo + (n : Int)) then 1 else 0) := by
  simp only [countWin, List.range_succ, List.filter_append, List.length_append, List.filter_cons, List.filter_nil]
  split <;> simp

theorem countWin_or_disjoint (f g : Int → Bool) (lo : Int) (n : Nat) (h : ∀ p, ¬ (f p = true ∧ g p = true)) :
    countWin (fun p => f p || g p) lo n = countWin f lo n + countWin g lo n := by
  induction n with
  | zero => simp [countWin]
  | succ n ih =>
    rw [countWin_succ, countWin_succ, countWin_succ, ih]
    have := h (lo + (n : Int))
    cases hf : f (lo + (n : Int)) <;> cases hg : g (lo + (n : Int)) <;> simp_all <;> omega

theorem countWin_false (lo : Int) (n : Nat) : countWin (fun _ => false) lo n = 0 := by
  simp [countWin]

theorem countWin_congr (f g : Int → Bool) (lo : Int) (n : Nat) (h : ∀ p, f p = g p) :
    countWin f lo n = countWin g lo n := by
  have : f = g := funext h
  rw [this]

theorem countWin_interval_clip (a b lo : Int) (n : Nat) (h1 : lo ≤ a) :
    (countWin (fun p => decide (a ≤ p) && decide (p ≤ b)) lo n : Int) = max 0 (min b (lo + n - 1) - a + 1) := by
  induction n with
  | zero => simp [countWin]; omega
  | succ n ih =>
    rw [countWin_succ]
    simp only [Bool.and_eq_true, decide_eq_true_eq]
    push_cast
    split <;> omega

theorem countWin_interval (a b lo : Int) (n : Nat) (h1 : lo ≤ a) (h2 : b < lo + n) :
    (countWin (fun p => decide (a ≤ p) && decide (p ≤ b)) lo n : Int) = max 0 (b - a + 1) := by
  rw [countWin_interval_clip a b lo n h1]; omega

theorem covb_cons (a : Iv) (l : List Iv) (p : Int) :
    covb (a :: l) p = ((decide (a.1 ≤ p) && decide (p ≤ a.2)) || covb l p) := by
  simp [covb]

abbrev inIv (r : Iv) (p : Int) : Bool := decide (r.1 ≤ p) && decide (p ≤ r.2)

theorem countWin_and_covb (g : Int → Bool) (lo : Int) (n : Nat) : ∀ (l : List Iv), SD l → WFl l →
    (countWin (fun p => g p && covb l p) lo n : Int) = (l.map fun r => (countWin (fun p => g p && inIv r p) lo n : Int)).sum
  | [], _, _ => by
    rw [countWin_congr _ (fun _ => false) lo n (by intro p; simp [covb]), countWin_false]; rfl
  | a :: rest, h, w => by
    have hdis : ∀ p, ¬ ((g p && inIv a p) = true ∧ (g p && covb rest p) = true) := by
      intro p ⟨h1, h2⟩
      simp only [Bool.and_eq_true, decide_eq_true_eq] at h1 h2
      obtain ⟨r, hr, hr1, hr2⟩ := (covb_iff rest p).mp h2.2
      have := SD_all_right h w r hr
      omega
    rw [countWin_congr _ (fun p => (g p && inIv a p) || (g p && covb rest p)) lo n
      (by intro p; rw [covb_cons, Bool.and_or_distrib_left]), countWin_or_disjoint _ _ lo n hdis, Int.natCast_add,
      countWin_and_covb g lo n rest (SD_tail h) (WFl_tail w), List.map_cons, List.sum_cons]

theorem total_length_counts (l : List Iv) (lo : Int) (n : Nat) (h : SD l) (w : WFl l)
    (hwin : ∀ r ∈ l, lo ≤ r.1 ∧ r.2 < lo + n) :
    intervalsTotalLength l = (countWin (covb l) lo n : Int) := by
  have := countWin_and_covb (fun _ => true) lo n l h w
  simp only [Bool.true_and] at this
  rw [show covb l = fun p => covb l p from rfl, this]
  refine total_eq_sum_of_all l _ fun r hr => ?_
  have := countWin_interval r.1 r.2 lo n (hwin r hr).1 (hwin r hr).2
  have := w r hr
  simp only [inIv]; omega

theorem rowSum_counts (a : Iv) (l : List Iv) (lo : Int) (n : Nat) (h : SD l) (w : WFl l)
    (hwa : lo ≤ a.1 ∧ a.2 < lo + n) :
    rowSum a l = (countWin (fun p => (decide (a.1 ≤ p) && decide (p ≤ a.2)) && covb l p) lo n : Int) := by
  rw [countWin_and_covb (inIv a) lo n l h w, rowSum]
  congr 1
  refine List.map_congr_left fun b hb => ?_
  have hb' := w b hb
  rw [countWin_congr _ (fun p => decide (max a.1 b.1 ≤ p) && decide (p ≤ min a.2 b.2)) lo n
    (by intro p; rw [Bool.eq_iff_iff]; simp; omega),
    countWin_interval (max a.1 b.1) (min a.2 b.2) lo n (by omega) (by omega)]
  simp only [intersection_len]

end IsoVerif.Lemmas
