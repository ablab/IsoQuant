/-
Helper lemmas for `attach_terminal_positions` (Model/IntronTerminals.lean): every attached terminal vertex has the right
code, lies beyond its intron and carries a read end / read start / annotated transcript end as position (`TermPos` states
"read end after the intron / read start before it" for both directions at once, `AttachOpOK` what an emitted operation is).
Applying these operations only adds the attached pairs (`applyOp_attach`), and on a graph without terminal vertices (`NoTerm`)
they are a history in the sense of `runOps`.  Core Lean only.
-/
import IsoVerif.Model.IntronTerminals
import IsoVerif.Lemmas.IntronGraph

namespace IsoVerif.Lemmas.C04
open IsoVerif.Gen IsoVerif.Model IsoVerif.Model.C04

/-- `pos` is the end of the last exon of a non-multimapper read -/
def ReadEndPos (reads : List Read) (pos : Int) : Prop :=
  ∃ r ∈ reads, r.multimapper = false ∧ ∃ el, r.exons.getLast? = some el ∧ el.2 = pos

/-- `pos` is the start of the first exon of a non-multimapper read -/
def ReadStartPos (reads : List Read) (pos : Int) : Prop :=
  ∃ r ∈ reads, r.multimapper = false ∧ ∃ e0, r.exons.head? = some e0 ∧ e0.1 = pos

/-- a terminal (`readEnd`) resp. starting position of `intron`: a read end after it resp. a read start before it -/
def TermPos (reads : List Read) (readEnd : Bool) (intron : Iv) (pos : Int) : Prop :=
  if readEnd then intron.2 < pos ∧ ReadEndPos reads pos else pos < intron.1 ∧ ReadStartPos reads pos

variable {reads : List Read} {g : Graph} {p : TermParams} {obs : List Iv}

def TableOK (Q : Iv → Int → Prop) (t : TermTable) : Prop := ∀ e ∈ t, ∀ q ∈ e.2, Q e.1 q.1

theorem tableOK_nil (Q : Iv → Int → Prop) : TableOK Q [] := fun _ h => nomatch h

theorem table_lookup_ok {Q : Iv → Int → Prop} {t : TermTable} (ht : TableOK Q t) (intron : Iv) :
    ∀ q ∈ (amGet? t intron).getD [], Q intron q.1 := fun q hq =>
  have ⟨d, hd, hq⟩ := mem_getD_amGet? hq
  ht (intron, d) hd q hq

theorem tableAdd_ok {Q : Iv → Int → Prop} {t : TermTable} (ht : TableOK Q t) {intron : Iv} {pos : Int} (hq : Q intron pos) :
    TableOK Q (tableAdd t intron pos) :=
  forall_mem_amSet ht (forall_mem_amSet (table_lookup_ok ht intron) hq)

structure TerminalsOK (reads : List Read) (t : Terminals) : Prop where
  polya : TableOK (TermPos reads true) t.polyaEnds
  rend : TableOK (TermPos reads true) t.readEnds
  polyt : TableOK (TermPos reads false) t.polytStarts
  rstart : TableOK (TermPos reads false) t.readStarts

theorem collectStart_ok {delta : Int} {t : Terminals} {a : Read} {si : Iv} {rs : Int}
    (ht : TerminalsOK reads t) (hq : TermPos reads false si rs) : TerminalsOK reads (collectStart g delta t a si rs) := by
  unfold collectStart
  split
  · exact ⟨ht.polya, ht.rend, tableAdd_ok ht.polyt hq, ht.rstart⟩
  · split
    · exact ⟨ht.polya, ht.rend, ht.polyt, tableAdd_ok ht.rstart hq⟩
    · exact ht

theorem collectEnd_ok {delta : Int} {t : Terminals} {a : Read} {ti : Iv} {re : Int}
    (ht : TerminalsOK reads t) (hq : TermPos reads true ti re) : TerminalsOK reads (collectEnd g delta t a ti re) := by
  unfold collectEnd
  split
  · exact ⟨tableAdd_ok ht.polya hq, ht.rend, ht.polyt, ht.rstart⟩
  · split
    · exact ⟨ht.polya, tableAdd_ok ht.rend hq, ht.polyt, ht.rstart⟩
    · exact ht

theorem collectStep_ok {delta : Int} {t t' : Terminals} {a : Read} (ha : a ∈ reads)
    (ht : TerminalsOK reads t) (h : collectStep g delta t a = some t') : TerminalsOK reads t' := by
  unfold collectStep at h
  by_cases hmm : (a.multimapper || a.introns.isEmpty) = true
  · rw [if_pos hmm] at h; cases h; exact ht
  rw [if_neg hmm] at h
  have hm := (Bool.or_eq_false_iff.1 (Bool.eq_false_iff.2 hmm)).1
  by_cases hdisc : (a.introns.any fun i => decide (i ∈ g.col.discarded)) = true
  · rw [if_pos hdisc] at h; cases h; exact ht
  rw [if_neg hdisc] at h
  split at h
  · rename_i i0 il e0 el _ _ he0 hel
    dsimp only at h
    by_cases hs : e0.1 ≥ (g.col.substitute i0).1
    · rw [if_pos hs] at h; cases h; exact ht
    rw [if_neg hs] at h
    have h1 := collectStart_ok (g := g) (delta := delta) (a := a) ht
      (show TermPos reads false (g.col.substitute i0) e0.1 from ⟨by omega, a, ha, hm, e0, he0, rfl⟩)
    by_cases he : el.2 ≤ (g.col.substitute il).2
    · rw [if_pos he] at h; cases h; exact h1
    · rw [if_neg he] at h; cases h
      exact collectEnd_ok h1 ⟨by omega, a, ha, hm, el, hel, rfl⟩
  · cases h

theorem collectTerminals_ok {delta : Int} {t : Terminals}
    (h : collectTerminals g delta reads = some t) : TerminalsOK reads t :=
  foldlM_option_inv (TerminalsOK reads) _ reads _ t
    ⟨tableOK_nil _, tableOK_nil _, tableOK_nil _, tableOK_nil _⟩
    (fun _ _ _ ha hx hf => collectStep_ok ha hx hf) h

theorem firstMaxCount_mem {d : PosCounts} {p : Int × Int} (h : firstMaxCount d = some p) : p ∈ d := by
  fun_induction firstMaxCount d with
  | case1 => cases h
  | case2 => cases h; exact List.mem_cons_self
  | case3 _ _ _ hb _ ih => cases h; exact List.mem_cons_of_mem _ (ih hb)
  | case4 => cases h; exact List.mem_cons_self

theorem findClosest_mem {value : Int} {l : List Int} {b : Int × Int} (h : findClosest value l = some b) : b.1 ∈ l := by
  fun_induction findClosest value l with
  | case1 => cases h
  | case2 => cases h; exact List.mem_cons_self
  | case3 _ _ _ hb _ ih => cases h; exact List.mem_cons_of_mem _ (ih hb)
  | case4 => cases h; exact List.mem_cons_self

/-- what a clustered polyA / polyT position is: beyond the intron, and a recorded position or an annotated end -/
def PolyOK (Q : Int → Prop) (known : List Int) (intron : Iv) (readEnd : Bool) (pos : Int) : Prop :=
  (Q pos ∨ pos ∈ known) ∧ (readEnd = true → intron.2 < pos) ∧ (readEnd = false → pos < intron.1)

theorem polyaTop_mem (apa : Int) (known : List Int) (pos : Int) : polyaTop apa known pos = pos ∨ polyaTop apa known pos ∈ known := by
  unfold polyaTop
  split
  · rename_i b hb
    split
    · exact Or.inr (findClosest_mem hb)
    · exact Or.inl rfl
  · exact Or.inl rfl

theorem clusterPolyaLoop_ok {Q : Int → Prop} {apa : Int} {known : List Int} {intron : Iv} {readEnd : Bool}
    (fuel : Nat) (dict acc res : PosCounts) (hd : ∀ q ∈ dict, Q q.1) (ha : ∀ q ∈ acc, PolyOK Q known intron readEnd q.1)
    (h : clusterPolyaLoop apa known intron readEnd fuel dict acc = some res) :
    ∀ q ∈ res, PolyOK Q known intron readEnd q.1 := by
  induction fuel generalizing dict acc with
  | zero => cases h
  | succ n ih =>
    rw [clusterPolyaLoop] at h
    split at h
    · cases h; exact ha
    · rename_i best hbest
      dsimp only at h
      split at h
      · cases h
      · rename_i hassert
        refine ih _ _ (fun q hq => hd q (List.mem_filter.1 hq).1) (forall_mem_amSet ha ⟨?_, ?_, ?_⟩) h
        · rcases polyaTop_mem apa known best.1 with e | e
          · exact Or.inl (by rw [e]; exact hd best (firstMaxCount_mem hbest))
          · exact Or.inr e
        -- the two `assert`s of the code did not fire
        · rintro rfl; simpa using hassert
        · rintro rfl; simpa using hassert

theorem clusterPolya_ok {Q : Int → Prop} {dict res : PosCounts} {intron : Iv} {readEnd : Bool} {fr : Bool}
    (hd : ∀ q ∈ dict, Q q.1) (h : clusterPolya p dict intron readEnd = some (res, fr)) :
    ∀ q ∈ res, PolyOK Q ((amGet? (if readEnd then p.knownEnds else p.knownStarts) intron).getD []) intron readEnd q.1 := by
  unfold clusterPolya at h
  by_cases hemp : dict.isEmpty = true
  · rw [if_pos hemp] at h; cases h; exact List.forall_mem_nil _
  rw [if_neg hemp] at h
  dsimp only at h
  split at h
  · cases h
  · cases h; exact List.forall_mem_nil _
  · rename_i a t hloop
    have hall := clusterPolyaLoop_ok (Q := Q) _ dict [] (a :: t) hd (List.forall_mem_nil _) hloop
    split at h <;> cases h
    · exact hall
    · exact fun q hq => hall q (List.mem_filter.1 hq).1

theorem clusterTerminal_ok {Q : Int → Prop} {dict : PosCounts} {readEnd : Bool} {cutoffM : Int} (hd : ∀ q ∈ dict, Q q.1) :
    ∀ q ∈ clusterTerminal dict readEnd cutoffM, Q q.1 := by
  unfold clusterTerminal
  split
  · exact List.forall_mem_nil _
  · rename_i a t
    obtain ⟨ha, ht⟩ := List.forall_mem_cons.1 hd
    dsimp only
    split
    · exact List.forall_mem_nil _
    · -- the largest / smallest key is one of the keys
      refine List.forall_mem_cons.2 ⟨?_, List.forall_mem_nil _⟩
      split
      · refine List.foldlRecOn (motive := Q) t _ ha fun m hm v hv => ?_
        rw [Int.max_def]; split
        · exact ht v hv
        · exact hm
      · refine List.foldlRecOn (motive := Q) t _ ha fun m hm v hv => ?_
        rw [Int.min_def]; split
        · exact hm
        · exact ht v hv

/-- what an operation produced by `attach_terminal_positions` looks like -/
def AttachOpOK (g : Graph) (p : TermParams) (reads : List Read) : Op → Prop
  | .touch v => ∃ k, (k, v) ∈ g.out ∨ (k, v) ∈ g.inc
  | .attachOut v t => v ∈ amKeys g.col.clustered ∧ v.2 < t.2 ∧
      ((t.1 = VERTEX_polya ∧ (ReadEndPos reads t.2 ∨ t.2 ∈ (amGet? p.knownEnds v).getD [])) ∨
       (t.1 = VERTEX_read_end ∧ ReadEndPos reads t.2))
  | .attachInc v t => v ∈ amKeys g.col.clustered ∧ t.2 < v.1 ∧
      ((t.1 = VERTEX_polyt ∧ (ReadStartPos reads t.2 ∨ t.2 ∈ (amGet? p.knownStarts v).getD [])) ∨
       (t.1 = VERTEX_read_start ∧ ReadStartPos reads t.2))
  | _ => False

theorem attachOp_cases {op : Op} (hop : AttachOpOK g p reads op) :
    (∃ v, op = .touch v) ∨ (∃ v t, op = .attachOut v t) ∨ ∃ v t, op = .attachInc v t := by
  cases op with
  | touch v => exact Or.inl ⟨v, rfl⟩
  | attachOut v t => exact Or.inr (Or.inl ⟨v, t, rfl⟩)
  | attachInc v t => exact Or.inr (Or.inr ⟨v, t, rfl⟩)
  | _ => exact False.elim hop

theorem attachEnds_ok {intron : Iv} {polyaConf readTerm : PosCounts}
    {ops : List Op} {fr : Bool} (readEnd : Bool) (hv : intron ∈ amKeys g.col.clustered)
    (hp : ∀ q ∈ polyaConf, TermPos reads readEnd intron q.1) (hr : ∀ q ∈ readTerm, TermPos reads readEnd intron q.1)
    (h : attachEnds g p intron polyaConf readTerm readEnd = some (ops, fr)) : ∀ op ∈ ops, AttachOpOK g p reads op := by
  unfold attachEnds at h
  split at h
  · cases h
  · rename_i clustered fr1 hcl
    obtain ⟨rfl, _⟩ := Prod.mk.inj (Option.some.inj h)
    have hclok := clusterPolya_ok hp hcl
    intro op hop
    rcases List.mem_append.1 hop with hop | hop
    · rcases List.mem_append.1 hop with hop | hop
      · obtain ⟨i, hi, rfl⟩ := List.mem_map.1 hop
        have hi := (List.mem_filter.1 hi).1
        cases readEnd
        · exact ⟨intron, Or.inr (mem_members.1 hi)⟩
        · exact ⟨intron, Or.inl (mem_members.1 hi)⟩
      · obtain ⟨pos, hpos, rfl⟩ := List.mem_map.1 hop
        obtain ⟨q, hq, rfl⟩ := List.mem_map.1 hpos
        obtain ⟨h1, h2, h3⟩ := hclok q hq
        cases readEnd
        · exact ⟨hv, h3 rfl, Or.inl ⟨rfl, h1.imp_left And.right⟩⟩
        · exact ⟨hv, h2 rfl, Or.inl ⟨rfl, h1.imp_left And.right⟩⟩
    · obtain ⟨pos, hpos, rfl⟩ := List.mem_map.1 hop
      obtain ⟨q, hq, rfl⟩ := List.mem_map.1 hpos
      have hq := clusterTerminal_ok (Q := TermPos reads readEnd intron) (fun x hx => ?_) q hq
      · cases readEnd
        · exact ⟨hv, hq.1, Or.inr ⟨rfl, hq.2⟩⟩
        · exact ⟨hv, hq.1, Or.inr ⟨rfl, hq.2⟩⟩
      · split at hx
        · exact hr x hx
        · split at hx <;> exact hr x (List.mem_filter.1 hx).1

theorem attachTerminalOps_ok {ops : List Op} {fr : Bool}
    (h : attachTerminalOps g p reads = some (ops, fr)) : ∀ op ∈ ops, AttachOpOK g p reads op := by
  unfold attachTerminalOps at h
  split at h
  · cases h
  · rename_i t ht
    have hok := collectTerminals_ok ht
    refine foldlM_option_inv (fun (acc : List Op × Bool) => ∀ op ∈ acc.1, AttachOpOK g p reads op) (attachIntron g p t)
      _ ([], false) (ops, fr) (List.forall_mem_nil _) (fun acc intron acc' hin hacc hstep => ?_) h
    have hv : intron ∈ amKeys g.col.clustered := mem_sortIv.1 hin
    unfold attachIntron at hstep
    split at hstep
    · cases hstep
    · rename_i o1 f1 h1
      split at hstep <;> cases hstep
      rename_i o2 f2 h2
      refine List.forall_mem_append.2 ⟨List.forall_mem_append.2 ⟨hacc, ?_⟩, ?_⟩
      · exact attachEnds_ok true hv (table_lookup_ok hok.polya intron) (table_lookup_ok hok.rend intron) h1
      · exact attachEnds_ok false hv (table_lookup_ok hok.polyt intron) (table_lookup_ok hok.rstart intron) h2

/-- a defaultdict read adds a key at most -/
theorem csub_of_touch {P : Iv → Prop} {c : Collector} {w : Iv} (h : CSub (c.touch w) P) : CSub c P := by
  refine ⟨fun q hq => ?_, (touch_corr c w).1 ▸ h.co, (touch_corr c w).2 ▸ h.di⟩
  unfold Collector.touch at h
  split at h
  · exact h.cl q hq
  · rename_i hw
    obtain ⟨x, hx⟩ := amGet?_isSome_of_key (List.mem_map.2 ⟨q, hq, rfl⟩)
    have hne : q.1 ≠ w := by rintro rfl; rw [amHas, hx] at hw; exact hw rfl
    exact h.cl (q.1, x) (amGet?_mem ((amGet?_amSet_ne _ _ _ (0 : Int) hne).trans hx))

-- below, `g0` is the graph the operations were computed from (`AttachOpOK g0`), `g` any later state with `g0.verts ⊆ g.verts`
theorem applyOp_attach {g0 g g1 : Graph} {op : Op} (hop : AttachOpOK g0 p reads op)
    (h : applyOp g op = some g1) :
    (∀ e ∈ g1.out, e ∈ g.out ∨ op = .attachOut e.1 e.2) ∧ (∀ e ∈ g1.inc, e ∈ g.inc ∨ op = .attachInc e.1 e.2) ∧
    g1.col.corr = g.col.corr ∧ g1.col.discarded = g.col.discarded ∧ ∀ v ∈ g.verts, v ∈ g1.verts := by
  have h1 : GSub g1 (· ∈ g1.verts) := (gsub_iff g1 _).2 fun _ hv => hv
  have grow : ∀ {e : List (Iv × Iv)} {a : Iv × Iv}, ESub (setAdd e a) (· ∈ g1.verts) → ESub e (· ∈ g1.verts) :=
    fun he q hq => he q (mem_setAdd.2 (Or.inl hq))
  rcases attachOp_cases hop with ⟨w, rfl⟩ | ⟨v, t, rfl⟩ | ⟨v, t, rfl⟩ <;> cases h
  · exact ⟨fun _ => Or.inl, fun _ => Or.inl, (touch_corr _ w).1, (touch_corr _ w).2,
      (gsub_iff g _).1 ⟨csub_of_touch h1.col, h1.out, h1.inc⟩⟩
  · exact ⟨fun e he => (mem_setAdd.1 he).imp_right fun h : e = (v, t) => h ▸ rfl, fun _ => Or.inl, rfl, rfl,
      (gsub_iff g _).1 ⟨h1.col, grow h1.out, h1.inc⟩⟩
  · exact ⟨fun _ => Or.inl, fun e he => (mem_setAdd.1 he).imp_right fun h : e = (v, t) => h ▸ rfl, rfl, rfl,
      (gsub_iff g _).1 ⟨h1.col, h1.out, grow h1.inc⟩⟩

theorem foldlM_attach_edges {g g' : Graph} (g0 : Graph) (ops : List Op)
    (hops : ∀ op ∈ ops, AttachOpOK g0 p reads op) (h : ops.foldlM applyOp g = some g') :
    (∀ k t, (k, t) ∈ g'.out → (k, t) ∈ g.out ∨ Op.attachOut k t ∈ ops) ∧
    (∀ k t, (k, t) ∈ g'.inc → (k, t) ∈ g.inc ∨ Op.attachInc k t ∈ ops) ∧
    g'.col.corr = g.col.corr ∧ g'.col.discarded = g.col.discarded := by
  refine foldlM_option_inv (fun g' => (∀ k t, (k, t) ∈ g'.out → (k, t) ∈ g.out ∨ Op.attachOut k t ∈ ops) ∧
      (∀ k t, (k, t) ∈ g'.inc → (k, t) ∈ g.inc ∨ Op.attachInc k t ∈ ops) ∧
      g'.col.corr = g.col.corr ∧ g'.col.discarded = g.col.discarded) applyOp ops g g'
    ⟨fun _ _ => Or.inl, fun _ _ => Or.inl, rfl, rfl⟩ (fun x op y hmem ⟨i1, i2, i3, i4⟩ hy => ?_) h
  obtain ⟨a1, a2, a3, a4, _⟩ := applyOp_attach (hops op hmem) hy
  exact ⟨fun k t hk => (a1 _ hk).elim (i1 k t) fun e => Or.inr (e ▸ hmem),
    fun k t hk => (a2 _ hk).elim (i2 k t) fun e => Or.inr (e ▸ hmem), a3.trans i3, a4.trans i4⟩

/-! ### before `attach_terminal_positions` the edge sets hold intron vertices only -/

def NoTerm (g : Graph) : Prop := (∀ p ∈ g.out, isIntronVertex p.2 = true) ∧ (∀ p ∈ g.inc, isIntronVertex p.2 = true)

def notAttach : Op → Bool
  | .attachOut _ _ => false
  | .attachInc _ _ => false
  | _ => true

theorem applyOp_noTerm (hpos : ∀ v ∈ obs, 0 ≤ v.1) {g g' : Graph} (hsub : GSub g (fun v => v ∈ obs))
    (hn : NoTerm g) (op : Op) (hsc : opScoped obs g op = true) (hna : notAttach op = true) (h : applyOp g op = some g') :
    NoTerm g' := by
  have hint : ∀ v ∈ obs, isIntronVertex v = true := fun v hv => decide_eq_true (hpos v hv)
  have filt : ∀ {e : List (Iv × Iv)} (f : Iv × Iv → Bool), (∀ p ∈ e, isIntronVertex p.2 = true) →
      ∀ p ∈ e.filter f, isIntronVertex p.2 = true := fun _ he p hp => he p (List.mem_filter.1 hp).1
  cases op with
  | addEdge v1 v2 =>
    cases h
    simp only [opScoped, Bool.and_eq_true, decide_eq_true_eq] at hsc
    exact ⟨forall_mem_setAdd hn.1 (hint _ (substitute_sub hsub.col (P := (· ∈ obs)) hsc.2)),
      forall_mem_setAdd hn.2 (hint _ (substitute_sub hsub.col (P := (· ∈ obs)) hsc.1))⟩
  | collapse c s =>
    simp only [opScoped, Bool.and_eq_true, decide_eq_true_eq] at hsc
    have hs := hint _ ((gsub_iff g _).1 hsub _ hsc.2)
    have he := collapseVertex_edges (c := c) (s := s) (Q := fun p => isIntronVertex p.2 = true) (fun _ _ => hs)
      (fun _ h => h) h
    exact ⟨he.1 hn.1, he.2 hn.2⟩
  | delVertex v => cases h; exact ⟨filt _ hn.1, filt _ hn.2⟩
  | delOut v => cases h; exact ⟨filt _ hn.1, hn.2⟩
  | delInc v => cases h; exact ⟨hn.1, filt _ hn.2⟩
  | discard v => cases h; exact hn
  | touch v => cases h; exact hn
  | simplifyMap =>
    obtain ⟨c', _, rfl⟩ := Option.map_eq_some_iff.1 h
    exact hn
  | attachOut v t => cases hna
  | attachInc v t => cases hna

theorem runOps_noTerm (hpos : ∀ v ∈ obs, 0 ≤ v.1) (ops : List Op) {g g' : Graph}
    (hsub : GSub g (fun v => v ∈ obs)) (hn : NoTerm g) (hna : ∀ op ∈ ops, notAttach op = true)
    (h : runOps obs g ops = some g') : NoTerm g' ∧ GSub g' (fun v => v ∈ obs) :=
  runOps_inv (I := fun g => NoTerm g ∧ GSub g (fun v => v ∈ obs)) ops ⟨hn, hsub⟩ (fun g op g1 hop ⟨hn, hsub⟩ hsc h1 =>
    ⟨applyOp_noTerm hpos hsub hn op hsc (hna op hop) h1,
      runOps_gsub [op] hsub (by rw [runOps, if_pos hsc, h1]; rfl)⟩) h

theorem constructed_noTerm {known : List Iv} {δ minCount : Int} {ops : List Op} {g0 g : Graph}
    (hpos : ∀ v ∈ obsIntrons reads, 0 ≤ v.1) (hna : ∀ op ∈ ops, notAttach op = true)
    (h0 : Graph.constructed known δ reads minCount = some g0) (h : runOps (obsIntrons reads) g0 ops = some g) :
    NoTerm g := by
  have hcons : ∀ op ∈ constructOps (Graph.init known δ reads minCount).col reads, notAttach op = true := fun op hop =>
    have ⟨_, _, e, _⟩ := constructOps_scoped _ reads op hop
    e ▸ rfl
  obtain ⟨n0, s0⟩ := runOps_noTerm hpos _ (init_gsub known δ reads minCount)
    ⟨List.forall_mem_nil _, List.forall_mem_nil _⟩ hcons h0
  exact (runOps_noTerm hpos _ s0 n0 hna h).1

/-! ### the operations of `attach_terminal_positions` are scoped: applying them is a history in the sense of `runOps` -/

theorem attachOp_scoped {g0 g : Graph} (hn : NoTerm g0)
    (hsubv : ∀ v ∈ g0.verts, v ∈ g.verts) {op : Op} (hop : AttachOpOK g0 p reads op) : opScoped obs g op = true := by
  have h0 : GSub g0 (· ∈ g0.verts) := (gsub_iff g0 _).2 fun _ hv => hv
  have hclust : ∀ v, v ∈ amKeys g0.col.clustered → v ∈ g.verts := fun v hv =>
    have ⟨q, hq, e⟩ := List.mem_map.1 hv
    hsubv v (e ▸ h0.col.cl q hq)
  have term : ∀ {t : Iv} {c : Int}, t.1 = c → (!decide (0 ≤ c)) = true → (!isIntronVertex t) = true :=
    fun e hc => by rw [isIntronVertex, e]; exact hc
  rcases attachOp_cases hop with ⟨v, rfl⟩ | ⟨v, t, rfl⟩ | ⟨v, t, rfl⟩
  · obtain ⟨k, hk⟩ := hop
    refine decide_eq_true (hsubv v ?_)
    rcases hk with hk | hk
    · exact (h0.out _ hk).2 (hn.1 _ hk)
    · exact (h0.inc _ hk).2 (hn.2 _ hk)
  · obtain ⟨hv, _, hc⟩ := hop
    exact Bool.and_eq_true_iff.2 ⟨decide_eq_true (hclust v hv),
      hc.elim (fun h => term h.1 rfl) (fun h => term h.1 rfl)⟩
  · obtain ⟨hv, _, hc⟩ := hop
    exact Bool.and_eq_true_iff.2 ⟨decide_eq_true (hclust v hv),
      hc.elim (fun h => term h.1 rfl) (fun h => term h.1 rfl)⟩

theorem runOps_of_attach {g0 : Graph} (hn : NoTerm g0)
    (ops : List Op) (hops : ∀ op ∈ ops, AttachOpOK g0 p reads op) (g : Graph) (hsubv : ∀ v ∈ g0.verts, v ∈ g.verts) :
    runOps obs g ops = ops.foldlM applyOp g := by
  induction ops generalizing g with
  | nil => rfl
  | cons op rest ih =>
    obtain ⟨hop, hrest⟩ := List.forall_mem_cons.1 hops
    rw [runOps, if_pos (attachOp_scoped hn hsubv hop), List.foldlM_cons]
    cases ha : applyOp g op with
    | none => rfl
    | some g1 => exact ih hrest g1 fun v hv => (applyOp_attach hop ha).2.2.2.2 v (hsubv v hv)

end IsoVerif.Lemmas.C04
