/-
C11 helper lemmas — Model/Corrector.lean (`match_genomic_features`, `process_events`, `correct_assigned_read`)
under translation.  Events carry intron INDEX ranges, error counts are per read intron: both unchanged.  One event of
the if/elif chain is handled through its summary (`evOut` of Lemmas/C11CorrectorEvent.lean: `evOut_shift`), the
sweep by functional induction, the `while` loop by induction on the fuel.
-/
import IsoVerif.Gen.Prims
import IsoVerif.Model.Interval
import IsoVerif.Model.Corrector
import IsoVerif.Model.C11Symmetry
import IsoVerif.Model.C11SymBedCorr
import IsoVerif.Lemmas.C11Shift
import IsoVerif.Lemmas.C11CorrectorEvent

namespace IsoVerif.Lemmas.C11
open IsoVerif.Gen IsoVerif.Model IsoVerif.Model.C14 IsoVerif.Model.C11

theorem corr_siteDelta_shift (k : Int) (a b : Iv) : siteDelta (shiftIv k a) (shiftIv k b) = siteDelta a b := by
  simp only [siteDelta, iabs, shiftIv]; grind

def shiftMatches (k : Int) (m : List (Nat × Iv)) : List (Nat × Iv) := m.map (fun q => (q.1, shiftIv k q.2))

theorem matchSweep_shift (k δ : Int) (ks rs : List Iv) (ri : Nat) :
    matchSweep δ (shiftL k ks) (shiftL k rs) ri = shiftMatches k (matchSweep δ ks rs ri) := by
  -- the three tests of the sweep do not see the shift
  have eqr : ∀ r a : Iv, equal_ranges (shiftIv k r) (shiftIv k a) δ = equal_ranges r a δ := fun r a =>
    Props.C11.shift_equivariant_equal_ranges k r a δ
  fun_induction matchSweep δ ks rs ri with
  | case1 rs ri => simp [shiftL_nil, matchSweep, shiftMatches]          -- known features exhausted
  | case2 a as ri => simp [shiftL_nil, shiftL_cons, matchSweep, shiftMatches]  -- read features exhausted
  | case3 a as r rs ri h ih =>                                          -- equal ranges: the match is recorded
    simp only [shiftL_cons] at ih ⊢
    rw [matchSweep]
    simp only [eqr, h, if_true, ih, shiftMatches, List.map_cons]
  | case4 a as r rs ri h1 h2 ih =>                                      -- overlap without match: next known feature
    simp only [shiftL_cons] at ih ⊢
    rw [matchSweep]
    simp [eqr, overlaps_shift, h1, h2, ih]
  | case5 a as r rs ri h1 h2 h3 ih =>                                   -- read feature left of the known one: next read feature
    simp only [shiftL_cons] at ih ⊢
    rw [matchSweep]
    simp [eqr, overlaps_shift, left_of_shift, h1, h2, h3, ih]
  | case6 a as r rs ri h1 h2 h3 ih =>                                   -- known feature left of the read one: next known feature
    simp only [shiftL_cons] at ih ⊢
    rw [matchSweep]
    simp [eqr, overlaps_shift, left_of_shift, h1, h2, h3, ih]

theorem candidatesOf_shift (k : Int) (m : List (Nat × Iv)) (i : Nat) :
    candidatesOf (shiftMatches k m) i = shiftL k (candidatesOf m i) := by
  simp only [candidatesOf, shiftMatches, shiftL, List.filter_map, List.map_map]
  rfl

theorem map_siteDelta_shift (k : Int) (r : Iv) (cs : List Iv) :
    (shiftL k cs).map (siteDelta (shiftIv k r)) = cs.map (siteDelta r) := by
  simp only [shiftL, List.map_map]
  apply List.map_congr_left; intro c _
  exact corr_siteDelta_shift k r c

theorem corr_pickBest_shift (k : Int) (r : Iv) (cs : List Iv) :
    pickBest (shiftIv k r) (shiftL k cs) = (pickBest r cs).map (shiftIv k) := by
  simp only [pickBest, shiftL_length, map_siteDelta_shift, shiftL_head?]
  split
  · cases listMin (cs.map (siteDelta r)) with
    | none => rfl
    | some best =>
      simp only
      rw [← shiftL_head?]
      congr 1
      simp only [shiftL, List.filter_map]
      congr 1
      apply List.filter_congr; intro c _
      simp only [Function.comp, corr_siteDelta_shift]
  · rfl

theorem pickAll_shift (k : Int) (m : List (Nat × Iv)) (rs : List Iv) (i : Nat) :
    pickAll (shiftMatches k m) (shiftL k rs) i = shiftL k (pickAll m rs i) := by
  induction rs generalizing i with
  | nil => rfl
  | cons r rs ih =>
    simp only [shiftL_cons, pickAll, candidatesOf_shift, corr_pickBest_shift, ih]
    cases pickBest r (candidatesOf m i) <;> rfl

theorem matchGenomicFeatures_shift (k δ : Int) (known reads : List Iv) :
    matchGenomicFeatures δ (shiftL k known) (shiftL k reads) = shiftL k (matchGenomicFeatures δ known reads) := by
  simp only [matchGenomicFeatures, matchSweep_shift, pickAll_shift]

theorem fuzzySite_shift (k own ref : Int) (e : Int × Int) :
    fuzzySite (own + k) (ref + k) e = fuzzySite own ref e + k := by
  simp only [fuzzySite]
  by_cases h : own = ref
  · simp [h]
  · have : ¬ (own + k = ref + k) := by omega
    simp only [h, this, if_false]; split <;> rfl

theorem fuzzyLoop_shift (k : Int) (err : Nat → Bool → Int × Int) (rs qs : List Iv) (i : Nat) :
    fuzzyLoop err (shiftL k rs) (shiftL k qs) i = shiftL k (fuzzyLoop err rs qs i) := by
  induction rs generalizing qs i with
  | nil => simp [shiftL_nil, fuzzyLoop]
  | cons r rs ih =>
    cases qs with
    | nil => simp [shiftL_nil, shiftL_cons, fuzzyLoop]
    | cons q qs =>
      simp only [shiftL_cons, fuzzyLoop, ih, shiftIv_fst, shiftIv_snd, fuzzySite_shift]
      rfl

theorem correctedIntrons_shift (k : Int) (p : CParams) (err : Nat → Bool → Int × Int) (known ri : List Iv) :
    correctedIntrons p err (shiftL k known) (shiftL k ri) = shiftL k (correctedIntrons p err known ri) := by
  simp only [correctedIntrons, matchGenomicFeatures_shift, fuzzyLoop_shift]
  split <;> rfl

theorem rangeGet_shift (k : Int) (l : List Iv) (a : Int) (n : Nat) :
    rangeGet (shiftL k l) a n = (rangeGet l a n).map (shiftL k) := by
  induction n generalizing a with
  | zero => rfl
  | succ n ih =>
    simp only [rangeGet, pyGet?_shiftL, ih]
    cases pyGet? l a <;> cases rangeGet l (a + 1) n <;> rfl

theorem sliceIncl_shift (k : Int) (l : List Iv) (a b : Int) :
    sliceIncl (shiftL k l) a b = shiftExL k (sliceIncl l a b) := by
  simp only [sliceIncl, rangeGet_shift]
  cases rangeGet l a (b + 1 - a).toNat <;> rfl

theorem keepOut_shift (k : Int) (ri corr : List Iv) (e : MEvent) :
    keepOut (shiftL k ri) (shiftL k corr) e = shiftExL k (keepOut ri corr e) := by
  unfold keepOut
  split <;> exact sliceIncl_shift ..

theorem addOut_shift (k : Int) (s : Except CErr (List Iv)) : addOut (shiftExL k s) = shiftSumm k (addOut s) := by
  cases s <;> rfl

theorem fakeOut_shift (k : Int) (ri : List Iv) (e : MEvent) (f g : Iv → RegUpd)
    (h : ∀ x, g (shiftIv k x) = shiftUpd k (f x)) : fakeOut (shiftL k ri) e g = shiftSumm k (fakeOut ri e f) := by
  unfold fakeOut
  rw [pyGet?_shiftL]
  split
  · rfl
  · cases pyGet? ri e.read.1 <;> simp [shiftSumm, h, shiftL]

theorem termOut_shift (k : Int) (isoI : List Iv) (e : MEvent) (u : RegUpd) :
    termOut (shiftL k isoI) e (shiftUpd k u) = shiftSumm k (termOut isoI e u) := by
  unfold termOut
  rw [pyGet?_shiftL]
  cases pyGet? isoI e.iso.1 <;> rfl

theorem misOut_shift (k : Int) (p : CParams) (rr : Iv) (ri corr isoI : List Iv) (e : MEvent) :
    misOut p (shiftIv k rr) (shiftL k ri) (shiftL k corr) (shiftL k isoI) e
      = shiftSumm k (misOut p rr ri corr isoI e) := by
  unfold misOut
  simp only [pyGet?_shiftL, keepOut_shift, sliceIncl_shift, addOut_shift]
  cases pyGet? isoI e.iso.1 <;> cases pyGet? isoI e.iso.2 <;> try rfl
  rename_i a b
  simp only [Option.map_some]
  rw [show ((shiftIv k a).1, (shiftIv k b).2) = shiftIv k (a.1, b.2) from rfl, Props.C11.shift_equivariant_contains_well_inside]
  split
  · split <;> rfl
  · rfl

theorem evOut_shift (k : Int) (p : CParams) (rr : Iv) (ri corr : List Iv) (isoR : Iv) (isoI : List Iv) (e : MEvent) :
    evOut p (shiftIv k rr) (shiftL k ri) (shiftL k corr) (shiftIv k isoR) (shiftL k isoI) e
      = shiftSumm k (evOut p rr ri corr isoR isoI e) := by
  unfold evOut
  cases evKind p e.etype
  · exact fakeOut_shift k ri e _ _ fun x => congrArg (fun v => (some v, none)) (by omega : x.2 + k + 1 = x.2 + 1 + k)
  · exact fakeOut_shift k ri e _ _ fun x => congrArg (fun v => (none, some v)) (by omega : x.1 + k - 1 = x.1 - 1 + k)
  · exact termOut_shift k isoI e (some isoR.1, none)
  · exact termOut_shift k isoI e (none, some isoR.2)
  · exact misOut_shift k p rr ri corr isoI e
  · rw [keepOut_shift, addOut_shift]

theorem eventStep_shift (k : Int) (p : CParams) (rr : Iv) (ri corr : List Iv) (isoR : Iv) (isoI : List Iv)
    (e : MEvent) (reg : Iv) (acc : List Iv) :
    eventStep p (shiftIv k rr) (shiftL k ri) (shiftL k corr) (shiftIv k isoR) (shiftL k isoI) e (shiftIv k reg)
        (shiftL k acc)
      = shiftExRes k (eventStep p rr ri corr isoR isoI e reg acc) := by
  rw [eventStep_evOut, eventStep_evOut, evOut_shift, Summ.run_shift]

theorem getAll_shift (k : Int) (l : List Iv) (js : List Int) :
    getAll (shiftL k l) js = (getAll l js).map (shiftL k) := by
  induction js with
  | nil => rfl
  | cons j js ih =>
    simp only [getAll, pyGet?_shiftL, ih]
    cases pyGet? l j <;> cases getAll l js <;> simp [shiftL]

theorem microStep_shift (k : Int) (mm : List (Int × Int)) (isoI : List Iv) (i : Int) (acc : List Iv) :
    microStep mm (shiftL k isoI) i (shiftL k acc) = shiftExL k (microStep mm isoI i acc) := by
  simp only [microStep, getAll_shift]
  cases getAll isoI (microAt mm i) <;> simp [shiftExL, shiftL_append]

theorem eventLoop_shift (k : Int) (p : CParams) (emap : List (Int × MEvent)) (mm : List (Int × Int)) (rr : Iv)
    (ri corr : List Iv) (isoR : Iv)
    (isoI : List Iv) (fuel : Nat) (i : Int) (reg : Iv) (acc : List Iv) :
    eventLoop p emap mm (shiftIv k rr) (shiftL k ri) (shiftL k corr) (shiftIv k isoR) (shiftL k isoI) fuel i
        (shiftIv k reg) (shiftL k acc)
      = shiftExRes k (eventLoop p emap mm rr ri corr isoR isoI fuel i reg acc) := by
  induction fuel generalizing i reg acc with
  | zero => rfl
  | succ f ih =>
    simp only [eventLoop, shiftL_length, microStep_shift, pyGet?_shiftL]
    split
    · cases microStep mm isoI i acc with   -- inside the read: micro introns of the exon before intron `i`
      | error x => rfl
      | ok acc1 =>
        simp only [shiftExL]
        cases emap.lookup i with
        | none =>                             -- no event at `i`: the corrected intron is kept
          simp only
          cases pyGet? corr i with
          | none => rfl
          | some c =>
            simp only [Option.map_some]
            have := ih (i + 1) reg (acc1 ++ [c])
            simp only [shiftL_append, shiftL_cons, shiftL_nil] at this
            exact this
        | some e =>                           -- event at `i`: one step of the chain, continue behind its range
          simp only
          rw [eventStep_shift]
          cases eventStep p rr ri corr isoR isoI e reg acc1 with
          | error x => rfl
          | ok q =>
            obtain ⟨reg', acc2⟩ := q
            simp only [shiftExRes]
            exact ih _ _ _
    · cases microStep mm isoI (corr.length : Int) acc with   -- behind the last intron: micro introns of the last exon
      | error x => rfl
      | ok acc1 => rfl

theorem processEvents_shift (k : Int) (p : CParams) (err : Nat → Bool → Int × Int) (known : List Iv)
    (emap : List (Int × MEvent)) (mm : List (Int × Int)) (rr : Iv) (ri : List Iv) (isoR : Iv) (isoI : List Iv) :
    processEvents p err (shiftL k known) emap mm (shiftIv k rr) (shiftL k ri) (shiftIv k isoR) (shiftL k isoI)
      = shiftExRes k (processEvents p err known emap mm rr ri isoR isoI) := by
  simp only [processEvents, correctedIntrons_shift, eventFuel, shiftL_length]
  exact eventLoop_shift k p emap mm rr ri _ isoR isoI _ 0 rr []

/-- `process_events` as `correct_assigned_read` calls it: on the region and the introns of the read's exon chain -/
theorem processEvents_shift_exons (k : Int) (p : CParams) (err : Nat → Bool → Int × Int) (known : List Iv)
    (emap : List (Int × MEvent)) (mm : List (Int × Int)) (f l : Iv) (exons : List Iv) (isoR : Iv) (isoI : List Iv) :
    processEvents p err (shiftL k known) emap mm ((shiftIv k f).1, (shiftIv k l).2)
        (junctionsFromBlocks (shiftL k exons)) (shiftIv k isoR) (shiftL k isoI)
      = shiftExRes k (processEvents p err known emap mm (f.1, l.2) (junctionsFromBlocks exons) isoR isoI) := by
  rw [junctionsFromBlocks_shift]
  exact processEvents_shift k p err known emap mm (f.1, l.2) _ isoR isoI

theorem chainSorted_shift (k : Int) (l : List Iv) : chainSorted (shiftL k l) = chainSorted l := by
  fun_induction chainSorted l with
  | case1 => rfl
  | case2 a => rfl
  | case3 a b t ih =>
    have h : (a.2 + k < b.1 + k) ↔ (a.2 < b.1) := by omega
    simp only [shiftL_cons] at ih ⊢
    simp only [chainSorted, ih, shiftIv_fst, shiftIv_snd, h]

theorem intronsSpaced_shift (k : Int) (l : List Iv) : intronsSpaced (shiftL k l) = intronsSpaced l := by
  fun_induction intronsSpaced l with
  | case1 => rfl
  | case2 a => rfl
  | case3 a b t ih =>
    have h : (a.2 + k + 1 < b.1 + k) ↔ (a.2 + 1 < b.1) := by omega
    simp only [shiftL_cons] at ih ⊢
    simp only [intronsSpaced, ih, shiftIv_fst, shiftIv_snd, h]

end IsoVerif.Lemmas.C11
