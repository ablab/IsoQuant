/-
C01, tail clause: WHEN can `compare_junctions` emit an end artifact (`fake_terminal_exon_*`,
`terminal_exon_misalignment_*`, `incomplete_intron_retention_*`)?  For every input (no well-formedness assumed) each such
event says something about the POSITIONS of the read's and the isoform's ends (`ArtGeom`); the position-only predicates
`endCleanRight` / `endCleanLeft` (Model/JunctionSpec.lean) exclude the two that are not major inconsistencies at one end
(`compareJunctions_clean_right / _left`).  Used by Props/C01Tail.lean to derive the hypothesis "the comparator reports no
end artifact" of `tail_far_never_consistent` from the geometry of the read.  Core Lean only.
-/
import IsoVerif.Lemmas.C01CmpFar
import IsoVerif.Lemmas.C01CmpTotal

namespace IsoVerif.Lemmas.C01Cmp
open IsoVerif.Gen IsoVerif.Model IsoVerif.Model.C01 IsoVerif.Lemmas

/-- what an end-artifact event type says about the positions; `True` for every other type -/
def ArtGeom (c : CmpCtx) (rj : List Iv) (rr : Iv) (ij : List Iv) (ir : Iv) : MatchEventSubtype → Prop
  | .fake_terminal_exon_right => rj ≠ [] ∧ lastExonLen rr rj ≤ c.p.max_fake_terminal_exon_len
  | .fake_terminal_exon_left => rj ≠ [] ∧ firstExonLen rr rj ≤ c.p.max_fake_terminal_exon_len
  | .terminal_exon_misalignment_right =>
      rj.length > 1 ∧ ij ≠ [] ∧ iabs (lastExonLen rr rj - lastExonLen ir ij) < 2 * c.p.delta
  | .terminal_exon_misalignment_left =>
      rj.length > 1 ∧ ij ≠ [] ∧ iabs (firstExonLen rr rj - firstExonLen ir ij) < 2 * c.p.delta
  | .incomplete_intron_retention_right =>
      ∃ k ∈ ij, rr.1 < k.1 ∧ contains rr k = false ∧ overlaps_at_least rr k c.p.minor_exon_extension = true
  | .incomplete_intron_retention_left =>
      ∃ k ∈ ij, k.1 ≤ rr.1 ∧ contains rr k = false ∧ overlaps_at_least rr k c.p.minor_exon_extension = true
  | _ => True

theorem artGeom_of_not {c rj rr ij ir} {t : MatchEventSubtype} (h : isArt t = false) : ArtGeom c rj rr ij ir t := by
  cases t <;> first | trivial | (exact absurd h (by decide))

/-- closes `some X = some t ⊢ isArt t = false` for a concrete non-artifact `X`, and impossible leaves -/
macro "art_leaf" h:ident : tactic =>
  `(tactic| first
    | (cases $h:ident; done)
    | (simp only [Option.some.injEq] at $h:ident; subst $h:ident; decide)
    | (simp only [Option.some.injEq] at $h:ident; subst $h:ident; split <;> decide)
    | (simp at $h:ident; done))

/-- `terminal_exon_misalignment_*` compares the lengths of the outermost exons of read and isoform at that end -/
theorem classifyBothTy_art {c rr rj ir ij r0 r1 i0 i1 t} (h : classifyBothTy c rr rj ir ij r0 r1 i0 i1 = some t) :
    ArtGeom c rj rr ij ir t := by
  rcases classifyBothTy_spec h with hp | ⟨_, ⟨rfl, _⟩ | ⟨_, hn, hi, hterm⟩ | ⟨rfl, _⟩⟩
  · exact artGeom_of_not (plain_iff.mp hp).2.2
  · trivial
  · have hine : ij ≠ [] := List.length_pos_iff.mp (by omega)
    rcases hterm with ⟨rfl, _, _, a, b, ha, hb, hl⟩ | ⟨rfl, _, _, a, b, ha, hb, hl⟩
    · rw [getPrecedingExon_zero_len (by omega) ha, getPrecedingExon_zero_len (by omega) hb] at hl
      exact ⟨hn, hine, hl⟩
    · rw [getFollowingExon_neg1_len (by omega) ha, getFollowingExon_neg1_len (by omega) hb] at hl
      exact ⟨hn, hine, hl⟩
  · trivial

theorem classifyRetention_art {c rr rj ij ir rp ip e} (h : classifyRetention c rr rj ij rp ip = some (some e)) :
    ArtGeom c rj rr ij ir e.ty := by
  obtain ⟨t, k, rfl, hk, ht⟩ := classifyRetention_spec h
  have hkm : k ∈ ij := List.mem_of_getElem? hk
  rcases ht with rfl | rfl | ⟨⟨rfl, hle⟩ | ⟨rfl, hle⟩, hnc, hov⟩
  · trivial
  · trivial
  · exact ⟨k, hkm, hle, hnc, hov⟩
  · exact ⟨k, hkm, hle, hnc, hov⟩

theorem getExon_nil_zero (reg : Iv) : getExon reg [] 0 = none := by
  simp [getExon, pyGet?]

theorem classifyExtra_art {c rr rj ij ir rp ip e} (hr : 0 < rj.length) (h : classifyExtra c rr rj rp ip = some e) :
    ArtGeom c rj rr ij ir e.ty := by
  have hrne : rj ≠ [] := List.length_pos_iff.mp hr
  rcases classifyExtra_spec h with ⟨t, rfl, rfl | rfl | ⟨rfl, _⟩⟩ | ⟨rfl, _, ex, hex, hlen⟩ | ⟨rfl, _, ex, hex, hlen⟩
  · trivial
  · trivial
  · trivial
  · rw [getExon_zero_len hex] at hlen; exact ⟨hrne, hlen⟩
  · rw [getExon_last_len (-1) (Or.inl rfl) hr hex] at hlen; exact ⟨hrne, hlen⟩

theorem classifyPair_art {c rr rj ir ij pr e} (hr : 0 < rj.length) (h : classifyPair c rr rj ir ij pr = some (some e)) :
    ArtGeom c rj rr ij ir e.ty := by
  cases pr with
  | retention rp ip => exact classifyRetention_art h
  | extra rp ip =>
    simp only [classifyPair, Option.map_eq_some_iff, Option.some.injEq] at h
    obtain ⟨e', he', rfl⟩ := h
    exact classifyExtra_art hr he'
  | both r0 r1 i0 i1 =>
    simp only [classifyPair, Option.map_eq_some_iff, Option.some.injEq] at h
    obtain ⟨t, ht, rfl⟩ := h
    exact classifyBothTy_art ht

theorem addExtraOut_art {c prof rr rj ij ir isoStart evs} (hr : 0 < rj.length) (hlen : prof.length = rj.length)
    (h : addExtraOut c prof rr rj isoStart = some evs) : ∀ e ∈ evs, ArtGeom c rj rr ij ir e.ty := by
  have hrne : rj ≠ [] := List.length_pos_iff.mp hr
  intro e he
  rcases (addExtraOut_sound h).2 e he with ⟨i, _, rfl | rfl⟩ | ⟨rfl, ex, hex, hl⟩ | ⟨rfl, ex, hex, hl⟩
  · trivial
  · trivial
  · rw [getExon_zero_len hex] at hl; exact ⟨hrne, hl⟩
  · rw [getExon_last_len _ (Or.inr (by rw [hlen])) hr hex] at hl; exact ⟨hrne, hl⟩

theorem monoExonEvents_art (c : CmpCtx) (rr : Iv) (ij : List Iv) (ir : Iv) : ∀ (l : List Iv) (i : Nat),
    (∀ k ∈ l, k ∈ ij) → ∀ e ∈ monoExonEvents c rr l i, ArtGeom c [] rr ij ir e.ty := by
  intro l
  induction l with
  | nil => intro i _ e he; simp [monoExonEvents] at he
  | cons k rest ih =>
    intro i hsub e he
    have hrest : ∀ x ∈ rest, x ∈ ij := fun x hx => hsub x (List.mem_cons_of_mem _ hx)
    have hk : k ∈ ij := hsub k (by simp)
    simp only [monoExonEvents] at he
    split at he
    · rcases List.mem_cons.mp he with rfl | he
      · split <;> trivial
      · exact ih (i + 1) hrest e he
    · rename_i hnc
      split at he
      · rename_i hov
        rcases List.mem_cons.mp he with rfl | he
        · split
          · rename_i hle
            exact ⟨k, hk, hle, by simpa using hnc, hov.1⟩
          · rename_i hle
            exact ⟨k, hk, by omega, by simpa using hnc, hov.1⟩
        · exact ih (i + 1) hrest e he
      · exact ih (i + 1) hrest e he

/-- **every end-artifact event of `compare_junctions` is explained by the positions** (all inputs) -/
theorem compareJunctions_art (c : CmpCtx) (rj : List Iv) (rr : Iv) (ij : List Iv) (ir : Iv) (evs : List Event)
    (h : compareJunctions c rj rr ij ir = some evs) : ∀ e ∈ evs, ArtGeom c rj rr ij ir e.ty := by
  refine (compareJunctions_forall h (fun e => ?_) (fun hr e hs => ?_) trivial).2
  · subst e
    unfold monoExonSubtype
    split
    · intro e he; rw [List.mem_singleton.mp he]; trivial
    · dsimp only
      split
      · intro e he; rw [List.mem_singleton.mp he]; trivial
      · exact monoExonEvents_art c rr ij ir ij 0 (fun k hk => hk)
  · have hpos : 0 < rj.length := List.length_pos_iff.mpr hr
    rcases hs with ⟨_, pr, _, hc⟩ | ⟨_, x, hx, he⟩
    · exact classifyPair_art hpos hc
    · exact addExtraOut_art hpos (sweep_ok c.p.delta rr ir rj.length ij.length rj 0 0 ij 0 0 none (by simp) (by simp)
        trivial).1 hx e he

/-- **no end artifact at the RIGHT end**: for a read whose last exon is longer than `max_fake_terminal_exon_len` and (≥ 2
    introns) differs from the isoform's last exon by at least 2δ in length, `compare_junctions` emits neither
    `fake_terminal_exon_right` nor `terminal_exon_misalignment_right` — all inputs, no well-formedness assumed -/
theorem compareJunctions_clean_right (c : CmpCtx) (rj : List Iv) (rr : Iv) (ij : List Iv) (ir : Iv) (evs : List Event)
    (h : compareJunctions c rj rr ij ir = some evs) (hc : endCleanRight c.p rj rr ij ir = true) :
    ∀ e ∈ evs, e.ty ≠ .fake_terminal_exon_right ∧ e.ty ≠ .terminal_exon_misalignment_right := by
  intro e he
  have hg := compareJunctions_art c rj rr ij ir evs h e he
  simp only [endCleanRight, Bool.and_eq_true, Bool.or_eq_true, decide_eq_true_eq, List.isEmpty_iff] at hc
  obtain ⟨c1, c2⟩ := hc
  constructor
  · intro ht
    rw [ht] at hg
    obtain ⟨g1, g2⟩ : rj ≠ [] ∧ lastExonLen rr rj ≤ c.p.max_fake_terminal_exon_len := hg
    rcases c1 with c1 | c1
    · exact g1 c1
    · omega
  · intro ht
    rw [ht] at hg
    obtain ⟨g1, g2, g3⟩ : rj.length > 1 ∧ ij ≠ [] ∧ iabs (lastExonLen rr rj - lastExonLen ir ij) < 2 * c.p.delta := hg
    rcases c2 with (c2 | c2) | c2
    · omega
    · exact g2 c2
    · omega

/-- mirror image: the LEFT end -/
theorem compareJunctions_clean_left (c : CmpCtx) (rj : List Iv) (rr : Iv) (ij : List Iv) (ir : Iv) (evs : List Event)
    (h : compareJunctions c rj rr ij ir = some evs) (hc : endCleanLeft c.p rj rr ij ir = true) :
    ∀ e ∈ evs, e.ty ≠ .fake_terminal_exon_left ∧ e.ty ≠ .terminal_exon_misalignment_left := by
  intro e he
  have hg := compareJunctions_art c rj rr ij ir evs h e he
  simp only [endCleanLeft, Bool.and_eq_true, Bool.or_eq_true, decide_eq_true_eq, List.isEmpty_iff] at hc
  obtain ⟨c1, c2⟩ := hc
  constructor
  · intro ht
    rw [ht] at hg
    obtain ⟨g1, g2⟩ : rj ≠ [] ∧ firstExonLen rr rj ≤ c.p.max_fake_terminal_exon_len := hg
    rcases c1 with c1 | c1
    · exact g1 c1
    · omega
  · intro ht
    rw [ht] at hg
    obtain ⟨g1, g2, g3⟩ : rj.length > 1 ∧ ij ≠ [] ∧ iabs (firstExonLen rr rj - firstExonLen ir ij) < 2 * c.p.delta := hg
    rcases c2 with (c2 | c2) | c2
    · omega
    · exact g2 c2
    · omega

end IsoVerif.Lemmas.C01Cmp
