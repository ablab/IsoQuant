/-
Helper lemmas for C05: merging the re-fetched files gives the SAME ORDER as filtering the whole-chromosome
merge — `BAMOnlineMerger` commutes with pysam's `fetch` on coordinate-sorted files.

The k-way merge is not a sort (files are sorted by start only, the heap key is `(start, end, index)`), so this is not a
general fact about filters: it needs that a record dropped by `fetch` never "blocks" a kept record of the same file
with a smaller key, which holds because among records with one start `fetch` keeps an up-set of ends (`UpClosed`).
-/
import IsoVerif.Model.RegionsMulti
import IsoVerif.Lemmas.RegionsMulti

namespace IsoVerif.Lemmas.RegionsMulti
open IsoVerif.Gen IsoVerif.Model IsoVerif.Model.C12 IsoVerif.Lemmas.C12
open List

/-- among records with the same start the filter keeps an up-set of ends -/
def UpClosed (P : C12.Aln → Bool) : Prop :=
  ∀ a b : C12.Aln, a.start = b.start → a.stop ≤ b.stop → P a = true → P b = true

theorem inR_upClosed (r : Iv) : UpClosed (inR r) := by
  intro a b h1 h2 h3
  simp only [inR, Bool.and_eq_true, decide_eq_true_eq] at h3 ⊢
  omega

theorem merges_filter {P : Nat → List C12.Aln} {L : List Entry} (h : Merges P L) {Q : C12.Aln → Bool} (hQ : UpClosed Q)
    (hs : ∀ i, SortedStart (P i)) : Merges (fun i => (P i).filter Q) (L.filter (fun e => Q e.2)) := by
  induction h with
  | nil hP => exact .nil fun i => by rw [hP]; rfl
  | @cons P P' i a t L hi hmin hP' _ ih =>
    have ih := ih (sorted_pop hi hP' hs)
    by_cases hQa : Q a = true
    · -- the record is kept: it is still the minimal head
      rw [List.filter_cons, if_pos hQa]
      refine .cons (t := t.filter Q) (by rw [hi, List.filter_cons, if_pos hQa]) (fun j b u hb => ?_)
        (fun k => ?_) ih
      · -- the head `c` of file `j` is above `(i, a)`; a dropped `c` lies strictly below the first kept record `b`
        cases hc : P j with
        | nil => rw [hc] at hb; cases hb
        | cons c v =>
          have hk := hmin j c v hc
          rw [hc, List.filter_cons] at hb
          by_cases hQc : Q c = true
          · rw [if_pos hQc] at hb; injection hb with hb _; rw [← hb]; exact hk
          · rw [if_neg hQc] at hb
            obtain ⟨hin, hQb⟩ := List.mem_filter.1 (show b ∈ v.filter Q by rw [hb]; simp)
            have hso := hs j
            rw [hc] at hso
            have hcs : c.start ≤ b.start := (List.pairwise_cons.1 hso).1 _ hin
            have hstop : c.start = b.start → c.stop < b.stop := fun hst =>
              Decidable.byContradiction fun hn => hQc (hQ b c hst.symm (by omega) hQb)
            simp only [keyLe, Bool.or_eq_true, Bool.and_eq_true, decide_eq_true_eq] at hk ⊢
            by_cases hlt : c.start < b.start
            · omega
            · have := hstop (by omega); omega
      · show (P' k).filter Q = _
        rw [hP']; split <;> rfl
    · -- the record is dropped: the filtered streams are those after the step
      rw [List.filter_cons, if_neg hQa]
      have : (fun k => (P k).filter Q) = fun k => (P' k).filter Q := funext fun k => by
        rw [hP']; split
        · rename_i hk; rw [hk, hi, List.filter_cons, if_neg hQa]
        · rfl
      rw [this]; exact ih

theorem merge_filter (P : C12.Aln → Bool) (hP : UpClosed P) (files : List (List C12.Aln))
    (hs : ∀ f ∈ files, SortedStart f) :
    C12.merge (files.map (fun f => f.filter P)) = (C12.merge files).filter (fun e => P e.2) := by
  refine (merge_merges _).unique ?_
  have e : (fun i => (files.map fun f => f.filter P)[i]?.getD []) = fun i => (files[i]?.getD []).filter P :=
    funext fun i => by rw [List.getElem?_map]; cases files[i]? <;> rfl
  rw [e]; exact merges_filter (merge_merges files) hP (sorted_getD hs)

-- above, `Aln` is the merger's record `C12.Aln`; from here on it is the collector's `Regions.Aln` (`full rest` leads
-- from the first to the second)
open IsoVerif.Model.Regions IsoVerif.Model.RegionsMulti IsoVerif.Lemmas.Regions

theorem regionStream_eq_scan_filter (rest : Nat → Regions.Aln) {files : List (List C12.Aln)} {L : Int}
    (hv : ValidFiles files L) (r : Iv) :
    regionStream rest files r = (scanStream rest files L).filter (fun e => overlaps r e.2.iv) := by
  rw [scan_eq rest hv]
  unfold regionStream
  have hf : files.map (C12.fetch r) = files.map (fun f => f.filter (inR r)) := rfl
  rw [hf, merge_filter (inR r) (inR_upClosed r) files hv.1, List.filter_map]
  congr 1
  apply List.filter_congr
  intro e _
  simp only [Function.comp, label]
  exact (ov_full rest r e.2).symm

/-- `--high_memory` hands over what the default mode re-fetches -/
theorem handed_eq_regionStream (m : Mode) {rest : Nat → Regions.Aln} {files : List (List C12.Aln)} {L : Int}
    (hv : ValidFiles files L) {ms : MStore} (hms : ms ∈ mProcessStores (scanStream rest files L)) {r : Iv}
    (hr : r ∈ subRegionsOf ms.base) : handed m rest files ms r = regionStream rest files r := by
  cases m with
  | bam => rfl
  | memory =>
    have hA := scan_valid rest hv
    obtain ⟨R, regs, hf⟩ := storeFacts hA (base_mem hms)
    obtain ⟨hr1, _, hr3⟩ := subRegionsOf_sub hf r hr
    simp only [handed]
    rw [regionStream_eq_scan_filter rest hv r, scan_filter_cluster hA hms hf hr1 hr3]

theorem handed_spec (m : Mode) {rest : Nat → Regions.Aln} {files : List (List C12.Aln)} {L : Int}
    (hv : ValidFiles files L) {ms : MStore} (hms : ms ∈ mProcessStores (scanStream rest files L)) {r : Iv}
    (hr : r ∈ subRegionsOf ms.base) (i : Nat) :
    ((handed m rest files ms r).filter (fun e => e.1 == i)).map Prod.snd =
      (C12.fetch r (files[i]?.getD [])).map (full rest) := by
  rw [handed_eq_regionStream m hv hms hr, regionStream, label_idx_snd, merge_file_order_aux, getD_map_fetch]

theorem collectM_modes_eq (rest : Nat → Regions.Aln) {files : List (List C12.Aln)} {L : Int} (hv : ValidFiles files L) :
    collectM .memory rest files L = collectM .bam rest files L := by
  rw [collectM_eq .memory hv, collectM_eq .bam hv, List.flatMap_def, List.flatMap_def]
  congr 2
  exact List.map_congr_left fun ms hms => List.map_congr_left fun r hr =>
    congrArg (Prod.mk r) (handed_eq_regionStream .memory hv hms hr)

end IsoVerif.Lemmas.RegionsMulti
