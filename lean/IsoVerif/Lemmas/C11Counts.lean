/-
C11 helper lemmas — Model/FeatureCounts.lean (C13) under translation.
-/
import IsoVerif.Model.FeatureCounts
import IsoVerif.Model.C11SymCounts
import IsoVerif.Lemmas.AssocList
import IsoVerif.Lemmas.C11Shift

namespace IsoVerif.Lemmas.C11
open IsoVerif.Gen IsoVerif.Model IsoVerif.Model.C11 IsoVerif.Model.C13 IsoVerif.Lemmas

/-! ## `shiftKey k` is injective: the counter's dictionaries under it, as instances of `upsert_map` / `lookup_map` -/

theorem fc_shiftKey_inj (k : Int) (a b : CoordKey) : shiftKey k a = shiftKey k b ↔ a = b := by
  obtain ⟨a1, a2, a3⟩ := a
  obtain ⟨b1, b2, b3⟩ := b
  simp only [shiftKey, Prod.mk.injEq]
  constructor
  · rintro ⟨h1, h2, h3⟩; exact ⟨h1, by omega, by omega⟩
  · rintro ⟨h1, h2, h3⟩; exact ⟨h1, by omega, by omega⟩

/-- the key map of the two count dictionaries (`(feature key, group id)`) is injective -/
theorem fc_pairKey_inj (k : Int) : Function.Injective (fun q : CoordKey × Nat => (shiftKey k q.1, q.2)) :=
  fun _ _ h => Prod.ext ((fc_shiftKey_inj k _ _).1 (Prod.mk.inj h).1) (Prod.mk.inj h).2

theorem incr_eq_upsert {α} [BEq α] [LawfulBEq α] [DecidableEq α] (m : List (α × Nat)) (a : α) :
    incr m a = upsert (· + 1) 1 m a := by
  induction m with
  | nil => rfl
  | cons p t ih => simp only [incr, upsert, ih, beq_iff_eq, eq_comm (a := a)]

theorem addName_eq_upsert {κ} [BEq κ] [LawfulBEq κ] [DecidableEq κ] (upd : FeatureInfo → FeatureInfo → FeatureInfo)
    (m : List (κ × FeatureInfo)) (c : κ) (fi : FeatureInfo) : addName upd m c fi = upsert (upd · fi) fi m c := by
  induction m with
  | nil => rfl
  | cons p t ih => simp only [addName, upsert, ih, beq_iff_eq, eq_comm (a := c)]

theorem fc_incr_shift (k : Int) (m : List ((CoordKey × Nat) × Nat)) (c : CoordKey) (gid : Nat) :
    incr (m.map (fun p => ((shiftKey k p.1.1, p.1.2), p.2))) (shiftKey k c, gid) =
      (incr m (c, gid)).map (fun p => ((shiftKey k p.1.1, p.1.2), p.2)) := by
  rw [incr_eq_upsert, incr_eq_upsert]
  exact upsert_map _ (fc_pairKey_inj k) id (· + 1) (· + 1) (fun _ => rfl) 1 m (c, gid)

theorem fc_lookup_shift {β γ} (k : Int) (f : β → γ) (m : List (CoordKey × β)) (a : CoordKey) :
    (m.map (fun p => (shiftKey k p.1, f p.2))).lookup (shiftKey k a) = (m.lookup a).map f :=
  lookup_map _ (fun _ _ => (fc_shiftKey_inj k _ _).1) f m a

theorem fc_merge_shift (k : Int) (a b : FeatureInfo) : (shiftFI k a).merge (shiftFI k b) = shiftFI k (a.merge b) := by
  unfold FeatureInfo.merge
  have hl : ∀ f : FeatureInfo, (shiftFI k f).label = f.label := fun _ => rfl
  rw [hl a, hl b]
  split <;> rfl

theorem fc_addName_shift (k : Int) (names : List (CoordKey × FeatureInfo)) (c : CoordKey) (fi : FeatureInfo) :
    addName FeatureInfo.merge (names.map (fun p => (shiftKey k p.1, shiftFI k p.2))) (shiftKey k c) (shiftFI k fi) =
      (addName FeatureInfo.merge names c fi).map (fun p => (shiftKey k p.1, shiftFI k p.2)) := by
  rw [addName_eq_upsert, addName_eq_upsert]
  exact upsert_map _ (fun _ _ => (fc_shiftKey_inj k _ _).1) _ _ _ (fun x => fc_merge_shift k x fi) fi names c

theorem fc_coordKey_shift (k : Int) (f : FeatureInfo) : coordKey (shiftFI k f) = shiftKey k (coordKey f) := rfl

theorem fc_addLoop_shift (k : Int) (gid : Nat) : ∀ (prof : List Int) (pm : List FeatureInfo) (st : PCounter CoordKey),
    addLoop coordKey FeatureInfo.merge gid prof (pm.map (shiftFI k)) (shiftCounter k st) =
      (addLoop coordKey FeatureInfo.merge gid prof pm st).map (shiftCounter k) := by
  intro prof
  induction prof with
  | nil => intro pm st; rfl
  | cons v vs ih =>
    intro pm st
    simp only [addLoop]
    split
    · cases pm with
      | nil => rfl
      | cons fi rest =>
        simp only [List.map_cons]
        rw [← ih rest]
        congr 1
        simp only [shiftCounter, fc_coordKey_shift]
        rw [fc_incr_shift, fc_addName_shift]
    · split
      · cases pm with
        | nil => rfl
        | cons fi rest =>
          simp only [List.map_cons]
          rw [← ih rest]
          congr 1
          simp only [shiftCounter, fc_coordKey_shift]
          rw [fc_incr_shift, fc_addName_shift]
      · rw [← List.map_tail]; exact ih pm.tail st

theorem fc_ensureGroup_shift (k : Int) (st : PCounter CoordKey) (g : String) :
    ensureGroup (shiftCounter k st) g = shiftCounter k (ensureGroup st g) := by
  simp only [ensureGroup, shiftCounter]
  cases st.groupIds.lookup g <;> rfl

theorem fc_addReadInfoFromProfile_shift (k : Int) (st : PCounter CoordKey) (prof : List Int) (pm : List FeatureInfo)
    (g : String) :
    addReadInfoFromProfile coordKey FeatureInfo.merge (shiftCounter k st) prof (pm.map (shiftFI k)) g =
      (addReadInfoFromProfile coordKey FeatureInfo.merge st prof pm g).map (shiftCounter k) := by
  simp only [addReadInfoFromProfile, fc_ensureGroup_shift]
  have : (shiftCounter k (ensureGroup st g)).groupIds = (ensureGroup st g).groupIds := rfl
  rw [this]
  cases (ensureGroup st g).groupIds.lookup g with
  | none => rfl
  | some gid => exact fc_addLoop_shift k gid prof pm _

theorem fc_runCounter_shift (k : Int) (ig : Bool) (dg : String) : ∀ (evs : List ReadEv) (st : PCounter CoordKey),
    runCounter coordKey FeatureInfo.merge ig dg (shiftCounter k st) (evs.map (shiftReadEv k)) =
      (runCounter coordKey FeatureInfo.merge ig dg st evs).map (shiftCounter k) := by
  intro evs
  induction evs with
  | nil => intro st; rfl
  | cons ev evs ih =>
    intro st
    simp only [List.map_cons, runCounter, addReadInfo, shiftReadEv]
    rw [fc_addReadInfoFromProfile_shift]
    cases addReadInfoFromProfile coordKey FeatureInfo.merge st ev.profile ev.pmap (if ig = true then dg else ev.group) with
    | none => rfl
    | some st' => simp only [Option.map_some]; exact ih st'

theorem fc_getCount_shift (k : Int) (m : List ((CoordKey × Nat) × Nat)) (c : CoordKey) (gid : Nat) :
    getCount (m.map (fun p => ((shiftKey k p.1.1, p.1.2), p.2))) (shiftKey k c, gid) = getCount m (c, gid) := by
  have := lookup_map _ (fc_pairKey_inj k) id m (c, gid)
  simp only [getCount, id, Option.map_id_fun] at this ⊢
  rw [this]

theorem fc_dumpRows_shift (k : Int) (st : PCounter CoordKey) :
    dumpRows (shiftCounter k st) = (dumpRows st).map (shiftRow k) := by
  simp only [dumpRows, shiftCounter, List.flatMap_map, List.map_flatMap]
  congr 1
  funext p
  obtain ⟨c, fi⟩ := p
  simp only [List.map_filterMap]
  congr 1
  funext g
  cases st.groupIds.lookup g with
  | none => rfl
  | some gid =>
    simp only [fc_getCount_shift]
    split <;> simp [shiftRow]

theorem fc_shiftIv_beq (k : Int) (a b : Iv) : (shiftIv k a == shiftIv k b) = (a == b) := by
  rw [Bool.eq_iff_iff]; simp only [beq_iff_eq, shiftIv_inj]

theorem fc_isoformEntries_shift (k : Int) (feats : List Iv) :
    isoformEntries (shiftL k feats) = (isoformEntries feats).map (fun e => (shiftIv k e.1, e.2)) := by
  match feats with
  | [] => rfl
  | [f] => rfl
  | f :: g :: rest =>
    simp only [shiftL_cons, isoformEntries]
    rw [← shiftL_cons, shiftL_getLast?]
    cases (g :: rest).getLast? with
    | none => simp [shiftL, List.map_dropLast, Function.comp_def]
    | some l => simp [shiftL, List.map_dropLast, Function.comp_def]

theorem fc_featureEntries_shift (k : Int) (isoforms : List IsoformFeatures) (f : Iv) :
    featureEntries (isoforms.map (shiftIsoFeats k)) (shiftIv k f) = featureEntries isoforms f := by
  simp only [featureEntries, List.flatMap_map]
  congr 1
  funext t
  simp only [shiftIsoFeats, fc_isoformEntries_shift, List.filter_map, List.map_map]
  congr 1
  apply List.filter_congr
  intro e _
  simp only [Function.comp, fc_shiftIv_beq]

theorem fc_featureType_shift (k : Int) (features : List Iv) (delta : Int) (f : Iv) (es : List (String × String × Bool)) :
    featureType (shiftL k features) delta (shiftIv k f) es = featureType features delta f es := by
  simp only [featureType, shiftL, List.any_map]
  have e1 : ((fun g => g != shiftIv k f && (equal_ranges (shiftIv k f) g delta || equal_ranges g (shiftIv k f) delta)) ∘ shiftIv k) =
      (fun g => g != f && (equal_ranges f g delta || equal_ranges g f delta)) := by
    funext g
    simp only [Function.comp, bne, fc_shiftIv_beq]
    rw [Props.C11.shift_equivariant_equal_ranges, Props.C11.shift_equivariant_equal_ranges]
  have e2 : ((fun g => g != shiftIv k f && contains g (shiftIv k f)) ∘ shiftIv k) = (fun g => g != f && contains g f) := by
    funext g
    simp only [Function.comp, bne, fc_shiftIv_beq]
    rw [Props.C11.shift_equivariant_contains]
  rw [e1, e2]

end IsoVerif.Lemmas.C11
