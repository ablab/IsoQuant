/-
C11 helper lemmas — Model/IntronGraph.lean (C04) under a vertex map `f : Iv → Iv`.

The collector and the graph only compare vertices (`=`, `∈`, dictionary lookups), sort them in tuple order and, in
`construct_similar_intron_map`, look at coordinate differences.  So every function commutes with `map f` for an
injective `f` that preserves the tuple order (`ivLe`) and — where needed — coordinate differences (`DiffPres`) or the
kind of a vertex (`KindPres`; `CodePres`, the terminal codes, for `fill` only).  The translation instances are
`shiftIv k` (introns only: injective, order- and difference-preserving for every `k`) and `shiftV k` (terminal
vertices keep their negative code: injective, order- and kind-preserving for `0 ≤ k`; for `k < 0` on states whose
intron vertices stay intron vertices, `GoodV`).

The facts about lists that are not about graphs (`inj_eq`, `filter_map_comm`, a loop commutes when its body does) are in
Lemmas/MapComm.lean.  `commute_of_nonneg` carries a statement proved for the shifts by `j ≥ 0` to every `k`.
Last, what the reflection needs: a mirrored read is reversed (`threadIntrons_reverse`, `readEdgeOps_snoc`), its introns are counted alike.
-/
import IsoVerif.Model.IntronGraph
import IsoVerif.Model.C11SymGraph
import IsoVerif.Lemmas.C11Shift
import IsoVerif.Lemmas.C11Mirror
import IsoVerif.Lemmas.IntronGraph
import IsoVerif.Lemmas.MapComm

namespace IsoVerif.Lemmas.C11.GraphMap
open IsoVerif.Lemmas.C11 IsoVerif.Lemmas.MapComm
open IsoVerif.Gen IsoVerif.Model IsoVerif.Model.C11 IsoVerif.Model.C04
open Function (Injective)
open IsoVerif.Lemmas.C04 (amGet?_map amHas_map amSet_map)


section generic
variable {α α' β β' : Type} [DecidableEq α] [DecidableEq α']

theorem amErase_map (f : α → α') (hf : Injective f) (g : β → β') (m : List (α × β)) (k : α) :
    amErase (m.map (Prod.map f g)) (f k) = (amErase m k).map (Prod.map f g) :=
  filter_map_comm _ _ _ (fun p => by simp only [Prod.map, ne_eq, inj_eq hf]) m

omit [DecidableEq α] [DecidableEq α'] in
theorem amKeys_map (f : α → α') (g : β → β') (m : List (α × β)) :
    amKeys (m.map (Prod.map f g)) = (amKeys m).map f := by
  simp only [amKeys, List.map_map]; rfl

omit [DecidableEq α] [DecidableEq α'] in
theorem amVals_map (f : α → α') (g : β → β') (m : List (α × β)) :
    amVals (m.map (Prod.map f g)) = (amVals m).map g := by
  simp only [amVals, List.map_map]; rfl

theorem cnt_map (f : α → α') (hf : Injective f) (m : List (α × Int)) (k : α) :
    cnt (m.map (Prod.map f id)) (f k) = cnt m k := by
  simp only [cnt, amGet?_map f hf id, Option.map_id_fun, id]

theorem decide_mem_map_inj (f : α → α') (hf : Injective f) (l : List α) (x : α) :
    decide (f x ∈ l.map f) = decide (x ∈ l) := by
  rw [decide_eq_decide]; exact mem_map_inj f hf l x

theorem setAdd_map (f : α → α') (hf : Injective f) (s : List α) (x : α) :
    setAdd (s.map f) (f x) = (setAdd s x).map f := by
  simp only [setAdd, mem_map_inj f hf, apply_ite (List.map f), List.map_append, List.map_cons, List.map_nil]

theorem filter_ne_map (f : α → α') (hf : Injective f) (l : List α) (a : α) :
    (l.map f).filter (fun p => decide (p ≠ f a)) = (l.filter (fun p => decide (p ≠ a))).map f :=
  filter_map_comm _ _ _ (fun p => by simp only [ne_eq, inj_eq hf]) l

omit [DecidableEq α] [DecidableEq α'] in
theorem insSort_map (f : α → α') (le : α → α → Bool) (le' : α' → α' → Bool)
    (hle : ∀ a b, le' (f a) (f b) = le a b) (l : List α) :
    insSort le' (l.map f) = (insSort le l).map f :=
  ((IsoVerif.Lemmas.C04.insSort_is le).map f (IsoVerif.Lemmas.C04.insSort_is le') hle l).symm

end generic

def LePres (f : Iv → Iv) : Prop := ∀ a b, ivLe (f a) (f b) = ivLe a b
/-- what `construct_similar_intron_map` looks at -/
def DiffPres (f : Iv → Iv) : Prop := ∀ a b, (f a).1 - (f b).1 = a.1 - b.1 ∧ (f a).2 - (f b).2 = a.2 - b.2
def KindPres (f : Iv → Iv) : Prop := ∀ v, isIntronVertex (f v) = isIntronVertex v

/-- a difference-preserving map is a translation by a fixed vector: injective and order-preserving -/
theorem DiffPres.injective {f : Iv → Iv} (hd : DiffPres f) : Injective f := fun a b h => by
  have := hd a b; rw [h] at this; exact Prod.ext (by omega) (by omega)

theorem DiffPres.lePres {f : Iv → Iv} (hd : DiffPres f) : LePres f := fun a b => by
  have := hd a b; simp only [ivLe]; grind

theorem mapKey_eq {β : Type} (f : Iv → Iv) : (mapKey f : Iv × β → Iv × β) = Prod.map f id := by
  funext p; rfl
theorem mapPair_eq (f : Iv → Iv) : mapPair f = Prod.map f f := by
  funext p; rfl

section keyed
variable {β : Type} (f : Iv → Iv) (hf : Injective f)
include hf

theorem amGet?_mapKey (m : List (Iv × β)) (k : Iv) : amGet? (m.map (mapKey f)) (f k) = amGet? m k := by
  rw [mapKey_eq, amGet?_map f hf id]; cases amGet? m k <;> rfl
theorem amHas_mapKey (m : List (Iv × β)) (k : Iv) : amHas (m.map (mapKey f)) (f k) = amHas m k := by
  rw [mapKey_eq, amHas_map f hf id]
theorem amSet_mapKey (m : List (Iv × β)) (k : Iv) (v : β) :
    amSet (m.map (mapKey f)) (f k) v = (amSet m k v).map (mapKey f) := by
  rw [mapKey_eq]; exact amSet_map f hf id m k v
theorem amErase_mapKey (m : List (Iv × β)) (k : Iv) :
    amErase (m.map (mapKey f)) (f k) = (amErase m k).map (mapKey f) := by
  rw [mapKey_eq, amErase_map f hf id]
theorem cnt_mapKey (m : List (Iv × Int)) (k : Iv) : cnt (m.map (mapKey f)) (f k) = cnt m k := by
  rw [mapKey_eq, cnt_map f hf]

theorem amGet?_mapPair (m : List (Iv × Iv)) (k : Iv) : amGet? (m.map (mapPair f)) (f k) = (amGet? m k).map f := by
  rw [mapPair_eq, amGet?_map f hf f]
theorem amHas_mapPair (m : List (Iv × Iv)) (k : Iv) : amHas (m.map (mapPair f)) (f k) = amHas m k := by
  rw [mapPair_eq, amHas_map f hf f]
theorem amSet_mapPair (m : List (Iv × Iv)) (k v : Iv) :
    amSet (m.map (mapPair f)) (f k) (f v) = (amSet m k v).map (mapPair f) := by
  rw [mapPair_eq, amSet_map f hf f]
theorem amErase_mapPair (m : List (Iv × Iv)) (k : Iv) :
    amErase (m.map (mapPair f)) (f k) = (amErase m k).map (mapPair f) := by
  rw [mapPair_eq, amErase_map f hf f]

theorem mapPair_injective : Injective (mapPair f) := by
  rw [mapPair_eq]; exact prodMap_injective hf hf

end keyed

theorem amKeys_mapKey {β : Type} (f : Iv → Iv) (m : List (Iv × β)) : amKeys (m.map (mapKey f)) = (amKeys m).map f := by
  rw [mapKey_eq, amKeys_map]
theorem amKeys_mapPair (f : Iv → Iv) (m : List (Iv × Iv)) : amKeys (m.map (mapPair f)) = (amKeys m).map f := by
  rw [mapPair_eq, amKeys_map]
theorem amVals_mapPair (f : Iv → Iv) (m : List (Iv × Iv)) : amVals (m.map (mapPair f)) = (amVals m).map f := by
  rw [mapPair_eq, amVals_map]

theorem sortIv_map (f : Iv → Iv) (hle : LePres f) (l : List Iv) : sortIv (l.map f) = (sortIv l).map f :=
  insSort_map f ivLe ivLe hle l

theorem maxIv?_map (f : Iv → Iv) (hle : LePres f) (l : List Iv) : maxIv? (l.map f) = (maxIv? l).map f := by
  induction l with
  | nil => rfl
  | cons a t ih =>
    simp only [List.map_cons, maxIv?, ih]
    cases maxIv? t with
    | none => rfl
    | some b =>
      simp only [Option.map_some, hle a b]
      cases ivLe a b <;> rfl

/-! ## IntronCollector -/

@[simp] theorem mapRead_introns (f : Iv → Iv) (k : Int) (r : Read) : (mapRead f k r).introns = r.introns.map f := rfl
@[simp] theorem mapRead_exons (f : Iv → Iv) (k : Int) (r : Read) : (mapRead f k r).exons = shiftL k r.exons := rfl
@[simp] theorem mapRead_multimapper (f : Iv → Iv) (k : Int) (r : Read) : (mapRead f k r).multimapper = r.multimapper := rfl
@[simp] theorem mapRead_strand (f : Iv → Iv) (k : Int) (r : Read) : (mapRead f k r).strand = r.strand := rfl
@[simp] theorem mapRead_polya (f : Iv → Iv) (k : Int) (r : Read) : (mapRead f k r).polya = r.polya := rfl
@[simp] theorem mapRead_polyt (f : Iv → Iv) (k : Int) (r : Read) : (mapRead f k r).polyt = r.polyt := rfl

theorem obsIntrons_map (f : Iv → Iv) (k : Int) (reads : List Read) :
    obsIntrons (reads.map (mapRead f k)) = (obsIntrons reads).map f := by
  simp only [obsIntrons, List.filter_map, List.flatMap_map, List.map_flatMap, Function.comp_def, mapRead_multimapper,
    mapRead_introns]

theorem countAdd_map (f : Iv → Iv) (hf : Injective f) (m : List (Iv × Int)) (k : Iv) :
    countAdd (m.map (mapKey f)) (f k) = (countAdd m k).map (mapKey f) := by
  simp only [countAdd, cnt_mapKey f hf, amSet_mapKey f hf]

theorem collectIntrons_map (f : Iv → Iv) (hf : Injective f) (k : Int) (reads : List Read) :
    C04.collectIntrons (reads.map (mapRead f k)) = (C04.collectIntrons reads).map (mapKey f) := by
  rw [IsoVerif.Lemmas.C04.collectIntrons_eq, IsoVerif.Lemmas.C04.collectIntrons_eq, obsIntrons_map]
  exact foldl_map_comm (List.map (mapKey f)) f countAdd countAdd (countAdd_map f hf) _ []

theorem simAfter_map (f : Iv → Iv) (hd : DiffPres f) (δ : Int) (x : Iv) (rest : List Iv) :
    simAfter δ (f x) (rest.map f) = (simAfter δ x rest).map f := by
  unfold simAfter
  rw [List.takeWhile_map, List.filter_map]
  have e1 : ((fun o : Iv => decide (iabs (o.1 - (f x).1) ≤ δ)) ∘ f) = (fun o : Iv => decide (iabs (o.1 - x.1) ≤ δ)) := by
    funext o; simp only [Function.comp_def, (hd o x).1]
  have e2 : ((fun o : Iv => decide (iabs (o.2 - (f x).2) ≤ δ)) ∘ f) = (fun o : Iv => decide (iabs (o.2 - x.2) ≤ δ)) := by
    funext o; simp only [Function.comp_def, (hd o x).2]
  rw [e1, e2]

theorem simPairs_map (f : Iv → Iv) (hd : DiffPres f) (δ : Int) (l : List Iv) :
    simPairs δ (l.map f) = (simPairs δ l).map (mapPair f) := by
  induction l with
  | nil => rfl
  | cons x rest ih =>
    simp only [List.map_cons, simPairs, simAfter_map f hd, ih, List.map_append, List.map_map]
    rfl

theorem similarOf_map (f : Iv → Iv) (hf : Injective f) (pairs : List (Iv × Iv)) (x : Iv) :
    similarOf (pairs.map (mapPair f)) (f x) = (similarOf pairs x).map f := by
  simp only [similarOf, List.filterMap_map, List.map_filterMap, Function.comp_def, mapPair, inj_eq hf,
    apply_ite (Option.map f), Option.map_some, Option.map_none]

/-- `(count, intron)` records -/
def mapCI (f : Iv → Iv) (ci : Int × Iv) : Int × Iv := (ci.1, f ci.2)

theorem ciLe_map (f : Iv → Iv) (hle : LePres f) (a b : Int × Iv) : ciLe (mapCI f a) (mapCI f b) = ciLe a b := by
  unfold ciLe mapCI
  rw [hle a.2 b.2]

theorem sortedByCount_map (f : Iv → Iv) (hle : LePres f) (all : List (Iv × Int)) :
    sortedByCount (all.map (mapKey f)) = (sortedByCount all).map (mapCI f) := by
  unfold sortedByCount
  have : (all.map (mapKey f)).map (fun p => (p.2, p.1)) = (all.map (fun p => (p.2, p.1))).map (mapCI f) := by
    simp only [List.map_map]; rfl
  rw [this, insSort_map (mapCI f) ciLe ciLe (ciLe_map f hle), List.map_reverse]

theorem mapCollector_clustered (f : Iv → Iv) (c : Collector) :
    (mapCollector f c).clustered = c.clustered.map (mapKey f) := rfl
theorem mapCollector_known (f : Iv → Iv) (c : Collector) : (mapCollector f c).known = c.known.map f := rfl
theorem mapCollector_corr (f : Iv → Iv) (c : Collector) : (mapCollector f c).corr = c.corr.map (mapPair f) := rfl
theorem mapCollector_discarded (f : Iv → Iv) (c : Collector) : (mapCollector f c).discarded = c.discarded.map f := rfl

theorem filter_amHas_map {β : Type} (f : Iv → Iv) (hf : Injective f) (m : List (Iv × β)) (l : List Iv) :
    (l.map f).filter (fun s => amHas (m.map (mapKey f)) s) = (l.filter (fun s => amHas m s)).map f :=
  filter_map_comm f _ _ (amHas_mapKey f hf m) l

theorem clusterStep_map (f : Iv → Iv) (hf : Injective f) (hle : LePres f) (pairs : List (Iv × Iv)) (minCount : Int)
    (c : Collector) (ci : Int × Iv) :
    clusterStep (pairs.map (mapPair f)) minCount (mapCollector f c) (mapCI f ci)
      = mapCollector f (clusterStep pairs minCount c ci) := by
  obtain ⟨count, intron⟩ := ci
  simp only [clusterStep, mapCI, mapCollector_known, mapCollector_clustered, mapCollector_corr, mem_map_inj f hf,
    similarOf_map f hf, filter_amHas_map f hf, maxIv?_map f hle, ne_eq, List.map_eq_nil_iff,
    apply_ite (mapCollector f)]
  cases maxIv? ((similarOf pairs intron).filter (fun s => amHas c.clustered s)) <;>
    simp only [Option.map_none, Option.map_some, mapCollector, cnt_mapKey f hf, amSet_mapKey f hf, amSet_mapPair f hf,
      setAdd_map f hf]

theorem clusterIntrons_map (f : Iv → Iv) (hd : DiffPres f) (c : Collector) (δ : Int) (all : List (Iv × Int))
    (minCount : Int) :
    clusterIntrons (mapCollector f c) δ (all.map (mapKey f)) minCount
      = mapCollector f (clusterIntrons c δ all minCount) := by
  unfold clusterIntrons
  rw [sortedByCount_map f hd.lePres, amKeys_mapKey, sortIv_map f hd.lePres, simPairs_map f hd]
  exact foldl_map_comm (mapCollector f) (mapCI f) _ _
    (fun c x => clusterStep_map f hd.injective hd.lePres _ minCount c x) _ c

theorem collectorProcess_map (f : Iv → Iv) (hd : DiffPres f) (k : Int)
    (known : List Iv) (δ : Int) (reads : List Read) (minCount : Int) :
    collectorProcess (known.map f) δ (reads.map (mapRead f k)) minCount
      = mapCollector f (collectorProcess known δ reads minCount) := by
  unfold collectorProcess
  rw [collectIntrons_map f hd.injective]
  exact clusterIntrons_map f hd (Collector.empty known) δ _ minCount


theorem addSubstitute_map (f : Iv → Iv) (hf : Injective f) (c : Collector) (o s : Iv) :
    (mapCollector f c).addSubstitute (f o) (f s) = mapCollector f (c.addSubstitute o s) := by
  simp only [Collector.addSubstitute, mapCollector_clustered, mapCollector_corr, cnt_mapKey f hf, amSet_mapKey f hf,
    amErase_mapKey f hf, amSet_mapPair f hf]
  rfl

theorem discard_map (f : Iv → Iv) (hf : Injective f) (c : Collector) (i : Iv) :
    (mapCollector f c).discard (f i) = mapCollector f (c.discard i) := by
  simp only [Collector.discard, mapCollector_clustered, mapCollector_discarded, setAdd_map f hf, amErase_mapKey f hf]
  rfl

theorem touch_map (f : Iv → Iv) (hf : Injective f) (c : Collector) (v : Iv) :
    (mapCollector f c).touch (f v) = mapCollector f (c.touch v) := by
  simp only [Collector.touch, mapCollector_clustered, amHas_mapKey f hf, amSet_mapKey f hf]
  cases amHas c.clustered v <;> rfl

theorem substitute_map (f : Iv → Iv) (hf : Injective f) (c : Collector) (v : Iv) :
    (mapCollector f c).substitute (f v) = f (c.substitute v) := by
  simp only [Collector.substitute, mapCollector_corr, amGet?_mapPair f hf]
  cases amGet? c.corr v <;> rfl

theorem chase_map (f : Iv → Iv) (hf : Injective f) (m : List (Iv × Iv)) (fuel : Nat) (s : Iv) :
    chase (m.map (mapPair f)) fuel (f s) = (chase m fuel s).map f := by
  induction fuel generalizing s with
  | zero => rfl
  | succ n ih =>
    simp only [chase, amGet?_mapPair f hf]
    cases amGet? m s with
    | none => rfl
    | some s' => exact ih s'

/-- state of the first loop of `simplify_correction_map` -/
def mapSt (f : Iv → Iv) (st : List (Iv × Iv) × List Iv) : List (Iv × Iv) × List Iv :=
  (st.1.map (mapPair f), st.2.map f)

theorem simplifyStep_map (f : Iv → Iv) (hf : Injective f) (disc : List Iv) (st : List (Iv × Iv) × List Iv) (i : Iv) :
    simplifyStep (disc.map f) (mapSt f st) (f i) = (simplifyStep disc st i).map (mapSt f) := by
  obtain ⟨m, rem⟩ := st
  simp only [simplifyStep, mapSt, amGet?_mapPair f hf, List.length_map]
  cases amGet? m i with
  | none => rfl
  | some subs =>
    simp only [Option.map_some, mem_map_inj f hf, amHas_mapPair f hf, chase_map f hf, setAdd_map f hf,
      apply_ite (Option.map (mapSt f))]
    cases chase m (m.length + 1) subs <;>
      simp only [Option.map_some, Option.map_none, mem_map_inj f hf, amSet_mapPair f hf, mapSt,
        apply_ite (Option.map (mapSt f))]

theorem simplifyLoop_map (f : Iv → Iv) (hf : Injective f) (disc : List Iv) (l : List Iv)
    (st : List (Iv × Iv) × List Iv) :
    simplifyLoop (disc.map f) (l.map f) (mapSt f st) = (simplifyLoop disc l st).map (mapSt f) := by
  rw [C04.simplifyLoop_eq_foldlM, C04.simplifyLoop_eq_foldlM]
  exact foldlM_map_comm (mapSt f) f _ _ l (fun st i _ => simplifyStep_map f hf disc st i) st

theorem simplifyCorrectionMap_map (f : Iv → Iv) (hf : Injective f) (hle : LePres f) (c : Collector) :
    (mapCollector f c).simplifyCorrectionMap = (c.simplifyCorrectionMap).map (mapCollector f) := by
  have hl := simplifyLoop_map f hf c.discarded (sortIv (amKeys c.corr)) (c.corr, [])
  simp only [Collector.simplifyCorrectionMap, mapCollector_corr, mapCollector_discarded, amKeys_mapPair,
    sortIv_map f hle]
  simp only [mapSt, List.map_nil] at hl
  rw [hl]
  cases simplifyLoop c.discarded (sortIv (amKeys c.corr)) (c.corr, []) with
  | none => rfl
  | some st =>
    obtain ⟨m, rem⟩ := st
    simp only [Option.map_some, mapSt]
    congr 1
    exact foldl_map_comm (mapCollector f) f
      (fun c i => { c.discard i with corr := amErase (c.discard i).corr i })
      (fun c i => { c.discard i with corr := amErase (c.discard i).corr i })
      (fun c i => by
        simp only [discard_map f hf, mapCollector_corr, amErase_mapPair f hf]
        rfl) rem { c with corr := m }


/-! ## IntronGraph operations -/

theorem mapPair_mk (f : Iv → Iv) (a b : Iv) : mapPair f (a, b) = (f a, f b) := rfl

theorem mapGraph_out (f : Iv → Iv) (g : Graph) : (mapGraph f g).out = g.out.map (mapPair f) := rfl
theorem mapGraph_inc (f : Iv → Iv) (g : Graph) : (mapGraph f g).inc = g.inc.map (mapPair f) := rfl
theorem mapGraph_col (f : Iv → Iv) (g : Graph) : (mapGraph f g).col = mapCollector f g.col := rfl

theorem filter_key_eq_map (f : Iv → Iv) (hf : Injective f) (m : List (Iv × Iv)) (v : Iv) :
    (m.map (mapPair f)).filter (fun p => decide (p.1 = f v)) = (m.filter (fun p => decide (p.1 = v))).map (mapPair f) :=
  filter_map_comm _ _ _ (fun p => by simp only [mapPair, inj_eq hf]) m

theorem filter_key_ne_map (f : Iv → Iv) (hf : Injective f) (m : List (Iv × Iv)) (v : Iv) :
    (m.map (mapPair f)).filter (fun p => decide (p.1 ≠ f v)) = (m.filter (fun p => decide (p.1 ≠ v))).map (mapPair f) :=
  filter_map_comm _ _ _ (fun p => by simp only [mapPair, ne_eq, inj_eq hf]) m

theorem members_map (f : Iv → Iv) (hf : Injective f) (m : List (Iv × Iv)) (v : Iv) :
    ((m.map (mapPair f)).filter (fun p => decide (p.1 = f v))).map (·.2)
      = ((m.filter (fun p => decide (p.1 = v))).map (·.2)).map f := by
  rw [filter_key_eq_map f hf, List.map_map, List.map_map]
  rfl

theorem outOf_map (f : Iv → Iv) (hf : Injective f) (g : Graph) (v : Iv) :
    outOf (mapGraph f g) (f v) = (outOf g v).map f := members_map f hf g.out v
theorem incOf_map (f : Iv → Iv) (hf : Injective f) (g : Graph) (v : Iv) :
    incOf (mapGraph f g) (f v) = (incOf g v).map f := members_map f hf g.inc v

theorem setAdd_mapPair (f : Iv → Iv) (hf : Injective f) (m : List (Iv × Iv)) (a b : Iv) :
    setAdd (m.map (mapPair f)) (f a, f b) = (setAdd m (a, b)).map (mapPair f) :=
  setAdd_map (mapPair f) (mapPair_injective f hf) m (a, b)

theorem addEdge_map (f : Iv → Iv) (hf : Injective f) (g : Graph) (v1 v2 : Iv) :
    (mapGraph f g).addEdge (f v1) (f v2) = mapGraph f (g.addEdge v1 v2) := by
  simp only [Graph.addEdge, mapGraph_col, mapGraph_out, mapGraph_inc, substitute_map f hf, setAdd_mapPair f hf]
  rfl

theorem replaceMember_map (f : Iv → Iv) (hf : Injective f) (m : List (Iv × Iv)) (k c s : Iv) :
    replaceMember (m.map (mapPair f)) (f k) (f c) (f s) = (replaceMember m k c s).map (List.map (mapPair f)) := by
  have hp := mapPair_injective f hf
  have h1 := mem_map_inj (mapPair f) hp m (k, c)
  have h2 := filter_ne_map (mapPair f) hp m (k, c)
  rw [mapPair_mk] at h1 h2
  simp only [replaceMember, h1, h2, setAdd_mapPair f hf, apply_ite (Option.map (List.map (mapPair f))), Option.map_some,
    Option.map_none]

theorem replaceMembers_map (f : Iv → Iv) (hf : Injective f) (m : List (Iv × Iv)) (c s : Iv) (ks : List Iv) :
    replaceMembers (m.map (mapPair f)) (f c) (f s) (ks.map f) = (replaceMembers m c s ks).map (List.map (mapPair f)) := by
  rw [C04.replaceMembers_eq_foldlM, C04.replaceMembers_eq_foldlM]
  exact foldlM_map_comm (List.map (mapPair f)) f _ _ ks (fun m k _ => replaceMember_map f hf m k c s) m

theorem foldl_setAdd_map (f : Iv → Iv) (hf : Injective f) (s : Iv) (l : List Iv) (m : List (Iv × Iv)) :
    (l.map f).foldl (fun m i => setAdd m (f s, i)) (m.map (mapPair f))
      = (l.foldl (fun m i => setAdd m (s, i)) m).map (mapPair f) :=
  foldl_map_comm (List.map (mapPair f)) f (fun m i => setAdd m (s, i)) (fun m i => setAdd m (f s, i))
    (fun m i => setAdd_mapPair f hf m s i) l m

theorem collapseVertex_map (f : Iv → Iv) (hf : Injective f) (g : Graph) (c s : Iv) :
    (mapGraph f g).collapseVertex (f c) (f s) = (g.collapseVertex c s).map (mapGraph f) := by
  simp only [Graph.collapseVertex, outOf_map f hf, mapGraph_inc, mapGraph_out, mapGraph_col, replaceMembers_map f hf,
    foldl_setAdd_map f hf]
  cases replaceMembers g.inc c s (outOf g c) with
  | none => rfl
  | some inc1 =>
    simp only [Option.map_some, members_map f hf, foldl_setAdd_map f hf, replaceMembers_map f hf]
    cases replaceMembers (List.foldl (fun m i => setAdd m (s, i)) g.out (outOf g c)) c s
        (List.map (fun x => x.2) (List.filter (fun p => decide (p.1 = c)) inc1)) with
    | none => rfl
    | some out2 =>
      simp only [Option.map_some, addSubstitute_map f hf]
      rfl

theorem delVertex_map (f : Iv → Iv) (hf : Injective f) (g : Graph) (v : Iv) :
    (mapGraph f g).delVertex (f v) = mapGraph f (g.delVertex v) := by
  simp only [Graph.delVertex, mapGraph_out, mapGraph_inc, filter_key_ne_map f hf]
  rfl

theorem applyOp_map (f : Iv → Iv) (hf : Injective f) (hle : LePres f) (g : Graph) (op : Op) :
    applyOp (mapGraph f g) (mapOp f op) = (applyOp g op).map (mapGraph f) := by
  cases op with
  | addEdge v1 v2 => simp only [mapOp, applyOp, addEdge_map f hf, Option.map_some]
  | collapse c s => exact collapseVertex_map f hf g c s
  | delVertex v => simp only [mapOp, applyOp, delVertex_map f hf, Option.map_some]
  | delOut v => simp only [mapOp, applyOp, mapGraph_out, filter_key_ne_map f hf, Option.map_some]; rfl
  | delInc v => simp only [mapOp, applyOp, mapGraph_inc, filter_key_ne_map f hf, Option.map_some]; rfl
  | discard v => simp only [mapOp, applyOp, mapGraph_col, discard_map f hf, Option.map_some]; rfl
  | touch v => simp only [mapOp, applyOp, mapGraph_col, touch_map f hf, Option.map_some]; rfl
  | simplifyMap =>
    simp only [mapOp, applyOp, mapGraph_col, simplifyCorrectionMap_map f hf hle, Option.map_map]
    rfl
  | attachOut v t => simp only [mapOp, applyOp, mapGraph_out, setAdd_mapPair f hf, Option.map_some]; rfl
  | attachInc v t => simp only [mapOp, applyOp, mapGraph_inc, setAdd_mapPair f hf, Option.map_some]; rfl

theorem collectorVerts_map (f : Iv → Iv) (c : Collector) : (mapCollector f c).verts = c.verts.map f := by
  simp only [Collector.verts, mapCollector_clustered, mapCollector_corr, mapCollector_discarded, amKeys_mapKey,
    amKeys_mapPair, amVals_mapPair, List.map_append]

theorem graphVerts_map (f : Iv → Iv) (hk : KindPres f) (g : Graph) : (mapGraph f g).verts = g.verts.map f := by
  simp only [Graph.verts, mapGraph_col, mapGraph_out, mapGraph_inc, collectorVerts_map, amKeys_mapPair, amVals_mapPair]
  rw [← List.map_append, ← List.map_append, ← List.map_append, List.filter_map, List.map_append]
  congr 2
  apply List.filter_congr
  intro v _
  exact hk v

theorem opScoped_map (f : Iv → Iv) (hf : Injective f) (hk : KindPres f) (obs : List Iv) (g : Graph) (op : Op) :
    opScoped (obs.map f) (mapGraph f g) (mapOp f op) = opScoped obs g op := by
  cases op <;>
    simp only [mapOp, opScoped, graphVerts_map f hk, mem_map_inj f hf, hk _]

/-- `construct` performs `add_edge` only, and the scope test of `add_edge` does not look at the vertex kind: no
    `KindPres` (which `shiftIv k` lacks for `k < 0`), so `constructed_map` holds for every `k` -/
theorem opScoped_addEdge_map (f : Iv → Iv) (hf : Injective f) (obs : List Iv) (g : Graph) (v1 v2 : Iv) :
    opScoped (obs.map f) (mapGraph f g) (mapOp f (.addEdge v1 v2)) = opScoped obs g (.addEdge v1 v2) := by
  simp only [mapOp, opScoped, mem_map_inj f hf]

def AddEdgesOnly (ops : List Op) : Prop := ∀ op ∈ ops, ∃ a b, op = Op.addEdge a b

theorem runOps_map_of (f : Iv → Iv) (hf : Injective f) (hle : LePres f) (obs : List Iv) (ops : List Op)
    (hsc : ∀ g, ∀ op ∈ ops, opScoped (obs.map f) (mapGraph f g) (mapOp f op) = opScoped obs g op) (g : Graph) :
    runOps (obs.map f) (mapGraph f g) (ops.map (mapOp f)) = (runOps obs g ops).map (mapGraph f) := by
  rw [C04.runOps_eq_foldlM, C04.runOps_eq_foldlM]
  refine foldlM_map_comm (mapGraph f) (mapOp f) _ _ ops (fun g op hop => ?_) g
  rw [hsc g op hop, applyOp_map f hf hle]
  split <;> rfl

theorem runOps_map (f : Iv → Iv) (hf : Injective f) (hle : LePres f) (hk : KindPres f) (obs : List Iv) (g : Graph)
    (ops : List Op) :
    runOps (obs.map f) (mapGraph f g) (ops.map (mapOp f)) = (runOps obs g ops).map (mapGraph f) :=
  runOps_map_of f hf hle obs ops (fun g op _ => opScoped_map f hf hk obs g op) g

theorem runOps_addEdges_map (f : Iv → Iv) (hf : Injective f) (hle : LePres f) (obs : List Iv) (g : Graph)
    (ops : List Op) (ha : AddEdgesOnly ops) :
    runOps (obs.map f) (mapGraph f g) (ops.map (mapOp f)) = (runOps obs g ops).map (mapGraph f) :=
  runOps_map_of f hf hle obs ops (fun g op h => by
    obtain ⟨a, b, e⟩ := ha op h
    subst e
    exact opScoped_addEdge_map f hf obs g a b) g

theorem readEdgeOps_map (f : Iv → Iv) (l : List Iv) : readEdgeOps (l.map f) = (readEdgeOps l).map (mapOp f) := by
  simp only [IsoVerif.Lemmas.C04.readEdgeOps_eq, ← List.map_tail, List.zip_map, List.map_map]
  rfl

theorem readEdgeOps_addEdges (l : List Iv) : AddEdgesOnly (readEdgeOps l) := by
  intro op h
  rw [IsoVerif.Lemmas.C04.readEdgeOps_eq] at h
  obtain ⟨p, _, rfl⟩ := List.mem_map.1 h
  exact ⟨p.1, p.2, rfl⟩

theorem constructOps_addEdges (col : Collector) (reads : List Read) : AddEdgesOnly (constructOps col reads) := by
  intro op h
  simp only [constructOps, List.mem_flatMap] at h
  obtain ⟨r, _, hr⟩ := h
  split at hr
  · cases hr
  · exact readEdgeOps_addEdges r.introns op hr

theorem constructOps_map (f : Iv → Iv) (hf : Injective f) (k : Int) (col : Collector) (reads : List Read) :
    constructOps (mapCollector f col) (reads.map (mapRead f k)) = (constructOps col reads).map (mapOp f) := by
  simp only [constructOps, List.flatMap_map, List.map_flatMap, mapRead_multimapper, mapRead_introns,
    mapCollector_discarded, List.any_map, Function.comp_def, mem_map_inj f hf, readEdgeOps_map,
    apply_ite (List.map (mapOp f)), List.map_nil]

theorem constructed_map (f : Iv → Iv) (hd : DiffPres f) (k : Int)
    (known : List Iv) (δ : Int) (reads : List Read) (minCount : Int) :
    Graph.constructed (known.map f) δ (reads.map (mapRead f k)) minCount
      = (Graph.constructed known δ reads minCount).map (mapGraph f) := by
  simp only [Graph.constructed, Graph.init, collectorProcess_map f hd, obsIntrons_map, constructOps_map f hd.injective]
  exact runOps_addEdges_map f hd.injective hd.lePres (obsIntrons reads) ⟨collectorProcess known δ reads minCount, [], []⟩ _
    (constructOps_addEdges _ reads)


/-! ## IntronPathProcessor.thread_introns, IntronPathStorage.fill -/

theorem threadIntrons_map (f : Iv → Iv) (hf : Injective f) (c : Collector) (l : List Iv) :
    threadIntrons (mapCollector f c) (l.map f) = (threadIntrons c l).map (List.map f) := by
  simp only [IsoVerif.Lemmas.C04.threadIntrons_spec', List.any_map, Function.comp_def, mapCollector_discarded,
    mem_map_inj f hf, List.map_map, substitute_map f hf, apply_ite (Option.map (List.map f)), Option.map_none,
    Option.map_some]

/-- the terminal codes `fill` looks at are kept by `f` -/
def CodePres (f : Iv → Iv) : Prop :=
  ∀ v, ((f v).1 = VERTEX_polya ↔ v.1 = VERTEX_polya) ∧ ((f v).1 = VERTEX_polyt ↔ v.1 = VERTEX_polyt)

def mapPath (f : Iv → Iv) (x : List Iv × Bool) : List Iv × Bool := (x.1.map f, x.2)

/-- the path and the full-length flag `fill` assembles from the threaded introns and the two chosen end vertices -/
def assemblePath (path : List Iv) (te ts : Option Iv) (rp : Bool) : List Iv × Bool :=
  let path1 := match te with | some v => path ++ [v] | none => path
  let path2 := match ts with | some v => v :: path1 | none => path1
  let fl := match te, ts with
    | some tv, some sv => !rp || decide (tv.1 = VERTEX_polya) || decide (sv.1 = VERTEX_polyt)
    | _, _ => false
  (path2, fl)

theorem assemblePath_map (f : Iv → Iv) (hc : CodePres f) (path : List Iv) (te ts : Option Iv) (rp : Bool) :
    assemblePath (path.map f) (te.map f) (ts.map f) rp = mapPath f (assemblePath path te ts rp) := by
  cases te with
  | none => cases ts <;> simp [assemblePath, mapPath]
  | some tv =>
    cases ts with
    | none => simp [assemblePath, mapPath]
    | some sv => simp [assemblePath, mapPath, (hc tv).1, (hc sv).2]

theorem readPath_eq (g : Graph) (p : ThreadParams) (a : Read) :
    readPath g p a =
      if a.multimapper then none
      else match threadIntrons g.col a.introns with
        | none => none
        | some [] => none
        | some (i :: t) =>
          match a.exons.head?, a.exons.getLast?, (i :: t).getLast? with
          | some firstExon, some lastExon, some lastIntron =>
            some (assemblePath (i :: t) (p.ends lastIntron lastExon.2 (decide (a.strand = "+") && a.polya))
              (p.starts i firstExon.1 (decide (a.strand = "-") && a.polyt)) p.requiresPolya)
          | _, _, _ => none := by
  unfold readPath assemblePath
  rfl

theorem readPath_map (f : Iv → Iv) (hf : Injective f) (hc : CodePres f) (k : Int) (p p' : ThreadParams)
    (hp : ParamsRel f k p p') (g : Graph) (a : Read) :
    readPath (mapGraph f g) p' (mapRead f k a) = (readPath g p a).map (mapPath f) := by
  obtain ⟨he, hs, hr⟩ := hp
  rw [readPath_eq, readPath_eq]
  simp only [mapRead_multimapper, mapRead_introns, mapRead_exons, mapRead_strand, mapRead_polya, mapRead_polyt,
    mapGraph_col, threadIntrons_map f hf, shiftL_head?, shiftL_getLast?]
  rcases Bool.eq_false_or_eq_true a.multimapper with hm | hm
  · simp only [hm, if_true, Option.map_none]
  · simp only [hm, Bool.false_eq_true, if_false]
    cases threadIntrons g.col a.introns with
    | none => rfl
    | some path =>
      cases path with
      | nil => rfl
      | cons i t =>
        simp only [Option.map_some, List.map_cons]
        rw [← List.map_cons, List.getLast?_map]
        cases a.exons.head? with
        | none => rfl
        | some fe =>
          cases a.exons.getLast? with
          | none => rfl
          | some le =>
            cases (i :: t).getLast? with
            | none => rfl
            | some li =>
              simp only [Option.map_some, shiftIv_fst, shiftIv_snd, he, hs, hr, List.map_cons]
              rw [← List.map_cons, assemblePath_map f hc]
              rfl

theorem amGet?_paths_map {β β' : Type} (f : Iv → Iv) (hf : Injective f) (g : β → β') (m : List (List Iv × β))
    (path : List Iv) :
    amGet? (m.map (fun p => (p.1.map f, g p.2))) (path.map f) = (amGet? m path).map g :=
  amGet?_map (List.map f) (listMap_injective hf) g m path

theorem amSet_paths_map {β β' : Type} (f : Iv → Iv) (hf : Injective f) (g : β → β') (m : List (List Iv × β))
    (path : List Iv) (v : β) :
    amSet (m.map (fun p => (p.1.map f, g p.2))) (path.map f) (g v) = (amSet m path v).map (fun p => (p.1.map f, g p.2)) :=
  amSet_map (List.map f) (listMap_injective hf) g m path v

theorem fillStep_map (f : Iv → Iv) (hf : Injective f) (hc : CodePres f) (k : Int) (p p' : ThreadParams)
    (hp : ParamsRel f k p p') (g : Graph) (ps : PathStore) (a : Read) :
    fillStep (mapGraph f g) p' (mapStore f k ps) (mapRead f k a) = mapStore f k (fillStep g p ps a) := by
  unfold fillStep
  rw [readPath_map f hf hc k p p' hp]
  cases readPath g p a with
  | none => rfl
  | some x =>
    obtain ⟨path, fl⟩ := x
    simp only [Option.map_some, mapPath, mapStore]
    have h1 : cnt (ps.paths.map (fun p => (p.1.map f, p.2))) (path.map f) = cnt ps.paths path := by
      have := amGet?_paths_map f hf (id : Int → Int) ps.paths path
      simp only [id] at this
      simp only [cnt, this]; cases amGet? ps.paths path <;> rfl
    have h2 := amSet_paths_map f hf (id : Int → Int) ps.paths path (cnt ps.paths path + 1)
    simp only [id] at h2
    have h3 := amGet?_paths_map f hf (List.map (mapRead f k)) ps.toReads path
    have h4 := amSet_paths_map f hf (List.map (mapRead f k)) ps.toReads path ((amGet? ps.toReads path).getD [] ++ [a])
    have h5 : setAdd (ps.fl.map (List.map f)) (path.map f) = (setAdd ps.fl path).map (List.map f) :=
      setAdd_map (List.map f) (listMap_injective hf) ps.fl path
    rw [h1, h2, h3, h5]
    have h6 : ((amGet? ps.toReads path).map (List.map (mapRead f k))).getD [] ++ [mapRead f k a]
        = ((amGet? ps.toReads path).getD [] ++ [a]).map (mapRead f k) := by
      cases amGet? ps.toReads path <;> simp
    rw [h6, h4]
    cases fl <;> rfl

theorem fillPaths_map (f : Iv → Iv) (hf : Injective f) (hc : CodePres f) (k : Int) (p p' : ThreadParams)
    (hp : ParamsRel f k p p') (g : Graph) (reads : List Read) :
    fillPaths (mapGraph f g) p' (reads.map (mapRead f k)) = mapStore f k (fillPaths g p reads) :=
  foldl_map_comm (mapStore f k) (mapRead f k) (fillStep g p) (fillStep (mapGraph f g) p')
    (fun ps a => fillStep_map f hf hc k p p' hp g ps a) reads PathStore.empty


theorem shiftIv_lePres (k : Int) : LePres (shiftIv k) := by
  intro a b
  simp only [ivLe, shiftIv]
  grind

theorem shiftIv_diffPres (k : Int) : DiffPres (shiftIv k) := by
  intro a b
  simp only [shiftIv]
  omega

/-! for `0 ≤ k` an intron vertex keeps a first component `≥ 0` and a terminal vertex keeps its negative code, so the
two branches of `shiftV` never meet -/

theorem shiftV_inj (k : Int) (hk : 0 ≤ k) : Injective (shiftV k) := by
  intro a b h
  simp only [shiftV, shiftIv] at h
  ext <;> grind

theorem shiftV_lePres (k : Int) (hk : 0 ≤ k) : LePres (shiftV k) := by
  intro a b
  simp only [shiftV, shiftIv, ivLe]
  grind

theorem shiftV_kindPres (k : Int) (hk : 0 ≤ k) : KindPres (shiftV k) := by
  intro v
  simp only [shiftV, shiftIv, isIntronVertex]
  grind

theorem shiftV_codePres (k : Int) (hk : 0 ≤ k) : CodePres (shiftV k) := by
  intro v
  simp only [shiftV, shiftIv, VERTEX_polya, VERTEX_polyt]
  grind

theorem shiftV_neg_shiftV (k : Int) (v : Iv) (h : GoodV k v) : shiftV (-k) (shiftV k v) = v := by
  simp only [GoodV] at h
  simp only [shiftV, shiftIv]
  ext <;> grind

theorem goodV_of_nonneg (k : Int) (hk : 0 ≤ k) (v : Iv) : GoodV k v := by
  unfold GoodV; omega

theorem shiftV_shiftV_neg (k : Int) (hk : k ≤ 0) (v : Iv) : shiftV k (shiftV (-k) v) = v := by
  have := shiftV_neg_shiftV (-k) v (goodV_of_nonneg (-k) (by omega) v)
  rwa [Int.neg_neg] at this

theorem mapCollector_comp (f h : Iv → Iv) (c : Collector) :
    mapCollector f (mapCollector h c) = mapCollector (f ∘ h) c := by
  simp only [mapCollector, List.map_map]; rfl

theorem mapGraph_comp (f h : Iv → Iv) (g : Graph) : mapGraph f (mapGraph h g) = mapGraph (f ∘ h) g := by
  simp only [mapGraph, mapCollector_comp, List.map_map]; rfl

theorem mapOp_comp (f h : Iv → Iv) (op : Op) : mapOp f (mapOp h op) = mapOp (f ∘ h) op := by
  cases op <;> rfl

theorem mapPairs_eq_self (f : Iv → Iv) (m : List (Iv × Iv)) (hk : ∀ v ∈ amKeys m, f v = v)
    (hv : ∀ v ∈ amVals m, f v = v) : m.map (mapPair f) = m :=
  map_eq_self _ _ (fun x hx => by rw [mapPair, hk _ (List.mem_map_of_mem hx), hv _ (List.mem_map_of_mem hx)])

theorem mapCollector_eq_self (f : Iv → Iv) (c : Collector) (h : ∀ v ∈ collectorAllVerts c, f v = v) :
    mapCollector f c = c := by
  simp only [collectorAllVerts, List.forall_mem_append] at h
  obtain ⟨⟨⟨⟨h1, h2⟩, h3⟩, h4⟩, h5⟩ := h
  simp only [mapCollector, map_eq_self f _ h1, map_eq_self f _ h5, mapPairs_eq_self f _ h3 h4,
    map_eq_self (mapKey f) _ (fun x hx => by rw [mapKey, h2 _ (List.mem_map_of_mem hx)])]

theorem mapGraph_eq_self (f : Iv → Iv) (g : Graph) (h : ∀ v ∈ graphAllVerts g, f v = v) : mapGraph f g = g := by
  simp only [graphAllVerts, List.forall_mem_append] at h
  obtain ⟨⟨⟨⟨h1, h2⟩, h3⟩, h4⟩, h5⟩ := h
  simp only [mapGraph, mapCollector_eq_self f _ h1, mapPairs_eq_self f _ h2 h3, mapPairs_eq_self f _ h4 h5]

theorem mapOp_eq_self (f : Iv → Iv) (op : Op) (h : ∀ v ∈ opVerts op, f v = v) : mapOp f op = op := by
  cases op <;> simp only [opVerts, List.mem_cons, List.not_mem_nil, or_false, forall_eq_or_imp, forall_eq] at h <;>
    simp only [mapOp, h]

theorem mapOps_eq_self (f : Iv → Iv) (ops : List Op) (h : ∀ op ∈ ops, ∀ v ∈ opVerts op, f v = v) :
    ops.map (mapOp f) = ops :=
  map_eq_self _ _ (fun op hop => mapOp_eq_self f op (h op hop))

/-- the generic step from `0 ≤ k` to all `k`: a partial function that commutes with the shifts by `j ≥ 0` on the inputs that
    are `Ok j` commutes with the shift by `k` on every input on which the shift by `-k` undoes the shift by `k` (and whose
    shifted copy is `Ok (-k)`: for `k < 0` the statement for `k` is the statement for `-k` read from the shifted side) -/
theorem commute_of_nonneg {X Y : Type} (sx : Int → X → X) (sy : Int → Y → Y) (F : X → Option Y) (Ok : Int → X → Prop)
    (hpos : ∀ j, 0 ≤ j → ∀ x, Ok j x → F (sx j x) = (F x).map (sy j))
    (hyinv : ∀ k, k ≤ 0 → ∀ y, sy k (sy (-k) y) = y)
    (k : Int) (x : X) (hok : Ok k x) (hok' : k ≤ 0 → Ok (-k) (sx k x)) (hx : sx (-k) (sx k x) = x) :
    F (sx k x) = (F x).map (sy k) := by
  by_cases hk : 0 ≤ k
  · exact hpos k hk x hok
  · have h1 := hpos (-k) (by omega) (sx k x) (hok' (by omega))
    rw [hx] at h1
    rw [h1, Option.map_map]
    have : (sy k ∘ sy (-k)) = id := by funext y; exact hyinv k (by omega) y
    rw [this, Option.map_id]
    rfl

/-! `X_inv`: the shift by `−k` undoes the shift by `k` on good input.  `X_inv'`: for `k ≤ 0` the shift by `k` undoes the
shift by `−k`, no hypothesis (the shape `hyinv` of `commute_of_nonneg` asks for). -/

theorem mapGraph_shiftV_inv (k : Int) (g : Graph) (h : GoodG k g) :
    mapGraph (shiftV (-k)) (mapGraph (shiftV k) g) = g := by
  rw [mapGraph_comp]
  exact mapGraph_eq_self _ g (fun v hv => shiftV_neg_shiftV k v (h v hv))

theorem mapOp_shiftV_inv (k : Int) (op : Op) (h : GoodOp k op) : mapOp (shiftV (-k)) (mapOp (shiftV k) op) = op := by
  rw [mapOp_comp]
  exact mapOp_eq_self _ op (fun v hv => shiftV_neg_shiftV k v (h v hv))

theorem mapGraph_shiftV_inv' (k : Int) (hk : k ≤ 0) (g : Graph) :
    mapGraph (shiftV k) (mapGraph (shiftV (-k)) g) = g := by
  rw [mapGraph_comp]
  exact mapGraph_eq_self _ g (fun v _ => shiftV_shiftV_neg k hk v)

theorem mapRead_inv (k : Int) (r : Read) (h : ∀ v ∈ r.introns, GoodV k v) :
    mapRead (shiftV (-k)) (-k) (mapRead (shiftV k) k r) = r := by
  have h1 : (r.introns.map (shiftV k)).map (shiftV (-k)) = r.introns := by
    rw [List.map_map]; exact map_eq_self _ _ (fun v hv => shiftV_neg_shiftV k v (h v hv))
  cases r
  simp only [mapRead, shiftL_shiftL, Int.add_right_neg, shiftL_zero, Read.mk.injEq, and_true, true_and] at h1 ⊢
  exact h1

theorem mapRead_inv' (k : Int) (hk : k ≤ 0) (r : Read) : mapRead (shiftV k) k (mapRead (shiftV (-k)) (-k) r) = r := by
  have := mapRead_inv (-k) r (fun v _ => goodV_of_nonneg (-k) (by omega) v)
  rwa [Int.neg_neg] at this

theorem mapStore_inv' (k : Int) (hk : k ≤ 0) (ps : PathStore) :
    mapStore (shiftV k) k (mapStore (shiftV (-k)) (-k) ps) = ps := by
  have hl : ∀ l : List Iv, (l.map (shiftV (-k))).map (shiftV k) = l := fun l => by
    rw [List.map_map]; exact map_eq_self _ _ (fun v _ => shiftV_shiftV_neg k hk v)
  have hr : ∀ l : List Read, (l.map (mapRead (shiftV (-k)) (-k))).map (mapRead (shiftV k) k) = l := fun l => by
    rw [List.map_map]; exact map_eq_self _ _ (fun r _ => mapRead_inv' k hk r)
  cases ps with
  | mk paths fl toReads =>
    simp only [mapStore, List.map_map, PathStore.mk.injEq]
    refine ⟨?_, ?_, ?_⟩
    · exact map_eq_self _ _ (fun x _ => by simp only [Function.comp_def, hl])
    · exact map_eq_self _ _ (fun x _ => by simp only [Function.comp_def, hl])
    · exact map_eq_self _ _ (fun x _ => by simp only [Function.comp_def, hl, hr])

theorem paramsRel_inv (k : Int) (hk : k ≤ 0) (p p' : ThreadParams) (hp : ParamsRel (shiftV k) k p p')
    (hg : GoodParams k p) : ParamsRel (shiftV (-k)) (-k) p' p := by
  -- the same argument for `ends` and `starts`
  have aux : ∀ (F F' : Iv → Int → Bool → Option Iv), (∀ i e t, F' (shiftV k i) (e + k) t = (F i e t).map (shiftV k)) →
      (∀ i e t v, F i e t = some v → GoodV k v) → ∀ i e t, F (shiftV (-k) i) (e + -k) t = (F' i e t).map (shiftV (-k)) := by
    intro F F' hF hgood i e t
    have h := hF (shiftV (-k) i) (e + -k) t
    rw [shiftV_shiftV_neg k hk i, Int.neg_add_cancel_right] at h
    rw [h, Option.map_map]
    cases hv : F (shiftV (-k) i) (e + -k) t with
    | none => rfl
    | some v => simp only [Option.map_some, Function.comp_def, shiftV_neg_shiftV k v (hgood _ _ _ v hv)]
  exact ⟨aux _ _ hp.1 hg.1, aux _ _ hp.2.1 hg.2, hp.2.2.symm⟩

theorem mapPath_inv' (k : Int) (hk : k ≤ 0) (x : List Iv × Bool) :
    mapPath (shiftV k) (mapPath (shiftV (-k)) x) = x := by
  obtain ⟨l, b⟩ := x
  simp only [mapPath, List.map_map, Prod.mk.injEq, and_true]
  exact map_eq_self _ _ (fun v _ => shiftV_shiftV_neg k hk v)

theorem threadIntrons_reverse (c : Collector) (l : List Iv) :
    threadIntrons c l.reverse = (threadIntrons c l).map List.reverse := by
  rw [IsoVerif.Lemmas.C04.threadIntrons_spec', IsoVerif.Lemmas.C04.threadIntrons_spec', List.any_reverse, List.map_reverse]
  cases l.any (fun i => decide (i ∈ c.discarded)) <;> rfl

theorem addEdge_mirror (L : Int) (g : Graph) (v1 v2 : Iv) :
    (mirrorGraph L g).addEdge (mirrorIv L v2) (mirrorIv L v1) = mirrorGraph L (g.addEdge v1 v2) := by
  have hf := mirrorIv_injective L
  simp only [Graph.addEdge, mirrorGraph, substitute_map (mirrorIv L) hf, setAdd_mapPair (mirrorIv L) hf]

theorem readEdgeOps_snoc (l : List Iv) (a : Iv) :
    readEdgeOps (l ++ [a]) = readEdgeOps l ++ (match l.getLast? with | some x => [Op.addEdge x a] | none => []) := by
  fun_induction readEdgeOps l with
  | case1 => rfl
  | case2 x => rfl
  | case3 x y t ih =>
    simp only [List.cons_append, readEdgeOps, List.getLast?_cons_cons] at ih ⊢
    rw [ih]

theorem count_mirrorL (L : Int) (l : List Iv) (x : Iv) : (mirrorL L l).count (mirrorIv L x) = l.count x := by
  unfold mirrorL
  rw [List.count_reverse]
  exact count_map_inj (mirrorIv L) (mirrorIv_injective L) l x

theorem count_obsIntrons_mirror (L : Int) (reads : List Read) (x : Iv) :
    (obsIntrons (reads.map (mirrorRead L))).count (mirrorIv L x) = (obsIntrons reads).count x := by
  unfold obsIntrons
  induction reads with
  | nil => rfl
  | cons r t ih =>
    have hm : (mirrorRead L r).multimapper = r.multimapper := rfl
    have hi : (mirrorRead L r).introns = mirrorL L r.introns := rfl
    simp only [List.map_cons, List.filter_cons, hm]
    rcases Bool.eq_false_or_eq_true r.multimapper with h | h
    · simp only [h, Bool.not_true, Bool.false_eq_true, if_false]; exact ih
    · simp only [h, Bool.not_false, if_true, List.flatMap_cons, List.count_append, hi, count_mirrorL, ih]

end IsoVerif.Lemmas.C11.GraphMap
