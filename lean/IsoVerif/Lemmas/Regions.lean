/-
Helper lemmas for C05 (Props/C05.lean): tilings; bins (`bin_spec` is the one place in the C05 files that unfolds the division);
coverage dictionary keys (values: at the end of the file); the two loops of `split_coverage_regions`, also as loops over a coverage
function (`splitOuter_eq_on`); the index dictionaries of the in-memory storage and `fill_index` (`fillLoop`: both
scans in one); invariants of `add_alignment` through `buildStore_induction`; the `process` loop and its clusters
(`find_duplicates` and the index selection of `select_best_assignment`: Lemmas/RegionsDuplicates.lean).
-/
import IsoVerif.Model.Regions
import IsoVerif.Lemmas.Interval

namespace IsoVerif.Lemmas.Regions
open IsoVerif.Gen IsoVerif.Model.Regions

/-- `regs` is a chain of non-empty closed intervals, each starting right after the previous one ends,
    the first starting at `a`, the last ending at `b` (`a = b + 1` for the empty chain) -/
def TilesFrom : Int → List Iv → Int → Prop
  | a, [], b => a = b + 1
  | a, r :: rs, b => r.1 = a ∧ r.1 ≤ r.2 ∧ TilesFrom (r.2 + 1) rs b

theorem tilesFrom_cover {a b : Int} {regs : List Iv} (h : TilesFrom a regs b) (p : Int) (h1 : a ≤ p) (h2 : p ≤ b) :
    ∃ r, r ∈ regs ∧ r.1 ≤ p ∧ p ≤ r.2 := by
  induction regs generalizing a with
  | nil => simp [TilesFrom] at h; omega
  | cons r rs ih =>
    obtain ⟨ha, hwf, hrest⟩ := h
    by_cases hp : p ≤ r.2
    · exact ⟨r, by simp, by omega, hp⟩
    · obtain ⟨r', hr', h3, h4⟩ := ih hrest (by omega)
      exact ⟨r', by simp [hr'], h3, h4⟩

theorem tilesFrom_le {a b : Int} {regs : List Iv} (h : TilesFrom a regs b) : a ≤ b + 1 := by
  induction regs generalizing a with
  | nil => simp [TilesFrom] at h; omega
  | cons r rs ih =>
    obtain ⟨ha, hwf, hrest⟩ := h
    have := ih hrest
    omega

theorem tilesFrom_sub {a b : Int} {regs : List Iv} (h : TilesFrom a regs b) :
    ∀ r, r ∈ regs → a ≤ r.1 ∧ r.1 ≤ r.2 ∧ r.2 ≤ b := by
  induction regs generalizing a with
  | nil => simp
  | cons r rs ih =>
    obtain ⟨ha, hwf, hrest⟩ := h
    intro r' hr'
    rcases List.mem_cons.1 hr' with rfl | hmem
    · have := tilesFrom_le hrest
      omega
    · have := ih hrest r' hmem
      omega

theorem tilesFrom_disjoint {a b : Int} {regs : List Iv} (h : TilesFrom a regs b) :
    regs.Pairwise (fun r r' => r.2 < r'.1) := by
  induction regs generalizing a with
  | nil => simp
  | cons r rs ih =>
    obtain ⟨ha, hwf, hrest⟩ := h
    refine List.pairwise_cons.2 ⟨?_, ih hrest⟩
    intro r' hr'
    have := (tilesFrom_sub hrest r' hr').1
    omega

theorem tilesFrom_setFirstStart {a b x : Int} {r : Iv} {rs : List Iv} (h : TilesFrom a (r :: rs) b) (hx : x ≤ r.2) :
    TilesFrom x (setFirstStart x (r :: rs)) b := by
  obtain ⟨_, _, hrest⟩ := h
  exact ⟨rfl, hx, hrest⟩

theorem tilesFrom_setLastEnd {a b x : Int} {regs : List Iv} (h : TilesFrom a regs b) (hne : regs ≠ []) (hx : b ≤ x) :
    TilesFrom a (setLastEnd x regs) x := by
  induction regs generalizing a with
  | nil => exact absurd rfl hne
  | cons r rs ih =>
    obtain ⟨ha, hwf, hrest⟩ := h
    cases rs with
    | nil =>
      simp [TilesFrom] at hrest
      simp [setLastEnd, TilesFrom]
      omega
    | cons r' rs' =>
      simp only [setLastEnd]
      exact ⟨ha, hwf, ih hrest (by simp)⟩

theorem setLastEnd_ne_nil {x : Int} {regs : List Iv} (hne : regs ≠ []) : setLastEnd x regs ≠ [] := by
  match regs with
  | [] => exact absurd rfl hne
  | [r] => simp [setLastEnd]
  | r :: r' :: rs => simp [setLastEnd]

theorem bin_spec (x : Int) : bin x * ap_COVERAGE_BIN ≤ x ∧ x < bin x * ap_COVERAGE_BIN + ap_COVERAGE_BIN := by
  simp only [bin, ap_COVERAGE_BIN]; omega

theorem bin_mono {x y : Int} (h : x ≤ y) : bin x ≤ bin y := by
  have := bin_spec x; have := bin_spec y
  simp only [ap_COVERAGE_BIN] at *; omega

theorem bin_lt_of_lt {x y : Int} (h : bin x < bin y) : x < y := by
  have := bin_spec x; have := bin_spec y
  simp only [ap_COVERAGE_BIN] at *; omega

theorem bin_min (x y : Int) : bin (min x y) = min (bin x) (bin y) := by
  rcases Int.le_total x y with h | h
  · rw [Int.min_eq_left h, Int.min_eq_left (bin_mono h)]
  · rw [Int.min_eq_right h, Int.min_eq_right (bin_mono h)]

theorem bin_max (x y : Int) : bin (max x y) = max (bin x) (bin y) := by
  rcases Int.le_total x y with h | h
  · rw [Int.max_eq_right h, Int.max_eq_right (bin_mono h)]
  · rw [Int.max_eq_left h, Int.max_eq_left (bin_mono h)]

def optMin (o : Option Int) (k : Int) : Int := match o with | none => k | some m => min k m
def optMax (o : Option Int) (k : Int) : Int := match o with | none => k | some m => max k m

theorem minKey_cons (p : Int × Int) (ps : CovDict) : minKey (p :: ps) = some (optMin (minKey ps) p.1) := by
  rw [minKey]; cases minKey ps <;> rfl

theorem maxKey_cons (p : Int × Int) (ps : CovDict) : maxKey (p :: ps) = some (optMax (maxKey ps) p.1) := by
  rw [maxKey]; cases maxKey ps <;> rfl

theorem optMin_le (o : Option Int) (k : Int) : optMin o k ≤ k := by
  cases o with
  | none => exact Int.le_refl k
  | some m => exact Int.min_le_left k m

theorem le_optMax (o : Option Int) (k : Int) : k ≤ optMax o k := by
  cases o with
  | none => exact Int.le_refl k
  | some m => exact Int.le_max_left k m

theorem minKey_le {d : CovDict} {m : Int} (h : minKey d = some m) : ∀ p, p ∈ d → m ≤ p.1 := by
  induction d generalizing m with
  | nil => simp
  | cons q qs ih =>
    rw [minKey_cons, Option.some.injEq] at h
    subst h
    intro p hp
    rcases List.mem_cons.1 hp with rfl | hmem
    · exact optMin_le _ _
    · cases qs with
      | nil => cases hmem
      | cons q' qs' =>
        rw [minKey_cons q' qs']
        exact Int.le_trans (Int.min_le_right _ _) (ih (minKey_cons q' qs') p hmem)

theorem maxKey_ge {d : CovDict} {m : Int} (h : maxKey d = some m) : ∀ p, p ∈ d → p.1 ≤ m := by
  induction d generalizing m with
  | nil => simp
  | cons q qs ih =>
    rw [maxKey_cons, Option.some.injEq] at h
    subst h
    intro p hp
    rcases List.mem_cons.1 hp with rfl | hmem
    · exact le_optMax _ _
    · cases qs with
      | nil => cases hmem
      | cons q' qs' =>
        rw [maxKey_cons q' qs']
        exact Int.le_trans (ih (maxKey_cons q' qs') p hmem) (Int.le_max_right _ _)

theorem optMax_of_le (o : Option Int) {a b : Int} (h : a ≤ b) : max b (optMax o a) = optMax o b := by
  cases o with
  | none => exact Int.max_eq_left h
  | some m => show max b (max a m) = max b m; rw [← Int.max_assoc, Int.max_eq_left h]

theorem minKey_covBump (d : CovDict) (k : Int) : minKey (covBump d k) = some (optMin (minKey d) k) := by
  induction d with
  | nil => rfl
  | cons p ps ih =>
    rw [covBump, minKey_cons p ps]
    by_cases hk : p.1 = k
    · rw [if_pos hk, minKey_cons, ← hk]
      exact congrArg some (Int.min_eq_right (optMin_le _ _)).symm
    · rw [if_neg hk, minKey_cons, ih]
      refine congrArg some ?_
      cases minKey ps with
      | none => exact Int.min_comm _ _
      | some m => show min p.1 (min k m) = min k (min p.1 m); rw [← Int.min_assoc, Int.min_comm p.1, Int.min_assoc]

theorem maxKey_covBump (d : CovDict) (k : Int) : maxKey (covBump d k) = some (optMax (maxKey d) k) := by
  induction d with
  | nil => rfl
  | cons p ps ih =>
    rw [covBump, maxKey_cons p ps]
    by_cases hk : p.1 = k
    · rw [if_pos hk, maxKey_cons, ← hk]
      exact congrArg some (Int.max_eq_right (le_optMax _ _)).symm
    · rw [if_neg hk, maxKey_cons, ih]
      refine congrArg some ?_
      cases maxKey ps with
      | none => exact Int.max_comm _ _
      | some m => show max p.1 (max k m) = max k (max p.1 m); rw [← Int.max_assoc, Int.max_comm p.1, Int.max_assoc]

theorem minKey_covBumpRange (n : Nat) : ∀ (d : CovDict) (lo : Int),
    minKey (covBumpRange d lo (n + 1)) = some (optMin (minKey d) lo) := by
  induction n with
  | zero => intro d lo; exact minKey_covBump d lo
  | succ n ih =>
    intro d lo
    rw [covBumpRange, ih, minKey_covBump]
    have := optMin_le (minKey d) lo
    exact congrArg some (Int.min_eq_right (by omega))

theorem maxKey_covBumpRange (n : Nat) : ∀ (d : CovDict) (lo : Int),
    maxKey (covBumpRange d lo (n + 1)) = some (optMax (maxKey d) (lo + n)) := by
  induction n with
  | zero => intro d lo; rw [Int.natCast_zero, Int.add_zero]; exact maxKey_covBump d lo
  | succ n ih =>
    intro d lo
    rw [covBumpRange, ih, maxKey_covBump, show lo + 1 + (n : Int) = lo + (n + 1 : Nat) by omega]
    exact congrArg some (optMax_of_le _ (by omega))

theorem covGet_eq_zero_of_not_key {d : CovDict} {k : Int} (h : ∀ p, p ∈ d → p.1 ≠ k) : covGet d k = 0 := by
  induction d with
  | nil => rfl
  | cons q qs ih =>
    simp only [covGet]
    rw [if_neg (h q (by simp))]
    exact ih (fun p hp => h p (by simp [hp]))

/-- a lookup beyond the largest key reads the `defaultdict` default -/
theorem covGet_gt_maxKey {d : CovDict} {m k : Int} (h : maxKey d = some m) (hk : m < k) : covGet d k = 0 :=
  covGet_eq_zero_of_not_key (fun p hp => by have := maxKey_ge h p hp; omega)

/-! ### the loops of `split_coverage_regions` -/

theorem aboveValley_zero (mc : Int) : aboveValley 0 mc = false := by
  simp [aboveValley, ap_ABS_COV_VALLEY]

theorem splitInner_spec (d : CovDict) (last cs : Int) (hcov : ∀ k, last < k → covGet d k = 0) :
    ∀ (fuel : Nat) (pos mc : Int), pos ≤ last + 1 → (last + 2 - pos).toNat ≤ fuel →
      ∃ p mc', splitInner d last cs fuel pos mc = some (p, mc') ∧ pos ≤ p ∧ p ≤ last + 1 := by
  intro fuel
  induction fuel with
  | zero => intro pos mc h1 h2; omega
  | succ n ih =>
    intro pos mc h1 h2
    simp only [splitInner]
    split
    · rename_i hc
      have hpos : pos ≤ last := by
        rcases hc with hc | hc
        · exact hc.1
        · by_cases hp : pos ≤ last
          · exact hp
          · rw [hcov pos (by omega), aboveValley_zero] at hc
            exact absurd hc (by simp)
      obtain ⟨p, mc', h3, h4, h5⟩ := ih (pos + 1) (max mc (covGet d pos)) (by omega) (by omega)
      exact ⟨p, mc', h3, by omega, h5⟩
    · exact ⟨pos, mc, rfl, by omega, h1⟩

/-- the sub-region closed at bin `p` after a start at bin `cs`, inside a region `R` whose ends lie in the bins
    `first ≤ cs < p ≤ last + 1`, `cs < last`: it is not empty, the next one starts right behind it, and when `p` is at the
    last bin it ends in that bin.  `256` is `ap_COVERAGE_BIN` written out, so that the statement is linear for `omega` -/
theorem subRegion_bounds {R : Iv} {first last cs p : Int} (hR : R.1 ≤ R.2)
    (hf : first * 256 ≤ R.1 ∧ R.1 < first * 256 + 256) (hl : last * 256 ≤ R.2 ∧ R.2 < last * 256 + 256)
    (h1 : first ≤ cs) (h2 : cs < p) (h3 : p ≤ last + 1) (h4 : cs < last) :
    max (cs * 256 + 1) R.1 ≤ min (p * 256) R.2 ∧
      (p + 1 ≤ last → min (p * 256) R.2 + 1 = max (p * 256 + 1) R.1) ∧
      (last ≤ p → min (p * 256) R.2 ≤ R.2 ∧ last * 256 ≤ min (p * 256) R.2) := by
  omega

/-- `first`, `last` are the bins of the ends of `R`; the tiling may end before `R.2` (`last*BIN ≤ e ≤ R.2`): when the final
    bin is a valley the loop emits nothing for it -/
theorem splitOuter_spec (d : CovDict) (R : Iv) (first last : Int) (innerFuel : Nat)
    (hcov : ∀ k, last < k → covGet d k = 0) (hR : R.1 ≤ R.2)
    (hf : first * ap_COVERAGE_BIN ≤ R.1 ∧ R.1 < first * ap_COVERAGE_BIN + ap_COVERAGE_BIN)
    (hl : last * ap_COVERAGE_BIN ≤ R.2 ∧ R.2 < last * ap_COVERAGE_BIN + ap_COVERAGE_BIN)
    (hif : (last + 2 - first).toNat ≤ innerFuel) :
    ∀ (fuel : Nat) (cs pos mc : Int), first ≤ cs → (pos ≤ last → cs < pos) → pos ≤ last + 1 →
      (last + 1 - pos).toNat + 1 ≤ fuel →
      ∃ regs, splitOuter d R last innerFuel fuel cs pos mc = some regs ∧
        (last < pos → regs = []) ∧
        (pos ≤ last → regs ≠ [] ∧ ∃ e, TilesFrom (max (cs * ap_COVERAGE_BIN + 1) R.1) regs e ∧ e ≤ R.2 ∧
          last * ap_COVERAGE_BIN ≤ e) := by
  intro fuel
  simp only [ap_COVERAGE_BIN] at hf hl ⊢
  induction fuel with
  | zero => intro cs pos mc _ _ _ h; omega
  | succ n ih =>
    intro cs pos mc h1 h2 h3 h4
    simp only [splitOuter, ap_COVERAGE_BIN]
    by_cases hp : pos ≤ last
    · rw [if_pos hp]
      obtain ⟨p, mc', hi1, hi2, hi3⟩ := splitInner_spec d last cs hcov innerFuel pos mc h3 (by omega)
      rw [hi1]
      have hcs := h2 hp
      obtain ⟨rest, hr1, hr2, hr3⟩ := ih p (min (p + 1) (last + 1)) (covGet d p) (by omega) (by omega) (by omega) (by omega)
      obtain ⟨hne, hnext, hend⟩ :=
        subRegion_bounds hR hf hl h1 (Int.lt_of_lt_of_le hcs hi2) hi3 (Int.lt_of_lt_of_le hcs hp)
      simp only [hr1]
      refine ⟨_, rfl, fun h => absurd hp (by omega), fun _ => ⟨by simp, ?_⟩⟩
      by_cases hq : p + 1 ≤ last
      · obtain ⟨_, e, ht, he1, he2⟩ := hr3 (by omega)
        exact ⟨e, ⟨rfl, hne, hnext hq ▸ ht⟩, he1, he2⟩
      · rw [hr2 (by omega)]
        exact ⟨_, ⟨rfl, hne, rfl⟩, hend (by omega)⟩
    · rw [if_neg hp]
      exact ⟨[], rfl, fun _ => rfl, fun h => absurd h hp⟩

/-! ### the loops read the dictionary only through `covGet` -/

def splitInnerOn (cov : Int → Int) (last cs : Int) : Nat → Int → Int → Option (Int × Int)
  | 0, _, _ => none
  | fuel + 1, pos, maxCov =>
    if (pos ≤ last ∧ pos - cs < minBins) ∨ aboveValley (cov pos) maxCov = true then
      splitInnerOn cov last cs fuel (pos + 1) (max maxCov (cov pos))
    else some (pos, maxCov)

def splitOuterOn (cov : Int → Int) (R : Iv) (last : Int) (innerFuel : Nat) : Nat → Int → Int → Int → Option (List Iv)
  | 0, _, _, _ => none
  | fuel + 1, cs, pos, maxCov =>
    if pos ≤ last then
      match splitInnerOn cov last cs innerFuel pos maxCov with
      | none => none
      | some (p, _) =>
        match splitOuterOn cov R last innerFuel fuel p (min (p + 1) (last + 1)) (cov p) with
        | none => none
        | some rest => some ((max (cs * ap_COVERAGE_BIN + 1) R.1, min (p * ap_COVERAGE_BIN) R.2) :: rest)
    else some []

theorem splitInner_eq_on (d : CovDict) (last cs : Int) (fuel : Nat) : ∀ (pos mc : Int),
    splitInner d last cs fuel pos mc = splitInnerOn (covGet d) last cs fuel pos mc := by
  induction fuel with
  | zero => intros; rfl
  | succ n ih => intros; simp only [splitInner, splitInnerOn, ih]

theorem splitOuter_eq_on (d : CovDict) (R : Iv) (last : Int) (innerFuel fuel : Nat) : ∀ (cs pos mc : Int),
    splitOuter d R last innerFuel fuel cs pos mc = splitOuterOn (covGet d) R last innerFuel fuel cs pos mc := by
  induction fuel with
  | zero => intros; rfl
  | succ n ih => intros; simp only [splitOuter, splitOuterOn, splitInner_eq_on, ih]; rfl

theorem covGet_range' (f : Nat → Int) (k : Int) : ∀ (n s : Nat),
    covGet ((List.range' s n).map fun (i : Nat) => ((i : Int), f i)) k = if (s : Int) ≤ k ∧ k < s + n then f k.toNat else 0
  | 0, s => by rw [if_neg (by omega)]; rfl
  | n + 1, s => by
    simp only [List.range'_succ, List.map_cons, covGet, covGet_range' f k n (s + 1)]
    by_cases h : (s : Int) = k
    · rw [if_pos h, if_pos (by omega), ← h, Int.toNat_natCast]
    · rw [if_neg h]
      by_cases h' : (s : Int) ≤ k ∧ k < s + (n + 1 : Nat)
      · rw [if_pos h', if_pos (by omega)]
      · rw [if_neg h', if_neg (by omega)]

theorem covGet_range (f : Nat → Int) (n : Nat) :
    covGet ((List.range n).map fun i => (Int.ofNat i, f i)) = fun k : Int => if 0 ≤ k ∧ k < n then f k.toNat else 0 := by
  funext k
  simpa [List.range_eq_range'] using covGet_range' f k n 0

/-- the fix of `split_coverage_regions` only post-processes the list of sub-regions -/
theorem splitCoverageRegions_eq (R : Iv) (count : Nat) (d : CovDict) :
    splitCoverageRegions R count d = (splitCoverageRegionsBuggy R count d).map (retile R) := by
  unfold splitCoverageRegions splitCoverageRegionsBuggy
  split
  · rfl
  · cases splitLoop R d <;> rfl

/-! ### the storage after `add_alignment`: sorted, well-formed alignments and the two index dictionaries (`StoreInv`) -/

/-- the alignments are in coordinate order (what a sorted BAM gives) -/
def SortedByStart (l : List Aln) : Prop := l.Pairwise (fun a b => a.start ≤ b.start)

/-- well-formed alignment: at least one reference base -/
def WFA (a : Aln) : Prop := a.start < a.stop

def pS (b : Int) : Aln → Bool := fun x => decide (x.binS = b)
def pE (b : Int) : Aln → Bool := fun x => decide (x.binE = b)
def pSge (b : Int) : Aln → Bool := fun x => decide (b ≤ x.binS)
def pEge (b : Int) : Aln → Bool := fun x => decide (b ≤ x.binE)

/-- what `add_alignment` maintains: the index dictionaries hold the first index per start / end bin -/
structure StoreInv (s : Store) : Prop where
  start : ∀ b, s.startIdx.get b = s.alns.findIdx? (pS b)
  stop : ∀ b, s.endIdx.get b = s.alns.findIdx? (pE b)

theorem storeInv_empty : StoreInv Store.empty := ⟨fun _ => rfl, fun _ => rfl⟩

theorem firstIdx_add (key : Aln → Int) {idx : Idx} {l : List Aln}
    (h : ∀ b, idx.get b = l.findIdx? (fun x => decide (key x = b))) (a : Aln) (b : Int) :
    (match idx.get (key a) with
      | none => idxSet idx (key a) l.length
      | some _ => idx).get b = (l ++ [a]).findIdx? (fun x => decide (key x = b)) := by
  have hsnoc : (l ++ [a]).findIdx? (fun x => decide (key x = b)) =
      (idx.get b).or (if key a = b then some l.length else none) := by
    rw [List.findIdx?_append, h b]; simp [List.findIdx?_cons]
  rw [hsnoc]
  by_cases hb : key a = b
  · subst hb
    cases hq : idx.get (key a) with
    | none => simp [idxSet]
    | some v => simp [hq]
  · have hb' : ¬ b = key a := fun e => hb e.symm
    rw [if_neg hb, Option.or_none]
    cases idx.get (key a) with
    | none => simp only [idxSet, if_neg hb']
    | some v => rfl

theorem storeInv_add {s : Store} (h : StoreInv s) (a : Aln) : StoreInv (s.add a) :=
  ⟨firstIdx_add Aln.binS h.start a, firstIdx_add Aln.binE h.stop a⟩

theorem add_alns (s : Store) (a : Aln) : (s.add a).alns = s.alns ++ [a] := rfl

theorem buildStore_induction {P : Store → Prop} (l : List Aln) (h0 : P Store.empty)
    (hadd : ∀ s, ∀ a ∈ l, P s → P (s.add a)) : P (buildStore l) :=
  List.foldlRecOn l Store.add h0 fun s hs a ha => hadd s a ha hs

theorem buildStore_alns (l : List Aln) : (buildStore l).alns = l := by
  unfold buildStore
  suffices h : ∀ s : Store, (l.foldl Store.add s).alns = s.alns ++ l from (h _).trans (List.nil_append l)
  induction l with
  | nil => intro s; exact (List.append_nil _).symm
  | cons a l ih => intro s; rw [List.foldl_cons, ih, add_alns, List.append_assoc]; rfl

theorem buildStore_inv (l : List Aln) : StoreInv (buildStore l) :=
  buildStore_induction l storeInv_empty fun _ a _ h => storeInv_add h a

/-! ### `fill_index` -/

/-- first index whose start bin is `≥ b` (the list length when there is none) -/
def firstS (c : List Aln) (b : Int) : Nat := c.findIdx (pSge b)
def firstE (c : List Aln) (b : Int) : Nat := c.findIdx (pEge b)

theorem findIdx_ge_succ (key : Aln → Int) {c : List Aln} {b : Int}
    (h : c.findIdx? (fun x => decide (key x = b)) = none) :
    c.findIdx (fun x => decide (b ≤ key x)) = c.findIdx (fun x => decide (b + 1 ≤ key x)) := by
  apply findIdx_congr'
  intro x hx
  have := (List.findIdx?_eq_none_iff.1 h) x hx
  simp at this
  simp; omega

theorem binS_mono {a b : Aln} (h : a.start ≤ b.start) : a.binS ≤ b.binS := bin_mono h

theorem firstS_of_some {c : List Aln} (hs : SortedByStart c) {b : Int} {v : Nat} (h : c.findIdx? (pS b) = some v) :
    firstS c b = v := by
  obtain ⟨hv, hf⟩ := List.findIdx?_eq_some_iff_findIdx_eq.1 h
  have hpv : pS b c[v] = true := by
    have := List.findIdx_getElem (p := pS b) (xs := c) (w := by omega)
    simpa [hf] using this
  simp only [pS, decide_eq_true_eq] at hpv
  unfold firstS
  rw [List.findIdx_eq hv]
  refine ⟨by simp [pSge]; omega, ?_⟩
  intro j hj
  have hnot : pS b c[j] = false := List.not_of_lt_findIdx (by omega)
  simp only [pS, decide_eq_false_iff_not] at hnot
  have hle := binS_mono ((List.pairwise_iff_getElem.1 hs) j v (by omega) hv hj)
  simp [pSge]; omega

theorem firstE_of_some {c : List Aln} {b : Int} {v : Nat} (h : c.findIdx? (pE b) = some v) :
    firstE c b = if decide (v > firstE c (b + 1)) = true then firstE c (b + 1) else v := by
  obtain ⟨hv, hf⟩ := List.findIdx?_eq_some_iff_findIdx_eq.1 h
  have : firstE c b = min v (firstE c (b + 1)) := by
    unfold firstE
    rw [← hf, List.min_findIdx_findIdx]
    apply findIdx_congr'
    intro x _
    simp only [pEge, pE]
    rw [Bool.eq_iff_iff]
    simp; omega
  by_cases hv : v > firstE c (b + 1)
  · rw [if_pos (decide_eq_true hv)]; omega
  · rw [if_neg (mt of_decide_eq_true hv)]; omega

/-- the two downward loops of `fill_index` in one: a stored index `v` is replaced by the running one when
    `drop v cur` -/
def fillLoop (drop : Nat → Nat → Bool) : Nat → Int → Idx → Nat → Idx
  | 0, _, idx, _ => idx
  | n + 1, pos, idx, cur =>
    match idx.get pos with
    | none => fillLoop drop n (pos - 1) (idxSet idx pos cur) cur
    | some v =>
      if drop v cur then fillLoop drop n (pos - 1) (idxSet idx pos cur) cur
      else fillLoop drop n (pos - 1) idx v

theorem fillStartLoop_eq (n : Nat) : ∀ (pos : Int) (idx : Idx) (cur : Nat),
    fillStartLoop n pos idx cur = fillLoop (fun _ _ => false) n pos idx cur := by
  induction n with
  | zero => intros; rfl
  | succ n ih => intros; simp only [fillStartLoop, fillLoop, ih, Bool.false_eq_true, if_false]; rfl

theorem fillEndLoop_eq (n : Nat) : ∀ (pos : Int) (idx : Idx) (cur : Nat),
    fillEndLoop n pos idx cur = fillLoop (fun v cur => decide (v > cur)) n pos idx cur := by
  induction n with
  | zero => intros; rfl
  | succ n ih => intros; simp only [fillEndLoop, fillLoop, ih, decide_eq_true_eq]; rfl

/-- the loop started at `pos` with `cur = F (pos + 1)` on a dictionary that holds `raw` up to `pos`: the bins
    `(pos - n, pos]` end up holding `F`, the others are untouched; `F` is any function that follows the loop's two
    cases -/
theorem fillLoop_spec (drop : Nat → Nat → Bool) (raw : Int → Option Nat) (F : Int → Nat)
    (hnone : ∀ b, raw b = none → F b = F (b + 1))
    (hsome : ∀ b v, raw b = some v → F b = if drop v (F (b + 1)) then F (b + 1) else v) :
    ∀ (n : Nat) (pos : Int) (idx : Idx) (cur : Nat), (∀ b, b ≤ pos → idx.get b = raw b) → cur = F (pos + 1) →
      ∀ b, (pos - n < b → b ≤ pos → (fillLoop drop n pos idx cur).get b = some (F b)) ∧
           ((b ≤ pos - n ∨ pos < b) → (fillLoop drop n pos idx cur).get b = idx.get b) := by
  intro n
  induction n with
  | zero => intro pos idx cur _ _ b; exact ⟨fun h1 h2 => by omega, fun _ => rfl⟩
  | succ n ih =>
    intro pos idx cur hraw hcur b
    -- one step leaves a dictionary that holds `F pos` at `pos` and is unchanged elsewhere, and `cur = F pos`
    obtain ⟨idx', hstep, hpos, hother⟩ : ∃ idx', fillLoop drop (n + 1) pos idx cur = fillLoop drop n (pos - 1) idx' (F pos) ∧
        idx'.get pos = some (F pos) ∧ ∀ b, b ≠ pos → idx'.get b = idx.get b := by
      have hset : ∀ b, b ≠ pos → (idxSet idx pos cur).get b = idx.get b := fun b hb => if_neg hb
      rw [fillLoop]
      cases hq : idx.get pos with
      | none =>
        have hF : F pos = cur := by rw [hnone pos (by rw [← hraw pos (Int.le_refl _), hq]), hcur]
        exact ⟨_, by rw [hF], by rw [hF]; exact if_pos rfl, hset⟩
      | some v =>
        have hF := hsome pos v (by rw [← hraw pos (Int.le_refl _), hq])
        rw [← hcur] at hF
        dsimp only
        by_cases hd : drop v cur = true
        · rw [if_pos hd] at hF ⊢
          exact ⟨_, by rw [hF], by rw [hF]; exact if_pos rfl, hset⟩
        · rw [if_neg hd] at hF ⊢
          exact ⟨idx, by rw [hF], by rw [hF, hq], fun _ _ => rfl⟩
    rw [hstep]
    have ih' := ih (pos - 1) idx' (F pos) (fun b' hb' => by rw [hother b' (by omega)]; exact hraw b' (by omega))
      (by rw [Int.sub_add_cancel]) b
    constructor
    · intro h1 h2
      by_cases hb : b = pos
      · rw [ih'.2 (Or.inr (by omega)), hb, hpos]
      · exact ih'.1 (by omega) (by omega)
    · intro h
      rw [ih'.2 (by omega), hother b (by omega)]

/-! ### `add_alignment`: the region is the hull of the stored alignments (`RegionInv`) -/

/-- what `add_alignment` maintains about `region`: it is the hull of the stored alignments -/
def RegionInv (s : Store) : Prop :=
  match s.region with
  | none => s.alns = []
  | some R => s.alns ≠ [] ∧ (∀ x, x ∈ s.alns → R.1 ≤ x.start ∧ x.stop - 1 ≤ R.2) ∧
      (∃ x, x ∈ s.alns ∧ x.start = R.1) ∧ (∃ x, x ∈ s.alns ∧ x.stop - 1 = R.2)

theorem regionInv_empty : RegionInv Store.empty := rfl

theorem regionInv_add {s : Store} (h : RegionInv s) (a : Aln) : RegionInv (s.add a) := by
  unfold RegionInv at h ⊢
  simp only [Store.add]
  cases hr : s.region with
  | none =>
    rw [hr] at h
    simp only [hullAdd, h]
    refine ⟨by simp, ?_, ⟨a, by simp, rfl⟩, ⟨a, by simp, rfl⟩⟩
    intro x hx
    simp at hx
    subst hx
    omega
  | some R =>
    rw [hr] at h
    obtain ⟨hne, hc, ⟨x1, hx1, hx1'⟩, ⟨x2, hx2, hx2'⟩⟩ := h
    simp only [hullAdd]
    refine ⟨by simp, ?_, ?_, ?_⟩
    · intro x hx
      rcases List.mem_append.1 hx with hx | hx
      · have := hc x hx
        omega
      · simp at hx
        subst hx
        omega
    · by_cases hm : R.1 ≤ a.start
      · exact ⟨x1, by simp [hx1], by omega⟩
      · exact ⟨a, by simp, by omega⟩
    · by_cases hm : a.stop - 1 ≤ R.2
      · exact ⟨x2, by simp [hx2], by omega⟩
      · exact ⟨a, by simp, by omega⟩

theorem buildStore_regionInv (l : List Aln) : RegionInv (buildStore l) :=
  buildStore_induction l regionInv_empty fun _ a _ h => regionInv_add h a

theorem add_region_isSome (s : Store) (a : Aln) : (s.add a).region.isSome = true := rfl

theorem buildStore_region_of_ne {l : List Aln} (h : l ≠ []) : ∃ R, (buildStore l).region = some R := by
  have hi := buildStore_regionInv l
  unfold RegionInv at hi
  cases hr : (buildStore l).region with
  | none => rw [hr] at hi; rw [buildStore_alns] at hi; exact absurd hi h
  | some R => exact ⟨R, rfl⟩

theorem buildStore_region_spec {l : List Aln} {R : Iv} (h : (buildStore l).region = some R) :
    l ≠ [] ∧ (∀ x, x ∈ l → R.1 ≤ x.start ∧ x.stop - 1 ≤ R.2) ∧
      (∃ x, x ∈ l ∧ x.start = R.1) ∧ (∃ x, x ∈ l ∧ x.stop - 1 = R.2) := by
  have hi := buildStore_regionInv l
  unfold RegionInv at hi
  rw [h, buildStore_alns] at hi
  exact hi

theorem region_wf {l : List Aln} {R : Iv} (h : (buildStore l).region = some R) (hwf : ∀ x, x ∈ l → WFA x) :
    R.1 ≤ R.2 := by
  obtain ⟨_, hc, ⟨x, hx, hx'⟩, _⟩ := buildStore_region_spec h
  have := hc x hx
  have := hwf x hx
  unfold WFA at this
  omega

/-! ### `InMemoryAlignmentStorage.get_alignments` -/

theorem overlaps_hull {l : List Aln} {R : Iv} (h : (buildStore l).region = some R) (hwf : ∀ x, x ∈ l → WFA x) :
    ∀ x, x ∈ l → overlaps R x.iv = true := by
  obtain ⟨_, hc, _, _⟩ := buildStore_region_spec h
  intro x hx
  have := hc x hx
  have := hwf x hx
  unfold WFA at this
  rw [overlaps_true_iff]; simp only [Aln.iv]; omega

/-- **the index of the in-memory storage is exact**: for every sub-region `r` of the cluster's region the
    window `[alignment_end_index[bin r.1], alignment_start_index[bin r.2 + 1])` filtered by overlap is the
    overlap filter of the whole storage -/
theorem memGet_exact (c : List Aln) (hs : SortedByStart c) (hwf : ∀ x, x ∈ c → WFA x) (R : Iv)
    (hreg : (buildStore c).region = some R) (r : Iv) (h1 : R.1 ≤ r.1) (h2 : r.1 ≤ r.2) (h3 : r.2 ≤ R.2) :
    (buildStore c).memGet (some r) = some (c.filter (fun a => overlaps r a.iv)) := by
  obtain ⟨hne, hc, _, _⟩ := buildStore_region_spec hreg
  have hinv := buildStore_inv c
  have halns := buildStore_alns c
  simp only [Store.memGet, Store.memGetOff]
  by_cases heq : some r = (buildStore c).region
  · rw [if_pos heq, halns]
    rw [hreg] at heq
    injection heq with heq
    subst heq
    congr 1
    symm
    rw [List.filter_eq_self]
    intro a ha
    exact overlaps_hull hreg hwf a ha
  · rw [if_neg heq]
    simp only [Store.fillIndex, hreg, halns]
    -- all start / end bins are ≤ bin R.2
    have hbins : ∀ x, x ∈ c → x.binS ≤ bin R.2 ∧ x.binE ≤ bin R.2 := fun x hx =>
      have := hc x hx
      have : x.start < x.stop := hwf x hx
      ⟨bin_mono (by omega), bin_mono (by omega)⟩
    have hcurS : c.length = firstS c (bin R.2 + 1 + 1) :=
      (List.findIdx_eq_length.2 fun x hx => by have := hbins x hx; simp [pSge]; omega).symm
    have hcurE : c.length = firstE c (bin R.2 + 1 + 1) :=
      (List.findIdx_eq_length.2 fun x hx => by have := hbins x hx; simp [pEge]; omega).symm
    have hbR : bin R.1 ≤ bin R.2 := bin_mono (by omega)
    have hb1 : bin R.1 ≤ bin r.1 := bin_mono h1
    have hb2 : bin r.1 ≤ bin r.2 := bin_mono h2
    have hb3 : bin r.2 ≤ bin R.2 := bin_mono h3
    -- after `fill_index` the two dictionaries hold `firstS c` / `firstE c` on the bins of the region (`fillLoop_spec`)
    have hS := (fillLoop_spec (fun _ _ => false) (fun b => c.findIdx? (pS b)) (firstS c) (fun _ => findIdx_ge_succ Aln.binS)
      (fun b v h => by rw [firstS_of_some hs h]; rfl) (bin R.2 + 1 + 1 - bin R.1).toNat (bin R.2 + 1)
      (buildStore c).startIdx c.length (fun b _ => hinv.start b ▸ by rw [halns]) hcurS (bin r.2 + 1)).1 (by omega) (by omega)
    have hE := (fillLoop_spec (fun v cur => decide (v > cur)) (fun b => c.findIdx? (pE b)) (firstE c) (fun _ => findIdx_ge_succ Aln.binE) (fun _ _ => firstE_of_some)
      (bin R.2 + 1 + 1 - bin R.1).toNat (bin R.2 + 1) (buildStore c).endIdx c.length
      (fun b _ => hinv.stop b ▸ by rw [halns]) hcurE (bin r.1)).1 (by omega) (by omega)
    rw [fillStartLoop_eq, fillEndLoop_eq]
    rw [hE, hS]
    simp only
    rw [if_pos (by unfold firstS; exact List.findIdx_le_length)]
    congr 1
    apply filter_window
    · intro k hk hlt
      have hnot : pEge (bin r.1) c[k] = false := List.not_of_lt_findIdx hlt
      have hnot1 : ¬ (bin r.1 ≤ c[k].binE) := of_decide_eq_false hnot
      have hnot' : bin (c[k].stop - 1) < bin r.1 := by simp only [Aln.binE] at hnot1; omega
      have := bin_lt_of_lt hnot'
      rw [overlaps_false_iff]; simp only [Aln.iv]; omega
    · intro k hk hge
      have hfl : firstS c (bin r.2 + 1) < c.length := by unfold firstS at hge ⊢; omega
      have hp0 : pSge (bin r.2 + 1) c[firstS c (bin r.2 + 1)] = true := List.findIdx_getElem (w := hfl)
      have hp : bin r.2 + 1 ≤ c[firstS c (bin r.2 + 1)].binS := of_decide_eq_true hp0
      have hle : c[firstS c (bin r.2 + 1)].binS ≤ c[k].binS := by
        by_cases hek : firstS c (bin r.2 + 1) = k
        · simp [hek]
        · exact binS_mono ((List.pairwise_iff_getElem.1 hs) _ k hfl hk (by unfold firstS at hge hek ⊢; omega))
      have := bin_lt_of_lt (by simp only [Aln.binS] at hp hle; omega : bin r.2 < bin c[k].start)
      rw [overlaps_false_iff]; simp only [Aln.iv]; omega

/-! ### `add_alignment`: the extreme keys of the coverage dictionary (`CovInv`) -/

/-- what `add_alignment` maintains about `coverage_dict`: its extreme keys are the bins of the region's ends -/
def CovInv (s : Store) : Prop :=
  match s.region with
  | none => s.cov = []
  | some R => minKey s.cov = some (bin R.1) ∧ maxKey s.cov = some (bin R.2)

theorem covInv_add {s : Store} (h : CovInv s) (a : Aln) (hw : WFA a) : CovInv (s.add a) := by
  unfold CovInv at h ⊢
  have hbins : a.binS ≤ a.binE := bin_mono (by unfold WFA at hw; omega)
  obtain ⟨n, hn⟩ : ∃ n : Nat, (a.binE + 1 - a.binS).toNat = n + 1 := ⟨(a.binE - a.binS).toNat, by omega⟩
  have hn' : a.binS + (n : Int) = a.binE := by omega
  simp only [Store.add, hn, minKey_covBumpRange, maxKey_covBumpRange, hn']
  cases hr : s.region with
  | none =>
    rw [hr] at h
    rw [h]
    exact ⟨rfl, rfl⟩
  | some R =>
    rw [hr] at h
    simp only [h.1, h.2, hullAdd, bin_min, bin_max, optMin, optMax]
    exact ⟨congrArg some (Int.min_comm _ _), congrArg some (Int.max_comm _ _)⟩

theorem covInv_empty : CovInv Store.empty := rfl

/-- `CovInv` of a built storage with a region, read off (`Props.C05.DictFor` is this conjunction) -/
theorem buildStore_cov_spec {l : List Aln} (hw : ∀ x, x ∈ l → WFA x) {R : Iv} (h : (buildStore l).region = some R) :
    minKey (buildStore l).cov = some (bin R.1) ∧ maxKey (buildStore l).cov = some (bin R.2) := by
  have hk : CovInv (buildStore l) := buildStore_induction l covInv_empty fun _ a ha h => covInv_add h a (hw a ha)
  rwa [CovInv, h] at hk

/-! ### the `process` loop -/

theorem add_eq_build (p : List Aln) (a : Aln) : (buildStore p).add a = buildStore (p ++ [a]) := by
  simp [buildStore, List.foldl_append]

/-- alignments of different storages do not overlap: everything in `c1` ends before anything in `c2` starts -/
def Before (c1 c2 : List Aln) : Prop := ∀ x, x ∈ c1 → ∀ b, b ∈ c2 → x.stop - 1 < b.start

/-- invariant of `processStep`, the loop of `AlignmentCollector.process`, on a coordinate-sorted, well-formed input `whole`;
    `rest` = the records not yet read -/
structure Inv (whole : List Aln) (st : PState) (rest : List Aln) : Prop where
  built : st.store = buildStore st.store.alns
  outBuilt : ∀ s, s ∈ st.out → s = buildStore s.alns ∧ s.alns ≠ []
  sorted : SortedByStart (st.store.alns ++ rest)
  wf : ∀ x, x ∈ st.store.alns ++ rest → WFA x
  sepOut : ∀ s, s ∈ st.out → Before s.alns (st.store.alns ++ rest)
  pairwiseOut : st.out.Pairwise (fun s1 s2 => Before s1.alns s2.alns)
  flat : (st.out.map (·.alns)).flatten ++ st.store.alns ++ rest = whole

theorem inv_init (l : List Aln) (hs : SortedByStart l) (hw : ∀ x, x ∈ l → WFA x) : Inv l PState.init l := by
  refine ⟨rfl, ?_, ?_, ?_, ?_, ?_, ?_⟩ <;> simp [PState.init, Store.empty, hs] <;> first | exact hw | skip
  all_goals simp

theorem Inv.flush {whole : List Aln} {st : PState} {rest : List Aln} (h : Inv whole st rest) (hne : st.store.alns ≠ []) :
    (∀ s, s ∈ st.out ++ [st.store] → s = buildStore s.alns ∧ s.alns ≠ []) ∧
      (st.out ++ [st.store]).Pairwise (fun s1 s2 => Before s1.alns s2.alns) := by
  refine ⟨fun s hs => ?_, List.pairwise_append.2 ⟨h.pairwiseOut, List.pairwise_singleton _ _, fun s1 hs1 s2 hs2 => ?_⟩⟩
  · rcases List.mem_append.1 hs with hs | hs
    · exact h.outBuilt s hs
    · rw [List.mem_singleton.1 hs]; exact ⟨h.built, hne⟩
  · rw [List.mem_singleton.1 hs2]
    exact fun x hx b hb => h.sepOut s1 hs1 x hx b (List.mem_append_left _ hb)

theorem inv_step {whole : List Aln} {st : PState} {a : Aln} {l : List Aln} (h : Inv whole st (a :: l)) :
    Inv whole (processStep st a) l := by
  have hsorted := h.sorted
  unfold SortedByStart at hsorted
  rw [List.pairwise_append] at hsorted
  obtain ⟨hs1, hs2, hs3⟩ := hsorted
  have hwa : WFA a := h.wf a (by simp)
  unfold processStep
  split
  · rename_i hna
    -- a new cluster starts with `a`
    cases hr : st.store.region with
    | none => rw [hr] at hna; simp [notAdjacent] at hna
    | some R =>
      rw [hr] at hna
      have hov : overlaps R a.iv = false := by simpa [notAdjacent] using hna
      have hreg : (buildStore st.store.alns).region = some R := by rw [← h.built]; exact hr
      obtain ⟨hne, hc, ⟨x1, hx1, hx1'⟩, _⟩ := buildStore_region_spec hreg
      have hR2 : R.2 < a.start := by
        rcases (overlaps_false_iff R a.iv).1 hov with h1 | h1
        · exact h1
        · have := hs3 x1 hx1 a (by simp)
          unfold WFA at hwa
          simp only [Aln.iv] at h1
          omega
      have hstoreBefore : Before st.store.alns ([a] ++ l) := by
        intro x hx b hb
        have hxR := hc x hx
        have hab : a.start ≤ b.start := by
          rcases List.mem_append.1 hb with hb | hb
          · simp at hb; subst hb; omega
          · exact (List.pairwise_cons.1 hs2).1 b hb
        omega
      -- `(Store.empty.add a).alns ++ l` is `a :: l` by computation
      refine ⟨rfl, (h.flush hne).1, hs2, fun x hx => h.wf x (List.mem_append_right _ hx), ?_, (h.flush hne).2, ?_⟩
      · intro s hs
        rcases List.mem_append.1 hs with hs | hs
        · exact fun x hx b hb => h.sepOut s hs x hx b (List.mem_append_right _ hb)
        · rw [List.mem_singleton.1 hs]; exact hstoreBefore
      · have := h.flat
        simp only [add_alns, Store.empty, List.map_append, List.flatten_append] at this ⊢
        simpa using this
  · -- `a` joins the current storage
    have e : (st.store.add a).alns ++ l = st.store.alns ++ a :: l := by rw [add_alns, List.append_assoc]; rfl
    refine ⟨?_, h.outBuilt, ?_, ?_, ?_, h.pairwiseOut, ?_⟩
    · show st.store.add a = buildStore (st.store.add a).alns
      rw [add_alns, ← add_eq_build, ← h.built]
    · show SortedByStart ((st.store.add a).alns ++ l)
      rw [e]; exact h.sorted
    · show ∀ x, x ∈ (st.store.add a).alns ++ l → WFA x
      rw [e]; exact h.wf
    · show ∀ s, s ∈ st.out → Before s.alns ((st.store.add a).alns ++ l)
      rw [e]; exact h.sepOut
    · show (st.out.map (·.alns)).flatten ++ (st.store.add a).alns ++ l = whole
      rw [List.append_assoc, e, ← List.append_assoc]; exact h.flat

theorem inv_foldl {whole : List Aln} : ∀ (l : List Aln) (st : PState), Inv whole st l →
    Inv whole (l.foldl processStep st) [] := by
  intro l
  induction l with
  | nil => intro st h; exact h
  | cons a l ih => intro st h; exact ih _ (inv_step h)

theorem statStep_foldl (l : List Aln) (s : Stats) (t : AlignmentType) :
    (l.foldl statStep s) t = s t + (l.filter (fun a => decide (statKey a = some t))).length := by
  induction l generalizing s with
  | nil => simp
  | cons a l ih =>
    simp only [List.foldl_cons, ih, List.filter_cons]
    unfold statStep
    cases hk : statKey a with
    | none => simp
    | some k =>
      by_cases htk : t = k
      · subst htk; simp; omega
      · have : ¬ (k = t) := fun h => htk h.symm
        simp [htk, this]

theorem stats_foldl (l : List Aln) (st : PState) :
    (l.foldl processStep st).stats = l.foldl statStep st.stats := by
  induction l generalizing st with
  | nil => rfl
  | cons a l ih =>
    simp only [List.foldl_cons]
    rw [ih]
    congr 1
    unfold processStep
    split <;> rfl

theorem processStores_spec (l : List Aln) (hs : SortedByStart l) (hw : ∀ x, x ∈ l → WFA x) :
    (∀ s, s ∈ processStores l → s = buildStore s.alns ∧ s.alns ≠ []) ∧
    ((processStores l).map (·.alns)).flatten = l ∧
    (processStores l).Pairwise (fun s1 s2 => Before s1.alns s2.alns) := by
  have h := inv_foldl l _ (inv_init l hs hw)
  unfold processStores processFinish
  generalize l.foldl processStep PState.init = st at h
  cases hr : st.store.region with
  | none =>
    have hnil : st.store.alns = [] := by
      have := buildStore_regionInv st.store.alns
      unfold RegionInv at this
      rw [← h.built, hr] at this
      exact this
    simp only [Option.isSome_none, Bool.false_eq_true, if_false]
    refine ⟨h.outBuilt, ?_, h.pairwiseOut⟩
    have := h.flat
    simpa [hnil] using this
  | some R =>
    have hreg : (buildStore st.store.alns).region = some R := by rw [← h.built]; exact hr
    obtain ⟨hne, _⟩ := buildStore_region_spec hreg
    simp only [Option.isSome_some, if_true]
    have := h.flat
    exact ⟨(h.flush hne).1, by simpa using this, (h.flush hne).2⟩

/-- a storage forwarded by `process` in its context: the input is `pre ++ cluster ++ post`, everything before the cluster
    ends before it starts, it ends before anything behind it starts; the cluster inherits order and well-formedness -/
theorem processStores_mem {l : List Aln} (hs : SortedByStart l) (hw : ∀ x, x ∈ l → WFA x) {s : Store}
    (hmem : s ∈ processStores l) :
    s = buildStore s.alns ∧ s.alns ≠ [] ∧ SortedByStart s.alns ∧ (∀ x, x ∈ s.alns → WFA x) ∧
      ∃ pre post, l = pre ++ s.alns ++ post ∧ Before pre s.alns ∧ Before s.alns post := by
  obtain ⟨hb, hflat, hpw⟩ := processStores_spec l hs hw
  obtain ⟨S1, S2, hS⟩ := List.append_of_mem hmem
  have hall : l = (S1.map (·.alns)).flatten ++ s.alns ++ (S2.map (·.alns)).flatten := by
    rw [← hflat, hS]; simp
  rw [hS, List.pairwise_append] at hpw
  obtain ⟨_, hpw2, hpw3⟩ := hpw
  refine ⟨(hb s hmem).1, (hb s hmem).2, ?_, fun x hx => hw x (by rw [hall]; simp [hx]), _, _, hall, ?_, ?_⟩
  · unfold SortedByStart at hs ⊢
    rw [hall, List.pairwise_append, List.pairwise_append] at hs
    exact hs.1.2.1
  · intro x hx b hb'
    obtain ⟨c1, hc1, hxc1⟩ := List.mem_flatten.1 hx
    obtain ⟨s1, hs1, rfl⟩ := List.mem_map.1 hc1
    exact hpw3 s1 hs1 s (by simp) x hxc1 b hb'
  · intro x hx b hb'
    obtain ⟨c2, hc2, hbc2⟩ := List.mem_flatten.1 hb'
    obtain ⟨s2, hs2, rfl⟩ := List.mem_map.1 hc2
    exact (List.pairwise_cons.1 hpw2).1 s2 hs2 x hx b hbc2

/-! ### `forward_alignments` -/

theorem mapRegions_of_forall {get : Iv → Option (List Aln)} {f : Iv → List Aln} :
    ∀ (regs : List Iv), (∀ r, r ∈ regs → get r = some (f r)) →
      mapRegions get regs = some (regs.map (fun r => (r, f r))) := by
  intro regs
  induction regs with
  | nil => intro _; rfl
  | cons r rs ih =>
    intro h
    simp only [mapRegions, h r (by simp), ih (fun r' hr' => h r' (by simp [hr'])), List.map_cons]

/-- what both storages hand to `process_alignments_in_region` for a cluster `c` with region `R` split into `regs` -/
def expectedForward (c : List Aln) (R : Iv) (regs : List Iv) : List (Iv × List Aln) :=
  match regs with
  | [_] => [(R, c)]
  | _ => regs.map (fun r => (r, c.filter (fun a => overlaps r a.iv)))

theorem forwardWith_of {split : Iv → Nat → CovDict → Option (List Iv)} {get : Option Iv → Option (List Aln)}
    {s : Store} {R : Iv} {regs : List Iv} {c : List Aln} (hreg : s.region = some R)
    (hsplit : split R s.alns.length s.cov = some regs) (hall : get none = some c)
    (hsub : ∀ r, r ∈ regs → get (some r) = some (c.filter (fun a => overlaps r a.iv))) :
    forwardWith split get s = some (expectedForward c R regs) := by
  unfold forwardWith
  rw [hreg]
  simp only [hsplit]
  match regs, hsub with
  | [], _ => rfl
  | [r], _ => simp [hall, expectedForward]
  | r :: r' :: rs, hsub =>
    simp only [expectedForward]
    exact mapRegions_of_forall (get := fun r => get (some r)) _ hsub

/-- pysam `fetch` on the whole chromosome returns, for a sub-region of a cluster, exactly the overlap filter of the
    cluster: records of other clusters cannot overlap it -/
theorem bamGet_cluster {pre c post : List Aln} {R r : Iv} (hpre : Before pre c) (hpost : Before c post)
    (hlo : ∃ x, x ∈ c ∧ x.start = R.1) (hhi : ∃ x, x ∈ c ∧ x.stop - 1 = R.2) (h1 : R.1 ≤ r.1) (h2 : r.2 ≤ R.2) :
    bamGet (pre ++ c ++ post) r = c.filter (fun a => overlaps r a.iv) := by
  obtain ⟨x1, hx1, hx1'⟩ := hlo
  obtain ⟨x2, hx2, hx2'⟩ := hhi
  unfold bamGet
  have out : ∀ l : List Aln, (∀ a ∈ l, a.stop - 1 < R.1 ∨ R.2 < a.start) → l.filter (fun a => overlaps r a.iv) = [] := by
    intro l hl
    rw [List.filter_eq_nil_iff]
    intro a ha
    have : overlaps r a.iv = false := by rw [overlaps_false_iff]; have := hl a ha; simp only [Aln.iv]; omega
    simp [this]
  rw [List.filter_append, List.filter_append, out pre fun a ha => Or.inl (hx1' ▸ hpre a ha x1 hx1),
    out post fun a ha => Or.inr (hx2' ▸ hpost x2 hx2 a ha), List.append_nil, List.nil_append]

theorem collectStores_of_forall {f : Store → Option (List (Iv × List Aln))} {g : Store → List (Iv × List Aln)} :
    ∀ (ss : List Store), (∀ s, s ∈ ss → f s = some (g s)) → collectStores f ss = some (ss.flatMap g) := by
  intro ss
  induction ss with
  | nil => intro _; rfl
  | cons s ss ih =>
    intro h
    simp only [collectStores, h s (by simp), ih (fun s' hs' => h s' (by simp [hs'])), List.flatMap_cons]

/-! ### the `process` loop: a cluster has no gap (`Conn`) -/

/-- no gap inside a cluster -/
def Conn (s : Store) : Prop :=
  ∀ R, s.region = some R → ∀ p, R.1 ≤ p → p ≤ R.2 → ∃ x, x ∈ s.alns ∧ x.start ≤ p ∧ p ≤ x.stop - 1

theorem conn_add {s : Store} (h : Conn s) (a : Aln)
    (hadj : notAdjacent s.region a = false) : Conn (s.add a) := by
  intro R' hR' p h1 h2
  simp only [Store.add] at hR'
  injection hR' with hR'
  cases hr : s.region with
  | none =>
    rw [hr] at hR'
    simp only [hullAdd] at hR'
    subst hR'
    exact ⟨a, by simp [add_alns], by simpa using h1, by simpa using h2⟩
  | some R =>
    rw [hr] at hR' hadj
    simp only [hullAdd] at hR'
    subst hR'
    have hov : overlaps R a.iv = true := by
      simp only [notAdjacent] at hadj
      cases ho : overlaps R a.iv with
      | true => rfl
      | false => rw [ho] at hadj; simp at hadj
    rw [overlaps_true_iff] at hov
    simp only [Aln.iv] at hov
    simp only at h1 h2
    by_cases hp : R.1 ≤ p ∧ p ≤ R.2
    · obtain ⟨x, hx, hx1, hx2⟩ := h R hr p hp.1 hp.2
      exact ⟨x, by simp [add_alns, hx], hx1, hx2⟩
    · exact ⟨a, by simp [add_alns], by omega, by omega⟩

theorem conn_empty : Conn Store.empty := by
  intro R hR; simp [Store.empty] at hR

structure InvConn (st : PState) : Prop where
  cur : Conn st.store
  out : ∀ s, s ∈ st.out → Conn s

theorem invConn_step {st : PState} {a : Aln} (h : InvConn st) : InvConn (processStep st a) := by
  unfold processStep
  split
  · refine ⟨conn_add conn_empty a rfl, ?_⟩
    intro s hs
    rcases List.mem_append.1 hs with hs | hs
    · exact h.out s hs
    · simp at hs; subst hs; exact h.cur
  · rename_i hna
    exact ⟨conn_add h.cur a (by simpa using hna), h.out⟩

theorem processStores_conn (l : List Aln) : ∀ s, s ∈ processStores l → Conn s := by
  have h := List.foldlRecOn l processStep (motive := InvConn) (b := PState.init) ⟨conn_empty, by simp [PState.init]⟩
    fun _ h _ _ => invConn_step h
  unfold processStores processFinish
  intro s hs
  split at hs
  · rcases List.mem_append.1 hs with hs | hs
    · exact h.out s hs
    · simp at hs; subst hs; exact h.cur
  · exact h.out s hs

/-! ### the values of the coverage dictionary of a storage (the keys: `minKey_covBump` ff. and `CovInv` above) -/

theorem covGet_covBump (d : CovDict) (k b : Int) : covGet (covBump d k) b = covGet d b + (if b = k then 1 else 0) := by
  induction d with
  | nil => grind [covBump, covGet]
  | cons p ps ih => grind [covBump, covGet]

theorem covGet_covBumpRange (n : Nat) : ∀ (d : CovDict) (lo b : Int),
    covGet (covBumpRange d lo n) b = covGet d b + (if lo ≤ b ∧ b < lo + n then 1 else 0) := by
  induction n with
  | zero => intro d lo b; grind [covBumpRange]
  | succ n ih => intro d lo b; grind [covBumpRange, covGet_covBump]

def spansBin (b : Int) (a : Aln) : Bool := decide (a.binS ≤ b) && decide (b ≤ a.binE)

theorem covGet_add (s : Store) (a : Aln) (b : Int) :
    covGet (s.add a).cov b = covGet s.cov b + (if spansBin b a = true then 1 else 0) := by
  simp only [Store.add, covGet_covBumpRange, spansBin, Bool.and_eq_true, decide_eq_true_eq]
  grind

theorem covGet_foldl (l : List Aln) (s : Store) (b : Int) :
    covGet (l.foldl Store.add s).cov b = covGet s.cov b + ((l.filter (spansBin b)).length : Int) := by
  induction l generalizing s with
  | nil => simp
  | cons a l ih => simp only [List.foldl_cons, ih, covGet_add, List.filter_cons]; grind

theorem covGet_buildStore (l : List Aln) (b : Int) :
    covGet (buildStore l).cov b = ((l.filter (spansBin b)).length : Int) := by
  unfold buildStore
  rw [covGet_foldl]
  simp [Store.empty, covGet]

/-- on the dictionary of a storage the loops of `split_coverage_regions` run from the bin of the region's start to the
    bin of its end and read, per bin, the number of stored alignments spanning it -/
theorem splitLoop_buildStore {l : List Aln} {S : Iv} (hw : ∀ x, x ∈ l → WFA x) (hS : (buildStore l).region = some S)
    (R : Iv) :
    splitLoop R (buildStore l).cov =
      let cov := fun b => ((l.filter (spansBin b)).length : Int)
      let fuel := (bin S.2 + 2 - bin S.1).toNat
      splitOuterOn cov R (bin S.2) fuel fuel (bin S.1) (bin S.1 + 1) (cov (bin S.1)) := by
  simp only [splitLoop, buildStore_cov_spec hw hS, splitOuter_eq_on, funext (covGet_buildStore l)]

end IsoVerif.Lemmas.Regions
