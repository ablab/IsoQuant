/-
Helper lemma for C12 (annotation ids): the key of a record whose type the specification keys by `transcript_id`.
-/
import IsoVerif.Model.GtfIds

namespace IsoVerif.Lemmas.C12Ids
open IsoVerif.Model.C12Ids

theorem keyOf_transcript_id {spec : List (String × String)} {r : GRec}
    (hk : spec.lookup r.ftype = some "transcript_id") : keyOf spec r = r.tid := by
  simp [keyOf, hk, attrOf]

end IsoVerif.Lemmas.C12Ids
