import IsoVerif.Lemmas.Lists
import IsoVerif.Lemmas.C11MirrorTruncate

/-! `truncate_read_to_polya` (no caller in the pipeline): single-sided truncations.  The polyA side is proved on the list cut
at the last exon starting before the tail; the polyT side is the polyA side of the reflected read. -/
namespace IsoVerif.Lemmas
open IsoVerif.Gen IsoVerif.Model

theorem endIndexLoop_skip (P : Int) (xs ys : List Iv) (i : Int) (h : ∀ x ∈ xs, P ≤ x.1) :
    endIndexLoop P (xs ++ ys) i = endIndexLoop P ys (i - xs.length) := by
  induction xs generalizing i with
  | nil => simp
  | cons x t ih =>
    have hx := h x (by simp)
    have hn : ¬ x.1 < P := by omega
    simp only [List.cons_append, endIndexLoop, hn, if_false, List.length_cons]
    rw [ih _ (fun y hy => h y (List.mem_cons_of_mem _ hy))]
    congr 1; omega

theorem endIndex_eq (pre post : List Iv) (e : Iv) (P : Int) (he : e.1 < P) (hpost : ∀ x ∈ post, P ≤ x.1) :
    endIndexLoop P (pre ++ e :: post).reverse (((pre ++ e :: post).length : Int) - 1) = pre.length := by
  have : (pre ++ e :: post).reverse = post.reverse ++ (e :: pre.reverse) := by simp
  rw [this, endIndexLoop_skip P _ _ _ (by simpa using hpost)]
  simp only [endIndexLoop, he, if_true]
  simp; omega

theorem truncate_polya_eq (pre post : List Iv) (e : Iv) (P : Int) (hP : P ≠ -1) (he : e.1 < P)
    (hpost : ∀ x ∈ post, P ≤ x.1) (t : Iv) (ht : (pre ++ e :: post).getLast? = some t) (hne : P ≠ t.2) :
    truncateReadToPolya (pre ++ e :: post) P (-1) = some (pre ++ [(e.1, P)]) := by
  have h1 : (P != -1) = true := by simpa using hP
  have h2 : ((-1 : Int) != -1) = false := by decide
  cases pre with
  | nil =>
    have hei := endIndex_eq [] post e P he hpost
    simp only [List.nil_append, List.length_nil] at hei ht ⊢
    simp only [truncateReadToPolya, List.head?_cons, ht, h1, h2, if_true, hei]
    simp [hne]
  | cons s pre' =>
    have hei := endIndex_eq (s :: pre') post e P he hpost
    simp only [List.cons_append] at hei ht ⊢
    simp only [truncateReadToPolya, List.head?_cons, ht, h1, h2, if_true, hei]
    have hg0 : pyGet? (s :: (pre' ++ e :: post)) 0 = some s := by simp [pyGet?]
    have hgk : pyGet? (s :: (pre' ++ e :: post)) ((s :: pre').length : Int) = some e := by
      rw [pyGet?_nat]; simp
    have hsl : pySlice (s :: (pre' ++ e :: post)) (0 + 1) ((s :: pre').length : Int) = pre' := by
      rw [show ((0 : Int) + 1) = ((1 : Nat) : Int) from rfl, pySlice_natCast]
      simp
    have hk : ¬ ((0 : Int) = ((s :: pre').length : Int)) := by simp only [List.length_cons]; omega
    simp only [Bool.false_eq_true, if_false, hne, and_false, hk, hg0, hgk, hsl]
    simp

theorem split_at_polya (exons : List Iv) (f : Iv) (P : Int) (h : SD exons) (w : WFl exons)
    (hf : exons.head? = some f) (hP : f.1 < P) :
    ∃ pre e post, exons = pre ++ e :: post ∧ e.1 < P ∧ ∀ x ∈ post, P ≤ x.1 := by
  induction exons generalizing f with
  | nil => simp at hf
  | cons a rest ih =>
    simp at hf; subst hf
    cases rest with
    | nil => exact ⟨[], a, [], rfl, hP, fun x hx => by cases hx⟩
    | cons b rest' =>
      by_cases hb : b.1 < P
      · obtain ⟨pre, e, post, heq, he, hpost⟩ := ih b (SD_tail h) (WFl_tail w) rfl hb
        exact ⟨a :: pre, e, post, by rw [heq]; rfl, he, hpost⟩
      · refine ⟨[], a, b :: rest', rfl, hP, fun x hx => ?_⟩
        have := SD_head_le (SD_tail h) (WFl_tail w) x hx
        omega

/-- polyA-side truncation at any `P` behind the first base of the read; the only positions the result covers beyond the
    read's lie between the end of the last exon starting before `P` and `P` -/
theorem truncate_polya_span_aux (exons : List Iv) (f t : Iv) (P : Int) (h : SD exons) (w : WFl exons)
    (hf : exons.head? = some f) (ht : exons.getLast? = some t) (hP : P ≠ -1) (hin : f.1 < P) :
    ∃ res, truncateReadToPolya exons P (-1) = some res ∧ SD res ∧ WFl res ∧
      res.head?.map (·.1) = some f.1 ∧ res.getLast?.map (·.2) = some P ∧
      (∀ p, p ≤ P → cov exons p → cov res p) ∧
      (∀ p, cov res p → p ≤ P ∧ (cov exons p ∨ ∀ e ∈ exons, e.1 < P → e.2 < p)) := by
  by_cases hid : P = t.2
  · refine ⟨exons, ?_, h, w, by simp [hf], by simp [ht, hid], fun p _ hc => hc, fun p hc => ?_⟩
    · simp [truncateReadToPolya, hf, ht, hid]
    · obtain ⟨r, hr, hr1, hr2⟩ := hc
      have := SD_le_last h w t ht r hr
      exact ⟨by omega, Or.inl ⟨r, hr, hr1, hr2⟩⟩
  · obtain ⟨pre, e, post, rfl, he, hpostP⟩ := split_at_polya exons f P h w hf hin
    obtain ⟨hwpre, hsd_e, hw_e, hpost, hpre⟩ := SD_split h w
    refine ⟨pre ++ [(e.1, P)], ?_, SD_append_replace pre post e _ h rfl, ?_, ?_, by simp, fun p hpP hc => ?_,
      fun p hc => ?_⟩
    · exact truncate_polya_eq pre post e P hP he hpostP t ht hid
    · exact WFl_append hwpre (fun r hr => by simp at hr; subst hr; simp only; omega)
    · cases pre with
      | nil => simp at hf ⊢; rw [← hf]
      | cons s pre' => simp at hf ⊢; rw [← hf]
    · rw [cov_append, cov_cons] at hc ⊢
      simp only [cov_nil, or_false]
      rcases hc with hc | hc | ⟨r, hr, hr1, hr2⟩
      · exact Or.inl hc
      · exact Or.inr ⟨hc.1, hpP⟩
      · have := hpostP r hr; right; exact ⟨by omega, hpP⟩
    · rw [cov_append, cov_cons] at hc
      simp only [cov_nil, or_false] at hc
      rcases hc with ⟨r, hr, hr1, hr2⟩ | ⟨h1, h2⟩
      · have := hpre r hr
        exact ⟨by omega, Or.inl ⟨r, by simp [hr], hr1, hr2⟩⟩
      · refine ⟨h2, ?_⟩
        by_cases hpe : p ≤ e.2
        · exact Or.inl ⟨e, by simp, h1, hpe⟩
        · right
          intro x hx hxP
          rcases List.mem_append.mp hx with hx' | hx'
          · have := hpre x hx'; omega
          · rcases List.mem_cons.mp hx' with rfl | hx''
            · omega
            · have := hpostP x hx''; omega

section
open IsoVerif.Model.C11 IsoVerif.Lemmas.C11 IsoVerif.Lemmas.C11.Lists

/-- polyT-side truncation at any `T` before the last base of the read -/
theorem truncate_polyt_span_aux (exons : List Iv) (f t : Iv) (T : Int) (h : SD exons) (w : WFl exons)
    (hf : exons.head? = some f) (ht : exons.getLast? = some t) (hT : T ≠ -1) (hin : T < t.2) :
    ∃ res, truncateReadToPolya exons (-1) T = some res ∧ SD res ∧ WFl res ∧
      res.head?.map (·.1) = some T ∧ res.getLast?.map (·.2) = some t.2 ∧
      (∀ p, T ≤ p → cov exons p → cov res p) ∧
      (∀ p, cov res p → T ≤ p ∧ (cov exons p ∨ ∀ e ∈ exons, T < e.2 → p < e.1)) := by
  -- reflect on a chromosome length that does not send `T` to the sentinel: the polyT side is the polyA side of the image
  obtain ⟨L, hL⟩ : ∃ L : Int, L + 1 - T ≠ -1 := ⟨T, by omega⟩
  have hm := truncateReadToPolya_mirror L exons (-1) T w (fun c => absurd rfl c)
    (fun _ => ⟨⟨t, List.mem_of_getLast? ht, hin⟩, hL⟩) (fun c => absurd rfl c)
  have hp : mirrorPos L T = L + 1 - T := by simp [mirrorPos, hT]
  have hn : mirrorPos L (-1) = -1 := by simp [mirrorPos]
  rw [hp, hn] at hm
  obtain ⟨res', hres', hsd', hwf', hhd', hlast', hkeep', hcov'⟩ :=
    truncate_polya_span_aux (mirrorL L exons) (mirrorIv L t) (mirrorIv L f) (L + 1 - T) (SD_mirror L _ h) (WFl_mirror L _ w)
      (by rw [mirrorL_head?, ht]; rfl) (by rw [mirrorL_getLast?, hf]; rfl) hL (by simp only [mirrorIv_fst]; omega)
  rw [hres'] at hm
  cases hr : truncateReadToPolya exons (-1) T with
  | none => rw [hr] at hm; cases hm
  | some res =>
    rw [hr, Option.map_some, Option.some.injEq] at hm
    subst hm
    have hsd := SD_mirror L _ hsd'
    have hwf := WFl_mirror L _ hwf'
    rw [mirrorL_mirrorL] at hsd hwf
    refine ⟨res, rfl, hsd, hwf, ?_, ?_, fun p hTp hc => ?_, fun p hc => ?_⟩
    · rw [mirrorL_getLast?, Option.map_map] at hlast'
      cases hh : res.head? with
      | none => rw [hh] at hlast'; cases hlast'
      | some a =>
        rw [hh] at hlast'
        simp only [Option.map_some, Option.some.injEq, Function.comp, mirrorIv_snd] at hlast' ⊢; omega
    · rw [mirrorL_head?, Option.map_map] at hhd'
      cases hh : res.getLast? with
      | none => rw [hh] at hhd'; cases hhd'
      | some a =>
        rw [hh] at hhd'
        simp only [Option.map_some, Option.some.injEq, Function.comp, mirrorIv_fst] at hhd' ⊢; omega
    · have := hkeep' (L + 1 - p) (by omega) ((Lemmas.cov_mirrorL L exons _).mpr (by rw [Int.sub_sub_self]; exact hc))
      rw [Lemmas.cov_mirrorL, Int.sub_sub_self] at this; exact this
    · obtain ⟨h1, h2⟩ := hcov' (L + 1 - p) ((Lemmas.cov_mirrorL L res _).mpr (by rw [Int.sub_sub_self]; exact hc))
      refine ⟨by omega, h2.imp (fun c => by rw [Lemmas.cov_mirrorL, Int.sub_sub_self] at c; exact c) (fun c e he hTe => ?_)⟩
      have := c (mirrorIv L e) ((mem_mirrorL L e exons).mpr he) (by simp only [mirrorIv_fst]; omega)
      simp only [mirrorIv_snd] at this; omega

end

end IsoVerif.Lemmas
