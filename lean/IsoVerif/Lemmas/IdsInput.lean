/-
Helper lemmas for Props/C17Input.lean: the fold invariant of `check_gtf_duplicates` (model: `IsoVerif/Model/IdsInput.lean`)
on the accepting path – as long as `gtf_correct` is still true nothing has been renamed, every counter is 0 and every
sequence list is a singleton.  Gene ids and transcript ids go through the same pair of dicts: `Tracked` is the invariant
of one id class, `Tracked.step` its one step, `ChkInv` holds it twice.
-/
import IsoVerif.Model.IdsInput
import IsoVerif.Lemmas.ListFacts

namespace IsoVerif.Lemmas.C17Input
open IsoVerif.Model.C17

/-- every record counter is 0: no record was repeated -/
def AllZero (d : Dict Nat) : Prop := ∀ k n, d.lookup k = some n → n = 0
/-- every sequence list is a singleton: no id was seen on two sequences -/
def AllSingleton (d : Dict (List Str)) : Prop := ∀ k l, d.lookup k = some l → ∃ s, l = [s]

theorem lookup_cons_ne {β} (k k' : Str) (v : β) (d : Dict β) (h : k ≠ k') :
    List.lookup k ((k', v) :: d) = List.lookup k d := by
  have : (k == k') = false := by simpa using h
  simp [List.lookup, this]

theorem allZero_cons (d : Dict Nat) (hz : AllZero d) (id : Str) : AllZero ((id, 0) :: d) := by
  intro k n hk
  by_cases e : k = id
  · subst e; rw [List.lookup_cons_self] at hk; cases hk; rfl
  · rw [lookup_cons_ne _ _ _ _ e] at hk; exact hz k n hk

theorem allSingleton_cons (d : Dict (List Str)) (hk : AllSingleton d) (id seq : Str) : AllSingleton ((id, [seq]) :: d) := by
  intro k l hkl
  by_cases e : k = id
  · subst e; rw [List.lookup_cons_self] at hkl; cases hkl; exact ⟨seq, rfl⟩
  · rw [lookup_cons_ne _ _ _ _ e] at hkl; exact hk k l hkl

theorem countDup_ok (d : Dict Nat) (hz : AllZero d) (isRec : Bool) (id : Str) (h : (countDup d isRec id).2.1 = true) :
    (countDup d isRec id).2.2 = id ∧ AllZero (countDup d isRec id).1 ∧
    (isRec = true → d.lookup id = none ∧ (countDup d isRec id).1.lookup id = some 0) ∧
    (∀ k, k ≠ id → (countDup d isRec id).1.lookup k = d.lookup k) ∧
    (isRec = false → (countDup d isRec id).1 = d) := by
  cases hl : d.lookup id with
  | none =>
    cases isRec with
    | true =>
      have e : countDup d true id = ((id, 0) :: d, true, id) := by simp [countDup, hl]
      rw [e]
      exact ⟨rfl, allZero_cons d hz id, fun _ => ⟨rfl, List.lookup_cons_self⟩, fun k hk => lookup_cons_ne _ _ _ _ hk,
        by simp⟩
    | false =>
      have e : countDup d false id = (d, true, id) := by simp [countDup, hl]
      rw [e]
      exact ⟨rfl, hz, by simp, fun _ _ => rfl, fun _ => rfl⟩
  | some n =>
    cases isRec with
    | true =>
      have e : (countDup d true id).2.1 = false := by simp [countDup, hl]
      rw [e] at h; cases h
    | false =>
      have := hz id n hl
      subst this
      have e : countDup d false id = (d, true, id) := by simp [countDup, hl]
      rw [e]
      exact ⟨rfl, hz, by simp, fun _ _ => rfl, fun _ => rfl⟩

theorem trackSeq_ok (d : Dict (List Str)) (hk : AllSingleton d) (id seq : Str) (h : (trackSeq d id seq).2.1 = true) :
    (trackSeq d id seq).2.2 = id ∧ AllSingleton (trackSeq d id seq).1 ∧ (trackSeq d id seq).1.lookup id = some [seq] ∧
    (∀ k, k ≠ id → (trackSeq d id seq).1.lookup k = d.lookup k) ∧ (∀ l, d.lookup id = some l → l = [seq]) := by
  cases hl : d.lookup id with
  | none =>
    have e : trackSeq d id seq = ((id, [seq]) :: d, true, id) := by simp [trackSeq, hl]
    rw [e]
    exact ⟨rfl, allSingleton_cons d hk id seq, List.lookup_cons_self, fun k hk' => lookup_cons_ne _ _ _ _ hk',
      fun l x => by cases x⟩
  | some l =>
    obtain ⟨s, rfl⟩ := hk id l hl
    by_cases e : seq = s
    · subst e
      have e : trackSeq d id seq = (d, true, id) := by simp [trackSeq, hl]
      rw [e]
      exact ⟨rfl, hk, hl, fun _ _ => rfl, fun l x => by cases x; rfl⟩
    · have e' : (trackSeq d id seq).2.1 = false := by simp [trackSeq, hl, e]
      rw [e'] at h; cases h

theorem trackSeq_keeps {d : Dict (List Str)} (hk : AllSingleton d) {id seq : Str} (h : (trackSeq d id seq).2.1 = true)
    {k s : Str} (hks : d.lookup k = some [s] ∨ (k = id ∧ s = seq)) : (trackSeq d id seq).1.lookup k = some [s] := by
  obtain ⟨_, _, s3, s4, s5⟩ := trackSeq_ok d hk id seq h
  rcases hks with h0 | ⟨rfl, rfl⟩
  · by_cases e : k = id
    · subst e
      have := s5 _ h0
      simp only [List.cons.injEq, and_true] at this
      rw [this]; exact s3
    · rw [s4 _ e]; exact h0
  · exact s3

theorem rec_eta_gene (r : GtfRec) : ({ r with gene := r.gene } : GtfRec) = r := by cases r; rfl
theorem rec_eta_both (r : GtfRec) : ({ r with gene := r.gene, tr := r.tr } : GtfRec) = r := by cases r; rfl

/-- one id class of `check_gtf_duplicates` (gene ids, transcript ids) on the accepting path: its record counter `cnt` and
    its sequence lists `seqs` after the lines `pre`.  `isRec` marks the records of the class, `on` the lines that carry
    an id of the class, `id` reads it. -/
structure Tracked (isRec on : GtfRec → Bool) (id : GtfRec → Str) (pre : List GtfRec) (cnt : Dict Nat)
    (seqs : Dict (List Str)) : Prop where
  z : AllZero cnt
  k : AllSingleton seqs
  seq1 : ∀ r ∈ pre, on r = true → seqs.lookup (id r) = some [r.seq]
  cnt0 : ∀ r ∈ pre, isRec r = true → cnt.lookup (id r) = some 0
  nd : ((pre.filter isRec).map id).Nodup

theorem Tracked.step {isRec on : GtfRec → Bool} {id : GtfRec → Str} {pre : List GtfRec} {cnt : Dict Nat}
    {seqs : Dict (List Str)} (T : Tracked isRec on id pre cnt seqs) (r : GtfRec)
    (h1 : (countDup cnt (isRec r) (id r)).2.1 = true)
    (h2 : (trackSeq seqs (countDup cnt (isRec r) (id r)).2.2 r.seq).2.1 = true) :
    (countDup cnt (isRec r) (id r)).2.2 = id r ∧ (trackSeq seqs (id r) r.seq).2.2 = id r ∧
    Tracked isRec on id (pre ++ [r]) (countDup cnt (isRec r) (id r)).1 (trackSeq seqs (id r) r.seq).1 := by
  obtain ⟨c1, c2, c3, c4, c5⟩ := countDup_ok cnt T.z (isRec r) (id r) h1
  rw [c1] at h2
  obtain ⟨s1, s2, _⟩ := trackSeq_ok seqs T.k (id r) r.seq h2
  have hnew : ∀ r' ∈ pre, isRec r' = true → isRec r = true → id r' ≠ id r := by
    intro r' hr' hk' hk e
    have := T.cnt0 r' hr' hk'
    rw [e, (c3 hk).1] at this; cases this
  refine ⟨c1, s1, c2, s2, ?_, ?_, ?_⟩
  · exact forall_mem_snoc (fun r' hp ho => trackSeq_keeps T.k h2 (Or.inl (T.seq1 r' hp ho)))
      fun _ => trackSeq_keeps T.k h2 (Or.inr ⟨rfl, rfl⟩)
  · refine forall_mem_snoc (fun r' hp hk' => ?_) fun hk => (c3 hk).2
    by_cases hk : isRec r = true
    · rw [c4 _ (hnew r' hp hk' hk)]; exact T.cnt0 r' hp hk'
    · rw [c5 (by simpa using hk)]; exact T.cnt0 r' hp hk'
  · rw [List.filter_append, List.map_append]
    cases hk : isRec r
    · simpa [hk] using T.nd
    · rw [List.nodup_append]
      refine ⟨T.nd, by simp [hk], fun a ha b hb => ?_⟩
      obtain ⟨r', hr', rfl⟩ := List.mem_map.mp ha
      obtain ⟨hr', hk'⟩ := List.mem_filter.mp hr'
      have hb' : b = id r := by simpa [hk] using hb
      exact hb' ▸ hnew r' hr' hk' hk

theorem Tracked.skip {isRec on : GtfRec → Bool} {id : GtfRec → Str} {pre : List GtfRec} {cnt : Dict Nat}
    {seqs : Dict (List Str)} (T : Tracked isRec on id pre cnt seqs) (r : GtfRec) (ho : on r = false)
    (hk : isRec r = false) : Tracked isRec on id (pre ++ [r]) cnt seqs := by
  refine ⟨T.z, T.k, forall_mem_snoc T.seq1 fun h => ?_, forall_mem_snoc T.cnt0 fun h => ?_, ?_⟩
  · rw [ho] at h; cases h
  · rw [hk] at h; cases h
  · rw [List.filter_append, List.map_append]
    simpa [hk] using T.nd

structure ChkInv (pre : List GtfRec) (st : ChkState) : Prop where
  g : Tracked (fun r => r.kind == .gene) (fun _ => true) (·.gene) pre st.geneCnt st.geneSeqs
  t : Tracked (fun r => r.kind == .transcript) (fun r => r.kind != .gene) (·.tr) pre st.trCnt st.trSeqs
  ne : ∀ r ∈ pre, r.kind ≠ .gene → r.gene ≠ r.tr
  out : st.out = pre

theorem chkStep_ok_mono (t : Bool) (st : ChkState) (r : GtfRec) (h : (chkStep t st r).ok = true) : st.ok = true := by
  unfold chkStep at h
  split at h <;> simp at h <;> simp [h]

theorem foldl_ok_mono (t : Bool) (l : List GtfRec) : ∀ st, (l.foldl (chkStep t) st).ok = true → st.ok = true := by
  induction l with
  | nil => intro st h; exact h
  | cons r l ih => intro st h; exact chkStep_ok_mono t st r (ih _ h)

theorem chkStep_inv (pre : List GtfRec) (st : ChkState) (r : GtfRec)
    (inv : ChkInv pre st) (h : (chkStep true st r).ok = true) : ChkInv (pre ++ [r]) (chkStep true st r) := by
  unfold chkStep at h ⊢
  simp only at h ⊢
  split at h
  · next hk =>
    rw [if_pos hk]
    simp only [Bool.and_eq_true] at h
    obtain ⟨c1, s1, T⟩ := inv.g.step r h.1.2 h.2
    rw [c1, s1]
    have hk' : r.kind = .gene := by simpa using hk
    exact ⟨T, inv.t.skip r (by simp [hk']) (by simp [hk']), forall_mem_snoc inv.ne fun hn => absurd hk' hn,
      by cases r; simp [inv.out]⟩
  · next hk =>
    rw [if_neg hk]
    simp only [Bool.and_eq_true, Bool.not_eq_true', beq_eq_false_iff_ne, ne_eq, if_true] at h
    obtain ⟨⟨⟨⟨⟨_, h1⟩, h2⟩, h3⟩, h4⟩, h5⟩ := h
    obtain ⟨c1, s1, Tg⟩ := inv.g.step r h1 h2
    obtain ⟨d1, t1, Tt⟩ := inv.t.step r h3 h4
    rw [c1, s1, d1, t1] at h5
    simp only [c1, s1, d1, t1, if_true]
    have hb : (r.gene == r.tr) = false := by simpa using h5
    exact ⟨Tg, Tt, forall_mem_snoc inv.ne fun _ => h5, by cases r; simp_all [inv.out]⟩

theorem foldl_inv (suf : List GtfRec) : ∀ (pre : List GtfRec) (st : ChkState), ChkInv pre st →
    (suf.foldl (chkStep true) st).ok = true → ChkInv (pre ++ suf) (suf.foldl (chkStep true) st) := by
  induction suf with
  | nil => intro pre st inv _; simpa using inv
  | cons r suf ih =>
    intro pre st inv h
    have h1 : (chkStep true st r).ok = true := foldl_ok_mono true suf _ h
    have := ih (pre ++ [r]) (chkStep true st r) (chkStep_inv pre st r inv h1) h
    simpa using this

theorem init_inv : ChkInv [] ChkState.init :=
  have T : ∀ isRec on id, Tracked isRec on id [] [] [] := fun _ _ _ =>
    ⟨nofun, nofun, List.forall_mem_nil _, List.forall_mem_nil _, List.nodup_nil⟩
  ⟨T _ _ _, T _ _ _, List.forall_mem_nil _, rfl⟩

theorem check_inv (recs : List GtfRec) (h : (check true recs).1 = true) :
    ChkInv recs (recs.foldl (chkStep true) ChkState.init) := by
  have := foldl_inv recs [] ChkState.init init_inv h
  simpa using this

end IsoVerif.Lemmas.C17Input
