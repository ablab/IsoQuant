/-
C06 — the inventory test `subseqB` of `Model/C06Inventory.lean` finds every sublist (the one direction the property
theorems use; `subsetB` is evaluated there by rewriting and has no lemma).
-/
import IsoVerif.Model.C06Inventory

namespace IsoVerif.Model.C06Inv

/-- the linear walk finds every sublist: at a head of `b` that differs from the head of `a`, the embedding cannot have
    used that head either -/
theorem subseqB_of_sublist {a b : List String} (h : a.Sublist b) : subseqB a b = true := by
  fun_induction subseqB a b with
  | case1 => rfl
  | case2 => cases h
  | case3 x xs y ys hxy ih =>
    cases beq_iff_eq.1 hxy
    exact ih (List.cons_sublist_cons.1 h)
  | case4 x xs y ys hxy ih =>
    cases h with
    | cons _ h => exact ih h
    | cons_cons => simp at hxy

end IsoVerif.Model.C06Inv
