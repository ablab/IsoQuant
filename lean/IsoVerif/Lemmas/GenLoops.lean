/-
Refinement lemmas for the loop functions of src/common.py regenerated into `Gen/Loops.lean`: each generated loop
(index `while` with fuel, `for` over a range, Python lists updated by index) is shown equal to the structural recursion
of the hand model `Model/Interval.lean`.  One file per group of functions, so that a re-opened proof takes down only its
own group.  The files hold the loop lemmas (generated loop = recursion of the model, for every fuel that suffices); the
refinement theorems `Props.C19Gen.*_refines` are stated and proved from them in `Props/C19Gen<Group>.lean`.
-/
import IsoVerif.Lemmas.GenSums
import IsoVerif.Lemmas.GenJunctions
import IsoVerif.Lemmas.GenSweeps
import IsoVerif.Lemmas.GenTruncate
import IsoVerif.Lemmas.GenBinSearch
