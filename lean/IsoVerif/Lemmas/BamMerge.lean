/-
Helper lemmas for C12: invariants of the `BAMOnlineMerger` model (`Model/BamMerge.lean`).
-/
import IsoVerif.Model.BamMerge

namespace IsoVerif.Lemmas.C12
open IsoVerif.Gen IsoVerif.Model.C12
open List

theorem minEntry_none {q : List Entry} : minEntry q = none ↔ q = [] := by
  cases q with
  | nil => simp [minEntry]
  | cons x t =>
    simp only [minEntry]
    cases minEntry t with
    | none => simp
    | some m => by_cases h : keyLe x m <;> simp [h]

theorem keyLe_start {x y : Entry} (h : keyLe x y = true) : x.2.start ≤ y.2.start := by
  simp only [keyLe, Bool.or_eq_true, Bool.and_eq_true, decide_eq_true_eq] at h
  omega

theorem keyLe_total {x y : Entry} (h : keyLe x y = false) : keyLe y x = true := by
  simp only [keyLe, Bool.or_eq_false_iff, Bool.and_eq_false_iff, decide_eq_false_iff_not] at h
  simp only [keyLe, Bool.or_eq_true, Bool.and_eq_true, decide_eq_true_eq]
  omega

theorem keyLe_trans {x y z : Entry} (h1 : keyLe x y = true) (h2 : keyLe y z = true) : keyLe x z = true := by
  simp only [keyLe, Bool.or_eq_true, Bool.and_eq_true, decide_eq_true_eq] at *
  omega

theorem keyLe_refl (x : Entry) : keyLe x x = true := by
  simp [keyLe]

theorem keyLe_antisymm_idx {x y : Entry} (h1 : keyLe x y = true) (h2 : keyLe y x = true) : x.1 = y.1 := by
  simp only [keyLe, Bool.or_eq_true, Bool.and_eq_true, decide_eq_true_eq] at h1 h2
  omega

theorem minEntry_some {q : List Entry} {m : Entry} (h : minEntry q = some m) :
    m ∈ q ∧ ∀ y ∈ q, keyLe m y = true := by
  induction q generalizing m with
  | nil => simp [minEntry] at h
  | cons x t ih =>
    simp only [minEntry] at h
    cases hm : minEntry t with
    | none =>
      simp only [hm, Option.some.injEq] at h
      subst h
      rw [minEntry_none.mp hm]
      exact ⟨List.mem_cons_self, fun y hy => by rw [List.mem_singleton.mp hy]; exact keyLe_refl _⟩
    | some m' =>
      obtain ⟨hmem, hle⟩ := ih hm
      simp only [hm] at h
      by_cases hk : keyLe x m' = true
      · rw [if_pos hk] at h; cases h
        refine ⟨List.mem_cons_self, fun y hy => ?_⟩
        rcases List.mem_cons.mp hy with rfl | hy
        · exact keyLe_refl _
        · exact keyLe_trans hk (hle y hy)
      · rw [if_neg hk] at h; cases h
        refine ⟨List.mem_cons_of_mem _ hmem, fun y hy => ?_⟩
        rcases List.mem_cons.mp hy with rfl | hy
        · exact keyLe_total (by simpa using hk)
        · exact hle y hy

theorem minEntry_mem {q : List Entry} {m : Entry} (h : minEntry q = some m) : m ∈ q :=
  (minEntry_some h).1

theorem minEntry_le {q : List Entry} {m : Entry} (h : minEntry q = some m) : ∀ y ∈ q, keyLe m y = true :=
  (minEntry_some h).2

theorem flatten_set_perm {l : List (List Aln)} {i : Nat} {a : Aln} {t : List Aln}
    (h : l[i]? = some (a :: t)) : l.flatten ~ a :: (l.set i t).flatten := by
  induction l generalizing i with
  | nil => simp at h
  | cons f fs ih =>
    cases i with
    | zero =>
      simp at h; subst h
      simp
    | succ i =>
      simp at h
      have := ih h
      simp only [List.set_cons_succ, List.flatten_cons]
      exact (Perm.append_left f this).trans perm_middle

theorem content_advance (i : Nat) (s : MState) : content (advance i s) ~ content s := by
  unfold advance
  split
  · rename_i a t h
    simp only [content, List.map_cons, List.cons_append]
    have := flatten_set_perm h
    exact ((Perm.append_left _ this).trans perm_middle).symm
  · exact Perm.refl _

/-- every non-exhausted iterator has an entry in the queue -/
def Covered (s : MState) : Prop := ∀ i a t, s.its[i]? = some (a :: t) → ∃ b, (i, b) ∈ s.queue

/-- the state after popping `m` and refilling from iterator `m.1` -/
def stepState (s : MState) (m : Entry) : MState := advance m.1 { s with queue := s.queue.erase m }

theorem covered_step {s : MState} {m : Entry} (hc : Covered s) : Covered (stepState s m) := by
  intro i a t h
  unfold stepState advance at *
  split at h
  · rename_i b t' hb
    simp only at h ⊢
    by_cases hi : m.1 = i
    · subst hi; exact ⟨b, by simp⟩
    · rw [List.getElem?_set] at h
      simp [hi] at h
      obtain ⟨c, hc'⟩ := hc i a t h
      refine ⟨c, List.mem_cons_of_mem _ ?_⟩
      have hne : (i, c) ≠ m := by intro e; apply hi; rw [← e]
      exact (List.mem_erase_of_ne hne).mpr hc'
  · rename_i hb
    simp only at h ⊢
    have hi : m.1 ≠ i := by
      intro e; subst e; exact hb a t h
    obtain ⟨c, hc'⟩ := hc i a t h
    refine ⟨c, ?_⟩
    have hne : (i, c) ≠ m := by intro e; apply hi; rw [← e]
    exact (List.mem_erase_of_ne hne).mpr hc'

theorem its_nil_of_queue_nil {s : MState} (hc : Covered s) (hq : s.queue = []) : ∀ f ∈ s.its, f = [] := by
  intro f hf
  obtain ⟨i, hi⟩ := List.getElem?_of_mem hf
  cases f with
  | nil => rfl
  | cons a t =>
    obtain ⟨b, hb⟩ := hc i a t hi
    rw [hq] at hb; cases hb

theorem content_nil_of_queue_nil {s : MState} (hc : Covered s) (hq : s.queue = []) : content s = [] := by
  rw [content, hq, List.map_nil, List.nil_append, List.flatten_eq_nil_iff]
  exact its_nil_of_queue_nil hc hq

theorem content_step {s : MState} {m : Entry} (hm : m ∈ s.queue) : content s ~ m.2 :: content (stepState s m) := by
  have h1 : content (stepState s m) ~ content { s with queue := s.queue.erase m } := content_advance _ _
  have h2 : s.queue ~ m :: s.queue.erase m := perm_cons_erase hm
  have h3 : content s ~ m.2 :: content { s with queue := s.queue.erase m } := by
    simp only [content]
    have := (h2.map Prod.snd).append_right s.its.flatten
    simpa using this
  exact h3.trans (Perm.cons _ h1.symm)

theorem run_perm (n : Nat) (s : MState) (hc : Covered s) (hn : (content s).length ≤ n) :
    (run n s).map Prod.snd ~ content s := by
  induction n generalizing s with
  | zero =>
    have : content s = [] := List.eq_nil_of_length_eq_zero (by omega)
    simp [run, this]
  | succ n ih =>
    simp only [run]
    cases hm : minEntry s.queue with
    | none =>
      have := content_nil_of_queue_nil hc (minEntry_none.mp hm)
      simp [this]
    | some m =>
      have hmem := minEntry_mem hm
      have hp := content_step (s := s) hmem
      have hlen : (content (stepState s m)).length ≤ n := by
        have := hp.length_eq
        simp at this
        omega
      have := ih (stepState s m) (covered_step hc) hlen
      simp only [List.map_cons]
      exact (Perm.cons _ this).trans hp.symm

theorem initGo_content (i : Nat) (files : List (List Aln)) :
    (initGo i files).1.map Prod.snd ++ (initGo i files).2.flatten ~ files.flatten := by
  induction files generalizing i with
  | nil => simp [initGo]
  | cons f fs ih =>
    cases f with
    | nil => simpa [initGo] using ih (i + 1)
    | cons a t =>
      simp only [initGo, List.map_cons, List.flatten_cons, List.cons_append]
      refine Perm.cons a ?_
      have := ih (i + 1)
      exact (perm_append_comm_assoc _ _ _).trans (Perm.append_left t this)

theorem initGo_snd (i : Nat) (files : List (List Aln)) : (initGo i files).2 = files.map List.tail := by
  induction files generalizing i with
  | nil => rfl
  | cons f fs ih => cases f <;> simp [initGo, ih]

theorem mem_initGo {i j : Nat} {files : List (List Aln)} {b : Aln} :
    (j, b) ∈ (initGo i files).1 ↔ ∃ k t, j = i + k ∧ files[k]? = some (b :: t) := by
  induction files generalizing i with
  | nil => simp [initGo]
  | cons f fs ih =>
    have hfs : (j, b) ∈ (initGo (i + 1) fs).1 ↔ ∃ k t, j = i + (k + 1) ∧ (f :: fs)[k + 1]? = some (b :: t) := by
      simp only [ih, List.getElem?_cons_succ, Nat.add_assoc, Nat.add_comm 1]
    have hsucc : (∃ k t, j = i + k ∧ (f :: fs)[k]? = some (b :: t)) ↔
        (∃ t, j = i ∧ f = b :: t) ∨ (j, b) ∈ (initGo (i + 1) fs).1 := by
      rw [hfs]
      constructor
      · rintro ⟨k, t, h1, h2⟩
        cases k with
        | zero => exact .inl ⟨t, h1, by simpa using h2⟩
        | succ k => exact .inr ⟨k, t, h1, h2⟩
      · rintro (⟨t, h1, h2⟩ | ⟨k, t, h⟩)
        · exact ⟨0, t, h1, by simp [h2]⟩
        · exact ⟨k + 1, t, h⟩
    rw [hsucc]
    cases f with
    | nil => simp [initGo]
    | cons a r => simp [initGo, eq_comm]

theorem initGo_index_ge (i : Nat) (files : List (List Aln)) : ∀ e ∈ (initGo i files).1, i ≤ e.1 := by
  intro e he
  obtain ⟨k, _, h, _⟩ := mem_initGo.mp he
  omega

theorem init_covered (files : List (List Aln)) : Covered (initState files) := by
  intro i a t h
  simp only [initState, initGo_snd, List.getElem?_map, Option.map_eq_some_iff] at h
  obtain ⟨f, hf, ht⟩ := h
  cases f with
  | nil => cases ht
  | cons b r => exact ⟨b, mem_initGo.mpr ⟨i, r, (Nat.zero_add i).symm, hf⟩⟩

theorem init_content (files : List (List Aln)) : content (initState files) ~ files.flatten := by
  simpa [initState, content] using initGo_content 0 files

theorem merge_perm_aux (files : List (List Aln)) : (Model.C12.merge files).map Prod.snd ~ files.flatten := by
  unfold Model.C12.merge
  have hc := init_content files
  exact (run_perm _ _ (init_covered files) (by rw [hc.length_eq]; exact Nat.le_refl _)).trans hc

/-! ### the queue never holds two entries of one iterator (so the tuple comparison never ties) -/

theorem nodup_step {s : MState} {m : Entry} (hm : m ∈ s.queue) (hn : (s.queue.map Prod.fst).Nodup) :
    ((stepState s m).queue.map Prod.fst).Nodup := by
  have hp : s.queue.map Prod.fst ~ m.1 :: (s.queue.erase m).map Prod.fst := by
    simpa using (perm_cons_erase hm).map Prod.fst
  have hn' := (hp.nodup_iff).mp hn
  unfold stepState advance
  split
  · simpa using hn'
  · exact (List.nodup_cons.mp hn').2

theorem initGo_nodup (i : Nat) (files : List (List Aln)) : ((initGo i files).1.map Prod.fst).Nodup := by
  induction files generalizing i with
  | nil => simp [initGo]
  | cons f fs ih =>
    cases f with
    | nil => simpa [initGo] using ih (i + 1)
    | cons a t =>
      simp only [initGo, List.map_cons, List.nodup_cons]
      refine ⟨?_, ih (i + 1)⟩
      intro hmem
      obtain ⟨e, he, hei⟩ := List.mem_map.mp hmem
      have := initGo_index_ge (i + 1) fs e he
      omega

theorem init_nodup (files : List (List Aln)) : ((initState files).queue.map Prod.fst).Nodup :=
  initGo_nodup 0 files

/-- coordinate-sorted BAM: non-decreasing `reference_start` (nothing is assumed about ends or ties) -/
abbrev SortedStart (l : List Aln) : Prop := l.Pairwise (fun a b => a.start ≤ b.start)

end IsoVerif.Lemmas.C12
