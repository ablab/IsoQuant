/-
Lemmas for the natural sort key of `merge_files` (C06): linear comparisons, lexicographic lifting, the
alternation invariant of `re.split('(\d+)', s)`.
-/
import IsoVerif.Model.Schedule

namespace IsoVerif.Lemmas.C06
open IsoVerif.Model.C06

/-- an `Ordering`-valued comparison that is a linear order -/
structure LinCmp {α : Type} (cmp : α → α → Ordering) : Prop where
  eq_iff : ∀ a b, cmp a b = .eq ↔ a = b
  swap : ∀ a b, cmp b a = (cmp a b).swap
  trans : ∀ a b c, cmp a b = .lt → cmp b c = .lt → cmp a c = .lt

/-- `cmpNat` unfolds to `compare` on `Nat` -/
theorem cmpNat_lin : LinCmp cmpNat where
  eq_iff _ _ := Nat.compare_eq_eq
  swap a b := (Nat.compare_swap a b).symm
  trans _ _ _ h1 h2 := Nat.compare_eq_lt.2 (Nat.lt_trans (Nat.compare_eq_lt.1 h1) (Nat.compare_eq_lt.1 h2))

theorem lexCmp_lin {α : Type} {cmp : α → α → Ordering} (h : LinCmp cmp) : LinCmp (lexCmp cmp) where
  eq_iff a b := by
    fun_induction lexCmp cmp a b with
    | case1 | case2 | case3 => simp
    | case4 x xs y ys hxy ih => rw [ih, (h.eq_iff x y).1 hxy]; simp
    | case5 x xs y ys hne =>
      exact ⟨fun e => absurd e hne, fun e => absurd ((h.eq_iff x y).2 (List.cons.inj e).1) hne⟩
  swap a b := by
    fun_induction lexCmp cmp a b with
    | case1 | case2 | case3 => rfl
    | case4 x xs y ys hxy ih => rw [lexCmp, h.swap x y, hxy]; exact ih
    | case5 x xs y ys hne =>
      rw [lexCmp, h.swap x y]
      cases hxy : cmp x y
      · rfl
      · exact absurd hxy hne
      · rfl
  trans a b c h1 h2 := by
    fun_induction lexCmp cmp a b generalizing c with
    | case1 | case3 => cases h1
    | case2 =>
      cases c
      · cases h2
      · rfl
    | case4 x xs y ys hxy ih =>
      obtain rfl := (h.eq_iff x y).1 hxy
      cases c with
      | nil => cases h2
      | cons z zs =>
        rw [lexCmp] at h2 ⊢
        split at h2
        · exact ih zs h1 h2
        · exact h2
    | case5 x xs y ys hne =>
      cases c with
      | nil => cases h2
      | cons z zs =>
        rw [lexCmp] at h2 ⊢
        split at h2
        · rename_i hyz
          obtain rfl := (h.eq_iff y z).1 hyz
          split
          · exact absurd ‹_› hne
          · exact h1
        · rw [h.trans x y z h1 h2]

theorem lexCmp_self {α : Type} {cmp : α → α → Ordering} (h : LinCmp cmp) : ∀ l : List α, lexCmp cmp l l = .eq :=
  fun l => ((lexCmp_lin h).eq_iff l l).2 rfl

theorem LinCmp.le_total {α : Type} {cmp : α → α → Ordering} (h : LinCmp cmp) (a b : α) :
    cmp a b ≠ .gt ∨ cmp b a ≠ .gt := by
  rw [h.swap a b]
  cases cmp a b <;> simp [Ordering.swap]

theorem LinCmp.le_trans {α : Type} {cmp : α → α → Ordering} (h : LinCmp cmp) (a b c : α)
    (h1 : cmp a b ≠ .gt) (h2 : cmp b c ≠ .gt) : cmp a c ≠ .gt := by
  cases hab : cmp a b with
  | gt => exact absurd hab h1
  | eq =>
    have e := (h.eq_iff a b).1 hab
    subst e; exact h2
  | lt =>
    cases hbc : cmp b c with
    | gt => exact absurd hbc h2
    | eq =>
      have e := (h.eq_iff b c).1 hbc
      subst e; rw [hab]; simp
    | lt => rw [h.trans a b c hab hbc]; simp

/-- total comparison of tokens (a `str` below an `int`): agrees with Python wherever Python does not raise -/
def cmpTokT : Tok → Tok → Ordering
  | .str a, .str b => lexCmp cmpNat a b
  | .num a, .num b => cmpNat a b
  | .str _, .num _ => .lt
  | .num _, .str _ => .gt

theorem cmpTokT_lin : LinCmp cmpTokT where
  eq_iff a b := by
    cases a with
    | str x =>
      cases b with
      | str y => simp only [cmpTokT, (lexCmp_lin cmpNat_lin).eq_iff, Tok.str.injEq]
      | num y => simp [cmpTokT]
    | num x =>
      cases b with
      | str y => simp [cmpTokT]
      | num y => simp only [cmpTokT, cmpNat_lin.eq_iff, Tok.num.injEq]
  swap a b := by
    cases a with
    | str x =>
      cases b with
      | str y => simp only [cmpTokT]; exact (lexCmp_lin cmpNat_lin).swap _ _
      | num y => simp [cmpTokT, Ordering.swap]
    | num x =>
      cases b with
      | str y => simp [cmpTokT, Ordering.swap]
      | num y => simp only [cmpTokT]; exact cmpNat_lin.swap _ _
  trans a b c := by
    cases a <;> cases b <;> cases c <;> simp [cmpTokT]
    · exact (lexCmp_lin cmpNat_lin).trans _ _ _
    · exact cmpNat_lin.trans _ _ _

def cmpKeyT : List Tok → List Tok → Ordering := lexCmp cmpTokT

theorem cmpKeyT_lin : LinCmp cmpKeyT := lexCmp_lin cmpTokT_lin

/-- shape of `re.split('(\d+)', s)`: text, number, text, …, text -/
inductive AltS : List Tok → Prop
  | last (s : List Nat) : AltS [Tok.str s]
  | cons (s : List Nat) (n : Nat) (rest : List Tok) : AltS rest → AltS (Tok.str s :: Tok.num n :: rest)

theorem scan_alt : ∀ (cs : List Char),
    (∀ cur, AltS (scanStr cs cur)) ∧ (∀ n, ∃ n' rest, scanNum cs n = Tok.num n' :: rest ∧ AltS rest)
  | [] => by
    constructor
    · intro cur; simp [scanStr]; exact AltS.last _
    · intro n; exact ⟨n, [Tok.str []], by simp [scanNum], AltS.last _⟩
  | c :: cs => by
    have ih := scan_alt cs
    constructor
    · intro cur
      unfold scanStr
      by_cases hd : c.isDigit = true
      · simp only [hd, if_true]
        obtain ⟨n', rest, e, hr⟩ := ih.2 (digitVal c)
        rw [e]
        exact AltS.cons _ _ _ hr
      · simp only [hd]
        exact ih.1 _
    · intro n
      unfold scanNum
      by_cases hd : c.isDigit = true
      · simp only [hd, if_true]
        exact ih.2 _
      · simp only [hd]
        exact ⟨n, _, rfl, ih.1 _⟩

theorem naturalKey_alt (s : String) : AltS (naturalKey s) := (scan_alt s.toList).1 []

def SameKind : Tok → Tok → Prop
  | .str _, .str _ => True
  | .num _, .num _ => True
  | _, _ => False

theorem cmpTok_same {x y : Tok} (h : SameKind x y) : cmpTok x y = some (cmpTokT x y) := by
  cases x <;> cases y <;> simp_all [SameKind, cmpTok, cmpTokT]

theorem cmpKey_cons {x y : Tok} {as bs : List Tok} (h : SameKind x y) :
    cmpKey (x :: as) (y :: bs) = (match cmpTokT x y with | .eq => cmpKey as bs | o => some o) := by
  by_cases e : x = y
  · subst e
    have : cmpTokT x x = .eq := (cmpTokT_lin.eq_iff _ _).2 rfl
    simp only [cmpKey, if_true, this]
  · -- `ne` is what lets `simp` take the second branch of the `match`
    have ne : cmpTokT x y ≠ .eq := fun h' => e ((cmpTokT_lin.eq_iff _ _).1 h')
    simp only [cmpKey, e, if_false, cmpTok_same h]

theorem cmpKeyT_cons (x y : Tok) (as bs : List Tok) :
    cmpKeyT (x :: as) (y :: bs) = (match cmpTokT x y with | .eq => cmpKeyT as bs | o => o) := by
  unfold cmpKeyT
  rw [lexCmp]
  cases cmpTokT x y <;> rfl

/-- on keys of that shape the Python comparison never meets a str/int pair and equals the total comparison -/
theorem cmpKey_eq_of_alt : ∀ {a b : List Tok}, AltS a → AltS b → cmpKey a b = some (cmpKeyT a b) := by
  intro a b ha
  induction ha generalizing b with
  | last s =>
    intro hb
    cases hb with
    | last s' =>
      rw [cmpKey_cons (by simp [SameKind]), cmpKeyT_cons]
      cases cmpTokT (Tok.str s) (Tok.str s') <;> simp [cmpKey, cmpKeyT, lexCmp]
    | cons s' n' rest' hr' =>
      rw [cmpKey_cons (by simp [SameKind]), cmpKeyT_cons]
      cases cmpTokT (Tok.str s) (Tok.str s') <;> simp [cmpKey, cmpKeyT, lexCmp]
  | cons s n rest hr ih =>
    intro hb
    cases hb with
    | last s' =>
      rw [cmpKey_cons (by simp [SameKind]), cmpKeyT_cons]
      cases cmpTokT (Tok.str s) (Tok.str s') <;> simp [cmpKey, cmpKeyT, lexCmp]
    | cons s' n' rest' hr' =>
      rw [cmpKey_cons (by simp [SameKind]), cmpKeyT_cons]
      cases cmpTokT (Tok.str s) (Tok.str s') <;> simp only []
      rw [cmpKey_cons (by simp [SameKind]), cmpKeyT_cons]
      cases cmpTokT (Tok.num n) (Tok.num n') <;> simp only []
      exact ih hr'

/-- Closed instances are evaluated through this equation: `cmpKey` tests `a = b` on tokens first, and the kernel is slow
    to decide that of two unevaluated tokens that are equal, as the leading tokens of any two part-file names are. -/
theorem keyLe_eq (a b : String) : keyLe a b = (cmpKeyT (naturalKey a) (naturalKey b) != .gt) := by
  unfold keyLe
  rw [cmpKey_eq_of_alt (naturalKey_alt a) (naturalKey_alt b)]
  cases cmpKeyT (naturalKey a) (naturalKey b) <;> rfl

theorem keyLe_iff (a b : String) : keyLe a b = true ↔ cmpKeyT (naturalKey a) (naturalKey b) ≠ .gt := by
  rw [keyLe_eq]; exact bne_iff_ne

theorem mergeOrder_eq (names : List String) :
    mergeOrder names = isort (fun a b => cmpKeyT (naturalKey a) (naturalKey b) != .gt) names :=
  congrArg (isort · names) (funext fun a => funext (keyLe_eq a))

end IsoVerif.Lemmas.C06
