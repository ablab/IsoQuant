/-
C07: the read-group and read-collection stages of a run of the repaired code; the removal of existing files / lock files
(`rmAll_stage`, `removeLocks_stage`) shared by all stages that clean up; beside each stage its footprint for every variant and
folder (`rgStage_T`, `collectPre_T`, `collectChr_T`, `collectPost_T`; `isStageLock`: the lock files the clean-up steps remove).
-/
import IsoVerif.Lemmas.ResumeStages
import IsoVerif.Lemmas.ListFacts

namespace IsoVerif.Lemmas.Resume
open IsoVerif.Model.Resume

theorem applyAll_eq_of_all {fs : FS} {es : List Ev} {p : Path} {v : Option Tok}
    (hex : ∃ e ∈ es, e.path = p) (hall : ∀ e ∈ es, e.path = p → e.val = v) : applyAll fs es p = v := by
  induction es generalizing fs with
  | nil => simp at hex
  | cons e es ih =>
    simp only [applyAll]
    by_cases h : ∃ e' ∈ es, e'.path = p
    · exact ih h (fun e' he' => hall e' (by simp [he']))
    · rw [applyAll_untouched _ _ _ (fun e' he' hp => h ⟨e', he', hp⟩)]
      obtain ⟨e0, he0, hp0⟩ := hex
      simp only [List.mem_cons] at he0
      rcases he0 with rfl | he0
      · simp only [apply, ← hp0, set_same]; exact hall e0 (by simp) hp0
      · exact absurd ⟨e0, he0, hp0⟩ h

theorem eventsOf_rmAll (ps : List Path) : eventsOf (rmAll ps) = ps.map Ev.remove := by
  induction ps with
  | nil => rfl
  | cons p ps ih => simp only [rmAll, List.map_cons, eventsOf] at *; rw [ih]

theorem checks_rmAll {ps : List Path} {fs : FS} (nd : ps.Nodup) (h : ∀ p ∈ ps, fs.has p = true) :
    ChecksOK (rmAll ps) fs := by
  induction ps generalizing fs with
  | nil => trivial
  | cons p ps ih =>
    simp only [rmAll, List.map_cons, ChecksOK]
    refine ⟨h p (by simp), ?_⟩
    have nd' := List.nodup_cons.mp nd
    apply ih nd'.2
    intro q hq
    simp only [apply, Ev.path, Ev.val]
    rw [has_set]
    have : q ≠ p := fun e => nd'.1 (e ▸ hq)
    simp [this, h q (by simp [hq])]

theorem applyAll_remove_mem {ps : List Path} {fs : FS} {p : Path} (h : p ∈ ps) :
    applyAll fs (ps.map Ev.remove) p = none := by
  apply applyAll_eq_of_all
  · exact ⟨.remove p, by simp [h], rfl⟩
  · intro e he _; simp only [List.mem_map] at he; obtain ⟨q, _, rfl⟩ := he; rfl

theorem applyAll_remove_not_mem {ps : List Path} {fs : FS} {p : Path} (h : p ∉ ps) :
    applyAll fs (ps.map Ev.remove) p = fs p := by
  apply applyAll_untouched
  intro e he hp; simp only [List.mem_map] at he; obtain ⟨q, hq, rfl⟩ := he
  exact h (hp ▸ hq)

theorem applyAll_commit_mem {α : Type} {l : List α} {f : α → Path} {t : Tok} {fs : FS} {a : α} (h : a ∈ l) :
    applyAll fs (l.map (fun c => Ev.commit (f c) t)) (f a) = some t := by
  apply applyAll_eq_of_all
  · exact ⟨.commit (f a) t, by simp only [List.mem_map]; exact ⟨a, h, rfl⟩, rfl⟩
  · intro e he _; simp only [List.mem_map] at he; obtain ⟨q, _, rfl⟩ := he; rfl

theorem checks_loads {α : Type} {l : List α} {f : α → Path} {rest : List Act} {fs : FS}
    (h : ∀ c ∈ l, fs.good (f c) = true) (hr : ChecksOK rest fs) : ChecksOK (l.map (fun c => Act.load (f c)) ++ rest) fs := by
  induction l with
  | nil => exact hr
  | cons a l ih =>
    simp only [List.map_cons, List.cons_append, ChecksOK]
    exact ⟨h a (by simp), ih (fun c hc => h c (by simp [hc]))⟩

theorem eventsOf_loads {α : Type} (l : List α) (f : α → Path) (rest : List Act) :
    eventsOf (l.map (fun c => Act.load (f c)) ++ rest) = eventsOf rest := by
  induction l with
  | nil => rfl
  | cons a l ih => simp only [List.map_cons, List.cons_append, eventsOf]; exact ih

theorem within_rmAll {T : Path → Bool} {L : List Path} (h : ∀ p ∈ L, T p = true) : Within T (rmAll L) := by
  intro e he; rw [eventsOf_rmAll] at he; obtain ⟨p, hp, rfl⟩ := List.mem_map.mp he; exact h p hp

theorem within_loads (T : Path → Bool) {α : Type} (l : List α) (f : α → Path) : Within T (l.map fun c => Act.load (f c)) := by
  intro e he; rw [← List.append_nil (l.map _), eventsOf_loads] at he; cases he

theorem rgStage_T (cfg : Cfg) (rs : Bool) (fs : FS) : Within isRgAux (rgStage cfg rs fs) := by
  unfold rgStage; split
  · exact within_nil _
  · refine within_append (within_append (within_rmAll fun p hp => ?_) ?_) (within_evs fun e he => ?_)
    · split at hp <;> simp at hp; subst hp; rfl
    · split
      · refine within_evs fun e he => ?_
        simp only [List.mem_append, List.mem_map] at he
        rcases he with ⟨c, _, rfl⟩ | ⟨c, _, rfl⟩ <;> rfl
      · exact within_nil _
    · rw [List.mem_singleton.mp he]; rfl

theorem rg_stage {cfg : Cfg} (wf : WF cfg) (rs : Bool) {fs : FS} (h : J cfg fs) :
    Good cfg fs (runActs (rgStage cfg rs fs) fs) ∧ (runActs (rgStage cfg rs fs) fs).fs.has .rgLock = true := by
  unfold rgStage
  by_cases hs : (rs && fs.has .rgLock) = true
  · simp only [hs, if_true]
    simp only [Bool.and_eq_true] at hs
    exact ⟨good_nil h, hs.2⟩
  · simp only [hs]
    -- the three segments of the stage
    generalize hL : (if fs.has Path.rgLock = true then [Path.rgLock] else []) = L
    generalize hB : (if cfg.rg = RG.file then
        cfg.bchrs.map (fun c => Ev.create (.rgSplit c)) ++ cfg.bchrs.map (fun c => Ev.commit (.rgSplit c) .good) else []) = B
    have hacts : (rmAll L ++ (if cfg.rg = RG.file then evs (cfg.bchrs.map (fun c => Ev.create (.rgSplit c)) ++
        cfg.bchrs.map (fun c => Ev.commit (.rgSplit c) .good)) else []) ++ evs [.create .rgLock])
        = rmAll L ++ evs B ++ evs [.create .rgLock] := by
      subst hB; split <;> rfl
    simp only [Bool.false_eq_true, if_false] at *
    rw [hacts]
    have hev : eventsOf (rmAll L ++ evs B ++ evs [.create .rgLock]) = L.map Ev.remove ++ (B ++ [.create .rgLock]) := by
      simp [eventsOf_append, eventsOf_rmAll]
    have hLl : ∀ l ∈ L, l = Path.rgLock := by subst hL; intro l hl; split at hl <;> simp_all
    have hLhas : ∀ p ∈ L, fs.has p = true := by
      subst hL; intro l hl; split at hl
      · simp only [List.mem_cons, List.not_mem_nil, or_false] at hl; subst hl; assumption
      · simp at hl
    have hLnd : L.Nodup := by subst hL; split <;> simp
    have hck : ChecksOK (rmAll L ++ evs B ++ evs [.create .rgLock]) fs := by
      rw [checks_append, checks_append]
      exact ⟨⟨checks_rmAll hLnd hLhas, checks_evs _ _⟩, checks_evs _ _⟩
    have h1 : AllP (J cfg) fs (L.map Ev.remove) := allJ_removeLocks h (fun l hl => by rw [hLl l hl]; rfl)
    have hno : (applyAll fs (L.map Ev.remove)).has .rgLock = false := by
      by_cases hh : fs.has .rgLock = true
      · have : Path.rgLock ∈ L := by subst hL; simp [hh]
        simp [FS.has, applyAll_remove_mem this]
      · have : Path.rgLock ∉ L := by subst hL; simp [hh]
        simp only [FS.has] at hh ⊢; rw [applyAll_remove_not_mem this]; simpa using hh
    obtain ⟨h2, hhas⟩ := allJ_body_lock (AllP_last h1) (L := [.rgLock]) (body := B) (lk := .rgLock)
      (by subst hB; split
          · simp [bodyOK, List.all_append, List.all_map, isLock, locksOf, Ev.path]
          · rfl)
      (by intro l hl; simp only [List.mem_cons, List.not_mem_nil, or_false] at hl; subst hl; exact hno) rfl
      (by intro d hd
          simp only [guarded] at hd
          split at hd
          · rename_i hfile
            simp only [List.mem_map] at hd
            obtain ⟨c, hc, rfl⟩ := hd
            subst hB
            simp only [hfile, if_true, applyAll_append, FS.good]
            rw [applyAll_commit_mem (f := Path.rgSplit) (wf.b_sub hfile c hc)]
            rfl
          · simp at hd)
    obtain ⟨hg, hfs⟩ := good_of_checks hck (by rw [hev, AllP_append]; exact ⟨h1, h2⟩)
    exact ⟨hg, by rw [hfs, hev, applyAll_append]; exact hhas⟩

/-- the lock files of all chromosomes, in the order in which `clean_locks` visits them, are pairwise distinct -/
theorem nodup_lock_list {cfg : Cfg} (wf : WF cfg) (G : List Path) (hG : G.Sublist [Path.lock, Path.rgLock]) (f g : Chr → Bool) :
    (G ++ (cfg.chrs.filter f).map Path.collected ++ (cfg.chrs.filter g).map Path.processed).Nodup := by
  have big : ([Path.lock, Path.rgLock] ++ cfg.chrs.map Path.collected ++ cfg.chrs.map Path.processed).Nodup := by
    rw [List.nodup_append, List.nodup_append]
    refine ⟨⟨by simp, nodup_map_inj wf.nd (fun a b e => by injection e), ?_⟩,
            nodup_map_inj wf.nd (fun a b e => by injection e), ?_⟩
    · intro a ha b hb; simp only [List.mem_map] at hb; obtain ⟨c, _, rfl⟩ := hb
      simp only [List.mem_cons, List.not_mem_nil, or_false] at ha; rcases ha with rfl | rfl <;> simp
    · intro a ha b hb; simp only [List.mem_map] at hb; obtain ⟨c, _, rfl⟩ := hb
      simp only [List.mem_append, List.mem_cons, List.not_mem_nil, or_false, List.mem_map] at ha
      rcases ha with (rfl | rfl) | ⟨c', _, rfl⟩ <;> simp
  exact List.Nodup.sublist ((hG.append (List.filter_sublist.map _)).append (List.filter_sublist.map _)) big

theorem rmAll_stage {cfg : Cfg} {fs : FS} {L : List Path} (nd : L.Nodup) (hhas : ∀ p ∈ L, fs.has p = true)
    (hJ : AllP (J cfg) fs (L.map Ev.remove)) :
    Good cfg fs (runActs (rmAll L) fs) ∧ ∀ p, (runActs (rmAll L) fs).fs p = if p ∈ L then none else fs p := by
  obtain ⟨hg, hfs⟩ := good_of_checks (checks_rmAll nd hhas) (by rw [eventsOf_rmAll]; exact hJ)
  rw [eventsOf_rmAll] at hfs
  refine ⟨hg, fun p => ?_⟩
  rw [hfs]; split
  · rename_i hp; exact applyAll_remove_mem hp
  · rename_i hp; exact applyAll_remove_not_mem hp

theorem removeLocks_stage {cfg : Cfg} {fs : FS} (h : J cfg fs) {L : List Path} (nd : L.Nodup)
    (hhas : ∀ p ∈ L, fs.has p = true) (hlk : ∀ p ∈ L, isLock p = true) :
    Good cfg fs (runActs (rmAll L) fs) ∧ (∀ p, (runActs (rmAll L) fs).fs p = if p ∈ L then none else fs p) ∧
      ∀ p, isLock p = false → (runActs (rmAll L) fs).fs p = fs p := by
  obtain ⟨hg, hval⟩ := rmAll_stage nd hhas (allJ_removeLocks h hlk)
  refine ⟨hg, hval, fun p hp => ?_⟩
  rw [hval, if_neg]; intro hm; rw [hlk p hm] at hp; cases hp

theorem has_of_removed {fs fs' : FS} {L : List Path} (hval : ∀ p, fs' p = if p ∈ L then none else fs p) {p : Path}
    (h : fs'.has p = true) : fs.has p = true := by
  rw [FS.has, hval] at h; split at h
  · cases h
  · exact h

theorem gone_of_removed {fs fs' : FS} {L : List Path} (hval : ∀ p, fs' p = if p ∈ L then none else fs p) {p : Path}
    (hp : fs.has p = true → p ∈ L) : fs'.has p = false := by
  cases hq : fs'.has p with
  | false => rfl
  | true =>
    have hm := hp (has_of_removed hval hq)
    rw [FS.has, hval, if_pos hm] at hq; cases hq

/-- the lock files of the stages (`isLock` without the index file of the reference) -/
def isStageLock : Path → Bool
  | .rgLock | .collected _ | .lock | .processed _ => true
  | _ => false

theorem lockFilter_stageLock {cfg : Cfg} {G : List Path} (hG : ∀ p ∈ G, isStageLock p = true) (f g : Chr → Bool) :
    ∀ p ∈ G ++ (cfg.chrs.filter f).map Path.collected ++ (cfg.chrs.filter g).map Path.processed, isStageLock p = true := by
  simp only [List.mem_append, List.mem_map]
  rintro p ((hp | ⟨c, _, rfl⟩) | ⟨c, _, rfl⟩)
  · exact hG p hp
  · rfl
  · rfl

theorem collectPre_T (cfg : Cfg) (rs sk : Bool) (fs : FS) : Within isStageLock (collectPre cfg rs sk fs) := by
  unfold collectPre; split
  · exact within_nil _
  · exact within_rmAll (lockFilter_stageLock (fun p hp => by split at hp <;> simp at hp; subst hp; rfl) _ _)

theorem collectPre_stage {cfg : Cfg} (wf : WF cfg) (rs sk : Bool) {fs : FS} (h : J cfg fs) :
    Good cfg fs (runActs (collectPre cfg rs sk fs) fs) ∧
      (∀ p, isLock p = false → (runActs (collectPre cfg rs sk fs) fs).fs p = fs p) ∧
      (runActs (collectPre cfg rs sk fs) fs).fs .rgLock = fs .rgLock ∧
      ((sk || rs) = true → (runActs (collectPre cfg rs sk fs) fs).fs = fs) ∧
      ((sk || rs) = false → (runActs (collectPre cfg rs sk fs) fs).fs.has .lock = false ∧
          ∀ c ∈ cfg.chrs, (runActs (collectPre cfg rs sk fs) fs).fs.has (.collected c) = false ∧
            (runActs (collectPre cfg rs sk fs) fs).fs.has (.processed c) = false) := by
  unfold collectPre
  by_cases hs : (sk || rs) = true
  · simp only [hs, if_true]
    exact ⟨good_nil h, fun _ _ => rfl, rfl, fun _ => rfl, fun e => by simp at e⟩
  · simp only [hs, Bool.false_eq_true, if_false]
    obtain ⟨hg, hval, hkeep⟩ := removeLocks_stage h (nodup_lock_list wf _ (by split <;> simp) _ _)
      (L := (if fs.has .lock then [.lock] else []) ++ (cfg.chrs.filter (fun c => fs.has (.collected c))).map Path.collected
        ++ (cfg.chrs.filter (fun c => fs.has (.processed c))).map Path.processed)
      (by simp only [List.mem_append, List.mem_map, List.mem_filter]
          rintro p ((hp | ⟨c, ⟨_, hh⟩, rfl⟩) | ⟨c, ⟨_, hh⟩, rfl⟩)
          · split at hp <;> simp only [List.mem_cons, List.not_mem_nil, or_false] at hp; subst hp; assumption
          · exact hh
          · exact hh)
      (by simp only [List.mem_append, List.mem_map]
          rintro p ((hp | ⟨c, _, rfl⟩) | ⟨c, _, rfl⟩)
          · split at hp <;> simp only [List.mem_cons, List.not_mem_nil, or_false] at hp; subst hp; rfl
          · rfl
          · rfl)
    refine ⟨hg, hkeep, ?_, fun e => e.elim, fun _ => ⟨gone_of_removed hval fun hq => ?_, fun c hc =>
      ⟨gone_of_removed hval fun hq => ?_, gone_of_removed hval fun hq => ?_⟩⟩⟩
    · rw [hval, if_neg]; simp only [List.mem_append, List.mem_map]
      rintro ((hp | ⟨c, _, e⟩) | ⟨c, _, e⟩)
      · split at hp <;> simp at hp
      · cases e
      · cases e
    · simp [hq]
    · simp only [List.mem_append, List.mem_map, List.mem_filter]; exact Or.inl (Or.inr ⟨c, ⟨hc, hq⟩, rfl⟩)
    · simp only [List.mem_append, List.mem_map, List.mem_filter]; exact Or.inr ⟨c, ⟨hc, hq⟩, rfl⟩

theorem good_J_acts {cfg : Cfg} {fs : FS} {as : List Act} (h : Good cfg fs (runActs as fs)) : J cfg (runActs as fs).fs := by
  rw [runActs_fs]; exact AllP_last h.2

/-- paths written by the collection of chromosome `c` -/
def Tcol (c : Chr) : Path → Bool
  | .save c' => c' == c
  | .groups c' => c' == c
  | .bamstat c' => c' == c
  | .collected c' => c' == c
  | _ => false

/-- everything the collection task of chromosome `c` reads, checks or writes -/
def Rcol (c : Chr) : Path → Bool
  | .rgSplit c' => c' == c
  | .save c' => c' == c
  | .groups c' => c' == c
  | .bamstat c' => c' == c
  | .collected c' => c' == c
  | .refFa => true          -- the unpacked reference and the index (written by the main process before the stage)
  | .refFaiData => true
  | _ => false

theorem Rcol_of_Tcol {c : Chr} (p : Path) (h : Tcol c p = true) : Rcol c p = true := by
  cases p <;> first | exact h | cases h

theorem collectChr_acts (v : Variant) (cfg : Cfg) (rs sk : Bool) (c : Chr) (fs : FS) :
    (collectChr v cfg rs sk c fs).all (actIn (Tcol c) (Rcol c)) = true := by
  unfold collectChr
  split
  · rfl
  · dsimp only
    generalize hG : (if cfg.rg = RG.file then [Act.exist (.rgSplit c)] else []) = G
    have hg : G.all (actIn (Tcol c) (Rcol c)) = true := by subst hG; split <;> simp [actIn, Rcol]
    split
    · simp [hg, actIn, Rcol]
    · rw [List.all_append, hg, actIn_evs]
      cases v.flushBeforeLock <;> simp [Tcol, Ev.path]

theorem collectChr_T (v : Variant) (cfg : Cfg) (rs sk : Bool) (c : Chr) (fs : FS) :
    Within (Tcol c) (collectChr v cfg rs sk c fs) := within_of_actIn (collectChr_acts v cfg rs sk c fs)

theorem collectChr_stage {cfg : Cfg} (rs sk : Bool) {fs : FS} (h : J cfg fs) {c : Chr} (hc : c ∈ cfg.chrs)
    (hrg : fs.has .rgLock = true) (hnl : sk = false → fs.has .lock = false)
    (hnc : rs = false → sk = false → fs.has (.collected c) = false) (href : refOK cfg fs = true) :
    Good cfg fs (runActs (collectChr fixed cfg rs sk c fs) fs) ∧
      (sk = false → (runActs (collectChr fixed cfg rs sk c fs) fs).fs.has (.collected c) = true) := by
  unfold collectChr
  cases sk with
  | true => exact ⟨good_nil h, by simp⟩
  | false =>
    simp only [Bool.false_eq_true, if_false]
    have hrgs : cfg.rg = .file → fs.good (.rgSplit c) = true := fun hf =>
      h.2 .rgLock hrg _ (by simp only [guarded, hf, if_true, List.mem_map]; exact ⟨c, hc, rfl⟩)
    have ht : tokOf ((cfg.rg != .file || fs.good (.rgSplit c)) && refOK cfg fs) = .good := by
      by_cases hf : cfg.rg = .file
      · simp [tokOf, hrgs hf, href]
      · simp [tokOf, hf, href]
    generalize hG : (if cfg.rg = RG.file then [Act.exist (.rgSplit c)] else []) = G
    have hGev : eventsOf G = [] := by subst hG; split <;> rfl
    have hGck : ∀ rest, ChecksOK rest fs → ChecksOK (G ++ rest) fs := by
      intro rest hr; rw [checks_append, hGev]; refine ⟨?_, hr⟩
      subst hG; split
      · exact ⟨good_has (hrgs (by assumption)), trivial⟩
      · trivial
    by_cases hb : (rs && fs.has (.collected c) && fs.has (.groups c) && fs.has (.save c)) = true
    · simp only [hb, if_true]
      simp only [Bool.and_eq_true] at hb
      obtain ⟨⟨⟨_, hcol⟩, _⟩, _⟩ := hb
      have hg := h.2 (.collected c) hcol
      simp only [guarded, hc, if_true] at hg
      have hck := hGck [Act.load (.bamstat c), Act.load (.save c)] ⟨hg _ (by simp), hg _ (by simp), trivial⟩
      have hev : eventsOf (G ++ [Act.load (.bamstat c), Act.load (.save c)]) = [] := by
        rw [eventsOf_append, hGev]; rfl
      obtain ⟨hgood, hfs⟩ := good_of_checks hck (by rw [hev]; exact h)
      rw [hev] at hfs
      exact ⟨hgood, fun _ => by rw [hfs]; exact hcol⟩
    · simp only [hb, Bool.false_eq_true, if_false, ht, fixed, if_true, List.append_nil]
      have hncol : fs.has (.collected c) = false := by
        cases rs with
        | false => exact hnc rfl rfl
        | true =>
          cases hq : fs.has (.collected c) with
          | false => rfl
          | true =>
            have hg := h.2 (.collected c) hq
            simp only [guarded, hc, if_true] at hg
            exfalso; apply hb
            simp [hq, good_has (hg (.groups c) (by simp)), good_has (hg (.save c) (by simp))]
      generalize hB : ([Ev.create (.save c), .create (.save c), .create (.groups c), .commit (.groups c) .good,
                       .create (.bamstat c), .commit (.bamstat c) .good] ++ [Ev.commit (.save c) .good]) = B
      have hck := hGck (evs (B ++ [Ev.create (.collected c)])) (checks_evs _ _)
      have hev : eventsOf (G ++ evs (B ++ [Ev.create (.collected c)])) = B ++ [Ev.create (.collected c)] := by
        rw [eventsOf_append, hGev, eventsOf_evs]; rfl
      obtain ⟨hall, hhas⟩ := allJ_body_lock h (L := [.collected c, .lock]) (body := B) (lk := .collected c)
        (by subst hB; simp [bodyOK, isLock, locksOf, Ev.path])
        (by intro l hl; simp only [List.mem_cons, List.not_mem_nil, or_false] at hl
            rcases hl with rfl | rfl
            · exact hncol
            · exact hnl rfl)
        rfl
        (by intro d hd
            simp only [guarded, hc, if_true, List.mem_cons, List.not_mem_nil, or_false] at hd
            subst hB
            rcases hd with rfl | rfl | rfl <;> simp [applyAll, apply, FS.set, FS.good, Ev.path, Ev.val])
      obtain ⟨hgood, hfs⟩ := good_of_checks hck (by rw [hev]; exact hall)
      rw [hev] at hfs
      exact ⟨hgood, fun _ => by rw [hfs]; exact hhas⟩

/-- paths written after the per-chromosome collection -/
def Tpost : Path → Bool
  | .multimap _ => true
  | .info => true
  | .lock => true
  | _ => false

theorem collectPost_T (cfg : Cfg) (sk : Bool) (fs : FS) : Within Tpost (collectPost cfg sk fs) := by
  unfold collectPost; split
  · exact within_nil _
  · refine within_append (by split; exact within_nil _; exact within_loads _ _ _) (within_evs fun e he => ?_)
    simp only [List.mem_append, List.mem_map, List.mem_cons, List.not_mem_nil, or_false] at he
    rcases he with (⟨c, _, rfl⟩ | ⟨c, _, rfl⟩) | rfl | rfl | rfl <;> rfl

theorem collectPost_stage {cfg : Cfg} (sk : Bool) {fs : FS} (h : J cfg fs)
    (hnl : sk = false → fs.has .lock = false) (hcol : sk = false → ∀ c ∈ cfg.chrs, fs.has (.collected c) = true) :
    Good cfg fs (runActs (collectPost cfg sk fs) fs) ∧
      (sk = false → (runActs (collectPost cfg sk fs) fs).fs.has .lock = true) ∧
      (sk = true → (runActs (collectPost cfg sk fs) fs).fs = fs) := by
  unfold collectPost
  cases sk with
  | true => exact ⟨good_nil h, fun e => by simp at e, fun _ => rfl⟩
  | false =>
    simp only [Bool.false_eq_true, if_false]
    have hgs : ∀ c ∈ cfg.chrs, fs.good (.groups c) = true ∧ fs.good (.save c) = true := by
      intro c hc
      have hg := h.2 (.collected c) (hcol rfl c hc)
      simp only [guarded, hc, if_true] at hg
      exact ⟨hg _ (by simp), hg _ (by simp)⟩
    have hm : tokOf (cfg.chrs.all (fun c => fs.good (.groups c) && fs.good (.save c))) = .good := by
      have : cfg.chrs.all (fun c => fs.good (.groups c) && fs.good (.save c)) = true := by
        simp only [List.all_eq_true, Bool.and_eq_true]; exact hgs
      simp [this, tokOf]
    rw [hm]
    generalize hB : (cfg.chrs.map (fun c => Ev.create (.multimap c)) ++ cfg.chrs.map (fun c => Ev.commit (.multimap c) .good))
      = B
    have hE : B ++ [Ev.create .info, .commit .info .good, .create .lock]
        = (B ++ [Ev.create .info, .commit .info .good]) ++ [.create .lock] := by simp
    rw [hE]
    generalize hL : (if cfg.highMemory = true then [] else cfg.chrs.map (fun c => Act.load (.save c))) = Lds
    have hck : ChecksOK (Lds ++ evs ((B ++ [Ev.create .info, .commit .info .good]) ++ [.create .lock])) fs := by
      subst hL; split
      · exact checks_evs _ _
      · exact checks_loads (fun c hc => (hgs c hc).2) (checks_evs _ _)
    have hev : eventsOf (Lds ++ evs ((B ++ [Ev.create .info, .commit .info .good]) ++ [.create .lock]))
        = (B ++ [Ev.create .info, .commit .info .good]) ++ [.create .lock] := by
      subst hL; split
      · rw [List.nil_append, eventsOf_evs]
      · rw [eventsOf_loads, eventsOf_evs]
    have hBT : (B ++ [Ev.create .info, .commit .info .good]).all (fun e => Tpost e.path) = true := by
      subst hB; simp [List.all_append, List.all_map, Function.comp_def, Ev.path, Tpost]
    obtain ⟨hall, hhas⟩ := allJ_body_lock h (L := [.lock]) (body := B ++ [Ev.create .info, .commit .info .good]) (lk := .lock)
      (by subst hB; simp [bodyOK, List.all_append, List.all_map, Function.comp_def, isLock, locksOf, Ev.path])
      (by intro l hl; simp only [List.mem_cons, List.not_mem_nil, or_false] at hl; subst hl; exact hnl rfl)
      rfl
      (by intro d hd
          simp only [guarded, List.mem_cons, List.mem_flatMap, List.not_mem_nil, or_false] at hd
          rcases hd with rfl | ⟨c, hc, rfl | rfl⟩
          · rw [applyAll_append]; simp [applyAll, apply, FS.set, FS.good, Ev.path, Ev.val]
          · rw [applyAll_append, FS.good,
                applyAll_untouched _ [Ev.create .info, .commit .info .good] _ (by simp [Ev.path])]
            subst hB
            rw [applyAll_append, applyAll_commit_mem (f := Path.multimap) hc]; rfl
          · simp only [FS.good]; rw [frame Tpost (List.all_eq_true.mp hBT) rfl]; exact (hgs c hc).2)
    obtain ⟨hgood, hfs⟩ := good_of_checks hck (by rw [hev]; exact hall)
    rw [hev] at hfs
    exact ⟨hgood, fun _ => by rw [hfs]; exact hhas, fun e => by simp at e⟩

end IsoVerif.Lemmas.Resume
