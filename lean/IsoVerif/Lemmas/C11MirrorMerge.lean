/-
C11 helper lemmas — reflection of `merge_ranges` (Model/Interval.lean).

Covering the same positions does not determine a sorted disjoint list (touching blocks (1,2),(3,4) are not merged by
`merge_ranges`), so C19's `merge_cov` is sharpened: `lnk l p` says that `p` and `p + 1` lie in the SAME block of `l`.
The result links two neighbouring positions iff an input block does (the covering invariant `mergeLoop_inv` of Lemmas/MergeSorted.lean on
the lists with all coordinates doubled); a sorted disjoint well-formed list is determined by its `cov` and `lnk` sets
(`SD_ext`), and both sets are mirror-symmetric; `mirror_dual_mergeRanges` (Props/C11MirrorLists.lean) follows.
-/
import IsoVerif.Gen.Prims
import IsoVerif.Model.Interval
import IsoVerif.Model.C11Symmetry
import IsoVerif.Lemmas.C11Mirror
import IsoVerif.Lemmas.Lists
import IsoVerif.Lemmas.MergeSorted

namespace IsoVerif.Lemmas.C11.Lists
open IsoVerif.Gen IsoVerif.Model IsoVerif.Model.C11 IsoVerif.Lemmas

/-- positions `p` and `p + 1` lie in the same block of the list -/
def lnk (l : List Iv) (p : Int) : Prop := ∃ r ∈ l, r.1 ≤ p ∧ p + 1 ≤ r.2

theorem lnk_cons (a : Iv) (l : List Iv) (p : Int) : lnk (a :: l) p ↔ (a.1 ≤ p ∧ p + 1 ≤ a.2) ∨ lnk l p := by
  simp [lnk]

theorem lnk_reverse (l : List Iv) (p : Int) : lnk l.reverse p ↔ lnk l p := by simp [lnk]

/-! ### the result of `merge_ranges` links two neighbouring positions iff an input block does

Doubling all coordinates puts a position `2p + 1` between `p` and `p + 1` that a block covers iff it links them, and the
loop commutes with the doubling (`mergeLoop_mapIv`): the covering invariant `mergeLoop_inv` of Lemmas/MergeSorted.lean, read at the odd
positions of the doubled lists, is the statement about `lnk`. -/

theorem cov_map_double (l : List Iv) (p : Int) : cov (l.map (mapIv (2 * ·))) (2 * p + 1) ↔ lnk l p := by
  simp only [cov, lnk, List.mem_map, mapIv]
  constructor
  · rintro ⟨_, ⟨a, ha, rfl⟩, x1, x2⟩; exact ⟨a, ha, by omega, by omega⟩
  · rintro ⟨a, ha, x1, x2⟩; exact ⟨_, ⟨a, ha, rfl⟩, by dsimp only; omega, by dsimp only; omega⟩

theorem SD_map_double (l : List Iv) (h : SD l) : SD (l.map (mapIv (2 * ·))) := by
  induction l with
  | nil => trivial
  | cons a t ih =>
    cases t with
    | nil => trivial
    | cons b t' => exact ⟨by have := h.1; simp only [mapIv]; omega, ih (SD_tail h)⟩

theorem WFl_map_double (l : List Iv) (h : WFl l) : WFl (l.map (mapIv (2 * ·))) := by
  intro r hr
  obtain ⟨a, ha, rfl⟩ := List.mem_map.mp hr
  have := h a ha
  simp only [mapIv]; omega

theorem mergeLoop_lnk (l1 l2 acc : List Iv) (h1 : SD l1) (h2 : SD l2) (w1 : WFl l1) (w2 : WFl l2)
    (hacc : mergeLoop l1 false l2 false [] = some acc) (p : Int) : lnk acc p ↔ lnk l1 p ∨ lnk l2 p := by
  obtain ⟨res, hres, -, -, hcov⟩ := mergeLoop_inv _ false _ false []
    (.init (SD_map_double l1 h1) (SD_map_double l2 h2) (WFl_map_double l1 w1) (WFl_map_double l2 w2))
  have e := mergeLoop_mapIv (2 * ·) (fun x y => by omega) l1 false l2 false []
  rw [List.map_nil, hacc, hres, Option.map_some, Option.some.injEq] at e
  have := hcov (2 * p + 1)
  rwa [e, cov_map_double, cov_map_double, cov_map_double, or_iff_right (cov_nil _)] at this

theorem mergeRanges_nil_nil : mergeRanges [] [] = none := by decide +kernel

/-- `merge_ranges` on sorted disjoint lists (not both empty): sorted disjoint blocks covering the union of the
    positions, two neighbouring positions being in one block iff they are in one input block -/
theorem mergeRanges_spec (l1 l2 : List Iv) (h1 : SD l1) (h2 : SD l2) (w1 : WFl l1) (w2 : WFl l2)
    (hne : l1 ≠ [] ∨ l2 ≠ []) :
    ∃ res, mergeRanges l1 l2 = some res ∧ SD res ∧ WFl res ∧
      (∀ p, cov res p ↔ cov l1 p ∨ cov l2 p) ∧ (∀ p, lnk res p ↔ lnk l1 p ∨ lnk l2 p) := by
  obtain ⟨res, hres, hsd, hwf, hc⟩ := mergeRanges_sorted_cov l1 l2 h1 h2 w1 w2 hne
  refine ⟨res, hres, hsd, hwf, hc, fun p => ?_⟩
  -- `res` is the reversed accumulator of the loop
  simp only [mergeRanges] at hres
  cases hacc : mergeLoop l1 false l2 false [] with
  | none => simp [hacc] at hres
  | some acc =>
    rw [hacc] at hres
    simp only at hres
    split at hres
    · cases hres
    · obtain rfl := Option.some.inj hres
      rw [lnk_reverse, mergeLoop_lnk l1 l2 acc h1 h2 w1 w2 hacc p]

theorem cov_tail_iff {a : Iv} {t : List Iv} (h : SD (a :: t)) (w : WFl (a :: t)) (p : Int) :
    cov t p ↔ cov (a :: t) p ∧ a.2 < p := by
  rw [cov_cons]
  constructor
  · rintro ⟨r, hr, h1, h2⟩
    have := SD_all_right h w r hr
    exact ⟨Or.inr ⟨r, hr, h1, h2⟩, by omega⟩
  · rintro ⟨h1 | h1, h2⟩
    · omega
    · exact h1

theorem lnk_tail_iff {a : Iv} {t : List Iv} (h : SD (a :: t)) (w : WFl (a :: t)) (p : Int) :
    lnk t p ↔ lnk (a :: t) p ∧ a.2 < p := by
  rw [lnk_cons]
  constructor
  · rintro ⟨r, hr, h1, h2⟩
    have := SD_all_right h w r hr
    exact ⟨Or.inr ⟨r, hr, h1, h2⟩, by omega⟩
  · rintro ⟨h1 | h1, h2⟩
    · omega
    · exact h1

theorem head_start_le_of_cov {a : Iv} {t : List Iv} (h : SD (a :: t)) (w : WFl (a :: t)) (p : Int)
    (hp : cov (a :: t) p) : a.1 ≤ p := by
  obtain ⟨r, hr, h1, _⟩ := hp
  have := SD_head_le h w r hr
  omega

theorem SD_ext (l1 l2 : List Iv) (h1 : SD l1) (h2 : SD l2) (w1 : WFl l1) (w2 : WFl l2)
    (hc : ∀ p, cov l1 p ↔ cov l2 p) (hl : ∀ p, lnk l1 p ↔ lnk l2 p) : l1 = l2 := by
  induction l1 generalizing l2 with
  | nil =>
    cases l2 with
    | nil => rfl
    | cons b t2 =>
      exfalso
      exact cov_nil _ ((hc b.1).mpr ⟨b, by simp, by omega, WFl_head w2⟩)
  | cons a t1 ih =>
    cases l2 with
    | nil =>
      exfalso
      exact cov_nil _ ((hc a.1).mp ⟨a, by simp, by omega, WFl_head w1⟩)
    | cons b t2 =>
      have ha := WFl_head w1
      have hb := WFl_head w2
      have e1 : a.1 = b.1 := by
        have x1 := head_start_le_of_cov h2 w2 a.1 ((hc a.1).mp ⟨a, by simp, by omega, ha⟩)
        have x2 := head_start_le_of_cov h1 w1 b.1 ((hc b.1).mpr ⟨b, by simp, by omega, hb⟩)
        omega
      have e2 : a.2 = b.2 := by
        have hA := SD_all_right h1 w1
        have hB := SD_all_right h2 w2
        rcases Int.lt_trichotomy a.2 b.2 with c | c | c
        · exfalso
          obtain ⟨r, hr, x1, x2⟩ := (hl a.2).mpr ⟨b, by simp, by omega, by omega⟩
          rcases List.mem_cons.mp hr with e | hr'
          · subst e; omega
          · have := hA r hr'; omega
        · exact c
        · exfalso
          obtain ⟨r, hr, x1, x2⟩ := (hl b.2).mp ⟨a, by simp, by omega, by omega⟩
          rcases List.mem_cons.mp hr with e | hr'
          · subst e; omega
          · have := hB r hr'; omega
      have e : a = b := by ext <;> assumption
      subst e
      congr 1
      apply ih t2 (SD_tail h1) (SD_tail h2) (WFl_tail w1) (WFl_tail w2)
      · intro p; rw [cov_tail_iff h1 w1, cov_tail_iff h2 w2, hc p]
      · intro p; rw [lnk_tail_iff h1 w1, lnk_tail_iff h2 w2, hl p]

theorem lnk_mirrorL (L : Int) (l : List Iv) (p : Int) : lnk (mirrorL L l) p ↔ lnk l (L - p) := by
  simp only [lnk, mirrorL, List.mem_reverse, List.mem_map]
  constructor
  · rintro ⟨r, ⟨a, ha, rfl⟩, x1, x2⟩
    simp only [mirrorIv_fst, mirrorIv_snd] at x1 x2
    exact ⟨a, ha, by omega, by omega⟩
  · rintro ⟨a, ha, x1, x2⟩
    exact ⟨mirrorIv L a, ⟨a, ha, rfl⟩, by simp only [mirrorIv_fst]; omega, by simp only [mirrorIv_snd]; omega⟩

end IsoVerif.Lemmas.C11.Lists
