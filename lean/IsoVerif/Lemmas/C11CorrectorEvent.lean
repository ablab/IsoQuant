/-
C11 helper lemmas — one event of the if/elif chain of `process_events` (`eventStep`) as a SUMMARY: which branch the
event takes (`evKind`: a function of the event type and the strategy flags only), what the branch does to
`corrected_read_region` (`RegUpd`: set the left end, set the right end, or nothing) and which introns it appends.
The summary does not depend on the region and the introns collected so far (`eventStep_evOut`); translation and
reflection act on it branch by branch.
-/
import IsoVerif.Gen.Prims
import IsoVerif.Model.Interval
import IsoVerif.Model.Corrector
import IsoVerif.Model.C11Symmetry
import IsoVerif.Model.C11SymBedCorr
import IsoVerif.Props.C11

namespace IsoVerif.Lemmas.C11
open IsoVerif.Gen IsoVerif.Model IsoVerif.Model.C14 IsoVerif.Model.C11 IsoVerif.Props.C11

/-- `(set the left end to, set the right end to)` -/
abbrev RegUpd := Option Int × Option Int

def RegUpd.app (u : RegUpd) (r : Iv) : Iv := (u.1.getD r.1, u.2.getD r.2)

/-- `v` after `u` (the last assignment wins) -/
def RegUpd.comp (u v : RegUpd) : RegUpd := (v.1.or u.1, v.2.or u.2)

def mirrorUpd (L : Int) (u : RegUpd) : RegUpd := (u.2.map (fun x => L + 1 - x), u.1.map (fun x => L + 1 - x))

def shiftUpd (k : Int) (u : RegUpd) : RegUpd := (u.1.map (· + k), u.2.map (· + k))

theorem RegUpd.app_comp (u v : RegUpd) (r : Iv) : (u.comp v).app r = v.app (u.app r) := by
  obtain ⟨u1, u2⟩ := u
  obtain ⟨v1, v2⟩ := v
  cases u1 <;> cases u2 <;> cases v1 <;> cases v2 <;> rfl

theorem RegUpd.comp_comm (u v : RegUpd) (h1 : u.1 = none ∨ v.1 = none) (h2 : u.2 = none ∨ v.2 = none) :
    u.comp v = v.comp u := by
  obtain ⟨u1, u2⟩ := u
  obtain ⟨v1, v2⟩ := v
  cases u1 <;> cases u2 <;> cases v1 <;> cases v2 <;> simp_all [RegUpd.comp]

theorem mirrorUpd_app (L : Int) (u : RegUpd) (r : Iv) : (mirrorUpd L u).app (mirrorIv L r) = mirrorIv L (u.app r) := by
  obtain ⟨u1, u2⟩ := u
  cases u1 <;> cases u2 <;> rfl

theorem shiftUpd_app (k : Int) (u : RegUpd) (r : Iv) : (shiftUpd k u).app (shiftIv k r) = shiftIv k (u.app r) := by
  obtain ⟨u1, u2⟩ := u
  cases u1 <;> cases u2 <;> rfl

theorem mirrorUpd_comp (L : Int) (u v : RegUpd) : mirrorUpd L (u.comp v) = (mirrorUpd L u).comp (mirrorUpd L v) := by
  obtain ⟨u1, u2⟩ := u
  obtain ⟨v1, v2⟩ := v
  cases u1 <;> cases u2 <;> cases v1 <;> cases v2 <;> rfl

theorem mirrorUpd_mirrorUpd (L : Int) (u : RegUpd) : mirrorUpd L (mirrorUpd L u) = u := by
  obtain ⟨u1, u2⟩ := u
  cases u1 <;> cases u2 <;> simp [mirrorUpd] <;> omega

abbrev Summ := Except CErr (RegUpd × List Iv)

def Summ.run (s : Summ) (reg : Iv) (acc : List Iv) : Except CErr (Iv × List Iv) :=
  match s with
  | .ok (u, xs) => .ok (u.app reg, acc ++ xs)
  | .error x => .error x

def mirrorSumm (L : Int) : Summ → Summ
  | .ok (u, xs) => .ok (mirrorUpd L u, mirrorL L xs)
  | .error x => .error x

def shiftSumm (k : Int) : Summ → Summ
  | .ok (u, xs) => .ok (shiftUpd k u, shiftL k xs)
  | .error x => .error x

/-- from the empty accumulator only: the reflected run appends its introns on the right as well, while the mirror
    image of `acc ++ xs` is `mirrorL L xs ++ mirrorL L acc` -/
theorem Summ.run_mirror (L : Int) (s : Summ) (reg : Iv) :
    Summ.run (mirrorSumm L s) (mirrorIv L reg) [] = mirrorExRes L (s.run reg []) := by
  rcases s with x | ⟨u, xs⟩
  · rfl
  · simp only [mirrorSumm, Summ.run, mirrorExRes, mirrorUpd_app, List.nil_append]

theorem Summ.run_shift (k : Int) (s : Summ) (reg : Iv) (acc : List Iv) :
    Summ.run (shiftSumm k s) (shiftIv k reg) (shiftL k acc) = shiftExRes k (s.run reg acc) := by
  rcases s with x | ⟨u, xs⟩
  · rfl
  · simp only [shiftSumm, Summ.run, shiftExRes, shiftUpd_app, shiftL, List.map_append]

def addOut : Except CErr (List Iv) → Summ
  | .ok xs => .ok ((none, none), xs)
  | .error x => .error x

/-- the introns added by the last two branches of the chain -/
def keepOut (readIntrons corrected : List Iv) (e : MEvent) : Except CErr (List Iv) :=
  if corrector_known_event_types.contains e.etype then sliceIncl corrected e.read.1 e.read.2
  else sliceIncl readIntrons e.read.1 e.read.2

/-- `fake_terminal_exon_*`: an end of the region is set from the one read intron of the event -/
def fakeOut (readIntrons : List Iv) (e : MEvent) (f : Iv → RegUpd) : Summ :=
  if e.read.1 ≠ e.read.2 then .error .assertion
  else match pyGet? readIntrons e.read.1 with
    | none => .error .index
    | some x => .ok (f x, [])

/-- `terminal_exon_misalignment_*`: an end of the region is set to the isoform's, its first intron is added -/
def termOut (isoIntrons : List Iv) (e : MEvent) (u : RegUpd) : Summ :=
  match pyGet? isoIntrons e.iso.1 with
  | none => .error .index
  | some x => .ok (u, [x])

/-- intron shift / exon misalignment: the isoform's introns if they lie well inside the read -/
def misOut (p : CParams) (readRegion : Iv) (readIntrons corrected isoIntrons : List Iv) (e : MEvent) : Summ :=
  match pyGet? isoIntrons e.iso.1, pyGet? isoIntrons e.iso.2 with
  | some a, some b =>
    if contains_well_inside readRegion (a.1, b.2) p.delta then
      if e.read.1 ≠ e.read.2 then .error .assertion
      else addOut (sliceIncl isoIntrons e.iso.1 e.iso.2)
    else addOut (keepOut readIntrons corrected e)
  | _, _ => .error .index

inductive EvKind where
  | fakeL | fakeR | termL | termR | misalign | keep

def evKind (p : CParams) (t : MatchEventSubtype) : EvKind :=
  if t = MatchEventSubtype.fake_terminal_exon_left ∧ p.fl.fake_terminal_exons then .fakeL
  else if t = MatchEventSubtype.fake_terminal_exon_right ∧ p.fl.fake_terminal_exons then .fakeR
  else if t = MatchEventSubtype.terminal_exon_misalignment_left ∧ p.fl.terminal_exons then .termL
  else if t = MatchEventSubtype.terminal_exon_misalignment_right ∧ p.fl.terminal_exons then .termR
  else if (misalignmentSet p).contains t then .misalign
  else .keep

def evOut (p : CParams) (readRegion : Iv) (readIntrons corrected : List Iv) (isoRegion : Iv) (isoIntrons : List Iv)
    (e : MEvent) : Summ :=
  match evKind p e.etype with
  | .fakeL => fakeOut readIntrons e (fun x => (some (x.2 + 1), none))
  | .fakeR => fakeOut readIntrons e (fun x => (none, some (x.1 - 1)))
  | .termL => termOut isoIntrons e (some isoRegion.1, none)
  | .termR => termOut isoIntrons e (none, some isoRegion.2)
  | .misalign => misOut p readRegion readIntrons corrected isoIntrons e
  | .keep => addOut (keepOut readIntrons corrected e)

theorem addOut_run (s : Except CErr (List Iv)) (reg : Iv) (acc : List Iv) :
    (addOut s).run reg acc = match s with
      | .ok xs => .ok (reg, acc ++ xs)
      | .error x => .error x := by
  cases s <;> rfl

theorem fakeOut_run (ri : List Iv) (e : MEvent) (f : Iv → RegUpd) (reg : Iv) (acc : List Iv) :
    (fakeOut ri e f).run reg acc
      = if e.read.1 ≠ e.read.2 then .error .assertion
        else match pyGet? ri e.read.1 with
          | none => .error .index
          | some x => .ok ((f x).app reg, acc) := by
  unfold fakeOut
  split
  · rfl
  · cases pyGet? ri e.read.1 <;> simp [Summ.run]

theorem termOut_run (isoI : List Iv) (e : MEvent) (u : RegUpd) (reg : Iv) (acc : List Iv) :
    (termOut isoI e u).run reg acc
      = match pyGet? isoI e.iso.1 with
        | none => .error .index
        | some x => .ok (u.app reg, acc ++ [x]) := by
  unfold termOut
  cases pyGet? isoI e.iso.1 <;> rfl

theorem keepStep_keepOut (ri corr : List Iv) (e : MEvent) (reg : Iv) (acc : List Iv) :
    keepStep ri corr e reg acc = (addOut (keepOut ri corr e)).run reg acc := by
  rw [addOut_run]
  unfold keepStep keepOut
  split <;> rfl

theorem misOut_run (p : CParams) (rr : Iv) (ri corr isoI : List Iv) (e : MEvent) (reg : Iv) (acc : List Iv) :
    (misOut p rr ri corr isoI e).run reg acc
      = match pyGet? isoI e.iso.1, pyGet? isoI e.iso.2 with
        | some a, some b =>
          if contains_well_inside rr (a.1, b.2) p.delta then
            if e.read.1 ≠ e.read.2 then .error .assertion
            else match sliceIncl isoI e.iso.1 e.iso.2 with
              | .ok xs => .ok (reg, acc ++ xs)
              | .error x => .error x
          else keepStep ri corr e reg acc
        | _, _ => .error .index := by
  unfold misOut
  cases pyGet? isoI e.iso.1 <;> cases pyGet? isoI e.iso.2 <;> try rfl
  simp only [keepStep_keepOut]
  split
  · split
    · rfl
    · exact addOut_run _ _ _
  · rfl

theorem eventStep_evOut (p : CParams) (rr : Iv) (ri corr : List Iv) (isoR : Iv) (isoI : List Iv) (e : MEvent)
    (reg : Iv) (acc : List Iv) :
    eventStep p rr ri corr isoR isoI e reg acc = (evOut p rr ri corr isoR isoI e).run reg acc := by
  unfold eventStep evOut evKind
  by_cases h1 : e.etype = MatchEventSubtype.fake_terminal_exon_left ∧ p.fl.fake_terminal_exons
  · rw [if_pos h1, if_pos h1, fakeOut_run]; rfl
  rw [if_neg h1, if_neg h1]
  by_cases h2 : e.etype = MatchEventSubtype.fake_terminal_exon_right ∧ p.fl.fake_terminal_exons
  · rw [if_pos h2, if_pos h2, fakeOut_run]; rfl
  rw [if_neg h2, if_neg h2]
  by_cases h3 : e.etype = MatchEventSubtype.terminal_exon_misalignment_left ∧ p.fl.terminal_exons
  · rw [if_pos h3, if_pos h3, termOut_run]; rfl
  rw [if_neg h3, if_neg h3]
  by_cases h4 : e.etype = MatchEventSubtype.terminal_exon_misalignment_right ∧ p.fl.terminal_exons
  · rw [if_pos h4, if_pos h4, termOut_run]; rfl
  rw [if_neg h4, if_neg h4]
  by_cases h5 : (misalignmentSet p).contains e.etype = true
  · rw [if_pos h5, if_pos h5, misOut_run]; rfl
  · rw [if_neg h5, if_neg h5, keepStep_keepOut]

theorem misalignmentSet_mem (p : CParams) (t : MatchEventSubtype) (h : (misalignmentSet p).contains t = true) :
    t = MatchEventSubtype.intron_shift ∨ t = MatchEventSubtype.exon_misalignment := by
  simp only [List.contains_iff_mem, misalignmentSet, List.mem_append] at h
  rcases h with h | h <;> split at h <;> simp at h
  · exact Or.inl h
  · exact Or.inr h

theorem evKind_type (p : CParams) (t : MatchEventSubtype) :
    match evKind p t with
    | .fakeL => t = MatchEventSubtype.fake_terminal_exon_left
    | .fakeR => t = MatchEventSubtype.fake_terminal_exon_right
    | .termL => t = MatchEventSubtype.terminal_exon_misalignment_left
    | .termR => t = MatchEventSubtype.terminal_exon_misalignment_right
    | .misalign => t = MatchEventSubtype.intron_shift ∨ t = MatchEventSubtype.exon_misalignment
    | .keep => True := by
  unfold evKind
  by_cases h1 : t = MatchEventSubtype.fake_terminal_exon_left ∧ p.fl.fake_terminal_exons
  · rw [if_pos h1]; exact h1.1
  rw [if_neg h1]
  by_cases h2 : t = MatchEventSubtype.fake_terminal_exon_right ∧ p.fl.fake_terminal_exons
  · rw [if_pos h2]; exact h2.1
  rw [if_neg h2]
  by_cases h3 : t = MatchEventSubtype.terminal_exon_misalignment_left ∧ p.fl.terminal_exons
  · rw [if_pos h3]; exact h3.1
  rw [if_neg h3]
  by_cases h4 : t = MatchEventSubtype.terminal_exon_misalignment_right ∧ p.fl.terminal_exons
  · rw [if_pos h4]; exact h4.1
  rw [if_neg h4]
  by_cases h5 : (misalignmentSet p).contains t = true
  · rw [if_pos h5]; exact misalignmentSet_mem p t h5
  · rw [if_neg h5]; trivial

theorem contains_swapLR (l : List MatchEventSubtype) (hl : ∀ u ∈ l, swapLR u = u) (t : MatchEventSubtype) :
    l.contains (swapLR t) = l.contains t := by
  rw [Bool.eq_iff_iff, List.contains_iff_mem, List.contains_iff_mem]
  exact ⟨fun h => by have := hl _ h; rw [swapLR_involutive] at this; rwa [this],
    fun h => (hl _ h).symm ▸ h⟩

theorem misalignmentSet_fixed (p : CParams) : ∀ u ∈ misalignmentSet p, swapLR u = u := by
  intro u hu
  rcases misalignmentSet_mem p u (List.contains_iff_mem.mpr hu) with rfl | rfl <;> rfl

def EvKind.swap : EvKind → EvKind
  | .fakeL => .fakeR
  | .fakeR => .fakeL
  | .termL => .termR
  | .termR => .termL
  | q => q

theorem evKind_swapLR (p : CParams) (t : MatchEventSubtype) : evKind p (swapLR t) = (evKind p t).swap := by
  simp only [evKind, swapLR_eq_iff, contains_swapLR _ (misalignmentSet_fixed p)]
  simp only [swapLR]
  by_cases h1 : t = MatchEventSubtype.fake_terminal_exon_left ∧ p.fl.fake_terminal_exons
  · simp [h1, EvKind.swap]
  by_cases h2 : t = MatchEventSubtype.fake_terminal_exon_right ∧ p.fl.fake_terminal_exons
  · simp [h2, EvKind.swap]
  by_cases h3 : t = MatchEventSubtype.terminal_exon_misalignment_left ∧ p.fl.terminal_exons
  · simp [h3, EvKind.swap]
  by_cases h4 : t = MatchEventSubtype.terminal_exon_misalignment_right ∧ p.fl.terminal_exons
  · simp [h4, EvKind.swap]
  simp only [h1, h2, h3, h4, if_false]
  split <;> rfl

end IsoVerif.Lemmas.C11
