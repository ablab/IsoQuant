/-
C07 (Model/Resume.lean): what a lock vouches for (`guarded`) and which locks may vouch for a path (`locksOf`), the lock/data
invariant `J` and its preservation along event lists (`AllP`), `runActs` on actions that do not raise (`ChecksOK`, `eventsOf`), and the run of a list of phases
(Model/ResumePool.lean; a list of stages is a list of main-process phases, `runPhases_seq`).
-/
import IsoVerif.Model.ResumePool

namespace IsoVerif.Lemmas.Resume
open IsoVerif.Model.Resume

@[simp] theorem set_same (fs : FS) (p : Path) (v : Option Tok) : (fs.set p v) p = v := by simp [FS.set]
theorem set_other (fs : FS) {p q : Path} (v : Option Tok) (h : q ≠ p) : (fs.set p v) q = fs q := by simp [FS.set, h]

theorem has_set (fs : FS) (p q : Path) (v : Option Tok) :
    (fs.set p v).has q = if q = p then v.isSome else fs.has q := by
  simp only [FS.has, FS.set]; split <;> rfl

theorem good_set (fs : FS) (p q : Path) (v : Option Tok) :
    (fs.set p v).good q = if q = p then (v == some Tok.good) else fs.good q := by
  simp only [FS.good, FS.set]; split <;> rfl

theorem good_has {fs : FS} {p : Path} (h : fs.good p = true) : fs.has p = true := by
  simp only [FS.good, beq_iff_eq] at h; simp [FS.has, h]

@[simp] theorem empty_has (p : Path) : FS.empty.has p = false := rfl
@[simp] theorem empty_good (p : Path) : FS.empty.good p = false := rfl

theorem applyAll_append (fs : FS) (a b : List Ev) : applyAll fs (a ++ b) = applyAll (applyAll fs a) b := by
  induction a generalizing fs with
  | nil => rfl
  | cons e a ih => simp [applyAll, ih]

theorem applyAll_untouched (fs : FS) (es : List Ev) (p : Path) (h : ∀ e ∈ es, e.path ≠ p) :
    applyAll fs es p = fs p := by
  induction es generalizing fs with
  | nil => rfl
  | cons e es ih =>
    simp only [applyAll]
    rw [ih]
    · exact set_other fs _ (fun hp => h e (by simp) hp.symm)
    · intro e' he'; exact h e' (by simp [he'])

def AllP (P : FS → Prop) : FS → List Ev → Prop
  | fs, [] => P fs
  | fs, e :: es => P fs ∧ AllP P (apply fs e) es

/-- needed as a lemma where `AllP` is kept folded (`attribute [local irreducible] AllP`, Lemmas/ResumeConstruct.lean) -/
theorem AllP_nil {P : FS → Prop} {fs : FS} (h : P fs) : AllP P fs [] := h

theorem AllP_single {P : FS → Prop} {fs : FS} {e : Ev} (h1 : P fs) (h2 : P (apply fs e)) : AllP P fs [e] := ⟨h1, h2⟩

theorem AllP_head {P : FS → Prop} {fs : FS} {es : List Ev} (h : AllP P fs es) : P fs := by
  cases es with
  | nil => exact h
  | cons e es => exact h.1

theorem AllP_last {P : FS → Prop} {fs : FS} {es : List Ev} (h : AllP P fs es) : P (applyAll fs es) := by
  induction es generalizing fs with
  | nil => exact h
  | cons e es ih => exact ih h.2

theorem AllP_append {P : FS → Prop} {fs : FS} {a b : List Ev} :
    AllP P fs (a ++ b) ↔ AllP P fs a ∧ AllP P (applyAll fs a) b := by
  induction a generalizing fs with
  | nil => simp only [List.nil_append, applyAll, AllP]; exact ⟨fun h => ⟨AllP_head h, h⟩, fun h => h.2⟩
  | cons e a ih =>
    simp only [List.cons_append, AllP, applyAll, ih]
    exact ⟨fun ⟨h1, h2, h3⟩ => ⟨⟨h1, h2⟩, h3⟩, fun ⟨⟨h1, h2⟩, h3⟩ => ⟨h1, h2, h3⟩⟩

theorem AllP_take {P : FS → Prop} {fs : FS} {es : List Ev} (h : AllP P fs es) (k : Nat) :
    P (applyAll fs (es.take k)) := by
  induction es generalizing fs k with
  | nil => simp only [List.take_nil, applyAll]; exact h
  | cons e es ih =>
    cases k with
    | zero => simpa [applyAll] using h.1
    | succ k => simpa [applyAll] using ih h.2 k

/-- the files a lock vouches for (in configuration `cfg`) -/
def guarded (cfg : Cfg) : Path → List Path
  | .rgLock => if cfg.rg = .file then cfg.chrs.map Path.rgSplit else []
  | .collected c => if c ∈ cfg.chrs then [.save c, .groups c, .bamstat c] else []
  | .lock => .info :: cfg.chrs.flatMap (fun c => [Path.multimap c, Path.save c])
  | .processed c => if c ∈ cfg.chrs then chrOutputs cfg c else []
  | .refFai => if idxTrusted cfg then [.refFaiData] else []     -- an index that exists is read as it is
  | _ => []

def isLock : Path → Bool
  | .rgLock | .collected _ | .lock | .processed _ | .refFai => true
  | _ => false

theorem mem_trStatPaths {cfg : Cfg} {c : Chr} {d : Path} (h : d ∈ trStatPaths cfg c) : d = .trStat c := by
  simp only [trStatPaths] at h; split at h <;> simp_all

theorem mem_chrOutputs {cfg : Cfg} {c : Chr} {d : Path} (h : d ∈ chrOutputs cfg c) :
    (∃ s, d = .part s c) ∨ (∃ s, d = .partLin s c) ∨ (∃ s, d = .partStats s c) ∨ d = .readStat c ∨ d = .trStat c := by
  simp only [chrOutputs, List.mem_append, List.mem_map, List.mem_flatMap, List.mem_cons, List.not_mem_nil, or_false] at h
  rcases h with (((⟨s, _, rfl⟩ | ⟨s, _, rfl | rfl⟩) | ⟨s, _, rfl | rfl⟩) | ⟨s, _, rfl⟩) | rfl | h
  · exact Or.inl ⟨s, rfl⟩
  · exact Or.inl ⟨s, rfl⟩
  · exact Or.inr (Or.inr (Or.inl ⟨s, rfl⟩))
  · exact Or.inl ⟨s, rfl⟩
  · exact Or.inr (Or.inl ⟨s, rfl⟩)
  · exact Or.inl ⟨s, rfl⟩
  · exact Or.inr (Or.inr (Or.inr (Or.inl rfl)))
  · exact Or.inr (Or.inr (Or.inr (Or.inr (mem_trStatPaths h))))

theorem guarded_isLock {cfg : Cfg} {l d : Path} (h : d ∈ guarded cfg l) : isLock l = true := by
  cases l <;> simp_all [guarded, isLock]

/-- the locks that may vouch for a path (independent of the configuration) -/
def locksOf : Path → List Path
  | .rgSplit _ => [.rgLock]
  | .save c => [.collected c, .lock]
  | .groups c => [.collected c]
  | .bamstat c => [.collected c]
  | .multimap _ => [.lock]
  | .info => [.lock]
  | .part _ c => [.processed c]
  | .partLin _ c => [.processed c]
  | .partStats _ c => [.processed c]
  | .readStat c => [.processed c]
  | .trStat c => [.processed c]
  | .refFaiData => [.refFai]
  | _ => []

/-- the case analysis of `guarded`: which locks vouch for anything at all -/
theorem guarded_lock_cases {cfg : Cfg} {l d : Path} (h : d ∈ guarded cfg l) :
    l = .lock ∨ l = .rgLock ∨ (∃ c ∈ cfg.chrs, l = .collected c) ∨ (∃ c ∈ cfg.chrs, l = .processed c) ∨
      (l = .refFai ∧ d = .refFaiData ∧ idxTrusted cfg = true) := by
  cases l <;> simp only [guarded] at h
  all_goals try (simp at h; done)
  · exact Or.inr (Or.inl rfl)
  · split at h
    · rename_i hc; exact Or.inr (Or.inr (Or.inl ⟨_, hc, rfl⟩))
    · simp at h
  · exact Or.inl rfl
  · split at h
    · rename_i hc; exact Or.inr (Or.inr (Or.inr (Or.inl ⟨_, hc, rfl⟩)))
    · simp at h
  · split at h
    · rename_i ht; simp only [List.mem_cons, List.not_mem_nil, or_false] at h
      exact Or.inr (Or.inr (Or.inr (Or.inr ⟨rfl, h, ht⟩)))
    · simp at h

theorem mem_guarded_locksOf {cfg : Cfg} {l d : Path} (h : d ∈ guarded cfg l) : l ∈ locksOf d := by
  cases l <;> simp only [guarded] at h
  all_goals try (simp at h; done)
  · split at h
    · simp only [List.mem_map] at h; obtain ⟨c, _, rfl⟩ := h; simp [locksOf]
    · simp at h
  · split at h
    · simp only [List.mem_cons, List.not_mem_nil, or_false] at h; rcases h with rfl | rfl | rfl <;> simp [locksOf]
    · simp at h
  · simp only [List.mem_cons, List.mem_flatMap, List.not_mem_nil, or_false] at h
    rcases h with rfl | ⟨c, _, rfl | rfl⟩ <;> simp [locksOf]
  · split at h
    · rcases mem_chrOutputs h with ⟨s, rfl⟩ | ⟨s, rfl⟩ | ⟨s, rfl⟩ | rfl | rfl <;> simp [locksOf]
    · simp at h
  · split at h
    · simp only [List.mem_cons, List.not_mem_nil, or_false] at h; subst h; simp [locksOf]
    · simp at h

theorem guarded_not_lock {cfg : Cfg} {l d : Path} (h : d ∈ guarded cfg l) : isLock d = false := by
  have hl := mem_guarded_locksOf h
  cases d <;> first | rfl | cases hl

theorem not_mem_guarded {cfg : Cfg} {l p : Path} (h : locksOf p = []) : p ∉ guarded cfg l := fun hm => by
  have := mem_guarded_locksOf hm; rw [h] at this; cases this

theorem guarded_processed_mem {cfg : Cfg} {c : Chr} {d : Path} (h : d ∈ guarded cfg (.processed c)) : c ∈ cfg.chrs := by
  simp only [guarded] at h; split at h
  · assumption
  · simp at h

theorem guarded_nil_of_not_lock {cfg : Cfg} {p : Path} (h : isLock p = false) : guarded cfg p = [] := by
  cases p <;> simp_all [guarded, isLock]

theorem not_mem_guarded_self (cfg : Cfg) (p : Path) : p ∉ guarded cfg p := by
  intro h
  have h1 := guarded_isLock h
  have h2 := guarded_not_lock h
  simp [h1] at h2

/-- the invariant: `.params` is complete and every existing lock vouches only for complete, correct files -/
def J (cfg : Cfg) (fs : FS) : Prop :=
  fs.good .params = true ∧ ∀ l, fs.has l = true → ∀ d ∈ guarded cfg l, fs.good d = true

theorem J_set {cfg : Cfg} {fs : FS} {p : Path} {v : Option Tok} (h : J cfg fs) (hp : p ≠ .params)
    (hA : v ≠ some .good → ∀ l, p ∈ guarded cfg l → fs.has l = false)
    (hB : v ≠ none → ∀ d ∈ guarded cfg p, fs.good d = true) : J cfg (fs.set p v) := by
  refine ⟨?_, ?_⟩
  · rw [good_set]; simp [Ne.symm hp, h.1]
  · intro l hl d hd
    rw [good_set]
    by_cases hdp : d = p
    · subst hdp
      simp only [if_true]
      by_cases hv : v = some .good
      · simp [hv]
      · have hl' := hA hv l hd
        have hne : l ≠ d := fun e => not_mem_guarded_self cfg d (e ▸ hd)
        rw [has_set] at hl
        simp [hne, hl'] at hl
    · simp only [hdp, if_false]
      rw [has_set] at hl
      by_cases hlp : l = p
      · subst hlp
        simp only [if_true] at hl
        exact hB (by intro e; simp [e] at hl) d hd
      · simp only [hlp, if_false] at hl
        exact h.2 l hl d hd

/-- `J` holds at every prefix of an event list that leaves `.params` alone, touches lock files only to remove them, and
    leaves a file other than complete and correct only where no lock that could vouch for it exists at the start -/
theorem allJ_body {cfg : Cfg} {fs : FS} {body : List Ev} (h : J cfg fs)
    (hp : ∀ e ∈ body, e.path ≠ .params)
    (hl : ∀ e ∈ body, isLock e.path = true → e.val = none)
    (hd : ∀ e ∈ body, e.val ≠ some .good → ∀ l, e.path ∈ guarded cfg l → fs.has l = false) :
    AllP (J cfg) fs body := by
  induction body generalizing fs with
  | nil => exact h
  | cons e es ih =>
    refine ⟨h, ih ?_ ?_ ?_ ?_⟩
    · apply J_set h (hp e (by simp))
      · exact hd e (by simp)
      · intro hv d hdm
        have := guarded_isLock hdm
        exact absurd (hl e (by simp) this) hv
    · intro e' he'; exact hp e' (by simp [he'])
    · intro e' he'; exact hl e' (by simp [he'])
    · intro e' he' hv l hm
      have h0 := hd e' (by simp [he']) hv l hm
      simp only [apply]
      rw [has_set]
      by_cases hle : l = e.path
      · subst hle
        have := hl e (by simp) (guarded_isLock hm)
        simp [this]
      · simp [hle, h0]

theorem J_create_lock {cfg : Cfg} {fs : FS} {l : Path} (h : J cfg fs) (hlock : isLock l = true)
    (hg : ∀ d ∈ guarded cfg l, fs.good d = true) : J cfg (apply fs (.create l)) := by
  show J cfg (fs.set l (some .bad))
  apply J_set h
  · intro e; subst e; simp [isLock] at hlock
  · intro _ l' hm
    have := guarded_not_lock hm
    simp [hlock] at this
  · intro _ d hd; exact hg d hd

theorem refOK_frame {cfg : Cfg} {fs fs' : FS} (h1 : fs' .refFa = fs .refFa) (h2 : fs' .refFaiData = fs .refFaiData) :
    refOK cfg fs' = refOK cfg fs := by
  simp only [refOK, FS.good, h1, h2]

def eventsOf : List Act → List Ev
  | [] => []
  | .ev e :: as => e :: eventsOf as
  | .exist _ :: as => eventsOf as
  | .load _ :: as => eventsOf as
  | .rm p :: as => .remove p :: eventsOf as

/-- no action raises; a loaded file is `good`, not only `loadable`: what is computed from a `stale` one is wrong -/
def ChecksOK : List Act → FS → Prop
  | [], _ => True
  | .ev e :: as, fs => ChecksOK as (apply fs e)
  | .exist p :: as, fs => fs.has p = true ∧ ChecksOK as fs
  | .load p :: as, fs => fs.good p = true ∧ ChecksOK as fs
  | .rm p :: as, fs => fs.has p = true ∧ ChecksOK as (apply fs (.remove p))

theorem runActs_fs (as : List Act) (fs : FS) : (runActs as fs).fs = applyAll fs (runActs as fs).evs := by
  induction as generalizing fs with
  | nil => rfl
  | cons a as ih =>
    cases a with
    | ev e => simp only [runActs, applyAll]; exact ih _
    | exist p => simp only [runActs]; split <;> first | exact ih _ | rfl
    | load p => simp only [runActs]; split <;> first | exact ih _ | rfl
    | rm p => simp only [runActs]; split <;> first | (simp only [applyAll]; exact ih _) | rfl

theorem runActs_of_checks {as : List Act} {fs : FS} (h : ChecksOK as fs) :
    (runActs as fs).ok = true ∧ (runActs as fs).evs = eventsOf as := by
  induction as generalizing fs with
  | nil => exact ⟨rfl, rfl⟩
  | cons a as ih =>
    cases a with
    | ev e => have := ih h; simp only [runActs, eventsOf]; exact ⟨this.1, by rw [this.2]⟩
    | exist p => have := ih h.2; simp only [runActs, eventsOf, h.1, if_true]; exact this
    | load p =>
      have := ih h.2
      have hl : fs.loadable p = true := by
        have h1 := h.1; simp only [FS.good, beq_iff_eq] at h1; simp [FS.loadable, h1]
      simp only [runActs, eventsOf, hl, if_true]; exact this
    | rm p => have := ih h.2; simp only [runActs, eventsOf, h.1, if_true]; exact ⟨this.1, by rw [this.2]⟩

theorem eventsOf_append (a b : List Act) : eventsOf (a ++ b) = eventsOf a ++ eventsOf b := by
  induction a with
  | nil => rfl
  | cons x a ih => cases x <;> simp [eventsOf, ih]

theorem checks_append {a b : List Act} {fs : FS} :
    ChecksOK (a ++ b) fs ↔ ChecksOK a fs ∧ ChecksOK b (applyAll fs (eventsOf a)) := by
  induction a generalizing fs with
  | nil => simp [ChecksOK, eventsOf, applyAll]
  | cons x a ih =>
    cases x <;> simp only [List.cons_append, ChecksOK, eventsOf, applyAll, ih, and_assoc]

@[simp] theorem eventsOf_evs (l : List Ev) : eventsOf (evs l) = l := by
  induction l with
  | nil => rfl
  | cons e l ih => simp only [evs, List.map_cons, eventsOf] at *; rw [ih]

theorem checks_evs (l : List Ev) (fs : FS) : ChecksOK (evs l) fs := by
  induction l generalizing fs with
  | nil => trivial
  | cons e l ih => exact ih _

theorem runPhase_fs (p : Phase) (fs : FS) : (runPhase p fs).fs = applyAll fs (runPhase p fs).evs := by
  cases p with
  | seq s => exact runActs_fs _ _
  | pool t cs sc => rfl

theorem runPhases_fs (ps : List Phase) (fs : FS) : (runPhases ps fs).fs = applyAll fs (runPhases ps fs).evs := by
  induction ps generalizing fs with
  | nil => rfl
  | cons p ps ih =>
    simp only [runPhases]
    split
    · simp only [applyAll_append, ← runPhase_fs]; exact ih _
    · exact runPhase_fs _ _

theorem runPhases_seq (ss : List Stage) (fs : FS) : runPhases (ss.map Phase.seq) fs = runStages ss fs := by
  induction ss generalizing fs with
  | nil => rfl
  | cons s ss ih => simp only [List.map_cons, runPhases, runPhase, runStages, ih]

theorem runPhases_append (a b : List Phase) (fs : FS) :
    runPhases (a ++ b) fs =
      if (runPhases a fs).ok then
        ⟨(runPhases a fs).evs ++ (runPhases b (runPhases a fs).fs).evs, (runPhases b (runPhases a fs).fs).fs,
         (runPhases b (runPhases a fs).fs).ok⟩
      else runPhases a fs := by
  induction a generalizing fs with
  | nil => simp [runPhases]
  | cons p a ih =>
    simp only [List.cons_append, runPhases]
    by_cases h1 : (runPhase p fs).ok = true
    · simp only [h1, if_true, ih]
      by_cases h2 : (runPhases a (runPhase p fs).fs).ok = true
      · simp [h2, List.append_assoc]
      · simp [h2]
    · simp [h1]

theorem runStages_fs (ss : List Stage) (fs : FS) : (runStages ss fs).fs = applyAll fs (runStages ss fs).evs := by
  rw [← runPhases_seq]; exact runPhases_fs _ _

theorem runStages_append (a b : List Stage) (fs : FS) :
    runStages (a ++ b) fs =
      if (runStages a fs).ok then
        ⟨(runStages a fs).evs ++ (runStages b (runStages a fs).fs).evs, (runStages b (runStages a fs).fs).fs,
         (runStages b (runStages a fs).fs).ok⟩
      else runStages a fs := by
  simp only [← runPhases_seq, List.map_append, runPhases_append]

end IsoVerif.Lemmas.Resume
