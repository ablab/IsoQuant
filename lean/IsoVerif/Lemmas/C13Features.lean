/-
Helper lemmas for C13: GeneInfo.set_feature_properties (row identity).  Core Lean only.
-/
import IsoVerif.Model.FeatureCounts

namespace IsoVerif.Lemmas.C13
open IsoVerif.Model IsoVerif.Model.C13 IsoVerif.Gen

theorem mem_isoformEntries (feats : List Iv) (f : Iv) : (∃ b, (f, b) ∈ isoformEntries feats) ↔ f ∈ feats := by
  unfold isoformEntries
  match feats with
  | [] => simp
  | [g] => simp
  | g :: h :: rest =>
    simp only
    have hne : (h :: rest) ≠ [] := by simp
    have hlast : (h :: rest).getLast? = some ((h :: rest).getLast hne) := List.getLast?_eq_some_getLast hne
    have hsplit : h :: rest = (h :: rest).dropLast ++ [(h :: rest).getLast hne] := (List.dropLast_concat_getLast hne).symm
    rw [hlast]
    constructor
    · rintro ⟨b, hb⟩
      simp only [List.mem_cons, List.cons_append, List.nil_append, Prod.mk.injEq, List.mem_map] at hb
      rcases hb with ⟨e, _⟩ | ⟨e, _⟩ | ⟨x, hx, e, _⟩
      · subst e; simp
      · subst e; exact List.mem_cons_of_mem _ (List.getLast_mem hne)
      · subst e; exact List.mem_cons_of_mem _ (List.dropLast_subset _ hx)
    · intro hf
      rcases List.mem_cons.mp hf with e | e
      · exact ⟨true, by simp [e]⟩
      · rw [hsplit] at e
        rcases List.mem_append.mp e with e | e
        · exact ⟨false, by
            simp only [List.mem_cons, List.cons_append, List.nil_append, Prod.mk.injEq, List.mem_map]
            exact Or.inr (Or.inr ⟨f, e, rfl, trivial⟩)⟩
        · simp at e
          exact ⟨true, by
            simp only [List.mem_cons, List.cons_append, List.nil_append, Prod.mk.injEq]
            exact Or.inr (Or.inl ⟨e, trivial⟩)⟩

theorem mem_featureEntries (isoforms : List IsoformFeatures) (f : Iv) (s g : String) :
    (∃ b, (s, g, b) ∈ featureEntries isoforms f) ↔ ∃ t ∈ isoforms, t.strand = s ∧ t.gene = g ∧ f ∈ t.feats := by
  unfold featureEntries
  constructor
  · rintro ⟨b, hb⟩
    simp only [List.mem_flatMap, List.mem_map, List.mem_filter] at hb
    obtain ⟨t, ht, e, ⟨he, hef⟩, heq⟩ := hb
    have : e.1 = f := by simpa using hef
    simp only [Prod.mk.injEq] at heq
    refine ⟨t, ht, heq.1, heq.2.1, ?_⟩
    apply (mem_isoformEntries t.feats f).mp
    exact ⟨e.2, by rw [← this]; exact he⟩
  · rintro ⟨t, ht, hs, hg, hf⟩
    obtain ⟨b, hb⟩ := (mem_isoformEntries t.feats f).mpr hf
    refine ⟨b, ?_⟩
    simp only [List.mem_flatMap, List.mem_map, List.mem_filter]
    exact ⟨t, ht, (f, b), ⟨hb, by simp⟩, by simp [hs, hg]⟩

theorem setFeatureProperties_length (chr : String) (δ : Int) (features : List Iv) (isoforms : List IsoformFeatures) (n : Nat) :
    (setFeatureProperties chr δ features isoforms n).length = features.length := by
  simp [setFeatureProperties]

theorem setFeatureProperties_get (chr : String) (δ : Int) (features : List Iv) (isoforms : List IsoformFeatures) (n : Nat)
    (i : Nat) (f : Iv) (hf : features[i]? = some f) :
    ∃ fi, (setFeatureProperties chr δ features isoforms n)[i]? = some fi ∧
      fi.id = n + i + 1 ∧ fi.chr = chr ∧ fi.start = f.1 ∧ fi.stop = f.2 ∧
      fi.genes = sortSD strLt ((featureEntries isoforms f).map (fun e => e.2.1)) ∧
      fi.strand = concatStrs (sortSD strLt ((featureEntries isoforms f).map (fun e => e.1))) := by
  unfold setFeatureProperties
  simp only [List.getElem?_map, List.getElem?_zipIdx, hf, Option.map_some, Nat.zero_add]
  exact ⟨_, rfl, rfl, rfl, rfl, rfl, rfl, rfl⟩

theorem setFeatureProperties_keys_nodup (chr : String) (δ : Int) (features : List Iv) (isoforms : List IsoformFeatures) (n : Nat)
    (h : features.Nodup) : ((setFeatureProperties chr δ features isoforms n).map coordKey).Nodup := by
  have hmap : ((setFeatureProperties chr δ features isoforms n).map (fun fi => (fi.start, fi.stop))) = features := by
    unfold setFeatureProperties
    rw [List.map_map]
    have : ((fun (fi : FeatureInfo) => (fi.start, fi.stop)) ∘ mkFeatureInfo chr δ features isoforms n) = Prod.fst := by
      funext x; rfl
    rw [this, List.zipIdx_map_fst]
  have hinj : ∀ a b : FeatureInfo, coordKey a = coordKey b → (a.start, a.stop) = (b.start, b.stop) := by
    intro a b e; simp [coordKey] at e; simp [e.2.1, e.2.2]
  rw [← hmap] at h
  rw [List.Nodup, List.pairwise_map] at h ⊢
  exact h.imp (fun hne e => hne (hinj _ _ e))

end IsoVerif.Lemmas.C13
