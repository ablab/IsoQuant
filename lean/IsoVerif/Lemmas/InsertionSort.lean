/-
The stable insertion sort, for every pair of functions that satisfies its defining equations.  The model has one such
pair per place where Python sorts (`sorted`, `list.sort`; structural recursion, so that closed instances evaluate); each
satisfies the equations by `rfl`, and the facts are proved here once.  Core Lean only, no model.
-/
namespace IsoVerif.Lemmas
universe u v

/-- `srt` is the insertion sort by `le` with insertion function `ins` (`le x y`: `x` may stay before `y`) -/
structure InsertionSort {α : Type u} (le : α → α → Bool) (ins : α → List α → List α) (srt : List α → List α) : Prop where
  ins_nil : ∀ x, ins x [] = [x]
  ins_cons : ∀ x y ys, ins x (y :: ys) = if le x y then x :: y :: ys else y :: ins x ys
  srt_nil : srt [] = []
  srt_cons : ∀ x xs, srt (x :: xs) = ins x (srt xs)

namespace InsertionSort
variable {α : Type u} {le : α → α → Bool} {ins : α → List α → List α} {srt : List α → List α}

theorem ins_perm (h : InsertionSort le ins srt) (x : α) : ∀ l : List α, (ins x l).Perm (x :: l)
  | [] => h.ins_nil x ▸ .refl _
  | y :: ys => by
    rw [h.ins_cons]
    split
    · exact .refl _
    · exact ((h.ins_perm x ys).cons y).trans (.swap x y ys)

theorem perm (h : InsertionSort le ins srt) : ∀ l : List α, (srt l).Perm l
  | [] => by rw [h.srt_nil]
  | x :: xs => h.srt_cons x xs ▸ (h.ins_perm x _).trans ((h.perm xs).cons x)

theorem mem_iff (h : InsertionSort le ins srt) {l : List α} {x : α} : x ∈ srt l ↔ x ∈ l := (h.perm l).mem_iff

theorem ins_pairwise (h : InsertionSort le ins srt)
    (trans : ∀ a b c, le a b = true → le b c = true → le a c = true)
    (total : ∀ a b, le a b = true ∨ le b a = true) (x : α) :
    ∀ l : List α, l.Pairwise (fun a b => le a b = true) → (ins x l).Pairwise (fun a b => le a b = true)
  | [], _ => h.ins_nil x ▸ List.pairwise_singleton _ _
  | y :: ys, hl => by
    have hy := List.pairwise_cons.1 hl
    rw [h.ins_cons]
    split
    · rename_i hxy
      exact List.pairwise_cons.2 ⟨fun z hz => (List.mem_cons.1 hz).elim (· ▸ hxy) fun hz => trans _ _ _ hxy (hy.1 z hz), hl⟩
    · rename_i hxy
      refine List.pairwise_cons.2 ⟨fun z hz => ?_, h.ins_pairwise trans total x ys hy.2⟩
      rcases List.mem_cons.1 ((h.ins_perm x ys).mem_iff.1 hz) with rfl | hz
      · exact (total z y).resolve_left hxy
      · exact hy.1 z hz

theorem pairwise (h : InsertionSort le ins srt)
    (trans : ∀ a b c, le a b = true → le b c = true → le a c = true)
    (total : ∀ a b, le a b = true ∨ le b a = true) : ∀ l : List α, (srt l).Pairwise (fun a b => le a b = true)
  | [] => by rw [h.srt_nil]; exact .nil
  | x :: xs => h.srt_cons x xs ▸ h.ins_pairwise trans total x _ (h.pairwise trans total xs)

theorem eq_of_perm (h : InsertionSort le ins srt)
    (trans : ∀ a b c, le a b = true → le b c = true → le a c = true)
    (total : ∀ a b, le a b = true ∨ le b a = true) {l l' : List α}
    (antisymm : ∀ a b, a ∈ l → b ∈ l → le a b = true → le b a = true → a = b)
    (hp : l.Perm l') : srt l = srt l' :=
  List.Perm.eq_of_pairwise (le := fun a b => le a b = true)
    (fun a b ha hb => antisymm a b (h.mem_iff.1 ha) (hp.mem_iff.2 (h.mem_iff.1 hb)))
    (h.pairwise trans total l) (h.pairwise trans total l') ((h.perm l).trans (hp.trans (h.perm l').symm))

theorem eq_self (h : InsertionSort le ins srt) : ∀ l : List α, l.Pairwise (fun a b => le a b = true) → srt l = l
  | [], _ => h.srt_nil
  | x :: xs, hl => by
    have hx := List.pairwise_cons.1 hl
    rw [h.srt_cons, h.eq_self xs hx.2]
    cases xs with
    | nil => exact h.ins_nil x
    | cons y ys => rw [h.ins_cons, if_pos (hx.1 y List.mem_cons_self)]

theorem map {β : Type v} {le' : β → β → Bool} {ins' : β → List β → List β} {srt' : List β → List β} (g : α → β)
    (h : InsertionSort le ins srt) (h' : InsertionSort le' ins' srt') (hg : ∀ a b, le' (g a) (g b) = le a b) :
    ∀ l : List α, (srt l).map g = srt' (l.map g)
  | [] => by rw [h.srt_nil, List.map_nil, h'.srt_nil]
  | x :: xs => by
    have hins : ∀ l : List α, (ins x l).map g = ins' (g x) (l.map g) := by
      intro l
      induction l with
      | nil => rw [h.ins_nil, List.map_nil, h'.ins_nil]; rfl
      | cons y ys ih =>
        rw [h.ins_cons, List.map_cons, h'.ins_cons, hg]
        split
        · rfl
        · rw [List.map_cons, ih]
    rw [h.srt_cons, hins, map g h h' hg xs, List.map_cons, h'.srt_cons]

end InsertionSort
end IsoVerif.Lemmas
