/-
What the two presence lists of `compare_junctions` are (Model/JunctionCompare.lean `sweep`), for intron chains as the
pipeline produces them: sorted, separated, each intron longer than 2δ and inside its region.
  readProf[i] =  1  iff some isoform intron equals read intron i within δ
              = −1  iff none does and the read intron overlaps the isoform region
              =  0  otherwise                                  (symmetric for isoProf)
Core Lean only.
-/
import IsoVerif.Lemmas.C01CmpTotal

namespace IsoVerif.Lemmas.C01Cmp
open IsoVerif.Gen IsoVerif.Model IsoVerif.Model.C01 IsoVerif.Lemmas

/-- some isoform junction of `K` equals `r` within δ -/
def matchedBy (δ : Int) (K : List Iv) (r : Iv) : Bool := K.any (fun k => equal_ranges k r δ)
/-- some read junction of `R` equals `k` within δ -/
def matchesSome (δ : Int) (R : List Iv) (k : Iv) : Bool := R.any (fun r => equal_ranges k r δ)

/-- the presence mark of read junction `r` / of isoform junction `k`, declaratively: 1 when matched within δ, else −1 when
    it overlaps the other side's region (`ir` / `rr`), else 0 -/
def specR (δ : Int) (ir : Iv) (K : List Iv) (r : Iv) : Int :=
  if matchedBy δ K r then 1 else if overlaps ir r then -1 else 0
def specK (δ : Int) (rr : Iv) (R : List Iv) (k : Iv) : Int :=
  if matchesSome δ R k then 1 else if overlaps rr k then -1 else 0

/-- static hypotheses on (suffixes of) the two chains; `ChainsWF` of Props/C01Compare.lean, the name the theorems use, is
    `Geo` at the whole chains -/
structure Geo (δ : Int) (rr ir : Iv) (rs ks : List Iv) : Prop where
  dpos : 0 ≤ δ
  rsd : SD rs
  ksd : SD ks
  rlong : ∀ r ∈ rs, 2 * δ ≤ r.2 - r.1
  klong : ∀ k ∈ ks, 2 * δ ≤ k.2 - k.1
  rin : ∀ r ∈ rs, rr.1 ≤ r.1 ∧ r.2 ≤ rr.2
  kin : ∀ k ∈ ks, ir.1 ≤ k.1 ∧ k.2 ≤ ir.2

theorem Geo.tail_r {δ rr ir r rs ks} (g : Geo δ rr ir (r :: rs) ks) : Geo δ rr ir rs ks :=
  ⟨g.dpos, SD_tail g.rsd, g.ksd, fun x hx => g.rlong x (List.mem_cons_of_mem _ hx), g.klong,
   fun x hx => g.rin x (List.mem_cons_of_mem _ hx), g.kin⟩

theorem Geo.tail_k {δ rr ir rs k ks} (g : Geo δ rr ir rs (k :: ks)) : Geo δ rr ir rs ks :=
  ⟨g.dpos, g.rsd, SD_tail g.ksd, g.rlong, fun x hx => g.klong x (List.mem_cons_of_mem _ hx), g.rin,
   fun x hx => g.kin x (List.mem_cons_of_mem _ hx)⟩

theorem Geo.rwf {δ rr ir rs ks} (g : Geo δ rr ir rs ks) : WFl rs := by
  intro r hr; have := g.rlong r hr; have := g.dpos; omega

theorem Geo.kwf {δ rr ir rs ks} (g : Geo δ rr ir rs ks) : WFl ks := by
  intro k hk; have := g.klong k hk; have := g.dpos; omega

theorem Geo.r_after {δ rr ir r rs ks} (g : Geo δ rr ir (r :: rs) ks) : ∀ r' ∈ rs, r.2 < r'.1 :=
  SD_all_right g.rsd g.rwf

theorem Geo.k_after {δ rr ir rs k ks} (g : Geo δ rr ir rs (k :: ks)) : ∀ k' ∈ ks, k.2 < k'.1 :=
  SD_all_right g.ksd g.kwf

theorem eq_false_of (k r : Iv) (δ : Int)
    (h : ¬ ((-δ ≤ k.1 - r.1 ∧ k.1 - r.1 ≤ δ) ∧ (-δ ≤ k.2 - r.2 ∧ k.2 - r.2 ≤ δ))) : equal_ranges k r δ = false := by
  cases e : equal_ranges k r δ with
  | false => rfl
  | true => exact absurd ((equal_ranges_iff k r δ).mp e) h

theorem specR_cons_of_not {δ ir k ks r} (h : equal_ranges k r δ = false) : specR δ ir (k :: ks) r = specR δ ir ks r := by
  unfold specR matchedBy; rw [List.any_cons, h, Bool.false_or]

theorem specK_cons_of_not {δ rr r rs k} (h : equal_ranges k r δ = false) : specK δ rr (r :: rs) k = specK δ rr rs k := by
  unfold specK matchesSome; rw [List.any_cons, h, Bool.false_or]

theorem specR_of_match {δ ir k ks r} (h : equal_ranges k r δ = true) : specR δ ir (k :: ks) r = 1 := by
  unfold specR matchedBy; rw [List.any_cons, h, Bool.true_or]; rfl

theorem specK_of_match {δ rr r rs k} (h : equal_ranges k r δ = true) : specK δ rr (r :: rs) k = 1 := by
  unfold specK matchesSome; rw [List.any_cons, h, Bool.true_or]; rfl

theorem map_specR_cons {δ ir k ks} {rs : List Iv} (h : ∀ r ∈ rs, equal_ranges k r δ = false) :
    rs.map (specR δ ir (k :: ks)) = rs.map (specR δ ir ks) :=
  List.map_congr_left (fun r hr => specR_cons_of_not (h r hr))

theorem map_specK_cons {δ rr r rs} {ks : List Iv} (h : ∀ k ∈ ks, equal_ranges k r δ = false) :
    ks.map (specK δ rr (r :: rs)) = ks.map (specK δ rr rs) :=
  List.map_congr_left (fun k hk => specK_cons_of_not (h k hk))

theorem matchedBy_false {δ : Int} {K : List Iv} {r : Iv} (h : ∀ k ∈ K, equal_ranges k r δ = false) :
    matchedBy δ K r = false := by
  simp only [matchedBy, List.any_eq_false]
  intro k hk; simp [h k hk]

theorem matchesSome_false {δ : Int} {R : List Iv} {k : Iv} (h : ∀ r ∈ R, equal_ranges k r δ = false) :
    matchesSome δ R k = false := by
  simp only [matchesSome, List.any_eq_false]
  intro r hr; simp [h r hr]

/-- the terminating read loop when every isoform junction has been passed -/
theorem trailRead_spec (δ : Int) (ir : Iv) (ki : Nat) :
    ∀ (rs : List Iv) (ri : Nat) (rv : Int), SD rs → WFl rs →
      (rv = 0 ∨ (rv = -1 ∧ ∀ r ∈ rs.head?, overlaps ir r = true)) →
      (∀ r ∈ rs, ir.1 ≤ r.2) →
      (trailRead ir ki rs ri rv).1 = rs.map (specR δ ir []) := by
  intro rs
  induction rs with
  | nil => intro _ _ _ _ _ _; rfl
  | cons r rs ih =>
    intro ri rv hsd hwf hrv hin
    simp only [trailRead]
    have hnm : specR δ ir [] r = if overlaps ir r then -1 else 0 := by simp [specR, matchedBy]
    split
    · rename_i hov
      rw [List.map_cons, hnm, if_pos hov]
      rw [ih (ri + 1) 0 (SD_tail hsd) (WFl_tail hwf) (Or.inl rfl) (fun x hx => hin x (List.mem_cons_of_mem _ hx))]
    · rename_i hov
      have hrv0 : rv = 0 := by
        rcases hrv with h | ⟨_, h⟩
        · exact h
        · exact absurd (h r (by simp)) hov
      rw [List.map_cons, hnm, if_neg hov, hrv0]
      show (0 : Int) :: rs.map (fun _ => (0 : Int)) = _
      congr 1
      -- every later read junction lies beyond the isoform region as well
      have hr2 := hin r (by simp)
      have hov' : overlaps ir r = false := by simpa using hov
      have hbey : ir.2 < r.1 := by
        rcases (overlaps_false_iff _ _).mp hov' with h | h
        · exact h
        · omega
      apply List.map_congr_left
      intro x hx
      have h1 := SD_all_right hsd hwf x hx
      have h2 := hwf r (by simp)
      have : overlaps ir x = false := (overlaps_false_iff _ _).mpr (Or.inl (by omega))
      simp [specR, matchedBy, this]

/-- the terminating isoform loop is the terminating read loop with the roles exchanged (the pairs differ, the values do not) -/
theorem trailIso_fst (x : Iv) (a : Nat) : ∀ (l : List Iv) (b : Nat) (v : Int), (trailIso x a l b v).1 = (trailRead x a l b v).1
  | [], _, _ => rfl
  | k :: ks, b, v => by
    simp only [trailIso, trailRead]
    split
    · rw [trailIso_fst x a ks (b + 1) 0]
    · rfl

theorem trailIso_spec (δ : Int) (rr : Iv) (ri : Nat) (ks : List Iv) (ki : Nat) (kv : Int) (hsd : SD ks) (hwf : WFl ks)
    (hkv : kv = 0 ∨ (kv = -1 ∧ ∀ k ∈ ks.head?, overlaps rr k = true)) (hin : ∀ k ∈ ks, rr.1 ≤ k.2) :
    (trailIso rr ri ks ki kv).1 = ks.map (specK δ rr []) := by
  rw [trailIso_fst, trailRead_spec δ rr ri ks ki kv hsd hwf hkv hin]
  rfl

theorem noeq_of_end_lt {δ : Int} {k r : Iv} (hl : 2 * δ ≤ k.2 - k.1) (h : r.2 < k.1 + δ) :
    equal_ranges k r δ = false :=
  eq_false_of _ _ _ (by intro ⟨⟨_, _⟩, ⟨_, _⟩⟩; omega)

theorem noeq_of_lt_start {δ : Int} {k r : Iv} (hl : 2 * δ ≤ r.2 - r.1) (h : k.2 < r.1 + δ) :
    equal_ranges k r δ = false :=
  eq_false_of _ _ _ (by intro ⟨⟨_, _⟩, ⟨_, _⟩⟩; omega)

theorem Geo.noeq_k {δ rr ir r rs k ks} (g : Geo δ rr ir (r :: rs) (k :: ks)) (heq : equal_ranges k r δ = false)
    (h : r.2 ≤ k.2) : ∀ k' ∈ k :: ks, equal_ranges k' r δ = false := fun k' hk' => by
  rcases List.mem_cons.mp hk' with rfl | hk
  · exact heq
  · exact noeq_of_end_lt (g.klong k' hk') (by have := g.k_after k' hk; have := g.dpos; omega)

theorem Geo.noeq_r {δ rr ir r rs k ks} (g : Geo δ rr ir (r :: rs) (k :: ks)) (heq : equal_ranges k r δ = false)
    (h : k.2 ≤ r.2) : ∀ r' ∈ r :: rs, equal_ranges k r' δ = false := fun r' hr' => by
  rcases List.mem_cons.mp hr' with rfl | hr
  · exact heq
  · exact noeq_of_lt_start (g.rlong r' hr') (by have := g.r_after r' hr; have := g.dpos; omega)

theorem Geo.r_ends_after {δ rr ir r rs ks} (g : Geo δ rr ir (r :: rs) ks) {x : Int} (h : x ≤ r.2) : ∀ r' ∈ rs, x ≤ r'.2 :=
  fun r' hr' => by
    have := g.r_after r' hr'; have := g.rlong r' (List.mem_cons_of_mem _ hr'); have := g.dpos; omega

theorem Geo.k_ends_after {δ rr ir rs k ks} (g : Geo δ rr ir rs (k :: ks)) {x : Int} (h : x ≤ k.2) : ∀ k' ∈ ks, x ≤ k'.2 :=
  fun k' hk' => by
    have := g.k_after k' hk'; have := g.klong k' (List.mem_cons_of_mem _ hk'); have := g.dpos; omega

/-- the presence lists of the sweep are the declarative profiles `specR` / `specK`.  The side conditions are the loop
    invariant: `hrv` / `hkv` — the value pending for the head of a list is 0, or −1 and then the head overlaps the other
    side's region; `h2r` / `h2k` — once the OTHER pointer has moved, every remaining intron ends at or after the start of
    the other side's region (a trailing intron is inside or behind that region, never before it); `hnr` / `hnk` — neither
    list was empty at the start -/
theorem sweep_spec (δ : Int) (rr ir : Iv) (rs : List Iv) (ri : Nat) (rv : Int) (ks : List Iv) (ki : Nat) (kv : Int)
    (cur : Cur) (g : Geo δ rr ir rs ks)
    (hrv : rv = 0 ∨ (rv = -1 ∧ ∀ r ∈ rs.head?, overlaps ir r = true))
    (hkv : kv = 0 ∨ (kv = -1 ∧ ∀ k ∈ ks.head?, overlaps rr k = true))
    (h2r : 0 < ki → ∀ r ∈ rs, ir.1 ≤ r.2) (h2k : 0 < ri → ∀ k ∈ ks, rr.1 ≤ k.2)
    (hnr : 0 < ri + rs.length) (hnk : 0 < ki + ks.length) :
    (sweep δ rr ir rs ri rv ks ki kv cur).readProf = rs.map (specR δ ir ks) ∧
    (sweep δ rr ir rs ri rv ks ki kv cur).isoProf = ks.map (specK δ rr rs) := by
  fun_induction sweep δ rr ir rs ri rv ks ki kv cur with
  | case1 ri rv ks ki kv cur =>
    exact ⟨rfl, trailIso_spec δ rr ri ks ki kv g.ksd g.kwf hkv (h2k (by simpa using hnr))⟩
  | case2 r rs ri rv ki kv cur =>
    exact ⟨trailRead_spec δ ir ki (r :: rs) ri rv g.rsd g.rwf hrv (h2r (by simpa using hnk)), rfl⟩
  | case3 r rs ri rv k ks ki kv cur heq o ih =>
    simp only [o]
    have hd := g.dpos
    have hkl := g.klong k List.mem_cons_self
    have hrl := g.rlong r List.mem_cons_self
    have hrin := g.rin r List.mem_cons_self
    have hkin := g.kin k List.mem_cons_self
    obtain ⟨⟨e1, e2⟩, ⟨e3, e4⟩⟩ := (equal_ranges_iff k r δ).mp heq
    obtain ⟨ih1, ih2⟩ := ih g.tail_r.tail_k (Or.inl rfl) (Or.inl rfl)
      (fun _ => g.r_ends_after (by omega)) (fun _ => g.tail_r.k_ends_after (by omega)) (by omega) (by omega)
    constructor
    · rw [List.map_cons, specR_of_match heq, ih1, map_specR_cons fun x hx =>
        noeq_of_lt_start (g.rlong x (List.mem_cons_of_mem _ hx)) (by have := g.r_after x hx; omega)]
    · rw [List.map_cons, specK_of_match heq, ih2, map_specK_cons fun x hx =>
        noeq_of_end_lt (g.klong x (List.mem_cons_of_mem _ hx)) (by have := g.tail_r.k_after x hx; omega)]
  | case4 r rs ri rv k ks ki kv cur heq hov hlt o ih =>
    simp only [o]
    have hd := g.dpos
    have hkl := g.klong k List.mem_cons_self
    have hrin := g.rin r List.mem_cons_self
    have hkin := g.kin k List.mem_cons_self
    obtain ⟨o1, o2⟩ := (overlaps_true_iff k r).mp hov
    have hnoeq := g.noeq_k (Bool.eq_false_iff.mpr heq) (by omega)
    obtain ⟨ih1, ih2⟩ := ih g.tail_r (Or.inl rfl)
      (Or.inr ⟨rfl, fun x hx => by cases hx; exact (overlaps_true_iff _ _).mpr ⟨by omega, by omega⟩⟩)
      (fun h x hx => h2r h x (List.mem_cons_of_mem _ hx))
      (fun _ => List.forall_mem_cons.mpr ⟨by omega, g.k_ends_after (by omega)⟩) (by omega) hnk
    have ho : overlaps ir r = true := (overlaps_true_iff _ _).mpr ⟨by omega, by omega⟩
    constructor
    · rw [List.map_cons, ih1]
      simp [specR, matchedBy_false hnoeq, ho]
    · rw [ih2, map_specK_cons hnoeq]
  | case5 r rs ri rv k ks ki kv cur heq hov hlt o ih =>
    simp only [o]
    have hd := g.dpos
    have hrl := g.rlong r List.mem_cons_self
    have hrin := g.rin r List.mem_cons_self
    have hkin := g.kin k List.mem_cons_self
    obtain ⟨o1, o2⟩ := (overlaps_true_iff k r).mp hov
    have hnoeq := g.noeq_r (Bool.eq_false_iff.mpr heq) (by omega)
    obtain ⟨ih1, ih2⟩ := ih g.tail_k
      (Or.inr ⟨rfl, fun x hx => by cases hx; exact (overlaps_true_iff _ _).mpr ⟨by omega, by omega⟩⟩)
      (Or.inl rfl) (fun _ => List.forall_mem_cons.mpr ⟨by omega, g.r_ends_after (by omega)⟩)
      (fun h x hx => h2k h x (List.mem_cons_of_mem _ hx)) hnr (by omega)
    have ho : overlaps rr k = true := (overlaps_true_iff _ _).mpr ⟨by omega, by omega⟩
    constructor
    · rw [ih1, map_specR_cons hnoeq]
    · rw [List.map_cons, ih2]
      simp [specK, matchesSome_false hnoeq, ho]
  | case6 r rs ri rv k ks ki kv cur heq hov hl flag o ih =>
    simp only [o, flag]
    have hd := g.dpos
    have hkl := g.klong k List.mem_cons_self
    have hrl := g.rlong r List.mem_cons_self
    have hrin := g.rin r List.mem_cons_self
    have hkin := g.kin k List.mem_cons_self
    have hl' : k.2 < r.1 := by simpa [left_of] using hl
    have hnoeq := g.noeq_r (Bool.eq_false_iff.mpr heq) (by omega)
    obtain ⟨ih1, ih2⟩ := ih g.tail_k hrv (Or.inl rfl)
      (fun _ => List.forall_mem_cons.mpr ⟨by omega, g.r_ends_after (by omega)⟩)
      (fun h x hx => h2k h x (List.mem_cons_of_mem _ hx)) hnr (by omega)
    constructor
    · rw [ih1, map_specR_cons hnoeq]
    · rw [List.map_cons, ih2]
      congr 1
      have hm : matchesSome δ (r :: rs) k = false := matchesSome_false hnoeq
      by_cases ho : overlaps rr k = true
      · simp [specK, hm, ho]
      · have hri : ¬ (0 < ri) := fun h =>
          ho ((overlaps_true_iff _ _).mpr ⟨by omega, by have := h2k h k List.mem_cons_self; omega⟩)
        have hkv0 : kv = 0 := hkv.elim id fun h => absurd (h.2 k rfl) ho
        simp [specK, hm, ho, hri, hkv0]
  | case7 r rs ri rv k ks ki kv cur heq hov hl flag o ih =>
    simp only [o, flag]
    have hd := g.dpos
    have hkl := g.klong k List.mem_cons_self
    have hrl := g.rlong r List.mem_cons_self
    have hrin := g.rin r List.mem_cons_self
    have hkin := g.kin k List.mem_cons_self
    have hl' : r.2 < k.1 := by
      have : ¬ (k.2 < r.1) := by simpa [left_of] using hl
      rcases (overlaps_false_iff _ _).mp (Bool.eq_false_iff.mpr hov) with h | h <;> omega
    have hnoeq := g.noeq_k (Bool.eq_false_iff.mpr heq) (by omega)
    obtain ⟨ih1, ih2⟩ := ih g.tail_r (Or.inl rfl) hkv
      (fun h x hx => h2r h x (List.mem_cons_of_mem _ hx))
      (fun _ => List.forall_mem_cons.mpr ⟨by omega, g.k_ends_after (by omega)⟩) (by omega) hnk
    constructor
    · rw [List.map_cons, ih1]
      congr 1
      have hm : matchedBy δ (k :: ks) r = false := matchedBy_false hnoeq
      by_cases ho : overlaps ir r = true
      · simp [specR, hm, ho]
      · have hki : ¬ (0 < ki) := fun h =>
          ho ((overlaps_true_iff _ _).mpr ⟨by omega, by have := h2r h r List.mem_cons_self; omega⟩)
        have hrv0 : rv = 0 := hrv.elim id fun h => absurd (h.2 r rfl) ho
        simp [specR, hm, ho, hki, hrv0]
    · rw [ih2, map_specK_cons hnoeq]

end IsoVerif.Lemmas.C01Cmp
