/-
Helper lemmas for the computed `IntronGraph.simplify()` (Model/IntronSimplify.lean): the operations the model performs
form a history in which every operation is justified in the state it is applied to (`Hist`, `OpJust`): collapses join
distinct introns the collector knows with both splice sites closer than `graph_clustering_distance`, discards hit isolated,
unannotated introns below `min_novel_isolated_intron_abs`, defaultdict reads hit vertices the graph has.
What one justified operation does is said once per operation: `applyOp_known` (the introns the collector knows and the edge
endpoints among them are kept; edges only disappear, `EdgesLe`, unless a vertex that has edges is collapsed) and
`applyOp_keys` (which keys of `clustered_introns` and of the correction map can come and go).  The six phases carry the
invariant `Good` from a state to a later state (`Step`); that gives `simplifySG_hist` and, for `Graph.simplify` /
`simplifyOps`, `simplify_hist`.  `hist_just`, `hist_keeps`, `hist_drop` read a justified history.  `deadWalk_succ` is the
one-step form of the dead-end walk from which its three facts follow, beside it: `deadWalk_visited`, `deadWalk_fuel`
(measure `unwalked`) and `deadWalk_no_cycle`.
`EAll e Q` (both endpoints of every pair) is `ESub e Q` of Lemmas/IntronGraph.lean without the guard "is an intron vertex":
`ESub e P` unfolds to `EAll e (fun v => isIntronVertex v = true → P v)`.  Core Lean only.
-/
import IsoVerif.Model.IntronSimplify
import IsoVerif.Lemmas.IntronGraph

namespace IsoVerif.Lemmas.C04
open IsoVerif.Gen IsoVerif.Model IsoVerif.Model.C04

theorem mem_dedupIv {l : List Iv} {x : Iv} : x ∈ dedupIv l ↔ x ∈ l := by
  induction l generalizing x with
  | nil => simp [dedupIv]
  | cons a t ih =>
    simp only [dedupIv]
    split <;> simp_all

theorem nodup_dedupIv (l : List Iv) : (dedupIv l).Nodup := by
  induction l with
  | nil => simp [dedupIv]
  | cons a t ih =>
    simp only [dedupIv]
    split
    · exact ih
    · rename_i h
      exact List.nodup_cons.2 ⟨h, ih⟩

theorem mem_addKeys {ks l : List Iv} {x : Iv} : x ∈ addKeys ks l ↔ x ∈ ks ∨ x ∈ l := by
  unfold addKeys
  induction l generalizing ks with
  | nil => simp
  | cons a t ih => simp only [List.foldl_cons, ih, mem_setAdd, List.mem_cons]; grind

theorem mem_outOf {g : Graph} {v w : Iv} : w ∈ outOf g v ↔ (v, w) ∈ g.out := mem_members

theorem mem_incOf {g : Graph} {v w : Iv} : w ∈ incOf g v ↔ (v, w) ∈ g.inc := mem_members

/-! ### the introns the collector knows: keys of `clustered_introns`, keys of the correction map, discarded introns -/

def cdom (c : Collector) (v : Iv) : Prop := v ∈ amKeys c.clustered ∨ v ∈ amKeys c.corr ∨ v ∈ c.discarded

theorem dom_verts {g : Graph} {v : Iv} (h : cdom g.col v) : v ∈ g.verts := by
  simp only [Graph.verts, Collector.verts, List.mem_append]
  rcases h with h | h | h
  · exact Or.inl (Or.inl (Or.inl (Or.inl h)))
  · exact Or.inl (Or.inl (Or.inl (Or.inr h)))
  · exact Or.inl (Or.inr h)

def EAll (e : List (Iv × Iv)) (Q : Iv → Prop) : Prop := ∀ p ∈ e, Q p.1 ∧ Q p.2

theorem eall_mono {e : List (Iv × Iv)} {Q R : Iv → Prop} (h : EAll e Q) (hqr : ∀ v, Q v → R v) : EAll e R :=
  fun p hp => ⟨hqr _ (h p hp).1, hqr _ (h p hp).2⟩

theorem eall_filter {e : List (Iv × Iv)} {Q : Iv → Prop} (h : EAll e Q) (f : Iv × Iv → Bool) : EAll (e.filter f) Q :=
  fun p hp => h p (List.mem_filter.1 hp).1

theorem eall_setAdd {e : List (Iv × Iv)} {Q : Iv → Prop} (h : EAll e Q) {a b : Iv} (ha : Q a) (hb : Q b) :
    EAll (setAdd e (a, b)) Q := by
  intro p hp
  rcases mem_setAdd.1 hp with h' | h'
  · exact h p h'
  · subst h'; exact ⟨ha, hb⟩

theorem collapseVertex_eall {Q : Iv → Prop} {g g' : Graph} {c s : Iv} (ho : EAll g.out Q) (hi : EAll g.inc Q) (hs : Q s)
    (h : g.collapseVertex c s = some g') : EAll g'.out Q ∧ EAll g'.inc Q :=
  have he := collapseVertex_edges (c := c) (s := s) (Q := fun p => Q p.1 ∧ Q p.2) (fun _ hq => ⟨hq.1, hs⟩)
    (fun _ hq => ⟨hs, hq.2⟩) h
  ⟨he.1 ho, he.2 hi⟩

/-- what justifies an operation of the computed `simplify()` in the state it is applied to -/
def OpJust (P : SimpParams) (g : Graph) : Op → Prop
  | .collapse c s => c ≠ s ∧ nearD P.dist s c = true ∧ cdom g.col c ∧ cdom g.col s
  | .touch v => cdom g.col v
  | .discard v => v ∈ amKeys g.col.clustered ∧ v ∉ g.col.known ∧ cnt g.col.clustered v < P.isoAbs ∧ isIsolated g v = true
  | .delOut _ => True
  | .delInc _ => True
  | .simplifyMap => True
  | _ => False

/-- `ops` leads from `g0` to `g`, every operation justified where it is applied -/
inductive Hist (P : SimpParams) (g0 : Graph) : List Op → Graph → Prop where
  | nil : Hist P g0 [] g0
  | snoc {ops : List Op} {g g' : Graph} {op : Op} : Hist P g0 ops g → OpJust P g op → applyOp g op = some g' →
      Hist P g0 (ops ++ [op]) g'

section
variable {P : SimpParams}

theorem touch_dom {c : Collector} {v x : Iv} : cdom (c.touch v) x ↔ cdom c x ∨ x = v := by
  unfold Collector.touch
  split
  · rename_i h
    exact ⟨Or.inl, fun h' => h'.elim id (fun e => e ▸ Or.inl (amHas_iff_key.1 h))⟩
  · simp only [cdom, key_amSet]; grind

theorem discard_dom {c : Collector} {v x : Iv} : cdom (c.discard v) x ↔ cdom c x ∨ x = v := by
  simp only [cdom, Collector.discard, key_amErase, mem_setAdd]; grind

theorem addSubstitute_dom {c : Collector} {o s x : Iv} : cdom (c.addSubstitute o s) x ↔ cdom c x ∨ x = o ∨ x = s := by
  simp only [cdom, Collector.addSubstitute, key_amErase, key_amSet]; grind

def domLe (c c' : Collector) : Prop := ∀ v, cdom c v → cdom c' v

theorem domLe_refl (c : Collector) : domLe c c := fun _ h => h
theorem domLe_trans {a b c : Collector} (h1 : domLe a b) (h2 : domLe b c) : domLe a c :=
  fun v h => h2 v (h1 v h)

/-! ### edges only disappear, except when a vertex that has edges is collapsed -/

theorem isIsolated_iff {g : Graph} {v : Iv} : isIsolated g v = true ↔ outOf g v = [] ∧ incOf g v = [] := by
  simp [isIsolated, List.isEmpty_iff]

/-- `g'` has no edge that `g` has not; carried through the steps so that a vertex isolated when `remove_isolates` collects
    its list is still isolated when it is discarded (`isolatesPhase_good`) -/
def EdgesLe (g g' : Graph) : Prop := (∀ p ∈ g'.out, p ∈ g.out) ∧ (∀ p ∈ g'.inc, p ∈ g.inc)

theorem EdgesLe.refl (g : Graph) : EdgesLe g g := ⟨fun _ h => h, fun _ h => h⟩

theorem EdgesLe.trans {a b c : Graph} (h1 : EdgesLe a b) (h2 : EdgesLe b c) : EdgesLe a c :=
  ⟨fun p hp => h1.1 p (h2.1 p hp), fun p hp => h1.2 p (h2.2 p hp)⟩

theorem EdgesLe.isolated {g g' : Graph} {v : Iv} (hle : EdgesLe g g') (h : isIsolated g v = true) :
    isIsolated g' v = true := by
  simp only [isIsolated_iff, List.eq_nil_iff_forall_not_mem, mem_outOf, mem_incOf] at h ⊢
  exact ⟨fun w hw => h.1 w (hle.1 _ hw), fun w hw => h.2 w (hle.2 _ hw)⟩

theorem collapseVertex_isolated {g g' : Graph} {c s : Iv} (hc : isIsolated g c = true)
    (h : g.collapseVertex c s = some g') : g'.out = g.out ∧ g'.inc = g.inc := by
  obtain ⟨ho, hi⟩ := isIsolated_iff.1 hc
  unfold Graph.collapseVertex at h
  have hi' : (g.inc.filter (fun p => p.1 = c)).map (·.2) = [] := hi
  simp only [ho, replaceMembers, List.foldl_nil, hi'] at h
  cases h; exact ⟨rfl, rfl⟩

theorem applyOp_known {g g' : Graph} {op : Op} (hj : OpJust P g op) (hne : op ≠ .simplifyMap)
    (ha : applyOp g op = some g') (ho : EAll g.out (cdom g.col)) (hi : EAll g.inc (cdom g.col)) :
    domLe g.col g'.col ∧ EAll g'.out (cdom g'.col) ∧ EAll g'.inc (cdom g'.col) ∧
      ((∀ c t, op = .collapse c t → isIsolated g c = true) → EdgesLe g g') := by
  cases op with
  | touch v =>
    cases ha
    have hle : domLe g.col (g.col.touch v) := fun x hx => touch_dom.2 (Or.inl hx)
    exact ⟨hle, eall_mono ho hle, eall_mono hi hle, fun _ => EdgesLe.refl _⟩
  | discard v =>
    cases ha
    have hle : domLe g.col (g.col.discard v) := fun x hx => discard_dom.2 (Or.inl hx)
    exact ⟨hle, eall_mono ho hle, eall_mono hi hle, fun _ => EdgesLe.refl _⟩
  | delOut v =>
    cases ha
    exact ⟨domLe_refl _, eall_filter ho _, hi, fun _ => ⟨fun p hp => (List.mem_filter.1 hp).1, fun _ h => h⟩⟩
  | delInc v =>
    cases ha
    exact ⟨domLe_refl _, ho, eall_filter hi _, fun _ => ⟨fun _ h => h, fun p hp => (List.mem_filter.1 hp).1⟩⟩
  | collapse c t =>
    have hcol := collapseVertex_col ha
    have hle : domLe g.col g'.col := fun x hx => hcol ▸ addSubstitute_dom.2 (Or.inl hx)
    have ht : cdom g'.col t := hcol ▸ addSubstitute_dom.2 (Or.inr (Or.inr rfl))
    obtain ⟨h1, h2⟩ := collapseVertex_eall (eall_mono ho hle) (eall_mono hi hle) ht ha
    refine ⟨hle, h1, h2, fun hc => ?_⟩
    obtain ⟨e1, e2⟩ := collapseVertex_isolated (hc c t rfl) ha
    exact ⟨fun p hp => e1 ▸ hp, fun p hp => e2 ▸ hp⟩
  | simplifyMap => exact absurd rfl hne
  | _ => exact False.elim hj

section
variable {g0 : Graph}

/-- the operations so far form a justified history; keys and edge endpoints are introns the collector knows -/
structure Good (P : SimpParams) (g0 : Graph) (s : SG) : Prop where
  hist : Hist P g0 s.log s.g
  ok : ∀ v ∈ s.ok, cdom s.g.col v
  ik : ∀ v ∈ s.ik, cdom s.g.col v
  out : EAll s.g.out (cdom s.g.col)
  inc : EAll s.g.inc (cdom s.g.col)

/-- `s'` is a later state of the computation: still good, and the collector knows at least the introns it knew -/
def Step (P : SimpParams) (g0 : Graph) (s s' : SG) : Prop := Good P g0 s' ∧ domLe s.g.col s'.g.col

theorem Step.refl {s : SG} (h : Good P g0 s) : Step P g0 s s := ⟨h, domLe_refl _⟩

theorem Step.trans {a b c : SG} (h1 : Step P g0 a b) (h2 : Step P g0 b c) : Step P g0 a c :=
  ⟨h2.1, domLe_trans h1.2 h2.2⟩

theorem Step.ite {s a b : SG} {c : Prop} [Decidable c] (ha : Step P g0 s a) (hb : Step P g0 s b) :
    Step P g0 s (if c then a else b) := by
  split <;> assumption

theorem Good.keys {s : SG} (hs : Good P g0 s) {ok ik : List Iv} {fr : Bool}
    (hok : ∀ v ∈ ok, cdom s.g.col v) (hik : ∀ v ∈ ik, cdom s.g.col v) : Step P g0 s ⟨s.g, ok, ik, s.log, fr⟩ :=
  ⟨⟨hs.hist, hok, hik, hs.out, hs.inc⟩, domLe_refl _⟩

theorem Good.nbrs {s : SG} (hs : Good P g0 s) {o : Bool} {v w : Iv} (h : w ∈ (if o then outOf s.g v else incOf s.g v)) :
    cdom s.g.col w := by
  split at h
  · exact (hs.out _ (mem_outOf.1 h)).2
  · exact (hs.inc _ (mem_incOf.1 h)).2

theorem addKeys_all {Q : Iv → Prop} {ks l : List Iv} (hk : ∀ v ∈ ks, Q v) (hl : ∀ v ∈ l, Q v) : ∀ v ∈ addKeys ks l, Q v :=
  fun v hv => (mem_addKeys.1 hv).elim (hk v) (hl v)

theorem emit_spec {s s' : SG} {op : Op} (h : s.emit op = some s') :
    ∃ g', applyOp s.g op = some g' ∧ s' = { s with g := g', log := s.log ++ [op] } := by
  unfold SG.emit at h
  split at h
  · cases h
  · rename_i g' hg
    exact ⟨g', hg, (Option.some.inj h).symm⟩

theorem emit_step {s s' : SG} {op : Op} (hs : Good P g0 s) (hj : OpJust P s.g op)
    (hne : op ≠ .simplifyMap) (h : s.emit op = some s') :
    Step P g0 s s' ∧ ((∀ c t, op = .collapse c t → isIsolated s.g c = true) → EdgesLe s.g s'.g) := by
  obtain ⟨g', ha, rfl⟩ := emit_spec h
  obtain ⟨hle, ho, hi, he⟩ := applyOp_known hj hne ha hs.out hs.inc
  exact ⟨⟨⟨Hist.snoc hs.hist hj ha, fun v hv => hle v (hs.ok v hv), fun v hv => hle v (hs.ik v hv), ho, hi⟩, hle⟩, he⟩

/-- defaultdict reads and edge deletions: operations that are justified in every later state -/
theorem emitAll_step (ops : List Op) {s s' : SG} (hs : Good P g0 s)
    (hops : ∀ op ∈ ops, op ≠ .simplifyMap ∧ (∀ c t, op ≠ .collapse c t) ∧ ∀ s1, Step P g0 s s1 → OpJust P s1.g op)
    (h : s.emitAll ops = some s') : Step P g0 s s' ∧ EdgesLe s.g s'.g := by
  induction ops generalizing s with
  | nil => cases h; exact ⟨Step.refl hs, EdgesLe.refl _⟩
  | cons op t ih =>
    simp only [SG.emitAll] at h
    split at h
    · cases h
    · rename_i s1 h1
      obtain ⟨hne, hnc, hj⟩ := hops op (by simp)
      obtain ⟨hst, he⟩ := emit_step hs (hj s (Step.refl hs)) hne h1
      have he := he fun c t e => absurd e (hnc c t)
      obtain ⟨hst', he'⟩ := ih hst.1 (fun op' ho => by
        obtain ⟨a, b, c⟩ := hops op' (by simp [ho])
        exact ⟨a, b, fun s2 h2 => c s2 (hst.trans h2)⟩) h
      exact ⟨hst.trans hst', he.trans he'⟩

/-- members of the set `incoming_edges[c]` after the first half of `collapse_vertex` -/
theorem collapse_incC_dom {s : SG} {c t : Iv} (hi : EAll s.g.inc (cdom s.g.col)) (ht : cdom s.g.col t) :
    ∀ v ∈ (match replaceMembers s.g.inc c t (outOf s.g c) with
      | some inc1 => (inc1.filter (fun p : Iv × Iv => p.1 = c)).map (fun p : Iv × Iv => p.2)
      | none => ([] : List Iv)), cdom s.g.col v := by
  intro v hv
  split at hv
  · rename_i inc1 h1
    have := replaceMembers_forall (c := c) (s := t) (Q := fun p => cdom s.g.col p.1 ∧ cdom s.g.col p.2)
      (fun _ hq => ⟨hq.1, ht⟩) _ hi h1
    simp only [List.mem_map, List.mem_filter] at hv
    obtain ⟨q, ⟨hq, _⟩, rfl⟩ := hv
    exact (this q hq).2
  · simp at hv

theorem collapse_step {s s' : SG} {c t : Iv} (hs : Good P g0 s)
    (hj : OpJust P s.g (.collapse c t)) (h : s.collapse c t = some s') :
    Step P g0 s s' ∧ (isIsolated s.g c = true → EdgesLe s.g s'.g) := by
  unfold SG.collapse at h
  simp only at h
  split at h
  · cases h
  · rename_i s1 h1
    cases h
    obtain ⟨hst, he⟩ := emit_step hs hj nofun h1
    have hct : ∀ v ∈ [t, c], cdom s1.g.col v := by
      simp only [List.mem_cons, List.not_mem_nil, or_false]
      rintro v (rfl | rfl)
      · exact hst.2 _ hj.2.2.2
      · exact hst.2 _ hj.2.2.1
    refine ⟨hst.trans (Good.keys hst.1 ?_ ?_), fun hc => he fun _ _ e => by cases e; exact hc⟩
    · exact addKeys_all (addKeys_all hst.1.ok hct) fun v hv => hst.2 _ (collapse_incC_dom hs.inc hj.2.2.2 v hv)
    · exact addKeys_all (addKeys_all hst.1.ik fun v hv => hst.2 _ (hs.out _ (mem_outOf.1 hv)).2) hct

theorem minCi?_mem {l : List (Int × Iv)} {m : Int × Iv} (h : minCi? l = some m) : m ∈ l := by
  induction l generalizing m with
  | nil => simp [minCi?] at h
  | cons a t ih =>
    simp only [minCi?] at h
    split at h
    · cases h; simp
    · rename_i b hb
      split at h
      · cases h; simp
      · cases h; exact List.mem_cons_of_mem _ (ih hb)

theorem cvsCands_spec {cl : List (Iv × Int)} {approved : List Iv} {count : Int} {v : Iv} {m : Int × Iv}
    (h : m ∈ cvsCands P cl approved count v) :
    m.2 ∈ approved ∧ nearD P.dist m.2 v = true ∧ count * 1000 < cnt cl m.2 * P.ratioM := by
  simp only [cvsCands, List.mem_map, List.mem_filter, Bool.and_eq_true, decide_eq_true_eq] at h
  obtain ⟨i, ⟨hi, hn, hc⟩, rfl⟩ := h
  exact ⟨hi, hn, hc⟩

/-- what `collapse_vertex_set` promises about a pair `(vertex, substitute)` over the vertex set `S` -/
def CvsPair (P : SimpParams) (cl : List (Iv × Int)) (S : List Iv) (p : Iv × Iv) : Prop :=
  p.1 ≠ p.2 ∧ nearD P.dist p.2 p.1 = true ∧ p.1 ∈ S ∧ p.2 ∈ S ∧ cnt cl p.1 * 1000 < cnt cl p.2 * P.ratioM

theorem cvsLoop_spec (P : SimpParams) (cl : List (Iv × Int)) (S : List Iv) (L : List (Int × Iv)) (approved : List Iv)
    (sub : List (Iv × Iv)) (fr : Bool) (hL : (L.map (·.2)).Nodup) (hLS : ∀ e ∈ L, e.1 = cnt cl e.2 ∧ e.2 ∈ S)
    (hAS : ∀ a ∈ approved, a ∈ S ∧ a ∉ L.map (·.2)) (hsub : ∀ p ∈ sub, CvsPair P cl S p) :
    ∀ p ∈ (cvsLoop P cl L approved sub fr).1, CvsPair P cl S p := by
  induction L generalizing approved sub fr with
  | nil => simpa [cvsLoop] using hsub
  | cons e t ih =>
    obtain ⟨count, v⟩ := e
    obtain ⟨hv, hL⟩ := List.nodup_cons.1 hL
    obtain ⟨hcv, hvS⟩ : count = cnt cl v ∧ v ∈ S := hLS (count, v) (by simp)
    have hLS' : ∀ e ∈ t, e.1 = cnt cl e.2 ∧ e.2 ∈ S := fun e he => hLS e (by simp [he])
    have hAS' : ∀ a ∈ approved, a ∈ S ∧ a ∉ t.map (·.2) :=
      fun a ha => ⟨(hAS a ha).1, fun hc => (hAS a ha).2 (by simp [hc])⟩
    simp only [cvsLoop]
    split
    · refine ih _ _ _ hL hLS' (fun a ha => ?_) hsub
      rcases List.mem_append.1 ha with ha | ha
      · exact hAS' a ha
      · rw [List.mem_singleton.1 ha]; exact ⟨hvS, hv⟩
    · rename_i m hm
      obtain ⟨h1, h2, h3⟩ := cvsCands_spec (minCi?_mem hm)
      refine ih _ _ _ hL hLS' hAS' fun p hp => ?_
      rcases mem_amSet hp with rfl | h'
      · exact ⟨fun (heq : v = m.2) => (hAS m.2 h1).2 (by simp [← heq]), h2, hvS, (hAS _ h1).1, hcv ▸ h3⟩
      · exact hsub p h'

theorem mem_sortedByCount {all : List (Iv × Int)} {e : Int × Iv} : e ∈ sortedByCount all ↔ (e.2, e.1) ∈ all := by
  simp only [sortedByCount, List.mem_reverse, mem_insSort, List.mem_map]
  constructor
  · rintro ⟨p, hp, rfl⟩; exact hp
  · intro h; exact ⟨(e.2, e.1), h, rfl⟩

theorem sortedByCount_keys_perm (all : List (Iv × Int)) : ((sortedByCount all).map (·.2)).Perm (all.map (·.1)) := by
  unfold sortedByCount
  have h1 : (insSort ciLe (all.map (fun p => (p.2, p.1)))).reverse.Perm (all.map (fun p => (p.2, p.1))) :=
    (List.reverse_perm _).trans (insSort_perm _ _)
  have h2 := h1.map (fun e : Int × Iv => e.2)
  simpa [List.map_map, Function.comp_def] using h2

theorem cvs_pairs_spec {cl : List (Iv × Int)} {vs : List Iv} {p : Iv × Iv}
    (h : p ∈ sortSubst (collapseVertexSet P cl vs).1) : CvsPair P cl vs p := by
  simp only [sortSubst, mem_insSort] at h
  unfold collapseVertexSet at h
  split at h
  · cases h
  · have hperm := sortedByCount_keys_perm ((dedupIv vs).map (fun i => (i, cnt cl i)))
    have hmap : ((dedupIv vs).map (fun i => (i, cnt cl i))).map (·.1) = dedupIv vs := by
      simp [List.map_map, Function.comp_def]
    rw [hmap] at hperm
    refine cvsLoop_spec P cl vs _ [] [] false (hperm.nodup_iff.2 (nodup_dedupIv vs)) (fun e he => ?_) (by simp) (by simp) p h
    obtain ⟨i, hi, e'⟩ := List.mem_map.1 (mem_sortedByCount.1 he)
    obtain ⟨rfl, h2⟩ := Prod.mk.inj e'
    exact ⟨h2.symm, mem_dedupIv.1 hi⟩

theorem touches_step {vs : List Iv} {s s' : SG} (hs : Good P g0 s)
    (hvs : ∀ v ∈ vs, cdom s.g.col v) (h : s.emitAll (touchOps s.g vs) = some s') : Step P g0 s s' ∧ EdgesLe s.g s'.g :=
  emitAll_step _ hs (fun op ho => by
    simp only [touchOps, List.mem_map, List.mem_filter] at ho
    obtain ⟨v, ⟨hv, _⟩, rfl⟩ := ho
    exact ⟨nofun, fun _ _ => nofun, fun s1 h1 => h1.2 v (hvs v (mem_dedupIv.1 hv))⟩) h

theorem collapseAll_step (l : List (Iv × Iv)) {s s' : SG} {rem rem' : List Iv}
    (hs : Good P g0 s)
    (hl : ∀ p ∈ l, p.1 ≠ p.2 ∧ nearD P.dist p.2 p.1 = true ∧ cdom s.g.col p.1 ∧ cdom s.g.col p.2)
    (h : collapseAll l (s, rem) = some (s', rem')) :
    Step P g0 s s' ∧ ((∀ p ∈ l, isIsolated s.g p.1 = true) → EdgesLe s.g s'.g) := by
  induction l generalizing s rem with
  | nil => cases h; exact ⟨Step.refl hs, fun _ => EdgesLe.refl _⟩
  | cons e t ih =>
    obtain ⟨i, x⟩ := e
    simp only [collapseAll] at h
    split at h
    · obtain ⟨h1, h2⟩ := ih hs (fun p hp => hl p (by simp [hp])) h
      exact ⟨h1, fun hi => h2 fun p hp => hi p (by simp [hp])⟩
    · split at h
      · cases h
      · rename_i s1 h1
        obtain ⟨hst, he⟩ := collapse_step hs (hl (i, x) (by simp)) h1
        obtain ⟨hst', he'⟩ := ih hst.1 (fun p hp => by
          obtain ⟨a, b, c, d⟩ := hl p (by simp [hp])
          exact ⟨a, b, hst.2 _ c, hst.2 _ d⟩) h
        refine ⟨hst.trans hst', fun hi => ?_⟩
        have e1 := he (hi (i, x) (by simp))
        exact e1.trans (he' fun p hp => e1.isolated (hi p (by simp [hp])))

theorem collapseSet_step {vs : List Iv} {s s' : SG} {rem rem' : List Iv} (hs : Good P g0 s)
    (hvs : ∀ v ∈ vs, cdom s.g.col v) (h : collapseSet P vs (s, rem) = some (s', rem')) :
    Step P g0 s s' ∧ ((∀ v ∈ vs, isIsolated s.g v = true) → EdgesLe s.g s'.g) := by
  unfold collapseSet at h
  split at h
  · cases h; exact ⟨Step.refl hs, fun _ => EdgesLe.refl _⟩
  · simp only at h
    split at h
    · cases h
    · rename_i s1 h1
      obtain ⟨hst, he⟩ := touches_step hs hvs h1
      obtain ⟨hst', he'⟩ := collapseAll_step _
        (hst.1.keys (fr := s1.fragile || (collapseVertexSet P s1.g.col.clustered vs).2) hst.1.ok hst.1.ik).1
        (fun p hp => by
          obtain ⟨a, b, c, d, _⟩ := cvs_pairs_spec hp
          exact ⟨a, b, hst.2 _ (hvs _ c), hst.2 _ (hvs _ d)⟩) h
      exact ⟨⟨hst'.1, domLe_trans hst.2 hst'.2⟩,
        fun hi => he.trans (he' fun p hp => he.isolated (hi _ (cvs_pairs_spec hp).2.2.1))⟩

theorem tipsLoop_good {o : Bool} (l : List Iv) {s s' : SG} {rem rem' : List Iv}
    (hs : Good P g0 s) (h : tipsLoop P o l (s, rem) = some (s', rem')) : Step P g0 s s' := by
  induction l generalizing s rem with
  | nil => cases h; exact Step.refl hs
  | cons cur t ih =>
    simp only [tipsLoop] at h
    split at h
    · cases h
    · rename_i st' h1
      have hst := (collapseSet_step hs (fun _ hv => hs.nbrs hv) h1).1
      exact hst.trans (ih hst.1 h)

theorem delVertex_step {s s' : SG} {v : Iv} (hs : Good P g0 s)
    (h : s.delVertex v = some s') : Step P g0 s s' ∧ EdgesLe s.g s'.g := by
  unfold SG.delVertex at h
  split at h
  · cases h
  · rename_i s1 h1
    cases h
    obtain ⟨hst, he⟩ := emitAll_step _ hs (fun op ho => by
      simp only [List.mem_cons, List.not_mem_nil, or_false] at ho
      rcases ho with rfl | rfl <;> exact ⟨nofun, fun _ _ => nofun, fun _ _ => trivial⟩) h1
    exact ⟨hst.trans (hst.1.keys (fun x hx => hst.1.ok x (List.mem_filter.1 hx).1)
      (fun x hx => hst.1.ik x (List.mem_filter.1 hx).1)), he⟩

theorem delVertices_step (l : List Iv) {s s' : SG} (hs : Good P g0 s)
    (h : s.delVertices l = some s') : Step P g0 s s' ∧ EdgesLe s.g s'.g := by
  induction l generalizing s with
  | nil => cases h; exact ⟨Step.refl hs, EdgesLe.refl _⟩
  | cons v t ih =>
    simp only [SG.delVertices] at h
    split at h
    · cases h
    · rename_i s1 h1
      obtain ⟨hst, he⟩ := delVertex_step hs h1
      obtain ⟨hst', he'⟩ := ih hst.1 h
      exact ⟨hst.trans hst', he.trans he'⟩

theorem tipsPhase_good {o : Bool} {s s' : SG} (hs : Good P g0 s)
    (h : tipsPhase P o s = some s') : Step P g0 s s' := by
  unfold tipsPhase at h
  split at h
  · cases h
  · rename_i s1 rem h1
    have hst := tipsLoop_good _ hs h1
    exact hst.trans (delVertices_step _ hst.1 h).1

theorem mem_nbrs {g : Graph} {o : Bool} {v w : Iv} :
    w ∈ (if o then outOf g v else incOf g v) ↔ (v, w) ∈ (if o then g.out else g.inc) := by
  cases o <;> simp [mem_outOf, mem_incOf]

/-- one step of the walk: it ends at `v`, or `v` is on the path already, or it moves on to the only neighbour of `v` -/
theorem deadWalk_succ (g : Graph) (o : Bool) (n : Nat) (path : List Iv) (v : Iv) :
    (∃ p, deadWalk g o (n + 1) path v = .done (path ++ [v]) p) ∨
    (v ∈ path ∧ deadWalk g o (n + 1) path v = .cycle) ∨
    (v ∉ path ∧ ∃ w, (if o then outOf g v else incOf g v) = [w] ∧
      deadWalk g o (n + 1) path v = deadWalk g o n (path ++ [v]) w) := by
  generalize hr : deadWalk g o (n + 1) path v = r
  simp only [deadWalk] at hr
  by_cases h1 : cnt g.col.clustered v = 1
  · rw [if_pos h1] at hr
    by_cases h2 : v ∈ path
    · rw [if_pos h2] at hr; exact Or.inr (Or.inl ⟨h2, hr.symm⟩)
    · rw [if_neg h2] at hr
      split at hr
      · exact Or.inl ⟨_, hr.symm⟩
      · rename_i w heq; exact Or.inr (Or.inr ⟨h2, w, heq, hr.symm⟩)
      · exact Or.inl ⟨_, hr.symm⟩
  · rw [if_neg h1] at hr; exact Or.inl ⟨_, hr.symm⟩

theorem deadWalk_visited {g : Graph} {o : Bool} (Q : Iv → Prop)
    (hE : ∀ v w, w ∈ (if o then outOf g v else incOf g v) → Q w) :
    ∀ (fuel : Nat) (path : List Iv) (v : Iv) (vis p : List Iv), (∀ x ∈ path, Q x) → Q v →
      deadWalk g o fuel path v = .done vis p → ∀ x ∈ vis, Q x := by
  intro fuel
  induction fuel with
  | zero => intro path v vis p _ _ h; simp [deadWalk] at h
  | succ n ih =>
    intro path v vis p hpath hv h
    have hpv : ∀ x ∈ path ++ [v], Q x := by
      simp only [List.mem_append, List.mem_singleton]
      rintro x (hx | rfl)
      · exact hpath x hx
      · exact hv
    rcases deadWalk_succ g o n path v with ⟨p', e⟩ | ⟨_, e⟩ | ⟨_, w, hw, e⟩ <;> rw [e] at h
    · cases h; exact hpv
    · cases h
    · exact ih _ w vis p hpv (hE v w (by rw [hw]; simp)) h

theorem walkAll_visited {g : Graph} {o : Bool} (Q : Iv → Prop)
    (hE : ∀ v w, w ∈ (if o then outOf g v else incOf g v) → Q w) (l : List Iv) {vis : List Iv} {paths : List (List Iv)}
    (hl : ∀ i ∈ l, Q i) (h : walkAll g o l = some (vis, paths)) : ∀ x ∈ vis, Q x := by
  induction l generalizing vis paths with
  | nil => cases h; simp
  | cons i t ih =>
    simp only [walkAll] at h
    split at h
    · rename_i v1 p1 vs ps h1 h2
      cases h
      exact fun x hx => (List.mem_append.1 hx).elim (deadWalk_visited Q hE _ [] i v1 p1 (by simp) (hl i (by simp)) h1 x)
        (ih (fun j hj => hl j (by simp [hj])) h2 x)
    · cases h

/-- edge pairs whose key has not been walked yet: the measure of the dead-end walk -/
def unwalked (g : Graph) (o : Bool) (path : List Iv) : Nat :=
  ((if o then g.out else g.inc).filter (fun p => decide (p.1 ∉ path))).length

theorem unwalked_lt {g : Graph} {o : Bool} {path : List Iv} {v w : Iv} (hv : v ∉ path)
    (hvw : (v, w) ∈ (if o then g.out else g.inc)) : unwalked g o (path ++ [v]) < unwalked g o path := by
  have : (fun p : Iv × Iv => decide (p.1 ∉ path ++ [v])) = fun p => decide (p.1 ≠ v) && decide (p.1 ∉ path) := by
    funext p; simp [and_comm]
  unfold unwalked
  rw [this, ← List.filter_filter]
  exact List.length_filter_lt_length_iff_exists.2 ⟨(v, w), List.mem_filter.2 ⟨hvw, by simpa using hv⟩, by simp⟩

theorem deadWalk_fuel (g : Graph) (o : Bool) :
    ∀ (fuel : Nat) (path : List Iv) (v : Iv), unwalked g o path < fuel → deadWalk g o fuel path v ≠ .fuel := by
  intro fuel
  induction fuel with
  | zero => intro path v h; simp at h
  | succ n ih =>
    intro path v hlt
    rcases deadWalk_succ g o n path v with ⟨p, e⟩ | ⟨_, e⟩ | ⟨hvp, w, hw, e⟩ <;> rw [e]
    · simp
    · simp
    · have := unwalked_lt hvp (mem_nbrs.1 (by rw [hw]; simp : w ∈ _))
      exact ih _ w (by omega)

theorem deadWalk_no_cycle (g : Graph) (o : Bool) (w : Iv → Int)
    (hE : ∀ v x, x ∈ (if o then outOf g v else incOf g v) → w v < w x) :
    ∀ (fuel : Nat) (path : List Iv) (v : Iv), (∀ x ∈ path, w x < w v) → deadWalk g o fuel path v ≠ .cycle := by
  intro fuel
  induction fuel with
  | zero => intro path v _; simp [deadWalk]
  | succ n ih =>
    intro path v hp
    rcases deadWalk_succ g o n path v with ⟨p, e⟩ | ⟨hvp, e⟩ | ⟨_, x, hx, e⟩ <;> rw [e]
    · simp
    · exact absurd (hp v hvp) (Int.lt_irrefl _)
    · have hvx : w v < w x := hE v x (by rw [hx]; simp)
      refine ih _ x fun y hy => ?_
      rcases List.mem_append.1 hy with hy | hy
      · have := hp y hy; omega
      · rw [List.mem_singleton.1 hy]; exact hvx

theorem walkAll_isSome (g : Graph) (o : Bool) (l : List Iv)
    (h : ∀ i ∈ l, deadWalk g o (walkFuel g o) [] i ≠ .fuel ∧ deadWalk g o (walkFuel g o) [] i ≠ .cycle) :
    ∃ r, walkAll g o l = some r := by
  induction l with
  | nil => exact ⟨_, rfl⟩
  | cons i t ih =>
    obtain ⟨r, hr⟩ := ih (fun j hj => h j (by simp [hj]))
    obtain ⟨h1, h2⟩ := h i (by simp)
    simp only [walkAll, hr]
    cases hd : deadWalk g o (walkFuel g o) [] i with
    | fuel => exact absurd hd h1
    | cycle => exact absurd hd h2
    | done vis p => exact ⟨_, rfl⟩

theorem walkFuel_enough (g : Graph) (o : Bool) : unwalked g o [] < walkFuel g o := by
  unfold unwalked walkFuel
  cases o <;> simp <;> exact Nat.lt_succ_of_le (List.length_filter_le _ _)

theorem deadStep_good {o : Bool} {s s' : SG} {tc tc' : List (Iv × List Iv)} {cur : Iv}
    (hs : Good P g0 s) (hcur : cdom s.g.col cur) (h : deadStep P o (s, tc) cur = some (s', tc')) :
    Step P g0 s s' ∧ ∀ e ∈ tc', e ∈ tc ∨ e.1 = cur := by
  simp only [deadStep] at h
  split at h
  · cases h
  · rename_i s1 h1
    have hst1 := (touches_step (vs := [cur]) hs (by simpa using hcur) h1).1
    by_cases hc : cnt s1.g.col.clustered cur < P.sac
    · rw [if_pos hc] at h; cases h; exact ⟨hst1, fun e he => Or.inl he⟩
    · rw [if_neg hc] at h
      split at h
      · cases h
      · rename_i vis paths hw
        have hvis : ∀ x ∈ vis, cdom s1.g.col x :=
          walkAll_visited (cdom s1.g.col) (fun _ _ => hst1.1.nbrs) _ (fun _ => hst1.1.nbrs) hw
        split at h
        · cases h
        · rename_i s2 h2
          have hst2 := (touches_step hst1.1 hvis h2).1
          have hvis2 : ∀ x ∈ vis, cdom s2.g.col x := fun x hx => hst2.2 _ (hvis x hx)
          have hs3 := ((hst1.trans hst2).trans (Step.ite (c := o = true)
            (hst2.1.keys (fr := s2.fragile) (addKeys_all hst2.1.ok hvis2) hst2.1.ik)
            (hst2.1.keys (fr := s2.fragile) hst2.1.ok (addKeys_all hst2.1.ik hvis2))))
          by_cases hp : paths.any (·.isEmpty) = true
          · rw [if_pos hp] at h; cases h; exact ⟨hs3, fun e he => Or.inl he⟩
          · rw [if_neg hp] at h; cases h
            refine ⟨hs3, fun e he => (List.mem_append.1 he).imp id fun h' => ?_⟩
            rw [List.mem_singleton.1 h']

theorem deadLoop_good {o : Bool} (l : List Iv) {s s' : SG} {tc tc' : List (Iv × List Iv)}
    (hs : Good P g0 s) (hl : ∀ cur ∈ l, cdom s.g.col cur) (h : deadLoop P o l (s, tc) = some (s', tc')) :
    Step P g0 s s' ∧ ∀ e ∈ tc', e ∈ tc ∨ e.1 ∈ l := by
  induction l generalizing s tc with
  | nil => cases h; exact ⟨Step.refl hs, fun e he => Or.inl he⟩
  | cons cur t ih =>
    simp only [deadLoop] at h
    split at h
    · cases h
    · rename_i st' h1
      obtain ⟨s1, tc1⟩ := st'
      obtain ⟨hst, h1'⟩ := deadStep_good hs (hl cur (by simp)) h1
      obtain ⟨hst', h2'⟩ := ih hst.1 (fun c hc => hst.2 _ (hl c (by simp [hc]))) h
      refine ⟨hst.trans hst', fun e he => ?_⟩
      rcases h2' e he with h' | h'
      · exact (h1' e h').imp id fun e' => by simp [e']
      · exact Or.inr (List.mem_cons_of_mem _ h')

theorem emitIf_step {s s' : SG} {c : Prop} [Decidable c] {op : Op} (hs : Good P g0 s)
    (hj : OpJust P s.g op) (hne : op ≠ .simplifyMap) (h : (if c then s.emit op else some s) = some s') :
    Step P g0 s s' := by
  split at h
  · exact (emit_step hs hj hne h).1
  · cases h; exact Step.refl hs

theorem delIfKey_good {s s' : SG} {i : Iv} (hs : Good P g0 s) (h : s.delIfKey i = some s') :
    Step P g0 s s' := by
  unfold SG.delIfKey at h
  split at h
  · cases h
  · rename_i s1 h1
    split at h
    · cases h
    · rename_i s2 h2
      cases h
      have a := emitIf_step hs (op := .delOut i) trivial nofun h1
      have b := emitIf_step a.1 (op := .delInc i) trivial nofun h2
      exact (a.trans b).trans (b.1.keys (fun x hx => b.1.ok x (List.mem_filter.1 hx).1)
        (fun x hx => b.1.ik x (List.mem_filter.1 hx).1))

theorem delIfKeys_good (l : List Iv) {s s' : SG} (hs : Good P g0 s)
    (h : s.delIfKeys l = some s') : Step P g0 s s' := by
  induction l generalizing s with
  | nil => cases h; exact Step.refl hs
  | cons i t ih =>
    simp only [SG.delIfKeys] at h
    split at h
    · cases h
    · rename_i s1 h1
      have hst := delIfKey_good hs h1
      exact hst.trans (ih hst.1 h)

theorem deadClean_good {o : Bool} {s s' : SG} {e : Iv × List Iv} (hs : Good P g0 s)
    (he : cdom s.g.col e.1) (h : deadClean o s e = some s') : Step P g0 s s' := by
  unfold deadClean at h
  simp only at h
  split at h
  · cases h
  · rename_i s1 h1
    have a : Step P g0 s s1 := emitIf_step hs (by cases o <;> trivial) (by cases o <;> nofun) h1
    have hk : ∀ ks : List Iv, (∀ v ∈ ks, cdom s1.g.col v) → ∀ v ∈ setAdd ks e.1, cdom s1.g.col v :=
      fun ks hk v hv => (mem_setAdd.1 hv).elim (hk v) fun e' => e' ▸ a.2 _ he
    have b := Step.ite (c := o = true) (a.1.keys (fr := s1.fragile) (hk _ a.1.ok) a.1.ik)
      (a.1.keys (fr := s1.fragile) a.1.ok (hk _ a.1.ik))
    exact (a.trans b).trans (delIfKeys_good _ b.1 h)

theorem deadCleanAll_good {o : Bool} (l : List (Iv × List Iv)) {s s' : SG} (hs : Good P g0 s)
    (hl : ∀ e ∈ l, cdom s.g.col e.1) (h : deadCleanAll o l s = some s') : Step P g0 s s' := by
  induction l generalizing s with
  | nil => cases h; exact Step.refl hs
  | cons e t ih =>
    simp only [deadCleanAll] at h
    split at h
    · cases h
    · rename_i s1 h1
      have hst := deadClean_good hs (hl e (by simp)) h1
      exact hst.trans (ih hst.1 (fun e' he' => hst.2 _ (hl e' (by simp [he']))) h)

theorem deadPhase_good {o : Bool} {s s' : SG} (hs : Good P g0 s)
    (h : deadPhase P o s = some s') : Step P g0 s s' := by
  unfold deadPhase at h
  split at h
  · cases h
  · rename_i s1 tc h1
    have hkeys : ∀ cur ∈ sortIv (if o then s.ok else s.ik), cdom s.g.col cur := by
      intro cur hc
      rw [mem_sortIv] at hc
      split at hc
      · exact hs.ok cur hc
      · exact hs.ik cur hc
    obtain ⟨hst, htc⟩ := deadLoop_good _ hs hkeys h1
    exact hst.trans (deadCleanAll_good _ hst.1 (fun e he => hst.2 _ ((htc e he).elim (by simp) (hkeys _))) h)

theorem emitAll_discards (l : List Iv) {s s' : SG} (hs : Good P g0 s) (hnd : l.Nodup)
    (hl : ∀ v ∈ l, OpJust P s.g (.discard v)) (h : s.emitAll (l.map Op.discard) = some s') : Step P g0 s s' := by
  induction l generalizing s with
  | nil => cases h; exact Step.refl hs
  | cons v t ih =>
    simp only [List.map_cons, SG.emitAll] at h
    split at h
    · cases h
    · rename_i s1 h1
      have hst := (emit_step hs (hl v (by simp)) nofun h1).1
      obtain ⟨g', ha, rfl⟩ := emit_spec h1
      cases ha
      have hnd' := List.nodup_cons.1 hnd
      refine hst.trans (ih hst.1 hnd'.2 (fun w hw => ?_) h)
      have hwv : w ≠ v := fun heq => hnd'.1 (heq ▸ hw)
      obtain ⟨a, b, c, d⟩ := hl w (by simp [hw])
      exact (show _ ∧ _ ∧ _ ∧ _ from ⟨key_amErase.2 ⟨hwv, a⟩, b, (cnt_amErase _ v w ▸ if_neg hwv ▸ c : cnt (amErase s.g.col.clustered v) w < P.isoAbs), d⟩)

theorem isolatesPhase_good {s s' : SG} (hs : Good P g0 s)
    (h : isolatesPhase P s = some s') : Step P g0 s s' := by
  unfold isolatesPhase at h
  simp only at h
  have hkeys : ∀ v ∈ dedupIv (amKeys s.g.col.clustered), cdom s.g.col v := fun v hv => Or.inl (mem_dedupIv.1 hv)
  have hs0 : Step P g0 s (s.readIsolated (dedupIv (amKeys s.g.col.clustered))) :=
    hs.keys (addKeys_all hs.ok hkeys) (addKeys_all hs.ik fun v hv => hkeys v (List.mem_filter.1 hv).1)
  split at h
  · cases h
  · rename_i s1 rem h1
    obtain ⟨hst1, he1⟩ := collapseSet_step hs0.1 (fun v hv => hkeys v (List.mem_filter.1 hv).1) h1
    have he1 := he1 fun v hv => (List.mem_filter.1 hv).2
    split at h
    · cases h
    · rename_i s2 h2
      obtain ⟨hst2, he2⟩ := delVertices_step _ hst1.1 h2
      split at h
      · cases h
      · rename_i s3 h3
        have hst3 : Step P g0 s2 s3 := by
          refine emitAll_discards _ hst2.1 (((nodup_dedupIv _).filter _).filter _) (fun v hv => ?_) h3
          simp only [List.mem_filter, Bool.and_eq_true, decide_eq_true_eq, Bool.not_eq_true',
            decide_eq_false_iff_not] at hv
          obtain ⟨⟨_, hvi⟩, ⟨hh, hk⟩, hc⟩ := hv
          exact (show _ ∧ _ ∧ _ ∧ _ from ⟨amHas_iff_key.1 hh, hk, hc, (he1.trans he2).isolated hvi⟩)
        exact (((hs0.trans hst1).trans hst2).trans hst3).trans (delVertices_step _ hst3.1 h).1

theorem init_good {g : Graph} (ho : EAll g.out (cdom g.col)) (hi : EAll g.inc (cdom g.col)) :
    Good P g (SG.init g) := by
  refine ⟨Hist.nil, fun v hv => ?_, fun v hv => ?_, ho, hi⟩
  · obtain ⟨p, hp, rfl⟩ := List.mem_map.1 (mem_dedupIv.1 hv)
    exact (ho p hp).1
  · obtain ⟨p, hp, rfl⟩ := List.mem_map.1 (mem_dedupIv.1 hv)
    exact (hi p hp).1

/-- the operations the computed `simplify()` performs form a justified history from the input graph to the result -/
theorem simplifySG_hist {g : Graph} {s : SG} (ho : EAll g.out (cdom g.col)) (hi : EAll g.inc (cdom g.col))
    (h : simplifySG P (SG.init g) = some s) : Hist P g s.log s.g := by
  unfold simplifySG at h
  iterate 5 (split at h; · cases h)
  rename_i _ s1 h1 _ s2 h2 _ s3 h3 _ s4 h4 _ s5 h5
  have a1 := tipsPhase_good (init_good (P := P) ho hi) h1
  have a2 := tipsPhase_good a1.1 h2
  have a3 := deadPhase_good a2.1 h3
  have a4 := deadPhase_good a3.1 h4
  have a5 := isolatesPhase_good a4.1 h5
  obtain ⟨g', ha, rfl⟩ := emit_spec h
  exact Hist.snoc a5.1.hist trivial ha

theorem simplify_hist {g g1 : Graph} (ho : EAll g.out (cdom g.col)) (hi : EAll g.inc (cdom g.col))
    (h1 : Graph.simplify P g = some g1) : ∃ ops fr, simplifyOps P g = some (ops, fr) ∧ Hist P g ops g1 := by
  unfold Graph.simplify at h1
  unfold simplifyOps
  cases hs : simplifySG P (SG.init g) with
  | none => simp [hs] at h1
  | some s =>
    simp only [hs, Option.map_some, Option.some.injEq] at h1
    exact ⟨_, _, rfl, h1 ▸ simplifySG_hist ho hi hs⟩

end

def NonNeg (m : List (Iv × Int)) : Prop := ∀ p ∈ m, 0 ≤ p.2

theorem cnt_nonneg {m : List (Iv × Int)} (hm : NonNeg m) (k : Iv) : 0 ≤ cnt m k := by
  unfold cnt
  cases hg : amGet? m k with
  | none => simp
  | some v => simpa using hm (k, v) (amGet?_mem hg)

/-! ### after `process` and `construct()` every edge endpoint is an intron the collector knows -/

def ColClosed (c : Collector) : Prop := ∀ p ∈ c.corr, p.2 ∈ amKeys c.clustered

theorem clusterStep_complete {pairs : List (Iv × Iv)} {minCount : Int} {c : Collector} {ci : Int × Iv} (hc : ColClosed c) :
    ColClosed (clusterStep pairs minCount c ci) ∧ domLe c (clusterStep pairs minCount c ci) ∧
      cdom (clusterStep pairs minCount c ci) ci.2 := by
  rcases clusterStep_cases pairs minCount c ci with h | ⟨s, hs, _, h⟩ | h <;> rw [h]
  · refine ⟨fun p hp => key_amSet.2 (Or.inr (hc p hp)), fun v => ?_, ?_⟩ <;> simp only [cdom, key_amSet] <;> grind
  · refine ⟨fun p hp => ?_, fun v => ?_, ?_⟩
    · rcases mem_amSet hp with rfl | h'
      · exact key_amSet.2 (Or.inl rfl)
      · exact key_amSet.2 (Or.inr (hc p h'))
    · simp only [cdom, key_amSet]; grind
    · simp only [cdom, key_amSet]; grind
  · refine ⟨hc, fun v => ?_, ?_⟩ <;> simp only [cdom, mem_setAdd] <;> grind

theorem foldl_clusterStep_complete {pairs : List (Iv × Iv)} {minCount : Int} (l : List (Int × Iv)) (c : Collector)
    (hc : ColClosed c) :
    ColClosed (l.foldl (clusterStep pairs minCount) c) ∧ domLe c (l.foldl (clusterStep pairs minCount) c) ∧
      ∀ ci ∈ l, cdom (l.foldl (clusterStep pairs minCount) c) ci.2 := by
  induction l generalizing c with
  | nil => exact ⟨hc, domLe_refl _, by simp⟩
  | cons a t ih =>
    simp only [List.foldl_cons]
    obtain ⟨h1, h2, h3⟩ := clusterStep_complete (pairs := pairs) (minCount := minCount) (ci := a) hc
    obtain ⟨i1, i2, i3⟩ := ih _ h1
    refine ⟨i1, domLe_trans h2 i2, ?_⟩
    intro ci hci
    rcases List.mem_cons.1 hci with rfl | hci
    · exact i2 _ h3
    · exact i3 ci hci

theorem collectorProcess_complete (known : List Iv) (δ : Int) (reads : List Read) (minCount : Int) :
    ColClosed (collectorProcess known δ reads minCount) ∧
      ∀ v ∈ obsIntrons reads, cdom (collectorProcess known δ reads minCount) v := by
  unfold collectorProcess clusterIntrons
  obtain ⟨h1, _, h3⟩ := foldl_clusterStep_complete (pairs := simPairs δ (sortIv (amKeys (collectIntrons reads))))
    (minCount := minCount) (sortedByCount (collectIntrons reads)) (Collector.empty known) (by simp [ColClosed, Collector.empty])
  refine ⟨h1, ?_⟩
  intro v hv
  have hk := mem_keys_collectIntrons.2 hv
  simp only [amKeys, List.mem_map] at hk
  obtain ⟨p, hp, rfl⟩ := hk
  exact h3 (p.2, p.1) (mem_sortedByCount.2 hp)

theorem substitute_dom {c : Collector} (hc : ColClosed c) {v : Iv} (hv : cdom c v) : cdom c (c.substitute v) := by
  unfold Collector.substitute
  split
  · rename_i s hs; exact Or.inl (hc _ (amGet?_mem hs))
  · exact hv

theorem runOps_addEdges_ind {obs : List Iv} {I : Graph → Prop} (ops : List Op) {g g' : Graph}
    (hops : ∀ op ∈ ops, ∃ v1 v2, op = Op.addEdge v1 v2 ∧ ∀ g, I g → I (g.addEdge v1 v2)) (h0 : I g)
    (h : runOps obs g ops = some g') : I g' := by
  induction ops generalizing g with
  | nil => cases h; exact h0
  | cons op t ih =>
    obtain ⟨v1, v2, rfl, hI⟩ := hops op (by simp)
    simp only [runOps] at h
    split at h
    · simp only [applyOp] at h
      exact ih (fun op' ho' => hops op' (by simp [ho'])) (hI g h0) h
    · cases h

theorem constructed_col {known : List Iv} {δ minCount : Int} {reads : List Read} {g0 : Graph}
    (h : Graph.constructed known δ reads minCount = some g0) : g0.col = collectorProcess known δ reads minCount :=
  runOps_addEdges_ind (I := fun g => g.col = collectorProcess known δ reads minCount) _ (fun op ho => by
    obtain ⟨v1, v2, rfl, _⟩ := constructOps_scoped _ reads op ho
    exact ⟨v1, v2, rfl, fun _ hg => hg⟩) rfl h

theorem constructed_eall {known : List Iv} {δ minCount : Int} {reads : List Read} {g0 : Graph}
    (h : Graph.constructed known δ reads minCount = some g0) : EAll g0.out (cdom g0.col) ∧ EAll g0.inc (cdom g0.col) := by
  have hc := constructed_col h
  obtain ⟨hcl, hobs⟩ := collectorProcess_complete known δ reads minCount
  rw [← hc] at hcl hobs
  refine (runOps_addEdges_ind (I := fun g => g.col = g0.col ∧ EAll g.out (cdom g0.col) ∧ EAll g.inc (cdom g0.col)) _
    (fun op ho => ?_) ⟨hc.symm, by simp [Graph.init, EAll], by simp [Graph.init, EAll]⟩ h).2
  obtain ⟨v1, v2, rfl, a, b⟩ := constructOps_scoped _ reads op ho
  refine ⟨v1, v2, rfl, fun g ⟨e, ho, hi⟩ => ?_⟩
  have h1 : cdom g0.col (g.col.substitute v1) := by rw [e]; exact substitute_dom hcl (hobs v1 a)
  have h2 : cdom g0.col (g.col.substitute v2) := by rw [e]; exact substitute_dom hcl (hobs v2 b)
  exact ⟨e, eall_setAdd ho h1 h2, eall_setAdd hi h2 h1⟩

/-! ### from justified histories to scoped histories -/

theorem opJust_scoped {obs : List Iv} {g : Graph} {op : Op} (h : OpJust P g op) :
    opScoped obs g op = true := by
  cases op with
  | collapse c s => simp only [opScoped, Bool.and_eq_true, decide_eq_true_eq]; exact ⟨dom_verts h.2.2.1, dom_verts h.2.2.2⟩
  | touch v => simp only [opScoped, decide_eq_true_eq]; exact dom_verts h
  | discard v => simp only [opScoped, decide_eq_true_eq]; exact dom_verts (Or.inl h.1)
  | delOut v | delInc v | simplifyMap => rfl
  | _ => exact False.elim h

theorem hist_runOps {obs : List Iv} {g0 g : Graph} {ops : List Op} (h : Hist P g0 ops g) :
    runOps obs g0 ops = some g := by
  induction h with
  | nil => rfl
  | snoc _ hj ha ih =>
    rw [runOps_append, ih]
    simp only [Option.bind_some, runOps, opJust_scoped hj, if_true, ha]

/-- a read of `clustered_introns[u]` changes no entry of a key and adds at most the key `u`, with count 0 -/
theorem touch_frame (c : Collector) (u : Iv) :
    (c.touch u).corr = c.corr ∧ (c.touch u).discarded = c.discarded ∧ (c.touch u).known = c.known ∧
    (∀ v ∈ amKeys c.clustered, amGet? (c.touch u).clustered v = amGet? c.clustered v) ∧
    (NonNeg c.clustered → NonNeg (c.touch u).clustered) := by
  unfold Collector.touch
  split
  · exact ⟨rfl, rfl, rfl, fun _ _ => rfl, id⟩
  · rename_i h
    exact ⟨rfl, rfl, rfl, fun v hv => amGet?_amSet_ne _ _ _ _ fun e => h (amHas_iff_key.2 (e ▸ hv)),
      fun hn => forall_mem_amSet hn (Int.le_refl 0)⟩

theorem keep_of_get {cl cl' : List (Iv × Int)} {v : Iv} {n : Int} (hg : amGet? cl' v = amGet? cl v)
    (hkey : v ∈ amKeys cl) (hc : n ≤ cnt cl v) : v ∈ amKeys cl' ∧ n ≤ cnt cl' v := by
  obtain ⟨w, hw⟩ := amGet?_isSome_of_key hkey
  exact ⟨key_of_amGet? (hg.trans hw), by simp only [cnt, hg]; exact hc⟩

/-- `v` is still a vertex with at least `n` supporting reads, neither substituted nor discarded; no vertex was invented -/
structure KeepInv (c0 : Collector) (v : Iv) (n : Int) (c : Collector) : Prop where
  key : v ∈ amKeys c.clustered
  cnt : n ≤ cnt c.clustered v
  ncorr : v ∉ amKeys c.corr
  ndisc : v ∉ c.discarded
  nonneg : NonNeg c.clustered
  dom : ∀ u, cdom c u → cdom c0 u
  known : c.known = c0.known

/-- a justified operation keeps `KeepInv`: `hsup` (annotated, or at least `isoAbs` reads) is what `OpJust (.discard v)` denies,
    `hsib` (no other known intron within the clustering distance) is what `OpJust (.collapse v _)`, with its `c ≠ s`, denies;
    every other operation leaves `v` alone -/
theorem keepInv_step {g0 g g' : Graph} {v : Iv} {n : Int} {op : Op} (hk : KeepInv g0.col v n g.col)
    (hsup : v ∈ g0.col.known ∨ P.isoAbs ≤ n) (hsib : ∀ u, cdom g0.col u → nearD P.dist u v = true → u = v)
    (hj : OpJust P g op) (ha : applyOp g op = some g') : KeepInv g0.col v n g'.col := by
  cases op with
  | delOut a | delInc a => cases ha; exact hk
  | touch u =>
    cases ha
    show KeepInv _ _ _ (g.col.touch u)
    obtain ⟨e1, e2, e3, hget, hnn⟩ := touch_frame g.col u
    obtain ⟨k1, k2⟩ := keep_of_get (hget v hk.key) hk.key hk.cnt
    exact ⟨k1, k2, e1 ▸ hk.ncorr, e2 ▸ hk.ndisc, hnn hk.nonneg,
      fun x hx => (touch_dom.1 hx).elim (hk.dom x) fun e => e ▸ hk.dom _ hj, e3.trans hk.known⟩
  | discard u =>
    cases ha
    show KeepInv _ _ _ (g.col.discard u)
    obtain ⟨hu1, hu2, hu3, _⟩ := hj
    have huv : v ≠ u := by
      rintro rfl
      rcases hsup with h | h
      · exact hu2 (hk.known ▸ h)
      · have := hk.cnt; omega
    obtain ⟨k1, k2⟩ := keep_of_get (cl' := amErase g.col.clustered u) (by rw [amGet?_amErase, if_neg huv]) hk.key hk.cnt
    exact ⟨k1, k2, hk.ncorr, fun h => (mem_setAdd.1 h).elim hk.ndisc huv,
      fun p hp => hk.nonneg p (List.mem_filter.1 hp).1,
      fun x hx => (discard_dom.1 hx).elim (hk.dom x) fun e => e ▸ hk.dom _ (Or.inl hu1), hk.known⟩
  | collapse c s =>
    obtain ⟨hcs, hnear, hc, hs⟩ := hj
    rw [collapseVertex_col ha]
    have hvc : v ≠ c := by rintro rfl; exact hcs (hsib s (hk.dom s hs) hnear).symm
    have hnn : NonNeg (amSet g.col.clustered s (cnt g.col.clustered s + cnt g.col.clustered c)) :=
      forall_mem_amSet hk.nonneg (by have := cnt_nonneg hk.nonneg c; have := cnt_nonneg hk.nonneg s; omega)
    refine ⟨key_amErase.2 ⟨hvc, key_amSet.2 (Or.inr hk.key)⟩, ?_, fun h => (key_amSet.1 h).elim hvc hk.ncorr, hk.ndisc,
      fun p hp => hnn p (List.mem_filter.1 hp).1, fun x hx => ?_, hk.known⟩
    · show n ≤ C04.cnt (amErase _ c) v
      rw [cnt_amErase, if_neg hvc, cnt_amSet]
      split
      · have := cnt_nonneg hk.nonneg c
        have := hk.cnt
        subst v
        omega
      · exact hk.cnt
    · rcases addSubstitute_dom.1 hx with h | rfl | rfl
      · exact hk.dom x h
      · exact hk.dom _ hc
      · exact hk.dom _ hs
  | simplifyMap =>
    simp only [applyOp, Option.map_eq_some_iff] at ha
    obtain ⟨c', hc', rfl⟩ := ha
    show KeepInv _ _ _ c'
    obtain ⟨f1, f2, f3, f4, f5⟩ := simplifyCorrectionMap_frame hc'
    obtain ⟨k1, k2⟩ := keep_of_get (f2 v hk.ncorr) hk.key hk.cnt
    refine ⟨k1, k2, fun h => hk.ncorr (f4 v h), fun h => (f5 v h).elim hk.ndisc hk.ncorr,
      fun p hp => hk.nonneg p (f1 p hp), fun x hx => ?_, f3.trans hk.known⟩
    rcases hx with h | h | h
    · obtain ⟨p, hp, rfl⟩ := List.mem_map.1 h
      exact hk.dom _ (Or.inl (List.mem_map.2 ⟨p, f1 p hp, rfl⟩))
    · exact hk.dom x (Or.inr (Or.inl (f4 x h)))
    · exact (f5 x h).elim (fun h' => hk.dom x (Or.inr (Or.inr h'))) fun h' => hk.dom x (Or.inr (Or.inl h'))
  | _ => exact False.elim hj

theorem hist_keeps {g0 g : Graph} {ops : List Op} (h : Hist P g0 ops g) (v : Iv) (n : Int)
    (h0 : KeepInv g0.col v n g0.col) (hsup : v ∈ g0.col.known ∨ P.isoAbs ≤ n)
    (hsib : ∀ u, cdom g0.col u → nearD P.dist u v = true → u = v) : KeepInv g0.col v n g.col := by
  induction h with
  | nil => exact h0
  | snoc _ hj ha ih => exact keepInv_step ih hsup hsib hj ha

theorem hist_split {g0 g : Graph} {ops : List Op} (h : Hist P g0 ops g) :
    ∀ pre op post, ops = pre ++ op :: post → ∃ g1, Hist P g0 pre g1 ∧ OpJust P g1 op := by
  induction h with
  | nil => intro pre op post h; simp at h
  | @snoc ops' g1 g2 op' hh hj ha ih =>
    intro pre op post heq
    rcases List.eq_nil_or_concat post with rfl | ⟨post', x, rfl⟩
    · have : pre ++ [op] = ops' ++ [op'] := by simpa using heq.symm
      obtain ⟨e1, e2⟩ := List.append_inj' this rfl
      simp at e2; subst e1 e2
      exact ⟨g1, hh, hj⟩
    · have : ops' ++ [op'] = (pre ++ op :: post') ++ [x] := by simpa [List.append_assoc] using heq
      obtain ⟨e1, _⟩ := List.append_inj' this rfl
      exact ih pre op post' e1

theorem hist_just {g0 g : Graph} {ops : List Op} (h : Hist P g0 ops g) {op : Op} (hop : op ∈ ops) :
    ∃ pre g1, Hist P g0 pre g1 ∧ OpJust P g1 op := by
  obtain ⟨pre, post, e⟩ := List.append_of_mem hop
  exact ⟨pre, hist_split h pre op post e⟩

theorem applyOp_keys {g g' : Graph} {op : Op} (hj : OpJust P g op) (ha : applyOp g op = some g') :
    (∀ k ∈ amKeys g'.col.corr, k ∈ amKeys g.col.corr ∨ ∃ s, op = .collapse k s) ∧
    (∀ v ∈ amKeys g.col.clustered, v ∈ amKeys g'.col.clustered ∨ (∃ s, op = .collapse v s) ∨ op = .discard v ∨
      v ∈ amKeys g.col.corr) := by
  cases op with
  | delOut a | delInc a => cases ha; exact ⟨fun k hk => Or.inl hk, fun v hv => Or.inl hv⟩
  | touch u =>
    cases ha
    obtain ⟨e1, _, _, hget, _⟩ := touch_frame g.col u
    exact ⟨fun k hk => Or.inl (e1 ▸ hk), fun v hv => Or.inl (keep_of_get (hget v hv) hv (Int.le_refl _)).1⟩
  | discard u =>
    cases ha
    refine ⟨fun k hk => Or.inl hk, fun v hv => ?_⟩
    by_cases hvu : v = u
    · exact Or.inr (Or.inr (Or.inl (hvu ▸ rfl)))
    · exact Or.inl (key_amErase.2 ⟨hvu, hv⟩)
  | collapse c s =>
    rw [collapseVertex_col ha]
    refine ⟨fun k hk => (key_amSet.1 hk).elim (fun e => Or.inr ⟨s, e ▸ rfl⟩) Or.inl, fun v hv => ?_⟩
    by_cases hvc : v = c
    · exact Or.inr (Or.inl ⟨s, hvc ▸ rfl⟩)
    · exact Or.inl (key_amErase.2 ⟨hvc, key_amSet.2 (Or.inr hv)⟩)
  | simplifyMap =>
    simp only [applyOp, Option.map_eq_some_iff] at ha
    obtain ⟨c', hc', rfl⟩ := ha
    obtain ⟨_, f2, _, f4, _⟩ := simplifyCorrectionMap_frame hc'
    refine ⟨fun k hk => Or.inl (f4 k hk), fun v hv => ?_⟩
    by_cases hvk : v ∈ amKeys g.col.corr
    · exact Or.inr (Or.inr (Or.inr hvk))
    · exact Or.inl (keep_of_get (f2 v hvk) hv (Int.le_refl _)).1
  | _ => exact False.elim hj

/-- a key of `clustered_introns` disappears only through `collapse_vertex(v, _)`, `discard(v)`, or — in
    `simplify_correction_map` — because it is also a key of the correction map -/
theorem hist_drop {g0 g : Graph} {ops : List Op} (h : Hist P g0 ops g) :
    (∀ k ∈ amKeys g.col.corr, k ∈ amKeys g0.col.corr ∨ ∃ s, Op.collapse k s ∈ ops) ∧
    (∀ v ∈ amKeys g0.col.clustered, v ∈ amKeys g.col.clustered ∨ (∃ s, Op.collapse v s ∈ ops) ∨ Op.discard v ∈ ops ∨
      v ∈ amKeys g0.col.corr) := by
  induction h with
  | nil => exact ⟨fun k hk => Or.inl hk, fun v hv => Or.inl hv⟩
  | @snoc ops' g1 g2 op hh hj ha ih =>
    obtain ⟨ih1, ih2⟩ := ih
    obtain ⟨s1, s2⟩ := applyOp_keys hj ha
    have old : ∀ {o : Op}, o ∈ ops' → o ∈ ops' ++ [op] := List.mem_append_left _
    have last : ∀ {o : Op}, op = o → o ∈ ops' ++ [op] := fun e => by simp [← e]
    have lift1 : ∀ k ∈ amKeys g1.col.corr, k ∈ amKeys g0.col.corr ∨ ∃ s, Op.collapse k s ∈ ops' ++ [op] :=
      fun k hk => (ih1 k hk).imp_right fun ⟨s, hs⟩ => ⟨s, old hs⟩
    refine ⟨fun k hk => (s1 k hk).elim (lift1 k) fun ⟨s, e⟩ => Or.inr ⟨s, last e⟩, fun v hv => ?_⟩
    rcases ih2 v hv with h | ⟨s, h⟩ | h | h
    · rcases s2 v h with h' | ⟨s, e⟩ | e | h'
      · exact Or.inl h'
      · exact Or.inr (Or.inl ⟨s, last e⟩)
      · exact Or.inr (Or.inr (Or.inl (last e)))
      · exact Or.inr ((lift1 v h').elim (fun h'' => Or.inr (Or.inr h'')) Or.inl)
    · exact Or.inr (Or.inl ⟨s, old h⟩)
    · exact Or.inr (Or.inr (Or.inl (old h)))
    · exact Or.inr (Or.inr (Or.inr h))

theorem foldl_countAdd_nonneg (l : List Iv) (m : List (Iv × Int)) (hm : NonNeg m) : NonNeg (l.foldl countAdd m) :=
  List.foldlRecOn l countAdd hm fun m hm a _ => forall_mem_amSet hm (by have := cnt_nonneg hm a; omega)

theorem collectIntrons_nonneg (reads : List Read) : NonNeg (collectIntrons reads) :=
  collectIntrons_eq reads ▸ foldl_countAdd_nonneg _ _ (List.forall_mem_nil _)

theorem clusterStep_nonneg {pairs : List (Iv × Iv)} {minCount : Int} {c : Collector} {ci : Int × Iv}
    (hc : NonNeg c.clustered) (hci : 0 ≤ ci.1) : NonNeg (clusterStep pairs minCount c ci).clustered := by
  rcases clusterStep_cases pairs minCount c ci with h | ⟨s, _, _, h⟩ | h <;> rw [h]
  · exact forall_mem_amSet hc hci
  · exact forall_mem_amSet hc (by have := cnt_nonneg hc s; omega)
  · exact hc

theorem collectorProcess_nonneg (known : List Iv) (δ : Int) (reads : List Read) (minCount : Int) :
    NonNeg (collectorProcess known δ reads minCount).clustered :=
  clusterIntrons_inv (motive := fun c => NonNeg c.clustered) _ _ _ _ (by simp [NonNeg, Collector.empty])
    fun _ ci hc hci => clusterStep_nonneg hc (collectIntrons_nonneg reads (ci.2, ci.1) (mem_sortedByCount.1 hci))

end

end IsoVerif.Lemmas.C04
