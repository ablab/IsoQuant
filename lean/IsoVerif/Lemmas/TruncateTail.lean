/-
`truncate_read_to_polya` (Model/Interval.lean) as its two index loops followed by `truncTail`, the part that builds the
result: the form in which its translation and its reflection are proved.
-/
import IsoVerif.Model.Interval

namespace IsoVerif.Lemmas.C11
open IsoVerif.Gen IsoVerif.Model

/-- the body of `truncate_read_to_polya` after the two index loops -/
def truncTail (exons : List Iv) (f t : Iv) (startIndex endIndex startPos endPos : Int) : Option (List Iv) :=
  if startPos = f.1 ∧ endPos = t.2 then some exons
  else if startIndex = endIndex then some [(startPos, endPos)]
  else
    match pyGet? exons startIndex, pyGet? exons endIndex with
    | some s, some e =>
      some ((startPos, s.2) :: pySlice exons (startIndex + 1) endIndex ++ [(e.1, endPos)])
    | _, _ => none

theorem truncate_eq (exons : List Iv) (polya polyt : Int) (f t : Iv) (hf : exons.head? = some f) (ht : exons.getLast? = some t) :
    truncateReadToPolya exons polya polyt =
      truncTail exons f t
        (if polyt != -1 then startIndexLoop polyt
            (if polya != -1 then endIndexLoop polya exons.reverse ((exons.length : Int) - 1) else (exons.length : Int) - 1) exons 0 else 0)
        (if polya != -1 then endIndexLoop polya exons.reverse ((exons.length : Int) - 1) else (exons.length : Int) - 1)
        (if polyt != -1 then polyt else f.1) (if polya != -1 then polya else t.2) := by
  simp only [truncateReadToPolya, hf, ht, truncTail]
  rfl

end IsoVerif.Lemmas.C11
