/-
Helper lemmas for C04 (Model/IntronGraph.lean).  Association lists (`amGet?` / `amSet` / `amErase` / `amHas` / `amKeys`, `setAdd`,
the insertion sort; instances of Lemmas/AssocList.lean and Lemmas/InsertionSort.lean), with the rules `forall_mem_amSet`,
`forall_mem_amErase`, `forall_mem_setAdd` that carry a property of all entries through an update.  The invariant rule for monadic folds, `foldlM_option_inv` (beside core's `List.foldlRecOn`), and the recursive loops of
the model (`simplifyLoop`, `replaceMembers`, `runOps`) as monadic folds, so that loop invariants are instances of it
(`SimpInv`, which speaks of the processed prefix, has its own induction: `simplifyLoop_inv`).
Then the "nothing is invented" invariant (`CSub` / `ESub` / `GSub`) through `process`, `construct` and every graph operation
(`collapseVertex_edges` for the edge lists), `thread_introns`, the clean correction map after `simplify_correction_map`
(`SimpInv`, `MapClean`), and what `IntronPathStorage.fill` registers.  Core Lean only.
-/
import IsoVerif.Model.IntronGraph
import IsoVerif.Lemmas.AssocList
import IsoVerif.Lemmas.InsertionSort

namespace IsoVerif.Lemmas.C04
open IsoVerif.Gen IsoVerif.Model IsoVerif.Model.C04 IsoVerif.Lemmas

section
variable {α β : Type _} [DecidableEq α]

/-- `d.get(k)` is `List.lookup`, `d[k] = v` the insertion-ordered update of Lemmas/AssocList.lean -/
theorem amGet?_eq_lookup (m : List (α × β)) (k : α) : amGet? m k = m.lookup k := by
  fun_induction amGet? m k with
  | case1 => rfl
  | case2 => rw [List.lookup_cons_self]
  | case3 k' v t k hne ih => rw [List.lookup_cons, beq_false_of_ne (Ne.symm hne), ih]

theorem amSet_eq_upsert (m : List (α × β)) (k : α) (v : β) : amSet m k v = upsert (fun _ => v) v m k := by
  fun_induction amSet m k v <;> simp_all [upsert]

theorem mem_amSet {m : List (α × β)} {k : α} {v : β} {p : α × β}
    (h : p ∈ amSet m k v) : p = (k, v) ∨ p ∈ m :=
  forall_upsert (P := fun p => p = (k, v) ∨ p ∈ m) _ _ m k (fun _ => Or.inr) (Or.inl rfl) (fun _ _ => Or.inl rfl) p
    (amSet_eq_upsert m k v ▸ h)

theorem mem_amErase {m : List (α × β)} {k : α} {p : α × β}
    (h : p ∈ amErase m k) : p ∈ m ∧ p.1 ≠ k :=
  (List.mem_filter.1 h).imp_right of_decide_eq_true

theorem amGet?_mem {m : List (α × β)} {k : α} {v : β}
    (h : amGet? m k = some v) : (k, v) ∈ m :=
  mem_of_lookup (amGet?_eq_lookup m k ▸ h)

theorem amGet?_none {m : List (α × β)} {k : α}
    (h : amGet? m k = none) : ∀ p ∈ m, p.1 ≠ k :=
  fun p hp e => lookup_eq_none_iff_keys.1 (amGet?_eq_lookup m k ▸ h) (List.mem_map.2 ⟨p, hp, e⟩)

theorem mem_getD_amGet? {m : List (α × List β)} {k : α} {x : β}
    (h : x ∈ (amGet? m k).getD []) : ∃ l, (k, l) ∈ m ∧ x ∈ l := by
  cases hg : amGet? m k with
  | none => rw [hg] at h; cases h
  | some l => rw [hg] at h; exact ⟨l, amGet?_mem hg, h⟩

theorem amGet?_isSome_of_key {m : List (α × β)} {k : α}
    (h : k ∈ amKeys m) : ∃ v, amGet? m k = some v := by
  cases hg : amGet? m k with
  | some v => exact ⟨v, rfl⟩
  | none =>
    obtain ⟨p, hp, rfl⟩ := List.mem_map.1 h
    exact absurd rfl (amGet?_none hg p hp)

theorem amGet?_amSet (m : List (α × β)) (k j : α) (v : β) :
    amGet? (amSet m k v) j = if j = k then some v else amGet? m j := by
  rw [amGet?_eq_lookup, amGet?_eq_lookup, amSet_eq_upsert, lookup_upsert_const]

theorem amGet?_amSet_self (m : List (α × β)) (k : α) (v : β) : amGet? (amSet m k v) k = some v := by
  rw [amGet?_amSet, if_pos rfl]

theorem amGet?_amSet_ne (m : List (α × β)) (k j : α) (v : β) (h : j ≠ k) :
    amGet? (amSet m k v) j = amGet? m j := by
  rw [amGet?_amSet, if_neg h]

theorem mem_amSet_self (m : List (α × β)) (k : α) (v : β) : (k, v) ∈ amSet m k v :=
  amGet?_mem (amGet?_amSet_self m k v)

theorem amGet?_amErase (m : List (α × β)) (x k : α) :
    amGet? (amErase m x) k = if k = x then none else amGet? m k := by
  rw [amGet?_eq_lookup, amGet?_eq_lookup]; exact lookup_filter_ne k x m

theorem amHas_amSet (m : List (α × β)) (k j : α) (v : β) :
    amHas (amSet m k v) j = (decide (j = k) || amHas m j) := by
  unfold amHas
  rw [amGet?_amSet]
  by_cases h : j = k
  · rw [if_pos h, decide_eq_true h]; rfl
  · rw [if_neg h, decide_eq_false h]; rfl

theorem amHas_amSet_false {m : List (α × β)} {k t : α} {v : β}
    (h : amHas (amSet m k v) t = false) : t ≠ k ∧ amHas m t = false := by
  simpa [amHas_amSet] using h

theorem key_of_amGet? {m : List (α × β)} {k : α} {v : β} (h : amGet? m k = some v) : k ∈ amKeys m :=
  List.mem_map.2 ⟨(k, v), amGet?_mem h, rfl⟩

theorem amHas_iff_key {m : List (α × β)} {k : α} : amHas m k = true ↔ k ∈ amKeys m := by
  refine ⟨fun h => ?_, fun h => ?_⟩
  · obtain ⟨v, hv⟩ := Option.isSome_iff_exists.1 h
    exact key_of_amGet? hv
  · obtain ⟨v, hv⟩ := amGet?_isSome_of_key h
    rw [amHas, hv]; rfl

theorem amKeys_amSet (m : List (α × β)) (k : α) (v : β) :
    amKeys (amSet m k v) = if k ∈ amKeys m then amKeys m else amKeys m ++ [k] := by
  rw [amSet_eq_upsert]; exact keys_upsert _ _ m k

theorem key_amSet {m : List (α × β)} {k j : α} {v : β} :
    j ∈ amKeys (amSet m k v) ↔ j = k ∨ j ∈ amKeys m := by
  rw [amKeys_amSet]
  split
  · exact ⟨Or.inr, fun h => h.elim (· ▸ ‹k ∈ amKeys m›) id⟩
  · rw [List.mem_append, List.mem_singleton, or_comm]

theorem key_amErase {m : List (α × β)} {k j : α} :
    j ∈ amKeys (amErase m k) ↔ j ≠ k ∧ j ∈ amKeys m := by
  simp only [amKeys, amErase, List.mem_map, List.mem_filter, decide_eq_true_eq]
  exact ⟨fun ⟨p, ⟨hp, hne⟩, e⟩ => ⟨e ▸ hne, p, hp, e⟩, fun ⟨hne, p, hp, e⟩ => ⟨p, ⟨hp, e ▸ hne⟩, e⟩⟩

theorem getD_amSet (m : List (α × β)) (k t : α) (v d : β) :
    (amGet? (amSet m k v) t).getD d = if t = k then v else (amGet? m t).getD d := by
  rw [amGet?_amSet]; split <;> rfl

theorem getD_amErase (m : List (α × β)) (k t : α) (d : β) :
    (amGet? (amErase m k) t).getD d = if t = k then d else (amGet? m t).getD d := by
  rw [amGet?_amErase]; split <;> rfl

/-- a defaultdict read inserts the default, which is what the lookup of an absent key gives anyway -/
theorem getD_touch (m : List (α × β)) (k t : α) (d : β) :
    (amGet? (if amHas m k then m else amSet m k d) t).getD d = (amGet? m t).getD d := by
  split
  · rfl
  · rename_i h
    rw [getD_amSet]
    split
    · subst t; rw [Option.not_isSome_iff_eq_none.1 h]; rfl
    · rfl

theorem mem_setAdd {s : List α} {a x : α} : x ∈ setAdd s a ↔ x ∈ s ∨ x = a := by
  unfold setAdd
  split
  · rename_i h
    exact ⟨Or.inl, fun hx => hx.elim id (· ▸ h)⟩
  · exact List.mem_append.trans (or_congr_right List.mem_singleton)

theorem forall_mem_amSet {m : List (α × β)} {k : α} {v : β} {Q : α × β → Prop}
    (hm : ∀ p ∈ m, Q p) (hk : Q (k, v)) : ∀ p ∈ amSet m k v, Q p :=
  fun p hp => (mem_amSet hp).elim (· ▸ hk) (hm p)

theorem forall_mem_amErase {m : List (α × β)} {Q : α × β → Prop} (hm : ∀ p ∈ m, Q p) (k : α) :
    ∀ p ∈ amErase m k, Q p :=
  fun p hp => hm p (mem_amErase hp).1

theorem forall_mem_setAdd {s : List α} {a : α} {Q : α → Prop} (hs : ∀ x ∈ s, Q x) (ha : Q a) :
    ∀ x ∈ setAdd s a, Q x :=
  fun x hx => (mem_setAdd.1 hx).elim (hs x) (· ▸ ha)

end

section
variable {α α' β β' : Type} [DecidableEq α] [DecidableEq α']

theorem amGet?_map (f : α → α') (hf : Function.Injective f) (g : β → β') (m : List (α × β)) (k : α) :
    amGet? (m.map (Prod.map f g)) (f k) = (amGet? m k).map g := by
  rw [amGet?_eq_lookup, amGet?_eq_lookup]
  exact lookup_map f hf g m k

theorem amHas_map (f : α → α') (hf : Function.Injective f) (g : β → β') (m : List (α × β)) (k : α) :
    amHas (m.map (Prod.map f g)) (f k) = amHas m k := by
  simp only [amHas, amGet?_map f hf g, Option.isSome_map]

theorem amSet_map (f : α → α') (hf : Function.Injective f) (g : β → β') (m : List (α × β)) (k : α) (v : β) :
    amSet (m.map (Prod.map f g)) (f k) (g v) = (amSet m k v).map (Prod.map f g) := by
  rw [amSet_eq_upsert, amSet_eq_upsert]
  exact upsert_map f hf g (fun _ => v) (fun _ => g v) (fun _ => rfl) v m k

end

theorem amHas_of_mem {α β} [DecidableEq α] {m : List (α × β)} {k : α} {v : β} (h : (k, v) ∈ m) : amHas m k = true :=
  amHas_iff_key.2 (List.mem_map.2 ⟨(k, v), h, rfl⟩)

theorem insSort_is {α} (le : α → α → Bool) : InsertionSort le (insSorted le) (insSort le) :=
  ⟨fun _ => rfl, fun _ _ _ => rfl, rfl, fun _ _ => rfl⟩

theorem insSort_perm {α} (le : α → α → Bool) (l : List α) : (insSort le l).Perm l := (insSort_is le).perm l

theorem mem_insSort {α} (le : α → α → Bool) (x : α) (l : List α) : x ∈ insSort le l ↔ x ∈ l := (insSort_is le).mem_iff

theorem mem_sortIv {l : List Iv} {x : Iv} : x ∈ sortIv l ↔ x ∈ l :=
  mem_insSort ivLe x l

theorem foldlM_option_inv {α β} (P : β → Prop) (f : β → α → Option β) (l : List α) (b b' : β) (hb : P b)
    (hstep : ∀ x a y, a ∈ l → P x → f x a = some y → P y) (h : l.foldlM f b = some b') : P b' := by
  induction l generalizing b with
  | nil => cases h; exact hb
  | cons a t ih =>
    rw [List.foldlM_cons] at h
    cases hf : f b a with
    | none => rw [hf] at h; cases h
    | some y =>
      rw [hf] at h
      exact ih y (hstep b a y List.mem_cons_self hb hf) (fun x a' y' ha' => hstep x a' y' (List.mem_cons_of_mem _ ha')) h

theorem simplifyLoop_eq_foldlM (disc : List Iv) (l : List Iv) (st : List (Iv × Iv) × List Iv) :
    simplifyLoop disc l st = l.foldlM (simplifyStep disc) st := by
  induction l generalizing st with
  | nil => rfl
  | cons i t ih =>
    rw [simplifyLoop, List.foldlM_cons]
    cases simplifyStep disc st i with
    | none => rfl
    | some st' => exact ih st'

theorem replaceMembers_eq_foldlM (m : List (Iv × Iv)) (c s : Iv) (ks : List Iv) :
    replaceMembers m c s ks = ks.foldlM (fun m k => replaceMember m k c s) m := by
  induction ks generalizing m with
  | nil => rfl
  | cons k t ih =>
    rw [replaceMembers, List.foldlM_cons]
    cases replaceMember m k c s with
    | none => rfl
    | some m' => exact ih m'

theorem runOps_eq_foldlM (obs : List Iv) (g : Graph) (ops : List Op) :
    runOps obs g ops = ops.foldlM (fun g op => if opScoped obs g op then applyOp g op else none) g := by
  induction ops generalizing g with
  | nil => rfl
  | cons op t ih =>
    rw [runOps, List.foldlM_cons]
    split
    · cases applyOp g op with
      | none => rfl
      | some g' => exact ih g'
    · rfl

theorem runOps_inv {obs : List Iv} {I : Graph → Prop} (ops : List Op) {g g' : Graph} (hg : I g)
    (hstep : ∀ g op g1, op ∈ ops → I g → opScoped obs g op = true → applyOp g op = some g1 → I g1)
    (h : runOps obs g ops = some g') : I g' := by
  rw [runOps_eq_foldlM] at h
  refine foldlM_option_inv I _ ops g g' hg (fun g op g1 hop hg h1 => ?_) h
  by_cases hsc : opScoped obs g op = true
  · rw [if_pos hsc] at h1; exact hstep g op g1 hop hg hsc h1
  · rw [if_neg hsc] at h1; cases h1

theorem runOps_append {obs : List Iv} (a b : List Op) (g : Graph) :
    runOps obs g (a ++ b) = (runOps obs g a).bind (fun g' => runOps obs g' b) := by
  simp only [runOps_eq_foldlM, List.foldlM_append]; rfl

/-! ### every intron the collector / graph mentions satisfies `P` -/

structure CSub (c : Collector) (P : Iv → Prop) : Prop where
  cl : ∀ p ∈ c.clustered, P p.1
  co : ∀ p ∈ c.corr, P p.1 ∧ P p.2
  di : ∀ v ∈ c.discarded, P v

def ESub (e : List (Iv × Iv)) (P : Iv → Prop) : Prop :=
  ∀ p ∈ e, (isIntronVertex p.1 = true → P p.1) ∧ (isIntronVertex p.2 = true → P p.2)

structure GSub (g : Graph) (P : Iv → Prop) : Prop where
  col : CSub g.col P
  out : ESub g.out P
  inc : ESub g.inc P

variable {P : Iv → Prop}

theorem csub_iff (c : Collector) (P : Iv → Prop) : CSub c P ↔ ∀ v ∈ c.verts, P v := by
  simp only [Collector.verts, amKeys, amVals, List.forall_mem_append, List.forall_mem_map]
  exact ⟨fun h => ⟨⟨⟨h.cl, fun p hp => (h.co p hp).1⟩, fun p hp => (h.co p hp).2⟩, h.di⟩,
    fun ⟨⟨⟨a, b⟩, c⟩, d⟩ => ⟨a, fun p hp => ⟨b p hp, c p hp⟩, d⟩⟩

theorem gsub_iff (g : Graph) (P : Iv → Prop) : GSub g P ↔ ∀ v ∈ g.verts, P v := by
  simp only [Graph.verts, amKeys, amVals, List.forall_mem_append, List.forall_mem_filter, List.forall_mem_map, ← csub_iff]
  exact ⟨fun h => ⟨h.col, ⟨⟨⟨fun p hp => (h.out p hp).1, fun p hp => (h.out p hp).2⟩, fun p hp => (h.inc p hp).1⟩,
      fun p hp => (h.inc p hp).2⟩⟩,
    fun ⟨a, ⟨⟨⟨b, c⟩, d⟩, e⟩⟩ => ⟨a, fun p hp => ⟨b p hp, c p hp⟩, fun p hp => ⟨d p hp, e p hp⟩⟩⟩

theorem mem_obsIntrons {reads : List Read} {v : Iv} :
    v ∈ obsIntrons reads ↔ ∃ r ∈ reads, r.multimapper = false ∧ v ∈ r.introns := by
  simp only [obsIntrons, List.mem_flatMap, List.mem_filter, Bool.not_eq_true', and_assoc]

theorem foldl_countAdd_key (l : List Iv) (m : List (Iv × Int)) (k : Iv) :
    k ∈ amKeys (l.foldl countAdd m) ↔ k ∈ amKeys m ∨ k ∈ l := by
  induction l generalizing m with
  | nil => simp
  | cons a t ih => simp only [List.foldl_cons, ih, countAdd, key_amSet, List.mem_cons, or_assoc, or_left_comm]

theorem collectIntrons_eq (reads : List Read) : collectIntrons reads = (obsIntrons reads).foldl countAdd [] := by
  suffices h : ∀ m : List (Iv × Int), reads.foldl (fun m r =>
      if r.introns.isEmpty || r.multimapper then m else r.introns.foldl countAdd m) m = (obsIntrons reads).foldl countAdd m from h []
  unfold obsIntrons
  induction reads with
  | nil => exact fun _ => rfl
  | cons r t ih =>
    intro m
    rw [List.foldl_cons, ih, List.filter_cons]
    cases r.multimapper with
    | true => rw [Bool.or_true, if_pos rfl]; rfl
    | false =>
      rw [Bool.or_false, Bool.not_false, if_pos rfl, List.flatMap_cons, List.foldl_append]
      split
      · rename_i he; rw [List.isEmpty_iff.1 he]; rfl
      · rfl

theorem mem_keys_collectIntrons {reads : List Read} {x : Iv} :
    x ∈ amKeys (collectIntrons reads) ↔ x ∈ obsIntrons reads := by
  rw [collectIntrons_eq, foldl_countAdd_key]
  exact or_iff_right List.not_mem_nil

theorem cnt_amSet {α} [DecidableEq α] (m : List (α × Int)) (k t : α) (v : Int) :
    cnt (amSet m k v) t = if t = k then v else cnt m t := getD_amSet m k t v 0

theorem cnt_amErase {α} [DecidableEq α] (m : List (α × Int)) (k t : α) :
    cnt (amErase m k) t = if t = k then 0 else cnt m t := getD_amErase m k t 0

theorem cnt_countAdd (m : List (Iv × Int)) (k x : Iv) :
    cnt (countAdd m k) x = cnt m x + (if k = x then 1 else 0) := by
  unfold countAdd cnt
  rw [getD_amSet]
  by_cases h : x = k
  · rw [if_pos h, if_pos h.symm, h]
  · rw [if_neg h, if_neg fun e => h e.symm, Int.add_zero]

theorem cnt_foldl_countAdd (l : List Iv) (m : List (Iv × Int)) (x : Iv) :
    cnt (l.foldl countAdd m) x = cnt m x + (l.count x : Int) := by
  induction l generalizing m with
  | nil => simp
  | cons a t ih =>
    rw [List.foldl_cons, ih, cnt_countAdd, List.count_cons]
    by_cases h : a = x
    · simp only [h, if_true, beq_self_eq_true]; omega
    · have : (a == x) = false := by simpa using h
      simp only [h, if_false, this, Bool.false_eq_true]; omega

theorem cnt_collectIntrons (reads : List Read) (x : Iv) :
    cnt (collectIntrons reads) x = ((obsIntrons reads).count x : Int) := by
  rw [collectIntrons_eq, cnt_foldl_countAdd]
  exact Int.zero_add _

theorem maxIv?_mem {l : List Iv} {a : Iv} (h : maxIv? l = some a) : a ∈ l := by
  fun_induction maxIv? l with
  | case1 => cases h
  | case2 => cases h; exact List.mem_cons_self
  | case3 _ _ _ hb _ ih => cases h; exact List.mem_cons_of_mem _ (ih hb)
  | case4 => cases h; exact List.mem_cons_self

theorem simAfter_mem {δ : Int} {x o : Iv} {rest : List Iv} (h : o ∈ simAfter δ x rest) : o ∈ rest :=
  (List.takeWhile_prefix _).subset (List.mem_filter.1 h).1

theorem simPairs_mem {δ : Int} {l : List Iv} {p : Iv × Iv} (h : p ∈ simPairs δ l) : p.1 ∈ l ∧ p.2 ∈ l := by
  induction l with
  | nil => cases h
  | cons x rest ih =>
    rcases List.mem_append.1 h with h | h
    · obtain ⟨o, ho, rfl⟩ := List.mem_map.1 h
      exact ⟨List.mem_cons_self, List.mem_cons_of_mem _ (simAfter_mem ho)⟩
    · exact (ih h).imp (List.mem_cons_of_mem _) (List.mem_cons_of_mem _)

theorem similarOf_mem {pairs : List (Iv × Iv)} {x y : Iv} (h : y ∈ similarOf pairs x) :
    (x, y) ∈ pairs ∨ (y, x) ∈ pairs := by
  obtain ⟨p, hp, hy⟩ := List.mem_filterMap.1 h
  by_cases h1 : p.1 = x
  · rw [if_pos h1] at hy; cases hy; exact Or.inl (h1 ▸ hp)
  · rw [if_neg h1] at hy
    by_cases h2 : p.2 = x
    · rw [if_pos h2] at hy; cases hy; exact Or.inr (h2 ▸ hp)
    · rw [if_neg h2] at hy; cases hy

/-- the three things one iteration of `cluster_introns` can do: count the intron, substitute it, discard it -/
theorem clusterStep_cases (pairs : List (Iv × Iv)) (minCount : Int) (c : Collector) (ci : Int × Iv) :
    clusterStep pairs minCount c ci = { c with clustered := amSet c.clustered ci.2 ci.1 } ∨
    (∃ s ∈ amKeys c.clustered, s ∈ similarOf pairs ci.2 ∧ clusterStep pairs minCount c ci =
      { c with clustered := amSet c.clustered s (cnt c.clustered s + ci.1), corr := amSet c.corr ci.2 s }) ∨
    clusterStep pairs minCount c ci = { c with discarded := setAdd c.discarded ci.2 } := by
  unfold clusterStep
  dsimp only
  by_cases h1 : ci.2 ∈ c.known
  · exact Or.inl (if_pos h1)
  rw [if_neg h1]
  by_cases h2 : similarOf pairs ci.2 ≠ []
  · rw [if_pos h2]
    split
    · rename_i s hs
      have hm := List.mem_filter.1 (maxIv?_mem hs)
      exact Or.inr (Or.inl ⟨s, amHas_iff_key.1 hm.2, hm.1, rfl⟩)
    · exact Or.inl rfl
  rw [if_neg h2]
  by_cases h3 : ci.1 < minCount
  · exact Or.inr (Or.inr (if_pos h3))
  · exact Or.inl (if_neg h3)

theorem clusterStep_csub {pairs : List (Iv × Iv)} {minCount : Int} {c : Collector} {ci : Int × Iv}
    (hc : CSub c P) (hi : P ci.2) : CSub (clusterStep pairs minCount c ci) P := by
  rcases clusterStep_cases pairs minCount c ci with h | ⟨s, hs, _, h⟩ | h <;> rw [h]
  · exact ⟨forall_mem_amSet hc.cl hi, hc.co, hc.di⟩
  · -- the substitute is a clustered intron
    have hPs : P s := List.forall_mem_map.2 hc.cl s hs
    exact ⟨forall_mem_amSet hc.cl hPs, forall_mem_amSet hc.co ⟨hi, hPs⟩, hc.di⟩
  · exact ⟨hc.cl, hc.co, forall_mem_setAdd hc.di hi⟩

/-- invariant rule for `cluster_introns`: what every `clusterStep` on an entry of the sorted intron list keeps -/
theorem clusterIntrons_inv {motive : Collector → Prop} (c : Collector) (δ : Int) (allIntrons : List (Iv × Int)) (minCount : Int)
    (h0 : motive c) (hstep : ∀ c ci, motive c → ci ∈ sortedByCount allIntrons →
      motive (clusterStep (simPairs δ (sortIv (amKeys allIntrons))) minCount c ci)) :
    motive (clusterIntrons c δ allIntrons minCount) :=
  List.foldlRecOn _ _ h0 fun c hc ci hci => hstep c ci hc hci

theorem clusterIntrons_csub (c : Collector) (δ : Int) (allIntrons : List (Iv × Int)) (minCount : Int)
    (hc : CSub c P) (ha : ∀ p ∈ allIntrons, P p.1) : CSub (clusterIntrons c δ allIntrons minCount) P := by
  refine clusterIntrons_inv (motive := (CSub · P)) _ _ _ _ hc fun c ci hc hci => clusterStep_csub hc ?_
  obtain ⟨p, hp, rfl⟩ := List.mem_map.1 ((mem_insSort _ _ _).1 (List.mem_reverse.1 hci))
  exact ha p hp

theorem collectorProcess_csub (known : List Iv) (δ : Int) (reads : List Read) (minCount : Int) :
    CSub (collectorProcess known δ reads minCount) (fun v => v ∈ obsIntrons reads) :=
  clusterIntrons_csub _ _ _ _ ⟨List.forall_mem_nil _, List.forall_mem_nil _, List.forall_mem_nil _⟩
    fun _ hp => mem_keys_collectIntrons.1 (List.mem_map_of_mem hp)

theorem substitute_sub {c : Collector} (hc : CSub c P) {v : Iv} (hv : P v) : P (c.substitute v) := by
  unfold Collector.substitute
  split
  · rename_i s hs; exact (hc.co _ (amGet?_mem hs)).2
  · exact hv

theorem addSubstitute_csub {c : Collector} (hc : CSub c P) {o s : Iv} (ho : P o) (hs : P s) :
    CSub (c.addSubstitute o s) P :=
  ⟨forall_mem_amErase (forall_mem_amSet hc.cl hs) o, forall_mem_amSet hc.co ⟨ho, hs⟩, hc.di⟩

theorem discard_csub {c : Collector} (hc : CSub c P) {v : Iv} (hv : P v) : CSub (c.discard v) P :=
  ⟨forall_mem_amErase hc.cl v, hc.co, forall_mem_setAdd hc.di hv⟩

theorem touch_csub {c : Collector} (hc : CSub c P) {v : Iv} (hv : P v) : CSub (c.touch v) P := by
  unfold Collector.touch
  split
  · exact hc
  · exact ⟨forall_mem_amSet hc.cl hv, hc.co, hc.di⟩

theorem touch_corr (c : Collector) (w : Iv) : (c.touch w).corr = c.corr ∧ (c.touch w).discarded = c.discarded := by
  unfold Collector.touch
  split <;> exact ⟨rfl, rfl⟩

theorem chase_end {m : List (Iv × Iv)} (fuel : Nat) (s e : Iv) (h : chase m fuel s = some e) : amGet? m e = none := by
  fun_induction chase m fuel s with
  | case1 => cases h
  | case2 _ _ hs => cases h; exact hs
  | case3 _ _ _ _ ih => exact ih h

/-- the three things an iteration of the first loop of `simplify_correction_map` can do to (map, to_remove): schedule the
    key for removal, leave everything (its image is final), or redirect the key to the end of its chain -/
theorem simplifyStep_cases {disc : List Iv} {st st' : List (Iv × Iv) × List Iv} {i : Iv}
    (h : simplifyStep disc st i = some st') : ∃ subs, amGet? st.1 i = some subs ∧
      (st' = (st.1, setAdd st.2 i) ∨ (st' = st ∧ subs ∉ disc ∧ amGet? st.1 subs = none) ∨
        ∃ e, chase st.1 (st.1.length + 1) subs = some e ∧ e ∉ disc ∧ st' = (amSet st.1 i e, st.2)) := by
  unfold simplifyStep at h
  split at h
  · cases h
  · rename_i subs hsubs
    refine ⟨subs, hsubs, ?_⟩
    by_cases hd : subs ∈ disc
    · rw [if_pos hd] at h; cases h; exact Or.inl rfl
    rw [if_neg hd] at h
    by_cases hk : (!amHas st.1 subs) = true
    · rw [if_pos hk] at h; cases h
      refine Or.inr (Or.inl ⟨rfl, hd, ?_⟩)
      cases hg : amGet? st.1 subs with
      | none => rfl
      | some w => rw [amHas, hg] at hk; cases hk
    rw [if_neg hk] at h
    split at h
    · cases h
    · rename_i e he
      by_cases hed : e ∈ disc
      · rw [if_pos hed] at h; cases h; exact Or.inl rfl
      · rw [if_neg hed] at h; cases h; exact Or.inr (Or.inr ⟨e, he, hed, rfl⟩)

/-- loop invariant of `simplify_correction_map` for the processed keys -/
structure SimpInv (disc : List Iv) (st : List (Iv × Iv) × List Iv) (processed : List Iv) : Prop where
  rem : ∀ i ∈ st.2, (amGet? st.1 i).isSome = true
  done : ∀ i ∈ processed, i ∈ st.2 ∨ ∃ v, amGet? st.1 i = some v ∧ amGet? st.1 v = none ∧ v ∉ disc

theorem simplifyStep_inv {disc : List Iv} {st st' : List (Iv × Iv) × List Iv} {i : Iv} {processed : List Iv}
    (hinv : SimpInv disc st processed) (h : simplifyStep disc st i = some st') :
    SimpInv disc st' (i :: processed) ∧ (∀ k, (amGet? st.1 k).isSome = true → (amGet? st'.1 k).isSome = true) ∧
      (∀ k, amGet? st.1 k = none → amGet? st'.1 k = none) := by
  obtain ⟨subs, hsubs, rfl | ⟨rfl, hnd, hnk⟩ | ⟨e, he, hed, rfl⟩⟩ := simplifyStep_cases h
  · refine ⟨⟨forall_mem_setAdd hinv.rem (by rw [hsubs]; rfl), fun j hj => ?_⟩, fun _ => id, fun _ => id⟩
    rcases List.mem_cons.1 hj with rfl | hj
    · exact Or.inl (mem_setAdd.2 (Or.inr rfl))
    · exact (hinv.done j hj).imp_left fun h => mem_setAdd.2 (Or.inl h)
  · refine ⟨⟨hinv.rem, fun j hj => ?_⟩, fun _ => id, fun _ => id⟩
    rcases List.mem_cons.1 hj with rfl | hj
    · exact Or.inr ⟨subs, hsubs, hnk, hnd⟩
    · exact hinv.done j hj
  · -- redirecting `i` to `e` keeps every key a key and every non-key a non-key; `e` is a non-key
    have hsome : ∀ k, (amGet? st.1 k).isSome = true → (amGet? (amSet st.1 i e) k).isSome = true := by
      intro k hk; rw [amGet?_amSet]; split
      · rfl
      · exact hk
    have hnone : ∀ k, amGet? st.1 k = none → amGet? (amSet st.1 i e) k = none := by
      intro k hk; rw [amGet?_amSet, if_neg]
      · exact hk
      · rintro rfl; rw [hsubs] at hk; cases hk
    have hi : amGet? (amSet st.1 i e) i = some e ∧ amGet? (amSet st.1 i e) e = none ∧ e ∉ disc :=
      ⟨amGet?_amSet_self _ _ _, hnone e (chase_end _ _ _ he), hed⟩
    refine ⟨⟨fun j hj => hsome j (hinv.rem j hj), fun j hj => ?_⟩, hsome, hnone⟩
    by_cases hji : j = i
    · exact Or.inr ⟨e, hji ▸ hi⟩
    · refine (hinv.done j ((List.mem_cons.1 hj).resolve_left hji)).imp_right fun ⟨v, hv1, hv2, hv3⟩ => ?_
      exact ⟨v, (amGet?_amSet_ne _ _ _ _ hji).trans hv1, hnone v hv2, hv3⟩

theorem simplifyLoop_inv {disc : List Iv} (l : List Iv) {st st' : List (Iv × Iv) × List Iv} {processed : List Iv}
    (hinv : SimpInv disc st processed) (h : simplifyLoop disc l st = some st') :
    SimpInv disc st' (l.reverse ++ processed) ∧ (∀ k, (amGet? st.1 k).isSome = true → (amGet? st'.1 k).isSome = true) ∧
      (∀ k, amGet? st.1 k = none → amGet? st'.1 k = none) := by
  induction l generalizing st processed with
  | nil => cases h; exact ⟨hinv, fun _ => id, fun _ => id⟩
  | cons i t ih =>
    rw [simplifyLoop] at h
    split at h
    · cases h
    · rename_i st1 hst1
      obtain ⟨h1, h2, h3⟩ := simplifyStep_inv hinv hst1
      obtain ⟨k1, k2, k3⟩ := ih h1 h
      rw [List.reverse_cons, List.append_assoc]
      exact ⟨k1, fun k hk => k2 k (h2 k hk), fun k hk => k3 k (h3 k hk)⟩

theorem foldl_discardErase_spec (l : List Iv) (c : Collector) :
    let r := l.foldl (fun c i => { c.discard i with corr := amErase (c.discard i).corr i }) c
    (∀ k v, amGet? r.corr k = some v → k ∉ l ∧ amGet? c.corr k = some v) ∧
    (∀ v, amGet? c.corr v = none → amGet? r.corr v = none) ∧
    (∀ v, v ∈ r.discarded → v ∈ c.discarded ∨ v ∈ l) := by
  induction l generalizing c with
  | nil => exact ⟨fun _ _ h => ⟨List.not_mem_nil, h⟩, fun _ => id, fun _ => Or.inl⟩
  | cons a t ih =>
    obtain ⟨h1, h2, h3⟩ := ih { c.discard a with corr := amErase (c.discard a).corr a }
    refine ⟨fun k v hkv => ?_, fun v hv => h2 v ?_, fun v hv => ?_⟩
    · obtain ⟨hkt, hk⟩ := h1 k v hkv
      rw [amGet?_amErase] at hk
      split at hk
      · cases hk
      · exact ⟨List.not_mem_cons_of_ne_of_not_mem ‹_› hkt, hk⟩
    · rw [amGet?_amErase]
      split
      · rfl
      · exact hv
    · rcases h3 v hv with h | h
      · exact (mem_setAdd.1 h).imp_right fun (h : v = a) => h ▸ List.mem_cons_self
      · exact Or.inr (List.mem_cons_of_mem _ h)

/-- images of the correction map are neither keys of it nor discarded -/
def MapClean (c : Collector) : Prop :=
  ∀ k v, amGet? c.corr k = some v → amGet? c.corr v = none ∧ v ∉ c.discarded

theorem simplifyCorrectionMap_eq_some {c c' : Collector} (h : c.simplifyCorrectionMap = some c') :
    ∃ m toRemove, simplifyLoop c.discarded (sortIv (amKeys c.corr)) (c.corr, []) = some (m, toRemove) ∧
      c' = toRemove.foldl (fun c i => { c.discard i with corr := amErase (c.discard i).corr i }) { c with corr := m } := by
  unfold Collector.simplifyCorrectionMap at h
  split at h
  · cases h
  · exact ⟨_, _, ‹_›, (Option.some.inj h).symm⟩

theorem simplifyCorrectionMap_clean {c c' : Collector} (h : c.simplifyCorrectionMap = some c') : MapClean c' := by
  obtain ⟨m, toRemove, hloop, rfl⟩ := simplifyCorrectionMap_eq_some h
  obtain ⟨hinv, _, hnone⟩ := simplifyLoop_inv _ (⟨List.forall_mem_nil _, List.forall_mem_nil _⟩ : SimpInv c.discarded (c.corr, []) []) hloop
  obtain ⟨h1, h2, h3⟩ := foldl_discardErase_spec toRemove { c with corr := m }
  intro k v hkv
  obtain ⟨hk, hmk⟩ := h1 k v hkv
  -- the loop adds no key: `k`, a key of `m`, is a key of `c.corr`, so it was processed
  have hkey : k ∈ (sortIv (amKeys c.corr)).reverse ++ [] := by
    rw [List.append_nil, List.mem_reverse, mem_sortIv]
    cases hg : amGet? c.corr k with
    | none => exact nomatch (hnone k hg).symm.trans hmk
    | some w => exact List.mem_map.2 ⟨_, amGet?_mem hg, rfl⟩
  rcases hinv.done k hkey with hrem | ⟨v', hv1, hv2, hv3⟩
  · exact absurd hrem hk
  · obtain rfl : v' = v := Option.some.inj (hv1.symm.trans hmk)
    refine ⟨h2 _ hv2, fun hd => (h3 _ hd).elim hv3 fun hr => ?_⟩
    exact nomatch (hinv.rem _ hr).symm.trans (congrArg Option.isSome hv2)

/-! ### `simplify_correction_map` only removes keys of the correction map from `clustered_introns` -/

theorem foldl_discardErase_clustered (l : List Iv) (c : Collector) :
    let r := l.foldl (fun c i => { c.discard i with corr := amErase (c.discard i).corr i }) c
    (∀ p ∈ r.clustered, p ∈ c.clustered) ∧ (∀ v, v ∉ l → amGet? r.clustered v = amGet? c.clustered v) ∧
      r.known = c.known := by
  refine List.foldlRecOn (motive := fun r : Collector => (∀ p ∈ r.clustered, p ∈ c.clustered) ∧
      (∀ v, v ∉ l → amGet? r.clustered v = amGet? c.clustered v) ∧ r.known = c.known) l _
    ⟨fun _ h => h, fun _ _ => rfl, rfl⟩ fun r ⟨h1, h2, h3⟩ a ha =>
      ⟨fun p hp => h1 p (List.mem_filter.1 hp).1, fun v hv => ?_, h3⟩
  rw [← h2 v hv]
  simp only [Collector.discard, amGet?_amErase]
  rw [if_neg fun e : v = a => hv (e ▸ ha)]

theorem simplifyCorrectionMap_frame {c c' : Collector} (h : c.simplifyCorrectionMap = some c') :
    (∀ p ∈ c'.clustered, p ∈ c.clustered) ∧
    (∀ v, v ∉ amKeys c.corr → amGet? c'.clustered v = amGet? c.clustered v) ∧
    c'.known = c.known ∧ (∀ k, k ∈ amKeys c'.corr → k ∈ amKeys c.corr) ∧
    (∀ v, v ∈ c'.discarded → v ∈ c.discarded ∨ v ∈ amKeys c.corr) := by
  obtain ⟨m, toRemove, hloop, rfl⟩ := simplifyCorrectionMap_eq_some h
  have hinv0 : SimpInv c.discarded (c.corr, []) [] := ⟨by simp, by simp⟩
  obtain ⟨hinv, _, hnone⟩ := simplifyLoop_inv _ hinv0 hloop
  have hkeym : ∀ k, (amGet? m k).isSome = true → k ∈ amKeys c.corr := by
    intro k hk
    cases hg : amGet? c.corr k with
    | none => rw [show amGet? m k = none from hnone k hg] at hk; cases hk
    | some w => exact key_of_amGet? hg
  have hrem : ∀ i ∈ toRemove, i ∈ amKeys c.corr := fun i hi => hkeym i (hinv.rem i hi)
  obtain ⟨a1, a2, a3⟩ := foldl_discardErase_clustered toRemove { c with corr := m }
  obtain ⟨b1, _, b3⟩ := foldl_discardErase_spec toRemove { c with corr := m }
  simp only at a1 a2 a3 b1 b3
  refine ⟨a1, fun v hv => a2 v (fun hvr => hv (hrem v hvr)), a3, fun k hk => ?_, fun v hv => (b3 v hv).imp_right (hrem v)⟩
  obtain ⟨w, hw⟩ := amGet?_isSome_of_key hk
  exact hkeym k (by simp [(b1 k w hw).2])

/-! ### `simplify_correction_map` composes entries: a transitive relation on the entries is preserved -/

theorem chase_rel {R : Iv → Iv → Prop} (htrans : ∀ a b c, R a b → R b c → R a c)
    {m : List (Iv × Iv)} (hm : ∀ p ∈ m, R p.1 p.2) (fuel : Nat) (a s e : Iv) (ha : R a s)
    (h : chase m fuel s = some e) : R a e := by
  fun_induction chase m fuel s with
  | case1 => cases h
  | case2 => cases h; exact ha
  | case3 _ _ s' hs' ih => exact ih (htrans _ _ _ ha (hm _ (amGet?_mem hs'))) h

theorem simplifyCorrectionMap_rel {R : Iv → Iv → Prop} (htrans : ∀ a b c, R a b → R b c → R a c)
    {c c' : Collector} (hc : ∀ p ∈ c.corr, R p.1 p.2) (h : c.simplifyCorrectionMap = some c') :
    ∀ p ∈ c'.corr, R p.1 p.2 := by
  obtain ⟨m, toRemove, hloop, rfl⟩ := simplifyCorrectionMap_eq_some h
  rw [simplifyLoop_eq_foldlM] at hloop
  -- an iteration of the first loop leaves the map or redirects a key to the end of its chain
  have hm := foldlM_option_inv (fun st => ∀ p ∈ st.1, R p.1 p.2) _ _ _ _ hc (fun st i st' _ hm hs => by
    obtain ⟨subs, hsubs, rfl | ⟨rfl, _⟩ | ⟨e, he, _, rfl⟩⟩ := simplifyStep_cases hs
    · exact hm
    · exact hm
    · exact forall_mem_amSet hm (chase_rel htrans hm _ i subs e (hm _ (amGet?_mem hsubs)) he)) hloop
  exact List.foldlRecOn (motive := fun c' : Collector => ∀ p ∈ c'.corr, R p.1 p.2) toRemove _ hm
    fun _ hx i _ => forall_mem_amErase hx i

/-- entries stay compositions of entries, and only keys of the map are newly discarded -/
theorem simplifyCorrectionMap_csub {c c' : Collector} (hc : CSub c P)
    (h : c.simplifyCorrectionMap = some c') : CSub c' P :=
  have ⟨f1, _, _, _, f5⟩ := simplifyCorrectionMap_frame h
  ⟨fun p hp => hc.cl p (f1 p hp),
    simplifyCorrectionMap_rel (R := fun a b => P a ∧ P b) (fun _ _ _ h1 h2 => ⟨h1.1, h2.2⟩) hc.co h,
    fun v hv => (f5 v hv).elim (hc.di v) fun hk => let ⟨p, hp, e⟩ := List.mem_map.1 hk; e ▸ (hc.co p hp).1⟩

theorem esub_filter {e : List (Iv × Iv)} (he : ESub e P) (f : Iv × Iv → Bool) : ESub (e.filter f) P :=
  fun p hp => he p (List.mem_filter.1 hp).1

theorem addEdge_gsub {g : Graph} (hg : GSub g P) {v1 v2 : Iv} (h1 : P v1) (h2 : P v2) :
    GSub (g.addEdge v1 v2) P := by
  have a := substitute_sub hg.col h1
  have b := substitute_sub hg.col h2
  exact ⟨hg.col, forall_mem_setAdd hg.out ⟨fun _ => a, fun _ => b⟩, forall_mem_setAdd hg.inc ⟨fun _ => b, fun _ => a⟩⟩

theorem mem_members {l : List (Iv × Iv)} {v w : Iv} : w ∈ (l.filter (fun p => p.1 = v)).map (·.2) ↔ (v, w) ∈ l := by
  simp only [List.mem_map, List.mem_filter, decide_eq_true_eq]
  exact ⟨fun ⟨p, ⟨hp, hk⟩, e⟩ => by rw [← hk, ← e]; exact hp, fun h => ⟨(v, w), ⟨h, rfl⟩, rfl⟩⟩

/-- `for i in ks: edges[i].remove(c); edges[i].add(s)` -/
theorem replaceMembers_forall {Q : Iv × Iv → Prop} {c s : Iv} (hk : ∀ k, Q (k, c) → Q (k, s)) (ks : List Iv)
    {m m' : List (Iv × Iv)} (hm : ∀ p ∈ m, Q p) (h : replaceMembers m c s ks = some m') : ∀ p ∈ m', Q p := by
  rw [replaceMembers_eq_foldlM] at h
  refine foldlM_option_inv (fun m => ∀ p ∈ m, Q p) _ ks m m' hm (fun m k m1 _ hm h1 => ?_) h
  unfold replaceMember at h1
  split at h1 <;> cases h1
  exact forall_mem_setAdd (fun p hp => hm p (List.mem_filter.1 hp).1) (hk k (hm _ ‹_›))

/-- `collapse_vertex c s` only rewrites edge pairs: `(k, c)` becomes `(k, s)` and `(c, i)` is copied to `(s, i)`; so what
    holds of every pair of an edge list and survives these two rewritings still holds of every pair afterwards -/
theorem collapseVertex_col {g g' : Graph} {c s : Iv} (h : g.collapseVertex c s = some g') :
    g'.col = g.col.addSubstitute c s := by
  unfold Graph.collapseVertex at h
  simp only at h
  split at h
  · cases h
  · split at h
    · cases h
    · cases h; rfl

theorem collapseVertex_edges {Q : Iv × Iv → Prop} {g g' : Graph} {c s : Iv} (hk : ∀ k, Q (k, c) → Q (k, s))
    (hi : ∀ i, Q (c, i) → Q (s, i)) (h : g.collapseVertex c s = some g') :
    ((∀ p ∈ g.out, Q p) → ∀ p ∈ g'.out, Q p) ∧ ((∀ p ∈ g.inc, Q p) → ∀ p ∈ g'.inc, Q p) := by
  have copy : ∀ (m e : List (Iv × Iv)), (∀ p ∈ m, Q p) → (∀ p ∈ e, Q p) →
      ∀ p ∈ ((e.filter (fun p => p.1 = c)).map (·.2)).foldl (fun m i => setAdd m (s, i)) m, Q p :=
    fun m e hm he => List.foldlRecOn (motive := fun m => ∀ p ∈ m, Q p) _ _ hm fun m hm i hmem =>
      forall_mem_setAdd hm (hi i (he _ (mem_members.1 hmem)))
  unfold Graph.collapseVertex at h
  dsimp only at h
  split at h
  · cases h
  · rename_i inc1 hinc1
    split at h <;> cases h
    rename_i out2 hout2
    exact ⟨fun ho => replaceMembers_forall hk _ (copy _ _ ho ho) hout2,
      fun hn => have h1 := replaceMembers_forall hk _ hn hinc1; copy _ _ h1 h1⟩

theorem collapseVertex_gsub {g g' : Graph} (hg : GSub g P) {c s : Iv} (hc : P c) (hs : P s)
    (h : g.collapseVertex c s = some g') : GSub g' P := by
  obtain ⟨ho, hi⟩ := collapseVertex_edges (c := c) (s := s)
    (Q := fun p => (isIntronVertex p.1 = true → P p.1) ∧ (isIntronVertex p.2 = true → P p.2))
    (fun _ hq => ⟨hq.1, fun _ => hs⟩) (fun _ hq => ⟨fun _ => hs, hq.2⟩) h
  exact ⟨collapseVertex_col h ▸ addSubstitute_csub hg.col hc hs, ho hg.out, hi hg.inc⟩

theorem applyOp_gsub {g g' : Graph} (hg : GSub g P) (op : Op)
    (hscope : match op with
      | .addEdge v1 v2 => P v1 ∧ P v2
      | .collapse c s => P c ∧ P s
      | .discard v => P v
      | .touch v => P v
      | .attachOut v t => P v ∧ isIntronVertex t = false
      | .attachInc v t => P v ∧ isIntronVertex t = false
      | _ => True)
    (h : applyOp g op = some g') : GSub g' P := by
  have term : ∀ {t : Iv}, isIntronVertex t = false → isIntronVertex t = true → P t := fun h0 h1 => nomatch h0.symm.trans h1
  cases op with
  | collapse c s => exact collapseVertex_gsub hg hscope.1 hscope.2 h
  | simplifyMap =>
    obtain ⟨c', hc', rfl⟩ := Option.map_eq_some_iff.1 h
    exact ⟨simplifyCorrectionMap_csub hg.col hc', hg.out, hg.inc⟩
  | addEdge v1 v2 => cases h; exact addEdge_gsub hg hscope.1 hscope.2
  | delVertex v => cases h; exact ⟨hg.col, esub_filter hg.out _, esub_filter hg.inc _⟩
  | delOut v => cases h; exact ⟨hg.col, esub_filter hg.out _, hg.inc⟩
  | delInc v => cases h; exact ⟨hg.col, hg.out, esub_filter hg.inc _⟩
  | discard v => cases h; exact ⟨discard_csub hg.col hscope, hg.out, hg.inc⟩
  | touch v => cases h; exact ⟨touch_csub hg.col hscope, hg.out, hg.inc⟩
  | attachOut v t => cases h; exact ⟨hg.col, forall_mem_setAdd hg.out ⟨fun _ => hscope.1, term hscope.2⟩, hg.inc⟩
  | attachInc v t => cases h; exact ⟨hg.col, hg.out, forall_mem_setAdd hg.inc ⟨fun _ => hscope.1, term hscope.2⟩⟩

theorem runOps_gsub {obs : List Iv} (ops : List Op) {g g' : Graph} (hg : GSub g (fun v => v ∈ obs))
    (h : runOps obs g ops = some g') : GSub g' (fun v => v ∈ obs) := by
  refine runOps_inv ops hg (fun g op g1 _ hg hsc h1 => applyOp_gsub hg op ?_ h1) h
  have hv := (gsub_iff g _).1 hg
  cases op <;> simp only [opScoped, Bool.and_eq_true, decide_eq_true_eq, Bool.not_eq_true'] at hsc ⊢
  · exact hsc
  · exact ⟨hv _ hsc.1, hv _ hsc.2⟩
  · exact hv _ hsc
  · exact hv _ hsc
  · exact ⟨hv _ hsc.1, hsc.2⟩
  · exact ⟨hv _ hsc.1, hsc.2⟩

theorem init_gsub (known : List Iv) (δ : Int) (reads : List Read) (minCount : Int) :
    GSub (Graph.init known δ reads minCount) (fun v => v ∈ obsIntrons reads) :=
  ⟨collectorProcess_csub known δ reads minCount, List.forall_mem_nil _, List.forall_mem_nil _⟩

/-! ### construct(): every `add_edge` call is scoped, so construction never fails -/

theorem readEdgeOps_eq (l : List Iv) : readEdgeOps l = (l.zip l.tail).map (fun p => Op.addEdge p.1 p.2) := by
  fun_induction readEdgeOps l with
  | case1 => rfl
  | case2 a => rfl
  | case3 a b t ih => simp only [List.tail_cons, List.zip_cons_cons, List.map_cons, ih]

theorem readEdgeOps_scoped {obs : List Iv} (l : List Iv) (hl : ∀ i ∈ l, i ∈ obs) :
    ∀ op ∈ readEdgeOps l, ∃ v1 v2, op = Op.addEdge v1 v2 ∧ v1 ∈ obs ∧ v2 ∈ obs := by
  intro op hop
  rw [readEdgeOps_eq] at hop
  obtain ⟨p, hp, rfl⟩ := List.mem_map.1 hop
  exact ⟨p.1, p.2, rfl, hl _ (List.of_mem_zip hp).1, hl _ (List.mem_of_mem_tail (List.of_mem_zip hp).2)⟩

theorem constructOps_scoped (col : Collector) (reads : List Read) :
    ∀ op ∈ constructOps col reads, ∃ v1 v2, op = Op.addEdge v1 v2 ∧ v1 ∈ obsIntrons reads ∧ v2 ∈ obsIntrons reads := by
  intro op hop
  obtain ⟨r, hr, hop⟩ := List.mem_flatMap.1 hop
  split at hop
  · cases hop
  · rename_i hc
    have hmm := (Bool.or_eq_false_iff.1 (Bool.eq_false_iff.2 hc)).1
    exact readEdgeOps_scoped _ (fun i hi => mem_obsIntrons.2 ⟨r, hr, hmm, hi⟩) op hop

theorem runOps_addEdges_isSome {obs : List Iv} (ops : List Op) (g : Graph)
    (h : ∀ op ∈ ops, ∃ v1 v2, op = Op.addEdge v1 v2 ∧ v1 ∈ obs ∧ v2 ∈ obs) : ∃ g', runOps obs g ops = some g' := by
  induction ops generalizing g with
  | nil => exact ⟨g, rfl⟩
  | cons op t ih =>
    obtain ⟨⟨v1, v2, rfl, h1, h2⟩, ht⟩ := List.forall_mem_cons.1 h
    simp only [runOps, opScoped, h1, h2, decide_true, Bool.and_self, if_true, applyOp]
    exact ih _ ht

theorem threadIntrons_spec' (c : Collector) (l : List Iv) :
    threadIntrons c l = if l.any (fun i => decide (i ∈ c.discarded)) then none else some (l.map c.substitute) := by
  induction l with
  | nil => rfl
  | cons i t ih =>
    simp only [threadIntrons, ih, List.any_cons, List.map_cons]
    by_cases h : i ∈ c.discarded
    · simp only [h, if_true, decide_true, Bool.true_or]
    · simp only [h, if_false, decide_false, Bool.false_or]
      cases t.any (fun i => decide (i ∈ c.discarded)) <;> rfl

theorem threadIntrons_eq_map {c : Collector} (l : List Iv) {path : List Iv} (h : threadIntrons c l = some path) :
    path = l.map c.substitute ∧ ∀ i ∈ l, i ∉ c.discarded := by
  rw [threadIntrons_spec'] at h
  split at h
  · cases h
  · rename_i hd
    exact ⟨(Option.some.inj h).symm, fun i hi hc => hd (List.any_eq_true.2 ⟨i, hi, decide_eq_true hc⟩)⟩

theorem threadIntrons_sub {c : Collector} (hc : CSub c P) (l : List Iv) (hl : ∀ i ∈ l, P i)
    {path : List Iv} (h : threadIntrons c l = some path) : ∀ p ∈ path, P p := by
  obtain ⟨rfl, _⟩ := threadIntrons_eq_map l h
  exact List.forall_mem_map.2 fun i hi => substitute_sub hc (hl i hi)

theorem threadIntrons_of_clean {c : Collector} (l : List Iv) (hd : ∀ i ∈ l, i ∉ c.discarded)
    (hk : ∀ i ∈ l, amGet? c.corr i = none) : threadIntrons c l = some l := by
  rw [threadIntrons_spec', if_neg fun h => let ⟨i, hi, hc⟩ := List.any_eq_true.1 h; hd i hi (of_decide_eq_true hc)]
  exact congrArg some ((List.map_congr_left fun i hi => by rw [Collector.substitute, hk i hi]).trans (List.map_id' l))

theorem readPath_spec {g : Graph} {p : ThreadParams} {a : Read} {path : List Iv} {fl : Bool}
    (h : readPath g p a = some (path, fl)) :
    a.multimapper = false ∧ ∃ ip first last, threadIntrons g.col a.introns = some ip ∧ ip.head? = some first ∧
      ip.getLast? = some last ∧
      (fl = true → ∃ (firstExon lastExon : Iv) (e s : Iv), p.ends last lastExon.2 (decide (a.strand = "+") && a.polya) = some e ∧
        p.starts first firstExon.1 (decide (a.strand = "-") && a.polyt) = some s ∧ path = s :: ip ++ [e] ∧
        (p.requiresPolya = true → e.1 = VERTEX_polya ∨ s.1 = VERTEX_polyt)) := by
  unfold readPath at h
  split at h
  · cases h
  · rename_i hmm
    refine ⟨Bool.eq_false_iff.2 hmm, ?_⟩
    split at h
    · cases h
    · cases h
    · rename_i i t hthread
      split at h
      · rename_i firstExon lastExon lastIntron _ _ hlast
        obtain ⟨hp, hf⟩ := Prod.mk.inj (Option.some.inj h)
        refine ⟨i :: t, i, lastIntron, hthread, rfl, hlast, ?_⟩
        rintro rfl
        split at hf
        · rename_i tv sv hte hts
          rw [hte, hts] at hp
          refine ⟨firstExon, lastExon, tv, sv, hte, hts, hp.symm, fun hreq => ?_⟩
          rw [hreq] at hf
          simpa using hf
        · cases hf
      · cases h

theorem fillPaths_spec (g : Graph) (p : ThreadParams) (reads : List Read) :
    (∀ path ∈ (fillPaths g p reads).fl, ∃ a ∈ reads, readPath g p a = some (path, true)) ∧
    (∀ q ∈ (fillPaths g p reads).toReads, ∀ a ∈ q.2, a ∈ reads ∧ ∃ fl, readPath g p a = some (q.1, fl)) := by
  refine List.foldlRecOn (motive := fun (ps : PathStore) => (∀ path ∈ ps.fl, ∃ a ∈ reads, readPath g p a = some (path, true)) ∧
      ∀ q ∈ ps.toReads, ∀ a ∈ q.2, a ∈ reads ∧ ∃ fl, readPath g p a = some (q.1, fl)) reads _
    ⟨List.forall_mem_nil _, List.forall_mem_nil _⟩
    fun ps ⟨hfl, hto⟩ a ha => ?_
  unfold fillStep
  split
  · exact ⟨hfl, hto⟩
  · rename_i path fl hrp
    refine ⟨?_, forall_mem_amSet hto fun b hb => ?_⟩
    · split
      · rename_i hflt
        exact forall_mem_setAdd hfl ⟨a, ha, hflt ▸ hrp⟩
      · exact hfl
    · rcases List.mem_append.1 hb with hb | hb
      · obtain ⟨rs, hrs, hb⟩ := mem_getD_amGet? hb
        exact hto _ hrs b hb
      · cases List.mem_singleton.1 hb
        exact ⟨ha, fl, hrp⟩

/-- both answering branches of `pickStart` / `pickEnd` return the head of the list -/
theorem pickStart_head {s : Int} {trusted : Bool} {L : List Iv} {v : Iv} (h : pickStart s trusted L = some v) :
    L.head? = some v := by
  revert h
  fun_cases pickStart s trusted L with
  | case2 | case3 => exact id
  | _ => exact fun h => nomatch h

theorem pickEnd_head {apa e : Int} {trusted : Bool} {L : List Iv} {v : Iv} (h : pickEnd apa e trusted L = some v) :
    L.head? = some v := by
  revert h
  fun_cases pickEnd apa e trusted L with
  | case2 | case3 => exact id
  | _ => exact fun h => nomatch h

end IsoVerif.Lemmas.C04
