/-
What one `dump` call writes, stated in terms of the models handed to it (consequences of `dump_spec`,
Lemmas/C03Gtf.lean): `mem_blocks_iff` locates a transcript or feature line in the block of a processed model, `seen_mem` /
`seen_gid_iff` translate processed models into the valid models of the call; gene, transcript and feature lines, the id
projections `geneIds` / `txIds`, the exon records of a block.  A history of calls: `runCalls_calls` (its output consists
of what its calls wrote), so that a statement about the records of a history is a statement about one call.  Before it,
three facts that are not about GTF: `flatMap_filter_perm` (grouping by a duplicate-free key list), `find?_key` (search by
key in a key-unique list), `SD_mem_disjoint`.
-/
import IsoVerif.Lemmas.C03Gtf
import IsoVerif.Lemmas.Interval

namespace IsoVerif.Lemmas.C03
open IsoVerif.Gen IsoVerif.Model IsoVerif.Model.C03 IsoVerif.Lemmas

def validOfGene (models : List TModel) (g : Id) : List TModel :=
  (models.filter validM).filter (fun m => decide (m.gid = g))

theorem mem_validOfGene {models : List TModel} {g : Id} {m : TModel} :
    m ∈ validOfGene models g ↔ m ∈ models ∧ validM m = true ∧ m.gid = g := by
  simp only [validOfGene, List.mem_filter, decide_eq_true_eq, and_assoc]

theorem ofGene_map_fst (seen : List (TModel × Iv)) (g : Id) :
    (ofGene seen g).map (·.1) = (seen.map (·.1)).filter (fun m => decide (m.gid = g)) := by
  unfold ofGene
  induction seen with
  | nil => rfl
  | cons p t ih =>
    simp only [List.filter_cons, List.map_cons]
    by_cases h : p.1.gid = g <;> simp [h, ih]

theorem mem_featLines_not_tx (m : TModel) (c : Id) (s e : Int) (st : Strand) (g t : Id) :
    Line.tx c s e st g t ∉ featLines m := by
  unfold featLines
  simp

theorem mem_featLines_not_gene (m : TModel) (c : Id) (s e : Int) (st : Strand) (g : Id) (n : Nat) :
    Line.gene c s e st g n ∉ featLines m := by
  unfold featLines
  simp

theorem mem_txBlock_tx (p : TModel × Iv) (c : Id) (s e : Int) (st : Strand) (g t : Id) :
    Line.tx c s e st g t ∈ txBlock p ↔
      (p.1.chr = c ∧ p.2.1 = s ∧ p.2.2 = e ∧ p.1.strand = st ∧ p.1.gid = g ∧ p.1.tid = t) := by
  simp only [txBlock, List.mem_cons, Line.tx.injEq, mem_featLines_not_tx, or_false]
  exact ⟨fun ⟨h1, h2, h3, h4, h5, h6⟩ => ⟨h1.symm, h2.symm, h3.symm, h4.symm, h5.symm, h6.symm⟩,
    fun ⟨h1, h2, h3, h4, h5, h6⟩ => ⟨h1.symm, h2.symm, h3.symm, h4.symm, h5.symm, h6.symm⟩⟩

theorem mem_txBlock_not_gene (p : TModel × Iv) (c : Id) (s e : Int) (st : Strand) (g : Id) (n : Nat) :
    Line.gene c s e st g n ∉ txBlock p := by
  unfold txBlock
  simp only [List.mem_cons, not_or]
  exact ⟨by simp, mem_featLines_not_gene _ _ _ _ _ _ _⟩

theorem seen_mem {ctx : GeneCtx} {seen : List (TModel × Iv)} {acc : Acc} {models : List TModel}
    (hinv : Inv ctx seen acc) (hs : seen.map (·.1) = models.filter validM) (m : TModel) (tr : Iv) :
    (m, tr) ∈ seen ↔ (m ∈ models ∧ validM m = true ∧ regionOf? m = some tr) := by
  constructor
  · intro hp
    have h1 : m ∈ seen.map (·.1) := List.mem_map_of_mem (f := (·.1)) hp
    rw [hs, List.mem_filter] at h1
    exact ⟨h1.1, h1.2, (hinv.seen_ok _ hp).2.1⟩
  · rintro ⟨hm, hv, hr⟩
    have h1 : m ∈ seen.map (·.1) := by rw [hs, List.mem_filter]; exact ⟨hm, hv⟩
    obtain ⟨p, hp, hpe⟩ := List.mem_map.mp h1
    have := (hinv.seen_ok p hp).2.1
    obtain ⟨pm, ptr⟩ := p
    simp only at hpe
    subst hpe
    rw [hr] at this
    simp only [Option.some.injEq] at this
    subst this
    exact hp

theorem seen_gid_iff {ctx : GeneCtx} {seen : List (TModel × Iv)} {acc : Acc} {models : List TModel}
    (hinv : Inv ctx seen acc) (hs : seen.map (·.1) = models.filter validM) (g : Id) :
    (∃ p ∈ seen, p.1.gid = g) ↔ ∃ m ∈ models, validM m = true ∧ m.gid = g := by
  constructor
  · rintro ⟨⟨pm, ptr⟩, hp, hg⟩
    have := (seen_mem hinv hs pm ptr).mp hp
    exact ⟨pm, this.1, this.2.1, hg⟩
  · rintro ⟨m, hm, hv, hg⟩
    have : m ∈ seen.map (·.1) := by rw [hs, List.mem_filter]; exact ⟨hm, hv⟩
    obtain ⟨p, hp, hpe⟩ := List.mem_map.mp this
    exact ⟨p, hp, hpe ▸ hg⟩

theorem mem_blocks_iff {ctx : GeneCtx} {seen : List (TModel × Iv)} {acc : Acc} (hinv : Inv ctx seen acc)
    (printed : List Id) {ln : Line} (hln : ∀ c s e st g n, ln ≠ Line.gene c s e st g n) :
    ln ∈ (geneOrder acc).flatMap (geneBlock acc printed) ↔ ∃ p ∈ seen, ln ∈ txBlock p := by
  simp only [List.mem_flatMap, geneBlock, List.mem_append]
  constructor
  · rintro ⟨⟨g', r⟩, _, hin | ⟨p, hp, hin⟩⟩
    · split at hin
      · cases hin
      · exact absurd (List.mem_singleton.mp hin) (hln _ _ _ _ _ _)
    · rw [hinv.mods_eq] at hp
      exact ⟨p, (List.mem_filter.mp hp).1, hin⟩
  · rintro ⟨p, hp, hin⟩
    have hk : p.1.gid ∈ acc.keys := (hinv.keys_iff _).mpr ⟨p, hp, rfl⟩
    obtain ⟨⟨g', r⟩, hgr, hge⟩ := List.mem_map.mp ((mem_geneOrder_fst hinv _).mpr hk)
    simp only at hge
    refine ⟨(g', r), hgr, Or.inr ⟨p, ?_, hin⟩⟩
    rw [hinv.mods_eq]
    exact List.mem_filter.mpr ⟨hp, by simpa using hge.symm⟩

theorem dump_tx_line {printed p' : List Id} {ctx : GeneCtx} {models : List TModel} {lines : List Line}
    (h : dump printed ctx models = some (p', lines)) (c : Id) (s e : Int) (st : Strand) (g t : Id) :
    Line.tx c s e st g t ∈ lines ↔
      ∃ m ∈ models, validM m = true ∧ regionOf? m = some (s, e) ∧ m.chr = c ∧ m.strand = st ∧ m.gid = g ∧ m.tid = t := by
  obtain ⟨acc, seen, hinv, hs, hl, _⟩ := dump_spec h
  subst hl
  rw [mem_blocks_iff hinv printed (by simp)]
  constructor
  · rintro ⟨⟨pm, ptr⟩, hp, hin⟩
    obtain ⟨h1, h2, h3, h4, h5, h6⟩ := (mem_txBlock_tx _ _ _ _ _ _ _).mp hin
    have := (seen_mem hinv hs pm ptr).mp hp
    simp only at h1 h2 h3 h4 h5 h6
    refine ⟨pm, this.1, this.2.1, ?_, h1, h4, h5, h6⟩
    rw [this.2.2, ← h2, ← h3]
  · rintro ⟨m, hm, hv, hr, h1, h4, h5, h6⟩
    exact ⟨(m, (s, e)), (seen_mem hinv hs m (s, e)).mpr ⟨hm, hv, hr⟩,
      (mem_txBlock_tx _ _ _ _ _ _ _).mpr ⟨h1, rfl, rfl, h4, h5, h6⟩⟩

structure GeneLineFacts (printed : List Id) (ctx : GeneCtx) (models : List TModel)
    (c : Id) (s e : Int) (st : Strand) (g : Id) (n : Nat) : Prop where
  fresh : g ∉ printed
  chr : c = ctx.chr
  nonempty : ∃ m ∈ models, validM m = true ∧ m.gid = g
  models_chr : ∀ m ∈ models, validM m = true → m.gid = g → m.chr = ctx.chr
  contains : ∀ m ∈ models, validM m = true → m.gid = g → ∀ tr, regionOf? m = some tr → s ≤ tr.1 ∧ tr.2 ≤ e
  contains_ref : ∀ rr, ctx.regions.lookup g = some rr → s ≤ rr.1 ∧ rr.2 ≤ e
  tight_start : (∃ rr, ctx.regions.lookup g = some rr ∧ rr.1 = s) ∨
    ∃ m ∈ models, validM m = true ∧ m.gid = g ∧ ∃ tr, regionOf? m = some tr ∧ tr.1 = s
  tight_end : (∃ rr, ctx.regions.lookup g = some rr ∧ rr.2 = e) ∨
    ∃ m ∈ models, validM m = true ∧ m.gid = g ∧ ∃ tr, regionOf? m = some tr ∧ tr.2 = e
  strand_last : ∃ m, (validOfGene models g).getLast? = some m ∧ st = m.strand
  count : n = (validOfGene models g).length

theorem dump_gene_line {printed p' : List Id} {ctx : GeneCtx} {models : List TModel} {lines : List Line}
    (h : dump printed ctx models = some (p', lines)) {c : Id} {s e : Int} {st : Strand} {g : Id} {n : Nat}
    (hl : Line.gene c s e st g n ∈ lines) : GeneLineFacts printed ctx models c s e st g n := by
  obtain ⟨acc, seen, hinv, hs, hlines, _⟩ := dump_spec h
  subst hlines
  simp only [List.mem_flatMap, geneBlock, List.mem_append] at hl
  obtain ⟨⟨g', r⟩, hgr, hin⟩ := hl
  rcases hin with hin | ⟨p, _, hin⟩
  · have hin' : g' ∉ printed ∧ c = r.chr ∧ s = r.range.1 ∧ e = r.range.2 ∧ st = r.strand ∧ g = g' ∧
        n = (acc.mods g').length := by
      by_cases hc : g' ∈ printed <;> simp_all
    obtain ⟨hc, h1, h2, h3, h4, h5, h6⟩ := hin'
    subst h5
    have hinfo := (mem_geneOrder hinv g r).mp hgr
    have hvo : (ofGene seen g).map (·.1) = validOfGene models g := by
      rw [ofGene_map_fst, hs]; rfl
    rw [hinv.info_eq] at hinfo
    obtain ⟨hchr, ⟨p, hp, hps⟩, hh⟩ := grec_eq_some hinfo
    obtain ⟨⟨c1, c2⟩, t1, t2⟩ := hull_spec _ _ _ hh
    have hreg : ∀ tr, tr ∈ (ofGene seen g).map (·.2) ↔
        ∃ m ∈ models, validM m = true ∧ m.gid = g ∧ regionOf? m = some tr := by
      intro tr
      simp only [ofGene, List.mem_map, List.mem_filter, decide_eq_true_eq]
      constructor
      · rintro ⟨⟨pm, ptr⟩, ⟨hp, hg⟩, rfl⟩
        have := (seen_mem hinv hs pm ptr).mp hp
        exact ⟨pm, this.1, this.2.1, hg, this.2.2⟩
      · rintro ⟨m, hm, hv, hg, hr⟩
        exact ⟨(m, tr), ⟨(seen_mem hinv hs m tr).mpr ⟨hm, hv, hr⟩, hg⟩, rfl⟩
    have attained : ∀ {q : Iv → Prop}, (∃ tr ∈ (ofGene seen g).map (·.2), q tr) →
        ∃ m ∈ models, validM m = true ∧ m.gid = g ∧ ∃ tr, regionOf? m = some tr ∧ q tr := by
      rintro q ⟨tr, htr, hq⟩
      obtain ⟨m, hm, hv, hg, hr⟩ := (hreg tr).mp htr
      exact ⟨m, hm, hv, hg, tr, hr, hq⟩
    constructor
    · exact hc
    · rw [h1, hchr]
    · obtain ⟨m, hm, hv, hg, _⟩ := (hreg p.2).mp (List.mem_map_of_mem (List.mem_of_getLast? hp))
      exact ⟨m, hm, hv, hg⟩
    · exact fun m hm hv _ => ((dump_isSome_iff printed ctx models).mp (by rw [h]; rfl) m hm hv).1
    · intro m hm hv hg tr hr
      rw [h2, h3]; exact c2 tr ((hreg tr).mpr ⟨m, hm, hv, hg, hr⟩)
    · intro rr hrr
      rw [h2, h3]; exact c1 rr hrr
    · rw [h2]; exact t1.imp_right attained
    · rw [h3]; exact t2.imp_right attained
    · exact ⟨p.1, by rw [← hvo, List.getLast?_map, hp]; rfl, by rw [h4, hps]⟩
    · rw [h6, hinv.mods_eq, ← hvo, List.length_map]
  · exact absurd hin (mem_txBlock_not_gene _ _ _ _ _ _ _)

theorem dump_gene_line_exists {printed p' : List Id} {ctx : GeneCtx} {models : List TModel} {lines : List Line}
    (h : dump printed ctx models = some (p', lines)) (g : Id) (hfresh : g ∉ printed)
    (hm : ∃ m ∈ models, validM m = true ∧ m.gid = g) :
    ∃ c s e st n, Line.gene c s e st g n ∈ lines := by
  obtain ⟨acc, seen, hinv, hs, hlines, _⟩ := dump_spec h
  subst hlines
  have hk : g ∈ acc.keys := (hinv.keys_iff g).mpr ((seen_gid_iff hinv hs g).mpr hm)
  obtain ⟨⟨g', r⟩, hgr, hge⟩ := List.mem_map.mp ((mem_geneOrder_fst hinv g).mpr hk)
  simp only at hge
  subst hge
  refine ⟨r.chr, r.range.1, r.range.2, r.strand, (acc.mods g').length, ?_⟩
  simp only [List.mem_flatMap, geneBlock, List.mem_append]
  refine ⟨(g', r), hgr, Or.inl ?_⟩
  simp [hfresh]

/-- the new `printed_gene_ids` -/
theorem dump_printed {printed p' : List Id} {ctx : GeneCtx} {models : List TModel} {lines : List Line}
    (h : dump printed ctx models = some (p', lines)) (g : Id) :
    g ∈ p' ↔ g ∈ printed ∨ ∃ m ∈ models, validM m = true ∧ m.gid = g := by
  obtain ⟨acc, seen, hinv, hs, _, hp⟩ := dump_spec h
  rw [hp g, hinv.keys_iff g, seen_gid_iff hinv hs]

def geneId? : Line → Option Id
  | .gene _ _ _ _ g _ => some g
  | _ => none

def txId? : Line → Option Id
  | .tx _ _ _ _ _ t => some t
  | _ => none

def geneIds (ls : List Line) : List Id := ls.filterMap geneId?
def txIds (ls : List Line) : List Id := ls.filterMap txId?

theorem mem_geneIds (ls : List Line) (g : Id) :
    g ∈ geneIds ls ↔ ∃ c s e st n, Line.gene c s e st g n ∈ ls := by
  unfold geneIds
  simp only [List.mem_filterMap]
  constructor
  · rintro ⟨l, hl, hg⟩
    cases l with
    | gene c s e st g' n => simp [geneId?] at hg; subst hg; exact ⟨c, s, e, st, n, hl⟩
    | tx => simp [geneId?] at hg
    | feat => simp [geneId?] at hg
  · rintro ⟨c, s, e, st, n, hl⟩
    exact ⟨_, hl, rfl⟩

theorem geneIds_featLines (m : TModel) : geneIds (featLines m) = [] := by
  simp [geneIds, featLines, geneId?, List.filterMap_map, Function.comp_def]

theorem geneIds_txBlocks (l : List (TModel × Iv)) : geneIds (l.flatMap txBlock) = [] := by
  have h := geneIds_featLines
  unfold geneIds at h ⊢
  induction l with
  | nil => rfl
  | cons p t ih => simp only [List.flatMap_cons, List.filterMap_append, txBlock, List.filterMap_cons, geneId?, h, ih, List.append_nil]

theorem txIds_featLines (m : TModel) : txIds (featLines m) = [] := by
  simp [txIds, featLines, txId?, List.filterMap_map, Function.comp_def]

theorem txIds_txBlocks (l : List (TModel × Iv)) : txIds (l.flatMap txBlock) = l.map (·.1.tid) := by
  have h := txIds_featLines
  unfold txIds at h ⊢
  induction l with
  | nil => rfl
  | cons p t ih => simp [List.flatMap_cons, List.filterMap_append, txBlock, txId?, h, ih]

theorem geneIds_block (acc : Acc) (printed : List Id) (p : Id × GRec) :
    geneIds (geneBlock acc printed p) = if printed.contains p.1 then [] else [p.1] := by
  have h2 := geneIds_txBlocks (acc.mods p.1)
  unfold geneIds geneBlock at *
  rw [List.filterMap_append, h2]
  by_cases hc : p.1 ∈ printed <;> simp [hc, geneId?]

theorem txIds_block (acc : Acc) (printed : List Id) (p : Id × GRec) :
    txIds (geneBlock acc printed p) = (acc.mods p.1).map (·.1.tid) := by
  have h2 := txIds_txBlocks (acc.mods p.1)
  unfold txIds geneBlock at *
  rw [List.filterMap_append, h2]
  by_cases hc : p.1 ∈ printed <;> simp [hc, txId?]

theorem flatMap_filter_perm {α} (key : α → Id) : ∀ (ks : List Id) (l : List α), ks.Nodup → (∀ a ∈ l, key a ∈ ks) →
    (ks.flatMap (fun k => l.filter (fun a => decide (key a = k)))).Perm l := by
  intro ks
  induction ks with
  | nil =>
    intro l _ h
    cases l with
    | nil => simp
    | cons a t => exact absurd (h a (by simp)) (by simp)
  | cons k ks ih =>
    intro l hnd h
    rw [List.nodup_cons] at hnd
    simp only [List.flatMap_cons]
    have hrest : ks.flatMap (fun k' => l.filter (fun a => decide (key a = k'))) =
        ks.flatMap (fun k' => (l.filter (fun a => !decide (key a = k))).filter (fun a => decide (key a = k'))) := by
      apply flatMap_congr_mem
      intro k' hk'
      rw [List.filter_filter]
      apply List.filter_congr
      intro a _
      by_cases h1 : key a = k'
      · have : k' ≠ k := by intro h2; exact hnd.1 (h2 ▸ hk')
        simp [h1, this]
      · simp [h1]
    rw [hrest]
    have ih' := ih (l.filter (fun a => !decide (key a = k))) hnd.2 (by
      intro a ha
      rw [List.mem_filter] at ha
      have := h a ha.1
      simp only [List.mem_cons] at this
      rcases this with h1 | h1
      · simp [h1] at ha
      · exact h1)
    exact (List.Perm.append_left _ ih').trans (List.filter_append_perm _ l)

/-- gene ids of the output: the keys of `gene_order` not printed before; transcript ids: the processed models regrouped
    by gene, a permutation of them because the keys are duplicate-free and cover them (`flatMap_filter_perm`) -/
theorem dump_ids {printed p' : List Id} {ctx : GeneCtx} {models : List TModel} {lines : List Line}
    (h : dump printed ctx models = some (p', lines)) :
    (geneIds lines).Nodup ∧ (∀ g ∈ geneIds lines, g ∉ printed) ∧
    (txIds lines).Perm ((models.filter validM).map (·.tid)) := by
  obtain ⟨acc, seen, hinv, hs, hl, _⟩ := dump_spec h
  subst hl
  have hg : geneIds ((geneOrder acc).flatMap (geneBlock acc printed)) =
      ((geneOrder acc).map (·.1)).filter (fun g => !printed.contains g) := by
    unfold geneIds
    rw [List.filterMap_flatMap]
    have : ∀ p, List.filterMap geneId? (geneBlock acc printed p) = if printed.contains p.1 then [] else [p.1] :=
      geneIds_block acc printed
    simp only [this]
    induction geneOrder acc with
    | nil => rfl
    | cons q t ih =>
      simp only [List.flatMap_cons, List.map_cons, List.filter_cons, ih]
      by_cases hc : q.1 ∈ printed <;> simp [hc]
  refine ⟨?_, ?_, ?_⟩
  · rw [hg]; exact (geneOrder_nodup hinv).sublist List.filter_sublist
  · intro g hgm
    rw [hg, List.mem_filter] at hgm
    simpa using hgm.2
  · have ht : txIds ((geneOrder acc).flatMap (geneBlock acc printed)) =
        ((geneOrder acc).map (·.1)).flatMap (fun g => (ofGene seen g).map (·.1.tid)) := by
      unfold txIds
      rw [List.filterMap_flatMap]
      have : ∀ p, List.filterMap txId? (geneBlock acc printed p) = (acc.mods p.1).map (·.1.tid) := txIds_block acc printed
      simp only [this, List.flatMap_map, hinv.mods_eq]
    rw [ht]
    have hperm : ((geneOrder acc).map (·.1)).Perm acc.keys := by
      unfold geneOrder
      have hp := (isortBy_perm (fun a b : Id × GRec => ivLt a.2.range b.2.range)
        (acc.keys.filterMap (fun g => (acc.info g).map (fun r => (g, r))))).map (·.1)
      refine hp.trans ?_
      rw [geneOrder_fst]
      have : acc.keys.filter (fun g => (acc.info g).isSome) = acc.keys := by
        rw [List.filter_eq_self]
        intro g hg; exact (hinv.info_iff g).mpr hg
      rw [this]
    refine (hperm.flatMap_right _).trans ?_
    have h1 : acc.keys.flatMap (fun g => (ofGene seen g).map (·.1.tid)) =
        (acc.keys.flatMap (fun g => seen.filter (fun p => decide (p.1.gid = g)))).map (·.1.tid) := by
      rw [List.map_flatMap]; rfl
    rw [h1, ← hs, List.map_map]
    exact (flatMap_filter_perm (fun p : TModel × Iv => p.1.gid) acc.keys seen hinv.keys_nodup
      (fun p hp => (hinv.keys_iff _).mpr ⟨p, hp, rfl⟩)).map _

theorem dump_feat_line {printed p' : List Id} {ctx : GeneCtx} {models : List TModel} {lines : List Line}
    (h : dump printed ctx models = some (p', lines)) (c : Id) (k : Int) (s e : Int) (st : Strand) (g t : Id) (num : Nat) :
    Line.feat c k s e st g t num ∈ lines ↔
      ∃ m ∈ models, validM m = true ∧ Line.feat c k s e st g t num ∈ featLines m := by
  obtain ⟨acc, seen, hinv, hs, hl, _⟩ := dump_spec h
  subst hl
  rw [mem_blocks_iff hinv printed (by simp)]
  constructor
  · rintro ⟨⟨pm, ptr⟩, hp, hin⟩
    have := (seen_mem hinv hs pm ptr).mp hp
    simp only [txBlock, List.mem_cons, reduceCtorEq, false_or] at hin
    exact ⟨pm, this.1, this.2.1, hin⟩
  · rintro ⟨m, hm, hv, hin⟩
    have : m ∈ seen.map (·.1) := by rw [hs, List.mem_filter]; exact ⟨hm, hv⟩
    obtain ⟨p, hp, hpe⟩ := List.mem_map.mp this
    exact ⟨p, hp, List.mem_cons_of_mem _ (hpe ▸ hin)⟩

/-- the features of a model that are printed: `other_features` and the exons (kind 0) -/
def featsOf (m : TModel) : List Feat := m.other ++ m.exons.map (fun e => (e.1, e.2, (0 : Int)))

theorem mem_featsOf {m : TModel} {s e k : Int} :
    (s, e, k) ∈ featsOf m ↔ (s, e, k) ∈ m.other ∨ (k = 0 ∧ (s, e) ∈ m.exons) := by
  simp only [featsOf, List.mem_append, List.mem_map, Prod.mk.injEq]
  refine or_congr_right ⟨fun ⟨x, hx, h1, h2, h3⟩ => ⟨h3.symm, by rw [← h1, ← h2]; exact hx⟩,
    fun ⟨h0, hx⟩ => ⟨(s, e), hx, rfl, rfl, h0.symm⟩⟩

def sortedFeats (m : TModel) : List Feat :=
  if m.strand = strandMinus then (isortBy featLt (featsOf m)).reverse else isortBy featLt (featsOf m)

theorem sortedFeats_perm (m : TModel) : (sortedFeats m).Perm (featsOf m) := by
  unfold sortedFeats
  split
  · exact (List.reverse_perm _).trans (isortBy_perm _ _)
  · exact isortBy_perm _ _

theorem featLines_eq (m : TModel) :
    featLines m = (sortedFeats m).zipIdx.map
      (fun p => Line.feat m.chr p.1.2.2 p.1.1 p.1.2.1 m.strand m.gid m.tid (p.2 + 1)) := by
  unfold featLines sortedFeats featsOf
  split <;> rfl

theorem mem_featLines (m : TModel) (c : Id) (k : Int) (s e : Int) (st : Strand) (g t : Id) (num : Nat) :
    Line.feat c k s e st g t num ∈ featLines m →
      c = m.chr ∧ st = m.strand ∧ g = m.gid ∧ t = m.tid ∧ (s, e, k) ∈ featsOf m := by
  rw [featLines_eq]
  simp only [List.mem_map, Line.feat.injEq]
  rintro ⟨⟨f, i⟩, hp, h1, h2, h3, h4, h5, h6, h7, _⟩
  simp only at h1 h2 h3 h4 h5 h6 h7
  refine ⟨h1.symm, h5.symm, h6.symm, h7.symm, ?_⟩
  have hf : f ∈ sortedFeats m := by
    have := List.mem_map_of_mem (f := Prod.fst) hp
    rwa [List.zipIdx_map_fst] at this
  have := (sortedFeats_perm m).mem_iff.mp hf
  obtain ⟨f1, f2, f3⟩ := f
  simp only at h2 h3 h4
  subst h2; subst h3; subst h4
  exact this

theorem featLines_complete (m : TModel) (f : Feat) (hf : f ∈ featsOf m) :
    ∃ num, Line.feat m.chr f.2.2 f.1 f.2.1 m.strand m.gid m.tid num ∈ featLines m := by
  rw [featLines_eq]
  have hs : f ∈ sortedFeats m := (sortedFeats_perm m).mem_iff.mpr hf
  have : f ∈ (sortedFeats m).zipIdx.map Prod.fst := by rw [List.zipIdx_map_fst]; exact hs
  obtain ⟨⟨f', i⟩, hp, hfe⟩ := List.mem_map.mp this
  simp only at hfe
  subst hfe
  exact ⟨i + 1, List.mem_map.mpr ⟨(f', i), hp, rfl⟩⟩

def exonOf? : Line → Option Iv
  | .feat _ k s e _ _ _ _ => if k = 0 then some (s, e) else none
  | _ => none

def exonRecs (ls : List Line) : List Iv := ls.filterMap exonOf?

/-! ### general facts used by the property files -/

theorem SD_mem_disjoint (l : List Iv) (hs : SD l) (hw : WFl l) : ∀ a ∈ l, ∀ b ∈ l, a = b ∨ a.2 < b.1 ∨ b.2 < a.1 := by
  intro a ha b hb
  obtain ⟨i, hi, rfl⟩ := List.getElem_of_mem ha
  obtain ⟨j, hj, rfl⟩ := List.getElem_of_mem hb
  have hp := List.pairwise_iff_getElem.mp (SD_pairwise l hs hw)
  rcases Nat.lt_trichotomy i j with h | rfl | h
  · exact Or.inr (Or.inl (hp i j hi hj h))
  · exact Or.inl rfl
  · exact Or.inr (Or.inr (hp j i hj hi h))

theorem runCalls_cons {printed p' : List Id} {cl : Call} {cs : List Call} {out : List Line}
    (h : runCalls printed (cl :: cs) = some (p', out)) :
    ∃ p1 l1 l2, dump printed cl.ctx cl.models = some (p1, l1) ∧ runCalls p1 cs = some (p', l2) ∧ out = l1 ++ l2 := by
  simp only [runCalls] at h
  cases hd : dump printed cl.ctx cl.models with
  | none => simp [hd] at h
  | some r1 =>
    obtain ⟨p1, l1⟩ := r1
    simp only [hd] at h
    cases hr : runCalls p1 cs with
    | none => simp [hr] at h
    | some r2 =>
      simp only [hr, Option.some.injEq, Prod.mk.injEq] at h
      exact ⟨p1, l1, r2.2, rfl, by rw [hr, ← h.1], h.2.symm⟩

theorem runCalls_calls : ∀ (calls : List Call) (printed p' : List Id) (out : List Line),
    runCalls printed calls = some (p', out) →
    (∀ ln ∈ out, ∃ cl ∈ calls, ∃ pr p1 l1, dump pr cl.ctx cl.models = some (p1, l1) ∧ ln ∈ l1) ∧
    (∀ cl ∈ calls, ∃ pr p1 l1, dump pr cl.ctx cl.models = some (p1, l1) ∧ ∀ ln ∈ l1, ln ∈ out)
  | [], _, _, out, h => by
    cases h
    exact ⟨List.forall_mem_nil _, List.forall_mem_nil _⟩
  | cl :: cs, printed, p', out, h => by
    obtain ⟨p1, l1, l2, hd, hr, rfl⟩ := runCalls_cons h
    obtain ⟨ih1, ih2⟩ := runCalls_calls cs p1 p' l2 hr
    constructor
    · intro ln hl
      rcases List.mem_append.mp hl with hl | hl
      · exact ⟨cl, List.mem_cons_self, printed, p1, l1, hd, hl⟩
      · obtain ⟨c, hc, rest⟩ := ih1 ln hl
        exact ⟨c, List.mem_cons_of_mem _ hc, rest⟩
    · intro c hc
      rcases List.mem_cons.mp hc with rfl | hc
      · exact ⟨printed, p1, l1, hd, fun ln hl => List.mem_append_left _ hl⟩
      · obtain ⟨pr, q, l, hq, hl⟩ := ih2 c hc
        exact ⟨pr, q, l, hq, fun ln h => List.mem_append_right _ (hl ln h)⟩

end IsoVerif.Lemmas.C03
