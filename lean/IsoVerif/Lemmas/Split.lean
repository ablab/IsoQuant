import IsoVerif.Lemmas.Lists
import IsoVerif.Model.Profiles
import IsoVerif.Lemmas.InsertionSort

/-!
`GeneInfo.split_exons`: the sweep over the separately sorted starts and ends.

The invariant is stated on the *remaining* suffixes `ss`/`es` of the two sorted lists:
* `state + cntLe ss x − cntLe es x ≥ 0` for every `x` (there are never more ends `≤ x` than starts `≤ x`;
  this stands in for the order-statistics fact `S[i] ≤ E[i]` and yields `state ≥ 1` whenever an end is consumed);
* `state + cntLe ss p − cntLt es p` is the number of exons covering a position `p ≥ last_border`
  (coverage depth); the blocks returned cover exactly the positions `≥ last_border` of positive depth;
* no start / end border lies strictly inside a returned block (atoms).
-/
namespace IsoVerif.Lemmas
open IsoVerif.Gen IsoVerif.Model

/-- number of elements `< x` -/
def cntLt : List Int → Int → Int
  | [], _ => 0
  | a :: t, x => (if a < x then 1 else 0) + cntLt t x

/-- number of elements `≤ x` -/
def cntLe (l : List Int) (x : Int) : Int := cntLt l (x + 1)

theorem cntLt_cons (a : Int) (t : List Int) (x : Int) :
    cntLt (a :: t) x = (if a < x then 1 else 0) + cntLt t x := rfl

theorem cntLe_cons (a : Int) (t : List Int) (x : Int) :
    cntLe (a :: t) x = (if a ≤ x then 1 else 0) + cntLe t x := by
  simp only [cntLe, cntLt_cons, Int.lt_add_one_iff]

theorem cntLe_nil (x : Int) : cntLe [] x = 0 := rfl

theorem cntLt_eq_sum (l : List Int) (x : Int) : cntLt l x = (l.map fun a => if a < x then 1 else 0).sum := by
  induction l with
  | nil => rfl
  | cons a t ih => rw [cntLt_cons, ih, List.map_cons, List.sum_cons]

theorem cntLt_nonneg (l : List Int) (x : Int) : 0 ≤ cntLt l x := by
  rw [cntLt_eq_sum]
  exact sum_map_nonneg l _ fun a _ => by split <;> omega

theorem cntLe_nonneg (l : List Int) (x : Int) : 0 ≤ cntLe l x := cntLt_nonneg l (x + 1)

theorem cntLt_zero (l : List Int) (x : Int) (h : ∀ a ∈ l, x ≤ a) : cntLt l x = 0 := by
  rw [cntLt_eq_sum]
  exact sum_map_eq_zero l _ fun a ha => if_neg (by have := h a ha; omega)

theorem cntLe_zero (l : List Int) (x : Int) (h : ∀ a ∈ l, x < a) : cntLe l x = 0 := cntLt_zero l (x + 1) h

theorem sortInts_is : InsertionSort (fun a b : Int => decide (a ≤ b)) insertSorted sortInts :=
  ⟨fun _ => rfl, fun x y ys => by simp only [insertSorted, decide_eq_true_eq], rfl, fun _ _ => rfl⟩

theorem mem_sortInts (y : Int) (l : List Int) : y ∈ sortInts l ↔ y ∈ l := sortInts_is.mem_iff

theorem length_sortInts (l : List Int) : (sortInts l).length = l.length := (sortInts_is.perm l).length_eq

theorem cntLt_perm {l l' : List Int} (h : l.Perm l') (x : Int) : cntLt l x = cntLt l' x := by
  induction h with
  | nil => rfl
  | cons a _ ih => rw [cntLt_cons, cntLt_cons, ih]
  | swap a b l => rw [cntLt_cons, cntLt_cons, cntLt_cons, cntLt_cons]; omega
  | trans _ _ ih1 ih2 => exact ih1.trans ih2

theorem cntLt_sortInts (l : List Int) (x : Int) : cntLt (sortInts l) x = cntLt l x := cntLt_perm (sortInts_is.perm l) x

def SortedInts (l : List Int) : Prop := List.Pairwise (· ≤ ·) l

theorem cntLe_sortInts (l : List Int) (x : Int) : cntLe (sortInts l) x = cntLe l x := cntLt_sortInts l (x + 1)

theorem sorted_sortInts (l : List Int) : SortedInts (sortInts l) :=
  (sortInts_is.pairwise (fun _ _ _ h₁ h₂ => decide_eq_true (Int.le_trans (of_decide_eq_true h₁) (of_decide_eq_true h₂)))
    (fun a b => (Int.le_total a b).imp decide_eq_true decide_eq_true) l).imp of_decide_eq_true

theorem sorted_head_le {a : Int} {l : List Int} (h : SortedInts (a :: l)) : ∀ x ∈ a :: l, a ≤ x := by
  intro x hx
  rcases List.mem_cons.mp hx with rfl | hx'
  · omega
  · exact (List.pairwise_cons.mp h).1 x hx'

theorem sorted_tail {a : Int} {l : List Int} (h : SortedInts (a :: l)) : SortedInts l :=
  (List.pairwise_cons.mp h).2

theorem cntLe_starts_ge_ends (exons : List Iv) (w : WFl exons) (x : Int) :
    cntLe (exons.map (·.2)) x ≤ cntLe (exons.map (·.1)) x := by
  induction exons with
  | nil => simp [cntLe]
  | cons a t ih =>
    have ha := WFl_head w
    have := ih (WFl_tail w)
    simp only [List.map_cons, cntLe_cons]
    split <;> split <;> omega

/-- coverage depth: #starts `≤ p` − #ends `< p` = number of exons covering `p` -/
def depthAt (l : List Iv) (p : Int) : Int := (l.map fun a => if a.1 ≤ p ∧ p ≤ a.2 then 1 else 0).sum

theorem depthAt_cons (a : Iv) (t : List Iv) (p : Int) :
    depthAt (a :: t) p = (if a.1 ≤ p ∧ p ≤ a.2 then 1 else 0) + depthAt t p := by
  simp only [depthAt, List.map_cons, List.sum_cons]

theorem depth_eq (exons : List Iv) (w : WFl exons) (p : Int) :
    cntLe (exons.map (·.1)) p - cntLt (exons.map (·.2)) p = depthAt exons p := by
  induction exons with
  | nil => rfl
  | cons a t ih =>
    have ha := WFl_head w
    have := ih (WFl_tail w)
    simp only [List.map_cons, cntLe_cons, cntLt_cons, depthAt_cons]
    split <;> split <;> split <;> omega

theorem depthAt_nonneg (exons : List Iv) (p : Int) : 0 ≤ depthAt exons p :=
  sum_map_nonneg exons _ fun a _ => by split <;> omega

theorem depthAt_pos_iff (exons : List Iv) (p : Int) : 0 < depthAt exons p ↔ cov exons p := by
  induction exons with
  | nil => simp [depthAt, cov_nil]
  | cons a t ih =>
    rw [cov_cons, ← ih]
    have := depthAt_nonneg t p
    rw [depthAt_cons]
    split
    · rename_i h; constructor
      · intro _; exact Or.inl h
      · intro _; omega
    · rename_i h; constructor
      · intro h'; exact Or.inr (by omega)
      · rintro (h' | h')
        · exact absurd h' h
        · omega

/-- `x` is a new border value w.r.t. the previously consumed one -/
def newerBorder (prev : Option Int) (x : Int) : Prop := ∀ p, prev = some p → p < x

/-- the guard `prev is None or x > prev` of both loops -/
theorem newerBorder_iff_guard {prev : Option Int} {x : Int} :
    (match prev with | none => true | some p => decide (x > p)) = true ↔ newerBorder prev x := by
  cases prev with
  | none => exact ⟨fun _ p hp => (nomatch hp), fun _ => rfl⟩
  | some q => exact ⟨fun h p hp => by cases hp; exact of_decide_eq_true h, fun h => decide_eq_true (h q rfl)⟩

theorem not_newerBorder {prev : Option Int} {x : Int} (h : ¬ newerBorder prev x) : ∃ p, prev = some p ∧ x ≤ p := by
  cases prev with
  | none => exact absurd (fun p hp => by cases hp) h
  | some p =>
    refine ⟨p, rfl, ?_⟩
    by_cases hc : x ≤ p
    · exact hc
    · exact absurd (fun p' hp' => by injection hp' with e; omega) h

/-- the state of the main loop (arguments as those of `splitMain`): the consumed borders lie behind `last_border` (`hps`,
    `hpe`), the remaining ones at or after it, except an end that repeats the end just consumed and so lies one before it
    (`hes`); `last_border` is unset only while no exon is open (`hlb`); `hC` is the first counting fact of the header and gives
    `hst` at `x` below every border; `hbal`: every open exon and every remaining start still has its end; `nnS`, `nnE`: borders
    are ≥ 0, because the code uses −1 as the "unset" value of `last_border` (`hlb`) -/
structure SplitInv (ss es : List Int) (ps pe : Option Int) (state lb : Int) : Prop where
  sS : SortedInts ss
  sE : SortedInts es
  hps : ∀ p, ps = some p → p ≤ lb
  hpe : ∀ q, pe = some q → q + 1 ≤ lb
  hss : ∀ s ∈ ss, lb ≤ s
  hes : ∀ e ∈ es, lb ≤ e ∨ (pe = some e ∧ lb = e + 1)
  hC : ∀ x, 0 ≤ state + cntLe ss x - cntLe es x
  hst : 0 ≤ state
  hbal : state + (ss.length : Int) = (es.length : Int)
  nnS : ∀ s ∈ ss, 0 ≤ s
  nnE : ∀ e ∈ es, 0 ≤ e
  hlb : lb = -1 → state = 0

/-- what the blocks returned for the remaining suffixes satisfy -/
def SplitPost (ss es : List Int) (state lb : Int) (res : List Iv) : Prop :=
  SD res ∧
  (∀ b ∈ res, lb ≤ b.1 ∧ b.1 ≤ b.2 ∧ (∀ s ∈ ss, s ≤ b.1 ∨ b.2 < s) ∧ (∀ e ∈ es, e < b.1 ∨ b.2 ≤ e) ∧
    (b.2 + 1 ∈ ss ∨ b.2 ∈ es)) ∧
  (∀ p, cov res p ↔ lb ≤ p ∧ 0 < state + cntLe ss p - cntLt es p)

theorem state_pos {ss es : List Int} {e : Int} {ps pe : Option Int} {state lb : Int}
    (h : SplitInv ss (e :: es) ps pe state lb) (hgt : ∀ s ∈ ss, e < s) : 1 ≤ state := by
  have h1 := h.hC e
  rw [cntLe_zero ss e hgt, cntLe_cons] at h1
  have := cntLe_nonneg es e
  simp at h1; omega

theorem hC_end {ss es : List Int} {e : Int} {ps pe : Option Int} {state lb : Int}
    (h : SplitInv ss (e :: es) ps pe state lb) (hgt : ∀ s ∈ ss, e < s) :
    ∀ x, 0 ≤ state - 1 + cntLe ss x - cntLe es x := by
  intro x
  have hpos := state_pos h hgt
  by_cases hx : e ≤ x
  · have := h.hC x
    rw [cntLe_cons] at this
    simp only [hx, if_true] at this
    omega
  · have h1 : cntLe ss x = 0 := cntLe_zero ss x (fun s hs => by have := hgt s hs; omega)
    have h2 : cntLe es x = 0 := cntLe_zero es x (fun e' he' => by
      have := sorted_head_le h.sE e' (List.mem_cons_of_mem _ he'); omega)
    omega

theorem inv_start_new {s e : Int} {ss es : List Int} {ps pe : Option Int} {state lb : Int}
    (h : SplitInv (s :: ss) (e :: es) ps pe state lb) (hle : s ≤ e) :
    SplitInv ss (e :: es) (some s) pe (state + 1) s where
  sS := sorted_tail h.sS
  sE := h.sE
  hps := by intro p hp; injection hp with hp; omega
  hpe := by intro q hq; have := h.hpe q hq; have := h.hss s (by simp); omega
  hss := by intro s' hs'; exact sorted_head_le h.sS s' (List.mem_cons_of_mem _ hs')
  hes := by intro e' he'; left; have := sorted_head_le h.sE e' he'; omega
  hC := by
    intro x
    have := h.hC x
    rw [cntLe_cons s ss x] at this
    split at this <;> omega
  hst := by have := h.hst; omega
  hbal := by have := h.hbal; simp only [List.length_cons] at this ⊢; omega
  nnS := fun s' hs' => h.nnS s' (List.mem_cons_of_mem _ hs')
  nnE := h.nnE
  hlb := by intro hs; have := h.nnS s (by simp); omega

theorem inv_start_dup {s e : Int} {ss es : List Int} {ps pe : Option Int} {state lb : Int}
    (h : SplitInv (s :: ss) (e :: es) ps pe state lb) (hdup : ¬ newerBorder ps s) :
    SplitInv ss (e :: es) (some s) pe (state + 1) lb ∧ lb = s := by
  obtain ⟨p, hp, hsp⟩ := not_newerBorder hdup
  have h1 := h.hps p hp
  have h2 := h.hss s (by simp)
  have hlbs : lb = s := by omega
  refine ⟨?_, hlbs⟩
  exact {
    sS := sorted_tail h.sS
    sE := h.sE
    hps := by intro p' hp'; injection hp' with hp'; omega
    hpe := h.hpe
    hss := fun s' hs' => h.hss s' (List.mem_cons_of_mem _ hs')
    hes := h.hes
    hC := by
      intro x
      have := h.hC x
      rw [cntLe_cons s ss x] at this
      split at this <;> omega
    hst := by have := h.hst; omega
    hbal := by have := h.hbal; simp only [List.length_cons] at this ⊢; omega
    nnS := fun s' hs' => h.nnS s' (List.mem_cons_of_mem _ hs')
    nnE := h.nnE
    hlb := by intro hl; have := h.nnS s (by simp); omega }

theorem inv_end_new {e : Int} {ss es : List Int} {ps pe : Option Int} {state lb : Int}
    (h : SplitInv ss (e :: es) ps pe state lb) (hgt : ∀ s ∈ ss, e < s) (hnew : newerBorder pe e) :
    SplitInv ss es ps (some e) (state - 1) (e + 1) ∧ lb ≤ e ∧ 1 ≤ state := by
  have hpos := state_pos h hgt
  have hlbe : lb ≤ e := by
    rcases h.hes e (by simp) with h1 | ⟨h1, _⟩
    · exact h1
    · have := hnew e h1; omega
  refine ⟨?_, hlbe, hpos⟩
  exact {
    sS := h.sS
    sE := sorted_tail h.sE
    hps := by intro p hp; have := h.hps p hp; omega
    hpe := by intro q hq; injection hq with hq; omega
    hss := by intro s hs; have := hgt s hs; omega
    hes := by
      intro e' he'
      have := sorted_head_le h.sE e' (List.mem_cons_of_mem _ he')
      by_cases hc : e + 1 ≤ e'
      · exact Or.inl hc
      · have : e' = e := by omega
        subst this; exact Or.inr ⟨rfl, rfl⟩
    hC := hC_end h hgt
    hst := by omega
    hbal := by have := h.hbal; simp only [List.length_cons] at this ⊢; omega
    nnS := h.nnS
    nnE := fun e' he' => h.nnE e' (List.mem_cons_of_mem _ he')
    hlb := by intro hl; have := h.nnE e (by simp); omega }

theorem inv_end_dup {e : Int} {ss es : List Int} {ps pe : Option Int} {state lb : Int}
    (h : SplitInv ss (e :: es) ps pe state lb) (hgt : ∀ s ∈ ss, e < s) (hdup : ¬ newerBorder pe e) :
    SplitInv ss es ps (some e) (state - 1) lb ∧ lb = e + 1 ∧ 1 ≤ state := by
  have hpos := state_pos h hgt
  obtain ⟨q, hq, heq⟩ := not_newerBorder hdup
  have h1 := h.hpe q hq
  have hpe_eq : pe = some e ∧ lb = e + 1 := by
    rcases h.hes e (by simp) with h2 | h2
    · omega
    · exact h2
  refine ⟨?_, hpe_eq.2, hpos⟩
  exact {
    sS := h.sS
    sE := sorted_tail h.sE
    hps := h.hps
    hpe := by intro q' hq'; injection hq' with hq'; omega
    hss := h.hss
    hes := by
      intro e' he'
      rcases h.hes e' (List.mem_cons_of_mem _ he') with h2 | ⟨h2, h3⟩
      · exact Or.inl h2
      · rw [hpe_eq.1] at h2; exact Or.inr ⟨h2, h3⟩
    hC := hC_end h hgt
    hst := by omega
    hbal := by have := h.hbal; simp only [List.length_cons] at this ⊢; omega
    nnS := h.nnS
    nnE := fun e' he' => h.nnE e' (List.mem_cons_of_mem _ he')
    hlb := by intro hl; have := h.nnE e (by simp); omega }

theorem post_end_new {e : Int} {ss es : List Int} {ps pe : Option Int} {state lb : Int} {res : List Iv}
    (h : SplitInv ss (e :: es) ps pe state lb) (hgt : ∀ s ∈ ss, e < s) (hlbe : lb ≤ e) (hpos : 1 ≤ state)
    (hp : SplitPost ss es (state - 1) (e + 1) res) : SplitPost ss (e :: es) state lb ((lb, e) :: res) := by
  obtain ⟨hsd, hb, hc⟩ := hp
  refine ⟨SD_cons_of hsd (fun b hb' => by have := (hb b hb').1; simp only; omega), ?_, ?_⟩
  · intro b hb'
    rcases List.mem_cons.mp hb' with rfl | hb''
    · refine ⟨by simp, hlbe, fun s hs => Or.inr (hgt s hs), fun e' he' => Or.inr ?_, Or.inr (by simp)⟩
      exact sorted_head_le h.sE e' he'
    · obtain ⟨h1, h2, h3, h4, h5⟩ := hb b hb''
      refine ⟨by omega, h2, h3, fun e' he' => ?_, h5.imp id (List.mem_cons_of_mem _)⟩
      rcases List.mem_cons.mp he' with rfl | he''
      · left; omega
      · exact h4 e' he''
  · intro p
    rw [cov_cons, hc p, cntLt_cons]
    simp only
    by_cases hpe : p ≤ e
    · have h1 : cntLe ss p = 0 := cntLe_zero ss p (fun s hs => by have := hgt s hs; omega)
      have h2 : cntLt es p = 0 := cntLt_zero es p (fun e' he' => by
        have := sorted_head_le h.sE e' (List.mem_cons_of_mem _ he'); omega)
      have h3 : ¬ e < p := by omega
      simp only [h3, if_false]
      constructor
      · rintro (h' | h')
        · exact ⟨h'.1, by omega⟩
        · omega
      · rintro ⟨h', _⟩; exact Or.inl ⟨h', hpe⟩
    · have h3 : e < p := by omega
      simp only [h3, if_true]
      constructor
      · rintro (h' | h')
        · omega
        · exact ⟨by omega, by omega⟩
      · rintro ⟨_, h'⟩; exact Or.inr ⟨by omega, by omega⟩

theorem post_end_dup {e : Int} {ss es : List Int} {state lb : Int} {res : List Iv}
    (hlb : lb = e + 1) (hp : SplitPost ss es (state - 1) lb res) : SplitPost ss (e :: es) state lb res := by
  obtain ⟨hsd, hb, hc⟩ := hp
  refine ⟨hsd, ?_, ?_⟩
  · intro b hb'
    obtain ⟨h1, h2, h3, h4, h5⟩ := hb b hb'
    refine ⟨h1, h2, h3, fun e' he' => ?_, h5.imp id (List.mem_cons_of_mem _)⟩
    rcases List.mem_cons.mp he' with rfl | he''
    · left; omega
    · exact h4 e' he''
  · intro p
    rw [hc p, cntLt_cons]
    constructor
    · rintro ⟨h1, h2⟩
      have h3 : e < p := by omega
      simp only [h3, if_true]; exact ⟨h1, by omega⟩
    · rintro ⟨h1, h2⟩
      have h3 : e < p := by omega
      simp only [h3, if_true] at h2; exact ⟨h1, by omega⟩

/-- a new start `s` is consumed.  Below `s` no remaining border counts (`hbelow`), so the depth there is `state` and the one
    block `(lb, s - 1)` covers it when an exon is open; from `s` on the depth formula is the one of the tail (`hcovrest`). -/
theorem post_start_new {s e : Int} {ss es : List Int} {ps pe : Option Int} {state lb : Int} {res : List Iv}
    (h : SplitInv (s :: ss) (e :: es) ps pe state lb) (hle : s ≤ e) (hp : SplitPost ss (e :: es) (state + 1) s res) :
    SplitPost (s :: ss) (e :: es) state lb
      ((if (lb != -1) = true ∧ state > 0 ∧ lb < s then [(lb, s - 1)] else []) ++ res) := by
  obtain ⟨hsd, hb, hc⟩ := hp
  have hlbs := h.hss s (by simp)
  have hssge : ∀ s' ∈ s :: ss, s ≤ s' := sorted_head_le h.sS
  have hesge : ∀ e' ∈ e :: es, s ≤ e' := fun e' he' => by have := sorted_head_le h.sE e' he'; omega
  have hrest : ∀ b ∈ res, lb ≤ b.1 ∧ b.1 ≤ b.2 ∧ (∀ s' ∈ s :: ss, s' ≤ b.1 ∨ b.2 < s') ∧
      (∀ e' ∈ e :: es, e' < b.1 ∨ b.2 ≤ e') ∧ (b.2 + 1 ∈ s :: ss ∨ b.2 ∈ e :: es) := by
    intro b hb'
    obtain ⟨h1, h2, h3, h4, h5⟩ := hb b hb'
    refine ⟨by omega, h2, fun s' hs' => ?_, h4, h5.imp (List.mem_cons_of_mem _) id⟩
    rcases List.mem_cons.mp hs' with rfl | hs''
    · exact Or.inl h1
    · exact h3 s' hs''
  have hcovrest : ∀ p, s ≤ p → (cov res p ↔ lb ≤ p ∧ 0 < state + cntLe (s :: ss) p - cntLt (e :: es) p) := by
    intro p hsp
    rw [hc p, cntLe_cons s ss p]
    simp only [hsp, if_true, true_and]
    constructor
    · intro h'; exact ⟨by omega, by omega⟩
    · rintro ⟨_, h'⟩; omega
  have hbelow : ∀ p, p < s → cntLe (s :: ss) p = 0 ∧ cntLt (e :: es) p = 0 := by
    intro p hps
    exact ⟨cntLe_zero _ p (fun s' hs' => by have := hssge s' hs'; omega),
      cntLt_zero _ p (fun e' he' => by have := hesge e' he'; omega)⟩
  split
  · rename_i hcond
    obtain ⟨hne, hst, hlt⟩ := hcond
    refine ⟨?_, ?_, ?_⟩
    · show SD ((lb, s - 1) :: res)
      exact SD_cons_of hsd (fun b hb' => by have := (hb b hb').1; simp only; omega)
    · intro b hb'
      rcases List.mem_cons.mp hb' with rfl | hb''
      · refine ⟨by simp, by simp only; omega, fun s' hs' => Or.inr ?_, fun e' he' => Or.inr ?_, Or.inl (by simp)⟩
        · have := hssge s' hs'; simp only; omega
        · have := hesge e' he'; simp only; omega
      · exact hrest b hb''
    · intro p
      show cov ((lb, s - 1) :: res) p ↔ _
      rw [cov_cons]
      simp only
      by_cases hps : p < s
      · obtain ⟨h1, h2⟩ := hbelow p hps
        rw [h1, h2]
        constructor
        · rintro (h' | h')
          · exact ⟨h'.1, by omega⟩
          · have := ((hc p).mp h').1; omega
        · rintro ⟨h', _⟩; exact Or.inl ⟨h', by omega⟩
      · rw [← hcovrest p (by omega)]
        constructor
        · rintro (h' | h')
          · omega
          · exact h'
        · intro h'; exact Or.inr h'
  · rename_i hcond
    refine ⟨hsd, hrest, ?_⟩
    intro p
    simp only [List.nil_append]
    by_cases hps : p < s
    · obtain ⟨h1, h2⟩ := hbelow p hps
      rw [h1, h2]
      constructor
      · intro h'; have := ((hc p).mp h').1; omega
      · rintro ⟨h1', h2'⟩
        exfalso; apply hcond
        refine ⟨?_, by omega, by omega⟩
        have hne : lb ≠ -1 := fun hl => by have := h.hlb hl; omega
        simpa using hne
    · exact hcovrest p (by omega)

theorem post_start_dup {s e : Int} {ss es : List Int} {state lb : Int} {res : List Iv}
    (hlb : lb = s) (hp : SplitPost ss (e :: es) (state + 1) lb res) : SplitPost (s :: ss) (e :: es) state lb res := by
  obtain ⟨hsd, hb, hc⟩ := hp
  refine ⟨hsd, ?_, ?_⟩
  · intro b hb'
    obtain ⟨h1, h2, h3, h4, h5⟩ := hb b hb'
    refine ⟨h1, h2, fun s' hs' => ?_, h4, h5.imp (List.mem_cons_of_mem _) id⟩
    rcases List.mem_cons.mp hs' with rfl | hs''
    · left; omega
    · exact h3 s' hs''
  · intro p
    rw [hc p, cntLe_cons s ss p]
    constructor
    · rintro ⟨h1, h2⟩
      have h3 : s ≤ p := by omega
      simp only [h3, if_true]; exact ⟨h1, by omega⟩
    · rintro ⟨h1, h2⟩
      have h3 : s ≤ p := by omega
      simp only [h3, if_true] at h2; exact ⟨h1, by omega⟩

theorem splitTail_cons_new {pe : Option Int} {e : Int} (es : List Int) (lb : Int) (h : newerBorder pe e) :
    splitTail (e :: es) pe lb = (lb, e) :: splitTail es (some e) (e + 1) :=
  if_pos (newerBorder_iff_guard.2 h)

theorem splitTail_cons_dup {pe : Option Int} {e : Int} (es : List Int) (lb : Int) (h : ¬ newerBorder pe e) :
    splitTail (e :: es) pe lb = splitTail es (some e) lb :=
  if_neg fun g => h (newerBorder_iff_guard.1 g)

/-- the second `while` (only ends remain) -/
theorem splitTail_spec (es : List Int) (ps pe : Option Int) (state lb : Int)
    (h : SplitInv [] es ps pe state lb) : SplitPost [] es state lb (splitTail es pe lb) := by
  induction es generalizing pe state lb with
  | nil =>
    have hb := h.hbal
    simp at hb
    refine ⟨trivial, by simp [splitTail], fun p => ?_⟩
    simp only [splitTail, cntLe_nil, cntLt]
    constructor
    · intro h'; exact absurd h' (cov_nil p)
    · rintro ⟨_, h'⟩; omega
  | cons e es ih =>
    have hgt : ∀ s ∈ ([] : List Int), e < s := by intro s hs; cases hs
    by_cases hnew : newerBorder pe e
    · rw [splitTail_cons_new es lb hnew]
      obtain ⟨hinv, hlbe, hpos⟩ := inv_end_new h hgt hnew
      exact post_end_new h hgt hlbe hpos (ih _ _ _ hinv)
    · rw [splitTail_cons_dup es lb hnew]
      obtain ⟨hinv, hlbe, hpos⟩ := inv_end_dup h hgt hnew
      exact post_end_dup hlbe (ih _ _ _ hinv)

/-- the main `while`: it never runs out of ends, and the blocks satisfy `SplitPost` -/
theorem splitMain_spec (ss es : List Int) (ps pe : Option Int) (state lb : Int)
    (h : SplitInv ss es ps pe state lb) :
    ∃ res, splitMain ss es ps pe state lb = some res ∧ SplitPost ss es state lb res := by
  fun_induction splitMain ss es ps pe state lb with
  | case1 es ps pe state lb => exact ⟨_, rfl, splitTail_spec es ps pe state lb h⟩
  | case2 s ss ps pe state lb =>
    exfalso
    have := h.hbal; have := h.hst
    simp only [List.length_cons, List.length_nil] at *
    omega
  | case3 s ss e es ps pe state lb hle hnew blk ih =>
    obtain ⟨res, hres, hpost⟩ := ih (inv_start_new h hle)
    refine ⟨blk ++ res, by simp [hres], ?_⟩
    exact post_start_new h hle hpost
  | case4 s ss e es ps pe state lb hle hnew ih =>
    obtain ⟨hinv, hlbs⟩ := inv_start_dup h fun hn => hnew (newerBorder_iff_guard.2 hn)
    obtain ⟨res, hres, hpost⟩ := ih hinv
    exact ⟨res, hres, post_start_dup hlbs hpost⟩
  | case5 s ss e es ps pe state lb hle hnew ih =>
    have hgt : ∀ s' ∈ s :: ss, e < s' := fun s' hs' => by have := sorted_head_le h.sS s' hs'; omega
    obtain ⟨hinv, hlbe, hpos⟩ := inv_end_new h hgt (newerBorder_iff_guard.1 hnew)
    obtain ⟨res, hres, hpost⟩ := ih hinv
    exact ⟨(lb, e) :: res, by simp [hres], post_end_new h hgt hlbe hpos hpost⟩
  | case6 s ss e es ps pe state lb hle hnew ih =>
    have hgt : ∀ s' ∈ s :: ss, e < s' := fun s' hs' => by have := sorted_head_le h.sS s' hs'; omega
    obtain ⟨hinv, hlbe, hpos⟩ := inv_end_dup h hgt fun hn => hnew (newerBorder_iff_guard.2 hn)
    obtain ⟨res, hres, hpost⟩ := ih hinv
    exact ⟨res, hres, post_end_dup hlbe hpost⟩

/-- the state in which `split_exons` enters the main loop -/
theorem SplitInv.init (exons : List Iv) (w : WFl exons) (hpos : ∀ e ∈ exons, 0 ≤ e.1) :
    SplitInv (sortInts (exons.map (·.1))) (sortInts (exons.map (·.2))) none none 0 (-1) := {
  sS := sorted_sortInts _
  sE := sorted_sortInts _
  hps := by intro p hp; cases hp
  hpe := by intro q hq; cases hq
  hss := by
    intro s hs
    obtain ⟨e, he, rfl⟩ := List.mem_map.mp ((mem_sortInts s _).mp hs)
    have := hpos e he; omega
  hes := by
    intro x hx
    obtain ⟨e, he, rfl⟩ := List.mem_map.mp ((mem_sortInts x _).mp hx)
    have := hpos e he; have := w e he; left; omega
  hC := by
    intro x
    rw [cntLe_sortInts, cntLe_sortInts]
    have := cntLe_starts_ge_ends exons w x; omega
  hst := by omega
  hbal := by simp [length_sortInts]
  nnS := by
    intro s hs
    obtain ⟨e, he, rfl⟩ := List.mem_map.mp ((mem_sortInts s _).mp hs)
    exact hpos e he
  nnE := by
    intro x hx
    obtain ⟨e, he, rfl⟩ := List.mem_map.mp ((mem_sortInts x _).mp hx)
    have := hpos e he; have := w e he; omega
  hlb := fun _ => rfl }

end IsoVerif.Lemmas
