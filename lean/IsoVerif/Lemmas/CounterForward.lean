/-
Helper lemmas for C02 / forward_counts: the two loops as one pass over the (transcript, read) incidences, what the
pass leaves in the three accumulators, sums over the insertion-ordered dict of lists.  Core Lean only.
-/
import IsoVerif.Model.Counter
import IsoVerif.Model.CounterSpec
import IsoVerif.Lemmas.Counter
import IsoVerif.Lemmas.CounterSteps
import IsoVerif.Lemmas.AssocList


namespace IsoVerif.Lemmas.C02
open IsoVerif.Gen IsoVerif.Model.C02

variable {F : Type} {R : Type} [DecidableEq R]

/-- the two nested loops of `forward_counts` (`fcReads` inside `fcTranscripts`) as one loop over the flat incidence list -/
def fcInc : List (F × R) → List (R × Nat) → List (R × List F) → List (Event F) →
    List (R × Nat) × List (R × List F) × List (Event F)
  | [], cnt, amb, out => (cnt, amb, out)
  | (t, r) :: rest, cnt, amb, out =>
    if (ddGet cnt r).1 = 1 then fcInc rest (ddGet cnt r).2 amb (out ++ [Event.raw false [t]])
    else fcInc rest (ddGet cnt r).2 (ambAppend amb r t) out

theorem fcReads_eq (t : F) (rs : List R) (cnt : List (R × Nat)) (amb : List (R × List F)) (out : List (Event F)) :
    fcReads t rs cnt amb out = fcInc (rs.map (fun r => (t, r))) cnt amb out := by
  induction rs generalizing cnt amb out with
  | nil => simp [fcReads, fcInc]
  | cons r rs ih =>
    simp only [fcReads, List.map_cons, fcInc]
    split <;> simp [ih]

theorem fcInc_append (L1 L2 : List (F × R)) (cnt : List (R × Nat)) (amb : List (R × List F)) (out : List (Event F)) :
    fcInc (L1 ++ L2) cnt amb out =
      fcInc L2 (fcInc L1 cnt amb out).1 (fcInc L1 cnt amb out).2.1 (fcInc L1 cnt amb out).2.2 := by
  induction L1 generalizing cnt amb out with
  | nil => simp [fcInc]
  | cons p ps ih =>
    obtain ⟨t, r⟩ := p
    simp only [List.cons_append, fcInc]
    split <;> simp [ih]

theorem fcTranscripts_eq (tr : List (F × List R)) (cnt : List (R × Nat)) (amb : List (R × List F)) (out : List (Event F)) :
    fcTranscripts tr cnt amb out = fcInc (incidences tr) cnt amb out := by
  induction tr generalizing cnt amb out with
  | nil => simp [fcTranscripts, fcInc, incidences]
  | cons p ps ih =>
    obtain ⟨t, rs⟩ := p
    simp only [fcTranscripts, incidences, List.flatMap_cons]
    rw [fcInc_append, ← fcReads_eq]
    have := ih (fcReads t rs cnt amb out).1 (fcReads t rs cnt amb out).2.1 (fcReads t rs cnt amb out).2.2
    simp only [incidences] at this
    rw [← this]

theorem ddGet_fst (cnt : List (R × Nat)) (r : R) : (ddGet cnt r).1 = countOf cnt r := by
  induction cnt with
  | nil => simp [ddGet, countOf]
  | cons p ps ih =>
    obtain ⟨k, v⟩ := p
    by_cases hk : k = r
    · simp [ddGet, countOf, hk]
    · simp [ddGet, countOf, hk, ih]

/-- `defaultdict` lookups never change a stored value -/
theorem countOf_ddGet (cnt : List (R × Nat)) (r r' : R) : countOf (ddGet cnt r).2 r' = countOf cnt r' := by
  induction cnt with
  | nil =>
    by_cases h : r = r' <;> simp [ddGet, countOf, h]
  | cons p ps ih =>
    obtain ⟨k, v⟩ := p
    by_cases hk : k = r
    · simp [ddGet, hk]
    · by_cases hk' : k = r'
      · subst hk'
        simp [ddGet, countOf, hk]
      · simp [ddGet, countOf, hk, hk', ih]

/-- `ambiguous_reads[r].append(t)` for every incidence `(t, r)`, in order -/
def ambFold (amb : List (R × List F)) (L : List (F × R)) : List (R × List F) :=
  L.foldl (fun a p => ambAppend a p.2 p.1) amb

theorem fcInc_spec (L : List (F × R)) (cnt : List (R × Nat)) (amb : List (R × List F)) (out : List (Event F)) :
    (fcInc L cnt amb out).2.2
        = out ++ (L.filter (fun p => countOf cnt p.2 = 1)).map (fun p => Event.raw false [p.1]) ∧
    (fcInc L cnt amb out).2.1 = ambFold amb (L.filter (fun p => ¬ countOf cnt p.2 = 1)) ∧
    (∀ r, countOf (fcInc L cnt amb out).1 r = countOf cnt r) := by
  induction L generalizing cnt amb out with
  | nil => simp [fcInc, ambFold]
  | cons p ps ih =>
    obtain ⟨t, r⟩ := p
    have hfun1 : (fun p : F × R => decide (countOf (ddGet cnt r).2 p.2 = 1)) = (fun p => decide (countOf cnt p.2 = 1)) := by
      funext p; rw [countOf_ddGet]
    have hfun2 : (fun p : F × R => decide (¬ countOf (ddGet cnt r).2 p.2 = 1)) = (fun p => decide (¬ countOf cnt p.2 = 1)) := by
      funext p; rw [countOf_ddGet]
    simp only [fcInc, ddGet_fst]
    by_cases h1 : countOf cnt r = 1
    · simp only [h1, if_true]
      obtain ⟨ih1, ih2, ih3⟩ := ih (ddGet cnt r).2 amb (out ++ [Event.raw false [t]])
      refine ⟨?_, ?_, ?_⟩
      · rw [ih1, hfun1]; simp [h1]
      · rw [ih2, hfun2]; simp [h1]
      · intro r'; rw [ih3, countOf_ddGet]
    · simp only [h1, if_false]
      obtain ⟨ih1, ih2, ih3⟩ := ih (ddGet cnt r).2 (ambAppend amb r t) out
      refine ⟨?_, ?_, ?_⟩
      · rw [ih1, hfun1]; simp [h1]
      · rw [ih2, hfun2]; simp [h1, ambFold]
      · intro r'; rw [ih3, countOf_ddGet]

/-- `ambiguous_reads[r]` (first entry; `[]` for a read without one) -/
def ambGet (amb : List (R × List F)) (r : R) : List F :=
  match amb with
  | [] => []
  | (r', ts) :: rest => if r' = r then ts else ambGet rest r

theorem ambGet_append (amb : List (R × List F)) (r r' : R) (t : F) :
    ambGet (ambAppend amb r t) r' = ambGet amb r' ++ (if r = r' then [t] else []) := by
  induction amb with
  | nil => by_cases h : r = r' <;> simp [ambAppend, ambGet, h]
  | cons p ps ih =>
    obtain ⟨k, ts⟩ := p
    by_cases hk : k = r
    · subst hk
      by_cases h : k = r' <;> simp [ambAppend, ambGet, h]
    · by_cases h : k = r'
      · subst h
        have : ¬ r = k := fun e => hk e.symm
        simp [ambAppend, ambGet, hk, this]
      · simp [ambAppend, ambGet, hk, h, ih]

theorem ambAppend_eq_upsert (amb : List (R × List F)) (r : R) (t : F) :
    ambAppend amb r t = upsert (· ++ [t]) [t] amb r := by
  induction amb with
  | nil => rfl
  | cons p ps ih => simp only [ambAppend, upsert, ih]

theorem keys_append (amb : List (R × List F)) (r : R) (t : F) :
    (ambAppend amb r t).map Prod.fst = if r ∈ amb.map Prod.fst then amb.map Prod.fst else amb.map Prod.fst ++ [r] := by
  rw [ambAppend_eq_upsert, keys_upsert]

theorem mem_keys_append (amb : List (R × List F)) (r0 r : R) (t : F) :
    r ∈ (ambAppend amb r0 t).map Prod.fst ↔ r ∈ amb.map Prod.fst ∨ r0 = r := by
  rw [keys_append]
  split
  · rename_i hin; exact ⟨Or.inl, fun h => h.elim id (fun e => e ▸ hin)⟩
  · simp [eq_comm]

theorem nodup_keys_append {amb : List (R × List F)} (hnd : (amb.map Prod.fst).Nodup) (r0 : R) (t : F) :
    ((ambAppend amb r0 t).map Prod.fst).Nodup := by
  rw [ambAppend_eq_upsert]
  exact nodup_keys_upsert _ _ hnd r0

theorem ambFold_spec (L : List (F × R)) (amb : List (R × List F)) (hnd : (amb.map Prod.fst).Nodup) :
    ((ambFold amb L).map Prod.fst).Nodup ∧
    (∀ r, r ∈ (ambFold amb L).map Prod.fst ↔ r ∈ amb.map Prod.fst ∨ ∃ p ∈ L, p.2 = r) ∧
    (∀ r, ambGet (ambFold amb L) r = ambGet amb r ++ modelsOf L r) := by
  induction L generalizing amb with
  | nil => exact ⟨by simpa [ambFold] using hnd, by simp [ambFold], by simp [ambFold, modelsOf]⟩
  | cons p ps ih =>
    obtain ⟨t, r0⟩ := p
    obtain ⟨h1, h2, h3⟩ := ih (ambAppend amb r0 t) (nodup_keys_append hnd r0 t)
    refine ⟨h1, fun r => ?_, fun r => ?_⟩
    · show r ∈ (ambFold (ambAppend amb r0 t) ps).map Prod.fst ↔ _
      rw [h2 r, mem_keys_append, or_assoc]
      simp only [List.mem_cons, exists_eq_or_imp]
    · show ambGet (ambFold (ambAppend amb r0 t) ps) r = _
      rw [h3 r, ambGet_append, List.append_assoc]
      by_cases h : r0 = r <;> simp [modelsOf, h]

theorem ratSum_amb (amb : List (R × List F)) (hnd : (amb.map Prod.fst).Nodup) (H : R → List F → Rat) :
    ratSum (amb.map (fun p => H p.1 p.2)) = ratSum ((amb.map Prod.fst).map (fun r => H r (ambGet amb r))) := by
  induction amb with
  | nil => simp
  | cons p ps ih =>
    obtain ⟨k, ts⟩ := p
    simp only [List.map_cons, List.nodup_cons] at hnd
    simp only [List.map_cons, ratSum_cons, ih hnd.2]
    have h1 : ambGet ((k, ts) :: ps) k = ts := by simp [ambGet]
    have h2 : (ps.map Prod.fst).map (fun r => H r (ambGet ((k, ts) :: ps) r))
        = (ps.map Prod.fst).map (fun r => H r (ambGet ps r)) := by
      apply List.map_congr_left
      intro r hr
      have : ¬ k = r := fun e => hnd.1 (e ▸ hr)
      simp [ambGet, this]
    rw [h1, h2]

theorem ratSum_partition (L : List (F × R)) (K : List R) (hK : K.Nodup) (hcov : ∀ p ∈ L, p.2 ∈ K)
    (g : F × R → Rat) :
    ratSum (L.map g) = ratSum (K.map (fun r => ratSum ((L.filter (fun p => p.2 = r)).map g))) := by
  induction L with
  | nil =>
    simp only [List.map_nil, ratSum_nil, List.filter_nil]
    exact (ratSum_map_zero K _ (fun _ _ => rfl)).symm
  | cons p ps ih =>
    have hp := hcov p (by simp)
    have ih' := ih (fun q hq => hcov q (by simp [hq]))
    have : K.map (fun r => ratSum (((p :: ps).filter (fun q => q.2 = r)).map g))
        = K.map (fun r => (if p.2 = r then g p else 0) + ratSum ((ps.filter (fun q => q.2 = r)).map g)) := by
      apply List.map_congr_left
      intro r _
      by_cases h : p.2 = r
      · simp [h]
      · simp [h, Rat.zero_add]
    rw [this, ratSum_map_add, ← ih']
    have hind : K.map (fun r => if p.2 = r then g p else 0) = K.map (fun r => (if p.2 = r then (1 : Rat) else 0) * g p) := by
      apply List.map_congr_left
      intro r _
      by_cases h : p.2 = r <;> simp [h, Rat.one_mul, Rat.zero_mul]
    rw [hind, ratSum_map_mul_right, indicator_sum K hK p.2]
    simp [hp, Rat.one_mul]

variable [DecidableEq F] in
omit [DecidableEq R] in
theorem ratSum_group (M : List (F × R)) (f : F) (W : Rat) :
    ratSum (M.map (fun p => if p.1 = f then W else 0)) = cnt (M.map Prod.fst) f * W := by
  induction M with
  | nil => simp [cnt_nil, Rat.zero_mul]
  | cons p ps ih =>
    simp only [List.map_cons, ratSum_cons, ih, cnt_cons]
    by_cases h : p.1 = f <;> simp [h] <;> grind

variable [DecidableEq F] in
/-- the listings of read `r` under model `f` share `W` evenly: together they give `f` the whole `W` when `f` is a model of `r` -/
theorem ratSum_shared (L : List (F × R)) (r : R) (f : F) (W : Rat) :
    ratSum ((L.filter (fun p => p.2 = r)).map (fun p => if p.1 = f then W / cnt (modelsOf L r) f else 0))
      = cnt (dedup (modelsOf L r)) f * W := by
  rw [ratSum_group, show (L.filter (fun p => p.2 = r)).map Prod.fst = modelsOf L r from rfl, cnt_dedup]
  by_cases hf : f ∈ modelsOf L r
  · simp only [hf, if_true, Rat.one_mul]
    rw [Rat.div_def, Rat.mul_comm, Rat.mul_assoc, Rat.inv_mul_cancel _ (cnt_pos_of_mem _ _ hf), Rat.mul_one]
  · simp [hf, cnt_zero_of_not_mem _ _ hf, Rat.zero_mul]

omit [DecidableEq R] in
theorem ratSum_filter_split (L : List (F × R)) (P : F × R → Prop) [DecidablePred P] (h : F × R → Rat) :
    ratSum (L.map h) = ratSum ((L.filter (fun p => P p)).map h) + ratSum ((L.filter (fun p => ¬ P p)).map h) := by
  induction L with
  | nil => simp [Rat.add_zero]
  | cons p ps ih =>
    by_cases hp : P p
    · simp [hp, ih]; grind
    · simp [hp, ih]; grind

variable [DecidableEq F] in
theorem run_noRead (s : CountingStrategy) (lvl : Level) (es : List (Event F)) (h : ∀ e ∈ es, noRead e = true)
    (st0 : CState F) : ∃ st, run s lvl st0 es = some st := by
  cases hr : run s lvl st0 es with
  | some st => exact ⟨st, rfl⟩
  | none =>
    obtain ⟨e, he, hx⟩ := (run_none_iff s lvl es st0).mp hr
    cases e with
    | read a => exact absurd (h _ he) (by simp [noRead])
    | _ => simp [raises] at hx

variable [DecidableEq F] in
theorem forwardCounts_noRead (tr : List (F × List R)) (rc : List (R × Nat)) (models : List F) :
    ∀ e ∈ forwardCounts tr rc models, noRead e = true := by
  intro e he
  unfold forwardCounts at he
  rw [fcTranscripts_eq] at he
  obtain ⟨hout, _, _⟩ := fcInc_spec (incidences tr) rc ([] : List (R × List F)) ([] : List (Event F))
  simp only [hout, List.nil_append, List.mem_append, List.mem_map, List.mem_cons, List.not_mem_nil, or_false] at he
  rcases he with (⟨p, _, rfl⟩ | ⟨p, _, rfl⟩) | rfl | rfl <;> rfl

theorem ddGet_snd_of_mem (rc : List (R × Nat)) (r : R) (h : r ∈ rc.map Prod.fst) : (ddGet rc r).2 = rc := by
  induction rc with
  | nil => simp at h
  | cons p ps ih =>
    obtain ⟨k, v⟩ := p
    by_cases hk : k = r
    · simp [ddGet, hk]
    · simp only [List.map_cons, List.mem_cons] at h
      have hr : r ∈ ps.map Prod.fst := by
        rcases h with h | h
        · exact absurd h.symm hk
        · exact h
      simp [ddGet, hk, ih hr]

theorem fcInc_counts_unchanged (L : List (F × R)) (rc : List (R × Nat)) (amb : List (R × List F)) (out : List (Event F))
    (hkeys : ∀ p ∈ L, p.2 ∈ rc.map Prod.fst) : (fcInc L rc amb out).1 = rc := by
  induction L generalizing amb out with
  | nil => simp [fcInc]
  | cons p ps ih =>
    obtain ⟨t, r⟩ := p
    have hr := hkeys (t, r) (by simp)
    have hps : ∀ p ∈ ps, p.2 ∈ rc.map Prod.fst := fun q hq => hkeys q (by simp [hq])
    simp only [fcInc, ddGet_snd_of_mem rc r hr]
    split
    · exact ih _ _ hps
    · exact ih _ _ hps

theorem ambAppend_nonempty (amb : List (R × List F)) (r : R) (t : F) (h : ∀ p ∈ amb, p.2 ≠ []) :
    ∀ p ∈ ambAppend amb r t, p.2 ≠ [] := by
  rw [ambAppend_eq_upsert]
  exact forall_upsert _ _ amb r h (by simp) fun x _ => by simp

theorem ambFold_nonempty (L : List (F × R)) (amb : List (R × List F)) (h : ∀ p ∈ amb, p.2 ≠ []) :
    ∀ p ∈ ambFold amb L, p.2 ≠ [] := by
  induction L generalizing amb with
  | nil => simpa [ambFold] using h
  | cons q qs ih =>
    simp only [ambFold, List.foldl_cons]
    exact ih _ (ambAppend_nonempty amb q.2 q.1 h)

end IsoVerif.Lemmas.C02
