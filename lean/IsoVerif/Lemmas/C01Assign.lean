/-
Helper lemmas about Model/Assign.lean (C01): the error-monad list helpers, the index loops of the profile comparison in
both directions (`…_true`: what an answer True says; `…_intro`: when the answer is True), candidate selection
(`selectSpliced_shape`: the two steps of the spliced selection), the gene model, what `construct_profiles` returns
(`constructProfiles_of`).  Core Lean only.
-/
import IsoVerif.Model.Assign
import IsoVerif.Lemmas.Interval
import IsoVerif.Lemmas.Profiles
import IsoVerif.Lemmas.C01Sweep
import IsoVerif.Lemmas.Junctions
import IsoVerif.Lemmas.Exons
import IsoVerif.Lemmas.C13Merge

namespace IsoVerif.Lemmas.C01
open IsoVerif.Gen IsoVerif.Model IsoVerif.Model.C01 IsoVerif.Lemmas

theorem filterOpt_spec {α} (f : α → Option Bool) : ∀ (l r : List α), filterOpt f l = some r →
    (∀ x ∈ r, x ∈ l ∧ f x = some true) ∧ (∀ x ∈ l, f x = some true → x ∈ r) ∧ r.Sublist l ∧
    (∀ x ∈ l, ∃ b, f x = some b) := by
  intro l
  induction l with
  | nil => intro r h; simp [filterOpt] at h; subst h; simp
  | cons a t ih =>
    intro r h
    simp only [filterOpt] at h
    cases hfa : f a with
    | none => simp [hfa] at h
    | some b =>
      rw [hfa] at h
      cases ht : filterOpt f t with
      | none => simp [ht] at h
      | some r' =>
        rw [ht] at h
        simp at h
        obtain ⟨h1, h2, h3, h4⟩ := ih r' ht
        cases b with
        | true =>
          simp at h; subst h
          refine ⟨?_, ?_, ?_, ?_⟩
          · intro x hx
            rcases List.mem_cons.mp hx with hx | hx
            · subst hx; exact ⟨by simp, hfa⟩
            · exact ⟨List.mem_cons_of_mem _ (h1 x hx).1, (h1 x hx).2⟩
          · intro x hx hfx
            rcases List.mem_cons.mp hx with hx | hx
            · subst hx; simp
            · exact List.mem_cons_of_mem _ (h2 x hx hfx)
          · exact h3.cons_cons a
          · intro x hx
            rcases List.mem_cons.mp hx with hx | hx
            · subst hx; exact ⟨true, hfa⟩
            · exact h4 x hx
        | false =>
          simp at h; subst h
          refine ⟨?_, ?_, ?_, ?_⟩
          · intro x hx; exact ⟨List.mem_cons_of_mem _ (h1 x hx).1, (h1 x hx).2⟩
          · intro x hx hfx
            rcases List.mem_cons.mp hx with hx | hx
            · subst hx; rw [hfa] at hfx; simp at hfx
            · exact h2 x hx hfx
          · exact h3.cons a
          · intro x hx
            rcases List.mem_cons.mp hx with hx | hx
            · subst hx; exact ⟨false, hfa⟩
            · exact h4 x hx

/-- pointwise relation between two lists of the same length -/
inductive Zip2 {α β} (P : α → β → Prop) : List α → List β → Prop
  | nil : Zip2 P [] []
  | cons {a b l r} : P a b → Zip2 P l r → Zip2 P (a :: l) (b :: r)

theorem Zip2.imp {α β} {P P' : α → β → Prop} {l : List α} {r : List β} (h : Zip2 P l r)
    (hp : ∀ a b, P a b → P' a b) : Zip2 P' l r := by
  induction h with
  | nil => exact Zip2.nil
  | cons h1 _ ih => exact Zip2.cons (hp _ _ h1) ih

theorem mapOpt_spec {α β} (f : α → Option β) : ∀ (l : List α) (r : List β), mapOpt f l = some r →
    Zip2 (fun x y => f x = some y) l r := by
  intro l
  induction l with
  | nil => intro r h; simp [mapOpt] at h; subst h; exact Zip2.nil
  | cons a t ih =>
    intro r h
    simp only [mapOpt] at h
    cases hfa : f a with
    | none => simp [hfa] at h
    | some b =>
      rw [hfa] at h
      cases ht : mapOpt f t with
      | none => simp [ht] at h
      | some r' =>
        rw [ht] at h
        simp at h; subst h
        exact Zip2.cons hfa (ih r' ht)

theorem forall₂_mem_right {α β} {P : α → β → Prop} {l : List α} {r : List β} (h : Zip2 P l r) :
    ∀ y ∈ r, ∃ x ∈ l, P x y := by
  induction h with
  | nil => intro y hy; cases hy
  | cons hp _ ih =>
    intro y hy
    rcases List.mem_cons.mp hy with hy | hy
    · subst hy; exact ⟨_, by simp, hp⟩
    · obtain ⟨x, hx, hxy⟩ := ih y hy
      exact ⟨x, List.mem_cons_of_mem _ hx, hxy⟩

theorem Zip2.flip {α β} {P : α → β → Prop} {l : List α} {r : List β} (h : Zip2 P l r) : Zip2 (fun b a => P a b) r l := by
  induction h with
  | nil => exact Zip2.nil
  | cons hp _ ih => exact Zip2.cons hp ih

theorem forall₂_mem_left {α β} {P : α → β → Prop} {l : List α} {r : List β} (h : Zip2 P l r) :
    ∀ x ∈ l, ∃ y ∈ r, P x y :=
  forall₂_mem_right h.flip

theorem forall₂_length {α β} {P : α → β → Prop} {l : List α} {r : List β} (h : Zip2 P l r) :
    l.length = r.length := by
  induction h with
  | nil => rfl
  | cons _ _ ih => simp [ih]

theorem allRange_true (p : Int → Option Bool) : ∀ (n : Nat) (s : Int), allRange p s n = some true →
    ∀ k : Nat, k < n → p (s + k) = some true := by
  intro n
  induction n with
  | zero => intro s _ k hk; omega
  | succ n ih =>
    intro s h k hk
    simp only [allRange] at h
    cases hp : p s with
    | none => simp [hp] at h
    | some b =>
      cases b with
      | false => simp [hp] at h
      | true =>
        simp [hp] at h
        cases k with
        | zero => simpa using hp
        | succ k =>
          have := ih (s + 1) h k (by omega)
          have e : s + 1 + (k : Int) = s + ((k + 1 : Nat) : Int) := by omega
          rw [e] at this; exact this

theorem anyRange_true (p : Int → Option Bool) : ∀ (n : Nat) (s : Int), anyRange p s n = some true →
    ∃ k : Nat, k < n ∧ p (s + k) = some true := by
  intro n
  induction n with
  | zero => intro s h; simp [anyRange] at h
  | succ n ih =>
    intro s h
    simp only [anyRange] at h
    cases hp : p s with
    | none => simp [hp] at h
    | some b =>
      cases b with
      | true => exact ⟨0, by omega, by simpa using hp⟩
      | false =>
        simp [hp] at h
        obtain ⟨k, hk, hpk⟩ := ih (s + 1) h
        refine ⟨k + 1, by omega, ?_⟩
        have e : s + 1 + (k : Int) = s + ((k + 1 : Nat) : Int) := by omega
        rw [← e]; exact hpk

/-- what `equal_profiles_in_range … = True` says position by position -/
theorem equalProfilesInRange_true (iso read : List Int) (rng : Int × Int)
    (h : equalProfilesInRange iso read rng = some true) (i : Nat) (hlo : rng.1 ≤ (i : Int)) (hhi : (i : Int) < rng.2)
    (v : Int) (hv : read[i]? = some v) (hv0 : v ≠ 0) : iso[i]? = some v := by
  unfold equalProfilesInRange at h
  have hk := allRange_true _ _ _ h (i - rng.1).toNat (by omega)
  have e : rng.1 + ((i - rng.1).toNat : Int) = (i : Int) := by omega
  rw [e] at hk
  have hg : pyGet? read (i : Int) = some v := by
    simp [pyGet?, hv]
  rw [hg] at hk
  simp only [hv0, if_false] at hk
  cases hi : pyGet? iso (i : Int) with
  | none => simp [hi] at hk
  | some a =>
    simp [hi] at hk
    subst hk
    simpa [pyGet?] using hi

theorem allRange_intro (p : Int → Option Bool) : ∀ (n : Nat) (s : Int),
    (∀ k : Nat, k < n → p (s + k) = some true) → allRange p s n = some true := by
  intro n
  induction n with
  | zero => intro s _; rfl
  | succ n ih =>
    intro s h
    have h0 := h 0 (by omega)
    simp only [Int.natCast_zero, Int.add_zero] at h0
    simp only [allRange, h0]
    apply ih
    intro k hk
    have := h (k + 1) (by omega)
    have e : s + ((k + 1 : Nat) : Int) = s + 1 + (k : Int) := by omega
    rw [e] at this; exact this

theorem anyRange_intro (p : Int → Option Bool) : ∀ (n : Nat) (s : Int),
    (∀ k : Nat, k < n → ∃ b, p (s + k) = some b) → (∃ k : Nat, k < n ∧ p (s + k) = some true) →
    anyRange p s n = some true := by
  intro n
  induction n with
  | zero => intro s _ ⟨k, hk, _⟩; omega
  | succ n ih =>
    intro s hdef ⟨k, hk, hpk⟩
    obtain ⟨b, hb⟩ := hdef 0 (by omega)
    simp only [Int.natCast_zero, Int.add_zero] at hb
    simp only [anyRange, hb]
    cases b with
    | true => rfl
    | false =>
      simp only
      apply ih
      · intro k' hk'
        obtain ⟨b', hb'⟩ := hdef (k' + 1) (by omega)
        have e : s + ((k' + 1 : Nat) : Int) = s + 1 + (k' : Int) := by omega
        rw [e] at hb'; exact ⟨b', hb'⟩
      · cases k with
        | zero =>
          simp only [Int.natCast_zero, Int.add_zero] at hpk
          rw [hb] at hpk; cases hpk
        | succ k =>
          refine ⟨k, by omega, ?_⟩
          have e : s + ((k + 1 : Nat) : Int) = s + 1 + (k : Int) := by omega
          rw [e] at hpk; exact hpk

/-- `equal_profiles_in_range` answers True when every non-zero mark of the read profile inside the range is copied
    by the isoform profile -/
theorem equalProfilesInRange_intro (iso read : List Int) (rng : Int × Int) (h0 : 0 ≤ rng.1)
    (h : ∀ i : Nat, rng.1 ≤ (i : Int) → (i : Int) < rng.2 →
      ∃ v, read[i]? = some v ∧ (v = 0 ∨ iso[i]? = some v)) :
    equalProfilesInRange iso read rng = some true := by
  unfold equalProfilesInRange
  apply allRange_intro
  intro k hk
  have hi : rng.1 + (k : Int) = (((rng.1 + (k : Int)).toNat : Nat) : Int) := by omega
  obtain ⟨v, hv, hor⟩ := h (rng.1 + (k : Int)).toNat (by omega) (by omega)
  rw [hi, pyGet?_nat, hv]
  simp only
  rcases hor with e | e
  · simp [e]
  · by_cases e0 : v = 0
    · simp [e0]
    · simp only [e0, if_false, pyGet?_nat, e]
      simp

/-- `has_overlapping_features` answers True when the range is inside both profiles and some index carries a 1 in
    both -/
theorem hasOverlappingFeatures_intro (p1 p2 : List Int) (rng : Int × Int) (hlen : p1.length = p2.length)
    (h0 : 0 ≤ rng.1) (h1 : rng.2 ≤ (p1.length : Int))
    (i : Nat) (hlo : rng.1 ≤ (i : Int)) (hhi : (i : Int) < rng.2) (ha : p1[i]? = some 1) (hb : p2[i]? = some 1) :
    hasOverlappingFeatures p1 p2 rng = some true := by
  unfold hasOverlappingFeatures
  simp only [hlen, ne_eq, not_true_eq_false, if_false]
  apply anyRange_intro
  · intro k hk
    have hi : rng.1 + (k : Int) = (((rng.1 + (k : Int)).toNat : Nat) : Int) := by omega
    have hl1 : (rng.1 + (k : Int)).toNat < p1.length := by omega
    have hl2 : (rng.1 + (k : Int)).toNat < p2.length := by omega
    rw [hi, pyGet?_nat, pyGet?_nat]
    simp [hl1, hl2]
  · refine ⟨(i - rng.1).toNat, by omega, ?_⟩
    have e : rng.1 + (((i : Int) - rng.1).toNat : Int) = (i : Int) := by omega
    rw [e, pyGet?_nat, pyGet?_nat, ha, hb]
    simp

theorem resolveByScore_sub (score : IsoInfo → Option Rat) (factor : Option Rat) (matched r : List IsoInfo)
    (h : resolveByScore score factor matched = some r) : ∀ x ∈ r, x ∈ matched := by
  unfold resolveByScore at h
  split at h
  · simp at h; subst h; simp
  · split at h
    · simp at h
    · rename_i scores hsc
      have hf := mapOpt_spec _ _ _ hsc
      split at h
      · simp at h
      · have key : ∀ (q : IsoInfo × Rat → Bool), ∀ x ∈ (scores.filter q).map (·.1), x ∈ matched := by
          intro q x hx
          simp only [List.mem_map, List.mem_filter] at hx
          obtain ⟨y, ⟨hy, _⟩, hyx⟩ := hx
          obtain ⟨I, hI, hIy⟩ := forall₂_mem_right hf y hy
          cases hs : score I with
          | none => simp [hs] at hIy
          | some sc =>
            simp [hs] at hIy
            rw [← hyx, ← hIy]; exact hI
        split at h <;> (simp at h; subst h) <;> exact key _

/-- states nothing (`True`) -/
theorem anyOpt_irrelevant : True := trivial

/-- first step of the selection of `match_consistent_spliced`: with more than one candidate, those whose split-exon
    profile equals the read's in range (all of them if there is none) -/
def SplitStep (rp : ReadProf) (cons m : List IsoInfo) : Prop :=
  (cons.length ≤ 1 ∧ m = cons) ∨
  (1 < cons.length ∧ ∃ em, findMatchingSplit rp cons = some em ∧ m = if em.length ≠ 0 then em else cons)

theorem SplitStep.spec {rp : ReadProf} {cons m : List IsoInfo} (h : SplitStep rp cons m) :
    (∀ x ∈ m, x ∈ cons) ∧
    ∀ T ∈ cons, equalProfilesInRange T.splitProf rp.split.gene rp.split.range = some true → T ∈ m := by
  rcases h with ⟨_, rfl⟩ | ⟨_, em, hem, rfl⟩
  · exact ⟨fun _ hx => hx, fun _ hT _ => hT⟩
  · have hsp := filterOpt_spec _ _ _ hem
    split
    · exact ⟨fun x hx => (hsp.1 x hx).1, fun T hT hs => hsp.2.1 T hT hs⟩
    · exact ⟨fun _ hx => hx, fun _ hT _ => hT⟩

/-- the selection of `match_consistent_spliced`: the first step, then a resolution by score or nothing -/
theorem selectSpliced_shape (p : Params) (rp : ReadProf) (cons r : List IsoInfo)
    (h : selectSpliced p rp cons = some r) :
    ∃ m, SplitStep rp cons m ∧
      (r = m ∨ (1 < m.length ∧ resolveByScore (jaccardScore p rp) (some topScoredFactor) m = some r)) := by
  have first : ∀ {m}, (if cons.length > 1 then
      (findMatchingSplit rp cons).map (fun em => if em.length ≠ 0 then em else cons) else some cons) = some m →
      SplitStep rp cons m := fun hm => by
    split at hm
    · obtain ⟨em, hem, rfl⟩ := Option.map_eq_some_iff.mp hm
      exact .inr ⟨‹_›, em, hem, rfl⟩
    · cases hm; exact .inl ⟨by omega, rfl⟩
  revert h
  fun_cases selectSpliced p rp cons <;> intro h
  case case1 | case3 => cases h
  case case2 hm hl _ | case4 hm hl _ _ => exact ⟨_, first hm, .inr ⟨hl, h⟩⟩
  all_goals cases h; exact ⟨_, first ‹_›, .inl rfl⟩

theorem selectSpliced_sub (p : Params) (rp : ReadProf) (cons r : List IsoInfo)
    (h : selectSpliced p rp cons = some r) : ∀ x ∈ r, x ∈ cons := by
  obtain ⟨m, hm, hr⟩ := selectSpliced_shape p rp cons r h
  rcases hr with rfl | ⟨_, hr⟩
  · exact hm.spec.1
  · exact fun x hx => hm.spec.1 x (resolveByScore_sub _ _ _ _ hr x hx)

theorem selectUnspliced_sub (p : Params) (rp : ReadProf) (cons r : List IsoInfo)
    (h : selectUnspliced p rp cons = some r) : ∀ x ∈ r, x ∈ cons := by
  unfold selectUnspliced at h
  split at h
  · exact resolveByScore_sub _ _ _ _ h
  · simp at h; subst h; simp

/-- whichever selection `match_consistent` runs, it only narrows the candidates -/
theorem select_sub (p : Params) (rp : ReadProf) (cons r : List IsoInfo) {c : Bool}
    (h : (if c = true then selectSpliced p rp cons else selectUnspliced p rp cons) = some r) : ∀ x ∈ r, x ∈ cons := by
  split at h
  · exact selectSpliced_sub p rp cons r h
  · exact selectUnspliced_sub p rp cons r h

/-- when `match_consistent` has candidates, they are what the third filter leaves of what the second left of the first -/
theorem consistentIsoforms_some (g : Gene) (p : Params) (rp : ReadProf) (l : List IsoInfo)
    (h : consistentIsoforms g p rp = some (some l)) :
    ∃ ov, findOverlapping rp (findContaining p rp g.isos) = some ov ∧ findMatchingIntron rp ov = some l := by
  unfold consistentIsoforms at h
  simp only at h
  split at h
  · simp at h
  · split at h
    · simp at h
    · rename_i ov hov
      split at h
      · simp at h
      · exact ⟨ov, hov, by simpa using h⟩

/-- the candidates of `match_consistent` passed the three tests -/
theorem consistentIsoforms_mem (g : Gene) (p : Params) (rp : ReadProf) (l : List IsoInfo)
    (h : consistentIsoforms g p rp = some (some l)) :
    ∀ I ∈ l, I ∈ g.isos ∧ contains_approx I.region rp.region p.min_abs_exon_overlap = true ∧
      hasOverlappingFeatures I.splitProf rp.split.gene (overlap_intervals rp.split.range I.splitRange) = some true ∧
      equalProfilesInRange I.intronProf rp.intron.gene rp.intron.range = some true := by
  obtain ⟨ov, hov, hfm⟩ := consistentIsoforms_some g p rp l h
  intro I hI
  obtain ⟨hIov, heq⟩ := (filterOpt_spec _ _ _ hfm).1 I hI
  obtain ⟨hIc, hovl⟩ := (filterOpt_spec _ _ _ hov).1 I hIov
  simp only [findContaining, List.mem_filter] at hIc
  exact ⟨hIc.1, hIc.2, hovl, heq⟩

theorem consistentIsoforms_sublist (g : Gene) (p : Params) (rp : ReadProf) (l : List IsoInfo)
    (h : consistentIsoforms g p rp = some (some l)) : l.Sublist g.isos := by
  obtain ⟨ov, hov, hfm⟩ := consistentIsoforms_some g p rp l h
  exact ((filterOpt_spec _ _ _ hfm).2.2.1.trans (filterOpt_spec _ _ _ hov).2.2.1).trans
    (by unfold findContaining; exact List.filter_sublist)

theorem consistentIsoforms_complete (g : Gene) (p : Params) (rp : ReadProf) (r : Option (List IsoInfo))
    (h : consistentIsoforms g p rp = some r) (I : IsoInfo) (hI : I ∈ g.isos)
    (h1 : contains_approx I.region rp.region p.min_abs_exon_overlap = true)
    (h2 : hasOverlappingFeatures I.splitProf rp.split.gene (overlap_intervals rp.split.range I.splitRange) = some true)
    (h3 : equalProfilesInRange I.intronProf rp.intron.gene rp.intron.range = some true) :
    ∃ l, r = some l ∧ I ∈ l := by
  unfold consistentIsoforms at h
  simp only at h
  have hc : I ∈ findContaining p rp g.isos := by
    simp only [findContaining, List.mem_filter]; exact ⟨hI, h1⟩
  split at h
  · rename_i he
    simp [List.isEmpty_iff] at he
    rw [he] at hc; simp at hc
  · split at h
    · simp at h
    · rename_i ov hov
      have hIov := (filterOpt_spec _ _ _ hov).2.1 I hc h2
      split at h
      · rename_i he
        simp [List.isEmpty_iff] at he
        rw [he] at hIov; simp at hIov
      · cases hfm : findMatchingIntron rp ov with
        | none => simp [hfm] at h
        | some m =>
          simp [hfm] at h; subst h
          exact ⟨m, rfl, (filterOpt_spec _ _ _ hfm).2.1 I hIov h3⟩

theorem ivLt_iff (a b : Iv) : ivLt a b = true ↔ lexLt a b := by
  simp [ivLt, lexLt]

/-- (Model.C13 has its own `sortDedupIv`; the same two lemmas about it are in Lemmas/C13Local.lean.)
    `sorted(list(set(..)))` of coordinate pairs is the strictly increasing list with the same members (`sortSD`, analysed in
    Lemmas/C13Merge.lean): `insertIv` tests the strict order before equality, which is the same on every input -/
theorem sortDedupIv_eq_sortSD (l : List Iv) : sortDedupIv l = C13.sortSD C13.lexLtB l := by
  have hlt : ∀ x y : Iv, ivLt x y = C13.lexLtB x y := fun x y => by
    rw [Bool.eq_iff_iff, ivLt_iff]; simp [C13.lexLtB, lexLt]
  have ins : ∀ (x : Iv) (l : List Iv), insertIv x l = C13.insertSD C13.lexLtB x l := by
    intro x l
    induction l with
    | nil => rfl
    | cons y ys ih =>
      simp only [insertIv, C13.insertSD, ih, hlt]
      by_cases e : x = y
      · subst e; simp [C13.lexLtB_lin.irrefl]
      · simp [e]
  induction l with
  | nil => rfl
  | cons a t ih => simp only [sortDedupIv, C13.sortSD, ins, ih]

theorem mem_sortDedupIv (l : List Iv) (y : Iv) : y ∈ sortDedupIv l ↔ y ∈ l := by
  rw [sortDedupIv_eq_sortSD]; exact C13.mem_sortSD _ l y

theorem LexSorted_cons {a : Iv} {l : List Iv} (h1 : ∀ r ∈ l, lexLt a r) (h2 : LexSorted l) : LexSorted (a :: l) := by
  cases l with
  | nil => trivial
  | cons b t => exact ⟨h1 b (by simp), h2⟩

theorem LexSorted_of_pairwise : ∀ (l : List Iv), l.Pairwise lexLt → LexSorted l
  | [], _ => trivial
  | _ :: t, h => LexSorted_cons (List.pairwise_cons.mp h).1 (LexSorted_of_pairwise t (List.pairwise_cons.mp h).2)

theorem LexSorted_sortDedupIv (l : List Iv) : LexSorted (sortDedupIv l) := by
  rw [sortDedupIv_eq_sortSD]
  exact LexSorted_of_pairwise _ ((C13.sortSD_incr C13.lexLtB_lin l).imp fun h => by simpa [C13.lexLtB, lexLt] using h)

theorem junctions_SD_WFl (l : List Iv) (hsd : SD l) (hwf : WFl l) :
    SD (junctionsFromBlocks l) ∧ WFl (junctionsFromBlocks l) :=
  ⟨Gapped_SD _ (junctions_gapped hsd hwf), C14.junctions_wf l⟩

theorem LexSorted_of_SD (l : List Iv) (hsd : SD l) (hwf : WFl l) : LexSorted l :=
  LexSorted_of_pairwise l ((SD_pairwise l hsd hwf).imp_of_mem fun {a _} ha _ h =>
    Or.inl (by have := hwf a ha; omega))

theorem LexSorted_junctions (l : List Iv) (hsd : SD l) (hwf : WFl l) : LexSorted (junctionsFromBlocks l) :=
  LexSorted_of_SD _ (junctions_SD_WFl l hsd hwf).1 (junctions_SD_WFl l hsd hwf).2

theorem mkIsos_mem (introns split : List Iv) : ∀ (ms : List Isoform) (i : Nat) (isos : List IsoInfo),
    mkIsos introns split ms i = some isos → ∀ I ∈ isos, ∃ m ∈ ms, ∃ id, mkIso introns split m id = some I := by
  intro ms
  induction ms with
  | nil => intro i isos h I hI; simp [mkIsos] at h; subst h; simp at hI
  | cons m t ih =>
    intro i isos h I hI
    simp only [mkIsos] at h
    cases h1 : mkIso introns split m i with
    | none => simp [h1] at h
    | some a =>
      cases h2 : mkIsos introns split t (i + 1) with
      | none => simp [h1, h2] at h
      | some r =>
        simp [h1, h2] at h; subst h
        rcases List.mem_cons.mp hI with hI | hI
        · subst hI; exact ⟨m, by simp, i, h1⟩
        · obtain ⟨m', hm', id, hid⟩ := ih (i + 1) r h2 I hI
          exact ⟨m', List.mem_cons_of_mem _ hm', id, hid⟩

/-- what `GeneInfo.from_models` records about one isoform -/
structure IsoOf (g : Gene) (m : Isoform) (I : IsoInfo) : Prop where
  exons : I.exons = m.exons
  introns : I.introns = junctionsFromBlocks m.exons
  region : regionOf m.exons = some I.region
  strand : I.strand = m.strand
  intronProf : I.intronProf = (setProfiles g.introns I.introns I.region (fun a b => equal_ranges a b 0)).1
  splitProf : I.splitProf = (setProfiles g.splitExons m.exons I.region (fun a b => contains a b)).1

/-- … and, in addition, the two profile ranges -/
structure IsoOf2 (g : Gene) (m : Isoform) (I : IsoInfo) : Prop where
  base : IsoOf g m I
  splitRange : I.splitRange = (setProfiles g.splitExons m.exons I.region (fun a b => contains a b)).2
  intronRange : I.intronRange = (setProfiles g.introns I.introns I.region (fun a b => equal_ranges a b 0)).2

/-- the parts of the gene `GeneInfo.from_models` builds, in the order it builds them -/
theorem fromModels_shape (ms : List Isoform) (g : Gene) (h : Gene.fromModels ms = some g) :
    g.introns = sortDedupIv (ms.flatMap (fun m => junctionsFromBlocks m.exons)) ∧
    g.exons = sortDedupIv (ms.flatMap (fun m => m.exons)) ∧
    IsoVerif.Model.splitExons g.exons = some g.splitExons ∧ mkIsos g.introns g.splitExons ms 0 = some g.isos := by
  unfold Gene.fromModels at h
  split at h
  · simp at h
  · simp at h
  · simp only at h
    split at h
    · simp at h
    · rename_i split hsplit
      split at h
      · simp at h
      · rename_i isos hisos
        simp at h; subst h
        exact ⟨rfl, rfl, hsplit, hisos⟩

theorem isoOf2_of_mkIso {g : Gene} {m : Isoform} {id : Nat} {I : IsoInfo}
    (h : mkIso g.introns g.splitExons m id = some I) : IsoOf2 g m I := by
  unfold mkIso at h
  split at h
  · simp at h
  · rename_i reg hreg
    simp at h; subst h
    exact ⟨⟨rfl, rfl, hreg, rfl, rfl, rfl⟩, rfl, rfl⟩

theorem fromModels_spec2 (ms : List Isoform) (g : Gene) (h : Gene.fromModels ms = some g) :
    IsoVerif.Model.splitExons g.exons = some g.splitExons ∧ ∀ I ∈ g.isos, ∃ m ∈ ms, IsoOf2 g m I := by
  obtain ⟨_, _, hsplit, hisos⟩ := fromModels_shape ms g h
  refine ⟨hsplit, fun I hI => ?_⟩
  obtain ⟨m, hm, id, hid⟩ := mkIsos_mem _ _ ms 0 g.isos hisos I hI
  exact ⟨m, hm, isoOf2_of_mkIso hid⟩

theorem fromModels_spec (ms : List Isoform) (g : Gene) (h : Gene.fromModels ms = some g) :
    g.introns = sortDedupIv (ms.flatMap (fun m => junctionsFromBlocks m.exons)) ∧
    g.exons = sortDedupIv (ms.flatMap (fun m => m.exons)) ∧
    ∀ I ∈ g.isos, ∃ m ∈ ms, IsoOf g m I := by
  obtain ⟨h1, h2, _, _⟩ := fromModels_shape ms g h
  exact ⟨h1, h2, fun I hI => let ⟨m, hm, hio⟩ := (fromModels_spec2 ms g h).2 I hI; ⟨m, hm, hio.base⟩⟩

/-- annotation well-formedness: every isoform's exon list is sorted, disjoint and well formed (that no exon list is empty is
    part of `Gene.fromModels ms = some g`) -/
def WellFormed (ms : List Isoform) : Prop := ∀ m ∈ ms, SD m.exons ∧ WFl m.exons

theorem intronProf_one_iff (ms : List Isoform) (g : Gene) (h : Gene.fromModels ms = some g) (hwf : WellFormed ms)
    (I : IsoInfo) (hI : I ∈ g.isos) (i : Nat) (k : Iv) (hk : g.introns[i]? = some k) :
    I.intronProf[i]? = some 1 ↔ k ∈ I.introns := by
  obtain ⟨hintr, _, hisos⟩ := fromModels_spec ms g h
  obtain ⟨m, hm, hio⟩ := hisos I hI
  rw [hio.intronProf]
  constructor
  · intro h1
    obtain ⟨f, hf, hfk⟩ := setProfiles_sound _ _ _ _ i k hk h1
    have := (eq0_iff f k).mp hfk
    subst this; exact hf
  · intro hin
    apply setProfiles_complete_eq g.introns I.introns I.region _ _ _ i k hk hin
    · rw [hintr]; exact LexSorted_sortDedupIv _
    · rw [hio.introns]; exact LexSorted_junctions _ (hwf m hm).1 (hwf m hm).2
    · intro f hf
      rw [hintr, mem_sortDedupIv]
      simp only [List.mem_flatMap]
      exact ⟨m, hm, by rw [← hio.introns]; exact hf⟩

theorem intron_mem_gene (ms : List Isoform) (g : Gene) (h : Gene.fromModels ms = some g)
    (I : IsoInfo) (hI : I ∈ g.isos) (k : Iv) (hk : k ∈ I.introns) : ∃ i : Nat, g.introns[i]? = some k := by
  obtain ⟨hintr, _, hisos⟩ := fromModels_spec ms g h
  obtain ⟨m, hm, hio⟩ := hisos I hI
  apply List.mem_iff_getElem?.mp
  rw [hintr, mem_sortDedupIv]
  simp only [List.mem_flatMap]
  exact ⟨m, hm, by rw [← hio.introns]; exact hk⟩

theorem regionOf_spec (l : List Iv) (reg : Iv) (h : regionOf l = some reg) :
    ∃ f t, l.head? = some f ∧ l.getLast? = some t ∧ reg = (f.1, t.2) := by
  unfold regionOf at h
  split at h
  · rename_i f t hf ht
    simp at h; exact ⟨f, t, hf, ht, h.symm⟩
  · simp at h

/-- the counting loops of `detect_reference_exons_beyond_polya` / `_before_polyt` stay inside the list -/
theorem countBeyond_le (pos : Int) (l : List Iv) : countBeyond pos l ≤ l.length := by
  induction l with
  | nil => exact Nat.le_refl 0
  | cons e es ih => simp only [countBeyond, List.length_cons]; split <;> omega

theorem countBefore_le (pos : Int) (l : List Iv) : countBefore pos l ≤ l.length := by
  induction l with
  | nil => exact Nat.le_refl 0
  | cons e es ih => simp only [countBefore, List.length_cons]; split <;> omega

theorem constructProfiles_spec (g : Gene) (p : Params) (blocks : List Iv) (pa : PolyA) (rp : ReadProf)
    (h : constructProfiles g p blocks pa = some rp) :
    rp.blocks = blocks ∧ regionOf blocks = some rp.region ∧ rp.introns = junctionsFromBlocks blocks ∧ rp.polya = pa ∧
    rp.intron = constructOverlapping g.introns (g.start, g.stop) (fun a b => equal_ranges a b p.delta)
      (fun a b => overlaps_at_least a b p.minimal_intron_absence_overlap) p.delta (junctionsFromBlocks blocks)
      rp.region pa.extA pa.extT := by
  unfold constructProfiles at h
  split at h
  · simp at h
  · rename_i reg hreg
    simp only at h
    split at h
    · simp at h
    · simp at h; subst h
      exact ⟨rfl, hreg, rfl, rfl, rfl⟩

/-- what `construct_profiles` returns: the read's own data, and its intron profile with what its marks mean -/
structure ReadProfOf (g : Gene) (p : Params) (blocks : List Iv) (pa : PolyA) (rp : ReadProf) : Prop where
  hblocks : rp.blocks = blocks
  hregion : regionOf blocks = some rp.region
  hintrons : rp.introns = junctionsFromBlocks blocks
  hpolya : rp.polya = pa
  intron_eq : rp.intron = constructOverlapping g.introns (g.start, g.stop) (fun a b => equal_ranges a b p.delta)
    (fun a b => overlaps_at_least a b p.minimal_intron_absence_overlap) p.delta (junctionsFromBlocks blocks)
    rp.region pa.extA pa.extT
  intron : OvSpec (fun a b => equal_ranges a b p.delta) (fun a b => overlaps_at_least a b p.minimal_intron_absence_overlap)
    g.introns (junctionsFromBlocks blocks) rp.region p.delta pa.extA pa.extT rp.intron

theorem constructProfiles_of (g : Gene) (p : Params) (blocks : List Iv) (pa : PolyA) (rp : ReadProf)
    (h : constructProfiles g p blocks pa = some rp) : ReadProfOf g p blocks pa rp := by
  obtain ⟨h1, h2, h3, h4, hprof⟩ := constructProfiles_spec g p blocks pa rp h
  have spec := constructOverlapping_spec g.introns (g.start, g.stop) (fun a b => equal_ranges a b p.delta)
    (fun a b => overlaps_at_least a b p.minimal_intron_absence_overlap) p.delta (junctionsFromBlocks blocks)
    rp.region pa.extA pa.extT
  rw [← hprof] at spec
  exact ⟨h1, h2, h3, h4, hprof, spec⟩

end IsoVerif.Lemmas.C01
