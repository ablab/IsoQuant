/-
C11 helper lemmas — translation `x ↦ x + k` of the assignment model (Model/Assign.lean); the theorems themselves are
proved where they are stated, in Props/C11Assign.lean.  First the sentinel −1 under the shift (`SafePos`), what gene
construction (`GeneInfo.from_models`) needs, `resolve_by_nucleotide_score` under a relabelling of the isoforms, and
the layers of the exon elongation test (`endFrame`, `elongLeftOf` / `elongRightOf`, `elongSides`); then events, translation
as an instance (`shiftSym`) of the symmetries of Lemmas/C11EndSym.lean, what src/polya_verification.py (as modelled in
Model/Assign.lean) reads of the read and the isoform (`shift_polya` / `shift_polyt`, the counting loops of
`detect_reference_exons_*`); last the misalignment events and the sentinel hypotheses of `verify_polya` / `verify_polyt` /
`verify_read_ends` (`PolyaSafe`, `PolytSafe`, `EndsSafe`).  Lemmas/C11AssignShift5.lean and C11AssignShift7.lean continue.
-/
import IsoVerif.Lemmas.C11EndSym
import IsoVerif.Lemmas.C01Consistent
import IsoVerif.Model.Assign
import IsoVerif.Model.C11SymAssign
import IsoVerif.Lemmas.C11Shift
import IsoVerif.Lemmas.C01Assign
import IsoVerif.Lemmas.C11AssignCommon

namespace IsoVerif.Lemmas.C11.AssignShift
open IsoVerif.Gen IsoVerif.Model IsoVerif.Model.C01 IsoVerif.Model.C11 IsoVerif.Lemmas

/-- a (possibly absent) position is not moved ONTO the sentinel −1 (the same body as `NoColl` of Lemmas/C11PolyA16.lean;
    the reflection form is `PosOK` of Model/C11SymAssignMirror.lean = `NoCollM`) -/
def SafePos (k x : Int) : Prop := x ≠ -1 → x + k ≠ -1

theorem shiftPos_of_ne (k x : Int) (h : x ≠ -1) : shiftPos k x = x + k := by simp [shiftPos, h]
theorem shiftPos_neg_one (k : Int) : shiftPos k (-1) = -1 := by simp [shiftPos]

/-! ## gene construction: `GeneInfo.from_models` -/

theorem ivLt_shift (k : Int) (a b : Iv) : ivLt (shiftIv k a) (shiftIv k b) = ivLt a b := by
  simp only [ivLt, shiftIv]; grind

theorem insertIv_shift (k : Int) (x : Iv) (l : List Iv) :
    insertIv (shiftIv k x) (shiftL k l) = shiftL k (insertIv x l) := by
  induction l with
  | nil => rfl
  | cons y ys ih =>
    simp only [shiftL_cons, insertIv, ivLt_shift, shiftIv_inj, ih]
    split
    · rfl
    · split <;> rfl

theorem foldl_min_shift (k : Int) (regs : List Iv) (s : Int) :
    (regs.map (shiftIv k)).foldl (fun s r => min s r.1) (s + k) = regs.foldl (fun s r => min s r.1) s + k := by
  induction regs generalizing s with
  | nil => rfl
  | cons r rs ih =>
    simp only [List.map_cons, List.foldl_cons, shiftIv_fst, Int.min_add_right, ih]

theorem foldl_max_shift (k : Int) (regs : List Iv) (s : Int) :
    (regs.map (shiftIv k)).foldl (fun s r => max s r.2) (s + k) = regs.foldl (fun s r => max s r.2) s + k := by
  induction regs generalizing s with
  | nil => rfl
  | cons r rs ih =>
    simp only [List.map_cons, List.foldl_cons, shiftIv_snd, Int.max_add_right, ih]

theorem flatMap_exons_shift (k : Int) (ms : List Isoform) :
    (ms.map (shiftIsoform k)).flatMap (fun m => m.exons) = shiftL k (ms.flatMap (fun m => m.exons)) := by
  induction ms with
  | nil => rfl
  | cons m ms ih => simp only [List.map_cons, List.flatMap_cons, ih, shiftL_append, shiftIsoform]

theorem flatMap_junctions_shift (k : Int) (ms : List Isoform) :
    (ms.map (shiftIsoform k)).flatMap (fun m => junctionsFromBlocks m.exons)
      = shiftL k (ms.flatMap (fun m => junctionsFromBlocks m.exons)) := by
  induction ms with
  | nil => rfl
  | cons m ms ih =>
    simp only [List.map_cons, List.flatMap_cons, ih, shiftL_append, shiftIsoform, junctionsFromBlocks_shift]

/-- the hypothesis of `shift_equivariant_splitExons` for every annotated exon: well formed, and no block border
    (exon start, exon end + 1) is the loop's sentinel −1 before or after the shift -/
def ExonsSafe (k : Int) (ms : List Isoform) : Prop :=
  ∀ m ∈ ms, ∀ e ∈ m.exons, e.1 ≤ e.2 ∧ e.1 ≠ -1 ∧ e.1 + k ≠ -1 ∧ e.2 + 1 ≠ -1 ∧ e.2 + 1 + k ≠ -1

theorem resolveByScore_map (sh : IsoInfo → IsoInfo) (score score' : IsoInfo → Option Rat)
    (hs : ∀ I, score' (sh I) = score I) (factor : Option Rat) (matched : List IsoInfo) :
    resolveByScore score' factor (matched.map sh) = (resolveByScore score factor matched).map (List.map sh) :=
  resolveByScore_map_of_mem score score' sh factor matched (fun I _ => hs I)

/-! ## `categorize_exon_elongation_subtype` -/

/-- the exon measured by `categorize_exon_elongation_subtype` (outermost, or the next one behind a short fake terminal
    exon) moves with the locus -/
theorem measuredExon_shift (k : Int) (p : Params) (o : Iv) (nx : Option Iv) (s : Iv) :
    measuredExon p (shiftIv k o) (nx.map (shiftIv k)) (shiftIv k s) = shiftIv k (measuredExon p o nx s) := by
  have hl := Props.C11.shift_equivariant_interval_len k o
  cases nx with
  | none => rfl
  | some n =>
    simp only [measuredExon, Option.map_some, overlaps_shift, hl]
    split <;> rfl

theorem endFrame_shift (k : Int) (g : Gene) (p : Params) (rp : ReadProf) (c : Int × Int) :
    endFrame (shiftGene k g) p (shiftReadProf k rp) c
      = (endFrame g p rp c).map (fun F => ((shiftIv k F.1.1, shiftIv k F.1.2), (shiftIv k F.2.1, shiftIv k F.2.2))) := by
  simp only [endFrame, shiftGene, shiftReadProf, shiftL_head?, shiftL_getLast?, pyGet?_shiftL, ← shiftL_reverse,
    shiftL_getElem?]
  cases rp.blocks.head? <;> cases rp.blocks.getLast? <;> cases pyGet? g.splitExons c.1 <;>
    cases pyGet? g.splitExons c.2 <;> simp only [Option.map_none, Option.map_some, measuredExon_shift]

theorem elongLeftOf_shift (k : Int) (p : Params) (a b : Int) (fr sf : Iv) :
    elongLeftOf p a b (shiftIv k fr) (shiftIv k sf) = elongLeftOf p a b fr sf := by
  simp only [elongLeftOf, overlaps_shift, shiftIv_fst, Int.add_sub_add_right]

theorem elongRightOf_shift (k : Int) (p : Params) (a b : Int) (lr sl : Iv) :
    elongRightOf p a b (shiftIv k lr) (shiftIv k sl) = elongRightOf p a b lr sl := by
  simp only [elongRightOf, overlaps_shift, shiftIv_snd, Int.add_sub_add_right]

theorem elongSides_shift (k : Int) (g : Gene) (p : Params) (rp : ReadProf) (I : IsoInfo) :
    elongSides (shiftGene k g) p (shiftReadProf k rp) (shiftIsoInfo k I) = elongSides g p rp I := by
  rw [elongSides_eq, elongSides_eq]
  have e1 : commonEnds (shiftReadProf k rp) (shiftIsoInfo k I) = commonEnds rp I := rfl
  have e2 : (shiftGene k g).splitExons.length = g.splitExons.length := shiftL_length k _
  simp only [e1, e2, endFrame_shift, Option.map_map, Function.comp_def, elongLeftOf_shift, elongRightOf_shift]
  rfl

@[simp] theorem shiftEvent_ty (k : Int) (e : Event) : (shiftEvent k e).ty = e.ty := by
  unfold shiftEvent; split <;> rfl
@[simp] theorem shiftEvent_isoRegion (k : Int) (e : Event) : (shiftEvent k e).isoRegion = e.isoRegion := by
  unfold shiftEvent; split <;> rfl
@[simp] theorem shiftEvent_readRegion (k : Int) (e : Event) : (shiftEvent k e).readRegion = e.readRegion := by
  unfold shiftEvent; split <;> rfl

theorem shiftEvent_of_not_pos (k : Int) (e : Event) (h : isPosEvent e.ty = false) : shiftEvent k e = e := by
  simp [shiftEvent, h]

theorem shiftEvents_nil (k : Int) : shiftEvents k [] = [] := rfl
theorem shiftEvents_cons (k : Int) (e : Event) (l : List Event) :
    shiftEvents k (e :: l) = shiftEvent k e :: shiftEvents k l := rfl
theorem shiftEvents_append (k : Int) (a b : List Event) : shiftEvents k (a ++ b) = shiftEvents k a ++ shiftEvents k b := by
  simp [shiftEvents]
theorem shiftEvents_isEmpty (k : Int) (l : List Event) : (shiftEvents k l).isEmpty = l.isEmpty := by
  cases l <;> rfl

theorem shiftEvents_of_noPos (k : Int) (evs : List Event) (h : C01.AllTy (fun t => isPosEvent t = false) evs) :
    shiftEvents k evs = evs := by
  induction evs with
  | nil => rfl
  | cons e es ih =>
    rw [shiftEvents_cons, shiftEvent_of_not_pos k e (h e (by simp)), ih (fun x hx => h x (List.mem_cons_of_mem _ hx))]

theorem filter_ty_shift (k : Int) (q : MatchEventSubtype → Bool) (evs : List Event) :
    (shiftEvents k evs).filter (fun e => q e.ty) = shiftEvents k (evs.filter (fun e => q e.ty)) := by
  simp only [shiftEvents, List.filter_map]
  congr 1
  apply List.filter_congr
  intro e _
  simp only [Function.comp, shiftEvent_ty]

theorem shiftEvent_ty_iff (k : Int) (e : Event) (t : MatchEventSubtype) : (shiftEvent k e).ty = id t ↔ e.ty = t := by
  rw [shiftEvent_ty]; rfl

/-- translation by `k` as a symmetry of the polyA verification.  `Ok`, `pos`, `out` of this instance are `SafePos k`,
    `shiftPos k`, `outShift k` by `rfl`; the statements of Props/C11Assign.lean are written with those. -/
def shiftSym (k : Int) : EndSym where
  φ := (· + k)
  σ := id
  ε := shiftEvent k
  dist := fun x y => by rw [Int.add_sub_add_right]
  ty := shiftEvent_ty_iff k
  site := fun t ht ir x hx => by simp [shiftEvent, ht, shiftPos, hx]

theorem addSub_shift (k : Int) (evs : List Event) (e : Event) :
    addSub (shiftEvents k evs) (shiftEvent k e) = shiftEvents k (addSub evs e) := by
  cases evs with
  | nil => rfl
  | cons x xs =>
    cases xs with
    | nil =>
      simp only [shiftEvents_cons, shiftEvents_nil, addSub, shiftEvent_ty]
      split <;> rfl
    | cons y ys => simp [addSub, shiftEvents]

theorem foldl_addSub_shift (k : Int) (el evs : List Event) :
    (shiftEvents k el).foldl addSub (shiftEvents k evs) = shiftEvents k (el.foldl addSub evs) := by
  induction el generalizing evs with
  | nil => rfl
  | cons e es ih => simp only [shiftEvents_cons, List.foldl_cons, addSub_shift, ih]

/-! ## `shift_polya` / `shift_polyt` (the copies of Model/Assign.lean) -/

theorem c01_shiftPolyaLoop_shift (k pos : Int) (l : List Iv) (d : Int) :
    C01.shiftPolyaLoop (pos + k) (shiftL k l) d = C01.shiftPolyaLoop pos l d := by
  induction l generalizing d <;> shift_simp [C01.shiftPolyaLoop, gt_iff_lt]

theorem c01_shiftPolytLoop_shift (k pos : Int) (l : List Iv) (d : Int) :
    C01.shiftPolytLoop (pos + k) (shiftL k l) d = C01.shiftPolytLoop pos l d := by
  induction l generalizing d <;> shift_simp [C01.shiftPolytLoop]

theorem c01_shiftPolya_shift (k : Int) (exons : List Iv) (count : Nat) (pos : Int) (hp : pos ≠ -1) (hp' : pos + k ≠ -1) :
    C01.shiftPolya (shiftL k exons) count (pos + k) = (C01.shiftPolya exons count pos).map (· + k) := by
  simp only [C01.shiftPolya, shiftL_length, hp, hp', or_false, pyGet?_shiftL, ← shiftL_reverse, ← shiftL_take,
    c01_shiftPolyaLoop_shift]
  split
  · rfl
  · split
    · rfl
    · cases pyGet? exons (-(count : Int) - 1) with
      | none => rfl
      | some b => simp only [Option.map_some, shiftIv_snd]; congr 1; omega

theorem c01_shiftPolyt_shift (k : Int) (exons : List Iv) (count : Nat) (pos : Int) (hp : pos ≠ -1) (hp' : pos + k ≠ -1) :
    C01.shiftPolyt (shiftL k exons) count (pos + k) = (C01.shiftPolyt exons count pos).map (· + k) := by
  simp only [C01.shiftPolyt, shiftL_length, hp, hp', or_false, shiftL_getElem?, ← shiftL_take,
    c01_shiftPolytLoop_shift]
  split
  · rfl
  · split
    · rfl
    · cases exons[count]? with
      | none => rfl
      | some b => simp only [Option.map_some, shiftIv_fst]; congr 1; omega

/-- the polyA position recomputed by `shift_polya` (for any number of fake terminal exons) is not the sentinel,
    before or after the shift, unless the position is absent -/
def MovedSafeA (k : Int) (read : List Iv) (pos : Int) : Prop :=
  ∀ c r, C01.shiftPolya read c pos = some r → pos ≠ -1 → r ≠ -1 ∧ r + k ≠ -1
def MovedSafeT (k : Int) (read : List Iv) (pos : Int) : Prop :=
  ∀ c r, C01.shiftPolyt read c pos = some r → pos ≠ -1 → r ≠ -1 ∧ r + k ≠ -1

theorem c01_shiftPolya_raw (k : Int) (read : List Iv) (c : Nat) (x : Int) (h : SafePos k x) :
    C01.shiftPolya (shiftL k read) c (shiftPos k x) = (C01.shiftPolya read c x).map (fun r => if x = -1 then -1 else r + k) := by
  by_cases hp : x = -1
  · subst hp; simp [shiftPos_neg_one, (shiftPoly_absent _ _).1]
  · simp only [shiftPos_of_ne k x hp, c01_shiftPolya_shift k read c x hp (h hp), hp, if_false]

theorem c01_shiftPolyt_raw (k : Int) (read : List Iv) (c : Nat) (x : Int) (h : SafePos k x) :
    C01.shiftPolyt (shiftL k read) c (shiftPos k x) = (C01.shiftPolyt read c x).map (fun r => if x = -1 then -1 else r + k) := by
  by_cases hp : x = -1
  · subst hp; simp [shiftPos_neg_one, (shiftPoly_absent _ _).2]
  · simp only [shiftPos_of_ne k x hp, c01_shiftPolyt_shift k read c x hp (h hp), hp, if_false]

/-- positions of a triple (events, external, internal) shifted with the sentinel kept -/
def outShift (k : Int) (r : List Event × Int × Int) : List Event × Int × Int :=
  (shiftEvents k r.1, shiftPos k r.2.1, shiftPos k r.2.2)

/-! ## `detect_reference_exons_beyond_polya` / `_before_polyt` -/

theorem countBeyond_shift (k pos : Int) (l : List Iv) : countBeyond (pos + k) (shiftL k l) = countBeyond pos l := by
  induction l with
  | nil => rfl
  | cons e es ih =>
    have h : (e.1 + k ≥ pos + k) ↔ (e.1 ≥ pos) := by omega
    simp only [shiftL_cons, countBeyond, shiftIv_fst, h, ih]

theorem countBefore_shift (k pos : Int) (l : List Iv) : countBefore (pos + k) (shiftL k l) = countBefore pos l := by
  induction l with
  | nil => rfl
  | cons e es ih =>
    have h : (e.2 + k ≤ pos + k) ↔ (e.2 ≤ pos) := by omega
    simp only [shiftL_cons, countBefore, shiftIv_snd, h, ih]

theorem shiftEvents_misalign (k : Int) (ty : MatchEventSubtype) (hty : isPosEvent ty = false) (c : Nat) (f : Nat → Int × Int) :
    shiftEvents k ((List.range c).map (fun (i : Nat) => ({ ty := ty, isoRegion := f i } : Event)))
      = (List.range c).map (fun (i : Nat) => ({ ty := ty, isoRegion := f i } : Event)) := by
  apply shiftEvents_of_noPos
  intro e he
  obtain ⟨i, _, rfl⟩ := List.mem_map.mp he
  exact hty

/-- everything `verify_polya` compares with the sentinel −1 for one isoform and one read -/
structure PolyaSafe (k : Int) (iso read : List Iv) (ext int : Int) : Prop where
  safeExt : SafePos k ext
  safeInt : SafePos k int
  isoEnd : ∀ e, iso.getLast? = some e → e.2 ≠ -1 ∧ e.2 + k ≠ -1
  movedExt : MovedSafeA k read ext
  movedInt : MovedSafeA k read int

structure PolytSafe (k : Int) (iso read : List Iv) (ext int : Int) : Prop where
  safeExt : SafePos k ext
  safeInt : SafePos k int
  isoStart : ∀ e, iso.head? = some e → e.1 ≠ -1 ∧ e.1 + k ≠ -1
  movedExt : MovedSafeT k read ext
  movedInt : MovedSafeT k read int

/-- the sentinel hypotheses of `verify_read_ends` for one isoform: those of the strand's verifier -/
def EndsSafe (k : Int) (rp : ReadProf) (I : IsoInfo) : Prop :=
  match I.strand with
  | .plus => PolyaSafe k I.exons rp.blocks rp.polya.extA rp.polya.intA
  | .minus => PolytSafe k I.exons rp.blocks rp.polya.extT rp.polya.intT
  | .other => True

end IsoVerif.Lemmas.C11.AssignShift
