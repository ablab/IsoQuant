/-
Helper lemmas and the hypothesis structures for Props/C13Local.lean: the feature lists of the GeneInfo of
a loaded gene list (`exonsOf`, `intronsOf`), what an exon / intron event says about a row key, the hypotheses of the two
instances (`ExonHyp`, `IntronHyp`), "a touched feature belongs to an overlapped gene", provenance of the events of a chromosome.
-/
import IsoVerif.Props.C13Chromosome
import IsoVerif.Lemmas.C13Local

namespace IsoVerif.Lemmas.C13LocalInst
open IsoVerif.Gen IsoVerif.Model IsoVerif.Model.Resolver IsoVerif.Model.C13 IsoVerif.Model.C13Chr
open IsoVerif.Lemmas.C13 IsoVerif.Lemmas.C13Chr IsoVerif.Lemmas.C13Local
open IsoVerif.Props.C13Chromosome IsoVerif.Props.C13Profiles
open IsoVerif.Model.Regions (Aln)

theorem filter_vis_self {α : Type} (G : List GeneRec) (f : α → Nat) (l : List α) (h : ∀ m ∈ l, ∃ g ∈ G, g.gid = f m) :
    l.filter (fun m => G.any (fun x => x.gid == f m)) = l := by
  apply List.filter_eq_self.mpr
  intro m hm
  obtain ⟨g, hg, e⟩ := h m hm
  exact List.any_eq_true.mpr ⟨g, hg, by simp [e]⟩

theorem mem_load_of_view (genes : List GeneRec) (R : Iv) (a : Aln) (hv : view a (loadGenes genes R) = view a genes)
    (g : GeneRec) (hg : g ∈ genes) (ho : overlaps (iv1 a) g.span = true) : g ∈ loadGenes genes R := by
  have : g ∈ view a genes := List.mem_filter.mpr ⟨hg, ho⟩
  rw [← hv] at this
  exact (List.mem_filter.mp this).1

theorem filter_vis_local {α : Type} (genes : List GeneRec) (R : Iv) (a : Aln) (hv : view a (loadGenes genes R) = view a genes)
    (f : α → Nat) (l : List α) (h : ∀ m ∈ l, ∃ g ∈ genes, g.gid = f m ∧ overlaps (iv1 a) g.span = true) :
    l.filter (fun m => (loadGenes genes R).any (fun x => x.gid == f m)) = l ∧
    l.filter (fun m => genes.any (fun x => x.gid == f m)) = l :=
  ⟨filter_vis_self _ f l fun m hm => let ⟨g, hg, e, ho⟩ := h m hm; ⟨g, mem_load_of_view genes R a hv g hg ho, e⟩,
    filter_vis_self _ f l fun m hm => let ⟨g, hg, e, _⟩ := h m hm; ⟨g, hg, e⟩⟩

/-- `exon_profiles.features` of the GeneInfo of the loaded genes -/
def exonsOf (A : Ann) (G : List GeneRec) : List Iv := sortDedupIv ((geneIn A G).isoforms.flatMap (·.feats))

theorem mem_exonsOf (A : Ann) (G : List GeneRec) (x : Iv) :
    x ∈ exonsOf A G ↔ ∃ g ∈ G, ∃ t ∈ A.isoforms g.gid, x ∈ t.feats := by
  simp only [exonsOf, mem_sortDedupIv, geneIn, List.mem_flatMap]
  constructor
  · rintro ⟨t, ⟨g, hg, ht⟩, hx⟩; exact ⟨g, hg, t, ht, hx⟩
  · rintro ⟨g, hg, t, ht, hx⟩; exact ⟨t, ⟨g, hg, ht⟩, hx⟩

theorem exonEv_says_iff (A : Ann) (G : List GeneRec) (a : Aln) (ignore : Bool) (dflt : String) (v : Int) (k : CoordKey) (g : String) :
    (exonEv A G a).any (evSays ignore dflt v k g) = true ↔
      ∃ f l, (A.reads a.rid).blocks.head? = some f ∧ (A.reads a.rid).blocks.getLast? = some l ∧
        (if ignore then dflt else (A.reads a.rid).group) = g ∧ k.1 = A.chr ∧
        ∃ i : Nat, (exonsOf A G)[i]? = some (k.2.1, k.2.2) ∧
          (constructOverlapping (exonsOf A G) (hull G) (fun x y => equal_ranges x y A.delta) (fun x y => contains x y) A.delta
            (A.reads a.rid).blocks (f.2 + A.delta, l.1 - A.delta) (A.reads a.rid).polya (A.reads a.rid).polyt).gene[i]? = some v := by
  by_cases hG : G = []
  · subst hG
    simp [exonEv, exonsOf, geneIn, sortDedupIv]
  · have hne : G.isEmpty = false := by simpa using hG
    have hev : exonEv A G a = (constructExonProfile (exonsOf A G) (hull G) A.delta (A.reads a.rid).blocks (A.reads a.rid).polya
        (A.reads a.rid).polyt).map (fun p => (⟨p.gene, setFeatureProperties A.chr A.delta (exonsOf A G) (geneIn A G).isoforms 0, (A.reads a.rid).group⟩ : ReadEv)) := by
      simp only [exonEv, hne, Bool.false_eq_true, ↓reduceIte, exonEvent, mkGene, exonsOf, geneIn, Nat.zero_add]
    rw [hev]
    unfold evSays
    rw [says_iff]
    unfold constructExonProfile
    constructor
    · rintro ⟨p, hp, hg, hc, i, hk, hv⟩
      split at hp
      · rename_i f l hf hl
        simp only [Option.some.injEq] at hp; subst hp
        exact ⟨f, l, hf, hl, hg, hc, i, hk, hv⟩
      · simp at hp
    · rintro ⟨f, l, hf, hl, hg, hc, i, hk, hv⟩
      simp only [hf, hl]
      exact ⟨_, rfl, hg, hc, i, hk, hv⟩

/-- the hypotheses of the exon instance: those of the meaning theorems (`Hyp`: annotated exons longer than δ, read blocks well
    formed and more than δ apart), the coordinate conventions (exons inside their gene record, 1-based; read blocks inside the
    alignment: `reference_start + 1 ≤ block ≤ reference_end`).  Nothing is assumed about genes that start at the last aligned
    base: since fix fbe2056 the gene query is 1-based. -/
structure ExonHyp (A : Ann) (genes : List GeneRec) (all : List Aln) : Prop where
  delta_nonneg : 0 ≤ A.delta
  long : ∀ g ∈ genes, ∀ t ∈ A.isoforms g.gid, ∀ e ∈ t.feats, e.2 - e.1 ≥ A.delta
  inside : ∀ g ∈ genes, ∀ t ∈ A.isoforms g.gid, ∀ e ∈ t.feats, g.span.1 ≤ e.1 ∧ e.2 ≤ g.span.2
  sep : ∀ a ∈ all, SepBy A.delta (A.reads a.rid).blocks
  wf : ∀ a ∈ all, WFR (A.reads a.rid).blocks
  blocksIn : ∀ a ∈ all, ∀ b ∈ (A.reads a.rid).blocks, a.start + 1 ≤ b.1 ∧ b.2 ≤ a.stop

theorem exon_hyp (A : Ann) (genes : List GeneRec) (all : List Aln) (H : ExonHyp A genes all) (G : List GeneRec)
    (hG : ∀ g ∈ G, g ∈ genes) (a : Aln) (ha : a ∈ all) : Hyp A.delta (exonsOf A G) (A.reads a.rid).blocks := by
  refine ⟨sortedStarts_sortDedupIv _, ?_, H.sep a ha, H.wf a ha⟩
  intro x hx
  obtain ⟨g, hg, t, ht, hxt⟩ := (mem_exonsOf A G x).mp hx
  exact H.long g (hG g hg) t ht x hxt

theorem exon_touch_overlaps (A : Ann) (genes : List GeneRec) (all : List Aln) (H : ExonHyp A genes all) (a : Aln) (ha : a ∈ all)
    (f l : Iv) (hf : (A.reads a.rid).blocks.head? = some f) (hl : (A.reads a.rid).blocks.getLast? = some l)
    (g : GeneRec) (hg : g ∈ genes) (t : IsoformFeatures) (ht : t ∈ A.isoforms g.gid) (x : Iv) (hx : x ∈ t.feats)
    (htouch : Touches A.delta (fun p q => contains p q) (A.reads a.rid).blocks (f.2 + A.delta, l.1 - A.delta) x) :
    overlaps (iv1 a) g.span = true := by
  have hd := H.delta_nonneg
  have hlong := H.long g hg t ht x hx
  have hin := H.inside g hg t ht x hx
  have hfm : f ∈ (A.reads a.rid).blocks := List.mem_of_mem_head? (by rw [hf]; rfl)
  have hlm : l ∈ (A.reads a.rid).blocks := List.mem_of_getLast? hl
  rw [overlaps_true_iff]
  simp only [iv1]
  rcases htouch with ⟨r, hr, he⟩ | he | ⟨j, r, r', hr, hr', h1, h2⟩
  · have hb := H.blocksIn a ha r hr
    have := (equal_ranges_iff r x A.delta).mp he
    constructor <;> omega
  · have hb1 := H.blocksIn a ha f hfm
    have hb2 := H.blocksIn a ha l hlm
    have hw1 := H.wf a ha f hfm
    have hw2 := H.wf a ha l hlm
    simp only [contains, Bool.and_eq_true, decide_eq_true_eq] at he
    constructor <;> omega
  · have hb1 := H.blocksIn a ha r (List.mem_of_getElem? hr)
    have hb2 := H.blocksIn a ha r' (List.mem_of_getElem? hr')
    have hw1 := H.wf a ha r (List.mem_of_getElem? hr)
    have hw2 := H.wf a ha r' (List.mem_of_getElem? hr')
    constructor <;> omega

theorem loadGenes_sub (genes : List GeneRec) (R : Iv) : ∀ g ∈ loadGenes genes R, g ∈ genes :=
  fun _ hg => (List.mem_filter.mp hg).1


/-! ### the property maps of the real events have distinct row keys (`hnd` discharged for the instances) -/

theorem keptEvents_mem (its : List Item) (rid : Nat) (es : List ReadEv) (h : keptEvents its rid = some es) :
    ∀ ev ∈ es, ∃ it ∈ its, it.ev = some ev := by
  intro ev hev
  unfold keptEvents at h
  cases hr : resolve .take_best ((readItems its rid).map (·.brec)) with
  | none => rw [hr] at h; simp at h
  | some vs =>
    rw [hr] at h
    simp only [Option.map_some, Option.some.injEq] at h
    subst h
    obtain ⟨p, hp, hpe⟩ := List.mem_filterMap.mp hev
    have hit : p.1 ∈ its := (List.mem_filter.mp (List.of_mem_zip hp).1).1
    refine ⟨p.1, hit, ?_⟩
    split at hpe
    · simp at hpe
    · exact hpe

theorem collectEvents_mem (its : List Item) : ∀ (rids : List Nat) (evs : List ReadEv), collectEvents its rids = some evs →
    ∀ ev ∈ evs, ∃ it ∈ its, it.ev = some ev := by
  intro rids
  induction rids with
  | nil => intro evs h ev hev; simp [collectEvents] at h; subst h; simp at hev
  | cons r rest ih =>
    intro evs h ev hev
    simp only [collectEvents] at h
    cases h1 : keptEvents its r with
    | none => rw [h1] at h; simp at h
    | some a =>
      cases h2 : collectEvents its rest with
      | none => rw [h1, h2] at h; simp at h
      | some b =>
        rw [h1, h2] at h
        simp only [Option.some.injEq] at h
        subst h
        rcases List.mem_append.mp hev with h' | h'
        · exact keptEvents_mem its r a h1 ev h'
        · exact ih b h2 ev h'

theorem chromosomeEvents_origin (rep : Bool) (genes : List GeneRec) (P : Proc) (out : List (Iv × List Aln)) (rids : List Nat)
    (evs : List ReadEv) (h : chromosomeEvents rep genes P out rids = some evs) :
    ∀ ev ∈ evs, ∃ G a, P.ev G a = some ev := by
  intro ev hev
  obtain ⟨it, hit, he⟩ := collectEvents_mem _ rids evs h ev hev
  obtain ⟨p, _, hitp⟩ := List.mem_flatMap.mp hit
  obtain ⟨a, _, rfl⟩ := List.mem_map.mp hitp
  exact ⟨_, a, he⟩

theorem exonEv_keys_nodup (A : Ann) (G : List GeneRec) (a : Aln) (ev : ReadEv) (h : exonEv A G a = some ev) :
    (ev.pmap.map coordKey).Nodup := by
  unfold exonEv at h
  split at h
  · simp at h
  · simp only [exonEvent, Option.map_eq_some_iff] at h
    obtain ⟨p, _, rfl⟩ := h
    exact setFeatureProperties_keys_nodup _ _ _ _ _ (nodup_sortDedupIv _)


/-- the isoforms with their introns, as `GeneInfo.__init__` keeps them for `set_feature_properties` -/
def isoIntrons (A : Ann) (G : List GeneRec) : List IsoformFeatures :=
  (geneIn A G).isoforms.map (fun t => { t with feats := junctionsFromBlocks t.feats })

/-- `intron_profiles.features` of the GeneInfo of the loaded genes -/
def intronsOf (A : Ann) (G : List GeneRec) : List Iv := sortDedupIv ((isoIntrons A G).flatMap (·.feats))

theorem mem_intronsOf (A : Ann) (G : List GeneRec) (x : Iv) :
    x ∈ intronsOf A G ↔ ∃ g ∈ G, ∃ t ∈ A.isoforms g.gid, x ∈ junctionsFromBlocks t.feats := by
  simp only [intronsOf, isoIntrons, mem_sortDedupIv, geneIn, List.mem_flatMap, List.mem_map]
  constructor
  · rintro ⟨t', ⟨t, ⟨g, hg, ht⟩, rfl⟩, hx⟩; exact ⟨g, hg, t, ht, hx⟩
  · rintro ⟨g, hg, t, ht, hx⟩; exact ⟨_, ⟨t, ⟨g, hg, ht⟩, rfl⟩, hx⟩

/-- `exonEv_says_iff` for the intron event: the same proof with `intronsOf` of the blocks, `isoIntrons`, `overlaps_at_least` -/
theorem intronEv_says_iff (A : Ann) (G : List GeneRec) (a : Aln) (ignore : Bool) (dflt : String) (v : Int) (k : CoordKey) (g : String) :
    (intronEv A G a).any (evSays ignore dflt v k g) = true ↔
      ∃ f l, (A.reads a.rid).blocks.head? = some f ∧ (A.reads a.rid).blocks.getLast? = some l ∧
        (if ignore then dflt else (A.reads a.rid).group) = g ∧ k.1 = A.chr ∧
        ∃ i : Nat, (intronsOf A G)[i]? = some (k.2.1, k.2.2) ∧
          (constructOverlapping (intronsOf A G) (hull G) (fun x y => equal_ranges x y A.delta)
            (fun x y => overlaps_at_least x y A.absDelta) A.delta
            (junctionsFromBlocks (A.reads a.rid).blocks) (f.1, l.2) (A.reads a.rid).polya (A.reads a.rid).polyt).gene[i]? = some v := by
  by_cases hG : G = []
  · subst hG
    simp [intronEv, intronsOf, isoIntrons, geneIn, sortDedupIv]
  · have hne : G.isEmpty = false := by simpa using hG
    have hev : intronEv A G a = (constructIntronProfile (intronsOf A G) (hull G) A.delta A.absDelta (A.reads a.rid).blocks
        (A.reads a.rid).polya (A.reads a.rid).polyt).map (fun p => (⟨p.gene, setFeatureProperties A.chr A.delta (intronsOf A G) (isoIntrons A G) (0 + (exonsOf A G).length), (A.reads a.rid).group⟩ : ReadEv)) := by
      simp only [intronEv, hne, Bool.false_eq_true, ↓reduceIte, intronEvent, mkGene, intronsOf, isoIntrons, exonsOf, geneIn]
    rw [hev]
    unfold evSays
    rw [says_iff]
    unfold constructIntronProfile
    constructor
    · rintro ⟨p, hp, hg, hc, i, hk, hv⟩
      split at hp
      · rename_i f l hf hl
        simp only [Option.some.injEq] at hp; subst hp
        exact ⟨f, l, hf, hl, hg, hc, i, hk, hv⟩
      · simp at hp
    · rintro ⟨f, l, hf, hl, hg, hc, i, hk, hv⟩
      simp only [hf, hl]
      exact ⟨_, rfl, hg, hc, i, hk, hv⟩

/-- the hypotheses of the intron instance: `Hyp` of the meaning theorems for annotated introns / read introns, and the
    coordinate conventions (well-formed annotated exons inside their gene record, read blocks inside the alignment) -/
structure IntronHyp (A : Ann) (genes : List GeneRec) (all : List Aln) : Prop where
  delta_nonneg : 0 ≤ A.delta
  long : ∀ g ∈ genes, ∀ t ∈ A.isoforms g.gid, ∀ j ∈ junctionsFromBlocks t.feats, j.2 - j.1 ≥ A.delta
  inside : ∀ g ∈ genes, ∀ t ∈ A.isoforms g.gid, ∀ e ∈ t.feats, g.span.1 ≤ e.1 ∧ e.1 ≤ e.2 ∧ e.2 ≤ g.span.2
  sep : ∀ a ∈ all, SepBy A.delta (junctionsFromBlocks (A.reads a.rid).blocks)
  wf : ∀ a ∈ all, WFR (A.reads a.rid).blocks
  blocksIn : ∀ a ∈ all, ∀ b ∈ (A.reads a.rid).blocks, a.start + 1 ≤ b.1 ∧ b.2 ≤ a.stop

theorem intron_hyp (A : Ann) (genes : List GeneRec) (all : List Aln) (H : IntronHyp A genes all) (G : List GeneRec)
    (hG : ∀ g ∈ G, g ∈ genes) (a : Aln) (ha : a ∈ all) :
    Hyp A.delta (intronsOf A G) (junctionsFromBlocks (A.reads a.rid).blocks) := by
  refine ⟨sortedStarts_sortDedupIv _, ?_, H.sep a ha, fun r hr => (junction_bounds _ r hr).2.2⟩
  intro x hx
  obtain ⟨g, hg, t, ht, hxt⟩ := (mem_intronsOf A G x).mp hx
  exact H.long g (hG g hg) t ht x hxt

theorem overlaps_at_least_true (p q : Iv) (d : Int) (h : overlaps_at_least p q d = true) : q.1 ≤ p.2 ∧ p.1 ≤ q.2 := by
  unfold overlaps_at_least at h
  simp only at h
  split at h
  · simp at h
  · rename_i hc
    simp only [Bool.or_eq_true, decide_eq_true_eq, not_or, Int.not_lt] at hc
    omega

theorem intron_touch_overlaps (A : Ann) (genes : List GeneRec) (all : List Aln) (H : IntronHyp A genes all) (a : Aln) (ha : a ∈ all)
    (f l : Iv) (hf : (A.reads a.rid).blocks.head? = some f) (hl : (A.reads a.rid).blocks.getLast? = some l)
    (g : GeneRec) (hg : g ∈ genes) (t : IsoformFeatures) (ht : t ∈ A.isoforms g.gid) (x : Iv) (hx : x ∈ junctionsFromBlocks t.feats)
    (htouch : Touches A.delta (fun p q => overlaps_at_least p q A.absDelta) (junctionsFromBlocks (A.reads a.rid).blocks) (f.1, l.2) x) :
    overlaps (iv1 a) g.span = true := by
  have hd := H.delta_nonneg
  have hlong := H.long g hg t ht x hx
  obtain ⟨⟨c, hc, hc1⟩, ⟨d, hd', hd1⟩, _⟩ := junction_bounds t.feats x hx
  have hic := H.inside g hg t ht c hc
  have hid := H.inside g hg t ht d hd'
  have hfm : f ∈ (A.reads a.rid).blocks := List.mem_of_mem_head? (by rw [hf]; rfl)
  have hlm : l ∈ (A.reads a.rid).blocks := List.mem_of_getLast? hl
  have hjb : ∀ r ∈ junctionsFromBlocks (A.reads a.rid).blocks, a.start + 2 ≤ r.1 ∧ r.1 ≤ r.2 ∧ r.2 ≤ a.stop - 1 := by
    intro r hr
    obtain ⟨⟨c', hc', e1⟩, ⟨d'', hd'', e2⟩, h3⟩ := junction_bounds _ r hr
    have b1 := H.blocksIn a ha c' hc'
    have b2 := H.blocksIn a ha d'' hd''
    have w1 := H.wf a ha c' hc'
    have w2 := H.wf a ha d'' hd''
    omega
  rw [overlaps_true_iff]
  simp only [iv1]
  rcases htouch with ⟨r, hr, he⟩ | he | ⟨j, r, r', hr, hr', h1, h2⟩
  · have hb := hjb r hr
    have := (equal_ranges_iff r x A.delta).mp he
    constructor <;> omega
  · have hb1 := H.blocksIn a ha f hfm
    have hb2 := H.blocksIn a ha l hlm
    have := overlaps_at_least_true _ _ _ he
    simp only at this
    constructor <;> omega
  · have hb1 := hjb r (List.mem_of_getElem? hr)
    have hb2 := hjb r' (List.mem_of_getElem? hr')
    constructor <;> omega


theorem intronEv_keys_nodup (A : Ann) (G : List GeneRec) (a : Aln) (ev : ReadEv) (h : intronEv A G a = some ev) :
    (ev.pmap.map coordKey).Nodup := by
  unfold intronEv at h
  split at h
  · simp at h
  · simp only [intronEvent, Option.map_eq_some_iff] at h
    obtain ⟨p, _, rfl⟩ := h
    exact setFeatureProperties_keys_nodup _ _ _ _ _ (nodup_sortDedupIv _)


end IsoVerif.Lemmas.C13LocalInst
