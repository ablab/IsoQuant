/-
C11 helper lemmas — reflection of the gene profile of `OverlappingFeaturesProfileConstructor.construct_profile_for_features`
(Model/Profiles.lean `constructOverlapping`).  C13 gives the declarative meaning of the values +1 / −1; here are the
ingredients of its reflection: `TieLoser`, `InGap`, polyA/polyT masking and the side conditions (`SortedStarts` ↔ `SortedEnds`,
`LongerThan`, `SepBy`) under `mirrorL`, and the masked value −2 characterised.  The statements about the best match and the
hypotheses as a whole (`mirror_dual_best`, `mirror_preserves_hyp`) are in Props/C11MirrorReadProfiles.lean.
-/
import IsoVerif.Gen.Prims
import IsoVerif.Model.Profiles
import IsoVerif.Model.C11Symmetry
import IsoVerif.Lemmas.C11Mirror
import IsoVerif.Lemmas.C11MirrorProfiles
import IsoVerif.Lemmas.C13ProfileSound
import IsoVerif.Lemmas.C13ProfileComplete

namespace IsoVerif.Lemmas.C11.Lists
open IsoVerif.Gen IsoVerif.Model IsoVerif.Model.C11 IsoVerif.Lemmas IsoVerif.Lemmas.C13

/-- the known features are ordered by end as well (none lies strictly inside another): then the mirror image of the
    list is ordered by start -/
def SortedEnds (K : List Iv) : Prop := K.Pairwise (fun a b => a.2 ≤ b.2)

theorem matchDelta_mirrorIv (L : Int) (a b : Iv) : matchDelta (mirrorIv L a) (mirrorIv L b) = matchDelta a b := by
  simp only [matchDelta, mirrorIv, iabs]; grind

theorem masked_mirror (L δ pa pt : Int) (k : Iv) (hA : pa ≠ -1 → L + 1 - pa ≠ -1) (hT : pt ≠ -1 → L + 1 - pt ≠ -1) :
    C01.Masked δ (mirrorPos L pt) (mirrorPos L pa) (mirrorIv L k) ↔ C01.Masked δ pa pt k := by
  simp only [C01.Masked, mirrorPos, mirrorIv_fst, mirrorIv_snd]
  by_cases ca : pa = -1 <;> by_cases ct : pt = -1
  · simp [ca, ct]
  · have := hT ct; simp [ca, ct, this]; omega
  · have := hA ca; simp [ca, ct, this]; omega
  · have h1 := hA ca; have h2 := hT ct; simp [ca, ct, h1, h2]; omega

theorem sortedStarts_mirror (L : Int) (K : List Iv) (hE : SortedEnds K) : SortedStarts (mirrorL L K) := by
  simp only [SortedStarts, mirrorL, List.pairwise_reverse, List.pairwise_map]
  exact hE.imp (fun {a b} h => by simp only [mirrorIv_fst]; omega)

theorem sortedEnds_mirror (L : Int) (K : List Iv) (hS : SortedStarts K) : SortedEnds (mirrorL L K) := by
  simp only [SortedEnds, mirrorL, List.pairwise_reverse, List.pairwise_map]
  exact hS.imp (fun {a b} h => by simp only [mirrorIv_snd]; omega)

theorem longerThan_mirror (L δ : Int) (K : List Iv) (h : LongerThan δ K) : LongerThan δ (mirrorL L K) := by
  intro k hk
  obtain ⟨x, hx, rfl⟩ := (mem_mirrorL' L K k).mp hk
  have := h x hx
  simp only [mirrorIv_fst, mirrorIv_snd]; omega

theorem sepBy_mirror (L δ : Int) (R : List Iv) (h : SepBy δ R) : SepBy δ (mirrorL L R) := by
  simp only [SepBy, mirrorL, List.pairwise_reverse, List.pairwise_map]
  exact h.imp (fun {a b} h => by simp only [mirrorIv_fst, mirrorIv_snd]; omega)

theorem mirrorL_consecutive (L : Int) (R : List Iv) (j : Nat) (r r' : Iv) (h1 : R[j]? = some r) (h2 : R[j + 1]? = some r') :
    (mirrorL L R)[R.length - 2 - j]? = some (mirrorIv L r') ∧ (mirrorL L R)[R.length - 2 - j + 1]? = some (mirrorIv L r) := by
  have hlt : j + 1 < R.length := (List.getElem?_eq_some_iff.mp h2).1
  constructor
  · rw [mirrorL_getElem? L R _ (by omega)]
    have : R.length - 1 - (R.length - 2 - j) = j + 1 := by omega
    rw [this, h2]; rfl
  · rw [mirrorL_getElem? L R _ (by omega)]
    have : R.length - 1 - (R.length - 2 - j + 1) = j := by omega
    rw [this, h1]; rfl

theorem inGap_mirror_imp (L : Int) (R : List Iv) (k : Iv) (h : InGap R k) : InGap (mirrorL L R) (mirrorIv L k) := by
  obtain ⟨j, r, r', h1, h2, h3, h4⟩ := h
  obtain ⟨e1, e2⟩ := mirrorL_consecutive L R j r r' h1 h2
  exact ⟨R.length - 2 - j, mirrorIv L r', mirrorIv L r, e1, e2, by simp only [mirrorIv_fst, mirrorIv_snd]; omega,
    by simp only [mirrorIv_fst, mirrorIv_snd]; omega⟩

theorem inGap_mirror (L : Int) (R : List Iv) (k : Iv) : InGap (mirrorL L R) (mirrorIv L k) ↔ InGap R k := by
  constructor
  · intro h
    have := inGap_mirror_imp L (mirrorL L R) (mirrorIv L k) h
    rwa [mirrorL_mirrorL, mirrorIv_mirrorIv] at this
  · exact inGap_mirror_imp L R k

theorem tieLoser_iff (cmp : Iv → Iv → Bool) (K R : List Iv) (k : Iv) :
    TieLoser cmp K R k ↔ ∃ r ∈ R, ∃ k' ∈ K, cmp r k = true ∧ cmp r k' = true ∧ matchDelta r k' < matchDelta r k := by
  constructor
  · rintro ⟨j, r, i', k', h1, h2, h3, h4, h5⟩
    exact ⟨r, List.mem_of_getElem? h1, k', List.mem_of_getElem? h2, h3, h4, h5⟩
  · rintro ⟨r, hr, k', hk', h3, h4, h5⟩
    obtain ⟨j, hj⟩ := List.mem_iff_getElem?.mp hr
    obtain ⟨i', hi'⟩ := List.mem_iff_getElem?.mp hk'
    exact ⟨j, r, i', k', hj, hi', h3, h4, h5⟩

theorem tieLoser_mirror_imp (L δ : Int) (K R : List Iv) (k : Iv)
    (h : TieLoser (fun a b => equal_ranges a b δ) K R k) :
    TieLoser (fun a b => equal_ranges a b δ) (mirrorL L K) (mirrorL L R) (mirrorIv L k) := by
  rw [tieLoser_iff] at h ⊢
  obtain ⟨r, hr, k', hk', h3, h4, h5⟩ := h
  exact ⟨mirrorIv L r, (mem_mirrorL L r R).mpr hr, mirrorIv L k', (mem_mirrorL L k' K).mpr hk',
    by simp only [Props.C11.mirror_dual_equal_ranges]; exact h3, by simp only [Props.C11.mirror_dual_equal_ranges]; exact h4,
    by simp only [matchDelta_mirrorIv]; exact h5⟩

theorem tieLoser_mirror (L δ : Int) (K R : List Iv) (k : Iv) :
    TieLoser (fun a b => equal_ranges a b δ) (mirrorL L K) (mirrorL L R) (mirrorIv L k) ↔
      TieLoser (fun a b => equal_ranges a b δ) K R k := by
  constructor
  · intro h
    have := tieLoser_mirror_imp L δ (mirrorL L K) (mirrorL L R) (mirrorIv L k) h
    rwa [mirrorL_mirrorL, mirrorL_mirrorL, mirrorIv_mirrorIv] at this
  · exact tieLoser_mirror_imp L δ K R k

theorem constructOverlapping_gene_masked (K : List Iv) (gr : Iv) (cmp absent : Iv → Iv → Bool) (δ : Int) (R : List Iv) (M : Iv)
    (pa pt : Int) (i : Nat) (k : Iv) (hk : K[i]? = some k) (hm : C01.Masked δ pa pt k) :
    (constructOverlapping K gr cmp absent δ R M pa pt).gene[i]? = some (-2) := by
  have hi : i < K.length := (List.getElem?_eq_some_iff.mp hk).1
  obtain ⟨v, hv⟩ : ∃ v, (ovEliminate K R (sweepState K gr cmp absent R M).matched (sweepState K gr cmp absent R M).gene)[i]? = some v :=
    ⟨_, List.getElem?_eq_getElem (by rw [ovEliminate_length, sweepState_gene_length]; exact hi)⟩
  rw [constructOverlapping_gene_eq, List.getElem?_zipWith, hk, hv]
  exact congrArg some (if_pos hm)

theorem constructOverlapping_gene_unmasked (K : List Iv) (gr : Iv) (cmp absent : Iv → Iv → Bool) (δ : Int) (R : List Iv) (M : Iv)
    (pa pt : Int) (i : Nat) (k : Iv) (hk : K[i]? = some k) (hm : ¬ C01.Masked δ pa pt k) :
    ∃ v, (constructOverlapping K gr cmp absent δ R M pa pt).gene[i]? = some v ∧ (v = 0 ∨ v = 1 ∨ v = -1) := by
  have hi : i < K.length := (List.getElem?_eq_some_iff.mp hk).1
  obtain ⟨v, hv⟩ : ∃ v, (ovEliminate K R (sweepState K gr cmp absent R M).matched (sweepState K gr cmp absent R M).gene)[i]? = some v :=
    ⟨_, List.getElem?_eq_getElem (by rw [ovEliminate_length, sweepState_gene_length]; exact hi)⟩
  refine ⟨v, constructOverlapping_gene_fwd K gr cmp absent δ R M pa pt i k v hk hv (fun h => hm (Or.inl h))
    (fun h => hm (Or.inr h)), ?_⟩
  -- value range: initial 0 / −1, the sweep writes ±1, the elimination writes −1
  have hinit : ∀ x, (K.map (fun k => if absent M k then (-1 : Int) else 0))[i]? = some x → x = 0 ∨ x = -1 := by
    intro x hx
    simp only [List.getElem?_map, hk, Option.map_some, Option.some.injEq] at hx
    split at hx <;> omega
  have hsw : ∀ x, (sweepState K gr cmp absent R M).gene[i]? = some x → x = 0 ∨ x = 1 ∨ x = -1 := by
    intro x hx
    rcases ovSweep_gene_tri cmp absent M K 0 R 0
      { gene := K.map (fun k => if absent M k then -1 else 0), read := R.map (fun r => if absent gr r then -1 else 0), matched := [] } i with h | h | h
    · have hx' : (K.map (fun k => if absent M k then (-1 : Int) else 0))[i]? = some x := by
        rw [← h]; exact hx
      rcases hinit x hx' with e | e <;> omega
    · unfold sweepState at hx; rw [h] at hx; injection hx with hx; omega
    · unfold sweepState at hx; rw [h] at hx; injection hx with hx; omega
  rcases ovEliminate_spec K R (sweepState K gr cmp absent R M).matched (sweepState K gr cmp absent R M).gene i with he | ⟨he, _⟩
  · rw [he] at hv; exact hsw v hv
  · rw [he] at hv; injection hv with hv; omega

theorem leadingZeros_le (p : List Int) : leadingZeros p ≤ p.length := by
  induction p with
  | nil => simp [leadingZeros]
  | cons a t ih => simp only [leadingZeros, List.length_cons]; split <;> omega

theorem profileRange_reverse (p : List Int) :
    profileRange p.reverse = ((p.length : Int) - (profileRange p).2, (p.length : Int) - (profileRange p).1) := by
  simp only [profileRange, List.reverse_reverse, List.length_reverse]
  ext <;> simp <;> omega

end IsoVerif.Lemmas.C11.Lists
