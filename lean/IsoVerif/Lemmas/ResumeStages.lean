/-
C07: the tools of the stage lemmas.  Every stage of a run of the repaired code (`fixed`), from a file system satisfying the
invariant `J`, completes, keeps `J` at every prefix of its events (`Good`) and establishes what the next stages need; here:
well-formed configurations (`WF`), the syntactic check of a lock-free event list (`bodyOK`) and the body-then-lock pattern
(`allJ_body_lock`), frames, event lists that leave every file they touch complete (`Closing`), the footprint of a list of actions (`Within T`: every
event it can perform lies in `T`; `Within.frame`), and the description of the actions of a task by a footprint and a read set (`actIn`).
-/
import IsoVerif.Lemmas.Resume

namespace IsoVerif.Lemmas.Resume
open IsoVerif.Model.Resume

structure WF (cfg : Cfg) : Prop where
  nd : cfg.chrs.Nodup
  mnd : cfg.mchrs.Nodup
  bnd : cfg.bchrs.Nodup
  m_iff : ∀ c, c ∈ cfg.mchrs ↔ c ∈ cfg.chrs
  /-- with `--read_group file:…` every chromosome of the reference is in the BAM header (`split_read_group_table` writes
      one table per header contig, `create_read_grouper` opens one per reference contig); the header may list more
      contigs; without a read-group table nothing depends on the header -/
  b_sub : cfg.rg = .file → ∀ c ∈ cfg.chrs, c ∈ cfg.bchrs

def wfCheck (cfg : Cfg) : Bool :=
  decide cfg.chrs.Nodup && decide cfg.mchrs.Nodup && decide cfg.bchrs.Nodup && cfg.mchrs.all (· ∈ cfg.chrs)
    && cfg.chrs.all (· ∈ cfg.mchrs) && (cfg.rg != .file || cfg.chrs.all (· ∈ cfg.bchrs))

theorem WF.of_check {cfg : Cfg} (h : wfCheck cfg = true) : WF cfg := by
  simp only [wfCheck, Bool.and_eq_true, Bool.or_eq_true, decide_eq_true_eq, List.all_eq_true, bne_iff_ne, ne_eq] at h
  obtain ⟨⟨⟨⟨⟨h1, h2⟩, h3⟩, h4⟩, h5⟩, h6⟩ := h
  exact ⟨h1, h2, h3, fun c => ⟨h4 c, h5 c⟩, fun hf => (h6.resolve_left (fun hn => hn hf))⟩

def bodyOK (L : List Path) (body : List Ev) : Bool :=
  body.all (fun e => !isLock e.path && (e.path != Path.params) && (locksOf e.path).all (fun l => decide (l ∈ L)))

theorem allJ_of_bodyOK {cfg : Cfg} {fs : FS} {L : List Path} {body : List Ev} (h : J cfg fs)
    (hb : bodyOK L body = true) (hL : ∀ l ∈ L, fs.has l = false) : AllP (J cfg) fs body := by
  simp only [bodyOK, List.all_eq_true, Bool.and_eq_true, Bool.not_eq_true', bne_iff_ne, ne_eq, decide_eq_true_eq] at hb
  apply allJ_body h
  · intro e he; exact (hb e he).1.2
  · intro e he hl; have := (hb e he).1.1; simp [hl] at this
  · intro e he _ l hm
    exact hL l ((hb e he).2 l (mem_guarded_locksOf hm))

/-- the pattern of every stage that writes data and then its lock (`rg_stage`, `collectChr_stage`, `collectPost_stage`,
    `constructChr_stage`): the body writes only files whose locks (`L`) are absent, and leaves complete what `lk` vouches for -/
theorem allJ_body_lock {cfg : Cfg} {fs : FS} (h : J cfg fs) {L : List Path} {body : List Ev} {lk : Path}
    (hb : bodyOK L body = true) (hL : ∀ l ∈ L, fs.has l = false) (hlock : isLock lk = true)
    (hg : ∀ d ∈ guarded cfg lk, (applyAll fs body).good d = true) :
    AllP (J cfg) fs (body ++ [.create lk]) ∧ (applyAll fs (body ++ [.create lk])).has lk = true := by
  have h1 := allJ_of_bodyOK h hb hL
  refine ⟨AllP_append.mpr ⟨h1, AllP_last h1, J_create_lock (AllP_last h1) hlock hg⟩, ?_⟩
  rw [applyAll_append]; simp [applyAll, apply, FS.has, Ev.path, Ev.val]

theorem allJ_removeLocks {cfg : Cfg} {fs : FS} {ls : List Path} (h : J cfg fs) (hl : ∀ l ∈ ls, isLock l = true) :
    AllP (J cfg) fs (ls.map Ev.remove) := by
  apply allJ_body h
  · intro e he; simp only [List.mem_map] at he; obtain ⟨l, hl', rfl⟩ := he
    intro hp; have := hl l hl'; simp only [Ev.path] at hp; subst hp; simp [isLock] at this
  · intro e he _; simp only [List.mem_map] at he; obtain ⟨l, _, rfl⟩ := he; rfl
  · intro e he _ l' hm; simp only [List.mem_map] at he; obtain ⟨l, hl', rfl⟩ := he
    have := guarded_not_lock hm; simp [Ev.path, hl l hl'] at this

/-- events whose paths all lie on one side of a class of paths leave the other side alone (`b = true`: `T` a footprint;
    `b = false`: `T` what a task reads) -/
theorem frame {fs : FS} {es : List Ev} (T : Path → Bool) {b : Bool} (h : ∀ e ∈ es, T e.path = b) {p : Path}
    (hp : T p = !b) : applyAll fs es p = fs p :=
  applyAll_untouched _ _ _ fun e he hpe => by rw [← hpe, h e he] at hp; cases b <;> cases hp

theorem good_of_good_vals {fs : FS} {es : List Ev} {p : Path} (h : ∀ e ∈ es, e.val = some .good) (hp : fs.good p = true) :
    (applyAll fs es).good p = true := by
  induction es generalizing fs with
  | nil => exact hp
  | cons e es ih =>
    refine ih (fun e' he' => h e' (by simp [he'])) ?_
    rw [apply, good_set]; split
    · simp [h e (by simp)]
    · exact hp

def Closing (es : List Ev) : Prop := ∀ fs, ∀ e ∈ es, (applyAll fs es).good e.path = true

theorem Closing.good_of_commit {es : List Ev} (h : Closing es) {d : Path} (hd : Ev.commit d .good ∈ es) (fs : FS) :
    (applyAll fs es).good d = true := h fs _ hd

theorem closing_append {a b : List Ev} (ha : Closing a) (hb : Closing b) : Closing (a ++ b) := by
  intro fs e he
  rw [applyAll_append]
  by_cases h : ∃ e' ∈ b, e'.path = e.path
  · obtain ⟨e', he', hp⟩ := h; rw [← hp]; exact hb _ e' he'
  · have hea : e ∈ a := (List.mem_append.mp he).resolve_right (fun hb' => h ⟨e, hb', rfl⟩)
    rw [FS.good, applyAll_untouched _ _ _ (fun e' he' hp => h ⟨e', he', hp⟩)]; exact ha fs e hea

theorem closing_flatMap {α : Type} {l : List α} {f : α → List Ev} (h : ∀ a, Closing (f a)) : Closing (l.flatMap f) := by
  induction l with
  | nil => intro _ _ he; cases he
  | cons a l ih => exact closing_append (h a) ih

theorem closing_map {α : Type} {l : List α} {f : α → Ev} (h : ∀ a, Closing [f a]) : Closing (l.map f) := by
  induction l with
  | nil => intro _ _ he; cases he
  | cons a l ih => exact closing_append (h a) ih

theorem closing_commit (p : Path) : Closing [.commit p .good] := by
  intro fs e he; rw [List.mem_singleton.mp he]; simp [applyAll, apply, FS.good, Ev.path, Ev.val]

theorem closing_create_commit (p : Path) : Closing [.create p, .commit p .good] := by
  intro fs e he
  simp only [List.mem_cons, List.not_mem_nil, or_false] at he
  rcases he with rfl | rfl <;> simp [applyAll, apply, FS.good, Ev.path, Ev.val]

def Good (cfg : Cfg) (fs : FS) (r : Res) : Prop := r.ok = true ∧ AllP (J cfg) fs r.evs

theorem good_of_checks {cfg : Cfg} {fs : FS} {as : List Act} (hc : ChecksOK as fs) (hj : AllP (J cfg) fs (eventsOf as)) :
    Good cfg fs (runActs as fs) ∧ (runActs as fs).fs = applyAll fs (eventsOf as) := by
  have := runActs_of_checks hc
  refine ⟨⟨this.1, by rw [this.2]; exact hj⟩, by rw [runActs_fs, this.2]⟩

theorem good_nil {cfg : Cfg} {fs : FS} (h : J cfg fs) : Good cfg fs (runActs [] fs) := ⟨rfl, h⟩

theorem good_cons_phase {cfg : Cfg} {fs : FS} {p : Phase} {ps : List Phase}
    (h1 : Good cfg fs (runPhase p fs)) (h2 : Good cfg (runPhase p fs).fs (runPhases ps (runPhase p fs).fs)) :
    Good cfg fs (runPhases (p :: ps) fs) ∧ (runPhases (p :: ps) fs).fs = (runPhases ps (runPhase p fs).fs).fs := by
  simp only [runPhases, h1.1, if_true]
  refine ⟨⟨h2.1, ?_⟩, trivial⟩
  rw [AllP_append, ← runPhase_fs]
  exact ⟨h1.2, h2.2⟩

theorem runActs_evs_sub (as : List Act) (fs : FS) : ∀ e ∈ (runActs as fs).evs, e ∈ eventsOf as := by
  induction as generalizing fs with
  | nil => intro e he; simp [runActs] at he
  | cons a as ih =>
    intro e he
    cases a with
    | ev e0 =>
      simp only [runActs, List.mem_cons] at he
      simp only [eventsOf, List.mem_cons]
      rcases he with rfl | he
      · exact Or.inl rfl
      · exact Or.inr (ih _ e he)
    | exist p =>
      simp only [runActs] at he; simp only [eventsOf]
      split at he
      · exact ih _ e he
      · simp at he
    | load p =>
      simp only [runActs] at he; simp only [eventsOf]
      split at he
      · exact ih _ e he
      · simp at he
    | rm p =>
      simp only [runActs] at he; simp only [eventsOf, List.mem_cons]
      split at he
      · simp only [List.mem_cons] at he
        rcases he with rfl | he
        · exact Or.inl rfl
        · exact Or.inr (ih _ e he)
      · simp at he

def Within (T : Path → Bool) (as : List Act) : Prop := ∀ e ∈ eventsOf as, T e.path = true

theorem Within.mono {T T' : Path → Bool} {as : List Act} (h : Within T as) (hT : ∀ p, T p = true → T' p = true) :
    Within T' as := fun e he => hT _ (h e he)

theorem within_nil (T : Path → Bool) : Within T [] := fun _ he => nomatch he

theorem within_append {T : Path → Bool} {a b : List Act} (ha : Within T a) (hb : Within T b) : Within T (a ++ b) := by
  intro e he; rw [eventsOf_append] at he
  exact (List.mem_append.mp he).elim (ha e) (hb e)

theorem within_evs {T : Path → Bool} {l : List Ev} (h : ∀ e ∈ l, T e.path = true) : Within T (evs l) := by
  intro e he; rw [eventsOf_evs] at he; exact h e he

theorem Within.run {T : Path → Bool} {as : List Act} (h : Within T as) (fs : FS) : ∀ e ∈ (runActs as fs).evs, T e.path = true :=
  fun e he => h e (runActs_evs_sub as fs e he)

theorem Within.frame {T : Path → Bool} {as : List Act} (h : Within T as) (fs : FS) {p : Path} (hp : T p = false) :
    (runActs as fs).fs p = fs p := by
  rw [runActs_fs]; exact Resume.frame T (h.run fs) hp

theorem runStages_within {T : Path → Bool} {ss : List Stage} (h : ∀ s ∈ ss, ∀ fs, Within T (s fs)) (fs : FS) :
    ∀ e ∈ (runStages ss fs).evs, T e.path = true := by
  induction ss generalizing fs with
  | nil => intro e he; simp [runStages] at he
  | cons s ss ih =>
    intro e he
    simp only [runStages] at he
    split at he
    · exact (List.mem_append.mp he).elim ((h s (by simp) fs).run fs e) (ih (fun s' hs' => h s' (by simp [hs'])) _ e)
    · exact (h s (by simp) fs).run fs e he

def actPath : Act → Path
  | .ev e => e.path
  | .exist p => p
  | .load p => p
  | .rm p => p

def actIn (T R : Path → Bool) : Act → Bool
  | .ev e => T e.path
  | .rm p => T p
  | .exist p => R p
  | .load p => R p

theorem actIn_paths {T R : Path → Bool} (hTR : ∀ p, T p = true → R p = true) {as : List Act}
    (h : as.all (actIn T R) = true) : ∀ a ∈ as, R (actPath a) = true := by
  intro a ha
  have := List.all_eq_true.mp h a ha
  cases a <;> first | exact hTR _ this | exact this

theorem actIn_events {T R : Path → Bool} {as : List Act} (h : as.all (actIn T R) = true) :
    (eventsOf as).all (fun e => T e.path) = true := by
  induction as with
  | nil => rfl
  | cons a as ih =>
    rw [List.all_cons, Bool.and_eq_true] at h
    cases a <;> simp only [eventsOf, List.all_cons, Bool.and_eq_true] <;> first | exact ⟨h.1, ih h.2⟩ | exact ih h.2

theorem actIn_evs {T R : Path → Bool} (l : List Ev) : (evs l).all (actIn T R) = l.all (fun e => T e.path) := by
  simp [evs, List.all_map, Function.comp_def, actIn]

theorem within_of_actIn {T R : Path → Bool} {as : List Act} (h : as.all (actIn T R) = true) : Within T as :=
  fun e he => List.all_eq_true.mp (actIn_events h) e he

end IsoVerif.Lemmas.Resume
