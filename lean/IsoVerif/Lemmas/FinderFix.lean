/-
C16 — helper lemmas for the finders of /repo HEAD (`findPolyaTailFix`, `findPolytHeadFix`,
`findPolytHeadWin`: projection after the `P` repair, head window after the window repair).

The repaired projection as an instance of what Lemmas/FinderWith.lean asks of a projection function (its value and range:
`moveRefCoordFix_eq`, `moveRefCoordFix_some_iff`, `moveRefCoordFix_back_iff` / `_fwd_iff` of Lemmas/MoveRef.lean, `moveRefCoordFix_some` of Lemmas/FinderSpec.lean).
-/
import IsoVerif.Model.FinderMirror
import IsoVerif.Lemmas.FinderWith

namespace IsoVerif.Lemmas.C16
open IsoVerif.Gen IsoVerif.Model IsoVerif.Model.C16

theorem depthProj_fix (cigar : List CigarOp) (fwd : Bool) (d : Nat) (hnn : NonNeg cigar) (hne : cigar ≠ []) (hd : 1 ≤ d) :
    depthProj moveRefCoordFix cigar fwd d = some ((refColsUpTo (expand (walkCore cigar fwd)) d : Int) - 1) := by
  unfold depthProj
  rw [if_neg (by omega), moveRefCoordFix_eq cigar _ hnn (by split <;> omega) hne]
  cases fwd
  · rw [decide_eq_false (by simp), show (if false = true then (d : Int) else -(d : Int)).natAbs = d by simp]
  · rw [decide_eq_true (by simp; omega), show (if true = true then (d : Int) else -(d : Int)).natAbs = d by simp]

theorem moveRefCoordFix_total (cigar : List CigarOp) (shift : Int) (hne : cigar ≠ []) :
    ∃ k, moveRefCoordFix cigar shift = some k := by
  by_cases h0 : shift = 0 <;> simp [moveRefCoordFix, h0, hne]

theorem moveRefCoordFix_projects {cigar : List CigarOp} (hnn : NonNeg cigar) : Projects moveRefCoordFix cigar :=
  fun sh k h0 h => moveRefCoordFix_some cigar sh k hnn h0 h

end IsoVerif.Lemmas.C16
