/-
Helper lemmas for C08, the flow around the resolver: the insertion-ordered dict of per-read lists; last, the loader's
verdict look-up on one such list (`lookupVerdict_unique`, for Props/C08Flow.lean).  Core Lean only.
-/
import IsoVerif.Model.Resolver
import IsoVerif.Lemmas.AssocList

namespace IsoVerif.Lemmas.ResolverFlow
open IsoVerif.Gen IsoVerif.Model.Resolver

abbrev Dict := List (Nat × List Rec)

/-- the read ids in insertion order (the `l.map Prod.fst` of the Lemmas/AssocList.lean lemmas; unfold with `simp [keys]`) -/
def keys (d : Dict) : List Nat := d.map (·.1)

/-- `d[r.read_id].append(r)` on a `defaultdict(list)` is the association-list update of Lemmas/AssocList.lean -/
theorem dictAppend_eq_upsert (d : Dict) (r : Rec) : dictAppend d r = upsert (· ++ [r]) [r] d r.readId := by
  induction d with
  | nil => rfl
  | cons p t ih => simp only [dictAppend, upsert, ih, beq_iff_eq]

theorem dictAppend_of_not_mem (d : Dict) (r : Rec) (h : r.readId ∉ keys d) :
    dictAppend d r = d ++ [(r.readId, [r])] := by
  rw [dictAppend_eq_upsert, upsert_of_not_mem _ _ _ _ h]

/-- invariant of `for r in records: d[r.read_id].append(r)` after the prefix `p` -/
structure Inv (d : Dict) (p : List Rec) : Prop where
  nodup : (keys d).Nodup
  lookup : ∀ k, d.lookup k = if p.any (·.readId == k) then some (p.filter (·.readId == k)) else none

theorem Inv.step {d : Dict} {p : List Rec} (h : Inv d p) (r : Rec) : Inv (dictAppend d r) (p ++ [r]) := by
  rw [dictAppend_eq_upsert]
  refine ⟨nodup_keys_upsert _ _ h.nodup _, fun k => ?_⟩
  rw [lookup_upsert, h.lookup, List.any_append, List.filter_append]
  by_cases hk : r.readId = k
  · subst hk
    cases hany : p.any (·.readId == r.readId)
    · have : p.filter (·.readId == r.readId) = [] :=
        List.filter_eq_nil_iff.mpr fun x hx e => by simpa [e] using (List.any_eq_false.mp hany) x hx
      simp [this]
    · simp
  · simp [hk, h.lookup]

theorem Inv.foldl {d : Dict} {p : List Rec} (h : Inv d p) (records : List Rec) :
    Inv (records.foldl dictAppend d) (p ++ records) := by
  induction records generalizing d p with
  | nil => simpa using h
  | cons r rest ih => simpa [List.append_assoc] using ih (h.step r)

theorem inv_groupAll (records : List Rec) : Inv (groupAll records) records := by
  simpa [groupAll] using (show Inv [] [] from ⟨by simp [keys], by simp⟩).foldl records

theorem groupAll_vals (records : List Rec) :
    ∀ kv ∈ groupAll records, kv.2 = records.filter (fun r => r.readId == kv.1) := by
  intro kv hkv
  have h := inv_groupAll records
  have := (lookup_iff_mem_of_nodup h.nodup kv.1 kv.2).mpr hkv
  rw [h.lookup] at this
  split at this
  · exact (Option.some.inj this).symm
  · cases this

theorem groupAll_cover (records : List Rec) : ∀ x ∈ records, ∃ kv ∈ groupAll records, kv.1 = x.readId := by
  intro x hx
  have h := (inv_groupAll records).lookup x.readId
  rw [if_pos (List.any_eq_true.mpr ⟨x, hx, by simp⟩)] at h
  exact ⟨_, mem_of_lookup h, rfl⟩

theorem dictAppend_filter (Q : Nat → Bool) (d : Dict) (r : Rec) :
    (dictAppend d r).filter (fun kv => Q kv.1) =
      if Q r.readId then dictAppend (d.filter (fun kv => Q kv.1)) r else d.filter (fun kv => Q kv.1) := by
  induction d with
  | nil =>
    simp only [dictAppend, List.filter_cons, List.filter_nil]
  | cons kv rest ih =>
    obtain ⟨k, v⟩ := kv
    by_cases hk : k = r.readId
    · subst hk
      simp only [dictAppend, beq_self_eq_true, ↓reduceIte, List.filter_cons]
      cases hq : Q r.readId <;> simp [dictAppend]
    · have hk' : (k == r.readId) = false := by rw [beq_eq_false_iff_ne]; exact hk
      simp only [dictAppend, hk', Bool.false_eq_true, ↓reduceIte, List.filter_cons]
      rw [ih]
      cases hq : Q r.readId <;> cases hqk : Q k <;> simp [dictAppend, hk']

theorem foldl_dictAppend_filter (Q : Nat → Bool) (records : List Rec) (d : Dict) :
    (records.foldl dictAppend d).filter (fun kv => Q kv.1) =
      (records.filter (fun r => Q r.readId)).foldl dictAppend (d.filter (fun kv => Q kv.1)) := by
  induction records generalizing d with
  | nil => rfl
  | cons r rest ih =>
    simp only [List.foldl_cons, List.filter_cons]
    rw [ih, dictAppend_filter]
    cases Q r.readId <;> simp

theorem lookupVerdict_unique (vs : List Rec) (ra : Full) (a : Rec) (ha : a ∈ vs)
    (hm : a.aid = ra.aid ∧ a.chr = ra.chr)
    (huniq : ∀ b ∈ vs, b.aid = ra.aid ∧ b.chr = ra.chr → b = a) :
    lookupVerdict vs ra = some a := by
  unfold lookupVerdict
  have gen : ∀ (vs : List Rec) (acc : Option Rec),
      (∀ b ∈ vs, b.aid = ra.aid ∧ b.chr = ra.chr → b = a) →
      (a ∈ vs ∨ acc = some a) →
      vs.foldl (fun acc a => if a.aid == ra.aid && a.chr == ra.chr then some a else acc) acc = some a := by
    intro vs
    induction vs with
    | nil => intro acc _ h; rcases h with h | h; cases h; exact h
    | cons b rest ih =>
      intro acc hu h
      rw [List.foldl_cons]
      refine ih _ (fun c hc => hu c (List.mem_cons_of_mem _ hc)) ?_
      by_cases hb : b.aid = ra.aid ∧ b.chr = ra.chr
      · right; rw [if_pos (by simpa using hb), hu b (List.mem_cons_self ..) hb]
      · rw [if_neg (by simpa using hb)]
        rcases h with h | h
        · rcases List.mem_cons.mp h with rfl | h
          · exact absurd hm hb
          · exact Or.inl h
        · exact Or.inr h
  exact gen vs none huniq (Or.inl ha)

end IsoVerif.Lemmas.ResolverFlow
