/-
Helper lemmas for the C15 domain theorems: when does each primitive writer of src/serialization.py succeed
(`isSome` = the real writer does not raise), stated with declarative range predicates.
-/
import IsoVerif.Lemmas.Serial

namespace IsoVerif.Lemmas.Serial
open IsoVerif.Gen IsoVerif.Model IsoVerif.Model.Serial

def IsU32 (v : Int) : Prop := 0 ≤ v ∧ v < 2 ^ 32
def IsU16 (v : Int) : Prop := 0 ≤ v ∧ v < 2 ^ 16
def IsS31 (v : Int) : Prop := -(2 ^ 31 : Int) < v ∧ v < 2 ^ 31
def StrOk (s : String) : Prop := s.utf8ByteSize < 2 ^ 16
def OptStrOk (o : Option String) : Prop := ∀ s, o = some s → StrOk s
def PenaltyOk (q : Rat) : Prop := IsU32 (penaltyToInt q)
def ListOk {α} (P : α → Prop) (l : List α) : Prop := l.length < 2 ^ 32 ∧ ∀ x ∈ l, P x

theorem writeInt4_isSome (v : Int) : (writeInt v).isSome ↔ IsU32 v := by
  simp only [writeInt, intToBytes_isSome_iff, IsU32, pow4]; omega
theorem writeInt2_isSome (v : Int) : (writeInt v ser_SHORT_INT_BYTES).isSome ↔ IsU16 v := by
  simp only [writeInt, intToBytes_isSome_iff, IsU16, show ser_SHORT_INT_BYTES = 2 from rfl]; omega
theorem writeShortInt_isSome (v : Int) : (writeShortInt v).isSome ↔ IsU16 v := writeInt2_isSome v
theorem isU16_of_lt {n : Nat} (h : n < 256 ^ ser_SHORT_INT_BYTES) : IsU16 (n : Nat) :=
  ⟨Int.natCast_nonneg n, by have : (256 : Nat) ^ ser_SHORT_INT_BYTES = 2 ^ 16 := by decide
                            omega⟩
theorem writeString_isSome (s : String) : (writeString s).isSome ↔ StrOk s := by
  simp only [writeString, seqW_isSome_cons, seqW_nil, Option.isSome_some, and_true, intToBytes_isSome_iff, utf8_length,
    StrOk, show ser_STR_LEN_BYTES = 2 from rfl]
  omega
theorem writeStringOrNone_isSome (o : Option String) : (writeStringOrNone o).isSome ↔ OptStrOk o := by
  cases o with
  | none => simp [writeStringOrNone, OptStrOk, intToBytes_isSome_iff]; decide
  | some s =>
    have := writeString_isSome s
    simp only [writeString] at this
    simp [writeStringOrNone, OptStrOk, this]
theorem writeList_isSome {α} (l : List α) (w : α → Option Bytes) (P : α → Prop) (hw : ∀ x, (w x).isSome ↔ P x) :
    (writeList l w).isSome ↔ ListOk P l := by
  rw [writeList, seqW_isSome_cons, seqW_isSome_iff, writeInt4_isSome]
  simp only [List.mem_map, forall_exists_index, and_imp, forall_apply_eq_imp_iff₂, hw, ListOk, IsU32]
  exact and_congr_left' (by omega)
theorem writeListOfPairs_isSome (l : List (Int × Int)) :
    (writeListOfPairs l (writeInt ·)).isSome ↔ ListOk (fun v => IsU32 v.1 ∧ IsU32 v.2) l :=
  writeList_isSome l _ _ fun v => by
    simp only [seqW_isSome_cons, seqW_nil, Option.isSome_some, and_true, writeInt4_isSome]
theorem writeBoolArray_isSome (l : List Bool) : (writeBoolArray l).isSome ↔ l.length ≤ 8 := by
  unfold writeBoolArray
  split
  · rename_i h
    simp only [intToBytes_isSome_iff, h, iff_true]
    refine ⟨by omega, ?_⟩
    have hlt : boolBits l 0 0 < 2 ^ l.length := by
      apply Nat.lt_pow_two_of_testBit
      intro i hi
      rw [testBit_boolBits]
      have : l[i]? = none := List.getElem?_eq_none (by omega)
      simp [this]
    have : 2 ^ l.length ≤ 2 ^ 8 := Nat.pow_le_pow_right (by omega) h
    simp only [Int.toNat_natCast]
    omega
  · rename_i h; simp [h]
theorem writeBoolArray3_isSome (a b c : Bool) : (writeBoolArray [a, b, c]).isSome = true :=
  (writeBoolArray_isSome _).mpr (by simp)
theorem writeBoolArray2_isSome (a b : Bool) : (writeBoolArray [a, b]).isSome = true :=
  (writeBoolArray_isSome _).mpr (by simp)
theorem writePenalty_isSome (q : Rat) : (writePenalty q).isSome ↔ PenaltyOk q := writeInt4_isSome _

def DictValOk : DictVal → Prop
  | .int v => IsS31 v
  | .str s => StrOk s
  | .pair a b => IsS31 a ∧ IsS31 b

def DictOk (d : Dict) : Prop := ListOk (fun kv => StrOk kv.1 ∧ DictValOk kv.2) d

theorem writeDictEntry_isSome (kv : String × DictVal) : (writeDictEntry kv).isSome ↔ (StrOk kv.1 ∧ DictValOk kv.2) := by
  obtain ⟨k, v⟩ := kv
  have h1 : (intToBytes ser_DICT_TYPE_LEN (ser_DICT_INT_TYPE : Nat)).isSome = true := by decide
  have h2 : (intToBytes ser_DICT_TYPE_LEN (ser_DICT_STR_TYPE : Nat)).isSome = true := by decide
  have h3 : (intToBytes ser_DICT_TYPE_LEN (ser_DICT_INT_PAIR_TYPE : Nat)).isSome = true := by decide
  cases v <;>
  simp only [writeDictEntry, seqW_isSome_cons, seqW_nil, Option.isSome_some, and_true, writeString_isSome,
    writeIntNeg_isSome_iff, DictValOk, IsS31, h1, h2, h3, true_and]

theorem writeDict_isSome (d : Dict) : (writeDict d).isSome ↔ DictOk d := by
  have := writeList_isSome d writeDictEntry _ writeDictEntry_isSome
  simpa [writeList, writeDict, DictOk] using this


end IsoVerif.Lemmas.Serial
