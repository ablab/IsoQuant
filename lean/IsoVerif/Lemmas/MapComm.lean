/-
List operations under a map of the elements: a filter and a membership test commute with an injective map, a loop
(`foldl`, or `foldlM` for a loop that may raise) with a map of its state and of its items as soon as its body does.
Injectivity enters as the rewrite rule `inj_eq` (`f a = f b` is `a = b`), so that the `if`s of a model function are
rewritten in place and the map is pushed through them with `apply_ite`.
(`List.lookup` under a key and value map: `lookup_map` of Lemmas/AssocList.lean.)  Core Lean only.
-/
namespace IsoVerif.Lemmas.MapComm
open Function (Injective)

theorem inj_eq {α α' : Type} {f : α → α'} (hf : Injective f) (a b : α) : (f a = f b) = (a = b) :=
  propext ⟨fun h => hf h, congrArg f⟩

theorem filter_map_comm {α α' : Type} (f : α → α') (p : α → Bool) (q : α' → Bool) (h : ∀ a, q (f a) = p a) (l : List α) :
    (l.map f).filter q = (l.filter p).map f := by
  rw [List.filter_map]
  congr 1
  exact List.filter_congr (fun a _ => h a)

theorem mem_map_inj {α α' : Type} (f : α → α') (hf : Injective f) (l : List α) (x : α) : f x ∈ l.map f ↔ x ∈ l := by
  simp only [List.mem_map, inj_eq hf, exists_eq_right]

theorem count_map_inj {α α' : Type} [BEq α] [LawfulBEq α] [BEq α'] [LawfulBEq α'] (f : α → α') (hf : Injective f)
    (l : List α) (x : α) : (l.map f).count (f x) = l.count x := by
  rw [List.count_eq_countP, List.count_eq_countP, List.countP_map]
  congr 1
  funext a
  rw [Function.comp_apply, Bool.eq_iff_iff, beq_iff_eq, beq_iff_eq]
  exact ⟨fun h => hf h, congrArg f⟩

theorem map_eq_self {α : Type} (f : α → α) (l : List α) (h : ∀ x ∈ l, f x = x) : l.map f = l := by
  rw [List.map_congr_left (g := id) (by intro x hx; exact h x hx), List.map_id]

theorem prodMap_injective {α α' β β' : Type} {f : α → α'} {g : β → β'} (hf : Injective f) (hg : Injective g) :
    Injective (Prod.map f g) := by
  intro a b h
  simp only [Prod.map, Prod.mk.injEq] at h
  exact Prod.ext (hf h.1) (hg h.2)

theorem listMap_injective {α α' : Type} {f : α → α'} (hf : Injective f) : Injective (List.map f) :=
  fun _ _ h => (List.map_inj_right (fun _ _ e => hf e)).1 h

theorem foldl_map_comm {σ σ' τ τ' : Type} (F : σ → σ') (G : τ → τ') (step : σ → τ → σ) (step' : σ' → τ' → σ')
    (h : ∀ c x, step' (F c) (G x) = F (step c x)) (l : List τ) (c : σ) :
    (l.map G).foldl step' (F c) = F (l.foldl step c) := by
  rw [List.foldl_map]
  exact List.foldl_hom F h

theorem foldlM_map_comm {σ σ' τ τ' : Type} (F : σ → σ') (G : τ → τ') (step : σ → τ → Option σ)
    (step' : σ' → τ' → Option σ') (l : List τ) (h : ∀ c, ∀ x ∈ l, step' (F c) (G x) = (step c x).map F) (c : σ) :
    (l.map G).foldlM step' (F c) = (l.foldlM step c).map F := by
  induction l generalizing c with
  | nil => rfl
  | cons x t ih =>
    rw [List.map_cons, List.foldlM_cons, List.foldlM_cons, h c x List.mem_cons_self]
    cases step c x with
    | none => rfl
    | some c' => exact ih (fun c y hy => h c y (List.mem_cons_of_mem _ hy)) c'

end IsoVerif.Lemmas.MapComm
