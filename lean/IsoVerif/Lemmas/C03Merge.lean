/-
The natural sort key of `merge_files` (Model/Gtf.lean: `splitDigits`, `natKey`, `keyLt`, `sortNatural`) on the linear
comparisons of Lemmas/C06Merge (`LinCmp`, `lexCmp_lin`): keys alternate text and number tokens (`Shape`), so Python's `<`
on two keys never raises and is the lexicographic lift `cmpName` of a total comparison of tokens (`keyLt_natKey`).
C06 models the same key of `merge_files` a second time (`naturalKey`, `cmpKey`, `mergeOrder` of Model/Schedule.lean, lemmas in
Lemmas/C06Merge.lean); no theorem relates the two models.
-/
import IsoVerif.Model.Gtf
import IsoVerif.Lemmas.C03Sort
import IsoVerif.Lemmas.C06Merge

namespace IsoVerif.Lemmas.C03
open IsoVerif.Gen IsoVerif.Model IsoVerif.Model.C03 IsoVerif.Lemmas
open IsoVerif.Lemmas.C06 (LinCmp lexCmp_lin cmpNat_lin)
open IsoVerif.Model.C06 (lexCmp cmpNat)

/-! ### Python's `<` on `str` and on tokens of one kind -/

def cmpChar (a b : Char) : Ordering := cmpNat a.toNat b.toNat

theorem cmpChar_lin : LinCmp cmpChar where
  eq_iff _ _ := (cmpNat_lin.eq_iff _ _).trans Char.toNat_inj
  swap _ _ := cmpNat_lin.swap _ _
  trans _ _ _ := cmpNat_lin.trans _ _ _

theorem cmpNat_lt (x y : Nat) : (cmpNat x y == .lt) = decide (x < y) := by
  unfold cmpNat
  by_cases h : x < y
  · simp [h]
  · by_cases e : x = y <;> simp [h, e]

theorem charsLt_eq : ∀ a b : List Char, charsLt a b = (lexCmp cmpChar a b == .lt)
  | [], [] => rfl
  | [], _ :: _ => rfl
  | _ :: _, [] => rfl
  | x :: xs, y :: ys => by
    simp only [charsLt, lexCmp, cmpChar, cmpNat]
    by_cases h1 : x.toNat < y.toNat
    · simp [h1]
    · by_cases h2 : y.toNat < x.toNat
      · have : ¬ x.toNat = y.toNat := by omega
        simp [h1, h2, this]
      · have : x.toNat = y.toNat := by omega
        simp only [this, if_true]
        simpa [cmpChar, cmpNat] using charsLt_eq xs ys

/-- total comparison of tokens (an `int` below a `str`): agrees with Python wherever Python does not raise -/
def cmpTok : Tok → Tok → Ordering
  | .num x, .num y => cmpNat x y
  | .txt x, .txt y => lexCmp cmpChar x y
  | .num _, .txt _ => .lt
  | .txt _, .num _ => .gt

theorem cmpTok_lin : LinCmp cmpTok where
  eq_iff a b := by
    cases a <;> cases b <;> simp [cmpTok, cmpNat_lin.eq_iff, (lexCmp_lin cmpChar_lin).eq_iff]
  swap a b := by
    cases a <;> cases b <;> simp only [cmpTok, Ordering.swap]
    · exact cmpNat_lin.swap _ _
    · exact (lexCmp_lin cmpChar_lin).swap _ _
  trans a b c := by
    cases a <;> cases b <;> cases c <;> simp [cmpTok]
    · exact cmpNat_lin.trans _ _ _
    · exact (lexCmp_lin cmpChar_lin).trans _ _ _

/-- `Shape true k`: `k` is `txt, num, txt, …`; `Shape false k`: `num, txt, num, …` -/
def Shape : Bool → List Tok → Prop
  | _, [] => True
  | true, .txt _ :: l => Shape false l
  | false, .num _ :: l => Shape true l
  | true, .num _ :: _ => False
  | false, .txt _ :: _ => False

def sameKind : Tok → Tok → Bool
  | .num _, .num _ => true
  | .txt _, .txt _ => true
  | _, _ => false

theorem Shape.head_sameKind {f : Bool} {a b : Tok} {as bs : List Tok} (ha : Shape f (a :: as)) (hb : Shape f (b :: bs)) :
    sameKind a b = true ∧ Shape (!f) as ∧ Shape (!f) bs := by
  cases f <;> cases a <;> cases b <;> simp_all [Shape, sameKind]

theorem keyLt_cons (a b : Tok) (as bs : List Tok) (hk : sameKind a b = true) :
    keyLt (a :: as) (b :: bs) = if a = b then keyLt as bs else some (cmpTok a b == .lt) := by
  cases a <;> cases b <;> simp [sameKind] at hk <;> simp [keyLt, cmpTok, cmpNat_lt, charsLt_eq]

theorem keyLt_eq : ∀ (a b : List Tok) (f : Bool), Shape f a → Shape f b → keyLt a b = some (lexCmp cmpTok a b == .lt)
  | [], [], _, _, _ => rfl
  | [], _ :: _, _, _, _ => rfl
  | _ :: _, [], _, _, _ => rfl
  | x :: xs, y :: ys, f, ha, hb => by
    obtain ⟨hk, hx, hy⟩ := Shape.head_sameKind ha hb
    rw [keyLt_cons x y xs ys hk, lexCmp]
    by_cases e : x = y
    · rw [if_pos e, (cmpTok_lin.eq_iff x y).2 e]
      exact keyLt_eq xs ys (!f) hx hy
    · have hne : cmpTok x y ≠ .eq := fun h => e ((cmpTok_lin.eq_iff x y).1 h)
      rw [if_neg e]
      cases h : cmpTok x y <;> simp_all

/-! ### `re.split('(\d+)', s)` alternates text and digit pieces -/

/-- piece-level shape: text pieces hold no digit, digit pieces are non-empty and all digits (`true`: a text piece is next) -/
def PShape : Bool → List (List Char) → Prop
  | _, [] => True
  | true, p :: l => (p.all (fun c => !isDig c)) = true ∧ PShape false l
  | false, p :: l => (p ≠ [] ∧ p.all isDig = true) ∧ PShape true l

/-- `cur` is the open piece (reversed), `inDig` says whether it is a digit run - then it is non-empty and all digits,
    otherwise it holds no digit; under that invariant the pieces alternate -/
theorem splitDigits_shape : ∀ (cs cur : List Char) (inDig : Bool),
    (inDig = true → cur ≠ [] ∧ cur.all isDig = true) → (inDig = false → cur.all (fun c => !isDig c) = true) →
    PShape (!inDig) (splitDigits cs cur inDig)
  | [], cur, true, h1, _ => by
    have := h1 rfl
    simp only [splitDigits, if_true, Bool.not_true, PShape]
    refine ⟨⟨by simpa using this.1, by simpa using this.2⟩, by simp, trivial⟩
  | [], cur, false, _, h2 => by
    have := h2 rfl
    simp only [splitDigits, Bool.false_eq_true, if_false, Bool.not_false, PShape]
    exact ⟨by simpa using this, trivial⟩
  | c :: cs, cur, true, h1, _ => by
    have hc := h1 rfl
    simp only [splitDigits, if_true]
    by_cases hd : isDig c = true
    · simp only [hd, if_true]
      exact splitDigits_shape cs (c :: cur) true (fun _ => ⟨by simp, by simp [hd, hc.2]⟩) (fun h => by cases h)
    · simp only [hd, Bool.false_eq_true, if_false, Bool.not_true, PShape]
      refine ⟨⟨by simpa using hc.1, by simpa using hc.2⟩, ?_⟩
      have := splitDigits_shape cs [c] false (fun h => by cases h) (fun _ => by simp [hd])
      simpa using this
  | c :: cs, cur, false, _, h2 => by
    have hc := h2 rfl
    simp only [splitDigits, Bool.false_eq_true, if_false]
    by_cases hd : isDig c = true
    · simp only [hd, if_true, Bool.not_false, PShape]
      refine ⟨by simpa using hc, ?_⟩
      have := splitDigits_shape cs [c] true (fun _ => ⟨by simp, by simp [hd]⟩) (fun h => by cases h)
      simpa using this
    · simp only [hd, Bool.false_eq_true, if_false]
      exact splitDigits_shape cs (c :: cur) false (fun h => by cases h) (fun _ => by simp [hd, hc])

theorem map_tok_shape : ∀ (f : Bool) (l : List (List Char)), PShape f l →
    Shape f (l.map (fun t => if (!t.isEmpty && t.all isDig) = true then Tok.num (digitsVal 0 t) else Tok.txt (t.map lowerAscii)))
  | _, [], _ => trivial
  | true, p :: l, h => by
    obtain ⟨h1, h2⟩ := h
    have : (!p.isEmpty && p.all isDig) = false := by
      cases p with
      | nil => rfl
      | cons c cs =>
        simp only [List.all_cons, Bool.and_eq_true, Bool.not_eq_eq_eq_not, Bool.not_true] at h1
        simp [h1.1]
    simp only [List.map_cons, this, Bool.false_eq_true, if_false, Shape]
    exact map_tok_shape false l h2
  | false, p :: l, h => by
    obtain ⟨⟨h0, h1⟩, h2⟩ := h
    have : (!p.isEmpty && p.all isDig) = true := by
      cases p with
      | nil => exact absurd rfl h0
      | cons c cs => simpa using h1
    simp only [List.map_cons, this, if_true, Shape]
    exact map_tok_shape true l h2

theorem natKey_shape (s : List Char) : Shape true (natKey s) := by
  unfold natKey
  have := splitDigits_shape s [] false (fun h => by cases h) (fun _ => rfl)
  exact map_tok_shape true _ (by simpa using this)

/-- the comparison used by the sort, as a total Boolean function on names -/
def nameLt {α} (name : α → List Char) (a b : α) : Bool := keyLt (natKey (name a)) (natKey (name b)) == some true

/-- names compared by their keys -/
def cmpName (s t : List Char) : Ordering := lexCmp cmpTok (natKey s) (natKey t)

theorem keyLt_natKey (s t : List Char) : keyLt (natKey s) (natKey t) = some (cmpName s t == .lt) :=
  keyLt_eq _ _ true (natKey_shape s) (natKey_shape t)

/-- `b < a` fails iff `a ≤ b` (stated here for `LinCmp` of Lemmas/C06Merge) -/
theorem _root_.IsoVerif.Lemmas.C06.LinCmp.not_lt_iff {α : Type} {cmp : α → α → Ordering} (h : LinCmp cmp) (a b : α) :
    (cmp b a == .lt) = false ↔ cmp a b ≠ .gt := by
  rw [h.swap a b]
  cases cmp a b <;> simp [Ordering.swap]

theorem nameLt_false_iff {α} (name : α → List Char) (a b : α) :
    nameLt name b a = false ↔ cmpName (name a) (name b) ≠ .gt := by
  rw [cmpName, ← (lexCmp_lin cmpTok_lin).not_lt_iff, nameLt, keyLt_natKey, cmpName]
  cases lexCmp cmpTok (natKey (name b)) (natKey (name a)) == .lt <;> simp

theorem nameLt_strict {α} (name : α → List Char) : StrictOrd (nameLt name) where
  asymm a b h := by
    rw [nameLt, keyLt_natKey] at h
    rw [nameLt_false_iff]
    cases hc : cmpName (name a) (name b) <;> simp_all
  le_trans a b c h1 h2 := by
    rw [nameLt_false_iff] at *
    exact (lexCmp_lin cmpTok_lin).le_trans _ _ _ h1 h2

theorem insKey_eq {α} (name : α → List Char) (x : α) : ∀ l : List α, insKey name x l = some (insBy (nameLt name) x l)
  | [] => rfl
  | y :: ys => by
    have hr := keyLt_natKey (name y) (name x)
    cases hc : cmpName (name y) (name x) == .lt <;> rw [hc] at hr
    · simp [insKey, insBy, nameLt, hr]
    · simp [insKey, insBy, nameLt, hr, insKey_eq name x ys]

theorem sortNatural_eq {α} (name : α → List Char) : ∀ l : List α, sortNatural name l = some (isortBy (nameLt name) l)
  | [] => rfl
  | x :: xs => by
    simp only [sortNatural, sortNatural_eq name xs, isortBy, insKey_eq]

end IsoVerif.Lemmas.C03
