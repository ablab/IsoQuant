/-
OverlappingFeaturesProfileConstructor.construct_profile_for_features (Model/Profiles.lean `ovSweep`, `ovEliminate`,
`constructOverlapping`), analysed once for every property that reads its profiles.  The sweep is read by its moves (`readSt`: a
read feature is passed, `advSt`: a known feature is judged; induction principle `ovSweep_ind`); `Touch` says what a stretch of it
can change; `ovSweep_mark` is its meaning per known feature: which read feature a known feature is judged against depends on
the two lists alone (`FirstReach`), what the judgement leaves is one four-way choice (`judge`).  The tie elimination is
characterised entry by entry (`ovEliminate_get`), the gene profile is one equation over what sweep and elimination leave
(`constructOverlapping_gene_eq`).  Core Lean only.
-/
import IsoVerif.Model.Profiles
import IsoVerif.Lemmas.ListFacts

namespace IsoVerif.Lemmas.C13
open IsoVerif.Model IsoVerif.Gen

/-- the known features are ordered by start (they are a sorted list of distinct tuples in the code); the same predicate as
    `C03.StartsMono` of Lemmas/C03Build.lean -/
def SortedStarts (K : List Iv) : Prop := K.Pairwise (fun a b => a.1 ≤ b.1)

/-- the state after a read feature that ends before the current known feature has been passed -/
def readSt (gi ri : Nat) (st : OvState) : OvState :=
  if st.read.getD ri 0 == 0 && gi > 0 then { st with read := st.read.set ri (-1) } else st

/-- the state after the current known feature `k` has been judged against the current read feature `r`: absent when it ends
    before `r` starts (and a read feature lies before it), matched when the comparator holds, else absent when the absence
    test holds for the mapped region -/
def advSt (cmp absent : Iv → Iv → Bool) (M k r : Iv) (gi ri : Nat) (st : OvState) : OvState :=
  if k.2 < r.1 then (if ri > 0 then { st with gene := st.gene.set gi (-1) } else st)
  else if cmp r k then { gene := st.gene.set gi 1, read := st.read.set ri 1, matched := st.matched ++ [(ri, gi)] }
  else if absent M k then { st with gene := st.gene.set gi (-1) } else st

/-- how the known feature `k` stands to the read feature `r` when it is judged -/
def Judged (cmp : Iv → Iv → Bool) (k r : Iv) : Prop :=
  k.2 < r.1 ∨ (¬ k.2 < r.1 ∧ cmp r k = true) ∨ (¬ k.2 < r.1 ∧ ¬ cmp r k = true ∧ overlaps r k = true)

theorem ovSweep_read (cmp absent : Iv → Iv → Bool) (M : Iv) {k r : Iv} (ks rs : List Iv) (gi ri : Nat) (st : OvState)
    (h : r.2 < k.1) :
    ovSweep cmp absent M (k :: ks) gi (r :: rs) ri st = ovSweep cmp absent M (k :: ks) gi rs (ri + 1) (readSt gi ri st) := by
  rw [ovSweep, if_pos h]; rfl

theorem ovSweep_adv (cmp absent : Iv → Iv → Bool) (M : Iv) {k r : Iv} (ks rs : List Iv) (gi ri : Nat) (st : OvState)
    (h : ¬ r.2 < k.1) (hj : Judged cmp k r) :
    ovSweep cmp absent M (k :: ks) gi (r :: rs) ri st =
      ovSweep cmp absent M ks (gi + 1) (r :: rs) ri (advSt cmp absent M k r gi ri st) := by
  rw [ovSweep, if_neg h, advSt]
  rcases hj with h2 | ⟨h2, h3⟩ | ⟨h2, h3, h4⟩
  · rw [if_pos h2, if_pos h2]
  · rw [if_neg h2, if_pos h3, if_neg h2, if_pos h3]
  · rw [if_neg h2, if_neg h3, if_pos h4, if_neg h2, if_neg h3]

/-- induction over the moves of the sweep: it stops when either list is exhausted, passes a read feature that ends before the
    known one, else judges the known one (intervals that neither precede, match nor overlap do not exist) -/
theorem ovSweep_ind (cmp absent : Iv → Iv → Bool) (M : Iv) {motive : List Iv → Nat → List Iv → Nat → OvState → Prop}
    (stop : ∀ ks gi rs ri st, ovSweep cmp absent M ks gi rs ri st = st → (ks = [] ∨ rs = []) → motive ks gi rs ri st)
    (read : ∀ k ks gi r rs ri st, r.2 < k.1 → motive (k :: ks) gi rs (ri + 1) (readSt gi ri st) →
      motive (k :: ks) gi (r :: rs) ri st)
    (adv : ∀ k ks gi r rs ri st, ¬ r.2 < k.1 → Judged cmp k r →
      motive ks (gi + 1) (r :: rs) ri (advSt cmp absent M k r gi ri st) → motive (k :: ks) gi (r :: rs) ri st) :
    ∀ ks gi rs ri st, motive ks gi rs ri st := by
  intro ks gi rs ri st
  induction ks, gi, rs, ri, st using ovSweep.induct cmp absent M with
  | case1 => exact stop _ _ _ _ _ (by rw [ovSweep]) (Or.inl rfl)
  | case2 => exact stop _ _ _ _ _ (by rw [ovSweep]) (Or.inr rfl)
  | case3 k ks gi r rs ri st h1 st' ih => exact read _ _ _ _ _ _ _ h1 ih
  | case4 k ks gi r rs ri st h1 h2 st' ih =>
    refine adv _ _ _ _ _ _ _ h1 (Or.inl h2) ?_
    rw [advSt, if_pos h2]; exact ih
  | case5 k ks gi r rs ri st h1 h2 h3 ih =>
    refine adv _ _ _ _ _ _ _ h1 (Or.inr (Or.inl ⟨h2, h3⟩)) ?_
    rw [advSt, if_neg h2, if_pos h3]; exact ih
  | case6 k ks gi r rs ri st h1 h2 h3 h4 st' ih =>
    refine adv _ _ _ _ _ _ _ h1 (Or.inr (Or.inr ⟨h2, h3, h4⟩)) ?_
    rw [advSt, if_neg h2, if_neg h3]; exact ih
  | case7 k ks gi r rs ri st h1 h2 h3 h4 =>
    simp [overlaps] at h4
    omega

theorem tri_trans {a b c : Option Int} (h1 : a = b ∨ a = some (-1) ∨ a = some 1)
    (h2 : b = c ∨ b = some (-1) ∨ b = some 1) : a = c ∨ a = some (-1) ∨ a = some 1 := by
  rcases h1 with h | h | h
  · rw [h]; exact h2
  · exact Or.inr (Or.inl h)
  · exact Or.inr (Or.inr h)

theorem set_tri (l : List Int) (gi i : Nat) (v : Int) (hv : v = -1 ∨ v = 1) :
    (l.set gi v)[i]? = l[i]? ∨ (l.set gi v)[i]? = some (-1) ∨ (l.set gi v)[i]? = some 1 := by
  simp only [List.getElem?_set]
  split
  · rename_i e; subst e
    split
    · rcases hv with e | e <;> subst e <;> simp
    · left; rename_i hlt; rw [List.getElem?_eq_none_iff.mpr (by omega)]
  · left; rfl

theorem readSt_gene (gi ri : Nat) (st : OvState) : (readSt gi ri st).gene = st.gene := by
  unfold readSt; split <;> rfl

theorem readSt_matched (gi ri : Nat) (st : OvState) : (readSt gi ri st).matched = st.matched := by
  unfold readSt; split <;> rfl

theorem advSt_cases (cmp absent : Iv → Iv → Bool) (M k r : Iv) (gi ri : Nat) (st : OvState) :
    advSt cmp absent M k r gi ri st = st ∨
    (((k.2 < r.1 ∧ ri > 0) ∨ absent M k = true) ∧
      advSt cmp absent M k r gi ri st = { st with gene := st.gene.set gi (-1) }) ∨
    (cmp r k = true ∧ advSt cmp absent M k r gi ri st =
      { gene := st.gene.set gi 1, read := st.read.set ri 1, matched := st.matched ++ [(ri, gi)] }) := by
  unfold advSt
  by_cases h2 : k.2 < r.1
  · rw [if_pos h2]; by_cases h : ri > 0
    · rw [if_pos h]; exact Or.inr (Or.inl ⟨Or.inl ⟨h2, h⟩, rfl⟩)
    · rw [if_neg h]; exact Or.inl rfl
  · rw [if_neg h2]; by_cases h3 : cmp r k = true
    · rw [if_pos h3]; exact Or.inr (Or.inr ⟨h3, rfl⟩)
    · rw [if_neg h3]; by_cases h : absent M k = true
      · rw [if_pos h]; exact Or.inr (Or.inl ⟨Or.inr h, rfl⟩)
      · rw [if_neg h]; exact Or.inl rfl

/-- the mark that judging `k` against the read feature `r` at read position `j` leaves over `old` -/
def judge (cmp absent : Iv → Iv → Bool) (M k r : Iv) (j : Nat) (old : Int) : Int :=
  if k.2 < r.1 then (if j > 0 then -1 else old) else if cmp r k then 1 else if absent M k then -1 else old

theorem advSt_gene_self (cmp absent : Iv → Iv → Bool) (M k r : Iv) (gi ri : Nat) (st : OvState) :
    (advSt cmp absent M k r gi ri st).gene[gi]? = st.gene[gi]?.map (judge cmp absent M k r ri) := by
  have hid : ∀ o : Option Int, o.map (fun old => old) = o := fun o => by cases o <;> rfl
  unfold advSt judge
  by_cases h2 : k.2 < r.1
  · by_cases hp : ri > 0
    · simp only [if_pos h2, if_pos hp, List.getElem?_set_self']; rfl
    · simp only [if_pos h2, if_neg hp, hid]
  · by_cases hc : cmp r k = true
    · simp only [if_neg h2, if_pos hc, List.getElem?_set_self']; rfl
    · by_cases ha : absent M k = true
      · simp only [if_neg h2, if_neg hc, if_pos ha, List.getElem?_set_self']; rfl
      · simp only [if_neg h2, if_neg hc, if_neg ha, hid]

theorem advSt_gene_ne (cmp absent : Iv → Iv → Bool) (M k r : Iv) (gi ri : Nat) (st : OvState) {i : Nat} (h : i ≠ gi) :
    (advSt cmp absent M k r gi ri st).gene[i]? = st.gene[i]? := by
  rcases advSt_cases cmp absent M k r gi ri st with e | ⟨_, e⟩ | ⟨_, e⟩ <;> rw [e]
  all_goals exact List.getElem?_set_ne (Ne.symm h)

theorem advSt_matched (cmp absent : Iv → Iv → Bool) (M k r : Iv) (gi ri : Nat) (st : OvState) (p : Nat × Nat) :
    p ∈ (advSt cmp absent M k r gi ri st).matched ↔ p ∈ st.matched ∨ (p = (ri, gi) ∧ ¬ k.2 < r.1 ∧ cmp r k = true) := by
  unfold advSt
  (repeat' split) <;> simp_all

/-- what a stretch of the sweep that starts at known position `gi` does to the state: the gene profile keeps its length,
    is untouched below `gi` and changes elsewhere only to −1 or +1; recorded matches stay, new ones have a known position
    from `gi` on -/
structure Touch (gi : Nat) (st out : OvState) : Prop where
  len : out.gene.length = st.gene.length
  kept : ∀ p ∈ st.matched, p ∈ out.matched
  below : ∀ i : Nat, i < gi → out.gene[i]? = st.gene[i]?
  tri : ∀ i : Nat, out.gene[i]? = st.gene[i]? ∨ out.gene[i]? = some (-1) ∨ out.gene[i]? = some 1
  new : ∀ p ∈ out.matched, p ∈ st.matched ∨ gi ≤ p.2

theorem Touch.refl (gi : Nat) (st : OvState) : Touch gi st st :=
  ⟨rfl, fun _ h => h, fun _ _ => rfl, fun _ => Or.inl rfl, fun _ h => Or.inl h⟩

theorem Touch.trans {gi : Nat} {st s' out : OvState} (h1 : Touch gi st s') (h2 : Touch (gi + 1) s' out) : Touch gi st out :=
  ⟨h2.len.trans h1.len, fun p hp => h2.kept p (h1.kept p hp), fun i hi => (h2.below i (by omega)).trans (h1.below i hi),
    fun i => tri_trans (h2.tri i) (h1.tri i), fun p hp => (h2.new p hp).elim (h1.new p) fun h => Or.inr (by omega)⟩

theorem advSt_touch (cmp absent : Iv → Iv → Bool) (M k r : Iv) (gi ri : Nat) (st : OvState) :
    Touch gi st (advSt cmp absent M k r gi ri st) := by
  refine ⟨?_, fun p hp => (advSt_matched ..).mpr (Or.inl hp), fun i hi => advSt_gene_ne _ _ _ _ _ _ _ _ (by omega), fun i => ?_,
    fun p hp => ((advSt_matched ..).mp hp).imp id fun h => by rw [h.1]; exact Nat.le_refl _⟩
  · rcases advSt_cases cmp absent M k r gi ri st with e | ⟨_, e⟩ | ⟨_, e⟩ <;> rw [e] <;> simp
  · rcases advSt_cases cmp absent M k r gi ri st with e | ⟨_, e⟩ | ⟨_, e⟩ <;> rw [e]
    · exact Or.inl rfl
    · exact set_tri _ _ _ _ (Or.inl rfl)
    · exact set_tri _ _ _ _ (Or.inr rfl)

theorem ovSweep_touch (cmp absent : Iv → Iv → Bool) (M : Iv) :
    ∀ ks gi rs ri st, Touch gi st (ovSweep cmp absent M ks gi rs ri st) := by
  intro ks gi rs ri st
  induction ks, gi, rs, ri, st using ovSweep_ind cmp absent M with
  | stop ks gi rs ri st h _ => rw [h]; exact Touch.refl gi st
  | read k ks gi r rs ri st h1 ih =>
    rw [ovSweep_read _ _ _ _ _ _ _ _ h1]
    obtain ⟨a, b, c, d, e⟩ := ih
    rw [readSt_gene] at a c d
    rw [readSt_matched] at b e
    exact ⟨a, b, c, d, e⟩
  | adv k ks gi r rs ri st h1 hj ih =>
    rw [ovSweep_adv _ _ _ _ _ _ _ _ h1 hj]
    exact (advSt_touch cmp absent M k r gi ri st).trans ih

theorem ovSweep_gene_length (cmp absent : Iv → Iv → Bool) (M : Iv) :
    ∀ (ks : List Iv) (gi : Nat) (rs : List Iv) (ri : Nat) (st : OvState),
      (ovSweep cmp absent M ks gi rs ri st).gene.length = st.gene.length :=
  fun ks gi rs ri st => (ovSweep_touch cmp absent M ks gi rs ri st).len

theorem ovSweep_gene_tri (cmp absent : Iv → Iv → Bool) (M : Iv) :
    ∀ (ks : List Iv) (gi : Nat) (rs : List Iv) (ri : Nat) (st : OvState) (i : Nat),
      (ovSweep cmp absent M ks gi rs ri st).gene[i]? = st.gene[i]? ∨
      (ovSweep cmp absent M ks gi rs ri st).gene[i]? = some (-1) ∨
      (ovSweep cmp absent M ks gi rs ri st).gene[i]? = some 1 :=
  fun ks gi rs ri st => (ovSweep_touch cmp absent M ks gi rs ri st).tri

/-- `r = rs[a]` is the first of the read features `rs` that does not end before `k` starts: the one `k` is judged against -/
def FirstReach (rs : List Iv) (k : Iv) (a : Nat) (r : Iv) : Prop :=
  rs[a]? = some r ∧ ¬ r.2 < k.1 ∧ ∀ a' r', a' < a → rs[a']? = some r' → r'.2 < k.1

/-- the sweep, one known feature at a time (known features ordered by start): `k` is judged against the first read feature
    that does not end before it starts, and its mark and its recorded matches are those of that one judgement; if every read
    feature ends before `k` starts, nothing happens to it -/
theorem ovSweep_mark (cmp absent : Iv → Iv → Bool) (M : Iv) :
    ∀ ks gi rs ri st, SortedStarts ks → ∀ b k, ks[b]? = some k →
      (∃ a r, FirstReach rs k a r ∧
        (ovSweep cmp absent M ks gi rs ri st).gene[gi + b]? = st.gene[gi + b]?.map (judge cmp absent M k r (ri + a)) ∧
        ∀ j, (j, gi + b) ∈ (ovSweep cmp absent M ks gi rs ri st).matched ↔
          (j, gi + b) ∈ st.matched ∨ (j = ri + a ∧ ¬ k.2 < r.1 ∧ cmp r k = true)) ∨
      ((∀ r ∈ rs, r.2 < k.1) ∧ (ovSweep cmp absent M ks gi rs ri st).gene[gi + b]? = st.gene[gi + b]? ∧
        ∀ j, (j, gi + b) ∈ (ovSweep cmp absent M ks gi rs ri st).matched ↔ (j, gi + b) ∈ st.matched) := by
  intro ks gi rs ri st
  induction ks, gi, rs, ri, st using ovSweep_ind cmp absent M with
  | stop ks gi rs ri st h hstop =>
    intro _ b k hk
    rw [h]
    rcases hstop with rfl | rfl
    · simp at hk
    · exact Or.inr ⟨by simp, rfl, fun _ => Iff.rfl⟩
  | read k0 ks gi r0 rs ri st h1 ih =>
    intro hS b k hk
    rw [ovSweep_read _ _ _ _ _ _ _ _ h1]
    -- the read feature passed ends before every remaining known feature starts
    have hk01 : k0.1 ≤ k.1 := by
      rcases List.mem_cons.mp (List.mem_of_getElem? hk) with e | e
      · subst e; omega
      · exact (List.pairwise_cons.mp hS).1 k e
    rcases ih hS b k hk with ⟨a, r, ⟨hr, hn, hbef⟩, hg, hm⟩ | ⟨hall, hg, hm⟩
    · refine Or.inl ⟨a + 1, r, ⟨by simpa using hr, hn, fun a' r' ha' hr' => ?_⟩, ?_, ?_⟩
      · cases a' with
        | zero => simp at hr'; subst hr'; omega
        | succ a' => exact hbef a' r' (by omega) (by simpa using hr')
      · rw [hg, readSt_gene, show ri + 1 + a = ri + (a + 1) by omega]
      · intro j; rw [hm j, readSt_matched, show ri + 1 + a = ri + (a + 1) by omega]
    · refine Or.inr ⟨fun r hr => ?_, by rw [hg, readSt_gene], fun j => by rw [hm j, readSt_matched]⟩
      rcases List.mem_cons.mp hr with e | e
      · subst e; omega
      · exact hall r e
  | adv k0 ks gi r0 rs ri st h1 hj ih =>
    intro hS b k hk
    rw [ovSweep_adv _ _ _ _ _ _ _ _ h1 hj]
    obtain ⟨_, hold, hbelow, _, hnew⟩ := ovSweep_touch cmp absent M ks (gi + 1) (r0 :: rs) ri (advSt cmp absent M k0 r0 gi ri st)
    cases b with
    | zero =>
      simp at hk; subst hk
      -- the judged feature: nothing later touches position `gi`
      refine Or.inl ⟨0, r0, ⟨rfl, h1, fun a' _ h => absurd h (by omega)⟩, ?_, fun j => ?_⟩
      · rw [hbelow (gi + 0) (by omega)]
        exact advSt_gene_self ..
      · constructor
        · intro h
          rcases hnew _ h with h | h
          · rcases (advSt_matched ..).mp h with h | ⟨e, h2, h3⟩
            · exact Or.inl h
            · exact Or.inr ⟨by simpa using (Prod.mk.inj e).1, h2, h3⟩
          · exact absurd h (by show ¬ gi + 1 ≤ gi + 0; omega)
        · intro h
          refine hold _ ((advSt_matched ..).mpr ?_)
          rcases h with h | ⟨e, h2, h3⟩
          · exact Or.inl h
          · exact Or.inr ⟨by subst e; rfl, h2, h3⟩
    | succ b =>
      have hk' : ks[b]? = some k := by simpa using hk
      have hne : gi + 1 + b ≠ gi := by omega
      have hmat : ∀ j, (j, gi + 1 + b) ∈ (advSt cmp absent M k0 r0 gi ri st).matched ↔ (j, gi + 1 + b) ∈ st.matched := by
        intro j; rw [advSt_matched]
        exact ⟨fun h => h.elim id fun ⟨e, _⟩ => absurd (Prod.mk.inj e).2 hne, Or.inl⟩
      have := ih (List.pairwise_cons.mp hS).2 b k hk'
      rw [advSt_gene_ne _ _ _ _ _ _ _ _ hne] at this
      simp only [hmat] at this
      rw [show gi + 1 + b = gi + (b + 1) by omega] at this
      exact this

/-- the state after the sweep, started as `construct_profile_for_features` starts it -/
def sweepState (K : List Iv) (gr : Iv) (cmp absent : Iv → Iv → Bool) (R : List Iv) (M : Iv) : OvState :=
  ovSweep cmp absent M K 0 R 0
    { gene := K.map (fun k => if absent M k then -1 else 0), read := R.map (fun r => if absent gr r then -1 else 0), matched := [] }

theorem sweepState_gene_length (K : List Iv) (gr : Iv) (cmp absent : Iv → Iv → Bool) (R : List Iv) (M : Iv) :
    (sweepState K gr cmp absent R M).gene.length = K.length := by
  unfold sweepState; rw [ovSweep_gene_length, List.length_map]

theorem sweepState_mark (K : List Iv) (gr : Iv) (cmp absent : Iv → Iv → Bool) (R : List Iv) (M : Iv) (hK : SortedStarts K)
    (i : Nat) (k : Iv) (hk : K[i]? = some k) :
    (∃ j r, FirstReach R k j r ∧
      (sweepState K gr cmp absent R M).gene[i]? = some (judge cmp absent M k r j (if absent M k then -1 else 0)) ∧
      ∀ j', (j', i) ∈ (sweepState K gr cmp absent R M).matched ↔ (j' = j ∧ ¬ k.2 < r.1 ∧ cmp r k = true)) ∨
    ((∀ r ∈ R, r.2 < k.1) ∧ (sweepState K gr cmp absent R M).gene[i]? = some (if absent M k then -1 else 0) ∧
      ∀ j', (j', i) ∉ (sweepState K gr cmp absent R M).matched) := by
  have := ovSweep_mark cmp absent M K 0 R 0
    { gene := K.map (fun k => if absent M k then -1 else 0), read := R.map (fun r => if absent gr r then -1 else 0), matched := [] }
    hK i k hk
  simp only [Nat.zero_add, List.getElem?_map, hk, Option.map_some, List.not_mem_nil, false_or, iff_false] at this
  exact this

theorem minList_some_of_ne_nil : ∀ (l : List Int), l ≠ [] → ∃ m, minList l = some m := by
  intro l hl
  cases l with
  | nil => exact absurd rfl hl
  | cons x xs =>
    simp only [minList]
    cases minList xs <;> simp

theorem minList_spec : ∀ (l : List Int) (m : Int), minList l = some m → m ∈ l ∧ ∀ x ∈ l, m ≤ x
  | [], m, h => by simp [minList] at h
  | a :: t, m, h => by
    simp only [minList] at h
    cases ht : minList t with
    | none =>
      rw [ht] at h; cases h
      cases t with
      | nil => simp
      | cons b t' => simp only [minList] at ht; cases h2 : minList t' <;> simp [h2] at ht
    | some m' =>
      rw [ht] at h; cases h
      obtain ⟨h1, h2⟩ := minList_spec t m' ht
      refine ⟨?_, fun x hx => ?_⟩
      · rcases Int.le_total a m' with hle | hle
        · rw [Int.min_eq_left hle]; exact List.mem_cons_self
        · rw [Int.min_eq_right hle]; exact List.mem_cons_of_mem _ h1
      · rcases List.mem_cons.mp hx with rfl | hx
        · exact Int.min_le_left _ _
        · exact Int.le_trans (Int.min_le_right _ _) (h2 x hx)

theorem foldl_mark {β : Type} (h : List Int → β → List Int) (Q : β → Nat → Prop)
    (hyes : ∀ g x i, Q x i → (h g x)[i]? = g[i]?.map fun _ => -1) (hno : ∀ g x i, ¬ Q x i → (h g x)[i]? = g[i]?) :
    ∀ (L : List β) (g : List Int) (i : Nat),
      ((∃ x ∈ L, Q x i) → (L.foldl h g)[i]? = g[i]?.map fun _ => -1) ∧ ((¬ ∃ x ∈ L, Q x i) → (L.foldl h g)[i]? = g[i]?) := by
  intro L
  induction L with
  | nil => intro g i; exact ⟨fun ⟨_, hx, _⟩ => absurd hx List.not_mem_nil, fun _ => rfl⟩
  | cons x xs ih =>
    intro g i
    obtain ⟨ih1, ih2⟩ := ih (h g x) i
    rw [List.foldl_cons]
    by_cases hq : Q x i
    · refine ⟨fun _ => ?_, fun hn => absurd ⟨x, List.mem_cons_self, hq⟩ hn⟩
      by_cases ht : ∃ y ∈ xs, Q y i
      · rw [ih1 ht, hyes g x i hq, Option.map_map]; rfl
      · rw [ih2 ht, hyes g x i hq]
    · rw [hno g x i hq] at ih1 ih2
      refine ⟨fun ⟨y, hy, hqy⟩ => ih1 ?_, fun hn => ih2 fun ⟨y, hy, hqy⟩ => hn ⟨y, List.mem_cons_of_mem _ hy, hqy⟩⟩
      rcases List.mem_cons.mp hy with e | e
      · subst e; exact absurd hqy hq
      · exact ⟨y, e, hqy⟩

/-- known feature `i` loses the tie of read feature `ri`: `ri` matched both `i` and a strictly closer `i'` -/
def Loses (K R : List Iv) (matched : List (Nat × Nat)) (ri i : Nat) : Prop :=
  ∃ i', (ri, i) ∈ matched ∧ (ri, i') ∈ matched ∧
    matchDelta (R.getD ri (0, 0)) (K.getD i' (0, 0)) < matchDelta (R.getD ri (0, 0)) (K.getD i (0, 0))

/-- the elimination for one read feature -/
def elimStep (K R : List Iv) (matched : List (Nat × Nat)) (g : List Int) (ri : Nat) : List Int :=
  let ms := (matched.filter (fun p => p.1 == ri)).map (·.2)
  if ms.length > 1 then
    let ds := ms.map (fun gi => matchDelta (R.getD ri (0, 0)) (K.getD gi (0, 0)))
    match minList ds with
    | none => g
    | some best => (ms.zip ds).foldl (fun g' p => if p.2 > best then g'.set p.1 (-1) else g') g
  else g

theorem elimStep_get (K R : List Iv) (matched : List (Nat × Nat)) (g : List Int) (ri i : Nat) :
    (Loses K R matched ri i → (elimStep K R matched g ri)[i]? = g[i]?.map fun _ => -1) ∧
    (¬ Loses K R matched ri i → (elimStep K R matched g ri)[i]? = g[i]?) := by
  have hmem : ∀ y, y ∈ (matched.filter (fun p => p.1 == ri)).map (·.2) ↔ (ri, y) ∈ matched := by
    intro y
    simp only [List.mem_map, List.mem_filter, beq_iff_eq]
    exact ⟨fun ⟨q, ⟨hq, e1⟩, e2⟩ => by rw [← e1, ← e2]; exact hq, fun h => ⟨(ri, y), ⟨h, rfl⟩, rfl⟩⟩
  unfold elimStep
  simp only
  by_cases hlen : ((matched.filter (fun p => p.1 == ri)).map (·.2)).length > 1
  · obtain ⟨best, hbest⟩ := minList_some_of_ne_nil
      (((matched.filter (fun p => p.1 == ri)).map (·.2)).map (fun gi => matchDelta (R.getD ri (0, 0)) (K.getD gi (0, 0))))
      (fun e => by have := congrArg List.length e; simp only [List.length_map, List.length_nil] at this hlen; omega)
    obtain ⟨hb1, hmin⟩ := minList_spec _ best hbest
    obtain ⟨ib, hib, hbi⟩ := List.mem_map.mp hb1
    rw [if_pos hlen, hbest]
    simp only
    have hiff : (∃ p ∈ ((matched.filter (fun p => p.1 == ri)).map (·.2)).zip
          (((matched.filter (fun p => p.1 == ri)).map (·.2)).map (fun gi => matchDelta (R.getD ri (0, 0)) (K.getD gi (0, 0)))),
          p.2 > best ∧ p.1 = i) ↔ Loses K R matched ri i := by
      constructor
      · rintro ⟨p, hp, hgt, rfl⟩
        obtain ⟨hp1, hp2⟩ := (mem_zip_map _ _ p.1 p.2).1 hp
        exact ⟨ib, (hmem _).mp hp1, (hmem _).mp hib, by rw [hbi, ← hp2]; exact hgt⟩
      · rintro ⟨i', h1, h2, hlt⟩
        have := hmin _ (List.mem_map.mpr ⟨i', (hmem i').mpr h2, rfl⟩)
        exact ⟨_, (mem_zip_map _ _ i _).2 ⟨(hmem i).mpr h1, rfl⟩, by show _ > best; omega, rfl⟩
    rw [← hiff]
    refine foldl_mark (fun (g' : List Int) (p : Nat × Int) => if p.2 > best then g'.set p.1 (-1) else g')
      (fun p i => p.2 > best ∧ p.1 = i) ?_ ?_ _ g i
    · rintro g' p j ⟨hgt, rfl⟩
      rw [if_pos hgt, List.getElem?_set_self']; rfl
    · intro g' p j hn
      by_cases hgt : p.2 > best
      · rw [if_pos hgt, List.getElem?_set_ne fun e => hn ⟨hgt, e⟩]
      · rw [if_neg hgt]
  · rw [if_neg hlen]
    refine ⟨fun ⟨i', h1, h2, hlt⟩ => absurd ?_ hlen, fun _ => rfl⟩
    exact length_gt_one_of_two_mem ((hmem i).mpr h1) ((hmem i').mpr h2) (fun e => by subst e; omega)

/-- `elimStep` is the body of the model's fold, copied: the elimination is that fold over the read features -/
theorem ovEliminate_eq (K R : List Iv) (matched : List (Nat × Nat)) (g : List Int) :
    ovEliminate K R matched g = (List.range R.length).foldl (elimStep K R matched) g := rfl

/-- the elimination, entry by entry: −1 at the tie losers (of read features that exist), the rest as before -/
theorem ovEliminate_get (K R : List Iv) (matched : List (Nat × Nat)) (g : List Int) (i : Nat) :
    ((∃ ri ∈ List.range R.length, Loses K R matched ri i) → (ovEliminate K R matched g)[i]? = g[i]?.map fun _ => -1) ∧
    ((¬ ∃ ri ∈ List.range R.length, Loses K R matched ri i) → (ovEliminate K R matched g)[i]? = g[i]?) :=
  ovEliminate_eq K R matched g ▸
    foldl_mark (elimStep K R matched) (Loses K R matched) (fun g ri i => (elimStep_get K R matched g ri i).1)
      (fun g ri i => (elimStep_get K R matched g ri i).2) _ g i

/-- a known feature `i` loses a tie: some read feature matched both `i` and a strictly closer `i'` -/
def LoserIdx (K R : List Iv) (matched : List (Nat × Nat)) (i : Nat) : Prop :=
  ∃ ri, Loses K R matched ri i

theorem ovEliminate_spec (K R : List Iv) (matched : List (Nat × Nat)) (g : List Int) (i : Nat) :
    (ovEliminate K R matched g)[i]? = g[i]? ∨
      ((ovEliminate K R matched g)[i]? = some (-1) ∧ LoserIdx K R matched i) := by
  obtain ⟨h1, h2⟩ := ovEliminate_get K R matched g i
  by_cases hL : ∃ ri ∈ List.range R.length, Loses K R matched ri i
  · rw [h1 hL]
    cases g[i]? with
    | none => exact Or.inl rfl
    | some v => obtain ⟨ri, _, hl⟩ := hL; exact Or.inr ⟨rfl, ri, hl⟩
  · exact Or.inl (h2 hL)

theorem ovEliminate_hit (K R : List Iv) (matched : List (Nat × Nat)) (g : List Int) (i : Nat) (hi : i < g.length)
    (hr : ∀ p ∈ matched, p.1 < R.length) (hl : LoserIdx K R matched i) :
    (ovEliminate K R matched g)[i]? = some (-1) := by
  obtain ⟨ri, i', h1, h2⟩ := hl
  rw [(ovEliminate_get K R matched g i).1 ⟨ri, List.mem_range.mpr (hr _ h1), i', h1, h2⟩,
    List.getElem?_eq_getElem hi]
  rfl

theorem ovEliminate_ne_neg (K R : List Iv) (matched : List (Nat × Nat)) (g : List Int) (i : Nat) (x : Int) (hx : x ≠ -1)
    (h : (ovEliminate K R matched g)[i]? = some x) : g[i]? = some x := by
  rcases ovEliminate_spec K R matched g i with he | ⟨he, _⟩
  · rw [← he]; exact h
  · rw [h] at he; exact absurd (Option.some.inj he) hx

theorem ovEliminate_length (K R : List Iv) (matched : List (Nat × Nat)) (g : List Int) :
    (ovEliminate K R matched g).length = g.length := by
  have key : ∀ i : Nat, (ovEliminate K R matched g)[i]? = none ↔ g[i]? = none := by
    intro i
    obtain ⟨h1, h2⟩ := ovEliminate_get K R matched g i
    by_cases hL : ∃ ri ∈ List.range R.length, Loses K R matched ri i
    · rw [h1 hL]; cases g[i]? <;> simp
    · rw [h2 hL]
  simp only [List.getElem?_eq_none_iff] at key
  have := (key g.length).mpr (Nat.le_refl _)
  have := (key (ovEliminate K R matched g).length).mp (Nat.le_refl _)
  omega

theorem mask_step (c : Iv → Prop) [DecidablePred c] (b : Bool) : ∀ (K : List Iv) (g : List Int), g.length = K.length →
    (if b = true then List.zipWith (fun (k : Iv) (v : Int) => if c k then -2 else v) K g else g) =
      List.zipWith (fun (k : Iv) (v : Int) => if b = true ∧ c k then -2 else v) K g := by
  cases b
  · intro K
    induction K with
    | nil => intro g h; simp [List.length_eq_zero_iff.mp h]
    | cons k ks ih =>
      intro g h
      cases g with
      | nil => cases h
      | cons v vs => simpa using ih vs (by simpa using h)
  · intro K g _; simp

theorem zipWith_zipWith_left {α β : Type} (f f' : α → β → β) : ∀ (K : List α) (g : List β),
    List.zipWith f K (List.zipWith f' K g) = List.zipWith (fun k v => f k (f' k v)) K g := by
  intro K
  induction K with
  | nil => intro g; rfl
  | cons k ks ih => intro g; cases g with
    | nil => rfl
    | cons v vs => simp [ih]

/-- the gene profile: what the sweep and the elimination of tie losers leave, with `-2` at the known features beyond a
    poly-A / poly-T site -/
theorem constructOverlapping_gene_eq (K : List Iv) (gr : Iv) (cmp absent : Iv → Iv → Bool) (δ : Int) (R : List Iv) (M : Iv)
    (pa pt : Int) :
    (constructOverlapping K gr cmp absent δ R M pa pt).gene =
      List.zipWith (fun (k : Iv) (v : Int) => if (pa ≠ -1 ∧ k.1 > pa + δ) ∨ (pt ≠ -1 ∧ k.2 < pt - δ) then -2 else v) K
        (ovEliminate K R (sweepState K gr cmp absent R M).matched (sweepState K gr cmp absent R M).gene) := by
  have key : ∀ g : List Int, g.length = K.length →
      (if (pt != -1) = true then List.zipWith (fun (k : Iv) (v : Int) => if k.2 < pt - δ then -2 else v) K
          (if (pa != -1) = true then List.zipWith (fun (k : Iv) (v : Int) => if k.1 > pa + δ then -2 else v) K g else g)
        else (if (pa != -1) = true then List.zipWith (fun (k : Iv) (v : Int) => if k.1 > pa + δ then -2 else v) K g else g)) =
      List.zipWith (fun (k : Iv) (v : Int) => if (pa ≠ -1 ∧ k.1 > pa + δ) ∨ (pt ≠ -1 ∧ k.2 < pt - δ) then -2 else v) K g := by
    intro g hlen
    rw [mask_step (fun k : Iv => k.1 > pa + δ) (pa != -1) K g hlen,
      mask_step (fun k : Iv => k.2 < pt - δ) (pt != -1) K _ (by rw [List.length_zipWith, hlen, Nat.min_self]),
      zipWith_zipWith_left]
    congr 1
    funext k v
    simp only [bne_iff_ne, ne_eq]
    by_cases h1 : ¬ pa = -1 ∧ k.1 > pa + δ <;> by_cases h2 : ¬ pt = -1 ∧ k.2 < pt - δ <;> simp [h1, h2]
  exact key (ovEliminate K R (sweepState K gr cmp absent R M).matched (sweepState K gr cmp absent R M).gene)
    (by rw [ovEliminate_length, sweepState_gene_length])

theorem constructOverlapping_gene_length (K : List Iv) (gr : Iv) (cmp absent : Iv → Iv → Bool) (δ : Int) (R : List Iv) (M : Iv)
    (pa pt : Int) : (constructOverlapping K gr cmp absent δ R M pa pt).gene.length = K.length := by
  rw [constructOverlapping_gene_eq, List.length_zipWith, ovEliminate_length, sweepState_gene_length, Nat.min_self]

theorem constructOverlapping_gene (K : List Iv) (gr : Iv) (cmp absent : Iv → Iv → Bool) (δ : Int) (R : List Iv) (M : Iv)
    (pa pt : Int) (i : Nat) (x : Int) (hx : x ≠ -2)
    (h : (constructOverlapping K gr cmp absent δ R M pa pt).gene[i]? = some x) :
    (ovEliminate K R (sweepState K gr cmp absent R M).matched (sweepState K gr cmp absent R M).gene)[i]? = some x ∧
    ∃ k, K[i]? = some k ∧ ¬ (pa ≠ -1 ∧ k.1 > pa + δ) ∧ ¬ (pt ≠ -1 ∧ k.2 < pt - δ) := by
  rw [constructOverlapping_gene_eq] at h
  obtain ⟨k, v, hk, hv, e⟩ := List.getElem?_zipWith_eq_some.mp h
  split at e
  · exact absurd e.symm hx
  · rename_i hm
    exact ⟨by rw [hv, e], k, hk, fun h => hm (Or.inl h), fun h => hm (Or.inr h)⟩

theorem constructOverlapping_gene_fwd (K : List Iv) (gr : Iv) (cmp absent : Iv → Iv → Bool) (δ : Int) (R : List Iv) (M : Iv)
    (pa pt : Int) (i : Nat) (k : Iv) (v : Int) (hk : K[i]? = some k)
    (hg : (ovEliminate K R (sweepState K gr cmp absent R M).matched (sweepState K gr cmp absent R M).gene)[i]? = some v)
    (hpa : ¬ (pa ≠ -1 ∧ k.1 > pa + δ)) (hpt : ¬ (pt ≠ -1 ∧ k.2 < pt - δ)) :
    (constructOverlapping K gr cmp absent δ R M pa pt).gene[i]? = some v := by
  rw [constructOverlapping_gene_eq, List.getElem?_zipWith, hk, hg]
  simp [hpa, hpt]

end IsoVerif.Lemmas.C13
