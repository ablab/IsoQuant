/-
`compare_junctions` never raises (Model/JunctionCompare.lean): the index facts about the contradictory region pairs of
the sweep, and totality of every helper on valid indices.  Core Lean only.
-/
import IsoVerif.Model.JunctionCompare
import IsoVerif.Lemmas.Exons

namespace IsoVerif.Lemmas.C01Cmp
open IsoVerif.Gen IsoVerif.Model IsoVerif.Model.C01 IsoVerif.Lemmas

theorem getExon_some (reg : Iv) (J : List Iv) (pos : Nat) (hn : 0 < J.length) (hp : pos ≤ J.length) :
    ∃ e, getExon reg J (pos : Int) = some e := by
  rw [getExon_nat reg J pos (List.length_pos_iff.mp hn) hp]
  exact exonAt_some reg J pos (List.length_pos_iff.mp hn) hp

theorem getExon_some_succ (reg : Iv) (J : List Iv) (pos : Nat) (hp : pos < J.length) :
    ∃ e, getExon reg J ((pos : Int) + 1) = some e :=
  getExon_some reg J (pos + 1) (by omega) (by omega)

theorem getExon_some_neg1 (reg : Iv) (J : List Iv) (hn : 0 < J.length) : ∃ e, getExon reg J (-1) = some e := by
  rw [getExon_neg_one reg J (List.length_pos_iff.mp hn)]
  exact exonAt_some reg J _ (List.length_pos_iff.mp hn) (Nat.le_refl _)

theorem getPrecedingExon_some (reg : Iv) (J : List Iv) (pos : Nat) (hn : 0 < J.length) (hp : pos ≤ J.length) :
    ∃ e, getPrecedingExon reg J (pos : Int) = some e := by
  rw [getPrecedingExon_nat reg J pos hp]
  exact exonAt_some reg J pos (List.length_pos_iff.mp hn) hp

theorem getFollowingExon_some (reg : Iv) (J : List Iv) (pos : Nat) (hp : pos < J.length) :
    ∃ e, getFollowingExon reg J (pos : Int) = some e := by
  rw [getFollowingExon_nat]
  exact exonAt_some reg J (pos + 1) (List.length_pos_iff.mp (by omega)) hp

theorem getFollowingExon_some_neg1 (reg : Iv) (J : List Iv) (hn : 0 < J.length) :
    ∃ e, getFollowingExon reg J (-1) = some e := by
  rw [getFollowingExon_neg_one reg J (List.length_pos_iff.mp hn)]
  exact exonAt_some reg J _ (List.length_pos_iff.mp hn) (Nat.le_refl _)

theorem sliceIncl_some {α} (l : List α) (a b : Nat) (hb : b < l.length) :
    ∃ s, sliceIncl l a b = some s := by
  unfold sliceIncl
  split <;> exact ⟨_, rfl⟩

theorem knownIntrons_some (c : CmpCtx) (J : List Iv) (a b : Nat) (hb : b < J.length) :
    ∃ v, knownIntrons c J a b = some v := by
  obtain ⟨s, hs⟩ := sliceIncl_some J a b hb
  exact ⟨_, by rw [knownIntrons, hs]; rfl⟩

theorem precedingSum_some (rr : Iv) (J : List Iv) (hn : 0 < J.length) :
    ∀ (n cpos : Nat), cpos + n ≤ J.length + 1 → ∃ v, precedingSum rr J cpos n = some v
  | 0, _, _ => ⟨0, rfl⟩
  | n + 1, cpos, h => by
    obtain ⟨e, he⟩ := getPrecedingExon_some rr J cpos hn (by omega)
    obtain ⟨v, hv⟩ := precedingSum_some rr J hn n (cpos + 1) (by omega)
    exact ⟨_, by rw [precedingSum, he, hv]⟩

theorem suspiciousIntrons_some (c : CmpCtx) (rr : Iv) (J : List Iv) (a b : Nat) (hab : a ≤ b) (hb : b < J.length) :
    ∃ v, suspiciousIntrons c rr J a b = some v := by
  obtain ⟨s, hs⟩ := precedingSum_some rr J (by omega) (b + 1 - a) a (by omega)
  obtain ⟨f, hf⟩ := getFollowingExon_some rr J b hb
  fun_cases suspiciousIntrons c rr J a b
  case case2 h => omega
  case case4 h => exact (h _ _ hs hf).elim
  all_goals exact ⟨_, rfl⟩

theorem skippedExonLen_some (J : List Iv) : ∀ (n i : Nat), i + n < J.length → ∃ v, skippedExonLen J i n = some v
  | 0, _, _ => ⟨0, rfl⟩
  | n + 1, i, h => by
    obtain ⟨v, hv⟩ := skippedExonLen_some J n (i + 1) (by omega)
    exact ⟨_, by rw [skippedExonLen, List.getElem?_eq_getElem (by omega), List.getElem?_eq_getElem (by omega), hv]⟩

theorem alternative_sites_some (side : String) (known : Bool) (h : side = "right" ∨ side = "left") :
    ∃ t, alternative_sites side known = some t := by
  rcases h with rfl | rfl <;> cases known <;> exact Option.isSome_iff_exists.mp (by decide)

theorem classifySkipped_some (c : CmpCtx) (J : List Iv) (i0 i1 : Nat) (s k sb : Bool) (h0 : i0 ≤ i1) (h1 : i1 < J.length) :
    ∃ v, classifySkipped c J i0 i1 s k sb = some v := by
  obtain ⟨t, ht⟩ := skippedExonLen_some J (i1 - i0) i0 (by omega)
  fun_cases classifySkipped c J i0 i1 s k sb
  case case1 h => rw [ht] at h; cases h
  all_goals exact ⟨_, rfl⟩

theorem altSiteEvent_some (c : CmpCtx) (rr : Iv) (rj : List Iv) (ir : Iv) (ij : List Iv) (rc ic : Nat) (r kk : Iv)
    (k : Bool) (hr : rc < rj.length) (hi : ic < ij.length) : ∃ v, altSiteEvent c rr rj ir ij rc ic r kk k = some v := by
  obtain ⟨fr, hfr⟩ := getFollowingExon_some rr rj rc hr
  obtain ⟨fi, hfi⟩ := getFollowingExon_some ir ij ic hi
  obtain ⟨pr, hpr⟩ := getPrecedingExon_some rr rj rc (by omega) (by omega)
  obtain ⟨pi, hpi⟩ := getPrecedingExon_some ir ij ic (by omega) (by omega)
  fun_cases altSiteEvent c rr rj ir ij rc ic r kk k
  case case1 => exact alternative_sites_some _ k (Or.inl rfl)
  case case4 => exact alternative_sites_some _ k (Or.inr rfl)
  case case3 h => exact (h _ _ hfr hfi).elim
  case case6 h => exact (h _ _ hpr hpi).elim
  all_goals exact ⟨_, rfl⟩

theorem relabelSuspicious_some (c : CmpCtx) (rr : Iv) (rj : List Iv) (rc : Nat) (ev : MatchEventSubtype)
    (hr : rc < rj.length) : ∃ v, relabelSuspicious c rr rj rc ev = some v := by
  obtain ⟨su, hsu⟩ := suspiciousIntrons_some c rr rj rc rc (Nat.le_refl _) hr
  fun_cases relabelSuspicious c rr rj rc ev
  case case1 h => rw [hsu] at h; cases h
  all_goals exact ⟨_, rfl⟩

theorem classifySingle_some (c : CmpCtx) (rr : Iv) (rj : List Iv) (ir : Iv) (ij : List Iv) (rc ic : Nat) (s k : Bool)
    (hr : rc < rj.length) (hi : ic < ij.length) : ∃ v, classifySingle c rr rj ir ij rc ic s k = some v := by
  fun_cases classifySingle c rr rj ir ij rc ic s k
  case case4 fr fi _ _ _ h =>
    obtain ⟨ev, hev⟩ := altSiteEvent_some c rr rj ir ij rc ic fr fi k hr hi
    rw [hev] at h; cases h
  case case5 => exact relabelSuspicious_some c rr rj rc _ hr
  case case6 h => exact (h _ _ (List.getElem?_eq_getElem hr) (List.getElem?_eq_getElem hi)).elim
  all_goals exact ⟨_, rfl⟩

theorem classifyTerminal_some (c : CmpCtx) (rr : Iv) (rj : List Iv) (ir : Iv) (ij : List Iv) (r0 i0 : Nat) (k : Bool)
    (hr : 0 < rj.length) (hi : 0 < ij.length) : ∃ v, classifyTerminal c rr rj ir ij r0 i0 k = some v := by
  obtain ⟨a, ha⟩ := getPrecedingExon_some rr rj 0 hr (by omega)
  obtain ⟨b, hb⟩ := getPrecedingExon_some ir ij 0 hi (by omega)
  obtain ⟨a', ha'⟩ := getFollowingExon_some_neg1 rr rj hr
  obtain ⟨b', hb'⟩ := getFollowingExon_some_neg1 ir ij hi
  simp only [Int.natCast_zero] at ha hb
  fun_cases classifyTerminal c rr rj ir ij r0 i0 k
  case case1 exons h => simp only [exons, ha, hb, ha', hb'] at h; split at h <;> cases h
  all_goals exact ⟨_, rfl⟩

theorem gatherBoth_some (c : CmpCtx) (rr : Iv) (rj : List Iv) (ir : Iv) (ij : List Iv) (r0 r1 i0 i1 : Nat)
    (h0 : r0 ≤ r1) (h1 : r1 < rj.length) (h2 : i0 ≤ i1) (h3 : i1 < ij.length) :
    ∃ d, gatherBoth c rr rj ir ij r0 r1 i0 i1 = some d := by
  obtain ⟨a1, e1⟩ := sliceIncl_some rj r0 r1 h1
  obtain ⟨a2, e2⟩ := sliceIncl_some ij i0 i1 h3
  obtain ⟨a3, e3⟩ := knownIntrons_some c rj r0 r1 h1
  obtain ⟨a4, e4⟩ := getExon_some rr rj r0 (by omega) (by omega)
  obtain ⟨a5, e5⟩ := getExon_some ir ij i0 (by omega) (by omega)
  obtain ⟨a6, e6⟩ := getExon_some_succ rr rj r1 h1
  obtain ⟨a7, e7⟩ := getExon_some_succ ir ij i1 h3
  exact ⟨_, by rw [gatherBoth, e1, e2, e3, e4, e5, e6, e7, List.getElem?_eq_getElem (by omega), List.getElem?_eq_getElem h1,
    List.getElem?_eq_getElem (by omega), List.getElem?_eq_getElem h3]⟩

theorem cascadeBoth_some (c : CmpCtx) (rr : Iv) (rj : List Iv) (ir : Iv) (ij : List Iv) (r0 r1 i0 i1 : Nat) (d : BothData)
    (h0 : r0 ≤ r1) (h1 : r1 < rj.length) (h2 : i0 ≤ i1) (h3 : i1 < ij.length) :
    ∃ v, cascadeBoth c rr rj ir ij r0 r1 i0 i1 d = some v := by
  fun_cases cascadeBoth c rr rj ir ij r0 r1 i0 i1 d
  case case1 =>
    obtain ⟨v, hv⟩ := classifySingle_some c rr rj ir ij r0 i0 (intronLengthSimilar c.q d.rt d.it) d.known (by omega) (by omega)
    exact ⟨_, by rw [hv]; rfl⟩
  case case2 =>
    obtain ⟨v, hv⟩ := classifyTerminal_some c rr rj ir ij r0 i0 d.known (by omega) (by omega)
    exact ⟨_, by rw [hv]; rfl⟩
  case case5 => exact classifySkipped_some c ij i0 i1 _ _ _ h2 h3
  case case7 h =>
    obtain ⟨su, hsu⟩ := suspiciousIntrons_some c rr rj r0 r1 h0 h1
    rw [hsu] at h; cases h
  all_goals exact ⟨_, rfl⟩

theorem classifyBothTy_some (c : CmpCtx) (rr : Iv) (rj : List Iv) (ir : Iv) (ij : List Iv) (r0 r1 i0 i1 : Nat)
    (h0 : r0 ≤ r1) (h1 : r1 < rj.length) (h2 : i0 ≤ i1) (h3 : i1 < ij.length) :
    ∃ t, classifyBothTy c rr rj ir ij r0 r1 i0 i1 = some t := by
  obtain ⟨d, hd⟩ := gatherBoth_some c rr rj ir ij r0 r1 i0 i1 h0 h1 h2 h3
  obtain ⟨su, hsu⟩ := suspiciousIntrons_some c rr rj r0 r1 h0 h1
  fun_cases classifyBothTy c rr rj ir ij r0 r1 i0 i1
  case case1 h => rw [hd] at h; cases h
  case case2 d' _ h =>
    obtain ⟨v, hv⟩ := cascadeBoth_some c rr rj ir ij r0 r1 i0 i1 d' h0 h1 h2 h3
    rw [hv] at h; cases h
  case case5 h => rw [hsu] at h; cases h
  all_goals exact ⟨_, rfl⟩

theorem classifyRetention_some (c : CmpCtx) (rr : Iv) (rj ij : List Iv) (rp ip : Nat)
    (hn : 0 < rj.length) (h1 : rp ≤ rj.length) (h2 : ip < ij.length) :
    ∃ v, classifyRetention c rr rj ij rp ip = some v := by
  obtain ⟨e, he⟩ := getPrecedingExon_some rr rj rp hn h1
  fun_cases classifyRetention c rr rj ij rp ip
  case case1 h => rw [List.getElem?_eq_getElem h2] at h; cases h
  case case2 h => rw [he] at h; cases h
  all_goals exact ⟨_, rfl⟩

theorem fakeTerminalOfExtra_some (c : CmpCtx) (rr : Iv) (rj : List Iv) (rp : Nat) (reg : Int × Int)
    (hn : 0 < rj.length) : ∃ v, fakeTerminalOfExtra c rr rj rp reg = some v := by
  obtain ⟨e0, he0⟩ := getExon_some rr rj 0 hn (by omega)
  obtain ⟨e1, he1⟩ := getExon_some_neg1 rr rj hn
  simp only [Int.natCast_zero] at he0
  have hl : ∃ v, fakeLeftOfExtra c rr rj rp reg = some v := by
    fun_cases fakeLeftOfExtra c rr rj rp reg
    case case1 h => rw [he0] at h; cases h
    all_goals exact ⟨_, rfl⟩
  fun_cases fakeTerminalOfExtra c rr rj rp reg
  case case1 h => obtain ⟨v, hv⟩ := hl; rw [hv] at h; cases h
  case case3 =>
    fun_cases fakeRightOfExtra c rr rj rp reg
    case case1 h => rw [he1] at h; cases h
    all_goals exact ⟨_, rfl⟩
  all_goals exact ⟨_, rfl⟩

theorem classifyExtra_some (c : CmpCtx) (rr : Iv) (rj : List Iv) (rp ip : Nat) (h1 : rp < rj.length) :
    ∃ v, classifyExtra c rr rj rp ip = some v := by
  obtain ⟨kn, hkn⟩ := knownIntrons_some c rj rp rp h1
  obtain ⟨su, hsu⟩ := suspiciousIntrons_some c rr rj rp rp (Nat.le_refl _) h1
  obtain ⟨ft, hft⟩ := fakeTerminalOfExtra_some c rr rj rp ((rp : Int), (rp : Int)) (by omega)
  fun_cases classifyExtra c rr rj rp ip
  case case1 h => rw [hkn] at h; cases h
  case case3 h => rw [hsu] at h; cases h
  case case5 h => rw [hft] at h; cases h
  all_goals exact ⟨_, rfl⟩

/-- the indices of a pair are positions of the two junction lists (`N`, `M` = their lengths) -/
def PairOK (N M : Nat) : CPair → Prop
  | .retention rp ip => rp ≤ N ∧ ip < M
  | .extra rp ip => rp < N ∧ ip ≤ M
  | .both r0 r1 i0 i1 => r0 ≤ r1 ∧ r1 < N ∧ i0 ≤ i1 ∧ i1 < M

/-- the open contradictory region of the sweep (`cur`): index ranges that end at or before the two pointers `ri`, `ki` and
    inside the lists of lengths `N`, `M` -/
def CurOK (N M ri ki : Nat) : Cur → Prop
  | none => True
  | some (r0, r1, i0, i1) => r0 ≤ r1 ∧ r1 ≤ ri ∧ r1 < N ∧ i0 ≤ i1 ∧ i1 ≤ ki ∧ i1 < M

theorem classifyPair_some (c : CmpCtx) (rr : Iv) (rj : List Iv) (ir : Iv) (ij : List Iv) (pr : CPair)
    (hn : 0 < rj.length) (h : PairOK rj.length ij.length pr) : ∃ v, classifyPair c rr rj ir ij pr = some v := by
  cases pr with
  | retention rp ip => exact classifyRetention_some c rr rj ij rp ip hn h.1 h.2
  | extra rp ip =>
    obtain ⟨v, hv⟩ := classifyExtra_some c rr rj rp ip h.1
    simp [classifyPair, hv]
  | both r0 r1 i0 i1 =>
    obtain ⟨t, ht⟩ := classifyBothTy_some c rr rj ir ij r0 r1 i0 i1 h.1 h.2.1 h.2.2.1 h.2.2.2
    simp [classifyPair, ht]

theorem detectContradictions_some (c : CmpCtx) (rr : Iv) (rj : List Iv) (ir : Iv) (ij : List Iv) (hn : 0 < rj.length) :
    ∀ (prs : List CPair), (∀ pr ∈ prs, PairOK rj.length ij.length pr) →
      ∃ evs, detectContradictions c rr rj ir ij prs = some evs := by
  intro prs
  induction prs with
  | nil => intro _; exact ⟨[], rfl⟩
  | cons pr rest ih =>
    intro h
    obtain ⟨v, hv⟩ := classifyPair_some c rr rj ir ij pr hn (h pr (by simp))
    obtain ⟨es, hes⟩ := ih (fun q hq => h q (List.mem_cons_of_mem _ hq))
    simp only [detectContradictions, hv, hes]
    exact ⟨_, rfl⟩

theorem forall_mem_optional {α} {P : α → Prop} {c : Prop} [Decidable c] {a : α} (h : P a) :
    ∀ x ∈ (if c then [a] else []), P x := by
  split <;> simp [h]

theorem closeCur_ok {N M ri ki : Nat} : ∀ {cur : Cur}, CurOK N M ri ki cur → ∀ pr ∈ closeCur cur, PairOK N M pr
  | none, _ => nofun
  | some (_, _, _, _), h => List.forall_mem_singleton.mpr ⟨h.1, h.2.2.1, h.2.2.2.1, h.2.2.2.2.2⟩

theorem extendCur_ok {N M ri ki : Nat} (hr : ri < N) (hk : ki < M) :
    ∀ {cur : Cur}, CurOK N M ri ki cur → CurOK N M ri ki (extendCur cur ri ki)
  | none, _ => ⟨Nat.le_refl _, Nat.le_refl _, hr, Nat.le_refl _, Nat.le_refl _, hk⟩
  | some (_, _, _, _), ⟨a, b, _, d, e, _⟩ => ⟨by omega, Nat.le_refl _, hr, by omega, Nat.le_refl _, hk⟩

theorem CurOK_mono {N M ri ki ri' ki' : Nat} (h1 : ri ≤ ri') (h2 : ki ≤ ki') :
    ∀ {cur : Cur}, CurOK N M ri ki cur → CurOK N M ri' ki' cur
  | none, _ => trivial
  | some (_, _, _, _), ⟨a, b, c, d, e, f⟩ => ⟨a, by omega, c, d, by omega, f⟩

theorem trailRead_ok (ir : Iv) (ki M : Nat) (hk : ki ≤ M) :
    ∀ (rs : List Iv) (ri : Nat) (rv : Int) (N : Nat), ri + rs.length = N →
      (trailRead ir ki rs ri rv).1.length = rs.length ∧ ∀ pr ∈ (trailRead ir ki rs ri rv).2, PairOK N M pr
  | [], _, _, _, _ => ⟨rfl, nofun⟩
  | r :: rs, ri, rv, N, hN => by
    simp only [List.length_cons] at hN
    obtain ⟨h1, h2⟩ := trailRead_ok ir ki M hk rs (ri + 1) 0 N (by omega)
    simp only [trailRead]
    split
    · exact ⟨by simp [h1], List.forall_mem_append.mpr ⟨forall_mem_optional ⟨by omega, hk⟩, h2⟩⟩
    · simp

theorem trailIso_ok (rr : Iv) (ri N : Nat) (hr : ri ≤ N) :
    ∀ (ks : List Iv) (ki : Nat) (kv : Int) (M : Nat), ki + ks.length = M →
      (trailIso rr ri ks ki kv).1.length = ks.length ∧ ∀ pr ∈ (trailIso rr ri ks ki kv).2, PairOK N M pr
  | [], _, _, _, _ => ⟨rfl, nofun⟩
  | k :: ks, ki, kv, M, hM => by
    simp only [List.length_cons] at hM
    obtain ⟨h1, h2⟩ := trailIso_ok rr ri N hr ks (ki + 1) 0 M (by omega)
    simp only [trailIso]
    split
    · exact ⟨by simp [h1], List.forall_mem_append.mpr ⟨forall_mem_optional ⟨hr, by omega⟩, h2⟩⟩
    · simp

theorem sweep_ok (δ : Int) (rr ir : Iv) (N M : Nat) (rs : List Iv) (ri : Nat) (rv : Int) (ks : List Iv) (ki : Nat)
    (kv : Int) (cur : Cur) (hN : ri + rs.length = N) (hM : ki + ks.length = M) (hc : CurOK N M ri ki cur) :
    (sweep δ rr ir rs ri rv ks ki kv cur).readProf.length = rs.length ∧
    (sweep δ rr ir rs ri rv ks ki kv cur).isoProf.length = ks.length ∧
    ∀ pr ∈ (sweep δ rr ir rs ri rv ks ki kv cur).pairs, PairOK N M pr := by
  fun_induction sweep δ rr ir rs ri rv ks ki kv cur with
  | case1 ri rv ks ki kv cur =>
    obtain ⟨h1, h2⟩ := trailIso_ok rr ri N (by simp at hN; omega) ks ki kv M hM
    exact ⟨rfl, h1, List.forall_mem_append.mpr ⟨closeCur_ok hc, h2⟩⟩
  | case2 r rs ri rv ki kv cur =>
    obtain ⟨h1, h2⟩ := trailRead_ok ir ki M (by simp at hM; omega) (r :: rs) ri rv N hN
    exact ⟨h1, rfl, List.forall_mem_append.mpr ⟨closeCur_ok hc, h2⟩⟩
  | case3 r rs ri rv k ks ki kv cur heq o ih =>
    simp only [o, List.length_cons] at hN hM ⊢
    obtain ⟨h1, h2, h3⟩ := ih (by omega) (by omega) trivial
    exact ⟨by omega, by omega, List.forall_mem_append.mpr ⟨closeCur_ok hc, h3⟩⟩
  | case4 r rs ri rv k ks ki kv cur heq hov hlt o ih =>
    simp only [o, List.length_cons] at hN hM ⊢
    obtain ⟨h1, h2, h3⟩ := ih (by omega) (by simp only [List.length_cons]; omega)
      (CurOK_mono (by omega) (Nat.le_refl _) (extendCur_ok (by omega) (by omega) hc))
    exact ⟨by omega, by simpa using h2, h3⟩
  | case5 r rs ri rv k ks ki kv cur heq hov hlt o ih =>
    simp only [o, List.length_cons] at hN hM ⊢
    obtain ⟨h1, h2, h3⟩ := ih (by simp only [List.length_cons]; omega) (by omega)
      (CurOK_mono (Nat.le_refl _) (by omega) (extendCur_ok (by omega) (by omega) hc))
    exact ⟨by simpa using h1, by omega, h3⟩
  | case6 r rs ri rv k ks ki kv cur heq hov hl flag o ih =>
    simp only [o, flag, List.length_cons] at hN hM ⊢
    obtain ⟨h1, h2, h3⟩ := ih (by simp only [List.length_cons]; omega) (by omega) trivial
    exact ⟨by simpa using h1, by omega, List.forall_mem_append.mpr
      ⟨List.forall_mem_append.mpr ⟨closeCur_ok hc, forall_mem_optional ⟨by omega, by omega⟩⟩, h3⟩⟩
  | case7 r rs ri rv k ks ki kv cur heq hov hl flag o ih =>
    simp only [o, flag, List.length_cons] at hN hM ⊢
    obtain ⟨h1, h2, h3⟩ := ih (by omega) (by simp only [List.length_cons]; omega) trivial
    exact ⟨by omega, by simpa using h2, List.forall_mem_append.mpr
      ⟨List.forall_mem_append.mpr ⟨closeCur_ok hc, forall_mem_optional ⟨by omega, by omega⟩⟩, h3⟩⟩

theorem addExtraOut_some (c : CmpCtx) (prof : List Int) (rr : Iv) (rj : List Iv) (isoStart : Int)
    (hlen : prof.length = rj.length) (hn : 0 < rj.length) : ∃ evs, addExtraOut c prof rr rj isoStart = some evs := by
  obtain ⟨e0, he0⟩ := getExon_some rr rj 0 hn (by omega)
  obtain ⟨e1, he1⟩ := getExon_some rr rj rj.length hn (Nat.le_refl _)
  simp only [Int.natCast_zero] at he0
  have hl : ∃ v, leftFlank c prof rr rj = some v := by
    unfold leftFlank; rw [he0]; dsimp only; split <;> exact ⟨_, rfl⟩
  have hr : ∃ v, rightFlank c prof rr rj = some v := by
    unfold rightFlank; rw [hlen, he1]; dsimp only; split <;> exact ⟨_, rfl⟩
  have hs : ∃ v, extraSides prof rj isoStart = some v := by
    fun_cases extraSides prof rj isoStart
    case case1 => rw [List.head?_eq_getElem?, List.getElem?_eq_getElem hn]; exact ⟨_, rfl⟩
    case case2 => exact ⟨_, rfl⟩
    case case3 h =>
      have hp : prof ≠ [] := fun e => by rw [e] at hlen; simp at hlen; omega
      exact (h _ _ (List.head?_eq_some_head hp) (List.getLast?_eq_some_getLast hp)).elim
  obtain ⟨⟨el, er⟩, hs⟩ := hs
  obtain ⟨a, ha⟩ := hl
  obtain ⟨b, hb⟩ := hr
  unfold addExtraOut
  rw [hs]
  cases el <;> cases er <;> simp [ha, hb]

end IsoVerif.Lemmas.C01Cmp
