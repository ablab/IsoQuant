/-
Helper lemmas for C09 (core Lean only): `str.split` (`splitGo`), dict lookups, dictionaries built entry by entry
(`dictOf`: what both table readers compute), the entries `split_read_group_table` writes (`splitEntries`).
-/
import IsoVerif.Model.C09
import IsoVerif.Lemmas.AssocList

namespace IsoVerif.Lemmas.C09Split
open IsoVerif.Gen IsoVerif.Model.C09

theorem joinWith_cons_head (d : List Char) (c : Char) (a : List Char) (rest : List (List Char)) :
    joinWith d ((c :: a) :: rest) = c :: joinWith d (a :: rest) := by
  cases rest with
  | nil => rfl
  | cons b r => simp [joinWith]

theorem splitGo_join (d0 : Char) (dt s : List Char) :
    joinWith (d0 :: dt) ((splitGo d0 dt s).1 :: (splitGo d0 dt s).2) = s := by
  fun_induction splitGo d0 dt s with
  | case1 => rfl
  | case2 c s h r ih =>
    have hp : dt <+: s := List.isPrefixOf_iff_prefix.mp h.2
    have hs : dt ++ s.drop dt.length = s := List.prefix_iff_eq_append.mp hp
    simp only [joinWith]
    rw [ih, h.1]
    simp [hs]
  | case3 c s h r ih =>
    rw [joinWith_cons_head, ih]

theorem splitGo_last (d0 : Char) (dt s : List Char) :
    ¬ (d0 :: dt) <:+: ((splitGo d0 dt s).1 :: (splitGo d0 dt s).2).getLast (by simp) := by
  fun_induction splitGo d0 dt s with
  | case1 => simp
  | case2 c s h r ih =>
    simpa [List.getLast_cons] using ih
  | case3 c s h r ih =>
    have hj := splitGo_join d0 dt s
    generalize hsp : splitGo d0 dt s = q at ih hj
    have hq : r = q := hsp
    subst hq
    obtain ⟨a, rest⟩ := r
    simp only at ih hj ⊢
    by_cases h2 : rest = []
    · subst h2
      simp only [joinWith] at hj
      subst hj
      simp only [List.getLast_singleton] at ih ⊢
      rw [List.infix_cons_iff]
      rintro (hp | hi)
      · exact h ((cons_prefix_iff d0 c dt a).mp hp)
      · exact ih hi
    · rw [List.getLast_cons h2]
      rw [List.getLast_cons h2] at ih
      exact ih

theorem splitGo_single_iff (d0 : Char) (dt s : List Char) :
    (splitGo d0 dt s).2 = [] ↔ ¬ (d0 :: dt) <:+: s := by
  constructor
  · intro h2
    have hj := splitGo_join d0 dt s
    have hl := splitGo_last d0 dt s
    simp only [h2, List.getLast_singleton] at hl
    rw [h2] at hj
    simp only [joinWith] at hj
    rw [hj] at hl
    exact hl
  · intro hn
    by_cases h2 : (splitGo d0 dt s).2 = []
    · exact h2
    · exfalso
      apply hn
      have hj := splitGo_join d0 dt s
      obtain ⟨b, rest, hb⟩ := List.exists_cons_of_ne_nil h2
      rw [hb] at hj
      simp only [joinWith] at hj
      exact ⟨(splitGo d0 dt s).1, joinWith (d0 :: dt) (b :: rest), by simpa [List.append_assoc] using hj⟩

/-- **str.split, as used by `read_id:DELIM`**: for a non-empty delimiter the pieces joined by the delimiter are the
    string; there is one piece iff the delimiter does not occur; otherwise the string is `p ++ delim ++ last` and the
    last piece does not contain the delimiter -/
theorem pySplit_spec (d s : List Char) (hd : d ≠ []) :
    ∃ ps, pySplit d s = .ok ps ∧ ps ≠ [] ∧ joinWith d ps = s ∧
      (ps.length = 1 ↔ ¬ d <:+: s) ∧
      (∀ l, ps.getLast? = some l → ¬ d <:+: l ∧ (d <:+: s → ∃ p, s = p ++ d ++ l)) := by
  obtain ⟨d0, dt, rfl⟩ := List.exists_cons_of_ne_nil hd
  refine ⟨(splitGo d0 dt s).1 :: (splitGo d0 dt s).2, rfl, by simp, splitGo_join d0 dt s, ?_, ?_⟩
  · rw [← splitGo_single_iff]; simp
  · intro l hl
    rw [List.getLast?_eq_some_getLast (by simp)] at hl
    injection hl with hl
    refine ⟨by rw [← hl]; exact splitGo_last d0 dt s, ?_⟩
    intro hin
    have h2 : (splitGo d0 dt s).2 ≠ [] := fun e => ((splitGo_single_iff d0 dt s).mp e) hin
    have hj := splitGo_join d0 dt s
    have key : ∀ (a : List Char) (rest : List (List Char)) (hne : rest ≠ []),
        ∃ p, joinWith (d0 :: dt) (a :: rest) = p ++ (d0 :: dt) ++ (a :: rest).getLast (by simp) := by
      intro a rest
      induction rest generalizing a with
      | nil => intro hne; exact absurd rfl hne
      | cons b r ih =>
        intro _
        by_cases hr : r = []
        · subst hr; exact ⟨a, by simp [joinWith]⟩
        · obtain ⟨p, hp⟩ := ih b hr
          refine ⟨a ++ (d0 :: dt) ++ p, ?_⟩
          simp only [joinWith]
          rw [List.getLast_cons (List.cons_ne_nil b r), hp]
          simp [List.append_assoc]
    obtain ⟨p, hp⟩ := key _ _ h2
    exact ⟨p, by rw [← hj, hp, hl]⟩

theorem lookup_dictSet (m : List (String × String)) (k v k' : String) :
    (dictSet m k v).lookup k' = if k' = k then some v else m.lookup k' := by
  have : dictSet m k v = upsert (fun _ => v) v m k := by
    induction m with
    | nil => rfl
    | cons p t ih => simp only [dictSet, upsert, ih]
  rw [this, lookup_upsert_const]

def dictOf (es : List (String × String)) (m0 : List (String × String)) : List (String × String) :=
  es.foldl (fun m e => dictSet m e.1 e.2) m0

/-- later entries win -/
theorem lookup_dictOf : ∀ (es : List (String × String)) (m0 : List (String × String)) (r : String),
    (dictOf es m0).lookup r = match es.reverse.lookup r with
      | some g => some g
      | none => m0.lookup r
  | [], m0, r => by simp [dictOf]
  | e :: t, m0, r => by
    have ih := lookup_dictOf t (dictSet m0 e.1 e.2) r
    simp only [dictOf, List.foldl_cons] at ih ⊢
    rw [ih, lookup_dictSet, List.reverse_cons, lookup_append_single]
    cases t.reverse.lookup r with
    | some g => rfl
    | none => simp only; split <;> simp_all

theorem dictOf_value (es m0 : List (String × String)) (k v : String) (h : (dictOf es m0).lookup k = some v) :
    (k, v) ∈ es ∨ m0.lookup k = some v := by
  rw [lookup_dictOf] at h
  cases hl : es.reverse.lookup k with
  | none => rw [hl] at h; exact Or.inr h
  | some g =>
    rw [hl] at h
    injection h with h
    subst h
    exact Or.inl (List.mem_reverse.mp (mem_of_lookup hl))

/-- the (read id, group) entry a line of the table contributes; `none` for comments, blank and short lines -/
def rowEntry (rc gc : Nat) (delim : List Char) (line : List Char) : Option (String × String) :=
  let l := pyStrip line
  if l.head? = some '#' ∨ l = [] then none
  else
    match pySplit delim l with
    | .error _ => none
    | .ok cols =>
      if cols.length ≤ max rc gc then none
      else
        match cols[rc]?, cols[gc]? with
        | some r, some g => some (String.ofList r, String.ofList g)
        | _, _ => none

/-- with a non-empty column delimiter `load_table` never fails on a line, and adds exactly the line's entry -/
theorem loadLine_eq (rc gc : Nat) (delim : List Char) (hd : delim ≠ []) (m : List (String × String)) (line : List Char) :
    loadLine rc gc delim m line = .ok (match rowEntry rc gc delim line with
      | some e => dictSet m e.1 e.2
      | none => m) := by
  obtain ⟨d0, dt, rfl⟩ := List.exists_cons_of_ne_nil hd
  unfold loadLine rowEntry
  simp only [pySplit]
  split
  · rfl
  · split
    · rfl
    · rename_i hlen
      have h1 : rc < ((splitGo d0 dt (pyStrip line)).1 :: (splitGo d0 dt (pyStrip line)).2).length := by omega
      have h2 : gc < ((splitGo d0 dt (pyStrip line)).1 :: (splitGo d0 dt (pyStrip line)).2).length := by omega
      rw [List.getElem?_eq_getElem h1, List.getElem?_eq_getElem h2]

/-- `load_table` is the dictionary of the entries of its lines -/
theorem loadTable_eq_dictOf (rc gc : Nat) (delim : List Char) (hd : delim ≠ []) :
    ∀ (lines : List (List Char)) (m0 : List (String × String)),
      loadTable rc gc delim lines m0 = .ok (dictOf (lines.filterMap (rowEntry rc gc delim)) m0)
  | [], _ => rfl
  | l :: ls, m0 => by
    simp only [loadTable, loadLine_eq rc gc delim hd m0 l, List.filterMap_cons]
    rw [loadTable_eq_dictOf rc gc delim hd ls]
    cases rowEntry rc gc delim l <;> rfl

theorem splitGo_no_delim (d0 : Char) : ∀ (s : List Char), d0 ∉ s → splitGo d0 [] s = (s, [])
  | [], _ => by simp [splitGo]
  | c :: s, h => by
    have hc : c ≠ d0 := fun e => h (by rw [e]; exact List.mem_cons_self)
    have ih := splitGo_no_delim d0 s (fun hm => h (List.mem_cons_of_mem _ hm))
    rw [splitGo]
    simp [hc, ih]

theorem splitGo_one (d0 : Char) (g : List Char) (hg : d0 ∉ g) :
    ∀ (r : List Char), d0 ∉ r → splitGo d0 [] (r ++ d0 :: g) = (r, [g])
  | [], _ => by
    rw [List.nil_append, splitGo]
    simp [splitGo_no_delim d0 g hg]
  | c :: r, h => by
    have hc : c ≠ d0 := fun e => h (by rw [e]; exact List.mem_cons_self)
    have ih := splitGo_one d0 g hg r (fun hm => h (List.mem_cons_of_mem _ hm))
    rw [List.cons_append, splitGo]
    simp [hc, ih]

/-- a field that survives `line.strip()` at the ends of the line and `split('\t')` -/
def CleanField (s : String) : Prop :=
  s.toList ≠ [] ∧ '\t' ∉ s.toList ∧ (∀ c, s.toList.head? = some c → isPySpace c = false) ∧
  (∀ c, s.toList.getLast? = some c → isPySpace c = false)

theorem pyStrip_clean (l : List Char) (h1 : ∀ c, l.head? = some c → isPySpace c = false)
    (h2 : ∀ c, l.getLast? = some c → isPySpace c = false) : pyStrip l = l := by
  unfold pyStrip
  rw [dropWhile_head_false isPySpace l h1]
  rw [dropWhile_head_false isPySpace l.reverse (by intro c hc; rw [List.head?_reverse] at hc; exact h2 c hc)]
  simp

theorem rowEntry_clean_aux (r g : List Char) (hr : r ≠ []) (hg : g ≠ []) (htr : '\t' ∉ r) (htg : '\t' ∉ g)
    (hh : ∀ c, r.head? = some c → isPySpace c = false) (hl : ∀ c, g.getLast? = some c → isPySpace c = false)
    (hhash : r.head? ≠ some '#') :
    pyStrip (r ++ '\t' :: g) = r ++ '\t' :: g ∧ (r ++ '\t' :: g).head? ≠ some '#' ∧ (r ++ '\t' :: g) ≠ [] ∧
    pySplit ['\t'] (r ++ '\t' :: g) = .ok [r, g] := by
  obtain ⟨c0, r', rfl⟩ := List.exists_cons_of_ne_nil hr
  refine ⟨?_, ?_, by simp, ?_⟩
  · apply pyStrip_clean
    · intro c hc; exact hh c (by simpa using hc)
    · intro c hc
      apply hl c
      obtain ⟨gi, gl, hgl⟩ : ∃ gi gl, g = gi ++ [gl] := ⟨g.dropLast, g.getLast hg, (List.dropLast_concat_getLast hg).symm⟩
      subst hgl
      have e : (c0 :: r' ++ '\t' :: (gi ++ [gl])) = ((c0 :: r' ++ '\t' :: gi) ++ [gl]) := by simp
      rw [e, List.getLast?_concat] at hc
      simpa using hc
  · simpa using hhash
  · simp only [pySplit]
    rw [splitGo_one '\t' g htg (c0 :: r') htr]

/-- a read id whose table line is read back: a clean field that does not make the line a comment (`#`) -/
def CleanRead (s : String) : Prop := CleanField s ∧ s.toList.head? ≠ some '#'

theorem rowEntry_clean (r g : String) (hr : CleanRead r) (hg : CleanField g) :
    rowEntry 0 1 ['\t'] (r.toList ++ ['\t'] ++ g.toList) = some (r, g) := by
  obtain ⟨⟨hr1, hr2, hr3, _⟩, hr5⟩ := hr
  obtain ⟨hg1, hg2, _, hg4⟩ := hg
  obtain ⟨h1, h2, h3, h4⟩ := rowEntry_clean_aux r.toList g.toList hr1 hg1 hr2 hg2 hr3 hg4 hr5
  have e : r.toList ++ ['\t'] ++ g.toList = r.toList ++ '\t' :: g.toList := by simp
  unfold rowEntry
  simp only [e, h1, h4]
  rw [if_neg (by rintro (h | h); exact h2 h; exact h3 h)]
  simp [String.ofList_toList]

/-- the (read, group) pairs written to the file of chromosome `chr` -/
def splitEntries (m : List (String × String)) (chr : String) :
    List (String × Option String) → List String → List (String × String)
  | [], _ => []
  | (rid, c) :: as, seen =>
    if c = some chr then
      match m.lookup rid with
      | some g =>
        if seen.contains rid then splitEntries m chr as seen
        else (rid, g) :: splitEntries m chr as (rid :: seen)
      | none => splitEntries m chr as seen
    else splitEntries m chr as seen

/-- the lines `split_read_group_table` writes are exactly the (read, group) entries, rendered `read\tgroup` -/
theorem splitTableLines_eq (m : List (String × String)) (chr : String) :
    ∀ (alns : List (String × Option String)) (seen : List String),
      splitTableLines m chr alns seen = (splitEntries m chr alns seen).map (fun e => e.1.toList ++ ['\t'] ++ e.2.toList)
  | [], _ => rfl
  | (rid, c) :: as, seen => by
    have ih := fun seen' => splitTableLines_eq m chr as seen'
    simp only [splitTableLines, splitEntries]
    by_cases hc : c = some chr
    · simp only [hc, if_true]
      cases m.lookup rid with
      | none => exact ih seen
      | some g =>
        simp only
        by_cases hs : seen.contains rid = true
        · simp only [hs, if_true]; exact ih seen
        · simp only [hs, Bool.false_eq_true, if_false, List.map_cons, ih]
    · simp only [hc, if_false]; exact ih seen

theorem mem_splitEntries (m : List (String × String)) (chr : String) :
    ∀ (alns : List (String × Option String)) (seen : List String) (r g : String),
      (r, g) ∈ splitEntries m chr alns seen ↔ (r ∉ seen ∧ (r, some chr) ∈ alns ∧ m.lookup r = some g)
  | [], _, _, _ => by simp [splitEntries]
  | (rid, c) :: as, seen, r, g => by
    have ih := fun seen' => mem_splitEntries m chr as seen' r g
    simp only [splitEntries]
    by_cases hc : c = some chr
    · subst hc
      simp only [if_true]
      cases hl : m.lookup rid with
      | none =>
        simp only [ih, List.mem_cons, Prod.mk.injEq]
        constructor
        · rintro ⟨h1, h2, h3⟩; exact ⟨h1, Or.inr h2, h3⟩
        · rintro ⟨h1, h2 | h2, h3⟩
          · rw [h2.1, hl] at h3; cases h3
          · exact ⟨h1, h2, h3⟩
      | some g0 =>
        simp only
        by_cases hs : seen.contains rid = true
        · simp only [hs, if_true, ih, List.mem_cons, Prod.mk.injEq]
          have hs' : rid ∈ seen := by simpa using hs
          constructor
          · rintro ⟨h1, h2, h3⟩; exact ⟨h1, Or.inr h2, h3⟩
          · rintro ⟨h1, h2 | h2, h3⟩
            · rw [h2.1] at h1; exact absurd hs' h1
            · exact ⟨h1, h2, h3⟩
        · have hs' : rid ∉ seen := by simpa using hs
          simp only [hs, Bool.false_eq_true, if_false, List.mem_cons, Prod.mk.injEq, ih]
          constructor
          · rintro (⟨h1, h2⟩ | ⟨h1, h2, h3⟩)
            · subst h1; subst h2; exact ⟨hs', Or.inl (by simp), hl⟩
            · exact ⟨fun hm => h1 (Or.inr hm), Or.inr h2, h3⟩
          · rintro ⟨h1, h2 | h2, h3⟩
            · left; rw [h2.1, hl] at h3; exact ⟨h2.1, (Option.some.inj h3).symm⟩
            · by_cases hr : r = rid
              · left; subst hr; rw [hl] at h3; exact ⟨rfl, (Option.some.inj h3).symm⟩
              · right; exact ⟨by rintro (h | h); exact hr h; exact h1 h, h2, h3⟩
    · simp only [hc, if_false, ih, List.mem_cons, Prod.mk.injEq]
      constructor
      · rintro ⟨h1, h2, h3⟩; exact ⟨h1, Or.inr h2, h3⟩
      · rintro ⟨h1, h2 | h2, h3⟩
        · exact absurd h2.2.symm hc
        · exact ⟨h1, h2, h3⟩

/-- read with the user-table parser, the written lines give the entries back when read ids and groups are clean -/
theorem splitTable_entries (m : List (String × String)) (chr : String) (alns : List (String × Option String))
    (h : ∀ rid c g, (rid, c) ∈ alns → m.lookup rid = some g → CleanRead rid ∧ CleanField g) :
    (splitTableLines m chr alns []).filterMap (rowEntry 0 1 ['\t']) = splitEntries m chr alns [] := by
  rw [splitTableLines_eq]
  refine filterMap_of_some _ _ _ fun e he => ?_
  obtain ⟨_, h1, h2⟩ := (mem_splitEntries m chr alns [] e.1 e.2).mp he
  obtain ⟨hr, hg⟩ := h e.1 (some chr) e.2 h1 h2
  exact rowEntry_clean e.1 e.2 hr hg

theorem splitEntries_keys_nodup (m : List (String × String)) (chr : String) :
    ∀ (alns : List (String × Option String)) (seen : List String),
      ((splitEntries m chr alns seen).map Prod.fst).Nodup
  | [], _ => by simp [splitEntries]
  | (rid, c) :: as, seen => by
    have ih := fun seen' => splitEntries_keys_nodup m chr as seen'
    simp only [splitEntries]
    split
    · split
      · rename_i g hg
        split
        · exact ih seen
        · simp only [List.map_cons, List.nodup_cons]
          refine ⟨?_, ih _⟩
          intro hm
          obtain ⟨p, hp, hp1⟩ := List.mem_map.mp hm
          obtain ⟨r', g'⟩ := p
          simp only at hp1
          subst hp1
          exact ((mem_splitEntries m chr as (r' :: seen) r' g').mp hp).1 List.mem_cons_self
      · exact ih seen
    · exact ih seen

/-- the entries written for chromosome `chr`, read as a dictionary (later lines win), agree with the table on every read
    that has a record on `chr` -/
theorem lookup_splitEntries (m : List (String × String)) (chr : String) (alns : List (String × Option String))
    (rid : String) (hrid : (rid, some chr) ∈ alns) :
    ((splitEntries m chr alns []).reverse).lookup rid = m.lookup rid := by
  have hnd : (((splitEntries m chr alns []).reverse).map Prod.fst).Nodup := by
    rw [List.map_reverse]; exact (List.reverse_perm _).nodup_iff.mpr (splitEntries_keys_nodup m chr alns [])
  cases hg : m.lookup rid with
  | some g =>
    apply (lookup_iff_mem_of_nodup hnd rid g).mpr
    rw [List.mem_reverse]
    exact (mem_splitEntries m chr alns [] rid g).mpr ⟨by simp, hrid, hg⟩
  | none =>
    cases hx : ((splitEntries m chr alns []).reverse).lookup rid with
    | none => rfl
    | some g' =>
      have := ((mem_splitEntries m chr alns [] rid g').mp (List.mem_reverse.mp (mem_of_lookup hx))).2.2
      rw [hg] at this; cases this

end IsoVerif.Lemmas.C09Split
