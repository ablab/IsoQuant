/-
Helper lemmas for C16: `str.find('AA')` declaratively, the bounds of the reference projection used by `find_polya_tail` /
`find_polyt_head`, Python slices (`slice_…`), the window scan and the scanned windows on a clean end.
-/
import IsoVerif.Model.TailSpec
import IsoVerif.Lemmas.MoveRef
import IsoVerif.Lemmas.PolyAFinder

namespace IsoVerif.Lemmas.C16
open IsoVerif.Gen IsoVerif.Model IsoVerif.Model.C16

/-- `str.find('AA')`, declaratively -/
theorem findAA_spec : ∀ (l : List Bool),
    match findAA l with
    | some k => l[k]? = some true ∧ l[k + 1]? = some true ∧
        ∀ j < k, ¬ (l[j]? = some true ∧ l[j + 1]? = some true)
    | none => ∀ j, ¬ (l[j]? = some true ∧ l[j + 1]? = some true) := by
  intro l
  induction l with
  | nil => simp [findAA]
  | cons a rest ih =>
    cases rest with
    | nil =>
      simp only [findAA]
      intro j ⟨_, h2⟩
      simp at h2
    | cons b rest =>
      by_cases hab : (a && b) = true
      · simp only [findAA, hab, if_true]
        simp only [Bool.and_eq_true] at hab
        refine ⟨by simp [hab.1], by simp [hab.2], fun j hj => by omega⟩
      · simp only [findAA, hab]
        cases hr : findAA (b :: rest) with
        | some k =>
          rw [hr] at ih
          obtain ⟨h1, h2, h3⟩ := ih
          simp only [Option.map_some]
          refine ⟨by simpa using h1, by simpa using h2, ?_⟩
          intro j hj
          cases j with
          | zero =>
            intro ⟨x, y⟩
            simp at x y
            exact hab (by simp [x, y])
          | succ j => simpa using h3 j (by omega)
        | none =>
          rw [hr] at ih
          simp only [Option.map_none]
          intro j
          cases j with
          | zero =>
            intro ⟨x, y⟩
            simp at x y
            exact hab (by simp [x, y])
          | succ j => simpa using ih j

theorem NonNeg_walkCore {cigar : List CigarOp} (h : NonNeg cigar) (fwd : Bool) : NonNeg (walkCore cigar fwd) := by
  intro o ho
  unfold walkCore at ho
  have h1 := (List.takeWhile_sublist _).subset ho
  have h2 := List.mem_of_mem_drop h1
  cases fwd
  · simp at h2; exact h o h2
  · simp at h2; exact h o h2

theorem refLen_walkCore_le {cigar : List CigarOp} (h : NonNeg cigar) (fwd : Bool) :
    refLen (walkCore cigar fwd) ≤ refLen cigar := by
  unfold walkCore
  cases fwd
  · simp only [Bool.false_eq_true, if_false]
    have h1 := NonNeg_reverse h
    have h2 : NonNeg (cigar.reverse.drop (leadingClips cigar.reverse)) := fun o ho => h1 o (List.mem_of_mem_drop ho)
    calc _ ≤ refLen (cigar.reverse.drop (leadingClips cigar.reverse)) := refLen_takeWhile_le _ h2
      _ ≤ refLen cigar.reverse := refLen_drop_le _ h1
      _ = refLen cigar := refLen_reverse _
  · simp only [if_true]
    have h2 : NonNeg (cigar.drop (leadingClips cigar)) := fun o ho => h o (List.mem_of_mem_drop ho)
    calc _ ≤ refLen (cigar.drop (leadingClips cigar)) := refLen_takeWhile_le _ h2
      _ ≤ refLen cigar := refLen_drop_le _ h

/-- the walk starts on a reference-consuming operation of positive length (for a backward walk: the alignment ends,
    clips aside, with `M = X D N` — every aligner's output; excluded: a CIGAR whose last non-clip operation is `I`) -/
def WalkOnRef (cigar : List CigarOp) (fwd : Bool) : Prop :=
  ∃ o rest, walkCore cigar fwd = o :: rest ∧ consumesRef o.1 = true ∧ 0 < o.2

theorem refColsUpTo_pos_of_head (o : CigarOp) (rest : List CigarOp) (q : Nat) (hr : consumesRef o.1 = true)
    (hp : 0 < o.2) : 1 ≤ refColsUpTo (expand (o :: rest)) q := by
  rw [expand_cons, hr]
  obtain ⟨m, hm⟩ : ∃ m, o.2.toNat = m + 1 := ⟨o.2.toNat - 1, by omega⟩
  rw [hm, List.replicate_succ, List.cons_append]
  cases consumesQuery o.1 with
  | false => simp only [refColsUpTo, Bool.toNat_true]; omega
  | true =>
    cases q with
    | zero => simp [refColsUpTo]
    | succ q => simp only [refColsUpTo, Bool.toNat_true]; omega

/-- what the repaired `move_ref_coord_alogn_alignment` returns for a non-zero shift: the base-by-base projection, within
    `[-1, reference length - 1]`, and non-negative when the walk starts on the reference -/
theorem moveRefCoordFix_some (cigar : List CigarOp) (shift k : Int) (hnn : NonNeg cigar) (h0 : shift ≠ 0)
    (h : moveRefCoordFix cigar shift = some k) :
    ProjectsTo (expand (walkCore cigar (decide (shift > 0)))) shift.natAbs k ∧ -1 ≤ k ∧ k ≤ refLen cigar - 1 ∧
    (WalkOnRef cigar (decide (shift > 0)) → 0 ≤ k) := by
  have hne : cigar ≠ [] := fun hc => by simp [moveRefCoordFix, h0, hc] at h
  rw [moveRefCoordFix_eq cigar shift hnn h0 hne] at h
  have hk := (Option.some.inj h).symm
  subst hk
  have h1 := refColsUpTo_le_rCount (expand (walkCore cigar (decide (shift > 0)))) shift.natAbs
  have h2 := rCount_expand (NonNeg_walkCore hnn (decide (shift > 0)))
  have h3 := refLen_walkCore_le hnn (decide (shift > 0))
  refine ⟨projectsTo_refColsUpTo _ _, by omega, by omega, ?_⟩
  rintro ⟨o, rest, hc, hr, hp⟩
  have := refColsUpTo_pos_of_head o rest shift.natAbs hr hp
  rw [hc]; omega

/-- the same for a successful call before the `P` repair: where it answers it is the repaired one -/
theorem moveRefCoord_some (cigar : List CigarOp) (shift k : Int) (hnn : NonNeg cigar) (h0 : shift ≠ 0)
    (h : moveRefCoord cigar shift = some k) :
    ProjectsTo (expand (walkCore cigar (decide (shift > 0)))) shift.natAbs k ∧ -1 ≤ k ∧ k ≤ refLen cigar - 1 ∧
    (WalkOnRef cigar (decide (shift > 0)) → 0 ≤ k) := by
  have hne : cigar ≠ [] := fun hc => by simp [moveRefCoord, h0, hc] at h
  rw [moveRefCoord_eq_guard cigar shift hnn h0 hne] at h
  split at h
  · cases h
  · exact moveRefCoordFix_some cigar shift k hnn h0 h

/-! ### Python slices -/

theorem slice_length_le {α} (l : List α) (a b : Int) : (slice l a b).length ≤ b.toNat - a.toNat := by
  simp [slice]; omega

theorem slice_map {α β} (f : α → β) (l : List α) (a b : Int) : (slice l a b).map f = slice (l.map f) a b := by
  simp [slice, List.map_take, List.map_drop]

/-- Python slice with non-negative bounds: element `j` of `seq[a:b]` is `seq[a+j]` as long as `a + j < b` -/
theorem slice_getElem? {α} (l : List α) (a b : Int) (j : Nat) :
    (slice l a b)[j]? = if a.toNat + j < b.toNat then l[a.toNat + j]? else none := by
  unfold slice
  by_cases h : j < b.toNat - a.toNat
  · rw [List.getElem?_take_of_lt h, List.getElem?_drop]
    have : a.toNat + j < b.toNat := by omega
    simp [this]
  · have h1 : ¬ (a.toNat + j < b.toNat) := by omega
    rw [if_neg h1, List.getElem?_eq_none]
    rw [List.length_take]; omega

theorem slice_length {α} (l : List α) (a b : Int) (hb : b ≤ l.length) :
    (slice l a b).length = b.toNat - a.toNat := by
  unfold slice
  rw [List.length_take, List.length_drop]; omega

theorem slice_length_int {α} (l : List α) (a b : Int) (ha : 0 ≤ a) (hab : a ≤ b) (hb : b ≤ l.length) :
    ((slice l a b).length : Int) = b - a := by
  rw [slice_length l a b hb]; omega

theorem slice_reverse_getElem? {α} (l : List α) (a b : Int) (hb : b ≤ l.length) (j : Nat) :
    (slice l a b).reverse[j]? = if j < b.toNat - a.toNat then l[b.toNat - 1 - j]? else none := by
  have hlen := slice_length l a b hb
  by_cases hj : j < b.toNat - a.toNat
  · rw [List.getElem?_reverse (by rw [hlen]; exact hj), hlen, slice_getElem?, if_pos hj, if_pos (by omega)]
    congr 1; omega
  · rw [if_neg hj, List.getElem?_eq_none (by rw [List.length_reverse, hlen]; omega)]

theorem softClipHead_nonneg {cigar : List CigarOp} (h : NonNeg cigar) : 0 ≤ softClipHead cigar := by
  unfold softClipHead
  split
  · rename_i a b rest
    have ha := h a (by simp)
    have hb := h b (by simp)
    split
    · exact hb
    · split
      · exact ha
      · omega
  · rename_i a
    have ha := h a (by simp)
    split
    · exact ha
    · omega
  · omega

theorem referenceEnd_ge (s : Int) (cigar : List CigarOp) (h : NonNeg cigar) :
    s + refLen cigar ≤ referenceEnd s cigar ∧ s + 1 ≤ referenceEnd s cigar := by
  have := refLen_nonneg h
  unfold referenceEnd
  split <;> omega

theorem softClipHead_reverse (cigar : List CigarOp) : softClipHead cigar.reverse = softClipTail cigar := by
  unfold softClipHead softClipTail
  cases cigar.reverse with
  | nil => rfl
  | cons a t => cases t <;> rfl

theorem softClipTail_nonneg {cigar : List CigarOp} (h : NonNeg cigar) : 0 ≤ softClipTail cigar := by
  rw [← softClipHead_reverse]; exact softClipHead_nonneg (NonNeg_reverse h)

theorem walkCore_reverse (cigar : List CigarOp) : walkCore cigar.reverse true = walkCore cigar false := by
  simp [walkCore]

theorem moveRefCoord_in_first_match (cigar : List CigarOp) (fwd : Bool) (k0 : CigarEvent) (l : Int)
    (rest : List CigarOp) (hc : walkCore cigar fwd = (k0, l) :: rest) (hk : isAligned k0 = true) (j : Int)
    (hj0 : 0 < j) (hjl : j < l) : moveRefCoord cigar (if fwd then j else -j) = some j := by
  have hne : cigar ≠ [] := by
    intro h; subst h; cases fwd <;> simp [walkCore, leadingClips] at hc
  have hs0 : (if fwd then j else -j) ≠ 0 := by cases fwd <;> simp <;> omega
  have hdir : ((if fwd then j else -j) > 0) ↔ fwd = true := by cases fwd <;> simp <;> omega
  unfold moveRefCoord
  simp only [hs0, hne, if_false]
  have hwalk : (if (if fwd then j else -j) > 0 then cigar else cigar.reverse) = (if fwd then cigar else cigar.reverse) := by
    cases fwd <;> simp <;> omega
  have habs : (if (if fwd then j else -j) > 0 then (if fwd then j else -j) else -(if fwd then j else -j)) = j := by
    cases fwd <;> simp <;> omega
  rw [hwalk, habs]
  unfold walkCore at hc
  simp only at hc
  generalize hw : (if fwd then cigar else cigar.reverse) = walk at hc ⊢
  have hcons : ∃ rest', walk.drop (leadingClips walk) = (k0, l) :: rest' := by
    cases hd : walk.drop (leadingClips walk) with
    | nil => rw [hd] at hc; simp at hc
    | cons a t =>
      rw [hd, List.takeWhile_cons] at hc
      split at hc
      · simp only [List.cons.injEq] at hc; exact ⟨t, by rw [hc.1]⟩
      · cases hc
  obtain ⟨rest', hr'⟩ := hcons
  rw [hr', moveRefLoop_aln _ _ _ _ _ _ (by omega) hk, if_neg (by omega), moveRefLoop_done _ _ _ _ (by omega)]
  simp

/-! ### a clean end: `j` non-A bases followed by `k` A's -/

theorem findAA_clean : ∀ (j k : Nat), 2 ≤ k → findAA (List.replicate j false ++ List.replicate k true) = some j := by
  intro j
  induction j with
  | zero =>
    intro k hk
    obtain ⟨k', rfl⟩ : ∃ k', k = k' + 2 := ⟨k - 2, by omega⟩
    simp [List.replicate_succ, findAA]
  | succ j ih =>
    intro k hk
    have := ih k hk
    cases j with
    | zero =>
      obtain ⟨k', rfl⟩ : ∃ k', k = k' + 2 := ⟨k - 2, by omega⟩
      simp [List.replicate_succ, findAA]
    | succ j =>
      simp only [List.replicate_succ, List.cons_append] at this ⊢
      simp [findAA, this]

theorem countTrue_replicate (n : Nat) (b : Bool) : countTrue (List.replicate n b) = if b then n else 0 := by
  cases b <;> simp [countTrue, List.countP_replicate]

/-- the scan on a clean end: the first window already qualifies and the answer moves to the first A -/
theorem findPolya_clean (w c j k : Nat) (hj : j + c ≤ w) (hk : w < j + k) (hk2 : 2 ≤ k) :
    findPolya w c (List.replicate j false ++ List.replicate k true) = some j := by
  have h := findPolya_window w c (List.replicate j false ++ List.replicate k true)
  have hw0 : c ≤ winCount (List.replicate j false ++ List.replicate k true) 0 w := by
    simp only [winCount, List.drop_zero]
    rw [List.take_append, List.take_replicate, List.take_replicate, countTrue_append, countTrue_replicate,
      countTrue_replicate]
    simp only [List.length_replicate, Bool.false_eq_true, if_false, if_true]
    omega
  cases hf : findPolya w c (List.replicate j false ++ List.replicate k true) with
  | none =>
    rw [hf] at h
    have := h 0 (by simp; omega)
    omega
  | some p =>
    rw [hf] at h
    obtain ⟨i, ⟨_, _, h3⟩, h4⟩ := h
    have hi : i = 0 := by
      cases i with
      | zero => rfl
      | succ i => have := h3 0 (by omega); omega
    subst hi
    rw [h4, List.drop_zero, findAA_clean j k hk2]
    simp

theorem take_two_rep (k m : Nat) (hm : 2 ≤ m) :
    ([false, false] ++ List.replicate k true).take m = List.replicate 2 false ++ List.replicate (min k (m - 2)) true := by
  obtain ⟨m', rfl⟩ : ∃ m', m = m' + 2 := ⟨m - 2, by omega⟩
  simp [List.take_replicate, List.replicate_succ]
  exact Nat.min_comm _ _

/-- the polyA window (external finder) on a clean end -/
theorem sliceA_clean (body : List Bool) (k w : Nat) :
    slice (body ++ [false, false, false] ++ List.replicate k true)
      (max 0 (((body.length + 3 + k : Nat) : Int) - k - 2))
      (min ((body.length + 3 + k : Nat) : Int) (((body.length + 3 + k : Nat) : Int) - k + 2 * w + 1))
    = List.replicate 2 false ++ List.replicate (min k (2 * w + 1)) true := by
  have ha : (max 0 (((body.length + 3 + k : Nat) : Int) - k - 2)).toNat = body.length + 1 := by omega
  have hb : (min ((body.length + 3 + k : Nat) : Int) (((body.length + 3 + k : Nat) : Int) - k + 2 * w + 1)).toNat
      - (body.length + 1) = min (k + 2) (2 * w + 3) := by omega
  unfold slice
  rw [ha, hb]
  have hd : (body ++ [false, false, false] ++ List.replicate k true).drop (body.length + 1)
      = [false, false] ++ List.replicate k true := by
    rw [List.append_assoc, List.drop_append]
    simp
  rw [hd, take_two_rep k _ (by omega)]
  congr 2; omega

/-- the polyT window of the mirror image on a clean end -/
theorem sliceT_clean (body : List Bool) (k w : Nat) :
    (slice (body ++ [false, false, false] ++ List.replicate k true).reverse
      (max 0 ((k : Int) - 2 * w))
      (min ((body.length + 3 + k : Nat) : Int) ((k : Int) + 2 + 1))).reverse
    = List.replicate 3 false ++ List.replicate (min k (2 * w)) true := by
  have hb : (min ((body.length + 3 + k : Nat) : Int) ((k : Int) + 2 + 1)).toNat = k + 3 := by omega
  unfold slice
  rw [hb]
  generalize ha : (max 0 ((k : Int) - 2 * w)).toNat = a
  have hak : a ≤ k := by omega
  have hr : (body ++ [false, false, false] ++ List.replicate k true).reverse
      = List.replicate k true ++ ([false, false, false] ++ body.reverse) := by simp
  rw [hr, List.drop_append_of_le_length (by simpa using hak), List.drop_replicate, List.take_append]
  have h3 : k + 3 - a - (k - a) = 3 := by omega
  have h4 : min (k + 3 - a) (k - a) = min k (2 * w) := by omega
  simp [h3, h4, List.replicate_succ]

end IsoVerif.Lemmas.C16
