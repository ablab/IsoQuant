/-
Helper lemmas for C16: the cut of a CIGAR at an arbitrary separator predicate (`cutsAuxP`) lists exactly the maximal
separator-free runs, in CIGAR order, each once; `cutsAux` (Model/Cigar.lean: cut at `N`/`S`, the exons) and `cutsNAux`
(Model/TailSpec.lean: cut at `N` only, used by the specification of `concat_gapless_blocks`) are the instances
"separator = `N` or `S`" and "separator = `N`".
-/
import IsoVerif.Model.TailSpec
import IsoVerif.Lemmas.Cigar

namespace IsoVerif.Lemmas.C16
open IsoVerif.Gen IsoVerif.Model IsoVerif.Model.C16

/-- `cutsAux` / `cutsNAux` with the separator test as a parameter -/
def cutsAuxP (sep : CigarEvent → Bool) (pre seg : List CigarOp) : List CigarOp → List (List CigarOp × List CigarOp)
  | [] => [(pre, seg)]
  | op :: rest =>
    if sep op.1 then (pre, seg) :: cutsAuxP sep (pre ++ seg ++ [op]) [] rest
    else cutsAuxP sep pre (seg ++ [op]) rest

def isN (k : CigarEvent) : Bool := k == CigarEvent.skipped

theorem cutsNAux_eq (pre seg rest : List CigarOp) : cutsNAux pre seg rest = cutsAuxP isN pre seg rest := by
  induction rest generalizing pre seg with
  | nil => rfl
  | cons op rest ih =>
    by_cases h : op.1 = CigarEvent.skipped
    · simp [cutsNAux, cutsAuxP, isN, h, ih]
    · simp [cutsNAux, cutsAuxP, isN, h, ih]

theorem cutsAux_eq (pre seg rest : List CigarOp) : cutsAux pre seg rest = cutsAuxP isSep pre seg rest := by
  induction rest generalizing pre seg with
  | nil => rfl
  | cons op rest ih => simp only [cutsAux, cutsAuxP, ih]

/-- no operation of the run is a separator -/
def FreeOf (sep : CigarEvent → Bool) (seg : List CigarOp) : Prop := ∀ o ∈ seg, sep o.1 = false
/-- `pre` is empty or ends with a separator -/
def EndsWith (sep : CigarEvent → Bool) (pre : List CigarOp) : Prop := ∀ o, pre.getLast? = some o → sep o.1 = true
/-- `post` is empty or starts with a separator -/
def StartsWith (sep : CigarEvent → Bool) (post : List CigarOp) : Prop := ∀ o, post.head? = some o → sep o.1 = true

theorem free_split_unique (sep : CigarEvent → Bool) : ∀ (a c b d : List CigarOp) (x : CigarOp),
    a ++ x :: b = c ++ d → FreeOf sep a → FreeOf sep c → sep x.1 = true → StartsWith sep d → a = c ∧ d = x :: b := by
  intro a
  induction a with
  | nil =>
    intro c b d x h _ hc hx hd
    cases c with
    | nil => simp at h; exact ⟨rfl, h.symm⟩
    | cons y c' =>
      simp at h
      have := hc y (by simp)
      rw [← h.1] at this; rw [hx] at this; cases this
  | cons a0 a' ih =>
    intro c b d x h ha hc hx hd
    cases c with
    | nil =>
      simp at h
      have h1 := hd a0 (by rw [← h]; rfl)
      have h2 := ha a0 (by simp)
      rw [h1] at h2; cases h2
    | cons c0 c' =>
      simp at h
      obtain ⟨h0, h1⟩ := h
      subst h0
      have := ih c' b d x h1 (fun o ho => ha o (by simp [ho])) (fun o ho => hc o (by simp [ho])) hx hd
      exact ⟨by rw [this.1], this.2⟩

theorem FreeOf_snoc {sep : CigarEvent → Bool} {S : List CigarOp} {op : CigarOp} (hS : FreeOf sep S)
    (ho : sep op.1 = false) : FreeOf sep (S ++ [op]) := by
  intro o hm
  rcases List.mem_append.1 hm with h1 | h1
  · exact hS o h1
  · simp at h1; subst h1; exact ho

theorem cutsAuxP_sound (sep : CigarEvent → Bool) : ∀ (rest P S : List CigarOp), FreeOf sep S → EndsWith sep P →
    ∀ pre seg, (pre, seg) ∈ cutsAuxP sep P S rest →
      ∃ post, P ++ S ++ rest = pre ++ seg ++ post ∧ FreeOf sep seg ∧ EndsWith sep pre ∧ StartsWith sep post := by
  intro rest
  induction rest with
  | nil =>
    intro P S hS hP pre seg hm
    simp [cutsAuxP] at hm
    obtain ⟨rfl, rfl⟩ := hm
    exact ⟨[], by simp, hS, hP, by intro o ho; cases ho⟩
  | cons op rest ih =>
    intro P S hS hP pre seg hm
    cases ho : sep op.1 with
    | true =>
      simp only [cutsAuxP, ho, if_true, List.mem_cons] at hm
      rcases hm with h | h
      · obtain ⟨rfl, rfl⟩ := Prod.mk.inj h
        exact ⟨op :: rest, rfl, hS, hP, by intro o h'; simp at h'; subst h'; exact ho⟩
      · obtain ⟨post, h1, h2, h3, h4⟩ := ih (P ++ S ++ [op]) [] (by intro o hm; cases hm)
          (by intro o h'; simp at h'; subst h'; exact ho) pre seg h
        exact ⟨post, by rw [← h1]; simp, h2, h3, h4⟩
    | false =>
      simp only [cutsAuxP, ho] at hm
      obtain ⟨post, h1, h2, h3, h4⟩ := ih P (S ++ [op]) (FreeOf_snoc hS ho) hP pre seg hm
      exact ⟨post, by rw [← h1]; simp, h2, h3, h4⟩

/-- last hypothesis: the run sought is the open run `S` itself or starts behind it (it cannot start inside `S`, which
    holds no separator) -/
theorem cutsAuxP_complete (sep : CigarEvent → Bool) : ∀ (rest P S : List CigarOp), FreeOf sep S →
    ∀ pre seg post, P ++ S ++ rest = pre ++ seg ++ post → FreeOf sep seg → EndsWith sep pre → StartsWith sep post →
      (pre.length = P.length ∨ P.length + S.length < pre.length) → (pre, seg) ∈ cutsAuxP sep P S rest := by
  intro rest
  induction rest with
  | nil =>
    intro P S hS pre seg post h hseg hpre hpost hlen
    have hl : (P ++ S).length = (pre ++ seg ++ post).length := by rw [← h]; simp
    simp only [List.length_append] at hl
    rcases hlen with hlen | hlen
    · have h' : P ++ S = pre ++ (seg ++ post) := by simpa using h
      obtain ⟨hP, hSS⟩ := List.append_inj h' hlen.symm
      subst hP
      cases post with
      | nil => simp at hSS; subst hSS; simp [cutsAuxP]
      | cons p ps =>
        have := hpost p rfl
        have h2 := hS p (by rw [hSS]; simp)
        rw [this] at h2; cases h2
    · omega
  | cons op rest ih =>
    intro P S hS pre seg post h hseg hpre hpost hlen
    cases ho : sep op.1 with
    | true =>
      simp only [cutsAuxP, ho, if_true, List.mem_cons]
      rcases hlen with hlen | hlen
      · left
        have h' : P ++ (S ++ op :: rest) = pre ++ (seg ++ post) := by simpa using h
        obtain ⟨hP, hSS⟩ := List.append_inj h' hlen.symm
        subst hP
        obtain ⟨h1, _⟩ := free_split_unique sep S seg rest post op hSS hS hseg ho hpost
        rw [h1]
      · right
        apply ih (P ++ S ++ [op]) [] (by intro o hm; cases hm) pre seg post (by rw [← h]; simp) hseg hpre hpost
        simp only [List.length_append, List.length_cons, List.length_nil]
        omega
    | false =>
      simp only [cutsAuxP, ho]
      apply ih P (S ++ [op]) (FreeOf_snoc hS ho) pre seg post (by rw [← h]; simp) hseg hpre hpost
      rcases hlen with hlen | hlen
      · left; exact hlen
      · by_cases heq : pre.length = P.length + S.length + 1
        · exfalso
          have h' : (P ++ S ++ [op]) ++ rest = pre ++ (seg ++ post) := by rw [← List.append_assoc pre]; rw [← h]; simp
          have hl2 : (P ++ S ++ [op]).length = pre.length := by simp; omega
          obtain ⟨hP, _⟩ := List.append_inj h' hl2
          have := hpre op (by rw [← hP]; simp)
          rw [ho] at this; cases this
        · right; simp only [List.length_append, List.length_cons, List.length_nil]; omega

theorem cutsAuxP_maximal_runs (sep : CigarEvent → Bool) (ops pre seg : List CigarOp) :
    (pre, seg) ∈ cutsAuxP sep [] [] ops ↔
      ∃ post, ops = pre ++ seg ++ post ∧ FreeOf sep seg ∧ EndsWith sep pre ∧ StartsWith sep post := by
  constructor
  · intro h
    obtain ⟨post, h1, h2, h3, h4⟩ := cutsAuxP_sound sep ops [] [] (fun _ hm => nomatch hm) (fun _ ho => nomatch ho)
      pre seg h
    exact ⟨post, by simpa using h1, h2, h3, h4⟩
  · rintro ⟨post, h1, h2, h3, h4⟩
    exact cutsAuxP_complete sep ops [] [] (fun _ hm => nomatch hm) pre seg post (by simpa using h1) h2 h3 h4
      (by simp only [List.length_nil]; omega)

theorem cutsAuxP_length (sep : CigarEvent → Bool) : ∀ (rest P S : List CigarOp),
    (cutsAuxP sep P S rest).length = rest.countP (fun o => sep o.1) + 1 := by
  intro rest
  induction rest with
  | nil => intro P S; rfl
  | cons op rest ih =>
    intro P S
    cases ho : sep op.1 with
    | true => simp [cutsAuxP, ho, ih]
    | false => simp [cutsAuxP, ho, ih]

theorem cutsAuxP_pre_length (sep : CigarEvent → Bool) : ∀ (rest P S : List CigarOp),
    ∀ c ∈ cutsAuxP sep P S rest, P.length ≤ c.1.length := by
  intro rest
  induction rest with
  | nil => intro P S c hc; simp [cutsAuxP] at hc; subst hc; exact Nat.le_refl _
  | cons op rest ih =>
    intro P S c hc
    cases ho : sep op.1 with
    | true =>
      simp only [cutsAuxP, ho, if_true, List.mem_cons] at hc
      rcases hc with h | h
      · subst h; exact Nat.le_refl _
      · have := ih _ _ c h
        simp only [List.length_append, List.length_cons, List.length_nil] at this
        omega
    | false =>
      simp only [cutsAuxP, ho] at hc
      exact ih _ _ c hc

/-- in CIGAR order, each once: said through the lengths of the prefixes -/
theorem cutsAuxP_ordered (sep : CigarEvent → Bool) : ∀ (rest P S : List CigarOp),
    (cutsAuxP sep P S rest).Pairwise (fun a b => a.1.length < b.1.length) := by
  intro rest
  induction rest with
  | nil => intro P S; simp [cutsAuxP]
  | cons op rest ih =>
    intro P S
    cases ho : sep op.1 with
    | true =>
      simp only [cutsAuxP, ho, if_true, List.pairwise_cons]
      refine ⟨fun c hc => ?_, ih _ _⟩
      have := cutsAuxP_pre_length sep rest _ _ c hc
      simp only [List.length_append, List.length_cons, List.length_nil] at this
      omega
    | false =>
      simp only [cutsAuxP, ho]
      exact ih _ _

end IsoVerif.Lemmas.C16
