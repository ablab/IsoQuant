/-
C11 helper lemmas — reflection of `truncate_read_to_polya` (Model/Interval.lean): the polyA scan from the right
and the polyT scan from the left are each other's mirror image as long as both scans find an exon and do not
cross: the two index loops as `List.findIdx` (index of the first block with the property, or the length),
the number of blocks either scan drops (`dropA`, `dropT`: each is the other one of the mirror image), `truncTail_mirror`,
`scans_do_not_cross`, and from them `truncateReadToPolya_mirror`.
-/
import IsoVerif.Gen.Prims
import IsoVerif.Model.Interval
import IsoVerif.Model.C11Symmetry
import IsoVerif.Lemmas.MirrorBase
import IsoVerif.Lemmas.TruncateTail

namespace IsoVerif.Lemmas.C11.Lists
open IsoVerif.Gen IsoVerif.Model IsoVerif.Model.C11 IsoVerif.Lemmas

theorem endIndexLoop_eq (p : Int) (l : List Iv) (i : Int) :
    endIndexLoop p l i =
      if List.findIdx (fun r => decide (r.1 < p)) l < l.length then i - (List.findIdx (fun r => decide (r.1 < p)) l : Nat) else -1 := by
  induction l generalizing i with
  | nil => simp [endIndexLoop]
  | cons a t ih =>
    simp only [endIndexLoop, List.findIdx_cons, List.length_cons]
    by_cases c : a.1 < p
    · simp [c]
    · simp only [c, if_false, decide_false, cond_false, ih]
      split <;> split <;> omega

theorem startIndexLoop_eq (p E : Int) (l : List Iv) (i : Int) :
    startIndexLoop p E l i = i + (min (List.findIdx (fun r => decide (r.2 > p)) l) (E + 1 - i).toNat : Nat) := by
  induction l generalizing i with
  | nil => simp [startIndexLoop]
  | cons a t ih =>
    simp only [startIndexLoop, List.findIdx_cons]
    by_cases c1 : i ≤ E
    · by_cases c2 : a.2 > p
      · simp [c1, c2]
      · simp only [c1, c2, if_true, if_false, decide_false, cond_false, ih]
        omega
    · simp only [c1, if_false]
      omega

theorem truncTail_mirror (L : Int) (exons : List Iv) (f t : Iv) (s e : Nat) (sp ep : Int)
    (hs : s < exons.length) (he : e < exons.length) :
    truncTail (mirrorL L exons) (mirrorIv L t) (mirrorIv L f)
        ((exons.length : Int) - 1 - (e : Int)) ((exons.length : Int) - 1 - (s : Int)) (L + 1 - ep) (L + 1 - sp)
      = (truncTail exons f t (s : Int) (e : Int) sp ep).map (mirrorL L) := by
  simp only [truncTail, mirrorIv_fst, mirrorIv_snd]
  have e1 : (L + 1 - ep = L + 1 - t.2 ∧ L + 1 - sp = L + 1 - f.1) ↔ (sp = f.1 ∧ ep = t.2) := by omega
  have e2 : ((exons.length : Int) - 1 - (e : Int) = (exons.length : Int) - 1 - (s : Int)) ↔ ((s : Int) = (e : Int)) := by omega
  simp only [e1, e2]
  by_cases c1 : sp = f.1 ∧ ep = t.2
  · simp [c1]
  · simp only [c1, if_false]
    by_cases c2 : (s : Int) = (e : Int)
    · simp [c2, mirrorL, mirrorIv]
    · simp only [c2, if_false]
      rw [pyGet?_mirror L exons e he, pyGet?_mirror L exons s hs, pyGet?_nat, pyGet?_nat]
      obtain ⟨S, hS⟩ := exists_getElem? exons hs
      obtain ⟨E, hE⟩ := exists_getElem? exons he
      simp only [hS, hE, Option.map_some]
      have a1 : (exons.length : Int) - 1 - (e : Int) + 1 = ((exons.length - e : Nat) : Int) := by omega
      have a2 : (exons.length : Int) - 1 - (s : Int) = ((exons.length - 1 - s : Nat) : Int) := by omega
      have a3 : (s : Int) + 1 = ((s + 1 : Nat) : Int) := by omega
      rw [a1, a2, a3, pySlice_natCast, pySlice_natCast]
      have a4 : exons.length - 1 - s - (exons.length - e) = e - (s + 1) := by omega
      rw [a4]
      have hl : (exons.map (mirrorIv L)).length = exons.length := by simp
      have := slice_reverse (exons.map (mirrorIv L)) (s + 1) e (by rw [hl]; omega)
      rw [hl] at this
      simp only [mirrorL, this, mirrorIv_fst, mirrorIv_snd, List.map_cons, List.map_append, List.reverse_cons,
        List.reverse_append, List.map_nil, List.reverse_nil, List.nil_append, List.map_take, List.map_drop,
        List.cons_append, Option.some.injEq]
      simp [mirrorIv]

theorem scans_do_not_cross (exons : List Iv) (w : WFl exons) (pa pt : Int) (hX : pt < pa)
    (hb : List.findIdx (fun r => decide (r.2 > pt)) exons < exons.length) :
    List.findIdx (fun r => decide (r.1 < pa)) exons.reverse + List.findIdx (fun r => decide (r.2 > pt)) exons ≤ exons.length := by
  have before : ∀ (p : Iv → Bool) (l : List Iv) (j : Nat) (r : Iv), j < l.findIdx p → l[j]? = some r → p r = false :=
    fun p l j r hj hr => by
      obtain ⟨_, rfl⟩ := List.getElem?_eq_some_iff.1 hr
      simpa using List.not_of_lt_findIdx hj
  apply Classical.byContradiction
  intro hc
  have hle := List.findIdx_le_length (p := fun r : Iv => decide (r.1 < pa)) (xs := exons.reverse)
  rw [List.length_reverse] at hle
  let a := List.findIdx (fun r => decide (r.1 < pa)) exons.reverse
  let b := List.findIdx (fun r => decide (r.2 > pt)) exons
  have ha1 : 1 ≤ a := by show 1 ≤ List.findIdx _ _; omega
  have hj : exons.length - a < exons.length := by omega
  obtain ⟨r, hr⟩ := exists_getElem? exons hj
  have h1 := before (fun r => decide (r.2 > pt)) exons (exons.length - a) r (by show _ < List.findIdx _ _; omega) hr
  have hr' : exons.reverse[a - 1]? = some r := by
    rw [List.getElem?_reverse (by omega)]
    have : exons.length - 1 - (a - 1) = exons.length - a := by omega
    rw [this]; exact hr
  have h2 := before (fun r => decide (r.1 < pa)) exons.reverse (a - 1) r (by show _ < List.findIdx _ _; omega) hr'
  have hw := w r (List.mem_of_getElem? hr)
  simp only [decide_eq_false_iff_not] at h1 h2
  omega

/-- number of blocks the polyA scan (from the right) drops at the end of the read; none without a position -/
def dropA (exons : List Iv) (pa : Int) : Nat :=
  if pa = -1 then 0 else List.findIdx (fun r => decide (r.1 < pa)) exons.reverse

/-- number of blocks the polyT scan (from the left) drops at the start -/
def dropT (exons : List Iv) (pt : Int) : Nat :=
  if pt = -1 then 0 else List.findIdx (fun r => decide (r.2 > pt)) exons

theorem endIndex_eq_drop (exons : List Iv) (pa : Int) (hn : 0 < exons.length) (h : pa ≠ -1 → ∃ e ∈ exons, e.1 < pa) :
    (if pa != -1 then endIndexLoop pa exons.reverse ((exons.length : Int) - 1) else (exons.length : Int) - 1)
      = (exons.length : Int) - 1 - dropA exons pa ∧ dropA exons pa < exons.length := by
  unfold dropA
  by_cases c : pa = -1
  · simp [c, hn]
  · obtain ⟨e, he, hlt⟩ := h c
    have := List.findIdx_lt_length_of_exists (p := fun r : Iv => decide (r.1 < pa)) (xs := exons.reverse)
      ⟨e, by simpa using he, by simpa using hlt⟩
    rw [List.length_reverse] at this
    simp [c, endIndexLoop_eq, this]

theorem startIndex_eq_drop (exons : List Iv) (pt E : Int) :
    (if pt != -1 then startIndexLoop pt E exons 0 else 0) = ((min (dropT exons pt) (E + 1).toNat : Nat) : Int) := by
  unfold dropT
  by_cases c : pt = -1
  · simp [c]
  · simp [c, startIndexLoop_eq]

theorem dropT_mirror (L : Int) (exons : List Iv) (pa : Int) (hm : pa ≠ -1 → L + 1 - pa ≠ -1) :
    dropT (mirrorL L exons) (mirrorPos L pa) = dropA exons pa := by
  unfold dropT dropA mirrorPos
  by_cases c : pa = -1
  · simp [c]
  · rw [if_neg c, if_neg (hm c), if_neg c, mirrorL_eq_map_reverse, List.findIdx_map]
    congr 1; funext r; simp only [Function.comp_apply, mirrorIv_snd]; apply decide_eq_decide.mpr; omega

theorem dropA_mirror (L : Int) (exons : List Iv) (pt : Int) (hm : pt ≠ -1 → L + 1 - pt ≠ -1) :
    dropA (mirrorL L exons) (mirrorPos L pt) = dropT exons pt := by
  unfold dropT dropA mirrorPos
  by_cases c : pt = -1
  · simp [c]
  · rw [if_neg c, if_neg (hm c), if_neg c, mirrorL_reverse, List.findIdx_map]
    congr 1; funext r; simp only [Function.comp_apply, mirrorIv_fst]; apply decide_eq_decide.mpr; omega

/-- the cut position at one end: the tail position if there is one, else the end of the read -/
theorem cutPos_mirror (L p x : Int) (hm : p ≠ -1 → L + 1 - p ≠ -1) :
    (if mirrorPos L p != -1 then mirrorPos L p else L + 1 - x) = L + 1 - (if p != -1 then p else x) := by
  unfold mirrorPos
  by_cases c : p = -1
  · simp [c]
  · simp [c, hm c]

theorem truncateReadToPolya_mirror (L : Int) (exons : List Iv) (pa pt : Int) (w : WFl exons)
    (hA : pa ≠ -1 → (∃ e ∈ exons, e.1 < pa) ∧ L + 1 - pa ≠ -1)
    (hT : pt ≠ -1 → (∃ e ∈ exons, pt < e.2) ∧ L + 1 - pt ≠ -1)
    (hX : pa ≠ -1 → pt ≠ -1 → pt < pa) :
    truncateReadToPolya (mirrorL L exons) (mirrorPos L pt) (mirrorPos L pa)
      = (truncateReadToPolya exons pa pt).map (mirrorL L) := by
  rcases head?_getLast?_cases exons with ⟨rfl, _, _⟩ | ⟨f, t, hf, ht, _, _, hn⟩
  · rfl
  · have hmA : pa ≠ -1 → L + 1 - pa ≠ -1 := fun c => (hA c).2
    have hmT : pt ≠ -1 → L + 1 - pt ≠ -1 := fun c => (hT c).2
    -- the original: `a` blocks dropped at the end, `b` at the start
    obtain ⟨ea, ha⟩ := endIndex_eq_drop exons pa hn (fun c => (hA c).1)
    -- the mirror image: its polyA scan is the polyT scan of the original and vice versa
    have hn' : 0 < (mirrorL L exons).length := by rw [mirrorL_length]; exact hn
    obtain ⟨eb, hb⟩ := endIndex_eq_drop (mirrorL L exons) (mirrorPos L pt) hn' (fun c => by
      have cp : pt ≠ -1 := fun e => c (by simp [mirrorPos, e])
      obtain ⟨⟨e, he, hlt⟩, hm⟩ := hT cp
      exact ⟨mirrorIv L e, (mem_mirrorL L e exons).mpr he, by simp only [mirrorPos, cp, if_false, mirrorIv_fst]; omega⟩)
    rw [dropA_mirror L exons pt hmT] at eb hb
    rw [mirrorL_length] at hb
    have hab : dropA exons pa + dropT exons pt ≤ exons.length := by
      by_cases ca : pa = -1
      · simp only [dropA, ca, if_true]; omega
      · by_cases ct : pt = -1
        · simp only [dropT, ct, if_true]; omega
        · have := scans_do_not_cross exons w pa pt (hX ca ct) (by simpa only [dropT, ct, if_false] using hb)
          simpa only [dropA, dropT, ca, ct, if_false] using this
    rw [truncate_eq exons pa pt f t hf ht,
      truncate_eq (mirrorL L exons) _ _ (mirrorIv L t) (mirrorIv L f) (by rw [mirrorL_head?, ht]; rfl)
        (by rw [mirrorL_getLast?, hf]; rfl),
      ea, eb, mirrorL_length, startIndex_eq_drop, startIndex_eq_drop, dropT_mirror L exons pa hmA, mirrorIv_fst, mirrorIv_snd,
      cutPos_mirror L pa t.2 hmA, cutPos_mirror L pt f.1 hmT]
    have := truncTail_mirror L exons f t (dropT exons pt) (exons.length - 1 - dropA exons pa) (if pt != -1 then pt else f.1)
      (if pa != -1 then pa else t.2) hb (by omega)
    refine Eq.trans ?_ (this.trans ?_)
    · congr 1 <;> omega
    · congr 2 <;> omega

end IsoVerif.Lemmas.C11.Lists
