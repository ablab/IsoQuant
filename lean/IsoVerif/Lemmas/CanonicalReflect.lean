/-
Helper lemmas for Props/C18Reflect.lean: reverse complement of a (mixed-case) reference sequence, the splice-site pair
of a mirrored intron.
-/
import IsoVerif.Props.C18
import IsoVerif.Lemmas.CharUpper

namespace IsoVerif.Lemmas.C18
open IsoVerif.Gen IsoVerif.Model IsoVerif.Model.C18 IsoVerif.Props.C18

/-- complement of a reference base; soft-masked (lower-case) bases stay lower case, everything else (`N`, `n`, …) is kept -/
def compl (c : Char) : Char :=
  if c = 'A' then 'T' else if c = 'T' then 'A' else if c = 'C' then 'G' else if c = 'G' then 'C'
  else if c = 'a' then 't' else if c = 't' then 'a' else if c = 'c' then 'g' else if c = 'g' then 'c' else c

def rcSeq (s : Seq) : Seq := s.reverse.map compl

theorem comp_of_ne {c : Char} (hA : c ≠ 'A') (hC : c ≠ 'C') (hG : c ≠ 'G') (hT : c ≠ 'T') : comp c = c := by
  unfold comp
  split
  · exact absurd rfl hA
  · exact absurd rfl hC
  · exact absurd rfl hG
  · exact absurd rfl hT
  · rfl

theorem comp_involutive (c : Char) : comp (comp c) = c := by
  by_cases hA : c = 'A'; · subst hA; decide
  by_cases hC : c = 'C'; · subst hC; decide
  by_cases hG : c = 'G'; · subst hG; decide
  by_cases hT : c = 'T'; · subst hT; decide
  rw [comp_of_ne hA hC hG hT, comp_of_ne hA hC hG hT]

theorem revcompSite_involutive (p : Site) : revcompSite (revcompSite p) = p := by
  have : (comp ∘ comp) = id := by funext c; exact comp_involutive c
  simp [revcompSite, List.map_reverse, this]

/-- case folding commutes with complementing: `compl(c).upper() = comp(c.upper())` for EVERY character -/
theorem toUpper_compl (c : Char) : (compl c).toUpper = comp c.toUpper := by
  by_cases h1 : c = 'A'; · subst h1; decide
  by_cases h2 : c = 'T'; · subst h2; decide
  by_cases h3 : c = 'C'; · subst h3; decide
  by_cases h4 : c = 'G'; · subst h4; decide
  by_cases h5 : c = 'a'; · subst h5; decide
  by_cases h6 : c = 't'; · subst h6; decide
  by_cases h7 : c = 'c'; · subst h7; decide
  by_cases h8 : c = 'g'; · subst h8; decide
  have e1 : compl c = c := by simp [compl, h1, h2, h3, h4, h5, h6, h7, h8]
  have nA : c.toUpper ≠ 'A' := fun h => by rcases (toUpper_A c).mp h with h | h <;> contradiction
  have nT : c.toUpper ≠ 'T' := fun h => by rcases (toUpper_T c).mp h with h | h <;> contradiction
  have nC : c.toUpper ≠ 'C' := fun h => by rcases (toUpper_C c).mp h with h | h <;> contradiction
  have nG : c.toUpper ≠ 'G' := fun h => by rcases (toUpper_G c).mp h with h | h <;> contradiction
  rw [e1, comp_of_ne nA nC nG nT]

theorem siteRaw_one (s : Seq) (it : Iv) (h1 : 1 ≤ it.1) (h2 : 2 ≤ it.2) :
    siteRaw s 1 it = ((s.drop (it.1 - 1).toNat).take 2, (s.drop (it.2 - 2).toNat).take 2) := by
  simp only [siteRaw]
  have e2 : it.2 - 1 + 1 = (it.2 - 1 - 1) + 2 := by omega
  rw [e2, pySlice_two _ _ (by omega), pySlice_two _ _ (by omega)]
  have : (it.2 - 1 - 1).toNat = (it.2 - 2).toNat := by omega
  rw [this]

/-- **mirror_site**: the case-folded splice-site pair of the mirrored intron on the reverse-complemented chromosome is the
    mirror image (sides swapped, reversed, complemented) of the case-folded pair of the intron -/
theorem mirror_site (chr : Seq) (it : Iv) (h1 : 1 ≤ it.1) (h1' : it.1 + 1 ≤ chr.length) (h2 : 2 ≤ it.2)
    (h2' : it.2 ≤ chr.length) :
    upperSite (siteRaw (rcSeq chr) 1 ((chr.length : Int) + 1 - it.2, (chr.length : Int) + 1 - it.1)) =
      revcompSite (upperSite (siteRaw chr 1 it)) := by
  rw [siteRaw_one chr it h1 h2, siteRaw_one (rcSeq chr) _ (by simp only; omega) (by simp only; omega)]
  simp only [upperSite, revcompSite, rcSeq, ← List.map_drop, ← List.map_take, List.map_map]
  have hL : ((chr.length : Int) + 1 - it.2 - 1).toNat + 2 ≤ chr.length := by omega
  have hR : ((chr.length : Int) + 1 - it.1 - 2).toNat + 2 ≤ chr.length := by omega
  rw [window_reverse' chr _ 2 hL, window_reverse' chr _ 2 hR]
  have i1 : chr.length - ((chr.length : Int) + 1 - it.2 - 1).toNat - 2 = (it.2 - 2).toNat := by omega
  have i2 : chr.length - ((chr.length : Int) + 1 - it.1 - 2).toNat - 2 = (it.1 - 1).toNat := by omega
  rw [i1, i2]
  have hf : (Char.toUpper ∘ compl) = (comp ∘ Char.toUpper) := by funext c; exact toUpper_compl c
  simp only [hf, List.map_reverse, ← List.map_map]

end IsoVerif.Lemmas.C18
