/-
Step lemmas for C02.  The weight tables (code = documented weight, split by strategy only where a row depends on
it).  `addReadInfo_counted`: the branches of `add_read_info` are those of `codeWeight`, the weight goes to the
`targets` of the record.  `step_effect`: what one accepted call does to the dictionary, the feature list, the
confirmed set and the statistics, in the terms of the specification (`StepEffect`); `step_none_iff`: when a call
raises; the lemmas per component and per history follow.  The dump, with what its printed values need: rounding
(`roundHalfEven_close`, `hundredths_ge`) and the TPM rows (`scaleFactor_pos`, `ratSum_tpm_rows`).  Helper lemmas only (the property theorems are
in IsoVerif/Props/C02*.lean).  Core Lean only.
-/
import IsoVerif.Model.Counter
import IsoVerif.Model.CounterSpec
import IsoVerif.Lemmas.Counter
import IsoVerif.Lemmas.ListFacts

namespace IsoVerif.Lemmas.C02
open IsoVerif.Gen IsoVerif.Model.C02

theorem flag_ambiguous (s : CountingStrategy) : s.ambiguous = true ↔ s = .with_ambiguous ∨ s = .all := by
  cases s <;> decide

theorem flag_inconsistent (s : CountingStrategy) : s.inconsistent = true ↔ s = .unique_inconsistent ∨ s = .all := by
  cases s <;> decide

theorem flag_inconsistent_minor (s : CountingStrategy) :
    s.inconsistent_minor = true ↔ s = .unique_splicing_consistent ∨ s = .unique_inconsistent ∨ s = .all := by
  cases s <;> decide

/-- Props/C02 `weight_table` is this lemma; it stands here because `codeWeight_some` / `contribution_read` need it.
    Proof: k by cases 1 / ≥ 2; only the four rows whose weight depends on the strategy are split by strategy -/
theorem weight_table_aux (s : CountingStrategy) (t : ReadAssignmentType) (k : Nat) (hk : 0 < k) :
    codeWeight s t k = some (docWeight s t k) := by
  rcases k with _ | _ | k
  · omega
  all_goals
    cases t <;>
    simp [codeWeight, docWeight, processAmbiguous, processInconsistent,
      ReadAssignmentType.is_inconsistent, ReadAssignmentType.is_unique, rat_is_inconsistent_list,
      rat_is_unique_list, flag_ambiguous, flag_inconsistent, flag_inconsistent_minor] <;>
    cases s <;> simp

/-- the three shapes of a documented weight (0; 1 for one feature or a unique type; 1/k): every bound below reads it off -/
theorem docWeight_values (s : CountingStrategy) (t : ReadAssignmentType) (k : Nat) :
    docWeight s t k = 0 ∨ ((k = 1 ∨ t.is_unique = true) ∧ docWeight s t k = 1) ∨
      (0 < k ∧ docWeight s t k = 1 / (k : Rat)) := by
  unfold docWeight
  split
  · exact .inl rfl
  · have hk : 0 < k := by omega
    cases t <;> simp only [] <;> (repeat' split) <;> simp [*, ReadAssignmentType.is_unique, rat_is_unique_list]

theorem docWeight_nonneg (s : CountingStrategy) (t : ReadAssignmentType) (k : Nat) : 0 ≤ docWeight s t k := by
  rcases docWeight_values s t k with h | ⟨_, h⟩ | ⟨hk, h⟩ <;> rw [h]
  · decide
  · decide
  · exact Rat.le_of_lt (one_div_nat_pos k hk)

theorem docWeight_mul_le_one (s : CountingStrategy) (t : ReadAssignmentType) (k : Nat)
    (ht : t.is_unique = false) : docWeight s t k * (k : Rat) ≤ 1 := by
  rcases docWeight_values s t k with h | ⟨rfl | hu, h⟩ | ⟨hk, h⟩
  · rw [h, Rat.zero_mul]; decide +kernel
  · rw [h]; simp
  · rw [ht] at hu; cases hu
  · rw [h, one_div_nat_mul k hk]; decide +kernel

variable {F : Type} [DecidableEq F]

theorem features_nodup (lvl : Level) (a : Assignment F) : (features lvl a).Nodup := nodup_dedup _

theorem unique_not_other (t : ReadAssignmentType) (h : t.is_unique = true) :
    t ≠ .ambiguous ∧ t.is_inconsistent = false := by
  revert h; cases t <;> decide

theorem processAmbiguous_eq_doc (s : CountingStrategy) (k : Nat) :
    processAmbiguous s k = docWeight s .ambiguous k := by
  rcases Nat.eq_zero_or_pos k with rfl | hk
  · rfl
  · simpa [codeWeight] using weight_table_aux s .ambiguous k hk

theorem inconsistent_not_unique (t : ReadAssignmentType) (h : t.is_inconsistent = true) : t.is_unique = false := by
  cases t <;> simp_all [ReadAssignmentType.is_inconsistent, ReadAssignmentType.is_unique,
    rat_is_inconsistent_list, rat_is_unique_list]

/-! ### the targets of a record

Both counter models run the cascade of `add_read_info` (ambiguous / inconsistent / unique / other) that `codeWeight`
spells out; each is compared with `codeWeight` once (`addReadInfo_counted` here, `readEffect_counted` in
Lemmas/CounterGrouped.lean), and `weight_table_aux` compares `codeWeight` with the documentation. -/

/-- the features of a counted record that receive its weight: the first one for a unique type, all of them otherwise -/
def targets (t : ReadAssignmentType) (fs : List F) : List F := if t.is_unique then fs.take 1 else fs

omit [DecidableEq F] in
theorem targets_nil (t : ReadAssignmentType) : targets t ([] : List F) = [] := by
  unfold targets; split <;> rfl

theorem cnt_take_one (fs : List F) (f : F) : cnt (fs.take 1) f = if fs.head? = some f then 1 else 0 := by
  cases fs with
  | nil => simp [cnt_nil]
  | cons g rest => by_cases h : g = f <;> simp [cnt_cons, cnt_nil, h, Rat.add_zero]

theorem docWeight_unique (s : CountingStrategy) (t : ReadAssignmentType) (k : Nat) (hu : t.is_unique = true)
    (hk : 0 < k) : docWeight s t k = 1 := by
  have : k ≠ 0 := by omega
  cases t <;> simp_all [docWeight, ReadAssignmentType.is_unique, rat_is_unique_list]

theorem contribution_read (s : CountingStrategy) (lvl : Level) (a : Assignment F) (f : F) :
    contribution s lvl (.read (some a)) f =
      if skipped a then 0
      else cnt (targets (typeOf lvl a) (features lvl a)) f * docWeight s (typeOf lvl a) (features lvl a).length := by
  unfold contribution targets
  by_cases hsk : skipped a = true
  · simp [hsk]
  · simp only [hsk, Bool.false_eq_true, if_false]
    by_cases hu : (typeOf lvl a).is_unique = true
    · simp only [hu, if_true, cnt_take_one]
      cases hfs : features lvl a with
      | nil => simp [Rat.zero_mul]
      | cons g rest =>
        rw [docWeight_unique s _ _ hu (by simp)]
        by_cases h : g = f <;> simp [h, Rat.mul_one]
    · simp only [hu, Bool.false_eq_true, if_false, cnt_of_nodup _ (features_nodup lvl a)]
      split <;> simp [Rat.one_mul, Rat.zero_mul]

omit [DecidableEq F] in
theorem codeWeight_some {s : CountingStrategy} {t : ReadAssignmentType} {fs : List F} {w : Rat}
    (h : codeWeight s t fs.length = some w) : targets t fs = [] ∨ w = docWeight s t fs.length := by
  cases fs with
  | nil => exact .inl (targets_nil t)
  | cons g rest =>
    rw [weight_table_aux s t _ (by simp)] at h
    exact .inr (Option.some.inj h).symm

theorem codeWeight_targets (s : CountingStrategy) (t : ReadAssignmentType) (fs : List F) (f : F) :
    (match codeWeight s t fs.length with
     | some w => cnt (targets t fs) f * w
     | none => 0) = cnt (targets t fs) f * docWeight s t fs.length := by
  cases fs with
  | nil => simp only [targets_nil, cnt_nil, Rat.zero_mul]; split <;> rfl
  | cons g rest => rw [weight_table_aux s t _ (by simp)]

/-- C02 `add_read_info` on a record that passes the three guards: it raises when `codeWeight` does, or - unique type -
    when `confirms` does; otherwise it adds `codeWeight` to every target, lists the targets unless the weight is 0,
    and confirms the target of a unique record whose extractor says so -/
theorem addReadInfo_counted (s : CountingStrategy) (lvl : Level) (st : CState F) (a : Assignment F)
    (hsk : skipped a = false) :
    match codeWeight s (typeOf lvl a) (features lvl a).length,
          (if (typeOf lvl a).is_unique then confirms lvl a else some false) with
    | some w, some c => ∃ st', addReadInfo s lvl st (some a) = some st' ∧
        (∀ f, cget st'.counts f = cget st.counts f + cnt (targets (typeOf lvl a) (features lvl a)) f * w) ∧
        st'.allFeatures = addAll st.allFeatures (if w > 0 then targets (typeOf lvl a) (features lvl a) else []) ∧
        st'.confirmed = addAll st.confirmed (if c then targets (typeOf lvl a) (features lvl a) else []) ∧
        st'.ambiguousReads = st.ambiguousReads + (if typeOf lvl a = .ambiguous then 1 else 0) ∧
        st'.notAssigned = st.notAssigned ∧ st'.notAligned = st.notAligned ∧ st'.usable = st.usable + 1
    | _, _ => addReadInfo s lvl st (some a) = none := by
  simp only [addReadInfo, hsk, Bool.false_eq_true, if_false, codeWeight, targets]
  by_cases hamb : typeOf lvl a = .ambiguous
  · simp only [hamb, if_true, show ReadAssignmentType.ambiguous.is_unique = false by decide, Bool.false_eq_true,
      if_false]
    refine ⟨_, rfl, fun f => get_incAll _ _ _ f, ?_, rfl, rfl, rfl, rfl, rfl⟩
    split <;> rfl
  · simp only [hamb, if_false]
    by_cases hinc : (typeOf lvl a).is_inconsistent = true
    · have hu := inconsistent_not_unique _ hinc
      simp only [hinc, if_true, hu, Bool.false_eq_true, if_false]
      cases hpi : processInconsistent s (typeOf lvl a) (features lvl a).length with
      | none => rfl
      | some w =>
        simp only
        by_cases hw : w > 0
        · simp only [hw, if_true]
          exact ⟨_, rfl, fun f => get_incAll _ _ _ f, rfl, rfl, by simp, rfl, rfl, rfl⟩
        · simp only [hw, if_false]
          refine ⟨_, rfl, fun f => ?_, rfl, rfl, by simp, rfl, rfl, rfl⟩
          -- a weight that is not positive is 0 (or there is no feature): nothing is added
          rcases codeWeight_some (s := s) (t := typeOf lvl a) (fs := features lvl a) (w := w)
            (by simp [codeWeight, hamb, hinc, hpi]) with h0 | h0
          · simp only [targets, hu, Bool.false_eq_true, if_false] at h0
            rw [h0, cnt_nil, Rat.zero_mul, Rat.add_zero]
          · have := docWeight_nonneg s (typeOf lvl a) (features lvl a).length
            have : w = 0 := by grind
            rw [this, Rat.mul_zero, Rat.add_zero]
    · simp only [hinc, Bool.false_eq_true, if_false]
      by_cases hu : (typeOf lvl a).is_unique = true
      · simp only [hu, if_true]
        cases hfs : features lvl a with
        | nil => simp
        | cons g rest =>
          cases hc : confirms lvl a with
          | none => simp
          | some c =>
            simp only [List.length_cons, Nat.add_eq_zero_iff, Nat.succ_ne_self, and_false, if_false]
            refine ⟨_, rfl, fun f => ?_, rfl, by cases c <;> rfl, by simp, rfl, rfl, rfl⟩
            simp [get_inc, cnt_cons, cnt_nil, Rat.mul_one, Rat.add_zero]
      · simp only [hu, Bool.false_eq_true, if_false]
        exact ⟨_, rfl, fun f => by simp [Rat.mul_zero, Rat.add_zero], rfl, rfl, by simp, rfl, rfl, rfl⟩

/-- the features the call puts into `all_features` -/
def listedBy (s : CountingStrategy) (lvl : Level) : Event F → List F
  | .read (some a) =>
    if skipped a then []
    else if docWeight s (typeOf lvl a) (features lvl a).length > 0 then targets (typeOf lvl a) (features lvl a) else []
  | .raw false fs => fs
  | _ => []

/-- the call raises, whatever the state of the counter -/
def raises (s : CountingStrategy) (lvl : Level) : Event F → Bool
  | .read (some a) =>
    !skipped a && ((codeWeight s (typeOf lvl a) (features lvl a).length).isNone ||
      ((typeOf lvl a).is_unique && (confirms lvl a).isNone))
  | _ => false

theorem listed_of_contribution (s : CountingStrategy) (lvl : Level) (e : Event F) (f : F)
    (h : contribution s lvl e f ≠ 0) : f ∈ listedBy s lvl e := by
  match e with
  | .read (some a) =>
    rw [contribution_read] at h
    split at h
    · exact absurd rfl h
    · rename_i hsk
      have hw : docWeight s (typeOf lvl a) (features lvl a).length > 0 := by
        have := docWeight_nonneg s (typeOf lvl a) (features lvl a).length
        have : docWeight s (typeOf lvl a) (features lvl a).length ≠ 0 := fun h0 => h (by rw [h0, Rat.mul_zero])
        grind
      simp only [listedBy, if_neg hsk, if_pos hw]
      exact mem_of_cnt_ne_zero fun h0 => h (by rw [h0, Rat.zero_mul])
  | .raw false fs =>
    show f ∈ fs
    exact mem_of_cnt_ne_zero fun h0 => h (by simp [contribution, h0, Rat.zero_mul])
  | .read none | .raw true _ | .unassigned _ | .unaligned _ | .confirm _ => exact absurd rfl h

/-- What one accepted call does, in the terms of the specification: every dictionary value grows by the documented
    contribution, the features of `listedBy` are listed, the features of `confirmsFeature` are confirmed, and the four
    statistics move by the classes of the call. -/
def StepEffect (s : CountingStrategy) (lvl : Level) (st st' : CState F) (e : Event F) : Prop :=
  (∀ f, cget st'.counts f = cget st.counts f + contribution s lvl e f) ∧
  st'.allFeatures = addAll st.allFeatures (listedBy s lvl e) ∧
  (∀ f, f ∈ st'.confirmed ↔ f ∈ st.confirmed ∨ confirmsFeature lvl e f) ∧
  st'.ambiguousReads = st.ambiguousReads + ambiguousClass lvl e ∧
  st'.notAssigned = st.notAssigned + noFeatureClass e ∧
  st'.notAligned = st.notAligned + notAlignedClass e ∧
  st'.usable = st.usable + usableClass e

section
attribute [local simp] ambiguousClass noFeatureClass notAlignedClass usableClass contribution confirmsFeature listedBy
  Rat.add_zero mem_addAll

theorem step_effect (s : CountingStrategy) (lvl : Level) (st st' : CState F) (e : Event F)
    (h : step s lvl st e = some st') : StepEffect s lvl st st' e := by
  cases e with
  | read ra =>
    cases ra with
    | none => cases h; exact ⟨by simp, rfl, by simp, by simp⟩
    | some a =>
      simp only [step] at h
      by_cases hsk : skipped a = true
      · simp only [addReadInfo, hsk, if_true, Option.some.injEq] at h
        subst h
        exact ⟨by simp [hsk], by simp [hsk, addAll], by simp [hsk], by simp [hsk]⟩
      · have hsk' : skipped a = false := by simpa using hsk
        have hc := addReadInfo_counted s lvl st a hsk'
        cases hw : codeWeight s (typeOf lvl a) (features lvl a).length with
        | none => simp only [hw] at hc; rw [hc] at h; cases h
        | some w =>
          cases hcf : (if (typeOf lvl a).is_unique then confirms lvl a else some false) with
          | none => simp only [hw, hcf] at hc; rw [hc] at h; cases h
          | some c =>
            simp only [hw, hcf] at hc
            obtain ⟨st1, h1, hcnt, haf, hconf, hstats⟩ := hc
            rw [h1] at h; cases h
            refine ⟨fun f => ?_, ?_, fun f => ?_, by simpa [hsk'] using hstats⟩
            · rw [hcnt f, contribution_read, hsk']
              rcases codeWeight_some hw with h0 | rfl
              · simp [h0, cnt_nil, Rat.zero_mul]
              · rfl
            · rw [haf]
              simp only [listedBy, hsk', Bool.false_eq_true, if_false]
              rcases codeWeight_some hw with h0 | rfl
              · rw [h0]; split <;> split <;> rfl
              · rfl
            · rw [hconf, mem_addAll]
              simp only [confirmsFeature, hsk', true_and]
              by_cases hu : (typeOf lvl a).is_unique = true
              · simp only [hu, if_true] at hcf
                have hamb := (unique_not_other _ hu).1
                cases c <;> simp [hcf, hu, hamb, targets, mem_take_one]
              · have : c = false := by
                  simp only [hu, Bool.false_eq_true, if_false] at hcf; exact (Option.some.inj hcf).symm
                simp [this, hu]
  | raw noId fs =>
    cases h
    cases noId with
    | true => exact ⟨by simp [addReadInfoRaw], by simp [addReadInfoRaw, addAll], by simp [addReadInfoRaw], by simp [addReadInfoRaw]⟩
    | false =>
      match fs with
      | [] => exact ⟨by simp [addReadInfoRaw, cnt_nil, Rat.zero_mul], rfl, by simp [addReadInfoRaw], by simp [addReadInfoRaw]⟩
      | [g] =>
        exact ⟨fun f => by simp [addReadInfoRaw, get_inc, cnt_cons, cnt_nil, docWeight], rfl, by simp [addReadInfoRaw],
          by simp [addReadInfoRaw]⟩
      | g :: g' :: rest =>
        exact ⟨fun f => by simp only [addReadInfoRaw, Bool.false_eq_true, if_false, get_incAll, contribution, processAmbiguous_eq_doc], rfl,
          by simp [addReadInfoRaw], by simp [addReadInfoRaw]⟩
  | unassigned n => cases h; exact ⟨by simp, rfl, by simp, by simp⟩
  | unaligned n => cases h; exact ⟨by simp, rfl, by simp, by simp⟩
  | confirm fs => cases h; exact ⟨by simp, rfl, by simp, by simp⟩

end

theorem step_none_iff (s : CountingStrategy) (lvl : Level) (st : CState F) (e : Event F) :
    step s lvl st e = none ↔ raises s lvl e = true := by
  match e with
  | .read (some a) =>
    simp only [step, raises]
    by_cases hsk : skipped a = true
    · simp [addReadInfo, hsk]
    · have hsk' : skipped a = false := by simpa using hsk
      have := addReadInfo_counted s lvl st a hsk'
      simp only [hsk', Bool.not_false, Bool.true_and]
      cases hw : codeWeight s (typeOf lvl a) (features lvl a).length with
      | none => simp only [hw] at this; simp [this]
      | some w =>
        by_cases hu : (typeOf lvl a).is_unique = true
        · cases hc : confirms lvl a with
          | none => simp only [hw, hu, hc, if_true] at this; simp [this, hu]
          | some c =>
            simp only [hw, hu, hc, if_true] at this
            obtain ⟨st', h, _⟩ := this
            simp [h, hu]
        · simp only [hw, hu, Bool.false_eq_true, if_false] at this
          obtain ⟨st', h, _⟩ := this
          simp [h, hu]
  | .read none | .raw _ _ | .unassigned _ | .unaligned _ | .confirm _ => simp [step, addReadInfo, raises]

theorem step_counts (s : CountingStrategy) (lvl : Level) (st st' : CState F) (e : Event F)
    (h : step s lvl st e = some st') (f : F) :
    cget st'.counts f = cget st.counts f + contribution s lvl e f :=
  (step_effect s lvl st st' e h).1 f

theorem step_confirmed (s : CountingStrategy) (lvl : Level) (st st' : CState F) (e : Event F)
    (h : step s lvl st e = some st') (f : F) :
    f ∈ st'.confirmed ↔ f ∈ st.confirmed ∨ confirmsFeature lvl e f :=
  (step_effect s lvl st st' e h).2.2.1 f

theorem step_allFeatures (s : CountingStrategy) (lvl : Level) (st st' : CState F) (e : Event F)
    (h : step s lvl st e = some st') (f : F) :
    f ∈ st'.allFeatures ↔ f ∈ st.allFeatures ∨ f ∈ listedBy s lvl e := by
  rw [(step_effect s lvl st st' e h).2.1, mem_addAll]

theorem step_stats (s : CountingStrategy) (lvl : Level) (st st' : CState F) (e : Event F)
    (h : step s lvl st e = some st') :
    st'.ambiguousReads = st.ambiguousReads + ambiguousClass lvl e ∧
    st'.notAssigned = st.notAssigned + noFeatureClass e ∧
    st'.notAligned = st.notAligned + notAlignedClass e ∧
    st'.usable = st.usable + usableClass e :=
  (step_effect s lvl st st' e h).2.2.2

theorem run_cons {s : CountingStrategy} {lvl : Level} {st0 st : CState F} {e : Event F} {es : List (Event F)} :
    run s lvl st0 (e :: es) = some st ↔ ∃ st1, step s lvl st0 e = some st1 ∧ run s lvl st1 es = some st := by
  simp only [run]
  cases step s lvl st0 e <;> simp

theorem run_counts (s : CountingStrategy) (lvl : Level) (es : List (Event F)) (st0 st : CState F)
    (h : run s lvl st0 es = some st) (f : F) :
    cget st.counts f = cget st0.counts f + ratSum (es.map (fun e => contribution s lvl e f)) := by
  induction es generalizing st0 with
  | nil => cases h; simp [Rat.add_zero]
  | cons e es ih =>
    obtain ⟨st1, hs, h⟩ := run_cons.mp h
    rw [ih st1 h, step_counts s lvl st0 st1 e hs f]
    simp only [List.map_cons, ratSum_cons]
    grind

theorem run_confirmed (s : CountingStrategy) (lvl : Level) (es : List (Event F)) (st0 st : CState F)
    (h : run s lvl st0 es = some st) (f : F) :
    f ∈ st.confirmed ↔ f ∈ st0.confirmed ∨ ∃ e ∈ es, confirmsFeature lvl e f := by
  induction es generalizing st0 with
  | nil => cases h; simp
  | cons e es ih =>
    obtain ⟨st1, hs, h⟩ := run_cons.mp h
    rw [ih st1 h, step_confirmed s lvl st0 st1 e hs f]
    simp only [List.mem_cons, exists_eq_or_imp]
    grind

theorem run_allFeatures (s : CountingStrategy) (lvl : Level) (es : List (Event F)) (st0 st : CState F)
    (h : run s lvl st0 es = some st) (f : F) :
    f ∈ st.allFeatures ↔ f ∈ st0.allFeatures ∨ ∃ e ∈ es, f ∈ listedBy s lvl e := by
  induction es generalizing st0 with
  | nil => cases h; simp
  | cons e es ih =>
    obtain ⟨st1, hs, h⟩ := run_cons.mp h
    rw [ih st1 h, step_allFeatures s lvl st0 st1 e hs f]
    simp only [List.mem_cons, exists_eq_or_imp]
    grind

theorem run_listed (s : CountingStrategy) (lvl : Level) (es : List (Event F)) (st0 st : CState F)
    (h : run s lvl st0 es = some st) (f : F)
    (hf : f ∈ st0.allFeatures ∨ ∃ e ∈ es, contribution s lvl e f ≠ 0) : f ∈ st.allFeatures :=
  (run_allFeatures s lvl es st0 st h f).mpr
    (hf.imp_right fun ⟨e, he, hc⟩ => ⟨e, he, listed_of_contribution s lvl e f hc⟩)

theorem mem_sortedFeatures (le : F → F → Bool) (st : CState F) (f : F) :
    f ∈ sortedFeatures le st ↔ f ∈ st.allFeatures := by
  simp [sortedFeatures, mem_isort, mem_dedup]

theorem sortedFeatures_nodup (le : F → F → Bool) (st : CState F) : (sortedFeatures le st).Nodup := by
  unfold sortedFeatures
  exact nodup_isort le _ (nodup_dedup _)

theorem get_zeroUnconfirmed_listed (le : F → F → Bool) (st : CState F) (g : F) (hg : g ∈ st.allFeatures) :
    cget (zeroUnconfirmed st.confirmed (sortedFeatures le st) st.counts) g
      = (if g ∈ st.confirmed then cget st.counts g else 0) := by
  rw [get_zeroUnconfirmed]
  by_cases hc : g ∈ st.confirmed <;> simp [mem_sortedFeatures, hg, hc]

/-- rows of the dumped table (exact values): `f` has a row iff it is listed (and, with `output_zeroes` off, its
    value is non-zero); the value is the accumulated count if `f` is confirmed and 0 otherwise -/
theorem dump_row (le : F → F → Bool) (oz : Bool) (st : CState F) (f : F) (v : Rat) :
    (f, v) ∈ dumpRowsExact le oz st ↔
      f ∈ st.allFeatures ∧ v = (if f ∈ st.confirmed then cget st.counts f else 0) ∧ (oz = true ∨ v ≠ 0) := by
  have hz := get_zeroUnconfirmed_listed le st
  simp only [dumpRowsExact, List.mem_filterMap, mem_sortedFeatures]
  constructor
  · rintro ⟨g, hg, hrow⟩
    rw [hz g hg] at hrow
    generalize hwdef : (if g ∈ st.confirmed then cget st.counts g else 0) = w at hrow
    cases oz with
    | true =>
      simp only [Bool.not_true, Bool.false_and, Bool.false_eq_true, if_false, Option.some.injEq,
        Prod.mk.injEq] at hrow
      obtain ⟨rfl, rfl⟩ := hrow
      exact ⟨hg, hwdef.symm, Or.inl rfl⟩
    | false =>
      by_cases hw : w = 0
      · simp [hw] at hrow
      · simp only [Bool.not_false, Bool.true_and, beq_iff_eq, hw, if_false, Option.some.injEq,
          Prod.mk.injEq] at hrow
        obtain ⟨rfl, rfl⟩ := hrow
        exact ⟨hg, hwdef.symm, Or.inr hw⟩
  · rintro ⟨hg, hv, hzz⟩
    refine ⟨f, hg, ?_⟩
    rw [hz f hg, ← hv]
    rcases hzz with hzz | hzz
    · simp [hzz]
    · simp [hzz]

theorem dump_keys_nodup (le : F → F → Bool) (oz : Bool) (st : CState F) :
    ((dumpRowsExact le oz st).map Prod.fst).Nodup := by
  simp only [dumpRowsExact]
  rw [map_fst_filterMap (sortedFeatures le st)
    (fun f => cget (zeroUnconfirmed st.confirmed (sortedFeatures le st) st.counts) f)
    (fun f => !oz && cget (zeroUnconfirmed st.confirmed (sortedFeatures le st) st.counts) f == 0)]
  exact List.Nodup.sublist List.filter_sublist (sortedFeatures_nodup le st)

theorem run_stats (s : CountingStrategy) (lvl : Level) (es : List (Event F)) (st0 st : CState F)
    (h : run s lvl st0 es = some st) :
    st.ambiguousReads = st0.ambiguousReads + natSum (es.map (ambiguousClass lvl)) ∧
    st.notAssigned = st0.notAssigned + natSum (es.map noFeatureClass) ∧
    st.notAligned = st0.notAligned + natSum (es.map notAlignedClass) ∧
    st.usable = st0.usable + natSum (es.map usableClass) := by
  induction es generalizing st0 with
  | nil => cases h; simp
  | cons e es ih =>
    obtain ⟨st1, hs, h⟩ := run_cons.mp h
    have h1 := ih st1 h
    have h2 := step_stats s lvl st0 st1 e hs
    simp only [List.map_cons, natSum_cons]
    omega

theorem run_none_iff (s : CountingStrategy) (lvl : Level) (es : List (Event F)) (st0 : CState F) :
    run s lvl st0 es = none ↔ ∃ e ∈ es, raises s lvl e = true := by
  induction es generalizing st0 with
  | nil => simp [run]
  | cons e es ih =>
    simp only [run, List.mem_cons, exists_eq_or_imp]
    cases hs : step s lvl st0 e with
    | none =>
      simp only [true_iff]
      exact Or.inl ((step_none_iff s lvl st0 e).mp hs)
    | some st1 =>
      simp only []
      rw [ih st1]
      have : ¬ raises s lvl e = true := by
        intro h; rw [← step_none_iff s lvl st0 e, hs] at h; cases h
      simp [this]

theorem floor_le_roundHalfEven (q : Rat) : q.floor ≤ roundHalfEven q := by
  unfold roundHalfEven
  simp only []
  split
  · omega
  · split
    · omega
    · split <;> omega

theorem hundredths_ge (v : Rat) (hv : 1 ≤ v) : 100 ≤ hundredths v := by
  unfold hundredths
  have h1 : ((100 : Int) : Rat) ≤ v * 100 := by
    have : (100 : Rat) = ((100 : Int) : Rat) := by simp
    rw [← this]
    have := Rat.mul_le_mul_of_nonneg_right hv (show (0:Rat) ≤ 100 by decide +kernel)
    simpa [Rat.one_mul] using this
  have h2 : (100 : Int) ≤ (v * 100).floor := Rat.le_floor_iff.mpr h1
  have h3 := floor_le_roundHalfEven (v * 100)
  omega

theorem contribution_nonneg (s : CountingStrategy) (lvl : Level) (e : Event F) (f : F) :
    0 ≤ contribution s lvl e f := by
  match e with
  | .read (some a) =>
    rw [contribution_read]
    split
    · decide +kernel
    · exact Rat.mul_nonneg (cnt_nonneg _ _) (docWeight_nonneg _ _ _)
  | .raw false fs => exact Rat.mul_nonneg (cnt_nonneg _ _) (docWeight_nonneg _ _ _)
  | .read none | .raw true _ | .unassigned _ | .unaligned _ | .confirm _ => exact Rat.le_refl

omit [DecidableEq F] in
theorem docWeight_targets_le_one (s : CountingStrategy) (t : ReadAssignmentType) (fs : List F) :
    docWeight s t fs.length * ((targets t fs).length : Rat) ≤ 1 := by
  unfold targets
  by_cases hu : t.is_unique = true
  · rw [if_pos hu]
    cases fs with
    | nil => simp [docWeight]; decide +kernel
    | cons g rest => rw [docWeight_unique s t _ hu (by simp)]; simp
  · rw [if_neg hu]; exact docWeight_mul_le_one s t _ (by simpa using hu)

theorem weighted_cnt_sum_le (L : List F) (hL : L.Nodup) (fs : List F) (w : Rat) (hw : 0 ≤ w)
    (hk : w * (fs.length : Rat) ≤ 1) : ratSum (L.map (fun f => cnt fs f * w)) ≤ 1 := by
  rw [ratSum_map_mul_right]
  have h1 := cnt_sum_le L hL fs
  have h2 : ratSum (L.map (cnt fs)) * w ≤ (fs.length : Rat) * w := Rat.mul_le_mul_of_nonneg_right h1 hw
  grind

omit [DecidableEq F] in
theorem natSum_flatMap_map {α} (chrs : List α) (g : α → List (Event F)) (cls : Event F → Nat) :
    natSum ((chrs.flatMap g).map cls) = natSum (chrs.map (fun c => natSum ((g c).map cls))) := by
  induction chrs with
  | nil => simp
  | cons c cs ih => simp [List.flatMap_cons, natSum_append, ih]

omit [DecidableEq F] in
theorem ratSum_flatMap_map {α} (chrs : List α) (g : α → List (Event F)) (w : Event F → Rat) :
    ratSum ((chrs.flatMap g).map w) = ratSum (chrs.map (fun c => ratSum ((g c).map w))) := by
  induction chrs with
  | nil => simp
  | cons c cs ih => simp [List.flatMap_cons, ratSum_append, ih]

omit [DecidableEq F] in
theorem scaleFactor_pos (norm : NormalizationMethod) (usable : Nat) (total : Rat) :
    0 < scaleFactor norm usable total := by
  unfold scaleFactor
  split
  · rename_i h
    have hu : 0 < usable := Nat.pos_of_ne_zero h.2
    have := one_div_nat_pos usable hu
    rw [Rat.div_def] at this ⊢
    rw [Rat.one_mul] at this
    exact Rat.mul_pos (by decide +kernel) this
  · split
    · rename_i hT
      rw [Rat.div_def]
      exact Rat.mul_pos (by decide +kernel) (Rat.inv_pos.mpr hT)
    · decide +kernel

omit [DecidableEq F] in
theorem ratSum_tpm_rows (sf : Rat) (oz : Bool) (inp : List (F × Int)) :
    ratSum ((inp.filterMap (fun r =>
        let tpm := sf * printedValue r.2
        if (!oz && tpm == 0) = true then none else some (r.1, tpm))).map Prod.snd)
      = sf * ratSum (inp.map (fun r => printedValue r.2)) := by
  induction inp with
  | nil => simp [Rat.mul_zero]
  | cons r rs ih =>
    by_cases hcond : (!oz && sf * printedValue r.2 == 0) = true
    · have hz : sf * printedValue r.2 = 0 := by
        simp only [Bool.and_eq_true, Bool.not_eq_true', beq_iff_eq] at hcond
        exact hcond.2
      simp only [List.filterMap_cons, hcond, if_true, List.map_cons, ratSum_cons]
      rw [ih]; grind
    · simp only [List.filterMap_cons, hcond, if_false, List.map_cons, ratSum_cons, Bool.false_eq_true]
      rw [ih]; grind

theorem roundHalfEven_close (x : Rat) :
    (roundHalfEven x : Rat) - 1/2 ≤ x ∧ x ≤ (roundHalfEven x : Rat) + 1/2 := by
  have h1 : ((x.floor : Int) : Rat) ≤ x := Rat.floor_le x
  have h2 : x < ((x.floor + 1 : Int) : Rat) := Rat.lt_floor_add_one x
  have h3 : ((x.floor + 1 : Int) : Rat) = (x.floor : Rat) + 1 := by simp [Rat.intCast_add]
  rw [h3] at h2
  unfold roundHalfEven
  simp only []
  split
  · rename_i h; constructor <;> grind
  · split
    · rename_i h h'; rw [h3]; constructor <;> grind
    · split
      · constructor <;> grind
      · rw [h3]; constructor <;> grind

theorem rat_zero_div_one : (0 / 1 : Rat) = 0 := by decide +kernel
theorem rat_one_div_one : (1 / 1 : Rat) = 1 := by decide +kernel

end IsoVerif.Lemmas.C02
