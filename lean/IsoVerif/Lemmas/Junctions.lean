/-
`junctions_from_blocks` (`junctionsFromBlocks`, Model/Interval.lean) as a function of an arbitrary block list: every
junction is the gap between two NEIGHBOURING blocks that do not touch (`mem_junctions_adj`), so where the junctions
start and end, that they are well formed, and when they are sorted and disjoint can be read off the blocks
(`junctions_sites`, `junctions_valid`: what `get_exons` needs of an intron list); the function splits at any block
(`junctions_append_cons`); it emits at most one junction per consecutive pair (`length_junctions_le`,
`length_junctions_full`).  No property's model is imported: the facts are shared by C01, C03, C04, C11, C13, C14.
The lemmas from `mem_junctions_adj` on are in the namespace `IsoVerif.Lemmas.C14`, the first four in `IsoVerif.Lemmas`.
-/
import IsoVerif.Model.Interval
import IsoVerif.Lemmas.Interval

namespace IsoVerif.Lemmas
open IsoVerif.Gen IsoVerif.Model

theorem junctions_cons_cons_of_lt {a b : Iv} {t : List Iv} (h : a.2 + 1 < b.1) :
    junctionsFromBlocks (a :: b :: t) = (a.2 + 1, b.1 - 1) :: junctionsFromBlocks (b :: t) := by
  simp [junctionsFromBlocks, h]

theorem junctions_cons_cons_of_not_lt {a b : Iv} {t : List Iv} (h : ¬ a.2 + 1 < b.1) :
    junctionsFromBlocks (a :: b :: t) = junctionsFromBlocks (b :: t) := by
  simp [junctionsFromBlocks, h]

/-- `junctions_from_blocks` never reads the start of the first block -/
theorem junctionsFromBlocks_first (x y e : Int) (t : List Iv) :
    junctionsFromBlocks ((x, e) :: t) = junctionsFromBlocks ((y, e) :: t) := by
  cases t with
  | nil => rfl
  | cons b t => simp [junctionsFromBlocks]

/-- … nor the end of the last block -/
theorem junctionsFromBlocks_last (l : List Iv) (s x y : Int) :
    junctionsFromBlocks (l ++ [(s, x)]) = junctionsFromBlocks (l ++ [(s, y)]) := by
  induction l with
  | nil => rfl
  | cons a t ih =>
    cases t with
    | nil => simp [junctionsFromBlocks]
    | cons b t' =>
      simp only [List.cons_append, junctionsFromBlocks] at ih ⊢
      split <;> simp [ih]

end IsoVerif.Lemmas

namespace IsoVerif.Lemmas.C14
open IsoVerif.Gen IsoVerif.Model IsoVerif.Lemmas

theorem mem_junctions_adj {l : List Iv} {j : Iv} (h : j ∈ junctionsFromBlocks l) :
    ∃ a ∈ l.dropLast, ∃ b ∈ l.tail, a.2 + 1 < b.1 ∧ j = (a.2 + 1, b.1 - 1) := by
  induction l with
  | nil => cases h
  | cons a t ih =>
    cases t with
    | nil => cases h
    | cons b t' =>
      have htail : j ∈ junctionsFromBlocks (b :: t') →
          ∃ u ∈ (a :: b :: t').dropLast, ∃ v ∈ (a :: b :: t').tail, u.2 + 1 < v.1 ∧ j = (u.2 + 1, v.1 - 1) :=
        fun h' => let ⟨u, hu, v, hv, e⟩ := ih h'
          ⟨u, List.mem_cons_of_mem _ hu, v, List.mem_of_mem_tail hv, e⟩
      by_cases hlt : a.2 + 1 < b.1
      · rw [junctions_cons_cons_of_lt hlt] at h
        cases h with
        | head => exact ⟨a, List.mem_cons_self, b, List.mem_cons_self, hlt, rfl⟩
        | tail _ h' => exact htail h'
      · rw [junctions_cons_cons_of_not_lt hlt] at h
        exact htail h

theorem mem_junctions {l : List Iv} {j : Iv} (h : j ∈ junctionsFromBlocks l) :
    ∃ a ∈ l, ∃ b ∈ l, j = (a.2 + 1, b.1 - 1) :=
  let ⟨a, ha, b, hb, _, e⟩ := mem_junctions_adj h
  ⟨a, List.dropLast_subset l ha, b, List.mem_of_mem_tail hb, e⟩

/-- "each intron starts no later than one past the end of every later one": what `get_exons` needs -/
def TouchOrdered (c c' : Iv) : Prop := c.1 ≤ c'.2 + 1

theorem junctions_wf (l : List Iv) : ∀ j ∈ junctionsFromBlocks l, j.1 ≤ j.2 := by
  intro j hj
  obtain ⟨a, _, b, _, hlt, rfl⟩ := mem_junctions_adj hj
  show a.2 + 1 ≤ b.1 - 1
  omega

theorem junctions_sites (z : Iv) (L : List Iv) (a : Iv) : ∀ x ∈ junctionsFromBlocks (a :: L ++ [z]),
    (x.1 = a.2 + 1 ∨ ∃ c ∈ L, x.1 = c.2 + 1) ∧ (x.2 = z.1 - 1 ∨ ∃ c ∈ L, x.2 = c.1 - 1) := by
  intro x hx
  obtain ⟨u, hu, v, hv, _, rfl⟩ := mem_junctions_adj hx
  rw [List.dropLast_concat] at hu
  rw [List.cons_append, List.tail_cons] at hv
  constructor
  · rcases List.mem_cons.mp hu with rfl | hu
    · exact Or.inl rfl
    · exact Or.inr ⟨u, hu, rfl⟩
  · rcases List.mem_append.mp hv with hv | hv
    · exact Or.inr ⟨v, hv, rfl⟩
    · rw [List.mem_singleton.mp hv]; exact Or.inl rfl

/-- the blocks are well formed and sorted-disjoint as soon as every intron satisfies `c.1 ≤ c.2 + 1` and starts no
    later than one past the end of every later intron: touching or overlapping neighbours are merged -/
theorem junctions_valid (z : Iv) : ∀ (L : List Iv) (a : Iv), (∀ c ∈ L, c.1 ≤ c.2 + 1) → L.Pairwise TouchOrdered →
    SD (junctionsFromBlocks (a :: L ++ [z])) ∧ WFl (junctionsFromBlocks (a :: L ++ [z])) := by
  intro L
  induction L with
  | nil =>
    intro a _ _
    refine ⟨?_, fun r hr => junctions_wf _ r hr⟩
    simp only [List.cons_append, List.nil_append, junctionsFromBlocks]
    split
    · trivial
    · trivial
  | cons i rest ih =>
    intro a hw hp
    refine ⟨?_, fun r hr => junctions_wf _ r hr⟩
    have hp' := List.pairwise_cons.mp hp
    obtain ⟨ihsd, _⟩ := ih i (fun c hc => hw c (List.mem_cons_of_mem _ hc)) hp'.2
    simp only [List.cons_append, junctionsFromBlocks]
    simp only [List.cons_append] at ihsd
    split
    · refine SD_cons_of ihsd fun x hx => ?_
      obtain ⟨h1, _⟩ := junctions_sites z rest i x (by simpa using hx)
      have hiw := hw i (by simp)
      rcases h1 with h1 | ⟨c, hc, h1⟩
      · simp; omega
      · have : i.1 ≤ c.2 + 1 := hp'.1 c hc
        simp; omega
    · exact ihsd

theorem junctions_append_cons (x : Iv) (r : List Iv) : ∀ l : List Iv,
    junctionsFromBlocks (l ++ x :: r) = junctionsFromBlocks (l ++ [x]) ++ junctionsFromBlocks (x :: r)
  | [] => rfl
  | [a] => by
    show junctionsFromBlocks (a :: x :: r) = junctionsFromBlocks [a, x] ++ _
    by_cases h : a.2 + 1 < x.1
    · rw [junctions_cons_cons_of_lt h, junctions_cons_cons_of_lt h]; rfl
    · rw [junctions_cons_cons_of_not_lt h, junctions_cons_cons_of_not_lt h]; rfl
  | a :: b :: t => by
    have ih := junctions_append_cons x r (b :: t)
    show junctionsFromBlocks (a :: b :: (t ++ x :: r)) = junctionsFromBlocks (a :: b :: (t ++ [x])) ++ _
    by_cases h : a.2 + 1 < b.1
    · rw [junctions_cons_cons_of_lt h, junctions_cons_cons_of_lt h]; exact congrArg _ ih
    · rw [junctions_cons_cons_of_not_lt h, junctions_cons_cons_of_not_lt h]; exact ih

theorem junctions_snoc (l : List Iv) (x y : Iv) :
    junctionsFromBlocks (l ++ [x, y]) =
      junctionsFromBlocks (l ++ [x]) ++ (if x.2 + 1 < y.1 then [(x.2 + 1, y.1 - 1)] else []) :=
  junctions_append_cons x [y] l

theorem length_junctions_le : ∀ l : List Iv, (junctionsFromBlocks l).length ≤ l.length - 1
  | [] => Nat.le_refl 0
  | [_] => Nat.le_refl 0
  | a :: b :: t => by
    have ih := length_junctions_le (b :: t)
    simp only [List.length_cons, Nat.add_sub_cancel] at ih ⊢
    by_cases h : a.2 + 1 < b.1
    · rw [junctions_cons_cons_of_lt h, List.length_cons]; omega
    · rw [junctions_cons_cons_of_not_lt h]; omega

theorem length_junctions_full {a b : Iv} {t : List Iv}
    (h : (junctionsFromBlocks (a :: b :: t)).length = t.length + 1) :
    a.2 + 1 < b.1 ∧ (junctionsFromBlocks (b :: t)).length = t.length := by
  have hle := length_junctions_le (b :: t)
  simp only [List.length_cons, Nat.add_sub_cancel] at hle
  by_cases hg : a.2 + 1 < b.1
  · rw [junctions_cons_cons_of_lt hg, List.length_cons] at h
    exact ⟨hg, by omega⟩
  · rw [junctions_cons_cons_of_not_lt hg] at h
    omega

end IsoVerif.Lemmas.C14
