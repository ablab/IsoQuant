/-
Helper lemmas for C04 (edge relation of the intron graph): every intron-to-intron edge is the image of a read
adjacency under the merges (cluster substitution, `collapse_vertex`) performed so far (`Adj`, `Rep`, `Wit`; the invariant
`EdgeInv` over operation histories that satisfy `OpOk`, `edgeInv_of_history_obs` for the whole constructor); labels that
merges preserve keep their order along edges (`Rep.label_lt`, `wit_label_lt`) and along threaded paths
(`threadIntrons_label_lt`); `thread_ends` / `thread_starts` return
vertices attached to the intron (`readPath_graph_spec`); `ChainMonotone`.  Core Lean only.
-/
import IsoVerif.Model.IntronGraph
import IsoVerif.Lemmas.IntronGraph
import IsoVerif.Lemmas.ModelConstruction

namespace IsoVerif.Lemmas.C04
open IsoVerif.Gen IsoVerif.Model IsoVerif.Model.C04

/-- `a` is immediately followed by `b` in `l` -/
def AdjIn (l : List Iv) (a b : Iv) : Prop := ∃ pre post, l = pre ++ a :: b :: post

theorem not_adjIn_nil {a b : Iv} : ¬ AdjIn [] a b := by
  rintro ⟨pre, post, h⟩; simp at h

theorem adjIn_cons {x a b : Iv} {l : List Iv} : AdjIn (x :: l) a b ↔ (x = a ∧ l.head? = some b) ∨ AdjIn l a b := by
  constructor
  · rintro ⟨pre, post, h⟩
    cases pre with
    | nil => cases h; exact Or.inl ⟨rfl, rfl⟩
    | cons p pre => exact Or.inr ⟨pre, post, (List.cons.inj h).2⟩
  · rintro (⟨rfl, h⟩ | ⟨pre, post, h⟩)
    · cases l with
      | nil => cases h
      | cons y t => cases h; exact ⟨[], t, rfl⟩
    · exact ⟨x :: pre, post, by rw [h]; rfl⟩

/-- consecutive elements of a concrete list are members of `zip l l.tail` (makes `Adj` hypotheses decidable on examples) -/
theorem adjIn_zip {l : List Iv} {a b : Iv} (h : AdjIn l a b) : (a, b) ∈ l.zip l.tail := by
  obtain ⟨pre, post, rfl⟩ := h
  induction pre with
  | nil => simp
  | cons p t ih =>
    simp only [List.cons_append, List.tail_cons]
    cases t with
    | nil =>
      simp only [List.nil_append, List.zip_cons_cons, List.mem_cons]
      right; simp
    | cons q t' =>
      simp only [List.cons_append, List.zip_cons_cons, List.mem_cons]
      right; simpa using ih

/-- consecutive introns of the corrected alignment of a non-multimapper read -/
def Adj (reads : List Read) (a b : Iv) : Prop := ∃ r ∈ reads, r.multimapper = false ∧ AdjIn r.introns a b

/-- reflexive-transitive closure of a "may be merged into" relation `M` -/
inductive Rep (M : Iv → Iv → Prop) : Iv → Iv → Prop where
  | refl (a : Iv) : Rep M a a
  | tail {a b c : Iv} : Rep M a b → M b c → Rep M a c

theorem Rep.trans {M : Iv → Iv → Prop} {a b c : Iv} (h1 : Rep M a b) (h2 : Rep M b c) : Rep M a c := by
  induction h2 with
  | refl => exact h1
  | tail _ hm ih => exact Rep.tail ih hm

theorem Rep.single {M : Iv → Iv → Prop} {a b : Iv} (h : M a b) : Rep M a b := Rep.tail (Rep.refl a) h

theorem Rep.label {M : Iv → Iv → Prop} {β} (w : Iv → β) (hM : ∀ c s, M c s → w c = w s) {a u : Iv} (h : Rep M a u) :
    w a = w u := by
  induction h with
  | refl => rfl
  | tail _ hm ih => rw [ih]; exact hM _ _ hm

theorem Rep.label_lt {w : Iv → Int} {a b u v : Iv} (hab : w a < w b) (ha : Rep (fun c s => w c = w s) a u)
    (hb : Rep (fun c s => w c = w s) b v) : w u < w v := by
  rw [← Rep.label w (fun _ _ hm => hm) ha, ← Rep.label w (fun _ _ hm => hm) hb]
  exact hab

theorem Rep.eq_of_eq {a u : Iv} (h : Rep (fun c s => c = s) a u) : a = u :=
  Rep.label id (fun _ _ hm => hm) h

/-- both splice sites within `δ` (`≤`: the test of `cluster_introns`; the strict test of `collapse_vertex_set` is `Within`,
    Props/C04Simplify.lean) -/
def Near (δ : Int) (a b : Iv) : Prop := iabs (a.1 - b.1) ≤ δ ∧ iabs (a.2 - b.2) ≤ δ

theorem Near.symm {δ : Int} {a b : Iv} (h : Near δ a b) : Near δ b a := by
  unfold Near at *
  rw [iabs_sub_comm b.1, iabs_sub_comm b.2]; exact h

theorem Near.eq_of_zero {a b : Iv} (h : Near 0 a b) : a = b :=
  Prod.ext (by have := (iabs_le _ 0).1 h.1; omega) (by have := (iabs_le _ 0).1 h.2; omega)

/-- edge `(u, v)` is the image of a read adjacency `(a, b)`: `a` was merged into `u`, `b` into `v` -/
def Wit (reads : List Read) (M : Iv → Iv → Prop) (u v : Iv) : Prop := ∃ a b, Adj reads a b ∧ Rep M a u ∧ Rep M b v

theorem wit_label_lt {reads : List Read} {w : Iv → Int} (hadj : ∀ a b, Adj reads a b → w a < w b) {u v : Iv}
    (h : Wit reads (fun c s => w c = w s) u v) : w u < w v :=
  let ⟨a, b, hab, ha, hb⟩ := h
  Rep.label_lt (hadj a b hab) ha hb

/-! ### the correction map only relates mergeable introns -/

theorem simAfter_near {δ : Int} {x o : Iv} {rest : List Iv} (h : o ∈ simAfter δ x rest) : Near δ o x := by
  simp only [simAfter, List.mem_filter] at h
  exact ⟨by simpa using List.all_eq_true.1 List.all_takeWhile o h.1, by simpa using h.2⟩

theorem simPairs_near {δ : Int} {l : List Iv} {p : Iv × Iv} (h : p ∈ simPairs δ l) : Near δ p.1 p.2 := by
  induction l with
  | nil => simp [simPairs] at h
  | cons x rest ih =>
    simp only [simPairs, List.mem_append, List.mem_map] at h
    rcases h with ⟨o, ho, rfl⟩ | h
    · exact (simAfter_near ho).symm
    · exact ih h

theorem similarOf_near {δ : Int} {pairs : List (Iv × Iv)} (hp : ∀ p ∈ pairs, Near δ p.1 p.2) {x y : Iv}
    (h : y ∈ similarOf pairs x) : Near δ x y := by
  exact (similarOf_mem h).elim (hp _) fun h' => (hp _ h').symm

theorem clusterStep_corr {δ : Int} {pairs : List (Iv × Iv)} {minCount : Int} {c : Collector} {ci : Int × Iv}
    (hp : ∀ p ∈ pairs, Near δ p.1 p.2) (hc : ∀ p ∈ c.corr, Near δ p.1 p.2) :
    ∀ p ∈ (clusterStep pairs minCount c ci).corr, Near δ p.1 p.2 := by
  -- only the branch that substitutes writes the map, and it writes a similar intron
  rcases clusterStep_cases pairs minCount c ci with h | ⟨s, _, hs, h⟩ | h <;> rw [h]
  · exact hc
  · exact forall_mem_amSet hc (similarOf_near hp hs)
  · exact hc

theorem collectorProcess_corr_near (known : List Iv) (δ : Int) (reads : List Read) (minCount : Int) :
    ∀ p ∈ (collectorProcess known δ reads minCount).corr, Near δ p.1 p.2 :=
  clusterIntrons_inv (motive := fun c => ∀ p ∈ c.corr, Near δ p.1 p.2) _ _ _ _ (by simp [Collector.empty])
    fun _ _ hc _ => clusterStep_corr (fun _ h => simPairs_near h) hc

/-- every intron-to-intron edge is the image of a read adjacency.  The key `p.1` of an edge dictionary is always an intron; only
    the member `p.2` can be a terminal vertex (first component a negative `VERTEX_*` code, `isIntronVertex` false), hence
    the guard on `p.2` alone.  `inc` holds `(w, v)` for `v ∈ incoming_edges[w]`: the adjacency runs from `p.2` to `p.1` -/
structure EdgeInv (reads : List Read) (M : Iv → Iv → Prop) (g : Graph) : Prop where
  sub : GSub g (fun v => v ∈ obsIntrons reads)
  corr : ∀ p ∈ g.col.corr, Rep M p.1 p.2
  out : ∀ p ∈ g.out, isIntronVertex p.2 = true → Wit reads M p.1 p.2
  inc : ∀ p ∈ g.inc, isIntronVertex p.2 = true → Wit reads M p.2 p.1

/-- what the edge invariant asks of a history: `add_edge` is called on consecutive read introns (as `construct()`
    does), `collapse_vertex(c, s)` only when `c` may be merged into `s` -/
def OpOk (reads : List Read) (M : Iv → Iv → Prop) : Op → Prop
  | .addEdge v1 v2 => Adj reads v1 v2
  | .collapse c s => M c s
  | _ => True

theorem substitute_rep {M : Iv → Iv → Prop} {c : Collector} (hc : ∀ p ∈ c.corr, Rep M p.1 p.2) (v : Iv) :
    Rep M v (c.substitute v) := by
  unfold Collector.substitute
  split
  · rename_i s hs; exact hc _ (amGet?_mem hs)
  · exact Rep.refl v

theorem wit_right {reads : List Read} {M : Iv → Iv → Prop} {u c s : Iv} (hm : M c s) :
    Wit reads M u c → Wit reads M u s
  | ⟨a, b, hab, ha, hb⟩ => ⟨a, b, hab, ha, hb.tail hm⟩

theorem wit_left {reads : List Read} {M : Iv → Iv → Prop} {c s v : Iv} (hm : M c s) :
    Wit reads M c v → Wit reads M s v
  | ⟨a, b, hab, ha, hb⟩ => ⟨a, b, hab, ha.tail hm, hb⟩

theorem collapseVertex_edgeInv {reads : List Read} {M : Iv → Iv → Prop} {g g' : Graph} (hg : EdgeInv reads M g)
    {c s : Iv} (hc : c ∈ obsIntrons reads) (hs : s ∈ obsIntrons reads) (hci : isIntronVertex c = true) (hm : M c s)
    (h : g.collapseVertex c s = some g') : EdgeInv reads M g' := by
  -- a pair ending in `c` now ends in `s`, a pair starting at `c` is copied to `s`: both keep their witness
  have ho := collapseVertex_edges (Q := fun p => isIntronVertex p.2 = true → Wit reads M p.1 p.2)
    (fun _ hq _ => wit_right hm (hq hci)) (fun _ hq hi => wit_left hm (hq hi)) h
  have hi := collapseVertex_edges (Q := fun p => isIntronVertex p.2 = true → Wit reads M p.2 p.1)
    (fun _ hq _ => wit_left hm (hq hci)) (fun _ hq hi => wit_right hm (hq hi)) h
  refine ⟨collapseVertex_gsub hg.sub hc hs h, ?_, ho.1 hg.out, hi.2 hg.inc⟩
  rw [collapseVertex_col h]
  exact forall_mem_amSet hg.corr (Rep.single hm)

/-- `hpos`: genomic coordinates are non-negative, so an observed intron is an intron vertex (`isIntronVertex v = decide (0 ≤ v.1)`);
    here and wherever `hpos` is carried further up -/
theorem applyOp_edgeInv {reads : List Read} {M : Iv → Iv → Prop} (hpos : ∀ v ∈ obsIntrons reads, 0 ≤ v.1)
    {g g' : Graph} (hg : EdgeInv reads M g) (op : Op) (hsc : opScoped (obsIntrons reads) g op = true)
    (hok : OpOk reads M op) (h : applyOp g op = some g') : EdgeInv reads M g' := by
  have hv := (gsub_iff g (fun v => v ∈ obsIntrons reads)).1 hg.sub
  have hsub := runOps_gsub [op] hg.sub (show runOps _ g [op] = some g' by simp [runOps, hsc, h])
  cases op with
  | addEdge v1 v2 =>
    cases h
    have hw : Wit reads M (g.col.substitute v1) (g.col.substitute v2) :=
      ⟨v1, v2, hok, substitute_rep hg.corr v1, substitute_rep hg.corr v2⟩
    exact ⟨hsub, hg.corr, forall_mem_setAdd hg.out (fun _ => hw), forall_mem_setAdd hg.inc (fun _ => hw)⟩
  | collapse c s =>
    simp [opScoped] at hsc
    have hc := hv _ hsc.1
    exact collapseVertex_edgeInv hg hc (hv _ hsc.2) (by simpa [isIntronVertex] using hpos c hc) hok h
  | delVertex v => cases h; exact ⟨hsub, hg.corr, fun p hp => hg.out p (List.mem_filter.1 hp).1, fun p hp => hg.inc p (List.mem_filter.1 hp).1⟩
  | delOut v => cases h; exact ⟨hsub, hg.corr, fun p hp => hg.out p (List.mem_filter.1 hp).1, hg.inc⟩
  | delInc v => cases h; exact ⟨hsub, hg.corr, hg.out, fun p hp => hg.inc p (List.mem_filter.1 hp).1⟩
  | discard v => cases h; exact ⟨hsub, hg.corr, hg.out, hg.inc⟩
  | touch v =>
    cases h
    exact ⟨hsub, fun p hp => hg.corr p ((touch_corr g.col v).1 ▸ hp), hg.out, hg.inc⟩
  | simplifyMap =>
    simp only [applyOp, Option.map_eq_some_iff] at h
    obtain ⟨c', hc', rfl⟩ := h
    exact ⟨hsub, simplifyCorrectionMap_rel (R := Rep M) (fun _ _ _ => Rep.trans) hg.corr hc', hg.out, hg.inc⟩
  | attachOut v t =>
    cases h
    simp [opScoped] at hsc
    exact ⟨hsub, hg.corr, forall_mem_setAdd hg.out (fun ht => by simp [hsc.2] at ht), hg.inc⟩
  | attachInc v t =>
    cases h
    simp [opScoped] at hsc
    exact ⟨hsub, hg.corr, hg.out, forall_mem_setAdd hg.inc (fun ht => by simp [hsc.2] at ht)⟩

theorem runOps_edgeInv {reads : List Read} {M : Iv → Iv → Prop} (hpos : ∀ v ∈ obsIntrons reads, 0 ≤ v.1)
    (ops : List Op) {g g' : Graph} (hg : EdgeInv reads M g) (hok : ∀ op ∈ ops, OpOk reads M op)
    (h : runOps (obsIntrons reads) g ops = some g') : EdgeInv reads M g' :=
  runOps_inv ops hg (fun _ op _ hop hg hsc h1 => applyOp_edgeInv hpos hg op hsc (hok op hop) h1) h

theorem readEdgeOps_adj : ∀ (l : List Iv), ∀ op ∈ readEdgeOps l, ∃ v1 v2, op = Op.addEdge v1 v2 ∧ AdjIn l v1 v2
  | [], _, h | [_], _, h => by simp [readEdgeOps] at h
  | a :: b :: u, op, h => by
    rcases List.mem_cons.1 h with h | h
    · exact ⟨a, b, h, adjIn_cons.2 (Or.inl ⟨rfl, rfl⟩)⟩
    · obtain ⟨v1, v2, e, h'⟩ := readEdgeOps_adj (b :: u) op h
      exact ⟨v1, v2, e, adjIn_cons.2 (Or.inr h')⟩

theorem constructOps_ok (M : Iv → Iv → Prop) (col : Collector) (reads : List Read) :
    ∀ op ∈ constructOps col reads, OpOk reads M op := by
  intro op hop
  simp only [constructOps, List.mem_flatMap] at hop
  obtain ⟨r, hr, hop⟩ := hop
  split at hop
  · simp at hop
  · rename_i hc
    have hmm : r.multimapper = false := by
      cases h : r.multimapper <;> simp [h] at hc ⊢
    obtain ⟨v1, v2, rfl, hadj⟩ := readEdgeOps_adj _ op hop
    exact ⟨r, hr, hmm, hadj⟩

theorem init_edgeInv_obs (known : List Iv) (δ minCount : Int) (reads : List Read) (M : Iv → Iv → Prop)
    (hδ : ∀ k s, k ∈ obsIntrons reads → s ∈ obsIntrons reads → Near δ k s → M k s) :
    EdgeInv reads M (Graph.init known δ reads minCount) := by
  have hg := init_gsub known δ reads minCount
  refine ⟨hg, fun p hp => ?_, List.forall_mem_nil _, List.forall_mem_nil _⟩
  exact Rep.single (hδ _ _ (hg.col.co p hp).1 (hg.col.co p hp).2 (collectorProcess_corr_near known δ reads minCount p hp))

theorem edgeInv_of_history_obs {known : List Iv} {δ minCount : Int} {reads : List Read} {M : Iv → Iv → Prop}
    {ops : List Op} {g0 g : Graph} (hpos : ∀ v ∈ obsIntrons reads, 0 ≤ v.1)
    (hδ : ∀ k s, k ∈ obsIntrons reads → s ∈ obsIntrons reads → Near δ k s → M k s)
    (hops : ∀ op ∈ ops, OpOk reads M op) (h0 : Graph.constructed known δ reads minCount = some g0)
    (h : runOps (obsIntrons reads) g0 ops = some g) : EdgeInv reads M g :=
  runOps_edgeInv hpos _
    (runOps_edgeInv hpos _ (init_edgeInv_obs known δ minCount reads M hδ) (constructOps_ok M _ reads) h0) hops h

/-- a label that merges preserve and that increases along `l` increases along the path threaded from `l` -/
theorem threadIntrons_label_lt {w : Iv → Int} {c : Collector} (hc : ∀ p ∈ c.corr, Rep (fun c s => w c = w s) p.1 p.2)
    {l path : List Iv} (hl : ∀ a b, AdjIn l a b → w a < w b) (h : threadIntrons c l = some path) {u v : Iv}
    (huv : AdjIn path u v) : w u < w v := by
  have hmap := (threadIntrons_eq_map l h).1
  subst hmap
  clear h
  induction l with
  | nil => exact absurd huv not_adjIn_nil
  | cons x t ih =>
    rcases adjIn_cons.1 huv with ⟨rfl, hv⟩ | h
    · cases t with
      | nil => cases hv
      | cons y t' =>
        cases hv
        exact Rep.label_lt (hl x y (adjIn_cons.2 (Or.inl ⟨rfl, rfl⟩))) (substitute_rep hc x) (substitute_rep hc y)
    · exact ih (fun a b hab => hl a b (adjIn_cons.2 (Or.inr hab))) h

/-! ### `thread_ends` / `thread_starts` return vertices attached to the intron, of the right kind -/

theorem mem_getOutgoing {g : Graph} {intron v : Iv} {t : Int} (h : v ∈ getOutgoing g intron (some t)) :
    (intron, v) ∈ g.out ∧ v.1 = t := by
  simpa [getOutgoing, outOf, mem_sortIv, mem_members, vertexOfType] using h

theorem mem_getIncoming {g : Graph} {intron v : Iv} {t : Int} (h : v ∈ getIncoming g intron (some t)) :
    (intron, v) ∈ g.inc ∧ v.1 = t := by
  simpa [getIncoming, incOf, mem_sortIv, mem_members, vertexOfType] using h

theorem threadEnds_spec {g : Graph} {delta apa : Int} {intron : Iv} {endPos : Int} {trusted : Bool} {v : Iv}
    (h : threadEnds g delta apa intron endPos trusted = some v) :
    (intron, v) ∈ g.out ∧ (v.1 = VERTEX_polya ∨ v.1 = VERTEX_read_end) := by
  simp only [threadEnds] at h
  split at h
  · -- a polyA vertex close to the trusted end
    rename_i w hw
    cases h
    rcases of_ite_eq hw with ⟨_, hw⟩ | ⟨_, hw⟩
    · exact (mem_getOutgoing (List.mem_of_find?_eq_some hw)).imp id Or.inl
    · cases hw
  · -- otherwise one of the position-sorted read-end / polyA vertices
    have hm := List.mem_of_mem_head? (pickEnd_head (of_ite_ne (by simp) h).2)
    simp only [List.mem_reverse, sortByPos, mem_insSort, List.mem_append] at hm
    exact hm.elim (fun hm => (mem_getOutgoing hm).imp id Or.inr) fun hm => (mem_getOutgoing hm).imp id Or.inl

theorem threadStarts_spec {g : Graph} {delta apa : Int} {intron : Iv} {startPos : Int} {trusted : Bool} {v : Iv}
    (h : threadStarts g delta apa intron startPos trusted = some v) :
    (intron, v) ∈ g.inc ∧ (v.1 = VERTEX_polyt ∨ v.1 = VERTEX_read_start) := by
  simp only [threadStarts] at h
  split at h
  · rename_i w hw
    cases h
    rcases of_ite_eq hw with ⟨_, hw⟩ | ⟨_, hw⟩
    · exact (mem_getIncoming (List.mem_of_find?_eq_some hw)).imp id Or.inl
    · cases hw
  · have hm := List.mem_of_mem_head? (pickStart_head (of_ite_ne (by simp) h).2)
    simp only [sortByPos, mem_insSort, List.mem_append] at hm
    exact hm.elim (fun hm => (mem_getIncoming hm).imp id Or.inr) fun hm => (mem_getIncoming hm).imp id Or.inl

/-- the shape of a full-length path registered by `fill` with the real `thread_ends` / `thread_starts` -/
theorem readPath_graph_spec {g : Graph} {delta apa : Int} {req : Bool} {a : Read} {path : List Iv}
    (h : readPath g (graphThreadParams g delta apa req) a = some (path, true)) :
    a.multimapper = false ∧ ∃ ip s e first last, threadIntrons g.col a.introns = some ip ∧
      ip.head? = some first ∧ ip.getLast? = some last ∧ path = s :: ip ++ [e] ∧
      (first, s) ∈ g.inc ∧ (s.1 = VERTEX_polyt ∨ s.1 = VERTEX_read_start) ∧
      (last, e) ∈ g.out ∧ (e.1 = VERTEX_polya ∨ e.1 = VERTEX_read_end) ∧
      (req = true → e.1 = VERTEX_polya ∨ s.1 = VERTEX_polyt) := by
  obtain ⟨hmm, ip, first, last, ht, hf, hl, hfl⟩ := readPath_spec h
  obtain ⟨_, _, e, s, hte, hts, hp, hreq⟩ := hfl rfl
  have he := threadEnds_spec hte
  have hs := threadStarts_spec hts
  exact ⟨hmm, ip, s, e, first, last, ht, hf, hl, hp, hs.1, hs.2, he.1, he.2, hreq⟩

/-! ### what the length guard of `construct_fl_isoforms` enforces -/

/-- strictly increasing intron chain inside the range `[s, e]`: every intron well-formed and strictly inside the range,
    and a non-empty exon between consecutive introns -/
def ChainMonotone (s : Int) (ip : List Iv) (e : Int) : Prop :=
  (∀ i ∈ ip, i.1 ≤ i.2 ∧ s < i.1 ∧ i.2 < e) ∧ ∀ a b, AdjIn ip a b → a.2 + 1 < b.1

theorem chainMonotone_of_pathGapped : ∀ (ip : List Iv) (s e : Int), PathGapped s ip e → ChainMonotone s ip e ∧ s ≤ e
  | [], s, e, h => ⟨⟨by simp, fun a b hab => absurd hab not_adjIn_nil⟩, h⟩
  | i :: t, s, e, h => by
    obtain ⟨h1, h2, h3⟩ := h
    obtain ⟨⟨ih1, ih2⟩, ih3⟩ := chainMonotone_of_pathGapped t (i.2 + 1) e h3
    refine ⟨⟨?_, fun a b hab => ?_⟩, by omega⟩
    · intro j hj
      rcases List.mem_cons.mp hj with rfl | hj
      · exact ⟨h2, h1, by omega⟩
      · have := ih1 j hj; exact ⟨this.1, by omega, this.2.2⟩
    · rcases adjIn_cons.1 hab with ⟨rfl, hb⟩ | hab
      · have := (ih1 b (List.mem_of_head? hb)).2.1
        omega
      · exact ih2 a b hab

end IsoVerif.Lemmas.C04
