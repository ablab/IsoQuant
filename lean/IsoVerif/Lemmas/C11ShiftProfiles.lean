/-
C11 helper lemmas — translation of `truncate_read_to_polya` and of the profile code (Model/Profiles.lean).
-/
import IsoVerif.Gen.Prims
import IsoVerif.Model.Interval
import IsoVerif.Model.Profiles
import IsoVerif.Model.C11Symmetry
import IsoVerif.Lemmas.C11Shift
import IsoVerif.Lemmas.TruncateTail
import IsoVerif.Lemmas.Split
import IsoVerif.Lemmas.OvSweep
import IsoVerif.Props.C11Lists

namespace IsoVerif.Lemmas.C11
open IsoVerif.Gen IsoVerif.Model IsoVerif.Model.C11

theorem endIndexLoop_shift (k p : Int) (l : List Iv) (i : Int) :
    endIndexLoop (p + k) (shiftL k l) i = endIndexLoop p l i := by
  induction l generalizing i <;> shift_simp [endIndexLoop]

theorem startIndexLoop_shift (k p e : Int) (l : List Iv) (i : Int) :
    startIndexLoop (p + k) e (shiftL k l) i = startIndexLoop p e l i := by
  induction l generalizing i <;> shift_simp [startIndexLoop, gt_iff_lt]

theorem truncTail_shift (k : Int) (exons : List Iv) (f t : Iv) (si ei sp ep : Int) :
    truncTail (shiftL k exons) (shiftIv k f) (shiftIv k t) si ei (sp + k) (ep + k)
      = (truncTail exons f t si ei sp ep).map (shiftL k) := by
  simp only [truncTail, shiftIv_fst, shiftIv_snd, pyGet?_shiftL, pySlice_shiftL]
  have e1 : (sp + k = f.1 + k ∧ ep + k = t.2 + k) ↔ (sp = f.1 ∧ ep = t.2) := by omega
  simp only [e1]
  generalize pyGet? exons si = g0
  generalize pyGet? exons ei = g1
  by_cases c1 : sp = f.1 ∧ ep = t.2
  · simp [c1]
  · simp only [c1, if_false]
    by_cases c2 : si = ei
    · simp [c2, shiftL, shiftIv]
    · simp only [c2, if_false]
      cases g0 <;> cases g1 <;> simp [shiftL, shiftIv]

/-- a comparator that only looks at relative positions -/
def ShiftInv (k : Int) (c : Iv → Iv → Bool) : Prop := ∀ a b, c (shiftIv k a) (shiftIv k b) = c a b

theorem markLoop_shift (k : Int) (c : Iv → Iv → Bool) (hc : ShiftInv k c) (tf ks : List Iv) (m : Bool) :
    markLoop c (shiftL k tf) (shiftL k ks) m = markLoop c tf ks m := by
  fun_induction markLoop c tf ks m
  case case1 => simp [markLoop, shiftL]
  all_goals shift_simp [markLoop, ShiftInv]

theorem noSweep_shift (k : Int) (c : Iv → Iv → Bool) (hc : ShiftInv k c) (ks : List Iv) (gi : Nat) (rs : List Iv) (ri : Nat)
    (st : NoState) :
    noSweep c (shiftL k ks) gi (shiftL k rs) ri st = noSweep c ks gi rs ri st := by
  fun_induction noSweep c ks gi rs ri st <;> shift_simp [noSweep, ShiftInv] <;> assumption

theorem intervalBinSearch_shift' (k : Int) (l : List Iv) (p d : Int) :
    intervalBinSearch (shiftL k l) (p + k + d) = intervalBinSearch l (p + d) := by
  rw [Int.add_right_comm]; exact Props.C11Lists.shift_equivariant_intervalBinSearch k l (p + d)

theorem intervalBinSearchRev_shift' (k : Int) (l : List Iv) (p d : Int) :
    intervalBinSearchRev (shiftL k l) (p + k - d) = intervalBinSearchRev l (p - d) := by
  rw [show p + k - d = p - d + k by omega]; exact Props.C11Lists.shift_equivariant_intervalBinSearchRev k l (p - d)

theorem ovSweep_shift (k : Int) (c ab : Iv → Iv → Bool) (hc : ShiftInv k c) (hab : ShiftInv k ab) (mapped : Iv)
    (ks : List Iv) (gi : Nat) (rs : List Iv) (ri : Nat) (st : OvState) :
    ovSweep c ab (shiftIv k mapped) (shiftL k ks) gi (shiftL k rs) ri st = ovSweep c ab mapped ks gi rs ri st := by
  fun_induction ovSweep c ab mapped ks gi rs ri st <;> shift_simp [ovSweep, ShiftInv] <;> assumption

theorem matchDelta_shift (k : Int) (a b : Iv) : matchDelta (shiftIv k a) (shiftIv k b) = matchDelta a b := by
  simp only [matchDelta, shiftIv, iabs]; grind

def MatchedInRange (known read : List Iv) (matched : List (Nat × Nat)) : Prop :=
  ∀ p ∈ matched, p.1 < read.length ∧ p.2 < known.length

theorem getD_shiftL (k : Int) (l : List Iv) (i : Nat) (h : i < l.length) :
    (shiftL k l).getD i (0, 0) = shiftIv k (l.getD i (0, 0)) := by
  simp [shiftL, List.getD, h]

theorem ovEliminate_shift (k : Int) (known read : List Iv) (matched : List (Nat × Nat)) (gene : List Int)
    (hm : MatchedInRange known read matched) :
    ovEliminate (shiftL k known) (shiftL k read) matched gene = ovEliminate known read matched gene := by
  simp only [ovEliminate, shiftL_length]
  apply foldl_congr_mem
  intro ri hri g
  have hri' : ri < read.length := by simpa using hri
  have e : (List.map (fun p => p.2) (List.filter (fun p => p.1 == ri) matched)).map
        (fun gi => matchDelta ((shiftL k read).getD ri (0, 0)) ((shiftL k known).getD gi (0, 0)))
      = (List.map (fun p => p.2) (List.filter (fun p => p.1 == ri) matched)).map
        (fun gi => matchDelta (read.getD ri (0, 0)) (known.getD gi (0, 0))) := by
    apply List.map_congr_left
    intro gi hgi
    simp only [List.mem_map, List.mem_filter] at hgi
    obtain ⟨p, ⟨hp, _⟩, rfl⟩ := hgi
    rw [getD_shiftL k read ri hri', getD_shiftL k known p.2 (hm p hp).2, matchDelta_shift]
  simp only [e]

theorem ovSweep_matched_range (c ab : Iv → Iv → Bool) (mapped : Iv) (ks : List Iv) (gi : Nat) (rs : List Iv) (ri : Nat)
    (st : OvState) :
    ∀ p ∈ (ovSweep c ab mapped ks gi rs ri st).matched,
      p ∈ st.matched ∨ (ri ≤ p.1 ∧ p.1 < ri + rs.length ∧ gi ≤ p.2 ∧ p.2 < gi + ks.length) := by
  induction ks, gi, rs, ri, st using C13.ovSweep_ind c ab mapped with
  | stop ks gi rs ri st h _ => intro p hp; rw [h] at hp; exact Or.inl hp
  | read k ks gi r rs ri st h1 ih =>
    intro p hp
    rw [C13.ovSweep_read _ _ _ _ _ _ _ _ h1] at hp
    rcases ih p hp with h | h
    · left; rwa [C13.readSt_matched] at h
    · right; simp only [List.length_cons] at h ⊢; omega
  | adv k ks gi r rs ri st h1 hj ih =>
    intro p hp
    rw [C13.ovSweep_adv _ _ _ _ _ _ _ _ h1 hj] at hp
    rcases ih p hp with h | h
    · rcases (C13.advSt_matched ..).mp h with h | ⟨rfl, _⟩
      · exact Or.inl h
      · right; simp only [List.length_cons]; omega
    · right; simp only [List.length_cons] at h ⊢; omega

/-! ### GeneInfo.split_exons -/

theorem sortInts_shift (k : Int) (l : List Int) : sortInts (l.map (· + k)) = (sortInts l).map (· + k) :=
  (sortInts_is.map (· + k) sortInts_is (fun _ _ => decide_eq_decide.2 (Int.add_le_add_iff_right k)) l).symm

theorem splitTail_shift (k : Int) (ends : List Int) (prev : Option Int) (lb : Int) :
    splitTail (ends.map (· + k)) (prev.map (· + k)) (lb + k) = shiftL k (splitTail ends prev lb) := by
  have e1 (e : Int) : e + k + 1 = e + 1 + k := by omega
  induction ends generalizing prev lb with
  | nil => rfl
  | cons e es ih =>
    have i1 := ih (some e)
    cases prev <;> shift_simp [List.map_cons, splitTail, Option.map_some, Option.map_none, gt_iff_lt, shiftIv,
      apply_ite (shiftL k)]

/-- the `match prev` test of `splitMain`: `x` is a new border -/
def isNew (prev : Option Int) (x : Int) : Bool :=
  match prev with
  | none => true
  | some p => decide (x > p)

theorem isNew_shift (k : Int) (prev : Option Int) (x : Int) : isNew (prev.map (· + k)) (x + k) = isNew prev x := by
  cases prev with
  | none => rfl
  | some p => simp only [Option.map_some, isNew]; congr 1; apply propext; omega

theorem splitMain_cons_cons (s : Int) (ss : List Int) (e : Int) (es : List Int) (ps pe : Option Int) (state lb : Int) :
    splitMain (s :: ss) (e :: es) ps pe state lb =
      if s ≤ e then
        if isNew ps s then
          (splitMain ss (e :: es) (some s) pe (state + 1) s).map
            (fun r => (if lb != -1 ∧ state > 0 ∧ lb < s then [(lb, s - 1)] else []) ++ r)
        else splitMain ss (e :: es) (some s) pe (state + 1) lb
      else
        if isNew pe e then (splitMain (s :: ss) es ps (some e) (state - 1) (e + 1)).map (fun r => (lb, e) :: r)
        else splitMain (s :: ss) es ps (some e) (state - 1) lb := by
  rw [splitMain.eq_def]
  cases ps <;> cases pe <;> rfl

/-- the border is unset only before anything has been consumed, and then a start comes first -/
def BorderInv (starts ends : List Int) (ps : Option Int) (lb : Int) : Prop :=
  lb ≠ -1 ∨ (ps = none ∧ ∃ s ss e es, starts = s :: ss ∧ ends = e :: es ∧ s ≤ e)

theorem splitMain_shift (k : Int) (starts ends : List Int) (ps pe : Option Int) (state lb : Int)
    (h1 : ∀ s ∈ starts, s ≠ -1 ∧ s + k ≠ -1) (h2 : ∀ e ∈ ends, e + 1 ≠ -1 ∧ e + 1 + k ≠ -1)
    (h3 : lb ≠ -1 → lb + k ≠ -1) (hinv : BorderInv starts ends ps lb) :
    splitMain (starts.map (· + k)) (ends.map (· + k)) (ps.map (· + k)) (pe.map (· + k)) state (shiftPos k lb)
      = (splitMain starts ends ps pe state lb).map (shiftL k) := by
  fun_induction splitMain starts ends ps pe state lb with
  | case1 ends ps pe state lb =>
    have hl : lb ≠ -1 := by
      rcases hinv with h | ⟨_, s, ss, e, es, hs, _⟩
      · exact h
      · simp at hs
    simp only [List.map_nil, splitMain, shiftPos, hl, if_false, splitTail_shift, Option.map_some]
  | case2 s ss ps pe state lb => simp [splitMain]
  | case3 s ss e es ps pe state lb hse hnew blk ih =>
    have hs := h1 s (by simp)
    have ihh := ih (fun x hx => h1 x (List.mem_cons_of_mem _ hx)) h2 (fun _ => hs.2) (Or.inl hs.1)
    have hn : isNew ps s = true := by cases ps with | none => rfl | some p => simpa [isNew] using hnew
    have hse' : s + k ≤ e + k := by omega
    simp only [List.map_cons, Option.map_some, shiftPos, hs.1, if_false] at ihh ⊢
    rw [splitMain_cons_cons]
    simp only [hse', if_true, isNew_shift, hn, ihh, Option.map_map, blk]
    congr 1; funext r
    simp only [Function.comp, shiftL_append]
    congr 1
    by_cases c : lb = -1
    · simp [c, shiftL]
    · have := h3 c
      simp only [c, this, if_false, bne_iff_ne, ne_eq, not_false_eq_true, true_and]
      by_cases c2 : state > 0 ∧ lb < s
      · have c2' : state > 0 ∧ lb + k < s + k := by omega
        simp [c2, c2', shiftL, shiftIv]; omega
      · simp [c2, shiftL]
  | case4 s ss e es ps pe state lb hse hnew ih =>
    have hs := h1 s (by simp)
    have hl : lb ≠ -1 := by
      rcases hinv with h | ⟨hps, _⟩
      · exact h
      · subst hps; simp at hnew
    have ihh := ih (fun x hx => h1 x (List.mem_cons_of_mem _ hx)) h2 h3 (Or.inl hl)
    have hn : isNew ps s = false := by cases ps with | none => simp at hnew | some p => simpa [isNew] using hnew
    have hse' : s + k ≤ e + k := by omega
    simp only [List.map_cons, Option.map_some] at ihh ⊢
    rw [splitMain_cons_cons]
    simp only [hse', if_true, isNew_shift, hn, ihh]; simp
  | case5 s ss e es ps pe state lb hse hnew ih =>
    have he := h2 e (by simp)
    have hl : lb ≠ -1 := by
      rcases hinv with h | ⟨_, s', ss', e', es', hs, hee, hle⟩
      · exact h
      · simp only [List.cons.injEq] at hs hee; omega
    have ihh := ih h1 (fun x hx => h2 x (List.mem_cons_of_mem _ hx)) (fun _ => he.2) (Or.inl he.1)
    have hn : isNew pe e = true := by cases pe with | none => rfl | some p => simpa [isNew] using hnew
    have hse' : ¬ (s + k ≤ e + k) := by omega
    simp only [List.map_cons, Option.map_some, shiftPos, he.1, if_false] at ihh ⊢
    rw [splitMain_cons_cons]
    have e1 : e + k + 1 = e + 1 + k := by omega
    simp only [hse', if_false, isNew_shift, hn, if_true, e1, ihh, Option.map_map, hl]
    congr 1
  | case6 s ss e es ps pe state lb hse hnew ih =>
    have hl : lb ≠ -1 := by
      rcases hinv with h | ⟨_, s', ss', e', es', hs, hee, hle⟩
      · exact h
      · simp only [List.cons.injEq] at hs hee; omega
    have ihh := ih h1 (fun x hx => h2 x (List.mem_cons_of_mem _ hx)) h3 (Or.inl hl)
    have hn : isNew pe e = false := by cases pe with | none => simp at hnew | some p => simpa [isNew] using hnew
    have hse' : ¬ (s + k ≤ e + k) := by omega
    simp only [List.map_cons, Option.map_some] at ihh ⊢
    rw [splitMain_cons_cons]
    simp only [hse', if_false, isNew_shift, hn, ihh]; simp

theorem sortInts_head_le (l : List Int) : ∀ h t, sortInts l = h :: t → ∀ y ∈ l, h ≤ y := fun _ _ e y hy =>
  sorted_head_le (e ▸ sorted_sortInts l) y (e ▸ (mem_sortInts y l).mpr hy)

end IsoVerif.Lemmas.C11
