/-
Helper lemmas for C13 (profiles), completeness direction: under explicit decidable hypotheses on the inputs the
sweep of construct_profile_for_features records every (read feature, known feature) pair that satisfies
`equal_ranges · · δ` (`sweepState_complete`) and marks every known feature inside a gap (`sweepState_gap`); both read off
`sweepState_mark`: under the hypotheses the read feature a known feature is judged against is the one in question.
-/
import IsoVerif.Lemmas.C13ProfileSound
import IsoVerif.Lemmas.Interval

namespace IsoVerif.Lemmas.C13
open IsoVerif.Model IsoVerif.Model.C13 IsoVerif.Gen

/-- consecutive (hence all later) read features start more than δ after the end of an earlier one -/
def SepBy (δ : Int) (R : List Iv) : Prop := R.Pairwise (fun a b => a.2 + δ < b.1)

/-- every known feature spans at least `δ + 1` bases (`end − start ≥ δ`, closed coordinates) -/
def LongerThan (δ : Int) (K : List Iv) : Prop := ∀ k ∈ K, k.2 - k.1 ≥ δ

/-- read features are well formed; the same as `WFl` of Lemmas/Interval.lean -/
def WFR (R : List Iv) : Prop := ∀ r ∈ R, r.1 ≤ r.2

theorem sweepState_complete (K : List Iv) (gr : Iv) (absent : Iv → Iv → Bool) (δ : Int) (R : List Iv) (M : Iv)
    (hS : SortedStarts K) (hL : LongerThan δ K) (hP : SepBy δ R) (hW : WFR R)
    (j i : Nat) (r k : Iv) (hr : R[j]? = some r) (hk : K[i]? = some k) (hc : equal_ranges r k δ = true) :
    (j, i) ∈ (sweepState K gr (fun x y => equal_ranges x y δ) absent R M).matched ∧
    (sweepState K gr (fun x y => equal_ranges x y δ) absent R M).gene[i]? = some 1 := by
  have hc' := (equal_ranges_iff r k δ).mp hc
  have hlen := hL k (List.mem_of_getElem? hk)
  have hw := hW r (List.mem_of_getElem? hr)
  rcases sweepState_mark K gr (fun x y => equal_ranges x y δ) absent R M hS i k hk with
    ⟨a, ra, ⟨hra, hn, hbef⟩, hg, hm⟩ | ⟨hall, _⟩
  · -- the read feature `k` is judged against is `r`: an earlier one would end more than δ before `r` starts
    have haj : a = j := by
      rcases Nat.lt_trichotomy a j with h | h | h
      · obtain ⟨h1, e1⟩ := List.getElem?_eq_some_iff.mp hra
        obtain ⟨h2, e2⟩ := List.getElem?_eq_some_iff.mp hr
        have := (List.pairwise_iff_getElem.mp hP) a j h1 h2 h
        rw [e1, e2] at this; omega
      · exact h
      · have := hbef j r h hr; omega
    subst haj
    rw [hr] at hra; cases hra
    have h2 : ¬ k.2 < r.1 := by omega
    exact ⟨(hm a).mpr ⟨rfl, h2, hc⟩, by rw [hg, judge, if_neg h2, if_pos hc]⟩
  · have := hall r (List.mem_of_getElem? hr); omega

theorem sep_unique (δ : Int) (R : List Iv) (hP : SepBy δ R) (k : Iv) (hlen : k.2 - k.1 ≥ δ)
    (j j' : Nat) (r r' : Iv) (hr : R[j]? = some r) (hr' : R[j']? = some r')
    (hc : equal_ranges r k δ = true) (hc' : equal_ranges r' k δ = true) : j = j' := by
  have key : ∀ (a b : Nat) (x y : Iv), a < b → R[a]? = some x → R[b]? = some y →
      equal_ranges x k δ = true → equal_ranges y k δ = true → False := by
    intro a b x y hab hx hy hcx hcy
    obtain ⟨ha, hxa⟩ := List.getElem?_eq_some_iff.mp hx
    obtain ⟨hb, hyb⟩ := List.getElem?_eq_some_iff.mp hy
    have := (List.pairwise_iff_getElem.mp hP) a b ha hb hab
    rw [hxa, hyb] at this
    have h1 := (equal_ranges_iff x k δ).mp hcx
    have h2 := (equal_ranges_iff y k δ).mp hcy
    omega
  rcases Nat.lt_trichotomy j j' with h | h | h
  · exact absurd (key j j' r r' h hr hr' hc hc') id
  · exact h
  · exact absurd (key j' j r' r h hr' hr hc' hc) id

theorem sweepState_gap (K : List Iv) (gr : Iv) (cmp absent : Iv → Iv → Bool) (R : List Iv) (M : Iv) (hK : SortedStarts K)
    (hWk : ∀ k ∈ K, k.1 ≤ k.2) (hW : WFR R) (i : Nat) (k : Iv) (hk : K[i]? = some k) (c : Nat) (r' : Iv) (hc : 0 < c)
    (hr' : R[c]? = some r') (hlt : k.2 < r'.1) (hbefore : ∀ c' r'', c' < c → R[c']? = some r'' → r''.2 < k.1) :
    (sweepState K gr cmp absent R M).gene[i]? = some (-1) := by
  have := hWk k (List.mem_of_getElem? hk)
  have := hW r' (List.mem_of_getElem? hr')
  rcases sweepState_mark K gr cmp absent R M hK i k hk with ⟨a, r, ⟨hr, hn, hbef⟩, hg, _⟩ | ⟨hall, _⟩
  · have hac : a = c := by
      rcases Nat.lt_trichotomy a c with h | h | h
      · exact absurd (hbefore a r h hr) hn
      · exact h
      · have := hbef c r' h hr'; omega
    subst hac
    rw [hr'] at hr; cases hr
    rw [hg, judge, if_pos hlt, if_pos hc]
  · have := hall r' (List.mem_of_getElem? hr'); omega

end IsoVerif.Lemmas.C13
