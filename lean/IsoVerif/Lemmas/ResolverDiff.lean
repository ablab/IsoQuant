/-
C08 — helper lemmas for Props/C08Diff.lean (the differential form of "the losers are suppressed everywhere"):
duplicate elimination on a duplicate-free list, winners among themselves.
-/
import IsoVerif.Model.Resolver
import IsoVerif.Lemmas.Resolver
import IsoVerif.Lemmas.ResolverSpec
import IsoVerif.Props.C08Spec

namespace IsoVerif.Lemmas.ResolverDiff
open IsoVerif.Gen IsoVerif.Model.Resolver IsoVerif.Lemmas.Resolver IsoVerif.Lemmas.ResolverSpec IsoVerif.Props.C08

theorem findDuplicates_of_pairwise {c : List IRec} (h : c.Pairwise (fun a b => recEq a.1 b.1 = false)) :
    findDuplicates c = c := by
  simpa [findDuplicates, firstWins] using firstWinsAux_of_pairwise (fun a b : IRec => recEq a.1 b.1) c [] (by simpa using h)

theorem change_congr (f : Rec → List Nat) {K K' : List IRec} (h : K.map (·.1) = K'.map (·.1)) :
    (decide (1 < K.length) && decide (1 < setSize (K.flatMap (fun x => f x.1)))) =
      (decide (1 < K'.length) && decide (1 < setSize (K'.flatMap (fun x => f x.1)))) := by
  have hf : ∀ K : List IRec, K.flatMap (fun x => f x.1) = (K.map (·.1)).flatMap f :=
    fun K => (List.flatMap_map ..).symm
  rw [hf, hf, h, ← List.length_map (f := (·.1)) (as := K), h, List.length_map]

theorem changeT_congr {K K' : List IRec} (h : K.map (·.1) = K'.map (·.1)) : changeT K = changeT K' :=
  change_congr (·.isoforms) h

theorem changeG_congr {K K' : List IRec} (h : K.map (·.1) = K'.map (·.1)) : changeG K = changeG K' :=
  change_congr (·.genes) h

theorem winner_assigned {l : List Rec} {r : Rec} (w : Winner l r) (hA : Has Cons l ∨ Has Inc l) : Cons r ∨ Inc r := by
  obtain ⟨w1, w2, w3, w4, _⟩ := w
  by_cases c1 : Has PU l
  · exact Or.inl (w1 c1).1
  · by_cases c2 : Has Cons l
    · exact Or.inl (w2 c1 c2)
    · by_cases c3 : Has PInc l
      · exact Or.inr (w3 c2 c3).1.1
      · rcases hA with h | h
        · exact absurd h c2
        · exact Or.inr (w4 c2 c3 h).1

/-- `Has P s → Has P l`, so a winner of `l` stays a winner, in its class, inside a sub-list `s` of winners -/
theorem winner_sub (l s : List Rec) (hs : ∀ r ∈ s, r ∈ l ∧ Winner l r) (hA : Has Cons l ∨ Has Inc l) :
    ∀ r ∈ s, Winner s r := by
  have mono : ∀ P : Rec → Prop, Has P s → Has P l := fun P ⟨q, hq, hp⟩ => ⟨q, (hs q hq).1, hp⟩
  intro r hr
  have w := (hs r hr).2
  by_cases c1 : Has PU l
  · have hP := (winner_iff_pu c1).mp w
    exact (winner_iff_pu ⟨r, hr, hP⟩).mpr hP
  by_cases c2 : Has Cons l
  · have hC := (winner_iff_cons c1 c2).mp w
    exact (winner_iff_cons (mt (mono PU) c1) ⟨r, hr, hC⟩).mpr hC
  by_cases c3 : Has PInc l
  · obtain ⟨hP, hmin⟩ := (winner_iff_pinc c2 c3).mp w
    exact (winner_iff_pinc (mt (mono Cons) c2) ⟨r, hr, hP⟩).mpr ⟨hP, fun q hq => hmin q (hs q hq).1⟩
  · obtain ⟨hI, hmin⟩ := (winner_iff_inc c2 c3 (hA.resolve_left c2)).mp w
    exact (winner_iff_inc (mt (mono Cons) c2) (mt (mono PInc) c3) ⟨r, hr, hI⟩).mpr
      ⟨hI, fun q hq => hmin q (hs q hq).1⟩

theorem candidates_of_all_winners {l s : List Rec} (hs : ∀ r ∈ s, r ∈ l ∧ Winner l r) (hA : Has Cons l ∨ Has Inc l)
    (hne : s ≠ []) : candidates s = some s.zipIdx := by
  obtain ⟨r0, hr0⟩ := List.exists_mem_of_ne_nil s hne
  have hA' : Has Cons s ∨ Has Inc s :=
    (winner_assigned (hs r0 hr0).2 hA).imp (fun h => ⟨r0, hr0, h⟩) (fun h => ⟨r0, hr0, h⟩)
  rw [(candidates_eq s hne).2.2.1 hA']
  exact congrArg some (List.filter_eq_self.mpr fun x hx => by
    simpa using winner_sub l s hs hA x.1 (List.fst_mem_of_mem_zipIdx hx))

end IsoVerif.Lemmas.ResolverDiff
