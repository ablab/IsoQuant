/-
C07: a run of the repaired code for any scheduling of its two per-chromosome parts (`runVia`): the lock-removal step, `.params`,
the reference stage, then `restPhases` with the read collection and the model construction of all chromosomes given as phases.
Its shape (`runVia_shaped`, from `rest_phases`) and its lock-removal step (`runVia_fresh`) are proved once; `run` is the instance
with the `--threads 1` loops (here), `runPool` the one with two parallel stages (Lemmas/ResumePoolRun.lean).
-/
import IsoVerif.Lemmas.ResumeShape

namespace IsoVerif.Lemmas.Resume
open IsoVerif.Model.Resume

theorem runPhases_evs_all (T : Path → Bool) (ps : List Phase)
    (h : ∀ p ∈ ps, ∀ fs, ∀ e ∈ (runPhase p fs).evs, T e.path = true) (fs : FS) :
    ∀ e ∈ (runPhases ps fs).evs, T e.path = true := by
  induction ps generalizing fs with
  | nil => intro e he; simp [runPhases] at he
  | cons p ps ih =>
    intro e he
    simp only [runPhases] at he
    split at he
    · simp only [List.mem_append] at he
      rcases he with he | he
      · exact h p (by simp) fs e he
      · exact ih (fun p' hp' => h p' (by simp [hp'])) _ e he
    · exact h p (by simp) fs e he

theorem runPhases_skip {s : Stage} {fs : FS} (h : s fs = []) (ps : List Phase) :
    runPhases (.seq s :: ps) fs = runPhases ps fs := by
  simp only [runPhases, runPhase, h, runActs, if_true, List.nil_append]

theorem forceClean_split {cfg : Cfg} (wf : WF cfg) (ps : List Phase) (fs : FS) :
    runPhases (.seq (forceClean fixed cfg false) :: ps) fs =
      ⟨(lockList cfg fs).map Ev.remove ++ (runPhases ps (cleaned cfg fs)).evs, (runPhases ps (cleaned cfg fs)).fs,
       (runPhases ps (cleaned cfg fs)).ok⟩ := by
  obtain ⟨hok, hevs⟩ := runActs_of_checks (checks_rmAll (lockList_nodup wf fs) (lockList_has cfg fs))
  have hfs : (runActs (rmAll (lockList cfg fs)) fs).fs = cleaned cfg fs := by
    rw [runActs_fs, hevs, eventsOf_rmAll]; rfl
  have h0 : forceClean fixed cfg false fs = rmAll (lockList cfg fs) := by simp [forceClean, fixed]
  simp only [runPhases, runPhase, h0, hok, if_true, hevs, eventsOf_rmAll, hfs]

/-- a run of the repaired code whose read collection and model construction of all chromosomes are the phases `P1 rs skc`
    and `P2 rs` (`skc`: no read collection in this run) -/
def runVia (cfg : Cfg) (ord : List Path) (P1 : Bool → Bool → List Phase) (P2 : Bool → List Phase) : Runner := fun rs fs =>
  runPhases (.seq (forceClean fixed cfg rs) :: .seq (paramsStage fixed rs) :: .seq (refStage fixed cfg rs) ::
    restPhases cfg ord rs ((rs && fs.has .lock) || cfg.fromSaves) (P1 rs ((rs && fs.has .lock) || cfg.fromSaves)) (P2 rs)) fs

theorem runVia_shaped {cfg : Cfg} (wf : WF cfg) (ord : List Path) (hord : ord.Nodup) {P1 : Bool → Bool → List Phase}
    {P2 : Bool → List Phase} (h1 : ∀ rs skc, CollectSpec cfg rs skc (P1 rs skc)) (h2 : ∀ rs, ConstructSpec cfg rs (P2 rs)) :
    Shaped cfg (runVia cfg ord P1 P2) :=
  shaped_of_rest
    (rest := fun rs sk => .seq (refStage fixed cfg rs) :: restPhases cfg ord rs (sk || cfg.fromSaves)
      (P1 rs (sk || cfg.fromSaves)) (P2 rs))
    (fun rs fs hcl => by
      have hf : forceClean fixed cfg rs fs = [] := by
        cases rs with
        | true => rfl
        | false => simp [forceClean, fixed, hcl rfl, rmAll]
      exact runPhases_skip hf _)
    (fun rs sk fs hj hs => by
      obtain ⟨g0, _, f0, r0⟩ := ref_stage rs hj
      refine seq_cons_seq (Q := FinOK cfg) g0 ?_
      exact rest_phases wf ord hord rs sk (h1 rs _) (h2 rs) (good_J_acts g0)
        (hs.frame (f0 _ rfl) (f0 _ rfl) (fun _ => f0 _ rfl) (fun _ => f0 _ rfl) (fun _ => f0 _ rfl)) r0)

/-- with `--read_assignments` no task writes a save file (there is no read collection; model construction writes inside `Tcon`) -/
theorem task_notSaves (cfg : Cfg) (rs : Bool) (c : Chr) (fs : FS) :
    Within notSaves (collectChr fixed cfg rs true c fs) ∧ Within notSaves (constructChr fixed cfg rs c fs) :=
  ⟨fun e he => by simp [collectChr, eventsOf] at he,
   (constructChr_T fixed cfg rs c fs).mono fun p hp => by cases p <;> first | rfl | cases hp⟩

theorem runVia_saves {cfg : Cfg} (hm : cfg.fromSaves = true) (ord : List Path) {P1 : Bool → Bool → List Phase}
    {P2 : Bool → List Phase} (rs : Bool)
    (h1 : ∀ p ∈ P1 rs true, ∀ fs, ∀ e ∈ (runPhase p fs).evs, notSaves e.path = true)
    (h2 : ∀ p ∈ P2 rs, ∀ fs, ∀ e ∈ (runPhase p fs).evs, notSaves e.path = true) (fs : FS) :
    ∀ e ∈ (runVia cfg ord P1 P2 rs fs).evs, notSaves e.path = true := by
  have hseq : ∀ s ∈ forceClean fixed cfg rs :: stages fixed cfg ord rs (rs && fs.has .lock), ∀ fs', ∀ e ∈ (runPhase (.seq s) fs').evs,
      notSaves e.path = true :=
    fun s hs fs' => (stages_notSaves hm ord rs _ s hs fs').run fs'
  apply runPhases_evs_all
  intro p hp
  rw [stages_eq] at hseq
  simp only [restPhases, restStages, hm, Bool.or_true, if_true, List.mem_cons, List.mem_append, List.not_mem_nil, or_false] at hp hseq
  rcases hp with rfl | rfl | rfl | rfl | rfl | hp | rfl | rfl | hp | rfl | rfl
  · exact hseq _ (Or.inl rfl)
  · exact hseq _ (Or.inr (Or.inl rfl))
  · exact hseq _ (Or.inr (Or.inr (Or.inl rfl)))
  · exact hseq _ (Or.inr (Or.inr (Or.inr (Or.inl rfl))))
  · exact hseq _ (Or.inr (Or.inr (Or.inr (Or.inr (Or.inl rfl)))))
  · exact h1 p hp
  · exact hseq _ (by simp)
  · exact hseq _ (by simp)
  · exact h2 p hp
  · exact hseq _ (by simp)
  · exact hseq _ (by simp)

theorem runVia_fresh {cfg : Cfg} (wf : WF cfg) (ord : List Path) {P1 : Bool → Bool → List Phase} {P2 : Bool → List Phase}
    (h1 : ∀ p ∈ P1 false true, ∀ fs, ∀ e ∈ (runPhase p fs).evs, notSaves e.path = true)
    (h2 : ∀ p ∈ P2 false, ∀ fs, ∀ e ∈ (runPhase p fs).evs, notSaves e.path = true) : Fresh cfg (runVia cfg ord P1 P2) := by
  refine ⟨fun fs => ?_, fun hm => runVia_saves hm ord false h1 h2⟩
  have hc : forceClean fixed cfg false (cleaned cfg fs) = [] := by simp [forceClean, fixed, lockList_cleaned, rmAll]
  simp only [runVia, Bool.false_and]
  rw [runPhases_skip hc, forceClean_split wf]
  exact ⟨rfl, rfl⟩

theorem run_via (cfg : Cfg) (ord : List Path) :
    run fixed cfg ord = runVia cfg ord (fun rs skc => seqTasks cfg (collectChr fixed cfg rs skc))
      (fun rs => seqTasks cfg (constructChr fixed cfg rs)) := by
  funext rs fs
  rw [run, runVia, stages_eq, ← runPhases_seq, ← restStages_phases]; rfl

theorem run_fresh {cfg : Cfg} (wf : WF cfg) (ord : List Path) : Fresh cfg (run fixed cfg ord) := by
  rw [run_via]
  refine runVia_fresh wf ord (fun p hp fs e he => ?_) (fun p hp fs e he => ?_) <;>
    simp only [seqTasks, List.mem_map] at hp <;> obtain ⟨_, ⟨c, _, rfl⟩, rfl⟩ := hp
  · exact (task_notSaves cfg false c fs).1.run fs e he
  · exact (task_notSaves cfg false c fs).2.run fs e he

end IsoVerif.Lemmas.Resume
