/-
C01, forward clause for reads that follow an annotated isoform with EXACT splice sites: from the geometry of the read
(`FollowsExact`) to the hypotheses of the profile lemmas (Lemmas/C01FollowIntron.lean, C01SplitSweep.lean,
C01FollowGene.lean).
-/
import IsoVerif.Lemmas.C01FollowGene
import IsoVerif.Lemmas.C01SplitSweep
import IsoVerif.Lemmas.C01FollowIntron

namespace IsoVerif.Lemmas.C01
open IsoVerif.Gen IsoVerif.Model IsoVerif.Model.C01 IsoVerif.Lemmas IsoVerif.Lemmas.C13
open IsoVerif.Props.C13Profiles

/-- the read (alignment blocks) is a contiguous sub-chain of the exon list `E` with EXACT splice sites: block `j` lies
    inside exon `a + j`, shares its start unless it is the first block and its end unless it is the last block
    (5' / 3' truncation: the first block may start, the last block may end, anywhere inside its exon) -/
def FollowsExact (E blocks : List Iv) : Prop :=
  ∃ a : Nat, ∀ (j : Nat) (b : Iv), blocks[j]? = some b →
    ∃ e, E[a + j]? = some e ∧ e.1 ≤ b.1 ∧ b.2 ≤ e.2 ∧ (0 < j → b.1 = e.1) ∧ (j + 1 < blocks.length → b.2 = e.2)

theorem Gapped_get : ∀ (l : List Iv), Gapped l → ∀ (i : Nat) (a b : Iv), l[i]? = some a → l[i + 1]? = some b →
    a.2 + 1 < b.1 := by
  intro l
  induction l with
  | nil => intro _ i a b ha; simp at ha
  | cons x t ih =>
    cases t with
    | nil => intro _ i a b _ hb; simp at hb
    | cons y t' =>
      intro h i a b ha hb
      cases i with
      | zero => simp at ha hb; subst ha; subst hb; exact h.2.1
      | succ i =>
        simp only [List.getElem?_cons_succ] at ha hb
        exact ih h.2.2 i a b ha hb

/-- a read with exact splice sites: every read junction IS a junction of `E` (`key`), hence its own strictly closest known
    intron (`strictBest_exact`); a junction of `E` lies before the read, behind it, or is a read junction -/
theorem followsExact_intronFollow (δ : Int) (hδ : 0 ≤ δ) (K E blocks : List Iv) (hE : Gapped E) (hB : Gapped blocks)
    (hf : FollowsExact E blocks) (hK : ∀ t ∈ junctionsFromBlocks E, t ∈ K)
    (f l : Iv) (hfirst : blocks.head? = some f) (hlast : blocks.getLast? = some l) :
    IntronFollow δ K (junctionsFromBlocks E) (junctionsFromBlocks blocks) (f.1, l.2) := by
  obtain ⟨a0, hfa⟩ := hf
  have hBsd := Gapped_SD blocks hB
  have hBw := Gapped_wf blocks hB
  have hEsd := Gapped_SD E hE
  have hEw := Gapped_wf E hE
  have hf0 : blocks[0]? = some f := by rw [← List.head?_eq_getElem?]; exact hfirst
  have hm : 0 < blocks.length := getElem?_lt hf0
  have hl0 : blocks[blocks.length - 1]? = some l := by rw [← List.getLast?_eq_getElem?]; exact hlast
  -- a read junction is a junction of E
  have key : ∀ (j : Nat) (a b : Iv), blocks[j]? = some a → blocks[j + 1]? = some b →
      ∃ e e', E[a0 + j]? = some e ∧ E[a0 + j + 1]? = some e' ∧ a.2 = e.2 ∧ b.1 = e'.1 := by
    intro j a b ha hb
    obtain ⟨e, he, _, _, _, h4⟩ := hfa j a ha
    obtain ⟨e', he', _, _, h3', _⟩ := hfa (j + 1) b hb
    exact ⟨e, e', he, he', h4 (getElem?_lt hb), h3' (by omega)⟩
  refine ⟨?_, ?_, ?_⟩
  · intro r hr
    obtain ⟨j, a, b, ha, hb, hrab, _⟩ := junctions_mem_index blocks hB r hr
    obtain ⟨e, e', he, he', h1, h2⟩ := key j a b ha hb
    have hmem := junction_of_index E hE (a0 + j) e e' he he'
    have hre : r = (e.2 + 1, e'.1 - 1) := by rw [hrab, h1, h2]
    rw [← hre] at hmem
    exact ⟨r, hmem, strictBest_exact δ hδ K r (hK r hmem)⟩
  · intro t ht
    obtain ⟨q, e, e', he, he', hte, _⟩ := junctions_mem_index E hE t ht
    obtain ⟨ef, hef, hf1, _, _, _⟩ := hfa 0 f hf0
    obtain ⟨el, hel, _, hl2, _, _⟩ := hfa (blocks.length - 1) l hl0
    by_cases h1 : q < a0
    · left
      have := (SD.get_le hEsd hEw he' hef (by omega)).1
      rw [hte]; show e'.1 - 1 < f.1; omega
    · by_cases h2 : a0 + (blocks.length - 1) ≤ q
      · right; left
        have := (SD.get_le hEsd hEw hel he h2).2
        rw [hte]; show l.2 < e.2 + 1; omega
      · right; right
        have hj1 : q - a0 < blocks.length := by omega
        have hj2 : q - a0 + 1 < blocks.length := by omega
        have ha : blocks[q - a0]? = some blocks[q - a0] := by simp [hj1]
        have hb : blocks[q - a0 + 1]? = some blocks[q - a0 + 1] := by simp [hj2]
        obtain ⟨e1, e1', he1, he1', h3, h4⟩ := key (q - a0) _ _ ha hb
        have eq1 : a0 + (q - a0) = q := by omega
        rw [eq1] at he1 he1'
        rw [he] at he1; cases he1
        rw [he'] at he1'; cases he1'
        have hmem := junction_of_index blocks hB (q - a0) _ _ ha hb
        rw [h3, h4, ← hte] at hmem
        exact ⟨t, hmem, strictBest_exact δ hδ K t (hK t ht)⟩
  · intro r hr
    obtain ⟨j, a, b, ha, hb, hrab, _⟩ := junctions_mem_index blocks hB r hr
    have h1 := (SD.get_le hBsd hBw hf0 ha (by omega)).1
    have h2 := (SD.get_le hBsd hBw hb hl0 (by have := getElem?_lt hb; omega)).2
    have := hBw a (List.mem_of_getElem? ha)
    have := hBw b (List.mem_of_getElem? hb)
    rw [hrab]
    constructor
    · show f.1 < a.2 + 1; omega
    · show b.1 - 1 < l.2; omega

/-- `overlaps_at_least_when_overlap` read off its body (containment first, then the side that ends first); the form in
    positions is `Props.C19.overlaps_at_least_when_overlap_spec` -/
theorem oalwo_iff (a b : Iv) (d : Int) : overlaps_at_least_when_overlap a b d = true ↔
    ((b.1 ≤ a.1 ∧ a.2 ≤ b.2) ∨
     (if a.2 < b.2 then (a.1 ≥ b.1 ∨ a.2 - b.1 + 1 ≥ d) else (a.1 ≤ b.1 ∨ b.2 - a.1 + 1 ≥ d))) := by
  simp only [overlaps_at_least_when_overlap]
  by_cases hc : b.1 ≤ a.1 ∧ a.2 ≤ b.2
  · simp [hc]
  · by_cases h : a.2 < b.2
    · simp [hc, h]
    · simp [hc, h]

/-- the comparator of the split-exon profile (`overlaps_at_least_when_overlap`) holds for a block inside an annotated
    exon and one of the atoms it overlaps, as soon as the block shares ONE of its ends with the exon (start or end — the
    symmetric form: since fix 48e5811 the comparator tests containment first, so a block inside an atom counts whichever
    end they share) or is at least `2·minimal_exon_overlap − 1` long -/
theorem block_has_atom {g : Gene} (ha : Atoms g) (meo : Int) (e : Iv) (he : e ∈ g.exons) (b : Iv) (hbw : b.1 ≤ b.2)
    (hin : e.1 ≤ b.1 ∧ b.2 ≤ e.2)
    (hyp : b.1 = e.1 ∨ b.2 = e.2 ∨ 2 * meo - 1 ≤ b.2 - b.1 + 1) :
    ∃ k ∈ g.splitExons, overlaps b k = true ∧ overlaps_at_least_when_overlap b k meo = true := by
  rcases hyp with hs | hs | hlong
  · -- the atom that starts the exon
    obtain ⟨k, hk, hk1, hk2, hk3, hk4⟩ := atom_at ha e he b.1 ⟨by omega, by omega⟩
    refine ⟨k, hk, by simp [overlaps]; omega, ?_⟩
    rw [oalwo_iff]; split <;> omega
  · -- the atom that ends the exon: it ends where the block ends
    obtain ⟨k, hk, hk1, hk2, hk3, hk4⟩ := atom_at ha e he b.2 ⟨by omega, by omega⟩
    refine ⟨k, hk, by simp [overlaps]; omega, ?_⟩
    rw [oalwo_iff]; split <;> omega
  · -- the atom that covers the last position of the block
    obtain ⟨k, hk, hk1, hk2, hk3, hk4⟩ := atom_at ha e he b.2 ⟨by omega, by omega⟩
    by_cases hc : k.1 ≤ b.1
    · -- the block lies inside this atom
      refine ⟨k, hk, by simp [overlaps]; omega, ?_⟩
      rw [oalwo_iff]; split <;> omega
    · -- the atom before it
      obtain ⟨kp, hkp, hp1, hp2, hp3, hp4⟩ := atom_at ha e he (k.1 - 1) ⟨by omega, by omega⟩
      have hne : kp ≠ k := by intro e'; subst e'; omega
      obtain ⟨ip, hip⟩ := List.mem_iff_getElem?.mp hkp
      obtain ⟨ik, hik⟩ := List.mem_iff_getElem?.mp hk
      have hlt : kp.2 < k.1 := by
        rcases Nat.lt_trichotomy ip ik with h | h | h
        · exact ha.sd.get_lt ha.wf hip hik h
        · subst h; rw [hip] at hik; cases hik; exact absurd rfl hne
        · have := ha.sd.get_lt ha.wf hik hip h
          have := ha.wf k hk
          omega
      by_cases hc2 : b.1 ≤ kp.1
      · refine ⟨kp, hkp, by simp [overlaps]; omega, ?_⟩
        rw [oalwo_iff]; split <;> omega
      · by_cases hc3 : b.2 < k.2
        · by_cases hc4 : meo ≤ kp.2 - b.1 + 1
          · refine ⟨kp, hkp, by simp [overlaps]; omega, ?_⟩
            rw [oalwo_iff]; split <;> omega
          · refine ⟨k, hk, by simp [overlaps]; omega, ?_⟩
            rw [oalwo_iff]; split <;> omega
        · refine ⟨k, hk, by simp [overlaps]; omega, ?_⟩
          rw [oalwo_iff]; split <;> omega

/-- the exon half of "the read is a sub-chain of `E`", without positions in `E`: every block lies inside an exon and
    shares an end with it (or is `len` long), and no exon reaches into the gap between two consecutive blocks -/
structure BlockFollow (len : Int) (E blocks : List Iv) : Prop where
  inside : ∀ b ∈ blocks, ∃ e ∈ E, e.1 ≤ b.1 ∧ b.2 ≤ e.2 ∧ (b.1 = e.1 ∨ b.2 = e.2 ∨ len ≤ b.2 - b.1 + 1)
  gap : ∀ (j : Nat) (r r' : Iv), blocks[j]? = some r → blocks[j + 1]? = some r' → ∀ e ∈ E, e.2 ≤ r.2 ∨ r'.1 ≤ e.1

theorem followsExact_blockFollow (len : Int) (E blocks : List Iv) (hE : Gapped E) (hf : FollowsExact E blocks)
    (hsingle : ∀ b, blocks = [b] → len ≤ b.2 - b.1 + 1 ∨ ∃ e ∈ E, e.1 ≤ b.1 ∧ b.2 ≤ e.2 ∧ (b.1 = e.1 ∨ b.2 = e.2)) :
    BlockFollow len E blocks := by
  obtain ⟨a0, hfa⟩ := hf
  have hEsd := Gapped_SD E hE
  have hEw := Gapped_wf E hE
  refine ⟨fun b hb => ?_, fun j r r' hr hr' e he => ?_⟩
  · obtain ⟨j, hj⟩ := List.mem_iff_getElem?.mp hb
    obtain ⟨e, he, h1, h2, h3, h4⟩ := hfa j b hj
    by_cases hj0 : 0 < j
    · exact ⟨e, List.mem_of_getElem? he, h1, h2, Or.inl (h3 hj0)⟩
    · by_cases hl : j + 1 < blocks.length
      · exact ⟨e, List.mem_of_getElem? he, h1, h2, Or.inr (Or.inl (h4 hl))⟩
      · -- a single block
        have hbl : blocks = [b] := by
          have hlen : blocks.length = 1 := by have := getElem?_lt hj; omega
          obtain rfl : j = 0 := by omega
          match blocks, hlen, hj with
          | [x], _, hj => simp at hj; rw [hj]
        rcases hsingle b hbl with hlong | ⟨e', he', g1, g2, g3⟩
        · exact ⟨e, List.mem_of_getElem? he, h1, h2, Or.inr (Or.inr hlong)⟩
        · exact ⟨e', he', g1, g2, g3.imp id Or.inl⟩
  · obtain ⟨e1, he1, _, _, _, h14⟩ := hfa j r hr
    obtain ⟨e2, he2, _, _, h23, _⟩ := hfa (j + 1) r' hr'
    have hre := h14 (getElem?_lt hr')
    have hre' := h23 (by omega)
    obtain ⟨q, hq⟩ := List.mem_iff_getElem?.mp he
    by_cases hqa : q ≤ a0 + j
    · have := (SD.get_le hEsd hEw hq he1 hqa).2
      left; omega
    · have := (SD.get_le hEsd hEw he2 hq (by omega)).1
      right; omega

/-- everything the forward clause assumes (each item is decidable):
    the annotation is well formed with non-negative coordinates, every annotated intron is at least δ long;
    T's exons and the read's blocks are separated by at least one base; the read follows T exactly; consecutive read
    introns are more than δ apart (inner blocks at least δ long); a SINGLE-block read is at least
    `2·minimal_exon_overlap − 1` long or shares one of its ends with the exon of T it lies in (every block of a spliced
    read shares an end with its exon by `FollowsExact`: spliced reads need no length condition — the symmetric form
    of `block_has_atom` after fix 48e5811); no polyA / polyT position. -/
structure FollowHyp (ms : List Isoform) (g : Gene) (p : Params) (T : IsoInfo) (blocks : List Iv) (pa : PolyA) : Prop where
  hg : Gene.fromModels ms = some g
  hwf : WellFormed ms
  hnn : NonNeg ms
  hT : T ∈ g.isos
  hTg : Gapped T.exons
  hδ : 0 ≤ p.delta
  hmao : 0 ≤ p.min_abs_exon_overlap
  hlong : LongerThan p.delta g.introns
  hB : Gapped blocks
  hf : FollowsExact T.exons blocks
  hsep : SepBy p.delta (junctionsFromBlocks blocks)
  hsingle : ∀ b, blocks = [b] → 2 * p.minimal_exon_overlap - 1 ≤ b.2 - b.1 + 1 ∨
      ∃ e ∈ T.exons, e.1 ≤ b.1 ∧ b.2 ≤ e.2 ∧ (b.1 = e.1 ∨ b.2 = e.2)
  hA : pa.extA = -1
  hT' : pa.extT = -1

theorem constructProfiles_split_nopolya (g : Gene) (p : Params) (blocks : List Iv) (pa : PolyA) (rp : ReadProf)
    (h : constructProfiles g p blocks pa = some rp) (hA : pa.extA = -1) (hT : pa.extT = -1) :
    rp.split.gene = (noSweep (fun a b => overlaps_at_least_when_overlap a b p.minimal_exon_overlap) g.splitExons 0 blocks 0
      { gene := g.splitExons.map (fun _ => 0), read := blocks.map (fun _ => 0) }).gene ∧
    rp.split.read = (noSweep (fun a b => overlaps_at_least_when_overlap a b p.minimal_exon_overlap) g.splitExons 0 blocks 0
      { gene := g.splitExons.map (fun _ => 0), read := blocks.map (fun _ => 0) }).read ∧
    rp.split.range = profileRange rp.split.gene := by
  unfold constructProfiles at h
  split at h
  · simp at h
  · simp only at h
    split at h
    · simp at h
    · rename_i sp hsp
      simp at h; subst h
      simp only [constructNonOverlapping, hA, hT] at hsp
      simp at hsp
      subst hsp
      exact ⟨rfl, rfl, rfl⟩

theorem follow_region {ms g p T blocks pa} (H : FollowHyp ms g p T blocks pa) (reg : Iv)
    (hreg : regionOf blocks = some reg) :
    ∃ f l, blocks.head? = some f ∧ blocks.getLast? = some l ∧ reg = (f.1, l.2) ∧
      T.region.1 ≤ f.1 ∧ l.2 ≤ T.region.2 := by
  obtain ⟨f, l, hf, hl, hr⟩ := regionOf_spec blocks reg hreg
  refine ⟨f, l, hf, hl, hr, ?_⟩
  obtain ⟨_, _, hisos⟩ := fromModels_spec ms g H.hg
  obtain ⟨m, hm, hio⟩ := hisos T H.hT
  have hTr : regionOf T.exons = some T.region := by rw [hio.exons]; exact hio.region
  obtain ⟨ef, el, hef, hel, hTreg⟩ := regionOf_spec T.exons T.region hTr
  obtain ⟨a0, hfa⟩ := H.hf
  have hf0 : blocks[0]? = some f := by rw [← List.head?_eq_getElem?]; exact hf
  have hl0 : blocks[blocks.length - 1]? = some l := by rw [← List.getLast?_eq_getElem?]; exact hl
  have hef0 : T.exons[0]? = some ef := by rw [← List.head?_eq_getElem?]; exact hef
  have hel0 : T.exons[T.exons.length - 1]? = some el := by rw [← List.getLast?_eq_getElem?]; exact hel
  obtain ⟨e1, he1, h11, _, _, _⟩ := hfa 0 f hf0
  obtain ⟨e2, he2, _, h22, _, _⟩ := hfa (blocks.length - 1) l hl0
  have hEsd := Gapped_SD T.exons H.hTg
  have hEw := Gapped_wf T.exons H.hTg
  have := (SD.get_le hEsd hEw hef0 he1 (by omega)).1
  have := (SD.get_le hEsd hEw he2 hel0 (by have := getElem?_lt he2; omega)).2
  rw [hTreg]
  constructor
  · show ef.1 ≤ f.1; omega
  · show l.2 ≤ el.2; omega

theorem exons_in_gene {ms g T} (hg : Gene.fromModels ms = some g) (hT : T ∈ g.isos) : ∀ e ∈ T.exons, e ∈ g.exons := by
  obtain ⟨_, _, hisos⟩ := fromModels_spec ms g hg
  obtain ⟨m, hm, hio⟩ := hisos T hT
  intro e he
  rw [hio.exons] at he
  exact exon_mem_gene ms g hg m hm e he

theorem introns_eq {ms g T} (hg : Gene.fromModels ms = some g) (hT : T ∈ g.isos) :
    T.introns = junctionsFromBlocks T.exons := by
  obtain ⟨_, _, hisos⟩ := fromModels_spec ms g hg
  obtain ⟨m, hm, hio⟩ := hisos T hT
  rw [hio.introns, hio.exons]

theorem follow_hyp_intron {ms g p T blocks pa} (H : FollowHyp ms g p T blocks pa) :
    Hyp p.delta g.introns (junctionsFromBlocks blocks) := by
  obtain ⟨hK, _, _⟩ := fromModels_spec ms g H.hg
  have hBsd := Gapped_SD blocks H.hB
  have hBw := Gapped_wf blocks H.hB
  refine ⟨?_, H.hlong, H.hsep, ?_⟩
  · rw [hK]; exact LexSorted_SortedStarts _ (LexSorted_sortDedupIv _)
  · exact (junctions_SD_WFl blocks hBsd hBw).2

/-- the intron half: the read side by `followsExact_intronFollow` + `follow_read_marked`; on the gene side every non-zero
    mark is explained by `follow_gene_marks` (1: an intron of T, −1: not one, overlapping the read) and compared with T's own
    profile through `intronProf_one_iff` / `prof_values` -/
theorem follow_intron {ms g p T blocks pa} (H : FollowHyp ms g p T blocks pa) (rp : ReadProf)
    (hrp : constructProfiles g p blocks pa = some rp) :
    (∀ v ∈ rp.intron.read, v = 1) ∧
    equalProfilesInRange T.intronProf rp.intron.gene rp.intron.range = some true := by
  obtain ⟨_, hreg, _, _, hprof, spec⟩ := constructProfiles_of g p blocks pa rp hrp
  rw [H.hA, H.hT'] at hprof spec
  obtain ⟨f, l, hf, hl, hregeq, hr1, hr2⟩ := follow_region H rp.region hreg
  have hyp := follow_hyp_intron H
  have hTI := introns_eq H.hg H.hT
  have hK : ∀ t ∈ junctionsFromBlocks T.exons, t ∈ g.introns := by
    intro t ht
    obtain ⟨i, hi⟩ := intron_mem_gene ms g H.hg T H.hT t (by rw [hTI]; exact ht)
    exact List.mem_of_getElem? hi
  have hIF := followsExact_intronFollow p.delta H.hδ g.introns T.exons blocks H.hTg H.hB H.hf hK f l hf hl
  rw [← hregeq] at hIF
  constructor
  · intro v hv
    obtain ⟨j, hj⟩ := List.mem_iff_getElem?.mp hv
    have hjl : j < (junctionsFromBlocks blocks).length := by rw [← spec.rlen]; exact getElem?_lt hj
    have hr : (junctionsFromBlocks blocks)[j]? = some (junctionsFromBlocks blocks)[j] := by simp [hjl]
    obtain ⟨t, _, htK, hc, _⟩ := hIF.each _ (List.getElem_mem hjl)
    have := follow_read_marked g.introns (g.start, g.stop)
      (fun a b => overlaps_at_least a b p.minimal_intron_absence_overlap) p.delta (junctionsFromBlocks blocks)
      rp.region hyp j _ t hr htK hc
    rw [← hprof, hj] at this
    exact Option.some.inj this
  · have hrange : rp.intron.range = profileRange rp.intron.gene := by rw [hprof]; rfl
    have hb := profileRange_bounds rp.intron.gene
    apply equalProfilesInRange_intro _ _ _ (by rw [hrange]; exact hb.1)
    intro i hlo hhi
    have hil : i < rp.intron.gene.length := by rw [hrange] at hhi; omega
    obtain ⟨v, hv⟩ : ∃ v, rp.intron.gene[i]? = some v := ⟨rp.intron.gene[i], by simp [hil]⟩
    refine ⟨v, hv, ?_⟩
    by_cases hv0 : v = 0
    · left; exact hv0
    · right
      have hik : i < g.introns.length := by rw [← spec.glen]; exact hil
      obtain ⟨k, hk⟩ : ∃ k, g.introns[i]? = some k := ⟨g.introns[i], by simp [hik]⟩
      have hv' : (constructOverlapping g.introns (g.start, g.stop) (fun a b => equal_ranges a b p.delta)
          (fun a b => overlaps_at_least a b p.minimal_intron_absence_overlap) p.delta (junctionsFromBlocks blocks)
          rp.region (-1) (-1)).gene[i]? = some v := by rw [← hprof]; exact hv
      have hmarks := follow_gene_marks g.introns (g.start, g.stop) p.minimal_intron_absence_overlap p.delta
        (junctionsFromBlocks blocks) (junctionsFromBlocks T.exons) rp.region H.hδ hyp hIF i k v hk hv' hv0
      rcases hmarks with ⟨h1, hin⟩ | ⟨h1, hnin, hov⟩
      · rw [h1]
        exact (intronProf_one_iff ms g H.hg H.hwf T H.hT i k hk).mpr (by rw [hTI]; exact hin)
      · rw [h1]
        obtain ⟨_, hisos⟩ := fromModels_spec2 ms g H.hg
        obtain ⟨m, hm, hio⟩ := hisos T H.hT
        have hn1 : T.intronProf[i]? ≠ some 1 := by
          intro hone
          exact hnin (by rw [← hTI]; exact (intronProf_one_iff ms g H.hg H.hwf T H.hT i k hk).mp hone)
        rw [hio.base.intronProf] at hn1 ⊢
        apply prof_values _ _ _ _ i k hk hn1
        rw [hregeq] at hov
        simp only [overlaps_true_iff] at hov ⊢
        omega

/-- the split-exon half: every block marks an atom inside an exon of T (`marks`, from `block_has_atom` and the completeness
    `noSweep_marks`); every mark the sweep leaves is explained (`NoInv`), so a 1 sits on an atom inside an exon of T (`hsp1`) and
    a −1 on an atom in a gap between two blocks, which no exon of T reaches (`hspN`) -/
theorem follow_split {ms g p T blocks pa} (H : FollowHyp ms g p T blocks pa) (rp : ReadProf)
    (hrp : constructProfiles g p blocks pa = some rp) :
    rp.split.read.length = blocks.length ∧ (∀ v ∈ rp.split.read, v = 1) ∧
    equalProfilesInRange T.splitProf rp.split.gene rp.split.range = some true ∧
    hasOverlappingFeatures T.splitProf rp.split.gene (overlap_intervals rp.split.range T.splitRange) = some true ∧
    (∃ i : Nat, rp.split.gene[i]? = some 1) := by
  obtain ⟨hsg, hsr, hrange⟩ := constructProfiles_split_nopolya g p blocks pa rp hrp H.hA H.hT'
  have hreg := (constructProfiles_of g p blocks pa rp hrp).hregion
  obtain ⟨f, l, hf, hl, _, hr1, hr2⟩ := follow_region H rp.region hreg
  have BF := followsExact_blockFollow (2 * p.minimal_exon_overlap - 1) T.exons blocks H.hTg H.hf H.hsingle
  have hEg := exons_in_gene H.hg H.hT
  have ha := atoms_of_fromModels ms g H.hg H.hwf H.hnn
  have hBsd := Gapped_SD blocks H.hB
  have hBw := Gapped_wf blocks H.hB
  obtain ⟨_, hisos⟩ := fromModels_spec2 ms g H.hg
  obtain ⟨m, hm, hio⟩ := hisos T H.hT
  have hf0 : blocks[0]? = some f := by rw [← List.head?_eq_getElem?]; exact hf
  have hl0 : blocks[blocks.length - 1]? = some l := by rw [← List.getLast?_eq_getElem?]; exact hl
  generalize hst : noSweep (fun a b => overlaps_at_least_when_overlap a b p.minimal_exon_overlap) g.splitExons 0 blocks 0
      { gene := g.splitExons.map (fun _ => 0), read := blocks.map (fun _ => 0) } = st at hsg hsr
  have hglen : st.gene.length = g.splitExons.length := by rw [← hst, noSweep_gene_length]; simp
  have hrlen : st.read.length = blocks.length := by rw [← hst, noSweep_read_length]; simp
  -- an atom overlapped by a block that lies inside an exon of T lies inside that exon
  have atomIn : ∀ (b e k : Iv), b.1 ≤ b.2 → e ∈ T.exons → e.1 ≤ b.1 → b.2 ≤ e.2 → k ∈ g.splitExons →
      overlaps b k = true → contains e k = true := by
    intro b e k hbw heT h1 h2 hk hov
    have hovek : overlaps e k = true := by
      simp only [overlaps_true_iff] at hov ⊢
      omega
    obtain ⟨hc1, hc2⟩ := atom_in_exon ha e (hEg e heT) k hk hovek
    simp [contains]; omega
  -- every block is marked, together with an atom inside an exon of T
  have marks : ∀ (j : Nat) (b : Iv), blocks[j]? = some b →
      ∃ (i : Nat) (k : Iv), g.splitExons[i]? = some k ∧ st.gene[i]? = some 1 ∧ st.read[j]? = some 1 ∧
        ∃ e ∈ T.exons, contains e k = true := by
    intro j b hj
    have hbw := hBw b (List.mem_of_getElem? hj)
    obtain ⟨e, heT, h1, h2, hyp⟩ := BF.inside b (List.mem_of_getElem? hj)
    obtain ⟨k, hk, hov, hc⟩ := block_has_atom ha p.minimal_exon_overlap e (hEg e heT) b hbw ⟨h1, h2⟩ hyp
    obtain ⟨i, hi⟩ := List.mem_iff_getElem?.mp hk
    have hm := noSweep_marks (fun a b => overlaps_at_least_when_overlap a b p.minimal_exon_overlap) g.splitExons blocks
      ha.sd ha.wf hBsd hBw i j k b hi hj hov hc g.splitExons 0 blocks 0
      { gene := g.splitExons.map (fun _ => 0), read := blocks.map (fun _ => 0) }
      (by simp) (by simp) (by simp) (by simp) (Nat.zero_le _) (Nat.zero_le _)
    rw [hst] at hm
    exact ⟨i, k, hi, hm.1, hm.2, e, heT, atomIn b e k hbw heT h1 h2 hk hov⟩
  have hinv : NoInv (fun a b => overlaps_at_least_when_overlap a b p.minimal_exon_overlap) g.splitExons blocks st := by
    rw [← hst]
    exact noSweep_inv _ g.splitExons blocks ha.sd ha.wf g.splitExons 0 blocks 0 _ (by simp) (by simp)
      (fun h => absurd h (by omega)) (noSweep_init_inv _ _ _)
  have hsp1 : ∀ (i : Nat) (k : Iv), g.splitExons[i]? = some k → st.gene[i]? = some 1 → T.splitProf[i]? = some 1 := by
    intro i k hk h1
    obtain ⟨k', j, r, hk', hr, hov, _⟩ := hinv.gene1 i h1
    obtain rfl : k = k' := Option.some.inj (hk.symm.trans hk')
    obtain ⟨e, heT, h1', h2', _⟩ := BF.inside r (List.mem_of_getElem? hr)
    exact (splitProf_one_iff ms g H.hg H.hwf H.hnn T H.hT i k hk).mpr
      ⟨e, heT, atomIn r e k (hBw r (List.mem_of_getElem? hr)) heT h1' h2' (List.mem_of_getElem? hk) hov⟩
  have hspN : ∀ (i : Nat) (k : Iv), g.splitExons[i]? = some k → st.gene[i]? = some (-1) →
      T.splitProf[i]? = some (-1) := by
    intro i k hk hn
    obtain ⟨k', j, r, r', hk', hr, hr', hlt1, hlt2⟩ := hinv.geneN i hn
    obtain rfl : k = k' := Option.some.inj (hk.symm.trans hk')
    have hkw := ha.wf k (List.mem_of_getElem? hk)
    have hn1 : T.splitProf[i]? ≠ some 1 := by
      intro hone
      obtain ⟨e, heT, hc⟩ := (splitProf_one_iff ms g H.hg H.hwf H.hnn T H.hT i k hk).mp hone
      simp [contains] at hc
      rcases BF.gap j r r' hr hr' e heT with h | h <;> omega
    have hrj := (SD.get_le hBsd hBw hf0 hr (Nat.zero_le _)).1
    have hrj' := (SD.get_le hBsd hBw hr' hl0 (by have := getElem?_lt hr'; omega)).2
    have hrw := hBw r (List.mem_of_getElem? hr)
    have hrw' := hBw r' (List.mem_of_getElem? hr')
    rw [hio.base.splitProf] at hn1 ⊢
    apply prof_values _ _ _ _ i k hk hn1
    simp only [overlaps_true_iff]
    omega
  have hlenT : T.splitProf.length = g.splitExons.length := splitProf_length ms g H.hg T H.hT
  rw [hrange, hsg, hsr]
  refine ⟨hrlen, ?_, ?_, ?_, ?_⟩
  · intro v hv
    obtain ⟨j, hj⟩ := List.mem_iff_getElem?.mp hv
    have hjl : j < blocks.length := by rw [← hrlen]; exact getElem?_lt hj
    obtain ⟨_, _, _, _, hr1', _⟩ := marks j blocks[j] (List.getElem?_eq_getElem hjl)
    rw [hj] at hr1'; exact Option.some.inj hr1'
  · have hb := profileRange_bounds st.gene
    apply equalProfilesInRange_intro _ _ _ hb.1
    intro i hlo hhi
    have hil : i < st.gene.length := by omega
    have hk : g.splitExons[i]? = some (g.splitExons[i]'(by omega)) := List.getElem?_eq_getElem (by omega)
    refine ⟨st.gene[i], List.getElem?_eq_getElem hil, ?_⟩
    rcases hinv.dom st.gene[i] (List.getElem_mem hil) with h0 | h1 | hn
    · left; exact h0
    · right; rw [h1]; exact hsp1 i _ hk (by rw [List.getElem?_eq_getElem hil, h1])
    · right; rw [hn]; exact hspN i _ hk (by rw [List.getElem?_eq_getElem hil, hn])
  · obtain ⟨i, k, hi, hg1, _, hce⟩ := marks 0 f hf0
    have hT1 : T.splitProf[i]? = some 1 := (splitProf_one_iff ms g H.hg H.hwf H.hnn T H.hT i k hi).mpr hce
    have hr := nonzero_in_range st.gene i 1 hg1 (by omega)
    have hT1' := hT1
    rw [hio.base.splitProf] at hT1'
    have hrT := setProfiles_range _ _ _ _ i hT1'
    rw [← hio.splitRange] at hrT
    have hbT := setProfiles_range_bounds (fun a b => contains a b) g.splitExons m.exons T.region
    rw [← hio.splitRange, ← hio.base.splitProf] at hbT
    have hb := profileRange_bounds st.gene
    apply hasOverlappingFeatures_intro T.splitProf st.gene _ (by rw [hlenT, hglen]) ?_ ?_ i ?_ ?_ hT1 hg1
    · simp only [overlap_intervals]; omega
    · simp only [overlap_intervals]; omega
    · simp only [overlap_intervals]; omega
    · simp only [overlap_intervals]; omega
  · obtain ⟨i, _, _, hg1, _, _⟩ := marks 0 f hf0
    exact ⟨i, hg1⟩

end IsoVerif.Lemmas.C01
