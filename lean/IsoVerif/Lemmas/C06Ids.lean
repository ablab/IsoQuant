/-
Lemmas for C06: assignment ids (renumbering, shift), worker-state (in)dependence of the two tasks.
-/
import IsoVerif.Model.Schedule

namespace IsoVerif.Lemmas.C06
open IsoVerif.Model.C06

def renumMM (g : Nat → Nat) (a : MMRec) : MMRec := { a with aid := g a.aid }
def renumIds (g : Nat → Nat) (ids : List (Nat × ReadRec)) : List (Nat × ReadRec) := ids.map (fun p => (g p.1, p.2))
def shiftSave (k : Nat) (sv : SaveFile) : SaveFile := sv.map (fun p => (p.1, renumIds (· + k) p.2))

theorem filter_readId_map (g : Nat → Nat) (mm : List MMRec) (rid : String) :
    (mm.map (renumMM g)).filter (fun a => a.readId == rid) = (mm.filter (fun a => a.readId == rid)).map (renumMM g) := by
  rw [List.filter_map]
  rfl

theorem filter_aid_map (g : Nat → Nat) (hg : ∀ a b, g a = g b → a = b) (mm : List MMRec) (aid : Nat) (chr : String) :
    (mm.map (renumMM g)).filter (fun a => a.aid == g aid && a.chr == chr)
      = (mm.filter (fun a => a.aid == aid && a.chr == chr)).map (renumMM g) := by
  rw [List.filter_map]
  congr 1
  apply List.filter_congr
  intro a _
  have e : (g a.aid == g aid) = (a.aid == aid) := by
    by_cases h : a.aid = aid
    · rw [h]; simp
    · have : g a.aid ≠ g aid := fun h' => h (hg _ _ h')
      rw [beq_eq_false_iff_ne.2 this, beq_eq_false_iff_ne.2 h]
  show ((g a.aid) == g aid && a.chr == chr) = (a.aid == aid && a.chr == chr)
  rw [e]

theorem matchOne_renumber (g : Nat → Nat) (hg : ∀ a b, g a = g b → a = b) (chr : String) (mm : List MMRec)
    (aid : Nat) (r : ReadRec) :
    matchOne chr (mm.map (renumMM g)) (g aid) r = matchOne chr mm aid r := by
  unfold matchOne
  simp only [filter_readId_map, filter_aid_map g hg, List.isEmpty_map, List.getLast?_map]
  cases h : ((mm.filter (fun a => a.readId == r.readId)).filter (fun a => a.aid == aid && a.chr == chr)).getLast? <;>
    simp [renumMM]

theorem loadBlock_renumber (g : Nat → Nat) (hg : ∀ a b, g a = g b → a = b) (chr : String) (mm : List MMRec)
    (ids : List (Nat × ReadRec)) :
    loadBlock chr (mm.map (renumMM g)) (renumIds g ids) = loadBlock chr mm ids := by
  unfold loadBlock renumIds
  induction ids with
  | nil => rfl
  | cons p ps ih =>
    simp only [List.map_cons, List.filterMap_cons, matchOne_renumber g hg]
    rw [ih]

theorem numberReads_shift (k c : Nat) : ∀ rs : List ReadRec,
    numberReads (c + k) rs = renumIds (· + k) (numberReads c rs)
  | [] => rfl
  | r :: rs => by
    have ih := numberReads_shift k (c + 1) rs
    have e : c + k + 1 = c + 1 + k := by omega
    simp only [numberReads, renumIds, List.map_cons, e]
    rw [ih]
    rfl

theorem collectBlocks_shift (k : Nat) : ∀ (bs : List Block) (st : WState),
    (collectBlocks { st with assignCtr := st.assignCtr + k } bs).1 = shiftSave k (collectBlocks st bs).1
  | [], st => rfl
  | b :: bs, st => by
    have ih := collectBlocks_shift k bs
      { st with assignCtr := st.assignCtr + b.reads.length, featCtr := st.featCtr + b.nFeatures }
    have e : st.assignCtr + k + b.reads.length = st.assignCtr + b.reads.length + k := by omega
    simp only [collectBlocks, shiftSave, List.map_cons, numberReads_shift, e]
    simp only [shiftSave] at ih
    rw [ih]

theorem collectBlocks_ctr_only : ∀ (bs : List Block) (st st' : WState), st.assignCtr = st'.assignCtr →
    (collectBlocks st bs).1 = (collectBlocks st' bs).1
  | [], _, _, _ => rfl
  | b :: bs, st, st', h => by
    have ih := collectBlocks_ctr_only bs
      { st with assignCtr := st.assignCtr + b.reads.length, featCtr := st.featCtr + b.nFeatures }
      { st' with assignCtr := st'.assignCtr + b.reads.length, featCtr := st'.featCtr + b.nFeatures } (by simp [h])
    simp only [collectBlocks]
    rw [ih, h]

theorem collectTask_shift (σ : WState) (c : Chr) : (collectTask σ c).1 = shiftSave σ.assignCtr (collectTask {} c).1 := by
  unfold collectTask
  have h := collectBlocks_shift σ.assignCtr c.blocks { σ with assignCtr := 0 }
  simp only [Nat.zero_add] at h
  rw [← collectBlocks_ctr_only c.blocks { σ with assignCtr := 0 } {} rfl, ← h]

theorem constructBlocks_detected_only (chr : String) (mm : List MMRec) : ∀ (sv : SaveFile) (st st' : WState),
    st.detected = st'.detected → (constructBlocks chr mm st sv).1 = (constructBlocks chr mm st' sv).1
  | [], _, _, _ => rfl
  | (b, ids) :: sv, st, st', h => by
    have ih := constructBlocks_detected_only chr mm sv
      { st with assignCtr := st.assignCtr + b.nAssign2, featCtr := st.featCtr + b.nFeatures,
                detected := (reportKnown st.detected b.known).2 }
      { st' with assignCtr := st'.assignCtr + b.nAssign2, featCtr := st'.featCtr + b.nFeatures,
                 detected := (reportKnown st'.detected b.known).2 } (by simp [h])
    simp only [constructBlocks]
    rw [ih, h]

theorem reportKnown_append (e : List String) (ts d : List String) (h : ∀ t, t ∈ ts → t ∉ e) :
    (reportKnown (d ++ e) ts).1 = (reportKnown d ts).1 ∧ (reportKnown (d ++ e) ts).2 = (reportKnown d ts).2 ++ e := by
  fun_induction reportKnown d ts with
  | case1 d => exact ⟨rfl, rfl⟩
  | case2 d t ts hd ih =>
    have hc : (d ++ e).contains t = true := by simpa using Or.inl (List.contains_iff_mem.1 hd)
    rw [reportKnown, if_pos hc]
    exact ih fun x hx => h x (List.mem_cons_of_mem _ hx)
  | case3 d t ts hd _ ih =>
    have hc : (d ++ e).contains t = false := by
      simpa using ⟨fun hm => hd (List.contains_iff_mem.2 hm), h t List.mem_cons_self⟩
    rw [reportKnown, hc]
    have := ih fun x hx => h x (List.mem_cons_of_mem _ hx)
    exact ⟨congrArg (t :: ·) this.1, this.2⟩

theorem constructBlocks_append (chr : String) (mm : List MMRec) (e : List String) : ∀ (sv : SaveFile) (st : WState),
    (∀ p, p ∈ sv → ∀ t, t ∈ p.1.known → t ∉ e) →
    (constructBlocks chr mm { st with detected := st.detected ++ e } sv).1 = (constructBlocks chr mm st sv).1
  | [], _, _ => rfl
  | (b, ids) :: sv, st, h => by
    have hb : ∀ t, t ∈ b.known → t ∉ e := h (b, ids) List.mem_cons_self
    have hsv : ∀ p, p ∈ sv → ∀ t, t ∈ p.1.known → t ∉ e := fun p hp => h p (List.mem_cons_of_mem _ hp)
    obtain ⟨h1, h2⟩ := reportKnown_append e b.known st.detected hb
    simp only [constructBlocks, h1, h2]
    have := constructBlocks_append chr mm e sv
      { st with assignCtr := st.assignCtr + b.nAssign2, featCtr := st.featCtr + b.nFeatures,
                detected := (reportKnown st.detected b.known).2 } hsv
    simp only at this
    rw [this]

end IsoVerif.Lemmas.C06
