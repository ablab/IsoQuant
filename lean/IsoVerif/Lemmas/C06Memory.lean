/-
Lemmas for C06: the multimapper bookkeeping of `DatasetProcessor.collect_reads` in both memory modes.  `groupByRead` is
characterised by three facts (it commutes with a selection of reads by id, a group holds the records of its read, the
groups rearrange the records); `resolveAll` lets the groups it does not resolve be counted apart.
-/
import IsoVerif.Model.Schedule

namespace IsoVerif.Lemmas.C06
open IsoVerif.Model.C06

theorem groupByRead_nil : groupByRead [] = [] := by rw [groupByRead]

theorem groupByRead_cons (r : BRec) (rest : List BRec) :
    groupByRead (r :: rest) = (r.readId, r :: rest.filter (fun x => x.readId == r.readId))
      :: groupByRead (rest.filter (fun x => !(x.readId == r.readId))) := by
  rw [groupByRead]

theorem groupByRead_filter (q : String → Bool) : ∀ l : List BRec,
    groupByRead (l.filter fun x => q x.readId) = (groupByRead l).filter fun g => q g.1
  | [] => by rw [List.filter_nil, groupByRead_nil, List.filter_nil]
  | r :: rest => by
    have ih := groupByRead_filter q (rest.filter fun x => !(x.readId == r.readId))
    rw [groupByRead_cons, List.filter_cons, List.filter_cons, ← ih, List.filter_filter]
    by_cases h : q r.readId = true
    · -- the read of `r` is selected: so are the other records of its group
      rw [if_pos h, if_pos h, groupByRead_cons, List.filter_filter, List.filter_filter]
      congr 2
      · congr 1
        apply List.filter_congr
        intro x _
        cases hx : x.readId == r.readId
        · rfl
        · rw [eq_of_beq hx]; exact h
      · congr 2
        funext x
        exact Bool.and_comm _ _
    · -- it is not: none of its group is
      rw [if_neg h, if_neg h]
      congr 1
      apply List.filter_congr
      intro x _
      cases hx : x.readId == r.readId
      · exact (Bool.and_true _).symm
      · rw [eq_of_beq hx, Bool.eq_false_iff.2 h]; rfl
termination_by l => l.length
decreasing_by exact Nat.lt_succ_of_le (List.length_filter_le _ _)

theorem groupByRead_single {k : String} : ∀ {u : List BRec}, (∀ x ∈ u, x.readId = k) → u ≠ [] → groupByRead u = [(k, u)]
  | [], _, h => absurd rfl h
  | r :: rest, hk, _ => by
    have hr : ∀ x ∈ rest, (x.readId == r.readId) = true := fun x hx => by
      rw [hk x (List.mem_cons_of_mem _ hx), hk r List.mem_cons_self]; exact beq_self_eq_true _
    rw [groupByRead_cons, List.filter_eq_self.2 hr, List.filter_eq_nil_iff.2 fun x hx => by rw [hr x hx]; exact nofun,
      groupByRead_nil, hk r List.mem_cons_self]

theorem mem_groupByRead {l : List BRec} {g : String × List BRec} (h : g ∈ groupByRead l) :
    g.2 = l.filter (fun x => x.readId == g.1) := by
  have hg : g ∈ groupByRead (l.filter fun x => x.readId == g.1) := by
    rw [groupByRead_filter (· == g.1)]; exact List.mem_filter.2 ⟨h, beq_self_eq_true _⟩
  by_cases he : l.filter (fun x => x.readId == g.1) = []
  · rw [he, groupByRead_nil] at hg; cases hg
  · rw [groupByRead_single (fun x hx => eq_of_beq (List.mem_filter.1 hx).2) he] at hg
    rw [List.mem_singleton.1 hg]

theorem groupByRead_flatten_perm : ∀ l : List BRec, ((groupByRead l).flatMap (·.2)).Perm l
  | [] => by rw [groupByRead_nil]; exact .nil
  | r :: rest => by
    rw [groupByRead_cons, List.flatMap_cons, List.cons_append]
    exact (((groupByRead_flatten_perm _).append_left _).trans (List.filter_append_perm _ rest)).cons r
termination_by l => l.length
decreasing_by exact Nat.lt_succ_of_le (List.length_filter_le _ _)

theorem keptCount_append (a b : List BRec) : keptCount (a ++ b) = keptCount a + keptCount b := by
  unfold keptCount; rw [List.filter_append, List.length_append]

theorem keptPolyA_append (a b : List BRec) : keptPolyA (a ++ b) = keptPolyA a + keptPolyA b := by
  unfold keptPolyA; rw [List.filter_append, List.filter_append, List.length_append]

theorem resolveAll_split (resolve : List BRec → List BRec) (small : String × List BRec → Bool) :
    ∀ gs : List (String × List BRec), (∀ g ∈ gs, small g = true → g.2.length ≤ 1) →
    resolveAll resolve gs =
      ((resolveAll resolve (gs.filter (!small ·))).1,
       (resolveAll resolve (gs.filter (!small ·))).2.1 + keptCount ((gs.filter small).flatMap (·.2)),
       (resolveAll resolve (gs.filter (!small ·))).2.2 + keptPolyA ((gs.filter small).flatMap (·.2)))
  | [], _ => rfl
  | g :: gs, h => by
    have ih := resolveAll_split resolve small gs fun g' hg' => h g' (List.mem_cons_of_mem _ hg')
    rw [List.filter_cons, List.filter_cons]
    cases hs : small g
    · rw [Bool.not_false, if_pos rfl, if_neg Bool.false_ne_true, resolveAll, resolveAll, ih]
      split <;> exact Prod.ext rfl (Prod.ext (Nat.add_assoc ..).symm (Nat.add_assoc ..).symm)
    · rw [Bool.not_true, if_neg Bool.false_ne_true, if_pos rfl, resolveAll,
        if_neg (Nat.not_lt.2 (h g List.mem_cons_self hs)), ih, List.flatMap_cons, keptCount_append, keptPolyA_append]
      exact Prod.ext rfl (Prod.ext (Nat.add_left_comm ..) (Nat.add_left_comm ..))

end IsoVerif.Lemmas.C06
