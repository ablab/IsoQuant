/-
C11 helper lemmas — Model/Corrector.lean under reflection: the pieces of `process_events` / `correct_assigned_read`
that are mirror images of themselves (the intron chain test, the fuzzy junction loop, slices, one event of the if/elif
chain through its summary: `evOut_mirror`), and the hypotheses of the reflection theorems on events and event maps
(`EventInRange`, `MicroWF`, `EmapWF`); at the end the micro-intron restoration (`microOf`, `microOf_mirror`).
-/
import IsoVerif.Gen.Prims
import IsoVerif.Gen.Corrector
import IsoVerif.Model.Interval
import IsoVerif.Model.Corrector
import IsoVerif.Model.C11Symmetry
import IsoVerif.Model.C11SymBedCorr
import IsoVerif.Lemmas.Interval
import IsoVerif.Lemmas.Corrector
import IsoVerif.Lemmas.C11Shift
import IsoVerif.Lemmas.C11Mirror
import IsoVerif.Lemmas.C11CorrectorEvent
import IsoVerif.Lemmas.CorrectorLoop

namespace IsoVerif.Lemmas.C11
open IsoVerif.Gen IsoVerif.Model IsoVerif.Model.C14 IsoVerif.Model.C11 IsoVerif.Lemmas IsoVerif.Lemmas.C14

theorem Spaced_append_singleton (l : List Iv) (x : Iv) :
    Spaced (l ++ [x]) ↔ Spaced l ∧ x.1 ≤ x.2 ∧ (∀ y, l.getLast? = some y → y.2 + 1 < x.1) := by
  induction l with
  | nil => simp [Spaced]
  | cons a t ih =>
    cases t with
    | nil =>
      simp only [List.nil_append, List.cons_append, Spaced, List.getLast?_singleton, Option.some.injEq]
      constructor
      · rintro ⟨h1, h2, h3⟩; exact ⟨h1, h3, fun y hy => by subst hy; exact h2⟩
      · rintro ⟨h1, h3, h2⟩; exact ⟨h1, h2 a rfl, h3⟩
    | cons b t' =>
      have e : (a :: b :: t') ++ [x] = a :: b :: (t' ++ [x]) := by simp
      have hl : (a :: b :: t').getLast? = (b :: t').getLast? := by simp [List.getLast?_cons_cons]
      rw [e]
      simp only [Spaced, hl]
      have ih' := ih
      simp only [List.cons_append] at ih'
      rw [ih']
      constructor
      · rintro ⟨h1, h2, h3, h4, h5⟩; exact ⟨⟨h1, h2, h3⟩, h4, h5⟩
      · rintro ⟨⟨h1, h2, h3⟩, h4, h5⟩; exact ⟨h1, h2, h3, h4, h5⟩

theorem Spaced_mirror (L : Int) (l : List Iv) (h : Spaced l) : Spaced (mirrorL L l) := by
  induction l with
  | nil => exact trivial
  | cons a t ih =>
    rw [mirrorL_cons, Spaced_append_singleton]
    refine ⟨ih (Spaced_tail h), by have := Spaced_head h; simp; omega, ?_⟩
    intro y hy
    rw [mirrorL_getLast?] at hy
    cases t with
    | nil => simp at hy
    | cons b t' =>
      simp only [List.head?_cons, Option.map_some, Option.some.injEq] at hy
      subst hy
      obtain ⟨_, h2, _⟩ := h
      simp; omega

theorem fuzzySite_mirror (L own ref : Int) (e : Int × Int) :
    fuzzySite (L + 1 - own) (L + 1 - ref) e = L + 1 - fuzzySite own ref e := by
  simp only [fuzzySite]
  by_cases h : own = ref
  · simp [h]
  · have : ¬ (L + 1 - own = L + 1 - ref) := by omega
    simp only [h, this, if_false]; split <;> rfl

theorem fuzzyLoop_append (err : Nat → Bool → Int × Int) (rs1 qs1 rs2 qs2 : List Iv) (i : Nat)
    (h : rs1.length = qs1.length) :
    fuzzyLoop err (rs1 ++ rs2) (qs1 ++ qs2) i = fuzzyLoop err rs1 qs1 i ++ fuzzyLoop err rs2 qs2 (i + rs1.length) := by
  induction rs1 generalizing qs1 i with
  | nil =>
    cases qs1 with
    | nil => simp [fuzzyLoop]
    | cons _ _ => simp at h
  | cons r rs ih =>
    cases qs1 with
    | nil => simp at h
    | cons q qs =>
      simp only [List.cons_append, fuzzyLoop, ih qs (i + 1) (by simpa using h), List.length_cons]
      congr 3; omega

theorem fuzzyLoop_congr (err err' : Nat → Bool → Int × Int) (rs qs : List Iv) (i : Nat)
    (h : ∀ j b, i ≤ j → j < i + rs.length → err j b = err' j b) :
    fuzzyLoop err rs qs i = fuzzyLoop err' rs qs i := by
  induction rs generalizing qs i with
  | nil => simp [fuzzyLoop]
  | cons r rs ih =>
    cases qs with
    | nil => simp [fuzzyLoop]
    | cons q qs =>
      simp only [fuzzyLoop]
      rw [h i true (by omega) (by simp), h i false (by omega) (by simp),
        ih qs (i + 1) (fun j b h1 h2 => h j b (by omega) (by simp at h2 ⊢; omega))]

theorem fuzzyLoop_mirror (L : Int) (err : Nat → Bool → Int × Int) (rs qs : List Iv) (off : Nat)
    (h : rs.length = qs.length) :
    fuzzyLoop (fun i left => err (off + rs.length - 1 - i) (!left)) (mirrorL L rs) (mirrorL L qs) 0
      = mirrorL L (fuzzyLoop err rs qs off) := by
  induction rs generalizing qs off with
  | nil =>
    cases qs with
    | nil => rfl
    | cons _ _ => simp at h
  | cons r rs ih =>
    cases qs with
    | nil => simp at h
    | cons q qs =>
      have hl : rs.length = qs.length := by simpa using h
      rw [mirrorL_cons, mirrorL_cons, fuzzyLoop_append _ _ _ _ _ _ (by simp [mirrorL_length, hl])]
      have hc := fuzzyLoop_congr (fun i left => err (off + (r :: rs).length - 1 - i) (!left))
        (fun i left => err (off + 1 + rs.length - 1 - i) (!left)) (mirrorL L rs) (mirrorL L qs) 0
        (by intro j b _ _; simp only [List.length_cons]; congr 1; omega)
      rw [hc, ih qs (off + 1) hl]
      simp only [fuzzyLoop, mirrorL_cons, mirrorL_length, List.length_cons, Nat.zero_add, mirrorIv_fst, mirrorIv_snd,
        fuzzySite_mirror, Bool.not_true, Bool.not_false]
      have e0 : off + (rs.length + 1) - 1 - rs.length = off := by omega
      rw [e0]
      rfl

/-- the hypothesis is conditional: an empty range (`b < a`) is empty on both sides, whatever the indices -/
theorem sliceIncl_mirror (L : Int) (l : List Iv) (a b : Int) (h : a ≤ b → 0 ≤ a ∧ b < l.length) :
    sliceIncl (mirrorL L l) ((l.length : Int) - 1 - b) ((l.length : Int) - 1 - a)
      = mirrorExL L (sliceIncl l a b) := by
  by_cases hab : a ≤ b
  · obtain ⟨h0, h1⟩ := h hab
    rw [sliceIncl_inrange l a b h0 hab h1,
      sliceIncl_inrange (mirrorL L l) _ _ (by omega) (by omega) (by rw [mirrorL_length]; omega)]
    simp only [mirrorExL]
    congr 1
    have ec : ((l.length : Int) - 1 - a + 1 - ((l.length : Int) - 1 - b)).toNat = (b + 1 - a).toNat := by omega
    rw [ec]
    simp only [mirrorL]
    rw [drop_take_reverse (l.map (mirrorIv L)) a.toNat (b + 1 - a).toNat ((l.length : Int) - 1 - b).toNat
      (by simp only [List.length_map]; omega)]
    simp only [List.map_drop, List.map_take]
  · have e1 : (b + 1 - a).toNat = 0 := by omega
    have e2 : ((l.length : Int) - 1 - a + 1 - ((l.length : Int) - 1 - b)).toNat = 0 := by omega
    simp only [sliceIncl, e1, e2, rangeGet]
    rfl

theorem known_types_fixed : ∀ u ∈ corrector_known_event_types, swapLR u = u := by decide

/-- the event's index ranges point into the read's / the isoform's intron lists wherever the chain reads them -/
structure EventInRange (n m : Nat) (e : MEvent) : Prop where
  read : 0 ≤ e.read.1 ∧ e.read.1 < n ∧ 0 ≤ e.read.2 ∧ e.read.2 < n
  iso : (e.etype = MatchEventSubtype.terminal_exon_misalignment_left ∨
         e.etype = MatchEventSubtype.terminal_exon_misalignment_right ∨
         e.etype = MatchEventSubtype.intron_shift ∨ e.etype = MatchEventSubtype.exon_misalignment) →
        0 ≤ e.iso.1 ∧ e.iso.1 < m ∧ 0 ≤ e.iso.2 ∧ e.iso.2 < m
  /-- `terminal_exon_misalignment_*` read `isoform_region[0]` on BOTH sides: symmetric only for a single intron -/
  single : (e.etype = MatchEventSubtype.terminal_exon_misalignment_left ∨
            e.etype = MatchEventSubtype.terminal_exon_misalignment_right) → e.iso.1 = e.iso.2

/-- well-formed retained micro introns: ANY read exon `0 … nRead` (first and last included), any number of
    bindings per exon, each naming an isoform intron by an in-range index -/
def MicroWF (nRead nIso : Nat) (mm : List (Int × Int)) : Prop :=
  ∀ q ∈ mm, 0 ≤ q.1 ∧ q.1 ≤ nRead ∧ 0 ≤ q.2 ∧ q.2 < nIso

/-- well-formed event map: distinct keys; an event is keyed by the first intron of its in-range, non-empty read
    range; ranges are pairwise disjoint; at most one event moves the left end of the region and at most one the
    right end (the micro-intron insertions have their own map: `MicroWF`) -/
def EmapWF (nRead nIso : Nat) (emap : List (Int × MEvent)) : Prop :=
  (emap.map (·.1)).Nodup ∧
  (∀ q ∈ emap, 0 ≤ q.1 → q.2.read.1 = q.1 ∧ q.2.read.1 ≤ q.2.read.2 ∧ EventInRange nRead nIso q.2) ∧
  (∀ q ∈ emap, ∀ q' ∈ emap, 0 ≤ q.1 → q.1 < q'.1 → q.2.read.2 < q'.1) ∧
  (∀ q ∈ emap, 0 ≤ q.1) ∧
  -- the LAST event that moves an end of the region wins: at most one event per end
  (emap.filter (fun q => q.2.etype = MatchEventSubtype.fake_terminal_exon_left ∨
                         q.2.etype = MatchEventSubtype.terminal_exon_misalignment_left)).length ≤ 1 ∧
  (emap.filter (fun q => q.2.etype = MatchEventSubtype.fake_terminal_exon_right ∨
                         q.2.etype = MatchEventSubtype.terminal_exon_misalignment_right)).length ≤ 1

theorem addOut_mirror (L : Int) (s : Except CErr (List Iv)) : addOut (mirrorExL L s) = mirrorSumm L (addOut s) := by
  cases s <;> rfl

theorem keepOut_mirror (L : Int) (ri corr : List Iv) (e : MEvent) (m : Nat) (hn : corr.length = ri.length)
    (hr : 0 ≤ e.read.1 ∧ e.read.1 < ri.length ∧ 0 ≤ e.read.2 ∧ e.read.2 < ri.length) :
    keepOut (mirrorL L ri) (mirrorL L corr) (mirrorMEvent ri.length m e) = mirrorExL L (keepOut ri corr e) := by
  simp only [keepOut, mirrorMEvent, mirrorIdx, contains_swapLR _ known_types_fixed]
  split
  · rw [← hn]; exact sliceIncl_mirror L corr _ _ fun _ => ⟨hr.1, by omega⟩
  · exact sliceIncl_mirror L ri _ _ fun _ => ⟨hr.1, hr.2.2.2⟩

/-- the `assert` on the read range of an event is the same from the other end -/
theorem mirrorMEvent_read_ne (n m : Nat) (e : MEvent) :
    (mirrorMEvent n m e).read.1 ≠ (mirrorMEvent n m e).read.2 ↔ e.read.1 ≠ e.read.2 := by
  simp only [mirrorMEvent, mirrorIdx]; omega

theorem fakeOut_mirror (L : Int) (ri : List Iv) (e : MEvent) (m : Nat) (f g : Iv → RegUpd)
    (hr : 0 ≤ e.read.1 ∧ e.read.1 < ri.length ∧ 0 ≤ e.read.2 ∧ e.read.2 < ri.length)
    (h : ∀ x, g (mirrorIv L x) = mirrorUpd L (f x)) :
    fakeOut (mirrorL L ri) (mirrorMEvent ri.length m e) g = mirrorSumm L (fakeOut ri e f) := by
  simp only [fakeOut, mirrorMEvent_read_ne]
  split
  · rfl
  · have ha : e.read.1 = e.read.2 := by omega
    simp only [mirrorMEvent, mirrorIdx]
    rw [pyGet?_mirror_int L ri e.read.2 hr.2.2.1 hr.2.2.2, ← ha]
    cases pyGet? ri e.read.1 <;> simp [mirrorSumm, h, mirrorL_nil]

theorem termOut_mirror (L : Int) (n : Nat) (isoI : List Iv) (e : MEvent) (u : RegUpd)
    (hi : 0 ≤ e.iso.1 ∧ e.iso.1 < isoI.length) (hs : e.iso.1 = e.iso.2) :
    termOut (mirrorL L isoI) (mirrorMEvent n isoI.length e) (mirrorUpd L u) = mirrorSumm L (termOut isoI e u) := by
  simp only [termOut, mirrorMEvent, mirrorIdx]
  rw [← hs, pyGet?_mirror_int L isoI e.iso.1 hi.1 hi.2]
  cases pyGet? isoI e.iso.1 <;> rfl

theorem misOut_mirror (L : Int) (p : CParams) (rr : Iv) (ri corr isoI : List Iv) (e : MEvent)
    (hn : corr.length = ri.length)
    (hr : 0 ≤ e.read.1 ∧ e.read.1 < ri.length ∧ 0 ≤ e.read.2 ∧ e.read.2 < ri.length)
    (hi : 0 ≤ e.iso.1 ∧ e.iso.1 < isoI.length ∧ 0 ≤ e.iso.2 ∧ e.iso.2 < isoI.length) :
    misOut p (mirrorIv L rr) (mirrorL L ri) (mirrorL L corr) (mirrorL L isoI) (mirrorMEvent ri.length isoI.length e)
      = mirrorSumm L (misOut p rr ri corr isoI e) := by
  have hk := keepOut_mirror L ri corr e isoI.length hn hr
  have hsl := sliceIncl_mirror L isoI e.iso.1 e.iso.2 fun _ => ⟨hi.1, hi.2.2.2⟩
  obtain ⟨a, ha, _⟩ := pyGet_inrange isoI e.iso.1 hi.1 hi.2.1
  obtain ⟨b, hb, _⟩ := pyGet_inrange isoI e.iso.2 hi.2.2.1 hi.2.2.2
  simp only [misOut, mirrorMEvent_read_ne, hk]
  simp only [mirrorMEvent, mirrorIdx]
  rw [pyGet?_mirror_int L isoI e.iso.2 hi.2.2.1 hi.2.2.2, pyGet?_mirror_int L isoI e.iso.1 hi.1 hi.2.1, ha, hb,
    hsl]
  simp only [Option.map_some]
  rw [show ((mirrorIv L b).1, (mirrorIv L a).2) = mirrorIv L (a.1, b.2) from rfl, Props.C11.mirror_dual_contains_well_inside,
    addOut_mirror, addOut_mirror]
  split
  · split <;> rfl
  · rfl

theorem evOut_mirror (L : Int) (p : CParams) (rr : Iv) (ri corr : List Iv) (isoR : Iv) (isoI : List Iv) (e : MEvent)
    (hn : corr.length = ri.length) (h : EventInRange ri.length isoI.length e) :
    evOut p (mirrorIv L rr) (mirrorL L ri) (mirrorL L corr) (mirrorIv L isoR) (mirrorL L isoI)
        (mirrorMEvent ri.length isoI.length e)
      = mirrorSumm L (evOut p rr ri corr isoR isoI e) := by
  obtain ⟨hr, hi, hs⟩ := h
  have ht := evKind_type p e.etype
  unfold evOut
  rw [show (mirrorMEvent ri.length isoI.length e).etype = swapLR e.etype from rfl, evKind_swapLR]
  cases hk : evKind p e.etype <;> rw [hk] at ht <;> simp only [EvKind.swap]
  · exact fakeOut_mirror L ri e _ _ _ hr fun x => congrArg (fun v => (none, some v)) (by omega : L + 1 - x.2 - 1 = L + 1 - (x.2 + 1))
  · exact fakeOut_mirror L ri e _ _ _ hr fun x => congrArg (fun v => (some v, none)) (by omega : L + 1 - x.1 + 1 = L + 1 - (x.1 - 1))
  · have hi := hi (.inl ht)
    exact termOut_mirror L _ isoI e (some isoR.1, none) ⟨hi.1, hi.2.1⟩ (hs (.inl ht))
  · have hi := hi (.inr (.inl ht))
    exact termOut_mirror L _ isoI e (none, some isoR.2) ⟨hi.1, hi.2.1⟩ (hs (.inr ht))
  · exact misOut_mirror L p rr ri corr isoI e hn hr (hi (.inr (.inr ht)))
  · rw [keepOut_mirror L ri corr e _ hn hr, addOut_mirror]

/-! ### the hypotheses on concrete data are checked by evaluation -/

instance (n m : Nat) (e : MEvent) : Decidable (EventInRange n m e) :=
  decidable_of_iff (_ ∧ _ ∧ _) ⟨fun ⟨a, b, c⟩ => ⟨a, b, c⟩, fun ⟨a, b, c⟩ => ⟨a, b, c⟩⟩

instance (n m : Nat) (mm : List (Int × Int)) : Decidable (MicroWF n m mm) := by unfold MicroWF; infer_instance

instance (n m : Nat) (emap : List (Int × MEvent)) : Decidable (EmapWF n m emap) := by unfold EmapWF; infer_instance

/-! The micro-intron restoration of `process_events` (repaired code: every read exon `0 … n`, any
number of retained isoform micro introns per exon) under reflection: `microOf mm isoI i`, the introns restored in read
exon `i` under well-formed bindings, and its mirror image (`microOf_mirror`). -/


theorem getAll_eq (l : List Iv) (js : List Int) (h : ∀ j ∈ js, 0 ≤ j ∧ j < l.length) :
    getAll l js = some (js.filterMap (pyGet? l)) := by
  induction js with
  | nil => rfl
  | cons j js ih =>
    obtain ⟨x, hx, _⟩ := pyGet_inrange l j (h j (by simp)).1 (h j (by simp)).2
    simp only [getAll, hx, ih (fun j' hj' => h j' (List.mem_cons_of_mem _ hj')), List.filterMap_cons]

def microOf (mm : List (Int × Int)) (isoI : List Iv) (i : Nat) : List Iv :=
  (microAt mm (i : Int)).filterMap (pyGet? isoI)

theorem microAt_inrange {n m : Nat} {mm : List (Int × Int)} (hw : MicroWF n m mm) (i : Int) :
    ∀ j ∈ microAt mm i, 0 ≤ j ∧ j < m := by
  intro j hj
  simp only [microAt, List.mem_map, List.mem_filter] at hj
  obtain ⟨q, ⟨hq, _⟩, hqj⟩ := hj
  have := hw q hq
  omega

theorem microStep_wf {n : Nat} {mm : List (Int × Int)} {isoI : List Iv} (hw : MicroWF n isoI.length mm) (i : Nat)
    (acc : List Iv) : microStep mm isoI (i : Int) acc = .ok (acc ++ microOf mm isoI i) := by
  simp only [microStep, getAll_eq isoI _ (microAt_inrange hw _), microOf]

theorem microAt_mirror (n m : Nat) (mm : List (Int × Int)) (j : Int) :
    microAt (mirrorMicroMap n m mm) j = ((microAt mm ((n : Int) - j)).map (fun x => (m : Int) - 1 - x)).reverse := by
  simp only [microAt, mirrorMicroMap, List.filter_reverse, List.map_reverse, List.filter_map, List.map_map]
  congr 1
  have hf : ((fun q : Int × Int => q.1 == j) ∘ fun q : Int × Int => ((n : Int) - q.1, (m : Int) - 1 - q.2))
      = fun q : Int × Int => q.1 == (n : Int) - j := by
    funext q
    simp only [Function.comp]
    rw [Bool.eq_iff_iff]
    simp only [beq_iff_eq]
    omega
  rw [hf]
  rfl

theorem microWF_mirror {n m : Nat} {mm : List (Int × Int)} (hw : MicroWF n m mm) : MicroWF n m (mirrorMicroMap n m mm) := by
  intro q hq
  simp only [mirrorMicroMap, List.mem_reverse, List.mem_map] at hq
  obtain ⟨q0, hq0, rfl⟩ := hq
  have := hw q0 hq0
  simp only
  omega

theorem filterMap_pyGet_mirror (L : Int) (l : List Iv) (js : List Int) (h : ∀ j ∈ js, 0 ≤ j ∧ j < l.length) :
    js.filterMap (fun x => pyGet? (mirrorL L l) ((l.length : Int) - 1 - x))
      = (js.filterMap (pyGet? l)).map (mirrorIv L) := by
  induction js with
  | nil => rfl
  | cons j js ih =>
    obtain ⟨h0, h1⟩ := h j (by simp)
    obtain ⟨x, hx, _⟩ := pyGet_inrange l j h0 h1
    simp only [List.filterMap_cons, pyGet?_mirror_int L l j h0 h1, hx, Option.map_some, List.map_cons,
      ih (fun j' hj' => h j' (List.mem_cons_of_mem _ hj'))]

theorem microOf_mirror (L : Int) {n : Nat} {mm : List (Int × Int)} {isoI : List Iv} (hw : MicroWF n isoI.length mm)
    (j : Nat) (hj : j ≤ n) :
    microOf (mirrorMicroMap n isoI.length mm) (mirrorL L isoI) j = mirrorL L (microOf mm isoI (n - j)) := by
  have hr := microAt_inrange hw ((n : Int) - (j : Int))
  have e : (((n - j : Nat) : Nat) : Int) = (n : Int) - (j : Int) := by omega
  simp only [microOf, microAt_mirror, e, List.filterMap_reverse, List.filterMap_map]
  have := filterMap_pyGet_mirror L isoI _ hr
  simp only [Function.comp_def]
  rw [this]
  rfl

end IsoVerif.Lemmas.C11
