/-
Helper lemmas for C14: BED blocks against exon lists; `Spaced` / `Monotone2` intron lists and the exon lists
`correct_assigned_read` and `get_exons` build from them (`buildExons`, `getExons`; the facts about `junctionsFromBlocks`
itself are in Lemmas/Junctions.lean, same namespace `IsoVerif.Lemmas.C14`); the validity gate; Python indexing and slices.
-/
import IsoVerif.Gen.Prims
import IsoVerif.Model.Interval
import IsoVerif.Model.Bed
import IsoVerif.Model.Corrector
import IsoVerif.Lemmas.Interval
import IsoVerif.Lemmas.Lists
import IsoVerif.Lemmas.Exons
import IsoVerif.Lemmas.Junctions

namespace IsoVerif.Lemmas.C14
open IsoVerif.Gen IsoVerif.Model IsoVerif.Model.C14 IsoVerif.Lemmas

/-- (blockStart, blockSize) of an exon relative to the first exon start `c` -/
def blk (c : Int) (e : Iv) : Int × Int := (e.1 - c, e.2 - e.1 + 1)

/-- consecutive (start, size) blocks do not overlap and ascend -/
def BlocksAscending : List (Int × Int) → Prop
  | [] => True
  | [_] => True
  | a :: b :: t => a.1 + a.2 ≤ b.1 ∧ BlocksAscending (b :: t)

theorem zip_maps_blk (c : Int) (l : List Iv) :
    List.zip (l.map (fun e => e.1 - c)) (l.map (fun e => e.2 - e.1 + 1)) = l.map (blk c) := by
  induction l with
  | nil => rfl
  | cons a t ih => simp only [List.map_cons, List.zip_cons_cons, ih, blk]

theorem ascending_blk_iff (c : Int) (l : List Iv) : BlocksAscending (l.map (blk c)) ↔ SD l := by
  induction l with
  | nil => simp [BlocksAscending, SD]
  | cons a t ih =>
    cases t with
    | nil => simp [BlocksAscending, SD]
    | cons b t' =>
      simp only [List.map_cons, BlocksAscending, SD] at ih ⊢
      rw [ih]
      simp only [blk]
      constructor <;> rintro ⟨h1, h2⟩ <;> exact ⟨by omega, h2⟩

theorem sizes_pos_iff (l : List Iv) : (∀ s ∈ l.map (fun e => e.2 - e.1 + 1), 0 < s) ↔ WFl l := by
  unfold WFl
  constructor
  · intro h r hr
    have := h (r.2 - r.1 + 1) (List.mem_map.mpr ⟨r, hr, rfl⟩)
    omega
  · intro h s hs
    obtain ⟨r, hr, rfl⟩ := List.mem_map.mp hs
    have := h r hr
    omega

/-! ### exon lists built from a region and an intron list (`correct_assigned_read`) -/

/-- well-formed intervals, each separated from the next by at least one position
    (exon blocks of an alignment; intron lists of a valid exon chain).  Clause for clause `Gapped` of Lemmas/Lists.lean
    (`spaced_iff_gapped`); `Spaced` is the name the C14 statements use. -/
def Spaced : List Iv → Prop
  | [] => True
  | [a] => a.1 ≤ a.2
  | a :: b :: t => a.1 ≤ a.2 ∧ a.2 + 1 < b.1 ∧ Spaced (b :: t)

def Spaced.dec : (l : List Iv) → Decidable (Spaced l)
  | [] => isTrue trivial
  | [a] => if h : a.1 ≤ a.2 then isTrue h else isFalse h
  | a :: b :: t =>
    match Spaced.dec (b :: t) with
    | isTrue h =>
      if h1 : a.1 ≤ a.2 then
        if h2 : a.2 + 1 < b.1 then isTrue ⟨h1, h2, h⟩ else isFalse (fun x => h2 x.2.1)
      else isFalse (fun x => h1 x.1)
    | isFalse h => isFalse (fun x => h x.2.2)

instance : DecidablePred Spaced := Spaced.dec

theorem spaced_iff_gapped : ∀ l : List Iv, Spaced l ↔ Gapped l
  | [] | [_] => Iff.rfl
  | _ :: b :: t => and_congr_right' (and_congr_right' (spaced_iff_gapped (b :: t)))

theorem Spaced_tail {a : Iv} {l : List Iv} (h : Spaced (a :: l)) : Spaced l :=
  (spaced_iff_gapped l).2 (Gapped_tail ((spaced_iff_gapped _).1 h))

theorem Spaced_head {a : Iv} {l : List Iv} (h : Spaced (a :: l)) : a.1 ≤ a.2 := by
  cases l with
  | nil => exact h
  | cons b t => exact h.1

theorem Spaced_SD {l : List Iv} (h : Spaced l) : SD l := Gapped_SD l ((spaced_iff_gapped l).1 h)

theorem Spaced_WFl {l : List Iv} (h : Spaced l) : WFl l := Gapped_wf l ((spaced_iff_gapped l).1 h)

/-- the body of `buildExons` for a non-empty intron list `a :: rest` with last element `t` -/
def chain (x y : Int) (a : Iv) (rest : List Iv) (t : Iv) : List Iv :=
  (x, a.1 - 1) :: (junctionsFromBlocks (a :: rest) ++ [(t.2 + 1, y)])

theorem buildExons_cons (reg : Iv) (a : Iv) (rest : List Iv) (t : Iv) (ht : (a :: rest).getLast? = some t) :
    buildExons reg (a :: rest) = chain reg.1 reg.2 a rest t := by
  simp [buildExons, chain, ht]

theorem buildExons_nil (reg : Iv) : buildExons reg [] = [reg] := by simp [buildExons]

theorem junctions_chain (a : Iv) (rest : List Iv) (x y : Int) (t : Iv) (h : Spaced (a :: rest))
    (ht : (a :: rest).getLast? = some t) :
    junctionsFromBlocks (chain x y a rest t) = a :: rest := by
  unfold chain
  exact junctions_exons_core a rest x y t ((spaced_iff_gapped _).1 h) ht

theorem SD_cons_cons {a b : Iv} {t : List Iv} : SD (a :: b :: t) ↔ a.2 < b.1 ∧ SD (b :: t) := Iff.rfl

/-- weakly monotone intron list: every intron is well formed and neither end moves backwards — what fuzzy correction
    can produce (`corrected_valid_of_monotone`, Props/C14Corrector.lean).  `Spaced ⇒ Monotone2 ⇒ TouchOrdered`
    (`Spaced_Monotone2`, `Monotone2_touchOrdered`), the last being what `get_exons` needs. -/
def Monotone2 : List Iv → Prop
  | [] => True
  | [a] => a.1 ≤ a.2
  | a :: b :: t => a.1 ≤ a.2 ∧ a.1 ≤ b.1 ∧ a.2 ≤ b.2 ∧ Monotone2 (b :: t)

theorem Spaced_Monotone2 {l : List Iv} (h : Spaced l) : Monotone2 l := by
  induction l with
  | nil => trivial
  | cons a t ih =>
    cases t with
    | nil => exact h
    | cons b t' =>
      have hb := Spaced_head h.2.2
      have h1 := h.1
      have h2 := h.2.1
      exact ⟨h1, by omega, by omega, ih h.2.2⟩

theorem junctions_spaced_of_SD {l : List Iv} (hsd : SD l) (hw : WFl l) : Spaced (junctionsFromBlocks l) :=
  (spaced_iff_gapped _).2 (junctions_gapped hsd hw)

theorem SD_bounds {l : List Iv} (hsd : SD l) (hw : WFl l) {f t : Iv} (hf : l.head? = some f)
    (ht : l.getLast? = some t) : ∀ r ∈ l, f.1 ≤ r.1 ∧ r.2 ≤ t.2 := by
  cases l with
  | nil => cases hf
  | cons a rest =>
    cases hf
    exact fun r hr => ⟨SD_head_le hsd hw r hr, SD_le_last hsd hw t ht r hr⟩

theorem first_le_last {l : List Iv} (hsd : SD l) (hw : WFl l) {f t : Iv} (hf : l.head? = some f)
    (ht : l.getLast? = some t) : f.1 ≤ t.2 := by
  have hm := List.mem_of_mem_head? hf
  have := (SD_bounds hsd hw hf ht f hm).2
  have := hw f hm
  omega

/-! ### `get_exons` on intron lists whose members may touch or overlap -/

theorem getExons_sites (s e : Int) (L : List Iv) : ∀ x ∈ getExons (s, e) L,
    (x.1 = s ∨ ∃ c ∈ L, x.1 = c.2 + 1) ∧ (x.2 = e ∨ ∃ c ∈ L, x.2 = c.1 - 1) := by
  intro x hx
  obtain ⟨h1, h2⟩ := junctions_sites (e + 1, 0) L (0, s - 1) x (by simpa [getExons] using hx)
  constructor
  · rcases h1 with h1 | h1
    · left; simp at h1; omega
    · right; exact h1
  · rcases h2 with h2 | h2
    · left; simp at h2; omega
    · right; exact h2

theorem getExons_valid (s e : Int) (L : List Iv) (hw : ∀ c ∈ L, c.1 ≤ c.2 + 1) (hp : L.Pairwise TouchOrdered) :
    SD (getExons (s, e) L) ∧ WFl (getExons (s, e) L) := by
  have := junctions_valid (e + 1, 0) L (0, s - 1) hw hp
  simpa [getExons] using this

theorem getExons_nil (s e : Int) (h : s ≤ e) : getExons (s, e) [] = [(s, e)] := by
  simp only [getExons, List.nil_append, List.cons_append, junctionsFromBlocks]
  split
  · simp
  · omega

theorem getExons_head (s e : Int) (c : Iv) (t : List Iv) (h : s < c.1) :
    (getExons (s, e) (c :: t)).head? = some (s, c.1 - 1) := by
  simp only [getExons, List.cons_append, junctionsFromBlocks]
  split
  · simp
  · rename_i hn; simp at hn; omega

theorem getExons_snoc (reg : Iv) (init : List Iv) (c : Iv) (h : c.2 < reg.2) :
    getExons reg (init ++ [c]) = junctionsFromBlocks ((0, reg.1 - 1) :: init ++ [c]) ++ [(c.2 + 1, reg.2)] := by
  have e1 : (0, reg.1 - 1) :: (init ++ [c]) ++ [(reg.2 + 1, 0)] = ((0, reg.1 - 1) :: init) ++ [c, (reg.2 + 1, 0)] := by
    simp
  have h2 : c.2 + 1 < (reg.2 + 1, (0 : Int)).1 := by simp only; omega
  rw [getExons, e1, junctions_snoc, if_pos h2, Int.add_sub_cancel]

theorem getExons_last (s e : Int) (L : List Iv) (c : Iv) (hl : L.getLast? = some c) (h : c.2 < e) :
    (getExons (s, e) L).getLast? = some (c.2 + 1, e) := by
  obtain ⟨init, rfl⟩ := List.getLast?_eq_some_iff.mp hl
  rw [getExons_snoc (s, e) init c h, List.getLast?_concat]

theorem read_introns_inside {exons : List Iv} (hsd : SD exons) (hw : WFl exons) {f l : Iv}
    (hf : exons.head? = some f) (hl : exons.getLast? = some l) :
    ∀ j ∈ junctionsFromBlocks exons, f.1 < j.1 ∧ j.2 < l.2 := by
  intro j hj
  obtain ⟨a, ha, b, hb, rfl⟩ := mem_junctions hj
  have h1 := SD_bounds hsd hw hf hl a ha
  have h2 := SD_bounds hsd hw hf hl b hb
  have := hw a ha
  have := hw b hb
  simp; omega

/-- `correct_assigned_read` builds its exon list as `get_exons` does when the introns lie strictly inside the
    region -/
theorem buildExons_eq_getExons (reg : Iv) (ni : List Iv) (hne : ni ≠ [])
    (hf : ∀ f, ni.head? = some f → reg.1 < f.1) (hl : ∀ l, ni.getLast? = some l → l.2 < reg.2) :
    buildExons reg ni = getExons reg ni := by
  cases ni with
  | nil => exact absurd rfl hne
  | cons a rest =>
    obtain ⟨t, ht⟩ := getLast?_cons_some a rest
    obtain ⟨init, hinit⟩ := List.getLast?_eq_some_iff.mp ht
    have h1 : (0, reg.1 - 1).2 + 1 < a.1 := by have := hf a rfl; simp only; omega
    rw [buildExons_cons reg a rest t ht, chain, hinit, getExons_snoc reg init t (hl t ht), List.cons_append, ← hinit,
      junctions_cons_cons_of_lt (a := (0, reg.1 - 1)) (b := a) h1, Int.sub_add_cancel]
    rfl

theorem Monotone2_touchOrdered : ∀ (l : List Iv), Monotone2 l → (∀ c ∈ l, c.1 ≤ c.2) ∧ l.Pairwise TouchOrdered
  | [], _ => ⟨nofun, .nil⟩
  | [a], h => ⟨List.forall_mem_cons.mpr ⟨h, nofun⟩, List.pairwise_singleton _ _⟩
  | a :: b :: t, ⟨h1, h2, _, h4⟩ => by
    obtain ⟨hw, hp⟩ := Monotone2_touchOrdered (b :: t) h4
    refine ⟨List.forall_mem_cons.mpr ⟨h1, hw⟩, List.pairwise_cons.mpr ⟨fun c hc => ?_, hp⟩⟩
    -- `a` starts no later than `b`, which starts no later than one past the end of everything behind it
    have hb : b.1 ≤ c.2 + 1 := by
      rcases List.mem_cons.mp hc with rfl | hc
      · have := hw c List.mem_cons_self; omega
      · exact (List.pairwise_cons.mp hp).1 c hc
    show a.1 ≤ c.2 + 1
    omega

/-- the exon list built from a weakly monotone intron list strictly inside the region is a valid block list
    (overlapping or touching neighbours are merged by `junctions_from_blocks`) -/
theorem buildExons_valid_of_monotone (reg : Iv) (ni : List Iv) (hne : ni ≠ []) (hm : Monotone2 ni)
    (hf : ∀ f, ni.head? = some f → reg.1 < f.1) (hl : ∀ l, ni.getLast? = some l → l.2 < reg.2) :
    SD (buildExons reg ni) ∧ WFl (buildExons reg ni) := by
  obtain ⟨hw, hp⟩ := Monotone2_touchOrdered ni hm
  rw [buildExons_eq_getExons reg ni hne hf hl]
  exact getExons_valid reg.1 reg.2 ni (fun c hc => by have := hw c hc; omega) hp

/-- inversion used by `strategy_none_identity`: the exon chain rebuilt from the introns of a gapped exon list
    (at least two exons) is that exon list -/
theorem chain_of_junctions (a b : Iv) (rest : List Iv) (h : Spaced (a :: b :: rest)) (t : Iv)
    (ht : (a :: b :: rest).getLast? = some t) :
    buildExons (a.1, t.2) (junctionsFromBlocks (a :: b :: rest)) = a :: b :: rest := by
  have hin := read_introns_inside (Spaced_SD h) (Spaced_WFl h) (List.head?_cons) ht
  rw [buildExons_eq_getExons (a.1, t.2) _ (by rw [junctions_cons_cons_of_lt h.2.1]; exact List.cons_ne_nil _ _)
    (fun f hf => (hin f (List.mem_of_mem_head? hf)).1) (fun l hl => (hin l (List.mem_of_getLast? hl)).2)]
  exact junctions_exons_inverse_aux _ a t ((spaced_iff_gapped _).1 h) (List.head?_cons) ht

theorem chainSorted_iff (l : List Iv) : chainSorted l = true ↔ SD l := by
  induction l with
  | nil => simp [chainSorted, SD]
  | cons a t ih =>
    cases t with
    | nil => simp [chainSorted, SD]
    | cons b t' => simp only [chainSorted, SD, Bool.and_eq_true, decide_eq_true_eq, ih]

/-- `is_valid_intron_chain` is exactly `Spaced` -/
theorem validIntronChain_iff (ni : List Iv) : validIntronChain ni = true ↔ Spaced ni := by
  induction ni with
  | nil => simp [validIntronChain, intronsSpaced, Spaced]
  | cons a t ih =>
    cases t with
    | nil => simp [validIntronChain, intronsSpaced, Spaced]
    | cons b t' =>
      simp only [validIntronChain, intronsSpaced, Spaced, List.all_cons, Bool.and_eq_true, decide_eq_true_eq] at ih ⊢
      constructor
      · rintro ⟨⟨ha, hall⟩, hg, hs⟩; exact ⟨ha, hg, ih.mp ⟨hall, hs⟩⟩
      · rintro ⟨ha, hg, hsp⟩
        obtain ⟨hall, hs⟩ := ih.mpr hsp
        exact ⟨⟨ha, hall⟩, hg, hs⟩

theorem junctions_spaced (l : List Iv) (h : Spaced l) : Spaced (junctionsFromBlocks l) :=
  junctions_spaced_of_SD (Spaced_SD h) (Spaced_WFl h)

theorem validChain_iff (l : List Iv) : validChain l = true ↔ WFl l ∧ SD l := by
  simp only [validChain, Bool.and_eq_true, chainSorted_iff, List.all_eq_true, decide_eq_true_eq, WFl]

theorem rangeGet_mem {l : List Iv} {a : Int} {n : Nat} {xs : List Iv} (h : rangeGet l a n = some xs) :
    ∀ x ∈ xs, ∃ j, a ≤ j ∧ j < a + n ∧ pyGet? l j = some x := by
  induction n generalizing a xs with
  | zero => cases h; nofun
  | succ n ih =>
    rw [rangeGet] at h
    split at h
    · rename_i y ys h1 h2
      cases h
      refine List.forall_mem_cons.mpr ⟨⟨a, by omega, by omega, h1⟩, fun x hx => ?_⟩
      obtain ⟨j, hj1, hj2, hj3⟩ := ih h2 x hx
      exact ⟨j, by omega, by omega, hj3⟩
    · cases h

theorem rangeGet_inrange (l : List Iv) (a : Int) (n : Nat) (h0 : 0 ≤ a) (h1 : a + n ≤ l.length) :
    rangeGet l a n = some ((l.drop a.toNat).take n) := by
  induction n generalizing a with
  | zero => simp [rangeGet]
  | succ n ih =>
    obtain ⟨x, hx, hd⟩ := drop_pyGet l a h0 (by omega)
    rw [rangeGet, hx, ih (a + 1) (by omega) (by omega), hd, List.take_succ_cons]

theorem sliceIncl_inrange (l : List Iv) (a b : Int) (h0 : 0 ≤ a) (h1 : a ≤ b) (h2 : b < l.length) :
    sliceIncl l a b = .ok ((l.drop a.toNat).take (b + 1 - a).toNat) := by
  unfold sliceIncl
  rw [rangeGet_inrange l a (b + 1 - a).toNat h0 (by omega)]

theorem sliceIncl_mem {l : List Iv} {a b : Int} {xs : List Iv} (h : sliceIncl l a b = .ok xs) :
    ∀ x ∈ xs, ∃ j, a ≤ j ∧ j ≤ b ∧ pyGet? l j = some x := by
  unfold sliceIncl at h
  cases hr : rangeGet l a (b + 1 - a).toNat with
  | none => simp [hr] at h
  | some ys =>
    simp [hr] at h; subst h
    intro x hx
    obtain ⟨j, h1, h2, h3⟩ := rangeGet_mem hr x hx
    exact ⟨j, h1, by omega, h3⟩

end IsoVerif.Lemmas.C14
