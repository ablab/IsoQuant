/-
Helper lemmas for C13: `sorted(set(..))` as a canonical form, the label merge of `FeatureInfo.merge` (fix a72c642 of
finding G1) as an algebra (flag strings through their shape, `flagShape`), folds of merges and the order-independent join of
labels.  Core Lean only.
-/
import IsoVerif.Model.FeatureCounts

namespace IsoVerif.Lemmas.C13
open IsoVerif.Model IsoVerif.Model.C13 IsoVerif.Gen

/-! ### sortSD: the strictly increasing list with the same members -/

section SortSD
variable {α : Type} [DecidableEq α]

/-- a strict linear order as a Boolean test (`lt a b = false` both ways only for `a = b`) -/
structure StrictLin (lt : α → α → Bool) : Prop where
  irrefl : ∀ a, lt a a = false
  trans : ∀ a b c, lt a b = true → lt b c = true → lt a c = true
  conn : ∀ a b, lt a b = false → lt b a = false → a = b

/-- strictly increasing: the canonical form of a finite set -/
def Incr (lt : α → α → Bool) (l : List α) : Prop := l.Pairwise (fun a b => lt a b = true)

theorem mem_insertSD (lt : α → α → Bool) (x : α) (l : List α) (y : α) : y ∈ insertSD lt x l ↔ y = x ∨ y ∈ l := by
  induction l with
  | nil => simp [insertSD]
  | cons z zs ih =>
    unfold insertSD
    split
    · rename_i h; subst h; simp
    · split
      · simp
      · simp only [List.mem_cons, ih]
        constructor
        · rintro (h | h | h)
          · exact Or.inr (Or.inl h)
          · exact Or.inl h
          · exact Or.inr (Or.inr h)
        · rintro (h | h | h)
          · exact Or.inr (Or.inl h)
          · exact Or.inl h
          · exact Or.inr (Or.inr h)

theorem mem_sortSD (lt : α → α → Bool) (l : List α) (y : α) : y ∈ sortSD lt l ↔ y ∈ l := by
  induction l with
  | nil => simp [sortSD]
  | cons x xs ih => simp [sortSD, mem_insertSD, ih]

theorem insertSD_incr {lt : α → α → Bool} (h : StrictLin lt) (x : α) (l : List α) (hs : Incr lt l) :
    Incr lt (insertSD lt x l) := by
  induction l with
  | nil => simp [insertSD, Incr]
  | cons z zs ih =>
    unfold insertSD
    have hz : ∀ y ∈ zs, lt z y = true := (List.pairwise_cons.mp hs).1
    have hzs : Incr lt zs := (List.pairwise_cons.mp hs).2
    split
    · exact hs
    · rename_i hne
      split
      · rename_i hlt
        refine List.pairwise_cons.mpr ⟨?_, hs⟩
        intro y hy
        rcases List.mem_cons.mp hy with e | e
        · subst e; exact hlt
        · exact h.trans _ _ _ hlt (hz y e)
      · rename_i hnlt
        have hzx : lt z x = true := by
          cases hc : lt z x with
          | true => rfl
          | false => exact absurd (h.conn x z (by simpa using hnlt) hc) hne
        refine List.pairwise_cons.mpr ⟨?_, ih hzs⟩
        intro y hy
        rcases (mem_insertSD lt x zs y).mp hy with e | e
        · subst e; exact hzx
        · exact hz y e

theorem sortSD_incr {lt : α → α → Bool} (h : StrictLin lt) (l : List α) : Incr lt (sortSD lt l) := by
  induction l with
  | nil => simp [sortSD, Incr]
  | cons x xs ih => exact insertSD_incr h x _ ih

omit [DecidableEq α] in
theorem incr_nodup {lt : α → α → Bool} (h : StrictLin lt) (l : List α) (hs : Incr lt l) : l.Nodup := by
  unfold Incr at hs
  exact hs.imp (fun {a b} hab e => by subst e; rw [h.irrefl] at hab; exact absurd hab (by simp))

omit [DecidableEq α] in
theorem incr_ext {lt : α → α → Bool} (h : StrictLin lt) (l1 l2 : List α) (h1 : Incr lt l1) (h2 : Incr lt l2)
    (hm : ∀ y, y ∈ l1 ↔ y ∈ l2) : l1 = l2 :=
  ((List.perm_ext_iff_of_nodup (incr_nodup h l1 h1) (incr_nodup h l2 h2)).mpr hm).eq_of_pairwise
    (fun a b _ _ hab hba => by have := h.trans _ _ _ hab hba; rw [h.irrefl] at this; cases this) h1 h2

theorem sortSD_congr {lt : α → α → Bool} (h : StrictLin lt) (l1 l2 : List α) (hm : ∀ y, y ∈ l1 ↔ y ∈ l2) :
    sortSD lt l1 = sortSD lt l2 :=
  incr_ext h _ _ (sortSD_incr h l1) (sortSD_incr h l2) (fun y => by rw [mem_sortSD, mem_sortSD, hm])

theorem sortSD_of_incr {lt : α → α → Bool} (h : StrictLin lt) (l : List α) (hs : Incr lt l) : sortSD lt l = l :=
  incr_ext h _ _ (sortSD_incr h l) hs (mem_sortSD lt l)

omit [DecidableEq α] in
theorem incr_length_gt_one {lt : α → α → Bool} (h : StrictLin lt) (l : List α) (hs : Incr lt l) :
    1 < l.length ↔ ∃ x ∈ l, ∃ y ∈ l, x ≠ y := by
  match l, hs with
  | [], _ => simp
  | [z], _ =>
    simp only [List.length_singleton, Nat.lt_irrefl, List.mem_singleton, false_iff]
    rintro ⟨x, hx, y, hy, hne⟩; exact hne (hx.trans hy.symm)
  | z :: w :: r, hs =>
    constructor
    · intro _
      refine ⟨z, by simp, w, by simp, ?_⟩
      intro e; subst e
      have := (List.pairwise_cons.mp hs).1 z (by simp)
      rw [h.irrefl] at this; exact absurd this (by simp)
    · intro _; simp

theorem sortSD_length_gt_one {lt : α → α → Bool} (h : StrictLin lt) (l : List α) :
    1 < (sortSD lt l).length ↔ ∃ x ∈ l, ∃ y ∈ l, x ≠ y := by
  rw [incr_length_gt_one h _ (sortSD_incr h l)]
  simp only [mem_sortSD]

end SortSD

theorem strLt_lin : StrictLin strLt where
  irrefl a := by simp [strLt, String.lt_irrefl]
  trans a b c h1 h2 := by
    simp only [strLt, decide_eq_true_eq] at *
    exact String.lt_trans h1 h2
  conn a b h1 h2 := by
    simp only [strLt, decide_eq_false_iff_not] at *
    exact String.le_antisymm (String.not_lt.mp h2) (String.not_lt.mp h1)

theorem charLt_lin : StrictLin charLt where
  irrefl a := by simp [charLt, Char.lt_irrefl]
  trans a b c h1 h2 := by
    simp only [charLt, decide_eq_true_eq] at *
    exact Char.lt_trans h1 h2
  conn a b h1 h2 := by
    simp only [charLt, decide_eq_false_iff_not] at *
    exact Char.le_antisymm (Char.not_lt.mp h2) (Char.not_lt.mp h1)

def lexLtB (a b : Iv) : Bool := decide (a.1 < b.1 ∨ (a.1 = b.1 ∧ a.2 < b.2))

theorem lexLtB_lin : StrictLin lexLtB where
  irrefl a := by simp [lexLtB]
  trans a b c h1 h2 := by simp only [lexLtB, decide_eq_true_eq] at *; omega
  conn a b h1 h2 := by
    simp only [lexLtB, decide_eq_false_iff_not] at h1 h2
    exact Prod.ext (by omega) (by omega)

theorem incr_filter {α : Type} {lt : α → α → Bool} (l : List α) (p : α → Bool) (h : Incr lt l) : Incr lt (l.filter p) :=
  List.Pairwise.sublist List.filter_sublist h

theorem incr_eq_filter {α : Type} [DecidableEq α] {lt : α → α → Bool} (h : StrictLin lt) (U l : List α) (hU : Incr lt U)
    (hl : Incr lt l) (hsub : ∀ x ∈ l, x ∈ U) : l = U.filter (fun x => decide (x ∈ l)) := by
  apply incr_ext h _ _ hl (incr_filter U _ hU)
  intro y
  simp only [List.mem_filter, decide_eq_true_eq]
  exact ⟨fun hy => ⟨hsub y hy, hy⟩, fun hy => hy.2⟩

/-- GTF strands are `+`, `-`, `.`: the concatenation of a sorted duplicate-free list of them has strictly increasing
    characters (the strand part of the normal form) -/
theorem concat_std_strands_incr (l : List String) (hl : Incr strLt l) (hstd : ∀ s ∈ l, s ∈ ["+", "-", "."]) :
    Incr charLt (concatStrs l).toList := by
  have hU : Incr strLt ["+", "-", "."] := by unfold Incr; decide
  rw [incr_eq_filter strLt_lin ["+", "-", "."] l hU hl hstd]
  by_cases h1 : "+" ∈ l <;> by_cases h2 : "-" ∈ l <;> by_cases h3 : "." ∈ l <;>
    simp only [List.filter, h1, h2, h3, decide_true, decide_false] <;> unfold Incr <;> decide

theorem mergeBase_comm (a b : List Char) : mergeBase a b = mergeBase b a := by
  simp only [mergeBase, and_comm]

theorem mergeBase_cases (a b : List Char) : mergeBase a b = 'X' ∨ mergeBase a b = 'I' ∨ mergeBase a b = 'T' := by
  unfold mergeBase; split
  · exact Or.inl rfl
  · split
    · exact Or.inr (Or.inl rfl)
    · exact Or.inr (Or.inr rfl)

theorem mergeBase_eq_X (a b : List Char) : mergeBase a b = 'X' ↔ (a.head? = some 'X' ∧ b.head? = some 'X') := by
  unfold mergeBase; split
  · rename_i h; simp [h]
  · rename_i h; split <;> simp [h]

theorem mergeBase_eq_I (a b : List Char) : mergeBase a b = 'I' ↔ (a.head? = some 'I' ∧ b.head? = some 'I') := by
  unfold mergeBase; split
  · rename_i h
    constructor
    · intro e; exact absurd e (by decide)
    · rintro ⟨h1, _⟩; rw [h.1] at h1; exact absurd h1 (by decide)
  · split
    · rename_i h; simp [h]
    · rename_i h; simp [h]

theorem mergeBase_self_of_head (f : List Char) (c : Char) (hc : c = 'X' ∨ c = 'I' ∨ c = 'T') (h : f.head? = some c) :
    mergeBase f f = c := by
  unfold mergeBase
  rcases hc with e | e | e <;> subst e <;> simp [h]

/-- the shape of a flag string: base letter, `S`, `C`, then `M` for more than one gene, else `U` -/
def flagShape (x : Char) (s c u : Prop) [Decidable s] [Decidable c] [Decidable u] (n : Nat) : List Char :=
  [x] ++ (if s then ['S'] else []) ++ (if c then ['C'] else []) ++ (if n > 1 then ['M'] else if u then ['U'] else [])

theorem mergeFlags_eq_flagShape (a b : List Char) (n : Nat) :
    mergeFlags a b n = flagShape (mergeBase a b) ('S' ∈ a ∨ 'S' ∈ b) ('C' ∈ a ∨ 'C' ∈ b) ('U' ∈ a ∧ 'U' ∈ b) n := rfl

theorem mem_flag {c d : Char} {p : Prop} [Decidable p] : c ∈ (if p then [d] else []) ↔ p ∧ c = d := by
  split <;> simp [*]

theorem mem_flagShape (x : Char) (s c u : Prop) [Decidable s] [Decidable c] [Decidable u] (n : Nat) (y : Char) :
    y ∈ flagShape x s c u n ↔ y = x ∨ (s ∧ y = 'S') ∨ (c ∧ y = 'C') ∨ (1 < n ∧ y = 'M') ∨ (¬ 1 < n ∧ u ∧ y = 'U') := by
  simp only [flagShape, List.mem_append, List.mem_singleton, mem_flag, or_assoc]
  by_cases hn : n > 1 <;> simp [hn]

theorem flagShape_congr {x : Char} {s c u s' c' u' : Prop} [Decidable s] [Decidable c] [Decidable u] [Decidable s']
    [Decidable c'] [Decidable u'] {n : Nat} (hs : s ↔ s') (hc : c ↔ c') (hu : ¬ 1 < n → (u ↔ u')) :
    flagShape x s c u n = flagShape x s' c' u' n := by
  unfold flagShape
  by_cases hn : 1 < n
  · simp [hn, hs, hc]
  · simp [hn, hs, hc, hu hn]

theorem flag_mem_flagShape {x : Char} (hx : x = 'X' ∨ x = 'I' ∨ x = 'T') (s c u : Prop) [Decidable s] [Decidable c]
    [Decidable u] (n : Nat) :
    ('S' ∈ flagShape x s c u n ↔ s) ∧ ('C' ∈ flagShape x s c u n ↔ c) ∧ ('U' ∈ flagShape x s c u n ↔ ¬ 1 < n ∧ u) := by
  simp only [mem_flagShape]
  rcases hx with e | e | e <;> simp [e]

theorem mergeFlags_flagShape {x : Char} (hx : x = 'X' ∨ x = 'I' ∨ x = 'T') (s c u : Prop) [Decidable s] [Decidable c]
    [Decidable u] (n : Nat) : mergeFlags (flagShape x s c u n) (flagShape x s c u n) n = flagShape x s c u n := by
  obtain ⟨hS, hC, hU⟩ := flag_mem_flagShape hx s c u n
  rw [mergeFlags_eq_flagShape, mergeBase_self_of_head _ x hx rfl]
  exact flagShape_congr (by rw [hS, or_self]) (by rw [hC, or_self]) (fun hn => by rw [hU, and_self]; simp [hn])

theorem mergeFlags_spec (a b : List Char) (n : Nat) :
    (mergeFlags a b n).head? = some (mergeBase a b) ∧
    ('S' ∈ mergeFlags a b n ↔ ('S' ∈ a ∨ 'S' ∈ b)) ∧
    ('C' ∈ mergeFlags a b n ↔ ('C' ∈ a ∨ 'C' ∈ b)) ∧
    ('U' ∈ mergeFlags a b n ↔ (¬ 1 < n ∧ 'U' ∈ a ∧ 'U' ∈ b)) :=
  ⟨rfl, flag_mem_flagShape (mergeBase_cases a b) _ _ _ n⟩

theorem mergeFlags_comm (a b : List Char) (n : Nat) : mergeFlags a b n = mergeFlags b a n := by
  rw [mergeFlags_eq_flagShape, mergeFlags_eq_flagShape, mergeBase_comm a b]
  exact flagShape_congr or_comm or_comm (fun _ => and_comm)

theorem mergeBase_assoc (a b c : List Char) (n m : Nat) :
    mergeBase (mergeFlags a b n) c = mergeBase a (mergeFlags b c m) := by
  have h1 : (mergeFlags a b n).head? = some (mergeBase a b) := rfl
  have h2 : (mergeFlags b c m).head? = some (mergeBase b c) := rfl
  unfold mergeBase
  rw [h1, h2]
  simp only [Option.some.injEq, mergeBase_eq_X, mergeBase_eq_I, and_assoc]

/-- the flags of a three-way merge, in either bracketing, when the gene counts are those of merged gene lists:
    `nab > 1 → n > 1`, `nbc > 1 → n > 1` -/
theorem mergeFlags_assoc (a b c : List Char) (nab nbc n : Nat) (h1 : 1 < nab → 1 < n) (h2 : 1 < nbc → 1 < n) :
    mergeFlags (mergeFlags a b nab) c n = mergeFlags a (mergeFlags b c nbc) n := by
  obtain ⟨_, s1, c1, u1⟩ := mergeFlags_spec a b nab
  obtain ⟨_, s2, c2, u2⟩ := mergeFlags_spec b c nbc
  rw [mergeFlags_eq_flagShape _ c, mergeFlags_eq_flagShape a (mergeFlags b c nbc), mergeBase_assoc a b c nab nbc]
  refine flagShape_congr (by rw [s1, s2, or_assoc]) (by rw [c1, c2, or_assoc]) (fun hn => ?_)
  rw [u1, u2]
  have hab : ¬ 1 < nab := fun h => hn (h1 h)
  have hbc : ¬ 1 < nbc := fun h => hn (h2 h)
  simp only [hab, hbc, not_false_eq_true, true_and, and_assoc]

theorem genes_two_of_sub (l1 l2 : List String) (hsub : ∀ y, y ∈ l1 → y ∈ l2) :
    1 < (sortSD strLt l1).length → 1 < (sortSD strLt l2).length := by
  rw [sortSD_length_gt_one strLt_lin, sortSD_length_gt_one strLt_lin]
  rintro ⟨x, hx, y, hy, hne⟩
  exact ⟨x, hsub x hx, y, hsub y hy, hne⟩

theorem mergeLabel_comm (a b : Label) : mergeLabel a b = mergeLabel b a := by
  unfold mergeLabel
  have hg : sortSD strLt (a.genes ++ b.genes) = sortSD strLt (b.genes ++ a.genes) :=
    sortSD_congr strLt_lin _ _ (fun y => by simp only [List.mem_append]; exact Or.comm)
  have hs : sortSD charLt (a.strand.toList ++ b.strand.toList) = sortSD charLt (b.strand.toList ++ a.strand.toList) :=
    sortSD_congr charLt_lin _ _ (fun y => by simp only [List.mem_append]; exact Or.comm)
  simp only [hg, hs, mergeFlags_comm a.ftype.toList b.ftype.toList]

theorem mergeLabel_assoc (a b c : Label) : mergeLabel (mergeLabel a b) c = mergeLabel a (mergeLabel b c) := by
  unfold mergeLabel
  simp only [String.toList_ofList]
  have hg : sortSD strLt (sortSD strLt (a.genes ++ b.genes) ++ c.genes) =
      sortSD strLt (a.genes ++ sortSD strLt (b.genes ++ c.genes)) :=
    sortSD_congr strLt_lin _ _ (fun y => by simp only [List.mem_append, mem_sortSD, or_assoc])
  have hs : sortSD charLt (sortSD charLt (a.strand.toList ++ b.strand.toList) ++ c.strand.toList) =
      sortSD charLt (a.strand.toList ++ sortSD charLt (b.strand.toList ++ c.strand.toList)) :=
    sortSD_congr charLt_lin _ _ (fun y => by simp only [List.mem_append, mem_sortSD, or_assoc])
  rw [hg, hs]
  congr 2
  apply mergeFlags_assoc
  · apply genes_two_of_sub
    intro y hy; simp only [List.mem_append, mem_sortSD] at hy ⊢
    rcases hy with h | h
    · exact Or.inl h
    · exact Or.inr (Or.inl h)
  · apply genes_two_of_sub
    intro y hy; simp only [List.mem_append, mem_sortSD] at hy ⊢
    exact Or.inr hy

/-- a label in normal form: what `set_feature_properties` and `merge` produce: gene list strictly increasing, strand
    characters strictly increasing, flag string = base letter, S, C, then M exactly for more than one gene, else U or
    nothing (written as a fixed point of the flag merge) -/
structure LNormal (a : Label) : Prop where
  genes_incr : Incr strLt a.genes
  strand_incr : Incr charLt a.strand.toList
  flags : a.ftype.toList = mergeFlags a.ftype.toList a.ftype.toList a.genes.length

theorem mergeLabel_normal (a b : Label) : LNormal (mergeLabel a b) := by
  refine ⟨sortSD_incr strLt_lin _, ?_, ?_⟩
  · simp only [mergeLabel, String.toList_ofList]; exact sortSD_incr charLt_lin _
  · simp only [mergeLabel, String.toList_ofList]
    rw [mergeFlags_eq_flagShape]
    exact (mergeFlags_flagShape (mergeBase_cases _ _) _ _ _ _).symm

theorem mergeLabel_idem (a : Label) (h : LNormal a) : mergeLabel a a = a := by
  have hg : sortSD strLt (a.genes ++ a.genes) = a.genes := by
    rw [sortSD_congr strLt_lin (a.genes ++ a.genes) a.genes (fun y => by simp)]
    exact sortSD_of_incr strLt_lin _ h.genes_incr
  have hs : sortSD charLt (a.strand.toList ++ a.strand.toList) = a.strand.toList := by
    rw [sortSD_congr charLt_lin (a.strand.toList ++ a.strand.toList) a.strand.toList (fun y => by simp)]
    exact sortSD_of_incr charLt_lin _ h.strand_incr
  unfold mergeLabel
  simp only [hg, hs]
  rw [← h.flags, String.ofList_toList, String.ofList_toList]

theorem mergeLabel_idem_merged (a b : Label) : mergeLabel (mergeLabel a b) (mergeLabel a b) = mergeLabel a b :=
  mergeLabel_idem _ (mergeLabel_normal a b)

theorem mem_mergeLabel_genes (a b : Label) (g : String) : g ∈ (mergeLabel a b).genes ↔ g ∈ a.genes ∨ g ∈ b.genes := by
  simp [mergeLabel, mem_sortSD]

theorem mem_mergeLabel_strand (a b : Label) (c : Char) :
    c ∈ (mergeLabel a b).strand.toList ↔ c ∈ a.strand.toList ∨ c ∈ b.strand.toList := by
  simp [mergeLabel, mem_sortSD]

theorem featureType_eq_flagShape (features : List Iv) (δ : Int) (f : Iv) (es : List (String × String × Bool)) :
    (featureType features δ f es).toList =
      flagShape (if es.all (fun e => e.2.2) then 'X' else if es.any (fun e => e.2.2) then 'T' else 'I')
        (features.any (fun g => g != f && (equal_ranges f g δ || equal_ranges g f δ)) = true)
        (features.any (fun g => g != f && contains g f) = true) (es.length = 1)
        (sortSD strLt (es.map (fun e => e.2.1))).length := by
  have h1 : es.length = 1 → ¬ 1 < (sortSD strLt (es.map (fun e => e.2.1))).length := by
    intro hl
    match es, hl with
    | [e], _ => simp [sortSD, insertSD]
  have hb : ∀ b1 b2 : Bool, (if b1 then "X" else if b2 then "T" else "I").toList =
      [if b1 then 'X' else if b2 then 'T' else 'I'] := by decide
  unfold featureType flagShape
  simp only []
  generalize es.all (fun e => e.2.2) = b1
  generalize es.any (fun e => e.2.2) = b2
  generalize features.any (fun g => g != f && (equal_ranges f g δ || equal_ranges g f δ)) = b3
  generalize features.any (fun g => g != f && contains g f) = b4
  generalize (sortSD strLt (es.map (fun e => e.2.1))).length = n at h1
  generalize es.length = k at h1
  simp only [String.toList_append, hb, apply_ite String.toList]
  by_cases hl : k = 1
  · simp [hl, h1 hl]
  · simp [hl]

/-- the flag string of `set_feature_properties` is in normal form with respect to its gene list -/
theorem featureType_normal (features : List Iv) (δ : Int) (f : Iv) (es : List (String × String × Bool)) :
    (featureType features δ f es).toList =
      mergeFlags (featureType features δ f es).toList (featureType features δ f es).toList
        (sortSD strLt (es.map (fun e => e.2.1))).length := by
  rw [featureType_eq_flagShape]
  refine (mergeFlags_flagShape ?_ _ _ _ _).symm
  split
  · exact Or.inl rfl
  · split
    · exact Or.inr (Or.inr rfl)
    · exact Or.inr (Or.inl rfl)

/-- every description produced by `set_feature_properties` over the GTF strands is in normal form -/
theorem setFeatureProperties_normal (chr : String) (δ : Int) (features : List Iv) (isoforms : List IsoformFeatures) (n : Nat)
    (hstd : ∀ t ∈ isoforms, t.strand ∈ ["+", "-", "."]) :
    ∀ x ∈ setFeatureProperties chr δ features isoforms n, LNormal x.label := by
  intro x hx
  unfold setFeatureProperties at hx
  obtain ⟨y, _, hy⟩ := List.mem_map.mp hx
  subst hy
  refine ⟨sortSD_incr strLt_lin _, ?_, featureType_normal _ _ _ _⟩
  apply concat_std_strands_incr _ (sortSD_incr strLt_lin _)
  intro s hs
  simp only [mem_sortSD, List.mem_map, featureEntries, List.mem_flatMap, List.mem_filter] at hs
  obtain ⟨⟨s', g', b⟩, ⟨t, ht, e, _, he⟩, hs'⟩ := hs
  simp only [Prod.mk.injEq] at he
  simp only at hs'
  rw [← hs', ← he.1]; exact hstd t ht

def FNormal (f : FeatureInfo) : Prop := LNormal f.label

theorem merge_coords (a b : FeatureInfo) : (a.merge b).chr = a.chr ∧ (a.merge b).start = a.start ∧ (a.merge b).stop = a.stop ∧
    (a.merge b).id = a.id := by
  unfold FeatureInfo.merge; split <;> simp

theorem merge_coordKey (a b : FeatureInfo) : coordKey (a.merge b) = coordKey a := by
  obtain ⟨h1, h2, h3, _⟩ := merge_coords a b
  simp [coordKey, h1, h2, h3]

theorem merge_cases (a b : FeatureInfo) :
    (a.label = b.label ∧ a.merge b = a) ∨ (a.merge b).label = mergeLabel a.label b.label := by
  unfold FeatureInfo.merge
  by_cases h : a.label = b.label
  · exact Or.inl ⟨h, by rw [if_pos h]⟩
  · exact Or.inr (by rw [if_neg h]; rfl)

/-- on descriptions in normal form the short cut `labels equal → self` is the merge itself -/
theorem merge_label (a b : FeatureInfo) (ha : FNormal a) : (a.merge b).label = mergeLabel a.label b.label := by
  rcases merge_cases a b with ⟨h, e⟩ | e
  · rw [e, ← h, mergeLabel_idem _ ha]
  · exact e

theorem merge_normal (a b : FeatureInfo) (ha : FNormal a) : FNormal (a.merge b) := by
  unfold FNormal; rw [merge_label a b ha]; exact mergeLabel_normal _ _

theorem mem_merge_genes (a b : FeatureInfo) (g : String) : g ∈ (a.merge b).genes ↔ g ∈ a.genes ∨ g ∈ b.genes := by
  rcases merge_cases a b with ⟨h, e⟩ | e
  · rw [e, show b.genes = a.genes from (congrArg Label.genes h).symm, or_self]
  · exact (congrArg (g ∈ ·.genes) e).to_iff.trans (mem_mergeLabel_genes _ _ g)

theorem mem_merge_strand (a b : FeatureInfo) (c : Char) :
    c ∈ (a.merge b).strand.toList ↔ c ∈ a.strand.toList ∨ c ∈ b.strand.toList := by
  rcases merge_cases a b with ⟨h, e⟩ | e
  · rw [e, show b.strand = a.strand from (congrArg Label.strand h).symm, or_self]
  · exact (congrArg (c ∈ ·.strand.toList) e).to_iff.trans (mem_mergeLabel_strand _ _ c)

theorem merge_genes_incr (a b : FeatureInfo) (ha : Incr strLt a.genes) : Incr strLt (a.merge b).genes := by
  rcases merge_cases a b with ⟨_, e⟩ | e
  · rw [e]; exact ha
  · exact (congrArg (Incr strLt ·.genes) e).mpr (mergeLabel_normal _ _).genes_incr

theorem merge_strand_incr (a b : FeatureInfo) (ha : Incr charLt a.strand.toList) : Incr charLt (a.merge b).strand.toList := by
  rcases merge_cases a b with ⟨_, e⟩ | e
  · rw [e]; exact ha
  · exact (congrArg (Incr charLt ·.strand.toList) e).mpr (mergeLabel_normal _ _).strand_incr

theorem foldl_merge_coordKey (f : FeatureInfo) (r : List FeatureInfo) : coordKey (r.foldl FeatureInfo.merge f) = coordKey f := by
  induction r generalizing f with
  | nil => rfl
  | cons x xs ih => rw [List.foldl_cons, ih, merge_coordKey]

theorem mem_foldl_merge_genes (f : FeatureInfo) (r : List FeatureInfo) (g : String) :
    g ∈ (r.foldl FeatureInfo.merge f).genes ↔ ∃ x ∈ f :: r, g ∈ x.genes := by
  induction r generalizing f with
  | nil => simp
  | cons x xs ih =>
    rw [List.foldl_cons, ih]
    simp only [List.mem_cons, exists_eq_or_imp, mem_merge_genes, or_assoc]

theorem mem_foldl_merge_strand (f : FeatureInfo) (r : List FeatureInfo) (c : Char) :
    c ∈ (r.foldl FeatureInfo.merge f).strand.toList ↔ ∃ x ∈ f :: r, c ∈ x.strand.toList := by
  induction r generalizing f with
  | nil => simp
  | cons x xs ih =>
    rw [List.foldl_cons, ih]
    simp only [List.mem_cons, exists_eq_or_imp, mem_merge_strand, or_assoc]

theorem foldl_merge_genes_incr (f : FeatureInfo) (r : List FeatureInfo) (hg : Incr strLt f.genes) :
    Incr strLt (r.foldl FeatureInfo.merge f).genes := by
  induction r generalizing f with
  | nil => exact hg
  | cons x xs ih => exact ih _ (merge_genes_incr f x hg)

theorem foldl_merge_strand_incr (f : FeatureInfo) (r : List FeatureInfo) (hs : Incr charLt f.strand.toList) :
    Incr charLt (r.foldl FeatureInfo.merge f).strand.toList := by
  induction r generalizing f with
  | nil => exact hs
  | cons x xs ih => exact ih _ (merge_strand_incr f x hs)

theorem foldl_merge_incr (f : FeatureInfo) (r : List FeatureInfo) (hg : Incr strLt f.genes) (hs : Incr charLt f.strand.toList) :
    Incr strLt (r.foldl FeatureInfo.merge f).genes ∧ Incr charLt (r.foldl FeatureInfo.merge f).strand.toList :=
  ⟨foldl_merge_genes_incr f r hg, foldl_merge_strand_incr f r hs⟩

theorem foldl_merge_label (f : FeatureInfo) (r : List FeatureInfo) (hf : FNormal f) :
    (r.foldl FeatureInfo.merge f).label = r.foldl (fun l x => mergeLabel l x.label) f.label ∧
    FNormal (r.foldl FeatureInfo.merge f) := by
  induction r generalizing f with
  | nil => exact ⟨rfl, hf⟩
  | cons x xs ih =>
    rw [List.foldl_cons, List.foldl_cons, ← merge_label f x hf]
    exact ih _ (merge_normal f x hf)

theorem mergeLabel_right_comm (z x y : Label) : mergeLabel (mergeLabel z x) y = mergeLabel (mergeLabel z y) x := by
  rw [mergeLabel_assoc, mergeLabel_comm x y, ← mergeLabel_assoc]

theorem foldl_mergeLabel_perm (l1 l2 : List Label) (h : l1.Perm l2) (b : Label) :
    l1.foldl mergeLabel b = l2.foldl mergeLabel b :=
  List.Perm.foldl_eq' h (fun x _ y _ z => mergeLabel_right_comm z x y) b

theorem foldl_mergeLabel_absorb (l : List Label) (hl : ∀ x ∈ l, LNormal x) (x : Label) (hx : x ∈ l) (b : Label) :
    l.foldl mergeLabel (mergeLabel b x) = l.foldl mergeLabel b := by
  induction l generalizing b with
  | nil => simp at hx
  | cons y ys ih =>
    rw [List.foldl_cons, List.foldl_cons]
    rcases List.mem_cons.mp hx with e | e
    · subst e
      rw [mergeLabel_assoc, mergeLabel_idem x (hl x (List.mem_cons_self ..))]
    · rw [mergeLabel_right_comm]
      exact ih (fun z hz => hl z (List.mem_cons_of_mem _ hz)) e _

/-- join of a non-empty list: first element merged with the rest, left to right (`none` for the empty list) -/
def labelJoin : List Label → Option Label
  | [] => none
  | f :: r => some (r.foldl mergeLabel f)

theorem labelJoin_eq_foldl (l : List Label) (hl : ∀ x ∈ l, LNormal x) (x : Label) (hx : x ∈ l) :
    labelJoin l = some (l.foldl mergeLabel x) := by
  cases l with
  | nil => simp at hx
  | cons f r =>
    have hf := hl f (List.mem_cons_self ..)
    have h1 : (f :: r).foldl mergeLabel f = r.foldl mergeLabel f := by
      rw [List.foldl_cons, mergeLabel_idem f hf]
    have h2 : (f :: r).foldl mergeLabel x = (f :: r).foldl mergeLabel f := by
      rw [← foldl_mergeLabel_absorb (f :: r) hl f (List.mem_cons_self ..) x, mergeLabel_comm x f,
          foldl_mergeLabel_absorb (f :: r) hl x hx f]
    simp only [labelJoin]; rw [h2, h1]

/-- ORDER INDEPENDENCE: the join of the labels seen does not depend on the order in which they were seen -/
theorem labelJoin_perm (l1 l2 : List Label) (h : l1.Perm l2) (hl : ∀ x ∈ l1, LNormal x) : labelJoin l1 = labelJoin l2 := by
  cases l1 with
  | nil => have := h.symm.eq_nil; subst this; rfl
  | cons f r =>
    have hf2 : f ∈ l2 := h.subset (List.mem_cons_self ..)
    have hl2 : ∀ x ∈ l2, LNormal x := fun x hx => hl x (h.symm.subset hx)
    rw [labelJoin_eq_foldl _ hl f (List.mem_cons_self ..), labelJoin_eq_foldl _ hl2 f hf2,
        foldl_mergeLabel_perm _ _ h f]

end IsoVerif.Lemmas.C13
