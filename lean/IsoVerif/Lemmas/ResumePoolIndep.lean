/-
C07 with a process pool: a task behaves the same whenever it is started during its parallel stage.

Model/ResumePool.lean lets every task of a parallel stage look at the file system *when the stage starts*.  In the code a
worker evaluates its `os.path.exists` tests and opens its input files when the executor hands it the task — possibly
after other tasks have performed any number of their events.  That makes no difference (for **every** variant of the
model, repaired or not): what a task reads, checks or writes (`Rcol c` / `Rcon c`) is disjoint from what the other
tasks of the stage write (`Tcol c'` / `Tcon c'`, `c' ≠ c`).
-/
import IsoVerif.Lemmas.ResumePool

namespace IsoVerif.Lemmas.Resume
open IsoVerif.Model.Resume

theorem runActs_agree (S : Path → Bool) (as : List Act) (fs fs' : FS)
    (hS : ∀ a ∈ as, S (actPath a) = true) (h : ∀ p, S p = true → fs' p = fs p) :
    (runActs as fs').evs = (runActs as fs).evs ∧ (runActs as fs').ok = (runActs as fs).ok ∧
      ∀ p, S p = true → (runActs as fs').fs p = (runActs as fs).fs p := by
  induction as generalizing fs fs' with
  | nil => exact ⟨rfl, rfl, h⟩
  | cons a as ih =>
    have hS' : ∀ a' ∈ as, S (actPath a') = true := fun a' ha' => hS a' (by simp [ha'])
    have hset : ∀ e : Ev, ∀ p, S p = true → apply fs' e p = apply fs e p := by
      intro e p hp
      simp only [apply, FS.set]
      split
      · rfl
      · exact h p hp
    cases a with
    | ev e =>
      obtain ⟨h1, h2, h3⟩ := ih (apply fs e) (apply fs' e) hS' (hset e)
      simp only [runActs]
      exact ⟨by rw [h1], h2, h3⟩
    | exist p =>
      have hp : fs'.has p = fs.has p := by simp only [FS.has, h p (hS (.exist p) (by simp))]
      simp only [runActs, hp]
      split
      · exact ih fs fs' hS' h
      · exact ⟨rfl, rfl, h⟩
    | load p =>
      have hp : fs'.loadable p = fs.loadable p := by simp only [FS.loadable, h p (hS (.load p) (by simp))]
      simp only [runActs, hp]
      split
      · exact ih fs fs' hS' h
      · exact ⟨rfl, rfl, h⟩
    | rm p =>
      have hp : fs'.has p = fs.has p := by simp only [FS.has, h p (hS (.rm p) (by simp))]
      simp only [runActs, hp]
      split
      · obtain ⟨h1, h2, h3⟩ := ih (apply fs (.remove p)) (apply fs' (.remove p)) hS' (hset _)
        exact ⟨by rw [h1], h2, h3⟩
      · exact ⟨rfl, rfl, h⟩

theorem collectChr_agree (v : Variant) (cfg : Cfg) (rs sk : Bool) (c : Chr) (fs fs' : FS)
    (h : ∀ p, Rcol c p = true → fs' p = fs p) : collectChr v cfg rs sk c fs' = collectChr v cfg rs sk c fs := by
  have h1 : fs' (.rgSplit c) = fs (.rgSplit c) := h _ (by simp [Rcol])
  have h2 : fs' (.collected c) = fs (.collected c) := h _ (by simp [Rcol])
  have h3 : fs' (.groups c) = fs (.groups c) := h _ (by simp [Rcol])
  have h4 : fs' (.save c) = fs (.save c) := h _ (by simp [Rcol])
  have h5 : fs' .refFa = fs .refFa := h _ rfl
  have h6 : fs' .refFaiData = fs .refFaiData := h _ rfl
  simp only [collectChr, refOK, FS.has, FS.good, h1, h2, h3, h4, h5, h6]
  rfl

theorem Rcol_Tcol {c c' : Chr} (hne : c' ≠ c) {p : Path} (h : Tcol c' p = true) : Rcol c p = false := by
  cases p <;> simp [Tcol] at h <;> simp [Rcol] <;> intro e <;> exact hne (h ▸ e ▸ rfl)

theorem constructChr_agree (v : Variant) (cfg : Cfg) (rs : Bool) (c : Chr) (fs fs' : FS)
    (h : ∀ p, Rcon c p = true → fs' p = fs p) : constructChr v cfg rs c fs' = constructChr v cfg rs c fs := by
  have h1 : fs' (.processed c) = fs (.processed c) := h _ (by simp [Rcon])
  have h2 : fs' .info = fs .info := h _ rfl
  have h3 : fs' .refFa = fs .refFa := h _ rfl
  have h4 : fs' .refFaiData = fs .refFaiData := h _ rfl
  simp only [constructChr, refOK, FS.has, FS.good, h1, h2, h3, h4]
  rfl

theorem Rcon_Tcon {c c' : Chr} (hne : c' ≠ c) {p : Path} (h : Tcon c' p = true) : Rcon c p = false := by
  cases p <;> simp [Tcon] at h <;> simp [Rcon] <;> intro e <;> exact hne (h ▸ e ▸ rfl)

theorem collect_start_indep (v : Variant) (cfg : Cfg) (rs sk : Bool) (c : Chr) (fs : FS) (es : List Ev)
    (hes : ∀ e ∈ es, ∃ c', c' ≠ c ∧ Tcol c' e.path = true) :
    (runActs (collectChr v cfg rs sk c (applyAll fs es)) (applyAll fs es)).evs = (runActs (collectChr v cfg rs sk c fs) fs).evs ∧
    (runActs (collectChr v cfg rs sk c (applyAll fs es)) (applyAll fs es)).ok = (runActs (collectChr v cfg rs sk c fs) fs).ok := by
  have h : ∀ p, Rcol c p = true → applyAll fs es p = fs p :=
    fun _ => frame (Rcol c) fun e he => by obtain ⟨c', hne, hT⟩ := hes e he; exact Rcol_Tcol hne hT
  rw [collectChr_agree v cfg rs sk c fs (applyAll fs es) h]
  obtain ⟨h1, h2, _⟩ := runActs_agree (Rcol c) _ fs (applyAll fs es) (actIn_paths Rcol_of_Tcol (collectChr_acts v cfg rs sk c fs)) h
  exact ⟨h1, h2⟩

theorem construct_start_indep (v : Variant) (cfg : Cfg) (rs : Bool) (c : Chr) (fs : FS) (es : List Ev)
    (hes : ∀ e ∈ es, ∃ c', c' ≠ c ∧ Tcon c' e.path = true) :
    (runActs (constructChr v cfg rs c (applyAll fs es)) (applyAll fs es)).evs = (runActs (constructChr v cfg rs c fs) fs).evs ∧
    (runActs (constructChr v cfg rs c (applyAll fs es)) (applyAll fs es)).ok = (runActs (constructChr v cfg rs c fs) fs).ok := by
  have h : ∀ p, Rcon c p = true → applyAll fs es p = fs p :=
    fun _ => frame (Rcon c) fun e he => by obtain ⟨c', hne, hT⟩ := hes e he; exact Rcon_Tcon hne hT
  rw [constructChr_agree v cfg rs c fs (applyAll fs es) h]
  obtain ⟨h1, h2, _⟩ := runActs_agree (Rcon c) _ fs (applyAll fs es) (actIn_paths Rcon_of_Tcon (constructChr_acts v cfg rs c fs)) h
  exact ⟨h1, h2⟩

end IsoVerif.Lemmas.Resume
