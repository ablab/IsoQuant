/-
For C20Stable: chain of custody of artefact paths through the interleaved system.

Only a successful `produce c` changes a data file, and only at `c.target` (`step_data` of Lemmas/Cache.lean).  If the
targets of all pending productions are pairwise distinct and none of them is the target of a logged production (hence,
by `SInv`, of any cache entry or result), then the step of any process keeps both facts and leaves every artefact a
result refers to untouched (`StInv`).
Without that hypothesis (`TraceInv`): a result that is not stable any more was overwritten by a later logged production
into its path.
-/
import IsoVerif.Lemmas.Cache

namespace IsoVerif.Lemmas.C20
open IsoVerif.Model.C20

variable {β : Type}

theorem step_toProduce_sub (cd : Codec β) (w : World β) (p : Proc) :
    (stepProc cd w p).2.toProduce.Sublist p.toProduce := by
  unfold Proc.toProduce
  rcases step_shape cd w p with ⟨_, h⟩ | ⟨h, _⟩ | ⟨i, rest, h, hc, hc', hs⟩
  · rw [h]; exact .refl _
  · rw [h]; exact List.nil_sublist _
  · rw [hc, hc', h]; exact (hs.trans (List.sublist_cons_self i rest)).filterMap _

/-- `wr`: the paths the step writes, which it takes off its own pending list -/
theorem step_custody (cd : Codec β) (w : World β) (p : Proc) :
    ∃ wr : List Path,
      (wr ++ (stepProc cd w p).2.toProduce).Sublist p.toProduce ∧
      (∀ x, x ∉ wr → (stepProc cd w p).1.mtime x = w.mtime x) ∧
      (∀ cv ∈ (stepProc cd w p).1.convs, cv ∈ w.convs ∨ cv.client.target ∈ wr) ∧
      (∀ r ∈ (stepProc cd w p).2.results, r ∈ p.results ∨ r.stable (stepProc cd w p).1) := by
  unfold Result.stable
  cases step_data cd w p with
  | same hm _ hv hr => rw [hm, hv]; exact ⟨[], step_toProduce_sub cd w p, fun _ _ => rfl, fun _ => Or.inl, hr⟩
  | produced c sm sm' am' _ _ hm _ hv ht hr =>
    rw [hm, hv, ht, hr]
    exact ⟨[c.target], .refl _, fun x hx => if_neg fun (e : x = c.target) => hx (e ▸ List.mem_cons_self),
      List.forall_mem_cons.2 ⟨Or.inr List.mem_cons_self, fun _ => Or.inl⟩,
      List.forall_mem_cons.2 ⟨Or.inr (if_pos rfl), fun _ => Or.inl⟩⟩

/-- `wr`: what the step wrote and took off the middle part `wr ++ P` -/
theorem nodup_split_disjoint {A wr P B : List Path} (h : (A ++ (wr ++ P) ++ B).Nodup) :
    (A ++ P ++ B).Nodup ∧ ∀ x ∈ wr, x ∉ A ++ P ++ B := by
  refine ⟨?_, ?_⟩
  · refine List.Nodup.sublist ?_ h
    exact ((List.Sublist.refl A).append (List.sublist_append_right wr P)).append (List.Sublist.refl B)
  · intro x hx hmem
    have hc := (List.nodup_iff_count.1 h) x
    have h1 : 0 < List.count x wr := List.count_pos_iff.2 hx
    have h2 : 0 < List.count x (A ++ P ++ B) := List.count_pos_iff.2 hmem
    simp only [List.count_append] at hc h2
    omega

theorem results_not_pending (cd : Codec β) (s : Sys β) (hi : SInv cd s)
    (h2 : ∀ t ∈ s.toProduce, ∀ cv ∈ s.world.convs, cv.client.target ≠ t) :
    ∀ t ∈ s.toProduce, ∀ p ∈ s.procs, ∀ r ∈ p.results, r.target ≠ t := by
  intro t ht p hp r hr
  obtain ⟨cv, hcv, _, _, htg, _⟩ := (hi.2 p hp).results r hr
  exact htg ▸ h2 t ht cv hcv

/-- the custody invariant: provenance of every entry, private pending targets, every result still stable -/
structure StInv (cd : Codec β) (s : Sys β) : Prop where
  sinv : SInv cd s
  priv : PrivateTargets s
  stable : ResultsStableAt s

theorem stepSys_stinv (cd : Codec β) (hl : cd.Lawful) (s : Sys β) (pid : Nat) (h : StInv cd s) :
    StInv cd (stepSys cd s pid) := by
  obtain ⟨hi, ⟨hnd, hc2, hc3⟩, hst⟩ := h
  have hi' := stepSys_sinv cd hl s pid hi
  cases hp : s.procs[pid]? with
  | none =>
    have : stepSys cd s pid = s := by unfold stepSys; simp [hp]
    rw [this]; exact ⟨hi, ⟨hnd, hc2, hc3⟩, hst⟩
  | some p =>
    have hmem : p ∈ s.procs := List.mem_of_getElem? hp
    have hs' : stepSys cd s pid =
        { world := (stepProc cd s.world p).1, procs := s.procs.set pid (stepProc cd s.world p).2 } := by
      unfold stepSys; simp [hp]
    obtain ⟨wr, hsub, hmt, hcv, hres⟩ := step_custody cd s.world p
    obtain ⟨A, B, hA, hB⟩ := flatMap_set_split Proc.toProduce s.procs pid p (stepProc cd s.world p).2 hp
    have hT : s.toProduce = A ++ p.toProduce ++ B := hA
    have hT' : (stepSys cd s pid).toProduce = A ++ (stepProc cd s.world p).2.toProduce ++ B := by
      rw [hs']; exact hB
    have hL : (A ++ (wr ++ (stepProc cd s.world p).2.toProduce) ++ B).Sublist s.toProduce := by
      rw [hT]; exact ((List.Sublist.refl A).append hsub).append (List.Sublist.refl B)
    obtain ⟨hnd', hdisj⟩ := nodup_split_disjoint (List.Nodup.sublist hL hnd)
    have hsubT : (stepSys cd s pid).toProduce.Sublist s.toProduce := by
      rw [hT']
      refine List.Sublist.trans ?_ hL
      exact ((List.Sublist.refl A).append (List.sublist_append_right wr _)).append (List.Sublist.refl B)
    have hwr : ∀ x ∈ wr, x ∈ s.toProduce := by
      intro x hx
      apply hL.subset
      simp [hx]
    have hc2' : ∀ t ∈ (stepSys cd s pid).toProduce, ∀ cv ∈ (stepSys cd s pid).world.convs, cv.client.target ≠ t := by
      intro t ht cv hcvm
      rw [hs'] at hcvm
      rcases hcv cv hcvm with hold | hnew
      · exact hc2 t (hsubT.subset ht) cv hold
      · intro e
        rw [hT'] at ht
        exact hdisj _ hnew (e ▸ ht)
    refine ⟨hi', ⟨by rw [hT']; exact hnd', hc2', results_not_pending cd _ hi' hc2'⟩, ?_⟩
    -- the step writes only paths that were pending, and no result refers to a pending path (`hc3`)
    have hold : ∀ q ∈ s.procs, ∀ r ∈ q.results, r.stable (stepProc cd s.world p).1 := by
      intro q hq r hr
      have hne : r.target ∉ wr := fun hx => hc3 _ (hwr _ hx) q hq r hr rfl
      show (stepProc cd s.world p).1.mtime r.target = some r.tgtM
      rw [hmt _ hne]
      exact hst q hq r hr
    intro q hq r hr
    rw [hs'] at hq ⊢
    rcases List.mem_or_eq_of_mem_set hq with hq | hq
    · exact hold q hq r hr
    · subst hq
      rcases hres r hr with h | h
      · exact hold p hmem r h
      · exact h

theorem run_stinv (cd : Codec β) (hl : cd.Lawful) (sched : List Nat) :
    ∀ (s : Sys β), StInv cd s → StInv cd (run cd s sched) :=
  run_invariant (stepSys_stinv cd hl) sched

/-- the clock is ahead of every file time -/
def TimeInv (w : World β) : Prop := ∀ path m, w.mtime path = some m → m < w.clock

/-- a logged production wrote the result's path later, and that version is the one there now -/
def Overwritten (w : World β) (r : Result) : Prop :=
  ∃ cv ∈ w.convs, cv.client.target = r.target ∧ r.tgtM < cv.tgtM ∧ w.mtime r.target = some cv.tgtM

/-- the result was taken before now, and is still the version at its path or was overwritten by a later logged production -/
def Traced (w : World β) (r : Result) : Prop := r.tgtM < w.clock ∧ (r.stable w ∨ Overwritten w r)

def TraceInv (s : Sys β) : Prop :=
  (TimeInv s.world ∧ ConvInv s.world) ∧ ∀ p ∈ s.procs, ∀ r ∈ p.results, Traced s.world r

theorem step_trace (cd : Codec β) (w : World β) (p : Proc) (ht : TimeInv w) (hp : ∀ r ∈ p.results, Traced w r) :
    TimeInv (stepProc cd w p).1 ∧ (∀ r ∈ (stepProc cd w p).2.results, Traced (stepProc cd w p).1 r) ∧
    (∀ r : Result, Traced w r → Traced (stepProc cd w p).1 r) := by
  cases step_data cd w p with
  | same hm hc hv hr =>
    unfold TimeInv Traced Overwritten Result.stable at *
    rw [hm, hc, hv]
    exact ⟨ht, fun r h => (hr r h).elim (hp r) fun hs => ⟨ht _ _ hs, Or.inl hs⟩, fun _ h => h⟩
  | produced c sm sm' am' _ _ hm hc hv _ hr =>
    -- a result on the target's path is overwritten by this production; any other keeps its file and its witness
    have keep (r : Result) : Traced w r → Traced (stepProc cd w p).1 r := by
      unfold Traced Overwritten Result.stable; rw [hm, hc, hv]
      rintro ⟨hlt, hso⟩
      refine ⟨Nat.lt_succ_of_lt hlt, ?_⟩
      by_cases hpath : r.target = c.target
      · exact Or.inr ⟨_, List.mem_cons_self, hpath.symm, hlt, if_pos hpath⟩
      · rcases hso with h | ⟨cv, hcv, h1, h2, h3⟩
        · exact Or.inl ((if_neg hpath).trans h)
        · exact Or.inr ⟨cv, List.mem_cons_of_mem _ hcv, h1, h2, (if_neg hpath).trans h3⟩
    refine ⟨fun path m => ?_, ?_, keep⟩
    · rw [hm, hc]; unfold upd; split
      · rintro ⟨⟩; exact Nat.lt_succ_self _
      · exact fun hm => Nat.lt_succ_of_lt (ht path m hm)
    · rw [hr]; refine List.forall_mem_cons.2 ⟨?_, fun r h => keep r (hp r h)⟩
      unfold Traced Result.stable; rw [hm, hc]; exact ⟨Nat.lt_succ_self _, Or.inl (if_pos rfl)⟩

theorem run_trace (cd : Codec β) (sched : List Nat) : ∀ (s : Sys β), TraceInv s → TraceInv (run cd s sched) :=
  run_invariant (stepSys_invariant (W := fun w => TimeInv w ∧ ConvInv w) (P := fun w p => ∀ r ∈ p.results, Traced w r)
    fun w p hw hp => have ⟨h1, h2, h3⟩ := step_trace cd w p hw.1 hp
      ⟨⟨h1, step_convInv cd w p hw.2⟩, h2, fun _ hq r hr => h3 r (hq r hr)⟩) sched

end IsoVerif.Lemmas.C20
