/-
C11 helper lemmas — Model/Cigar.lean (C16): translation of the reference start and reversal of the CIGAR.

The exon list / read-block list of the specification are instances of one scheme (`genSpec len s`): a segment
`(pre, seg)` with an aligned base yields the block `(s + 1 + len pre, s + len pre + len seg)` for an additive length
function `len` (`refLen` with `s = reference_start`, `queryLen` with `s = -1`).  Both equivariance facts are proved once
for the scheme:
   genSpec len (s + k) ops            = shiftL k (genSpec len s ops)
   genSpec len (L - s - len ops) ops.reverse = mirrorL L (genSpec len s ops)      (len additive, reversal invariant)
-/
import IsoVerif.Model.Cigar
import IsoVerif.Model.C11Symmetry
import IsoVerif.Lemmas.Cigar
import IsoVerif.Lemmas.C11Shift
import IsoVerif.Lemmas.C11Mirror

namespace IsoVerif.Lemmas.C11
open IsoVerif.Gen IsoVerif.Model IsoVerif.Model.C11 IsoVerif.Model.C16 IsoVerif.Lemmas.C16

def genOf (len : List CigarOp → Int) (s : Int) (c : List CigarOp × List CigarOp) : Option Iv :=
  if hasAligned c.2 then some (s + 1 + len c.1, s + len c.1 + len c.2) else none

def genSpec (len : List CigarOp → Int) (s : Int) (ops : List CigarOp) : List Iv := (cuts ops).filterMap (genOf len s)

theorem exonsSpec_eq_gen (s : Int) (ops : List CigarOp) : exonsSpec s ops = genSpec refLen s ops := rfl

theorem queryBlocksSpec_eq_gen (ops : List CigarOp) : queryBlocksSpec ops = genSpec queryLen (-1) ops := by
  unfold queryBlocksSpec genSpec
  congr 1
  funext c
  simp only [queryBlockOf, genOf]
  split
  · congr 1; ext <;> simp <;> omega
  · rfl

theorem genOf_shift (len : List CigarOp → Int) (s k : Int) (c : List CigarOp × List CigarOp) :
    genOf len (s + k) c = (genOf len s c).map (shiftIv k) := by
  simp only [genOf]
  split
  · simp only [Option.map_some, shiftIv]; congr 1; ext <;> simp <;> omega
  · rfl

theorem genSpec_shift (len : List CigarOp → Int) (s k : Int) (ops : List CigarOp) :
    genSpec len (s + k) ops = shiftL k (genSpec len s ops) := by
  unfold genSpec shiftL
  rw [List.map_filterMap]
  congr 1
  funext c
  exact genOf_shift len s k c

theorem cutsAux_prefix (P : List CigarOp) : ∀ (rest P' S : List CigarOp),
    cutsAux (P ++ P') S rest = (cutsAux P' S rest).map (fun c => (P ++ c.1, c.2)) := by
  intro rest
  induction rest with
  | nil => intro P' S; simp [cutsAux]
  | cons op rest ih =>
    intro P' S
    simp only [cutsAux]
    split
    · have := ih (P' ++ S ++ [op]) []
      simp only [List.map_cons, ← List.append_assoc] at this ⊢
      rw [this]
    · exact ih P' (S ++ [op])

theorem cuts_sepfree (seg : List CigarOp) (h : SepFree seg) : cuts seg = [([], seg)] := by
  have := cutsAux_append_sepfree seg [] [] [] h
  simp only [List.append_nil, List.nil_append] at this
  simp [cuts, this, cutsAux]

theorem cuts_first (seg rest : List CigarOp) (sep : CigarOp) (h : SepFree seg) (hs : isSep sep.1 = true) :
    cuts (seg ++ sep :: rest) = ([], seg) :: (cuts rest).map (fun c => ((seg ++ [sep]) ++ c.1, c.2)) := by
  have h1 := cutsAux_append_sepfree seg [] [] (sep :: rest) h
  simp only [List.nil_append] at h1
  unfold cuts
  rw [h1]
  simp only [cutsAux, hs, if_true, List.nil_append]
  have := cutsAux_prefix (seg ++ [sep]) rest [] []
  simp only [List.append_nil] at this
  rw [this]

theorem cutsAux_last (seg : List CigarOp) (sep : CigarOp) (h : SepFree seg) (hs : isSep sep.1 = true) :
    ∀ (rest P S : List CigarOp),
      cutsAux P S (rest ++ sep :: seg) = cutsAux P S rest ++ [(P ++ S ++ rest ++ [sep], seg)] := by
  intro rest
  induction rest with
  | nil =>
    intro P S
    have h1 := cutsAux_append_sepfree seg (P ++ S ++ [sep]) [] [] h
    simp only [List.append_nil, List.nil_append] at h1
    simp only [List.nil_append, cutsAux, hs, if_true, h1]
    simp
  | cons op rest ih =>
    intro P S
    simp only [List.cons_append, cutsAux]
    split
    · rw [ih]; simp
    · rw [ih]; simp

theorem cuts_last (rest seg : List CigarOp) (sep : CigarOp) (h : SepFree seg) (hs : isSep sep.1 = true) :
    cuts (rest ++ sep :: seg) = cuts rest ++ [(rest ++ [sep], seg)] := by
  have := cutsAux_last seg sep h hs rest [] []
  simpa [cuts] using this

theorem sepfree_or_split (ops : List CigarOp) :
    SepFree ops ∨ ∃ seg sep rest, ops = seg ++ sep :: rest ∧ SepFree seg ∧ isSep sep.1 = true := by
  induction ops with
  | nil => left; intro o ho; cases ho
  | cons o t ih =>
    cases ho : isSep o.1 with
    | true => right; exact ⟨[], o, t, rfl, (by intro x hx; cases hx), ho⟩
    | false =>
      rcases ih with h | ⟨seg, sep, rest, h1, h2, h3⟩
      · left; intro x hx
        rcases List.mem_cons.1 hx with rfl | hx
        · exact ho
        · exact h x hx
      · right
        refine ⟨o :: seg, sep, rest, by rw [h1]; rfl, ?_, h3⟩
        intro x hx
        rcases List.mem_cons.1 hx with rfl | hx
        · exact ho
        · exact h2 x hx

theorem SepFree_reverse {seg : List CigarOp} (h : SepFree seg) : SepFree seg.reverse :=
  fun o ho => h o (List.mem_reverse.1 ho)

theorem hasAligned_reverse (seg : List CigarOp) : hasAligned seg.reverse = hasAligned seg := by
  simp [hasAligned]

structure LenFn (len : List CigarOp → Int) : Prop where
  nil : len [] = 0
  append : ∀ a b, len (a ++ b) = len a + len b
  reverse : ∀ a, len a.reverse = len a

theorem genSpec_sepfree (len : List CigarOp → Int) (hl : LenFn len) (s : Int) (seg : List CigarOp) (h : SepFree seg) :
    genSpec len s seg = if hasAligned seg then [(s + 1, s + len seg)] else [] := by
  by_cases ha : hasAligned seg = true <;>
    simp [genSpec, cuts_sepfree seg h, genOf, hl.nil, ha]

theorem genSpec_first (len : List CigarOp → Int) (hl : LenFn len) (s : Int) (seg rest : List CigarOp) (sep : CigarOp)
    (h : SepFree seg) (hs : isSep sep.1 = true) :
    genSpec len s (seg ++ sep :: rest) =
      genSpec len s seg ++ genSpec len (s + len (seg ++ [sep])) rest := by
  rw [genSpec_sepfree len hl s seg h]
  simp only [genSpec, cuts_first seg rest sep h hs, List.filterMap_cons, List.filterMap_map]
  have hrest : (cuts rest).filterMap (genOf len s ∘ fun c => ((seg ++ [sep]) ++ c.1, c.2)) =
      (cuts rest).filterMap (genOf len (s + len (seg ++ [sep]))) := by
    congr 1
    funext c
    simp only [Function.comp, genOf, hl.append]
    split
    · congr 1; ext <;> simp <;> omega
    · rfl
  rw [hrest]
  by_cases ha : hasAligned seg = true <;> simp [genOf, hl.nil, ha]

theorem genSpec_last (len : List CigarOp → Int) (hl : LenFn len) (s : Int) (rest seg : List CigarOp) (sep : CigarOp)
    (h : SepFree seg) (hs : isSep sep.1 = true) :
    genSpec len s (rest ++ sep :: seg) =
      genSpec len s rest ++ genSpec len (s + len (rest ++ [sep])) seg := by
  rw [genSpec_sepfree len hl _ seg h]
  by_cases ha : hasAligned seg = true
  · simp only [genSpec, cuts_last rest seg sep h hs, List.filterMap_append, List.filterMap_cons, List.filterMap_nil,
      genOf, ha, if_true]
    have : s + 1 + len (rest ++ [sep]) = s + len (rest ++ [sep]) + 1 := by omega
    rw [this]
  · simp [genSpec, cuts_last rest seg sep h hs, genOf, ha]

theorem genSpec_reverse_aux (len : List CigarOp → Int) (hl : LenFn len) (L : Int) :
    ∀ (n : Nat) (ops : List CigarOp), ops.length ≤ n → ∀ s : Int,
      genSpec len (L - s - len ops) ops.reverse = mirrorL L (genSpec len s ops) := by
  intro n
  induction n with
  | zero =>
    intro ops hn s
    have : ops = [] := List.eq_nil_of_length_eq_zero (by omega)
    subst this
    have hsf : SepFree ([] : List CigarOp) := by intro o ho; cases ho
    simp [genSpec_sepfree len hl _ [] hsf, hasAligned_nil, mirrorL]
  | succ n ih =>
    intro ops hn s
    rcases sepfree_or_split ops with h | ⟨seg, sep, rest, rfl, h2, h3⟩
    · rw [genSpec_sepfree len hl _ _ (SepFree_reverse h), genSpec_sepfree len hl _ _ h, hasAligned_reverse, hl.reverse]
      split
      · simp only [mirrorL_singleton, mirrorIv]
        have e1 : L - s - len ops + 1 = L + 1 - (s + len ops) := by omega
        have e2 : L - s - len ops + len ops = L + 1 - (s + 1) := by omega
        rw [e1, e2]
      · rfl
    · have hrev : (seg ++ sep :: rest).reverse = rest.reverse ++ sep :: seg.reverse := by simp
      rw [hrev, genSpec_last len hl _ _ _ _ (SepFree_reverse h2) h3, genSpec_first len hl s seg rest sep h2 h3,
        mirrorL_append]
      have hlen : rest.length ≤ n := by simp at hn; omega
      have e1 := ih rest hlen (s + len (seg ++ [sep]))
      have hA : len (seg ++ sep :: rest) = len seg + len [sep] + len rest := by
        have : seg ++ sep :: rest = seg ++ ([sep] ++ rest) := by simp
        rw [this, hl.append, hl.append]; omega
      have hB : len (rest.reverse ++ [sep]) = len rest + len [sep] := by rw [hl.append, hl.reverse]
      have hC : len (seg ++ [sep]) = len seg + len [sep] := hl.append _ _
      have s1 : L - s - len (seg ++ sep :: rest) = L - (s + len (seg ++ [sep])) - len rest := by omega
      rw [s1, e1]
      congr 1
      -- the first segment becomes the last one
      have e2 := ih seg (by simp at hn; omega) s
      rw [genSpec_sepfree len hl _ _ (SepFree_reverse h2), hasAligned_reverse, hl.reverse] at e2 ⊢
      rw [← e2]
      have s2 : L - (s + len (seg ++ [sep])) - len rest + len (rest.reverse ++ [sep]) = L - s - len seg := by omega
      rw [s2]

theorem genSpec_reverse (len : List CigarOp → Int) (hl : LenFn len) (L s : Int) (ops : List CigarOp) :
    genSpec len (L - s - len ops) ops.reverse = mirrorL L (genSpec len s ops) :=
  genSpec_reverse_aux len hl L ops.length ops (Nat.le_refl _) s

theorem queryLen_reverse (l : List CigarOp) : queryLen l.reverse = queryLen l := by
  induction l with
  | nil => rfl
  | cons o t ih => rw [List.reverse_cons, queryLen_append, ih, queryLen_cons, queryLen_cons, queryLen_nil]; omega

theorem lenFn_refLen : LenFn refLen := ⟨refLen_nil, refLen_append, refLen_reverse⟩
theorem lenFn_queryLen : LenFn queryLen := ⟨queryLen_nil, queryLen_append, queryLen_reverse⟩

end IsoVerif.Lemmas.C11
