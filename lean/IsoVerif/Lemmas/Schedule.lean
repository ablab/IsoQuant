/-
Lemmas for C06: the process pool (its result position by position; under a state-independent task it is the plain
map), `isort` as an instance of Lemmas/InsertionSort.lean, `sortStr`, `dedup`.  Namespace `IsoVerif.Lemmas.C06`; the
`isort` of Model/Counter has its own `isort_perm` / `isort_pairwise` in Lemmas/CounterPerm.lean.
-/
import IsoVerif.Model.Schedule
import IsoVerif.Lemmas.InsertionSort

namespace IsoVerif.Lemmas.C06
open IsoVerif.Model.C06 IsoVerif.Lemmas

/-- the event that runs task `i` stores `f (state of its worker) c` under key `i`; the later events of a valid schedule
    have other keys and leave it there -/
theorem lookup_runEvents {σ χ ω : Type} (f : σ → χ → ω × σ) (chrs : List χ) :
    ∀ (s : List Event) (st : Nat → σ) (i : Nat) (c : χ), chrs[i]? = some c → i ∈ s.map Prod.snd →
      ∃ σ₀, (runEvents f chrs st s).1.lookup i = some (f σ₀ c).1 := by
  intro s
  induction s with
  | nil => intro st i c _ hi; simp at hi
  | cons e es ih =>
    intro st i c hc hi
    obtain ⟨w, t⟩ := e
    simp only [List.map_cons, List.mem_cons] at hi
    unfold runEvents
    cases ht : chrs[t]? with
    | none =>
      simp only
      have hne : i ≠ t := by intro h; subst h; rw [hc] at ht; cases ht
      rcases hi with hi | hi
      · exact absurd hi hne
      · exact ih st i c hc hi
    | some c' =>
      simp only
      by_cases hit : i = t
      · subst hit
        rw [hc] at ht; cases ht
        exact ⟨st w, by simp [List.lookup]⟩
      · have hi' : i ∈ es.map Prod.snd := by
          rcases hi with hi | hi
          · exact absurd hi hit
          · exact hi
        obtain ⟨σ₀, h⟩ := ih (setW st w (f (st w) c').2) i c hc hi'
        refine ⟨σ₀, ?_⟩
        have : (i == t) = false := by simp [hit]
        simp [List.lookup, this, h]

theorem poolMap_getElem? {σ χ ω : Type} (f : σ → χ → ω × σ) (chrs : List χ) (st : Nat → σ) (s : List Event)
    (hs : ValidSchedule chrs.length s) (i : Nat) (c : χ) (hc : chrs[i]? = some c) :
    ∃ σ₀, (poolMap f chrs st s)[i]? = some (some (f σ₀ c).1) := by
  have hi : i < chrs.length := by
    rcases Nat.lt_or_ge i chrs.length with h | h
    · exact h
    · rw [List.getElem?_eq_none h] at hc; cases hc
  have hmem : i ∈ s.map Prod.snd := (hs.mem_iff).2 (List.mem_range.2 hi)
  obtain ⟨σ₀, h⟩ := lookup_runEvents f chrs s st i c hc hmem
  refine ⟨σ₀, ?_⟩
  simp [poolMap, List.getElem?_map, List.getElem?_range hi, h]

theorem poolMap_length {σ χ ω : Type} (f : σ → χ → ω × σ) (chrs : List χ) (st : Nat → σ) (s : List Event) :
    (poolMap f chrs st s).length = chrs.length := by simp [poolMap]

theorem poolMap_eq_map_of {σ χ ω : Type} (f : σ → χ → ω × σ) (chrs : List χ) (st : Nat → σ) (s : List Event) (g : χ → ω)
    (h : ∀ (i : Nat) c, chrs[i]? = some c → (poolMap f chrs st s)[i]? = some (some (g c))) :
    poolMap f chrs st s = (chrs.map g).map some := by
  apply List.ext_getElem?
  intro i
  cases hc : chrs[i]? with
  | some c => rw [h i c hc, List.getElem?_map, List.getElem?_map, hc]; rfl
  | none =>
    have hi := List.getElem?_eq_none_iff.1 hc
    rw [List.getElem?_eq_none (by rw [poolMap_length]; exact hi), List.getElem?_eq_none (by simpa using hi)]

theorem poolMap_eq_map {σ χ ω : Type} (f : σ → χ → ω × σ) (chrs : List χ) (σ₀ : σ)
    (H : ∀ σ₁ σ₂ c, (f σ₁ c).1 = (f σ₂ c).1) (st : Nat → σ) (s : List Event)
    (hs : ValidSchedule chrs.length s) : poolMap f chrs st s = (chrs.map (fun c => (f σ₀ c).1)).map some :=
  poolMap_eq_map_of f chrs st s _ fun i c hc => by
    obtain ⟨σ₁, h₁⟩ := poolMap_getElem? f chrs st s hs i c hc
    rw [h₁, H σ₁ σ₀]

theorem isort_is {α : Type} (le : α → α → Bool) : InsertionSort le (insertBy le) (isort le) :=
  ⟨fun _ => rfl, fun _ _ _ => rfl, rfl, fun _ _ => rfl⟩

theorem isort_perm {α : Type} (le : α → α → Bool) (l : List α) : (isort le l).Perm l := (isort_is le).perm l

theorem isort_pairwise {α : Type} (le : α → α → Bool)
    (trans : ∀ a b c, le a b = true → le b c = true → le a c = true)
    (total : ∀ a b, le a b = true ∨ le b a = true) (l : List α) : (isort le l).Pairwise (fun a b => le a b = true) :=
  (isort_is le).pairwise trans total l

theorem isort_eq_of_perm {α : Type} (le : α → α → Bool)
    (trans : ∀ a b c, le a b = true → le b c = true → le a c = true)
    (total : ∀ a b, le a b = true ∨ le b a = true) {l l' : List α}
    (antisymm : ∀ a b, a ∈ l → b ∈ l → le a b = true → le b a = true → a = b)
    (h : l.Perm l') : isort le l = isort le l' :=
  (isort_is le).eq_of_perm trans total antisymm h

theorem sortStr_perm (l : List String) : (sortStr l).Perm l := isort_perm _ _

theorem sortStr_eq_of_perm {l l' : List String} (h : l.Perm l') : sortStr l = sortStr l' := by
  refine isort_eq_of_perm (fun a b => decide (a ≤ b)) ?_ ?_ ?_ h
  · exact fun _ _ _ hab hbc => decide_eq_true (String.le_trans (of_decide_eq_true hab) (of_decide_eq_true hbc))
  · exact fun a b => (String.le_total a b).imp decide_eq_true decide_eq_true
  · exact fun _ _ _ _ hab hba => String.le_antisymm (of_decide_eq_true hab) (of_decide_eq_true hba)

theorem mem_dedup {x : String} {l : List String} : x ∈ dedup l ↔ x ∈ l := by
  fun_induction dedup l with
  | case1 => rfl
  | case2 y ys hy ih =>
    rw [ih, List.mem_cons, or_iff_right_of_imp]
    rintro rfl; exact List.contains_iff_mem.1 hy
  | case3 y ys hy ih => rw [List.mem_cons, List.mem_cons, ih]

theorem nodup_dedup (l : List String) : (dedup l).Nodup := by
  fun_induction dedup l with
  | case1 => exact List.nodup_nil
  | case2 y ys hy ih => exact ih
  | case3 y ys hy ih => exact List.nodup_cons.2 ⟨fun h => hy (List.contains_iff_mem.2 (mem_dedup.1 h)), ih⟩

/-- `sorted(set(l))` depends only on which strings occur in `l` -/
theorem sortStr_dedup_eq_of_mem_iff {l l' : List String} (h : ∀ x, x ∈ l ↔ x ∈ l') :
    sortStr (dedup l) = sortStr (dedup l') := by
  apply sortStr_eq_of_perm
  rw [List.perm_ext_iff_of_nodup (nodup_dedup l) (nodup_dedup l')]
  intro a
  rw [mem_dedup, mem_dedup]
  exact h a

end IsoVerif.Lemmas.C06
