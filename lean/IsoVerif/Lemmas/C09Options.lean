/-
Helper lemmas for C09 option strings (core Lean only): `option.split(':')` on text assembled from colon-free fields.
-/
import IsoVerif.Model.C09Options
import IsoVerif.Lemmas.C09Split

namespace IsoVerif.Lemmas.C09Options
open IsoVerif.Gen IsoVerif.Model.C09 IsoVerif.Lemmas.C09Split

def NoColon (s : List Char) : Prop := ':' ∉ s

instance (s : List Char) : Decidable (NoColon s) := by unfold NoColon; infer_instance

theorem splitGo_colon_cons (r : List Char) : ∀ (a : List Char), NoColon a →
    splitGo ':' [] (a ++ ':' :: r) = (a, (splitGo ':' [] r).1 :: (splitGo ':' [] r).2)
  | [], _ => by
    rw [List.nil_append, splitGo]
    simp
  | c :: a, h => by
    have hc : c ≠ ':' := fun e => h (by rw [e]; exact List.mem_cons_self)
    have ih := splitGo_colon_cons r a (fun hm => h (List.mem_cons_of_mem _ hm))
    rw [List.cons_append, splitGo]
    simp [hc, ih]

theorem colonPieces_cons (a r : List Char) (ha : NoColon a) : colonPieces (a ++ ':' :: r) = a :: colonPieces r := by
  simp [colonPieces, splitGo_colon_cons r a ha]

theorem colonPieces_noColon (a : List Char) (ha : NoColon a) : colonPieces a = [a] := by
  simp [colonPieces, splitGo_no_delim ':' a ha]

theorem join_colonPieces (d : List Char) : joinWith [':'] (colonPieces d) = d := by
  simpa [colonPieces] using splitGo_join ':' [] d

theorem pySplit_colon (o : List Char) : pySplit [':'] o = .ok (colonPieces o) := rfl

theorem joinWith_cons_cons (a b : List Char) (rest : List (List Char)) :
    joinWith [':'] (a :: b :: rest) = a ++ ':' :: joinWith [':'] (b :: rest) := by
  simp [joinWith]

end IsoVerif.Lemmas.C09Options
