/-
C12 (cache clause): dictionary / file-system lookups and the world invariant that is kept by every operation of a
history.
-/
import IsoVerif.Model.GtfCache
import IsoVerif.Lemmas.AssocList

namespace IsoVerif.Lemmas.C12
open IsoVerif.Model.C12 IsoVerif.Lemmas

/-- `c[k] = e` is the insertion-ordered update of Lemmas/AssocList.lean (as `cset` of the C20 model: `cset_eq_upsert`,
    Lemmas/Cache.lean) -/
theorem set_eq_upsert (c : Cache) (k : String) (e : CacheEntry) : c.set k e = upsert (fun _ => e) e c k := by
  fun_induction Cache.set c k e <;> simp_all [upsert]

theorem get_set (c : Cache) (g k : String) (e : CacheEntry) :
    (c.set g e).get k = if k = g then some e else c.get k := by
  unfold Cache.get; rw [set_eq_upsert, lookup_upsert_const]

/-- coherence of file system and cache: every mtime, on disk or remembered, is older than the clock -/
structure Inv (conv : Nat → Bool → Nat) (w : World) : Prop where
  /-- a write stamps `w.clock`, so no remembered mtime can equal the mtime of a later write: with `cacheBelow` the whole
      coherence argument of `inv_write` -/
  fsBelow : ∀ p f, List.lookup p w.fs = some f → f.mtime < w.clock
  cacheBelow : ∀ k e m, w.cache.get k = some e → (e.gtfMtime = some m ∨ e.dbMtime = some m) → m < w.clock
  /-- a cache entry whose two files still carry the remembered mtimes points to a database that holds the
      conversion of the GTF's current content with the remembered flag -/
  coherent : ∀ g e db c fg fd, w.cache.get g = some e → e.genedb = some db → e.complete = some c →
    List.lookup g w.fs = some fg → List.lookup db w.fs = some fd →
    e.gtfMtime = some fg.mtime → e.dbMtime = some fd.mtime → fd.data = conv fg.data c

theorem inv_write (conv : Nat → Bool → Nat) (w : World) (p : String) (d : Nat) (h : Inv conv w) :
    Inv conv (applyOp conv w (.write p d)) := by
  refine ⟨?_, ?_, ?_⟩
  · intro q f hq
    simp only [applyOp] at hq ⊢
    rw [lookup_cons_ite] at hq
    by_cases hqp : q = p
    · simp [hqp] at hq; subst hq; simp only; omega
    · simp [hqp] at hq
      have := h.fsBelow q f hq
      omega
  · intro k e m hk hm
    simp only [applyOp] at hk ⊢
    have := h.cacheBelow k e m hk hm
    omega
  · intro g e db c fg fd hg hdb hc hfg hfd hm1 hm2
    simp only [applyOp] at hg hfg hfd
    rw [lookup_cons_ite] at hfg hfd
    by_cases h1 : g = p
    · simp [h1] at hfg; subst hfg
      have := h.cacheBelow g e w.clock hg (Or.inl hm1)
      omega
    · by_cases h2 : db = p
      · simp [h2] at hfd; subst hfd
        have := h.cacheBelow g e w.clock hg (Or.inr hm2)
        omega
      · simp [h1] at hfg; simp [h2] at hfd
        exact h.coherent g e db c fg fd hg hdb hc hfg hfd hm1 hm2

theorem inv_remove (conv : Nat → Bool → Nat) (w : World) (p : String) (h : Inv conv w) :
    Inv conv (applyOp conv w (.remove p)) := by
  refine ⟨?_, ?_, ?_⟩
  · intro q f hq
    simp only [applyOp] at hq ⊢
    rw [lookup_filter_ne] at hq
    by_cases hqp : q = p
    · simp [hqp] at hq
    · simp [hqp] at hq; exact h.fsBelow q f hq
  · intro k e m hk hm
    exact h.cacheBelow k e m hk hm
  · intro g e db c fg fd hg hdb hc hfg hfd hm1 hm2
    simp only [applyOp] at hg hfg hfd
    rw [lookup_filter_ne] at hfg hfd
    by_cases h1 : g = p
    · simp [h1] at hfg
    · by_cases h2 : db = p
      · simp [h2] at hfd
      · simp [h1] at hfg; simp [h2] at hfd
        exact h.coherent g e db c fg fd hg hdb hc hfg hfd hm1 hm2

theorem inv_cache_set (conv : Nat → Bool → Nat) (w : World) (k : String) (e : CacheEntry)
    (hb : ∀ m, (e.gtfMtime = some m ∨ e.dbMtime = some m) → m < w.clock)
    (hcoh : ∀ db c fg fd, e.genedb = some db → e.complete = some c → List.lookup k w.fs = some fg →
      List.lookup db w.fs = some fd → e.gtfMtime = some fg.mtime → e.dbMtime = some fd.mtime → fd.data = conv fg.data c)
    (h : Inv conv w) : Inv conv { w with cache := w.cache.set k e } := by
  refine ⟨h.fsBelow, ?_, ?_⟩
  · intro k' e' m hk hm
    simp only [get_set] at hk
    by_cases hkk : k' = k
    · rw [if_pos hkk] at hk; cases hk; exact hb m hm
    · rw [if_neg hkk] at hk; exact h.cacheBelow k' e' m hk hm
  · intro g e' db c fg fd hg
    simp only [get_set] at hg
    by_cases hkk : g = k
    · rw [if_pos hkk] at hg; cases hg; subst hkk; exact hcoh db c fg fd
    · rw [if_neg hkk] at hg; exact h.coherent g e' db c fg fd hg

/-- the world after a conversion that was not served from the cache -/
def converted (conv : Nat → Bool → Nat) (w : World) (gtf db : String) (complete : Bool) (g : File) : World :=
  let fs' : FS := (db, { mtime := w.clock, data := conv g.data complete }) :: w.fs
  { fs := fs',
    cache := w.cache.set gtf { genedb := some db, gtfMtime := FS.mtime fs' gtf, dbMtime := FS.mtime fs' db,
                               complete := some complete },
    clock := w.clock + 1 }

theorem inv_converted (conv : Nat → Bool → Nat) (w : World) (gtf db : String) (complete : Bool) (g : File)
    (hne : gtf ≠ db) (hg : List.lookup gtf w.fs = some g) (h : Inv conv w) :
    Inv conv (converted conv w gtf db complete g) := by
  have hgb := h.fsBelow gtf g hg
  -- a conversion is a write of the database followed by storing the cache entry
  refine inv_cache_set conv (applyOp conv w (.write db (conv g.data complete))) gtf _ ?_ ?_
    (inv_write conv w db _ h)
  · intro m hm
    simp [FS.mtime, lookup_cons_ite, hne, hg] at hm
    show m < w.clock + 1
    omega
  · intro db' c fg fd hdb hc hfg hfd _ _
    simp only [Option.some.injEq] at hdb hc
    subst hdb; subst hc
    simp only [applyOp] at hfg hfd
    rw [lookup_cons_ite] at hfg hfd
    simp [hne, hg] at hfg; simp at hfd
    subst hfg; subst hfd; rfl

theorem convert_cases (conv : Nat → Bool → Nat) (w : World) (gtf db : String) (complete clean : Bool) :
    (∃ d, convertGtf2Db conv w gtf db complete clean = .ok w gtf d ∧
        findConvertedDb w.cache w.fs.mtime gtf complete = .hit d) ∨
    (∃ g, List.lookup gtf w.fs = some g ∧
        convertGtf2Db conv w gtf db complete clean = .ok (converted conv w gtf db complete g) gtf db) ∨
    convertGtf2Db conv w gtf db complete clean = .typeError ∨
    convertGtf2Db conv w gtf db complete clean = .convertFailed := by
  unfold convertGtf2Db
  cases clean with
  | true =>
    simp only [if_true]
    cases hg : List.lookup gtf w.fs with
    | none => simp
    | some g => right; left; exact ⟨g, rfl, rfl⟩
  | false =>
    simp only [Bool.false_eq_true, if_false]
    cases hf : findConvertedDb w.cache w.fs.mtime gtf complete with
    | hit d => left; exact ⟨d, rfl, rfl⟩
    | typeError => simp
    | miss =>
      cases hg : List.lookup gtf w.fs with
      | none => simp
      | some g => right; left; exact ⟨g, rfl, rfl⟩

end IsoVerif.Lemmas.C12
