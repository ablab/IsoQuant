/-
Helper lemmas for the end-to-end part of C12: first-wins duplicate elimination under block-wise permutations,
grouping a list by a key (naturality under maps is `firstWins_map`, Lemmas/Resolver).  Core Lean only.
-/
import IsoVerif.Model.Resolver
import IsoVerif.Lemmas.Resolver
import IsoVerif.Lemmas.BamClusters

namespace IsoVerif.Lemmas.C12
open IsoVerif.Model.Resolver IsoVerif.Lemmas.Resolver
open List

section FirstWins
variable {α : Type} (eq : α → α → Bool)

theorem firstWinsAux_append (kept a b : List α) :
    firstWinsAux eq kept (a ++ b) = firstWinsAux eq (firstWinsAux eq kept a) b := by
  induction a generalizing kept with
  | nil => simp [firstWinsAux]
  | cons x t ih =>
    simp only [List.cons_append, firstWinsAux]
    split
    · exact ih kept
    · exact ih _

theorem firstWinsAux_perm_acc (l : List α) {kept kept' : List α} (h : kept ~ kept') :
    firstWinsAux eq kept l ~ firstWinsAux eq kept' l := by
  induction l generalizing kept kept' with
  | nil => simpa [firstWinsAux] using h
  | cons x t ih =>
    simp only [firstWinsAux, h.any_eq]
    split
    · exact ih h
    · exact ih (h.append_right [x])

/-- adjacent swap `y :: x :: t` / `x :: y :: t`: when both are new and `eq`-equal, the block hypothesis makes them
    identical; otherwise symmetry of `eq` makes the two orders add the same elements -/
theorem firstWinsAux_perm_block (hsymm : ∀ a b, eq a b = eq b a) {b b' : List α} (hp : b ~ b') :
    (∀ x ∈ b, ∀ y ∈ b, eq x y = true → x = y) →
    ∀ {kept kept' : List α}, kept ~ kept' → firstWinsAux eq kept b ~ firstWinsAux eq kept' b' := by
  induction hp with
  | nil => intro _ kept kept' h; simpa [firstWinsAux] using h
  | cons x _ ih =>
    intro H kept kept' h
    simp only [firstWinsAux, h.any_eq]
    have H' := fun a ha c hc => H a (List.mem_cons_of_mem _ ha) c (List.mem_cons_of_mem _ hc)
    split
    · exact ih H' h
    · exact ih H' (h.append_right [x])
  | swap x y t =>
    intro H kept kept' h
    -- left list: y :: x :: t, right list: x :: y :: t
    simp only [firstWinsAux, h.any_eq, List.any_append, List.any_cons, List.any_nil, Bool.or_false]
    cases hy : kept'.any (fun k => eq k y) <;> cases hx : kept'.any (fun k => eq k x) <;>
      simp only [Bool.false_or, Bool.true_or, if_true, Bool.false_eq_true, if_false]
    · cases hxy : eq x y with
      | true =>
        have hyx : eq y x = true := by rw [hsymm]; exact hxy
        have : x = y := H x (by simp) y (by simp) hxy
        subst this
        simp only [hxy, if_true]
        exact firstWinsAux_perm_acc eq t (h.append_right [x])
      | false =>
        have hyx : eq y x = false := by rw [hsymm]; exact hxy
        simp only [hyx, Bool.false_eq_true, if_false]
        refine firstWinsAux_perm_acc eq t ?_
        have h1 : kept ++ [y] ++ [x] ~ kept' ++ [y] ++ [x] := (h.append_right [y]).append_right [x]
        have h2 : kept' ++ [y] ++ [x] ~ kept' ++ [x] ++ [y] := by
          simp only [List.append_assoc]
          exact Perm.append_left kept' (by simpa using Perm.swap x y [])
        exact h1.trans h2
    · exact firstWinsAux_perm_acc eq t (h.append_right [y])
    · exact firstWinsAux_perm_acc eq t (h.append_right [x])
    · exact firstWinsAux_perm_acc eq t h
  | trans h1 _ ih1 ih2 =>
    intro H kept kept' h
    refine (ih1 H h).trans (ih2 ?_ (Perm.refl _))
    intro a ha c hc
    exact H a (h1.mem_iff.mpr ha) c (h1.mem_iff.mpr hc)

theorem firstWinsAux_blocks (hsymm : ∀ a b, eq a b = eq b a) {B B' : List (List α)}
    (h : Forall2 (fun b b' => b ~ b') B B') :
    (∀ b ∈ B, ∀ x ∈ b, ∀ y ∈ b, eq x y = true → x = y) →
    ∀ {kept kept' : List α}, kept ~ kept' → firstWinsAux eq kept B.flatten ~ firstWinsAux eq kept' B'.flatten := by
  induction h with
  | nil => intro _ kept kept' hk; simpa [firstWinsAux] using hk
  | cons hb _ ih =>
    intro H kept kept' hk
    simp only [List.flatten_cons, firstWinsAux_append]
    exact ih (fun b hb' => H b (List.mem_cons_of_mem _ hb'))
      (firstWinsAux_perm_block eq hsymm hb (H _ List.mem_cons_self) hk)

theorem firstWins_blocks (hsymm : ∀ a b, eq a b = eq b a) {B B' : List (List α)}
    (h : Forall2 (fun b b' => b ~ b') B B')
    (H : ∀ b ∈ B, ∀ x ∈ b, ∀ y ∈ b, eq x y = true → x = y) :
    firstWins eq B.flatten ~ firstWins eq B'.flatten :=
  firstWinsAux_blocks eq hsymm h H (Perm.refl [])

end FirstWins

/-- the distinct keys of `l` in order of first occurrence (first-wins duplicate elimination under `==`) -/
def keysOf {α : Type} (key : α → Nat) (l : List α) : List Nat :=
  firstWins (fun a b : Nat => a == b) (l.map key)

theorem keysOf_nodup {α : Type} (key : α → Nat) (l : List α) : (keysOf key l).Nodup := by
  have := firstWins_pairwise (fun a b : Nat => a == b) (l.map key)
  exact this.imp (fun h => by simpa using h)

theorem mem_keysOf {α : Type} (key : α → Nat) (l : List α) (r : Nat) : r ∈ keysOf key l ↔ ∃ x ∈ l, key x = r := by
  constructor
  · intro h
    have := mem_of_mem_firstWins _ h
    simpa using this
  · rintro ⟨x, hx, rfl⟩
    obtain ⟨k, hk, hkx⟩ := firstWins_repr (fun a b : Nat => a == b) (by simp) (l.map key) (key x)
      (List.mem_map.mpr ⟨x, hx, rfl⟩)
    simp only [beq_iff_eq] at hkx
    subst hkx; exact hk

theorem keysOf_perm {α : Type} (key : α → Nat) {l l' : List α} (h : l ~ l') : keysOf key l ~ keysOf key l' := by
  rw [perm_ext_iff_of_nodup (keysOf_nodup key l) (keysOf_nodup key l')]
  intro r
  rw [mem_keysOf, mem_keysOf]
  constructor <;> rintro ⟨x, hx, e⟩
  · exact ⟨x, h.mem_iff.mp hx, e⟩
  · exact ⟨x, h.mem_iff.mpr hx, e⟩

theorem perm_group_keys {α : Type} (key : α → Nat) (l : List α) :
    l ~ (keysOf key l).flatMap (fun r => l.filter (fun x => key x == r)) :=
  perm_group key _ (keysOf_nodup key l) l (fun x hx => (mem_keysOf key l _).mpr ⟨x, hx, rfl⟩)

theorem flatMap_perm_keys {β : Type} {K K' : List Nat} (hK : K ~ K') (f g : Nat → List β)
    (hfg : ∀ r ∈ K, f r ~ g r) : K.flatMap f ~ K'.flatMap g :=
  (flatMap_perm_pointwise K f g hfg).trans (hK.flatMap_right g)

end IsoVerif.Lemmas.C12
