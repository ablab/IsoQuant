/-
Helper lemmas for the short-read corrector of C14 (`Model/Illumina.lean`): what one read intron can be replaced by,
the corrected intron list as input of `get_exons` (whose lemmas are in `Lemmas/Corrector.lean`), and the junction
container.
-/
import IsoVerif.Gen.Prims
import IsoVerif.Gen.Illumina
import IsoVerif.Model.Interval
import IsoVerif.Model.Illumina
import IsoVerif.Lemmas.Interval
import IsoVerif.Lemmas.Lists
import IsoVerif.Lemmas.Corrector

namespace IsoVerif.Lemmas.C14.Illumina
open IsoVerif.Gen IsoVerif.Model IsoVerif.Model.C14.Illumina IsoVerif.Lemmas IsoVerif.Lemmas.C14

/-- the single-junction offset rule: the short-read junction shares one end with the read intron and differs by
    exactly 4 bp at the other (longer at the right end, or longer at the left end) -/
def SingleTol (i s : Iv) : Prop :=
  (s.1 = i.1 ∧ s.2 = i.2 + 4) ∨ (s.2 = i.2 ∧ s.1 = i.1 - 4)

/-- the skipped-exon rule: two short-read junctions `l` before `r`, both overlapping the read intron `i`, the exon
    between them at most 50 bp away from empty, the outer ends within 25 bp of the read intron's, not both equal -/
def PairTol (i l r : Iv) : Prop :=
  overlaps i l = true ∧ overlaps i r = true ∧ l.2 < r.1 ∧ r.1 - l.2 ≤ 50 ∧
  (-25 ≤ i.1 - l.1 ∧ i.1 - l.1 ≤ 25) ∧ (-25 ≤ r.2 - i.2 ∧ r.2 - i.2 ≤ 25) ∧ (l.1 ≠ i.1 ∨ r.2 ≠ i.2)

theorem mem_overlappingOf {short : List Iv} {i s : Iv} :
    s ∈ overlappingOf short i ↔ s ∈ short ∧ overlaps i s = true := by
  simp [overlappingOf]

theorem overlaps_iff (a b : Iv) : overlaps a b = true ↔ b.1 ≤ a.2 ∧ a.1 ≤ b.2 := overlaps_true_iff a b

theorem overlaps_self {i : Iv} (h : i.1 ≤ i.2) : overlaps i i = true := by
  rw [overlaps_iff]; omega

/-- the loop keeps the running minimum: the final match is at least as close as every junction of the list whose
    distance is below the initial score -/
theorem bestMatch_minimal (i : Iv) : ∀ (ov : List Iv) (score : Int) (sh : Iv),
    (bestMatch i ov score sh = sh ∧ ∀ s ∈ ov, score ≤ ill_site_distance i s) ∨
    (bestMatch i ov score sh ∈ ov ∧ ill_site_distance i (bestMatch i ov score sh) < score ∧
      ∀ s ∈ ov, ill_site_distance i (bestMatch i ov score sh) ≤ ill_site_distance i s) := by
  intro ov
  induction ov with
  | nil => intro _ sh; exact Or.inl ⟨rfl, nofun⟩
  | cons s ss ih =>
    intro score sh
    rw [bestMatch]
    by_cases hlt : ill_site_distance i s < score
    · rw [if_pos hlt]
      right
      rcases ih (ill_site_distance i s) s with ⟨h, hall⟩ | ⟨hm, hlt2, hall⟩
      · rw [h]; exact ⟨List.mem_cons_self, hlt, List.forall_mem_cons.mpr ⟨Int.le_refl _, hall⟩⟩
      · exact ⟨List.mem_cons_of_mem _ hm, by omega, List.forall_mem_cons.mpr ⟨by omega, hall⟩⟩
    · rw [if_neg hlt]
      rcases ih score sh with ⟨h, hall⟩ | ⟨hm, hlt2, hall⟩
      · exact Or.inl ⟨h, List.forall_mem_cons.mpr ⟨by omega, hall⟩⟩
      · exact Or.inr ⟨List.mem_cons_of_mem _ hm, hlt2, List.forall_mem_cons.mpr ⟨by omega, hall⟩⟩

/-- the generated acceptance test of the 4-bp rule, as a proposition -/
theorem single_rule_iff (i sh : Iv) (s e : Int) :
    ill_single_rule i sh s e = true ↔
      ((i.1 = sh.1 ∧ i.2 = sh.2 - 4) ∨ (i.2 = sh.2 ∧ sh.1 = i.1 - 4)) ∧ s < sh.1 ∧ sh.2 < e := by
  simp only [ill_single_rule, Bool.and_eq_true, Bool.or_eq_true, decide_eq_true_eq, gt_iff_lt, and_assoc]

theorem single_rule_absent (i : Iv) (s e : Int) (h : i.1 ≤ i.2) :
    ill_single_rule i ill_ABSENT_INTRON s e = false := by
  rw [Bool.eq_false_iff]
  intro h
  rw [single_rule_iff] at h
  simp only [ill_ABSENT_INTRON] at h
  omega

theorem single_rule_spec {i sh : Iv} {s e : Int} (h : ill_single_rule i sh s e = true) :
    SingleTol i sh ∧ s < sh.1 ∧ sh.2 < e := by
  rw [single_rule_iff] at h
  unfold SingleTol
  omega

/-- what the search state holds once it is not the initial one -/
def PairGood (i l r : Iv) : Prop :=
  l.2 < r.1 ∧ ill_right_length l r i = true ∧ ill_one_differs l r i = true

/-- invariant of the skipped-exon search: the state is the initial one, or holds a good pair whose two members satisfy
    `P` (instantiated with membership in `overlappingOf short i`, the list the double loop runs over) -/
def PairInv (P : Iv → Prop) (i : Iv) (st : PairState) : Prop :=
  st.1 = ill_ABSENT_INTRON ∨ (P st.1 ∧ P st.2.1 ∧ PairGood i st.1 st.2.1)

theorem PairInv.update {P : Iv → Prop} {i a b : Iv} {st : PairState} (ha : P a) (hb : P b) (hlt : a.2 < b.1)
    (h : PairInv P i st) :
    PairInv P i (if (ill_right_length a b i && ill_one_differs a b i) = true then
      if ill_better_skipped a b i st.2.2 = true then (a, b, ill_skipped_score a b i) else st else st) := by
  by_cases h2 : (ill_right_length a b i && ill_one_differs a b i) = true
  · rw [if_pos h2]
    rw [Bool.and_eq_true] at h2
    by_cases h3 : ill_better_skipped a b i st.2.2 = true
    · rw [if_pos h3]; exact Or.inr ⟨ha, hb, hlt, h2.1, h2.2⟩
    · rw [if_neg h3]; exact h
  · rw [if_neg h2]; exact h

theorem pairStep_inv (P : Iv → Prop) (i x y : Iv) (st : PairState) (hx : P x) (hy : P y)
    (h : PairInv P i st) : PairInv P i (pairStep i x y st) := by
  unfold pairStep
  by_cases h1 : x.2 < y.1
  · rw [if_pos h1]; exact h.update hx hy h1
  rw [if_neg h1]
  by_cases h2 : x.1 > y.2
  · rw [if_pos h2]; exact h.update hy hx h2
  · rw [if_neg h2]; exact h

theorem pairInner_inv (P : Iv → Prop) (i x : Iv) (hx : P x) : ∀ (ys : List Iv) (st : PairState),
    (∀ y ∈ ys, P y) → PairInv P i st → PairInv P i (pairInner i x ys st) := by
  intro ys
  induction ys with
  | nil => intro st _ h; exact h
  | cons y ys ih =>
    intro st hys h
    simp only [pairInner]
    exact ih _ (fun z hz => hys z (List.mem_cons_of_mem _ hz))
      (pairStep_inv P i x y st hx (hys y (by simp)) h)

theorem pairOuter_inv (P : Iv → Prop) (i : Iv) : ∀ (l : List Iv) (st : PairState),
    (∀ y ∈ l, P y) → PairInv P i st → PairInv P i (pairOuter i l st) := by
  intro l
  induction l with
  | nil => intro st _ h; exact h
  | cons x t ih =>
    intro st hl h
    cases t with
    | nil => exact h
    | cons y rest =>
      simp only [pairOuter]
      exact ih _ (fun z hz => hl z (List.mem_cons_of_mem _ hz))
        (pairInner_inv P i x (hl x (by simp)) _ st hl h)

theorem pairGood_tol {i l r : Iv} (hl : overlaps i l = true) (hr : overlaps i r = true) (h : PairGood i l r) :
    PairTol i l r := by
  obtain ⟨h1, h2, h3⟩ := h
  simp [ill_right_length, ill_EXON_LENGTH, ill_SIDE_DIFF, iabs_le] at h2
  simp [ill_one_differs] at h3
  refine ⟨hl, hr, h1, by omega, ⟨by omega, by omega⟩, ⟨by omega, by omega⟩, ?_⟩
  exact h3

theorem pair_guard_spec {l r : Iv} {s e : Int} (h : ill_pair_guard l r s e = true) :
    l ≠ ill_ABSENT_INTRON ∧ s < l.1 ∧ r.2 < e := by
  simp [ill_pair_guard] at h
  exact ⟨h.1.1, by omega, by omega⟩

/-- the three outcomes of one iteration of the loop over the read's introns -/
theorem correctIntron_cases (short : List Iv) (s e : Int) (i : Iv) (hi : i.1 ≤ i.2) :
    correctIntron short s e i = [i] ∨
    (∃ c, correctIntron short s e i = [c] ∧ c ∈ short ∧ overlaps i c = true ∧ SingleTol i c ∧ s < c.1 ∧ c.2 < e) ∨
    (∃ l r, correctIntron short s e i = [l, r] ∧ l ∈ short ∧ r ∈ short ∧ PairTol i l r ∧ s < l.1 ∧ r.2 < e) := by
  have hb := bestMatch_minimal i (overlappingOf short i) ill_MAX_SCORE ill_ABSENT_INTRON
  have hinv := pairOuter_inv (· ∈ overlappingOf short i) i (overlappingOf short i)
    (ill_ABSENT_INTRON, ill_ABSENT_INTRON, ill_MAX_SCORE) (fun _ hy => hy) (Or.inl rfl)
  unfold correctIntron
  dsimp only
  generalize bestMatch i (overlappingOf short i) ill_MAX_SCORE ill_ABSENT_INTRON = sh at hb ⊢
  generalize pairOuter i (overlappingOf short i) (ill_ABSENT_INTRON, ill_ABSENT_INTRON, ill_MAX_SCORE) = st at hinv ⊢
  by_cases hs : ill_single_rule i sh s e = true
  · rw [if_pos hs]
    rcases hb with ⟨hb, _⟩ | ⟨hb, _⟩
    · rw [hb, single_rule_absent i s e hi] at hs
      cases hs
    · obtain ⟨hm, ho⟩ := mem_overlappingOf.mp hb
      obtain ⟨ht, h1, h2⟩ := single_rule_spec hs
      exact Or.inr (Or.inl ⟨_, rfl, hm, ho, ht, h1, h2⟩)
  rw [if_neg hs]
  by_cases hl : (overlappingOf short i).length > 1
  · rw [if_pos hl]
    by_cases hg : ill_pair_guard st.1 st.2.1 s e = true
    · rw [if_pos hg]
      obtain ⟨hne, h1, h2⟩ := pair_guard_spec hg
      rcases hinv with habs | ⟨hl, hr, hgood⟩
      · exact absurd habs hne
      · obtain ⟨hlm, hlo⟩ := mem_overlappingOf.mp hl
        obtain ⟨hrm, hro⟩ := mem_overlappingOf.mp hr
        exact Or.inr (Or.inr ⟨_, _, rfl, hlm, hrm, pairGood_tol hlo hro hgood, h1, h2⟩)
    · rw [if_neg hg]; exact Or.inl rfl
  · rw [if_neg hl]; exact Or.inl rfl

theorem correctIntron_no_overlap (short : List Iv) (s e : Int) (i : Iv) (hi : i.1 ≤ i.2)
    (h : overlappingOf short i = []) : correctIntron short s e i = [i] := by
  unfold correctIntron
  simp only [h, bestMatch, single_rule_absent i s e hi]
  simp

theorem correctIntron_forall {short : List Iv} {s e : Int} {i : Iv} (hi : i.1 ≤ i.2) {P : Iv → Prop} (h0 : P i)
    (h1 : ∀ c ∈ short, overlaps i c = true → SingleTol i c → s < c.1 → c.2 < e → P c)
    (h2 : ∀ l ∈ short, ∀ r ∈ short, PairTol i l r → s < l.1 → r.2 < e → P l ∧ P r) :
    ∀ c ∈ correctIntron short s e i, P c := by
  rcases correctIntron_cases short s e i hi with h | ⟨c, h, hm, ho, ht, a, b⟩ | ⟨l, r, h, hl, hr, ht, a, b⟩ <;> rw [h]
  · exact List.forall_mem_cons.mpr ⟨h0, nofun⟩
  · exact List.forall_mem_cons.mpr ⟨h1 c hm ho ht a b, nofun⟩
  · have := h2 l hl r hr ht a b
    exact List.forall_mem_cons.mpr ⟨this.1, List.forall_mem_cons.mpr ⟨this.2, nofun⟩⟩

theorem correctIntron_overlaps (short : List Iv) (s e : Int) (i : Iv) (hi : i.1 ≤ i.2) :
    ∀ c ∈ correctIntron short s e i, overlaps i c = true :=
  correctIntron_forall hi (overlaps_self hi) (fun _ _ ho _ _ _ => ho) (fun _ _ _ _ ht _ _ => ⟨ht.1, ht.2.1⟩)

theorem correctIntron_mem (short : List Iv) (s e : Int) (i : Iv) (hi : i.1 ≤ i.2) :
    ∀ c ∈ correctIntron short s e i, c = i ∨ c ∈ short :=
  correctIntron_forall hi (Or.inl rfl) (fun _ hm _ _ _ _ => Or.inr hm) (fun _ hl _ hr _ _ _ => ⟨Or.inr hl, Or.inr hr⟩)

theorem correctIntron_pairwise (short : List Iv) (s e : Int) (i : Iv) (hi : i.1 ≤ i.2) (hw : WFl short) :
    (correctIntron short s e i).Pairwise TouchOrdered := by
  rcases correctIntron_cases short s e i hi with h | ⟨c', h, _⟩ | ⟨l, r, h, hl, hr, ht, _⟩
  · rw [h]; simp
  · rw [h]; simp
  · rw [h]
    have := hw l hl
    have := hw r hr
    have := ht.2.2.1
    simp [TouchOrdered]; omega

theorem correctIntron_head (short : List Iv) (s e : Int) (i : Iv) (hi : i.1 ≤ i.2) (hs : s < i.1) :
    ∃ c t, correctIntron short s e i = c :: t ∧ s < c.1 := by
  rcases correctIntron_cases short s e i hi with h | ⟨c', h, _, _, _, h1, _⟩ | ⟨l, r, h, _, _, _, h1, _⟩
  · exact ⟨i, [], h, hs⟩
  · exact ⟨c', [], h, h1⟩
  · exact ⟨l, [r], h, h1⟩

theorem correctIntron_last (short : List Iv) (s e : Int) (i : Iv) (hi : i.1 ≤ i.2) (he : i.2 < e) :
    ∃ c, (correctIntron short s e i).getLast? = some c ∧ c.2 < e := by
  rcases correctIntron_cases short s e i hi with h | ⟨c', h, _, _, _, _, h2⟩ | ⟨l, r, h, _, _, _, _, h2⟩
  · exact ⟨i, by rw [h]; rfl, he⟩
  · exact ⟨c', by rw [h]; rfl, h2⟩
  · exact ⟨r, by rw [h]; rfl, h2⟩

theorem corrected_list_ok (short : List Iv) (s e : Int) (RI : List Iv) (hsd : SD RI) (hw : WFl RI)
    (hws : WFl short) :
    (∀ c ∈ correctedIntronList short s e RI, c.1 ≤ c.2 + 1) ∧ (correctedIntronList short s e RI).Pairwise TouchOrdered := by
  constructor
  · intro c hc
    simp only [correctedIntronList, List.mem_flatMap] at hc
    obtain ⟨i, hi, hc⟩ := hc
    rcases correctIntron_mem short s e i (hw i hi) c hc with h | h
    · subst h; have := hw c hi; omega
    · have := hws c h; omega
  · simp only [correctedIntronList]
    rw [List.pairwise_flatMap]
    refine ⟨fun i hi => correctIntron_pairwise short s e i (hw i hi) hws, ?_⟩
    refine List.Pairwise.imp_of_mem ?_ (SD_pairwise RI hsd hw)
    intro p q hp hq hpq x hx y hy
    have h1 := (overlaps_iff p x).mp (correctIntron_overlaps short s e p (hw p hp) x hx)
    have h2 := (overlaps_iff q y).mp (correctIntron_overlaps short s e q (hw q hq) y hy)
    simp only [TouchOrdered]; omega

theorem corrected_list_head (short : List Iv) (s e : Int) (i : Iv) (rest : List Iv) (hi : i.1 ≤ i.2) (hs : s < i.1) :
    ∃ c t, correctedIntronList short s e (i :: rest) = c :: t ∧ s < c.1 := by
  obtain ⟨c, t, h, hc⟩ := correctIntron_head short s e i hi hs
  exact ⟨c, t ++ correctedIntronList short s e rest, by simp [correctedIntronList, h], hc⟩

theorem corrected_list_last (short : List Iv) (s e : Int) (init : List Iv) (i : Iv) (hi : i.1 ≤ i.2) (he : i.2 < e) :
    ∃ c, (correctedIntronList short s e (init ++ [i])).getLast? = some c ∧ c.2 < e := by
  obtain ⟨c, h, hc⟩ := correctIntron_last short s e i hi he
  refine ⟨c, ?_, hc⟩
  simp only [correctedIntronList, List.flatMap_append, List.flatMap_cons, List.flatMap_nil, List.append_nil]
  rw [List.getLast?_append, h]
  rfl

theorem correctExons_some {short exons out : List Iv} (h : correctExons short exons = some out) :
    ∃ f l, exons.head? = some f ∧ exons.getLast? = some l ∧
      out = getExons (f.1, l.2) (correctedIntronList short f.1 l.2 (junctionsFromBlocks exons)) := by
  unfold correctExons at h
  cases hf : exons.head? with
  | none => simp [hf] at h
  | some f =>
    cases hl : exons.getLast? with
    | none => simp [hf, hl] at h
    | some l =>
      simp only [hf, hl, Option.some.injEq] at h
      exact ⟨f, l, rfl, rfl, h.symm⟩

theorem correctExons_of_ends {short exons : List Iv} {f l : Iv} (hf : exons.head? = some f)
    (hl : exons.getLast? = some l) :
    correctExons short exons =
      some (getExons (f.1, l.2) (correctedIntronList short f.1 l.2 (junctionsFromBlocks exons))) := by
  simp only [correctExons, hf, hl]

/-! ### the junction container (`get_introns`) -/

theorem mergeCounts_keys (new : List (Iv × Int)) : ∀ (old : List (Iv × Int)) (k : Iv),
    k ∈ (mergeCounts old new).map (·.1) ↔ k ∈ old.map (·.1) ∨ k ∈ new.map (·.1) := by
  induction new with
  | nil => intro old k; exact (or_iff_left List.not_mem_nil).symm
  | cons q rest ih =>
    intro old k
    obtain ⟨kq, v⟩ := q
    rw [mergeCounts, List.map_cons, List.mem_cons]
    cases hw : old.lookup kq with
    | some w =>
      -- the key is present: its count changes, the keys do not
      have hk : kq ∈ old.map (·.1) := by
        obtain ⟨l1, l2, rfl, _⟩ := List.lookup_eq_some_iff.mp hw
        exact List.mem_map.mpr ⟨(kq, w), List.mem_append_right _ List.mem_cons_self, rfl⟩
      have hmap : (old.map (fun q => if q.1 = kq then (q.1, v + w) else q)).map (·.1) = old.map (·.1) := by
        rw [List.map_map]
        exact List.map_congr_left fun a _ => by dsimp only [Function.comp]; split <;> rfl
      show k ∈ (mergeCounts _ rest).map (·.1) ↔ _
      rw [ih, hmap]
      exact ⟨Or.imp_right Or.inr, fun h => h.elim Or.inl fun h => h.elim (fun e => Or.inl (e ▸ hk)) Or.inr⟩
    | none =>
      show k ∈ (mergeCounts _ rest).map (·.1) ↔ _
      rw [ih, List.map_append, List.mem_append, List.map_cons, List.map_nil, List.mem_singleton, or_assoc]

theorem mergeFiles_keys (files : List (List (Iv × Int))) : ∀ (acc : List (Iv × Int)) (k : Iv),
    k ∈ (files.foldl mergeCounts acc).map (·.1) ↔ k ∈ acc.map (·.1) ∨ ∃ f ∈ files, k ∈ f.map (·.1) := by
  induction files with
  | nil => intro acc k; simp
  | cons f rest ih =>
    intro acc k
    rw [List.foldl_cons, ih, mergeCounts_keys, or_assoc]
    simp only [List.mem_cons, exists_eq_or_imp]

end IsoVerif.Lemmas.C14.Illumina
