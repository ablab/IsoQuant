/-
Helper lemmas for the grouped TPM values (Model/C09Tpm.lean): column totals of the first pass, the row of the second
pass as a `zipWith`, sums of scaled columns.  Core Lean only.
-/
import IsoVerif.Model.C09Tpm

namespace IsoVerif.Lemmas.C09Tpm
open IsoVerif.Model.C09

/-- printed count in column `j` of a row of values (0 when the row has no such column) -/
def pvAt (hs : List Int) (j : Nat) : Rat :=
  match hs[j]? with
  | some h => printedVal h
  | none => 0

/-- entry `j` of a value row, 0 beyond its end -/
def ratAt (l : List Rat) (j : Nat) : Rat :=
  match l[j]? with
  | some x => x
  | none => 0

/-- the sum of a list of rationals (body of `Model.C02.ratSum` and of `Lemmas.C09.sumList`) -/
def rsum : List Rat → Rat
  | [] => 0
  | x :: xs => x + rsum xs

def colTotal (j : Nat) (rows : List (String × List Int)) : Rat := rsum (rows.map (fun r => pvAt r.2 j))

theorem addCols_length (ts : List Rat) (hs : List Int) : (addCols ts hs).length = max ts.length hs.length := by
  fun_induction addCols ts hs with
  | case1 ts => simp
  | case2 h hs ih => simp only [List.length_cons, ih, List.length_nil]; omega
  | case3 t ts h hs ih => simp only [List.length_cons, ih]; omega

theorem addCols_at (ts : List Rat) (hs : List Int) (j : Nat) :
    ratAt (addCols ts hs) j = ratAt ts j + pvAt hs j := by
  fun_induction addCols ts hs generalizing j with
  | case1 ts => simp [pvAt, Rat.add_zero]
  | case2 h hs ih =>
    cases j with
    | zero => simp [ratAt, pvAt]
    | succ j =>
      have := ih j
      simp only [ratAt, pvAt, List.getElem?_cons_succ, List.getElem?_nil] at this ⊢
      exact this
  | case3 t ts h hs ih =>
    cases j with
    | zero => simp [ratAt, pvAt]
    | succ j =>
      have := ih j
      simp only [ratAt, pvAt, List.getElem?_cons_succ] at this ⊢
      exact this

theorem foldl_addCols_at (rows : List (String × List Int)) (acc : List Rat) (j : Nat) :
    ratAt (rows.foldl (fun a r => addCols a r.2) acc) j = ratAt acc j + colTotal j rows := by
  induction rows generalizing acc with
  | nil => simp [colTotal, rsum, Rat.add_zero]
  | cons r rs ih =>
    simp only [List.foldl_cons, ih, addCols_at, colTotal, List.map_cons, rsum]
    grind

theorem gTotals_at (rows : List (String × List Int)) (j : Nat) : ratAt (gTotals rows) j = colTotal j rows := by
  unfold gTotals
  rw [foldl_addCols_at]
  simp [ratAt, Rat.zero_add]

/-- the column totals are as long as the longest row: the least bound of the row lengths -/
theorem foldl_addCols_length_le (n : Nat) : ∀ (rows : List (String × List Int)) (acc : List Rat),
    (rows.foldl (fun a r => addCols a r.2) acc).length ≤ n ↔ acc.length ≤ n ∧ ∀ r ∈ rows, r.2.length ≤ n
  | [], acc => by simp
  | r :: rs, acc => by
    rw [List.foldl_cons, foldl_addCols_length_le n rs, addCols_length]
    simp only [List.mem_cons, forall_eq_or_imp, Nat.max_le, and_assoc]

theorem gTotals_length_le (n : Nat) (rows : List (String × List Int)) :
    (gTotals rows).length ≤ n ↔ ∀ r ∈ rows, r.2.length ≤ n := by
  simp [gTotals, foldl_addCols_length_le]

theorem gTotals_length (k : Nat) (rows : List (String × List Int)) (hrect : ∀ r ∈ rows, r.2.length = k)
    (hne : rows ≠ []) : (gTotals rows).length = k := by
  obtain ⟨r, rs, rfl⟩ := List.exists_cons_of_ne_nil hne
  have h1 := (gTotals_length_le k (r :: rs)).mpr (fun x hx => Nat.le_of_eq (hrect x hx))
  have h2 := (gTotals_length_le _ (r :: rs)).mp (Nat.le_refl _) r List.mem_cons_self
  have := hrect r List.mem_cons_self
  omega

theorem gTotals_getElem (k : Nat) (rows : List (String × List Int)) (hrect : ∀ r ∈ rows, r.2.length = k)
    (hne : rows ≠ []) (j : Nat) (hj : j < k) : (gTotals rows)[j]? = some (colTotal j rows) := by
  have hl := gTotals_length k rows hrect hne
  have hat := gTotals_at rows j
  have hlt : j < (gTotals rows).length := by omega
  simp only [ratAt, List.getElem?_eq_getElem hlt] at hat
  rw [List.getElem?_eq_getElem hlt, hat]

theorem tpmRow_ok (sf : List Rat) (hs : List Int) (h : sf.length ≤ hs.length) :
    tpmRow sf hs = .ok (List.zipWith (fun s v => s * printedVal v) sf hs) := by
  fun_induction tpmRow sf hs with
  | case1 hs => simp
  | case2 s ss => simp at h
  | case3 s ss v vs e he ih =>
    have := ih (by simpa using h)
    rw [he] at this; cases this
  | case4 s ss v vs r hr ih =>
    have := ih (by simpa using h)
    rw [hr] at this
    injection this with this
    simp [this]

theorem tpmRow_short (sf : List Rat) (hs : List Int) (h : hs.length < sf.length) :
    tpmRow sf hs = .error .indexError := by
  fun_induction tpmRow sf hs with
  | case1 hs => simp at h
  | case2 s ss => rfl
  | case3 s ss v vs e he ih =>
    have := ih (by simpa using h)
    rw [he] at this
    injection this with this
    rw [this]
  | case4 s ss v vs r hr ih =>
    have := ih (by simpa using h)
    rw [hr] at this; cases this

theorem tpmRows_ok (sf : List Rat) (rows : List (String × List Int)) (h : ∀ r ∈ rows, sf.length ≤ r.2.length) :
    tpmRows sf rows = .ok (rows.map (fun r => (r.1, List.zipWith (fun s v => s * printedVal v) sf r.2))) := by
  induction rows with
  | nil => rfl
  | cons r rs ih =>
    simp only [tpmRows, tpmRow_ok sf r.2 (h r (by simp)), ih (fun x hx => h x (by simp [hx])), List.map_cons]

theorem tpmRows_short (sf : List Rat) (rows : List (String × List Int)) (r : String × List Int) (hr : r ∈ rows)
    (hs : r.2.length < sf.length) : tpmRows sf rows = .error .indexError := by
  induction rows with
  | nil => simp at hr
  | cons x xs ih =>
    simp only [tpmRows]
    rcases List.mem_cons.mp hr with h | h
    · subst h; simp [tpmRow_short sf r.2 hs]
    · by_cases hx : x.2.length < sf.length
      · simp [tpmRow_short sf x.2 hx]
      · simp [tpmRow_ok sf x.2 (by omega), ih h]

theorem rsum_map_mul (l : List Rat) (s : Rat) : rsum (l.map (fun x => s * x)) = s * rsum l := by
  induction l with
  | nil => simp [rsum, Rat.mul_zero]
  | cons x xs ih => simp only [List.map_cons, rsum, ih]; grind

theorem rsum_map_map {α} (l : List α) (f : α → Rat) (s : Rat) :
    rsum (l.map (fun a => s * f a)) = s * rsum (l.map f) := by
  rw [← rsum_map_mul, List.map_map]; rfl

theorem gScale_pos (t : Rat) : 0 < gScale t := by
  unfold gScale
  split
  · rename_i h
    rw [Rat.div_def]
    exact Rat.mul_pos (by decide +kernel) (Rat.inv_pos.mpr h)
  · decide +kernel

theorem gScale_mul (t : Rat) (h : 0 < t) : gScale t * t = 1000000 := by
  unfold gScale
  simp only [h, if_true]
  exact Rat.div_mul_cancel (by grind)

end IsoVerif.Lemmas.C09Tpm
