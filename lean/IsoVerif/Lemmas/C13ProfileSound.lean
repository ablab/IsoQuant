/-
Helper lemmas for C13 (profiles): what a +1 / −1 in the gene profile of
OverlappingFeaturesProfileConstructor.construct_profile_for_features means, read off the analysis of the sweep in
Lemmas/OvSweep.lean: a +1 comes with a recorded match that satisfies the comparator (`sweepState_one`, from the invariant
`C01.SweepInv`, no hypothesis on the inputs), a −1 of the sweep is the absence test or a gap between consecutive read features
(`sweepState_neg`, from `sweepState_mark`).
-/
import IsoVerif.Model.Profiles
import IsoVerif.Model.FeatureCounts
import IsoVerif.Lemmas.OvSweep
import IsoVerif.Lemmas.C01Sweep

namespace IsoVerif.Lemmas.C13
open IsoVerif.Model IsoVerif.Model.C13 IsoVerif.Gen

/-- a known feature lies strictly inside a gap between two consecutive read features -/
def InGap (R : List Iv) (k : Iv) : Prop :=
  ∃ j r r', R[j]? = some r ∧ R[j + 1]? = some r' ∧ r.2 < k.1 ∧ k.2 < r'.1

/-- a known feature `k` loses a tie (declaratively): a read feature matches both `k` and a strictly closer known
    feature -/
def TieLoser (cmp : Iv → Iv → Bool) (K R : List Iv) (k : Iv) : Prop :=
  ∃ (j : Nat) (r : Iv) (i' : Nat) (k' : Iv), R[j]? = some r ∧ K[i']? = some k' ∧ cmp r k = true ∧ cmp r k' = true ∧ matchDelta r k' < matchDelta r k

theorem sweepState_matched (K : List Iv) (gr : Iv) (cmp absent : Iv → Iv → Bool) (R : List Iv) (M : Iv) :
    ∀ p ∈ (sweepState K gr cmp absent R M).matched, ∃ r k, R[p.1]? = some r ∧ K[p.2]? = some k ∧ cmp r k = true := by
  obtain ⟨_, hs⟩ := C01.sweepState_inv K gr cmp absent R M
  exact fun p hp => (hs.matched_ok p hp).2.2

theorem sweepState_one (K : List Iv) (gr : Iv) (cmp absent : Iv → Iv → Bool) (R : List Iv) (M : Iv) (i : Nat) (k : Iv)
    (hk : K[i]? = some k) (h : (sweepState K gr cmp absent R M).gene[i]? = some 1) :
    ∃ j r, (j, i) ∈ (sweepState K gr cmp absent R M).matched ∧ R[j]? = some r ∧ cmp r k = true := by
  obtain ⟨_, hs⟩ := C01.sweepState_inv K gr cmp absent R M
  obtain ⟨j, hj⟩ := hs.gene1 i h
  obtain ⟨r, k', hr, hk', hc⟩ := sweepState_matched K gr cmp absent R M _ hj
  rw [show K[i]? = some k from hk] at hk'; cases hk'
  exact ⟨j, r, hj, hr, hc⟩

theorem sweepState_matched_lt (K : List Iv) (gr : Iv) (cmp absent : Iv → Iv → Bool) (R : List Iv) (M : Iv) :
    ∀ p ∈ (sweepState K gr cmp absent R M).matched, p.1 < R.length := by
  intro p hp
  obtain ⟨r, _, hr, _⟩ := sweepState_matched K gr cmp absent R M p hp
  exact (List.getElem?_eq_some_iff.mp hr).1

/-- the comparison inside `Loses` / `LoserIdx` (Lemmas/OvSweep.lean) reads the lists with `getD … (0, 0)`: for indices in range
    that is the comparison of the elements themselves -/
theorem loserIdx_iff (K R : List Iv) (i j i' : Nat) (r k k' : Iv) (hr : R[j]? = some r)
    (hk : K[i]? = some k) (hk' : K[i']? = some k') :
    matchDelta (R.getD j (0, 0)) (K.getD i' (0, 0)) < matchDelta (R.getD j (0, 0)) (K.getD i (0, 0)) ↔
      matchDelta r k' < matchDelta r k := by
  rw [show R.getD j (0, 0) = r by simp [List.getD, hr], show K.getD i' (0, 0) = k' by simp [List.getD, hk'],
    show K.getD i (0, 0) = k by simp [List.getD, hk]]

theorem sweepState_neg (K : List Iv) (gr : Iv) (cmp absent : Iv → Iv → Bool) (R : List Iv) (M : Iv) (hK : SortedStarts K)
    (i : Nat) (k : Iv) (hk : K[i]? = some k) (h : (sweepState K gr cmp absent R M).gene[i]? = some (-1)) :
    absent M k = true ∨ InGap R k := by
  rcases sweepState_mark K gr cmp absent R M hK i k hk with ⟨a, r, ⟨hr, hn, hbef⟩, hg, _⟩ | ⟨_, hg, _⟩
  · by_cases ha : absent M k = true
    · exact Or.inl ha
    · right
      -- the mark is not the initial one, not +1, not the absence test: `k` ends before `r` starts, and `r` is not the first
      have hpos : k.2 < r.1 ∧ a > 0 := by
        rw [hg] at h
        simp only [judge, ha] at h
        by_cases h2 : k.2 < r.1
        · by_cases hp : a > 0
          · exact ⟨h2, hp⟩
          · simp [h2, hp] at h
        · by_cases hc : cmp r k = true <;> simp [h2, hc] at h
      obtain ⟨r', hr'⟩ : ∃ r', R[a - 1]? = some r' :=
        ⟨R[a - 1]'(by have := (List.getElem?_eq_some_iff.mp hr).1; omega), List.getElem?_eq_getElem _⟩
      exact ⟨a - 1, r', r, hr', by rwa [show a - 1 + 1 = a by omega], hbef (a - 1) r' (by omega) hr', hpos.1⟩
  · rw [hg] at h
    by_cases ha : absent M k = true
    · exact Or.inl ha
    · simp [ha] at h

end IsoVerif.Lemmas.C13
