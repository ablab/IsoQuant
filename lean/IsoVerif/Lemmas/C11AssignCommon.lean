/-
Facts about the assigner model (Model/Assign.lean) that the translation and the reflection lemmas both use:
  * the error-monad list helpers under `List.map`; counting and deleting events by type under a map of the events;
  * what `detect_reference_exons_beyond_polya` / `…_before_polyt` do without a position and which positions they return;
  * `verify_polya` / `verify_polyt` as one procedure for an isoform end: `endStep` (correction of the positions, with the
    end's `shift_polya/t` and detector as arguments), `siteTail` (the final decision), `verifyPolya_step_eq` /
    `verifyPolyt_step_eq`;
  * `select_similar_isoforms` under a relabelling of the isoforms (`selectSimilar_map`);
  * `categorize_exon_elongation_subtype` in three layers (`elongSides_eq`): the two index loops `commonEnds`, the look-ups
    `endFrame`, the events of either end (`elongLeftOf` / `elongRightOf`) — each layer has its own translation and
    reflection lemma.
-/
import IsoVerif.Model.Assign
import IsoVerif.Model.C11SymAssignMirror
import IsoVerif.Lemmas.C01Assign

namespace IsoVerif.Lemmas.C11
open IsoVerif.Gen IsoVerif.Model IsoVerif.Model.C01 IsoVerif.Model.C11

theorem filterOpt_map {α β} (g : α → β) (f : β → Option Bool) (l : List α) :
    filterOpt f (l.map g) = (filterOpt (fun x => f (g x)) l).map (List.map g) := by
  induction l with
  | nil => rfl
  | cons x xs ih =>
    simp only [List.map_cons, filterOpt, ih]
    cases f (g x) with
    | none => rfl
    | some b =>
      cases filterOpt (fun x => f (g x)) xs with
      | none => rfl
      | some r => cases b <;> simp

theorem mapOpt_map {α β γ} (g : α → β) (f : β → Option γ) (l : List α) :
    mapOpt f (l.map g) = mapOpt (fun x => f (g x)) l := by
  induction l with
  | nil => rfl
  | cons x xs ih => simp only [List.map_cons, mapOpt, ih]

theorem mapOpt_comp_map {α β γ} (f : α → Option β) (h : β → γ) (l : List α) :
    mapOpt (fun x => (f x).map h) l = (mapOpt f l).map (List.map h) := by
  induction l with
  | nil => rfl
  | cons x xs ih =>
    simp only [mapOpt, ih]
    cases f x with
    | none => rfl
    | some b => cases mapOpt f xs <;> rfl

theorem penaltyOf_map (p : Params) (f : Event → Event) (h : ∀ e, eventCost p (f e) = eventCost p e) (evs : List Event) :
    penaltyOf p (evs.map f) = penaltyOf p evs := by
  induction evs with
  | nil => rfl
  | cons e es ih => simp only [List.map_cons, penaltyOf, h, ih]

-- direction-free in spite of the namespace, which belongs to its name (`AssignShift.filterOpt_congr`)
namespace AssignShift

theorem filterOpt_congr {α} (f g : α → Option Bool) (l : List α) (h : ∀ x ∈ l, f x = g x) :
    filterOpt f l = filterOpt g l := by
  induction l with
  | nil => rfl
  | cons x xs ih =>
    simp only [filterOpt, h x (by simp), ih (fun y hy => h y (List.mem_cons_of_mem _ hy))]

end AssignShift

theorem mapOpt_congr {α β} (f g : α → Option β) (l : List α) (h : ∀ x ∈ l, f x = g x) :
    mapOpt f l = mapOpt g l := by
  induction l with
  | nil => rfl
  | cons x xs ih =>
    simp only [mapOpt, h x (by simp), ih (fun y hy => h y (List.mem_cons_of_mem _ hy))]

section
variable (g : Event → Event) (σ : MatchEventSubtype → MatchEventSubtype) (hσ : ∀ e t, (g e).ty = σ t ↔ e.ty = t)
include hσ

theorem countTy_map (evs : List Event) (t : MatchEventSubtype) : countTy (evs.map g) (σ t) = countTy evs t := by
  simp only [countTy, List.filter_map, List.length_map, Function.comp_def, hσ]

theorem lastIndexOf_map (evs : List Event) (t1 t2 : MatchEventSubtype) :
    lastIndexOf (evs.map g) (σ t1) (σ t2) = lastIndexOf evs t1 t2 := by
  simp only [lastIndexOf, List.zipIdx_map, List.filter_map, List.getLast?_map, Option.map_map, Function.comp_def,
    Prod.map, hσ, id]

theorem eraseLastOf_map (evs : List Event) (t1 t2 : MatchEventSubtype) :
    eraseLastOf (evs.map g) (σ t1) (σ t2) = (eraseLastOf evs t1 t2).map g := by
  simp only [eraseLastOf, lastIndexOf_map g σ hσ]
  cases lastIndexOf evs t1 t2 with
  | none => rfl
  | some i => exact eraseIdx_map _ _ _
end

/-! ## `detect_reference_exons_beyond_polya` / `before_polyt` -/

/-- one step of `check_read_ends`, with the update of the assignment type as `elongTypeStep` -/
theorem checkReadEnds_step (g : Gene) (p : Params) (rp : ReadProf) (I : IsoInfo) (m : IsoMatch)
    (rest : List (IsoInfo × IsoMatch)) (ty : ReadAssignmentType) :
    checkReadEnds g p rp ((I, m) :: rest) ty =
      match elongationEvents g p rp I with
      | none => none
      | some el =>
        match checkReadEnds g p rp rest (elongTypeStep el ty) with
        | none => none
        | some (r, t) => some ((I, { m with events := el.foldl addSub m.events }) :: r, t) := by
  simp only [checkReadEnds, elongTypeStep]
  rfl

/-- the sentinel is a fixed point of `shift_polya` and of `shift_polyt` -/
theorem shiftPoly_absent (exons : List Iv) (cnt : Nat) :
    C01.shiftPolya exons cnt (-1) = some (-1) ∧ C01.shiftPolyt exons cnt (-1) = some (-1) := by
  simp [C01.shiftPolya, C01.shiftPolyt]

theorem tailDist_absent (a : Int) : minInf (distOrInf a (-1)) (distOrInf a (-1)) = none := by
  simp [minInf, distOrInf]

/-- with both positions absent nothing is ever detected (after fix a2ae069 the distance is infinite), whatever the
    loop counted -/
theorem detectBeyondPolya_absent (p : Params) (iso : List Iv) (evs : List Event) :
    detectBeyondPolya p iso (-1) (-1) evs = some (evs, -1, -1) := by
  simp only [detectBeyondPolya, tailDist_absent, missedTerminalOk]
  generalize hc : countBeyond (if (-1 : Int) ≠ -1 then -1 else -1) iso.reverse = c
  have hle : c ≤ iso.length := by
    rw [← hc, ← List.length_reverse]; exact C01.countBeyond_le _ _
  split
  · rfl
  · rename_i hne
    have hlt : c < iso.length := by omega
    have h1 : ∃ b, pyGet? iso (-(c : Int) - 1) = some b := by
      unfold pyGet?
      have n1 : ¬ (0 ≤ -(c : Int) - 1) := by omega
      have n2 : -(iso.length : Int) ≤ -(c : Int) - 1 := by omega
      simp only [n1, n2, if_false, if_true]
      have : ((iso.length : Int) + (-(c : Int) - 1)).toNat < iso.length := by omega
      exact ⟨_, List.getElem?_eq_getElem this⟩
    have h2 : ∃ l, iso.getLast? = some l := by
      cases iso with
      | nil => simp at hlt
      | cons a t => exact ⟨(a :: t).getLast (by simp), List.getLast?_eq_some_getLast (by simp)⟩
    obtain ⟨b, hb⟩ := h1
    obtain ⟨l, hl⟩ := h2
    simp [hb, hl]

theorem detectBeforePolyt_absent (p : Params) (iso : List Iv) (evs : List Event) :
    detectBeforePolyt p iso (-1) (-1) evs = some (evs, -1, -1) := by
  simp only [detectBeforePolyt, tailDist_absent, missedTerminalOk]
  generalize hc : countBefore (if (-1 : Int) ≠ -1 then -1 else -1) iso = c
  have hle : c ≤ iso.length := by rw [← hc]; exact C01.countBefore_le _ _
  split
  · rfl
  · rename_i hne
    have hlt : c < iso.length := by omega
    have h1 : ∃ b, iso[c]? = some b := ⟨_, List.getElem?_eq_getElem hlt⟩
    have h2 : ∃ l, iso.head? = some l := by
      cases iso with
      | nil => simp at hlt
      | cons a t => exact ⟨a, rfl⟩
    obtain ⟨b, hb⟩ := h1
    obtain ⟨l, hl⟩ := h2
    simp [hb, hl]

theorem detectBeyondPolya_out (p : Params) (iso : List Iv) (l : Iv) (hl : iso.getLast? = some l) (ext int : Int)
    (evs : List Event) (r : List Event × Int × Int) (h : detectBeyondPolya p iso ext int evs = some r) :
    (r.2.1 = ext ∧ r.2.2 = int) ∨ (r.2.1 = l.2 ∧ r.2.2 = l.2) := by
  unfold detectBeyondPolya at h
  simp only at h
  generalize countBeyond (if int ≠ -1 then int else ext) iso.reverse = c at h
  split at h
  · obtain rfl := Option.some.inj h; exact Or.inl ⟨rfl, rfl⟩
  · split at h
    · rename_i b lastE hb hl'
      obtain rfl : l = lastE := Option.some.inj (hl.symm.trans hl')
      split at h
      · obtain rfl := Option.some.inj h; exact Or.inr ⟨rfl, rfl⟩
      · obtain rfl := Option.some.inj h; exact Or.inl ⟨rfl, rfl⟩
    · cases h

theorem detectBeforePolyt_out (p : Params) (iso : List Iv) (l : Iv) (hl : iso.head? = some l) (ext int : Int)
    (evs : List Event) (r : List Event × Int × Int) (h : detectBeforePolyt p iso ext int evs = some r) :
    (r.2.1 = ext ∧ r.2.2 = int) ∨ (r.2.1 = l.1 ∧ r.2.2 = l.1) := by
  unfold detectBeforePolyt at h
  simp only at h
  generalize countBefore (if int ≠ -1 then int else ext) iso = c at h
  split at h
  · obtain rfl := Option.some.inj h; exact Or.inl ⟨rfl, rfl⟩
  · split at h
    · rename_i b firstE hb hl'
      obtain rfl : l = firstE := Option.some.inj (hl.symm.trans hl')
      split at h
      · obtain rfl := Option.some.inj h; exact Or.inr ⟨rfl, rfl⟩
      · obtain rfl := Option.some.inj h; exact Or.inl ⟨rfl, rfl⟩
    · cases h

/-! ## `verify_polya` / `verify_polyt` with their last step named -/

/-- second `check_if_close` and the final decision of `verify_polya` (site = isoform end) / `verify_polyt` (isoform start) -/
def siteTail (p : Params) (site : Int) (okTy altTy : MatchEventSubtype) (r : List Event × Int × Int) : List Event :=
  match checkIfClose p site r.2.1 r.2.2 r.1 okTy with
  | some x => x
  | none =>
    if iabs ((if r.2.2 = -1 then r.2.1 else r.2.2) - site) > p.apa_delta then
      r.1 ++ [{ ty := altTy, info := (if r.2.2 = -1 then r.2.1 else r.2.2) }]
    else r.1 ++ [{ ty := okTy, info := (if r.2.2 = -1 then r.2.1 else r.2.2) }]

/-- the middle part of `verify_polya` / `verify_polyt`: correction of the positions (`correct_polya_positions`,
    misalignment / reference exons).  `sh` = `shift_polya` / `shift_polyt` of the read, `det` = the detector of the
    isoform, `stop` = the isoform end looked at -/
def endStep (readLen : Nat) (sh : Nat → Int → Option Int) (det : Int → Int → List Event → Option (List Event × Int × Int))
    (ext int : Int) (evs0 : List Event) (fakeT misT majT minT : MatchEventSubtype) (stop : Int) :
    Option (List Event × Int × Int) :=
  if countTy evs0 fakeT ≥ readLen then none
  else
    match sh (countTy evs0 fakeT) ext, sh (countTy evs0 fakeT) int with
    | some ext1, some int1 =>
      if countTy evs0 misT > 0 then some (eraseLastOf evs0 majT minT, stop, stop) else det ext1 int1 (eraseLastOf evs0 majT minT)
    | _, _ => none

def polyaStep (p : Params) (iso read : List Iv) (pa : PolyA) (evs0 : List Event) (isoEnd : Int) :
    Option (List Event × Int × Int) :=
  endStep read.length (C01.shiftPolya read) (detectBeyondPolya p iso) pa.extA pa.intA evs0 .fake_terminal_exon_right
    .terminal_exon_misalignment_right .major_exon_elongation_right .exon_elongation_right isoEnd

def polytStep (p : Params) (iso read : List Iv) (pa : PolyA) (evs0 : List Event) (isoStart : Int) :
    Option (List Event × Int × Int) :=
  endStep read.length (C01.shiftPolyt read) (detectBeforePolyt p iso) pa.extT pa.intT evs0 .fake_terminal_exon_left
    .terminal_exon_misalignment_left .major_exon_elongation_left .exon_elongation_left isoStart

theorem verifyPolya_step_eq (p : Params) (iso read : List Iv) (pa : PolyA) (evs0 : List Event) :
    verifyPolya p iso read pa evs0 =
      match iso.getLast? with
      | none => none
      | some lastE =>
        match checkIfClose p lastE.2 pa.extA pa.intA (eraseLastOf evs0 .major_exon_elongation_right .exon_elongation_right)
            .correct_polya_site_right with
        | some r => some r
        | none =>
          (polyaStep p iso read pa evs0 lastE.2).map
            (siteTail p lastE.2 .correct_polya_site_right .alternative_polya_site_right) := by
  unfold verifyPolya
  cases iso.getLast? with
  | none => rfl
  | some lastE =>
    simp only
    cases checkIfClose p lastE.2 pa.extA pa.intA
        (eraseLastOf evs0 .major_exon_elongation_right .exon_elongation_right) .correct_polya_site_right with
    | some r => rfl
    | none =>
      simp only [polyaStep, endStep]
      by_cases c : countTy evs0 .fake_terminal_exon_right ≥ read.length
      · rw [if_pos c, if_pos c]; rfl
      · rw [if_neg c, if_neg c]
        cases C01.shiftPolya read (countTy evs0 .fake_terminal_exon_right) pa.extA <;>
          cases C01.shiftPolya read (countTy evs0 .fake_terminal_exon_right) pa.intA <;> try rfl
        rename_i ext1 int1
        simp only
        cases (if countTy evs0 .terminal_exon_misalignment_right > 0 then
            some (eraseLastOf evs0 .major_exon_elongation_right .exon_elongation_right, lastE.2, lastE.2)
          else detectBeyondPolya p iso ext1 int1
            (eraseLastOf evs0 .major_exon_elongation_right .exon_elongation_right)) with
        | none => rfl
        | some r =>
          obtain ⟨e2, x2, i2⟩ := r
          simp only [Option.map_some, siteTail]
          cases checkIfClose p lastE.2 x2 i2 e2 .correct_polya_site_right <;> simp only
          split <;> simp only [apply_ite (some : List Event → Option (List Event))]

theorem verifyPolyt_step_eq (p : Params) (iso read : List Iv) (pa : PolyA) (evs0 : List Event) :
    verifyPolyt p iso read pa evs0 =
      match iso.head? with
      | none => none
      | some firstE =>
        match checkIfClose p firstE.1 pa.extT pa.intT (eraseLastOf evs0 .major_exon_elongation_left .exon_elongation_left)
            .correct_polya_site_left with
        | some r => some r
        | none =>
          (polytStep p iso read pa evs0 firstE.1).map
            (siteTail p firstE.1 .correct_polya_site_left .alternative_polya_site_left) := by
  unfold verifyPolyt
  cases iso.head? with
  | none => rfl
  | some firstE =>
    simp only
    cases checkIfClose p firstE.1 pa.extT pa.intT
        (eraseLastOf evs0 .major_exon_elongation_left .exon_elongation_left) .correct_polya_site_left with
    | some r => rfl
    | none =>
      simp only [polytStep, endStep]
      by_cases c : countTy evs0 .fake_terminal_exon_left ≥ read.length
      · rw [if_pos c, if_pos c]; rfl
      · rw [if_neg c, if_neg c]
        cases C01.shiftPolyt read (countTy evs0 .fake_terminal_exon_left) pa.extT <;>
          cases C01.shiftPolyt read (countTy evs0 .fake_terminal_exon_left) pa.intT <;> try rfl
        rename_i ext1 int1
        simp only
        cases (if countTy evs0 .terminal_exon_misalignment_left > 0 then
            some (eraseLastOf evs0 .major_exon_elongation_left .exon_elongation_left, firstE.1, firstE.1)
          else detectBeforePolyt p iso ext1 int1
            (eraseLastOf evs0 .major_exon_elongation_left .exon_elongation_left)) with
        | none => rfl
        | some r =>
          obtain ⟨e2, x2, i2⟩ := r
          simp only [Option.map_some, siteTail]
          cases checkIfClose p firstE.1 x2 i2 e2 .correct_polya_site_left <;> simp only
          split <;> simp only [apply_ite (some : List Event → Option (List Event))]

theorem filterOpt_map_of_mem {α β} (f : α → Option Bool) (f' : β → Option Bool) (g : α → β) (l : List α)
    (h : ∀ x ∈ l, f' (g x) = f x) : filterOpt f' (l.map g) = (filterOpt f l).map (List.map g) := by
  rw [filterOpt_map, AssignShift.filterOpt_congr _ f l h]

theorem mapOpt_map_of_mem {α β γ δ} (f : α → Option γ) (f' : β → Option δ) (g : α → β) (k : γ → δ) (l : List α)
    (h : ∀ x ∈ l, f' (g x) = (f x).map k) : mapOpt f' (l.map g) = (mapOpt f l).map (List.map k) := by
  rw [mapOpt_map, mapOpt_congr _ (fun x => (f x).map k) l h, mapOpt_comp_map]

theorem resolveByScore_map_of_mem (score score' : IsoInfo → Option Rat) (g : IsoInfo → IsoInfo) (factor : Option Rat)
    (l : List IsoInfo) (h : ∀ x ∈ l, score' (g x) = score x) :
    resolveByScore score' factor (l.map g) = (resolveByScore score factor l).map (List.map g) := by
  simp only [resolveByScore, List.isEmpty_map]
  split
  · rfl
  · rw [mapOpt_map_of_mem (fun I => (score I).map (fun s => (I, s))) (fun I => (score' I).map (fun s => (I, s))) g
        (fun Is => (g Is.1, Is.2)) l (by
          intro x hx; rw [h x hx]; cases score x <;> rfl)]
    cases mapOpt (fun I => (score I).map (fun s => (I, s))) l with
    | none => rfl
    | some scores =>
      simp only [Option.map_some, List.map_map]
      have e : ((fun (x : IsoInfo × Rat) => x.2) ∘ fun Is => (g Is.1, Is.2)) = (fun (x : IsoInfo × Rat) => x.2) := rfl
      rw [e]
      cases maxRat (scores.map (·.2)) with
      | none => rfl
      | some best =>
        cases factor with
        | none => simp [List.filter_map, Function.comp_def]
        | some fc => simp [List.filter_map, Function.comp_def]

theorem mapOpt_pair_fst {α β} (f : α → Option β) (l : List α) (r : List (α × β))
    (h : mapOpt (fun x => (f x).map (fun m => (x, m))) l = some r) : r.map (·.1) = l := by
  induction l generalizing r with
  | nil => simp only [mapOpt, Option.some.injEq] at h; subst h; rfl
  | cons x xs ih =>
    simp only [mapOpt] at h
    cases hf : f x with
    | none => simp [hf] at h
    | some b =>
      simp only [hf, Option.map_some] at h
      cases hr : mapOpt (fun x => (f x).map (fun m => (x, m))) xs with
      | none => simp [hr] at h
      | some r' =>
        simp only [hr, Option.some.injEq] at h
        subst h
        simp only [List.map_cons, ih r' hr]

/-- `select_similar_isoforms` commutes with a relabelling `sh` of the isoforms that keeps what the selection reads:
    the overlap filter, the coverage score, the difference in present features and the sum of the two
    "extra terminal bases" flags (`hfl` is about the SUM because the selection reads the two flags only through it: a
    relabelling may swap them, as the reflection does).  Each stage is its `…_map_of_mem` lemma, with membership in
    `g.isos` carried along by `filterOpt_spec` / `resolveByScore_sub`. -/
theorem selectSimilar_map (sh : IsoInfo → IsoInfo) (g g' : Gene) (p : Params) (rp rp' : ReadProf)
    (hisos : g'.isos = g.isos.map sh)
    (hov : findOverlapping rp' (g.isos.map sh) = (findOverlapping rp g.isos).map (List.map sh))
    (hcov : ∀ I ∈ g.isos, coverageScore p rp' (sh I) = coverageScore p rp I)
    (hdiff : ∀ I ∈ g.isos, differenceInPresentFeatures (sh I).intronProf rp'.intron.gene rp'.intron.range
        = differenceInPresentFeatures I.intronProf rp.intron.gene rp.intron.range)
    (hfl : ∀ (I : IsoInfo) (d : Int),
        d + (if rp'.region.2 - p.delta > (sh I).region.2 then 1 else 0)
            + (if rp'.region.1 + p.delta < (sh I).region.1 then 1 else 0)
          = d + (if rp.region.2 - p.delta > I.region.2 then 1 else 0)
              + (if rp.region.1 + p.delta < I.region.1 then 1 else 0)) :
    selectSimilar g' p rp' = (selectSimilar g p rp).map (List.map sh) := by
  simp only [selectSimilar, hisos, hov]
  cases hovv : findOverlapping rp g.isos with
  | none => rfl
  | some ov =>
    have hovm := fun I hI => ((C01.filterOpt_spec _ _ _ hovv).1 I hI).1
    simp only [Option.map_some, List.isEmpty_map]
    split
    · rfl
    · rw [resolveByScore_map_of_mem (coverageScore p rp) (coverageScore p rp') sh none ov
        (fun I hI => hcov I (hovm I hI))]
      cases hsig : resolveByScore (coverageScore p rp) none ov with
      | none => rfl
      | some sig =>
        have hsigm := C01.resolveByScore_sub _ _ _ _ hsig
        simp only [Option.map_some, List.isEmpty_map]
        split
        · rfl
        · rw [mapOpt_map_of_mem
            (fun I => (differenceInPresentFeatures I.intronProf rp.intron.gene rp.intron.range).map (fun d => (I, d)))
            (fun I => (differenceInPresentFeatures I.intronProf rp'.intron.gene rp'.intron.range).map (fun d => (I, d)))
            sh (fun Id => (sh Id.1, Id.2)) sig (fun I hI => by
              rw [hdiff I (hovm I (hsigm I hI))]
              cases differenceInPresentFeatures I.intronProf rp.intron.gene rp.intron.range <;> rfl)]
          cases mapOpt (fun I => (differenceInPresentFeatures I.intronProf rp.intron.gene rp.intron.range).map
              (fun d => (I, d))) sig with
          | none => rfl
          | some diffs =>
            simp only [Option.map_some, List.map_map]
            have e : ((fun (x : IsoInfo × Int) =>
                  (x.1, x.2 + (if rp'.region.2 - p.delta > x.1.region.2 then 1 else 0)
                    + (if rp'.region.1 + p.delta < x.1.region.1 then 1 else 0))) ∘
                (fun (Id : IsoInfo × Int) => (sh Id.1, Id.2)))
                = ((fun (Id : IsoInfo × Int) => (sh Id.1, Id.2)) ∘
                   (fun (x : IsoInfo × Int) =>
                  (x.1, x.2 + (if rp.region.2 - p.delta > x.1.region.2 then 1 else 0)
                    + (if rp.region.1 + p.delta < x.1.region.1 then 1 else 0)))) := by
              funext x; simp only [Function.comp, hfl]
            rw [e]
            simp only [← List.map_map]
            generalize diffs.map (fun (x : IsoInfo × Int) =>
                  (x.1, x.2 + (if rp.region.2 - p.delta > x.1.region.2 then 1 else 0)
                    + (if rp.region.1 + p.delta < x.1.region.1 then 1 else 0))) = cands
            simp only [List.map_map]
            have e2 : ((fun (x : IsoInfo × Int) => x.2) ∘ fun (Id : IsoInfo × Int) => (sh Id.1, Id.2))
                = (fun (x : IsoInfo × Int) => x.2) := rfl
            rw [e2]
            cases minList (cands.map (·.2)) with
            | none => rfl
            | some best => simp [List.filter_map, Function.comp_def]

/-! ## `categorize_exon_elongation_subtype`: index loops (`commonEnds`), look-ups (`endFrame`), events -/

theorem elongationEvents_sides (g : Gene) (p : Params) (rp : ReadProf) (I : IsoInfo) :
    elongationEvents g p rp I = (elongSides g p rp I).map (fun s => s.1 ++ s.2) := by
  simp only [elongationEvents, elongSides, elongLeftOf, elongRightOf]
  split
  · rfl
  · split
    · rfl
    · split
      · rfl
      · cases commonLast I.splitProf rp.split.gene (min (I.splitRange.2 - 1) (rp.split.range.2 - 1) + 1).toNat
            (min (I.splitRange.2 - 1) (rp.split.range.2 - 1)) with
        | none => rfl
        | some cl =>
          dsimp only
          generalize commonFirst _ _ _ = cf
          generalize rp.blocks.head? = o1
          generalize rp.blocks.getLast? = o2
          generalize pyGet? g.splitExons cf = o3
          generalize pyGet? g.splitExons cl = o4
          cases o1 <;> cases o2 <;> cases o3 <;> cases o4 <;> rfl

/-- the read exon measured at either end and the split exon it is measured against, given the two common indices -/
def endFrame (g : Gene) (p : Params) (rp : ReadProf) (c : Int × Int) : Option ((Iv × Iv) × (Iv × Iv)) :=
  match rp.blocks.head?, rp.blocks.getLast?, pyGet? g.splitExons c.1, pyGet? g.splitExons c.2 with
  | some fr, some lr, some sf, some sl =>
    some ((measuredExon p fr rp.blocks[1]? sf, sf), (measuredExon p lr rp.blocks.reverse[1]? sl, sl))
  | _, _, _, _ => none

theorem elongSides_eq (g : Gene) (p : Params) (rp : ReadProf) (I : IsoInfo) :
    elongSides g p rp I =
      if max I.splitRange.1 rp.split.range.1 < 0 then none else
      (commonEnds rp I).bind fun c =>
        if (I.splitProf.length < g.splitExons.length ∨ rp.split.gene.length < g.splitExons.length) ∧ c.1 = -1 then none else
        (endFrame g p rp c).map fun F =>
          (elongLeftOf p I.splitRange.1 c.1 F.1.1 F.1.2, elongRightOf p (I.splitRange.2 - 1) c.2 F.2.1 F.2.2) := by
  unfold elongSides commonEnds endFrame
  dsimp only
  split
  · rfl
  · generalize commonFirst _ _ _ = cf
    cases commonLast I.splitProf rp.split.gene (min (I.splitRange.2 - 1) (rp.split.range.2 - 1) + 1).toNat
        (min (I.splitRange.2 - 1) (rp.split.range.2 - 1)) with
    | none =>
      simp only [Option.map_none, Option.bind_none]
      split
      · rfl
      · split <;> rfl
    | some cl =>
      simp only [Option.map_some, Option.bind_some]
      by_cases h1 : I.splitProf.length < g.splitExons.length ∧ cf = -1
      · simp [h1]
      · by_cases h2 : rp.split.gene.length < g.splitExons.length ∧ cf = -1
        · simp [h2]
        · have h3 : ¬ ((I.splitProf.length < g.splitExons.length ∨ rp.split.gene.length < g.splitExons.length) ∧ cf = -1) := by
            rintro ⟨h | h, e⟩
            · exact h1 ⟨h, e⟩
            · exact h2 ⟨h, e⟩
          rw [if_neg h1, if_neg h2, if_neg h3]
          cases rp.blocks.head? <;> cases rp.blocks.getLast? <;> cases pyGet? g.splitExons cf <;>
            cases pyGet? g.splitExons cl <;> rfl

end IsoVerif.Lemmas.C11
