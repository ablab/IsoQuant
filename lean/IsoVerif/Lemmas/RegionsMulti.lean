/-
Helper lemmas for C05: experiments made of several BAM files (`Model/RegionsMulti.lean`).
Composition of the C12 merger lemmas (`Lemmas/BamMerge.lean`, `Lemmas/BamOrder.lean`) with the C05 storage /
splitting lemmas (`Lemmas/Regions.lean`, `Props/C05.lean`).
-/
import IsoVerif.Model.RegionsMulti
import IsoVerif.Lemmas.Regions
import IsoVerif.Lemmas.BamMerge
import IsoVerif.Lemmas.BamOrder
import IsoVerif.Props.C05

namespace IsoVerif.Lemmas.RegionsMulti
open IsoVerif.Gen IsoVerif.Model IsoVerif.Model.Regions IsoVerif.Model.RegionsMulti IsoVerif.Lemmas.Regions
open List

/-- what pysam's `fetch(chr, r.1, r.2 + 1)` keeps -/
def inR (r : Iv) (b : C12.Aln) : Bool := decide (b.start ≤ r.2) && decide (r.1 ≤ b.stop - 1)

theorem fetch_eq (r : Iv) (f : List C12.Aln) : C12.fetch r f = f.filter (inR r) := rfl

theorem ov_full (rest : Nat → Aln) (r : Iv) (b : C12.Aln) : overlaps r (full rest b).iv = inR r b := by
  rw [Bool.eq_iff_iff, overlaps_true_iff]
  simp [inR, Aln.iv, full]

/-- the files of one chromosome of an experiment: every file coordinate-sorted (by start; nothing about ends or
    ties), every record with at least one reference base and inside the reference of length `L` -/
def ValidFiles (files : List (List C12.Aln)) (L : Int) : Prop :=
  (∀ f ∈ files, Lemmas.C12.SortedStart f) ∧ ∀ a ∈ files.flatten, 0 ≤ a.start ∧ a.start < a.stop ∧ a.stop ≤ L

theorem fetch_whole {files : List (List C12.Aln)} {L : Int} (h : ValidFiles files L) :
    files.map (C12.fetch (0, L)) = files := by
  have hf : ∀ f ∈ files, C12.fetch (0, L) f = id f := by
    intro f hf
    unfold C12.fetch
    show List.filter _ f = f
    rw [List.filter_eq_self]
    intro a ha
    have := h.2 a (List.mem_flatten.2 ⟨f, hf, ha⟩)
    simp only [Bool.and_eq_true, decide_eq_true_eq]
    omega
  rw [List.map_congr_left hf, List.map_id]

theorem scan_eq {files : List (List C12.Aln)} {L : Int} (rest : Nat → Aln) (h : ValidFiles files L) :
    scanStream rest files L = (C12.merge files).map (label rest) := by
  unfold scanStream regionStream
  rw [fetch_whole h]

theorem scan_valid {files : List (List C12.Aln)} {L : Int} (rest : Nat → Aln) (h : ValidFiles files L) :
    Props.C05.ValidInput ((scanStream rest files L).map Prod.snd) := by
  rw [scan_eq rest h]
  constructor
  · unfold SortedByStart
    rw [List.map_map, List.pairwise_map]
    exact (Lemmas.C12.merge_sorted_aux files h.1).imp (fun hxy => by simpa [label, full] using hxy)
  · intro x hx
    rw [List.map_map] at hx
    obtain ⟨e, he, rfl⟩ := List.mem_map.1 hx
    have hmem : e.2 ∈ files.flatten :=
      (Lemmas.C12.merge_perm_aux files).subset (List.mem_map.2 ⟨e, he, rfl⟩)
    have := h.2 e.2 hmem
    simp only [WFA, Function.comp, label, full]
    omega

/-! ### the collector loop on pairs simulates the loop on alignments -/

/-- forget the file indices: the loop state on pairs seen as a loop state on alignments -/
def toP (st : MPState) : PState := ⟨st.store.base, st.out.map (·.base), st.stats⟩

theorem toP_step (st : MPState) (e : FAln) : toP (mProcessStep st e) = processStep (toP st) e.2 := by
  unfold mProcessStep processStep toP
  by_cases h : notAdjacent st.store.base.region e.2 = true
  · simp [h, MStore.add, MStore.empty]
  · simp [h, MStore.add]

theorem toP_foldl (l : List FAln) (st : MPState) :
    toP (l.foldl mProcessStep st) = (l.map Prod.snd).foldl processStep (toP st) := by
  rw [List.foldl_map]
  exact (List.foldl_hom toP fun st e => (toP_step st e).symm).symm

theorem toP_init : toP MPState.init = PState.init := rfl

theorem stores_base (l : List FAln) : (mProcessStores l).map (·.base) = processStores (l.map Prod.snd) := by
  unfold mProcessStores processStores
  rw [← toP_init, ← toP_foldl]
  generalize l.foldl mProcessStep MPState.init = st
  unfold mProcessFinish processFinish toP
  by_cases h : st.store.base.region.isSome = true
  · simp [h]
  · simp [h]

theorem stats_eq (l : List FAln) : mProcessStats l = processStats (l.map Prod.snd) := by
  unfold mProcessStats processStats
  rw [← toP_init, ← toP_foldl]
  rfl

/-- the stored pairs are the stored alignments with their file indices -/
structure MInv (st : MPState) : Prop where
  outOk : ∀ ms, ms ∈ st.out → ms.pairs.map Prod.snd = ms.base.alns
  curOk : st.store.pairs.map Prod.snd = st.store.base.alns
  curNone : st.store.base.region = none → st.store.pairs = []

theorem mInv_init : MInv MPState.init := ⟨fun _ h => (by cases h), rfl, fun _ => rfl⟩

theorem mInv_step {st : MPState} (h : MInv st) (e : FAln) : MInv (mProcessStep st e) := by
  unfold mProcessStep
  split
  · refine ⟨?_, ?_, ?_⟩
    · intro ms hms
      rcases List.mem_append.1 hms with hms | hms
      · exact h.outOk ms hms
      · simp at hms; subst hms; exact h.curOk
    · simp [MStore.add, MStore.empty, Store.add, Store.empty]
    · intro hn; simp [MStore.add, Store.add] at hn
  · refine ⟨h.outOk, ?_, ?_⟩
    · simp [MStore.add, Store.add, h.curOk]
    · intro hn; simp [MStore.add, Store.add] at hn

theorem flat_step (st : MPState) (e : FAln) :
    ((mProcessStep st e).out.map (·.pairs)).flatten ++ (mProcessStep st e).store.pairs =
      (st.out.map (·.pairs)).flatten ++ st.store.pairs ++ [e] := by
  unfold mProcessStep
  split
  · simp [MStore.add, MStore.empty]
  · simp [MStore.add]

theorem flat_foldl (l : List FAln) (st : MPState) :
    ((l.foldl mProcessStep st).out.map (·.pairs)).flatten ++ (l.foldl mProcessStep st).store.pairs =
      (st.out.map (·.pairs)).flatten ++ st.store.pairs ++ l := by
  induction l generalizing st with
  | nil => simp
  | cons e l ih => rw [List.foldl_cons, ih, flat_step]; simp

theorem mStores_spec (l : List FAln) :
    (∀ ms, ms ∈ mProcessStores l → ms.pairs.map Prod.snd = ms.base.alns) ∧
    ((mProcessStores l).map (·.pairs)).flatten = l := by
  have h1 : MInv (l.foldl mProcessStep MPState.init) :=
    List.foldlRecOn l _ mInv_init fun _ h e _ => mInv_step h e
  have h2 := flat_foldl l MPState.init
  unfold mProcessStores mProcessFinish
  generalize l.foldl mProcessStep MPState.init = st at h1 h2
  have h2' : (st.out.map (·.pairs)).flatten ++ st.store.pairs = l := by simpa [MPState.init, MStore.empty] using h2
  cases hr : st.store.base.region with
  | none =>
    simp only [Option.isSome_none, Bool.false_eq_true, if_false]
    refine ⟨h1.outOk, ?_⟩
    have := h1.curNone hr
    rw [this] at h2'
    simpa using h2'
  | some R =>
    simp only [Option.isSome_some, if_true]
    refine ⟨?_, ?_⟩
    · intro ms hms
      rcases List.mem_append.1 hms with hms | hms
      · exact h1.outOk ms hms
      · simp at hms; subst hms; exact h1.curOk
    · simpa using h2'

/-- the sub-regions a storage is forwarded for: the cluster region itself when `split_coverage_regions` returns
    one region, else what it returns — the first components of `Props.C05.expectedOf s` (`expectedForward`); the
    merger's side calls the same thing `Model.C12.subRegions` -/
def subRegionsOf (s : Store) : List Iv :=
  match s.region with
  | none => []
  | some R =>
    match splitCoverageRegions R s.alns.length s.cov with
    | none => []
    | some [_] => [R]
    | some regs => regs

theorem mapRegionsM_of_forall {get : Iv → Option (List FAln)} {f : Iv → List FAln} :
    ∀ (regs : List Iv), (∀ r, r ∈ regs → get r = some (f r)) →
      mapRegionsM get regs = some (regs.map (fun r => (r, f r))) := by
  intro regs
  induction regs with
  | nil => intro _; rfl
  | cons r rs ih =>
    intro h
    simp only [mapRegionsM, h r (by simp), ih (fun r' hr' => h r' (by simp [hr'])), List.map_cons]

theorem forwardM_of {m : Mode} {rest : Nat → Aln} {files : List (List C12.Aln)} {ms : MStore} {R : Iv} {regs : List Iv}
    {g : Iv → List FAln} (hreg : ms.base.region = some R)
    (hsplit : splitCoverageRegions R ms.base.alns.length ms.base.cov = some regs)
    (hall : getAlignmentsM m rest files ms none = some (g R))
    (hsub : ∀ r, r ∈ regs → getAlignmentsM m rest files ms (some r) = some (g r)) :
    forwardM m rest files ms = some ((subRegionsOf ms.base).map (fun r => (r, g r))) := by
  unfold forwardM subRegionsOf
  rw [hreg]
  simp only [hsplit]
  match regs, hsub with
  | [], _ => rfl
  | [r], _ => simp [hall]
  | r :: r' :: rs, hsub => exact mapRegionsM_of_forall (get := fun r => getAlignmentsM m rest files ms (some r)) _ hsub

theorem collectStoresM_of_forall {f : MStore → Option (List (Iv × List FAln))} {g : MStore → List (Iv × List FAln)} :
    ∀ (ss : List MStore), (∀ s, s ∈ ss → f s = some (g s)) → collectStoresM f ss = some (ss.flatMap g) := by
  intro ss
  induction ss with
  | nil => intro _; rfl
  | cons s ss ih =>
    intro h
    simp only [collectStoresM, h s (by simp), ih (fun s' hs' => h s' (by simp [hs'])), List.flatMap_cons]

/-- everything the C05 theorems say about one forwarded storage of a valid stream -/
structure StoreFacts (s : Store) (R : Iv) (regs : List Iv) : Prop where
  built : s = buildStore s.alns
  sorted : SortedByStart s.alns
  wf : ∀ x, x ∈ s.alns → WFA x
  reg : s.region = some R
  split : splitCoverageRegions R s.alns.length s.cov = some regs
  tiles : Props.C05.Tiles R regs
  hull : ∀ x, x ∈ s.alns → R.1 ≤ x.start ∧ x.start ≤ x.stop - 1 ∧ x.stop - 1 ≤ R.2
  lo : ∃ x, x ∈ s.alns ∧ x.start = R.1
  hi : ∃ x, x ∈ s.alns ∧ x.stop - 1 = R.2

theorem storeFacts {A : List Aln} (h : Props.C05.ValidInput A) {s : Store} (hs : s ∈ processStores A) :
    ∃ R regs, StoreFacts s R regs := by
  obtain ⟨hbuilt, _, hcs, hcw, _⟩ := processStores_mem h.1 h.2 hs
  obtain ⟨_, R, regs, hreg, hsplit, htiles, hhull⟩ := Props.C05.forward_eq .bam A h s hs
  obtain ⟨_, _, hlo, hhi⟩ := buildStore_region_spec (hbuilt ▸ hreg : (buildStore s.alns).region = some R)
  exact ⟨R, regs, hbuilt, hcs, hcw, hreg, hsplit, htiles, hhull, hlo, hhi⟩

theorem subRegionsOf_sub {s : Store} {R : Iv} {regs : List Iv} (hf : StoreFacts s R regs) :
    ∀ r, r ∈ subRegionsOf s → R.1 ≤ r.1 ∧ r.1 ≤ r.2 ∧ r.2 ≤ R.2 := by
  intro r hr
  have hRwf : R.1 ≤ R.2 := by
    obtain ⟨x, hx, hx1⟩ := hf.lo
    have := hf.hull x hx
    omega
  unfold subRegionsOf at hr
  rw [hf.reg] at hr
  simp only [hf.split] at hr
  match regs, hf.tiles, hr with
  | [], _, hr => cases hr
  | [r0], _, hr => simp at hr; subst hr; omega
  | r0 :: r1 :: rs, ht, hr => exact tilesFrom_sub ht.2 r hr

theorem subRegionsOf_cover {s : Store} {R : Iv} {regs : List Iv} (hf : StoreFacts s R regs) (p : Int)
    (h1 : R.1 ≤ p) (h2 : p ≤ R.2) : ∃ r, r ∈ subRegionsOf s ∧ r.1 ≤ p ∧ p ≤ r.2 := by
  unfold subRegionsOf
  rw [hf.reg]
  simp only [hf.split]
  match regs, hf.tiles with
  | [], ht => exact absurd rfl ht.1
  | [r0], _ => exact ⟨R, by simp, h1, h2⟩
  | r0 :: r1 :: rs, ht => exact tilesFrom_cover ht.2 p h1 h2

/-! ### the in-memory storage on pairs returns the pairs of what it returns on alignments -/

theorem fillIndex_alns {s s' : Store} (h : s.fillIndex = some s') : s'.alns = s.alns := by
  unfold Store.fillIndex at h
  split at h
  · cases h
  · injection h with h; subst h; rfl

theorem filter_pairs_map (p : Aln → Bool) (l : List FAln) :
    (l.filter (fun e => p e.2)).map Prod.snd = (l.map Prod.snd).filter p := by
  rw [List.filter_map]; rfl

theorem sub_filter_eq {p : Aln → Bool} {sub l : List FAln} (hs : sub.Sublist l)
    (h : (sub.map Prod.snd).filter p = (l.map Prod.snd).filter p) :
    sub.filter (fun e => p e.2) = l.filter (fun e => p e.2) := by
  apply (hs.filter _).eq_of_length
  have := congrArg List.length h
  rw [← filter_pairs_map, ← filter_pairs_map, List.length_map, List.length_map] at this
  exact this

theorem memGetM_some {ms : MStore} (hc : ms.pairs.map Prod.snd = ms.base.alns) {r : Iv}
    (h : ms.base.memGet (some r) = some (ms.base.alns.filter (fun a => overlaps r a.iv))) :
    ms.memGet (some r) = some (ms.pairs.filter (fun e => overlaps r e.2.iv)) := by
  have hlen : ms.pairs.length = ms.base.alns.length := by rw [← hc, List.length_map]
  simp only [Store.memGet, Store.memGetOff] at h
  simp only [MStore.memGet]
  by_cases heq : some r = ms.base.region
  · rw [if_pos heq] at h ⊢
    injection h with h
    congr 1
    symm
    apply (List.filter_sublist (l := ms.pairs)).eq_of_length
    have h2 := congrArg List.length h
    rw [← hc, ← filter_pairs_map, List.length_map, List.length_map] at h2
    exact h2.symm
  · rw [if_neg heq] at h ⊢
    cases hfi : ms.base.fillIndex with
    | none => rw [hfi] at h; cases h
    | some s' =>
      rw [hfi] at h
      simp only at h ⊢
      have ha := fillIndex_alns hfi
      cases he : s'.endIdx.get (bin r.1) with
      | none => rw [he] at h; cases h
      | some si =>
        cases hst : s'.startIdx.get (bin r.2 + 1) with
        | none => rw [he, hst] at h; cases h
        | some ei =>
          rw [he, hst] at h
          simp only at h ⊢
          rw [ha] at h
          by_cases hle : ei ≤ ms.base.alns.length
          · rw [if_pos hle] at h
            rw [if_pos (by omega)]
            injection h with h
            congr 1
            apply sub_filter_eq (p := fun a => overlaps r a.iv) ((List.drop_sublist _ _).trans (List.take_sublist _ _))
            rw [List.map_drop, List.map_take, hc]
            exact h
          · rw [if_neg hle] at h; cases h

/-! ### what a forwarded storage hands on (`handed`), in both memory modes -/

/-- `--high_memory`: the stored pairs overlapping the sub-region; default mode: the re-fetched, re-merged stream -/
def handed (m : Mode) (rest : Nat → Aln) (files : List (List C12.Aln)) (ms : MStore) (r : Iv) : List FAln :=
  match m with
  | .memory => ms.pairs.filter (fun e => overlaps r e.2.iv)
  | .bam => regionStream rest files r

theorem base_mem {l : List FAln} {ms : MStore} (hms : ms ∈ mProcessStores l) :
    ms.base ∈ processStores (l.map Prod.snd) := by
  rw [← stores_base]; exact List.mem_map_of_mem hms

theorem forwardM_eq (m : Mode) {rest : Nat → Aln} {files : List (List C12.Aln)} {l : List FAln}
    (hA : Props.C05.ValidInput (l.map Prod.snd)) {ms : MStore} (hms : ms ∈ mProcessStores l) :
    forwardM m rest files ms = some ((subRegionsOf ms.base).map (fun r => (r, handed m rest files ms r))) := by
  obtain ⟨R, regs, hf⟩ := storeFacts hA (base_mem hms)
  have hc := (mStores_spec l).1 ms hms
  have hR : (buildStore ms.base.alns).region = some R := by rw [← hf.built]; exact hf.reg
  apply forwardM_of hf.reg hf.split
  · cases m with
    | memory =>
      simp only [getAlignmentsM, MStore.memGet, handed]
      congr 1
      symm
      rw [List.filter_eq_self]
      intro e he
      have hea : e.2 ∈ ms.base.alns := by rw [← hc]; exact List.mem_map_of_mem he
      have := hf.hull e.2 hea
      rw [overlaps_true_iff]; simp only [Aln.iv]; omega
    | bam => simp [getAlignmentsM, hf.reg, handed]
  · intro r hr
    cases m with
    | memory =>
      simp only [getAlignmentsM, handed]
      obtain ⟨hr1, hr2, hr3⟩ := tilesFrom_sub hf.tiles.2 r hr
      have hm := memGet_exact ms.base.alns hf.sorted hf.wf R hR r hr1 hr2 hr3
      rw [← hf.built] at hm
      exact memGetM_some hc hm
    | bam => simp [getAlignmentsM, handed]

theorem collectM_eq (m : Mode) {rest : Nat → Aln} {files : List (List C12.Aln)} {L : Int} (hv : ValidFiles files L) :
    collectM m rest files L = some ((mProcessStores (scanStream rest files L)).flatMap (fun ms =>
      (subRegionsOf ms.base).map (fun r => (r, handed m rest files ms r)))) := by
  unfold collectM
  exact collectStoresM_of_forall _ (fun ms hms => forwardM_eq m (scan_valid rest hv) hms)

/-! ### every record of the scan is handed on exactly where it belongs -/

/-- records of other clusters never overlap a sub-region of this cluster -/
theorem scan_filter_cluster {l : List FAln} (hA : Props.C05.ValidInput (l.map Prod.snd)) {ms : MStore}
    (hms : ms ∈ mProcessStores l) {R : Iv} {regs : List Iv} (hf : StoreFacts ms.base R regs) {r : Iv}
    (h1 : R.1 ≤ r.1) (h2 : r.2 ≤ R.2) :
    l.filter (fun e => overlaps r e.2.iv) = ms.pairs.filter (fun e => overlaps r e.2.iv) := by
  obtain ⟨hc, hflat⟩ := mStores_spec l
  obtain ⟨_, _, hpw⟩ := processStores_spec _ hA.1 hA.2
  rw [← stores_base] at hpw
  obtain ⟨T1, T2, hT⟩ := List.append_of_mem hms
  rw [hT] at hflat hpw hc
  rw [List.map_append, List.map_cons, List.pairwise_append] at hpw
  obtain ⟨_, hpw2, hpw3⟩ := hpw
  obtain ⟨x1, hx1, hx1'⟩ := hf.lo
  obtain ⟨x2, hx2, hx2'⟩ := hf.hi
  have key : ∀ T : List MStore,
      (∀ m1, m1 ∈ T → m1 ∈ T1 ++ ms :: T2 ∧ ∀ x, x ∈ m1.base.alns → x.stop - 1 < R.1 ∨ R.2 < x.start) →
      ((T.map (·.pairs)).flatten).filter (fun e => overlaps r e.2.iv) = [] := by
    intro T hT
    rw [List.filter_eq_nil_iff]
    intro e he
    obtain ⟨ps, hps, hep⟩ := List.mem_flatten.1 he
    obtain ⟨m1, hm1, rfl⟩ := List.mem_map.1 hps
    obtain ⟨hin, hout⟩ := hT m1 hm1
    have := hout e.2 (by rw [← hc m1 hin]; exact List.mem_map_of_mem hep)
    have : overlaps r e.2.iv = false := by rw [overlaps_false_iff]; simp only [Aln.iv]; omega
    simp [this]
  have e1 := key T1 fun m1 hm1 => ⟨by simp [hm1], fun x hx => Or.inl (by
    have := hpw3 m1.base (List.mem_map_of_mem hm1) ms.base (by simp) x hx x1 hx1
    omega)⟩
  have e2 := key T2 fun m2 hm2 => ⟨by simp [hm2], fun x hx => Or.inr (by
    have := (List.pairwise_cons.1 hpw2).1 m2.base (List.mem_map_of_mem hm2) x2 hx2 x hx
    omega)⟩
  rw [← hflat]
  simp [List.filter_append, e1, e2]

theorem label_idx_snd (rest : Nat → Aln) (l : List C12.Entry) (i : Nat) :
    ((l.map (label rest)).filter (fun e => e.1 == i)).map Prod.snd =
      ((l.filter (fun e => e.1 == i)).map Prod.snd).map (full rest) := by
  induction l with
  | nil => rfl
  | cons e l ih =>
    by_cases h : e.1 = i
    · simp [label, h, ih]
    · simp [label, h, ih]

theorem getD_map_fetch (files : List (List C12.Aln)) (r : Iv) (i : Nat) :
    (files.map (C12.fetch r))[i]?.getD [] = C12.fetch r (files[i]?.getD []) := by
  rw [List.getElem?_map]
  cases files[i]? <;> rfl

/-- every record of every file overlaps one of the sub-regions its cluster is forwarded for -/
theorem covered {rest : Nat → Aln} {files : List (List C12.Aln)} {L : Int} (hv : ValidFiles files L)
    {b : C12.Aln} (hb : b ∈ files.flatten) :
    ∃ ms, ms ∈ mProcessStores (scanStream rest files L) ∧ ∃ r, r ∈ subRegionsOf ms.base ∧ inR r b = true := by
  have hA := scan_valid rest hv
  obtain ⟨hc, hflat⟩ := mStores_spec (scanStream rest files L)
  have hmem : b ∈ (C12.merge files).map Prod.snd := (Lemmas.C12.merge_perm_aux files).symm.subset hb
  obtain ⟨e, he, rfl⟩ := List.mem_map.1 hmem
  have hS : label rest e ∈ scanStream rest files L := by
    rw [scan_eq rest hv]; exact List.mem_map_of_mem he
  rw [← hflat] at hS
  obtain ⟨ps, hps, hep⟩ := List.mem_flatten.1 hS
  obtain ⟨ms, hms, rfl⟩ := List.mem_map.1 hps
  obtain ⟨R, regs, hf⟩ := storeFacts hA (base_mem hms)
  have hea : full rest e.2 ∈ ms.base.alns := by
    rw [← hc ms hms]; exact List.mem_map.2 ⟨_, hep, rfl⟩
  have hh := hf.hull _ hea
  simp only [full] at hh
  obtain ⟨r, hr, hr1, hr2⟩ := subRegionsOf_cover hf e.2.start hh.1 (by omega)
  refine ⟨ms, hms, r, hr, ?_⟩
  simp only [inR, Bool.and_eq_true, decide_eq_true_eq]
  omega

/-! ### statistics -/

theorem addUnaligned_apply (s : Stats) (unmapped : List Nat) (t : AlignmentType) :
    addUnaligned s unmapped t = if t = AlignmentType.unaligned then s t + unmapped.sum else s t := by
  unfold addUnaligned
  induction unmapped generalizing s with
  | nil => simp
  | cons u us ih =>
    simp only [List.foldl_cons, ih, List.sum_cons]
    by_cases h : t = AlignmentType.unaligned
    · simp [h]; omega
    · simp [h]

theorem mergeFold_apply {γ : Type} (F : γ → Stats) (l : List γ) (s0 : Stats) (t : AlignmentType) :
    (l.foldl (fun s c => statsMerge s (F c)) s0) t = s0 t + (l.map (fun c => F c t)).sum := by
  induction l generalizing s0 with
  | nil => simp
  | cons c l ih =>
    simp only [List.foldl_cons, ih, List.map_cons, List.sum_cons, statsMerge]
    omega

/-! ### `full rest`: a merger record completed by the part the merger does not look at -/

theorem full_tag (rest : Nat → Aln) (a : Aln) (n : Nat) (h : rest n = a) : full rest ⟨a.start, a.stop, n⟩ = a := by
  unfold full
  simp only [h]

theorem tagList_full (f pre post : List Aln) :
    (tagList pre.length f).map (full (restOf (pre ++ f ++ post).toArray)) = f := by
  induction f generalizing pre with
  | nil => rfl
  | cons a t ih =>
    simp only [tagList, List.map_cons]
    congr 1
    · apply full_tag
      simp [restOf]
    · have := ih (pre ++ [a])
      simpa [List.append_assoc] using this

theorem tagFiles_full (files : List (List Aln)) (pre post : List Aln) :
    (tagFiles pre.length files).map (fun f => f.map (full (restOf (pre ++ files.flatten ++ post).toArray))) = files := by
  induction files generalizing pre with
  | nil => rfl
  | cons f fs ih =>
    simp only [tagFiles, List.map_cons, List.flatten_cons]
    congr 1
    · have := tagList_full f pre (fs.flatten ++ post)
      simpa [List.append_assoc] using this
    · have := ih (pre ++ f)
      simpa [List.append_assoc] using this

theorem tagFiles_faithful (files : List (List Aln)) :
    (tagFiles 0 files).map (fun f => f.map (full (restOf files.flatten.toArray))) = files := by
  simpa using tagFiles_full files [] []

theorem validFiles_tag (files : List (List Aln)) (L : Int) (hs : ∀ f, f ∈ files → SortedByStart f)
    (hb : ∀ a, a ∈ files.flatten → 0 ≤ a.start ∧ a.start < a.stop ∧ a.stop ≤ L) :
    ValidFiles (tagFiles 0 files) L := by
  -- a tagged record has the coordinates of the alignment it stands for
  have ht : ∀ g, g ∈ tagFiles 0 files → g.map (full (restOf files.flatten.toArray)) ∈ files := by
    intro g hg
    have := List.mem_map_of_mem (f := fun f => f.map (full (restOf files.flatten.toArray))) hg
    rwa [tagFiles_faithful] at this
  constructor
  · intro g hg
    exact (List.pairwise_map (f := full _) (R := fun a b : Aln => a.start ≤ b.start)).1 (hs _ (ht g hg))
  · intro b hbm
    obtain ⟨g, hg, hbg⟩ := List.mem_flatten.1 hbm
    exact hb (full _ b) (List.mem_flatten.2 ⟨_, ht g hg, List.mem_map_of_mem hbg⟩)

end IsoVerif.Lemmas.RegionsMulti
