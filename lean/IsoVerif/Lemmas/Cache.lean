/-
Lemmas for C20 (cache protocol): invariants of the interleaved system.  Each is a fact about the world together with a
fact about every process; one step of one process keeps it and keeps the fact of every
other process in the new world (third part of `step`), and `stepSys_invariant` / `run_invariant` carry it through
every interleaving: `SInv` (provenance of every entry), `FInv` (only complete file contents are visible), `CInv` (nobody
crashes), `ConvInv` (the production log), `KInv` (a corrupted file stays).  `step_shape` says what every step does to the
program of its process, `step_data` (`DataStep`) what it does to the data files, the production log and the results;
`fuel` bounds the steps a process can still take (for `drain`); after the start lemmas of `SInv`: the toy codec is lawful
(`toyCodec_lawful`).
The step is analysed by `fun_cases stepProc`, whose cases are the outcomes of `stepProc` in the order of its text:
  1 crashed   2 finished   3 existsQ   4 / 5 openW (the file exists / is created)
  6 / 7 writeBuf (no descriptor: crash / written)   8 replaceBuf   9 / 10 load (fails: crash / succeeds)
  11 / 12 lookup (hit / miss)   13 / 14 / 15 produce (done / the stat after the conversion fails / an input is missing)
-/
import IsoVerif.Model.Cache
import IsoVerif.Lemmas.AssocList

namespace IsoVerif.Lemmas.C20
open IsoVerif.Model.C20 IsoVerif.Lemmas

variable {β : Type}

theorem forall_upd {α : Type} {P : α → Prop} {g : Nat → α} {k : Nat} {v : α} (hv : P v) (hg : ∀ x, P (g x)) :
    ∀ x, P (upd g k v x) := by
  intro x; unfold upd; split
  · exact hv
  · exact hg x

theorem stepSys_invariant {cd : Codec β} {W : World β → Prop} {P : World β → Proc → Prop}
    (step : ∀ w p, W w → P w p → W (stepProc cd w p).1 ∧ P (stepProc cd w p).1 (stepProc cd w p).2 ∧
      ∀ q, P w q → P (stepProc cd w p).1 q)
    (s : Sys β) (pid : Nat) (h : W s.world ∧ ∀ p ∈ s.procs, P s.world p) :
    W (stepSys cd s pid).world ∧ ∀ p ∈ (stepSys cd s pid).procs, P (stepSys cd s pid).world p := by
  unfold stepSys
  split
  · exact h
  · rename_i p hp
    obtain ⟨h1, h2, h3⟩ := step s.world p h.1 (h.2 p (List.mem_of_getElem? hp))
    refine ⟨h1, fun q hq => ?_⟩
    rcases List.mem_or_eq_of_mem_set hq with hq | rfl
    · exact h3 q (h.2 q hq)
    · exact h2

theorem run_invariant {cd : Codec β} {I : Sys β → Prop} (step : ∀ s pid, I s → I (stepSys cd s pid))
    (sched : List Nat) (s : Sys β) (h : I s) : I (run cd s sched) :=
  List.foldlRecOn sched (stepSys cd) h fun s hs pid _ => step s pid hs

theorem run_world_invariant {cd : Codec β} {W : World β → Prop} (step : ∀ w p, W w → W (stepProc cd w p).1)
    (sched : List Nat) (s : Sys β) (h : W s.world) : W (run cd s sched).world :=
  (run_invariant (stepSys_invariant (P := fun _ _ => True) fun w p hw _ => ⟨step w p hw, trivial, fun _ _ => trivial⟩)
    sched s ⟨h, fun _ _ => trivial⟩).1

theorem run_append (cd : Codec β) (s : Sys β) (a b : List Nat) : run cd s (a ++ b) = run cd (run cd s a) b :=
  List.foldl_append

/-- the dict item `x` was written for a production that really took place: same key, and the entry is exactly the
    entry that production computed -/
def Backed (convs : List Conv) (x : Key × Entry) : Prop :=
  ∃ c ∈ convs, c.client.key = x.1 ∧ c.entry = x.2

def AllBacked (convs : List Conv) (d : Cache) : Prop := ∀ x ∈ d, Backed convs x

/-- the artefact a run goes on to use (path @ mtime) is the output of a production for the run's own key and tag,
    recorded for the source mtime(s) the run sees -/
def ResBacked (convs : List Conv) (r : Result) : Prop :=
  ∃ c ∈ convs, c.client.key = r.client.key ∧ c.client.tag = r.client.tag ∧ c.client.target = r.target ∧
    c.srcM = r.srcM ∧ c.tgtM = r.tgtM ∧ c.auxM = r.auxM

def WInv (cd : Codec β) (w : World β) : Prop :=
  ∀ i d, cd.parse (w.inodes i) = some d → AllBacked w.convs d

def PInv (convs : List Conv) (p : Proc) : Prop :=
  (∀ f, AllBacked convs (p.dict f)) ∧ (∀ f x, p.pending f = some x → Backed convs x) ∧
  (∀ r ∈ p.results, ResBacked convs r)

/-- the named parts of `PInv` -/
theorem PInv.dict {convs : List Conv} {p : Proc} (h : PInv convs p) : ∀ f, AllBacked convs (p.dict f) := h.1
theorem PInv.pending {convs : List Conv} {p : Proc} (h : PInv convs p) :
    ∀ f x, p.pending f = some x → Backed convs x := h.2.1
theorem PInv.results {convs : List Conv} {p : Proc} (h : PInv convs p) : ∀ r ∈ p.results, ResBacked convs r := h.2.2

theorem cfind_eq_lookup (d : Cache) (k : Key) : cfind d k = d.lookup k := by
  fun_induction cfind d k with
  | case1 => rfl
  | case2 r k e => rw [List.lookup_cons_self]
  | case3 r k' e k hne ih => rw [List.lookup_cons, beq_false_of_ne (Ne.symm hne), ih]

theorem cset_eq_upsert (d : Cache) (k : Key) (e : Entry) : cset d k e = upsert (fun _ => e) e d k := by
  fun_induction cset d k e <;> simp_all [upsert]

theorem cfind_mem {d : Cache} {k : Key} {e : Entry} (h : cfind d k = some e) : (k, e) ∈ d :=
  mem_of_lookup (cfind_eq_lookup d k ▸ h)

theorem Backed.mono {cs cs' : List Conv} (h : ∀ c ∈ cs, c ∈ cs') {x} : Backed cs x → Backed cs' x :=
  fun ⟨c, hc, hx⟩ => ⟨c, h c hc, hx⟩

theorem AllBacked.mono {cs cs' : List Conv} (h : ∀ c ∈ cs, c ∈ cs') {d} : AllBacked cs d → AllBacked cs' d :=
  fun hd x hx => (hd x hx).mono h

theorem ResBacked.mono {cs cs' : List Conv} (h : ∀ c ∈ cs, c ∈ cs') {r} : ResBacked cs r → ResBacked cs' r :=
  fun ⟨c, hc, hr⟩ => ⟨c, h c hc, hr⟩

theorem PInv.mono {cs cs' : List Conv} (h : ∀ c ∈ cs, c ∈ cs') {p} : PInv cs p → PInv cs' p :=
  fun ⟨h1, h2, h3⟩ => ⟨fun f => (h1 f).mono h, fun f x hx => (h2 f x hx).mono h, fun r hr => (h3 r hr).mono h⟩

theorem AllBacked.nil (cs : List Conv) : AllBacked cs [] := fun _ hx => nomatch hx

theorem AllBacked.cset {cs : List Conv} {d : Cache} {k : Key} {e : Entry}
    (hd : AllBacked cs d) (he : Backed cs (k, e)) : AllBacked cs (cset d k e) :=
  cset_eq_upsert d k e ▸ forall_upsert _ _ d k hd he fun _ _ => he

theorem winv_of {cd : Codec β} {w w' : World β} (hw : WInv cd w) (i : Nat) (b : List β)
    (hi : w'.inodes = upd w.inodes i b) (hc : ∀ c ∈ w.convs, c ∈ w'.convs)
    (hb : ∀ d, cd.parse b = some d → AllBacked w'.convs d) : WInv cd w' := by
  intro j
  rw [hi]
  exact forall_upd (P := fun c => ∀ d, cd.parse c = some d → AllBacked w'.convs d) hb
    (fun j d h => (hw j d h).mono hc) j

theorem lookupHit_spec {w : World β} {d : Cache} {c : Client} {e : Entry} (h : lookupHit w d c = some e) :
    (c.key, e) ∈ d ∧ e.kind = c.file ∧ w.mtime c.src = some e.srcM ∧ w.mtime e.target = some e.tgtM ∧ e.tag = c.tag ∧
    c.aux.map w.mtime = e.aux.map some := by
  unfold lookupHit at h
  split at h
  · cases h
  · rename_i e' hf
    split at h
    · cases h; exact ⟨cfind_mem hf, ‹_›⟩
    · cases h

theorem loadDict_backed {cd : Codec β} {w : World β} (hw : WInv cd w) (f : Nat) :
    AllBacked w.convs ((loadDict cd w f).getD []) := by
  unfold loadDict World.content
  cases w.names f with
  | none => exact AllBacked.nil _
  | some i =>
    show AllBacked _ ((cd.parse (w.inodes i)).getD [])
    cases hp : cd.parse (w.inodes i) with
    | none => exact AllBacked.nil _
    | some d => exact hw i d hp

theorem applyPending_backed {cs : List Conv} {d : Cache} {apply : Bool} {pend : Option (Key × Entry)}
    (hd : AllBacked cs d) (hp : ∀ x, pend = some x → Backed cs x) : AllBacked cs (applyPending d apply pend) := by
  unfold applyPending
  split
  · exact hd.cset (hp _ rfl)
  · exact hd

theorem step_sinv (cd : Codec β) (hl : cd.Lawful) (w : World β) (p : Proc)
    (hw : WInv cd w) (hp : PInv w.convs p) :
    WInv cd (stepProc cd w p).1 ∧ PInv (stepProc cd w p).1.convs (stepProc cd w p).2 ∧
    (∀ c ∈ w.convs, c ∈ (stepProc cd w p).1.convs) := by
  -- a document that begins with the serialised local dict (or `{}`) holds nothing but items of that dict
  have ser (e : Bool) (f : Nat) (t : List β) (d : Cache)
      (h : cd.parse (cd.ser (if e = true then [] else p.dict f) ++ t) = some d) : AllBacked w.convs d := by
    intro x hx
    have hx' := hl.parse_prefix _ _ _ h x hx
    cases e
    · exact hp.1 f x hx'
    · cases hx'
  have nil (d : Cache) (h : cd.parse [] = some d) : AllBacked w.convs d := by rw [hl.parse_nil] at h; cases h
  fun_cases stepProc cd w p with
  | case4 | case5 => exact ⟨winv_of hw _ [] rfl (fun _ h => h) nil, hp, fun _ h => h⟩                -- openW
  | case7 _ f e => exact ⟨winv_of hw _ _ rfl (fun _ h => h) (ser e f _), hp, fun _ h => h⟩            -- writeBuf
  | case8 _ f e =>                                                                                    -- replaceBuf
    exact ⟨winv_of hw _ _ rfl (fun _ h => h) (fun d h => ser e f [] d (by rwa [List.append_nil])), hp, fun _ h => h⟩
  | case10 _ f tol ap =>                                                                              -- load
    refine ⟨hw, ⟨forall_upd (applyPending_backed (loadDict_backed hw f) (hp.2.1 f)) hp.1, ?_, hp.2.2⟩, fun _ h => h⟩
    cases ap
    · exact hp.2.1
    · exact forall_upd (P := fun o => ∀ x, o = some x → Backed w.convs x) (fun _ h => nomatch h) hp.2.1
  | case11 _ c k _ _ e he =>                                                                          -- lookup, hit
    obtain ⟨hm, _, h1, h2, h3, h4⟩ := lookupHit_spec he
    obtain ⟨cv, hcv, hk, rfl⟩ := hp.1 c.file _ hm
    exact ⟨hw, ⟨hp.1, hp.2.1, List.forall_mem_cons.2 ⟨⟨cv, hcv, hk, h3, rfl, rfl, rfl, rfl⟩, hp.2.2⟩⟩, fun _ h => h⟩
  | case13 _ c an _ _ sm am _ _ _ sm' am' =>                                                            -- produce
    -- the new entry and the new result are those of the production just logged
    have hmono : ∀ cv ∈ w.convs, cv ∈ (⟨c, sm, sm', am', w.clock⟩ : Conv) :: w.convs := fun _ => List.mem_cons_of_mem _
    have hnew : Backed ((⟨c, sm, sm', am', w.clock⟩ : Conv) :: w.convs) (c.key, ⟨c.file, c.target, sm', w.clock, c.tag, am'⟩) :=
      ⟨_, List.mem_cons_self, rfl, rfl⟩
    obtain ⟨h1, h2, h3⟩ := hp.mono hmono
    refine ⟨fun i d h => (hw i d h).mono hmono, ⟨?_, ?_, ?_⟩, hmono⟩
    · cases an
      · exact h1
      · exact forall_upd ((h1 c.file).cset hnew) h1
    · cases an
      · exact forall_upd (P := fun o => ∀ x, o = some x → Backed _ x) (fun _ h => Option.some.inj h ▸ hnew) h2
      · exact h2
    · exact List.forall_mem_cons.2 ⟨⟨_, List.mem_cons_self, rfl, rfl, rfl, rfl, rfl, rfl⟩, h3⟩
  | _ => exact ⟨hw, hp, fun _ h => h⟩

/-- system invariant: everything parseable anywhere, every local dict, every pending entry and every result is
    backed by a production that took place -/
def SInv (cd : Codec β) (s : Sys β) : Prop :=
  WInv cd s.world ∧ ∀ p ∈ s.procs, PInv s.world.convs p

theorem stepSys_sinv (cd : Codec β) (hl : cd.Lawful) (s : Sys β) (pid : Nat) (h : SInv cd s) :
    SInv cd (stepSys cd s pid) :=
  stepSys_invariant (P := fun w p => PInv w.convs p)
    (fun w p hw hp => (step_sinv cd hl w p hw hp).imp_right (.imp_right fun h _ => PInv.mono h)) s pid h

theorem run_sinv (cd : Codec β) (hl : cd.Lawful) (sched : List Nat) :
    ∀ (s : Sys β), SInv cd s → SInv cd (run cd s sched) :=
  run_invariant (stepSys_sinv cd hl) sched

theorem Proc.init_pinv (cs : List Conv) (prog : List Instr) : PInv cs (Proc.init prog) :=
  ⟨fun _ => AllBacked.nil _, fun _ x hx => (nomatch (hx : none = some x)), fun _ hr => (List.not_mem_nil hr).elim⟩

theorem fresh_winv (cd : Codec β) (hl : cd.Lawful) (mt : Path → Option Nat) (clock : Nat) :
    WInv cd (World.fresh mt clock) := by
  intro i d h
  rw [show (World.fresh mt clock).inodes i = [] from rfl, hl.parse_nil] at h; cases h

/-- `SInv` is met by every start from an empty cache directory, for any programs -/
theorem start_fresh_sinv (cd : Codec β) (hl : cd.Lawful) (mt : Path → Option Nat) (clock : Nat)
    (progs : List (List Instr)) : SInv cd (Sys.start (World.fresh mt clock) progs) :=
  ⟨fresh_winv cd hl mt clock, List.forall_mem_map.2 fun _ _ => Proc.init_pinv _ _⟩

theorem parseEntries_enc : ∀ (d : Cache) (t : List Nat), parseEntries d.length (encAll d ++ t) = some (d, t) := by
  intro d
  induction d with
  | nil => intro t; rfl
  | cons x r ih =>
    intro t
    have h1 : encAll (x :: r) ++ t = x.1 :: x.2.kind :: x.2.target :: x.2.srcM :: x.2.tgtM :: x.2.tag ::
        x.2.aux.length :: (x.2.aux ++ (encAll r ++ t)) := by simp [encAll, encEntry]
    simp [h1, parseEntries, ih t]

theorem toyParse_ser_append (d : Cache) (t : List Nat) :
    toyParse (toySer d ++ t) = if t = [] then some d else none := by
  simp only [toySer, List.cons_append, toyParse, parseEntries_enc]
  cases t <;> rfl

theorem toyCodec_lawful : toyCodec.Lawful := by
  refine ⟨?_, rfl, ?_⟩
  · intro d t d' h x hx
    simp only [toyCodec, toyParse_ser_append] at h
    split at h
    · cases h; exact hx
    · cases h
  · intro d1 d2 t ht _
    simp only [toyCodec, toyParse_ser_append, if_neg ht]

theorem step_shape (cd : Codec β) (w : World β) (p : Proc) :
    (p.crashed = true ∨ p.todo = []) ∧ stepProc cd w p = (w, p) ∨
    (stepProc cd w p).2.crashed = true ∧ (stepProc cd w p).2.todo = p.todo ∨
    ∃ i rest, p.todo = i :: rest ∧ p.crashed = false ∧ (stepProc cd w p).2.crashed = false ∧
      (stepProc cd w p).2.todo.Sublist rest := by
  have consumed (p' : Proc) (i : Instr) (rest : List Instr) (hc : ¬p.crashed = true) (h : p.todo = i :: rest)
      (hc' : p'.crashed = p.crashed) (hs : p'.todo.Sublist rest) :
      ∃ i rest, p.todo = i :: rest ∧ p.crashed = false ∧ p'.crashed = false ∧ p'.todo.Sublist rest :=
    ⟨i, rest, h, Bool.eq_false_iff.2 hc, hc'.trans (Bool.eq_false_iff.2 hc), hs⟩
  fun_cases stepProc cd w p with
  | case1 h => exact Or.inl ⟨Or.inl h, rfl⟩
  | case2 _ h => exact Or.inl ⟨Or.inr h, rfl⟩
  | case6 | case9 | case14 | case15 => exact Or.inr (Or.inl ⟨rfl, rfl⟩)
  | case3 hc f k rest h =>
    refine Or.inr (Or.inr (consumed _ _ rest hc h rfl ?_))
    show (if (w.names f).isSome then rest.drop k else rest).Sublist rest
    split
    · exact List.drop_sublist k rest
    · exact .refl _
  | case11 hc c k rest h => exact Or.inr (Or.inr (consumed _ _ rest hc h rfl (List.drop_sublist k rest)))
  | case4 hc _ rest h | case5 hc _ rest h | case7 hc _ _ rest h | case8 hc _ _ rest h | case10 hc _ _ _ rest h
  | case12 hc _ _ rest h | case13 hc _ _ rest h => exact Or.inr (Or.inr (consumed _ _ rest hc h rfl (.refl _)))

theorem step_todo_sub (cd : Codec β) (w : World β) (p : Proc) :
    ∀ i ∈ (stepProc cd w p).2.todo, i ∈ p.todo := by
  rcases step_shape cd w p with ⟨_, h⟩ | ⟨_, h⟩ | ⟨i, rest, h, _, _, hs⟩
  · rw [h]; exact fun _ h => h
  · rw [h]; exact fun _ h => h
  · rw [h]; exact fun _ hi => List.mem_cons_of_mem _ (hs.subset hi)

/-- the steps a process can still take: none for a crashed or finished one -/
def fuel (p : Proc) : Nat := if p.crashed then 0 else p.todo.length

theorem fuel_eq_zero {p : Proc} : fuel p = 0 ↔ p.crashed = true ∨ p.todo = [] := by
  unfold fuel; cases p.crashed <;> simp

theorem step_fuel (cd : Codec β) (w : World β) (p : Proc) : fuel (stepProc cd w p).2 ≤ fuel p - 1 := by
  rcases step_shape cd w p with ⟨h0, h⟩ | ⟨h, _⟩ | ⟨i, rest, h, hc, hc', hs⟩
  · rw [h, fuel_eq_zero.2 h0]; exact Nat.le_refl _
  · rw [fuel_eq_zero.2 (Or.inl h)]; exact Nat.zero_le _
  · unfold fuel; rw [hc, hc', h]; exact hs.length_le

/-! ### the fixed protocol: only complete states are ever visible -/

/-- `c` is a complete buffer that some store handed over, or what a file held at the start -/
def Full (w0 w : World β) (c : List β) : Prop := c ∈ w.stored ∨ ∃ f, w0.content f = some c

/-- names point to allocated inodes; what a file holds, and what a load has observed, is a complete buffer -/
def FWInv (w0 w : World β) : Prop :=
  (∀ f i, w.names f = some i → i < w.nextInode) ∧
  (∀ f c, w.content f = some c → Full w0 w c) ∧
  (∀ f c, (f, some c) ∈ w.obs → Full w0 w c)

theorem Full.mono {w0 w w' : World β} (h : ∀ b ∈ w.stored, b ∈ w'.stored) {c} : Full w0 w c → Full w0 w' c :=
  Or.imp_left (h c)

theorem finv_replace (w0 w : World β) (hw : FWInv w0 w) (f : Nat) (buf : List β) :
    FWInv w0 { w with names := upd w.names f (some w.nextInode), inodes := upd w.inodes w.nextInode buf,
                      nextInode := w.nextInode + 1, stored := buf :: w.stored } := by
  obtain ⟨h1, h2, h3⟩ := hw
  have hst : ∀ b ∈ w.stored, b ∈ buf :: w.stored := fun b hb => List.mem_cons_of_mem _ hb
  refine ⟨forall_upd (P := fun o => ∀ i, o = some i → i < w.nextInode + 1)
      (fun i hi => Option.some.inj hi ▸ Nat.lt_succ_self _) (fun f' i hi => Nat.lt_succ_of_lt (h1 f' i hi)),
    fun f' c hc => ?_, fun f' c hc => (h3 f' c hc).mono hst⟩
  -- the new name points to the whole buffer, the other names to inodes older than the new one
  revert hc
  show (upd w.names f (some w.nextInode) f').map (upd w.inodes w.nextInode buf) = some c → _
  unfold upd
  split
  · rintro ⟨⟩; exact Or.inl (by simp)
  · cases hn : w.names f' with
    | none => rintro ⟨⟩
    | some j =>
      intro hc
      rw [Option.map_some, if_neg (Nat.ne_of_lt (h1 f' j hn))] at hc
      exact (h2 f' c (by unfold World.content; rw [hn]; exact hc)).mono hst

theorem step_finv (cd : Codec β) (w0 w : World β) (p : Proc) (hw : FWInv w0 w)
    (hat : ∀ i ∈ p.todo, i.atomic = true) : FWInv w0 (stepProc cd w p).1 := by
  have head (i : Instr) (rest : List Instr) (h : p.todo = i :: rest) : i.atomic = true :=
    hat i (h ▸ List.mem_cons_self)
  fun_cases stepProc cd w p with
  | case4 _ f rest h | case5 _ f rest h => cases head _ _ h
  | case6 _ f e rest h | case7 _ f e rest h => cases head _ _ h
  | case8 => exact finv_replace w0 w hw _ _
  | case9 _ f | case10 _ f =>   -- load: what it observes is what the name points to
    refine ⟨hw.1, hw.2.1, fun f' c hc => ?_⟩
    rcases List.mem_cons.1 hc with hc | hc
    · obtain ⟨rfl, h⟩ := Prod.mk.inj hc
      exact hw.2.1 f' c h.symm
    · exact hw.2.2 f' c hc
  | _ => exact hw

/-- every buffer handed to a store is the serialisation of a whole dict -/
def StoredSer (cd : Codec β) (w : World β) : Prop := ∀ b ∈ w.stored, ∃ d, b = cd.ser d

theorem step_storedSer (cd : Codec β) (w : World β) (p : Proc) (h : StoredSer cd w) :
    StoredSer cd (stepProc cd w p).1 := by
  fun_cases stepProc cd w p with
  | case7 | case8 => exact List.forall_mem_cons.2 ⟨⟨_, rfl⟩, h⟩
  | _ => exact h

/-! ### the fixed protocol: every run completes -/

/-- instruction that cannot fail: atomic, tolerant reading, and the inputs of a production exist — in the START world
    `w0`: data files are never removed (`PresInv`), so they exist whenever the instruction runs -/
def SafeI (w0 : World β) : Instr → Prop
  | .openW _ => False
  | .writeBuf _ _ => False
  | .load _ tol _ => tol = true
  | .produce c _ => (w0.mtime c.src).isSome ∧ ∀ a ∈ c.aux, (w0.mtime a).isSome
  | _ => True

/-- safe in every world: no in-place write, no strict load, no production -/
def safeB : Instr → Bool
  | .existsQ .. | .replaceBuf .. | .lookup .. => true
  | .load _ tol _ => tol
  | _ => false

theorem SafeI.of_safeB {w0 : World β} {i : Instr} (h : safeB i = true) : SafeI w0 i := by
  cases i <;> first | trivial | exact h | cases h

theorem safe_around_produce (w0 : World β) (pre post : List Instr) (c : Client) (an : Bool)
    (hpre : pre.all safeB = true) (hpost : post.all safeB = true)
    (hc : (w0.mtime c.src).isSome ∧ ∀ a ∈ c.aux, (w0.mtime a).isSome) :
    ∀ i ∈ pre ++ .produce c an :: post, SafeI w0 i :=
  List.forall_mem_append.2 ⟨fun i hi => .of_safeB (List.all_eq_true.1 hpre i hi),
    List.forall_mem_cons.2 ⟨hc, fun i hi => .of_safeB (List.all_eq_true.1 hpost i hi)⟩⟩

/-- what existed at the start still exists -/
def PresInv (w0 w : World β) : Prop := ∀ path, (w0.mtime path).isSome → (w.mtime path).isSome

theorem allSome_map_isSome (f : Nat → Option Nat) (l : List Nat) :
    (allSome (l.map f)).isSome ↔ ∀ a ∈ l, (f a).isSome := by
  induction l with
  | nil => simp [allSome]
  | cons a r ih => cases h : f a <;> simp [allSome, h, ← ih]

theorem isSome_upd_some {α} (m : Nat → Option α) (t : Nat) (v : α) (x : Nat) (h : (m x).isSome) :
    (upd m t (some v) x).isSome := by
  unfold upd; split
  · rfl
  · exact h

/-- the stat calls after a conversion cannot fail when those before it succeeded (the conversion only adds a file) -/
theorem second_stat_ok (w : World β) (c : Client) (sm : Nat) (am : List Nat) (hs : w.mtime c.src = some sm)
    (ha : allSome (c.aux.map w.mtime) = some am) :
    ∃ sm' am', upd w.mtime c.target (some w.clock) c.src = some sm' ∧
      allSome (c.aux.map (upd w.mtime c.target (some w.clock))) = some am' := by
  have hmono := isSome_upd_some w.mtime c.target w.clock
  have ⟨sm', h1⟩ := Option.isSome_iff_exists.1 (hmono c.src (hs ▸ rfl))
  have ⟨am', h2⟩ := Option.isSome_iff_exists.1 ((allSome_map_isSome _ c.aux).2 fun a hmem =>
    hmono a ((allSome_map_isSome w.mtime c.aux).1 (ha ▸ rfl) a hmem))
  exact ⟨sm', am', h1, h2⟩

theorem step_safe (cd : Codec β) (w0 w : World β) (p : Proc) (hpres : PresInv w0 w) (hc : p.crashed = false)
    (hs : ∀ i ∈ p.todo, SafeI w0 i) :
    PresInv w0 (stepProc cd w p).1 ∧ (stepProc cd w p).2.crashed = false := by
  have head (i : Instr) (rest : List Instr) (h : p.todo = i :: rest) : SafeI w0 i := hs i (h ▸ List.mem_cons_self)
  -- the conversion only adds a file: the inputs of a safe production are there before it (case 15) and after it (case 14)
  have after (c : Client) (path : Path) (h : (w0.mtime path).isSome) :=
    isSome_upd_some w.mtime c.target w.clock path (hpres path h)
  fun_cases stepProc cd w p with
  | case1 h => rw [hc] at h; cases h
  | case4 _ f rest h | case5 _ f rest h => cases head _ _ h
  | case6 _ f e rest h | case7 _ f e rest h => cases head _ _ h
  | case9 _ f tol ap rest h _ _ hfail => rw [head _ _ h] at hfail; cases hfail.2
  | case13 _ c => exact ⟨after c, hc⟩
  | case14 _ c an rest h sm am ham hsm _ hne =>
    have ⟨sm', am', h1, h2⟩ := second_stat_ok w c sm am hsm ham
    cases hne sm' am' h1 h2
  | case15 _ c an rest h hne =>
    have ⟨sm, hsm⟩ := Option.isSome_iff_exists.1 (hpres _ (head _ _ h).1)
    have ⟨am, ham⟩ := Option.isSome_iff_exists.1
      ((allSome_map_isSome w.mtime c.aux).2 fun a ha => hpres a ((head _ _ h).2 a ha))
    cases hne sm am hsm ham
  | _ => exact ⟨hpres, hc⟩

def CInv (w0 : World β) (s : Sys β) : Prop :=
  PresInv w0 s.world ∧ ∀ p ∈ s.procs, p.crashed = false ∧ ∀ i ∈ p.todo, SafeI w0 i

theorem run_cinv (cd : Codec β) (w0 : World β) (sched : List Nat) :
    ∀ (s : Sys β), CInv w0 s → CInv w0 (run cd s sched) :=
  run_invariant (stepSys_invariant (P := fun _ p => p.crashed = false ∧ ∀ i ∈ p.todo, SafeI w0 i)
    fun w p hw hp => have ⟨h1, h2⟩ := step_safe cd w0 w p hw hp.1 hp.2
      ⟨h1, ⟨h2, fun i hi => hp.2 i (step_todo_sub cd w p i hi)⟩, fun _ h => h⟩) sched

def FInv (w0 : World β) (s : Sys β) : Prop :=
  FWInv w0 s.world ∧ ∀ p ∈ s.procs, ∀ i ∈ p.todo, i.atomic = true

theorem run_finv (cd : Codec β) (w0 : World β) (sched : List Nat) :
    ∀ (s : Sys β), FInv w0 s → FInv w0 (run cd s sched) :=
  run_invariant (stepSys_invariant (P := fun _ p => ∀ i ∈ p.todo, i.atomic = true)
    fun w p hw hp => ⟨step_finv cd w0 w p hw hp, fun i hi => hp i (step_todo_sub cd w p i hi), fun _ h => h⟩) sched

theorem finv_start (s0 : Sys β) (hnames : ∀ f i, s0.world.names f = some i → i < s0.world.nextInode)
    (hobs : s0.world.obs = []) (hat : ∀ p ∈ s0.procs, ∀ i ∈ p.todo, i.atomic = true) : FInv s0.world s0 :=
  ⟨⟨hnames, fun f c hc => Or.inr ⟨f, hc⟩, fun f c hc => by rw [hobs] at hc; cases hc⟩, hat⟩

theorem run_storedSer (cd : Codec β) (sched : List Nat) :
    ∀ (s : Sys β), StoredSer cd s.world → StoredSer cd (run cd s sched).world :=
  run_world_invariant (step_storedSer cd) sched

theorem stepN_eq_run (cd : Codec β) (pid : Nat) : ∀ (n : Nat) (s : Sys β),
    stepN cd s pid n = run cd s (List.replicate n pid)
  | 0, _ => rfl
  | n + 1, s => stepN_eq_run cd pid n (stepSys cd s pid)

theorem drainFrom_eq_run (cd : Codec β) : ∀ (n : Nat) (s : Sys β) (pid : Nat),
    ∃ sch, drainFrom cd s pid n = run cd s sch
  | 0, _, _ => ⟨[], rfl⟩
  | n + 1, s, pid =>
    have ⟨sch, h⟩ := drainFrom_eq_run cd n (stepN cd s pid _) (pid + 1)
    ⟨_ ++ sch, h.trans (by rw [stepN_eq_run, run_append])⟩

theorem drain_eq_run (cd : Codec β) (s : Sys β) : ∃ sch, drain cd s = run cd s sch :=
  drainFrom_eq_run cd _ s 0

def fuelAt (s : Sys β) (q : Nat) : Nat := (s.procs[q]?.map fuel).getD 0

theorem stepSys_fuelAt (cd : Codec β) (s : Sys β) (pid q : Nat) :
    fuelAt (stepSys cd s pid) q ≤ fuelAt s q - if q = pid then 1 else 0 := by
  unfold stepSys fuelAt
  by_cases h : q = pid
  · subst h
    split
    · rename_i hp; simp [hp]
    · rename_i p hp
      dsimp only
      rw [List.getElem?_set_self (List.getElem?_eq_some_iff.1 hp).1, hp]
      simpa using step_fuel cd s.world p
  · rw [if_neg h]
    split
    · exact Nat.le_refl _
    · dsimp only; rw [List.getElem?_set_ne (Ne.symm h)]; exact Nat.le_refl _

theorem fuelAt_run_le (cd : Codec β) (q : Nat) (sch : List Nat) (s : Sys β) : fuelAt (run cd s sch) q ≤ fuelAt s q :=
  run_invariant (I := fun s' => fuelAt s' q ≤ fuelAt s q)
    (fun s' pid h => Nat.le_trans (Nat.le_trans (stepSys_fuelAt cd s' pid q) (Nat.sub_le _ _)) h) sch s (Nat.le_refl _)

theorem stepN_fuelAt (cd : Codec β) (pid : Nat) : ∀ (n : Nat) (s : Sys β),
    fuelAt (stepN cd s pid n) pid ≤ fuelAt s pid - n
  | 0, _ => Nat.le_refl _
  | n + 1, s =>
    calc fuelAt (stepN cd (stepSys cd s pid) pid n) pid
      _ ≤ fuelAt (stepSys cd s pid) pid - n := stepN_fuelAt cd pid n _
      _ ≤ fuelAt s pid - 1 - n := Nat.sub_le_sub_right (by simpa using stepSys_fuelAt cd s pid pid) n
      _ = fuelAt s pid - (n + 1) := by rw [Nat.sub_sub, Nat.add_comm]

/-- `drainFrom … pid n` leaves the processes `pid, …, pid + n - 1` without fuel: each is given as many steps as its
    program is long, and nothing that happens later gives fuel back -/
theorem drainFrom_fuelAt (cd : Codec β) (q : Nat) : ∀ (n : Nat) (s : Sys β) (pid : Nat),
    pid ≤ q → q < pid + n → fuelAt (drainFrom cd s pid n) q = 0
  | 0, _, _, h1, h2 => absurd h2 (Nat.not_lt.2 h1)
  | n + 1, s, pid, h1, h2 => by
    show fuelAt (drainFrom cd (stepN cd s pid _) (pid + 1) n) q = 0
    rcases Nat.eq_or_lt_of_le h1 with rfl | h
    · have h3 : fuelAt s pid ≤ (match s.procs[pid]? with | some p => p.todo.length | none => 0) := by
        unfold fuelAt fuel; cases s.procs[pid]? <;> simp; split <;> simp
      obtain ⟨sch, hs⟩ := drainFrom_eq_run cd n (stepN cd s pid _) (pid + 1)
      rw [hs]
      exact Nat.eq_zero_of_le_zero (Nat.le_trans (fuelAt_run_le cd pid sch _)
        (Nat.le_trans (stepN_fuelAt cd pid _ s) (Nat.le_of_eq (Nat.sub_eq_zero_of_le h3))))
    · exact drainFrom_fuelAt cd q n _ (pid + 1) h (by omega)

theorem drain_stuck (cd : Codec β) (s : Sys β) :
    ∀ p ∈ (drain cd s).procs, p.crashed = true ∨ p.todo = [] := by
  intro p hp
  obtain ⟨q, hq⟩ := List.getElem?_of_mem hp
  have hf : fuelAt (drain cd s) q = fuel p := by unfold fuelAt; rw [hq]; rfl
  refine fuel_eq_zero.1 (hf ▸ ?_)
  rcases Nat.lt_or_ge q s.procs.length with h | h
  · exact drainFrom_fuelAt cd q _ s 0 (Nat.zero_le q) (by omega)
  · obtain ⟨sch, hs⟩ := drain_eq_run cd s
    have h0 : fuelAt s q = 0 := by unfold fuelAt; rw [List.getElem?_eq_none h]; rfl
    exact Nat.eq_zero_of_le_zero (h0 ▸ hs ▸ fuelAt_run_le cd q sch s)

/-- What one step does to the data files (`mtime`, `clock`), the production log and the results of its process.
    Only a `produce` whose inputs exist touches them: it writes its target at the present clock value, logs the
    production, takes the target off its pending list and records the result.  Every other step leaves them alone; the
    only other new result is a cache hit, which is stable when it is taken. -/
inductive DataStep (w : World β) (p : Proc) (w' : World β) (p' : Proc) : Prop
  | same (hm : w'.mtime = w.mtime) (hc : w'.clock = w.clock) (hv : w'.convs = w.convs)
      (hr : ∀ r ∈ p'.results, r ∈ p.results ∨ r.stable w)
  | produced (c : Client) (sm sm' : Nat) (am' : List Nat)
      (hsm : w.mtime c.src = some sm) (hsm' : upd w.mtime c.target (some w.clock) c.src = some sm')
      (hm : w'.mtime = upd w.mtime c.target (some w.clock)) (hc : w'.clock = w.clock + 1)
      (hv : w'.convs = ⟨c, sm, sm', am', w.clock⟩ :: w.convs)
      (ht : p.toProduce = c.target :: p'.toProduce)
      (hr : p'.results = ⟨c, c.target, sm', w.clock, am', false⟩ :: p.results)

theorem step_data (cd : Codec β) (w : World β) (p : Proc) :
    DataStep w p (stepProc cd w p).1 (stepProc cd w p).2 := by
  fun_cases stepProc cd w p with
  | case11 _ c k rest _ e he =>                      -- lookup, hit
    exact .same rfl rfl rfl (List.forall_mem_cons.2 ⟨Or.inr (lookupHit_spec he).2.2.2.1, fun _ => Or.inl⟩)
  | case13 hc c an rest h sm am _ hsm _ sm' am' _ hsm' =>   -- produce
    refine .produced c sm sm' am' hsm hsm' rfl rfl rfl ?_ rfl
    unfold Proc.toProduce; rw [if_neg hc, if_neg hc, h]; rfl
  | case14 _ c an rest _ sm am ham hsm _ hne =>      -- the stat after the conversion fails: it cannot
    have ⟨sm', am', h1, h2⟩ := second_stat_ok w c sm am hsm ham
    exact absurd h2 (hne sm' am' h1)
  | _ => exact .same rfl rfl rfl fun _ => Or.inl

/-- every logged production is older than the clock; (path, mtime) identifies one production; and unless a production
    overwrites its own source, the source mtime it recorded is the mtime of what it converted -/
def ConvInv (w : World β) : Prop :=
  (∀ c ∈ w.convs, c.tgtM < w.clock) ∧
  (∀ c1 ∈ w.convs, ∀ c2 ∈ w.convs, c1.client.target = c2.client.target → c1.tgtM = c2.tgtM → c1 = c2) ∧
  (∀ c ∈ w.convs, c.client.target ≠ c.client.src → c.srcM0 = c.srcM)

/-- `ConvInv` holds at every start without history: the log is empty -/
theorem convInv_start_fresh (mt : Path → Option Nat) (clock : Nat) (progs : List (List Instr)) :
    ConvInv (Sys.start (World.fresh (β := β) mt clock) progs).world :=
  ⟨fun _ => nofun, fun _ => nofun, fun _ => nofun⟩

theorem step_convInv (cd : Codec β) (w : World β) (p : Proc) (h : ConvInv w) : ConvInv (stepProc cd w p).1 := by
  obtain ⟨h1, h2, h3⟩ := h
  unfold ConvInv
  cases step_data cd w p with
  | same _ hc hv => rw [hc, hv]; exact ⟨h1, h2, h3⟩
  | produced c sm sm' am' hsm hsm' _ hc hv =>
    rw [hc, hv]
    -- the new production carries the present clock value, which no logged one has
    refine ⟨List.forall_mem_cons.2 ⟨Nat.lt_succ_self _, fun cv hcv => Nat.lt_succ_of_lt (h1 cv hcv)⟩, ?_,
      List.forall_mem_cons.2 ⟨fun hne => ?_, h3⟩⟩
    · intro c1 hc1 c2 hc2 ht hm
      rcases List.mem_cons.1 hc1 with rfl | e1 <;> rcases List.mem_cons.1 hc2 with rfl | e2
      · rfl
      · exact absurd hm (Nat.ne_of_gt (h1 c2 e2))
      · exact absurd hm (Nat.ne_of_lt (h1 c1 e1))
      · exact h2 c1 e1 c2 e2 ht hm
    · have : upd w.mtime c.target (some w.clock) c.src = w.mtime c.src := if_neg (Ne.symm hne)
      exact Option.some.inj (hsm.symm.trans (this.symm.trans hsm'))

theorem run_convInv (cd : Codec β) (sched : List Nat) :
    ∀ (s : Sys β), ConvInv s.world → ConvInv (run cd s sched).world :=
  run_world_invariant (step_convInv cd) sched

/-! ### original protocol: a corrupted db_config.json stays corrupted and fails every later run -/

/-- from here the process cannot write config file 0 before it performs a strict load of it -/
inductive Doomed : List Instr → Prop
  | load (ap rest) : Doomed (.load 0 false ap :: rest)
  | exists0 (k rest) : Doomed (rest.drop k) → Doomed (.existsQ 0 k :: rest)
  | existsOther (f k rest) : f ≠ 0 → Doomed rest → Doomed (rest.drop k) → Doomed (.existsQ f k :: rest)
  | openW (f rest) : f ≠ 0 → Doomed rest → Doomed (.openW f :: rest)
  | writeBuf (f e rest) : f ≠ 0 → Doomed rest → Doomed (.writeBuf f e :: rest)
  | replaceBuf (f e rest) : f ≠ 0 → Doomed rest → Doomed (.replaceBuf f e :: rest)
  | loadOther (f t ap rest) : f ≠ 0 → Doomed rest → Doomed (.load f t ap :: rest)
  | lookup (c k rest) : Doomed rest → Doomed (rest.drop k) → Doomed (.lookup c k :: rest)
  | produce (c an rest) : Doomed rest → Doomed (.produce c an :: rest)

theorem Doomed.ne_nil {l : List Instr} (h : Doomed l) : l ≠ [] := by
  cases h <;> exact List.cons_ne_nil _ _

/-- file 0 is the inode `i0` holding `bad`, and nothing else refers to that inode -/
def KWInv (i0 : Nat) (bad : List β) (w : World β) : Prop :=
  w.names 0 = some i0 ∧ w.inodes i0 = bad ∧ i0 < w.nextInode ∧ ∀ f, f ≠ 0 → w.names f ≠ some i0

def KPInv (i0 : Nat) (p : Proc) : Prop :=
  (p.crashed = true ∨ Doomed p.todo) ∧ ∀ f, p.fd f ≠ some i0

theorem KWInv.write {i0 : Nat} {bad : List β} {w w' : World β} (h : KWInv i0 bad w) {i : Nat} (hi : i ≠ i0)
    (b : List β) (hn : w'.names = w.names) (hin : w'.inodes = upd w.inodes i b) (hx : w'.nextInode = w.nextInode) :
    KWInv i0 bad w' := by
  unfold KWInv; rw [hn, hin, hx]
  exact ⟨h.1, (if_neg (Ne.symm hi)).trans h.2.1, h.2.2⟩

theorem KWInv.alloc {i0 : Nat} {bad : List β} {w w' : World β} (h : KWInv i0 bad w) {f : Nat} (hf : f ≠ 0)
    (b : List β) (hn : w'.names = upd w.names f (some w.nextInode)) (hin : w'.inodes = upd w.inodes w.nextInode b)
    (hx : w'.nextInode = w.nextInode + 1) : KWInv i0 bad w' := by
  unfold KWInv; rw [hn, hin, hx]
  refine ⟨(if_neg (Ne.symm hf)).trans h.1, (if_neg (Nat.ne_of_lt h.2.2.1)).trans h.2.1, Nat.lt_succ_of_lt h.2.2.1,
    fun f' hf' => ?_⟩
  unfold upd; split
  · exact fun e => Nat.ne_of_lt h.2.2.1 (Option.some.inj e).symm
  · exact h.2.2.2 f' hf'

theorem step_kinv (cd : Codec β) (i0 : Nat) (bad : List β) (hbad : cd.parse bad = none) (w : World β) (p : Proc)
    (hw : KWInv i0 bad w) (hp : KPInv i0 p) :
    KWInv i0 bad (stepProc cd w p).1 ∧ KPInv i0 (stepProc cd w p).2 := by
  obtain ⟨hd, hfd⟩ := hp
  have doomed (hc : ¬p.crashed = true) : Doomed p.todo := hd.resolve_left hc
  have fd_upd (f : Nat) (o : Option Nat) (ho : o ≠ some i0) : ∀ f', upd p.fd f o f' ≠ some i0 :=
    forall_upd (P := (· ≠ some i0)) ho hfd
  fun_cases stepProc cd w p with
  | case1 | case2 => exact ⟨hw, hd, hfd⟩
  | case3 hc f k rest h =>                                        -- existsQ
    refine ⟨hw, Or.inr ?_, hfd⟩
    cases h ▸ doomed hc with
    | exists0 _ _ h => rw [hw.1]; exact h
    | existsOther _ _ _ _ h1 h2 => split <;> assumption
  | case4 hc f rest h i hn =>                                     -- openW, the file exists: another inode
    cases h ▸ doomed hc with
    | openW _ _ hf hd =>
      have hne : i ≠ i0 := fun e => hw.2.2.2 f hf (e ▸ hn)
      exact ⟨hw.write hne [] rfl rfl rfl, Or.inr hd, fd_upd f _ fun e => hne (Option.some.inj e)⟩
  | case5 hc f rest h hn =>                                       -- openW, new file
    cases h ▸ doomed hc with
    | openW _ _ hf hd =>
      exact ⟨hw.alloc hf [] rfl rfl rfl, Or.inr hd, fd_upd f _ fun e => Nat.ne_of_lt hw.2.2.1 (Option.some.inj e).symm⟩
  | case6 | case9 | case14 | case15 => exact ⟨hw, Or.inl rfl, hfd⟩
  | case7 hc f e rest h i hi =>                                   -- writeBuf: through a descriptor of another inode
    cases h ▸ doomed hc with
    | writeBuf _ _ _ hf hd =>
      exact ⟨hw.write (fun e => hfd f (e ▸ hi)) _ rfl rfl rfl, Or.inr hd, fd_upd f none nofun⟩
  | case8 hc f e rest h =>                                        -- replaceBuf of another file
    cases h ▸ doomed hc with
    | replaceBuf _ _ _ hf hd => exact ⟨hw.alloc hf _ rfl rfl rfl, Or.inr hd, hfd⟩
  | case10 hc f tol ap rest h _ _ hok =>                          -- load that succeeds: not the strict load of file 0
    cases h ▸ doomed hc with
    | load =>
      have : loadDict cd w 0 = none := by simp only [loadDict, World.content, hw.1, Option.map_some, hw.2.1, hbad]
      exact absurd ⟨congrArg Option.isNone this, rfl⟩ hok
    | loadOther _ _ _ _ _ hd => exact ⟨hw, Or.inr hd, hfd⟩
  | case11 hc c k rest h =>                                       -- lookup
    cases h ▸ doomed hc with
    | lookup _ _ _ _ hd => exact ⟨hw, Or.inr hd, hfd⟩
  | case12 hc c k rest h =>
    cases h ▸ doomed hc with
    | lookup _ _ _ hd _ => exact ⟨hw, Or.inr hd, hfd⟩
  | case13 hc c an rest h =>                                      -- produce
    cases h ▸ doomed hc with
    | produce _ _ _ hd => exact ⟨hw, Or.inr hd, hfd⟩

def KInv (i0 : Nat) (bad : List β) (s : Sys β) : Prop :=
  KWInv i0 bad s.world ∧ ∀ p ∈ s.procs, KPInv i0 p

theorem run_kinv (cd : Codec β) (i0 : Nat) (bad : List β) (hbad : cd.parse bad = none) (sched : List Nat) :
    ∀ (s : Sys β), KInv i0 bad s → KInv i0 bad (run cd s sched) :=
  run_invariant (stepSys_invariant (P := fun _ p => KPInv i0 p)
    fun w p hw hp => (step_kinv cd i0 bad hbad w p hw hp).imp_right fun h => ⟨h, fun _ h => h⟩) sched

end IsoVerif.Lemmas.C20
