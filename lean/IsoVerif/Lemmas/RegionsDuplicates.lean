/-
Helper lemmas for C05 (Props/C05.lean), de-duplication of an alignment seen in several regions: `find_duplicates`
(the nested loop with its discarded set) and the index selection of `select_best_assignment` (what it offers is never
empty and only holds indices of the record list).
-/
import IsoVerif.Model.Regions
import IsoVerif.Lemmas.Interval

namespace IsoVerif.Lemmas.Regions
open IsoVerif.Gen IsoVerif.Model.Regions

section fd
variable {α : Type} [DecidableEq α] (eq : α → α → Bool)

theorem mem_fdInner (x : α) : ∀ (ys disc : List α) (z : α),
    z ∈ fdInner eq x ys disc ↔ z ∈ disc ∨ (z ∈ ys ∧ eq x z = true) := by
  intro ys
  induction ys with
  | nil => grind [fdInner]
  | cons y ys ih => grind [fdInner]

theorem fdOuter_spec : ∀ (l disc : List α),
    (fdOuter eq l disc).Sublist l ∧ (∀ z, z ∈ fdOuter eq l disc → z ∉ disc) ∧
    (fdOuter eq l disc).Pairwise (fun a b => eq a b = false) ∧
    ∀ y, y ∈ l → y ∉ disc → ∃ x, x ∈ fdOuter eq l disc ∧ (x = y ∨ eq x y = true) := by
  intro l
  induction l with
  | nil => intro disc; exact ⟨List.Sublist.refl _, nofun, List.Pairwise.nil, nofun⟩
  | cons x rest ih =>
    intro disc
    rw [fdOuter]
    by_cases hc : disc.contains x = true
    · rw [if_pos hc]
      obtain ⟨h1, h2, h3, h4⟩ := ih disc
      refine ⟨h1.trans (List.sublist_cons_self x rest), h2, h3, fun y hy hnd => ?_⟩
      rcases List.mem_cons.1 hy with rfl | hmem
      · exact absurd (List.contains_iff_mem.1 hc) hnd
      · exact h4 y hmem hnd
    · rw [if_neg hc]
      obtain ⟨h1, h2, h3, h4⟩ := ih (fdInner eq x rest disc)
      have hin := mem_fdInner eq x rest disc
      refine ⟨h1.cons_cons x, fun z hz => ?_, List.pairwise_cons.2 ⟨fun z hz => ?_, h3⟩, fun y hy hnd => ?_⟩
      · rcases List.mem_cons.1 hz with rfl | hmem
        · exact fun h => hc (List.contains_iff_mem.2 h)
        · exact fun hd => h2 z hmem ((hin z).2 (Or.inl hd))
      · cases he : eq x z with
        | false => rfl
        | true => exact absurd ((hin z).2 (Or.inr ⟨h1.subset hz, he⟩)) (h2 z hz)
      · rcases List.mem_cons.1 hy with rfl | hmem
        · exact ⟨y, List.mem_cons_self .., Or.inl rfl⟩
        · by_cases hyd : y ∈ fdInner eq x rest disc
          · rcases (hin y).1 hyd with h | h
            · exact absurd h hnd
            · exact ⟨x, List.mem_cons_self .., Or.inr h.2⟩
          · obtain ⟨x', hx', hx''⟩ := h4 y hmem hyd
            exact ⟨x', List.mem_cons_of_mem _ hx', hx''⟩

theorem findDuplicates_spec (idxs : List α) :
    (findDuplicates eq idxs).Sublist idxs ∧
    (findDuplicates eq idxs).Pairwise (fun a b => eq a b = false) ∧
    (∀ y, y ∈ idxs → ∃ x, x ∈ findDuplicates eq idxs ∧ (x = y ∨ eq x y = true)) ∧
    (idxs ≠ [] → findDuplicates eq idxs ≠ []) := by
  unfold findDuplicates
  split
  · rename_i hl
    refine ⟨List.Sublist.refl _, ?_, fun y hy => ⟨y, hy, Or.inl rfl⟩, fun h => h⟩
    match idxs, hl with
    | [], _ => simp
    | [a], _ => simp
    | _ :: _ :: _, hl => simp at hl
  · obtain ⟨h1, _, h3, h4⟩ := fdOuter_spec eq idxs []
    refine ⟨h1, h3, fun y hy => h4 y hy List.not_mem_nil, fun hne => ?_⟩
    match idxs, hne with
    | x :: rest, _ => simp [fdOuter]

end fd

theorem idxFilter_lt (recs : List Rec) (p : Rec → Bool) : ∀ i, i ∈ idxFilter recs p → i < recs.length := by
  intro i hi
  unfold idxFilter at hi
  have := (List.mem_filter.1 hi).1
  simpa using this

theorem scored_spec (g : Rec → Int) (recs : List Rec) (idxs : List Nat) (hne : idxs ≠ [])
    (hlt : ∀ i, i ∈ idxs → i < recs.length) :
    idxs.filterMap (fun i => (recs[i]?).map (fun r => (g r, i))) ≠ [] ∧
      ∀ x, x ∈ idxs.filterMap (fun i => (recs[i]?).map (fun r => (g r, i))) → x.2 ∈ idxs ∧ ∃ r, x.1 = g r := by
  constructor
  · match idxs, hne, hlt with
    | i :: rest, _, hlt => simp [List.getElem?_eq_getElem (hlt i (by simp))]
  · intro x hx
    obtain ⟨i, hi, hix⟩ := List.mem_filterMap.1 hx
    obtain ⟨r, _, rfl⟩ := Option.map_eq_some_iff.1 hix
    exact ⟨hi, r, rfl⟩

theorem best_filter {ss : List (Int × Nat)} {idxs : List Nat} {best : Int} (hatt : ∃ x, x ∈ ss ∧ x.1 = best)
    (hmem : ∀ x, x ∈ ss → x.2 ∈ idxs) :
    (ss.filter (fun x => x.1 = best)).map (·.2) ≠ [] ∧ ∀ i, i ∈ (ss.filter (fun x => x.1 = best)).map (·.2) → i ∈ idxs := by
  obtain ⟨x, hx, hx'⟩ := hatt
  refine ⟨fun hnil => ?_, fun i hi => ?_⟩
  · have : x ∈ ss.filter (fun y => decide (y.1 = best)) := List.mem_filter.2 ⟨hx, by simpa using hx'⟩
    rw [List.map_eq_nil_iff.1 hnil] at this
    cases this
  · obtain ⟨y, hy, rfl⟩ := List.mem_map.1 hi
    exact hmem y (List.mem_filter.1 hy).1

theorem foldl_attained {α : Type} (step : Int → α → Int) (g : α → Int) (h : ∀ m x, step m x = m ∨ step m x = g x)
    (l : List α) (m : Int) : l.foldl step m = m ∨ ∃ x, x ∈ l ∧ g x = l.foldl step m := by
  induction l generalizing m with
  | nil => exact Or.inl rfl
  | cons y ys ih =>
    rw [List.foldl_cons]
    rcases ih (step m y) with h1 | ⟨x, hx, hx'⟩
    · rcases h m y with h2 | h2
      · exact Or.inl (h1.trans h2)
      · exact Or.inr ⟨y, List.mem_cons_self .., h2.symm.trans h1.symm⟩
    · exact Or.inr ⟨x, List.mem_cons_of_mem _ hx, hx'⟩

theorem selectBestInconsistent_spec (recs : List Rec) (idxs : List Nat) (hne : idxs ≠ [])
    (hlt : ∀ i, i ∈ idxs → i < recs.length) :
    selectBestInconsistent recs idxs ≠ [] ∧ ∀ i, i ∈ selectBestInconsistent recs idxs → i ∈ idxs := by
  unfold selectBestInconsistent
  split
  · exact ⟨hne, fun i hi => hi⟩
  · obtain ⟨hsne, hmem⟩ := scored_spec (·.penalty) recs idxs hne hlt
    generalize idxs.filterMap (fun i => (recs[i]?).map (fun r => (r.penalty, i))) = scores at hmem hsne
    match scores, hsne with
    | sc :: ss, _ =>
      refine best_filter ?_ (fun x hx => (hmem x hx).1)
      rcases foldl_attained (fun m x => if x.1 < m then x.1 else m) (·.1)
        (fun m x => by by_cases h : x.1 < m <;> simp [h]) ss sc.1 with h | ⟨x, hx, hx'⟩
      · exact ⟨sc, by simp, h.symm⟩
      · exact ⟨x, by simp [hx], hx'⟩

theorem foldl_max_ge (infos : List (Int × Nat)) (m : Int) :
    ∀ x, x ∈ infos → x.1 ≤ infos.foldl (fun m x => max m x.1) m := by
  have h := (List.max?_eq_some_iff.mp (List.max?_cons' (x := m) (xs := infos.map (·.1)))).2
  rw [List.foldl_map] at h
  exact fun x hx => h _ (List.mem_cons_of_mem _ (List.mem_map_of_mem hx))

/-- the `assert best_assignment != -1` of `select_noninformative` cannot fail -/
theorem noninformativeCands_spec (recs : List Rec) (idxs : List Nat) (hne : idxs ≠ [])
    (hlt : ∀ i, i ∈ idxs → i < recs.length) :
    noninformativeCands recs idxs ≠ [] ∧ ∀ i, i ∈ noninformativeCands recs idxs → i ∈ idxs := by
  unfold noninformativeCands
  obtain ⟨hsne, hmem⟩ := scored_spec (fun r => intersection_len r.region (r.start, r.stop)) recs idxs hne hlt
  generalize idxs.filterMap (fun i => (recs[i]?).map (fun r => (intersection_len r.region (r.start, r.stop), i))) = infos
    at hmem hsne
  refine best_filter ?_ (fun x hx => (hmem x hx).1)
  rcases foldl_attained (fun m x => max m x.1) (·.1) (fun m x => by omega) infos 0 with h | h
  · cases infos with
    | nil => exact absurd rfl hsne
    | cons y ys =>
      have h1 := foldl_max_ge (y :: ys) 0 y (List.mem_cons_self ..)
      obtain ⟨_, r, h2⟩ := hmem y (List.mem_cons_self ..)
      have := intersection_len_nonneg r.region (r.start, r.stop)
      exact ⟨y, List.mem_cons_self .., by omega⟩
  · exact h

/-- either kind of selection is a non-empty list of valid indices (the same condition on both constructors) -/
def SelOK (n : Nat) : Selection → Prop
  | .exact l => l ≠ [] ∧ ∀ i, i ∈ l → i < n
  | .oneOf c => c ≠ [] ∧ ∀ i, i ∈ c → i < n

theorem selectBest_ok (recs : List Rec) (hne : recs ≠ []) : SelOK recs.length (selectBest recs) := by
  have hlt := idxFilter_lt recs
  have hbest : ∀ idxs, idxs ≠ [] → (∀ i ∈ idxs, i < recs.length) →
      SelOK recs.length (.exact (selectBestInconsistent recs idxs)) := fun idxs h hl =>
    have ⟨h1, h2⟩ := selectBestInconsistent_spec recs idxs h hl
    ⟨h1, fun i hi => hl i (h2 i hi)⟩
  unfold selectBest
  extract_lets pu co inc pinc non
  by_cases h : pu ≠ []
  · rw [if_pos h]; exact ⟨h, hlt _⟩
  rw [if_neg h]
  by_cases h : co ≠ []
  · rw [if_pos h]; exact ⟨h, hlt _⟩
  rw [if_neg h]
  by_cases h : pinc ≠ []
  · rw [if_pos h]; exact hbest _ h (hlt _)
  rw [if_neg h]
  by_cases h : inc ≠ []
  · rw [if_pos h]; exact hbest _ h (hlt _)
  rw [if_neg h]
  by_cases h : non ≠ []
  · rw [if_pos h]
    have ⟨h1, h2⟩ := noninformativeCands_spec recs _ h (hlt _)
    exact ⟨h1, fun i hi => hlt _ i (h2 i hi)⟩
  · rw [if_neg h]
    exact ⟨by simp, fun i hi => by simp at hi; have := List.length_pos_iff.2 hne; omega⟩

end IsoVerif.Lemmas.Regions
