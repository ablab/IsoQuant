import IsoVerif.Lemmas.Interval
import IsoVerif.Lemmas.BinSearch
import IsoVerif.Lemmas.MirrorBase

/-!
List functions of Model/Interval.lean on sorted disjoint lists: `sum_intervals_to_point` as a sum of `lenBelow` (the
"from point" side is its mirror image, Props/C19Lists.lean), `get_exons ∘ junctions_from_blocks = id` on `Gapped` exon
lists, the forward binary search from `loop_correct` (`exists_gap`, `bin_search_aux`; its result for every position as
a count of keys: `bin_search_total`), and the covered positions `cov` of a list.
-/
namespace IsoVerif.Lemmas
open IsoVerif.Gen IsoVerif.Model

/-- number of positions of `r` that are `< p` -/
def lenBelow (r : Iv) (p : Int) : Int := max 0 (min r.2 (p - 1) - r.1 + 1)
/-- number of positions of `r` that are `> p` -/
def lenAbove (r : Iv) (p : Int) : Int := max 0 (r.2 - max r.1 (p + 1) + 1)

/-- exon lists as produced from an alignment: well formed, each exon separated from the next by ≥ 1 base.
    The same definition as `C14.Spaced` of Lemmas/Corrector.lean (bridge `spaced_iff_gapped`). -/
def Gapped : List Iv → Prop
  | [] => True
  | [a] => a.1 ≤ a.2
  | a :: b :: t => a.1 ≤ a.2 ∧ a.2 + 1 < b.1 ∧ Gapped (b :: t)

theorem Gapped_tail {a : Iv} {l : List Iv} (h : Gapped (a :: l)) : Gapped l := by
  cases l with
  | nil => trivial
  | cons b t => exact h.2.2

theorem Gapped_wf (ex : List Iv) (h : Gapped ex) : WFl ex := by
  induction ex with
  | nil => intro r hr; cases hr
  | cons a t ih =>
    cases t with
    | nil => intro r hr; simp at hr; subst hr; exact h
    | cons b t' =>
      intro r hr
      rcases List.mem_cons.mp hr with rfl | hr'
      · exact h.1
      · exact ih h.2.2 r hr'

theorem Gapped_SD : ∀ (l : List Iv), Gapped l → SD l := by
  intro l
  induction l with
  | nil => intro _; trivial
  | cons a t ih =>
    cases t with
    | nil => intro _; trivial
    | cons b t' =>
      intro h
      exact ⟨by have := h.2.1; omega, ih h.2.2⟩

theorem total_eq_sum_of_all (l : List Iv) (f : Iv → Int) (h : ∀ r ∈ l, f r = r.2 - r.1 + 1) :
    intervalsTotalLength l = (l.map f).sum := by
  induction l with
  | nil => rfl
  | cons a t ih =>
    simp only [intervalsTotalLength, interval_len, List.map_cons, List.sum_cons]
    rw [h a (by simp), ih (fun r hr => h r (by simp [hr]))]

theorem sumToLoop_eq (p : Int) (l : List Iv) (h : SD l) (w : WFl l) :
    sumToLoop p l = (l.map (lenBelow · p)).sum := by
  induction l with
  | nil => rfl
  | cons a rest ih =>
    have ha := WFl_head w
    simp only [sumToLoop, List.map_cons, List.sum_cons]
    split
    · rw [ih (SD_tail h) (WFl_tail w)]
      simp only [lenBelow]
      split <;> omega
    · -- the loop stops at the first block that starts at or after `p`: the later ones lie right of it
      rw [sum_map_eq_zero rest _ fun r hr => by
        have := SD_all_right h w r hr
        have := w r (by simp [hr])
        simp only [lenBelow]; omega]
      simp only [lenBelow]; omega

theorem lenBelow_mirror (L p : Int) (r : Iv) : lenBelow (C11.mirrorIv L r) (C11.mirrorP L p) = lenAbove r p := by
  simp only [lenBelow, lenAbove, C11.mirrorIv, C11.mirrorP]; omega

theorem junctions_exons_core (a : Iv) (rest : List Iv) (x y : Int) (t : Iv) (h : Gapped (a :: rest))
    (ht : (a :: rest).getLast? = some t) :
    junctionsFromBlocks ((x, a.1 - 1) :: (junctionsFromBlocks (a :: rest) ++ [(t.2 + 1, y)])) = a :: rest := by
  induction rest generalizing a x with
  | nil =>
    simp at ht; subst ht
    have : a.1 ≤ a.2 := h
    simp only [junctionsFromBlocks, List.nil_append]
    have h1 : a.1 - 1 + 1 < a.2 + 1 := by omega
    simp only [h1, if_true]
    congr 1
    ext <;> simp
  | cons b rest' ih =>
    obtain ⟨h1, h2, h3⟩ := h
    have ht' : (b :: rest').getLast? = some t := by simpa [List.getLast?_cons_cons] using ht
    rw [junctions_cons_cons_of_lt h2]
    simp only [List.cons_append]
    have hlt : a.1 - 1 + 1 < a.2 + 1 := by omega
    rw [junctionsFromBlocks]
    simp only [hlt, if_true]
    have := ih b (a.2 + 1) h3 ht'
    rw [this]
    congr 1
    ext <;> simp <;> omega

theorem junctions_exons_inverse_aux (ex : List Iv) (f t : Iv) (h : Gapped ex)
    (hf : ex.head? = some f) (ht : ex.getLast? = some t) :
    getExons (f.1, t.2) (junctionsFromBlocks ex) = ex := by
  cases ex with
  | nil => simp at hf
  | cons a rest =>
    simp at hf; subst hf
    simp only [getExons]
    exact junctions_exons_core a rest 0 0 t h ht

/-- any list and any key: no ordering is needed for existence -/
theorem exists_gap (g : Iv → Int) : ∀ (l : List Iv) (f tl : Iv), l.head? = some f → l.getLast? = some tl →
    ∀ pos, g f ≤ pos → pos < g tl → ∃ (t : Nat) (a b : Iv), l[t]? = some a ∧ l[t + 1]? = some b ∧ g a ≤ pos ∧ pos < g b
  | [], _, _, hf, _, _, _, _ => by simp at hf
  | [x], f, tl, hf, ht, pos, h1, h2 => by
    simp at hf ht; subst hf; subst ht; omega
  | x :: y :: t, f, tl, hf, ht, pos, h1, h2 => by
    simp at hf; subst hf
    by_cases hy : pos < g y
    · exact ⟨0, x, y, by simp, by simp, h1, hy⟩
    · have ht' : (y :: t).getLast? = some tl := by simpa [List.getLast?_cons_cons] using ht
      obtain ⟨k, a, b, ha, hb, h3, h4⟩ := exists_gap g (y :: t) y tl (by simp) ht' pos (by omega) h2
      exact ⟨k + 1, a, b, by simpa using ha, by simpa using hb, h3, h4⟩

theorem bin_search_aux (l : List Iv) (pos : Int) (hinc : StrictInc (l.map (·.1)))
    (f tl : Iv) (hf : l.head? = some f) (ht : l.getLast? = some tl)
    (t : Nat) (a b : Iv) (hta : l[t]? = some a) (htb : l[t + 1]? = some b)
    (hpa : a.1 ≤ pos) (hpb : pos < b.1) (hin : pos ≤ tl.2) :
    intervalBinSearch l pos = some (t : Int) := by
  have hlen : t + 1 < l.length := (List.getElem?_eq_some_iff.mp htb).1
  have hmta : (l.map (·.1))[t]? = some a.1 := by simp [hta]
  have hmtb : (l.map (·.1))[t + 1]? = some b.1 := by simp [htb]
  have hf0 : l[0]? = some f := by rw [← List.head?_eq_getElem?]; exact hf
  have hlast := getElem?_last l tl ht
  have hfa : f.1 ≤ a.1 := strictInc_le hinc (Nat.zero_le t) (by simp [hf0]) hmta
  have hbt : b.1 ≤ tl.1 := strictInc_le hinc (show t + 1 ≤ l.length - 1 by omega) hmtb (by simp [hlast])
  simp only [intervalBinSearch, hf, ht]
  have hno : ¬ (pos > tl.2 ∨ pos < f.1) := by omega
  have hnl : ¬ (pos ≥ tl.1) := by omega
  simp only [hno, hnl, if_false]
  rw [binSearchLoop_eq]
  have hlm : (l.map (·.1)).length = l.length := by simp
  have hr := rem_le ((l.length - 1) / 2)
  rw [loop_correct (l.map (·.1)) pos hinc t a.1 b.1 hmta hmtb hpa hpb (2 * l.length + 2) ((l.length - 1) / 2) ((l.length - 1) / 2)
    (by omega) (by omega) (by rw [hlm]; omega) (by split <;> omega)]
  rfl

/-- `interval_bin_search`: `−1` outside the span of the list, else the number of blocks starting at or before the
    position, less one -/
theorem bin_search_total (l : List Iv) (pos : Int) (h : SD l) (w : WFl l) (f tl : Iv)
    (hf : l.head? = some f) (ht : l.getLast? = some tl) :
    intervalBinSearch l pos = some (if pos > tl.2 ∨ pos < f.1 then -1
      else (l.countP (fun r => decide (r.1 ≤ pos)) : Int) - 1) := by
  have hinc := h.strictInc_starts w
  split
  · rename_i hout; simp [intervalBinSearch, hf, ht, hout]
  · rename_i hout
    by_cases hl : tl.1 ≤ pos
    · -- every start is at or before the last one
      have hall : l.countP (fun r => decide (r.1 ≤ pos)) = l.length := by
        rw [List.countP_eq_length]
        intro r hr
        obtain ⟨i, hi⟩ := List.mem_iff_getElem?.mp hr
        have := strictInc_le hinc (show i ≤ l.length - 1 by have := (List.getElem?_eq_some_iff.mp hi).1; omega)
          (a := r.1) (b := tl.1) (by simp [hi]) (by simp [getElem?_last l tl ht])
        simp; omega
      have : 0 < l.length := by cases l with | nil => simp at hf | cons _ _ => simp
      simp only [intervalBinSearch, hf, ht, hout, if_false, hall]
      rw [if_pos hl]; congr 1; omega
    · obtain ⟨t, a, b, hta, htb, hpa, hpb⟩ := exists_gap (·.1) l f tl hf ht pos (by omega) (by omega)
      rw [bin_search_aux l pos hinc f tl hf ht t a b hta htb hpa hpb (by omega),
        countP_le_of_gap (·.1) pos l t a b hinc hta htb hpa hpb]
      congr 1; omega

/-! Covered positions of an interval list (`cov`), in which the specifications of `merge_ranges`, `split_exons` and
`truncate_read_to_polya` are stated. -/

def cov (l : List Iv) (p : Int) : Prop := ∃ r ∈ l, r.1 ≤ p ∧ p ≤ r.2

theorem cov_nil (p : Int) : ¬ cov [] p := by simp [cov]

theorem cov_cons (a : Iv) (l : List Iv) (p : Int) : cov (a :: l) p ↔ (a.1 ≤ p ∧ p ≤ a.2) ∨ cov l p := by
  simp [cov]

theorem cov_reverse (l : List Iv) (p : Int) : cov l.reverse p ↔ cov l p := by simp [cov]

theorem cov_append (l1 l2 : List Iv) (p : Int) : cov (l1 ++ l2) p ↔ cov l1 p ∨ cov l2 p := by
  simp only [cov, List.mem_append]
  constructor
  · rintro ⟨r, hr | hr, h⟩
    · exact Or.inl ⟨r, hr, h⟩
    · exact Or.inr ⟨r, hr, h⟩
  · rintro (⟨r, hr, h⟩ | ⟨r, hr, h⟩)
    · exact ⟨r, Or.inl hr, h⟩
    · exact ⟨r, Or.inr hr, h⟩

open IsoVerif.Model.C11 IsoVerif.Lemmas.C11 in
/-- `L + 1 - p` is `mirrorP L p` (by `rfl`) -/
theorem cov_mirrorL (L : Int) (l : List Iv) (p : Int) : cov (mirrorL L l) p ↔ cov l (L + 1 - p) := by
  simp only [cov, mirrorL, List.mem_reverse, List.mem_map]
  constructor
  · rintro ⟨r, ⟨a, ha, rfl⟩, x1, x2⟩
    simp only [mirrorIv_fst, mirrorIv_snd] at x1 x2
    exact ⟨a, ha, by omega, by omega⟩
  · rintro ⟨a, ha, x1, x2⟩
    exact ⟨mirrorIv L a, ⟨a, ha, rfl⟩, by simp only [mirrorIv_fst]; omega, by simp only [mirrorIv_snd]; omega⟩

end IsoVerif.Lemmas
