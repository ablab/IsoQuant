/-
Loop lemmas for the two-pointer sweeps `read_coverage_fraction`, `jaccard_similarity`, `merge_ranges` of
Gen/Loops.lean (Python lists `included1/2`, `union` versus the flags / reversed accumulator of the hand model).
Main lemmas: `coverage_loop`, `jaccard_main`, `merge_main`; the refinement theorems are stated and proved from them in
Props/C19GenSweeps.lean.
-/
import IsoVerif.Gen.Loops
import IsoVerif.Lemmas.GenBase
import IsoVerif.Lemmas.GenSums

namespace IsoVerif.Lemmas.GenLoops
open IsoVerif.Gen IsoVerif.Model IsoVerif.Lemmas

theorem coverage_loop (l1 l2 : List Iv) (fuel k1 k2 : Nat) (acc : Int)
    (hf : (l1.drop k1).length + (l2.drop k2).length < fuel) :
    read_coverage_fraction.loop1 l1 l2 fuel acc (k1 : Int) (k2 : Int)
      = pyDivF (acc + readCoverageSweep (l1.drop k1) (l2.drop k2)) (intervalsTotalLength l1) := by
  induction fuel generalizing k1 k2 acc with
  | zero => omega
  | succ fuel ih =>
    unfold read_coverage_fraction.loop1
    rcases cursor_cases l1 k1 with ⟨hn1, hl1⟩ | ⟨a, hd1, hx, hl1, hc1⟩
    · simp [hn1, hl1, readCoverageSweep, read_coverage_fraction.after1, intervals_total_length_eq]
    rcases cursor_cases l2 k2 with ⟨hn2, hl2⟩ | ⟨b, hd2, hy, hl2, hc2⟩
    · rw [hn2, hd1, readCoverageSweep]
      simp [hl2, read_coverage_fraction.after1, intervals_total_length_eq]
    simp only [hd1, hd2, List.length_cons] at hf
    have ihR := fun acc => ih k1 (k2 + 1) acc (by rw [hd1]; simp only [List.length_cons]; omega)
    have ihL := fun acc => ih (k1 + 1) k2 acc (by rw [hd2]; simp only [List.length_cons]; omega)
    simp only [hx, hy, hl1, hl2, decide_true, Bool.and_self, if_true, hc1, hc2]
    rw [hd1, hd2, readCoverageSweep]
    by_cases ho : overlaps a b = true
    · simp only [ho, if_true]
      by_cases hb : b.2 < a.2
      · simp only [hb, decide_true, if_true]
        rw [ihR, hd1]
        congr 1; omega
      · simp only [hb, decide_false, if_false, Bool.false_eq_true]
        rw [ihL, hd2]
        congr 1; omega
    · simp only [ho, Bool.false_eq_true, if_false]
      by_cases hlo : left_of b a = true
      · simp only [hlo, if_true]
        rw [ihR, hd1]
      · simp only [hlo, Bool.false_eq_true, if_false]
        rw [ihL, hd2]

/-! ### the `included` arrays of `jaccard_similarity` / `merge_ranges` versus the two flags of the hand model -/

@[simp] theorem pySet_natCast {α} (l : List α) (k : Nat) (v : α) :
    pySet l (k : Int) v = if k < l.length then some (l.set k v) else none := by
  simp [pySet]

/-- `inc` is the Python list `includedX` when the sweep stands at position `k`: the entry at `k` is the model's
    flag, every later entry is still 0 (earlier entries are never read again) -/
def IncInv (inc : List Int) (n k : Nat) (flag : Bool) : Prop :=
  inc.length = n ∧ (k < n → inc[k]? = some (if flag then 1 else 0)) ∧ ∀ j, k < j → j < n → inc[j]? = some 0

theorem IncInv.init (n : Nat) : IncInv (List.replicate n 0) n 0 false := by
  refine ⟨by simp, fun h => by simp [h], fun j _ hj => by simp [hj]⟩

theorem IncInv.get {inc n k f} (h : IncInv inc n k f) (hk : k < n) :
    inc[k]? = some (if f then 1 else 0) := h.2.1 hk

theorem IncInv.next {inc n k f} (h : IncInv inc n k f) : IncInv inc n (k + 1) false := by
  refine ⟨h.1, fun hk => by simpa using h.2.2 (k + 1) (by omega) hk, fun j hj hn => h.2.2 j (by omega) hn⟩

theorem IncInv.set_stay {inc n k f} (h : IncInv inc n k f) : IncInv (inc.set k 1) n k true := by
  refine ⟨by simp [h.1], fun hk => by simp [h.1, hk], fun j hj hn => ?_⟩
  rw [List.getElem?_set_ne (by omega)]; exact h.2.2 j hj hn

theorem IncInv.set_next {inc n k f} (h : IncInv inc n k f) : IncInv (inc.set k 1) n (k + 1) false :=
  (h.set_stay).next

/-- what `after3` computes from the two sums -/
def jfin (it u : Int) : Option (Int × Int) := if u = 0 then none else some (it, u)

theorem jaccard_after3 (l1 l2 : List Iv) (u it p1 p2 : Int) (i1 i2 : List Int) :
    jaccard_similarity.after3 l1 l2 u it p1 p2 i1 i2 = jfin it u := by
  unfold jaccard_similarity.after3 jfin pyDivF
  by_cases h : u = 0 <;> simp [h]

/-- the entries of `included` are the model's flags written as 0 / 1 -/
theorem flag_eq_zero (b : Bool) : decide ((if b = true then (1 : Int) else 0) = 0) = !b := by cases b <;> rfl

theorem flag_eq_one (b : Bool) : decide ((if b = true then (1 : Int) else 0) = 1) = b := by cases b <;> rfl

theorem jaccard_tail3 (l1 l2 : List Iv) (fuel k2 : Nat) (u it p1 : Int) (inc1 inc2 : List Int) (i2 : Bool)
    (hinv : IncInv inc2 l2.length k2 i2) (hf : (l2.drop k2).length < fuel) :
    jaccard_similarity.loop3 l1 l2 fuel u it p1 (k2 : Int) inc1 inc2
      = jfin it (u + tailUnion i2 (l2.drop k2)) := by
  induction fuel generalizing k2 u i2 with
  | zero => omega
  | succ fuel ih =>
    unfold jaccard_similarity.loop3
    rcases cursor_cases l2 k2 with ⟨hn, hl⟩ | ⟨b, hd, hx, hl, hc⟩
    · simp [hl, hn, tailUnion, jaccard_after3]
    have hlt : k2 < l2.length := by simp only [pyLen] at hl; omega
    simp only [hd, List.length_cons] at hf
    simp only [hl, decide_true, if_true, pyIdx_natCast, hinv.get hlt, hx, hc, hd, tailUnion, flag_eq_zero]
    rw [ih (k2 + 1) _ false hinv.next (by omega), ih (k2 + 1) _ false hinv.next (by omega)]
    cases i2 <;> simp only [Bool.not_true, Bool.not_false, Bool.false_eq_true, if_true, if_false] <;> congr 1 <;> omega

theorem jaccard_tail2 (l1 l2 : List Iv) (fuel k1 k2 : Nat) (u it : Int) (inc1 inc2 : List Int) (i1 i2 : Bool)
    (hinv1 : IncInv inc1 l1.length k1 i1) (hinv2 : IncInv inc2 l2.length k2 i2)
    (hf : (l1.drop k1).length < fuel) :
    jaccard_similarity.loop2 l1 l2 fuel u it (k1 : Int) (k2 : Int) inc1 inc2
      = jfin it (u + tailUnion i1 (l1.drop k1) + tailUnion i2 (l2.drop k2)) := by
  induction fuel generalizing k1 u i1 with
  | zero => omega
  | succ fuel ih =>
    unfold jaccard_similarity.loop2
    rcases cursor_cases l1 k1 with ⟨hn, hl⟩ | ⟨a, hd, hx, hl, hc⟩
    · simp only [hl, decide_false, Bool.false_eq_true, if_false, hn, tailUnion, Int.add_zero,
        jaccard_similarity.after2, jaccard_similarity.fuel3]
      exact jaccard_tail3 l1 l2 _ k2 u it _ inc1 inc2 i2 hinv2 (by simp only [List.length_drop]; omega)
    have hlt : k1 < l1.length := by simp only [pyLen] at hl; omega
    simp only [hd, List.length_cons] at hf
    simp only [hl, decide_true, if_true, pyIdx_natCast, hinv1.get hlt, hx, hc, hd, tailUnion, flag_eq_zero]
    rw [ih (k1 + 1) _ false hinv1.next (by omega), ih (k1 + 1) _ false hinv1.next (by omega)]
    cases i1 <;> simp only [Bool.not_true, Bool.not_false, Bool.false_eq_true, if_true, if_false] <;> congr 2 <;> omega

/-- the result of the main loop given what the hand model's loop returns for the remaining blocks -/
def jcont (it u : Int) : Option (Int × Int) → Option (Int × Int)
  | none => none
  | some p => jfin (it + p.1) (u + p.2)

theorem jcont_map (it u di du : Int) (o : Option (Int × Int)) :
    jcont it u (o.map (fun p => (p.1 + di, p.2 + du))) = jcont (it + di) (u + du) o := by
  cases o with
  | none => rfl
  | some p =>
    simp only [Option.map_some, jcont]
    congr 1 <;> omega

theorem jcont_map2 (it u du : Int) (o : Option (Int × Int)) :
    jcont it u (o.map (fun p => (p.1, p.2 + du))) = jcont it (u + du) o := by
  cases o with
  | none => rfl
  | some p =>
    simp only [Option.map_some, jcont]
    congr 1; omega

theorem jaccard_main (l1 l2 : List Iv) (fuel k1 k2 : Nat) (u it : Int) (inc1 inc2 : List Int) (i1 i2 : Bool)
    (hinv1 : IncInv inc1 l1.length k1 i1) (hinv2 : IncInv inc2 l2.length k2 i2)
    (hf : (l1.drop k1).length + (l2.drop k2).length < fuel) :
    jaccard_similarity.loop1 l1 l2 fuel u it (k1 : Int) (k2 : Int) inc1 inc2
      = jcont it u (jaccardLoop (l1.drop k1) i1 (l2.drop k2) i2) := by
  induction fuel generalizing k1 k2 u it inc1 inc2 i1 i2 with
  | zero => omega
  | succ fuel ih =>
    have htail := jaccard_tail2 l1 l2 (l1.length + 1) k1 k2 u it inc1 inc2 i1 i2 hinv1 hinv2
      (by simp only [List.length_drop]; omega)
    unfold jaccard_similarity.loop1
    rcases cursor_cases l1 k1 with ⟨hn1, hl1⟩ | ⟨a, hd1, hx, hl1, hc1⟩
    · simp only [hl1, decide_false, Bool.false_and, Bool.false_eq_true, if_false, jaccard_similarity.after1,
        jaccard_similarity.fuel2]
      rw [htail, hn1, jaccardLoop]
      simp [jcont, tailUnion]
    rcases cursor_cases l2 k2 with ⟨hn2, hl2⟩ | ⟨b, hd2, hy, hl2, hc2⟩
    · simp only [hl2, decide_false, Bool.and_false, Bool.false_eq_true, if_false, jaccard_similarity.after1,
        jaccard_similarity.fuel2]
      rw [htail, hn2, hd1, jaccardLoop, ← hd1]
      simp [jcont, tailUnion]
    have hlt1 : k1 < l1.length := by simp only [pyLen] at hl1; omega
    have hlt2 : k2 < l2.length := by simp only [pyLen] at hl2; omega
    simp only [hd1, hd2, List.length_cons] at hf
    have ihR := fun u it inc1 inc2 i1 i2 h1 h2 =>
      ih k1 (k2 + 1) u it inc1 inc2 i1 i2 h1 h2 (by rw [hd1]; simp only [List.length_cons]; omega)
    have ihL := fun u it inc1 inc2 i1 i2 h1 h2 =>
      ih (k1 + 1) k2 u it inc1 inc2 i1 i2 h1 h2 (by rw [hd2]; simp only [List.length_cons]; omega)
    -- every recursive call is the model's loop on the rest, whatever the two sums are
    have eR := fun u it => ihR u it _ _ true false hinv1.set_stay hinv2.set_next
    have eL := fun u it => ihL u it _ _ false true hinv1.set_next hinv2.set_stay
    have eR0 := fun u it => ihR u it _ _ i1 false hinv1 hinv2.set_next
    have eR1 := fun u it => ihR u it _ _ i1 false hinv1 hinv2.next
    have eL0 := fun u it => ihL u it _ _ false i2 hinv1.set_next hinv2
    have eL1 := fun u it => ihL u it _ _ false i2 hinv1.next hinv2
    rw [hd1] at eR eR0 eR1
    rw [hd2] at eL eL0 eL1
    have hs1 : k1 < inc1.length := by rw [hinv1.1]; exact hlt1
    have hs2 : k2 < inc2.length := by rw [hinv2.1]; exact hlt2
    simp only [hx, hy, hl1, hl2, decide_true, Bool.and_self, if_true, hc1, hc2, pyIdx_natCast, hinv1.get hlt1,
      hinv2.get hlt2, pySet_natCast, hs1, hs2, flag_eq_zero, flag_eq_one]
    rw [hd1, hd2, jaccardLoop]
    by_cases ho : overlaps a b = true
    · simp only [ho, if_true, eR, eL]
      -- for each value of the two flags and either block ending first, both sides are the same term
      cases i1 <;> cases i2 <;> by_cases hb : b.2 < a.2 <;>
        simp only [hb, decide_true, decide_false, if_true, if_false, Bool.not_true, Bool.not_false, Bool.false_eq_true,
          Bool.and_self, Bool.and_false, Bool.and_true, ovUnion, ovInter, jcont_map] <;> rfl
    · simp only [ho, Bool.false_eq_true, if_false]
      by_cases hlo : left_of b a = true
      · simp only [hlo, if_true, eR0, eR1, jcont_map2]
        cases i2 <;> simp only [Bool.not_true, Bool.not_false, if_true, if_false, Bool.false_eq_true, Int.add_zero]
      · simp only [hlo, Bool.false_eq_true, if_false, eL0, eL1, jcont_map2]
        cases i1 <;> simp only [Bool.not_true, Bool.not_false, if_true, if_false, Bool.false_eq_true, Int.add_zero]

/-! ### `merge_ranges`: the Python list `union` is the model's accumulator reversed -/

theorem pyIdx_neg_one_reverse {α} (acc : List α) : pyIdx acc.reverse (-1) = acc.head? := by
  rw [pyIdx_neg_one, List.getLast?_reverse]

theorem pySet_neg_one_reverse {α} (a : α) (t : List α) (v : α) :
    pySet (a :: t).reverse (-1) v = some ((v :: t).reverse) := by
  have h1 : ¬ (0 : Int) ≤ -1 := by omega
  have h2 : -(((a :: t).reverse.length : Nat) : Int) ≤ -1 := by simp only [List.length_reverse, List.length_cons]; omega
  have h3 : ((((a :: t).reverse.length : Nat) : Int) + -1).toNat = t.reverse.length := by
    simp only [List.length_reverse, List.length_cons]; omega
  simp only [pySet, if_neg h1, if_pos h2, h3]
  simp [List.reverse_cons]

/-- what `after3` returns for the model's final accumulator -/
def mfin : Option (List Iv) → Option (List Iv)
  | none => none
  | some acc => if acc.isEmpty then none else some acc.reverse

theorem merge_after3 (l1 l2 : List Iv) (acc : List Iv) (it p1 p2 : Int) (i1 i2 : List Int) :
    merge_ranges.after3 l1 l2 acc.reverse it p1 p2 i1 i2 = mfin (some acc) := by
  unfold merge_ranges.after3 mfin
  cases acc <;> simp [pyLen] <;> omega

theorem merge_tail3 (l1 l2 : List Iv) (fuel k2 : Nat) (acc : List Iv) (it p1 : Int) (inc1 inc2 : List Int) (i2 : Bool)
    (hinv : IncInv inc2 l2.length k2 i2) (hf : (l2.drop k2).length < fuel) :
    merge_ranges.loop3 l1 l2 fuel acc.reverse it p1 (k2 : Int) inc1 inc2
      = mfin (some (tailAppend i2 acc (l2.drop k2))) := by
  induction fuel generalizing k2 acc i2 with
  | zero => omega
  | succ fuel ih =>
    unfold merge_ranges.loop3
    rcases cursor_cases l2 k2 with ⟨hn, hl⟩ | ⟨b, hd, hx, hl, hc⟩
    · simp only [hl, decide_false, Bool.false_eq_true, if_false, hn, tailAppend, merge_after3]
    have hlt : k2 < l2.length := by simp only [pyLen] at hl; omega
    simp only [hd, List.length_cons] at hf
    simp only [hl, decide_true, if_true, pyIdx_natCast, hinv.get hlt, hx, hc, hd, tailAppend, flag_eq_zero,
      ← List.reverse_cons]
    rw [ih (k2 + 1) _ false hinv.next (by omega), ih (k2 + 1) _ false hinv.next (by omega)]
    cases i2 <;> rfl

theorem tailAppend_nil (inc : Bool) (acc : List Iv) : tailAppend inc acc [] = acc := rfl

theorem merge_tail2 (l1 l2 : List Iv) (fuel k1 k2 : Nat) (acc : List Iv) (it : Int) (inc1 inc2 : List Int) (i1 i2 : Bool)
    (hinv1 : IncInv inc1 l1.length k1 i1) (hinv2 : IncInv inc2 l2.length k2 i2)
    (hf : (l1.drop k1).length < fuel) :
    merge_ranges.loop2 l1 l2 fuel acc.reverse it (k1 : Int) (k2 : Int) inc1 inc2
      = mfin (some (tailAppend i2 (tailAppend i1 acc (l1.drop k1)) (l2.drop k2))) := by
  induction fuel generalizing k1 acc i1 with
  | zero => omega
  | succ fuel ih =>
    unfold merge_ranges.loop2
    rcases cursor_cases l1 k1 with ⟨hn, hl⟩ | ⟨a, hd, hx, hl, hc⟩
    · simp only [hl, decide_false, Bool.false_eq_true, if_false, hn, tailAppend, merge_ranges.after2,
        merge_ranges.fuel3]
      exact merge_tail3 l1 l2 _ k2 acc it _ inc1 inc2 i2 hinv2 (by simp only [List.length_drop]; omega)
    have hlt : k1 < l1.length := by simp only [pyLen] at hl; omega
    simp only [hd, List.length_cons] at hf
    simp only [hl, decide_true, if_true, pyIdx_natCast, hinv1.get hlt, hx, hc, hd, tailAppend, flag_eq_zero,
      ← List.reverse_cons]
    rw [ih (k1 + 1) _ false hinv1.next (by omega), ih (k1 + 1) _ false hinv1.next (by omega)]
    cases i1 <;> rfl

theorem merge_main (l1 l2 : List Iv) (fuel k1 k2 : Nat) (acc : List Iv) (it : Int) (inc1 inc2 : List Int) (i1 i2 : Bool)
    (hinv1 : IncInv inc1 l1.length k1 i1) (hinv2 : IncInv inc2 l2.length k2 i2)
    (hk1 : k1 ≤ l1.length) (hk2 : k2 ≤ l2.length)
    (hf : (l1.drop k1).length + (l2.drop k2).length < fuel) :
    merge_ranges.loop1 l1 l2 fuel acc.reverse it (k1 : Int) (k2 : Int) inc1 inc2
      = mfin (mergeLoop (l1.drop k1) i1 (l2.drop k2) i2 acc) := by
  induction fuel generalizing k1 k2 acc it inc1 inc2 i1 i2 with
  | zero => omega
  | succ fuel ih =>
    have htail := merge_tail2 l1 l2 (l1.length + 1) k1 k2 acc it inc1 inc2 i1 i2 hinv1 hinv2
      (by simp only [List.length_drop]; omega)
    unfold merge_ranges.loop1
    -- `after1` asserts that one of the two lists is used up: the index is then exactly the length
    rcases cursor_cases l1 k1 with ⟨hn1, hl1⟩ | ⟨a, hd1, hx, hl1, hc1⟩
    · have he : k1 = l1.length := by simp only [pyLen] at hl1; omega
      subst he
      simp only [Int.lt_irrefl, decide_false, Bool.false_and, Bool.false_eq_true, if_false, merge_ranges.after1,
        merge_ranges.fuel2, pyLen, decide_true, Bool.true_or, if_true]
      rw [htail, hn1, mergeLoop]
      rfl
    rcases cursor_cases l2 k2 with ⟨hn2, hl2⟩ | ⟨b, hd2, hy, hl2, hc2⟩
    · have he : k2 = l2.length := by simp only [pyLen] at hl2; omega
      subst he
      simp only [Int.lt_irrefl, decide_false, Bool.and_false, Bool.false_eq_true, if_false, merge_ranges.after1,
        merge_ranges.fuel2, pyLen, decide_true, Bool.or_true, if_true]
      rw [htail, hn2, tailAppend_nil, hd1, mergeLoop]
    have hlt1 : k1 < l1.length := by simp only [pyLen] at hl1; omega
    have hlt2 : k2 < l2.length := by simp only [pyLen] at hl2; omega
    simp only [hd1, hd2, List.length_cons] at hf
    have ihR := fun acc it inc1 inc2 i1 i2 h1 h2 =>
      ih k1 (k2 + 1) acc it inc1 inc2 i1 i2 h1 h2 hk1 hlt2 (by rw [hd1]; simp only [List.length_cons]; omega)
    have ihL := fun acc it inc1 inc2 i1 i2 h1 h2 =>
      ih (k1 + 1) k2 acc it inc1 inc2 i1 i2 h1 h2 hlt1 hk2 (by rw [hd2]; simp only [List.length_cons]; omega)
    -- every recursive call is the model's loop on the rest, whatever the accumulator is
    have eR := fun acc it => ihR acc it _ _ true false hinv1.set_stay hinv2.set_next
    have eL := fun acc it => ihL acc it _ _ false true hinv1.set_next hinv2.set_stay
    have eR0 := fun acc it => ihR acc it _ _ i1 false hinv1 hinv2.set_next
    have eR1 := fun acc it => ihR acc it _ _ i1 false hinv1 hinv2.next
    have eL0 := fun acc it => ihL acc it _ _ false i2 hinv1.set_next hinv2
    have eL1 := fun acc it => ihL acc it _ _ false i2 hinv1.next hinv2
    rw [hd1] at eR eR0 eR1
    rw [hd2] at eL eL0 eL1
    have hs1 : k1 < inc1.length := by rw [hinv1.1]; exact hlt1
    have hs2 : k2 < inc2.length := by rw [hinv2.1]; exact hlt2
    simp only [hx, hy, hl1, hl2, decide_true, Bool.and_self, if_true, hc1, hc2, pyIdx_natCast, hinv1.get hlt1,
      hinv2.get hlt2, pySet_natCast, hs1, hs2, flag_eq_zero, flag_eq_one, ← List.reverse_cons, pyIdx_neg_one_reverse]
    rw [hd1, hd2, mergeLoop]
    by_cases ho : overlaps a b = true
    · simp only [ho, if_true]
      -- Python's `union[-1]` raises on the empty list, as `bumpLast` does
      cases acc with
      | nil =>
        cases i1 <;> cases i2 <;> by_cases hb : b.2 < a.2 <;>
          simp only [hb, decide_true, decide_false, if_true, if_false, Bool.not_true, Bool.not_false,
            Bool.false_eq_true, Bool.and_self, Bool.and_false, Bool.and_true, ovAcc, bumpLast, List.head?_nil, eR, eL] <;>
          rfl
      | cons c acc =>
        cases i1 <;> cases i2 <;> by_cases hb : b.2 < a.2 <;>
          simp only [hb, decide_true, decide_false, if_true, if_false, Bool.not_true, Bool.not_false,
            Bool.false_eq_true, Bool.and_self, Bool.and_false, Bool.and_true, ovAcc, bumpLast, List.head?_cons,
            pySet_neg_one_reverse, eR, eL] <;>
          rfl
    · simp only [ho, Bool.false_eq_true, if_false]
      by_cases hlo : left_of b a = true
      · simp only [hlo, if_true, eR0, eR1]
        cases i2 <;> simp only [Bool.not_true, Bool.not_false, if_true, if_false, Bool.false_eq_true]
      · simp only [hlo, Bool.false_eq_true, if_false, eL0, eL1]
        cases i1 <;> simp only [Bool.not_true, Bool.not_false, if_true, if_false, Bool.false_eq_true]

end IsoVerif.Lemmas.GenLoops
